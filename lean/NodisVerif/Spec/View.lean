import NodisVerif.Model.Api
/-
  The observable record of a key and the rest of the state: per name the `View.Rec` of the unexpired record
  (`Store.recOf`, `Store.vis`), and the non-index fields (`View.Frame`, `Store.frame`).  Shared by Spec/Expire.lean,
  whose relation `Sim` compares exactly this (see its header for what is compared and what is not), and by the
  proofs about the store's views (Proofs/StoreView.lean), which concern C01, C11 and C12 as well and must not have
  `Sim`, `Store.live`, `Store.purge` in scope.
-/
namespace NodisVerif

namespace View
/-- observable part of one index record -/
structure Rec where
  exp      : Int
  value    : Option Val
  load     : Option (Val × Nat)
  vtype    : Nat
  ok       : Bool
  modified : Bool
  kid      : Nat
  oid      : Nat
deriving Repr, DecidableEq

/-- the non-index fields compared by `Sim` -/
structure Frame where
  pebble    : Bool
  nextId    : Nat
  closed    : Bool
  failSet   : Nat
  feed      : List FeedOp
  listeners : Bool
  signalled : List Bytes
  flushed   : Bool
end View

namespace Store

def recOf (s : MState) (k : Bytes) (m : Meta) : View.Rec :=
  { exp := m.exp, value := m.value,
    load := if m.value.isSome then none else loadValue s k m,
    vtype := m.vtype, ok := m.isOk, modified := (m.state / 2) % 2 = 1,
    kid := m.kid, oid := m.oid }

/-- observable view of the unexpired record of `k` -/
def vis (now : Int) (s : MState) (k : Bytes) : Option View.Rec :=
  ((getMeta s k).filter fun m => !m.expired now).map (recOf s k)

def frame (s : MState) : View.Frame :=
  { pebble := s.pebble, nextId := s.nextId, closed := s.closed, failSet := s.failSet, feed := s.feed,
    listeners := s.listeners, signalled := s.signalled, flushed := s.flushed }

end Store
end NodisVerif

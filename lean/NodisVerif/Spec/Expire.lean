import NodisVerif.Model.Api
import NodisVerif.Spec.View
/-
  C10 — expiry. Reference notions the property talks about (core-only).

  * `Store.live s now k`      the record a command issued at `now` may see under the name `k`
  * `Store.purge now s`       `s` with every expired record removed from the index, nothing else changed
  * `Store.vis now s k`       the *observable* part of the unexpired record of `k` (a `View.Rec`);
                             defined in Spec/View.lean with `Store.recOf`, `Store.frame`
  * `Sim now s s'`            observational equivalence at instant `now`
  * `Spec.deadlineSec/Ms`     deadline arithmetic (int64, as Go computes it)
  * `Spec.pttl`, `Spec.ttlNs` what PTTL / TTL must report

  ## The choice of `Sim` (what is compared, what is not)

  `Sim now s s'` holds when
    (recs)  for every name `k`, `vis now s k = vis now s' k`: both states index a record for `k` that is
            not expired at `now` (ok or not: KEYS/SCAN/RANDOMKEY do not look at the ok bit) or neither
            does; and the two records agree on
              - `exp`     the deadline,
              - `value`   the in-memory value (`none` = cold),
              - `load`    for a cold record: what `storage.Get` would hand back for it (`loadValue`),
                          i.e. the value it has "on disk" together with the identity of that object,
              - `vtype`   the cached value type,
              - `ok`, `modified`  the two meaningful bits of `state`,
              - `kid`, `oid`      the identities of the key / value objects;
    (frame) the two states agree on `pebble`, `nextId`, `closed`, `failSet`, `feed`, `listeners`,
            `signalled`, `flushed`.
  NOT compared (bookkeeping or invisible):
    - records that are expired at `now` (present in one state, absent from the other, or different),
    - `count` (gc access counter), `stored` (under which deadline the value currently sits in the
      backend) and the bits of `state` above bit 2,
    - `held`, `hung` (locks of the running call: an expired record that is still indexed gets locked,
      an absent one does not),
    - the backend `disk` except through `load` of unexpired cold records (entries of dead records and
      stale entries are not compared).
  `stored` cannot be compared: a write that revives an expired record keeps the record's `stored`
  field (`newKeyWith … (some m)`), a write to an absent key starts with `stored = none`.
-/
namespace NodisVerif

namespace Store

/-- the record of `k` that a command running at `now` can see: indexed, ok, not expired -/
def live (s : MState) (now : Int) (k : Bytes) : Option Meta :=
  (getMeta s k).filter fun m => m.isOk && !m.expired now

/-- `k` is live at `now` with record `m` and holds the value `v`: in memory, or cold and loadable from
    the backend ("visible with its full value") -/
def LiveWith (s : MState) (now : Int) (k : Bytes) (m : Meta) (v : Val) : Prop :=
  live s now k = some m ∧
  (m.value = some v ∨ (m.value = none ∧ ∃ oid, loadValue s k m = some (v, oid)))

/-- every expired record removed from the index; nothing else changes -/
def purge (now : Int) (s : MState) : MState :=
  { s with index := s.index.filter fun p => !p.2.expired now }

end Store

/-- observational equivalence of two states for commands issued at `now` (see the file header) -/
structure Sim (now : Int) (s s' : MState) : Prop where
  recs  : ∀ k, Store.vis now s k = Store.vis now s' k
  frame : Store.frame s = Store.frame s'

namespace Spec

/-- deadline of EXPIRE / SETEX / SET EX issued at `now` (unix ms): int64 arithmetic as Go performs it -/
def deadlineSec (now seconds : Int) : Int := wrap64 (now + wrap64 (seconds * 1000))
/-- deadline of PEXPIRE / PSETEX / SET PX -/
def deadlineMs (now ms : Int) : Int := wrap64 (now + ms)

/-- the NX / XX / GT / LT options of EXPIRE, PEXPIRE, EXPIREAT, PEXPIREAT -/
inductive ExpFlag
  | always | nx | xx | gt | lt
deriving Repr, DecidableEq

/-- Redis: does `EXPIRE key … flag` change the deadline? `cur = none`: the key has no deadline, which
    GT and LT treat as an infinite one ("a non-volatile key is treated as an infinite TTL for the
    purpose of GT and LT"). -/
def expireApplies (flag : ExpFlag) (cur : Option Int) (new : Int) : Bool :=
  match flag, cur with
  | .always, _ => true
  | .nx, none => true
  | .nx, some _ => false
  | .xx, none => false
  | .xx, some _ => true
  | .gt, none => false
  | .gt, some c => c < new
  | .lt, none => true
  | .lt, some c => new < c

/-- the deadline of a record as Redis sees it -/
def deadlineOf (exp : Int) : Option Int := if exp = 0 then none else some exp

/-- PTTL for a key whose visible record has deadline `exp` (`none` = no visible record) -/
def pttl (now : Int) (exp : Option Int) : Int :=
  match exp with
  | none => -2
  | some e => if e = 0 then -1 else e - now

/-- TTL as the model reports it: the remaining time as a Go `time.Duration` (ns, saturating at
    int64 max) rounded to whole seconds, halves away from zero, saturating -/
def ttlNs (now : Int) (exp : Option Int) : Int :=
  match exp with
  | none => -2
  | some e =>
    if e = 0 then -1 else
    let d := if (e - now) * 1000000 > int64Max then int64Max else (e - now) * 1000000
    let q := (d + 500000000) / 1000000000 * 1000000000
    if q > int64Max then int64Max else q

end Spec
end NodisVerif

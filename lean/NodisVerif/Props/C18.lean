import NodisVerif.Proofs.BlockInv
import NodisVerif.Proofs.BlockTrace
import NodisVerif.Proofs.BlockProgPush
import NodisVerif.Proofs.BlockProgHook
/-
  C18 — BLPOP/BRPOP: return immediately when a listed key has an element (first key in argument
  order), otherwise wait; a push to a listed key reaches the waiter (no missed wake-up), timeout 0
  waits for ever, null only from the timer; a push never fails or blocks because of waiters.

  Property theorems only.  §1–§8 are about the wake-up protocol `Model/Block.lean` (the transition system whose
  steps `list.go` reports: `blockingPop`, `addBlockKeys`, `notifyBlockingKey`, `removeBlockingKeys`).
  Reference notions (Proofs/BlockBasic.lean, BlockStep.lean, BlockInv.lean, BlockTrace.lean):
    `runAll s es`   the fold of `step` over a trace (`= some s'` iff every step is allowed),
    `runAllLoose s es`  the same fold of `stepLoose` (what the replay of a recorded trace computes),
    `Reachable s`   `∃ es, runAll [] es = some s`,
    `evW e`         the waiter an event is about,
    `own w e`       e is an action of waiter w itself (everything about w except `notify`, which is
                    the action of a pushing client),
    `proj w es`     the actions of w in the trace es, in order,
    `pos ph`        the scan position of a phase (`registering` ↦ 0, `scan i` ↦ i, else none),
    `Returned ph`   ph is gotElem / gotNull / aborted (the call is unwinding); `aborted` / the event `abort` stand for a
                    pop attempt that panicked AND, in the program model of §9, for the non-waiting form (timeout < 0,
                    BLPOP inside EXEC) returning null after a failed round: that null is not a `gotNull`,
    `failedTries w ks` = `ks.map (.try_ w · false)`,  `RoundStart w e` = e is `wake w` or a `reg w _`.
  Every theorem is about ALL reachable states / all traces: any number of waiters, keys, pushes.
  §9 is about the program `Model/BlockProg.lean` (the code of the blocking pops and of the push around them) and about
  the order of its hook calls (`Model/BlockProgHook.lean`): `Reach σ es`, `exec` (the model); the simulation relation
  `Inv`, `isBody`, `isPop` (Proofs/BlockProgBase.lean); `Pending σ t k` (Proofs/BlockProgPush.lean: a push to `k` is under
  way that has not yet passed `t`'s channel); `neverBlocks`, `nextPcs`, `Emits` and `HReach`, `HInv`
  (Proofs/BlockProgHook.lean).
-/
namespace NodisVerif.C18
open NodisVerif.Block
open NodisVerif.Proofs.Block

theorem runAll_is_run (s s' : BState) (es : List Ev) (i : Nat) :
    run s es i = .ok s' ↔ runAll s es = some s' := by
  induction es generalizing s i with
  | nil => simp [run, runAll]
  | cons e es ih =>
    simp only [run, runAll]
    cases step s e with
    | none => simp
    | some s1 => simpa using ih s1 (i + 1)

/-! ## 1. no missed push -/

/-- THE CORE. A waiter that sleeps with an empty channel has looked at every one of its keys, and
    found it empty, AFTER the last push to that key (`seen` is reset by every push): it sleeps only
    when it knows about every push. -/
theorem no_missed_push {s : BState} (hr : Reachable s) {w : W} {st : WSt} (hg : get s w = some st)
    (hp : st.phase = .blocked) (hb : st.buf = false) : ∀ k ∈ st.keys, k ∈ st.seen := by
  rcases (hr.winv hg).blockedSeen hp with h | h
  · simp [hb] at h
  · exact h

/-- the same without the ghost field, on the events alone: if after a trace from the empty state w
    sleeps with an empty channel, then for EVERY key k of w the trace contains a failed pop attempt
    of w on k after which no push to k was offered to w - there is no push w has not looked for -/
theorem no_missed_push_trace {es : List Ev} {s : BState} (h : runAll [] es = some s) {w : W}
    {st : WSt} (hg : get s w = some st) (hp : st.phase = .blocked) (hb : st.buf = false) :
    ∀ k ∈ st.keys, ∃ pre post, es = pre ++ .try_ w k false :: post ∧ Ev.notify w k ∉ post :=
  fun k hk => seenInv h hg k (no_missed_push ⟨es, h⟩ hg hp hb k hk)

/-- the same inside a round: at scan position i with an empty channel, the keys before position i
    have been seen empty after their last push -/
theorem no_missed_push_in_round {s : BState} (hr : Reachable s) {w : W} {st : WSt}
    (hg : get s w = some st) {i : Nat} (hp : st.phase = .scan i) (hb : st.buf = false) :
    ∀ k ∈ st.keys.take i, k ∈ st.seen := by
  rcases (hr.winv hg).scanSeen i hp with h | h
  · simp [hb] at h
  · exact h

/-- progress: a sleeping waiter with a key it has not seen since the last push is not stuck: the
    wake-up is in its channel, `wake` is enabled and starts a new round at position 0 -/
theorem pushed_waiter_can_wake {s : BState} (hr : Reachable s) {w : W} {st : WSt}
    (hg : get s w = some st) (hp : st.phase = .blocked) {k : Key} (hk : k ∈ st.keys)
    (hs : k ∉ st.seen) :
    ∃ s', step s (.wake w) = some s' ∧
      get s' w = some { st with phase := .scan 0, buf := false, woken := st.woken + 1 } := by
  have hb : st.buf = true := by
    cases hb : st.buf with
    | true => rfl
    | false => exact absurd (no_missed_push hr hg hp hb k hk) hs
  have hl := (lstep_wake (w := w)).2 ⟨st, rfl, hp, hb, rfl⟩
  refine ⟨_, step_of_lstep (e := .wake w) (hg ▸ hl), ?_⟩
  simp [put, evW, get_set_self]

/-! ## 2. a push never blocks -/

/-- Offering a wake-up to a registered waiter is always possible - whatever the channel holds,
    whatever the waiter is doing (no hypothesis on `buf`, `phase`; `s` need not even be reachable) -
    and it touches no other waiter. Afterwards the channel is full and the key is no longer `seen`. -/
theorem push_never_blocks {s : BState} {w : W} {st : WSt} (hg : get s w = some st) {k : Key}
    (hk : k ∈ st.reg) :
    ∃ s', step s (.notify w k) = some s' ∧
      get s' w = some { st with buf := true, seen := st.seen.filter (· != k),
                                notified := st.notified + 1 } ∧
      ∀ w', w' ≠ w → get s' w' = get s w' := by
  have hl := (lstep_notify (w := w)).2 ⟨st, rfl, hk, rfl⟩
  refine ⟨_, step_of_lstep (e := .notify w k) (hg ▸ hl), ?_, ?_⟩
  · simp [put, evW, get_set_self]
  · intro w' hw'; simp [put, evW, get_set_ne _ _ _ _ hw']

/-- after the push the waiter cannot sleep through it: its channel is full, the key is not `seen` -/
theorem push_is_noticed {s s' : BState} {w : W} {k : Key} (h : step s (.notify w k) = some s') :
    ∃ st', get s' w = some st' ∧ st'.buf = true ∧ k ∉ st'.seen := by
  obtain ⟨st, _, _, hr⟩ := lstep_notify.1 (step_local h)
  exact ⟨_, hr, rfl, by simp⟩

/-- for as long as the call has not returned, the waiter is registered for ALL its keys: a push to
    any of them can be (and, by `notifyBlockingKey`, is) offered to it -/
theorem push_reaches_waiting {s : BState} (hr : Reachable s) {w : W} {st : WSt}
    (hg : get s w = some st) (hp : ¬ Returned st.phase) {k : Key} (hk : k ∈ st.keys) :
    ∃ s', step s (.notify w k) = some s' := by
  have : st.reg = st.keys := by
    apply (hr.winv hg).regKeys
    revert hp; cases st.phase <;> simp [Returned, pos]
  obtain ⟨s', h, _⟩ := push_never_blocks hg (this ▸ hk)
  exact ⟨s', h⟩

/-! ## 3. null only from the timer -/

/-- the timer fires only on a sleeping waiter whose timer is armed -/
theorem timeout_needs_armed_timer {s s' : BState} {w : W} (h : step s (.timeout w) = some s') :
    ∃ st, get s w = some st ∧ st.phase = .blocked ∧ st.timed = true ∧
      get s' w = some { st with phase := .gotNull } :=
  lstep_timeout.1 (step_local h)

/-- a waiter enters `gotNull` only through `timeout` -/
theorem null_step {s s' : BState} {e : Ev} (h : step s e = some s') {w : W} {st' : WSt}
    (hg : get s' w = some st') (hp : st'.phase = .gotNull) :
    e = .timeout w ∨ ∃ st, get s w = some st ∧ st.phase = .gotNull := by
  by_cases hw : w = evW e
  · subst hw
    have hl := step_local h
    rw [hg] at hl
    cases e with
    | reg w k => obtain ⟨h1, hr⟩ := lstep_reg.1 hl; cases hr; simp [h1] at hp
    | try_ w k got =>
      obtain ⟨st, i, _, _, _, hr⟩ := lstep_try.1 hl
      cases got <;> (simp at hr; subst hr; simp at hp)
    | block w t => obtain ⟨st, _, _, hr⟩ := lstep_block.1 hl; cases hr; simp at hp
    | wake w => obtain ⟨st, _, _, _, hr⟩ := lstep_wake.1 hl; cases hr; simp at hp
    | timeout w => exact Or.inl rfl
    | notify w k =>
      obtain ⟨st, h0, _, hr⟩ := lstep_notify.1 hl; cases hr; exact Or.inr ⟨st, h0, hp⟩
    | abort w => obtain ⟨st, _, _, hr⟩ := lstep_abort.1 hl; cases hr; simp at hp
    | unreg w k =>
      obtain ⟨st, h0, _, hr⟩ := lstep_unreg.1 hl; cases hr; exact Or.inr ⟨st, h0, hp⟩
    | fin w => obtain ⟨st, _, _, hr⟩ := lstep_fin.1 hl; cases hr
  · rw [step_frame h hw] at hg; exact Or.inr ⟨st', hg, hp⟩

/-- On traces: if after a trace from the empty state waiter w has returned null, the trace contains
    `timeout w`, preceded by `block w true` (timer armed, i.e. timeout > 0) with no action of w in
    between (only pushes and other waiters); after the timeout w only unregisters. -/
theorem null_only_from_timer {es : List Ev} {s : BState} (h : runAll [] es = some s) {w : W}
    {st : WSt} (hg : get s w = some st) (hp : st.phase = .gotNull) :
    ∃ pre mid post, es = pre ++ .block w true :: (mid ++ .timeout w :: post) ∧
      (∀ e ∈ mid, own w e = false) ∧ (∀ e ∈ post, own w e = true → ∃ k, e = .unreg w k) :=
  (nullInv h hg).gotNull hp

/-- timeout 0 waits for ever: after `block w false`, for as long as w does nothing itself (pushes to
    its keys and other waiters may do anything), the timer cannot fire -/
theorem timeout_zero_waits_forever {pre mid : List Ev} {w : W} {s : BState}
    (h : runAll [] (pre ++ .block w false :: mid) = some s) (hm : ∀ e ∈ mid, own w e = false) :
    step s (.timeout w) = none := by
  cases ht : step s (.timeout w) with
  | none => rfl
  | some s' =>
    exfalso
    obtain ⟨st, hg, hp, htm, _⟩ := timeout_needs_armed_timer ht
    obtain ⟨pre', mid', he, hm'⟩ := (nullInv h hg).blocked hp
    have := last_own_unique (w := w) he (by simp [own, evW]) (by simp [own, evW]) hm hm'
    simp [htm] at this

/-! ## 4. keys are tried in argument order, the call returns at the first success -/

/-- a pop attempt is only possible on the key at the current scan position of `keys` (registration
    order = argument order); a failure moves to the next position, a success returns that key -/
theorem try_in_argument_order {s s' : BState} {w : W} {k : Key} {got : Bool}
    (h : step s (.try_ w k got) = some s') :
    ∃ st i, get s w = some st ∧ pos st.phase = some i ∧ st.keys[i]? = some k ∧
      get s' w = some (if got then { st with phase := .gotElem k }
                       else { st with phase := .scan (i + 1), seen := k :: st.seen }) :=
  lstep_try.1 (step_local h)

/-- the waiter goes to sleep only from the position after the last key -/
theorem block_after_all_tried {s s' : BState} {w : W} {t : Bool}
    (h : step s (.block w t) = some s') :
    ∃ st, get s w = some st ∧ st.phase = .scan st.keys.length ∧
      get s' w = some { st with phase := .blocked, timed := t } :=
  lstep_block.1 (step_local h)

/-- history of a round: at scan position i, the actions of w since the round started (its last `reg`,
    or its last `wake`) are exactly failed tries on keys[0], …, keys[i-1], in this order -/
theorem round_history {es : List Ev} {s : BState} (h : runAll [] es = some s) {w : W} {st : WSt}
    (hg : get s w = some st) {i : Nat} (hp : pos st.phase = some i) :
    ∃ pre e0, proj w es = pre ++ e0 :: failedTries w (st.keys.take i) ∧ RoundStart w e0 :=
  (roundInv h hg).scanning i hp

/-- a sleeping waiter has tried ALL its keys, in order, without success, in the round before it
    blocked -/
theorem blocked_history {es : List Ev} {s : BState} (h : runAll [] es = some s) {w : W} {st : WSt}
    (hg : get s w = some st) (hp : st.phase = .blocked) :
    ∃ pre e0, proj w es = pre ++ e0 :: (failedTries w st.keys ++ [.block w st.timed]) ∧
      RoundStart w e0 :=
  (roundInv h hg).blocked hp

/-- the call returns at the FIRST successful try of the round: if w has returned an element of k, then
    k is the key at some position i, and in that round the tries on keys[0..i-1] all failed, the try on
    k succeeded, and w has done nothing since but unregister -/
theorem returns_at_first_success {es : List Ev} {s : BState} (h : runAll [] es = some s) {w : W}
    {st : WSt} (hg : get s w = some st) {k : Key} (hp : st.phase = .gotElem k) :
    ∃ pre e0 i post,
      proj w es = pre ++ e0 :: (failedTries w (st.keys.take i) ++ .try_ w k true :: post) ∧
      RoundStart w e0 ∧ st.keys[i]? = some k ∧ ∀ e ∈ post, ∃ k', e = .unreg w k' :=
  (roundInv h hg).gotElem k hp

/-- a call that was aborted - by a panicking pop attempt or, in the program model, as the non-waiting form returning
    null: the round had failed on keys[0..i-1]; w has done nothing since but unregister -/
theorem abort_history {es : List Ev} {s : BState} (h : runAll [] es = some s) {w : W}
    {st : WSt} (hg : get s w = some st) (hp : st.phase = .aborted) :
    ∃ pre e0 i post,
      proj w es = pre ++ e0 :: (failedTries w (st.keys.take i) ++ .abort w :: post) ∧
      RoundStart w e0 ∧ ∀ e ∈ post, ∃ k', e = .unreg w k' :=
  (roundInv h hg).aborted hp

/-! ## 5. no try before the registration is complete -/

/-- a pop attempt of a waiter that has not registered is rejected (the old missed-wake-up race) -/
theorem try_unregistered_rejected {s : BState} {w : W} (hg : get s w = none) (k : Key)
    (got : Bool) : step s (.try_ w k got) = none := by
  rw [step_eq]; simp [evW, hg, lstep]

/-- every key tried is one the waiter is (still) registered for -/
theorem tried_key_registered {s s' : BState} (hr : Reachable s) {w : W} {k : Key} {got : Bool}
    (h : step s (.try_ w k got) = some s') :
    ∃ st, get s w = some st ∧ k ∈ st.keys ∧ k ∈ st.reg := by
  obtain ⟨st, i, hg, hp, hk, _⟩ := try_in_argument_order h
  have hm : k ∈ st.keys := List.mem_of_getElem? hk
  have : st.reg = st.keys := (hr.winv hg).regKeys (Or.inl (by simp [hp]))
  exact ⟨st, hg, hm, this ▸ hm⟩

/-- registration strictly precedes the first look at the keys: once w has made a pop attempt, a
    further `reg` of w is rejected (for as long as that waiter exists) -/
theorem reg_rejected_after_try {s0 s : BState} {pre post : List Ev} {w : W} {k : Key} {got : Bool}
    (h : runAll s0 (pre ++ .try_ w k got :: post) = some s) (hfin : Ev.fin w ∉ post) (k' : Key) :
    step s (.reg w k') = none := by
  rw [runAll_append] at h
  cases h1 : runAll s0 pre with
  | none => simp [h1] at h
  | some s1 =>
    simp only [h1, Option.bind_some, runAll] at h
    cases h2 : step s1 (.try_ w k got) with
    | none => simp [h2] at h
    | some s2 =>
      simp only [h2, Option.bind_some] at h
      obtain ⟨st, i, _, _, _, hg2⟩ := try_in_argument_order h2
      have : ∃ st, get s2 w = some st ∧ st.phase ≠ .registering :=
        ⟨_, hg2, by cases got <;> simp⟩
      obtain ⟨st', hg', hp'⟩ := started_persists h this hfin
      rw [step_eq]
      simp [evW, hg', lstep, hp']

/-! ## 6. token conservation: the trace check's `stepLoose` accepts every real run -/

/-- a wake-up consumed was offered before; a wake-up in the channel was offered and not consumed -/
theorem tokens_conserved {s : BState} (hr : Reachable s) {w : W} {st : WSt}
    (hg : get s w = some st) : st.woken ≤ st.notified ∧ (st.buf = true → st.woken < st.notified) :=
  ⟨(hr.winv hg).tok_le, (hr.winv hg).tok_buf⟩

/-- every step of the precise semantics is a step of the relation used to validate traces -/
theorem step_is_stepLoose {s s' : BState} {e : Ev} (hr : Reachable s) (h : step s e = some s') :
    stepLoose s e = some s' := step_le_stepLoose hr h

/-- hence every run of the precise semantics is accepted by the trace check -/
theorem run_is_loose_run {es : List Ev} {s : BState} (h : runAll [] es = some s) :
    runAllLoose [] es = some s := runAll_le_runAllLoose ⟨[], rfl⟩ h

/-! ## 7. unregistering -/

/-- `unreg` only once the call has produced its result (element or null) or has been aborted (a panicking pop
    attempt, the non-waiting null): the deferred `removeBlockingKeys` -/
theorem unreg_only_after_return {s s' : BState} {w : W} {k : Key}
    (h : step s (.unreg w k) = some s') :
    ∃ st, get s w = some st ∧ Returned st.phase ∧
      get s' w = some { st with reg := st.reg.filter (· != k) } :=
  lstep_unreg.1 (step_local h)

/-- `fin` only when unregistered from everything; the waiter is gone afterwards, nobody else is
    touched, and a push can no longer offer it anything -/
theorem fin_only_when_unregistered {s s' : BState} {w : W} (h : step s (.fin w) = some s') :
    ∃ st, get s w = some st ∧ st.reg = [] ∧ get s' w = none ∧
      (∀ w', w' ≠ w → get s' w' = get s w') ∧ ∀ k, step s' (.notify w k) = none := by
  obtain ⟨st, hg, hp, hr⟩ := lstep_fin.1 (step_local h)
  refine ⟨st, hg, hp, hr, fun w' hw' => step_frame h hw', ?_⟩
  have hr' : get s' w = none := hr
  intro k; rw [step_eq]; simp [evW, hr', lstep]

/-- in a reachable state `fin` happens only after the call has returned (or aborted) -/
theorem fin_only_after_return {s s' : BState} (hr : Reachable s) {w : W}
    (h : step s (.fin w) = some s') : ∃ st, get s w = some st ∧ Returned st.phase := by
  obtain ⟨st, hg, hp, _⟩ := fin_only_when_unregistered h
  refine ⟨st, hg, ?_⟩
  have hi := hr.winv hg
  have hne : st.reg ≠ st.keys := by rw [hp]; exact fun e => hi.keysNe e.symm
  have := mt hi.regKeys hne
  revert this; cases st.phase <;> simp [Returned, pos]

/-- a push never touches the channel of a waiter that has left (the old code's send on a closed
    channel): after `fin w`, until somebody registers under the name w again, `notify w _` is rejected -/
theorem no_notify_after_fin {s0 s1 s : BState} {w : W} {post : List Ev}
    (h0 : step s0 (.fin w) = some s1) (h : runAll s1 post = some s) (hreg : ∀ k, Ev.reg w k ∉ post)
    (k : Key) : step s (.notify w k) = none := by
  obtain ⟨_, _, _, hgone, _⟩ := fin_only_when_unregistered h0
  have := gone_persists h hgone hreg
  rw [step_eq]; simp [evW, this, lstep]

/-! ## 8. scenarios (non-vacuity) -/

/-- (a) the OLD missed-wake-up schedule - looking at the key before being registered - is rejected -/
example : runAll [] [.try_ 1 "a" false, .reg 1 "a", .block 1 false] = none := by decide +kernel

/-- ... also when the waiter is registered for one key but looks before registering the second -/
example : runAll [] [.reg 1 "a", .try_ 1 "a" false, .reg 1 "b"] = none := by decide +kernel

/-- (b) a full accepted run: BLPOP a b 1 - both empty, sleeps, a push to b wakes it, it rescans in
    argument order, pops b, unregisters, leaves -/
example : runAll [] [.reg 1 "a", .reg 1 "b", .try_ 1 "a" false, .try_ 1 "b" false, .block 1 true,
    .notify 1 "b", .wake 1, .try_ 1 "a" false, .try_ 1 "b" true, .unreg 1 "a", .unreg 1 "b",
    .fin 1] = some [] := by decide +kernel

/-- (c) two waiters on key a, one push: both are offered a wake-up, waiter 2 takes the element,
    waiter 1 finds it gone and goes back to sleep - with an empty channel and `a` seen again: the
    hypotheses of `no_missed_push` hold in a reachable state -/
example : ((runAll [] [.reg 1 "a", .reg 2 "a", .try_ 1 "a" false, .try_ 2 "a" false, .block 1 true,
    .block 2 false, .notify 2 "a", .notify 1 "a", .wake 2, .wake 1, .try_ 2 "a" true,
    .try_ 1 "a" false, .block 1 true]).bind (get · 1)) =
    some { keys := ["a"], reg := ["a"], buf := false, seen := ["a"], phase := .blocked,
           timed := true, notified := 1, woken := 1 } := by decide +kernel

/-- ... and while it sleeps with the wake-up in its channel, `a` is not seen (hypotheses of
    `pushed_waiter_can_wake`) -/
example : ((runAll [] [.reg 1 "a", .try_ 1 "a" false, .block 1 false,
    .notify 1 "a"]).bind (get · 1)).map (fun st => (st.phase, st.buf, st.keys, st.seen)) =
    some (.blocked, true, ["a"], []) := by decide +kernel

/-- a push while the channel is full is accepted and leaves it full (`push_never_blocks`) -/
example : ((runAll [] [.reg 1 "a", .reg 1 "b", .notify 1 "a", .notify 1 "b",
    .notify 1 "a"]).bind (get · 1)).map (fun st => (st.buf, st.notified, st.woken)) =
    some (true, 3, 0) := by decide +kernel

/-- (d) timeout 0: the timer cannot fire -/
example : runAll [] [.reg 1 "a", .try_ 1 "a" false, .block 1 false, .timeout 1] = none := by decide +kernel

/-- ... with a timer it can, and the reply is null (hypotheses of `null_only_from_timer`) -/
example : ((runAll [] [.reg 1 "a", .try_ 1 "a" false, .block 1 true, .notify 1 "a",
    .timeout 1, .unreg 1 "a"]).bind (get · 1)).map (fun st => (st.phase, st.reg)) =
    some (.gotNull, []) := by decide +kernel

/-- the keys are tried in argument order: trying b first is rejected -/
example : runAll [] [.reg 1 "a", .reg 1 "b", .try_ 1 "b" true] = none := by decide +kernel

/-- blocking before all keys were tried is rejected -/
example : runAll [] [.reg 1 "a", .reg 1 "b", .try_ 1 "a" false, .block 1 true] = none := by decide +kernel

/-- unregistering while waiting is rejected; a push after `fin` is rejected -/
example : runAll [] [.reg 1 "a", .try_ 1 "a" false, .block 1 true, .unreg 1 "a"] = none := by decide +kernel
example : runAll [] [.reg 1 "a", .try_ 1 "a" true, .unreg 1 "a", .fin 1, .notify 1 "a"] = none := by
  decide +kernel

/-- a pop attempt that panics (key of another type): the call unwinds through its clean-up -/
example : runAll [] [.reg 1 "a", .reg 1 "b", .try_ 1 "a" false, .abort 1, .unreg 1 "a",
    .unreg 1 "b", .fin 1] = some [] := by decide +kernel

/-! ## 9. the CODE of the blocking pops (`Model/BlockProg.lean`) refines the protocol

  `BlockProg` is the program: pcs inside `blockingPop` / `addBlockKeys` / `removeBlockingKeys` / `notifyBlockingKey`
  and the push around it, one transition per mutex / channel operation or per loop body inside a critical section,
  any number of threads, any schedule (`Reach σ es`: the system state σ is reached from the initial state by some
  schedule, `es` are the events emitted on the way; `exec σ sched` is the same for a schedule given as a list).
  Every event that has a verifTrace call is emitted by the transition that contains it (`abort` and `fin` have none:
  they are emitted where a pop panics or the non-waiting form returns null, and at the return after the deferred
  `removeBlockingKeys`); `notify` and `wake` are the labels of the channel operations next to their hooks (send / receive).  With this labelling every run is a run of the precise
  protocol semantics `Block.step`; `stepLoose` is needed only for RECORDED traces, where the hook of a `notify` is
  called before its send and the hook of a `wake` after its receive, so that the report order of those two kinds of
  events (and of no other) can differ from the order of the channel operations. -/

section Prog
open NodisVerif.BlockProg
open NodisVerif.Proofs.BlockProg

/-- THE REFINEMENT.  For every schedule - any number of blocking pops and pushes, any interleaving, any timer firing,
    panicking pops included - the emitted event sequence is a run of `Block.step` from the empty protocol state, and
    the final states are related by the simulation relation `Inv` (protocol state of every thread by pc, channel =
    `buf`, registry = `reg`, lock ownership by pc). -/
theorem blockprog_refines_block {σ : Sys} {es : List Ev} (h : Reach σ es) :
    ∃ bs, runAll [] es = some bs ∧ Inv σ bs := by
  obtain ⟨bs, h1, h2, _⟩ := reach_sim h
  exact ⟨bs, h1, h2⟩

/-- the same for a schedule given as a list of (thread, choice); such a run is also accepted by the trace check -/
theorem blockprog_exec_refines_block {sched : List (Tid × Choice)} {σ : Sys} {es : List Ev}
    (h : exec {} sched = some (σ, es)) :
    ∃ bs, runAll [] es = some bs ∧ runAllLoose [] es = some bs ∧ Inv σ bs := by
  have hr : Reach σ es := by simpa using exec_reach Reach.init h
  obtain ⟨bs, h1, h2⟩ := blockprog_refines_block hr
  exact ⟨bs, h1, run_is_loose_run h1, h2⟩

/-- what the relation says about a waiter between its registration and its unregistration (pcs r3 ... u1): it exists
    in the protocol with exactly its argument keys, registered for all of them, `buf` = its channel is full -/
theorem blockprog_waiter_related {σ : Sys} {es : List Ev} (h : Reach σ es) {t : Tid}
    (hb : isBody (σ.thr t).pc = true) :
    ∃ bs st, runAll [] es = some bs ∧ get bs t = some st ∧ st.keys = (σ.thr t).keys ∧
      st.reg = (σ.thr t).keys ∧ st.buf = σ.sh.full t ∧ (σ.thr t).keys ≠ [] := by
  obtain ⟨bs, hr, hI⟩ := blockprog_refines_block h
  obtain ⟨hne, st, hs, hk1, hk2, hbf, _⟩ := prel_body hb (hI.prel t)
  exact ⟨bs, st, hr, hs, hk1, hk2, hbf, hne⟩

/-- NO MISSED WAKE-UP, on program states (transfer of `no_missed_push`).  A thread that is at the `select` of
    blockingPop (pc w1) with an empty channel has, for EVERY one of its keys k, popped from k without success after
    which no push to k has sent to its channel: there is no push it has not looked for.  (With a full channel the
    receive is enabled: `blockprog_full_channel_wakes`.) -/
theorem blockprog_no_missed_wakeup {σ : Sys} {es : List Ev} (h : Reach σ es) {t : Tid}
    (hpc : (σ.thr t).pc = .w1) (hb : σ.sh.full t = false) :
    ∀ k ∈ (σ.thr t).keys, ∃ pre post, es = pre ++ .try_ t k false :: post ∧ Ev.notify t k ∉ post := by
  obtain ⟨bs, hr, hI⟩ := blockprog_refines_block h
  have hP := hI.prel t
  simp only [PRel, hpc] at hP
  obtain ⟨_, st, hs, hk1, _, hbf, hp, _⟩ := hP
  intro k hk
  exact no_missed_push_trace hr hs hp (by rw [hbf, hb]) k (by rw [hk1]; exact hk)

/-- NO MISSED WAKE-UP, ON PROGRAM STATES, FROM THE PUSH SIDE (no protocol event in the statement).  In every reachable
    state, a thread at the `select` of blockingPop with an empty channel sleeps only on EMPTY lists - except for a list
    whose push is still on its way to this very channel: a push thread p with that key that has appended and is about
    to take the registry lock (p2), has it and is about to read the cList (p3), or is in its ForRange with t's channel
    still ahead (p4, t ∈ todo).  Such a push cannot block (`blockprog_push_never_blocks`,
    `blockprog_push_waits_only_for_running_holder`), so the wake-up arrives.  The invariant behind it (`Seen`, for every
    key the thread has already looked at in the current round, at every pc of `look` and of the wait) is proved by
    induction over the schedule; it needs that no command other than a push makes an empty list non-empty (`Call.env`). -/
theorem blockprog_sleeper_has_seen_every_push {σ : Sys} {es : List Ev} (h : Reach σ es) {t : Tid}
    (hpc : (σ.thr t).pc = .w1) (hb : σ.sh.full t = false) :
    ∀ k ∈ (σ.thr t).keys, σ.sh.lists k = 0 ∨
      ∃ p, (σ.thr p).key = k ∧ ((σ.thr p).pc = .p2 ∨ (σ.thr p).pc = .p3 ∨
        ((σ.thr p).pc = .p4 ∧ t ∈ (σ.thr p).todo)) := by
  obtain ⟨_, _, _, hF⟩ := reach_sim h
  have hi := hF t
  simp only [flagsOk, hpc] at hi
  intro k hk
  refine reach_seen h t k ?_ hb
  simp only [looked, hpc]
  rw [List.take_of_length_le hi.2]; exact hk

/-- the same inside a round of `look` and just before the wait: the keys already tried in this round (argument
    positions below the loop index) -/
theorem blockprog_looker_has_seen_every_push {σ : Sys} {es : List Ev} (h : Reach σ es) {t : Tid}
    (hpc : (σ.thr t).pc = .l1 ∨ (σ.thr t).pc = .w0) (hb : σ.sh.full t = false) :
    ∀ k ∈ (σ.thr t).keys.take (σ.thr t).i, σ.sh.lists k = 0 ∨ Pending σ t k := by
  intro k hk
  refine reach_seen h t k ?_ hb
  rcases hpc with hpc | hpc <;> simpa [looked, hpc] using hk

/-- a push round starts with the WHOLE cList of its key (p3), sends to its head and drops exactly the head (p4:
    `tstep_emits`), and ends only when nothing is left: every channel registered for the key when the round begins
    is sent to -/
theorem blockprog_round_covers_registry {σ σ' : Sys} {t : Tid} {ch : Choice} {e : Option Ev}
    (h : σ.step t ch = some (σ', e)) :
    ((σ.thr t).pc = .p3 → (σ'.thr t).todo = σ.sh.regOf (σ.thr t).key ∨ σ.sh.regOf (σ.thr t).key = []) ∧
    ((σ.thr t).pc = .p4 → (σ'.thr t).pc = .p5 → (σ'.thr t).todo = []) := by
  obtain ⟨s', l', hs, rfl⟩ := step_inv h
  constructor
  · intro hpc
    simp only [tstep, hpc] at hs
    cases hr : σ.sh.registry (σ.thr t).key with
    | none => right; simp [Shared.regOf, hr]
    | some cl =>
      simp only [hr, Option.some.injEq, Prod.mk.injEq] at hs
      obtain ⟨_, rfl, _⟩ := hs
      left; simp [Shared.regOf, hr]
  · intro hpc hp5
    simp only [tstep, hpc] at hs
    cases htd : (σ.thr t).todo with
    | nil =>
      simp only [htd, Option.some.injEq, Prod.mk.injEq] at hs
      obtain ⟨_, rfl, _⟩ := hs
      simp
    | cons c rest =>
      simp only [htd, Option.some.injEq, Prod.mk.injEq] at hs
      obtain ⟨_, rfl, _⟩ := hs
      simp only [upd_self] at hp5 ⊢
      split at hp5
      · rename_i he; simpa using he
      · simp at hp5

/-- ... and a sleeping thread whose channel is full is not stuck: the receive is enabled, emits `wake` and starts a new
    look at ALL keys (pc l0) -/
theorem blockprog_full_channel_wakes (σ : Sys) (t : Tid) (hpc : (σ.thr t).pc = .w1) (hb : σ.sh.full t = true) :
    ∃ σ', σ.step t {} = some (σ', some (.wake t)) ∧ (σ'.thr t).pc = .l0 ∧ σ'.sh.full t = false := by
  refine ⟨_, by simp [Sys.step, tstep, hpc, hb]; rfl, ?_, ?_⟩ <;> simp

/-- A PUSH NEVER BLOCKS (transfer of `push_never_blocks`): once a push has the registry lock, every one of its steps -
    the look-up, each non-blocking send, the end of the round, the RUnlock, the commit - is enabled in EVERY state,
    whatever the channels hold and whatever the waiters are doing -/
theorem blockprog_push_never_blocks (σ : Sys) (t : Tid) (ch : Choice)
    (hpc : (σ.thr t).pc = .p3 ∨ (σ.thr t).pc = .p4 ∨ (σ.thr t).pc = .p5 ∨ (σ.thr t).pc = .p6 ∨
      (σ.thr t).pc = .p7) : ∃ r, σ.step t ch = some r := by
  refine step_enabled ?_
  rcases hpc with h | h | h | h | h <;> (rw [h]; rfl)

/-- NO LOCK IS HELD WHILE BLOCKED: in every reachable state the thread that holds the registry lock - exclusively
    (a waiter registering or unregistering) or shared (a push notifying) - can take its next step, whatever the
    scheduler chooses.  In particular the sends of a push happen with the lock held shared and cannot block. -/
theorem blockprog_lock_holder_never_blocked {σ : Sys} {es : List Ev} (h : Reach σ es) {t : Tid}
    (hh : σ.sh.bmu.writer = some t ∨ t ∈ σ.sh.bmu.readers) (ch : Choice) : ∃ r, σ.step t ch = some r := by
  obtain ⟨bs, _, hI⟩ := blockprog_refines_block h
  have hL := hI.lrel t
  refine step_enabled ?_
  rcases hh with h | h
  · simp [neverBlocks, hL.1.1 h]
  · simp [neverBlocks, hL.2.1 h]

/-- hence the only thing a push that holds its key waits for is the registry lock (pc p2), and then the lock is held
    exclusively by a thread that is not blocked -/
theorem blockprog_push_waits_only_for_running_holder {σ : Sys} {es : List Ev} (h : Reach σ es) {t : Tid}
    (hpc : (σ.thr t).pc = .p2) (ch : Choice) :
    (∃ r, σ.step t ch = some r) ∨
      ∃ w, σ.sh.bmu.writer = some w ∧ ∀ ch', ∃ r, σ.step w ch' = some r := by
  cases hw : σ.sh.bmu.writer with
  | none => exact Or.inl ⟨_, by simp [Sys.step, tstep, hpc, Mu.canRLock, hw]; rfl⟩
  | some w => exact Or.inr ⟨w, rfl, fun ch' => blockprog_lock_holder_never_blocked h (Or.inl hw) ch'⟩

/-- the registry lock is exclusive: a writer excludes every reader (and `Inv.lrel`: the writer / the readers are
    exactly the threads at the pcs of the critical sections) -/
theorem blockprog_registry_lock_exclusive {σ : Sys} {es : List Ev} (h : Reach σ es) {w : Tid}
    (hw : σ.sh.bmu.writer = some w) : σ.sh.bmu.readers = [] ∧ holdsW (σ.thr w).pc = true ∧
      ∀ t, holdsW (σ.thr t).pc = true → t = w := by
  obtain ⟨bs, _, hI⟩ := blockprog_refines_block h
  refine ⟨hI.excl (by simp [hw]), (hI.lrel w).1.1 hw, fun t ht => ?_⟩
  have := (hI.lrel t).1.2 ht
  rw [hw] at this; exact (Option.some.inj this).symm

/-- NULL ONLY FROM THE TIMER (transfer of `null_only_from_timer`): `timeout` is emitted only by the thread itself,
    at its `select`, and only when its timeout is positive ... -/
theorem blockprog_timeout_needs_timer {σ σ' : Sys} {t w : Tid} {ch : Choice}
    (h : σ.step t ch = some (σ', some (.timeout w))) :
    w = t ∧ (σ.thr t).pc = .w1 ∧ 0 < (σ.thr t).tmo := by
  obtain ⟨s', l', hs, _⟩ := step_inv h
  obtain ⟨h1, h2, h3, _⟩ := tstep_emits hs
  exact ⟨h1, h2, h3⟩

/-- ... and a call that is unwinding (pcs u1, u2, u3) without an element and without a panic - i.e. is about to return
    null - either is the non-waiting form (timeout < 0, inside EXEC) or had a timer armed (timeout > 0): with timeout
    0 a call never returns null -/
theorem blockprog_null_only_with_timer {σ : Sys} {es : List Ev} (h : Reach σ es) {t : Tid}
    (hpc : (σ.thr t).pc = .u1 ∨ (σ.thr t).pc = .u2 ∨ (σ.thr t).pc = .u3)
    (hf : (σ.thr t).found = false) (hp : (σ.thr t).panicking = false) (ht : 0 ≤ (σ.thr t).tmo) :
    0 < (σ.thr t).tmo := by
  obtain ⟨_, _, _, hF⟩ := reach_sim h
  have := hF t
  rcases hpc with hpc | hpc | hpc <;> (simp only [flagsOk, hpc] at this; exact this hf hp ht)

/-- TIMEOUT 0 WAITS FOR EVER (transfer of `timeout_zero_waits_forever`): at the `select` with timeout 0 the only
    enabled transition is the receive of a wake-up; with an empty channel the thread cannot move, whatever the
    scheduler chooses -/
theorem blockprog_timeout_zero_waits_forever (σ : Sys) (t : Tid) (hpc : (σ.thr t).pc = .w1)
    (h0 : (σ.thr t).tmo = 0) (ch : Choice) :
    (σ.sh.full t = false → σ.step t ch = none) ∧
      ∀ σ' e, σ.step t ch = some (σ', e) → e = some (.wake t) := by
  constructor
  · intro hb
    simp [Sys.step, tstep, hpc, h0, hb]
  · intro σ' e h
    simp only [Sys.step, tstep, hpc, h0] at h
    split at h
    · simp at h
    · rename_i s' l' e' heq
      simp only [Option.some.injEq, Prod.mk.injEq] at h
      obtain ⟨_, rfl⟩ := h
      split at heq
      · simp at heq
      · split at heq
        · simp only [Option.some.injEq, Prod.mk.injEq] at heq; exact heq.2.2.symm
        · simp at heq

/-- ... on traces: after `block t false` the protocol rejects `timeout t` for as long as t does nothing itself, and
    every program run is a protocol run, so no schedule emits it -/
theorem blockprog_no_timeout_after_block_zero {σ σ' : Sys} {pre mid : List Ev} {t t' : Tid} {ch : Choice}
    (h : Reach σ (pre ++ .block t false :: mid)) (hm : ∀ e ∈ mid, own t e = false) :
    σ.step t' ch ≠ some (σ', some (.timeout t)) := by
  intro hs
  obtain ⟨bs, hr, _⟩ := blockprog_refines_block h
  obtain ⟨bs', hr', _⟩ := blockprog_refines_block (Reach.step h hs)
  have h0 := timeout_zero_waits_forever hr hm
  simp only [Option.toList_some] at hr'
  rw [runAll_snoc, hr] at hr'
  simp only [Option.bind_some] at hr'
  rw [h0] at hr'; cases hr'

/-- KEYS ARE TRIED IN ARGUMENT ORDER (transfer of `try_in_argument_order`): `try` is emitted only by the pop inside
    `look`, on the key at the loop index (which `look` starts at 0 and a failure advances by one), the key is not held
    by a push, and the outcome is the one the list dictates: success iff the list has an element -/
theorem blockprog_try_in_argument_order {σ σ' : Sys} {t w : Tid} {ch : Choice} {k : Key} {got : Bool}
    (h : σ.step t ch = some (σ', some (.try_ w k got))) :
    w = t ∧ (σ.thr t).pc = .l1 ∧ (σ.thr t).keys[(σ.thr t).i]? = some k ∧ σ.sh.locked k = none ∧
      got = decide (0 < σ.sh.lists k) ∧ (got = false → (σ'.thr t).i = (σ.thr t).i + 1) := by
  obtain ⟨s', l', hs, rfl⟩ := step_inv h
  obtain ⟨h1, h2, h3, h4, _, h6, h7⟩ := tstep_emits hs
  exact ⟨h1, h2, h3, h4, h6, by simpa using h7⟩

/-- TOKENS ARE CONSERVED (transfer of `tokens_conserved`): the protocol state reached by the emitted events counts,
    for every waiter, at least as many wake-ups offered as consumed, and a FULL CHANNEL of a waiter between registration
    and unregistration holds a wake-up that was offered and not consumed -/
theorem blockprog_tokens_conserved {σ : Sys} {es : List Ev} (h : Reach σ es) :
    ∃ bs, runAll [] es = some bs ∧
      (∀ t st, get bs t = some st → st.woken ≤ st.notified) ∧
      ∀ t, isBody (σ.thr t).pc = true → σ.sh.full t = true →
        ∃ st, get bs t = some st ∧ st.woken < st.notified := by
  obtain ⟨bs, hr, _⟩ := blockprog_refines_block h
  refine ⟨bs, hr, fun t st hg => (tokens_conserved ⟨es, hr⟩ hg).1, fun t hb hf => ?_⟩
  obtain ⟨bs', st, hr', hs, _, _, hbf, _⟩ := blockprog_waiter_related h hb
  rw [hr] at hr'; cases hr'
  exact ⟨st, hs, (tokens_conserved ⟨es, hr⟩ hs).2 (by rw [hbf, hf])⟩

/-- a blocking pop, once started, stays inside blockingPop until the `Unlock` at the end of its deferred
    removeBlockingKeys (pc u3): whichever way `look` and the wait end - element, timeout, non-waiting null, PANIC of
    a pop - the thread goes through u1, u2, u3 ... -/
theorem blockprog_exit_through_unregister {σ σ' : Sys} {t : Tid} {ch : Choice} {e : Option Ev}
    (h : σ.step t ch = some (σ', e)) (hp : isPop (σ.thr t).pc = true) :
    isPop (σ'.thr t).pc = true ∨ ((σ.thr t).pc = .u3 ∧ (σ'.thr t).pc = .idle ∧ e = some (.fin t)) := by
  obtain ⟨s', l', hs, rfl⟩ := step_inv h
  by_cases hu : (σ.thr t).pc = .u3
  · right
    simp only [tstep, hu, Option.some.injEq, Prod.mk.injEq] at hs
    obtain ⟨_, rfl, rfl⟩ := hs
    exact ⟨hu, by simp, rfl⟩
  · left; simpa using pop_closed hs hp hu

/-- ... and when it is idle again its channel is in no cList: the registry holds exactly the channels of the calls in
    progress (`Inv.crel`: with the multiplicity of the key among the arguments) -/
theorem blockprog_unregistered_when_idle {σ : Sys} {es : List Ev} (h : Reach σ es) {t : Tid}
    (hpc : isPop (σ.thr t).pc = false ∨ (σ.thr t).pc = .r1 ∨ (σ.thr t).pc = .u3) (k : Key) :
    t ∉ σ.sh.regOf k := by
  obtain ⟨bs, _, hI⟩ := blockprog_refines_block h
  have hC := hI.crel t k
  rw [regKeys_nil hpc] at hC
  exact fun hm => by have := List.count_pos_iff.2 hm; simp at hC; omega

/-- while the call is between registration and unregistration its channel IS in the cList of every one of its keys:
    a push to any of them finds it -/
theorem blockprog_registered_while_waiting {σ : Sys} {es : List Ev} (h : Reach σ es) {t : Tid}
    (hb : isBody (σ.thr t).pc = true) : ∀ k ∈ (σ.thr t).keys, t ∈ σ.sh.regOf k := by
  obtain ⟨bs, _, hI⟩ := blockprog_refines_block h
  exact fun k hk => hI.registered hb hk

/-! ### the order of the HOOK CALLS (what a recorded trace contains)

  `Model/BlockProgHook.lean`: the same program with the two hooks that are not atomic with the channel operation they
  report as steps of their own - `bp-notify` BEFORE the send, `bp-wake` AFTER the receive. A run `HReach h hs es` has two
  event sequences: `es` in the order of the operations, `hs` in the order of the hook calls. -/

/-- THE HOOK-ORDER REFINEMENT.  For every hook-level run: the hook-call sequence `hs` is a run of `Block.stepLoose` -
    the relation the recorded traces are validated with -, the operation sequence `es` is a run of the program model and
    hence of the precise `Block.step`.  The only event for which `hs` needs the loose rule is `wake` (the proof uses
    `step` for every other event: `lstep_agree`, `stepLoose_of_not_wake`); that it is needed is the example below. -/
theorem blockprog_hook_order_refines_loose {h : HSys} {hs es : List Ev} (hr : HReach h hs es) :
    (∃ hb, runAllLoose [] hs = some hb) ∧ Reach h.σ es ∧ ∃ bs, runAll [] es = some bs ∧ Inv h.σ bs := by
  obtain ⟨⟨bs, hb, hr', hl, hI, _⟩, _, _⟩ := hreach_inv hr
  exact ⟨⟨hb, hl⟩, hreach_reach hr, bs, hr', hI⟩

/-- the hook-level semantics covers every run of the program model (hooks called right next to their operations: both
    orders coincide), so the theorem above is not vacuous -/
theorem blockprog_run_is_hook_run {σ : Sys} {es : List Ev} (h : Reach σ es) :
    HReach ⟨σ, [], fun _ => false⟩ es es := reach_lifts h

/-- a hook-level schedule given as a list of actions (`hexec`, executable) is a hook-level run -/
theorem blockprog_hexec_is_hook_run {acts : List HAct} {h : HSys} {hs es : List Ev}
    (hx : hexec {} acts = some (h, hs, es)) : HReach h hs es := by
  simpa using hexec_sound HReach.init hx

/-- the schedule in which the two orders differ: waiter 1 sleeps on a; push 2 reports and sends; 1 receives; before 1
    reports its wake, push 3 reports and sends (into the buffer 1 has just emptied); 1 reports; another client empties the
    list; 1 looks, finds nothing, sleeps, receives the second wake-up, reports it -/
def looseSchedule : List HAct :=
  [.other 1 { call := .bpop ["a"] 0 }] ++ List.replicate 7 (.other 1 {}) ++
  [.other 2 { call := .push "a" 1 }] ++ List.replicate 3 (.other 2 {}) ++ [.hookNotify 2, .send 2, .recv 1] ++
  List.replicate 3 (.other 2 {}) ++
  [.other 3 { call := .push "a" 1 }] ++ List.replicate 3 (.other 3 {}) ++ [.hookNotify 3, .send 3, .hookWake 1] ++
  List.replicate 3 (.other 3 {}) ++ [.other 9 { call := .env "a" 0 false }] ++
  List.replicate 4 (.other 1 {}) ++ [.recv 1, .hookWake 1]

example : (hexec {} looseSchedule).map (fun r => (r.2.1, r.2.2)) = some (
    -- hook order
    [.reg 1 "a", .try_ 1 "a" false, .block 1 false, .notify 1 "a", .notify 1 "a", .wake 1,
     .try_ 1 "a" false, .block 1 false, .wake 1],
    -- operation order
    [.reg 1 "a", .try_ 1 "a" false, .block 1 false, .notify 1 "a", .wake 1, .notify 1 "a",
     .try_ 1 "a" false, .block 1 false, .wake 1]) := by decide +kernel

/-- `stepLoose` IS NEEDED for the hook order: there is a hook-level run of the program whose hook-call sequence the
    precise semantics `step` rejects (and `stepLoose`, by the theorem above, accepts) -/
theorem blockprog_hook_order_needs_loose :
    ∃ h hs es, HReach h hs es ∧ runAll [] hs = none ∧ (runAllLoose [] hs).isSome = true ∧
      (runAll [] es).isSome = true := by
  -- evaluated once, on whatever the two sequences of the run above are
  have key : (hexec {} looseSchedule).map (fun r =>
      ((runAll [] r.2.1).isNone, (runAllLoose [] r.2.1).isSome, (runAll [] r.2.2).isSome)) = some (true, true, true) := by
    decide +kernel
  cases hx : hexec {} looseSchedule with
  | none => rw [hx] at key; cases key
  | some r =>
    rw [hx] at key
    simp only [Option.map_some, Option.some.injEq, Prod.mk.injEq] at key
    exact ⟨r.1, r.2.1, r.2.2, blockprog_hexec_is_hook_run hx, Option.isNone_iff_eq_none.1 key.1, key.2.1, key.2.2⟩

/-- `n` silent-or-not steps of thread t with the default choice -/
def steps (t : Tid) (n : Nat) : List (Tid × Choice) := List.replicate n (t, {})

/-- single key, one pusher, complete: BLPOP a 0 registers, looks, sleeps (7 steps after the call: at the select with
    an empty channel - the hypotheses of `blockprog_no_missed_wakeup`); LPUSH a x locks the key, appends, takes the
    registry lock shared, sends, releases; the waiter wakes, looks again, pops, unregisters, leaves -/
example : (exec {} ((1, { call := .bpop ["a"] 0 }) :: steps 1 7)).map (fun r => ((r.1.thr 1).pc, r.1.sh.full 1, r.2)) =
    some (.w1, false, [.reg 1 "a", .try_ 1 "a" false, .block 1 false]) := by decide +kernel

example : (exec {} ((1, { call := .bpop ["a"] 0 }) :: steps 1 7 ++ (2, { call := .push "a" 1 }) :: steps 2 7 ++
    steps 1 7)).map (fun r => ((r.1.thr 1).pc, (r.1.thr 2).pc, r.1.sh.regOf "a", r.1.sh.lists "a", r.2)) =
    some (.idle, .idle, [], 0, [.reg 1 "a", .try_ 1 "a" false, .block 1 false, .notify 1 "a", .wake 1,
      .try_ 1 "a" true, .unreg 1 "a", .fin 1]) := by decide +kernel

/-- two keys, two waiters, a timer: waiter 1 (BLPOP a b 1) and waiter 3 (BLPOP b 0) sleep; a push to b notifies both
    (most recent registration first); 3 takes the element; 1 wakes, finds nothing, sleeps again, its timer fires -/
example : (exec {} ((1, { call := .bpop ["a", "b"] 1 }) :: steps 1 9 ++ (3, { call := .bpop ["b"] 0 }) :: steps 3 7 ++
    (2, { call := .push "b" 1 }) :: steps 2 8 ++ steps 3 7 ++ steps 1 6 ++ [(1, { timer := true })] ++ steps 1 4)).map
      (fun r => ((r.1.thr 1).pc, (r.1.thr 3).pc, r.2)) =
    some (.idle, .idle, [.reg 1 "a", .reg 1 "b", .try_ 1 "a" false, .try_ 1 "b" false, .block 1 true,
      .reg 3 "b", .try_ 3 "b" false, .block 3 false, .notify 3 "b", .notify 1 "b",
      .wake 3, .try_ 3 "b" true, .unreg 3 "b", .fin 3,
      .wake 1, .try_ 1 "a" false, .try_ 1 "b" false, .block 1 true, .timeout 1, .unreg 1 "a", .unreg 1 "b",
      .fin 1]) := by decide +kernel

/-- the panic path: the key holds a value of another type, the pop panics, the deferred calls still unregister -/
example : (exec {} ((9, { call := .env "a" 0 true }) :: (1, { call := .bpop ["b", "a"] 0 }) :: steps 1 12)).map
      (fun r => ((r.1.thr 1).pc, r.1.sh.regOf "a", r.1.sh.regOf "b", r.1.sh.bmu, r.2)) =
    some (.idle, [], [], {}, [.reg 1 "b", .reg 1 "a", .try_ 1 "b" false, .abort 1, .unreg 1 "b", .unreg 1 "a",
      .fin 1]) := by decide +kernel

/-- the hypotheses of `blockprog_sleeper_has_seen_every_push` with the second disjunct: waiter 1 sleeps with an empty
    channel, the push has appended (list length 1) and is at p2, about to take the registry lock -/
example : (exec {} ((1, { call := .bpop ["a"] 0 }) :: steps 1 7 ++ (2, { call := .push "a" 1 }) :: steps 2 1)).map
      (fun r => ((r.1.thr 1).pc, r.1.sh.full 1, r.1.sh.lists "a", (r.1.thr 2).pc, (r.1.thr 2).key)) =
    some (.w1, false, 1, .p2, "a") := by decide +kernel

/-- the report order of `looseSchedule` above (notify, notify, wake, …, block, wake), directly on the protocol: `step`
    rejects the second `wake`, the token-counting `stepLoose` accepts it -/
example : runAll [] [.reg 1 "a", .try_ 1 "a" false, .block 1 false, .notify 1 "a", .notify 1 "a", .wake 1,
    .try_ 1 "a" false, .block 1 false, .wake 1] = none := by decide +kernel
example : (runAllLoose [] [.reg 1 "a", .try_ 1 "a" false, .block 1 false, .notify 1 "a", .notify 1 "a", .wake 1,
    .try_ 1 "a" false, .block 1 false, .wake 1]).isSome = true := by decide +kernel

/-- blocked transitions are blocked: with timeout 0 and an empty channel the thread at the select cannot move, the
    timer cannot fire; a second registration cannot start while the first one holds the registry lock -/
example : exec {} ((1, { call := .bpop ["a"] 0 }) :: steps 1 8) = none := by decide +kernel
example : exec {} ((1, { call := .bpop ["a"] 0 }) :: steps 1 7 ++ [(1, { timer := true })]) = none := by decide +kernel
example : exec {} ((1, { call := .bpop ["a"] 0 }) :: steps 1 1 ++ (2, { call := .bpop ["a"] 0 }) :: steps 2 1) = none := by
  decide +kernel

end Prog

end NodisVerif.C18

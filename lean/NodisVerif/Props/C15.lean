import NodisVerif.Proofs.C15Pipeline
import NodisVerif.Proofs.C15Upper
import NodisVerif.Proofs.C15Opt
import NodisVerif.Proofs.C17Reader
import NodisVerif.Proofs.C17Sizes
/-
  C15 — RESP requests parse exactly: binary-safe under any fragmentation / pipelining.
  Everything is unbounded: every byte string of every length as name/argument,
  every number of arguments, every split of the stream into `Read`s, every pipeline length.

  Guards (exactly what the model needs, nothing else):
   * every bulk (name and arguments) is at most 536870912 bytes = 512 MiB, the protocol limit
     `maxBulk` of `readBulk` (beyond it: `parse_too_large`, an error reply, not a panic);
   * the element count `1 + args.length` is an int64.
-/
namespace NodisVerif.C15
open Resp RespReader Spec.RespEnc

/-! ## 1. The result depends on the byte stream only, not on how it is split into reads -/

/-- what the rest of the server can observe of one `ReadCommand`: the command and the bytes still to
    come / the error kind / the panic. (`readAll`, i.e. `handleConn`, restarts every command from
    `{ src := st.src }`: the window fields of the returned state are never looked at again.) -/
inductive Obs
  | ok (c : Cmd) (rest : Bytes)
  | err (e : RErr)
  | panic
deriving DecidableEq

def obs : Res Cmd → Obs
  | .ok c st => .ok c (srcFlat st.src)
  | .err e _ => .err e
  | .panic => .panic

/-- two connections delivering the same bytes in different fragments are parsed identically -/
theorem chunk_independent (src₁ src₂ : Source) (h : srcFlat src₁ = srcFlat src₂) :
    obs (readCommand src₁) = obs (readCommand src₂) := by
  refine (Proofs.C15.readCommand_congr h).elimOn (fun c p q hpq => ?_) (fun _ _ _ _ => rfl) rfl
  simp only [obs, hpq.1]

/-- the same, including the reader's window (`before`, `win`) in the returned state: outcomes agree
    up to the flattening of the remaining source (`REq`: same constructor, same value / error, states
    with equal `srcFlat src`, equal `before`, equal `win`) -/
theorem chunk_independent_state (src₁ src₂ : Source) (h : srcFlat src₁ = srcFlat src₂) :
    Proofs.C15.REq (readCommand src₁) (readCommand src₂) :=
  Proofs.C15.readCommand_congr h

/-- exactly what holds of the window after a complete command: it is empty (every byte read has
    been consumed by `malloc()`); `before` is the last byte consumed and is never used again because
    `ReadCommand` starts with `reset()` -/
theorem window_empty_after_command (src : Source) (c : Cmd) (st : RState) (h : readCommand src = .ok c st) :
    st.win = [] :=
  Proofs.C17.readCommand_ok_win h

/-- in particular any fragmentation behaves like the whole stream arriving in one read -/
theorem chunk_independent_single (src : Source) :
    obs (readCommand src) = obs (readCommand [srcFlat src]) :=
  chunk_independent src [srcFlat src] (by simp)

/-- the whole connection (all commands until the first error) depends on the byte stream only -/
theorem chunk_independent_all (src₁ src₂ : Source) (h : srcFlat src₁ = srcFlat src₂) (fuel : Nat) (acc : List Cmd) :
    readAll src₁ fuel acc = readAll src₂ fuel acc :=
  Proofs.C15.readAll_congr fuel acc h

/-- every reader primitive commutes with flattening (the statements behind `chunk_independent`) -/
theorem primitives_chunk_independent {s t : RState} (h : Proofs.C15.SEq s t) :
    Proofs.C15.REq (readByte s) (readByte t) ∧
    (∀ n, Proofs.C15.REq (readByteN s n (remaining s + 1)) (readByteN t n (remaining t + 1))) ∧
    (∀ fuel, Proofs.C15.REq (readLine s fuel) (readLine t fuel)) ∧
    Proofs.C15.REq (readInteger s) (readInteger t) ∧
    Proofs.C15.REq (readBulk s) (readBulk t) ∧
    (∀ k acc, Proofs.C15.REq (readBulks s k acc) (readBulks t k acc)) ∧
    (∀ e fuel, Proofs.C15.REq (readUtil e s fuel) (readUtil e t fuel)) ∧
    (∀ fuel acc, Proofs.C15.REq (inlineArgs s fuel acc) (inlineArgs t fuel acc)) ∧
    Proofs.C15.REq (readInline s) (readInline t) :=
  ⟨Proofs.C15.readByte_congr h,
   fun n => Proofs.C15.readByteN_congr h n (Nat.lt_succ_self _) (Nat.lt_succ_self _),
   fun fuel => Proofs.C15.readLine_congr fuel h,
   Proofs.C15.readInteger_congr h,
   Proofs.C15.readBulk_congr h,
   fun k acc => Proofs.C15.readBulks_congr k acc h,
   fun e fuel => Proofs.C15.readUtil_congr e fuel h,
   fun fuel acc => Proofs.C15.inlineArgs_congr fuel acc h,
   Proofs.C15.readInline_congr h⟩

/-! ## 2. The reader inverts the encoder: exactly that name (upper-cased), exactly those arguments -/

/-- what can be sent within the protocol limits -/
def Sendable (name : Bytes) (args : List Bytes) : Prop :=
  name.length ≤ 536870912 ∧ (∀ a ∈ args, a.length ≤ 536870912) ∧ 1 + args.length < 2 ^ 63

theorem Sendable.encodable {name : Bytes} {args : List Bytes} (h : Sendable name args) :
    Proofs.C15.Encodable name args := by
  obtain ⟨h1, h2, h3⟩ := h
  refine ⟨by simp [maxBulk]; omega, fun a ha => by have := h2 a ha; simp [maxBulk]; omega, ?_⟩
  simp [int64Max]; omega

/-- one encoded command followed by arbitrary bytes, delivered in one read -/
theorem parse_encode (name : Bytes) (args : List Bytes) (rest : Bytes) (h : Sendable name args) :
    ∃ st, readCommand [encodeCommand name args ++ rest] = .ok { name := upper name, args := args } st ∧
      srcFlat st.src = rest := by
  obtain ⟨h1, h2, h3⟩ := h.encodable
  obtain ⟨st, e, hs, _⟩ := Proofs.C15.readCommand_encode name args rest [encodeCommand name args ++ rest] h1 h2 h3 (by simp)
  exact ⟨st, e, hs⟩

/-- the same under every fragmentation of the stream, with the window of the returned state -/
theorem parse_encode_chunked (name : Bytes) (args : List Bytes) (rest : Bytes) (h : Sendable name args)
    (src : Source) (hsrc : srcFlat src = encodeCommand name args ++ rest) :
    ∃ st, readCommand src = .ok { name := upper name, args := args } st ∧ srcFlat st.src = rest ∧ st.win = [] := by
  obtain ⟨h1, h2, h3⟩ := h.encodable
  exact Proofs.C15.readCommand_encode name args rest src h1 h2 h3 hsrc

/-- outside the guard: the first bulk longer than 512 MiB makes `ReadCommand` return an error
    (the connection is answered with an error and closed) — no panic, no truncated command -/
theorem parse_too_large (name : Bytes) (args : List Bytes) (rest : Bytes)
    (pre : List Bytes) (b : Bytes) (post : List Bytes) (hsplit : name :: args = pre ++ b :: post)
    (hpre : ∀ x ∈ pre, x.length ≤ 536870912) (hb : b.length > 536870912) (hcount : 1 + args.length < 2 ^ 63)
    (src : Source) (hsrc : srcFlat src = encodeCommand name args ++ rest) :
    ∃ st, readCommand src = .err .expectedArray st := by
  refine Proofs.C15.readCommand_too_large name args rest src pre b post hsplit
    (fun x hx => by have := hpre x hx; simp [maxBulk]; omega) (by simp [maxBulk]; omega) ?_ hsrc
  simp [int64Max]; omega

/-! ## 3. Pipelining -/

/-- k commands back to back, in any fragmentation (commands may share reads or be split anywhere):
    the connection loop yields exactly those k commands, in order, then sees end of stream -/
theorem pipeline (cmds : List (Bytes × List Bytes)) (h : ∀ c ∈ cmds, Sendable c.1 c.2)
    (src : Source) (hsrc : srcFlat src = encodePipeline cmds) (fuel : Nat) (hfuel : cmds.length < fuel) :
    readAll src fuel [] = (cmds.map fun c => { name := upper c.1, args := c.2 }, some .eof, false) := by
  obtain ⟨f, rfl⟩ : ∃ f, fuel = cmds.length + (f + 1) := ⟨fuel - cmds.length - 1, by omega⟩
  rw [Proofs.C15.readAll_pipeline_prefix cmds [] src (f + 1) [] (fun c hc => (h c hc).encodable) (by simpa using hsrc),
    Proofs.C15.readAll_eof [[]] (by simp)]
  simp [Proofs.C15.expected]

/-- a pipeline followed by anything: after the k commands the loop continues on exactly the
    remaining bytes -/
theorem pipeline_prefix (cmds : List (Bytes × List Bytes)) (h : ∀ c ∈ cmds, Sendable c.1 c.2) (rest : Bytes)
    (src : Source) (hsrc : srcFlat src = encodePipeline cmds ++ rest) (f : Nat) (acc : List Cmd) :
    readAll src (cmds.length + f) acc =
      readAll [rest] f ((cmds.map fun c => ({ name := upper c.1, args := c.2 } : Cmd)).reverse ++ acc) :=
  Proofs.C15.readAll_pipeline_prefix cmds rest src f acc (fun c hc => (h c hc).encodable) hsrc

/-! ## 4. Option words are recognised only as whole arguments -/

/-- `+1` for value-taking options (MATCH, COUNT, EX, …) -/
def optPlus (word : String) : Int := Proofs.C15.optPlus word

/-- no argument is (case-insensitively) the word ⇒ the option is not set, whatever the arguments
    contain — in particular an argument that contains the word as a proper substring -/
theorem opt_absent (args : List Bytes) (word : String) (h : ∀ a ∈ args, upper a ≠ Bytes.ofString word) :
    opt args word = 0 := by
  rw [Proofs.C15.opt_eq_optScan]
  exact Proofs.C15.optScan_none _ _ args 0 0 h

/-- the last argument that is the word decides: its index (+1 for value options) -/
theorem opt_last (pre : List Bytes) (a : Bytes) (post : List Bytes) (word : String)
    (ha : upper a = Bytes.ofString word) (hpost : ∀ b ∈ post, upper b ≠ Bytes.ofString word) :
    opt (pre ++ a :: post) word = (pre.length : Int) + optPlus word := by
  rw [Proofs.C15.opt_eq_optScan]
  exact Proofs.C15.optScan_last _ _ pre a post 0 ha hpost

/-- the complete characterisation: `opt args word` = index of the last argument `a` with
    `upper a = word` (+1 for value options), 0 if there is none -/
theorem opt_spec (args : List Bytes) (word : String) :
    ((∀ a ∈ args, upper a ≠ Bytes.ofString word) ∧ opt args word = 0) ∨
    (∃ pre a post, args = pre ++ a :: post ∧ upper a = Bytes.ofString word ∧
      (∀ b ∈ post, upper b ≠ Bytes.ofString word) ∧ opt args word = (pre.length : Int) + optPlus word) := by
  rcases Proofs.C15.last_match_split (Bytes.ofString word) args with hno | ⟨pre, a, post, rfl, ha, hpost⟩
  · exact .inl ⟨hno, opt_absent args word hno⟩
  · exact .inr ⟨pre, a, post, rfl, ha, hpost, opt_last pre a post word ha hpost⟩

theorem options_whole_argument (args : List Bytes) (word : String) (h : opt args word ≠ 0) :
    ∃ a ∈ args, upper a = Bytes.ofString word := by
  apply Classical.byContradiction
  intro hn
  exact h (opt_absent args word (fun a ha heq => hn ⟨a, ha, heq⟩))

/-- on pure-ASCII input `strings.ToUpper` is the usual ASCII upper-casing: length preserved,
    'a'..'z' ↦ 'A'..'Z', everything else (CR, LF, NUL, '*', '$', quotes, …) unchanged -/
theorem upper_ascii (v : Bytes) (h : ∀ b ∈ v, b < 128) : upper v = asciiUpper v :=
  Proofs.C15.upper_ascii' v h

/-- a value with a byte ≥ 0x80 upper-cases to something containing 0x00 or 0xFD (the continuation
    bytes of a valid rune are zeroed, an invalid byte becomes U+FFFD mod 256) … -/
theorem upper_nonascii_marker (v : Bytes) (h : ∃ b ∈ v, 128 ≤ b) : ∃ x ∈ upper v, x = 0 ∨ x = 253 :=
  Proofs.C15.upper_bad v h

/-- … hence never to an option word (all of which consist of 'A'..'Z') -/
theorem upper_nonascii_never_a_word (v : Bytes) (h : ∃ b ∈ v, 128 ≤ b) :
    ∀ w ∈ optionTable, upper v ≠ Bytes.ofString w.1 :=
  fun w hw => Proofs.C15.upper_nonascii_ne_word v h w hw

/-! ## 5. One connection's parsing never affects another's -/

/-- Connections are numbered; `sched` is the order in which the scheduler lets connections perform
    one `handleConn` loop iteration each. Whatever the schedule and whatever the other connections
    receive, connection `i` ends up exactly where it would running alone for the number of turns it
    got, and what it reports is `readAll` of its own source. -/
theorem connections_independent (conns : Nat → Proofs.C15.Conn) (sched : List Nat) (i : Nat) :
    Proofs.C15.runSched conns sched i = Proofs.C15.Conn.steps (sched.count i) (conns i) :=
  Proofs.C15.runSched_eq sched conns i

theorem connections_independent_readAll (srcs : Nat → Source) (sched : List Nat) (i : Nat) :
    (Proofs.C15.runSched (fun j => { src := srcs j }) sched i).result = readAll (srcs i) (sched.count i) [] := by
  rw [connections_independent]
  exact Proofs.C15.steps_result _ _ _

/-- two schedules giving connection `i` the same number of turns, and two worlds that differ
    arbitrarily in every *other* connection's input, agree on connection `i` -/
theorem connections_independent_of_others (srcs srcs' : Nat → Source) (sched sched' : List Nat) (i : Nat)
    (hsrc : srcFlat (srcs i) = srcFlat (srcs' i)) (hcount : sched.count i = sched'.count i) :
    (Proofs.C15.runSched (fun j => { src := srcs j }) sched i).result =
    (Proofs.C15.runSched (fun j => { src := srcs' j }) sched' i).result := by
  rw [connections_independent_readAll, connections_independent_readAll, hcount]
  exact chunk_independent_all _ _ hsrc _ _

/-! ## Non-vacuity -/

/-- `SET <key with CR LF NUL '*' '$' quotes> <empty value>` is sendable … -/
example : Sendable (Bytes.ofString "set") [[13, 10, 0, 42, 36, 34, 39, 92, 200], []] := by
  refine ⟨?_, ?_, by decide⟩
  · rw [Proofs.C15.ofString_ascii _ (by decide)]; decide
  · intro a ha; simp at ha; rcases ha with rfl | rfl <;> decide

/-- … and is parsed back exactly, whatever follows -/
example (rest : Bytes) : ∃ st,
    readCommand [encodeCommand [115, 101, 116] [[13, 10, 0, 42, 36, 34, 39, 92, 200], []] ++ rest] =
      .ok { name := upper [115, 101, 116], args := [[13, 10, 0, 42, 36, 34, 39, 92, 200], []] } st ∧
    srcFlat st.src = rest :=
  parse_encode _ _ _ ⟨by decide, by intro a ha; simp at ha; rcases ha with rfl | rfl <;> decide, by decide⟩

/-- the hypotheses of `parse_too_large` are satisfiable: a value of 512 MiB + 1 byte exists … -/
example : ∃ b : Bytes, b.length > 536870912 :=
  ⟨List.replicate 536870913 0, by rw [List.length_replicate]; exact Nat.lt_succ_self _⟩

/-- … and `GET <that value>` then meets every hypothesis -/
example (b : Bytes) (hb : b.length > 536870912) : ∃ (name : Bytes) (args pre : List Bytes) (post : List Bytes),
    name :: args = pre ++ b :: post ∧ (∀ x ∈ pre, x.length ≤ 536870912) ∧ b.length > 536870912 ∧
    1 + args.length < 2 ^ 63 :=
  ⟨[71, 69, 84], [b], [[71, 69, 84]], [], rfl, by intro x hx; simp at hx; subst hx; decide, hb, by simp⟩

/-- `upper "set" = "SET"` -/
example : upper [115, 101, 116] = [83, 69, 84] := by decide

/-- a literal stream "*2 CRLF $1 CRLF a CRLF $2 CRLF CR LF CRLF" cut in the middle of everything -/
example : obs (readCommand [[42], [50, 13], [10, 36, 49, 13, 10, 97, 13], [10, 36, 50], [13, 10, 13], [10, 13, 10, 7]])
    = .ok { name := [65], args := [[13, 10]] } [7] := by decide

/-- an argument containing the word as a proper substring does not set the option -/
example : opt [Bytes.ofString "key", [88, 78, 88, 88]] "NX" = 0 := by
  apply opt_absent
  intro a ha
  have hNX : Bytes.ofString "NX" = [78, 88] := by rw [Proofs.C15.ofString_ascii _ (by decide)]; decide
  have hkey : Bytes.ofString "key" = [107, 101, 121] := by rw [Proofs.C15.ofString_ascii _ (by decide)]; decide
  rw [hNX]
  simp at ha
  rcases ha with rfl | rfl
  · rw [hkey]; decide
  · decide

/-- a scheduler interleaving: three connections, hypotheses of `connections_independent_of_others` -/
example : ([0, 1, 0, 2, 1, 0] : List Nat).count 1 = ([1, 2, 2, 1] : List Nat).count 1 := by decide

/- No finding region: the model does not deviate from the property anywhere inside the protocol limits.
   Outside them (`parse_too_large`) it errors. -/

end NodisVerif.C15

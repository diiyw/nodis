import NodisVerif.Proofs.C13Examples
import NodisVerif.Proofs.C13Reopen
/-
  C13 — crash safety of the Pebble backend.

  "If the process is killed at any instant, the next open succeeds and every key then holds a state
  it actually held at some moment no earlier than the last completed SAVE (or completed background
  flush) before the kill — never a torn, mixed, fabricated or older value, and never a key that had
  already been absent at that flush.  Repeated kill/recover cycles preserve this."

  Model.  The backend `MState.disk` is keyed by the encoded (deadline, name); every `diskSet` /
  `diskDelete` of the model is one synchronous atomic Pebble call.  `Proofs/C13Calls.lean` lists the
  calls of `persist` (SET new, then DELETE old), `unpersist`, `flush`, `gc` (`persistCalls`, ...,
  tied to the model functions by `*_eq_calls`); a kill during a step leaves the backend after a
  PREFIX of its calls: `(applyCalls s (calls.take n)).disk`.  The next open is `Store.reopen`
  (`newStore`): a total function (it always "succeeds"); `recovered d name` is the (deadline, value)
  it makes of the content `d` for `name`: the record it builds for the name, read back through the
  backend it leaves (the entry of that name scanned last, `recovered_is_last_entry`).

  Hypotheses.  `DiskWF d`: the backend content is sorted by key and every entry sits under the
  encoding of its own (name, deadline) — what a Pebble instance only written through `storage.Set`
  holds (kept by every call, `wf_after_calls`).  `DiskAgrees s name m`: the backend holds for `name`
  exactly the entry recorded in `m.stored` (or none).  `StoreAgrees s`: `DiskWF`, index sorted, and
  `DiskAgrees` for every index record; established by `reopen` on every well-formed content, also on
  one with two entries for a name (`reopen_establishes_invariant`), so kill/recover cycles compose.
  The invariant is assumed at the start of each pass and shown to be kept by `flush`, `gc` and
  `reopen`; that the commands running between two passes keep it is not shown here.  The theorems that
  speak of the model functions `flush` / `gc` themselves (`flush_is_its_calls`, `gc_is_its_calls`,
  `flush_crash_safe_model`, `gc_crash_safe_model`, `completed_flush_*`, `flush_preserves_invariant`,
  `gc_preserves_invariant`) further assume a Pebble backend without injected write failures (`pebble = true`,
  `failSet = 0`): with the in-memory backend a pass ends in `syncShared`, which rewrites the values in the backend
  after the calls.  Those about `persist` itself (`persist_is_its_calls`, `persist_completed_model`) assume
  `failSet = 0` only; `persist_completed`, `unpersist_completed` and the `*_crash_safe` theorems speak of the
  call lists and assume neither.
  Values are compared as stored entries (the byte codec round trip is C11's subject).
-/
namespace NodisVerif.C13
open NodisVerif NodisVerif.Store

/-! ### the persistence steps are their call sequences -/

/-- `metadata.persist` = SET under the current deadline, then DELETE of the earlier entry -/
theorem persist_is_its_calls (s : MState) (name : Bytes) (m : Meta) (hf : s.failSet = 0) :
    (persist s name m).1.disk = (applyCalls s (persistCalls s name m)).disk :=
  persist_eq_calls s name m hf

theorem unpersist_is_its_calls (s : MState) (name : Bytes) (m : Meta) :
    (unpersist s name m).disk = (applyCalls s (unpersistCalls name m)).disk :=
  unpersist_eq_calls s name m

theorem flush_is_its_calls (s : MState) (now : Int) (hf : s.failSet = 0) (hp : s.pebble = true) :
    (flush s now).disk = (applyCalls s (flushCalls s now)).disk :=
  flush_eq_calls s now hf hp

theorem gc_is_its_calls (s : MState) (now : Int) (hf : s.failSet = 0) (hp : s.pebble = true) :
    (gc s now).disk = (applyCalls s (gcCalls s now)).disk :=
  gc_eq_calls s now hf hp

theorem wf_after_calls (s : MState) (cs : List DiskCall) (h : DiskWF s.disk) (hc : ∀ c ∈ cs, c.Exact s.pebble)
    (n : Nat) : DiskWF (applyCalls s (cs.take n)).disk := by
  rw [applyCalls_disk _ _ (take_subset_exact hc n)]
  exact diskWF_run h _ (take_subset_exact hc n)

theorem recovered_is_last_entry {d : AList DiskEntry} (h : DiskWF d) (name : Bytes) :
    recovered d name = (lastFor d name).map fun e => (e.exp, e.val) :=
  recovered_eq h name

/-! ### 1. `persist` is crash safe -/

/-- A kill after any number `n` of the calls of `persist` (0: before the SET; 1: between SET and
    DELETE, both entries on disk; 2: done): the key is recovered EITHER as before the step OR with the
    new deadline and value — in particular never as absent when it was present —, and every other
    key is recovered as before. -/
theorem persist_crash_safe (s : MState) (name : Bytes) (m : Meta) (v : Val)
    (hwf : DiskWF s.disk) (ha : DiskAgrees s name m) (hv : m.value = some v) (n : Nat) :
    (recovered (applyCalls s ((persistCalls s name m).take n)).disk name = recovered s.disk name
      ∨ recovered (applyCalls s ((persistCalls s name m).take n)).disk name = some (m.exp, v))
    ∧ (recovered s.disk name ≠ none →
        recovered (applyCalls s ((persistCalls s name m).take n)).disk name ≠ none)
    ∧ ∀ other, other ≠ name →
        recovered (applyCalls s ((persistCalls s name m).take n)).disk other = recovered s.disk other := by
  have hex := take_subset_exact (persistCalls_exact s name m) n
  rw [applyCalls_disk _ _ hex]
  have h1 := (persist_crash_disk s.pebble hwf ha hv).1 n
  refine ⟨h1, ?_, ?_⟩
  · intro hne
    rcases h1 with h1 | h1
    · unfold persistCalls; rw [h1]; exact hne
    · unfold persistCalls; rw [h1]; simp
  · intro other ho
    apply recovered_run_other _ hwf hex
    intro c hc
    rw [(persistCalls_for s name m c (List.mem_of_mem_take hc)).2]
    exact fun e => ho e.symm

/-- the completed step: the key is recovered with its new deadline and value, and the backend
    agrees with the updated record (the invariant is kept) -/
theorem persist_completed (s : MState) (name : Bytes) (m : Meta) (v : Val)
    (hwf : DiskWF s.disk) (ha : DiskAgrees s name m) (hv : m.value = some v) :
    recovered (applyCalls s (persistCalls s name m)).disk name = some (m.exp, v)
    ∧ DiskAgrees (applyCalls s (persistCalls s name m)) name { m with stored := some m.exp } := by
  unfold DiskAgrees
  rw [applyCalls_disk _ _ (persistCalls_exact s name m)]
  exact (persist_crash_disk s.pebble hwf ha hv).2

/-- the same about the model function itself -/
theorem persist_completed_model (s : MState) (name : Bytes) (m : Meta) (v : Val)
    (hwf : DiskWF s.disk) (ha : DiskAgrees s name m) (hv : m.value = some v) (hf : s.failSet = 0) :
    recovered (persist s name m).1.disk name = some (m.exp, v)
    ∧ DiskAgrees (persist s name m).1 name (persist s name m).2.1 := by
  have h := persist_completed s name m v hwf ha hv
  rw [persist_state s name m hf]
  exact h

/-! ### 2. the order of the two calls matters -/

/-- FINDING (repaired in the Go code): with the order DELETE-then-SET a kill after the first call
    loses the key.  State `Ex.s0`: key "k" stored under deadline 0, now with deadline 5; all
    hypotheses of `persist_crash_safe` hold, the key is recovered before the step, and after the
    first call of the old sequence it is recovered as ABSENT. -/
theorem persist_order_matters_finding :
    DiskWF Ex.s0.disk ∧ DiskAgrees Ex.s0 Ex.k1 Ex.m1 ∧ Ex.m1.value = some (.str [2])
    ∧ recovered Ex.s0.disk Ex.k1 = some (0, .str [1])
    ∧ recovered (applyCalls Ex.s0 ((persistCallsOld Ex.s0 Ex.k1 Ex.m1).take 1)).disk Ex.k1 = none :=
  ⟨Ex.disk0_wf, Ex.s0_k1_agrees, rfl, Ex.recovered_before, Ex.old_order_loses_key⟩

/-! ### 3. `unpersist` is crash safe -/

/-- after any prefix of the calls of `unpersist` the key is recovered as before or as absent (the
    state after the DELETE); other keys as before -/
theorem unpersist_crash_safe (s : MState) (name : Bytes) (m : Meta)
    (hwf : DiskWF s.disk) (ha : DiskAgrees s name m) (n : Nat) :
    (recovered (applyCalls s ((unpersistCalls name m).take n)).disk name = recovered s.disk name
      ∨ recovered (applyCalls s ((unpersistCalls name m).take n)).disk name = none)
    ∧ ∀ other, other ≠ name →
        recovered (applyCalls s ((unpersistCalls name m).take n)).disk other = recovered s.disk other := by
  have hex := take_subset_exact (unpersistCalls_exact s.pebble name m) n
  rw [applyCalls_disk _ _ hex]
  refine ⟨(unpersist_crash_disk hwf ha).1 n, ?_⟩
  intro other ho
  apply recovered_run_other _ hwf hex
  intro c hc
  rw [(unpersistCalls_for s.pebble name m c (List.mem_of_mem_take hc)).2]
  exact fun e => ho e.symm

/-- the completed step: the key is gone, and the backend agrees with a record saying so -/
theorem unpersist_completed (s : MState) (name : Bytes) (m : Meta)
    (hwf : DiskWF s.disk) (ha : DiskAgrees s name m) :
    recovered (unpersist s name m).disk name = none
    ∧ DiskAgrees (unpersist s name m) name { m with stored := none } := by
  unfold DiskAgrees
  rw [unpersist_eq_calls, applyCalls_disk _ _ (unpersistCalls_exact s.pebble name m)]
  exact (unpersist_crash_disk hwf ha).2

/-! ### 4. SAVE / background flush / eviction pass -/

/-- A kill after any number of the calls of `flush`: every name is recovered either as before the
    pass or as the completed pass leaves it (per key independently). -/
theorem flush_crash_safe (s : MState) (now : Int) (h : StoreAgrees s) (n : Nat) (name : Bytes) :
    recovered (applyCalls s ((flushCalls s now).take n)).disk name = recovered s.disk name
    ∨ recovered (applyCalls s ((flushCalls s now).take n)).disk name
        = recovered (applyCalls s (flushCalls s now)).disk name := by
  rw [applyCalls_disk _ _ (take_subset_exact (flushCalls_exact s now) n),
    applyCalls_disk _ _ (flushCalls_exact s now)]
  exact pass_crash s now s.index h.diskWF h.records n name

/-- the same with the model's `flush` as the completed pass -/
theorem flush_crash_safe_model (s : MState) (now : Int) (h : StoreAgrees s) (hf : s.failSet = 0)
    (hp : s.pebble = true) (n : Nat) (name : Bytes) :
    recovered (applyCalls s ((flushCalls s now).take n)).disk name = recovered s.disk name
    ∨ recovered (applyCalls s ((flushCalls s now).take n)).disk name = recovered (flush s now).disk name := by
  rw [flush_eq_calls s now hf hp]
  exact flush_crash_safe s now h n name

/-- likewise for one pass of `gc` -/
theorem gc_crash_safe (s : MState) (now : Int) (h : StoreAgrees s) (n : Nat) (name : Bytes) :
    recovered (applyCalls s ((gcCalls s now).take n)).disk name = recovered s.disk name
    ∨ recovered (applyCalls s ((gcCalls s now).take n)).disk name
        = recovered (applyCalls s (gcCalls s now)).disk name := by
  rw [applyCalls_disk _ _ (take_subset_exact (gcCalls_exact s now) n),
    applyCalls_disk _ _ (gcCalls_exact s now)]
  unfold gcCalls
  split
  · left; simp [runCalls]
  · exact pass_crash s now s.index h.diskWF h.records n name

theorem gc_crash_safe_model (s : MState) (now : Int) (h : StoreAgrees s) (hf : s.failSet = 0)
    (hp : s.pebble = true) (n : Nat) (name : Bytes) :
    recovered (applyCalls s ((gcCalls s now).take n)).disk name = recovered s.disk name
    ∨ recovered (applyCalls s ((gcCalls s now).take n)).disk name = recovered (gc s now).disk name := by
  rw [gc_eq_calls s now hf hp]
  exact gc_crash_safe s now h n name

/-! ### 5. a completed SAVE -/

/-- After all calls of `flush` (a completed SAVE / background flush), for every index record:
    an expired or not-ok key is recovered as ABSENT; a live modified key is recovered with exactly
    its current deadline and value; a live unmodified key as before; names without a record as
    before. -/
theorem completed_flush_is_recovered (s : MState) (now : Int) (h : StoreAgrees s) (hf : s.failSet = 0)
    (hp : s.pebble = true) :
    (∀ key m, (key, m) ∈ s.index →
      ((m.expired now = true ∨ m.isOk = false) → recovered (flush s now).disk key = none)
      ∧ (∀ v, m.expired now = false → m.isOk = true → m.isModified = true → m.value = some v →
          recovered (flush s now).disk key = some (m.exp, v))
      ∧ (m.expired now = false → m.isOk = true → m.isModified = false →
          recovered (flush s now).disk key = recovered s.disk key))
    ∧ ∀ name, AList.get? s.index name = none → recovered (flush s now).disk name = recovered s.disk name := by
  rw [flush_eq_calls s now hf hp, applyCalls_disk _ _ (flushCalls_exact s now)]
  obtain ⟨h1, h2⟩ := pass_full s now s.index h.diskWF h.records
  constructor
  · intro key m hm
    have := (h1 (key, m) hm).1
    unfold flushCalls
    rw [this]
    unfold target
    refine ⟨?_, ?_, ?_⟩
    · intro hd
      have : (m.expired now || !m.isOk) = true := by
        rcases hd with hd | hd <;> simp [hd]
      simp [this]
    · intro v h3 h4 h5 h6
      simp [h3, h4, h5, h6]
    · intro h3 h4 h5
      simp [h3, h4, h5]
  · intro name hn
    apply h2
    intro p hp' e
    have := Proofs.AListLemmas2.get?_of_mem s.index h.idxSorted p.1 p.2 hp'
    rw [e, hn] at this
    cases this

/-- a completed SAVE keeps the per-record agreement, with what each record then says is stored -/
theorem completed_flush_agrees (s : MState) (now : Int) (h : StoreAgrees s) (hf : s.failSet = 0)
    (hp : s.pebble = true) :
    DiskWF (flush s now).disk
    ∧ ∀ key m, (key, m) ∈ s.index → AgreesD (flush s now).disk key (storedAfter now m) := by
  rw [flush_eq_calls s now hf hp, applyCalls_disk _ _ (flushCalls_exact s now)]
  exact ⟨diskWF_run h.diskWF _ (flushCalls_exact s now),
    fun key m hm => ((pass_full s now s.index h.diskWF h.records).1 (key, m) hm).2⟩

/-- a completed SAVE keeps the whole invariant (the `stored` fields `flush` writes into the index
    records are what it left in the backend): the next SAVE is crash safe again -/
theorem flush_preserves_invariant (s : MState) (now : Int) (h : StoreAgrees s) (hf : s.failSet = 0)
    (hp : s.pebble = true) : StoreAgrees (flush s now) :=
  flush_agrees s now h hf hp

/-- so does a completed eviction pass -/
theorem gc_preserves_invariant (s : MState) (now : Int) (h : StoreAgrees s) (hf : s.failSet = 0)
    (hp : s.pebble = true) : StoreAgrees (gc s now) :=
  gc_agrees s now h hf hp

/-! ### 6. kill / recover cycles -/

/-- reopening is idempotent on the logical content: the backend `reopen` leaves (shadowed entries
    deleted) is recovered exactly as the backend it found -/
theorem recover_twice {d : AList DiskEntry} (h : DiskWF d) (name : Bytes) :
    recovered (reopened d).disk name = recovered d name := by
  obtain ⟨hwf', hlast⟩ := reopened_spec h
  rw [recovered_eq hwf', recovered_eq h, hlast]

/-- `reopen` on ANY well-formed content (also one with two entries for a name, as a kill between the
    SET and the DELETE leaves it) establishes the invariant the crash-safety theorems need, with a
    writable Pebble backend: the next SAVE is crash safe again -/
theorem reopen_establishes_invariant {d : AList DiskEntry} (h : DiskWF d) :
    StoreAgrees (reopened d) ∧ (reopened d).failSet = 0 ∧ (reopened d).pebble = true :=
  ⟨reopened_agrees h, reopened_failSet d, reopened_pebble d⟩

theorem reopen_of_state (s : MState) :
    (reopen s).disk = (reopened s.disk).disk ∧ (reopen s).index = (reopened s.disk).index :=
  ⟨reopen_disk s, reopen_index s⟩

/-- any number of open / kill-while-idle cycles -/
def reopenTimes : Nat → AList DiskEntry → AList DiskEntry
  | 0, d => d
  | k + 1, d => reopenTimes k (reopened d).disk

theorem recover_many {d : AList DiskEntry} (h : DiskWF d) (k : Nat) (name : Bytes) :
    DiskWF (reopenTimes k d) ∧ recovered (reopenTimes k d) name = recovered d name := by
  induction k generalizing d with
  | zero => exact ⟨h, rfl⟩
  | succ k ih =>
    obtain ⟨a, b⟩ := ih (reopened_spec h).1
    exact ⟨a, b.trans (recover_twice h name)⟩

/-- one full cycle: kill during a SAVE after `n` calls, reopen.  The reopened store satisfies the
    invariant again, and what it holds for every name is what was recovered: the state before the
    SAVE or the state the SAVE writes. -/
theorem kill_during_flush_then_open (s : MState) (now : Int) (h : StoreAgrees s) (n : Nat) :
    StoreAgrees (reopened (applyCalls s ((flushCalls s now).take n)).disk)
    ∧ ∀ name,
        recovered (reopened (applyCalls s ((flushCalls s now).take n)).disk).disk name
          = recovered (applyCalls s ((flushCalls s now).take n)).disk name
        ∧ (recovered (applyCalls s ((flushCalls s now).take n)).disk name = recovered s.disk name
            ∨ recovered (applyCalls s ((flushCalls s now).take n)).disk name
                = recovered (applyCalls s (flushCalls s now)).disk name) := by
  have hwf := wf_after_calls s (flushCalls s now) h.diskWF (flushCalls_exact s now) n
  exact ⟨reopened_agrees hwf, fun name => ⟨recover_twice hwf name, flush_crash_safe s now h n name⟩⟩

/-! ### 7. no torn, mixed or fabricated entries -/

/-- after any prefix of any list of calls, every entry on disk was on the initial disk or is, whole,
    the entry of one `set` call of the list -/
theorem calls_atomic_untorn_general (s : MState) (cs : List DiskCall) (hc : ∀ c ∈ cs, c.Exact s.pebble)
    (n : Nat) (k : Bytes) (e : DiskEntry) (hm : (k, e) ∈ (applyCalls s (cs.take n)).disk) :
    (k, e) ∈ s.disk ∨ ∃ c ∈ cs, c.entry? = some e := by
  rw [applyCalls_disk _ _ (take_subset_exact hc n)] at hm
  exact untorn_run cs s.disk n k e hm

/-- ... in particular for the call lists of the persistence steps -/
theorem calls_atomic_untorn (s : MState) (name : Bytes) (m : Meta) (now : Int) (cs : List DiskCall)
    (hcs : cs = persistCalls s name m ∨ cs = persistCallsOld s name m ∨ cs = unpersistCalls name m
      ∨ cs = flushCalls s now ∨ cs = gcCalls s now)
    (n : Nat) (k : Bytes) (e : DiskEntry) (hm : (k, e) ∈ (applyCalls s (cs.take n)).disk) :
    (k, e) ∈ s.disk ∨ ∃ c ∈ cs, c.entry? = some e := by
  apply calls_atomic_untorn_general s cs _ n k e hm
  rcases hcs with rfl | rfl | rfl | rfl | rfl
  · exact persistCalls_exact s name m
  · exact persistCallsOld_exact s name m
  · exact unpersistCalls_exact s.pebble name m
  · exact flushCalls_exact s now
  · exact gcCalls_exact s now

/-- ... and what is recovered for a name after any prefix is such a whole entry: an entry of that
    name of the initial disk, or the entry of one `set` call -/
theorem recovered_untorn (s : MState) (cs : List DiskCall) (hwf : DiskWF s.disk)
    (hc : ∀ c ∈ cs, c.Exact s.pebble) (n : Nat) (name : Bytes) (x : Int) (v : Val)
    (hr : recovered (applyCalls s (cs.take n)).disk name = some (x, v)) :
    ∃ e, e.name = name ∧ e.exp = x ∧ e.val = v
      ∧ ((Codec.encodeKey name x, e) ∈ s.disk ∨ ∃ c ∈ cs, c.entry? = some e) := by
  obtain ⟨e, h1, h2, h3, h4⟩ := recovered_some_mem (wf_after_calls s cs hwf hc n) hr
  exact ⟨e, h2, h3, h4, calls_atomic_untorn_general s cs hc n _ e h1⟩

/-! ### non-vacuity: a concrete state, the two-entry window -/

/-- `Ex.s0` (key "k": stored under deadline 0, now deadline 5 and a new value, modified; key "z":
    clean, cold) satisfies the invariant -/
example : StoreAgrees Ex.s0 := Ex.s0_agrees
example : DiskWF Ex.s0.disk ∧ DiskAgrees Ex.s0 Ex.k1 Ex.m1 ∧ Ex.m1.value = some (.str [2]) :=
  ⟨Ex.disk0_wf, Ex.s0_k1_agrees, rfl⟩
example : Ex.s0.failSet = 0 ∧ Ex.s0.pebble = true := ⟨rfl, rfl⟩
/-- its `persist` / SAVE calls -/
example : persistCalls Ex.s0 Ex.k1 Ex.m1 = [.set Ex.k1 5 Ex.new1, .del Ex.k1 0] := Ex.persistCalls_s0
example : flushCalls Ex.s0 1 = [.set Ex.k1 5 Ex.new1, .del Ex.k1 0] := Ex.flushCalls_s0
/-- a kill between the two calls leaves both entries of "k" on disk ... -/
example : (applyCalls Ex.s0 ((persistCalls Ex.s0 Ex.k1 Ex.m1).take 1)).disk
    = [([0, 107], Ex.old1), ([0, 122], Ex.ent2), ([10, 107], Ex.new1)] := Ex.window_disk
/-- ... and "k" is recovered with the new deadline and value (the entry scanned last), where before
    the step it was recovered with the old ones -/
example : recovered Ex.s0.disk Ex.k1 = some (0, .str [1])
    ∧ recovered (applyCalls Ex.s0 ((persistCalls Ex.s0 Ex.k1 Ex.m1).take 1)).disk Ex.k1 = some (5, .str [2]) :=
  ⟨Ex.recovered_before, Ex.recovered_window⟩
/-- the mirror case (deadline removed, 5 → 0): in the window the entry scanned last is the OLD one -/
example : (applyCalls Ex.s1 ((persistCalls Ex.s1 Ex.k1 Ex.m1').take 1)).disk
    = [([0, 107], Ex.new0), ([0, 122], Ex.ent2), ([10, 107], Ex.old5)] := Ex.window_disk'
example : recovered (applyCalls Ex.s1 ((persistCalls Ex.s1 Ex.k1 Ex.m1').take 1)).disk Ex.k1 = some (5, .str [1])
    ∧ recovered Ex.s1.disk Ex.k1 = some (5, .str [1]) := Ex.recovered_window'
/-- the hypothesis `m.value = some v` of `persist_crash_safe` is needed in the model (a record without
    value: nothing is written, the earlier entry is still deleted); `flush` / `gc` never do that -/
example : persistCalls Ex.s0 Ex.k1 Ex.m1c = [.del Ex.k1 0]
    ∧ recovered (applyCalls Ex.s0 (persistCalls Ex.s0 Ex.k1 Ex.m1c)).disk Ex.k1 = none := Ex.persist_cold_loses_key
/-- after both calls only the new entry of "k" is left -/
example : (applyCalls Ex.s0 (persistCalls Ex.s0 Ex.k1 Ex.m1)).disk
    = [([0, 122], Ex.ent2), ([10, 107], Ex.new1)] := Ex.done_disk

end NodisVerif.C13

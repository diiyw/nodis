import NodisVerif.Proofs.C12More
import NodisVerif.Props.C11
import NodisVerif.Proofs.C20ZAddPairs
import NodisVerif.Proofs.C12Fail
/-
  C12 — Eviction of cold values to storage is invisible; a failed flush loses nothing.

  Reference notion: `Spec.Persist.logical` (what a client can see of the store).  Model: `Store.gc`
  (one eviction pass), `Store.flush`, the lazy reload in `writeKey` / `readKey`, the commands of
  Model/Api.lean, both backends, fault injection `failSet` (= number of upcoming backend writes
  that are rejected).  `StoreInv`, the horizon `t` and the nil string (`NilFree`; `LNil s t` =
  on Pebble nothing the store shows from `t` on is a nil string; no API command creates one) are
  explained in Props/C11.lean.
-/
namespace NodisVerif.C12
open NodisVerif.Store NodisVerif.Spec.Persist NodisVerif.Proofs.C11

/-- an eviction pass is invisible: whatever it persists, resets, evicts or unlinks (expired keys),
    and however many backend writes fail, the logical keyspace is the same afterwards — at the
    time of the pass and at every later time.  No hypothesis on `failSet`. -/
theorem gc_invisible {s : MState} {t now now' : Int} (h : StoreInv s t) (ht : t ≤ now)
    (ht' : now ≤ now') (hnil : NilFree s) : logical (gc s now) now' = logical s now' := by
  have g := gc_spec h ht hnil
  exact logical_ext h.idxSorted g.inv.idxSorted (fun k => g.look now' ht' k)

/-- at full strength on the in-memory backend -/
theorem gc_invisible_memory {s : MState} {t now now' : Int} (h : StoreInv s t) (hp : s.pebble = false)
    (ht : t ≤ now) (ht' : now ≤ now') : logical (gc s now) now' = logical s now' :=
  gc_invisible h ht ht' (fun _ _ _ c => by rw [hp] at c; cases c)

/-- `NilFree` is needed: on a Pebble store holding a nil string (not reachable through the API; it
    satisfies the invariant) GET answers null while the value is hot and the empty string once a
    pass has evicted it -/
theorem nil_string_breaks_eviction :
    StoreInv nilState 0 ∧
    logical nilState 0 = [([107], .strNil, 0)] ∧ logical (gc nilState 0) 0 = [([107], .str [], 0)] ∧
    (Api.get nilState 0 [107]).2 = .bytes none :=
  ⟨nilState_inv 0, nilState_logical, nilState_gc, nilState_get_hot⟩

/-- the pass preserves the storage invariant (any `failSet`) -/
theorem gc_preserves_inv {s : MState} {t now : Int} (h : StoreInv s t) (ht : t ≤ now) (hnil : NilFree s) :
    StoreInv (gc s now) t := C11.gc_preserves_inv h ht hnil

/-- `flush` is invisible and preserves the invariant — on both backends, no nil-string
    restriction (flush never drops a value from memory), any `failSet` -/
theorem flush_invisible {s : MState} {t now now' : Int} (h : StoreInv s t) (ht : t ≤ now) (ht' : now ≤ now') :
    logical (flush s now) now' = logical s now' ∧ StoreInv (flush s now) now := by
  have g := (flush_spec h ht).1
  exact ⟨logical_ext h.idxSorted g.inv.idxSorted (fun k => g.look now' ht' k), g.inv⟩

/-! ### a rejected write loses nothing -/

/-- `metadata.persist` whose backend write is rejected changes nothing but the fault counter: the
    backend is what it was — in particular the entry written earlier (under whatever deadline) is
    still there — and the record is what it was (`stored` still points at that entry).  No
    hypothesis on the state or the record.  (Before the repair of `persist` the entry filed under an
    earlier deadline was deleted *before* the write was attempted, so a rejected write left the key
    with no backend entry at all.) -/
theorem failed_persist_keeps_old_entry (s : MState) (name : Bytes) (m : Meta)
    (hfail : (persist s name m).2.2 = false) :
    (persist s name m).1.disk = s.disk ∧ (persist s name m).2.1 = m ∧
    (persist s name m).1 = { s with failSet := s.failSet - 1 } := by
  rw [persist_false s name m hfail]
  exact ⟨rfl, rfl, rfl⟩

/-- hence whatever the record remembers as stored can still be read back after the rejected write -/
theorem failed_persist_entry_readable (s : MState) (name : Bytes) (m : Meta)
    (hfail : (persist s name m).2.2 = false) (e : Int) :
    (persist s name m).2.1.stored = m.stored ∧
    diskGet (persist s name m).1 name e = diskGet s name e := by
  rw [persist_false s name m hfail]
  exact ⟨rfl, rfl⟩

/-- the write of a live modified record is rejected: the record stays in memory with its value
    and stays marked modified (so no later pass may drop it without writing it first); in fact the
    record is exactly what it was (`m1 = m`: same `stored`) and the backend is untouched, so the
    entry written earlier survives -/
theorem failed_write_keeps_dirty {s : MState} {t now : Int} (h : StoreInv s t) {k : Bytes} {m : Meta}
    (hm : AList.get? s.index k = some m) (hal : m.expired now = false) (hmod : m.isModified = true)
    (hf : 0 < s.failSet) :
    ∃ m1, AList.get? (gcStep now s (k, m)).index k = some m1 ∧ m1.isModified = true ∧
      m1.value = m.value ∧ m1.exp = m.exp ∧ (gcStep now s (k, m)).failSet = s.failSet - 1 ∧
      m1 = m ∧ (gcStep now s (k, m)).disk = s.disk :=
  gcStep_failed h hm hal hmod hf

/-- the same for the step of `flush` (and `close`): a rejected write leaves record and backend as
    they were -/
theorem failed_flush_write_keeps {s : MState} {t now : Int} (h : StoreInv s t) {k : Bytes} {m : Meta}
    (hm : AList.get? s.index k = some m) (hal : m.expired now = false) (hmod : m.isModified = true)
    (hf : 0 < s.failSet) :
    AList.get? (flushStep now s (k, m)).index k = some m ∧ (flushStep now s (k, m)).disk = s.disk ∧
    (flushStep now s (k, m)).failSet = s.failSet - 1 := by
  rw [flushStep_failed_eq (h.recs k m hm).ok hal hmod hf]
  exact ⟨by simp [putMeta, Proofs.AListLemmas2.get?_set], rfl, rfl⟩

/-- a whole pass during which the backend rejects every write: every live modified record is
    still hot, still modified, same value, same deadline — it is exactly the record it was
    (`m1 = m`, so `stored` is unchanged) — and every backend entry of its name is still in place
    (on Pebble the very same entry; in memory the same shared object); the logical keyspace and the
    invariant are untouched (`gc_invisible`, `gc_preserves_inv` hold for every `failSet`) -/
theorem failed_pass_keeps_dirty {s : MState} {t now : Int} (h : StoreInv s t) (ht : t ≤ now) (hnil : NilFree s)
    (hc : s.closed = false) (hf : s.index.length ≤ s.failSet) {k : Bytes} {m : Meta}
    (hm : AList.get? s.index k = some m) (hal : m.expired now = false) (hmod : m.isModified = true) :
    ∃ m1, AList.get? (gc s now).index k = some m1 ∧ m1.isModified = true ∧ m1.value = m.value ∧
      m1.exp = m.exp ∧ m1 = m ∧
      ∀ dk e0, AList.get? s.disk dk = some e0 → e0.name = k →
        ∃ e, AList.get? (gc s now).disk dk = some e ∧ e.name = e0.name ∧ e.exp = e0.exp ∧ e.oid = e0.oid ∧
          (s.pebble = true → e = e0) := by
  obtain ⟨a, b⟩ := gc_all_fail_keeps h ht hnil hc hf hm hal hmod
  exact ⟨m, a, hmod, rfl, rfl, rfl, b⟩

/-- a later pass without rejected writes persists everything: no record is left modified, hence
    (invariant) every live record is cold or has its current value in the backend under its current
    deadline, and `failSet` stays 0 -/
theorem successful_pass_persists {s : MState} {t now : Int} (h : StoreInv s t) (ht : t ≤ now) (hnil : NilFree s)
    (hc : s.closed = false) (hf : s.failSet = 0) :
    (gc s now).failSet = 0 ∧ StoreInv (gc s now) t ∧
    ∀ k m', AList.get? (gc s now).index k = some m' → m'.isModified = false :=
  ⟨(gc_spec h ht hnil).fs0 hf, (gc_spec h ht hnil).inv, gc_clean h.idxSorted hc hf⟩

/-! ### commands cannot tell hot from cold -/

/-- the lookup protocol (`writeKey` with or without constructor): outcome, the record handed
    back (hot, with the logical value and deadline of the key) and the effect on the logical
    keyspace are determined by the logical content of the key; a cold value is reloaded on the way
    and the invariant is preserved -/
theorem writeKey_cold_hot {s : MState} {t now : Int} (h : StoreInv s t) (ht : t ≤ now) (k : Bytes)
    (mk : Option Val) (hmk : ∀ v, mk = some v → Good v) : KeySpec s t now k mk (writeKey s now k mk) :=
  writeKey_spec h ht k mk hmk

theorem readKey_cold_hot {s : MState} {t now : Int} (h : StoreInv s t) (ht : t ≤ now) (k : Bytes) :
    KeySpec s t now k none (readKey s now k) := readKey_spec h ht k

/-- every covered command (32 single-key commands, see below) preserves the invariant -/
theorem command_preserves_inv (c : Cmd) {s : MState} {t now : Int} (hc : c.WF) (h : StoreInv s t) (ht : t ≤ now) :
    StoreInv (c.run s now).1 t := c.inv hc h ht

/-- every covered command preserves the invariant, and its reply and the logical keyspace it
    leaves are functions of the logical content of its key only (`TxForm.spec`) -/
theorem command_spec (c : Cmd) {s : MState} {t now : Int} (hc : c.WF) (h : StoreInv s t) (ht : t ≤ now) :
    TxSpec s t now (c.form now).key ((c.form now).spec (lookup s now (c.form now).key)) (c.run s now) :=
  c.spec_run hc h ht

/-- DEL / UNLINK with any number of names preserves the invariant -/
theorem del_preserves_inv {s : MState} {t now : Int} (h : StoreInv s t) (ht : t ≤ now) (keys : List Bytes) :
    StoreInv (Api.del s now keys).1 t := by
  rw [del_eq]
  exact (del_sim ht keys (s, 0) (s, 0) ⟨h, h, fun _ _ _ => rfl⟩ rfl).2.1.inv1

/-- invariant preserved, and the effect of RENAME on the logical keyspace (any source, any destination, hot or cold, with
    or without deadline, destination existing or not, source = destination): the invariant is
    preserved, the destination shows the source's value and deadline, the source is gone,
    nothing else changes; the reply depends on the logical content of the source only -/
theorem rename_spec {s : MState} {t now : Int} (h : StoreInv s t) (ht : t ≤ now) (key dst : Bytes) :
    RenameSpec s t now key dst (Api.rename s now key dst) := Proofs.C11.rename_spec h ht key dst

theorem rename_preserves_inv {s : MState} {t now : Int} (h : StoreInv s t) (ht : t ≤ now) (key dst : Bytes) :
    StoreInv (Api.rename s now key dst).1 t := (Proofs.C11.rename_spec h ht key dst).inv

/-- cold ≈ hot: two states that satisfy the invariant and show the same logical keyspace (one may
    have evicted what the other keeps in memory) give the same reply to every covered command and
    show the same logical keyspace afterwards -/
theorem command_sim (c : Cmd) {s1 s2 : MState} {t now : Int} (hc : c.WF) (h : Sim t s1 s2) (ht : t ≤ now) :
    (c.run s1 now).2 = (c.run s2 now).2 ∧ Sim t (c.run s1 now).1 (c.run s2 now).1 := c.sim hc h ht

/-
  Full statement: for every command of the server.  Proved for the 32 single-key commands of `Cmd`
  (GET SET SETXX GETSET APPEND STRLEN GETRANGE GETBIT INCR/DECR-family EXPIREAT[NX|XX] EXPIRE
  PEXPIRE PERSIST TTL PTTL TYPE EXISTS LPUSH/RPUSH LPOP/RPOP LLEN LINDEX LRANGE HSET HDEL, every
  hash read (HGET HLEN HKEYS HVALS HGETALL HEXISTS HSTRLEN HMGET HSCAN), SADD SREM, every set read
  (SCARD SMEMBERS SISMEMBER SSCAN), ZADD, every sorted-set read (ZCARD ZSCORE ZRANK ZRANGE ...)),
  the commands given through `Cmd.raw` below, DEL/UNLINK with any number of keys, RENAME and KEYS.
-/
/-- any eviction schedule is invisible: run any sequence of commands with `gc` and `flush` passes
    inserted at arbitrary points (times non-decreasing): the replies are exactly those of the run
    without any pass, and the final logical keyspace is the same, now and at any later time.
    Either backend; the start state shows no nil string (`LNil`, e.g. the empty store). -/
theorem any_eviction_schedule_invisible (steps : List Step) {s : MState} {t now' : Int}
    (h : StoreInv s t) (hl : LNil s t) (hto : TimesOK t steps) (hok : ∀ st ∈ steps, st.OK s.pebble)
    (ht' : endTime t steps ≤ now') :
    (runSteps steps s).2 = (runSteps (stripPasses steps) s).2 ∧
    logical (runSteps steps s).1 now' = logical (runSteps (stripPasses steps) s).1 now' ∧
    StoreInv (runSteps steps s).1 (endTime t steps) := by
  obtain ⟨a, b, _⟩ := sched_core steps t s s ⟨h, h, fun _ _ _ => rfl⟩ rfl hl hto hok
  exact ⟨a, b.logical ht', b.inv1⟩

/-- from the empty store, on either backend, with no nil-string hypothesis at all -/
theorem any_eviction_schedule_invisible_from_empty (pebble : Bool) (steps : List Step) {now' : Int}
    (hto : TimesOK 0 steps) (hok : ∀ st ∈ steps, st.OK pebble) (ht' : endTime 0 steps ≤ now') :
    (runSteps steps (empty pebble)).2 = (runSteps (stripPasses steps) (empty pebble)).2 ∧
    logical (runSteps steps (empty pebble)).1 now' = logical (runSteps (stripPasses steps) (empty pebble)).1 now' :=
  let r := any_eviction_schedule_invisible steps (Proofs.C11.empty_inv pebble 0) (empty_lnil pebble 0) hto hok ht'
  ⟨r.1, r.2.1⟩

/-- every state such a run reaches satisfies the invariant and shows no nil string, so
    `gc_invisible`, `C11.close_reopen_restores` ... apply to it on Pebble as well -/
theorem reachable_inv_nilfree (steps : List Step) {s : MState} {t : Int}
    (h : StoreInv s t) (hl : LNil s t) (hto : TimesOK t steps) (hok : ∀ st ∈ steps, st.OK s.pebble) :
    StoreInv (runSteps steps s).1 (endTime t steps) ∧ LNil (runSteps steps s).1 (endTime t steps) ∧
    NilFreeAt (runSteps steps s).1 (endTime t steps) := by
  obtain ⟨a, b, _⟩ := run_inv_lnil steps t s h hl hto hok
  exact ⟨a, b, LNil.at a (Int.le_refl _) b⟩

/-- on the in-memory backend a start state may even hold nil strings -/
theorem any_eviction_schedule_invisible_memory (steps : List Step) {s : MState} {t now' : Int}
    (h : StoreInv s t) (hp : s.pebble = false) (hto : TimesOK t steps)
    (hwf : ∀ c now, Step.cmd c now ∈ steps → c.WF) (ht' : endTime t steps ≤ now') :
    (runSteps steps s).2 = (runSteps (stripPasses steps) s).2 ∧
    logical (runSteps steps s).1 now' = logical (runSteps (stripPasses steps) s).1 now' := by
  have := any_eviction_schedule_invisible steps h (fun c => by rw [hp] at c; cases c) hto
    (by
      intro st hst
      cases st with
      | cmd c now => exact ⟨hwf c now hst, fun c' => by rw [hp] at c'; cases c'⟩
      | _ => trivial) ht'
  exact ⟨this.1, this.2.1⟩

/-- `LNil` on the start state is needed: from the (unreachable) Pebble state holding a nil string,
    `[gc] ; GET k` and `GET k` answer differently -/
theorem nil_string_breaks_schedule :
    (runSteps [.gc 0, .cmd (.get [107]) 0] nilState).2 ≠ (runSteps [.cmd (.get [107]) 0] nilState).2 := by
  -- after the pass `readKey` reloads the evicted value: the empty string
  have h1 : (readKey (gc nilState 0) 0 [107]).2 = true := by decide +kernel
  have h2 : Api.asStr (readKey (gc nilState 0) 0 [107]).1 [107] = some (some []) := by decide +kernel
  have : (Api.get (gc nilState 0) 0 [107]).2 = .bytes (some []) := by
    simp only [Api.get, h1, h2, Bool.not_true, Bool.false_eq_true, if_false]
  simp only [runSteps, Step.exec, Cmd.run, List.append_nil, List.nil_append, nilState_get_hot, this]
  exact nofun

/-! ### further commands, through `Cmd.raw`

  `Cmd.raw f` runs the key transaction `f`; each theorem below says that a command of the model *is*
  such a transaction and meets the side conditions of the schedule theorem (`WF`, `NilOK`), so
  `any_eviction_schedule_invisible` applies to it verbatim. -/

theorem setEX_covered (s : MState) (now : Int) (key value : Bytes) (seconds : Int) :
    Api.setEX s now key value seconds =
      (Cmd.raw (setExForm key value (wrap64 (now + wrap64 (seconds * 1000))))).run s now ∧
    (Cmd.raw (setExForm key value (wrap64 (now + wrap64 (seconds * 1000))))).WF ∧
    (Cmd.raw (setExForm key value (wrap64 (now + wrap64 (seconds * 1000))))).NilOK :=
  ⟨setEX_eq s now key value seconds, setExForm_ok _ _ _ (inInt64_wrap64 _), setExForm_nilSafe _ _ _⟩

theorem setPX_covered (s : MState) (now : Int) (key value : Bytes) (ms : Int) :
    Api.setPX s now key value ms = (Cmd.raw (setExForm key value (wrap64 (now + ms)))).run s now ∧
    (Cmd.raw (setExForm key value (wrap64 (now + ms)))).WF ∧
    (Cmd.raw (setExForm key value (wrap64 (now + ms)))).NilOK :=
  ⟨setPX_eq s now key value ms, setExForm_ok _ _ _ (inInt64_wrap64 _), setExForm_nilSafe _ _ _⟩

theorem bitCount_covered (s : MState) (now : Int) (key : Bytes) (start stop : Int) (bit : Bool) :
    Api.bitCount s now key start stop bit = (Cmd.raw (bitCountForm key start stop bit)).run s now ∧
    (Cmd.raw (bitCountForm key start stop bit)).WF ∧ (Cmd.raw (bitCountForm key start stop bit)).NilOK :=
  ⟨bitCount_eq s now key start stop bit,
   readForm_ok _ rfl rfl (bitCountForm_keep key start stop bit),
   readForm_nilSafe _ rfl (bitCountForm_keep key start stop bit)⟩

/-- EXPIREAT LT|GT and EXPIRE NX|XX|LT|GT: all are `expireCondForm` with the deadline and the
    condition on the current deadline spelled out in the equation lemmas `expireAtLT_eq`,
    `expireAtGT_eq`, `expireNX_eq`, `expireXX_eq`, `expireLT_eq`, `expireGT_eq` -/
theorem expireCond_covered (key : Bytes) (ts : Int) (cond : Int → Bool) (hts : inInt64 ts = true) :
    (Cmd.raw (expireCondForm key ts cond)).WF ∧ (Cmd.raw (expireCondForm key ts cond)).NilOK :=
  ⟨expireCondForm_ok key ts cond hts, expireCondForm_nilSafe key ts cond⟩

theorem expireAtLT_covered (s : MState) (now : Int) (key : Bytes) (ts : Int) :
    Api.expireAtLT s now key ts =
      (Cmd.raw (expireCondForm key ts fun e => decide (e ≠ 0) && decide (ts < e))).run s now :=
  expireAtLT_eq s now key ts

theorem expireAtGT_covered (s : MState) (now : Int) (key : Bytes) (ts : Int) :
    Api.expireAtGT s now key ts = (Cmd.raw (expireCondForm key ts fun e => decide (e < ts))).run s now :=
  expireAtGT_eq s now key ts

theorem expireNX_covered (s : MState) (now : Int) (key : Bytes) (seconds : Int) :
    Api.expireNX s now key seconds =
      (Cmd.raw (expireCondForm key (wrap64 (now + wrap64 (seconds * 1000))) fun e => decide (e = 0))).run s now :=
  expireNX_eq s now key seconds

theorem expireXX_covered (s : MState) (now : Int) (key : Bytes) (seconds : Int) :
    Api.expireXX s now key seconds =
      (Cmd.raw (expireCondForm key (wrap64 (now + wrap64 (seconds * 1000))) fun e => decide (e ≠ 0))).run s now :=
  expireXX_eq s now key seconds

theorem expireLT_covered (s : MState) (now : Int) (key : Bytes) (seconds : Int) :
    Api.expireLT s now key seconds =
      (Cmd.raw (expireCondForm key (wrap64 (now + wrap64 (seconds * 1000)))
        fun e => decide (e ≠ 0) && decide (wrap64 (now + wrap64 (seconds * 1000)) < e))).run s now :=
  expireLT_eq s now key seconds

theorem expireGT_covered (s : MState) (now : Int) (key : Bytes) (seconds : Int) :
    Api.expireGT s now key seconds =
      (Cmd.raw (expireCondForm key (wrap64 (now + wrap64 (seconds * 1000)))
        fun e => decide (e < wrap64 (now + wrap64 (seconds * 1000))))).run s now :=
  expireGT_eq s now key seconds

theorem hsetnx_covered (s : MState) (now : Int) (key field value : Bytes)
    (hb : field.length + value.length + 10 < 2 ^ 63) :
    Api.hsetnx s now key field value = (Cmd.raw (hsetnxForm key field value)).run s now ∧
    (Cmd.raw (hsetnxForm key field value)).WF ∧ (Cmd.raw (hsetnxForm key field value)).NilOK :=
  ⟨hsetnx_eq s now key field value, hsetnxForm_ok key field value hb, hsetnxForm_nilSafe key field value⟩

theorem zaddNX_covered (s : MState) (now : Int) (key m : Bytes) (sc : F64) (hn : F64.isNaN sc = false)
    (hb : m.length + 8 < 2 ^ 63) :
    Api.zaddNX s now key m sc = (Cmd.raw (zaddNXForm key m sc)).run s now ∧
    (Cmd.raw (zaddNXForm key m sc)).WF ∧ (Cmd.raw (zaddNXForm key m sc)).NilOK :=
  ⟨zaddNX_eq s now key m sc, zaddNXForm_ok key m sc hn hb, zaddNXForm_nilSafe key m sc⟩

/-- the ZADD command's transaction (`zAddPairs`): a key transaction like the others, hence covered by
    `command_spec`, `command_sim` and `any_eviction_schedule_invisible` - every option set, every non-empty list of
    representable pairs -/
theorem zaddPairs_covered (s : MState) (now : Int) (key : Bytes) (nx xx gt lt ch : Bool) (pairs : List (Bytes × F64))
    (hne : pairs ≠ []) (hb : ∀ q ∈ pairs, Proofs.C20.PairOK q) :
    Api.zaddPairs s now key nx xx gt lt ch pairs = (Cmd.raw (Proofs.C20.zaddPairsF key nx xx gt lt ch pairs)).run s now ∧
    (Cmd.raw (Proofs.C20.zaddPairsF key nx xx gt lt ch pairs)).WF ∧
    (Cmd.raw (Proofs.C20.zaddPairsF key nx xx gt lt ch pairs)).NilOK :=
  ⟨Proofs.C20.zaddPairs_eq s now key nx xx gt lt ch pairs hne, Proofs.C20.zaddPairsF_ok key nx xx gt lt ch pairs hb,
    Proofs.C20.zaddPairsF_nilSafe key nx xx gt lt ch pairs⟩

/-- hypotheses satisfiable -/
example : ([(([97] : Bytes), 0x4014000000000000), ([98], 0x3FF0000000000000)] : List (Bytes × F64)) ≠ [] ∧
    ∀ q ∈ [(([97] : Bytes), 0x4014000000000000), ([98], 0x3FF0000000000000)], Proofs.C20.PairOK q := by
  refine ⟨by simp, ?_⟩
  intro q hq
  simp only [List.mem_cons, List.not_mem_nil, or_false] at hq
  rcases hq with rfl | rfl <;> exact ⟨by decide +kernel, by decide⟩

/-
  Full statement: (Api.scan (gc s now) now cursor pat count typ).2 = (Api.scan s now cursor pat count typ).2
  for every state.  False when the pass unlinks an expired record: `scan_gc_finding`.
-/
/-- SCAN — with or without TYPE filter, any cursor, pattern and count — gives the same reply before
    and after an eviction pass that finds no expired record: the pass keeps every record in place
    and the TYPE filter sees the same type, also when the pass drops the value from memory
    (`TypeOK`: the cached types of `s` are right) -/
theorem scan_gc_invisible_partial {s : MState} {t now : Int} (h : StoreInv s t) (ht : t ≤ now) (hnil : NilFree s)
    (hty : TypeOK s) (hlive : ∀ k m, AList.get? s.index k = some m → m.expired now = false)
    (cursor : Int) (pat : Bytes) (count : Int) (typ : Nat) :
    (Api.scan (gc s now) now cursor pat count typ).2 = (Api.scan s now cursor pat count typ).2 := by
  obtain ⟨a, b⟩ := gc_scanRel h ht hnil hty hlive
  exact (scan_congr _ a b cursor pat count typ).symm

/-- witness: SCAN's cursor is a position in the index, and the pass unlinks expired records.  With
    "a" expired but not yet collected and "b" live: `SCAN 0 COUNT 1` answers (2, []); `SCAN 2` then
    answers (0, [b]) — unless a pass ran in between: then position 2 is past the end, the answer is
    (0, []) and the iteration ends without ever reporting the live key "b" -/
theorem scan_gc_finding :
    StoreInv expState 10 ∧
    (Api.scan expState 10 0 [42] 1 0).2 = .many [.int 2, .slist []] ∧
    (Api.scan expState 10 2 [42] 10 0).2 = .many [.int 0, .slist [[98]]] ∧
    (Api.scan (gc expState 10) 10 2 [42] 10 0).2 = .many [.int 0, .slist []] :=
  ⟨expState_inv, expState_scan_first, expState_scan, expState_scan_gc⟩

example (pebble : Bool) : StoreInv (exState pebble) 0 ∧ NilFree (exState pebble) ∧ LNil (empty pebble) 0 :=
  ⟨exState_inv pebble 0, exState_nilfree pebble, fun _ _ _ k v e hl => by simp [lookup, getMeta, empty, AList.get?] at hl⟩
example : ∀ k m, AList.get? (exState true).index k = some m → m.expired 5 = false := by
  intro k m hm
  simp only [exState, AList.get?] at hm
  split at hm
  · simp only [Option.some.injEq] at hm; subst hm; rfl
  · split at hm
    · simp only [Option.some.injEq] at hm; subst hm; rfl
    · cases hm
example : TimesOK 0 [.cmd (.set [1] [2] false) 1, .gc 1, .cmd (.push true [3] [[4]]) 2, .flush 5, .cmd (.get [1]) 5] := by
  simp [TimesOK, Step.time]
example : ∀ st ∈ [Step.cmd (.set [1] [2] false) 1, .gc 1, .cmd (.push true [3] [[4]]) 2],
    st.OK true := by
  intro st hst
  simp only [List.mem_cons, List.mem_nil_iff, or_false] at hst
  rcases hst with rfl | rfl | rfl
  · exact ⟨trivial, fun _ => trivial⟩
  · trivial
  · exact ⟨by intro v hv; simp at hv; subst hv; decide, fun _ => trivial⟩

/-- hypotheses of `command_sim`: a state and the same state after an eviction pass -/
example : Sim 0 (gc (exState true) 0) (exState true) := by
  have g := gc_spec (exState_inv true 0) (Int.le_refl 0) (exState_nilfree true)
  exact ⟨g.inv, exState_inv true 0, fun t' ht' k => g.look t' ht' k⟩

/-- hypotheses of `failed_write_keeps_dirty` / `failed_pass_keeps_dirty`: the backend rejects the
    next two writes; "a" is live and modified -/
example : StoreInv { exState true with failSet := 2 } 0 ∧
    ({ exState true with failSet := 2 } : MState).index.length ≤ ({ exState true with failSet := 2 } : MState).failSet ∧
    ∃ m, AList.get? ({ exState true with failSet := 2 } : MState).index [97] = some m ∧
      m.expired 0 = false ∧ m.isModified = true :=
  ⟨(exState_inv true 0).congr rfl rfl rfl rfl, by decide,
    ⟨{ exp := 0, value := some (.str [1]), state := 3, kid := 1, oid := 2, vtype := 1 },
      by simp [exState, AList.get?], by decide, by decide⟩⟩

/-- hypothesis of `failed_persist_keeps_old_entry`: a rejected write of a record whose value sits in
    the backend under an earlier deadline (5) than its current one (9); the old entry is still there -/
example : (persist staleState [107] staleRec).2.2 = false ∧
    diskGet (persist staleState [107] staleRec).1 [107] 5 = diskGet staleState [107] 5 ∧
    (diskGet staleState [107] 5).isSome = true := by
  exact ⟨staleState_persist_fails, (failed_persist_entry_readable _ _ _ staleState_persist_fails 5).2,
    staleState_entry⟩

/- UNPROVED (C12):
   * `any_eviction_schedule_invisible` covers 32 single-key commands + DEL + RENAME + KEYS (list in the
     comment above the theorem).  Through `Cmd.raw` (the `*_covered` theorems): SETEX, PSETEX, BITCOUNT,
     EXPIREAT LT|GT, EXPIRE NX|XX|LT|GT, HSETNX, the ZADD command with all its options (`zaddPairs_covered`) and the
     single-pair method `Api.zaddNX`.  The lists name commands; a name written `Api.f` is a method of the embedded API
     that no command reaches.  Not covered (no theorem, no counterexample known): SETNX,
     MSET, SETBIT, SETRANGE, INCRBYFLOAT, RANDOMKEY,
     RENAMENX, LINSERT, LPUSHX/RPUSHX, LSET, LREM, LTRIM (their `keyTx` equations `lrem_eq`/`ltrim_eq`
     are proved, the well-formedness of the rewritten list is not), RPOPLPUSH/LPOPRPUSH,
     HINCRBY[FLOAT], HMSET, SPOP, SRANDMEMBER, SMOVE, SDIFF/SINTER/SUNION[STORE], `Api.zaddXX` / `Api.zaddLT` /
     `Api.zaddGT`, ZINCRBY, ZREM*, ZUNION/ZINTER[STORE], EXISTS with several names, FLUSHDB.
   * `TypeOK` (hypothesis of `scan_gc_invisible_partial`): preservation by the covered commands is not
     proved (see Props/C11.lean).
   * SCAN is proved invisible across one pass (`scan_gc_invisible_partial`) but is not a `Step` of the
     schedule theorem (its reply depends on index positions, not on the logical keyspace: finding
     `scan_gc_finding`).
   * `failed_pass_keeps_dirty` is stated for `gc`; for `flush` the single step
     (`failed_flush_write_keeps`) and the consequences "invariant + logical keyspace unchanged for
     every `failSet`" (`flush_invisible`) are proved, not the whole-pass version.
-/

end NodisVerif.C12

import NodisVerif.Proofs.C04ScoreSpec
import NodisVerif.Proofs.SkiplistFuel
import NodisVerif.Proofs.SkiplistSpansRun
import NodisVerif.Proofs.SkiplistHeader
import NodisVerif.Proofs.SkiplistZRange
import NodisVerif.Proofs.FloatDecInt
import NodisVerif.Proofs.FloatDecLen
import NodisVerif.Proofs.FloatDecNear
import NodisVerif.Proofs.GeoAdd
import NodisVerif.Proofs.F64NotNaN
import NodisVerif.Proofs.C04ZAddPairs
import NodisVerif.Proofs.C04Bounds
import NodisVerif.Proofs.GeoBits
/-
  C04 — sorted sets stay ordered by (score, member); rank, range and score agree.

  Property theorems only. Helper lemmas: Proofs/C04*.lean (sections 1–11, 15), Proofs/Skiplist*.lean (12),
  Proofs/FloatDec*.lean (13), Proofs/Geo*.lean and F64NotNaN (14).  The reference semantics is
  Spec/ZSet.lean: every ordered query is defined on `Spec.ZSet.sorted z`, the list of the
  dictionary's (score, member) pairs sorted by score then member bytes, which is computed from the
  member→score dictionary alone and never looks at the index `z.sl`.

  The statements use, beside the model and the reference: `Op`, `Op.NoNaN`, `run`, `minOpen`, `maxOpen` (Proofs/C04Rem.lean);
  `normStart`, `normStop` (Proofs/C04Inv.lean); `start1`, `stop1`, `RankRegion`, `RevRankRegion` (Proofs/C04Rank.lean);
  `F64.negZero` (Proofs/C04Bits.lean); in section 12 `Skiplist.Inv`, `IsChain` (Proofs/SkiplistInv.lean), `InvSpans`
  (SkiplistSpansRun), `HeaderOk` (SkiplistHeader), `SlOp`, `runM`, `runL`, `OpsOk` (SkiplistRun), `rankP`, `Stop`, `NoHit`
  (SkiplistRank), `PZInv`, `PZOp`, `pzRun`, `zRun`, `PZOpOk` (SkiplistZSet).

  Everything is unbounded: every sorted set, every member byte string, every score bit pattern,
  every `Int` index, every operation sequence.  Hypotheses that occur:
    * `ZSet.WF z` — the invariant of Model/WF.lean (sections 1 and 2 show it is an invariant);
    * `F64.isNaN s = false` on a score that is *written* (a NaN score breaks the order: the Go code
      accepts it, Redis rejects it at parse time);
    * `z.dict.length < 2 ^ 63` where the code computes `int(stop - start)`.

  After the repairs of the Go code (ZADD with an IEEE-equal score is a no-op; ZRANGEBYSCORE applies
  offset/limit to the members that satisfy the bounds) the signed-zero region and the LIMIT regions
  are gone: sections 1, 2, 7, 8 hold in full.  Remaining findings (each witness was replayed on the Go
  code): NaN scores and NaN bounds of ZREMRANGEBYSCORE (`zadd_nan_finding`,
  `zremrangebyscore_nan_finding`), and the 1-based rank windows of ZRANGE / ZREVRANGE with panics
  and a phantom header element (`zrange_finding`, `zrevrange_finding`,
  `zrange_last_k_panic_finding`) — pinned by the repository's own tests.
-/
namespace NodisVerif.C04
open NodisVerif
open NodisVerif.DsZSet
open NodisVerif.Proofs.C04

/-! ## 1. The invariant is kept by every mutator -/

theorem wf_empty : DsZSet.empty.WF := inv_empty.toWF

/-- ZADD keeps the invariant for every member and every non-NaN score (any insertion order, ties,
    updates, signed zeros) -/
theorem zadd_wf (z : ZSet) (h : z.WF) (m : Bytes) (s : F64) (hs : F64.isNaN s = false) :
    (zAdd z m s).1.WF := (inv_zAdd (Inv.ofWF h) m s hs).toWF

theorem zaddXX_wf (z : ZSet) (h : z.WF) (m : Bytes) (s : F64) (hs : F64.isNaN s = false) :
    (zAddXX z m s).1.WF := (inv_zAddXX (Inv.ofWF h) m s hs).toWF

theorem zaddNX_wf (z : ZSet) (h : z.WF) (m : Bytes) (s : F64) (hs : F64.isNaN s = false) :
    (zAddNX z m s).1.WF := (inv_zAddNX (Inv.ofWF h) m s hs).toWF

theorem zaddLT_wf (z : ZSet) (h : z.WF) (m : Bytes) (s : F64) (hs : F64.isNaN s = false) :
    (zAddLT z m s).1.WF := (inv_zAddLT (Inv.ofWF h) m s hs).toWF

theorem zaddGT_wf (z : ZSet) (h : z.WF) (m : Bytes) (s : F64) (hs : F64.isNaN s = false) :
    (zAddGT z m s).1.WF := (inv_zAddGT (Inv.ofWF h) m s hs).toWF

theorem zincrby_wf (z : ZSet) (h : z.WF) (m : Bytes) (newScore : F64)
    (hs : F64.isNaN newScore = false) : (zIncrByWith z m newScore).WF :=
  (inv_zAdd (Inv.ofWF h) m newScore hs).toWF

theorem zrem_wf (z : ZSet) (h : z.WF) (ms : List Bytes) : (zRem z ms).1.WF :=
  (inv_zRem (Inv.ofWF h) ms).toWF

theorem zremRangeByScore_wf (z : ZSet) (h : z.WF) (min max : F64) (mode : Nat) :
    (zRemRangeByScore z min max mode).1.WF := (inv_zRemRangeByScore (Inv.ofWF h) min max mode).toWF

theorem zremRangeByRank_wf (z : ZSet) (h : z.WF) (start stop : Int) :
    (zRemRangeByRank z start stop).1.WF := (inv_zRemRangeByRank (Inv.ofWF h) start stop).toWF

/-- a NaN score does break the invariant (why `isNaN s = false` is a hypothesis everywhere above;
    the RESP parser rejects NaN; the data-structure function accepts it) -/
theorem zadd_nan_finding :
    F64.isNaN 0x7FF8000000000000 = true ∧ ¬ (zAdd DsZSet.empty [97] 0x7FF8000000000000).1.WF := by
  refine ⟨by decide, ?_⟩
  intro h
  have := h.noNaN [97] 0x7FF8000000000000 (by decide)
  revert this
  decide

/-- after ZADD of +0.0 and then −0.0 for the same member the stored
    score stays +0.0 in the dictionary and in the index (the input of the repaired signed-zero
    finding) -/
theorem zadd_signed_zero_consistent :
    let z : ZSet := (zAdd (zAdd DsZSet.empty [97] 0).1 [97] F64.negZero).1
    z.WF ∧ zScore z [97] = some 0 ∧ z.sl = [(0, [97])] :=
  ⟨zadd_wf _ (zadd_wf _ wf_empty [97] 0 (by decide)) [97] F64.negZero (by decide), by decide, by decide⟩

/-! ## 2. … and by every sequence of operations -/

/-- any sequence of operations whose written scores are not NaN — for every member, any insertion
    order, duplicate scores, score updates, removals, signed zeros -/
theorem wf_run (z : ZSet) (h : z.WF) (ops : List Op) (hok : ∀ op ∈ ops, op.NoNaN) : (run z ops).WF :=
  (inv_run ops z (Inv.ofWF h) hok).toWF

theorem wf_run_from_empty (ops : List Op) (hok : ∀ op ∈ ops, op.NoNaN) : (run DsZSet.empty ops).WF :=
  wf_run DsZSet.empty wf_empty ops hok

/-- ZUNIONSTORE / ZINTERSTORE: `Api.zstore` builds the destination as
    `items.foldl (fun z it => (zAdd z it.2 it.1).1) DsZSet.empty`; the result is well formed for
    every non-NaN aggregate -/
theorem zstore_result_wf (items : List Item) (hn : ∀ it ∈ items, F64.isNaN it.1 = false) :
    (items.foldl (fun z it => (zAdd z it.2 it.1).1) DsZSet.empty).WF :=
  (inv_buildFrom items DsZSet.empty inv_empty hn).toWF

/-- non-vacuity: a set built by the model's own operations, with a tie (two members at score 1.0),
    a score update, a negative-zero score, an overwrite of a zero by the other zero and a removal;
    it is well formed, its chain is as expected -/
def demoOps : List Op :=
  [.add [98] 0x3FF0000000000000, .add [97] 0x3FF0000000000000, .add [99] F64.negZero,
   .add [100] 0x4000000000000000, .incrBy [100] 0xBFF0000000000000, .add [99] 0, .add [101] 0,
   .rem [[101]]]

def demo : ZSet := run DsZSet.empty demoOps

example : (∀ op ∈ demoOps, op.NoNaN) ∧ demo.WF ∧
    demo.sl = [(0xBFF0000000000000, [100]), (F64.negZero, [99]),
      (0x3FF0000000000000, [97]), (0x3FF0000000000000, [98])] := by
  have hok : ∀ op ∈ demoOps, op.NoNaN := by decide +kernel
  exact ⟨hok, wf_run_from_empty _ hok, by decide +kernel⟩

/-! ## 3. The index never disagrees with the dictionary -/

theorem chain_is_sorted_dict (z : ZSet) (h : z.WF) : z.sl = Spec.ZSet.sorted z :=
  sl_eq_sorted (Inv.ofWF h)

/-- conversely the reference list of any key-sorted NaN-free dictionary is a valid index for it -/
theorem sorted_dict_is_chain (z : ZSet) (hd : AList.Sorted z.dict)
    (hn : ∀ m s, (m, s) ∈ z.dict → F64.isNaN s = false) :
    ZSet.WF { dict := z.dict, sl := Spec.ZSet.sorted z } :=
  (inv_sorted z (Proofs.AListLemmas.sorted_pairwise z.dict hd) (fun p hp => hn p.1 p.2 hp)).toWF

/-! ## 4. One score per member, the last one assigned -/

/-- after `ZADD m s` (s not NaN; any set, well formed or not) the member's score is IEEE-equal to
    `s`; it is `s` bit for bit unless the member already held the zero of the other sign (an
    IEEE-equal score is not an update, as in Redis); every other member keeps its score -/
theorem last_score_wins (z : ZSet) (m : Bytes) (s : F64) (hs : F64.isNaN s = false) :
    (∃ s', zScore (zAdd z m s).1 m = some s' ∧ F64.eq s' s = true ∧
      (s' = s ∨ (zScore z m = some s' ∧ ((s' = 0 ∧ s = F64.negZero) ∨ (s' = F64.negZero ∧ s = 0))))) ∧
    ∀ m', m' ≠ m → zScore (zAdd z m s).1 m' = zScore z m' :=
  zAdd_score z m s hs

/-- in particular: a new member, or a score that is not IEEE-equal to the stored one, is stored
    bit for bit -/
theorem last_score_wins_exact (z : ZSet) (m : Bytes) (s : F64) (hs : F64.isNaN s = false)
    (hne : ∀ old, zScore z m = some old → F64.eq s old = false) :
    zScore (zAdd z m s).1 m = some s := by
  obtain ⟨⟨s', h1, h2, h3⟩, _⟩ := zAdd_score z m s hs
  rcases h3 with rfl | ⟨hold, _⟩
  · exact h1
  · have := hne s' hold
    rw [eq_symm s' s h2] at this
    cases this

/-! ## 5. ZSCORE, ZCARD, non-members -/

theorem zscore_spec (z : ZSet) (m : Bytes) : zScore z m = Spec.ZSet.score z m :=
  (score_eq_get? z m).symm

/-- the score reported for a member is the one the sorted list carries for it -/
theorem zscore_in_sorted (z : ZSet) (h : z.WF) (m : Bytes) (s : F64) :
    zScore z m = some s ↔ (s, m) ∈ Spec.ZSet.sorted z := by
  rw [← chain_is_sorted_dict z h]
  exact (Inv.ofWF h).get_iff s m

/-- ZCARD = length of the sorted list = length of the index, and the members are pairwise distinct -/
theorem zcard_exact (z : ZSet) (h : z.WF) :
    zCard z = (Spec.ZSet.card z : Int) ∧ zCard z = (z.sl.length : Int) ∧ (Spec.ZSet.members z).Nodup := by
  have hi := Inv.ofWF h
  unfold Spec.ZSet.card Spec.ZSet.members
  rw [← sl_eq_sorted hi]
  exact ⟨zCard_eq hi.sameLen, zCard_eq hi.sameLen, members_nodup hi⟩

theorem non_member_no_rank_no_score (z : ZSet) (h : z.WF) (m : Bytes)
    (hm : m ∉ Spec.ZSet.members z) :
    zScore z m = none ∧ zRank z m = none ∧ zRevRank z m = none ∧ zExists z m = false := by
  have hi := Inv.ofWF h
  have hnone : AList.get? z.dict m = none := by
    cases hget : AList.get? z.dict m with
    | none => rfl
    | some s =>
      exfalso
      apply hm
      unfold Spec.ZSet.members
      rw [← sl_eq_sorted hi]
      exact List.mem_map.mpr ⟨(s, m), (hi.get_iff s m).mp hget, rfl⟩
  simp [zScore, zRank, zRevRank, zExists, AList.contains, hnone]

/-! ## 6. Ranks are positions in the sorted list -/

theorem zrank_is_position (z : ZSet) (h : z.WF) (m : Bytes) : zRank z m = Spec.ZSet.rank z m :=
  rankBy_spec (Inv.ofWF h) m false

/-- the model's `length − r` for descending order *is* Redis' `card − 1 − rank` (r is 1-based) -/
theorem zrevrank_spec (z : ZSet) (h : z.WF) (m : Bytes) : zRevRank z m = Spec.ZSet.revRank z m :=
  rankBy_spec (Inv.ofWF h) m true

/-! ## 7. Removal ranges -/

/-- ZREMRANGEBYSCORE removes exactly the members whose score lies in the interval and returns
    their number (non-NaN bounds; mode bit 0 = min exclusive, bit 1 = max exclusive) -/
theorem zRemRangeByScore_spec (z : ZSet) (h : z.WF) (min max : F64)
    (hmin : F64.isNaN min = false) (hmax : F64.isNaN max = false) (mode : Nat) :
    (Spec.ZSet.sorted (zRemRangeByScore z min max mode).1, ((zRemRangeByScore z min max mode).2).toNat)
      = Spec.ZSet.remRangeByScore z min max (minOpen mode) (maxOpen mode) ∧
    0 ≤ (zRemRangeByScore z min max mode).2 :=
  Proofs.C04.zRemRangeByScore_spec (Inv.ofWF h) min max hmin hmax mode

/-- ZREMRANGEBYRANK: 0-based inclusive, negative from the end, clamped — every `Int` start/stop -/
theorem zRemRangeByRank_spec (z : ZSet) (h : z.WF) (start stop : Int) :
    (Spec.ZSet.sorted (zRemRangeByRank z start stop).1, ((zRemRangeByRank z start stop).2).toNat)
      = Spec.ZSet.remRangeByRank z start stop ∧ 0 ≤ (zRemRangeByRank z start stop).2 :=
  Proofs.C04.zRemRangeByRank_spec (Inv.ofWF h) start stop

/-- ZREM: exactly the listed members disappear, everything else keeps score and relative order -/
theorem zRem_spec (z : ZSet) (h : z.WF) (ms : List Bytes) :
    Spec.ZSet.sorted (zRem z ms).1 = (Spec.ZSet.sorted z).filter (fun it => decide (it.2 ∉ ms)) ∧
    (zRem z ms).2 = (Spec.ZSet.card z : Int) - Spec.ZSet.card (zRem z ms).1 :=
  zRem_sorted (Inv.ofWF h) ms

/-- ZADD: the member is (re)placed according to its stored score `s'` (IEEE-equal to the score
    given, see `last_score_wins`), everything else is untouched -/
theorem zAdd_spec (z : ZSet) (h : z.WF) (m : Bytes) (s : F64) (hs : F64.isNaN s = false) :
    ∃ s', zScore (zAdd z m s).1 m = some s' ∧ F64.eq s' s = true ∧
      Spec.ZSet.sorted (zAdd z m s).1 = Spec.ZSet.add z m s' :=
  zAdd_sorted (Inv.ofWF h) m s hs

/-! ## 8. Ranges by score

  `hsize : z.dict.length < 2 ^ 63` (the cardinality fits Go's int64; always true in memory) is needed
  wherever the code computes `int(stop - start)`. -/

/-- ZCOUNT, every mode, every bound (NaN bounds included: both sides count nothing) -/
theorem zcount_spec (z : ZSet) (h : z.WF) (hsize : z.dict.length < 2 ^ 63) (min max : F64) (mode : Nat) :
    zCount z min max mode = some (Spec.ZSet.count z min max (minOpen mode) (maxOpen mode) : Int) :=
  zCount_spec (Inv.ofWF h) hsize min max mode

/-- ZRANGEBYSCORE / ZREVRANGEBYSCORE, in full: every bound (NaN included: both sides are empty),
    every mode (open / closed ends), both directions, every offset and every count (offset < 0 or
    count = 0: empty; count < 0: all) -/
theorem zrangebyscore_spec (z : ZSet) (h : z.WF) (min max : F64) (offset count : Int) (desc : Bool)
    (mode : Nat) :
    rangeByScore z min max offset count desc mode =
      if desc then Spec.ZSet.revRangeByScoreLimit z min max (minOpen mode) (maxOpen mode) offset count
      else Spec.ZSet.rangeByScoreLimit z min max (minOpen mode) (maxOpen mode) offset count :=
  rangeByScore_spec (Inv.ofWF h) min max offset count desc mode

theorem zrangebyscore_spec_nolimit (z : ZSet) (h : z.WF) (min max : F64) (count : Int) (hc : count < 0)
    (mode : Nat) :
    rangeByScore z min max 0 count false mode
      = Spec.ZSet.rangeByScore z min max (minOpen mode) (maxOpen mode) ∧
    rangeByScore z min max 0 count true mode
      = Spec.ZSet.revRangeByScore z min max (minOpen mode) (maxOpen mode) := by
  have h1 := zrangebyscore_spec z h min max 0 count false mode
  have h2 := zrangebyscore_spec z h min max 0 count true mode
  simp only [Bool.false_eq_true, if_false, if_true, Spec.ZSet.rangeByScoreLimit,
    Spec.ZSet.revRangeByScoreLimit, Spec.ZSet.limitBy, Int.lt_irrefl, Int.toNat_zero, List.drop_zero,
    hc] at h1 h2
  exact ⟨h1, h2⟩

/-- the three members a:1.0 b:2.0 c:3.0 used by the witnesses -/
def abc : ZSet :=
  run DsZSet.empty [.add [97] 0x3FF0000000000000, .add [98] 0x4000000000000000, .add [99] 0x4008000000000000]

theorem abc_wf : abc.WF := wf_run_from_empty _ (by decide +kernel)

/-- the inputs of the repaired LIMIT findings agree with Redis:
    ZRANGEBYSCORE (1 3 LIMIT 0 1 = [b];  ZRANGEBYSCORE 1 2 LIMIT 2 -1 = [];
    ZREVRANGEBYSCORE 3 2 LIMIT 2 -1 = [];  a NaN lower bound yields nothing -/
example :
    rangeByScore abc 0x3FF0000000000000 0x4008000000000000 0 1 false 1 = [(0x4000000000000000, [98])] ∧
    rangeByScore abc 0x3FF0000000000000 0x4000000000000000 2 (-1) false 0 = [] ∧
    rangeByScore abc 0x4000000000000000 0x4008000000000000 2 (-1) true 0 = [] ∧
    rangeByScore abc 0x7FF8000000000000 0x4008000000000000 0 (-1) false 0 = [] := by
  decide +kernel

/-- ZREMRANGEBYSCORE still mishandles a NaN upper bound: everything from `min` up is deleted (the
    reference deletes nothing; Redis rejects NaN bounds, and so does the RESP parser) -/
theorem zremrangebyscore_nan_finding :
    F64.isNaN 0x7FF8000000000000 = true ∧
    (zRemRangeByScore abc 0x4000000000000000 0x7FF8000000000000 0).2 = 2 ∧
    (Spec.ZSet.remRangeByScore abc 0x4000000000000000 0x7FF8000000000000 false false).2 = 0 := by
  decide +kernel

/-! ## 9. Ranges by rank: where the model agrees with the reference

  `forEachByRank` treats `start`/`stop` as 1-based ranks (0 aliased to 1); the repository's own
  tests pin this, so it is a known finding. -/

/-
  FULL STATEMENT (false): ∀ z start stop, z.WF →
      zRange z start stop = some (Spec.rangeByRank z start stop) ∧
      zRevRange z start stop = some (Spec.revRangeByRank z start stop)
  It holds on `RankRegion start stop card` (resp. `RevRankRegion`), a decidable region:
      start = 0 ∧ (stop < 0 ∨ stop ≥ card)            -- e.g. ZRANGE k 0 -1, ZRANGE k 0 -2
    ∨ start > card                                      -- both empty
    ∨ 1 ≤ start ∧ 0 ≤ stop < start                      -- both empty
    ∨ 1 ≤ start ∧ stop < 0 ∧ card + stop + 1 < start    -- both empty
    (ZREVRANGE only) ∨ 1 < start ≤ stop < card
  Everywhere else with start ≥ 0 the model is given in closed form by `zrange_model_closed_form` /
  `zrevrange_model_closed_form`; witnesses of disagreement, including two panics and a phantom
  element, follow.
-/
theorem zrange_spec_partial (z : ZSet) (h : z.WF) (hsize : z.dict.length < 2 ^ 63) (start stop : Int)
    (hr : RankRegion start stop (zCard z)) :
    zRange z start stop = some (Spec.ZSet.rangeByRank z start stop) := by
  have hi := Inv.ofWF h
  unfold Spec.ZSet.rangeByRank zRange
  rw [← sl_eq_sorted hi]
  apply zrange_region hi.sameLen hsize
  rw [← zCard_eq hi.sameLen]
  exact hr

theorem zrevrange_spec_partial (z : ZSet) (h : z.WF) (hsize : z.dict.length < 2 ^ 63)
    (start stop : Int) (hr : RevRankRegion start stop (zCard z)) :
    zRevRange z start stop = some (Spec.ZSet.revRangeByRank z start stop) := by
  have hi := Inv.ofWF h
  unfold Spec.ZSet.revRangeByRank zRevRange
  rw [← sl_eq_sorted hi]
  apply zrevrange_region hi.sameLen hsize
  rw [← zCard_eq hi.sameLen]
  exact hr

/-! ## 10. Ranges by rank: what the model computes (closed forms, witnesses) -/

/-- the model's actual semantics: for 1 ≤ start ≤ stop, ZRANGE returns the members of 1-based ranks
    start..stop, i.e. what Redis returns for `ZRANGE (start-1) (stop-1)` -/
theorem zrange_is_one_based (z : ZSet) (h : z.WF) (hsize : z.dict.length < 2 ^ 63) (start stop : Int)
    (h1 : 1 ≤ start) (h2 : start ≤ stop) :
    zRange z start stop = some (Spec.ZSet.rangeByRank z (start - 1) (stop - 1)) := by
  have hi := Inv.ofWF h
  unfold Spec.ZSet.rangeByRank zRange
  rw [← sl_eq_sorted hi]
  exact zrange_one_based hi.sameLen hsize start stop h1 h2

/-- every ascending window with `start ≥ 0` (never panics) -/
theorem zrange_model_closed_form (z : ZSet) (h : z.WF) (hsize : z.dict.length < 2 ^ 63)
    (start stop : Int) (h0 : 0 ≤ start) :
    zRange z start stop =
      some (if stop1 (zCard z) stop < start1 start then []
            else Spec.ZSet.slice (Spec.ZSet.sorted z) (start1 start - 1) (stop1 (zCard z) stop - 1)) := by
  have hi := Inv.ofWF h
  rw [zCard_eq hi.sameLen, ← sl_eq_sorted hi]
  exact zrange_closed hi.sameLen hsize start stop h0

/-- every descending window with `start ≥ 0`: 0-based from the top when start ∈ {0,1} (one item
    short), the skiplist *header* as a phantom member when start = card, a nil dereference when
    1 < start < card ≤ stop, and Redis' answer when 1 < start ≤ stop < card -/
theorem zrevrange_model_closed_form (z : ZSet) (h : z.WF) (hsize : z.dict.length < 2 ^ 63)
    (start stop : Int) (h0 : 0 ≤ start) :
    zRevRange z start stop =
      if start > zCard z ∨ stop1 (zCard z) stop < start1 start then some []
      else if start1 start = 1 then
        some (Spec.ZSet.slice (Spec.ZSet.sorted z).reverse 0 (stop1 (zCard z) stop - 1))
      else if start1 start = zCard z then some [headerItem]
      else if stop1 (zCard z) stop ≥ zCard z then none
      else some (Spec.ZSet.slice (Spec.ZSet.sorted z).reverse (start1 start) (stop1 (zCard z) stop)) := by
  have hi := Inv.ofWF h
  rw [zCard_eq hi.sameLen, ← sl_eq_sorted hi]
  exact zrevrange_closed hi.sameLen hsize start stop h0

/-- ascending windows with a negative `start` (|start| < 2^62): `card + start` is read as a 1-based
    rank, and when it is ≤ 1 the walk still runs `stop − (card + start) + 1` steps from the head —
    `none` = nil dereference when that exceeds the chain -/
theorem zrange_negative_start_closed_form (z : ZSet) (h : z.WF) (hsize : z.dict.length < 2 ^ 63)
    (start stop : Int) (h0 : start < 0) (hb : -(2 ^ 62) ≤ start) :
    zRange z start stop =
      if stop1 (zCard z) stop < start then some [] else
      let s : Int := zCard z + start
      let k : Int := min (stop1 (zCard z) stop) (zCard z) - s + 1
      if k ≤ 0 then some []
      else if k ≤ zCard z - ((s.toNat - 1 : Nat) : Int)
        then some (((Spec.ZSet.sorted z).drop (s.toNat - 1)).take k.toNat)
      else none := by
  have hi := Inv.ofWF h
  rw [zCard_eq hi.sameLen, ← sl_eq_sorted hi]
  exact zrange_closed_neg hi.sameLen hsize start stop h0 hb

/-- "the last k members" with k ≥ card > 0: `ZRANGE key -k -1` panics (Redis: all members) -/
theorem zrange_last_k_panic_finding (z : ZSet) (h : z.WF) (hsize : z.dict.length < 2 ^ 63)
    (start : Int) (hpos : 0 < zCard z) (h1 : start ≤ -(zCard z)) (hb : -(2 ^ 62) ≤ start) :
    zRange z start (-1) = none ∧ Spec.ZSet.rangeByRank z start (-1) = Spec.ZSet.sorted z := by
  have hi := Inv.ofWF h
  rw [zCard_eq hi.sameLen] at hpos h1
  refine ⟨zrange_last_k_panics hi.sameLen hsize start (by omega) h1 hb, ?_⟩
  unfold Spec.ZSet.rangeByRank
  rw [← sl_eq_sorted hi, slice_norm]
  have hs' : normStart (z.sl.length) start = 0 := by unfold normStart; split <;> (try split) <;> omega
  rw [hs', normStop_of_neg _ _ (by decide), if_neg (by omega)]
  simp only [Int.toNat_zero, List.drop_zero]
  apply List.take_of_length_le
  omega

/-- witnesses on {a:1, b:2, c:3}: ZRANGE 0 0 is empty (Redis: [a]); ZRANGE 1 1 is [a] (Redis: [b]);
    ZRANGE -1 -1 is [b, c] (Redis: [c]); ZRANGE -3 -1 panics (Redis: everything);
    ZREVRANGE 0 1 is [c] (Redis: [c, b]); ZREVRANGE 3 3 returns the skiplist header (0, "") (Redis: []);
    ZREVRANGE 2 -1 panics (Redis: [a]) -/
theorem zrange_finding :
    zRange abc 0 0 = some [] ∧ Spec.ZSet.rangeByRank abc 0 0 = [(0x3FF0000000000000, [97])] ∧
    zRange abc 1 1 = some [(0x3FF0000000000000, [97])] ∧
      Spec.ZSet.rangeByRank abc 1 1 = [(0x4000000000000000, [98])] ∧
    zRange abc (-1) (-1) = some [(0x4000000000000000, [98]), (0x4008000000000000, [99])] ∧
      Spec.ZSet.rangeByRank abc (-1) (-1) = [(0x4008000000000000, [99])] ∧
    zRange abc (-3) (-1) = none ∧ (Spec.ZSet.rangeByRank abc (-3) (-1)).length = 3 := by
  decide +kernel

theorem zrevrange_finding :
    zRevRange abc 0 1 = some [(0x4008000000000000, [99])] ∧
      Spec.ZSet.revRangeByRank abc 0 1 = [(0x4008000000000000, [99]), (0x4000000000000000, [98])] ∧
    zRevRange abc 3 3 = some [(0, [])] ∧ Spec.ZSet.revRangeByRank abc 3 3 = [] ∧
    zRevRange abc 2 (-1) = none ∧ Spec.ZSet.revRangeByRank abc 2 (-1) = [(0x3FF0000000000000, [97])] ∧
    -- negative windows: ZREVRANGE -1 -1 panics (Redis: [a]); ZREVRANGE -2 -1 returns all three (Redis: [b, a])
    zRevRange abc (-1) (-1) = none ∧ Spec.ZSet.revRangeByRank abc (-1) (-1) = [(0x3FF0000000000000, [97])] ∧
    (zRevRange abc (-2) (-1)).map List.length = some 3 ∧ (Spec.ZSet.revRangeByRank abc (-2) (-1)).length = 2 := by
  decide +kernel

/-- non-vacuity of the regions -/
example : RankRegion 0 (-1) (zCard abc) ∧ RankRegion 0 (-2) (zCard abc) ∧ RankRegion 0 7 (zCard abc) ∧
    RevRankRegion 2 2 (zCard abc + 1) ∧ ¬ RankRegion 0 0 (zCard abc) ∧ ¬ RankRegion 1 2 (zCard abc) := by
  decide +kernel

/-! ## 11. The command layer: which bound an exclusive mark belongs to

  The theorems above are about the API functions and their mode bits. The handlers turn the text of the
  bounds into those bits; with REV (and in ZREVRANGEBYSCORE) the FIRST bound is the maximum. The handlers had
  the two marks crossed in the reversed forms (repaired: `fix:` in known_findings.json). These witnesses
  pin the repaired behaviour end to end through the dispatch table
  (z = {a:1, b:2, c:3, d:4}). `reply (q name args)` unfolds to `Proofs.C04.boundReply name args` and `names` to
  `bulkNames`; all eight are evaluated together in Proofs/C04Bounds.lean. -/
section handlers
open NodisVerif.Proofs.C08Step Resp Server

private def zk : Bytes := [122]
private def b (s : String) : Bytes := Bytes.ofString s
private def zsetup : Cmd := { id := "c", name := "ZADD", args := [zk, b "1", b "a", b "2", b "b", b "3", b "c", b "4", b "d"] }
private def q (name : String) (args : List String) : Cmd := { id := "c", name := name, args := zk :: args.map b }
private def reply (c : Cmd) : List Tok := ((run Handler3.table3 { store := {} } [zsetup, c]).2.getD 1 [])
private def names (l : List String) : List Tok := Tok.arr l.length :: l.map fun x => Tok.bulk (b x)

/-- ZREVRANGEBYSCORE z 4 (1: the maximum 4 is included, the minimum 1 is excluded -/
theorem zrevrangebyscore_exclusive_min : reply (q "ZREVRANGEBYSCORE" ["4", "(1"]) = names ["d", "c", "b"] := bound_replies.zrevrangebyscore_min
/-- ZREVRANGEBYSCORE z (4 1: the maximum 4 is excluded, the minimum 1 is included -/
theorem zrevrangebyscore_exclusive_max : reply (q "ZREVRANGEBYSCORE" ["(4", "1"]) = names ["c", "b", "a"] := bound_replies.zrevrangebyscore_max
theorem zrevrangebyscore_both_exclusive : reply (q "ZREVRANGEBYSCORE" ["(4", "(1"]) = names ["c", "b"] := bound_replies.zrevrangebyscore_both
/-- the same through ZRANGE ... BYSCORE REV, and the forward forms for comparison -/
theorem zrange_byscore_rev_exclusive_min : reply (q "ZRANGE" ["4", "(1", "BYSCORE", "REV"]) = names ["d", "c", "b"] := bound_replies.zrange_rev_min
theorem zrange_byscore_rev_exclusive_max : reply (q "ZRANGE" ["(4", "1", "BYSCORE", "REV"]) = names ["c", "b", "a"] := bound_replies.zrange_rev_max
theorem zrangebyscore_exclusive_min : reply (q "ZRANGEBYSCORE" ["(1", "4"]) = names ["b", "c", "d"] := bound_replies.zrangebyscore_min
theorem zrangebyscore_exclusive_max : reply (q "ZRANGEBYSCORE" ["1", "(4"]) = names ["a", "b", "c"] := bound_replies.zrangebyscore_max
theorem zrange_byscore_exclusive_min : reply (q "ZRANGE" ["(1", "4", "BYSCORE"]) = names ["b", "c", "d"] := bound_replies.zrange_min

end handlers

/- UNPROVED in sections 9–11 (not needed for any theorem above):
   * Exactness ("only if") of `RankRegion` / `RevRankRegion`: outside these regions the model is
     given in closed form (`zrange_model_closed_form`, `zrevrange_model_closed_form`,
     `zrange_negative_start_closed_form`) and disagreement is shown by witnesses, but there is no
     theorem "∀ inputs outside the region, model ≠ reference".
   * ZREVRANGE with a negative `start`: witnesses only (`zrevrange_finding`), no closed form.
   * `start < -2^62` (int64 wrap-around of `stop - start`) is excluded from
     `zrange_negative_start_closed_form`.
   * ZSCAN (also built on `forEachByRank`) is not part of the property text and is not treated.
   * The command layer (text of bounds, LIMIT, WITHSCORES, option positions → arguments of the API functions) is
     tied to the code by the RESP streams and pinned by witnesses only; there is no general theorem relating
     the handlers' parsing to the reference semantics.
-/

/-! ## 12. The real skiplist: pointers, levels, spans

  `Model/Skiplist.lean` is ds/zset/skiplist.go itself — a heap of nodes addressed by index, `forward` / `backward`
  pointers, per-level spans, the `update[]` / `rank[]` arrays, the same span arithmetic; the random level of `insert`
  is a parameter — and it is executed against the real code on every run (`sl …` / `slz …` streams of the check:
  the whole structure is compared after every operation). The theorems of this section say that it refines the
  sorted list of sections 1–11:

  * `Skiplist.Inv sl` (Proofs/SkiplistInv.lean, `IsChain`): there is a chain `c` of distinct heap indexes — the nodes
    reached from the header by level-0 forwards, ending in nil — with items strictly increasing by (score, member), no
    NaN; every level-`i` link of the header and of every chain node points to the next chain node whose height exceeds
    `i` (nil if none) and, when it is not nil, its span is the distance in chain positions; `backward` = the previous
    node (nil for the first); `tail` = the last node; `length` = number of nodes; heights in `1..level`,
    `1 ≤ level ≤ 16`, `level` = the maximal height (or 1).
  * `Skiplist.abs sl` = the items along the level-0 chain (computed by the executable `chain`).
  * `Skiplist.InvSpans sl` adds the discipline of links that END in nil: below `level` such a link spans
    `length − position`. Header levels at or above `level` keep whatever `removeNode` left there (stale spans; `insert`
    overwrites them when the level grows): they are not constrained, the tie compares them verbatim.

  Everything is for ALL heaps satisfying the invariant, all arguments, every level 1..16. -/
section skiplist
open NodisVerif.Skiplist (SL makeSkiplist maxLevel chain)

/-- the example state used below: five operations from `makeSkiplist()`, heights 2, 1, 3, 1 (one removal) -/
def slDemoOps : List Skiplist.SlOp :=
  [.insert [97] 0x3FF0000000000000 2, .insert [98] 0x4000000000000000 1, .insert [99] 0x3FF0000000000000 3,
   .insert [100] 0x8000000000000000 1, .remove [98] 0x4000000000000000]

def slDemo : SL := (Skiplist.runM makeSkiplist slDemoOps).toOption.getD makeSkiplist

theorem skiplist_demo : Skiplist.runM makeSkiplist slDemoOps = .ok slDemo ∧ Skiplist.Inv slDemo ∧ slDemo.level = 3 ∧
    Skiplist.abs slDemo = [(0x8000000000000000, [100]), (0x3FF0000000000000, [97]), (0x3FF0000000000000, [99])] := by
  have hok : Skiplist.OpsOk [] slDemoOps := by
    simp only [slDemoOps, Skiplist.OpsOk, Skiplist.OpOk, Skiplist.stepL]
    decide
  obtain ⟨sl, hr, hi, _⟩ := Skiplist.run_inv_from_empty slDemoOps hok
  have hr' : Skiplist.runM makeSkiplist slDemoOps = .ok slDemo := rfl
  have : sl = slDemo := by rw [hr] at hr'; exact Except.ok.inj hr'
  subst this
  exact ⟨hr, hi, by decide, by decide⟩

/-- `makeSkiplist()` satisfies the invariant; its chain is empty -/
theorem skiplist_empty_inv : Skiplist.Inv makeSkiplist ∧ Skiplist.abs makeSkiplist = [] :=
  ⟨Skiplist.makeSkiplist_inv, Skiplist.abs_makeSkiplist⟩

/-- under the invariant the chain is strictly ordered by (score, member), NaN-free, and `length` counts it -/
theorem skiplist_inv_sorted (sl : SL) (h : Skiplist.Inv sl) :
    (Skiplist.abs sl).Pairwise ILt ∧ (∀ a ∈ Skiplist.abs sl, Proofs.ZSetLemmas.Good a) ∧
    sl.length = ((Skiplist.abs sl).length : Int) :=
  ⟨(Skiplist.inv_sorted h).1, (Skiplist.inv_sorted h).2, Skiplist.inv_length h⟩

/-- inserting a new member with a non-NaN score at ANY level 1..16 keeps the invariant (all
    forwards, spans, backward, tail, length, level) and is `slInsert` on the chain; no panic, no fuel exhaustion -/
theorem skiplist_insert_refines (sl : SL) (h : Skiplist.Inv sl) (m : Bytes) (s : F64) (lvl : Nat)
    (hl1 : 1 ≤ lvl) (hl2 : lvl ≤ 16) (hs : F64.isNaN s = false) (hm : ∀ x ∈ Skiplist.abs sl, x.2 ≠ m) :
    ∃ sl', Skiplist.insert sl m s lvl = .ok sl' ∧ Skiplist.Inv sl' ∧
      Skiplist.abs sl' = slInsert (Skiplist.abs sl) m s :=
  Skiplist.insert_refines h m s lvl hl1 hl2 hs hm

example : Skiplist.Inv slDemo ∧ (1 ≤ 4 ∧ 4 ≤ 16) ∧ F64.isNaN 0x3FF0000000000000 = false ∧
    ∀ x ∈ Skiplist.abs slDemo, x.2 ≠ [98] := by
  refine ⟨skiplist_demo.2.1, by decide, by decide, ?_⟩
  rw [skiplist_demo.2.2.2]; decide

/-- for every member and score (present or not, NaN or not) `remove` keeps the invariant, is
    `slRemove` on the chain, and returns true exactly when a node with that member and an IEEE-equal score exists -/
theorem skiplist_remove_refines (sl : SL) (h : Skiplist.Inv sl) (m : Bytes) (s : F64) :
    ∃ sl' b, Skiplist.remove sl m s = .ok (sl', b) ∧ Skiplist.Inv sl' ∧
      Skiplist.abs sl' = slRemove (Skiplist.abs sl) m s ∧
      (b = true ↔ ∃ x ∈ Skiplist.abs sl, F64.eq s x.1 = true ∧ x.2 = m) :=
  Skiplist.remove_refines h m s

/-- `getRank`: when the score passed is the one stored for the member (this is how `SortedSet.getRank` calls it:
    with the dictionary's score) the result is the list-level `slGetRank` -/
theorem skiplist_getRank_spec (sl : SL) (h : Skiplist.Inv sl) (m : Bytes) (s : F64)
    (hscore : ∀ x ∈ Skiplist.abs sl, x.2 = m → F64.eq x.1 s = true) :
    Skiplist.getRank sl m s = .ok (slGetRank (Skiplist.abs sl) m s) :=
  Skiplist.getRank_spec_of_score h m s hscore

/-- … in particular index + 1 for a pair on the chain, when members are unique -/
theorem skiplist_getRank_index (sl : SL) (h : Skiplist.Inv sl) (m : Bytes) (s : F64) (j : Nat)
    (huniq : ((Skiplist.abs sl).map (·.2)).Nodup) (hj : (Skiplist.abs sl)[j]? = some (s, m)) :
    Skiplist.getRank sl m s = .ok ((j : Int) + 1) :=
  Skiplist.getRank_of_index_uniq h m s j huniq hj

example : Skiplist.Inv slDemo ∧ ((Skiplist.abs slDemo).map (·.2)).Nodup ∧
    (Skiplist.abs slDemo)[2]? = some (0x3FF0000000000000, [99]) ∧
    Skiplist.getRank slDemo [99] 0x3FF0000000000000 = .ok 3 := by
  refine ⟨skiplist_demo.2.1, ?_, ?_, rfl⟩ <;> rw [skiplist_demo.2.2.2] <;> decide

/-- whatever is asked: `getRank` returns, and the result is within `0..length` -/
theorem skiplist_getRank_total (sl : SL) (h : Skiplist.Inv sl) (m : Bytes) (s : F64) :
    ∃ r, Skiplist.getRank sl m s = .ok r ∧ 0 ≤ r ∧ r ≤ sl.length :=
  Skiplist.getRank_ok h m s

/-- what the code computes in general (`Skiplist.getRank_char`): it tests `x != header && x.Member == member` on the node
    where each level's walk stops (the walk uses `<=` on members, so it passes the node itself), from the top level down,
    and returns the position of the first such node; 0 if no level qualifies. Exactly: with `k` = the number of chain nodes whose (score, member) is ≤ the pair
    asked for (`chain sl` = the chain, `Stop … i A u B` = "`u`, at position `|A|`, is the last node among positions `0..k`
    that takes part in level `i`", `NoHit … i` = "the stopping node of level `i` is the header or has another member"):
    the result is the position of the stopping node of the HIGHEST level whose stopping node is not the header and has
    member `m`; 0 if no level qualifies -/
theorem skiplist_getRank_char (sl : SL) (h : Skiplist.Inv sl) (m : Bytes) (s : F64) :
    ∃ r, Skiplist.getRank sl m s = .ok r ∧
      ((r = 0 ∧ ∀ i, i < sl.level →
          Skiplist.NoHit sl (chain sl) ((Skiplist.abs sl).takeWhile (Skiplist.rankP m s)).length m i) ∨
       (∃ i, i < sl.level ∧ ∃ A u B,
          Skiplist.Stop sl (chain sl) ((Skiplist.abs sl).takeWhile (Skiplist.rankP m s)).length i A u B ∧
          u ≠ 0 ∧ (Skiplist.itemAt sl.heap u).2 = m ∧ r = (A.length : Int) ∧ 1 ≤ A.length ∧
          A.length ≤ ((Skiplist.abs sl).takeWhile (Skiplist.rankP m s)).length ∧
          ∀ i', i < i' → i' < sl.level →
            Skiplist.NoHit sl (chain sl) ((Skiplist.abs sl).takeWhile (Skiplist.rankP m s)).length m i')) := by
  obtain ⟨c, hc⟩ := h
  rw [Skiplist.chain_eq hc, Skiplist.abs_eq hc]
  exact Skiplist.getRank_char hc m s

/-- both hypotheses of `skiplist_getRank_spec` / `_index` are needed — two structures built by the model's own `insert`
    (they satisfy the invariant: `Skiplist.invA`, `Skiplist.invB`): a member asked for with a score that is not its
    stored score is "found" at a high level; with a duplicated member the taller duplicate's position is returned -/
theorem skiplist_getRank_needs_hypotheses :
    (Skiplist.Inv Skiplist.slA ∧ ((Skiplist.abs Skiplist.slA).map (·.2)).Nodup ∧
      Skiplist.getRank Skiplist.slA [109] Skiplist.f5 = .ok 1 ∧ slGetRank (Skiplist.abs Skiplist.slA) [109] Skiplist.f5 = 0) ∧
    (Skiplist.Inv Skiplist.slB ∧ (Skiplist.abs Skiplist.slB)[1]? = some (Skiplist.f2, [109]) ∧
      Skiplist.getRank Skiplist.slB [109] Skiplist.f2 = .ok 1 ∧ slGetRank (Skiplist.abs Skiplist.slB) [109] Skiplist.f2 = 2) :=
  ⟨⟨Skiplist.invA, Skiplist.getRank_needs_score⟩, ⟨Skiplist.invB, Skiplist.getRank_needs_uniq⟩⟩

/-- `getByRank`: rank 0 is the HEADER (index 0 — the phantom element of finding A-41b), `1 ≤ r ≤ length` is node
    `r` of the chain, anything else nil -/
theorem skiplist_getByRank_spec (sl : SL) (h : Skiplist.Inv sl) (r : Int) :
    Skiplist.getByRank sl r = .ok (if r < 0 then none else if r = 0 then some 0 else (chain sl)[r.toNat - 1]?) := by
  obtain ⟨c, hc⟩ := h
  rw [Skiplist.chain_eq hc]
  exact Skiplist.getByRank_spec hc r

example : Skiplist.getByRank slDemo 0 = .ok (some 0) ∧ Skiplist.getByRank slDemo 3 = .ok (some 3) ∧
    Skiplist.getByRank slDemo 4 = .ok none ∧ chain slDemo = [4, 1, 3] := ⟨rfl, rfl, rfl, by decide⟩

/-- `removeRangeByRank` (1-based inclusive ranks, any integers) is the list-level `slRemoveRangeByRank` on the chain -/
theorem skiplist_removeRangeByRank_refines (sl : SL) (h : Skiplist.Inv sl) (start stop : Int) :
    ∃ sl' removed, Skiplist.removeRangeByRank sl start stop = .ok (sl', removed) ∧ Skiplist.Inv sl' ∧
      (Skiplist.abs sl', removed) = slRemoveRangeByRank (Skiplist.abs sl) start stop :=
  Skiplist.removeRangeByRank_refines h start stop

/-- `removeRange`: every bound (also NaN), both mode bits, every limit. `limit ≤ 0` (the sorted set always
    passes 0) is exactly the list-level `slRemoveRange`; a positive limit removes the first `limit` nodes of that range -/
theorem skiplist_removeRange_refines (sl : SL) (h : Skiplist.Inv sl) (min max : F64) (limit : Int) (mode : Nat) :
    ∃ sl' removed, Skiplist.removeRange sl min max limit mode = .ok (sl', removed) ∧ Skiplist.Inv sl' ∧
      (if limit ≤ 0 then (Skiplist.abs sl', removed) = slRemoveRange (Skiplist.abs sl) min max mode
       else
        let pre := (Skiplist.abs sl).takeWhile fun n => !(if mode % 2 = 1 then F64.lt min n.1 else F64.le min n.1)
        let rest := (Skiplist.abs sl).drop pre.length
        let rem := rest.takeWhile fun n => !(if mode / 2 % 2 = 1 then F64.le max n.1 else F64.lt max n.1)
        removed = rem.take limit.toNat ∧ Skiplist.abs sl' = pre ++ rem.drop limit.toNat ++ rest.drop rem.length) :=
  Skiplist.removeRange_refines h min max limit mode

example : (Skiplist.removeRange slDemo 0x8000000000000000 0x3FF0000000000000 1 0).map (·.2) = .ok [(0x8000000000000000, [100])] ∧
    (Skiplist.removeRangeByRank slDemo 2 5).map (·.2) = .ok [(0x3FF0000000000000, [97]), (0x3FF0000000000000, [99])] :=
  ⟨rfl, rfl⟩

/-- `hasInRange` is the list-level function -/
theorem skiplist_hasInRange_spec (sl : SL) (h : Skiplist.Inv sl) (min max : F64) :
    Skiplist.hasInRange sl min max = .ok (hasInRange (Skiplist.abs sl) min max) :=
  Skiplist.hasInRange_spec h min max

/-- `getFirstInRange` never panics (the `n.Item.Score` on nil cannot happen under the invariant); the node
    returned is the chain node after the prefix of scores below `min`, and its item is the list-level answer -/
theorem skiplist_getFirstInRange_spec (sl : SL) (h : Skiplist.Inv sl) (min max : F64) :
    ∃ r, Skiplist.getFirstInRange sl min max = .ok r ∧
      (r.map (Skiplist.itemAt sl.heap)) = (getFirstInRange (Skiplist.abs sl) min max).map (·.cur) ∧
      (∀ n, r = some n → ∃ j, (chain sl)[j]? = some n ∧
        j = ((Skiplist.abs sl).takeWhile (fun x => F64.gt min x.1)).length) :=
  Skiplist.getFirstInRange_inv h min max

/-- `getLastInRange` for a `max` that is not NaN: no panic, the list-level answer, never the header -/
theorem skiplist_getLastInRange_spec (sl : SL) (h : Skiplist.Inv sl) (min max : F64) (hmax : F64.isNaN max = false) :
    ∃ r, Skiplist.getLastInRange sl min max = .ok r ∧
      (r.map (Skiplist.itemAt sl.heap)) = (getLastInRange (Skiplist.abs sl) min max).map (·.cur) ∧
      r ≠ some 0 ∧
      (∀ n, r = some n → ∃ j, (chain sl)[j]? = some n ∧
        j + 1 = ((Skiplist.abs sl).takeWhile (fun x => F64.ge max x.1)).length) :=
  Skiplist.getLastInRange_inv h min max hmax

example : Skiplist.getFirstInRange slDemo 0 0x4000000000000000 = .ok (some 4) ∧
    Skiplist.getLastInRange slDemo 0 0x4000000000000000 = .ok (some 3) ∧
    Skiplist.hasInRange slDemo 0x4000000000000000 0x4000000000000000 = .ok false := ⟨rfl, rfl, rfl⟩

/-- the corner the hypothesis excludes (docs/WP-A-findings.md, F-A1): with a NaN `max` and a range
    that `hasInRange` accepts, `getLastInRange` stays on the header and returns the HEADER unless `min > 0`; the
    list-level model says nil. Not reachable through a command: `scoreLoop` rejects every node when `max` is NaN. -/
theorem skiplist_getLastInRange_nan_finding :
    (do let sl ← Skiplist.insert makeSkiplist [97] 0x3FF0000000000000 1
        let r ← Skiplist.getLastInRange sl 0 0x7FF8000000000000
        pure (r, (getLastInRange (Skiplist.abs sl) 0 0x7FF8000000000000).isNone)) = .ok (some 0, true) := by
  rfl

/-- under the invariant no operation runs out of fuel and none panics -/
theorem skiplist_fuel_sufficient (sl : SL) (h : Skiplist.Inv sl) :
    (∀ m s lvl, 1 ≤ lvl → lvl ≤ 16 → F64.isNaN s = false → (∀ x ∈ Skiplist.abs sl, x.2 ≠ m) →
        ∃ r, Skiplist.insert sl m s lvl = .ok r) ∧
    (∀ m s, ∃ r, Skiplist.remove sl m s = .ok r) ∧
    (∀ m s, ∃ r, Skiplist.getRank sl m s = .ok r) ∧
    (∀ r, ∃ o, Skiplist.getByRank sl r = .ok o) ∧
    (∀ a b, ∃ r, Skiplist.hasInRange sl a b = .ok r) ∧
    (∀ a b, ∃ r, Skiplist.getFirstInRange sl a b = .ok r) ∧
    (∀ a b, ∃ r, Skiplist.getLastInRange sl a b = .ok r) ∧
    (∀ a b limit mode, ∃ r, Skiplist.removeRange sl a b limit mode = .ok r) ∧
    (∀ a b, ∃ r, Skiplist.removeRangeByRank sl a b = .ok r) :=
  Skiplist.fuel_sufficient h

/-- from any state satisfying the invariant — in particular from `makeSkiplist()` — any finite sequence of
    insert (any level 1..16, new member, non-NaN score) / remove / removeRange / removeRangeByRank runs without panic
    or fuel exhaustion, every reachable state satisfies the invariant, and the chain of the result is the run of the
    list-level model. So every list-level theorem of this file about `z.sl` speaks about the chain of the pointer structure. -/
theorem skiplist_run_inv (ops : List Skiplist.SlOp) (sl : SL) (h : Skiplist.Inv sl)
    (hok : Skiplist.OpsOk (Skiplist.abs sl) ops) :
    ∃ sl', Skiplist.runM sl ops = .ok sl' ∧ Skiplist.Inv sl' ∧
      Skiplist.abs sl' = Skiplist.runL (Skiplist.abs sl) ops :=
  Skiplist.run_refines ops h hok

theorem skiplist_run_inv_from_empty (ops : List Skiplist.SlOp) (hok : Skiplist.OpsOk [] ops) :
    ∃ sl, Skiplist.runM makeSkiplist ops = .ok sl ∧ Skiplist.Inv sl ∧ Skiplist.abs sl = Skiplist.runL [] ops :=
  Skiplist.run_inv_from_empty ops hok

/-- `makeSkiplist()` satisfies the full invariant -/
theorem skiplist_empty_invSpans : Skiplist.InvSpans makeSkiplist := Skiplist.makeSkiplist_invSpans

/-- `insert` keeps the full invariant: also a link that ends in nil spans `length − position` afterwards — this is where
    `update[i].level[i].span = skiplist.length` for a new level and the `span++` of the untouched levels are needed -/
theorem skiplist_insert_invSpans (sl : SL) (h : Skiplist.InvSpans sl) (m : Bytes) (s : F64) (lvl : Nat)
    (hl1 : 1 ≤ lvl) (hl2 : lvl ≤ 16) (hs : F64.isNaN s = false) (hm : ∀ x ∈ Skiplist.abs sl, x.2 ≠ m) :
    ∃ sl', Skiplist.insert sl m s lvl = .ok sl' ∧ Skiplist.InvSpans sl' ∧
      Skiplist.abs sl' = slInsert (Skiplist.abs sl) m s :=
  Skiplist.insert_invSpans h m s lvl hl1 hl2 hs hm

/-- `remove` keeps the full invariant — the `else { span-- }` branch of `removeNode` on every level in use, not only on
    the removed node's own levels -/
theorem skiplist_remove_invSpans (sl : SL) (h : Skiplist.InvSpans sl) (m : Bytes) (s : F64) :
    ∃ sl' b, Skiplist.remove sl m s = .ok (sl', b) ∧ Skiplist.InvSpans sl' ∧
      Skiplist.abs sl' = slRemove (Skiplist.abs sl) m s :=
  Skiplist.remove_invSpans h m s

theorem skiplist_removeRangeByRank_invSpans (sl : SL) (h : Skiplist.InvSpans sl) (start stop : Int) :
    ∃ sl' removed, Skiplist.removeRangeByRank sl start stop = .ok (sl', removed) ∧ Skiplist.InvSpans sl' ∧
      (Skiplist.abs sl', removed) = slRemoveRangeByRank (Skiplist.abs sl) start stop :=
  Skiplist.removeRangeByRank_invSpans h start stop

theorem skiplist_removeRange_invSpans (sl : SL) (h : Skiplist.InvSpans sl) (min max : F64) (mode : Nat) :
    ∃ sl' removed, Skiplist.removeRange sl min max 0 mode = .ok (sl', removed) ∧ Skiplist.InvSpans sl' ∧
      (Skiplist.abs sl', removed) = slRemoveRange (Skiplist.abs sl) min max mode := by
  obtain ⟨sl', rem, he, hi, ha⟩ := Skiplist.removeRange_invSpans h min max 0 mode
  rw [if_pos (Int.le_refl 0)] at ha
  exact ⟨sl', rem, he, hi, ha⟩

/-- runs keep the full invariant (every reachable state) -/
theorem skiplist_run_invSpans (ops : List Skiplist.SlOp) (sl : SL) (h : Skiplist.InvSpans sl)
    (hok : Skiplist.OpsOk (Skiplist.abs sl) ops) :
    ∃ sl', Skiplist.runM sl ops = .ok sl' ∧ Skiplist.InvSpans sl' ∧
      Skiplist.abs sl' = Skiplist.runL (Skiplist.abs sl) ops :=
  Skiplist.run_invSpans ops h hok

example : Skiplist.InvSpans slDemo := by
  have hok : Skiplist.OpsOk [] slDemoOps := by
    simp only [slDemoOps, Skiplist.OpsOk, Skiplist.OpOk, Skiplist.stepL]
    decide
  obtain ⟨sl, hr, hi, _⟩ := Skiplist.run_invSpans_from_empty slDemoOps hok
  rw [skiplist_demo.1] at hr
  exact (Except.ok.inj hr) ▸ hi

/-- the header keeps score 0, member "" and backward nil in every reachable state (`IsChain` does not speak about the
    header's own fields; `getByRank 0`, the phantom member of finding A-41b, and the backward walk of ZREVRANGE read them) -/
theorem skiplist_header_ok (ops : List Skiplist.SlOp) (sl sl' : SL) (h : Skiplist.Inv sl) (hh : Skiplist.HeaderOk sl)
    (hok : Skiplist.OpsOk (Skiplist.abs sl) ops) (hr : Skiplist.runM sl ops = .ok sl') : Skiplist.HeaderOk sl' :=
  Skiplist.run_headerOk ops h hh hok hr

example : Skiplist.HeaderOk slDemo :=
  Skiplist.run_headerOk_from_empty slDemoOps
    (by simp only [slDemoOps, Skiplist.OpsOk, Skiplist.OpOk, Skiplist.stepL]; decide) skiplist_demo.1

/-- the item of the node `getByRank` returns is the list-level cursor's, for EVERY rank (0 = the header item (0, "")) -/
theorem skiplist_getByRank_item (sl : SL) (h : Skiplist.Inv sl) (hh : Skiplist.HeaderOk sl) (r : Int) :
    ∃ o, Skiplist.getByRank sl r = .ok o ∧
      o.map (Skiplist.itemAt sl.heap) = (getByRank (Skiplist.abs sl) r).map (·.cur) := by
  obtain ⟨c, hc⟩ := h
  exact Skiplist.getByRank_item_all hc hh r

/-! ### the sorted set on top of the pointer structure

  `Model/SkiplistZSet.lean` is sorted_set.go's `zAdd` / `ZRem` / `ZRemRangeByScore` / `ZRemRangeByRank` / `getRank` with
  the dictionary and the POINTER skiplist (executed against the real `SortedSet` by the `slz` streams). The
  preconditions of `insert` (member not on the chain) and of `getRank` (the score passed is the stored one) are
  discharged from the dictionary, so the only hypotheses left are the callers': level in 1..16, no NaN score. -/

/-- `zAdd` on the pointer structure = `DsZSet.zAdd` on (dictionary, chain), and the invariants are kept -/
theorem skiplist_zAdd_refines (p : Skiplist.PZSet) (h : Skiplist.PZInv p) (m : Bytes) (s : F64) (lvl : Nat)
    (hl1 : 1 ≤ lvl) (hl2 : lvl ≤ 16) (hs : F64.isNaN s = false) :
    ∃ p' r, Skiplist.pzAdd p m s lvl = .ok (p', r) ∧ Skiplist.PZInv p' ∧ (p'.toZSet, r) = zAdd p.toZSet m s :=
  Skiplist.pzAdd_inv h m s lvl hl1 hl2 hs

theorem skiplist_zRem_refines (p : Skiplist.PZSet) (h : Skiplist.PZInv p) (ms : List Bytes) :
    ∃ p' r, Skiplist.pzRem p ms = .ok (p', r) ∧ Skiplist.PZInv p' ∧ (p'.toZSet, r) = zRem p.toZSet ms :=
  Skiplist.pzRem_refines h ms

theorem skiplist_zRemRangeByScore_refines (p : Skiplist.PZSet) (h : Skiplist.PZInv p) (min max : F64) (mode : Nat) :
    ∃ p' r, Skiplist.pzRemRangeByScore p min max mode = .ok (p', r) ∧ Skiplist.PZInv p' ∧
      (p'.toZSet, r) = zRemRangeByScore p.toZSet min max mode :=
  Skiplist.pzRemRangeByScore_refines h min max mode

theorem skiplist_zRemRangeByRank_refines (p : Skiplist.PZSet) (h : Skiplist.PZInv p) (start stop : Int) :
    ∃ p' r, Skiplist.pzRemRangeByRank p start stop = .ok (p', r) ∧ Skiplist.PZInv p' ∧
      (p'.toZSet, r) = zRemRangeByRank p.toZSet start stop :=
  Skiplist.pzRemRangeByRank_refines h start stop

/-- `ZRank` / `ZRevRank` through the spans of the pointer structure = the list-level rank -/
theorem skiplist_zRank_refines (p : Skiplist.PZSet) (h : Skiplist.PZInv p) (m : Bytes) :
    Skiplist.pzRank p m = .ok (zRank p.toZSet m) ∧ Skiplist.pzRevRank p m = .ok (zRevRank p.toZSet m) :=
  ⟨Skiplist.pzRank_refines h m, Skiplist.pzRevRank_refines h m⟩

/-- ZRANGE / ZREVRANGE on the pointer structure (start node by `getByRank` through the spans, or tail / first node; then
    `forward` / `backward` pointer steps) = the list-level `forEachByRank`, INCLUDING the nil dereferences: the pointer
    code panics exactly where the list-level model says `none` (finding A-41), and it returns the header's item exactly
    where the list-level model returns the phantom member (finding A-41b) -/
theorem skiplist_zRange_refines (p : Skiplist.PZSet) (h : Skiplist.PZInv p) (hh : Skiplist.HeaderOk p.sl)
    (start stop : Int) (desc : Bool) :
    Skiplist.pzForEachByRank p start stop desc =
      (match forEachByRank p.toZSet start stop desc with | some l => .ok l | none => .error .panic) :=
  Skiplist.pzForEachByRank_refines h hh start stop desc

theorem skiplist_zCount_refines (p : Skiplist.PZSet) (h : Skiplist.PZInv p) (hh : Skiplist.HeaderOk p.sl)
    (min max : F64) (mode : Nat) :
    Skiplist.pzCount p min max mode =
      (match zCount p.toZSet min max mode with | some n => .ok n | none => .error .panic) :=
  Skiplist.pzCount_refines h hh min max mode

/-- ZRANGEBYSCORE / ZREVRANGEBYSCORE on the pointer structure (`getFirstInRange` / `getLastInRange`, then pointer steps)
    = the list-level `rangeByScore`: never a panic, never out of fuel; every bound (also NaN: with a NaN `max` the
    descending walk starts on the header, F-A1, and stops at once), both mode bits, offset, limit -/
theorem skiplist_zRangeByScore_refines (p : Skiplist.PZSet) (h : Skiplist.PZInv p) (hh : Skiplist.HeaderOk p.sl)
    (min max : F64) (offset limit : Int) (desc : Bool) (mode : Nat) :
    Skiplist.pzRangeByScore p min max offset limit desc mode =
      .ok (rangeByScore p.toZSet min max offset limit desc mode) :=
  Skiplist.pzRangeByScore_refines h hh min max offset limit desc mode

/-- any finite sequence of the mutating operations from the empty sorted set: no panic, no fuel exhaustion, the pointer
    structure satisfies `Skiplist.Inv` and `HeaderOk`, (dictionary, chain) satisfies the list-level invariant `ZSet.WF`
    and is exactly the state the list-level model reaches, with the same replies; also for every prefix of the sequence.
    With the three theorems above (which need exactly `PZInv` and `HeaderOk`) every ordered query in every reachable
    state answers as the list-level model does: through this theorem the list-level theorems of this file (stated on `ZSet`) hold of the
    pointer structure. -/
theorem skiplist_zset_run (ops : List Skiplist.PZOp) (hok : ∀ op ∈ ops, Skiplist.PZOpOk op) (k : Nat) :
    ∃ p rs, Skiplist.pzRun Skiplist.PZSet.empty (ops.take k) = .ok (p, rs) ∧ Skiplist.PZInv p ∧
      Skiplist.HeaderOk p.sl ∧ p.toZSet.WF ∧ (p.toZSet, rs) = Skiplist.zRun DsZSet.empty (ops.take k) := by
  obtain ⟨p, rs, he, hi, hz, hh, ha⟩ := Skiplist.pz_run_full_prefix ops hok k
  exact ⟨p, rs, he, ⟨hi, hz⟩, hh, hz.toWF, ha⟩

example : (∀ op ∈ [Skiplist.PZOp.add [97] 0x3FF0000000000000 2, .add [98] 0x4000000000000000 16, .add [97] 0x4008000000000000 1,
      .rank [97] false, .remRangeByRank 0 0], Skiplist.PZOpOk op) := by
  intro op hop
  simp only [List.mem_cons, List.not_mem_nil, or_false] at hop
  rcases hop with rfl | rfl | rfl | rfl | rfl <;> simp [Skiplist.PZOpOk, Skiplist.maxLevel] <;> decide

end skiplist
/-! ## 13. Score text: `strconv.ParseFloat(s, 64)` and `strconv.FormatFloat(x, 'f', -1, 64)` in the model

  Model/FloatDec.lean: `parseDec` / `parseFloat` (decimal syntax
  of `readFloat`, exact rounding `roundRat`, range errors, underscores, inf / nan spellings) and `formatShortest`
  (shortest round-tripping digits, %f rendering). Tied to strconv on every run of this check by the float text table
  (bin/checks/floattab.py: `fmtfloat` / `parsefloat` lines through the harness and the driver, compared verbatim).
  The rounding is written `FloatDec.roundRat` in full: `F64.roundRat` (Model/F64More.lean, the rounding of `F64.div`, the same
  text with scale constant 66 in place of 57) shares the short name, and both namespaces are open below. Every theorem of this
  section is about `FloatDec.roundRat`; nothing is proved of `F64.roundRat` (`Proofs.FloatDecMono.rndq_scaled`, the rounding does
  not depend on the scale once the quotient has 55 bits, is where an identification of the two would start). -/
section floattext
open NodisVerif.F64 NodisVerif.FloatDec

/-- ROUND TRIP (partial): for every double that is not NaN, if the text is not the 17-digit fallback of the digit
    search (x is ±Inf or ±0, or some n ≤ 17 digits round-trip — true for every double of the float text table),
    then ParseFloat(FormatFloat(x, 'f', -1, 64)) = x bit for bit.
    MISSING for the full statement: that the search always succeeds within 17 digits (17-digit sufficiency of
    binary64), i.e. `∀ x finite non-zero, (searchShortest x).isSome`. -/
theorem formatShortest_roundtrip_partial (x : F64) (hnan : isNaN x = false)
    (hs : isInf x = true ∨ isZero x = true ∨ (searchShortest x).isSome = true) :
    parseFloat (formatShortest x) = some (some x) :=
  Proofs.FloatDecTrip.formatShortest_roundtrip_partial x hnan hs

/-- the hypotheses hold on 0.1, 1, the largest finite double, −1/3 (16 digits), and the smallest subnormal; only the largest finite double needs 17 digits -/
example : (searchShortest 0x3FB999999999999A).isSome = true ∧ (searchShortest 0x3FF0000000000000).isSome = true ∧
    (searchShortest 0x7FEFFFFFFFFFFFFF).isSome = true ∧ (searchShortest 0xBFD5555555555555).isSome = true ∧
    (searchShortest 1).isSome = true := by decide +kernel

/-- the same for the names the sorted-set handlers use: a score written by `fmtScore` reads back as the same score -/
theorem score_text_roundtrip_partial (x : F64) (t : Bytes) (hnan : isNaN x = false)
    (hs : isInf x = true ∨ isZero x = true ∨ (searchShortest x).isSome = true)
    (ht : FloatText.formatFloat x = some t) : FloatText.parseFloat t = some (some x) := by
  unfold FloatText.formatFloat at ht
  cases ht
  exact Proofs.FloatDecTrip.formatShortest_roundtrip_partial x hnan hs

example : FloatText.parseFloat (Bytes.ofString "0.1") = some (some 0x3FB999999999999A) ∧
    FloatText.formatFloat 0x3FB999999999999A = some (Bytes.ofString "0.1") ∧
    FloatText.parseFloat (Bytes.ofString "1e400") = some none ∧
    FloatText.parseFloat (Bytes.ofString "1e-400") = some (some 0) ∧
    FloatText.parseFloat (Bytes.ofString "-.5") = some (some 0xBFE0000000000000) ∧
    FloatText.parseFloat (Bytes.ofString "1_000") = some (some 0x408F400000000000) ∧
    FloatText.parseFloat (Bytes.ofString "0x1p3") = none ∧
    FloatText.formatFloat 0x444B1AE4D6E2EF50 = some (Bytes.ofString "1000000000000000000000") ∧
    FloatText.formatFloat 0x3EB0C6F7A0B5ED8D = some (Bytes.ofString "0.000001") := by decide +kernel

/-- INTEGER TEXT: an optional sign and decimal digits (at most 800) whose value is below 2^53 parse to exactly the
    double of that integer, `roundPack neg n 0` = `F64.ofInt?` -/
theorem parseDec_integer (sgn : Bytes) (neg : Bool)
    (hs : (sgn = [] ∧ neg = false) ∨ (sgn = [43] ∧ neg = false) ∨ (sgn = [45] ∧ neg = true))
    (ds : Bytes) (hne : ds ≠ []) (hall : ds.all isDigit = true) (hlen : ds.length ≤ 800)
    (hn : digitsToNat ds 0 < 2 ^ 53) :
    parseDec (sgn ++ ds) = some (some (roundPack neg (digitsToNat ds 0) 0)) :=
  Proofs.FloatDecInt.parseDec_digits sgn neg hs ds hne hall hlen hn

example : parseDec ([45] ++ [49, 50, 51]) = some (some (roundPack true 123 0)) ∧ F64.ofInt? (-123) = some (roundPack true 123 0) :=
  ⟨parseDec_integer [45] true (Or.inr (Or.inr ⟨rfl, rfl⟩)) [49, 50, 51] (by decide) (by decide) (by decide) (by decide), by decide⟩

/-- wherever the integer-only reading `Api.parseFloatTextInt` produces a value, `Api.parseFloatText` produces the
    same one — except on "-0", "-00", …, where Go and `parseFloatText` give −0 and the integer reading gives +0 -/
theorem parseFloatText_agrees_with_integer_model (b : Bytes) (x : F64) (h : Api.parseFloatTextInt b = some (some x))
    (hnz : ¬ (b.head? = some 45 ∧ parseInt64 b = some 0)) : Api.parseFloatText b = some (some x) :=
  Proofs.FloatDecInt.parseFloatText_agrees_int b x h hnz

example : Api.parseFloatTextInt [45, 49, 50] = some (some 0xC028000000000000) ∧
    ¬ (([45, 49, 50] : Bytes).head? = some 45 ∧ parseInt64 [45, 49, 50] = some 0) := by decide +kernel

/-- EXACT INPUTS: every finite double x = (−1)^s · m · 2^e (m, e = `decode x`; zeros and subnormals included) is the
    value `FloatDec.roundRat` returns on the exact rational m·2^e — no rounding happens on representable values -/
theorem roundRat_exact (x : F64) (hfin : expBits x < 2047) :
    FloatDec.roundRat (sign x) (if (decode x).2 ≥ 0 then (decode x).1 * 2 ^ (decode x).2.toNat else (decode x).1)
      (if (decode x).2 ≥ 0 then 1 else 2 ^ (-(decode x).2).toNat) = x :=
  Proofs.FloatDecRound.roundRat_decode x hfin

example : expBits (0x3FB999999999999A : F64) < 2047 ∧ expBits (1 : F64) < 2047 := by decide

/-- … and a natural below 2^53 over 1 gives the double of the integer model -/
theorem roundRat_exact_nat (neg : Bool) (n : Nat) (hn0 : 0 < n) (hn : n < 2 ^ 53) : FloatDec.roundRat neg n 1 = roundPack neg n 0 :=
  Proofs.FloatDecRound.roundRat_nat neg n hn0 hn

/-- LENGTH: FormatFloat(x, 'f', -1, 64) never exceeds 1000 bytes (true maximum 327; 21 bytes suffice for
    integer-valued doubles only). Used for the storage codec's size side condition (C20: `Call.WF`). -/
theorem formatShortest_length (x : F64) : (formatShortest x).length ≤ 1000 :=
  Proofs.FloatDecLen.formatShortest_length x

/-- MONOTONICITY of the exact rounding (hence of ParseFloat on non-negative decimal text): num1/den1 ≤ num2/den2
    (cross-multiplied) ⇒ the rounded doubles are in the same order, as numbers (bit patterns of non-negative doubles,
    +Inf on top). Proof: Proofs/FloatDecMono.lean — the bit pattern of a rounding as a number, monotone at one exponent,
    invariant under rescaling, constant inside a cell of the fine grid, then both rationals at a common scale. -/
theorem roundRat_mono (num1 den1 num2 den2 : Nat) (hd1 : 0 < den1) (hd2 : 0 < den2)
    (h : num1 * den2 ≤ num2 * den1) :
    (FloatDec.roundRat false num1 den1).toNat ≤ (FloatDec.roundRat false num2 den2).toNat :=
  Proofs.FloatDecMono.roundRat_mono num1 den1 num2 den2 hd1 hd2 h

/-- … in the order the sorted sets compare scores with (`F64.le`; the results are never NaN) -/
theorem roundRat_mono_le (num1 den1 num2 den2 : Nat) (hd1 : 0 < den1) (hd2 : 0 < den2) (h : num1 * den2 ≤ num2 * den1) :
    F64.le (FloatDec.roundRat false num1 den1) (FloatDec.roundRat false num2 den2) = true :=
  Proofs.FloatDecMono.roundRat_le num1 den1 num2 den2 hd1 hd2 h

/-- … and in the decimal form `parseDec` uses (mantissa × 10^exponent): mant1·10^e1 ≤ mant2·10^e2 -/
theorem roundDec_mono (m1 m2 : Nat) (e1 e2 : Int)
    (h : m1 * 10 ^ e1.toNat * 10 ^ (-e2).toNat ≤ m2 * 10 ^ e2.toNat * 10 ^ (-e1).toNat) :
    (roundDec false m1 e1).toNat ≤ (roundDec false m2 e2).toNat :=
  Proofs.FloatDecMono.roundDec_mono m1 m2 e1 e2 h

/-- 0.1 ≤ 1/3 ≤ 0.5 as rationals, so as doubles (the hypotheses are plain inequalities between naturals) -/
example : (FloatDec.roundRat false 1 10).toNat ≤ (FloatDec.roundRat false 1 3).toNat ∧ (roundDec false 3 (-1)).toNat ≤ (roundDec false 5 (-1)).toNat :=
  ⟨roundRat_mono 1 10 1 3 (by decide) (by decide) (by decide), roundDec_mono 3 5 (-1) (-1) (by decide)⟩

/-- FAITHFUL ROUNDING (monotonicity + exactness): the rounding of num/den never passes a double. For every finite
    non-negative double y with exact value my·2^ey: num/den ≤ value(y) ⇒ result ≤ y, and num/den ≥ value(y) ⇒ result ≥ y.
    Hence the result lies between the two doubles that enclose num/den. -/
theorem roundRat_faithful (y : F64) (hs : sign y = false) (hfin : expBits y < 2047) (num den : Nat) (hden : 0 < den) :
    (num * (if (decode y).2 ≥ 0 then 1 else 2 ^ (-(decode y).2).toNat) ≤
       (if (decode y).2 ≥ 0 then (decode y).1 * 2 ^ (decode y).2.toNat else (decode y).1) * den →
     (FloatDec.roundRat false num den).toNat ≤ y.toNat) ∧
    ((if (decode y).2 ≥ 0 then (decode y).1 * 2 ^ (decode y).2.toNat else (decode y).1) * den ≤
       num * (if (decode y).2 ≥ 0 then 1 else 2 ^ (-(decode y).2).toNat) →
     y.toNat ≤ (FloatDec.roundRat false num den).toNat) :=
  ⟨Proofs.FloatDecMono.roundRat_le_of_le y hs hfin num den hden, Proofs.FloatDecMono.roundRat_ge_of_ge y hs hfin num den hden⟩

example : sign (0x3FB999999999999A : F64) = false ∧ expBits (0x3FB999999999999A : F64) < 2047 := by decide

/-- NEGATIVE VALUES: the sign only sets the top bit (`FloatDec.roundRat true n d = FloatDec.roundRat false n d ||| 2^63`), so the order is
    mirrored: num1/den1 ≤ num2/den2 ⇒ −num2/den2 rounds to a key ≤ that of −num1/den1; and every negative rounding is
    ≤ every non-negative one (−0 and +0 share the key 0). Together with `roundRat_mono` this is monotonicity of the
    rounding over all rationals, in the order `F64.key` that the skiplist uses (`F64.le a b` is `key a ≤ key b` for operands that
    are not NaN: the same order as in `roundRat_mono_le`). -/
theorem roundRat_mono_neg (num1 den1 num2 den2 : Nat) (hd1 : 0 < den1) (hd2 : 0 < den2) (h : num1 * den2 ≤ num2 * den1) :
    F64.key (FloatDec.roundRat true num2 den2) ≤ F64.key (FloatDec.roundRat true num1 den1) :=
  Proofs.FloatDecMono.roundRat_neg_le num1 den1 num2 den2 hd1 hd2 h

theorem roundRat_neg_le_pos (num1 den1 num2 den2 : Nat) (hd1 : 0 < den1) (hd2 : 0 < den2) :
    F64.key (FloatDec.roundRat true num1 den1) ≤ F64.key (FloatDec.roundRat false num2 den2) :=
  Proofs.FloatDecMono.roundRat_neg_le_pos num1 den1 num2 den2 hd1 hd2

/-- CORRECTLY ROUNDED (nearest, ties to even): the result of `FloatDec.roundRat` on num/den > 0, read as a significand q at
    exponent g — its bit pattern is min(+Inf, (g + 1074)·2^52 + q), with 2^52 ≤ q ≤ 2^53 unless g = −1074 (subnormal), so g is
    the exponent of the last place in num/den's own binade — satisfies |num/den − q·2^g| ≤ 2^g / 2 (both inequalities, cross-
    multiplied: 2^g is 2^g.toNat / 2^(−g).toNat), and on an exact tie q is even. Negative values: `FloatDec.roundRat true` only sets the
    sign bit. Together with `roundRat_mono` and `roundRat_exact` this is IEEE-754 round-to-nearest-even. -/
theorem roundRat_nearest (num den : Nat) (hnum : 0 < num) (hden : 0 < den) :
    ∃ (q : Nat) (g : Int),
      ((FloatDec.roundRat false num den).toNat : Int) = min (2047 * 2 ^ 52) ((g + 1074) * 2 ^ 52 + q) ∧
      -1074 ≤ g ∧ q ≤ 2 ^ 53 ∧ (-1074 < g → 2 ^ 52 ≤ q) ∧
      2 * q * 2 ^ g.toNat * den ≤ 2 * num * 2 ^ (-g).toNat + 2 ^ g.toNat * den ∧
      2 * num * 2 ^ (-g).toNat ≤ 2 * q * 2 ^ g.toNat * den + 2 ^ g.toNat * den ∧
      ((2 * q * 2 ^ g.toNat * den = 2 * num * 2 ^ (-g).toNat + 2 ^ g.toNat * den ∨
        2 * num * 2 ^ (-g).toNat = 2 * q * 2 ^ g.toNat * den + 2 ^ g.toNat * den) → q % 2 = 0) :=
  Proofs.FloatDecMono.roundRat_nearest num den hnum hden

theorem roundRat_sign (num den : Nat) : FloatDec.roundRat true num den = FloatDec.roundRat false num den ||| 0x8000000000000000 :=
  Proofs.FloatDecMono.roundRat_neg num den

/-- 1/10: q = 0x1999999999999A (rounded up from …99.6), g = −56: the double 0x3FB999999999999A -/
example : FloatDec.roundRat false 1 10 = 0x3FB999999999999A ∧
    ((0x3FB999999999999A : F64).toNat : Int) = min (2047 * 2 ^ 52) (((-56 : Int) + 1074) * 2 ^ 52 + (0x1999999999999A : Nat)) := by
  decide +kernel

/- NOT PROVED: monotonicity / nearest stated on TEXT (they are stated on the value mant × 10^ex that `parseDec` extracts from
   the text); 17-digit sufficiency (above); that `formatShortest` is the *shortest* and *closest* round-tripping text. Nothing about hexadecimal float text.
   (`roundRat_nearest` does cover a result that is a power of two reached from below: the half unit is that of num/den's
   binade, the finer one.) -/

end floattext
/-! ## 14. GEOADD is a ZADD of the geohash score; the geohash bit tricks

  Model: Model/Handler4.lean (`geoAdd`, `geoScore`), Model/Geohash.lean (`interleave64`, `deinterleave64`,
  `encode`), exact float arithmetic in Model/F64More.lean.  Tie: RESP streams with GEO commands mixed into
  sorted-set commands on the same keys, `api GeoAdd` in the embedded-API streams, and the `geo` operation lines
  (float operations and geohash functions of the real code against the model on limits and random operands). -/

section geo
open NodisVerif.Proofs.GeoAdd NodisVerif.Proofs.GeoBits NodisVerif.Geohash NodisVerif.Handler4

/-- GEOADD of one item IS `ZAdd(key, member, float64(hash))`: same store afterwards (index, backend, watch
    signals, change records), same reply -/
theorem geoadd_is_zadd (s : MState) (now : Int) (key m : Bytes) (lon lat : F64) :
    geoAdd s now key [(m, geoScore lon lat)] = Api.zadd s now key m (geoScore lon lat) :=
  geoAdd_single s now key m _

/-- GEOADD of several items: one `writeKey`, the `ZAdd` fold over the items in argument order on the sorted
    set, one watch signal, one ZADD record per item; a key of another type panics before anything changes -/
theorem geoadd_is_zadd_fold (s : MState) (now : Int) (key : Bytes) (it : Bytes × F64) (items : List (Bytes × F64)) :
    geoAdd s now key (it :: items) =
      (match Api.asZSet (Store.writeKey s now key (some (.zset DsZSet.empty))).1 key with
       | none => ((Store.writeKey s now key (some (.zset DsZSet.empty))).1, .panic)
       | some z =>
         (emitAll key (it :: items)
            (Store.signal (Api.setVal (Store.writeKey s now key (some (.zset DsZSet.empty))).1 key (.zset (zaddAll z (it :: items)).1)) key),
          .int (zaddAll z (it :: items)).2)) :=
  geoAdd_eq s now key it items

/-- the fold keeps the sorted-set invariant (dictionary = index, strict (score, member) order) -/
theorem geoadd_keeps_wf : ∀ (items : List (Bytes × F64)) (z : ZSet) (acc : Int), z.WF →
    (∀ it ∈ items, F64.isNaN it.2 = false) →
    (items.foldl (fun (a : ZSet × Int) it => ((DsZSet.zAdd a.1 it.1 it.2).1, a.2 + (DsZSet.zAdd a.1 it.1 it.2).2)) (z, acc)).1.WF := by
  intro items
  induction items with
  | nil => intro z acc h _; exact h
  | cons it rest ih =>
    intro z acc h hs
    exact ih _ _ (zadd_wf z h it.1 it.2 (hs it List.mem_cons_self)) (fun x hx => hs x (List.mem_cons_of_mem _ hx))

theorem geoadd_value_wf (z : ZSet) (h : z.WF) (items : List (Bytes × F64)) (hs : ∀ it ∈ items, F64.isNaN it.2 = false) :
    (zaddAll z items).1.WF := geoadd_keeps_wf items z 0 h hs

/-- the score GEOADD stores is never NaN (`float64` of an unsigned integer: zero, or a packed pattern below +Inf's) -/
theorem geoadd_score_not_nan (lon lat : F64) : F64.isNaN (geoScore lon lat) = false :=
  Proofs.F64NotNaN.ofNat_not_nan _

/-- so GEOADD keeps the sorted-set invariant, for every list of (member, longitude, latitude) - in range, on the
    limits, outside (score 0), repeated members, equal points -/
theorem geoadd_keeps_sorted_set (z : ZSet) (h : z.WF) (items : List (Bytes × F64 × F64)) :
    (zaddAll z (items.map fun it => (it.1, geoScore it.2.1 it.2.2))).1.WF := by
  apply geoadd_value_wf z h
  intro it hit
  rw [List.mem_map] at hit
  obtain ⟨x, _, rfl⟩ := hit
  exact geoadd_score_not_nan _ _

/-- the handler: `GEOADD key lon lat member` with parsable coordinates and no NX / XX word hands
    `execCommand` exactly the closure of `ZADD key <float64(hash)> member` -/
theorem geoadd_handler_is_zadd (key lo la m : Bytes) (lon lat : F64)
    (h1 : floatG lo = .ok lon) (h2 : floatG la = .ok lat)
    (hn : Resp.opt [key, lo, la, m] "NX" = 0) (hx : Resp.opt [key, lo, la, m] "XX" = 0) :
    geoAddH [key, lo, la, m] =
      .exec fun s now _ => Handler.call (geoAdd s now key [(m, geoScore lon lat)]) fun s o => Handler.done s [.int (Handler.intOf o)] := by
  simp [geoAddH, hn, hx, parseItems, h1, h2, Handler3.Pre.run, bind, pure]

/-- `deinterleave64 (interleave64 x y) = (x, y)` for all 32-bit x and y (one lemma per direction for a
    mask-and-shift step, Proofs/GeoBits.lean; of the masks only the bit patterns are evaluated; no SAT procedure) -/
theorem deinterleave_interleave (x y : UInt64) (hx : x.toNat < 2 ^ 32) (hy : y.toNat < 2 ^ 32) :
    deinterleave64 (interleave64 x y) = (x, y) := Proofs.GeoBits.deinterleave_interleave x y hx hy

/-- interleaving two k-bit values (k ≤ 32) gives a 2k-bit value -/
theorem interleave_size (x y : UInt64) (k : Nat) (hk : k ≤ 32) (hx : x.toNat < 2 ^ k) (hy : y.toNat < 2 ^ k) :
    (interleave64 x y).toNat < 2 ^ (2 * k) := Proofs.GeoBits.interleave_lt x y k hk hx hy

/-- PARTIAL: an accepted position gives a 52-bit hash PROVIDED both scaled offsets
    truncate to less than 2^26.  What is missing for the full statement "accepted ⇒ 52 bits" is that it is
    FALSE on the limits (`encode_limit_finding` below: offset = 2^26 exactly, also for a longitude strictly
    below 180), and for the rest a monotonicity proof of the correctly rounded subtraction / division
    (not done); the tie compares the model's `encode` with the real code on the limits, their neighbours
    and random positions on every run -/
theorem encode_in_range_partial (lon lat : F64) (h : UInt64)
    (he : encode wgsLong wgsLat lon lat wgsStep = some h)
    (hlat : F64.toUInt32 (F64.mul (F64.div (F64.sub lat wgsLat.min) (F64.sub wgsLat.max wgsLat.min)) (F64.ofNat (2 ^ wgsStep))) < 2 ^ 26)
    (hlon : F64.toUInt32 (F64.mul (F64.div (F64.sub lon wgsLong.min) (F64.sub wgsLong.max wgsLong.min)) (F64.ofNat (2 ^ wgsStep))) < 2 ^ 26) :
    h.toNat < 2 ^ 52 := by
  rw [encode_eq _ _ _ _ _ _ he]
  have e : ∀ n : Nat, n < 2 ^ 26 → (UInt64.ofNat n).toNat < 2 ^ 26 := by
    intro n hn
    rw [UInt64.toNat_ofNat_of_lt' (Nat.lt_of_lt_of_le hn (by decide))]; exact hn
  exact interleave_size _ _ 26 (by omega) (e _ hlat) (e _ hlon)

/-- whatever the position, the hash has at most 64 bits and - both offsets being 32-bit values - is the
    interleaving of two 32-bit values that `deinterleave64` gives back -/
theorem encode_roundtrip (lon lat : F64) (h : UInt64) (he : encode wgsLong wgsLat lon lat wgsStep = some h) :
    ∃ x y : UInt64, x.toNat < 2 ^ 32 ∧ y.toNat < 2 ^ 32 ∧ h = interleave64 x y ∧ deinterleave64 h = (x, y) := by
  refine ⟨_, _, ofNat_toUInt32_lt _, ofNat_toUInt32_lt _, encode_eq _ _ _ _ _ _ he, ?_⟩
  rw [encode_eq _ _ _ _ _ _ he]
  exact Proofs.GeoBits.deinterleave_interleave _ _ (ofNat_toUInt32_lt _) (ofNat_toUInt32_lt _)

/-- an ordinary position: Palermo (13.361389, 38.115556) has the 52-bit hash Redis documents -/
example : encodeWGS84 0x402AB907FAA044AF 0x40430ECA89FC6DA4 = 3479099956230698 := by decide +kernel

/-- FINDING (D-9, D-10 in docs/WP-D-findings.md, not repaired): on the limits the hash is NOT a 52-bit value. Latitude
    85.05112878 (the maximum itself) sets bit 52; longitude 180 sets bit 53, and so does 179.99999999999997,
    a longitude strictly inside the range (its sum with 180 rounds to 360): `float64(hash)` then exceeds 2^53 and
    is no longer an exactly printed integer score.  The poles (latitude 90) are not rejected by GEOADD either:
    `Hash()` drops Encode's error and the member is stored with score 0 -/
theorem encode_limit_finding :
    (encodeWGS84 0x402AB907FAA044AF latMax).toNat ≥ 2 ^ 52 ∧
    (encodeWGS84 f180 0).toNat ≥ 2 ^ 53 ∧
    F64.lt 0x40667FFFFFFFFFFF f180 = true ∧ (encodeWGS84 0x40667FFFFFFFFFFF 0).toNat ≥ 2 ^ 53 ∧
    encode wgsLong wgsLat 0 f90 wgsStep = none ∧ geoScore 0 f90 = 0 := by
  decide +kernel

end geo

/-! ## 15. ZADD, the command (after the repair of A-48 and of the non-atomic multi-member ZADD)

  `Api.zaddPairs` mirrors the unexported `(*Nodis).zAddPairs` the ZADD handler calls: all the pairs of one
  command in ONE transaction, decided with Redis' option rules. `Spec.ZAdd` (Spec/ZAdd.lean) is the reference: the
  option rules of the command reference on a plain association list member ↦ score. -/
section zaddPairs
open NodisVerif.Api

/-- the loop of `zAddPairs` keeps the invariant: every option set, every pair list without a NaN score (the handler
    rejects NaN before anything is written), members repeated in one command included -/
theorem zaddPairs_loop_wf (nx xx gt lt : Bool) (z : ZSet) (h : z.WF) (pairs : List (Bytes × F64))
    (hn : ∀ p ∈ pairs, F64.isNaN p.2 = false) :
    (pairs.foldl (zaddStep nx xx gt lt) { z := z, added := 0, changed := 0, ops := [] }).z.WF :=
  (inv_zaddFold nx xx gt lt pairs _ (Inv.ofWF h) hn).toWF

/-- ZADD keeps the sorted set well formed, at the level of the store: whatever sorted set `key` holds when the
    transaction has taken the key (for a missing key without XX: the empty one), the sorted set it holds after the
    command is well formed, and no NaN is stored -/
theorem zaddPairs_wf (s : MState) (now : Int) (key : Bytes) (nx xx gt lt ch : Bool) (pairs : List (Bytes × F64))
    (hne : pairs ≠ []) (hn : ∀ p ∈ pairs, F64.isNaN p.2 = false) (z : ZSet) (hwf : z.WF)
    (hz : asZSet (Store.writeKey s now key (if xx then none else some (.zset DsZSet.empty))).1 key = some z)
    (hok : xx = true → (Store.writeKey s now key none).2 = true) :
    ∃ z', asZSet (zaddPairs s now key nx xx gt lt ch pairs).1 key = some z' ∧ z'.WF ∧
      ∀ m sc, zScore z' m = some sc → F64.isNaN sc = false := by
  refine ⟨_, (zaddPairs_some s now key nx xx gt lt ch pairs hne z hz hok).2, zaddPairs_loop_wf nx xx gt lt z hwf pairs hn, ?_⟩
  intro m sc hsc
  exact (zaddPairs_loop_wf nx xx gt lt z hwf pairs hn).noNaN m sc (Proofs.AListLemmas2.mem_of_get? _ _ _ hsc)

/-- THE OPTION RULES ARE REDIS': for every store, key, option set and non-empty pair list, the reply is the
    reference's (`added`, with CH `added + changed`) and the member ↦ score map the key holds afterwards is the
    reference's map - every member looked up in both gives the same score or the same absence.
    (`hz` / `hok` say that the key holds a sorted set when the transaction has taken it - for XX on a missing key
    see `zaddPairs_xx_missing`, for an empty pair list `zaddPairs_nil`; a key of another type panics.) -/
theorem zaddPairs_spec (s : MState) (now : Int) (key : Bytes) (nx xx gt lt ch : Bool) (pairs : List (Bytes × F64))
    (hne : pairs ≠ []) (z : ZSet)
    (hz : asZSet (Store.writeKey s now key (if xx then none else some (.zset DsZSet.empty))).1 key = some z)
    (hok : xx = true → (Store.writeKey s now key none).2 = true) :
    (zaddPairs s now key nx xx gt lt ch pairs).2 =
      .int (Spec.ZAdd.reply ch (Spec.ZAdd.zadd nx xx gt lt z.dict pairs)) ∧
    ∃ z', asZSet (zaddPairs s now key nx xx gt lt ch pairs).1 key = some z' ∧
      ∀ m, zScore z' m = Spec.ZAdd.find (Spec.ZAdd.zadd nx xx gt lt z.dict pairs).map m := by
  obtain ⟨h1, h2⟩ := zaddPairs_some s now key nx xx gt lt ch pairs hne z hz hok
  have hr := zaddFold_spec nx xx gt lt z pairs
  refine ⟨?_, _, h2, hr.map⟩
  rw [h1]
  unfold Spec.ZAdd.reply
  rw [hr.added, hr.changed]

/-- XX on a key that does not exist: reply 0, and the store is what taking the key left - no key is created -/
theorem zaddPairs_xx_missing (s : MState) (now : Int) (key : Bytes) (nx gt lt ch : Bool) (pairs : List (Bytes × F64))
    (hne : pairs ≠ []) (hmiss : (Store.writeKey s now key none).2 = false) :
    zaddPairs s now key nx true gt lt ch pairs = ((Store.writeKey s now key none).1, .int 0) := by
  unfold zaddPairs
  have hne' : pairs.isEmpty = false := by cases pairs <;> simp_all
  simp [hne', hmiss]

/-- no pair: nothing happens (the transaction is not even begun, so no key can be created and left empty) -/
theorem zaddPairs_nil (s : MState) (now : Int) (key : Bytes) (nx xx gt lt ch : Bool) :
    zaddPairs s now key nx xx gt lt ch [] = (s, .int 0) := rfl

/-- a ZADD without XX on a key that does not exist never leaves an empty key: the first pair is written -/
theorem zaddPairs_created_not_empty (nx gt lt : Bool) (pairs : List (Bytes × F64)) (hne : pairs ≠ []) :
    (pairs.foldl (zaddStep nx false gt lt) { z := DsZSet.empty, added := 0, changed := 0, ops := [] }).ops ≠ [] :=
  Proofs.ZAddPairs.zaddFold_empty_ops_ne nx gt lt pairs hne _ rfl

/-- the reference on the witness of A-48 (`abc` = {a ↦ 1, b ↦ 2, c ↦ 3}): `GT CH 5 a 1 b 9 new` updates a, leaves
    b (1 is not greater than 2), ADDS the new member, replies 2; `NX 7 a 8 x 9 x` adds x once (the second pair for
    x sees it), replies 1; `XX 4 zz` does nothing -/
example :
    let r := Spec.ZAdd.zadd false false true false abc.dict [([97], F64.ofNat 5), ([98], F64.ofNat 1), ([110], F64.ofNat 9)]
    Spec.ZAdd.reply true r = 2 ∧ Spec.ZAdd.reply false r = 1 ∧
    Spec.ZAdd.find r.map [97] = some (F64.ofNat 5) ∧ Spec.ZAdd.find r.map [98] = some (F64.ofNat 2) ∧
    Spec.ZAdd.find r.map [110] = some (F64.ofNat 9) := by decide +kernel

example :
    let r := Spec.ZAdd.zadd true false false false abc.dict [([97], F64.ofNat 7), ([120], F64.ofNat 8), ([120], F64.ofNat 9)]
    Spec.ZAdd.reply false r = 1 ∧ Spec.ZAdd.find r.map [97] = some (F64.ofNat 1) ∧
    Spec.ZAdd.find r.map [120] = some (F64.ofNat 8) := by decide +kernel

/-- the hypotheses of `zaddPairs_spec` / `zaddPairs_wf` are satisfiable: a Pebble store in which key "k" holds
    `abc`, options GT CH, three pairs -/
example :
    let s : MState := (zaddPairs { pebble := true } 0 [107] false false false false false
      [([97], F64.ofNat 1), ([98], F64.ofNat 2), ([99], F64.ofNat 3)]).1
    asZSet (Store.writeKey (Api.commit s) 1 [107] (some (.zset DsZSet.empty))).1 [107] = some abc ∧
    Handler.intOf (zaddPairs (Api.commit s) 1 [107] false false true false true
      [([97], F64.ofNat 5), ([98], F64.ofNat 1), ([110], F64.ofNat 9)]).2 = 2 := by decide +kernel

end zaddPairs

end NodisVerif.C04

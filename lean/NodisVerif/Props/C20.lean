import NodisVerif.Proofs.C20Seq
import NodisVerif.Proofs.GeoAdd
import NodisVerif.Proofs.ProtoWireBad
import NodisVerif.Proofs.ProtoWireAcct
import NodisVerif.Model.FeedWire
import NodisVerif.Proofs.C20ZAddPairs
/-
  C20 — The change feed replays on a replica.

  "Every state-changing command on an instance with a matching key watcher emits change records
   that, delivered in emission order through the wire encoding to an initially identical replica and
   applied there, bring the replica to the same logical state as the primary (same keys, types,
   values and deadlines).  Commands that change nothing emit nothing, records for one key are
   delivered in the order the commands took effect, and a watcher only receives records for keys
   matching its patterns."

  Model: the API functions of Model/Api.lean push a `FeedOp` at every `n.notify` site; `Feed.emission`
  = what a watcher with pattern * is handed for one call: the raw records, oldest first, corrected by the
  method's name where the record Model/Api.lean pushes differs from what nodis notifies (KeepTTL on the SET record
  of INCR.. / APPEND / SETRANGE / SETBIT, the SREM before SMOVE's SADD, nothing for a ZADD NX / HINCRBY that
  changed nothing, the CLEAR record, the operands of Z*STORE).  It is a repair of the model's records, not the
  image of a Go function.  `Feed.applyOp` = `Nodis.applyPatch` on the 31 record types some notify site emits
  (types 4, 5, 9, 27, 36 of applyPatch are answered `none`); it *parses* the rendered fields of a record
  (`Wire.parseArg`, `String.toInt?`, ...) and makes the corresponding API call; `Feed.applyAll` applies a batch
  in order and stops at the first record it cannot apply.

  Reference notions (Proofs/C20Core.lean, C20Call.lean, C20Seq.lean):
  * `Same now p r`: primary and replica satisfy the storage invariant `StoreInv` (C11) and show the
    same logical keyspace `Spec.Persist.logical · now` — the (name, value, deadline) triples of the
    live keys, cold values read through the backend; nothing shown is Go's nil string (`NoNil`; no API
    command creates one, it holds of the empty store and is preserved).
  * `Call`: the covered state-changing methods with their arguments; `Call.run` = what
    `Driver.callApi` calls; `Call.info` = what the driver hands to `Feed.emission` (for ZUnionStore /
    ZInterStore: operands, weights, aggregate); `Call.WF` = argument side conditions (int64
    deadlines/increments, lengths < 2^63, no NaN score); `Call.Region` = the finding regions
    (decidable in the logical content of the key; for the sorted-set stores: of the operands).
  * `zcoreSpec union K keys weights agg` (Proofs/C20ZStoreCore.lean): the result of ZUNION / ZINTER as a
    function of what the operand names show (`K = lookup p now`): `none` = the call panics (an operand
    of another type, ZINTER: an operand missing where it is checked), `some none` = unsupported,
    `some (some items)` = the (score, member) items; `zstorePost items L` = the destination afterwards.
  * `Replay now r c res` := ∃ r', Feed.applyAll r now (Feed.emission c res.2 res.1.feed.reverse) = some r'
                                  ∧ Same now res.1 r'.
  * sequences (Proofs/C20Seq.lean): `runCalls`, `applyBatches`, `CallsOK`, `lastTime`: primary and replica are drained
    after every call, as the driver does; each batch is applied at the time of its call.
-/
namespace NodisVerif.C20
open NodisVerif NodisVerif.Store NodisVerif.Spec.Persist NodisVerif.Proofs.C11 NodisVerif.Proofs.C20

/-- `Same` holds between the watched empty primary and an empty replica (any backends) -/
theorem same_empty (pebble pebble' : Bool) (t : Int) : Same t (emptyWatched pebble) (empty pebble') :=
  Proofs.C20.same_empty pebble pebble' t

/-- `Same` is about the logical keyspace: equal (name, value, deadline) lists -/
theorem same_logical {now : Int} {p r : MState} (h : Same now p r) : logical p now = logical r now := h.eq

/-- the same keyspace now is the same keyspace at every later time (keys expire on both sides) -/
theorem same_later {now t' : Int} {p r : MState} (h : Same now p r) (ht : now ≤ t') : Same t' p r := h.mono ht

/-! ### the rendered fields

  `FeedOp.args` holds the fields of a record as text (hex for bytes, decimal for numbers), the form in which the
  harness prints a `patch.Op`; this is not the protobuf encoding, which is the section "the wire encoding of change
  records" below. -/

/-- every field of a record parses back to the value it was rendered from -/
theorem fields_roundtrip (b : Bytes) (bs : List Bytes) (n : Int) (x : F64) (t : Bool) :
    Feed.pB (Bytes.toHex b) = some b ∧ (bs.map Bytes.toHex).mapM Feed.pB = some bs ∧
    Feed.pI (toString n) = some n ∧ Feed.pF (toString x) = some x ∧ Feed.pT (toString t) = some t :=
  ⟨pB_toHex b, mapM_pB_toHex bs, pI_toString n, pF_toString x, pT_toString t⟩

/-! ### MAIN THEOREM -/

/-
  Full statement: for every state-changing call c of the API, from `Same now p r` on a watched,
  drained primary, the replica can apply `Feed.emission` of the call and then shows the primary's
  logical keyspace.  It fails inside `Call.Region` (witnesses below); it is proved for the 70 methods
  of `Call` (list below, after `late_apply_finding`) outside the region.
-/
/-- one call: the replica applies, at the same time `now`, what the call hands to a watcher, and
    then shows the same logical keyspace as the primary — deletions, expiry changes, renames, pops,
    counters, conditional forms included.  Records are applied through their textual fields. -/
theorem replay_call_partial (c : Call) (hwf : c.WF) {now : Int} {p r : MState} (hs : Same now p r)
    (hl : p.listeners = true) (hfd : p.feed = []) (hreg : ¬ c.Region (lookup p now)) :
    ∃ r', Feed.applyAll r now (Feed.emission c.info (c.run p now).2 (c.run p now).1.feed.reverse) = some r' ∧
      Same now (c.run p now).1 r' :=
  (call_main c hwf hs hl hfd hreg).1

/-- ... and the watcher stays attached -/
theorem call_keeps_watcher (c : Call) (hwf : c.WF) {now : Int} {p r : MState} (hs : Same now p r)
    (hl : p.listeners = true) (hfd : p.feed = []) (hreg : ¬ c.Region (lookup p now)) :
    (c.run p now).1.listeners = true :=
  (call_main c hwf hs hl hfd hreg).2

/-- a sequence of calls, each at its own time, primary and replica drained after every call: the replica that
    applies each batch at the time of its call shows, at the time of the last call, what the primary shows.
    (Records carry absolute deadlines, so agreement at one time is agreement at every later time: `same_later`.) -/
theorem replay_sequence_partial (calls : List (Call × Int)) (t : Int) (p r : MState) (hs : Same t p r)
    (hl : p.listeners = true) (hfd : p.feed = []) (hok : CallsOK t calls p) :
    ∃ r', applyBatches r (runCalls calls p).2 = some r' ∧ Same (lastTime t calls) (runCalls calls p).1 r' :=
  Proofs.C20.replay_sequence calls t p r hs hl hfd hok

/-- from the empty store (either backend on either side) -/
theorem replay_from_empty_partial (pebble pebble' : Bool) (calls : List (Call × Int)) (t : Int)
    (hok : CallsOK t calls (emptyWatched pebble)) :
    ∃ r', applyBatches (empty pebble') (runCalls calls (emptyWatched pebble)).2 = some r' ∧
      Same (lastTime t calls) (runCalls calls (emptyWatched pebble)).1 r' :=
  replay_sequence calls t _ _ (same_empty pebble pebble' t) rfl rfl hok

/-! ### commands that change nothing emit nothing -/

/-- the read-only methods (`Read`: EXISTS KEYS RANDOMKEY TTL PTTL TYPE GET GETBIT BITCOUNT GETRANGE
    STRLEN LLEN LINDEX LRANGE, every hash / set / sorted-set read on one key, SRANDMEMBER) leave the
    feed alone, on any state -/
theorem reads_emit_nothing (q : Read) (s : MState) (now : Int) :
    (q.run s now).1.feed = s.feed ∧ (q.run s now).1.listeners = s.listeners :=
  ⟨congrArg Prod.fst (read_fl q s now), congrArg Prod.snd (read_fl q s now)⟩

theorem reads_hand_over_nothing (q : Read) (s : MState) (now : Int) (hfd : s.feed = []) (c : Feed.CallInfo)
    (hc : plainMethod c.method = true) :
    Feed.emission c (q.run s now).2 (q.run s now).1.feed.reverse = [] := by
  rw [emission_plain hc, show (q.run s now).1.feed = s.feed from congrArg Prod.fst (read_fl q s now), hfd]
  rfl

/-- conversely, for every covered call: if nothing is handed to the watchers, the logical keyspace
    is unchanged (so a change is never silent outside the finding regions) -/
theorem silent_when_unchanged_partial (c : Call) (hwf : c.WF) {now : Int} {p : MState} (hi : StoreInv p now)
    (hn : NoNil p now) (hl : p.listeners = true) (hfd : p.feed = []) (hreg : ¬ c.Region (lookup p now))
    (hsil : Feed.emission c.info (c.run p now).2 (c.run p now).1.feed.reverse = []) :
    logical (c.run p now).1 now = logical p now := by
  obtain ⟨⟨r', a, s⟩, _⟩ := call_main c hwf (Same.refl hi hn) hl hfd hreg
  rw [hsil] at a
  simp only [Feed.applyAll, Option.some.injEq] at a
  subst a
  exact s.eq

/-
  Full statement "a call that does not change the logical keyspace emits nothing": false in the
  model for SADD / SREM / HDEL / LINSERT / LREM / LTRIM / L|RPOP / ZADD / SETBIT / SET ... (they notify
  unconditionally); such records are harmless (`replay_call_partial` covers them).
-/
theorem emits_although_unchanged_finding :
    ((Call.sadd [107] [[109]]).run wSet 0).1.feed.map (·.typ) = [23] ∧
      logical ((Call.sadd [107] [[109]]).run wSet 0).1 0 = logical wSet 0 ∧
    ((Call.srem [107] [[120]]).run wSet 0).1.feed.map (·.typ) = [24] ∧
      logical ((Call.srem [107] [[120]]).run wSet 0).1 0 = logical wSet 0 ∧
    ((Call.hdel [107] [[120]]).run wHash 0).1.feed.map (·.typ) = [6] ∧
      logical ((Call.hdel [107] [[120]]).run wHash 0).1 0 = logical wHash 0 ∧
    ((Call.linsert [107] [120] [121] true).run wList 0).1.feed.map (·.typ) = [11] ∧
      logical ((Call.linsert [107] [120] [121] true).run wList 0).1 0 = logical wList 0 ∧
    ((Call.lrem [107] [120] 0).run wList 0).1.feed.map (·.typ) = [16] ∧
      logical ((Call.lrem [107] [120] 0).run wList 0).1 0 = logical wList 0 ∧
    ((Call.zadd [107] [109] 0x3ff0000000000000).run wZSet 0).1.feed.map (·.typ) = [26] ∧
      logical ((Call.zadd [107] [109] 0x3ff0000000000000).run wZSet 0).1 0 = logical wZSet 0 ∧
    ((Call.setBit [107] (-1) true).run wStr 0).1.feed.map (·.typ) = [25] ∧
      logical ((Call.setBit [107] (-1) true).run wStr 0).1 0 = logical wStr 0 ∧
    ((Call.set [107] [118] true).run wStr 0).1.feed.map (·.typ) = [25] ∧
      logical ((Call.set [107] [118] true).run wStr 0).1 0 = logical wStr 0 :=
  Proofs.C20.emits_although_unchanged_finding

/-- the conditional forms do keep silent when they change nothing -/
theorem silent_examples :
    ((Call.persist [107]).run wStr 0).1.feed.length = 0 ∧
    ((Call.hsetNX [107] [102] [119]).run wHash 0).1.feed.length = 0 ∧
    ((Call.lset [107] 5 [98]).run wList 0).1.feed.length = 0 ∧
    ((Call.zaddXX [107] [120] 0).run wZSet 0).1.feed.length = 0 ∧
    ((Call.setXX [120] [118] false).run wStr 0).1.feed.length = 0 ∧
    ((Call.lpushX [120] [118]).run wStr 0).1.feed.length = 0 ∧
    ((Call.del [[120]]).run wStr 0).1.feed.length = 0 ∧
    ((Call.rename [120] [121]).run wStr 0).1.feed.length = 0 := by
  refine ⟨by decide +kernel, by decide +kernel, by decide +kernel, by decide +kernel, by decide +kernel, by decide +kernel, by decide +kernel, by decide +kernel⟩

/-! ### a watcher only receives records for keys matching its patterns -/

/-- every record a covered call hands over names one of the call's key arguments (so filtering the
    feed by key pattern is well defined); for a single-key call (`c.keys = [k]`) all records name `k`.
    CLEAR hands over one CLEAR record, which names no key. -/
theorem records_name_their_key (c : Call) (hwf : c.WF) {now : Int} {p r : MState} (hs : Same now p r)
    (hl : p.listeners = true) (hfd : p.feed = []) (hreg : ¬ c.Region (lookup p now)) (hc : c ≠ .clear) :
    ∀ op ∈ Feed.emission c.info (c.run p now).2 (c.run p now).1.feed.reverse, op.key ∈ c.keys :=
  call_keys c hwf hs hl hfd hreg hc

/-- records are delivered in the order the commands took effect: a run hands over one batch per call,
    in call order, each stamped with the time of its call (within a batch: emission order) -/
theorem batches_in_call_order (calls : List (Call × Int)) (p : MState) :
    (runCalls calls p).2.map (·.2) = calls.map (·.2) := by
  induction calls generalizing p with
  | nil => rfl
  | cons cn rest ih => obtain ⟨c, now⟩ := cn; simp only [runCalls, List.map_cons, ih]

/-! ### the finding regions of the main theorem -/

/-- (a) `DecrBy k (-2^63)` on a missing key: the key is created, the counter overflows, the call
    fails; an empty string key stays on the primary, nothing is emitted, the replica differs -/
theorem replay_call_finding :
    (Call.decrBy [107] (-9223372036854775808)).Region (lookup w0 0) ∧
    logical w0 0 = [] ∧
    ((Call.decrBy [107] (-9223372036854775808)).run w0 0).1.feed.length = 0 ∧
    logical ((Call.decrBy [107] (-9223372036854775808)).run w0 0).1 0 = [([107], .str [], 0)] ∧
    ¬ Replay 0 (empty false) (Call.decrBy [107] (-9223372036854775808)).info
        ((Call.decrBy [107] (-9223372036854775808)).run w0 0) := by
  refine ⟨by show AddIntCreatesAndFails _ _ _; decide, by decide +kernel, by decide +kernel, by decide +kernel, ?_⟩
  exact not_replay_of_no_record _ (by decide +kernel) (emission_keep_nil (by decide +kernel) _) (by decide +kernel)

/-- (a) `SetRange k 2^31 ""` on a missing key: created, then the call panics -/
theorem replay_call_finding_setRange :
    (Call.setRange [107] 2147483648 []).Region (lookup w0 0) ∧
    ((Call.setRange [107] 2147483648 []).run w0 0).1.feed.length = 0 ∧
    logical ((Call.setRange [107] 2147483648 []).run w0 0).1 0 = [([107], .str [], 0)] ∧
    ¬ Replay 0 (empty false) (Call.setRange [107] 2147483648 []).info
        ((Call.setRange [107] 2147483648 []).run w0 0) := by
  refine ⟨by show SetRangeCreatesAndPanics _ _ _; decide, by decide +kernel, by decide +kernel, ?_⟩
  exact not_replay_of_no_record _ (by decide +kernel) (emission_keep_nil (by decide +kernel) _) (by decide +kernel)

/-- in the model `SetRange k 0 ""` on a missing key is *not* in the region: it emits a SET record
    with the empty value -/
theorem setRange_zero_emits :
    ((Call.setRange [107] 0 []).run w0 0).1.feed.map (·.typ) = [25] ∧
    ¬ (Call.setRange [107] 0 []).Region (lookup w0 0) :=
  ⟨by decide +kernel, by show ¬ SetRangeCreatesAndPanics _ _ _; decide⟩

/-- (b) `HMSet k {}` on a missing key: an empty hash on the primary, nothing emitted -/
theorem replay_call_finding_hmset :
    (Call.hmset [107] []).Region (lookup w0 0) ∧
    ((Call.hmset [107] []).run w0 0).1.feed.length = 0 ∧
    logical ((Call.hmset [107] []).run w0 0).1 0 = [([107], .hash [], 0)] ∧
    ¬ Replay 0 (empty false) (Call.hmset [107] []).info ((Call.hmset [107] []).run w0 0) := by
  refine ⟨by show HMSetCreatesEmpty _ _; decide, by decide +kernel, by decide +kernel, ?_⟩
  exact not_replay_of_no_record _ (by decide +kernel) (emission_plain (by decide +kernel) _ _) (by decide +kernel)

/-- (b) in the model `SAdd k` / `LPush k` without members emit a record without fields; the replica
    creates the same empty collection (`replay_call_partial` covers them: no region) -/
theorem sadd_lpush_empty_emit :
    ((Call.sadd [107] []).run w0 0).1.feed.map (fun op => (op.typ, op.args)) = [(23, [])] ∧
    logical ((Call.sadd [107] []).run w0 0).1 0 = [([107], .set [], 0)] ∧
    ((Call.lpush [107] []).run w0 0).1.feed.map (fun op => (op.typ, op.args)) = [(14, [])] ∧
    logical ((Call.lpush [107] []).run w0 0).1 0 = [([107], .list DsList.empty, 0)] :=
  ⟨by decide +kernel, by decide +kernel, by decide +kernel, by decide +kernel⟩

/-! ### ZUnionStore / ZInterStore: the replica re-executes the command -/

/-- the two methods, stated on the API function: the record carries destination, operands, weights and
    aggregate; the replica (same logical keyspace, any backend, any object identities) re-executes the
    command on its own copies of the operands and ends with the primary's logical keyspace.  Covers: an
    empty result (DEL record), the destination among the operands or holding another type, missing /
    expired operands (`lookup … = none`), a failing call (nothing emitted, nothing changed).  This is
    `replay_call_partial` for `Call.zunionStore` / `Call.zinterStore`. -/
theorem replay_call_zstore_partial (union : Bool) (dst : Bytes) (keys : List Bytes) (weights : List F64) (agg : Bytes)
    {now : Int} {p r : MState} (hs : Same now p r) (hl : p.listeners = true) (hfd : p.feed = [])
    (hreg : ¬ ZStoreNaN (lookup p now) union keys weights agg) :
    ∃ r', Feed.applyAll r now
        (Feed.emission { method := if union then "ZUnionStore" else "ZInterStore", keys := keys, weights := weights,
                         aggregate := agg }
          (Api.zstore union p now dst keys weights agg).2 (Api.zstore union p now dst keys weights agg).1.feed.reverse)
        = some r' ∧
      Same now (Api.zstore union p now dst keys weights agg).1 r' :=
  (zstore_main union hs hl hfd _ (by cases union <;> simp) dst keys weights agg rfl rfl rfl hreg).1

/-- why: result and effect of the command are functions of the logical keyspace.  With `items` the
    result computed from what the operands show, the destination afterwards shows `zstorePost items`
    of what it showed before (nothing for an empty result; otherwise the sorted set built from the
    items, under the deadline the destination had, none if it was created), every other name is
    unchanged, and exactly one record is appended to the feed (DEL for an empty result) -/
theorem zstore_effect (union : Bool) {s : MState} {now : Int} (h : StoreInv s now) (dst : Bytes) (keys : List Bytes)
    (weights : List F64) (agg : Bytes) (items : List DsZSet.Item)
    (he : zcoreSpec union (lookup s now) keys weights agg = some (some items)) :
    (∀ k', lookup (Api.zstore union s now dst keys weights agg).1 now k' =
      upd (lookup s now) dst (zstorePost items (lookup s now dst)) k') ∧
    (s.listeners = true →
      (Api.zstore union s now dst keys weights agg).1.feed = zstoreOp union dst items :: s.feed) :=
  ⟨(zstore_look' union h dst keys weights agg items he).2.1,
   fun hl => congrArg Prod.fst ((zstore_look' union h dst keys weights agg items he).2.2 hl)⟩

/-- a failing call (an operand of another type; unsupported arithmetic) emits nothing and changes nothing -/
theorem zstore_fails_silent (union : Bool) {s : MState} {now : Int} (h : StoreInv s now) (dst : Bytes)
    (keys : List Bytes) (weights : List F64) (agg : Bytes)
    (he : zcoreSpec union (lookup s now) keys weights agg = none ∨
          zcoreSpec union (lookup s now) keys weights agg = some none) :
    (Api.zstore union s now dst keys weights agg).1.feed = s.feed ∧
    logical (Api.zstore union s now dst keys weights agg).1 now = logical s now :=
  ⟨congrArg Prod.fst (zstore_fails union h dst keys weights agg he).fl,
   logical_ext h.idxSorted (zstore_fails union h dst keys weights agg he).inv.idxSorted
     (zstore_fails union h dst keys weights agg he).look⟩

/-- region of the two methods: an aggregated score of the result is NaN.  Witness: ZUNIONSTORE d 1 k
    WEIGHTS 0 where k holds a member with score +inf gives the destination the score NaN; the storage
    invariant (every stored sorted set is NaN-free) fails on the primary afterwards, and `Same`
    includes the invariant, so no replica state satisfies the conclusion. -/
theorem replay_call_finding_zstore_nan :
    (Call.zunionStore [100] [[107]] [0] []).Region (lookup wInf 0) ∧
    lookup ((Call.zunionStore [100] [[107]] [0] []).run wInf 0).1 0 [100] =
      some (.zset ⟨[([109], F64.qnan)], [(F64.qnan, [109])]⟩, 0) ∧
    ¬ StoreInv ((Call.zunionStore [100] [[107]] [0] []).run wInf 0).1 0 ∧
    ∀ r, ¬ Replay 0 r (Call.zunionStore [100] [[107]] [0] []).info ((Call.zunionStore [100] [[107]] [0] []).run wInf 0) := by
  have hreg : ZStoreNaN (lookup wInf 0) true [[107]] [0] [] := by
    unfold ZStoreNaN zstoreNaN; rw [core_wInf]; decide +kernel
  obtain ⟨_, lk, _⟩ := zstore_look' true wInf_ok.1.invP [100] [[107]] [0] [] _ core_wInf
  have hlook : lookup (Api.zstore true wInf 0 [100] [[107]] [0] []).1 0 [100] =
      some (.zset ⟨[([109], F64.qnan)], [(F64.qnan, [109])]⟩, 0) := by
    rw [lk, upd_same]; decide +kernel
  have hinv : ¬ StoreInv (Api.zstore true wInf 0 [100] [[107]] [0] []).1 0 := by
    intro hi
    have hg := lookup_good hi hlook
    have := hg.1.noNaN [109] F64.qnan (by simp)
    revert this; decide +kernel
  exact ⟨hreg, hlook, hinv, fun r ⟨_, _, s⟩ => hinv s.invP⟩

/-- non-vacuity and shape of the record: on k = {m: 1.0}, l = {m: 2.0} (reached through the API),
    ZUNIONSTORE d 2 k l is outside the region, hands over one record of type 34 carrying aggregate,
    operands, separator (no weights), and leaves d = {m: 3.0} -/
theorem zunionStore_example :
    logical wZ2 0 = [([107], .zset ⟨[([109], 0x3ff0000000000000)], [(0x3ff0000000000000, [109])]⟩, 0),
                     ([108], .zset ⟨[([109], 0x4000000000000000)], [(0x4000000000000000, [109])]⟩, 0)] ∧
    ¬ (Call.zunionStore [100] [[107], [108]] [] []).Region (lookup wZ2 0) ∧
    Feed.emission (Call.zunionStore [100] [[107], [108]] [] []).info
        ((Call.zunionStore [100] [[107], [108]] [] []).run wZ2 0).2
        ((Call.zunionStore [100] [[107], [108]] [] []).run wZ2 0).1.feed.reverse =
      [{ typ := 34, key := [100], args := [Bytes.toHex [], Bytes.toHex [107], Bytes.toHex [108], "|"] }] ∧
    lookup ((Call.zunionStore [100] [[107], [108]] [] []).run wZ2 0).1 0 [100] =
      some (.zset ⟨[([109], 0x4008000000000000)], [(0x4008000000000000, [109])]⟩, 0) := by
  have hreg : ¬ ZStoreNaN (lookup wZ2 0) true [[107], [108]] [] [] := by
    unfold ZStoreNaN zstoreNaN; rw [core_wZ2]; decide +kernel
  obtain ⟨_, lk, _⟩ := zstore_look' true wZ2_ok.1.invP [100] [[107], [108]] [] [] _ core_wZ2
  refine ⟨by decide +kernel, hreg, ?_, ?_⟩
  · show Feed.emission _ _ (Api.zstore true wZ2 0 [100] [[107], [108]] [] []).1.feed.reverse = _
    rw [zstore_feed true wZ2_ok.1.invP wZ2_ok.2.1 wZ2_ok.2.2 _ _ _ _ _ core_wZ2]
    exact emission_zstoreOp (c := (Call.zunionStore [100] [[107], [108]] [] []).info) (Or.inl rfl) _ true [100] _
  · show lookup (Api.zstore true wZ2 0 [100] [[107], [108]] [] []).1 0 [100] = _
    rw [lk, upd_same]
    decide +kernel

/-- the hypotheses of `replay_call_partial` hold for that call (primary = its own replica) -/
example : (Call.zunionStore [100] [[107], [108]] [] []).WF ∧ Same 0 wZ2 wZ2 ∧ wZ2.listeners = true ∧ wZ2.feed = [] ∧
    ¬ (Call.zunionStore [100] [[107], [108]] [] []).Region (lookup wZ2 0) :=
  ⟨trivial, wZ2_ok.1, wZ2_ok.2.1, wZ2_ok.2.2, zunionStore_example.2.1⟩

/-- ... hence (theorem) a replica applying the record shows d = {m: 3.0} too -/
example : ∃ r', Feed.applyAll wZ2 0
      [{ typ := 34, key := [100], args := [Bytes.toHex [], Bytes.toHex [107], Bytes.toHex [108], "|"] }] = some r' ∧
    lookup r' 0 [100] = some (.zset ⟨[([109], 0x4008000000000000)], [(0x4008000000000000, [109])]⟩, 0) := by
  obtain ⟨r', a, s⟩ := replay_call_partial (.zunionStore [100] [[107], [108]] [] []) trivial wZ2_ok.1 wZ2_ok.2.1
    wZ2_ok.2.2 zunionStore_example.2.1
  rw [zunionStore_example.2.2.1] at a
  exact ⟨r', a, by rw [s.look]; exact zunionStore_example.2.2.2⟩

/-- empty result, destination among the operands: on k = {m: 1.0}, l = {n: 2.0}, ZINTERSTORE k 2 k l
    hands over a DEL record for k, and k is gone -/
theorem zinterStore_empty_example :
    ¬ (Call.zinterStore [107] [[107], [108]] [] []).Region (lookup wZ3 0) ∧
    Feed.emission (Call.zinterStore [107] [[107], [108]] [] []).info
        ((Call.zinterStore [107] [[107], [108]] [] []).run wZ3 0).2
        ((Call.zinterStore [107] [[107], [108]] [] []).run wZ3 0).1.feed.reverse = [{ typ := 2, key := [107] }] ∧
    (lookup wZ3 0 [107]).isSome = true ∧
    lookup ((Call.zinterStore [107] [[107], [108]] [] []).run wZ3 0).1 0 [107] = none := by
  have hreg : ¬ ZStoreNaN (lookup wZ3 0) false [[107], [108]] [] [] := by
    unfold ZStoreNaN zstoreNaN; rw [core_wZ3]; decide +kernel
  obtain ⟨_, lk, _⟩ := zstore_look' false wZ3_ok.1.invP [107] [[107], [108]] [] [] _ core_wZ3
  refine ⟨hreg, ?_, by decide +kernel, ?_⟩
  · show Feed.emission _ _ (Api.zstore false wZ3 0 [107] [[107], [108]] [] []).1.feed.reverse = _
    rw [zstore_feed false wZ3_ok.1.invP wZ3_ok.2.1 wZ3_ok.2.2 _ _ _ _ _ core_wZ3]
    exact emission_zstoreOp (c := (Call.zinterStore [107] [[107], [108]] [] []).info) (Or.inr rfl) _ false [107] _
  · show lookup (Api.zstore false wZ3 0 [107] [[107], [108]] [] []).1 0 [107] = _
    rw [lk, upd_same]
    rfl

/-- an operand of another type (k holds a string): nothing emitted, nothing changed -/
theorem zunionStore_wrongtype_example :
    ((Call.zunionStore [100] [[107]] [] []).run wStr 0).1.feed = [] ∧
    ∀ k, lookup ((Call.zunionStore [100] [[107]] [] []).run wStr 0).1 0 k = lookup wStr 0 k := by
  have kept := zstore_fails true wStr_ok.1.invP [100] [[107]] [] [] (Or.inl core_wStr)
  exact ⟨(congrArg Prod.fst kept.fl).trans wStr_ok.2.2, kept.look⟩

/-! ### non-vacuity -/

/-- a concrete run: SETEX k "5" 10 at t=1, APPEND k "6" at t=2, RENAME k k' at t=3 on the watched empty
    primary satisfies every hypothesis of `replay_from_empty_partial`; the primary hands over three
    batches and ends with k' = "56" expiring at 10001 -/
example : CallsOK 0 [(.setEX [107] [53] 10, 1), (.append [107] [54], 2), (.rename [107] [108], 3)]
    (emptyWatched false) :=
  ⟨by decide +kernel, trivial, fun h => h, by decide +kernel, trivial, fun h => h, by decide +kernel, trivial, fun h => h, trivial⟩
example : (runCalls [(.setEX [107] [53] 10, 1), (.append [107] [54], 2), (.rename [107] [108], 3)]
    (emptyWatched false)).2.map (fun b => b.1.map (·.typ)) = [[25], [25], [32]] := by decide +kernel
example : logical (runCalls [(.setEX [107] [53] 10, 1), (.append [107] [54], 2), (.rename [107] [108], 3)]
    (emptyWatched false)).1 3 = [([108], .str [53, 54], 10001)] := by decide +kernel

/-- hence (theorem) an empty Pebble replica applying the three batches ends equal -/
example : ∃ r', applyBatches (empty true)
      (runCalls [(.setEX [107] [53] 10, 1), (.append [107] [54], 2), (.rename [107] [108], 3)] (emptyWatched false)).2
      = some r' ∧ logical r' 3 = [([108], .str [53, 54], 10001)] := by
  obtain ⟨r', a, s⟩ := replay_from_empty_partial false true
    [(.setEX [107] [53] 10, 1), (.append [107] [54], 2), (.rename [107] [108], 3)] 0
    ⟨by decide +kernel, trivial, fun h => h, by decide +kernel, trivial, fun h => h, by decide +kernel, trivial, fun h => h, trivial⟩
  refine ⟨r', a, ?_⟩
  have h3 : logical r' 3 = _ := s.eq.symm
  rw [h3]
  decide +kernel

/-- hypotheses of the counter theorem are satisfiable: INCR on an existing key is outside the region -/
example : ¬ (Call.incr [107]).Region (lookup wStr 0) := by
  show ¬ AddIntCreatesAndFails _ _ _; decide +kernel
example : Same 0 wStr wStr ∧ wStr.listeners = true ∧ wStr.feed = [] := wStr_ok

/-! ### applying records late -/

/-- records must reach the replica before the clock passes a deadline the record does not carry: an
    HSET applied after the key's deadline has passed re-creates the key (without deadline) on the
    replica, while on the primary the key is gone; applied at the time of the call, the replica agrees
    with the primary at every later time.  (The closed loop of the check therefore replicates before
    every clock step.) -/
theorem late_apply_finding :
    logical wHashExp 5 = [([107], .hash [([102], [118])], 10)] ∧
    (Api.hset wHashExp 5 [107] [103] [119]).1.feed.map (·.typ) = [10] ∧
    logical (Api.hset wHashExp 5 [107] [103] [119]).1 5 = [([107], .hash [([102], [118]), ([103], [119])], 10)] ∧
    logical (Api.hset wHashExp 5 [107] [103] [119]).1 20 = [] ∧
    (∃ r', Feed.applyAll wHashExp 5 [opHSet [107] [103] [119]] = some r' ∧
      logical r' 5 = logical (Api.hset wHashExp 5 [107] [103] [119]).1 5 ∧ logical r' 20 = []) ∧
    (∃ r', Feed.applyAll wHashExp 20 [opHSet [107] [103] [119]] = some r' ∧
      logical r' 20 = [([107], .hash [([103], [119])], 0)]) :=
  Proofs.C20.late_apply_finding

/- COVERED by `replay_call_partial` / `replay_sequence_partial` (70 methods, `Call`):
     Del Unlink Expire ExpirePX ExpireNX ExpireXX ExpireLT ExpireGT ExpireAt ExpireAtNX ExpireAtXX ExpireAtLT
     ExpireAtGT Rename RenameNX Persist Clear HClear ZClear | Set GetSet SetEX SetPX SetNX SetXX Incr IncrBy Decr
     DecrBy IncrByFloat SetBit Append SetRange MSet | LPush RPush LPop RPop LInsert LPushX RPushX LRem LSet LTrim
     LPopRPush RPopLPush | HSet HDel HIncrBy HIncrByFloat HSetNX HMSet | SAdd SRem SPop SMove SDiffStore
     SInterStore SUnionStore | ZAdd ZAddXX ZAddNX ZAddLT ZAddGT ZIncrBy ZRem ZRemRangeByRank ZRemRangeByScore
     ZUnionStore ZInterStore.
   Regions (`Call.Region`, a predicate of the logical content of the key):
     * Incr/IncrBy/Decr/DecrBy: key missing and the counter operation fails (`replay_call_finding`);
     * SetRange: key missing and the call panics (`replay_call_finding_setRange`);
     * IncrByFloat / HIncrByFloat: the region predicates are empty (`replay_incrByFloat_any`, `replay_hincrByFloat_any`);
     * HMSet: key missing and no fields (`replay_call_finding_hmset`);
     * ZRem*: the key holds an *empty* sorted set and nothing is removed (the primary unlinks the key
       silently; not reachable through the API, no concrete witness proved);
     * ZIncrBy: the resulting score is NaN (inf + -inf, or a NaN increment through the embedded API): the
       sorted-set invariant does not cover NaN scores; no witness;
     * ZUnionStore / ZInterStore: an aggregated score of the result is NaN (`ZStoreNaN`: +inf · 0,
       +inf + -inf, a NaN weight through the embedded API): the stored sorted set violates the storage
       invariant, which `Same` includes (`replay_call_finding_zstore_nan`; whether the logical keyspaces
       still agree inside the region is not decided).  Everything else is covered: empty result,
       destination among the operands / of another type / missing, missing or expired operands, failing
       calls (`zstore_fails_silent`).
   NOT COVERED (no theorem, no counterexample): the multi-key readers Scan, ZUnion, ZInter are not in `Read`
     (SDiff/SInter/SUnion are proved read-only: `SetReader`; the computations of ZUnion / ZInter are proved
     read-only as part of the store commands: `zcore_spec`).
   Later replica time: `late_apply_finding` — a record applied after a deadline it does not carry has
     passed diverges; batches are applied at the time of their call (`applyBatches`), and the result
     holds at every later time (`same_later`). -/

/-! ### IncrByFloat / HIncrByFloat without a region

  `Api.formatFloat` (Model/FloatDec.lean) is total and the text "0" of a fresh key parses, so the cases
  `IncrByFloatCreatesAndFails` / `HIncrByFloatCreatesAndFails` of `Call.Region` are empty and these two calls replay
  for EVERY increment (fractions, exponents, ±Inf, NaN): the two theorems are `replay_call_partial` with its region
  hypothesis discharged. -/

theorem replay_incrByFloat_any (k : Bytes) (d : F64) (hwf : (Call.incrByFloat k d).WF) {now : Int} {p r : MState}
    (hs : Same now p r) (hl : p.listeners = true) (hfd : p.feed = []) :
    ∃ r', Feed.applyAll r now (Feed.emission (Call.incrByFloat k d).info ((Call.incrByFloat k d).run p now).2
        ((Call.incrByFloat k d).run p now).1.feed.reverse) = some r' ∧
      Same now ((Call.incrByFloat k d).run p now).1 r' :=
  replay_call_partial _ hwf hs hl hfd (call_region_incrByFloat _ k d)

theorem replay_hincrByFloat_any (k f : Bytes) (d : F64) (hwf : (Call.hincrByFloat k f d).WF) {now : Int} {p r : MState}
    (hs : Same now p r) (hl : p.listeners = true) (hfd : p.feed = []) :
    ∃ r', Feed.applyAll r now (Feed.emission (Call.hincrByFloat k f d).info ((Call.hincrByFloat k f d).run p now).2
        ((Call.hincrByFloat k f d).run p now).1.feed.reverse) = some r' ∧
      Same now ((Call.hincrByFloat k f d).run p now).1 r' :=
  replay_call_partial _ hwf hs hl hfd (call_region_hincrByFloat _ k f d)

/-- the well-formedness side conditions are satisfiable: an increment of 0.1 on key "k", field "f" -/
example : (Call.incrByFloat [107] 0x3FB999999999999A).WF ∧ (Call.hincrByFloat [107] [102] 0x3FB999999999999A).WF := by
  refine ⟨?_, ?_⟩
  · show True; trivial
  · show ([102] : Bytes).length + 1040 < 2 ^ 63; decide +kernel
/-! ### GEOADD's records

  `GeoAdd` (Model/Handler4.lean `geoAdd`) emits one ZADD record per item - `patch.OpZAdd{Key, Member,
  Score: float64(hash)}` - after the last `ZAdd`.  With one item the call IS `ZAdd(key, member, score)`
  (`C04.geoadd_is_zadd`: same store, same records), so `replay_call_partial` for the ZAdd call applies to it
  verbatim; for several items the records are, in order, those of the ZAdd calls item by item.  Tie: `api GeoAdd`
  in the zset family of this check (records handed to a real watcher = `Feed.emission`; closed loop). -/

section geoadd
open NodisVerif.Proofs.GeoAdd NodisVerif.Handler4

/-- with a watcher attached, GEOADD on a sorted-set key (or a missing key) appends exactly one ZADD record per
    item, in argument order (the feed is kept newest first), each naming the key, the member and the score stored -/
theorem geoadd_emits_zadd_records (s : MState) (now : Int) (key : Bytes) (it : Bytes × F64) (items : List (Bytes × F64))
    (hl : s.listeners = true) (z : ZSet)
    (hz : Api.asZSet (writeKey s now key (some (.zset DsZSet.empty))).1 key = some z) :
    (geoAdd s now key (it :: items)).1.feed = ((it :: items).map fun i => Api.opZAdd key i.1 i.2).reverse ++ s.feed := by
  rw [geoAdd_eq, hz]
  dsimp only
  have hf : fl (signal (Api.setVal (writeKey s now key (some (.zset DsZSet.empty))).1 key (.zset (zaddAll z (it :: items)).1)) key) = fl s := by
    rw [fl_signal, fl_setVal, fl_writeKey]
  have hl' : (signal (Api.setVal (writeKey s now key (some (.zset DsZSet.empty))).1 key (.zset (zaddAll z (it :: items)).1)) key).listeners = true :=
    (congrArg Prod.snd hf).trans hl
  rw [emitAll_feed key _ _ hl']
  exact congrArg (_ ++ ·) (congrArg Prod.fst hf)

/-- … and each of them is the record `ZAdd(key, member, score)` emits -/
theorem geoadd_record_is_zadd_record (s : MState) (now : Int) (key m : Bytes) (sc : F64) :
    (geoAdd s now key [(m, sc)]).1.feed = (Api.zadd s now key m sc).1.feed := by
  rw [geoAdd_single]

/-- hypotheses satisfiable: a fresh store with a watcher, two items -/
example : ∃ z, Api.asZSet (writeKey { listeners := true } 0 [103] (some (.zset DsZSet.empty))).1 [103] = some z := ⟨_, rfl⟩
example : ((geoAdd { listeners := true } 0 [103] [([97], 5), ([98], 7)]).1.feed.map fun r => (r.typ, r.key, r.args)) =
    [(26, [103], ["62", "7"]), (26, [103], ["61", "5"])] := by decide +kernel

end geoadd

/-! ### ZADD, the command (the repair of A-48 and of the non-atomic multi-member ZADD)

  The ZADD handler calls the unexported `(*Nodis).zAddPairs` (`Api.zaddPairs`): ONE transaction for all the pairs of
  one command, one ZADD record per member actually written (a pair skipped by NX / XX / GT / LT or by an equal score
  emits nothing, so a replica is never given a score the primary refused). It is not a `Call` (the embedded API does
  not export it); its replay theorem is stated here on its own, with the hypotheses of `replay_call_partial`.
  Tie: the ZADD commands of this check's closed loop over the network protocol (primary -> Encode/DecodeOp ->
  ApplyPatch -> replica, dumps equal) and the RESP streams of C04 / C16 (replies, final state). -/
section zaddPairs

/-- a replica that agrees with the drained, watched primary agrees with it again after applying the records of one
    ZADD command - every option set, every non-empty list of pairs with representable members and no NaN score -/
theorem replay_zaddPairs {now : Int} {p r : MState} (hs : Same now p r) (hl : p.listeners = true) (hfd : p.feed = [])
    (c : Feed.CallInfo) (hc : plainMethod c.method = true) (k : Bytes) (nx xx gt lt ch : Bool)
    (pairs : List (Bytes × F64)) (hne : pairs ≠ []) (hb : ∀ q ∈ pairs, PairOK q) :
    ∃ r', Feed.applyAll r now (Feed.emission c (Api.zaddPairs p now k nx xx gt lt ch pairs).2
        (Api.zaddPairs p now k nx xx gt lt ch pairs).1.feed.reverse) = some r' ∧
      Same now (Api.zaddPairs p now k nx xx gt lt ch pairs).1 r' :=
  zaddPairs_replay hs hl hfd c hc k nx xx gt lt ch pairs hne hb

/-- the records are those of the members written, in order: on the watched empty store, `ZADD k NX 1 a 2 a 3 b`
    emits ZADD a 1 and ZADD b 3 - not the refused second score of a -/
example : ((Api.zaddPairs (emptyWatched false) 0 [107] true false false false false
      [([97], F64.ofNat 1), ([97], F64.ofNat 2), ([98], F64.ofNat 3)]).1.feed.reverse.map fun r => (r.typ, r.key, r.args)) =
    [(26, [107], ["61", toString (F64.ofNat 1)]), (26, [107], ["62", toString (F64.ofNat 3)])] := by decide +kernel

/-- hypotheses satisfiable: the watched empty primary and the empty replica, GT CH with three pairs -/
example : Same 0 (emptyWatched false) (empty false) ∧ (emptyWatched false).listeners = true ∧ (emptyWatched false).feed = [] ∧
    plainMethod "ZAdd" = true ∧
    (∀ q ∈ [(([97] : Bytes), F64.ofNat 5), ([98], F64.ofNat 1), ([110], F64.ofNat 9)], PairOK q) := by
  refine ⟨same_empty false false 0, rfl, rfl, by decide, ?_⟩
  intro q hq
  simp only [List.mem_cons, List.not_mem_nil, or_false] at hq
  rcases hq with rfl | rfl | rfl <;> exact ⟨by decide +kernel, by decide⟩

end zaddPairs
/-! ### the wire encoding of change records (patch/patch.go `Op.Encode` / `DecodeOp` over protobuf)

  Model: `Model/ProtoWire.lean` — the proto3 wire format restricted to the field kinds of patch/op.proto
  (string, bytes, int64, bool, double, repeated string / bytes, packed repeated double), schema-driven:
  `marshal sch vs` (bytes + the error flag Marshal returns and `Op.Encode` drops), `unmarshal sch b`
  (values + retained unknown bytes, `none` = error), `encodeOp` / `decodeOp` = type byte + message over
  the table `opTable` of the 36 operation types.  The table is regenerated from patch/op.pb.go and
  patch/patch.go on every run and compared (`Tie.source_patch_table_is_the_model_table : patchOk …`, a theorem of the per-run file that bin/vlib.py writes); model and code are
  compared byte for byte on every run (checks/patchwire.py: every type x edge values, malformed inputs).

  That protobuf round-trips valid UTF-8 strings and all byte fields is proved here, not assumed.  Well-formed (`wfVals`, `Op.wf`; decidable): the value list fits the schema, int64 values are
  in range, `string` values (and every element of a repeated string) are valid UTF-8 (`validUTF8` = Go's
  utf8.Valid), every byte string is shorter than 2^63 (a Go slice length; the model's lists are
  unbounded), no retained unknown bytes. -/

section Wire
open NodisVerif.ProtoWire NodisVerif.Proofs.ProtoWire

/-- Unmarshal ∘ Marshal = id on well-formed values, for EVERY schema with distinct field numbers in
    1 … 2^29-1 (in particular every schema of the table: `wire_table_schemas_ok`), all sizes.
    proto3's "absent = default" needs no normalisation here: a field holding its default value is not
    emitted and decodes to the default it already is. Marshal reports no error. -/
theorem decode_encode (sch : Schema) (hs : schemaOk sch = true) (vs : List PVal) (hwf : wfVals sch vs = true) :
    decodeMsg sch (encodeMsg sch vs) = some vs ∧ (marshal sch vs).2 = false := by
  refine ⟨?_, marshal_ok hs hwf⟩
  unfold decodeMsg encodeMsg
  rw [unmarshal_marshal hs hwf]
  rfl

/-- … and nothing is retained as unknown -/
theorem unmarshal_marshal_exact (sch : Schema) (hs : schemaOk sch = true) (vs : List PVal)
    (hwf : wfVals sch vs = true) : unmarshal sch (marshal sch vs).1 = some { vals := vs, unknown := [] } :=
  unmarshal_marshal hs hwf

/-- every message schema of the table qualifies -/
theorem wire_table_schemas_ok (t : Nat) (sch : Schema) (h : schemaOf t = some sch) : schemaOk sch = true :=
  schemaOf_ok h

/-- Marshal emits the fields in field-number order (`orderedCoderFields`); the model emits them in schema
    order: in every schema of the table the two orders coincide, and the table's type numbers are 1 … 36 -/
theorem wire_table_fields_ascending :
    (opTable.all fun e => decide ((e.2.2.map (·.1)).Pairwise (· < ·))) = true ∧
    opTable.map (·.1) = (List.range 37).drop 1 := by
  decide +kernel

/-- DecodeOp (Encode op) = op for every operation type of the table and every well-formed record;
    Marshal reports no error for it -/
theorem decodeOp_encodeOp (op : Op) (h : op.wf = true) :
    decodeOp (encodeOp op) = .ok op ∧ encodeFails op = false :=
  ⟨Proofs.ProtoWire.decodeOp_encodeOp h, encodeFails_wf h⟩

/-- different well-formed records never share an encoding -/
theorem encode_injective (a b : Op) (ha : a.wf = true) (hb : b.wf = true) (h : encodeOp a = encodeOp b) :
    a = b := by
  have h1 := Proofs.ProtoWire.decodeOp_encodeOp ha
  have h2 := Proofs.ProtoWire.decodeOp_encodeOp hb
  rw [h] at h1
  rw [h1] at h2
  exact Except.ok.inj h2

/-- the same for messages of one schema -/
theorem encodeMsg_injective (sch : Schema) (hs : schemaOk sch = true) (vs ws : List PVal)
    (hv : wfVals sch vs = true) (hw : wfVals sch ws = true) (h : encodeMsg sch vs = encodeMsg sch ws) :
    vs = ws := by
  have h1 := (decode_encode sch hs vs hv).1
  have h2 := (decode_encode sch hs ws hw).1
  rw [h] at h1
  rw [h1] at h2
  exact Option.some.inj h2

/-- DecodeOp is total (the repair 12a5893 as a theorem): every input gives a record or one of three
    errors — empty input and unknown operation types are errors, not panics; and the model's answer does
    not depend on fuel: both loops (Unmarshal's field loop, the skipper of nested groups) give the same
    result for every amount of fuel at least the length of their input, so the `none` of an exhausted
    loop is never what the model answers. -/
theorem decode_total :
    decodeOp [] = .error .empty ∧
    (∀ (t : UInt8) (body : Bytes), schemaOf t.toNat = none → decodeOp (t :: body) = .error .unknownType) ∧
    (∀ (t : UInt8), schemaOf t.toNat = none ↔ (t.toNat = 0 ∨ 36 < t.toNat)) ∧
    (∀ (t : UInt8) (body : Bytes) (sch : Schema), schemaOf t.toNat = some sch →
      decodeOp (t :: body) = match unmarshal sch body with
        | none => .error .wire
        | some m => .ok { typ := t, msg := m }) ∧
    (∀ (sch : Schema) (f : Nat) (b : Bytes) (m : Msg), b.length ≤ f →
      decodeLoop sch f b m = decodeLoop sch b.length b m) ∧
    (∀ (f depth num : Nat) (b : Bytes), b.length < f →
      skipGroup f depth num b = skipGroup (b.length + 1) depth num b) := by
  refine ⟨rfl, ?_, ?_, ?_, ?_, ?_⟩
  · intro t body h
    simp only [decodeOp, h]
  · intro t
    -- the type bytes of the table are 1 … 36; `schemaOf` searches the table for the type byte
    have keys : opTable.map (·.1) = List.range' 1 36 := wire_table_fields_ascending.2.trans (by decide)
    rw [schemaOf, Option.map_eq_none_iff, List.find?_eq_none]
    constructor
    · intro h
      have : t.toNat ∉ List.range' 1 36 := by
        rw [← keys]
        intro hm
        obtain ⟨e, he, hk⟩ := List.mem_map.mp hm
        exact h e he (beq_iff_eq.mpr hk)
      rw [List.mem_range'_1] at this
      omega
    · intro h e he hb
      have : e.1 ∈ List.range' 1 36 := keys ▸ List.mem_map_of_mem he
      rw [List.mem_range'_1] at this
      have := beq_iff_eq.mp hb
      omega
  · intro t body sch h
    simp only [decodeOp, h]
    cases unmarshal sch body <;> rfl
  · intro sch f b m h
    exact decodeLoop_fuel sch f b.length b m h (Nat.le_refl _)
  · intro f depth num b h
    exact skipGroup_fuel f (b.length + 1) depth num b h (Nat.lt_succ_self _)

/-- the other half of the round trip — known finding A-200 in general form. A record a Go program can
    build (`Op.typed`: kinds fit, int64 in range, lengths below 2^63; strings hold any bytes) that is not
    well-formed (some `string` field or element of a repeated string is not valid UTF-8): Marshal fails,
    `Op.Encode` ships the truncated message, and DecodeOp ALWAYS rejects it -/
theorem encode_rejected (op : Op) (ht : op.typed = true) (hn : op.wf = false) :
    encodeFails op = true ∧ decodeOp (encodeOp op) = .error .wire := by
  unfold Op.typed at ht
  unfold Op.wf at hn
  cases hs : schemaOf op.typ.toNat with
  | none => simp [hs] at ht
  | some sch =>
    simp only [hs, Bool.and_eq_true, beq_iff_eq] at ht
    obtain ⟨htv, hu⟩ := ht
    simp only [hs, hu, BEq.rfl, Bool.and_true] at hn
    have hb := unmarshal_marshal_bad (schemaOf_ok hs) htv hn
    simp only [encodeFails, encodeOp, hs, marshalMsg, hb.1, if_true, decodeOp, hb.2]
    exact ⟨trivial, trivial⟩

/-- together: a record a Go program can build arrives as itself exactly when it is well-formed, and it
    never arrives as another record -/
theorem decodeOp_encodeOp_iff (op : Op) (ht : op.typed = true) :
    (decodeOp (encodeOp op) = .ok op ↔ op.wf = true) ∧
    (∀ op', decodeOp (encodeOp op) = .ok op' → op' = op) := by
  cases hw : op.wf with
  | true =>
    have h := Proofs.ProtoWire.decodeOp_encodeOp hw
    refine ⟨⟨fun _ => rfl, fun _ => h⟩, ?_⟩
    intro op' h'
    rw [h] at h'
    exact (Except.ok.inj h').symm
  | false =>
    have h := (encode_rejected _ ht hw).2
    refine ⟨⟨fun h' => ?_, fun h' => by cases h'⟩, ?_⟩
    · rw [h] at h'; cases h'
    · intro op' h'
      rw [h] at h'; cases h'

/-- what DecodeOp RETURNS, for any input whatsoever, is a record Marshal accepts: every `string` field and
    every element of a repeated string is valid UTF-8, every int64 is in range (`okVals` = field-wise
    `PVal.ok`) — so a replica never receives a name that is not UTF-8, and Encode of a decoded record
    never fails -/
theorem decoded_is_encodable (b : Bytes) (op : Op) (h : decodeOp b = .ok op) :
    encodeFails op = false ∧ ∃ sch, schemaOf op.typ.toNat = some sch ∧ okVals sch op.msg.vals = true :=
  ⟨decodeOp_encodable h, decodeOp_okVals h⟩

/-- DecodeOp ∘ Encode ∘ DecodeOp = DecodeOp. Whatever bytes a replica accepted (shorter than 2^63, no
    unknown fields retained): the decoded record is well-formed — byte accounting: the decoded values never
    hold more bytes than were consumed — so its encoding is the canonical one and decodes to the same record
    (a replica can ship a record on; non-canonical inputs are normalised after one hop) -/
theorem decode_reencode (b : Bytes) (op : Op) (h : decodeOp b = .ok op) (hb : b.length < 2 ^ 63)
    (hu : op.msg.unknown = []) : op.wf = true ∧ decodeOp (encodeOp op) = .ok op := by
  have hw := decodeOp_wf h hb hu
  exact ⟨hw, Proofs.ProtoWire.decodeOp_encodeOp hw⟩

/-- hypotheses satisfiable on a non-canonical input (Expiration first and twice, over-long key length) -/
example : decodeOp [25, 0x20, 5, 0x0a, 0x81, 0x00, 107, 0x20, 7]
      = .ok { typ := 25, msg := { vals := [.bytes [107], .bytes [], .bool false, .int 7] } } ∧
    encodeOp { typ := 25, msg := { vals := [.bytes [107], .bytes [], .bool false, .int 7] } } = [25, 0x0a, 1, 107, 0x20, 7] := by
  decide +kernel

/-- hypotheses satisfiable: typed, not well-formed (an element of HDEL's repeated string is not UTF-8) -/
example : ({ typ := 6, msg := { vals := [.bytes [104], .list [[102], [0xc3, 0x28], [103]]] } } : Op).typed = true ∧
    ({ typ := 6, msg := { vals := [.bytes [104], .list [[102], [0xc3, 0x28], [103]]] } } : Op).wf = false ∧
    encodeOp { typ := 6, msg := { vals := [.bytes [104], .list [[102], [0xc3, 0x28], [103]]] } }
      = [6, 0x0a, 1, 104, 0x12, 1, 102, 0x12, 2, 0xc3, 0x28] := by
  decide +kernel

/-- hypotheses satisfiable: a SET record with a two-byte UTF-8 key, a value that is not UTF-8, KeepTTL and
    a negative deadline; its encoding, byte for byte; a ZUNIONSTORE record with an empty operand name and
    -0.0 / NaN weights -/
example : ({ typ := 25, msg := { vals := [.bytes [0xc3, 0xa9], .bytes [0xff, 0x00], .bool true, .int (-1)] } } : Op).wf = true ∧
    encodeOp { typ := 25, msg := { vals := [.bytes [0xc3, 0xa9], .bytes [0xff, 0x00], .bool true, .int (-1)] } }
      = [25, 0x0a, 2, 0xc3, 0xa9, 0x12, 2, 0xff, 0x00, 0x18, 1, 0x20, 0xff, 0xff, 0xff, 0xff, 0xff, 0xff, 0xff, 0xff, 0xff, 0x01] ∧
    ({ typ := 34, msg := { vals := [.bytes [100], .list [[97], [], [98]], .f64s [0x8000000000000000, 0x7ff8000000000001], .bytes [83]] } } : Op).wf = true := by
  decide +kernel

/-- known finding A-200 inside the model: a record whose key is not valid UTF-8 is not well-formed;
    Marshal appends the key, reports the error, `Op.Encode` drops the error and ships the truncated
    message (the value is lost), and DecodeOp rejects what was shipped -/
theorem encode_invalid_utf8_finding :
    let op : Op := { typ := 25, msg := { vals := [.bytes [0xff], .bytes [118], .bool false, .int 0] } }
    op.wf = false ∧ encodeFails op = true ∧ encodeOp op = [25, 0x0a, 1, 0xff] ∧
    decodeOp (encodeOp op) = .error .wire := by
  decide +kernel

/-- what DecodeOp tolerates beyond Encode's output (Go's Unmarshal does): fields in any order, the last
    occurrence of a scalar wins, unknown fields (here number 5, a group holding a varint) are skipped and
    retained, packed and unpacked doubles mix; re-encoding is canonical, so DecodeOp is not injective -/
theorem decode_tolerant_examples :
    decodeOp [25, 0x20, 5, 0x0a, 1, 107, 0x2b, 0x08, 1, 0x2c, 0x20, 7, 0x0a, 1, 108]
      = .ok { typ := 25, msg := { vals := [.bytes [108], .bytes [], .bool false, .int 7], unknown := [0x2b, 0x08, 1, 0x2c] } } ∧
    decodeOp [34, 0x19, 0, 0, 0, 0, 0, 0, 0xf0, 0x3f, 0x1a, 8, 0, 0, 0, 0, 0, 0, 0, 0x40]
      = .ok { typ := 34, msg := { vals := [.bytes [], .list [], .f64s [0x3ff0000000000000, 0x4000000000000000], .bytes []] } } ∧
    decodeOp [25, 0x8a, 0x00, 1, 107] = decodeOp [25, 0x0a, 1, 107] := by
  decide +kernel

end Wire

/-! ### the feed through the wire (`Model/FeedWire.lean`)

  `Feed.viaWire` = a feed record as the typed `patch.Op`, `Op.Encode`d to bytes on the primary, `DecodeOp`ed
  on the replica, rendered again.  `Feed.wireNormal` (decidable; evaluated by the driver for every record a
  `replicate` line ships, on every run: a record that is not normal makes the model print WIRE-NOT-NORMAL and
  the run fail): the record's typed form is well-formed (`Op.wf`: UTF-8 names, int64 range) and the record is
  the canonical text of its typed form.  Under it the wire is the identity, so the replay theorems, which
  apply records "through their textual fields", hold verbatim for records that went through the bytes. -/

section FeedWire
open NodisVerif.ProtoWire NodisVerif.Proofs.ProtoWire

/-- a normal record arrives as itself -/
theorem viaWire_normal (op : FeedOp) (h : Feed.wireNormal op = true) : Feed.viaWire op = some op := by
  unfold Feed.wireNormal at h
  cases hw : Feed.toWire op with
  | none => simp [hw] at h
  | some w =>
    simp only [hw, Bool.and_eq_true] at h
    obtain ⟨hwf, hf⟩ := h
    cases hfw : Feed.fromWire w with
    | none => simp [hfw] at hf
    | some op' =>
      simp only [hfw, Bool.and_eq_true, beq_iff_eq] at hf
      obtain ⟨⟨h1, h2⟩, h3⟩ := hf
      have e : op' = op := by
        cases op'; cases op
        simp only at h1 h2 h3
        subst h1; subst h2; subst h3; rfl
      simp only [Feed.viaWire, hw, Option.bind_some, Feed.throughWire, Proofs.ProtoWire.decodeOp_encodeOp hwf,
        hfw, e]

/-- a batch of normal records arrives as itself, hence the replica that applies what arrived ends where
    the replica that applies the emitted records ends -/
theorem replicate_through_wire (ops : List FeedOp) (h : ∀ op ∈ ops, Feed.wireNormal op = true) :
    ops.mapM Feed.viaWire = some ops ∧
    ∀ (r : MState) (now : Int), (ops.mapM Feed.viaWire).bind (Feed.applyAll r now) = Feed.applyAll r now ops := by
  have hm : ops.mapM Feed.viaWire = some ops := by
    induction ops with
    | nil => rfl
    | cons op rest ih =>
      rw [List.mapM_cons, viaWire_normal op (h op (List.mem_cons_self ..)),
        ih (fun o ho => h o (List.mem_cons_of_mem _ ho))]
      rfl
  exact ⟨hm, fun r now => by rw [hm]; rfl⟩

/-- the main theorem through the bytes: the records of a covered call, Encoded, Decoded and then applied,
    bring the replica to the primary's logical keyspace — provided they are normal (checked on every
    shipped record of every run) -/
theorem replay_call_through_wire_partial (c : Call) (hwf : c.WF) {now : Int} {p r : MState} (hs : Same now p r)
    (hl : p.listeners = true) (hfd : p.feed = []) (hreg : ¬ c.Region (lookup p now))
    (hn : ∀ op ∈ Feed.emission c.info (c.run p now).2 (c.run p now).1.feed.reverse, Feed.wireNormal op = true) :
    ∃ r', ((Feed.emission c.info (c.run p now).2 (c.run p now).1.feed.reverse).mapM Feed.viaWire).bind
        (Feed.applyAll r now) = some r' ∧ Same now (c.run p now).1 r' := by
  rw [(replicate_through_wire _ hn).2 r now]
  exact replay_call_partial c hwf hs hl hfd hreg

theorem batchesViaWire_normal (bs : List (List FeedOp × Int))
    (h : ∀ b ∈ bs, ∀ op ∈ b.1, Feed.wireNormal op = true) : Feed.batchesViaWire bs = some bs := by
  unfold Feed.batchesViaWire
  induction bs with
  | nil => rfl
  | cons b rest ih =>
    rw [List.mapM_cons, (replicate_through_wire b.1 (h b (List.mem_cons_self ..))).1,
      ih (fun c hc => h c (List.mem_cons_of_mem _ hc))]
    rfl

/-- sequences of calls at non-decreasing times: every batch Encoded, Decoded and applied at the time of its
    call brings the replica to the primary's logical keyspace (hypothesis as above: the shipped records are
    normal, which the driver evaluates for every record of every run) -/
theorem replay_sequence_through_wire_partial (calls : List (Call × Int)) (t : Int) (p r : MState) (hs : Same t p r)
    (hl : p.listeners = true) (hfd : p.feed = []) (hok : CallsOK t calls p)
    (hn : ∀ b ∈ (runCalls calls p).2, ∀ op ∈ b.1, Feed.wireNormal op = true) :
    ∃ r', (Feed.batchesViaWire (runCalls calls p).2).bind (applyBatches r) = some r' ∧
      Same (lastTime t calls) (runCalls calls p).1 r' := by
  rw [batchesViaWire_normal _ hn]
  exact replay_sequence_partial calls t p r hs hl hfd hok

/-- the hypothesis is satisfiable and decided by evaluation: a SET with a deadline, a ZREMRANGEBYSCORE and a
    ZUNIONSTORE record are normal; a record naming a key that is not UTF-8 is not, and does not arrive (A-200) -/
example :
    Feed.wireNormal { typ := 25, key := [107], args := [Bytes.toHex [118], toString false, toString (1700000000000 : Int)] } = true ∧
    Feed.wireNormal { typ := 31, key := [122], args := [toString (4607182418800017408 : F64), toString (4611686018427387904 : F64), toString (0 : Int)] } = true ∧
    Feed.wireNormal { typ := 34, key := [100], args := [Bytes.toHex [115, 117, 109], Bytes.toHex [97], Bytes.toHex [98], "|", toString (4607182418800017408 : F64), toString (0 : F64)] } = true ∧
    Feed.wireNormal { typ := 25, key := [0xff], args := [Bytes.toHex [118], toString false, toString (0 : Int)] } = false ∧
    Feed.viaWire { typ := 25, key := [0xff], args := [Bytes.toHex [118], toString false, toString (0 : Int)] } = none := by
  -- each part: `toWire` of the record is computed by rewriting (the field parsers `Feed.pB` / `pI` / `pF` / `pT` run
  -- through String functions the kernel does not evaluate, so they are rewritten with their round-trip lemmas), then
  -- `Op.wf`, `fromWire` and the comparison with the record (for the last part: encode, decode) are evaluated by the kernel
  have h25 : schemaOf 25 = some [(1, .str), (2, .bytes), (3, .bool), (4, .int64)] := by decide
  have h31 : schemaOf 31 = some [(1, .str), (2, .int64), (3, .double), (4, .double)] := by decide
  have h34 : schemaOf 34 = some [(1, .str), (2, .repStr), (3, .repDouble), (4, .str)] := by decide
  refine ⟨?_, ?_, ?_, ?_, ?_⟩
  · simp only [Feed.wireNormal, Feed.toWire, h25, Feed.argsToVals, pB_toHex, pT_toString, pI_toString, List.drop]
    decide +kernel
  · simp only [Feed.wireNormal, Feed.toWire, h31, pF_toString, pI_toString]
    decide +kernel
  · have hk : (["61", "62", "|", "4607182418800017408", "0"] : List String).takeWhile (· ≠ "|") = ["61", "62"] := by decide
    have hd : (["61", "62", "|", "4607182418800017408", "0"] : List String).dropWhile (· ≠ "|") = ["|", "4607182418800017408", "0"] := by decide
    have e1 : Bytes.toHex [97] = "61" := by decide
    have e2 : Bytes.toHex [98] = "62" := by decide
    have e3 : toString (4607182418800017408 : F64) = "4607182418800017408" := by decide
    have e4 : toString (0 : F64) = "0" := by decide
    have p1 : Feed.pB "61" = some [97] := e1 ▸ pB_toHex [97]
    have p2 : Feed.pB "62" = some [98] := e2 ▸ pB_toHex [98]
    have p3 : Feed.pF "4607182418800017408" = some 4607182418800017408 := e3 ▸ pF_toString _
    have p4 : Feed.pF "0" = some 0 := e4 ▸ pF_toString _
    simp only [Feed.wireNormal, Feed.toWire, h34, e1, e2, e3, e4, hk, hd, List.drop, List.mapM_cons, List.mapM_nil, p1, p2, p3, p4, pB_toHex]
    decide +kernel
  · simp only [Feed.wireNormal, Feed.toWire, h25, Feed.argsToVals, pB_toHex, pT_toString, pI_toString, List.drop]
    decide +kernel
  · simp only [Feed.viaWire, Feed.toWire, h25, Feed.argsToVals, pB_toHex, pT_toString, pI_toString, List.drop]
    decide +kernel

end FeedWire

end NodisVerif.C20

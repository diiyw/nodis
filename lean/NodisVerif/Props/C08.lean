import NodisVerif.Proofs.C08Others
import NodisVerif.Proofs.C08Lookup
import NodisVerif.Proofs.C16Handlers
import NodisVerif.Proofs.GateProgExamples
import NodisVerif.Proofs.GateProgGone
import NodisVerif.Proofs.GateProgRun
/-
  C08 — MULTI/EXEC runs the queue exactly once, in order, isolated — or not at all.

  Everything is stated about `step H sv c` (one complete command `c` of connection `c.id` served by
  server state `sv`, Proofs/C08Step.lean) for an ARBITRARY handler table `H`, arbitrary server
  states (any store, any number of connections), arbitrary closures, and about `run` over arbitrary
  command-granularity schedules.  No well-formedness of the table is needed for C08.

  Scope note (isolation): one `step` is one complete command, so "no command of another client is
  served in the middle of the transaction" is formalised at COMMAND granularity: the queued closures
  of one EXEC run back to back, each on exactly the store its predecessor left
  (`exec_atomic_at_command_granularity`).  Isolation against *thread-level* interleavings inside
  the real server (several goroutines inside their handlers at the same time) is the subject of the
  last two sections, which are not about `step`: section gate has the gate `store.execMu` as a transition
  system (Model/Gate.lean) over the steps the implementation reports, for every schedule
  (`exec_section_isolated`, `exec_section_isolated_trace`, `watch_check_and_bodies_inside_section`); section
  gateprog has the code around the gate as a program model (Model/GateProg.lean), shows that it follows the
  protocol under every schedule (`gateprog_refines_gate`), transfers the protocol theorems to it
  (`gateprog_exec_gate_exclusive`, `gateprog_exec_section_isolated_trace`,
  `gateprog_watch_check_and_bodies_inside_section`) and proves directly on the program what has no protocol
  counterpart (`gate_released_on_every_path`, `after_exec_discard_clean`).  Goroutines that serve no connection (embedded
  callers, background eviction) are outside the gate: the theorems say so explicitly.

  Model deviations from the Redis reference that are visible here (not part of C08's text, reported):
  * DISCARD outside MULTI replies OK (Redis: "ERR DISCARD without MULTI") — `discard_runs_none` holds
    in every state.
  * EXEC's abort reply on a dirty watch is the null *bulk* `$-1` (Redis RESP2: null array `*-1`).
-/
namespace NodisVerif.C08
open NodisVerif.Proofs.C08Step Resp Server

variable (H : Table) (sv : Server) (c : Cmd)

/-! ## between MULTI and EXEC commands are only queued -/

/-- In state "prepare" (with or without the error bit) a command whose handler hands a closure `b`
    to `execCommand` is acknowledged with exactly `+QUEUED`; the closure is not run (the step has
    no store effect at all), the store and the registry are untouched, `b` — and nothing else — is
    appended to the connection's queue, its state and watch map are as before, and every other
    connection is literally unchanged. -/
theorem queued_has_no_effect (hs : ¬ special c.name) (b : Body) (hH : H c.name c.args = some (.exec b))
    (hst : (sv.conn c.id).state % 2 = 1) :
    (step H sv c).2 = [queuedTok] ∧
    stepOuts H sv c = [] ∧
    (step H sv c).1.store = sv.store ∧
    (step H sv c).1.registry = sv.registry ∧
    (step H sv c).1.conn c.id = { (sv.conn c.id) with queue := (sv.conn c.id).queue ++ [b] } ∧
    (∀ i, i ≠ c.id → (step H sv c).1.conn i = sv.conn i) := by
  rw [step_queued H sv c hs b hH hst]
  have hr : ¬ runsNow (sv.conn c.id).state := by unfold runsNow multiCommit; omega
  refine ⟨rfl, ?_, rfl, rfl, conn_setConn_same _ _ _, fun i hi => conn_setConn_other _ _ _ _ hi⟩
  rw [stepOuts_table H sv c hs, hH]; exact if_neg hr

/-- a handler that answers by itself (`.direct ts`: arity and syntax errors) replies `ts`; nothing is
    queued, nothing runs, store unchanged -/
theorem direct_reply_not_queued (hs : ¬ special c.name) (ts : List Tok) (hH : H c.name c.args = some (.direct ts)) :
    (step H sv c).2 = ts ∧
    stepOuts H sv c = [] ∧
    (step H sv c).1.store = sv.store ∧
    (∀ i, ((step H sv c).1.conn i).queue = (sv.conn i).queue) ∧
    (∀ i, ((step H sv c).1.conn i).watch = (sv.conn i).watch) := by
  rw [step_direct H sv c hs ts hH]
  refine ⟨rfl, ?_, afterHandler_store _ _ _, fun i => afterHandler_queue _ _ _ _, fun i => afterHandler_watch _ _ _ _⟩
  rw [stepOuts_table H sv c hs, hH]

/-- EXEC on a clean prepared transaction with queue [b₁…bₙ], n > 0, and no watch flag set: the store
    afterwards is the fold of the closures in order, each run exactly once through `runBody`
    (`execStore`, `execOuts`: closure j+1 starts on the store closure j left); the reply is the
    array header `*n` followed by the tokens of each closure in order (a panicking closure's tokens
    plus the recovery error token: `replyOf`). -/
theorem exec_runs_each_once_in_order (hn : c.name = "EXEC")
    (hst : (sv.conn c.id).state = multiPrepare) (hne : (sv.conn c.id).queue ≠ [])
    (hw : (sv.conn c.id).watch.any (·.2) = false) :
    (step H sv c).1.store = execStore sv.store c.now (sv.conn c.id).queue ∧
    (step H sv c).2 = Tok.arr (sv.conn c.id).queue.length ::
        (execOuts sv.store c.now (sv.conn c.id).queue).flatMap replyOf ∧
    (execOuts sv.store c.now (sv.conn c.id).queue).length = (sv.conn c.id).queue.length ∧
    stepOuts H sv c = execOuts sv.store c.now (sv.conn c.id).queue := by
  obtain ⟨a, b, e⟩ := step_exec_runs H sv c hn hst hne hw
  exact ⟨a, b, execOuts_length _ _ _, e⟩

/-- "in order, each on the store its predecessor left": the j-th output is the j-th closure run on
    the store produced by the first j closures -/
theorem exec_order (st : MState) (now : Int) : ∀ (bs : List Body) (j : Nat),
    (execOuts st now bs)[j]? = bs[j]?.map (fun b => outOf (execStore st now (bs.take j)) now none b) := by
  intro bs
  induction bs generalizing st with
  | nil => intro j; simp [execOuts]
  | cons b rest ih =>
    intro j
    cases j with
    | zero => simp [execOuts, execStore]
    | succ j => simp [execOuts, execStore, ih]

/-- if every queued closure yields exactly one RESP value, EXEC's reply is exactly one RESP value:
    an array of exactly n elements, the j-th being the reply of the j-th closure -/
theorem exec_reply_count (hn : c.name = "EXEC")
    (hst : (sv.conn c.id).state = multiPrepare) (hne : (sv.conn c.id).queue ≠ [])
    (hw : (sv.conn c.id).watch.any (·.2) = false)
    (hone : ∀ b ∈ (sv.conn c.id).queue, ∀ st now ch, oneValue (replyOf (b st now ch)) = true) :
    oneValue (step H sv c).2 = true ∧
    ∃ vs : List (List Tok), vs.length = (sv.conn c.id).queue.length ∧
      (step H sv c).2 = Tok.arr (sv.conn c.id).queue.length :: vs.flatten ∧
      (∀ v ∈ vs, oneValue v = true) ∧
      vs = (execOuts sv.store c.now (sv.conn c.id).queue).map replyOf := by
  obtain ⟨_, h2, h3, _⟩ := exec_runs_each_once_in_order H sv c hn hst hne hw
  have hvs : ∀ v ∈ (execOuts sv.store c.now (sv.conn c.id).queue).map replyOf, oneValue v = true := by
    intro v hv
    obtain ⟨o, ho, rfl⟩ := List.mem_map.mp hv
    exact execOuts_forall (P := fun o => oneValue (replyOf o) = true) c.now _ sv.store hone o ho
  have hlen : ((execOuts sv.store c.now (sv.conn c.id).queue).map replyOf).length = (sv.conn c.id).queue.length := by
    simp [h3]
  refine ⟨?_, _, hlen, ?_, hvs, rfl⟩
  · rw [h2, List.flatMap_def, ← hlen]
    exact Proofs.C16Handlers.oneValue_arr_flatten _ hvs
  · rw [h2, List.flatMap_def]

/-- n = 0: MULTI immediately followed by EXEC (no watch flag set) replies `*0`; nothing runs.
    (With a watch flag set the reply is null, as for any other transaction: `C09.watch_sound`.) -/
theorem empty_exec (hn : c.name = "EXEC") (hst : (sv.conn c.id).state = multiPrepare)
    (hw : (sv.conn c.id).watch.any (·.2) = false) (hq : (sv.conn c.id).queue = []) :
    (step H sv c).2 = [Tok.arr 0] ∧ (step H sv c).1.store = sv.store ∧ stepOuts H sv c = [] := by
  rw [step_exec H sv c hn, exec_empty sv c.id c.now (by rw [hst]; rfl) (by rw [hst]; decide) hw hq]
  refine ⟨rfl, resetConn_store _ _, ?_⟩
  rw [stepOuts_exec H sv c hn, if_neg (fun h => h.2.2.1 hq)]

/-- EXEC without MULTI: an error, nothing runs (whatever the queue field holds) -/
theorem exec_without_multi (hn : c.name = "EXEC") (hst : (sv.conn c.id).state % 2 ≠ 1) :
    (step H sv c).2 = [Tok.err 0] ∧ (step H sv c).1.store = sv.store ∧ stepOuts H sv c = [] := by
  rw [step_exec H sv c hn, exec_no_multi sv c.id c.now hst]
  refine ⟨rfl, resetConn_store _ _, ?_⟩
  rw [stepOuts_exec H sv c hn, if_neg (fun h => hst h.1)]

/-- DISCARD (in every state, with any queue): reply OK, no closure runs, store unchanged -/
theorem discard_runs_none (hn : c.name = "DISCARD") :
    (step H sv c).2 = [okTok] ∧ (step H sv c).1.store = sv.store ∧ stepOuts H sv c = [] := by
  rw [step_discard H sv c hn]
  exact ⟨rfl, resetConn_store _ _, stepOuts_discard H sv c hn⟩

/-- an error reply while the connection is inside MULTI sets the MultiError bit (and the bit is kept
    by every later command of the connection other than EXEC / DISCARD; by `other_connections_untouched`
    also by every command of every other connection) -/
theorem error_during_multi_sets_flag (hst : (sv.conn c.id).state % 2 = 1) (h2 : c.name ≠ "EXEC") (h3 : c.name ≠ "DISCARD")
    (herr : (step H sv c).2.any isErr = true ∨ ((sv.conn c.id).state / 4) % 2 = 1) :
    ((step H sv c).1.conn c.id).state % 2 = 1 ∧ (((step H sv c).1.conn c.id).state / 4) % 2 = 1 ∧
    (step H sv c).1.store = sv.store := by
  obtain ⟨a, b⟩ := step_state_in_multi H sv c hst h2 h3
  refine ⟨?_, ?_, b⟩
  · rw [a]; unfold multiError; split <;> omega
  · rw [a]; unfold multiError
    rcases herr with herr | herr
    · by_cases he : ((sv.conn c.id).state / 4) % 2 = 1
      · rw [if_neg (by simp [he])]; exact he
      · rw [if_pos ⟨herr, he⟩]; omega
    · rw [if_neg (by simp [herr])]; exact herr

/-- EXEC after a queue-time error: `-EXECABORT…`, no closure runs, store unchanged -/
theorem queue_error_aborts (hn : c.name = "EXEC")
    (hst : (sv.conn c.id).state % 2 = 1) (herr : ((sv.conn c.id).state / 4) % 2 = 1) :
    (step H sv c).2 = [Tok.err 2] ∧ (step H sv c).1.store = sv.store ∧ stepOuts H sv c = [] := by
  rw [step_exec H sv c hn, exec_aborted sv c.id c.now hst herr]
  refine ⟨rfl, resetConn_store _ _, ?_⟩
  rw [stepOuts_exec H sv c hn, if_neg (fun h => h.2.1 herr)]

/-- the whole scenario in one statement: inside MULTI, a command `bad` of the connection draws an
    error reply; after any further commands `mid` of any connections — none of them an EXEC or
    DISCARD of this connection — its EXEC replies EXECABORT and the store is the one the other
    connections left (the connection's own commands in between changed nothing) -/
theorem queue_error_aborts_run (bad e : Cmd) (mid : List Cmd)
    (hst : (sv.conn bad.id).state % 2 = 1) (hb2 : bad.name ≠ "EXEC") (hb3 : bad.name ≠ "DISCARD")
    (herr : (step H sv bad).2.any isErr = true)
    (hmid : ∀ m ∈ mid, m.id = bad.id → m.name ≠ "EXEC" ∧ m.name ≠ "DISCARD")
    (he : e.name = "EXEC") (hid : e.id = bad.id) :
    let svE := (run H (step H sv bad).1 mid).1
    (step H svE e).2 = [Tok.err 2] ∧ (step H svE e).1.store = svE.store := by
  intro svE
  have h0 := error_during_multi_sets_flag H sv bad hst hb2 hb3 (Or.inl herr)
  have inv : ∀ (ms : List Cmd) (s : Server), (∀ m ∈ ms, m.id = bad.id → m.name ≠ "EXEC" ∧ m.name ≠ "DISCARD") →
      (s.conn bad.id).state % 2 = 1 ∧ ((s.conn bad.id).state / 4) % 2 = 1 →
      ((run H s ms).1.conn bad.id).state % 2 = 1 ∧ (((run H s ms).1.conn bad.id).state / 4) % 2 = 1 := by
    intro ms
    induction ms with
    | nil => intro s _ h; exact h
    | cons m rest ih =>
      intro s hm h
      apply ih _ (fun m' hm' => hm m' (List.mem_cons_of_mem _ hm'))
      by_cases hi : m.id = bad.id
      · obtain ⟨a, b⟩ := hm m (by simp) hi
        have := error_during_multi_sets_flag H s m (by rw [hi]; exact h.1) a b (Or.inr (by rw [hi]; exact h.2))
        rw [hi] at this; exact ⟨this.1, this.2.1⟩
      · have := Others.step H s m
        rw [this.state bad.id (fun e => hi e.symm)]; exact h
  have h1 := inv mid _ hmid ⟨h0.1, h0.2.1⟩
  have := queue_error_aborts H svE e he (by rw [hid]; exact h1.1) (by rw [hid]; exact h1.2)
  exact ⟨this.1, this.2.1⟩

/-- nested MULTI: an error, and the transaction is aborted (the error bit is set, so the EXEC that
    follows replies EXECABORT by `queue_error_aborts`); nothing is queued or run -/
theorem multi_in_multi (hn : c.name = "MULTI") (hst : (sv.conn c.id).state % 2 = 1) :
    (step H sv c).2 = [Tok.err 0] ∧
    (((step H sv c).1.conn c.id).state / 4) % 2 = 1 ∧ ((step H sv c).1.conn c.id).state % 2 = 1 ∧
    ((step H sv c).1.conn c.id).queue = (sv.conn c.id).queue ∧
    (step H sv c).1.store = sv.store := by
  have hr : (step H sv c).2 = [Tok.err 0] := by
    simp only [step, dispatch_multi H sv c hn, multi_eq, if_pos hst]
  have := error_during_multi_sets_flag H sv c hst (by rw [hn]; decide) (by rw [hn]; decide)
    (Or.inl (by rw [hr]; rfl))
  refine ⟨hr, this.2.1, this.1, ?_, this.2.2⟩
  simp only [step, dispatch_multi H sv c hn, multi_eq, if_pos hst, afterHandler_queue]

/-- a closure that panics at run time does not stop the others: with queue `pre ++ b :: post`, the
    reply is `*n`, the replies of `pre`, then b's tokens plus the recovery error token, then the
    replies of ALL closures of `post`, which run from the store `b` left behind -/
theorem runtime_failure_continues (hn : c.name = "EXEC")
    (hst : (sv.conn c.id).state = multiPrepare) (hw : (sv.conn c.id).watch.any (·.2) = false)
    (pre post : List Body) (b : Body) (hq : (sv.conn c.id).queue = pre ++ b :: post)
    (hp : (outOf (execStore sv.store c.now pre) c.now none b).panicked = true) :
    let o := outOf (execStore sv.store c.now pre) c.now none b
    (step H sv c).2 = Tok.arr (pre.length + 1 + post.length) ::
        ((execOuts sv.store c.now pre).flatMap replyOf ++ (o.toks ++ [Tok.err 1]) ++
         (execOuts (storeAfter o) c.now post).flatMap replyOf) ∧
    (execOuts (storeAfter o) c.now post).length = post.length ∧
    (step H sv c).1.store = execStore (storeAfter o) c.now post := by
  intro o
  have hne : (sv.conn c.id).queue ≠ [] := by rw [hq]; simp
  obtain ⟨h1, h2, _, _⟩ := exec_runs_each_once_in_order H sv c hn hst hne hw
  rw [hq] at h1 h2
  refine ⟨?_, execOuts_length _ _ _, ?_⟩
  · rw [h2, execOuts_append]
    simp only [execOuts, List.flatMap_append, List.flatMap_cons, List.length_append, List.length_cons]
    have : replyOf o = o.toks ++ [Tok.err 1] := by simp [replyOf, o, hp]
    rw [← this]
    simp [o]
    omega
  · rw [h1]; simp [execStore, List.foldl_append, o]

/-! ## afterwards the connection is back to normal -/

/-- after EXEC (whatever its outcome) or DISCARD: state = 0, no queue, no watch, and the connection
    id occurs in no registry list. `RegWF` is the invariant of reachable server states
    (`RegWF.init`, `RegWF.step`, `RegWF.run`). -/
theorem reset_after_exec_or_discard (hwf : RegWF sv) (hn : c.name = "EXEC" ∨ c.name = "DISCARD") :
    ((step H sv c).1.conn c.id).state = 0 ∧ ((step H sv c).1.conn c.id).queue = [] ∧
    ((step H sv c).1.conn c.id).watch = [] ∧
    (∀ x ids, AList.get? (step H sv c).1.registry x = some ids → c.id ∉ ids) := by
  have hc : (step H sv c).1.conn c.id = {} := by
    rcases hn with hn | hn
    · rw [step_exec H sv c hn]; exact exec_conn_reset sv c.id c.now
    · rw [step_discard H sv c hn]; exact resetConn_conn_same _ _
  refine ⟨by rw [hc], by rw [hc], by rw [hc], ?_⟩
  exact fun x ids hx hmem => (hwf.step H c).not_registered_of_watch_nil (by rw [hc]) x ⟨ids, hx, hmem⟩

/-- the invariant used above holds initially and is preserved by every command of every connection -/
theorem regWF_reachable (st : MState) (cs : List Cmd) : RegWF (run H { store := st } cs).1 :=
  RegWF.run H cs (RegWF.init st)

/-- a step of connection c changes no other connection's state, queue or registrations; another
    connection's watch flags change only by being set to true (which only `applySignals` does);
    a step that runs no closure leaves the store as it is -/
theorem other_connections_untouched (i : String) (hi : i ≠ c.id) :
    ((step H sv c).1.conn i).state = (sv.conn i).state ∧
    ((step H sv c).1.conn i).queue = (sv.conn i).queue ∧
    (∀ x, AList.get? ((step H sv c).1.conn i).watch x = AList.get? (sv.conn i).watch x ∨
          AList.get? ((step H sv c).1.conn i).watch x = some true) ∧
    (∀ x, registered (step H sv c).1 i x ↔ registered sv i x) ∧
    (stepOuts H sv c = [] → (step H sv c).1.store = sv.store) :=
  let h := Others.step H sv c
  ⟨h.state i hi, h.queue i hi, h.watch i hi, h.reg i hi, step_quiet H sv c⟩

/-- In `run`, the closures of one EXEC are consecutive: with the schedule `pre ++ e :: post`, the
    first queued closure starts on the store left by the last command of `pre`, closure j+1 starts
    on exactly the store closure j left (`exec_order`), and the first command of `post` finds the
    store the last closure left — no other connection's command is dispatched in between (true by
    construction of `step`: one EXEC is one step).  Thread-level interleavings inside the real
    server are NOT covered by this model. -/
theorem exec_atomic_at_command_granularity (pre post : List Cmd) (e : Cmd) (he : e.name = "EXEC") :
    let sv1 := (run H sv pre).1
    (run H sv (pre ++ e :: post)).1 = (run H (step H sv1 e).1 post).1 ∧
    (step H sv1 e).1.store = lastStore sv1.store (stepOuts H sv1 e) ∧
    (execRuns (sv1.conn e.id) →
      stepOuts H sv1 e = execOuts sv1.store e.now (sv1.conn e.id).queue ∧
      (step H sv1 e).1.store = execStore sv1.store e.now (sv1.conn e.id).queue ∧
      ∀ j, (execOuts sv1.store e.now (sv1.conn e.id).queue)[j]? =
        (sv1.conn e.id).queue[j]?.map
          (fun b => outOf (execStore sv1.store e.now ((sv1.conn e.id).queue.take j)) e.now none b)) := by
  intro sv1
  refine ⟨by rw [run_append, run_cons], step_store H sv1 e, ?_⟩
  intro hr
  have h1 : stepOuts H sv1 e = execOuts sv1.store e.now (sv1.conn e.id).queue := by
    rw [stepOuts_exec H sv1 e he, if_pos hr]
  refine ⟨h1, ?_, exec_order _ _ _⟩
  rw [step_store, h1, lastStore_execOuts]

/-- a disconnect runs none of the queued commands: closures of connection i's queue are run only by
    an EXEC that connection i itself sends (`exec sv i`); under ANY schedule in which i sends nothing
    more, its state and its queue sit there untouched and are never run.  (The Go server keeps the
    dead connection in the watch registry — a leak that influences nobody: `other_connections_untouched`.) -/
theorem disconnect_runs_none (i : String) (cs : List Cmd) (hcs : ∀ m ∈ cs, m.id ≠ i) :
    ((run H sv cs).1.conn i).state = (sv.conn i).state ∧ ((run H sv cs).1.conn i).queue = (sv.conn i).queue := by
  induction cs generalizing sv with
  | nil => exact ⟨rfl, rfl⟩
  | cons m rest ih =>
    have hm : i ≠ m.id := fun e => hcs m (by simp) e.symm
    have o := Others.step H sv m
    obtain ⟨a, b⟩ := ih (step H sv m).1 (fun m' hm' => hcs m' (List.mem_cons_of_mem _ hm'))
    exact ⟨a.trans (o.state i hm), b.trans (o.queue i hm)⟩

/-! ## the step is the one the differential driver executes -/

/-- `Driver.respStep` (the function whose outputs are compared, command by command, against the Go
    server's) computes exactly `step` on the table `Driver.lookup tables`, and prints the canonical
    rendering of `step`'s reply tokens -/
theorem step_is_the_driver_step (tables : List (String → List Bytes → Option HRes)) (id : String)
    (now : Int) (nameB : Bytes) (args : List Bytes) (ch : Choice) :
    let c : Cmd := { id := id, name := driverName nameB, args := args, now := now, ch := ch }
    (Driver.respStep tables sv id now (nameB :: args) ch).1 = (step (Driver.lookup tables) sv c).1 ∧
    (Driver.respStep tables sv id now (nameB :: args) ch).2 =
      Wire.joinWith " " (Driver.canonical (driverName nameB) (step (Driver.lookup tables) sv c).2) :=
  ⟨step_matches_driver tables sv id now nameB args ch, step_matches_driver_reply tables sv id now nameB args ch⟩

/-- a prepared connection "a" with one queued closure, and an idle connection "b" -/
def sampleServer : Server :=
  (({} : Server).setConn "a" { state := multiPrepare, queue := [okBody] }).setConn "b" {}

example : ¬ special "SET" := by decide
example : ∃ b, Handler.table1 "SET" [[1], [2]] = some (.exec b) := ⟨_, rfl⟩
example : (sampleServer.conn "a").state = multiPrepare ∧ (sampleServer.conn "a").queue ≠ [] ∧
    (sampleServer.conn "a").watch.any (·.2) = false := by
  simp [sampleServer, conn_setConn, multiPrepare]
example : ∃ ts, Handler.table1 "SET" [[1]] = some (.direct ts) ∧ ts.any isErr = true := ⟨_, rfl, rfl⟩
example : RegWF sampleServer := by
  refine ⟨trivial, ?_⟩
  rintro i x ⟨ids, h, _⟩
  simp [sampleServer, AList.get?, Server.setConn] at h

/-! ## isolation under real concurrency: the gate that makes EXEC exclusive

  `Gate.step` is the protocol of `store.execMu` as `Serve`, `blockingPop` and `exec` use it; the recorded
  trace of every concurrent scenario over TCP is replayed through it (a rejected step = the
  implementation left the protocol).  The theorems hold for every run of the transition system, i.e.
  for every schedule of any number of connections, embedded callers and background goroutines. -/
section gate
open NodisVerif.Gate

/-- In every reachable state, a goroutine that holds the gate exclusively (it is serving EXEC) is its
    only holder. -/
theorem exec_gate_exclusive (es : List Ev) (s : GState) (hr : Gate.run {} es = some s) (g : G)
    (hx : s.holdsX g = true) : s.holders = [(g, .x)] :=
  x_holder_alone (inv_reach hr) hx

/-- In every reachable state in which `g` is inside EXEC, every open transaction of a goroutine that
    serves a connection is `g`'s own: no command of another client is in progress. -/
theorem exec_section_isolated (es : List Ev) (s : GState) (hr : Gate.run {} es = some s) (g : G)
    (hx : s.holdsX g = true) (t : T) (g' : G) (ha : (t, g') ∈ s.active) (hc : s.isClient g' = true) : g' = g := by
  have hi := inv_reach hr
  exact holder_is_g hi hx (hi.2 _ ha hc)

/-- Every step on the keyspace or on watch flags (transaction begin / end, watch signal, watch check,
    queued body) that the protocol accepts while `g` is inside EXEC is `g`'s own - or comes from a
    goroutine that serves no connection. -/
theorem exec_section_steps (es : List Ev) (s : GState) (hr : Gate.run {} es = some s) (g : G)
    (hx : s.holdsX g = true) (e : Ev) (s' : GState) (hs : Gate.step s e = some s') (g' : G)
    (ha : e.actor = some g') (hc : s.isClient g' = true) : g' = g :=
  step_inside_section (inv_reach hr) hx hs ha hc

/-- Trace form: from the moment `g` has entered EXEC until it leaves (no `gout g` in the segment), in
    EVERY continuation of the run, every accepted keyspace step is `g`'s own or comes from a goroutine
    that serves no connection at that moment. -/
theorem exec_section_isolated_trace (pre seg : List Ev) (s : GState) (hr : Gate.run {} pre = some s)
    (g : G) (hx : s.holdsX g = true) (hn : Ev.gout g ∉ seg) : SegOk g s seg :=
  segment_inside_section seg s g (inv_reach hr) hx hn

/-- EXEC's look at its watch flags and every queued body happen inside the exclusive section (the
    protocol accepts `chk` / `run` only there), and the section lasts until `g` itself leaves: between
    the check and the last body no other client's write or signal can be accepted. -/
theorem watch_check_and_bodies_inside_section (es : List Ev) (s : GState) (hr : Gate.run {} es = some s)
    (g : G) (s' : GState) (hs : Gate.step s (.chk g) = some s' ∨ Gate.step s (.run g) = some s') :
    s.holdsX g = true ∧ s' = s ∧
    ∀ e s'', Gate.step s e = some s'' → e ≠ .gout g → s''.holdsX g = true := by
  obtain ⟨hx, hs'⟩ := hs.elim (step_x (.inl rfl)) (step_x (.inr rfl))
  exact ⟨hx, hs', fun e s'' h hne => section_lasts (inv_reach hr) hx h hne⟩

/-- A client's transaction covers the whole time from its begin to its end with the gate: a command
    cannot leave the gate with a transaction open. -/
theorem client_transactions_are_gated (es : List Ev) (s : GState) (hr : Gate.run {} es = some s)
    (t : T) (g : G) (ha : (t, g) ∈ s.active) (hc : s.isClient g = true) : s.holds g = true :=
  (inv_reach hr).2 _ ha hc

/-- The defect that was repaired (a blocking pop served outside the gate): goroutine 2 serves a
    connection and begins a transaction (its pop) while goroutine 1 is inside EXEC - rejected. -/
theorem ungated_pop_inside_exec_rejected :
    Gate.run {} [.serve 1, .serve 2, .gin 1 .x, .chk 1, .run 1, .txb 1 10, .txe 1 10, .txb 2 11] = none := by decide +kernel

/-- ... whereas the repaired order (the pop waits for the gate) is a run of the protocol, and so is an
    embedded caller (goroutine 3, serves no connection) working during the EXEC: that is the stated limit. -/
theorem gated_pop_after_exec_accepted :
    (Gate.run {} [.serve 1, .serve 2, .gin 1 .x, .chk 1, .run 1, .txb 1 10, .txb 3 12, .txe 3 12, .txe 1 10, .gout 1,
      .gin 2 .s, .txb 2 11, .sig 2, .txe 2 11, .gout 2]).isSome = true := by decide +kernel

example : ∃ s, Gate.run {} [.serve 1, .gin 1 .x, .chk 1] = some s ∧ s.holdsX 1 = true := ⟨_, rfl, by decide⟩

end gate

/-! ### The CODE around the gate (Model/GateProg.lean: the closure of `Serve`, `execCommand`, `exec`, `multi`, `discard`,
  `watchKey`, `unwatchAll`, `signalModifiedKey`, `Watch`, `UnWatch`, `blockingPop`'s `look`) as a program model.
  The theorems above are about the protocol; these say that the program follows it, under every schedule of any
  number of connections and embedded callers, and transfer the protocol theorems to the program. -/
section gateprog
open NodisVerif.Gate

/-- For every schedule of any number of connections and embedded callers, the events the program emits at its
    verifTrace sites are a run of the gate protocol, and the state the protocol reaches is the program's own
    (`R`: same serving goroutines, same open transactions, the reported holders of execMu). -/
theorem gateprog_refines_gate (sch : List (GateProg.Tid × GateProg.Choice)) :
    ∃ gs, Gate.run {} (GateProg.run {} sch).2 = some gs ∧ GateProg.R (GateProg.run {} sch).1 gs :=
  let ⟨gs, h, _, hr⟩ := GateProg.reach_inv sch; ⟨gs, h, hr⟩

theorem gateprog_invariant (sch : List (GateProg.Tid × GateProg.Choice)) : GateProg.Inv (GateProg.run {} sch).1 :=
  let ⟨_, _, hi, _⟩ := GateProg.reach_inv sch; hi

/-- `exec_gate_exclusive` for the program: while a goroutine has reported the exclusive side, no other goroutine
    has reported any side. -/
theorem gateprog_exec_gate_exclusive (sch : List (GateProg.Tid × GateProg.Choice)) (g : GateProg.Tid)
    (hx : ((GateProg.run {} sch).1.loc g).held = some .x ∧ ((GateProg.run {} sch).1.loc g).rep = true)
    (g' : GateProg.Tid) (h' : ((GateProg.run {} sch).1.loc g').held.isSome = true ∧ ((GateProg.run {} sch).1.loc g').rep = true) :
    g' = g := by
  obtain ⟨gs, h, _, hr⟩ := GateProg.reach_inv sch
  have hal := exec_gate_exclusive _ gs h g (GateProg.holdsX_R hr hx)
  obtain ⟨m, hm⟩ := Option.isSome_iff_exists.1 h'.1
  have := (hr.2.2 g' m).2 ⟨hm, h'.2⟩
  rw [hal] at this
  simp only [List.mem_singleton, Prod.mk.injEq] at this
  exact this.1

/-- … and directly on the mutex: a goroutine that holds execMu exclusively (reported or not yet) is its only holder. -/
theorem gateprog_writer_alone (sch : List (GateProg.Tid × GateProg.Choice)) (g : GateProg.Tid)
    (hx : ((GateProg.run {} sch).1.loc g).held = some .x) : (GateProg.run {} sch).1.sh.execMu = [(g, .x)] := by
  have hi := gateprog_invariant sch
  exact hi.xalone _ ((hi.mu g .x).2 hx) rfl

/-- `exec_section_isolated_trace` for the program: from a configuration in which `g` is inside EXEC's section, in
    every continuation of the schedule, as long as `g` does not report leaving, every keyspace step the program takes
    is `g`'s own or an embedded caller's. -/
theorem gateprog_exec_section_isolated_trace (pre seg : List (GateProg.Tid × GateProg.Choice)) (g : GateProg.Tid)
    (hx : ((GateProg.run {} pre).1.loc g).held = some .x ∧ ((GateProg.run {} pre).1.loc g).rep = true)
    (hn : Ev.gout g ∉ (GateProg.run (GateProg.run {} pre).1 seg).2) :
    ∃ gs, Gate.run {} (GateProg.run {} pre).2 = some gs ∧
      (Gate.run gs (GateProg.run (GateProg.run {} pre).1 seg).2).isSome = true ∧
      SegOk g gs (GateProg.run (GateProg.run {} pre).1 seg).2 := by
  exact GateProg.exec_section_trace pre seg g hx hn

/-- the pcs of `exec` between its entry and its deferred reset -/
def inExecHandler : GateProg.Pc → Bool
  | .e1 | .e3 | .e4 | .e5 | .e6 | .ec1 | .ec2 | .edef => true
  | _ => false

/-- `watch_check_and_bodies_inside_section` for the program: at every pc of `exec` - the scan of the watch flags
    (e3), its report (e4), the loop over the queued closures (e5, e6), the deferred commit and reset - the goroutine
    holds execMu exclusively, has reported it, and is the only holder. -/
theorem gateprog_watch_check_and_bodies_inside_section (sch : List (GateProg.Tid × GateProg.Choice)) (g : GateProg.Tid)
    (hpc : inExecHandler ((GateProg.run {} sch).1.loc g).pc = true) :
    ((GateProg.run {} sch).1.loc g).held = some .x ∧ ((GateProg.run {} sch).1.loc g).rep = true ∧
    (GateProg.run {} sch).1.sh.execMu = [(g, .x)] := by
  have hh := GateProg.ok_exec_section ((gateprog_invariant sch).ok g) (by
    generalize ((GateProg.run {} sch).1.loc g).pc = pc at hpc; cases pc <;> exact hpc)
  exact ⟨hh.1, hh.2, gateprog_writer_alone sch g hh.1⟩

/-- the queued closures run inside the section too: a body run by EXEC's loop holds the exclusive side -/
theorem gateprog_queued_bodies_inside_section (sch : List (GateProg.Tid × GateProg.Choice)) (g : GateProg.Tid)
    (hctx : ((GateProg.run {} sch).1.loc g).ctx = .execLoop)
    (hpc : ((GateProg.run {} sch).1.loc g).pc = .b1 ∨ ((GateProg.run {} sch).1.loc g).pc = .b2 ∨
           ((GateProg.run {} sch).1.loc g).pc = .g2 ∨ ((GateProg.run {} sch).1.loc g).pc = .b3) :
    (GateProg.run {} sch).1.sh.execMu = [(g, .x)] :=
  gateprog_writer_alone sch g (GateProg.ok_exec_body ((gateprog_invariant sch).ok g) hctx hpc)

/-! Directly on the program model. -/

/-- between two commands - when the closure's deferred calls have run: after a normal return, after an error reply,
    after a recovered panic (all of them end in `dRec`, `flush`, `idle`) - and before the next command has chosen its
    side (`sw`), the goroutine holds no side of execMu. -/
def betweenCommands : GateProg.Pc → Bool
  | .dRec | .flush | .idle | .sw => true
  | _ => false

/-- The gate taken by a command is released on every path. -/
theorem gate_released_on_every_path (sch : List (GateProg.Tid × GateProg.Choice)) (g : GateProg.Tid)
    (hpc : betweenCommands ((GateProg.run {} sch).1.loc g).pc = true) (m : GMode) :
    (g, m) ∉ (GateProg.run {} sch).1.sh.execMu ∧ ((GateProg.run {} sch).1.loc g).held = none := by
  have hi := gateprog_invariant sch
  have hh := GateProg.ok_between (hi.ok g) (by
    generalize ((GateProg.run {} sch).1.loc g).pc = pc at hpc; cases pc <;> exact hpc)
  refine ⟨fun hm => ?_, hh⟩
  have := (hi.mu g m).1 hm
  rw [hh] at this; cases this

/-- … and every way out of a handler leads there: the deferred calls of the closure (`dOut`, `dUnlock`, `dRec`) and the
    flush report nothing but the release and go on to `idle`. -/
theorem epilogue_reports_only_the_release {s : GateProg.Shared} {t : GateProg.Tid} {l : GateProg.Loc} {ch : GateProg.Choice}
    {s' l' evs} (hpc : l.pc = .dOut ∨ l.pc = .dUnlock ∨ l.pc = .dRec ∨ l.pc = .flush)
    (hs : GateProg.tstep s t l ch = some (s', l', evs)) :
    (∀ e ∈ evs, e = Ev.gout t) ∧ s'.active = s.active ∧
    (l'.pc = .dUnlock ∨ l'.pc = .dRec ∨ l'.pc = .flush ∨ l'.pc = .idle) :=
  GateProg.epilogue_tstep hpc hs

/-- … and they never block and need no choice of the scheduler: once a handler has returned (or panicked), the release
    is four enabled transitions away. -/
theorem epilogue_never_blocks (s : GateProg.Shared) (t : GateProg.Tid) (l : GateProg.Loc) (ch : GateProg.Choice)
    (hpc : l.pc = .dOut ∨ l.pc = .dUnlock ∨ l.pc = .dRec ∨ l.pc = .flush) : (GateProg.tstep s t l ch).isSome = true :=
  GateProg.epilogue_enabled s t l ch hpc

/-- A command that is queued in MULTI takes no keyspace step before EXEC: `execCommand` on a queuing connection appends
    the closure, reports nothing, touches neither execMu nor the transactions nor the watch registry, and returns into
    the deferred calls (which report only the release: `epilogue_reports_only_the_release`). -/
theorem queued_command_takes_no_keyspace_step {s : GateProg.Shared} {t : GateProg.Tid} {l : GateProg.Loc}
    {ch : GateProg.Choice} {s' l' evs} (hpc : l.pc = .ec) (hq : (s.conn t).prep = true)
    (hs : GateProg.tstep s t l ch = some (s', l', evs)) :
    evs = [] ∧ (l'.pc = .dOut ∨ l'.pc = .dRec) ∧ (s'.conn t).queue = (s.conn t).queue ++ [GateProg.qcmdOf l.cmd] ∧
    s'.active = s.active ∧ s'.execMu = s.execMu ∧ s'.registry = s.registry :=
  GateProg.queued_tstep hpc hq hs

/-- the pcs after the handler of the last command has returned -/
def commandOver : GateProg.Pc → Bool
  | .dOut | .dUnlock | .dRec | .flush | .idle => true
  | _ => false

/-- After EXEC / DISCARD the connection's state is MultiNone and its queue is empty on every path (EXEC without MULTI,
    EXECABORT, the null reply, the empty transaction, bodies that panic, DISCARD): in every reachable configuration in
    which the handler of EXEC / DISCARD has returned. -/
theorem after_exec_discard_state_and_queue_clean (sch : List (GateProg.Tid × GateProg.Choice)) (g : GateProg.Tid)
    (hc : GateProg.isExecOrDiscard ((GateProg.run {} sch).1.loc g).cmd = true)
    (hpc : commandOver ((GateProg.run {} sch).1.loc g).pc = true) :
    ((GateProg.run {} sch).1.sh.conn g).none? = true ∧ ((GateProg.run {} sch).1.sh.conn g).queue = [] := by
  exact GateProg.doneOk_over (GateProg.reach_done sch g) (by
    generalize ((GateProg.run {} sch).1.loc g).pc = pc at hpc; cases pc <;> exact hpc) hc

/-- The step itself: `unwatchAll` empties the connection's own watch map in its one critical section (pc u2), on the
    way out of EXEC and DISCARD alike.  That the map stays empty in every later configuration, whatever the other
    goroutines signal, is `after_exec_discard_clean` below, which rests on the registry invariant
    `watch_registry_invariant`. -/
theorem after_exec_discard_watches_gone_partial {s : GateProg.Shared} {t : GateProg.Tid} {l : GateProg.Loc}
    {ch : GateProg.Choice} {s' l' evs} (hpc : l.pc = .u2) (hs : GateProg.tstep s t l ch = some (s', l', evs)) :
    (s'.conn t).watch = [] ∧ l'.pc = .u3 ∧ evs = [] := by
  exact GateProg.unwatch_tstep hpc hs

/-- After EXEC / DISCARD the connection is clean on every path - State == MultiNone, no queued command, no watched
    key - and it is in no key's watcher list, so that no later write of anybody can mark a future transaction of this
    connection: in every reachable configuration in which the handler of EXEC / DISCARD has returned (until the next
    command is read), under every schedule of the other goroutines.  (The single step is
    `after_exec_discard_watches_gone_partial`; Proofs/GateProgWatch.lean proves the registry invariant.) -/
theorem after_exec_discard_clean (sch : List (GateProg.Tid × GateProg.Choice)) (g : GateProg.Tid)
    (hc : GateProg.isExecOrDiscard ((GateProg.run {} sch).1.loc g).cmd = true)
    (hpc : commandOver ((GateProg.run {} sch).1.loc g).pc = true) :
    ((GateProg.run {} sch).1.sh.conn g).clean = true ∧
    ∀ k, g ∉ GateProg.regOf (GateProg.run {} sch).1.sh.registry k := by
  obtain ⟨hsq, hq⟩ := after_exec_discard_state_and_queue_clean sch g hc hpc
  have hg := GateProg.reach_gone sch
  have hw : ((GateProg.run {} sch).1.sh.conn g).watch = [] := GateProg.goneOk_over (hg.watchesGone g) (by
    generalize ((GateProg.run {} sch).1.loc g).pc = pc at hpc; cases pc <;> exact hpc) hc
  refine ⟨by simp [GateProg.ConnSt.clean, hsq, hq, hw], fun k hm => ?_⟩
  have := hg.winv.j1 k g hm
  rw [hw] at this; cases this

/-- the watch registry invariant in every reachable configuration: a connection is in a key's watcher list only if it
    has a flag for the key, and no list has duplicates -/
theorem watch_registry_invariant (sch : List (GateProg.Tid × GateProg.Choice)) :
    GateProg.WInv (GateProg.run {} sch).1.sh := (GateProg.reach_gone sch).winv

open GateProg.Ex in
example : ∃ gs, Gate.run {} (GateProg.run {} (schedToCheck ++ schedRest)).2 = some gs ∧ gs.holders = [] ∧ gs.clients = [1] :=
  ⟨_, by rw [trace_exec]; rfl, rfl, rfl⟩
open GateProg.Ex in
example : ((GateProg.run {} schedToCheck).1.loc 1).held = some .x ∧ ((GateProg.run {} schedToCheck).1.loc 1).rep = true := by decide +kernel
open GateProg.Ex in
example : ((GateProg.run {} schedToCheck).1.loc 1).held = some .x ∧ ((GateProg.run {} schedToCheck).1.loc 1).rep = true ∧
    Ev.gout 1 ∉ (GateProg.run (GateProg.run {} schedToCheck).1 schedSeg).2 ∧
    (GateProg.run (GateProg.run {} schedToCheck).1 schedSeg).2 = [.chk 1, .run 1, .txb 1 3] := by decide +kernel
open GateProg.Ex in
example : inExecHandler ((GateProg.run {} schedToCheck).1.loc 1).pc = true := by decide +kernel
open GateProg.Ex in
example : betweenCommands ((GateProg.run {} schedAbort).1.loc 1).pc = true ∧
    betweenCommands ((GateProg.run {} schedWatch).1.loc 1).pc = true := by decide +kernel
open GateProg.Ex in
example : GateProg.isExecOrDiscard ((GateProg.run {} schedWatch).1.loc 1).cmd = true ∧
    commandOver ((GateProg.run {} schedWatch).1.loc 1).pc = true ∧ ((GateProg.run {} schedWatch).1.loc 1).noChange = false ∧
    GateProg.isExecOrDiscard ((GateProg.run {} schedAbort).1.loc 1).cmd = true ∧
    commandOver ((GateProg.run {} schedAbort).1.loc 1).pc = true ∧
    GateProg.isExecOrDiscard ((GateProg.run {} schedDiscard).1.loc 1).cmd = true ∧
    commandOver ((GateProg.run {} schedDiscard).1.loc 1).pc = true := by decide +kernel
open GateProg.Ex in
/-- `queued_command_takes_no_keyspace_step`: a SET arriving at execCommand on a connection that is queuing -/
example : ((GateProg.run {} (simple 1 .multi ++ [(1, cmd (.plain 7)), (1, n), (1, n), (1, n)])).1.loc 1).pc = .ec ∧
    ((GateProg.run {} (simple 1 .multi ++ [(1, cmd (.plain 7)), (1, n), (1, n), (1, n)])).1.sh.conn 1).prep = true := by decide +kernel
open GateProg.Ex in
/-- `gateprog_queued_bodies_inside_section`: the queued SET about to begin its transaction inside EXEC's loop -/
example : ((GateProg.run {} (schedToCheck ++ schedRest.take 4)).1.loc 1).ctx = .execLoop ∧
    ((GateProg.run {} (schedToCheck ++ schedRest.take 4)).1.loc 1).pc = .b1 := by decide +kernel

end gateprog

/- Nothing of C08's text is left unproved.  Outside the model: callers of the embedded API are not subject to the
   gate; a disconnect is modelled as "the connection sends nothing more". -/

end NodisVerif.C08

import NodisVerif.Props.C15
import NodisVerif.Props.C16
/-
  C17 — hostile input never takes the server down.

  "Whatever bytes a client sends — malformed or truncated RESP, negative, huge or non-numeric lengths
  and counts, wrong arity, empty arguments, non-numeric or out-of-range numbers, commands on keys of
  the wrong type, any sequence of valid commands — the server process keeps running, keeps answering
  every other connection promptly and with correct data, and the offending connection receives an
  error reply or is closed.  A frame header announcing an impossible size (negative, or beyond the
  protocol's 512 MiB bulk limit) is rejected instead of being allocated or used as an index."

  Reader side: `RespReader.readCommand` / `readAll` (Model/RespReader.lean) on a `Source` = ANY list of
  read fragments of ANY bytes; `Res.panic` is the only way the reader goroutine can die (index out of
  range in `indexByte(-2)`, reached from `readUtil`).  Dispatch side: `step` / `run`
  (Proofs/C08Step.lean) on the server's complete handler table `fullTable`, which is what
  `Driver.respStep` computes (`C08.step_is_the_driver_step`); `HRes.crash` = a handler panics outside
  `execCommand`'s recover and is caught by the dispatch-level recover.  Writer side (§7): redis/resp.go's
  `Writer` (Model/RespWriter.lean), restated from C16.  Several theorems of §3–§5 and §7 restate theorems of
  C15 / C16 / C08 in the terms of this property.

  Everything is unbounded: all sources, all fuels, all header texts, all command names / argument
  vectors / server states / schedules.  No finding region: the statements hold at full strength.
-/
namespace NodisVerif.C17
open Resp RespReader Server Spec.RespEnc
open NodisVerif.Proofs.C08Step

/-! ## 1. The reader never panics -/

/-- `ReadCommand` never panics: for every byte stream in every fragmentation the outcome is a
    command or a protocol error / EOF.  (Invariant: whenever `readUtil` evaluates `indexByte(-2)`,
    the window holds ≥ 2 bytes or does not start at buffer offset 0 — `Proofs.C17.Safe`,
    `Proofs.C17.readUtil_post`; a CR only drops the byte that was just appended.) -/
theorem readCommand_never_panics (src : Source) : readCommand src ≠ .panic :=
  Proofs.C17.readCommand_ne_panic src

/-- the connection loop never reports a reader panic, whatever the bytes, the fragmentation, the
    number of iterations and the commands read before -/
theorem reader_never_panics (src : Source) (fuel : Nat) (acc : List RespReader.Cmd) : (readAll src fuel acc).2.2 = false :=
  Proofs.C17.readAll_no_panic fuel src acc

/-- the same for every reader primitive started in a state in which the Go code can be (the window
    is non-empty or does not start at buffer offset 0, `Safe`; for the argument loop: not at offset 0) -/
theorem primitives_never_panic (st : RState) :
    (∀ n fuel, readByteN st n fuel ≠ .panic) ∧ (∀ fuel, readLine st fuel ≠ .panic) ∧
    readInteger st ≠ .panic ∧ readBulk st ≠ .panic ∧ (∀ k acc, readBulks st k acc ≠ .panic) ∧
    (Proofs.C17.Safe st → ∀ e fuel, readUtil e st fuel ≠ .panic) ∧
    (st.before.isSome → ∀ fuel acc, inlineArgs st fuel acc ≠ .panic) ∧
    (Proofs.C17.Safe st → readInline st ≠ .panic) :=
  ⟨fun n fuel => (Proofs.C17.readByteN_post n fuel st).ne_panic,
   fun fuel => (Proofs.C17.readLine_post fuel st).ne_panic,
   (Proofs.C17.readInteger_post st).ne_panic, (Proofs.C17.readBulk_post st).ne_panic,
   fun k acc => (Proofs.C17.readBulks_post k acc st).ne_panic,
   fun hs e fuel => (Proofs.C17.readUtil_post e fuel st hs).ne_panic,
   fun hb fuel acc => (Proofs.C17.inlineArgs_post fuel acc st hb).ne_panic,
   fun hs => (Proofs.C17.readInline_post st hs).ne_panic⟩

/-- the `Safe` guard of `readUtil` is necessary in the model: at buffer offset 0 with an empty window
    a first byte equal to the terminator indexes buf[-1].  (Unreachable from `readCommand`:
    `reader_never_panics`.) -/
theorem readUtil_unsafe_state_panics :
    (match readUtil 32 { src := [[32]] } 2 with | .panic => true | _ => false) = true := by decide

/-! ## 2. Every byte stream is consumed into finitely many commands followed by an error / EOF -/

/-- a successfully read command consumes at least one byte of the stream -/
theorem command_consumes_input (src : Source) (c : RespReader.Cmd) (st : RState) (h : readCommand src = .ok c st) :
    (srcFlat st.src).length < (srcFlat src).length :=
  Proofs.C17.readCommand_ok_consumes h

/-- an error never "un-reads": the stream only shrinks -/
theorem error_consumes_monotonically (src : Source) (e : RErr) (st : RState) (h : readCommand src = .err e st) :
    (srcFlat st.src).length ≤ (srcFlat src).length := by
  have := Proofs.C17.readCommand_post src
  rw [h] at this
  exact this

/-- With one more iteration than there are bytes the connection loop has ended by itself — on a
    protocol error or EOF (`some e`), not by running out of iterations and not by a panic: the bytes
    of a connection are turned into at most as many commands as there are bytes, followed by the
    error reply / close. -/
theorem reader_always_answers (src : Source) (fuel : Nat) (acc : List RespReader.Cmd) (hfuel : (srcFlat src).length + 1 ≤ fuel) :
    ∃ cmds e, readAll src fuel acc = (acc.reverse ++ cmds, some e, false) ∧ cmds.length ≤ (srcFlat src).length :=
  Proofs.C17.readAll_ends fuel src acc hfuel

/-- … and from then on the result does not depend on the number of iterations allowed -/
theorem reader_result_is_final (src : Source) (fuel fuel' : Nat) (acc : List RespReader.Cmd)
    (h : (srcFlat src).length + 1 ≤ fuel) (h' : (srcFlat src).length + 1 ≤ fuel') :
    readAll src fuel acc = readAll src fuel' acc := by
  have key : ∀ f, (srcFlat src).length + 1 ≤ f → readAll src f acc = readAll src ((srcFlat src).length + 1) acc := by
    intro f hf
    obtain ⟨k, rfl⟩ : ∃ k, f = (srcFlat src).length + 1 + k := ⟨f - ((srcFlat src).length + 1), by omega⟩
    refine Proofs.C17.readAll_stable k _ src acc ?_
    obtain ⟨cmds, e, he, _⟩ := Proofs.C17.readAll_ends ((srcFlat src).length + 1) src acc (Nat.lt_succ_self _)
    rw [he]; simp
  rw [key fuel h, key fuel' h']

/-! ## 3. Impossible sizes are rejected, not allocated or used as an index -/

/-- the header text announces a size the protocol forbids: not an int64 at all, negative, or beyond
    512 MiB -/
def BadSize (ds : Bytes) : Prop := Proofs.C17.BadSize ds

theorem badSize_iff (ds : Bytes) :
    BadSize ds ↔ (parseInt64 ds = none ∨ ∃ n, parseInt64 ds = some n ∧ (n < 0 ∨ n > 536870912)) := Iff.rfl

/-- A bulk header `$<n>` with n < 0 or n > 536870912, in any fragmentation, followed by anything:
    `readBulk` returns `tooLarge` having consumed exactly the header line — `readByteN` (the only
    place the length is used) is not reached. -/
theorem impossible_sizes_rejected (ds rest : Bytes) (n : Int) (hn : parseInt64 ds = some n)
    (hbad : n < 0 ∨ n > 536870912) (st : RState) (hw : st.win = [])
    (hsrc : srcFlat st.src = [36] ++ ds ++ [13, 10] ++ rest) :
    ∃ st', readBulk st = .err .tooLarge st' ∧ srcFlat st'.src = rest ∧ st'.win = [] := by
  obtain ⟨st', h1, h2, e⟩ := Proofs.C15.readBulk_header ds rest st (Proofs.C17.parseInt64_no_lf hn) hw
    (by simpa using hsrc)
  exact ⟨st', by rw [e, hn]; exact if_pos hbad, h1, h2⟩

/-- the same with the number written by `strconv.FormatInt`: every integer whatsoever outside
    0 … 536870912 is rejected — `tooLarge` if it is an int64, `badInteger` if it is not even that -/
theorem impossible_sizes_rejected_decimal (n : Int) (hbad : n < 0 ∨ n > 536870912) (rest : Bytes)
    (st : RState) (hw : st.win = []) (hsrc : srcFlat st.src = [36] ++ formatInt n ++ [13, 10] ++ rest) :
    ∃ st', readBulk st = .err (if inInt64 n then .tooLarge else .badInteger) st' ∧
      srcFlat st'.src = rest ∧ st'.win = [] := by
  obtain ⟨st', h1, h2, e⟩ := Proofs.C15.readBulk_header (formatInt n) rest st (Proofs.C17.formatInt_no_lf n) hw
    (by simpa using hsrc)
  by_cases hi : inInt64 n = true
  · rw [if_pos hi]
    exact ⟨st', by rw [e, Proofs.C17.parseInt64_formatInt n hi]; exact if_pos hbad, h1, h2⟩
  · rw [if_neg hi]
    exact ⟨st', by rw [e, Proofs.C17.parseInt64_formatInt_out n (by simpa using hi)], h1, h2⟩

/-- a header line that is not a number (`$abc`, `$`, `$1x`, `$99999999999999999999`): `badInteger`,
    again right after the header line -/
theorem non_numeric_size_rejected (ds rest : Bytes) (hd : ∀ x ∈ ds, x ≠ 10) (hn : parseInt64 ds = none)
    (st : RState) (hw : st.win = []) (hsrc : srcFlat st.src = [36] ++ ds ++ [13, 10] ++ rest) :
    ∃ st', readBulk st = .err .badInteger st' ∧ srcFlat st'.src = rest ∧ st'.win = [] := by
  obtain ⟨st', h1, h2, e⟩ := Proofs.C15.readBulk_header ds rest st hd hw (by simpa using hsrc)
  exact ⟨st', by rw [e, hn], h1, h2⟩

/-- At the level of `ReadCommand`: `*<cnt>`, then any number (< cnt) of well-formed bulks, then a bulk
    header with an impossible size, then anything, in any fragmentation: the command is refused with
    a protocol error (the connection gets the error reply and is closed); exactly the bytes up to
    the end of the offending header line have been consumed. -/
theorem impossible_size_fails_command (cnt : Bytes) (c : Int) (pre : List Bytes) (ds rest : Bytes) (src : Source)
    (hcnt : parseInt64 cnt = some c) (hc : pre.length < c.toNat)
    (hpre : ∀ x ∈ pre, x.length ≤ 536870912) (hd : ∀ x ∈ ds, x ≠ 10) (hbad : BadSize ds)
    (hsrc : srcFlat src = [42] ++ cnt ++ [13, 10] ++ pre.flatMap encodeBulk ++ [36] ++ ds ++ [13, 10] ++ rest) :
    ∃ st', readCommand src = .err .expectedArray st' ∧ srcFlat st'.src = rest ∧ st'.win = [] :=
  Proofs.C17.readCommand_bad_bulk cnt c pre ds rest src hcnt hc
    (fun x hx => by have := hpre x hx; simp [maxBulk]; omega) hd hbad (by simpa using hsrc)

/-- an array header `*<n>` never makes the reader panic, whatever follows (n negative, zero, huge:
    the count is only a loop bound, each iteration needs a bulk from the stream) … -/
theorem array_header_never_panics (ds rest : Bytes) (src : Source)
    (_hsrc : srcFlat src = [42] ++ ds ++ [13, 10] ++ rest) : readCommand src ≠ .panic :=
  readCommand_never_panics src

/-- … for n ≤ 0 the command is the empty command (no name, no arguments) and exactly the header line
    is consumed; for a non-number the protocol error `expectedArrayLength` -/
theorem array_header_nonpositive (ds rest : Bytes) (n : Int) (hn : parseInt64 ds = some n) (hle : n ≤ 0)
    (src : Source) (hsrc : srcFlat src = [42] ++ ds ++ [13, 10] ++ rest) :
    ∃ st', readCommand src = .ok { name := [], args := [] } st' ∧ srcFlat st'.src = rest ∧ st'.win = [] := by
  obtain ⟨st', h1, h2, e⟩ := Proofs.C15.readCommand_header ds rest src (Proofs.C17.parseInt64_no_lf hn)
    (by simpa using hsrc)
  have : n.toNat = 0 := by omega
  exact ⟨st', by rw [e, hn]; simp [this, readBulks], h1, h2⟩

theorem array_header_non_numeric (ds rest : Bytes) (hd : ∀ x ∈ ds, x ≠ 10) (hn : parseInt64 ds = none)
    (src : Source) (hsrc : srcFlat src = [42] ++ ds ++ [13, 10] ++ rest) :
    ∃ st', readCommand src = .err .expectedArrayLength st' ∧ srcFlat st'.src = rest ∧ st'.win = [] := by
  obtain ⟨st', h1, h2, e⟩ := Proofs.C15.readCommand_header ds rest src hd (by simpa using hsrc)
  exact ⟨st', by rw [e, hn], h1, h2⟩

/-- a payload that really is longer than 512 MiB: C15 -/
theorem oversized_payload_fails_command (name : Bytes) (args : List Bytes) (rest : Bytes)
    (pre : List Bytes) (b : Bytes) (post : List Bytes) (hsplit : name :: args = pre ++ b :: post)
    (hpre : ∀ x ∈ pre, x.length ≤ 536870912) (hb : b.length > 536870912) (hcount : 1 + args.length < 2 ^ 63)
    (src : Source) (hsrc : srcFlat src = encodeCommand name args ++ rest) :
    ∃ st, readCommand src = .err .expectedArray st :=
  C15.parse_too_large name args rest pre b post hsplit hpre hb hcount src hsrc

/-! ## 4. Every command is answered by exactly one reply; a crashing handler is contained -/

/-- EVERY command that goes through the table — known or unknown name, any arity, any operands
    (empty, non-numeric, out of range), any server state, inside or outside MULTI — is answered by
    exactly one complete RESP value -/
theorem every_command_is_answered (sv : Server) (c : Proofs.C08Step.Cmd) (hs : ¬ special c.name) :
    oneValue (step fullTable sv c).2 = true :=
  C16.one_reply_full_nonspecial sv c hs

/-- … MULTI / EXEC / DISCARD / WATCH / UNWATCH included, in every server state whose queued closures
    came from the table (an invariant of `run`: `C16.queues_reachable`) -/
theorem every_command_is_answered_all (sv : Server) (hq : QueuesSat OneBody sv) (c : Proofs.C08Step.Cmd) :
    oneValue (step fullTable sv c).2 = true :=
  C16.one_reply_per_command C16.fullTable_ok hq c

/-- … hence along every schedule of every number of connections from a fresh server: as many replies
    as commands, each one complete value -/
theorem every_schedule_is_answered (st : MState) (cs : List Proofs.C08Step.Cmd) :
    (run fullTable { store := st } cs).2.length = cs.length ∧
    ∀ r ∈ (run fullTable { store := st } cs).2, oneValue r = true :=
  ⟨(C16.replies_in_order C16.fullTable_ok (QueuesSat.init OneBody st) cs).1, C16.one_reply_full st cs⟩

/-- the step the theorems talk about is the one the differential driver runs against the Go server -/
theorem step_is_the_driver_step (sv : Server) (id : String) (now : Int) (nameB : Bytes) (args : List Bytes) (ch : Choice) :
    (Driver.respStep allTables sv id now (nameB :: args) ch).1 =
      (step fullTable sv { id := id, name := driverName nameB, args := args, now := now, ch := ch }).1 :=
  step_matches_driver allTables sv id now nameB args ch

/-- A handler that panics outside `execCommand` (`HRes.crash`; caught by the dispatch-level recover),
    or an unknown command: the reply is exactly one error token; the store, the registry, every other
    connection, and the connection's own queue and watch flags are unchanged.  The only thing that
    changes is that a connection inside MULTI gets its MultiError bit (`afterHandler`), so outside
    MULTI the server state is literally unchanged. -/
theorem crash_is_contained (H : Table) (sv : Server) (c : Proofs.C08Step.Cmd) (hs : ¬ special c.name)
    (hH : H c.name c.args = some .crash ∨ H c.name c.args = none) :
    (step H sv c).2 = [Tok.err 0] ∧
    (dispatch H sv c).1 = sv ∧
    (step H sv c).1 = afterHandler sv c.id [Tok.err 0] ∧
    (step H sv c).1.store = sv.store ∧
    (step H sv c).1.registry = sv.registry ∧
    (∀ i, i ≠ c.id → (step H sv c).1.conn i = sv.conn i) ∧
    ((step H sv c).1.conn c.id).queue = (sv.conn c.id).queue ∧
    ((step H sv c).1.conn c.id).watch = (sv.conn c.id).watch ∧
    ((step H sv c).1.conn c.id).state =
      (if (sv.conn c.id).state ≠ 0 ∧ ((sv.conn c.id).state / 4) % 2 ≠ 1
       then (sv.conn c.id).state + multiError else (sv.conn c.id).state) ∧
    ((sv.conn c.id).state = 0 → (step H sv c).1 = sv) := by
  have hstep := step_unknown H sv c hs hH.symm
  have hd : (dispatch H sv c).1 = sv := by
    rw [dispatch_table H sv c hs]
    rcases hH with h | h <;> rw [h]
  rw [hstep]
  refine ⟨rfl, hd, rfl, afterHandler_store _ _ _, afterHandler_registry _ _ _,
    fun i hi => afterHandler_conn_other _ _ _ _ hi, afterHandler_queue _ _ _ _, afterHandler_watch _ _ _ _, ?_,
    fun h0 => afterHandler_noerr _ _ _ (.inr h0)⟩
  rw [afterHandler_state]
  simp [isErr]

/-- the same for the driver's step on the server's tables -/
theorem crash_is_contained_driver (sv : Server) (id : String) (now : Int) (nameB : Bytes) (args : List Bytes)
    (ch : Choice) (hs : ¬ special (driverName nameB))
    (hH : fullTable (driverName nameB) args = some .crash ∨ fullTable (driverName nameB) args = none) :
    (Driver.respStep allTables sv id now (nameB :: args) ch).1 = afterHandler sv id [Tok.err 0] := by
  rw [step_is_the_driver_step]
  exact (crash_is_contained fullTable sv
    { id := id, name := driverName nameB, args := args, now := now, ch := ch } hs hH).2.2.1

/-- an error reply produced by the handler itself (wrong arity, non-numeric or out-of-range operand:
    `.direct ts`): that reply, nothing queued, nothing run, the store and every connection's queue
    and watch flags unchanged -/
theorem argument_error_changes_nothing (H : Table) (sv : Server) (c : Proofs.C08Step.Cmd) (hs : ¬ special c.name) (ts : List Tok)
    (hH : H c.name c.args = some (.direct ts)) :
    (step H sv c).2 = ts ∧ (step H sv c).1.store = sv.store ∧
    (∀ i, ((step H sv c).1.conn i).queue = (sv.conn i).queue) ∧
    (∀ i, ((step H sv c).1.conn i).watch = (sv.conn i).watch) := by
  obtain ⟨h1, _, h3, h4, h5⟩ := C08.direct_reply_not_queued H sv c hs ts hH
  exact ⟨h1, h3, h4, h5⟩

/-! ## 5. Other connections are unaffected -/

/-- what the reader delivers for connection `i` is `readAll` of its own bytes: it does not depend on
    the schedule (beyond the number of turns `i` got) nor on anything the other connections send -/
theorem other_connections_unaffected_reader (srcs srcs' : Nat → Source) (sched sched' : List Nat) (i : Nat)
    (hsrc : srcFlat (srcs i) = srcFlat (srcs' i)) (hcount : sched.count i = sched'.count i) :
    (Proofs.C15.runSched (fun j => { src := srcs j }) sched i).result =
    (Proofs.C15.runSched (fun j => { src := srcs' j }) sched' i).result :=
  C15.connections_independent_of_others srcs srcs' sched sched' i hsrc hcount

/-- … it is never a panic, whatever ALL connections send, and once `i` has had more turns than it has
    bytes it has ended on its own error / EOF -/
theorem other_connections_unaffected_reader_total (srcs : Nat → Source) (sched : List Nat) (i : Nat) :
    (Proofs.C15.runSched (fun j => { src := srcs j }) sched i).result.2.2 = false ∧
    ((srcFlat (srcs i)).length + 1 ≤ sched.count i →
      ∃ cmds e, (Proofs.C15.runSched (fun j => { src := srcs j }) sched i).result = (cmds, some e, false) ∧
        cmds.length ≤ (srcFlat (srcs i)).length) := by
  rw [C15.connections_independent_readAll]
  refine ⟨reader_never_panics _ _ _, fun h => ?_⟩
  obtain ⟨cmds, e, h1, h2⟩ := reader_always_answers (srcs i) _ [] h
  exact ⟨cmds, e, by simpa using h1, h2⟩

/-- A step of connection `c.id` — any command, any arguments, failing or not — changes no other
    connection's MULTI state, queue or watch registrations; another connection's watch flags change
    at most by being set to true (which only `applySignals` does, for keys the step modified). -/
theorem other_connections_unaffected (H : Table) (sv : Server) (c : Proofs.C08Step.Cmd) (i : String) (hi : i ≠ c.id) :
    ((step H sv c).1.conn i).state = (sv.conn i).state ∧
    ((step H sv c).1.conn i).queue = (sv.conn i).queue ∧
    (∀ x, AList.get? ((step H sv c).1.conn i).watch x = AList.get? (sv.conn i).watch x ∨
          AList.get? ((step H sv c).1.conn i).watch x = some true) ∧
    (∀ x, registered (step H sv c).1 i x ↔ registered sv i x) :=
  let h := Others.step H sv c
  ⟨h.state i hi, h.queue i hi, h.watch i hi, h.reg i hi⟩

/-- if the step runs no closure (error replies, unknown commands, crashes, queued commands, MULTI,
    WATCH, DISCARD, aborted EXEC) the store is unchanged: the other connections keep reading exactly
    the data they would have read -/
theorem failing_step_leaves_store (H : Table) (sv : Server) (c : Proofs.C08Step.Cmd) (h : stepOuts H sv c = []) :
    (step H sv c).1.store = sv.store := step_quiet H sv c h

/-- … and along any schedule: the commands of other connections leave connection `i`'s MULTI state
    and queue exactly as they were -/
theorem other_connections_unaffected_run (H : Table) (i : String) : ∀ (cs : List Proofs.C08Step.Cmd) (sv : Server),
    (∀ m ∈ cs, m.id ≠ i) →
    ((run H sv cs).1.conn i).state = (sv.conn i).state ∧ ((run H sv cs).1.conn i).queue = (sv.conn i).queue :=
  fun cs sv hcs => C08.disconnect_runs_none H sv i cs hcs

/-! ## 6. Non-vacuity: concrete hostile inputs -/

/-- `*-1 CRLF`: an empty command, then EOF -/
example : readAll [[42, 45, 49, 13, 10]] 10 [] = ([{ name := [], args := [] }], some .eof, false) := by decide +kernel
/-- `*0 CRLF *-5 CRLF PING CRLF` -/
example : readAll [[42, 48, 13, 10, 42, 45, 53, 13, 10, 80, 73, 78, 71, 13, 10]] 20 [] =
    ([{ name := [], args := [] }, { name := [], args := [] }, { name := [80, 73, 78, 71], args := [] }], some .eof, false) := by
  decide +kernel
/-- `*1 CRLF $-5 CRLF` -/
example : readAll [[42, 49, 13, 10, 36, 45, 53, 13, 10]] 20 [] = ([], some .expectedArray, false) := by decide +kernel
/-- `*1 CRLF $536870913 CRLF`, here delivered in three reads -/
example : readAll [[42, 49, 13], [10, 36, 53, 51, 54, 56], [55, 48, 57, 49, 51, 13, 10]] 30 [] =
    ([], some .expectedArray, false) := by decide +kernel
/-- `*1 CRLF $99999999999999999999 CRLF` (not an int64) -/
example : readAll [[42, 49, 13, 10, 36, 57, 57, 57, 57, 57, 57, 57, 57, 57, 57, 57, 57, 57, 57, 57, 57, 57, 57, 57, 57, 13, 10]] 40 [] =
    ([], some .expectedArray, false) := by decide +kernel
/-- `*99999999999999999999 CRLF`, `*x CRLF`: no array length -/
example : readAll [[42, 57, 57, 57, 57, 57, 57, 57, 57, 57, 57, 57, 57, 57, 57, 57, 57, 57, 57, 57, 57, 13, 10]] 40 [] =
    ([], some .expectedArrayLength, false) := by decide +kernel
example : readAll [[42, 120, 13, 10]] 10 [] = ([], some .expectedArrayLength, false) := by decide +kernel
/-- `*9223372036854775807 CRLF $1 CRLF a CRLF`: a huge count is only a loop bound -/
example : readAll [[42, 57, 50, 50, 51, 51, 55, 50, 48, 51, 54, 56, 53, 52, 55, 55, 53, 56, 48, 55, 13, 10, 36, 49, 13, 10, 97, 13, 10]] 40 [] =
    ([], some .expectedArray, false) := by decide +kernel
/-- `*2 CRLF :1 CRLF`: not a bulk -/
example : readAll [[42, 50, 13, 10, 58, 49, 13, 10]] 10 [] = ([], some .expectedArray, false) := by decide +kernel
/-- a lone CR, a lone quote, a lone space: EOF, no command -/
example : readAll [[13]] 10 [] = ([], some .eof, false) := by decide +kernel
example : readAll [[34]] 10 [] = ([], some .eof, false) := by decide +kernel
example : readAll [[32]] 10 [] = ([], some .eof, false) := by decide +kernel
/-- `' CR LF`-style inline garbage: quote, space, CR LF -/
example : readAll [[39, 32, 13, 10]] 10 [] = ([{ name := [39], args := [[13]] }], some .eof, false) := by decide +kernel
/-- `a\ b CRLF` (backslash before the separator) -/
example : readAll [[97, 92, 32, 98, 13, 10]] 10 [] = ([{ name := [65, 92, 32, 66], args := [] }], some .eof, false) := by decide +kernel
/-- `a ' CR LF` byte by byte: the quoted argument starts right after a `malloc()` -/
example : readAll [[97], [32], [39], [32], [13], [10]] 10 [] = ([{ name := [65], args := [[32]] }], some .eof, false) := by decide +kernel
/-- CRs in front of quotes: the `dropLast` case -/
example : readAll [[97, 32, 13, 39, 13, 39, 13, 10]] 10 [] = ([{ name := [65], args := [[13, 39, 39]] }], some .eof, false) := by decide +kernel
/-- an inline command, a RESP command, then a truncated bulk header -/
example : readAll [[103, 101, 116, 32, 107, 13, 10, 42, 49, 13, 10, 36, 52, 13, 10, 112, 105, 110, 103, 13, 10, 36]] 40 [] =
    ([{ name := [71, 69, 84], args := [[107]] }, { name := [80, 73, 78, 71], args := [] }], some .eof, false) := by decide +kernel

/-- the hypotheses of `impossible_sizes_rejected` are satisfiable: "-5" and "536870913" -/
example : parseInt64 [45, 53] = some (-5) ∧ ((-5 : Int) < 0 ∨ (-5 : Int) > 536870912) := by decide +kernel
example : parseInt64 [53, 51, 54, 56, 55, 48, 57, 49, 51] = some 536870913 ∧
    ((536870913 : Int) < 0 ∨ (536870913 : Int) > 536870912) := by decide +kernel
example : BadSize [45, 53] ∧ BadSize [120] ∧ BadSize [] := by
  refine ⟨.inr ⟨-5, by decide, by decide⟩, .inl (by decide), .inl (by decide)⟩
/-- `array_header_nonpositive`: "-1", "0"; `array_header_non_numeric`: "x" -/
example : parseInt64 [45, 49] = some (-1) ∧ parseInt64 [48] = some 0 ∧ parseInt64 [120] = none := by decide +kernel

/-- handlers that really panic outside `execCommand` on hostile operands exist in the table:
    `INCRBYFLOAT k ""` (s[0] on an empty argument), `LRANGE k 0` (missing operand),
    `SCAN 0 MATCH` (option word in last position) — the hypotheses of `crash_is_contained` -/
example : (match fullTable "INCRBYFLOAT" [[107], []] with | some .crash => true | _ => false) = true := by decide +kernel
example : (match fullTable "LRANGE" [[107], [48]] with | some .crash => true | _ => false) = true := by decide +kernel
example : (match fullTable "SCAN" [[48], [77, 65, 84, 67, 72]] with | some .crash => true | _ => false) = true := by decide +kernel
/-- the empty command produced by `*0` / `*-1` and an unknown name are not in the table: one error -/
example : (fullTable "" []).isNone = true ∧ (fullTable "NOSUCH" [[1]]).isNone = true := by decide +kernel
example : ¬ special "INCRBYFLOAT" ∧ ¬ special "" := by decide +kernel

/-- hostile commands in the middle of a session of two connections: each draws one error, the data
    of the other connection is served unchanged -/
example :
    (run fullTable {} [ { id := "a", name := "SET", args := [[107], [118]] },
      { id := "b", name := "INCRBYFLOAT", args := [[107], []] },
      { id := "b", name := "LRANGE", args := [[107], [48]] },
      { id := "b", name := "", args := [] },
      { id := "b", name := "LPUSH", args := [[107], [120]] },
      { id := "b", name := "SETRANGE", args := [[107], [45, 49], [120]] },
      { id := "a", name := "GET", args := [[107]] }]).2 =
    [[okTok], [Tok.err 0], [Tok.err 0], [Tok.err 0], [Tok.err 1], [Tok.err 0], [Tok.bulk [118]]] := by decide +kernel

/-! ## 7. The reply writer never panics and its buffer is bounded by what is written

  The writer side of the connection goroutine (redis/resp.go `type Writer`, Model/RespWriter.lean): whatever the
  handlers write — payloads of any size, any number of calls without a Flush, a connection whose Write fails —
  neither `w.buf[w.w] = b` nor `w.buf[:w.w]` goes out of range, and the buffer cannot be made larger than
  `4096 + 2·(bytes pending at the end of a call)`: replies are flushed after every command, so a client
  controls the buffer's size only through the size of the largest single reply it can provoke. -/

theorem reply_writer_never_panics (cs : List RespWriter.Call) : RespWriter.run RespWriter.new cs ≠ .panic :=
  C16.writer_never_panics cs

theorem reply_writer_buffer_bounded (M : Nat) (cs : List RespWriter.Call) (s : RespWriter.Writer)
    (hM : ∀ pre s1, pre <+: cs → RespWriter.run RespWriter.new pre = .ok s1 → s1.w ≤ M)
    (e : RespWriter.run RespWriter.new cs = .ok s) :
    s.w ≤ s.buf.size ∧ s.buf.size ≤ RespWriter.defaultSize + 2 * M :=
  ⟨(C16.writer_growth_peak M cs s hM e).1, (C16.writer_growth_peak M cs s hM e).2.2⟩

/-- a non-trivial run (two replies with a Flush in between, 10 bytes written in all) and its bound -/
example : ∃ s, RespWriter.run RespWriter.new [.ok, .flush none, .bulkNull] = .ok s ∧ s.buf.size ≤ RespWriter.defaultSize + 2 * 10 := by
  obtain ⟨s, e⟩ := C16.writer_total [.ok, .flush none, .bulkNull] (by decide)
  refine ⟨s, e, ?_⟩
  have h := C16.writer_growth [.ok, .flush none, .bulkNull] s e
  have hl : ([RespWriter.Call.ok, .flush none, .bulkNull].flatMap Spec.RespWriterSpec.written).length = 10 := by decide +kernel
  rw [hl] at h
  exact h.2.2

/- UNPROVED: nothing.  No finding: `reader_never_panics` holds for every source (the `.panic` branch of
   `readUtil` / `prevByte` is unreachable from `readCommand`). -/

end NodisVerif.C17

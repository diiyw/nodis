import NodisVerif.Proofs.C03Refine
import NodisVerif.Proofs.C03Oids
import NodisVerif.Proofs.C03Float
import NodisVerif.Proofs.FloatDecTrip
/-
  C03 — hashes and sets behave as exact maps and mathematical sets.

  The reference semantics is Spec/HashSet.lean: a hash is a lookup function `Bytes → Option Bytes` (`Spec.Map`), a
  set is a characteristic function `Bytes → Bool` (`Spec.BSet`), an enumeration is a repetition-free list with the
  same members (`Spec.Enumerates`), a cardinality is the length of any enumeration.

  Sections (in file order), what they state, and where their vocabulary and lemmas live:
    A  `AList` is a finite map                                              Proofs/AListLemmas2.lean
    C  sets at the data-structure level (ds/set)                            Proofs/C03.lean
    B  hashes at the data-structure level (ds/hash), HINCRBY                Proofs/C03.lean
    D  the API on the store: SPOP / SRANDMEMBER, set algebra over keys,     Proofs/C03Api.lean (`Hot`, `Absent`, `IndexSorted`,
       emptied collections cease to exist, SMOVE, the store invariant         `Classified`, `den`), Proofs/C03Seq.lean (SMOVE),
       `OidsDistinct` / `StoreInv` and what keeps it                          Proofs/Oids.lean, Proofs/C03Oids.lean
    E  S*STORE                                                              Proofs/C03Seq.lean
    F  one command and every sequence of commands on one key refine the     Proofs/C03Seq.lean (`HashRel`, `SetRel`, `hmsetDs`),
       reference semantics, outside the finding regions; HMSET; witnesses     Proofs/C03Refine.lean (`execHash`, `runHashT` …)
    hfloat  HINCRBYFLOAT on decimal float text                              Proofs/C03Float.lean, Proofs/FloatDecTrip.lean

  Everything is unbounded: every byte string (incl. the empty one) as field / value / member,
  every argument list (incl. repeated arguments), every number of operand sets.
-/
namespace NodisVerif.C03
open Spec
open NodisVerif.Proofs
open NodisVerif.Proofs.C03Api (Hot Absent IndexSorted Classified den invalidChoice)
open NodisVerif.Proofs.C03Seq (HashRel SetRel hmsetDs)
open NodisVerif.Proofs.C03Oids (OidsDistinct StoreInv)
open NodisVerif.Proofs.C03Refine (toReply execHash execSet dsHash dsSet hashFinding setFinding noHashFinding noSetFinding
  runHash runSet runHashT runSetT)

/-! ## A. the btree.Map model (`AList`) is a finite map -/
section A
variable {V : Type}

theorem get?_set_same (m : AList V) (k : Bytes) (v : V) : AList.get? (AList.set m k v) k = some v :=
  AListLemmas2.get?_set_same m k v

theorem get?_set_other (m : AList V) (k : Bytes) (v : V) (x : Bytes) (h : x ≠ k) :
    AList.get? (AList.set m k v) x = AList.get? m x :=
  AListLemmas2.get?_set_other m k v x h

/-- `Set` is the abstract map update -/
theorem set_is_put (m : AList V) (k : Bytes) (v : V) :
    AList.get? (AList.set m k v) = Map.put (AList.get? m) k v := by
  funext x; exact AListLemmas2.get?_set m k v x

theorem get?_erase_same (m : AList V) (hs : AList.Sorted m) (k : Bytes) : AList.get? (AList.erase m k) k = none :=
  AListLemmas2.get?_erase_same m hs k

/-- why `Sorted` is needed for `get?_erase_same`: with a duplicated key `erase` only unlinks the
    first entry (a btree.Map never holds duplicates; `Sorted` excludes them) -/
theorem get?_erase_same_needs_sorted :
    AList.get? (AList.erase ([([1], 10), ([1], 20)] : AList Nat) [1]) [1] = some 20 := by decide

theorem get?_erase_other (m : AList V) (k x : Bytes) (h : x ≠ k) :
    AList.get? (AList.erase m k) x = AList.get? m x :=
  AListLemmas2.get?_erase_other m k x h

/-- `Delete` is the abstract map removal -/
theorem erase_is_del (m : AList V) (hs : AList.Sorted m) (k : Bytes) :
    AList.get? (AList.erase m k) = Map.del (AList.get? m) k := by
  funext x; exact AListLemmas2.get?_erase m hs k x

theorem set_preserves_sorted (m : AList V) (hs : AList.Sorted m) (k : Bytes) (v : V) : AList.Sorted (AList.set m k v) :=
  AListLemmas2.set_preserves_sorted m hs k v

theorem erase_preserves_sorted (m : AList V) (hs : AList.Sorted m) (k : Bytes) : AList.Sorted (AList.erase m k) :=
  AListLemmas2.erase_preserves_sorted m hs k

theorem keys_nodup (m : AList V) (hs : AList.Sorted m) : (AList.keys m).Nodup :=
  AListLemmas2.keys_nodup m hs

/-- the length grows by one exactly when the key was absent, and is unchanged otherwise -/
theorem length_set (m : AList V) (hs : AList.Sorted m) (k : Bytes) (v : V) :
    (AList.set m k v).length = if AList.contains m k then m.length else m.length + 1 :=
  AListLemmas2.length_set m hs k v

theorem length_set_grows_iff (m : AList V) (hs : AList.Sorted m) (k : Bytes) (v : V) :
    (AList.set m k v).length = m.length + 1 ↔ AList.contains m k = false := by
  rw [length_set m hs k v]
  cases AList.contains m k <;> simp

theorem length_erase (m : AList V) (k : Bytes) :
    (AList.erase m k).length = if AList.contains m k then m.length - 1 else m.length :=
  AListLemmas2.length_erase m k

/-- lookup and enumeration agree -/
theorem get?_iff_mem (m : AList V) (hs : AList.Sorted m) (k : Bytes) (v : V) :
    AList.get? m k = some v ↔ (k, v) ∈ m :=
  AListLemmas2.get?_eq_some_iff_mem m hs k v

/-- a sorted association list is determined by its lookup function: the representation carries no
    extra information -/
theorem ext (m₁ m₂ : AList V) (h1 : AList.Sorted m₁) (h2 : AList.Sorted m₂)
    (h : AList.get? m₁ = AList.get? m₂) : m₁ = m₂ :=
  AListLemmas2.ext_of_sorted m₁ m₂ h1 h2 (fun x => congrFun h x)

/-- non-vacuity: a sorted list whose keys include the empty byte string and a prefix pair -/
example : AList.Sorted ([([], 1), ([0], 2), ([0, 0], 3), ([1], 4)] : AList Nat) := by
  simp [AList.Sorted, Bytes.lt]

end A

/-! ## C. sets -/
section C
open DsSet

/-- SADD: the reply is the number of *distinct* listed members that were new (for every
    repetition-free enumeration `d` of them), membership afterwards is the abstract union with the
    listed members, the cardinality grows by the reply -/
theorem sadd_spec (s : S) (hs : AList.Sorted s) (ms : List Bytes) :
    AList.Sorted (sadd s ms).1 ∧
    mem (sadd s ms).1 = BSet.insertAll (mem s) ms ∧
    (∀ d, Enumerates d (listed ms (fun x => !mem s x)) → (sadd s ms).2 = d.length) ∧
    scard (sadd s ms).1 = scard s + (sadd s ms).2 :=
  Proofs.C03.sadd_spec s hs ms

/-- SREM: the reply is the number of distinct listed members that were present -/
theorem srem_spec (s : S) (hs : AList.Sorted s) (ms : List Bytes) :
    AList.Sorted (srem s ms).1 ∧
    mem (srem s ms).1 = BSet.removeAll (mem s) ms ∧
    (∀ d, Enumerates d (listed ms (mem s)) → (srem s ms).2 = d.length) ∧
    scard (srem s ms).1 = scard s - (srem s ms).2 :=
  Proofs.C03.srem_spec s hs ms

/-- a repeated argument counts once (witness for the "distinct" in the two statements above) -/
example : sadd [] [[7], [7], []] = ([([], ()), ([7], ())], 2) := by decide
example : srem [([], ()), ([7], ())] [[7], [7]] = ([([], ())], 1) := by decide

/-- SCARD is the length of SMEMBERS, and SMEMBERS lists each member exactly once -/
theorem scard_exact (s : S) (hs : AList.Sorted s) :
    Enumerates (members s) (mem s) ∧ scard s = (members s).length :=
  ⟨Proofs.C03.members_enumerates s hs, by simp [scard, members, AList.keys]⟩

theorem scard_hasCard (s : S) (hs : AList.Sorted s) : HasCard (mem s) s.length :=
  ⟨members s, Proofs.C03.members_enumerates s hs, by simp [members, AList.keys]⟩

/-- cardinality is well defined: it does not depend on the enumeration -/
theorem card_unique (s : BSet) (n₁ n₂ : Nat) (h1 : HasCard s n₁) (h2 : HasCard s n₂) : n₁ = n₂ :=
  Proofs.C03.hasCard_unique h1 h2

theorem sismember_iff_enumerated (s : S) (x : Bytes) : mem s x = true ↔ x ∈ members s :=
  (Proofs.C03.mem_members_iff s x).symm

theorem sinter_spec (s : S) (others : List S) (x : Bytes) :
    x ∈ sinter s others ↔ mem s x = true ∧ ∀ o ∈ others, mem o x = true :=
  Proofs.C03.mem_sinter s others x

theorem sdiff_spec (s : S) (others : List S) (x : Bytes) :
    x ∈ sdiff s others ↔ mem s x = true ∧ ∀ o ∈ others, mem o x = false :=
  Proofs.C03.mem_sdiff s others x

theorem sunion_spec (s : S) (others : List S) (x : Bytes) :
    x ∈ sunion s others ↔ mem s x = true ∨ ∃ o ∈ others, mem o x = true :=
  Proofs.C03.mem_sunion s others x

theorem sinter_nodup (s : S) (hs : AList.Sorted s) (others : List S) : (sinter s others).Nodup :=
  Proofs.C03.sinter_nodup s hs others

theorem sdiff_nodup (s : S) (hs : AList.Sorted s) (others : List S) : (sdiff s others).Nodup :=
  Proofs.C03.sdiff_nodup s hs others

/-- only the receiver has to be well formed: the other operands are de-duplicated on the fly -/
theorem sunion_nodup (s : S) (hs : AList.Sorted s) (others : List S) : (sunion s others).Nodup :=
  Proofs.C03.sunion_nodup s hs others

/-- the three results enumerate the mathematical intersection / union / difference -/
theorem sinter_enumerates (s : S) (hs : AList.Sorted s) (others : List S) :
    Enumerates (sinter s others) (BSet.interAll (mem s) (others.map mem)) :=
  ⟨sinter_nodup s hs others, fun x => by
    rw [sinter_spec]; simp [BSet.interAll]⟩

theorem sunion_enumerates (s : S) (hs : AList.Sorted s) (others : List S) :
    Enumerates (sunion s others) (BSet.unionAll (mem s) (others.map mem)) :=
  ⟨sunion_nodup s hs others, fun x => by
    rw [sunion_spec]; simp [BSet.unionAll]⟩

theorem sdiff_enumerates (s : S) (hs : AList.Sorted s) (others : List S) :
    Enumerates (sdiff s others) (BSet.diffAll (mem s) (others.map mem)) :=
  ⟨sdiff_nodup s hs others, fun x => by
    rw [sdiff_spec]; simp [BSet.diffAll]⟩

/-- the empty representation is the empty set -/
theorem mem_empty : mem [] = BSet.empty := rfl

/-- two well-formed sets with the same members are the same value -/
theorem set_ext (s₁ s₂ : S) (h1 : AList.Sorted s₁) (h2 : AList.Sorted s₂) (h : mem s₁ = mem s₂) : s₁ = s₂ :=
  Proofs.C03.set_ext s₁ s₂ h1 h2 (fun x => congrFun h x)

/-- binary safety: any byte string, the empty one included, can be a member -/
theorem sadd_binary_safe (s : S) (hs : AList.Sorted s) (m : Bytes) : mem (sadd s [m]).1 m = true := by
  rw [(sadd_spec s hs [m]).2.1]; simp [BSet.insertAll]

example : mem (sadd [] [[]]).1 [] = true := by decide

end C

/-! ## B. hashes -/
section B
open DsHash

/-- HSET: reply 1 iff the field is new; afterwards the map is the abstract update -/
theorem hset_spec (h : H) (hs : AList.Sorted h) (f v : Bytes) :
    (hset h f v).2 = (if hexists h f then 0 else 1) ∧
    hget (hset h f v).1 = Map.put (hget h) f v ∧
    AList.Sorted (hset h f v).1 :=
  ⟨rfl, set_is_put h f v, set_preserves_sorted h hs f v⟩

/-- HDEL: the map afterwards is the abstract removal of every listed field; the reply is the number
    of *distinct* listed fields that were present (a field listed twice is deleted by its first
    occurrence and not found by the second) -/
theorem hdel_spec (h : H) (hs : AList.Sorted h) (ks : List Bytes) :
    AList.Sorted (hdel h ks).1 ∧
    hget (hdel h ks).1 = Map.delAll (hget h) ks ∧
    (∀ d, Enumerates d (listed ks (hexists h)) → (hdel h ks).2 = d.length) ∧
    hlen (hdel h ks).1 = hlen h - (hdel h ks).2 :=
  Proofs.C03.hdel_spec h hs ks

/-- the same count with a concrete enumeration: the fields of `h` that are listed -/
theorem hdel_count (h : H) (hs : AList.Sorted h) (ks : List Bytes) :
    (hdel h ks).2 = ((hkeys h).filter (fun f => decide (f ∈ ks))).length :=
  (hdel_spec h hs ks).2.2.1 _ (Proofs.C03.listed_enum h hs ks)

example : hdel [([1], [5])] [[1], [1], [2]] = ([], 1) := by decide

/-- HLEN is the number of distinct fields = the length of HKEYS -/
theorem hlen_exact (h : H) (hs : AList.Sorted h) :
    Enumerates (hkeys h) (Map.dom (hget h)) ∧ hlen h = (hkeys h).length :=
  ⟨Proofs.C03.keys_enumerates h hs, by simp [hlen, hkeys, AList.keys]⟩

theorem hexists_iff_enumerated (h : H) (f : Bytes) : hexists h f = true ↔ f ∈ hkeys h :=
  (AListLemmas2.mem_keys_iff_contains h f).symm

theorem hgetall_agrees (h : H) (hs : AList.Sorted h) (f v : Bytes) : (f, v) ∈ hgetall h ↔ hget h f = some v :=
  (AListLemmas2.get?_eq_some_iff_mem h hs f v).symm

/-- HGETALL lists every binding of the abstract map, each field once -/
theorem hgetall_enumerates (h : H) (hs : AList.Sorted h) : EnumeratesMap (hgetall h) (hget h) :=
  Proofs.C03.hgetall_enumerates h hs

/-- HKEYS / HVALS are the two projections of HGETALL, in the same order -/
theorem hkeys_hvals (h : H) : hkeys h = (hgetall h).map (·.1) ∧ hvals h = (hgetall h).map (·.2) := ⟨rfl, rfl⟩

/-- binary safety: every field and value, the empty byte strings included -/
theorem hget_binary_safe (h : H) (f v : Bytes) : hget (hset h f v).1 f = some v :=
  AListLemmas2.get?_set_same h f v

example (h : H) : hget (hset h [] []).1 [] = some [] := hget_binary_safe h [] []

/-- HSETNX: no change and `false` if the field exists, otherwise the abstract update and `true` -/
theorem hsetnx_spec (h : H) (hs : AList.Sorted h) (f v : Bytes) :
    (hsetnx h f v).2 = !hexists h f ∧
    hget (hsetnx h f v).1 = (if hexists h f then hget h else Map.put (hget h) f v) ∧
    AList.Sorted (hsetnx h f v).1 := by
  unfold hsetnx hexists
  cases hc : AList.contains h f with
  | true => exact ⟨rfl, rfl, hs⟩
  | false => exact ⟨rfl, set_is_put h f v, set_preserves_sorted h hs f v⟩

/-- HMGET: one answer per requested field, in request order, each the lookup of that field -/
theorem hmget_spec (h : H) (ks : List Bytes) :
    (hmget h ks).length = ks.length ∧ ∀ i (hi : i < ks.length), (hmget h ks)[i]? = some (hget h ks[i]) := by
  refine ⟨by simp [hmget], fun i hi => ?_⟩
  simp [hmget, hget, List.getElem?_eq_getElem hi]

/-- HSTRLEN: the length of the value, 0 for a missing field -/
theorem hstrlen_spec (h : H) (f : Bytes) :
    hstrlen h f = match hget h f with | some v => (v.length : Int) | none => 0 := by
  unfold hstrlen hget
  cases AList.get? h f <;> rfl

/-- HINCRBY, exactly as the model (= the Go code) computes it. NB the sum wraps at int64. -/
theorem hincrby_spec (h : H) (f : Bytes) (delta : Int) :
    (hget h f = none → hincrby h f delta = some (AList.set h f (formatInt delta), delta)) ∧
    (∀ v i, hget h f = some v → parseInt64 v = some i →
      hincrby h f delta = some (AList.set h f (formatInt (wrap64 (i + delta))), wrap64 (i + delta))) ∧
    (∀ v, hget h f = some v → parseInt64 v = none → hincrby h f delta = none) :=
  ⟨Proofs.C03.hincrby_missing h f delta, fun v i => Proofs.C03.hincrby_int h f delta v i,
   fun v => Proofs.C03.hincrby_nonnumeric h f delta v⟩

/-- the state after a successful HINCRBY: only that field changed, it holds the decimal reply -/
theorem hincrby_state (h : H) (hs : AList.Sorted h) (f : Bytes) (delta : Int) (h' : H) (r : Int)
    (e : hincrby h f delta = some (h', r)) :
    hget h' = Map.put (hget h) f (formatInt r) ∧ AList.Sorted h' := by
  unfold hincrby at e
  split at e
  · cases e; exact ⟨set_is_put h f _, set_preserves_sorted h hs f _⟩
  · split at e
    · cases e
    · cases e; exact ⟨set_is_put h f _, set_preserves_sorted h hs f _⟩

/- Full-strength statement against the Redis reference (`Spec.hincr`: an increment that would
   overflow a signed 64 bit integer is an error and changes nothing):

     ∀ h f delta, inInt64 delta → (hincrby h f delta).map (·.2) = Spec.hincr (hget h f) delta

   It is FALSE of the model (and of the Go code, which adds with wrap-around): see
   `hincrby_redis_finding`. Finding region (decidable): `Proofs.C03.hincrOverflow h f delta = true`, i.e. the
   field holds a decimal int64 `i` and `i + delta` is outside int64. -/
theorem hincrby_redis_partial (h : H) (f : Bytes) (delta : Int) (hd : inInt64 delta = true)
    (hreg : Proofs.C03.hincrOverflow h f delta = false) :
    (hincrby h f delta).map (·.2) = Spec.hincr (hget h f) delta ∧
    ∀ h' r, hincrby h f delta = some (h', r) → hget h' = Map.put (hget h) f (formatInt r) :=
  Proofs.C03.hincrby_redis_partial h f delta hd hreg

/-- the ASCII text "9223372036854775807" -/
def int64MaxText : Bytes := [57, 50, 50, 51, 51, 55, 50, 48, 51, 54, 56, 53, 52, 55, 55, 53, 56, 48, 55]

/-- witness inside the region: 9223372036854775807 + 1 is an error in Redis; the model (like the Go
    code) answers -9223372036854775808 -/
theorem hincrby_redis_finding :
    let h : H := [([110], int64MaxText)]
    Proofs.C03.hincrOverflow h [110] 1 = true ∧
    (hincrby h [110] 1).map (·.2) = some (-9223372036854775808) ∧
    Spec.hincr (hget h [110]) 1 = none := by
  have hp : parseInt64 int64MaxText = some 9223372036854775807 := by decide
  refine ⟨?_, ?_, ?_⟩
  · simp [Proofs.C03.hincrOverflow, AList.get?, hp, inInt64, int64Min, int64Max]
  · rw [Proofs.C03.hincrby_int _ [110] 1 _ _ (by simp [AList.get?]) hp]
    simp [wrap64, int64Max]
  · simp [Spec.hincr, hget, AList.get?, hp, inInt64, int64Min, int64Max]

end B

/-! ## D. the API layer on the store

  `Hot s k v now`: the record of `k` is indexed, ok, not expired at `now`, and holds `v` in memory.
  `Absent s k now`: `k` is not indexed, or its record is a deleted marker, or it is expired.
  `IndexSorted s`: the keyspace index is well formed (no duplicate keys). -/
section D
open Store

abbrev HotSet (s : MState) (k : Bytes) (st : AList Unit) (now : Int) : Prop := Hot s k (.set st) now
abbrev HotHash (s : MState) (k : Bytes) (h : AList Bytes) (now : Int) : Prop := Hot s k (.hash h) now

/-- a store with a hot hash `"h"` = {"" ↦ ""}, a hot set `"s"` = {[1], [2]} (deadline 100 > now = 5) and
    an expired set `"x"` (deadline 3); `"m"` is not indexed at all -/
def exampleStore : MState :=
  { index := [ ([104], { exp := 0, value := some (.hash [([], [])]), state := 1 }),
               ([115], { exp := 100, value := some (.set [([1], ()), ([2], ())]), state := 1 }),
               ([120], { exp := 3, value := some (.set [([9], ())]), state := 1 }) ] }

example : HotSet exampleStore [115] [([1], ()), ([2], ())] 5 :=
  ⟨{ exp := 100, value := some (.set [([1], ()), ([2], ())]), state := 1 }, by rfl, by decide, by decide, rfl⟩
example : HotHash exampleStore [104] [([], [])] 5 :=
  ⟨{ exp := 0, value := some (.hash [([], [])]), state := 1 }, by rfl, by decide, by decide, rfl⟩
theorem example_x_absent : Absent exampleStore [120] 5 := by
  intro m hm
  have : Store.getMeta exampleStore [120] =
      some { exp := 3, value := some (.set [([9], ())]), state := 1 } := by rfl
  rw [this] at hm; cases hm; right; decide
theorem example_m_absent : Absent exampleStore [109] 5 := by
  intro m hm
  have : Store.getMeta exampleStore [109] = none := by rfl
  rw [this] at hm; cases hm
example : IndexSorted exampleStore := by
  simp [IndexSorted, exampleStore, AList.Sorted, Bytes.lt]

/-- SPOP is relational: `choice` is what the implementation returned.  (An over-approximation on purpose: ds/set
    `SPop` takes the first min(count, card) members of the btree scan, in key order, where only SRANDMEMBER draws at
    random; the theorem holds of every admissible `choice`, hence of that one.)
    * If it is admissible (only current members, pairwise distinct, exactly min(count, card) of them,
      count 0 meaning 1) the model accepts it (reply = `choice`) and the set afterwards is exactly the old
      one minus `choice`; when that is everything the key ceases to exist.
    * Otherwise the reply is the INVALID-CHOICE marker and the set is unchanged. -/
theorem spop_sound (s : MState) (now : Int) (key : Bytes) (count : Int) (choice : List Bytes) (st : AList Unit)
    (h : HotSet s key st now) (hi : IndexSorted s) (hst : AList.Sorted st) :
    (AdmissibleDistinct (DsSet.mem st) st.length (if count = 0 then 1 else count.toNat) choice →
      (Api.spop s now key count choice).2 = .slist choice ∧
      (choice.length = st.length → getMeta (Api.spop s now key count choice).1 key = none) ∧
      (choice.length ≠ st.length → ∃ st', HotSet (Api.spop s now key count choice).1 key st' now ∧
          AList.Sorted st' ∧ DsSet.mem st' = BSet.removeAll (DsSet.mem st) choice ∧
          st'.length + choice.length = st.length)) ∧
    (¬ AdmissibleDistinct (DsSet.mem st) st.length (if count = 0 then 1 else count.toNat) choice →
      (Api.spop s now key count choice).2 = invalidChoice ∧ HotSet (Api.spop s now key count choice).1 key st now) := by
  obtain ⟨s1, e, heq, hot1, he1, hi1⟩ := KeyTx.keyTx_hot true none (.slist []) Proofs.C11.Cmd.pan
    (Proofs.C20.decSpop key count choice) h hi
  rw [Proofs.C20.spop_eq, show (Proofs.C20.spopF key count choice).run s now = _ from heq]
  constructor
  · intro hadm
    have hv := (C03Api.spopValid_iff st count choice).mpr hadm
    simp only [Proofs.C20.decSpop, hv, Bool.not_true, Bool.false_eq_true, if_false]
    obtain ⟨hall, hn, _⟩ := hadm
    obtain ⟨q1, q2, q3, q4⟩ := srem_spec st hst choice
    have hcnt := q3 choice (C03Api.choice_enumerates st choice hn hall)
    simp only [DsSet.scard] at q4
    obtain ⟨t0, _, t1, t2⟩ := Proofs.KeyTx.runAct_emptied hot1 he1 hi1 (DsSet.scard (DsSet.srem st choice).1 = 0)
      (.set (DsSet.srem st choice).1) [Proofs.C20.opSRem key choice] (.slist choice)
    refine ⟨t0, fun hlen => t1 (by simp only [DsSet.scard]; omega), fun hlen => ?_⟩
    exact ⟨(DsSet.srem st choice).1, (t2 (by simp only [DsSet.scard]; omega)).1, q1, q2, by omega⟩
  · intro hadm
    have hv : C03Api.spopValid st count choice = false :=
      Bool.eq_false_iff.mpr fun hb => hadm ((C03Api.spopValid_iff st count choice).mp hb)
    simp only [Proofs.C20.decSpop, hv, Bool.not_false, if_true]
    exact ⟨rfl, hot1⟩

/-- conversely: whenever SPOP's reply is a member list, that list was admissible -/
theorem spop_reply_admissible (s : MState) (now : Int) (key : Bytes) (count : Int) (choice : List Bytes) (st : AList Unit)
    (h : HotSet s key st now) (hi : IndexSorted s) (hst : AList.Sorted st)
    (hr : (Api.spop s now key count choice).2 = .slist choice) :
    AdmissibleDistinct (DsSet.mem st) st.length (if count = 0 then 1 else count.toNat) choice := by
  apply Classical.byContradiction
  intro hn
  have := ((spop_sound s now key count choice st h hi hst).2 hn).1
  rw [this] at hr
  simp [invalidChoice] at hr

/-- SPOP on a missing key: the empty reply, whatever the choice -/
theorem spop_missing (s : MState) (now : Int) (key : Bytes) (count : Int) (choice : List Bytes)
    (h : Absent s key now) : (Api.spop s now key count choice).2 = .slist [] := by
  have hp : writeKey s now key none = ((writeKey s now key none).1, false) :=
    Prod.ext rfl (C03Api.writeKey_absent_none s now key h).1
  unfold Api.spop
  rw [hp]
  rfl

/-- SRANDMEMBER: same admissibility (negative count: |count| members, repetitions allowed); the set
    is never changed. `rand.Intn(0)` on an existing-but-empty set panics. -/
theorem srandmember_sound (s : MState) (now : Int) (key : Bytes) (count : Int) (choice : List Bytes) (st : AList Unit)
    (h : HotSet s key st now) :
    HotSet (Api.srandmember s now key count choice).1 key st now ∧
    (0 ≤ count →
      (AdmissibleDistinct (DsSet.mem st) st.length count.toNat choice → (Api.srandmember s now key count choice).2 = .slist choice) ∧
      (¬ AdmissibleDistinct (DsSet.mem st) st.length count.toNat choice → (Api.srandmember s now key count choice).2 = invalidChoice)) ∧
    (count < 0 → st ≠ [] →
      (AdmissibleRepeated (DsSet.mem st) (-count).toNat choice → (Api.srandmember s now key count choice).2 = .slist choice) ∧
      (¬ AdmissibleRepeated (DsSet.mem st) (-count).toNat choice → (Api.srandmember s now key count choice).2 = invalidChoice)) ∧
    (count < 0 → st = [] → (Api.srandmember s now key count choice).2 = .panic) := by
  obtain ⟨hrd, hot1, _⟩ := Proofs.KeyTx.keyTx_found false none (.slist []) Proofs.C11.Cmd.pan
    (Proofs.C11.decSetRead (Proofs.C11.srandOut count choice)) (Proofs.C01.live_of_hot h)
  -- the decision of a read keeps the state and answers from the set
  have heq : Api.srandmember s now key count choice = ((Store.readKey s now key).1, if count < 0 ∧ st.isEmpty then .panic
      else if C03Api.srandValid st count choice then .slist choice else invalidChoice) := by
    rw [Proofs.C11.srandmember_eq, hrd]; rfl
  rw [heq]
  refine ⟨hot1, ?_, ?_, ?_⟩
  · intro hc
    have hnp : ¬ (count < 0 ∧ st.isEmpty = true) := by omega
    simp only [hnp, if_false]
    constructor
    · intro hadm
      rw [if_pos ((C03Api.srandValid_nonneg_iff st count hc choice).mpr hadm)]
    · intro hadm
      rw [if_neg (fun hb => hadm ((C03Api.srandValid_nonneg_iff st count hc choice).mp hb))]
  · intro hc hne
    have hnp : ¬ (count < 0 ∧ st.isEmpty = true) := by
      rintro ⟨_, he⟩
      exact hne (List.isEmpty_iff.mp he)
    simp only [hnp, if_false]
    constructor
    · intro hadm
      rw [if_pos ((C03Api.srandValid_neg_iff st count hc choice).mpr hadm)]
    · intro hadm
      rw [if_neg (fun hb => hadm ((C03Api.srandValid_neg_iff st count hc choice).mp hb))]
  · intro hc he
    subst he
    simp [hc]

/-! ### set algebra over keys: a missing key is the empty set

  `Classified s now keys vals`: operand i is missing (`vals[i] = none`) or holds the hot set
  `vals[i] = some st`. `den` maps an operand to the abstract set it denotes: `den none = ∅`. -/

theorem den_missing : den none = BSet.empty := rfl
theorem den_present (st : AList Unit) : den (some st) = DsSet.mem st := rfl

/-- SINTER k0 k1 ... enumerates the mathematical intersection of the denoted sets -/
theorem sinter_api_spec (s : MState) (now : Int) (k0 : Bytes) (ks : List Bytes) (v0 : Option (AList Unit))
    (vs : List (Option (AList Unit))) (h : Classified s now (k0 :: ks) (v0 :: vs))
    (hs : ∀ st, some st ∈ v0 :: vs → AList.Sorted st) :
    ∃ l, (Api.sinter s now (k0 :: ks)).2 = .slist l ∧ Enumerates l (BSet.interAll (den v0) (vs.map den)) :=
  ⟨_, C03Api.sinter_classified s now _ _ h, C03Api.interOf_nodup _ hs, C03Api.mem_interOf v0 vs⟩

/-- SUNION k0 k1 ... enumerates the mathematical union (missing operands contribute nothing) -/
theorem sunion_api_spec (s : MState) (now : Int) (k0 : Bytes) (ks : List Bytes) (v0 : Option (AList Unit))
    (vs : List (Option (AList Unit))) (h : Classified s now (k0 :: ks) (v0 :: vs))
    (hs : ∀ st, some st ∈ v0 :: vs → AList.Sorted st) :
    ∃ l, (Api.sunion s now (k0 :: ks)).2 = .slist l ∧ Enumerates l (BSet.unionAll (den v0) (vs.map den)) :=
  ⟨_, C03Api.sunion_classified s now _ _ h, C03Api.unionOf_nodup _ hs, C03Api.mem_unionOf v0 vs⟩

/-- SDIFF k0 k1 ... enumerates the mathematical difference -/
theorem sdiff_api_spec (s : MState) (now : Int) (k0 : Bytes) (ks : List Bytes) (v0 : Option (AList Unit))
    (vs : List (Option (AList Unit))) (h : Classified s now (k0 :: ks) (v0 :: vs))
    (hs : ∀ st, some st ∈ v0 :: vs → AList.Sorted st) :
    ∃ l, (Api.sdiff s now (k0 :: ks)).2 = .slist l ∧ Enumerates l (BSet.diffAll (den v0) (vs.map den)) :=
  ⟨_, C03Api.sdiff_classified s now _ _ h, C03Api.diffOf_nodup _ hs, C03Api.mem_diffOf v0 vs⟩

/-- SINTER with any missing operand (first, middle or last) is empty -/
theorem missing_key_is_empty_set (s : MState) (now : Int) (keys : List Bytes) (vals : List (Option (AList Unit)))
    (h : Classified s now keys vals) (hm : none ∈ vals) : (Api.sinter s now keys).2 = .slist [] := by
  rw [C03Api.sinter_classified s now keys vals h]
  have : ¬ vals.all Option.isSome = true := by
    intro ha
    have := List.all_eq_true.mp ha none hm
    simp at this
  simp [C03Api.interOf, this]

/-- SUNION / SDIFF skip missing operands: the reply is the one computed from the present sets only -/
theorem sunion_skips_missing (s : MState) (now : Int) (keys : List Bytes) (vals : List (Option (AList Unit)))
    (h : Classified s now keys vals) :
    (Api.sunion s now keys).2 = .slist (match vals.filterMap id with | [] => [] | st :: rest => DsSet.sunion st rest) :=
  C03Api.sunion_classified s now keys vals h

theorem sdiff_skips_missing (s : MState) (now : Int) (k0 : Bytes) (ks : List Bytes) (st : AList Unit)
    (vs : List (Option (AList Unit))) (h : Classified s now (k0 :: ks) (some st :: vs)) :
    (Api.sdiff s now (k0 :: ks)).2 = .slist (DsSet.sdiff st (vs.filterMap id)) :=
  C03Api.sdiff_classified s now _ _ h

/-- non-vacuity: SINTER s x m / SUNION / SDIFF on the example store, "x" expired, "m" not indexed -/
example : Classified exampleStore 5 [[115], [120], [109]] [some [([1], ()), ([2], ())], none, none] :=
  ⟨⟨{ exp := 100, value := some (.set [([1], ()), ([2], ())]), state := 1 }, by rfl, by decide, by decide, rfl⟩,
   example_x_absent, example_m_absent, trivial⟩

/-! ### a collection that becomes empty ceases to exist -/

/-- SREM: reply = the data-structure reply (see `srem_spec`); removing every member unlinks the
    key, otherwise the key holds the reduced set -/
theorem srem_api_spec (s : MState) (now : Int) (key : Bytes) (members : List Bytes) (st : AList Unit)
    (h : HotSet s key st now) (hi : IndexSorted s) (hst : AList.Sorted st) :
    (Api.srem s now key members).2 = .int (DsSet.srem st members).2 ∧
    ((∀ x, DsSet.mem st x = true → x ∈ members) → getMeta (Api.srem s now key members).1 key = none) ∧
    ((∃ x, DsSet.mem st x = true ∧ x ∉ members) →
      HotSet (Api.srem s now key members).1 key (DsSet.srem st members).1 now) := by
  obtain ⟨s1, e, heq, hot1, he1, hi1⟩ := KeyTx.keyTx_hot true none (.int 0) Proofs.C11.Cmd.pan
    (Proofs.C11.decSrem key members) h hi
  rw [Proofs.C11.srem_eq, heq]
  exact C03Api.collDel_hot Val.set st members _ _ hot1 he1 hi1 hst

theorem hdel_api_spec (s : MState) (now : Int) (key : Bytes) (fields : List Bytes) (hh : AList Bytes)
    (h : HotHash s key hh now) (hi : IndexSorted s) (hst : AList.Sorted hh) :
    (Api.hdel s now key fields).2 = .int (DsHash.hdel hh fields).2 ∧
    ((∀ x, DsHash.hexists hh x = true → x ∈ fields) → getMeta (Api.hdel s now key fields).1 key = none) ∧
    ((∃ x, DsHash.hexists hh x = true ∧ x ∉ fields) →
      HotHash (Api.hdel s now key fields).1 key (DsHash.hdel hh fields).1 now) := by
  obtain ⟨s1, e, heq, hot1, he1, hi1⟩ := KeyTx.keyTx_hot true none (.int 0) Proofs.C11.Cmd.pan
    (Proofs.C11.decHdel key fields) h hi
  rw [Proofs.C11.hdel_eq, heq]
  exact C03Api.collDel_hot Val.hash hh fields _ _ hot1 he1 hi1 hst

theorem empty_ceases_srem (s : MState) (now : Int) (key : Bytes) (members : List Bytes) (st : AList Unit)
    (h : HotSet s key st now) (hi : IndexSorted s) (hst : AList.Sorted st)
    (hall : ∀ x, DsSet.mem st x = true → x ∈ members) : getMeta (Api.srem s now key members).1 key = none :=
  (srem_api_spec s now key members st h hi hst).2.1 hall

theorem empty_ceases_hdel (s : MState) (now : Int) (key : Bytes) (fields : List Bytes) (hh : AList Bytes)
    (h : HotHash s key hh now) (hi : IndexSorted s) (hst : AList.Sorted hh)
    (hall : ∀ x, DsHash.hexists hh x = true → x ∈ fields) : getMeta (Api.hdel s now key fields).1 key = none :=
  (hdel_api_spec s now key fields hh h hi hst).2.1 hall

/-- SPOP that takes every member (count ≥ card) -/
theorem empty_ceases_spop (s : MState) (now : Int) (key : Bytes) (count : Int) (choice : List Bytes) (st : AList Unit)
    (h : HotSet s key st now) (hi : IndexSorted s) (hst : AList.Sorted st)
    (hr : (Api.spop s now key count choice).2 = .slist choice) (hall : choice.length = st.length) :
    getMeta (Api.spop s now key count choice).1 key = none :=
  ((spop_sound s now key count choice st h hi hst).1 (spop_reply_admissible s now key count choice st h hi hst hr)).2.1 hall

/-- SMOVE of the only member to another key that is missing or holds a set: the source ceases to exist.
    (nodis checks the destination's type before the member leaves the source; on a wrong-typed destination the
    call fails first and nothing changes: `smove_wrong_type_destination`.) -/
theorem empty_ceases_smove (s : MState) (now : Int) (src dst member : Bytes) (st : AList Unit)
    (h : HotSet s src st now) (hi : IndexSorted s) (hne : src ≠ dst)
    (hd : Absent s dst now ∨ ∃ d, HotSet s dst d now) (hst : AList.Sorted st)
    (hmem : DsSet.mem st member = true) (hlast : ∀ x, DsSet.mem st x = true → x = member) :
    getMeta (Api.smove s now src dst member).1 src = none := by
  have hnil : AList.erase st member = [] :=
    C03Seq.eq_nil_of_length_zero _ ((C03Oids.erase_card_zero_iff st hst member).mpr hlast)
  rw [(C03Seq.smove_hot_eq s now src dst member st h hd hmem).1]
  refine (C03Seq.none_closed hne).sadd now [member] ?_
  refine (C03Seq.moveOut_spec _ now src st _ ((C03Seq.pres_smove_writes s now src dst).2 _ _ h)
    (Store.writeKey_sorted _ now dst none (Store.writeKey_sorted s now src none hi))).2.1 ?_
  rw [hnil]
  rfl

/-- non-vacuity of the destination hypotheses: "m" is missing, "s" holds a set, "h" holds a hash -/
example : Absent exampleStore [109] 5 ∨ ∃ d, HotSet exampleStore [109] d 5 := Or.inl example_m_absent
example : Absent exampleStore [115] 5 ∨ ∃ d, HotSet exampleStore [115] d 5 :=
  Or.inr ⟨_, { exp := 100, value := some (.set [([1], ()), ([2], ())]), state := 1 }, by rfl, by decide, by decide, rfl⟩
example : ∃ v, Hot exampleStore [104] v 5 ∧ ∀ d, v ≠ .set d :=
  ⟨.hash [([], [])], ⟨{ exp := 0, value := some (.hash [([], [])]), state := 1 }, by rfl, by decide, by decide, rfl⟩,
   fun _ e => by cases e⟩

/-! ### SMOVE: the destination's type is checked before anything moves -/

/-- the source holds a set and the destination exists with another type: the call fails (wrong type),
    whether or not `member` is in the source, and nothing is moved or lost — every key (the source and
    the destination included) is classified exactly as before, and the index stays well formed -/
theorem smove_wrong_type_destination (s : MState) (now : Int) (src dst member : Bytes) (st : AList Unit)
    (h : HotSet s src st now) (hd : ∃ v, Hot s dst v now ∧ ∀ d, v ≠ .set d) :
    (Api.smove s now src dst member).2 = .panic ∧
    (∀ k, Absent s k now → Absent (Api.smove s now src dst member).1 k now) ∧
    (∀ k v, Hot s k v now → Hot (Api.smove s now src dst member).1 k v now) ∧
    (IndexSorted s → IndexSorted (Api.smove s now src dst member).1) :=
  let ⟨a, b, c⟩ := C03Seq.smove_wrong_dst s now src dst member st h hd
  ⟨a, b.1, b.2, c⟩

/-! ### SMOVE: the cases that involve one key only -/

/-- the member is not in the source: the source keeps its set whatever the destination is (no hypothesis
    on it); the reply is false when the destination is missing or a set, and the call fails (wrong type,
    as in Redis) when the destination holds another type -/
theorem smove_not_member (s : MState) (now : Int) (src dst member : Bytes) (st : AList Unit)
    (h : HotSet s src st now) (hm : DsSet.mem st member = false) :
    HotSet (Api.smove s now src dst member).1 src st now ∧
    ((Absent s dst now ∨ ∃ d, HotSet s dst d now) → (Api.smove s now src dst member).2 = .bool false) ∧
    ((∃ v, Hot s dst v now ∧ ∀ d, v ≠ .set d) → (Api.smove s now src dst member).2 = .panic) := by
  have hw := C03Api.hot_after_writeKey s now src none _ h
  have p1 := C03Api.pres_writeKey_none s now src
  have hw2 := (C03Api.pres_writeKey_none (writeKey s now src none).1 now dst).2 _ _ hw.2
  rw [Proofs.C20.smove_eq, hw.1, C03Api.asSet_hot hw.2]
  simp only [Bool.not_true, Bool.false_eq_true, if_false, C03Seq.srem_singleton_nonmember st member hm, if_true]
  split
  · next hc =>
    refine ⟨hw2, fun hd => ?_, fun _ => rfl⟩
    rw [C03Api.smove_check_ok _ now dst (C03Api.dstOk_pres p1 hd)] at hc
    cases hc
  · next hc =>
    refine ⟨C03Api.hot_setVal _ _ _ _ _ hw2, fun _ => rfl, fun hd => ?_⟩
    rw [C03Api.smove_check_wrong _ now dst (C03Api.dstWrong_pres p1 hd)] at hc
    exact absurd rfl hc

/-- a missing source is the empty set: reply false -/
theorem smove_missing_source (s : MState) (now : Int) (src dst member : Bytes) (h : Absent s src now) :
    (Api.smove s now src dst member).2 = .bool false := by
  have hp : writeKey s now src none = ((writeKey s now src none).1, false) :=
    Prod.ext rfl (C03Api.writeKey_absent_none s now src h).1
  rw [Proofs.C20.smove_eq, hp]
  rfl

/-- source = destination (the call re-uses the write lock it holds): reply true, the set is unchanged —
    also when the member was the only one (the key is unlinked and re-created within the call) -/
theorem smove_same_key (s : MState) (now : Int) (key member : Bytes) (st : AList Unit)
    (h : HotSet s key st now) (hi : IndexSorted s) (hst : AList.Sorted st) (hm : DsSet.mem st member = true) :
    (Api.smove s now key key member).2 = .bool true ∧ HotSet (Api.smove s now key key member).1 key st now ∧
    IndexSorted (Api.smove s now key key member).1 := by
  obtain ⟨e1, e2⟩ := C03Seq.smove_hot_eq s now key key member st h (Or.inr ⟨st, h⟩) hm
  have p := C03Seq.pres_smove_writes s now key key
  have hi2 := Store.writeKey_sorted _ now key none (Store.writeKey_sorted s now key none hi)
  generalize (writeKey (writeKey s now key none).1 now key none).1 = s2 at e1 e2 p hi2
  obtain ⟨ix, gone, kept⟩ := C03Seq.moveOut_spec s2 now key st (AList.erase st member) (p.2 _ _ h) hi2
  generalize C03Seq.moveOut s2 key (AList.erase st member) = x at e1 e2 ix gone kept
  have hd : (Absent x key now ∧ AList.erase st member = []) ∨ Hot x key (.set (AList.erase st member)) now := by
    by_cases hc : DsSet.scard (AList.erase st member) = 0
    · exact Or.inl ⟨(fun m hm' => by rw [gone hc] at hm'; cases hm'), C03Seq.eq_nil_of_length_zero _ hc⟩
    · exact Or.inr (kept hc)
  have hot6 := C03Api.hot_writeKey_ctor x now key _ (.set []) (hd.imp_left fun ⟨a, e⟩ => ⟨a, by rw [e]⟩)
  obtain ⟨_, hot, i⟩ := C03Seq.sadd_hot x now key [member] _ hd ix
  rw [C03Seq.sadd_erase_same st hst member hm] at hot
  rw [e1]
  exact ⟨e2 (by rw [C03Api.asSet_hot hot6]; rfl), hot, i⟩

/-! ### SMOVE between two different keys: value objects must not be shared

  `Api.setVal` mutates the value *object* of a key; with the in-memory backend every index record and
  every backend entry carrying the same object identity (`Meta.oid`) sees the new value. "No other key
  changes" therefore holds in stores where no two live records share a value object:

  `OidsDistinct s` (Proofs/Oids.lean): two different indexed keys never carry the same non-zero `oid`
  (0 = a private copy decoded from Pebble); every `oid` in the index and in the backend is below
  `s.nextId` (so a newly allocated one is new); an `oid` kept in a backend entry belongs to the key under
  whose name the entry is filed, and entries with one `oid` are filed under one name (so a cold value
  loaded back does not import a foreign identity).
  `StoreInv s` = `IndexSorted s ∧ OidsDistinct s`.

  The invariant holds in the empty store and is kept by SADD, SREM, SPOP (any choice), SMOVE, DEL,
  SINTERSTORE / SUNIONSTORE / SDIFFSTORE, the set reads and the hash writers, on any keys at any time — hot,
  cold or missing, of any type (`storeInv_initial`, `storeInv_preserved`, `storeInv_preserved_reads`,
  `storeInv_preserved_hash`): every store reached from an empty one by those commands satisfies it.
  REMARK: it is *not* claimed — outside these theorems — for RENAME / RENAMENX (the destination takes over the
  source's value object on purpose), for `Store.reopen` (with the in-memory backend the rebuilt records share
  their objects with whatever the backend holds) and for gc / flush (they file backend entries; needs the
  backend-key invariants of C11 / C13). `smove_between_keys_needs_unshared_objects` shows what SMOVE does in
  a store where two records share an object. -/

/-- what the hypothesis says about the index: different keys, different value objects, all below `nextId` -/
theorem oidsDistinct_index (s : MState) (h : OidsDistinct s) :
    (∀ k k' m m', getMeta s k = some m → getMeta s k' = some m' → m.oid = m'.oid → m.oid ≠ 0 → k = k') ∧
    (∀ k m, getMeta s k = some m → m.oid ≠ 0 → m.oid < s.nextId) :=
  ⟨h.idxDistinct, h.idxBound⟩

theorem storeInv_initial : StoreInv ({} : MState) := C03Oids.inv_empty

/-- every set command that writes keeps the invariant, whatever its arguments and whatever the keys hold -/
theorem storeInv_preserved (s : MState) (now : Int) (h : StoreInv s) :
    (∀ key ms, StoreInv (Api.sadd s now key ms).1) ∧
    (∀ key ms, StoreInv (Api.srem s now key ms).1) ∧
    (∀ key count choice, StoreInv (Api.spop s now key count choice).1) ∧
    (∀ src dst m, StoreInv (Api.smove s now src dst m).1) ∧
    (∀ keys, StoreInv (Api.del s now keys).1) ∧
    (∀ dst keys, StoreInv (Api.sstore Api.sinter s now dst keys).1) ∧
    (∀ dst keys, StoreInv (Api.sstore Api.sunion s now dst keys).1) ∧
    (∀ dst keys, StoreInv (Api.sstore Api.sdiff s now dst keys).1) :=
  ⟨fun key ms => (C03Oids.inv_closed key).sadd now ms h, fun key ms => (C03Oids.inv_closed key).srem now ms h,
   fun key count choice => (C03Oids.inv_closed key).spop now count choice h,
   fun src dst m => C03Api.smove_keeps (C03Oids.inv_closed src) (C03Oids.inv_closed dst) now m h,
   fun keys => C03Oids.inv_del s now keys h,
   fun dst keys => C03Oids.inv_sstore Api.sinter C03Oids.inv_sinter s now dst keys h,
   fun dst keys => C03Oids.inv_sstore Api.sunion C03Oids.inv_sunion s now dst keys h,
   fun dst keys => C03Oids.inv_sstore Api.sdiff C03Oids.inv_sdiff s now dst keys h⟩

/-- the reads used by the set algebra keep it too (they count accesses and may load cold values) -/
theorem storeInv_preserved_reads (s : MState) (now : Int) (h : StoreInv s) (keys : List Bytes) :
    StoreInv (Api.sinter s now keys).1 ∧ StoreInv (Api.sunion s now keys).1 ∧ StoreInv (Api.sdiff s now keys).1 :=
  ⟨C03Oids.inv_sinter s now keys h, C03Oids.inv_sunion s now keys h, C03Oids.inv_sdiff s now keys h⟩

/-- every store built from the empty one by SADD commands (each with its own time, key and members) -/
theorem storeInv_sadd_sequences (cmds : List (Int × Bytes × List Bytes)) :
    StoreInv (cmds.foldl (fun s c => (Api.sadd s c.1 c.2.1 c.2.2).1) ({} : MState)) :=
  Proofs.C03.foldl_keeps C03Oids.Inv _ (fun _ c h => (C03Oids.inv_closed c.2.1).sadd c.1 c.2.2 h) cmds {}
    C03Oids.inv_empty

/-- SMOVE src dst member with src ≠ dst, the source holding the set `st` ∋ member, the destination holding the
    set `d` (`d = []` when the destination is missing), in a store without shared value objects:
    * the reply is true (1);
    * the destination now holds exactly its old members plus `member`;
    * the source holds exactly its old members minus `member`, and ceases to exist when that is nothing;
    * the record of every other key — value, deadline, everything — is what it was;
    * the store invariant is kept. -/
theorem smove_between_keys (s : MState) (now : Int) (src dst member : Bytes) (st d : AList Unit)
    (h : HotSet s src st now) (hi : IndexSorted s) (ho : OidsDistinct s) (hne : src ≠ dst)
    (hd : (Absent s dst now ∧ d = []) ∨ HotSet s dst d now)
    (hst : AList.Sorted st) (hdst : AList.Sorted d) (hmem : DsSet.mem st member = true) :
    (Api.smove s now src dst member).2 = .bool true ∧
    (∃ d', HotSet (Api.smove s now src dst member).1 dst d' now ∧ AList.Sorted d' ∧
      DsSet.mem d' = BSet.insert (DsSet.mem d) member) ∧
    ((∀ x, DsSet.mem st x = true → x = member) → getMeta (Api.smove s now src dst member).1 src = none) ∧
    ((∃ x, DsSet.mem st x = true ∧ x ≠ member) →
      ∃ st', HotSet (Api.smove s now src dst member).1 src st' now ∧ AList.Sorted st' ∧
        DsSet.mem st' = BSet.remove (DsSet.mem st) member) ∧
    (∀ k, k ≠ src → k ≠ dst → getMeta (Api.smove s now src dst member).1 k = getMeta s k) ∧
    IndexSorted (Api.smove s now src dst member).1 ∧ OidsDistinct (Api.smove s now src dst member).1 := by
  obtain ⟨e1, e2⟩ := C03Seq.smove_hot_eq s now src dst member st h (hd.imp (·.1) (fun hh => ⟨d, hh⟩)) hmem
  have p := C03Seq.pres_smove_writes s now src dst
  have i2 : C03Oids.Inv (writeKey (writeKey s now src none).1 now dst none).1 :=
    (C03Oids.inv_closed dst).writeKey now none ((C03Oids.inv_closed src).writeKey now none ⟨hi, ho⟩)
  have g2 : ∀ k, k ≠ src → k ≠ dst →
      getMeta (writeKey (writeKey s now src none).1 now dst none).1 k = getMeta s k := fun k h1 h2 => by
    rw [Store.getMeta_writeKey_other _ now dst none k h2, Store.getMeta_writeKey_other s now src none k h1]
  generalize (writeKey (writeKey s now src none).1 now dst none).1 = s2 at e1 e2 p i2 g2
  -- the member leaves the source
  obtain ⟨_, gone, kept⟩ := C03Seq.moveOut_spec s2 now src st (AList.erase st member) (p.2 _ _ h) i2.1
  obtain ⟨ix, ox⟩ : C03Oids.Alone src s2 (C03Seq.moveOut s2 src (AList.erase st member)) :=
    (C03Oids.alone_closed src s2).emptied _ _ (C03Oids.alone_refl src i2)
  generalize C03Seq.moveOut s2 src (AList.erase st member) = x at e1 e2 gone kept ix ox
  -- SADD on the destination, which `x` classifies as `s` did
  have hdx : (Absent x dst now ∧ d = []) ∨ Hot x dst (.set d) now :=
    hd.imp (fun ⟨a, b⟩ => ⟨C03Api.absent_of_getMeta (ox dst (Ne.symm hne)) (p.1 _ a), b⟩)
      (fun hh => C03Api.hot_of_getMeta (ox dst (Ne.symm hne)) (p.2 _ _ hh))
  have hot6 := C03Api.hot_writeKey_ctor x now dst _ (.set []) (hdx.imp_left fun ⟨a, e⟩ => ⟨a, by rw [e]⟩)
  obtain ⟨_, hy, _⟩ := C03Seq.sadd_hot x now dst [member] d hdx ix.1
  obtain ⟨iy, oy⟩ := (C03Oids.alone_closed dst x).sadd now [member] (C03Oids.alone_refl dst ix)
  rw [e1]
  refine ⟨e2 (by rw [C03Api.asSet_hot hot6]; rfl),
    ⟨_, hy, (sadd_spec d hdst [member]).1, C03Oids.mem_sadd_insert d hdst member⟩,
    fun hall => ?_, fun ⟨y, hy1, hy2⟩ => ?_, fun k h1 h2 => ?_, iy.1, iy.2⟩
  · rw [oy src hne]
    exact gone ((C03Oids.erase_card_zero_iff st hst member).mpr hall)
  · exact ⟨_, C03Api.hot_of_getMeta (oy src hne)
        (kept fun h0 => hy2 ((C03Oids.erase_card_zero_iff st hst member).mp h0 y hy1)),
      erase_preserves_sorted st hst member, C03Oids.mem_erase_remove st hst member⟩
  · rw [oy k h2, ox k h1]
    exact g2 k h1 h2

/-- in particular every other key is classified as before, with the same value -/
theorem smove_between_keys_others (s : MState) (now : Int) (src dst member : Bytes) (st d : AList Unit)
    (h : HotSet s src st now) (hi : IndexSorted s) (ho : OidsDistinct s) (hne : src ≠ dst)
    (hd : (Absent s dst now ∧ d = []) ∨ HotSet s dst d now)
    (hst : AList.Sorted st) (hdst : AList.Sorted d) (hmem : DsSet.mem st member = true)
    (k : Bytes) (hks : k ≠ src) (hkd : k ≠ dst) :
    (∀ v, Hot s k v now ↔ Hot (Api.smove s now src dst member).1 k v now) ∧
    (Absent s k now ↔ Absent (Api.smove s now src dst member).1 k now) := by
  have e := (smove_between_keys s now src dst member st d h hi ho hne hd hst hdst hmem).2.2.2.2.1 k hks hkd
  exact ⟨fun v => ⟨C03Api.hot_of_getMeta e, C03Api.hot_of_getMeta e.symm⟩,
    ⟨C03Api.absent_of_getMeta e, C03Api.absent_of_getMeta e.symm⟩⟩

/-- commands on one key and the other keys: in a store without shared value objects every single-key writer of
    this family (whatever its arguments, whatever `key` holds — hot, cold, missing, of another type) leaves the
    record of every other key exactly as it was -/
theorem writers_leave_other_keys (s : MState) (now : Int) (key k : Bytes) (h : StoreInv s) (hk : k ≠ key) :
    (∀ ms, getMeta (Api.sadd s now key ms).1 k = getMeta s k) ∧
    (∀ ms, getMeta (Api.srem s now key ms).1 k = getMeta s k) ∧
    (∀ count choice, getMeta (Api.spop s now key count choice).1 k = getMeta s k) ∧
    (∀ f v, getMeta (Api.hset s now key f v).1 k = getMeta s k) ∧
    (∀ f v, getMeta (Api.hsetnx s now key f v).1 k = getMeta s k) ∧
    (∀ pairs, getMeta (Api.hmset s now key pairs).1 k = getMeta s k) ∧
    (∀ fs, getMeta (Api.hdel s now key fs).1 k = getMeta s k) ∧
    (∀ f delta, getMeta (Api.hincrby s now key f delta).1 k = getMeta s k) :=
  have c := C03Oids.alone_closed key s
  have h0 := C03Oids.alone_refl key h
  ⟨fun ms => (c.sadd now ms h0).2 k hk, fun ms => (c.srem now ms h0).2 k hk,
   fun count choice => (c.spop now count choice h0).2 k hk,
   fun f v => (c.hset now f v h0).2 k hk, fun f v => (c.hsetnx now f v h0).2 k hk,
   fun pairs => (c.hmset now pairs h0).2 k hk, fun fs => (c.hdel now fs h0).2 k hk,
   fun f delta => (c.hincrby now f delta h0).2 k hk⟩

/-- the hash writers keep the invariant too -/
theorem storeInv_preserved_hash (s : MState) (now : Int) (key : Bytes) (h : StoreInv s) :
    (∀ f v, StoreInv (Api.hset s now key f v).1) ∧ (∀ f v, StoreInv (Api.hsetnx s now key f v).1) ∧
    (∀ pairs, StoreInv (Api.hmset s now key pairs).1) ∧ (∀ fs, StoreInv (Api.hdel s now key fs).1) ∧
    (∀ f delta, StoreInv (Api.hincrby s now key f delta).1) :=
  have c := C03Oids.inv_closed key
  ⟨fun f v => c.hset now f v h, fun f v => c.hsetnx now f v h, fun pairs => c.hmset now pairs h,
   fun fs => c.hdel now fs h, fun f delta => c.hincrby now f delta h⟩

/-- the representation relations of section F (`SetRel` / `HashRel`: the store represents a collection under a
    key) only look at the key's own record — so, with `writers_leave_other_keys`, a command on another key in
    between does not disturb a per-key command sequence -/
theorem relations_depend_on_own_record (s s' : MState) (key : Bytes) (now : Int)
    (e : getMeta s' key = getMeta s key) :
    (∀ st, SetRel s key now st → SetRel s' key now st) ∧ (∀ hh, HashRel s key now hh → HashRel s' key now hh) :=
  ⟨fun _ hr => ⟨hr.1, hr.2.imp (fun ⟨a, b⟩ => ⟨a, C03Api.absent_of_getMeta e b⟩) (fun ⟨a, b⟩ => ⟨a, C03Api.hot_of_getMeta e b⟩)⟩,
   fun _ hr => ⟨hr.1, hr.2.imp (fun ⟨a, b⟩ => ⟨a, C03Api.absent_of_getMeta e b⟩) (fun ⟨a, b⟩ => ⟨a, C03Api.hot_of_getMeta e b⟩)⟩⟩

/-- non-vacuity: "a" = {[1], [2]} and "b" = {[3]} built by two SADD commands on the empty store (times 0 and 7);
    at time 9 SMOVE a b [1] and SMOVE a m [1] ("m" missing) satisfy every hypothesis -/
def twoSets : MState := (Api.sadd (Api.sadd {} 0 [97] [[1], [2]]).1 7 [98] [[3]]).1

example : HotSet twoSets [97] [([1], ()), ([2], ())] 9 := ⟨_, rfl, by decide, by decide, rfl⟩
example : HotSet twoSets [98] [([3], ())] 9 := ⟨_, rfl, by decide, by decide, rfl⟩
theorem twoSets_inv : StoreInv twoSets := storeInv_sadd_sequences [(0, [97], [[1], [2]]), (7, [98], [[3]])]
example : IndexSorted twoSets ∧ OidsDistinct twoSets := twoSets_inv
example : ([97] : Bytes) ≠ [98] := by decide
example : (Absent twoSets [109] 9 ∧ ([] : AList Unit) = []) ∨ HotSet twoSets [109] [] 9 :=
  Or.inl ⟨(fun m hm => by
    have : Store.getMeta twoSets [109] = none := by rfl
    rw [this] at hm; cases hm), rfl⟩
example : AList.Sorted ([([1], ()), ([2], ())] : AList Unit) ∧ AList.Sorted ([([3], ())] : AList Unit) ∧
    DsSet.mem [([1], ()), ([2], ())] [1] = true := by
  simp [AList.Sorted, Bytes.lt, DsSet.mem, AList.contains, AList.get?]
/-- and the conclusion on it, computed: "a" = {[2]}, "b" = {[1], [3]} -/
example : (Api.smove twoSets 9 [97] [98] [1]).2 = .bool true ∧
    valOf (Api.smove twoSets 9 [97] [98] [1]).1 [97] = some (.set [([2], ())]) ∧
    valOf (Api.smove twoSets 9 [97] [98] [1]).1 [98] = some (.set [([1], ()), ([3], ())]) :=
  ⟨by rfl, by decide, by decide⟩

/-- why the hypothesis is there: a store in which "a" and "c" share one value object (what the doc comment of
    `Api.setVal` says a reopen with the in-memory backend can produce). SMOVE a b [1] takes [1] out of "c" as well. -/
def sharedStore : MState :=
  { index := [ ([97], { exp := 0, value := some (.set [([1], ()), ([2], ())]), state := 1, oid := 5 }),
               ([99], { exp := 0, value := some (.set [([1], ()), ([2], ())]), state := 1, oid := 5 }) ], nextId := 6 }

theorem smove_between_keys_needs_unshared_objects :
    HotSet sharedStore [97] [([1], ()), ([2], ())] 0 ∧ HotSet sharedStore [99] [([1], ()), ([2], ())] 0 ∧
    Absent sharedStore [98] 0 ∧ IndexSorted sharedStore ∧ ¬ OidsDistinct sharedStore ∧
    valOf (Api.smove sharedStore 0 [97] [98] [1]).1 [99] = some (.set [([2], ())]) := by
  refine ⟨⟨_, rfl, by decide, by decide, rfl⟩, ⟨_, rfl, by decide, by decide, rfl⟩, ?_, ?_, ?_, by decide⟩
  · intro m hm
    have : Store.getMeta sharedStore [98] = none := by rfl
    rw [this] at hm; cases hm
  · simp [IndexSorted, sharedStore, AList.Sorted, Bytes.lt]
  · intro h
    have := h.idxDistinct [97] [99] _ _ rfl rfl rfl (by decide)
    exact absurd this (by decide)

end D


/-! ## E. S*STORE: compute, replace the destination

  The destination may be missing or hold a value of any type; it may also be one of the operands.
  Afterwards it holds exactly the computed set, or does not exist if that set is empty; the reply is
  the cardinality. -/
section E
open Store

theorem sinterstore_spec (s : MState) (now : Int) (dst k0 : Bytes) (ks : List Bytes) (v0 : Option (AList Unit))
    (vs : List (Option (AList Unit))) (h : Classified s now (k0 :: ks) (v0 :: vs))
    (hs : ∀ st, some st ∈ v0 :: vs → AList.Sorted st) (hi : IndexSorted s)
    (hd : Absent s dst now ∨ ∃ v, Hot s dst v now) :
    ∃ n, HasCard (BSet.interAll (den v0) (vs.map den)) n ∧
      (Api.sstore Api.sinter s now dst (k0 :: ks)).2 = .int n ∧
      (n = 0 → Absent (Api.sstore Api.sinter s now dst (k0 :: ks)).1 dst now) ∧
      (n ≠ 0 → ∃ st', HotSet (Api.sstore Api.sinter s now dst (k0 :: ks)).1 dst st' now ∧ AList.Sorted st' ∧
          DsSet.mem st' = BSet.interAll (den v0) (vs.map den)) := by
  obtain ⟨l, ho, hl⟩ := sinter_api_spec s now k0 ks v0 vs h hs
  exact C03Seq.sstore_enumerated Api.sinter s now dst (k0 :: ks) (by simp) l _ hl ho
    (C03Seq.keepsClassification_sinter s now _) hi hd

theorem sunionstore_spec (s : MState) (now : Int) (dst k0 : Bytes) (ks : List Bytes) (v0 : Option (AList Unit))
    (vs : List (Option (AList Unit))) (h : Classified s now (k0 :: ks) (v0 :: vs))
    (hs : ∀ st, some st ∈ v0 :: vs → AList.Sorted st) (hi : IndexSorted s)
    (hd : Absent s dst now ∨ ∃ v, Hot s dst v now) :
    ∃ n, HasCard (BSet.unionAll (den v0) (vs.map den)) n ∧
      (Api.sstore Api.sunion s now dst (k0 :: ks)).2 = .int n ∧
      (n = 0 → Absent (Api.sstore Api.sunion s now dst (k0 :: ks)).1 dst now) ∧
      (n ≠ 0 → ∃ st', HotSet (Api.sstore Api.sunion s now dst (k0 :: ks)).1 dst st' now ∧ AList.Sorted st' ∧
          DsSet.mem st' = BSet.unionAll (den v0) (vs.map den)) := by
  obtain ⟨l, ho, hl⟩ := sunion_api_spec s now k0 ks v0 vs h hs
  exact C03Seq.sstore_enumerated Api.sunion s now dst (k0 :: ks) (by simp) l _ hl ho
    (C03Seq.keepsClassification_sunion s now _) hi hd

theorem sdiffstore_spec (s : MState) (now : Int) (dst k0 : Bytes) (ks : List Bytes) (v0 : Option (AList Unit))
    (vs : List (Option (AList Unit))) (h : Classified s now (k0 :: ks) (v0 :: vs))
    (hs : ∀ st, some st ∈ v0 :: vs → AList.Sorted st) (hi : IndexSorted s)
    (hd : Absent s dst now ∨ ∃ v, Hot s dst v now) :
    ∃ n, HasCard (BSet.diffAll (den v0) (vs.map den)) n ∧
      (Api.sstore Api.sdiff s now dst (k0 :: ks)).2 = .int n ∧
      (n = 0 → Absent (Api.sstore Api.sdiff s now dst (k0 :: ks)).1 dst now) ∧
      (n ≠ 0 → ∃ st', HotSet (Api.sstore Api.sdiff s now dst (k0 :: ks)).1 dst st' now ∧ AList.Sorted st' ∧
          DsSet.mem st' = BSet.diffAll (den v0) (vs.map den)) := by
  obtain ⟨l, ho, hl⟩ := sdiff_api_spec s now k0 ks v0 vs h hs
  exact C03Seq.sstore_enumerated Api.sdiff s now dst (k0 :: ks) (by simp) l _ hl ho
    (C03Seq.keepsClassification_sdiff s now _) hi hd

end E

/-! ## F. every sequence of commands on one key refines the reference semantics

  `HashRel s key now h` / `SetRel s key now st`: the store represents the well-formed collection
  under `key` — the key is missing (not indexed, deleted, or expired) exactly when the collection is
  empty, otherwise it holds it in memory. `toReply` reads an API result as a reply of
  Spec/HashSet.lean. `execHash` / `execSet` dispatch a `Spec.HashCmd` / `Spec.SetCmd` to the API
  method; for sets every command carries the implementation's random `choice` (used by SPOP and
  SRANDMEMBER only).

  Full-strength statement (hashes; sets alike):

    ∀ cmds, HashRel s key now h → IndexSorted s →
      ∃ rs h', replies = rs ∧ HashRel s' key now h' ∧ Spec.HashRun (hget h) cmds rs (hget h')

  It is FALSE of the model, and of the Go code's embedded API, on the decidable finding regions
  `hashFinding` / `setFinding` (witnesses below):
    * HMGET f1.. on a missing key answers [] instead of one nil per field  (`hmget_missing_key_finding`;
      the RESP handler `hMGet` compensates);
    * HINCRBY wraps at int64 instead of failing                              (`hincrby_redis_finding`;
      `hashFinding` also excludes increments outside int64, which Go's `HIncrBy(key, value int64)` cannot be handed:
      that part of the region comes from `delta : Int` in the model and has no witness);
    * HMSET / SADD with an empty argument list on a missing key leave an existing-but-empty
      collection, on which SRANDMEMBER with a negative count then panics     (`*_creates_empty_key_finding`;
      unreachable over RESP: the handlers enforce the arity);
    * SPOP with a negative count answers [] instead of an error              (`spop_negative_count_finding`).
  Outside the regions the statement is proved, for command sequences of any length. -/
section F
open Store

theorem hash_command_refines_partial (s : MState) (now : Int) (key : Bytes) (h : AList Bytes) (c : HashCmd)
    (hr : HashRel s key now h) (hi : IndexSorted s) (hreg : hashFinding h c = false) :
    ∃ r, HashRel (execHash s now key c).1 key now (dsHash h c) ∧ IndexSorted (execHash s now key c).1 ∧
      toReply (execHash s now key c).2 = some r ∧ hashStep (DsHash.hget h) c r (DsHash.hget (dsHash h c)) :=
  C03Refine.hash_step_refines s now key h c hr hi hreg

/-- every sequence of hash commands, each at its own time, on a key that is missing or carries no
    deadline (`∀ t, HashRel s key t h`) -/
theorem hash_sequences_refine_partial (key : Bytes) (tcs : List (Int × HashCmd)) (s : MState) (h : AList Bytes)
    (hr : ∀ t, HashRel s key t h) (hi : IndexSorted s) (hreg : noHashFinding h (tcs.map (·.2)) = true) :
    ∃ rs, (∀ t, HashRel (runHashT key s tcs).1 key t ((tcs.map (·.2)).foldl dsHash h)) ∧
      IndexSorted (runHashT key s tcs).1 ∧
      (runHashT key s tcs).2.map toReply = rs.map some ∧
      HashRun (DsHash.hget h) (tcs.map (·.2)) rs (DsHash.hget ((tcs.map (·.2)).foldl dsHash h)) := by
  revert s h
  induction tcs with
  | nil => intro s h hr hi _; exact ⟨[], hr, hi, rfl, HashRun.nil _⟩
  | cons tc tcs ih =>
    intro s h hr hi hreg
    obtain ⟨t0, c⟩ := tc
    simp only [List.map_cons, noHashFinding, Bool.and_eq_true, Bool.not_eq_true'] at hreg
    obtain ⟨r, _, hi1, ho, hstep⟩ := C03Refine.hash_step_refines s t0 key h c (hr t0) hi hreg.1
    have hr1 := C03Refine.hash_step_all_times s key h c t0 hr hi hreg.1
    obtain ⟨rs, hr2, hi2, ho2, hrun⟩ := ih (execHash s t0 key c).1 (dsHash h c) hr1 hi1 hreg.2
    refine ⟨r :: rs, hr2, hi2, ?_, HashRun.cons hstep hrun⟩
    show toReply (execHash s t0 key c).2 :: (runHashT key (execHash s t0 key c).1 tcs).2.map toReply = _
    rw [ho, ho2]; rfl

/-- the same for a key that may carry a deadline, all commands at one time `now` before it -/
theorem hash_sequences_refine_fixed_time_partial (now : Int) (key : Bytes) (cs : List HashCmd) (s : MState)
    (h : AList Bytes) (hr : HashRel s key now h) (hi : IndexSorted s) (hreg : noHashFinding h cs = true) :
    ∃ rs, HashRel (runHash now key s cs).1 key now (cs.foldl dsHash h) ∧
      IndexSorted (runHash now key s cs).1 ∧
      (runHash now key s cs).2.map toReply = rs.map some ∧
      HashRun (DsHash.hget h) cs rs (DsHash.hget (cs.foldl dsHash h)) := by
  revert s h
  induction cs with
  | nil => intro s h hr hi _; exact ⟨[], hr, hi, rfl, HashRun.nil _⟩
  | cons c cs ih =>
    intro s h hr hi hreg
    simp only [noHashFinding, Bool.and_eq_true, Bool.not_eq_true'] at hreg
    obtain ⟨r, hr1, hi1, ho, hstep⟩ := C03Refine.hash_step_refines s now key h c hr hi hreg.1
    obtain ⟨rs, hr2, hi2, ho2, hrun⟩ := ih (execHash s now key c).1 (dsHash h c) hr1 hi1 hreg.2
    refine ⟨r :: rs, hr2, hi2, ?_, HashRun.cons hstep hrun⟩
    show toReply (execHash s now key c).2 :: (runHash now key (execHash s now key c).1 cs).2.map toReply = _
    rw [ho, ho2]; rfl

/-- one set command; an INVALID-CHOICE marker means the proposed random choice was not admissible
    (the state is then unchanged, see `spop_sound`) -/
theorem set_command_refines_partial (s : MState) (now : Int) (key : Bytes) (st : AList Unit) (c : SetCmd)
    (choice : List Bytes) (hr : SetRel s key now st) (hi : IndexSorted s) (hreg : setFinding st c = false) :
    SetRel (execSet s now key (c, choice)).1 key now (dsSet st (c, choice)) ∧
    IndexSorted (execSet s now key (c, choice)).1 ∧
    ((execSet s now key (c, choice)).2 ≠ invalidChoice →
      ∃ r, toReply (execSet s now key (c, choice)).2 = some r ∧
        setStep (DsSet.mem st) c r (DsSet.mem (dsSet st (c, choice)))) :=
  C03Refine.set_step_refines s now key st c choice hr hi hreg

theorem set_sequences_refine_partial (key : Bytes) (tcs : List (Int × SetCmd × List Bytes)) (s : MState)
    (st : AList Unit) (hr : ∀ t, SetRel s key t st) (hi : IndexSorted s)
    (hreg : noSetFinding st (tcs.map (·.2)) = true)
    (hacc : ∀ o ∈ (runSetT key s tcs).2, o ≠ invalidChoice) :
    ∃ rs, (∀ t, SetRel (runSetT key s tcs).1 key t ((tcs.map (·.2)).foldl dsSet st)) ∧
      IndexSorted (runSetT key s tcs).1 ∧
      (runSetT key s tcs).2.map toReply = rs.map some ∧
      SetRun (DsSet.mem st) (tcs.map (·.2.1)) rs (DsSet.mem ((tcs.map (·.2)).foldl dsSet st)) := by
  revert s st
  induction tcs with
  | nil => intro s st hr hi _ _; exact ⟨[], hr, hi, rfl, SetRun.nil _⟩
  | cons tc tcs ih =>
    intro s st hr hi hreg hacc
    obtain ⟨t0, c, choice⟩ := tc
    simp only [List.map_cons, noSetFinding, Bool.and_eq_true, Bool.not_eq_true'] at hreg
    obtain ⟨_, hi1, hstep⟩ := C03Refine.set_step_refines s t0 key st c choice (hr t0) hi hreg.1
    have hr1 := C03Refine.set_step_all_times s key st c choice t0 hr hi hreg.1
    have hacc1 : (execSet s t0 key (c, choice)).2 ≠ invalidChoice := hacc _ (by simp [runSetT])
    have hacc2 : ∀ o ∈ (runSetT key (execSet s t0 key (c, choice)).1 tcs).2, o ≠ invalidChoice :=
      fun o ho => hacc o (by simp [runSetT, ho])
    obtain ⟨r, ho, hst⟩ := hstep hacc1
    obtain ⟨rs, hr2, hi2, ho2, hrun⟩ := ih (execSet s t0 key (c, choice)).1 (dsSet st (c, choice)) hr1 hi1 hreg.2 hacc2
    refine ⟨r :: rs, hr2, hi2, ?_, SetRun.cons hst hrun⟩
    show toReply (execSet s t0 key (c, choice)).2 :: (runSetT key (execSet s t0 key (c, choice)).1 tcs).2.map toReply = _
    rw [ho, ho2]; rfl

theorem set_sequences_refine_fixed_time_partial (now : Int) (key : Bytes) (cs : List (SetCmd × List Bytes))
    (s : MState) (st : AList Unit) (hr : SetRel s key now st) (hi : IndexSorted s)
    (hreg : noSetFinding st cs = true) (hacc : ∀ o ∈ (runSet now key s cs).2, o ≠ invalidChoice) :
    ∃ rs, SetRel (runSet now key s cs).1 key now (cs.foldl dsSet st) ∧
      IndexSorted (runSet now key s cs).1 ∧
      (runSet now key s cs).2.map toReply = rs.map some ∧
      SetRun (DsSet.mem st) (cs.map (·.1)) rs (DsSet.mem (cs.foldl dsSet st)) := by
  revert s st
  induction cs with
  | nil => intro s st hr hi _ _; exact ⟨[], hr, hi, rfl, SetRun.nil _⟩
  | cons c cs ih =>
    intro s st hr hi hreg hacc
    obtain ⟨c, choice⟩ := c
    simp only [noSetFinding, Bool.and_eq_true, Bool.not_eq_true'] at hreg
    obtain ⟨hr1, hi1, hstep⟩ := C03Refine.set_step_refines s now key st c choice hr hi hreg.1
    have hacc1 : (execSet s now key (c, choice)).2 ≠ invalidChoice := hacc _ (by simp [runSet])
    have hacc2 : ∀ o ∈ (runSet now key (execSet s now key (c, choice)).1 cs).2, o ≠ invalidChoice :=
      fun o ho => hacc o (by simp [runSet, ho])
    obtain ⟨r, ho, hst⟩ := hstep hacc1
    obtain ⟨rs, hr2, hi2, ho2, hrun⟩ := ih (execSet s now key (c, choice)).1 (dsSet st (c, choice)) hr1 hi1 hreg.2 hacc2
    refine ⟨r :: rs, hr2, hi2, ?_, SetRun.cons hst hrun⟩
    show toReply (execSet s now key (c, choice)).2 :: (runSet now key (execSet s now key (c, choice)).1 cs).2.map toReply = _
    rw [ho, ho2]; rfl

/-- HMSET at the data-structure level (the API inlines it): abstract update pair by pair, the count is
    the number of distinct new fields -/
theorem hmset_spec (h : AList Bytes) (hs : AList.Sorted h) (pairs : List (Bytes × Bytes)) :
    AList.Sorted (hmsetDs h pairs).1 ∧
    DsHash.hget (hmsetDs h pairs).1 = pairs.foldl (fun m p => Map.put m p.1 p.2) (DsHash.hget h) ∧
    (∀ d, Enumerates d (listed (pairs.map (·.1)) (fun x => !DsHash.hexists h x)) → (hmsetDs h pairs).2 = d.length) :=
  C03Seq.hmsetDs_spec h hs pairs

/-! non-vacuity: a fresh store represents the empty hash / set under every key at every time; the
    example store represents its hash; a sequence outside the regions -/
example (key : Bytes) : ∀ t, HashRel ({} : MState) key t [] := fun _ =>
  ⟨trivial, Or.inl ⟨rfl, fun m hm => by simp [Store.getMeta, AList.get?] at hm⟩⟩
example (key : Bytes) : ∀ t, SetRel ({} : MState) key t [] := fun _ =>
  ⟨trivial, Or.inl ⟨rfl, fun m hm => by simp [Store.getMeta, AList.get?] at hm⟩⟩
example : ∀ t, HashRel exampleStore [104] t [([], [])] := fun _ =>
  ⟨trivial, Or.inr ⟨by simp, { exp := 0, value := some (.hash [([], [])]), state := 1 }, by rfl, by decide,
    by simp [Meta.expired], rfl⟩⟩
example : IndexSorted ({} : MState) := trivial
example : noHashFinding [] [.hset [] [], .hincrby [1] 5, .hmget [[], [1]], .hdel [[], [1], []], .hlen] = true := by decide
example : noSetFinding [] [(.sadd [[], [7]], []), (.spop 0, [[7]]), (.srandmember (-3), [[], [], []]), (.srem [[]], [])] = true := by
  decide

/-! ### witnesses inside the finding regions -/

theorem hmget_missing_key_finding :
    hashFinding [] (.hmget [[1]]) = true ∧ HashRel ({} : MState) [104] 0 [] ∧
    toReply (execHash ({} : MState) 0 [104] (.hmget [[1]])).2 = some (.bulks []) ∧
    ¬ hashStep (DsHash.hget []) (.hmget [[1]]) (.bulks []) (DsHash.hget []) := by
  refine ⟨rfl, ⟨trivial, Or.inl ⟨rfl, fun m hm => by simp [Store.getMeta, AList.get?] at hm⟩⟩, rfl, ?_⟩
  intro h
  simp [hashStep] at h

/-- SADD with no member on a missing key: the key now exists and holds the empty set; SRANDMEMBER
    with a negative count on it panics (`rand.Intn(0)`) -/
theorem sadd_no_member_creates_empty_key_finding (s : MState) (now : Int) (key : Bytes)
    (h : Absent s key now) (hi : IndexSorted s) :
    setFinding [] (.sadd []) = true ∧
    HotSet (Api.sadd s now key []).1 key [] now ∧
    (Api.srandmember (Api.sadd s now key []).1 now key (-1) []).2 = .panic := by
  obtain ⟨_, hot, _⟩ := C03Seq.sadd_hot s now key [] [] (Or.inl ⟨h, rfl⟩) hi
  have hot' : HotSet (Api.sadd s now key []).1 key [] now := hot
  exact ⟨rfl, hot', (srandmember_sound _ now key (-1) [] [] hot').2.2.2 (by decide) rfl⟩

theorem hmset_no_pair_creates_empty_key_finding (s : MState) (now : Int) (key : Bytes)
    (h : Absent s key now) (hi : IndexSorted s) :
    hashFinding [] (.hmset []) = true ∧ HotHash (Api.hmset s now key []).1 key [] now := by
  obtain ⟨_, hot, _⟩ := C03Seq.hmset_hot s now key [] [] ⟨trivial, Or.inl ⟨rfl, h⟩⟩ hi
  exact ⟨rfl, hot⟩

/-- SPOP with a negative count on an existing set: Redis answers an error, the model (like the Go
    code, `(*Set).SPop` in ds/set/set.go) the empty list -/
theorem spop_negative_count_finding (s : MState) (now : Int) (key : Bytes) (st : AList Unit)
    (h : HotSet s key st now) (hi : IndexSorted s) (hst : AList.Sorted st) :
    setFinding st (.spop (-1)) = true ∧
    toReply (Api.spop s now key (-1) []).2 = some (.strs []) ∧
    ¬ setStep (DsSet.mem st) (.spop (-1)) (.strs []) (DsSet.mem st) := by
  have hadm : AdmissibleDistinct (DsSet.mem st) st.length (if (-1 : Int) = 0 then 1 else (-1 : Int).toNat) [] := by
    unfold AdmissibleDistinct
    exact ⟨fun x hx => by simp at hx, List.nodup_nil, by simp⟩
  have := ((spop_sound s now key (-1) [] st h hi hst).1 hadm).1
  refine ⟨rfl, by rw [this]; rfl, ?_⟩
  intro hs
  simp [setStep] at hs

end F

/-! ## HINCRBYFLOAT on decimal float text

  `Api.hincrbyfloat` = ds/hash `HIncrByFloat`: a missing field is set to FormatFloat(delta,'f',-1,64); otherwise
  ParseFloat of the field's text, IEEE addition, FormatFloat of the sum. The text may be any decimal float
  (Model/FloatDec.lean); the model answers `.unsupported` only for hexadecimal float text and more than 800
  significant digits. -/
section hfloat
open NodisVerif.Proofs.C03Seq (hfloatStep)
open Store

/-- on the content: what the step does, case by case -/
theorem hincrbyfloat_spec (h : DsHash.H) (f : Bytes) (delta : F64) :
    (DsHash.hget h f = none →
      hfloatStep h f delta = some (some ((DsHash.hset h f (FloatDec.formatShortest delta)).1, delta))) ∧
    (∀ v o, DsHash.hget h f = some v → Api.parseFloatText v = some (some o) →
      hfloatStep h f delta =
        some (some ((DsHash.hset h f (FloatDec.formatShortest (F64.add o delta))).1, F64.add o delta))) ∧
    (∀ v, DsHash.hget h f = some v → Api.parseFloatText v = some none → hfloatStep h f delta = some none) := by
  refine ⟨fun hg => ?_, fun v o hg hp => ?_, fun v hg hp => ?_⟩ <;> unfold hfloatStep <;> simp only [hg] <;> simp only [hp]

/-- against the store: reply, new content (the representation relation of section F is kept), index order -/
theorem hincrbyfloat_rel (s : MState) (now : Int) (key f : Bytes) (delta : F64) (h : AList Bytes)
    (hr : HashRel s key now h) (hi : IndexSorted s) :
    (Api.hincrbyfloat s now key f delta).2 =
      (match hfloatStep h f delta with
       | none => .unsupported
       | some none => .many [.f64 0, .err true]
       | some (some (_, v)) => .many [.f64 v, .err false]) ∧
    HashRel (Api.hincrbyfloat s now key f delta).1 key now
      (match hfloatStep h f delta with | some (some (h', _)) => h' | _ => h) ∧
    IndexSorted (Api.hincrbyfloat s now key f delta).1 :=
  Proofs.C03Seq.hincrbyfloat_rel s now key f delta h hr hi

/-- two increments in a row read back what was stored (partial in the sense of `C04.formatShortest_roundtrip_partial`):
    after `HINCRBYFLOAT k f d1` stored the text of a sum x (not NaN, not from the 17-digit fallback), the next step
    computes x + d2 -/
theorem hincrbyfloat_reads_back_partial (h : DsHash.H) (f : Bytes) (x d2 : F64)
    (hg : DsHash.hget h f = some (FloatDec.formatShortest x)) (hnan : F64.isNaN x = false)
    (hsr : F64.isInf x = true ∨ F64.isZero x = true ∨ (FloatDec.searchShortest x).isSome = true) :
    hfloatStep h f d2 = some (some ((DsHash.hset h f (FloatDec.formatShortest (F64.add x d2))).1, F64.add x d2)) :=
  (hincrbyfloat_spec h f d2).2.1 _ x hg (Proofs.FloatDecTrip.formatShortest_roundtrip_partial x hnan hsr)

/-- non-vacuity: field "f" holds "10.5"; +0.1 gives 10.6 with text "10.6"; a field holding "1e400" is an error;
    on a missing field the increment 0.1 itself is stored as "0.1" -/
example :
    hfloatStep [([102], Bytes.ofString "10.5")] [102] 0x3FB999999999999A =
      some (some ([([102], Bytes.ofString "10.6")], 0x4025333333333333)) ∧
    hfloatStep [([102], Bytes.ofString "1e400")] [102] 1 = some none ∧
    hfloatStep [] [102] 0x3FB999999999999A = some (some ([([102], Bytes.ofString "0.1")], 0x3FB999999999999A)) ∧
    hfloatStep [([102], Bytes.ofString "0x1p3")] [102] 1 = none := Proofs.C03Seq.hfloatStep_examples

end hfloat

/- NOT PROVED:
   * SMOVE (`smove_between_keys`) and the other API theorems with a source or destination that is *cold* (value to be
     loaded from the backend): `Hot` / `HashRel` do not cover it; that path goes through the codec round trip
     (property C14) and the backend model. The invariant `StoreInv` itself is kept on the cold path.
   * `StoreInv` for RENAME / RENAMENX (they hand the source's value object to the destination on purpose), for
     `Store.reopen` with the in-memory backend, for gc / flush (they file backend entries under the key's own name:
     needs injectivity of `Codec.encodeKey` and the backend invariants of C11 / C13) and for the string / list / zset
     writers (not needed for C03).
   * HINCRBYFLOAT on a field holding hexadecimal float text or more than 800 significant digits (`.unsupported`);
     the command is not part of the sequence machine (`execHash`). HSCAN / SSCAN are not in C03's command list.
   * Sequences that interleave commands on *other* keys. The sequence theorems are per key; the two ingredients are
     proved (`writers_leave_other_keys`, `relations_depend_on_own_record`). Not covered: reads of other keys (they
     bump the other key's access counter only) and S*STORE / SMOVE in between. -/

end NodisVerif.C03

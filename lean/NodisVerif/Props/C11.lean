import NodisVerif.Proofs.C11Examples
import NodisVerif.Proofs.C12Examples
import NodisVerif.Proofs.C12Scan
import NodisVerif.Proofs.C12Sched
/-
  C11 — Close then Open restores exactly the pre-close keyspace on either backend.

  Reference notion: `Spec.Persist.logical s now` — the (name, value, deadline) triples of the live
  keys, cold values read through the backend (Spec/Persist.lean).  Model: `Store.close`,
  `Store.reopen` (= `newStore` on the backend left behind), both backends (`s.pebble`).

  `StoreInv s t` is the storage invariant (Proofs/C11Inv.lean): index and backend sorted; what a
  record's `stored` says is in the backend is there under that name; every backend entry is the
  `stored` entry of the indexed record of its name (no stale entries); a live cold record sits in
  the backend under its current deadline; a live hot record not marked modified is in the backend
  under its current deadline with the same value (Pebble: up to decode∘encode; in-memory backend:
  same object); all values well-formed with representable lengths; in-memory backend: records have
  distinct non-zero object ids, entries share ids only with the record of their name.
  `t` is a time horizon: records already expired at `t` are dead for good; every later operation
  runs at `now ≥ t` (time does not run backwards), and `StoreInv s t → t ≤ t' → StoreInv s t'`.

  The nil string.  `Val.strNil` (a Go `*str.String` whose `V` is the nil slice; GET renders it as
  null) comes back from Pebble as the empty string.  Since the repair of `newStr` no API command
  creates one (a fresh string key starts with the empty non-nil value), but a state holding one
  is still expressible and satisfies the invariant, so the theorems about an arbitrary state keep
  the hypothesis `NilFree s` (no hot value is the nil string, or the backend is in-memory);
  `NilFreeAt s now` asks this of the records alive at `now` only, `LNil s t` says it of what the
  store shows from `t` on (Proofs/C11Gc.lean relates the nil-string conditions at `NilOK`);
  `close_reopen_restores_reachable` discharges it for every state reached from the empty store
  through the covered commands, and `nil_string_breaks_roundtrip` shows it is needed.
-/
namespace NodisVerif.C11
open NodisVerif.Store NodisVerif.Spec.Persist NodisVerif.Proofs.C11

theorem empty_inv (pebble : Bool) (t : Int) : StoreInv (empty pebble) t :=
  Proofs.C11.empty_inv pebble t

theorem inv_mono {s : MState} {t t' : Int} (h : StoreInv s t) (ht : t ≤ t') : StoreInv s t' :=
  StoreInvX.mono h ht

/-- Close then Open restores exactly the logical keyspace: same live names, each with the same
    value and deadline, in the same order; with `now' > now`: keys expiring in between disappear,
    nothing else changes.  Any state, any values, any name lengths, either backend. -/
theorem close_reopen_restores {s : MState} {t now now' : Int} (h : StoreInv s t)
    (ht : t ≤ now) (ht' : now ≤ now') (hf : s.failSet = 0) (hnil : NilFree s) :
    logical (reopen (close s now)) now' = logical s now' := by
  have c := cycle_spec h ht hf hnil
  exact logical_ext h.idxSorted c.inv.idxSorted (fun k => c.look now' ht' k)

/-- at full strength on the in-memory backend -/
theorem close_reopen_restores_memory {s : MState} {t now now' : Int} (h : StoreInv s t)
    (hp : s.pebble = false) (ht : t ≤ now) (ht' : now ≤ now') (hf : s.failSet = 0) :
    logical (reopen (close s now)) now' = logical s now' :=
  close_reopen_restores h ht ht' hf (fun _ _ _ c => by rw [hp] at c; cases c)

/-- every state reached from the empty store (either backend) by any sequence of covered commands,
    DEL, RENAME, KEYS and eviction passes: Close/Open restores its logical keyspace — no nil-string
    hypothesis, on Pebble too -/
theorem close_reopen_restores_reachable (pebble : Bool) (steps : List Step) {now now' : Int}
    (hto : TimesOK 0 steps) (hok : ∀ st ∈ steps, st.OK pebble)
    (ht : endTime 0 steps ≤ now) (ht' : now ≤ now')
    (hf : (runSteps steps (empty pebble)).1.failSet = 0) :
    StoreInv (runSteps steps (empty pebble)).1 (endTime 0 steps) ∧
    logical (reopen (close (runSteps steps (empty pebble)).1 now)) now' =
      logical (runSteps steps (empty pebble)).1 now' := by
  obtain ⟨hi, hl, hp⟩ := run_inv_lnil steps 0 (empty pebble) (Proofs.C11.empty_inv pebble 0)
    (empty_lnil pebble 0) hto hok
  have c := cycle_spec_l hi ht hf (hl.mono ht)
  exact ⟨hi, logical_ext hi.idxSorted c.inv.idxSorted (fun k => c.look now' ht' k)⟩

/-- the hypothesis `NilFree` is needed: a Pebble store holding a nil string (not reachable through
    the API) satisfies the invariant, but Close/Open turns the nil string (GET → null) into the
    empty string -/
theorem nil_string_breaks_roundtrip :
    StoreInv nilState 0 ∧ nilState.failSet = 0 ∧
    logical nilState 0 = [([107], .strNil, 0)] ∧
    logical (reopen (close nilState 0)) 0 = [([107], .str [], 0)] :=
  ⟨nilState_inv 0, rfl, nilState_logical, nilState_cycle⟩

theorem reopen_preserves_inv {s : MState} {t now : Int} (h : StoreInv s t) (ht : t ≤ now) :
    StoreInv (reopen (close s now)) now :=
  inv_reopen (close_spec h ht).1.inv

/-- the backend never holds two entries for one name, so `newStore` never has to choose: its
    list of shadowed entries is empty and it deletes nothing -/
theorem no_stale_shadowing {s : MState} {t : Int} (h : StoreInv s t) :
    (s.disk.map (·.2.name)).Nodup ∧ (s.disk.foldl reopenStep ([], [])).2 = [] ∧ (reopen s).disk = s.disk :=
  ⟨disk_names_nodup h, (reopen_facts h).noShadow, (reopen_facts h).disk⟩

/-- the same after a close: an older persisted version never shadows a newer one -/
theorem no_stale_shadowing_after_close {s : MState} {t now : Int} (h : StoreInv s t) (ht : t ≤ now) :
    ((close s now).disk.map (·.2.name)).Nodup ∧ (reopen (close s now)).disk = (close s now).disk :=
  ⟨disk_names_nodup (close_spec h ht).1.inv, (reopen_facts (close_spec h ht).1.inv).disk⟩

/-- a key that does not exist at the close (deleted, renamed away, emptied, expired, overwritten by
    `delKey`+create ...) does not exist after the open, at any later time -/
theorem absent_stays_absent {s : MState} {t now now' : Int} (h : StoreInv s t) (ht : t ≤ now)
    (ht' : now ≤ now') (hf : s.failSet = 0) (hnil : NilFree s) (k : Bytes)
    (habs : lookup s now k = none) : lookup (reopen (close s now)) now' k = none := by
  rw [(cycle_spec h ht hf hnil).look now' ht' k]
  exact lookup_none_mono ht' habs

/-- `delKey` unlinks the key together with its backend entry: it is absent at once and after any
    later close/open (as long as it is not created again) -/
theorem deleted_never_reappears {s : MState} {t now now' : Int} (h : StoreInv s t) (ht : t ≤ now)
    (ht' : now ≤ now') (hf : s.failSet = 0) (hnil : NilFree s) (k : Bytes) :
    StoreInv (delKey s k) t ∧ lookup (delKey s k) now k = none ∧
    lookup (reopen (close (delKey s k) now)) now' k = none := by
  have hi : StoreInv (delKey s k) t := inv_delKey h k (fun _ _ => by simp)
  have hl : ∀ k', lookup (delKey s k) now k' = if k' = k then none else lookup s now k' :=
    Proofs.StoreView.plookup_delKey s h.idxSorted now k
  have hk : lookup (delKey s k) now k = none := by rw [hl, if_pos rfl]
  -- whatever else the store shows after the DEL it showed before: no nil string on Pebble
  have c := cycle_spec_l hi ht ((delKey_fields s k).2.trans hf) (fun hp t' _ k' v e hlk => by
    rw [Proofs.StoreView.plookup_delKey s h.idxSorted t' k] at hlk
    split at hlk
    · cases hlk
    · exact nilfree_lookup hnil hlk ((delKey_fields s k).1 ▸ hp))
  exact ⟨hi, hk, by rw [c.look now' ht' k]; exact lookup_none_mono ht' hk⟩

theorem reopen_idempotent {s : MState} {t now : Int} (h : StoreInv s t) (ht : t ≤ now)
    (hf : s.failSet = 0) (hnil : NilFree s) :
    logical (reopen (close (reopen (close s now)) now)) now = logical s now := by
  have c := cycle_spec h ht hf hnil
  rw [close_reopen_restores c.inv (Int.le_refl _) (Int.le_refl _) c.fs0 c.nil]
  exact close_reopen_restores h ht (Int.le_refl _) hf hnil

theorem cycles_idempotent {s : MState} {t now now' : Int} (n : Nat) (h : StoreInv s t) (ht : t ≤ now)
    (ht' : now ≤ now') (hf : s.failSet = 0) (hnil : NilFree s) :
    logical (cycles now n s) now' = logical s now' := by
  obtain ⟨a, b⟩ := cycles_spec n h ht hf hnil
  exact logical_ext h.idxSorted b (fun k => a now' ht' k)

/-- a value written to the backend comes back unchanged when it is loaded again (Pebble: C14's
    codec round trip; in-memory backend: the same object) -/
theorem lazy_load_roundtrip (s : MState) (k : Bytes) (m : Meta) (v : Val) (hv : m.value = some v)
    (hg : Good v) (hn : s.pebble = true → v ≠ .strNil) (hf : s.failSet = 0) :
    (diskSet s k m).2 = true ∧
    loadValue (diskSet s k m).1 k { m with value := none } = some (v, if s.pebble then 0 else m.oid) := by
  have hf' : ¬ s.failSet > 0 := by omega
  simp only [diskSet, hf', if_false, hv, loadValue, diskGet, Proofs.AListLemmas2.get?_set_same, true_and]
  cases hp : s.pebble with
  | true => simp [good_roundtrip v hg (hn hp)]
  | false => simp

/-- whatever a pass did to a key in between (persisted, evicted, left alone), reading it yields
    the value and deadline it had, hot again -/
theorem lazy_load_after_gc {s : MState} {t now : Int} (h : StoreInv s t) (ht : t ≤ now)
    (hnil : NilFree s) (k : Bytes) (v : Val) (e : Int) (hl : lookup s now k = some (v, e)) :
    (readKey (gc s now) now k).2 = true ∧
    ∃ m, AList.get? (readKey (gc s now) now k).1.index k = some m ∧ m.value = some v ∧ m.exp = e := by
  have g := gc_spec h ht hnil
  have r := readKey_spec g.inv ht k
  obtain ⟨a, _, m, b, c, d, _⟩ := r.hit v e (by rw [g.look now (Int.le_refl _)]; exact hl)
  exact ⟨a, m, b, c, d⟩

/-- "each with the same type", also for SCAN's TYPE filter: after Close/Open a SCAN — any cursor,
    pattern, count and TYPE filter — reports exactly what it reported before the close.  The reopened
    records carry no cached type; SCAN loads the value of such a record before it applies the filter.
    Hypotheses: the cached types of `s` are right (`TypeOK`), and no record is expired at the close
    (an expired record is not reopened, which shifts the positions SCAN's cursor counts:
    `C12.scan_gc_finding`). -/
theorem reopen_scan_type_restores {s : MState} {t now : Int} (h : StoreInv s t) (ht : t ≤ now)
    (hf : s.failSet = 0) (hnil : NilFree s) (hty : TypeOK s)
    (hlive : ∀ k m, AList.get? s.index k = some m → m.expired now = false)
    (cursor : Int) (pat : Bytes) (count : Int) (typ : Nat) :
    (Api.scan (reopen (close s now)) now cursor pat count typ).2 = (Api.scan s now cursor pat count typ).2 := by
  obtain ⟨a, b⟩ := reopen_scanRel h ht hf hnil hty hlive
  exact (scan_congr _ a b cursor pat count typ).symm

/-- instance: `SET k v`, then `SCAN 0 MATCH * COUNT 10 TYPE string` finds k before and after -/
theorem reopen_scan_type_example :
    (Api.set (empty true) 0 [107] [118] false).1 = setState ∧
    (Api.scan setState 0 0 [42] 10 1).2 = .many [.int 0, .slist [[107]]] ∧
    (Api.scan (reopen (close setState 0)) 0 0 [42] 10 1).2 = .many [.int 0, .slist [[107]]] :=
  ⟨setState_reached, setState_scan, setState_scan_reopen⟩

/-! ### the invariant is preserved by the primitives and by the passes (by the commands: Props/C12.lean)

  `StoreInvX s (some k) t` is the invariant with the record of `k` exempted from the
  "clean ⇒ same value in the backend" clause: the state between `setVal`/`setExp` and the
  `signalModifiedKey` (or `delKey`) that every command issues next. -/

theorem writeKey_preserves_inv {s : MState} {t now : Int} (h : StoreInv s t) (ht : t ≤ now) (k : Bytes)
    (mk : Option Val) (hmk : ∀ v, mk = some v → Good v) : StoreInv (writeKey s now k mk).1 t :=
  (writeKey_spec h ht k mk hmk).inv

theorem readKey_preserves_inv {s : MState} {t now : Int} (h : StoreInv s t) (ht : t ≤ now) (k : Bytes) :
    StoreInv (readKey s now k).1 t := (readKey_spec h ht k).inv

theorem delKey_preserves_inv {s : MState} {t : Int} (h : StoreInv s t) (k : Bytes) : StoreInv (delKey s k) t :=
  inv_delKey h k (fun _ _ => by simp)

theorem newKeyWith_preserves_inv {s : MState} {t : Int} (h : StoreInv s t) (k : Bytes) (old : Option Meta)
    (hold : ∀ m0, old = some m0 → AList.get? s.index k = some m0) {v : Val} (hg : Good v) :
    StoreInv (newKeyWith s k old v) t := inv_newKeyWith h k old hold hg

/-- `setVal` on the hot record a lookup handed back: the name is exempted until it is signalled -/
theorem setVal_preserves_inv {s : MState} {t : Int} (h : StoreInv s t) {k : Bytes} {m : Meta}
    (hm : AList.get? s.index k = some m) (hv : m.value.isSome = true) {v : Val} (hg : Good v) :
    StoreInvX (Api.setVal s k v) (some k) t := by
  have _ := hv  -- not needed: the invariant is kept whether or not the record is hot
  exact inv_setVal h (fun _ _ => by simp) hm hg

theorem setExp_preserves_inv {s : MState} {x : Option Bytes} {t : Int} (h : StoreInvX s x t) {k : Bytes}
    (hx : ∀ k', k' ≠ k → x ≠ some k') {m : Meta} (hm : AList.get? s.index k = some m)
    (hv : m.value.isSome = true) {e : Int} (he : inInt64 e = true) :
    StoreInvX (Api.setExp s k e) (some k) t := inv_setExp h hx hm hv he

/-- `signalModifiedKey` ends the exemption -/
theorem signal_restores_inv {s : MState} {t : Int} {k : Bytes} (h : StoreInvX s (some k) t) :
    StoreInv (signal s k) t :=
  inv_signal h k (fun _ hk c => hk (Option.some.inj c).symm)

theorem flush_preserves_inv {s : MState} {t now : Int} (h : StoreInv s t) (ht : t ≤ now) :
    StoreInv (flush s now) now := (flush_spec h ht).1.inv

theorem close_preserves_inv {s : MState} {t now : Int} (h : StoreInv s t) (ht : t ≤ now) :
    StoreInv (close s now) now := (close_spec h ht).1.inv

theorem gc_preserves_inv {s : MState} {t now : Int} (h : StoreInv s t) (ht : t ≤ now) (hnil : NilFree s) :
    StoreInv (gc s now) t := (gc_spec h ht hnil).inv

example (pebble : Bool) : TypeOK (exState pebble) := by
  intro k m hm
  simp only [exState, AList.get?] at hm
  split at hm
  · simp only [Option.some.injEq] at hm; subst hm
    exact ⟨(fun v hv => by cases hv; rfl), (fun hn => by cases hn)⟩
  · split at hm
    · simp only [Option.some.injEq] at hm; subst hm
      rename_i hk
      subst hk
      refine ⟨(fun v hv => by cases hv), fun _ v o hl => ?_⟩
      cases pebble <;>
        simp [loadValue, diskGet, exState, AList.get?, Codec.encodeEntry, Codec.encodeVal, Codec.decodeEntry,
          Val.typeCode] at hl <;> (obtain ⟨rfl, _⟩ := hl; right; rfl)
    · cases hm
example : ∀ k m, AList.get? (exState true).index k = some m → m.expired 5 = false := by
  intro k m hm
  simp only [exState, AList.get?] at hm
  split at hm
  · simp only [Option.some.injEq] at hm; subst hm; rfl
  · split at hm
    · simp only [Option.some.injEq] at hm; subst hm; rfl
    · cases hm

/-- a concrete store satisfying every hypothesis above, for each backend: one hot modified key
    never written to the backend, one cold key with a deadline, one backend entry -/
example (pebble : Bool) : StoreInv (exState pebble) 0 ∧ (0 : Int) ≤ 5 ∧ (exState pebble).failSet = 0 ∧
    NilFree (exState pebble) :=
  ⟨exState_inv pebble 0, by decide, rfl, exState_nilfree pebble⟩
example : (exState true).index.length = 2 ∧ (exState true).disk.length = 1 := ⟨rfl, rfl⟩
example : lookup (exState false) 5 [98] = some (.str [2], 1000) := by decide +kernel
example : Good (.hash [([1], [2])]) ∧ (Val.hash [([1], [2])]) ≠ .strNil :=
  ⟨⟨trivial, by intro p hp; simp at hp; subst hp; decide⟩, by intro c; cases c⟩

/- UNPROVED (C11):
   * `TypeOK` (hypothesis of `reopen_scan_type_restores`) is discharged for the example state only (the `example`
     above); that it holds of the empty store and of every reopened store (no cached types), that `gc` keeps it and
     that every covered command preserves it (none changes the type of a value) is not proved.
   * Preservation of the invariant by API commands is proved for the primitives above and for the commands
     listed in Props/C12.lean (`C12.command_preserves_inv`, `C12.del_preserves_inv`,
     `C12.rename_preserves_inv`); the remaining commands of Model/Api.lean (list in Props/C12.lean)
     are not covered.
   * "reloaded values stay intact for as long as they are used" is a statement about aliasing of Go
     byte buffers; in the model a decoded value is a pure term, so there is nothing to state beyond
     `lazy_load_roundtrip` / `lazy_load_after_gc`.
   * `deleted_never_reappears` is stated at the level of the logical keyspace (the deleted name
     shows no key after the reopen); that no *dead record* of that name is recreated by `reopen`
     follows from `no_stale_shadowing` + the invariant but is not stated separately.
-/

end NodisVerif.C11

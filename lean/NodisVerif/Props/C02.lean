import NodisVerif.Proofs.C02Rotate
import NodisVerif.Proofs.LinkedListRun
/-
  C02 — lists behave as exact sequences under every push/pop/index/trim command.

  Property theorems and their non-vacuity examples; helper lemmas live in Proofs/C02.lean (data
  structure), Proofs/C02Api.lean and Proofs/C02Rotate.lean (store / API layer) and
  Proofs/LinkedList*.lean (pointer level).  The reference semantics is Spec/List.lean (Redis
  conventions on a plain `List Bytes`: 0-based, negative indexes from the tail, inclusive ranges,
  out-of-range range bounds clamp).

  Everything is unbounded: every list, every byte string, every `Int` index / count (negative, zero,
  beyond either end).  No finding region was needed: the model agrees with the reference semantics
  on *all* inputs for every command below (so there are no `_finding` theorems; the one `_partial`
  theorem, `rotate_api_partial` in section 7, carries a state hypothesis about shared value objects;
  a destination of another type makes LPOPRPUSH / RPOPLPUSH fail without popping anything,
  `rotate_api_wrong_type_dest`).
  In sections 1–5 the only hypothesis on the list that occurs is `LList.WF` (cached counter = number of nodes) for
  the commands that read the cached counter (LINDEX, LSET, LLEN and the integer replies); it is an
  invariant (section 1), so it holds for every list reachable from `DsList.empty`.  Sections 6–7 speak
  of a store state through `HotList` (the key holds a hot well-formed list), `RotDst`, `DstPasses`,
  `DstWrongType` (shapes of the destination of a rotation); section 8 through `Inv` (the pointer
  invariant) and, for LRem with count = MinInt64 only, `OpOk` / `RunOk` (at most 2^63 nodes).
-/
namespace NodisVerif.C02
open NodisVerif
open NodisVerif.Proofs.C02

/-! ## 1. The reported length always equals the number of elements -/

theorem length_inv_empty : DsList.empty.WF := empty_wf

theorem length_inv_lpush (l : LList) (h : l.WF) (data : List Bytes) : (DsList.lpush l data).WF :=
  lpush_wf l h data

theorem length_inv_rpush (l : LList) (h : l.WF) (data : List Bytes) : (DsList.rpush l data).WF :=
  rpush_wf l h data

theorem length_inv_lpop (l : LList) (h : l.WF) (count : Int) : (DsList.lpop l count).1.WF :=
  lpop_wf l h count

theorem length_inv_rpop (l : LList) (h : l.WF) (count : Int) : (DsList.rpop l count).1.WF :=
  rpop_wf l h count

theorem length_inv_linsert (l : LList) (h : l.WF) (pivot v : Bytes) (before : Bool) :
    (DsList.linsert l pivot v before).1.WF :=
  linsert_wf l h pivot v before

theorem length_inv_lrem (l : LList) (h : l.WF) (count : Int) (v : Bytes) :
    (DsList.lrem l count v).1.WF :=
  lrem_wf l h count v

theorem length_inv_lset (l : LList) (h : l.WF) (i : Int) (v : Bytes) : (DsList.lset l i v).1.WF :=
  lset_wf l h i v

theorem length_inv_ltrim (l : LList) (h : l.WF) (start stop : Int) : (DsList.ltrim l start stop).WF :=
  ltrim_wf l h start stop

/-- LLEN (the cached counter) is the number of elements -/
theorem llen_eq_count (l : LList) (h : l.WF) : DsList.llen l = l.items.length := h

/-- non-vacuity of `WF`: a list built by the model's own operations, with 3 elements -/
example : (DsList.lpush (DsList.rpush DsList.empty [[1], [2, 2]]) [[]]).WF ∧
    (DsList.lpush (DsList.rpush DsList.empty [[1], [2, 2]]) [[]]).items = [[], [1], [2, 2]] :=
  ⟨by unfold LList.WF; decide, by decide⟩

/-! ## 2. LRANGE -/

/-- every `Int` start/stop, every list (no well-formedness needed: `forEach` walks the chain) -/
theorem lrange_spec (l : LList) (start stop : Int) :
    DsList.lrange l start stop = Spec.List.lrange l.items start stop :=
  forEach_eq l start stop

/-! ## 3. The other commands -/

theorem lindex_spec (l : LList) (h : l.WF) (i : Int) :
    DsList.lindex l i = Spec.List.lindex l.items i :=
  lindex_eq l h i

/-- LSET: fails (list untouched, flag false) exactly when the reference says "index out of range",
    otherwise exactly position `i` is overwritten and the counter is unchanged -/
theorem lset_spec (l : LList) (h : l.WF) (i : Int) (v : Bytes) :
    DsList.lset l i v =
      match Spec.List.lset l.items i v with
      | none => (l, false)
      | some xs => ({ items := xs, length := l.length }, true) :=
  lset_eq l h i v

/-- LTRIM keeps exactly `LRANGE start stop`: all `Int` bounds, negative and out of range included -/
theorem ltrim_spec (l : LList) (start stop : Int) :
    (DsList.ltrim l start stop).items = Spec.List.ltrim l.items start stop :=
  ltrim_items l start stop

/-- LINSERT: -1 and an untouched list when the pivot is absent, otherwise the value goes next to the
    first occurrence of the pivot and the reply is the incremented counter -/
theorem linsert_spec (l : LList) (pivot v : Bytes) (before : Bool) :
    DsList.linsert l pivot v before =
      match Spec.List.linsert l.items pivot v before with
      | none => (l, -1)
      | some xs => ({ items := xs, length := l.length + 1 }, l.length + 1) :=
  linsert_eq l pivot v before

/-- on a well-formed list the LINSERT reply is the new number of elements -/
theorem linsert_reply (l : LList) (h : l.WF) (pivot v : Bytes) (before : Bool) (xs : List Bytes)
    (hs : Spec.List.linsert l.items pivot v before = some xs) :
    (DsList.linsert l pivot v before).2 = xs.length := by
  have hw := linsert_wf l h pivot v before
  rw [linsert_eq, hs] at hw ⊢
  exact hw

/-- LREM, all three sign cases at once: remaining elements, counter, and the returned count -/
theorem lrem_spec (l : LList) (count : Int) (v : Bytes) :
    DsList.lrem l count v =
      ({ items := (Spec.List.lrem l.items count v).1,
         length := l.length - ((Spec.List.lrem l.items count v).2 : Nat) },
       (((Spec.List.lrem l.items count v).2 : Nat) : Int)) :=
  lrem_eq l count v

/-- LPOP: exactly what the model returns. `none` (Go nil slice, list untouched) iff the list is
    empty or `count ≤ 0`; otherwise the first `min count n` elements head-first, the rest stays. -/
theorem lpop_spec (l : LList) (count : Int) :
    DsList.lpop l count =
      if l.items = [] ∨ count ≤ 0 then (l, none)
      else ({ items := (Spec.List.lpop l.items count.toNat).2,
              length := l.length - (min count.toNat l.items.length : Nat) },
            some (Spec.List.lpop l.items count.toNat).1) :=
  lpop_eq l count

/-- RPOP: `none` iff the list is empty or `count ≤ 0`; otherwise the last `min count n` elements
    tail-first, the rest stays. -/
theorem rpop_spec (l : LList) (count : Int) :
    DsList.rpop l count =
      if l.items = [] ∨ count ≤ 0 then (l, none)
      else ({ items := (Spec.List.rpop l.items count.toNat).2,
              length := l.length - (min count.toNat l.items.length : Nat) },
            some (Spec.List.rpop l.items count.toNat).1) :=
  rpop_eq l count

theorem lpush_spec (l : LList) (data : List Bytes) :
    DsList.lpush l data =
      { items := Spec.List.lpush l.items data, length := l.length + data.length } :=
  lpush_eq l data

theorem rpush_spec (l : LList) (data : List Bytes) :
    DsList.rpush l data =
      { items := Spec.List.rpush l.items data, length := l.length + data.length } :=
  rpush_eq l data

/-! ### every command sequence

  `modelStep l c` (Proofs/C02.lean) applies one command to the model list and forms the reply the
  way list.go does (push → LLen, pop → popped elements with nil rendered as the empty array,
  linsert / lrem → the returned integer, lset → the flag, lrange → the visited elements).
  `Spec.List.step` is the same command on the abstract sequence.  `Spec.List.run` folds a step
  function over a command list collecting the replies. -/

/-- one command: invariant kept, same resulting sequence, same reply -/
theorem step_refines (l : LList) (h : l.WF) (c : Spec.List.Cmd) :
    (modelStep l c).1.WF ∧
    (modelStep l c).1.items = (Spec.List.step l.items c).1 ∧
    (modelStep l c).2 = (Spec.List.step l.items c).2 :=
  modelStep_refines l h c

/-- every finite command sequence from every well-formed list: every reply and the final list agree
    with the abstract sequence, and the counter is still exact -/
theorem sequence_refines (l : LList) (h : l.WF) (cs : List Spec.List.Cmd) :
    (Spec.List.run modelStep l cs).1.WF ∧
    (Spec.List.run modelStep l cs).1.items = (Spec.List.run Spec.List.step l.items cs).1 ∧
    (Spec.List.run modelStep l cs).2 = (Spec.List.run Spec.List.step l.items cs).2 :=
  run_refines l h cs

/-- in particular from the empty list (a freshly created key) -/
theorem sequence_refines_from_empty (cs : List Spec.List.Cmd) :
    (Spec.List.run modelStep DsList.empty cs).1.items = (Spec.List.run Spec.List.step [] cs).1 ∧
    (Spec.List.run modelStep DsList.empty cs).2 = (Spec.List.run Spec.List.step [] cs).2 :=
  (run_refines DsList.empty empty_wf cs).2

/-! ## 4. Nothing is lost, duplicated, reordered or altered -/

theorem no_loss_roundtrip (xs : List Bytes) :
    DsList.lrange (DsList.rpush DsList.empty xs) 0 (-1) = xs := by
  rw [lrange_spec, rpush_spec]
  exact lrange_full _

theorem no_loss_roundtrip_lpush (xs : List Bytes) :
    DsList.lrange (DsList.lpush DsList.empty xs) 0 (-1) = xs.reverse := by
  rw [lrange_spec, lpush_spec]
  simp only [DsList.empty, Spec.List.lpush, List.append_nil]
  exact lrange_full _

/-! Sanity of the reference semantics itself: the index-arithmetic definitions agree with the
    "mirror image" reading of the tail-side commands, and LREM only ever deletes copies of `v`. -/

theorem spec_rpop_is_mirrored_lpop (xs : List Bytes) (k : Nat) :
    Spec.List.rpop xs k =
      ((Spec.List.lpop xs.reverse k).1, (Spec.List.lpop xs.reverse k).2.reverse) :=
  spec_rpop_mirror xs k

theorem spec_lrem_negative_is_mirrored (xs : List Bytes) (v : Bytes) (c : Int) (h : c < 0) :
    Spec.List.lrem xs c v =
      ((Spec.List.lrem xs.reverse (-c) v).1.reverse, (Spec.List.lrem xs.reverse (-c) v).2) := by
  have h1 : ¬ c > 0 := by omega
  have h2 : -c > 0 := by omega
  have e := removeFirst_reverse xs.reverse v (-c).toNat
  rw [List.reverse_reverse] at e
  have e' := removeFirst_eq xs.reverse v (-c).toNat 0
  unfold Spec.List.lrem
  simp only [h1, h, h2, if_true, if_false, occ_eq, rem_eq]
  rw [← e, e']

example : ((-2 : Int) < 0) ∧
    Spec.List.lrem [[1], [2], [1], [3], [1]] (-2) [1] = ([[1], [2], [3]], 2) := by decide

/-- LREM: the result is a subsequence, the other elements are all still there in order, the reply is
    `min |count| (occurrences)` (all occurrences for 0), and kept + removed = before -/
theorem spec_lrem_exact (xs : List Bytes) (c : Int) (v : Bytes) :
    (Spec.List.lrem xs c v).1.Sublist xs ∧
    (Spec.List.lrem xs c v).1.filter (· ≠ v) = xs.filter (· ≠ v) ∧
    (Spec.List.lrem xs c v).2 = (if c = 0 then xs.count v else min c.natAbs (xs.count v)) ∧
    (Spec.List.lrem xs c v).1.length + (Spec.List.lrem xs c v).2 = xs.length :=
  ⟨spec_removeAt_sublist xs _, spec_lrem_others xs c v, spec_lrem_count xs c v, spec_lrem_length xs c v⟩

/-! ## 5. Rotation conserves elements -/

/-- LPOPRPUSH data path: `lpop src 1` then `rpush dst popped`. The two lists together hold a
    permutation of what they held; an empty source yields nil and changes nothing; otherwise exactly
    the head of `src` moves to the tail of `dst`. -/
theorem rotate_conserves (src dst : LList) :
    let p := DsList.lpop src 1
    let dst' := DsList.rpush dst (p.2.getD [])
    (p.1.items ++ dst'.items).Perm (src.items ++ dst.items) ∧
    (src.items = [] → p = (src, none) ∧ dst' = dst) ∧
    (∀ x rest, src.items = x :: rest →
      p.1.items = rest ∧ p.2 = some [x] ∧ dst'.items = dst.items ++ [x]) :=
  rotate_left src dst

/-- RPOPLPUSH data path: `rpop src 1` then `lpush dst popped`: exactly the last element of `src`
    becomes the head of `dst`. -/
theorem rotate_conserves_rpoplpush (src dst : LList) :
    let p := DsList.rpop src 1
    let dst' := DsList.lpush dst (p.2.getD [])
    (p.1.items ++ dst'.items).Perm (src.items ++ dst.items) ∧
    (src.items = [] → p = (src, none) ∧ dst' = dst) ∧
    (∀ init x, src.items = init ++ [x] →
      p.1.items = init ∧ p.2 = some [x] ∧ dst'.items = x :: dst.items) :=
  rotate_right src dst

/-! ## 6. API level: a list that becomes empty ceases to exist

  `HotList s k l now` (Proofs/C02Api.lean) unfolds to: the index is sorted by key (what the btree
  guarantees), `l` is well formed, and `k` is indexed with a record that is ok (state bit 1), not
  expired at `now`, and whose in-memory value is `.list l`. -/

theorem hotList_iff (s : MState) (k : Bytes) (l : LList) (now : Int) :
    HotList s k l now ↔
      (AList.Sorted s.index ∧ l.WF ∧
       ∃ m, Store.getMeta s k = some m ∧ m.isOk = true ∧ m.expired now = false ∧
            m.value = some (.list l)) :=
  Iff.rfl

/-- LPOP / RPOP through the API: the reply is the popped elements (nil as empty); if nothing is left
    the key is gone from the index, otherwise the key holds exactly the remaining list -/
theorem pop_empty_ceases (left : Bool) (s : MState) (k : Bytes) (l : LList) (now count : Int)
    (h : HotList s k l now) :
    let r := if left then DsList.lpop l count else DsList.rpop l count
    (Api.pop left s now k count).2 = .blist ((r.2.getD []).map some) ∧
    (r.1.items = [] → Store.getMeta (Api.pop left s now k count).1 k = none) ∧
    (r.1.items ≠ [] → Store.valOf (Api.pop left s now k count).1 k = some (.list r.1)) := by
  intro r
  have hwf : r.1.WF := by
    simp only [r]; cases left
    · exact rpop_wf l h.2.1 count
    · exact lpop_wf l h.2.1 count
  rw [Proofs.C11.pop_eq]
  exact listMut_hot (Proofs.C11.popF left k count) _ h hwf

/-- popping at least as many elements as there are removes the key -/
theorem pop_all_ceases (left : Bool) (s : MState) (k : Bytes) (l : LList) (now count : Int)
    (h : HotList s k l now) (hc : (l.items.length : Int) ≤ count) :
    Store.getMeta (Api.pop left s now k count).1 k = none := by
  apply (pop_empty_ceases left s k l now count h).2.1
  cases left
  · simp only [Bool.false_eq_true, if_false, (rpop_items l count).1, Spec.List.rpop, List.take_eq_nil_iff]
    omega
  · simp only [if_true, (lpop_items l count).1, Spec.List.lpop, List.drop_eq_nil_iff]
    omega

theorem lrem_empty_ceases (s : MState) (k v : Bytes) (l : LList) (now count : Int)
    (h : HotList s k l now) :
    let r := DsList.lrem l count v
    (Api.lrem s now k v count).2 = .int r.2 ∧
    (r.1.items = [] → Store.getMeta (Api.lrem s now k v count).1 k = none) ∧
    (r.1.items ≠ [] → Store.valOf (Api.lrem s now k v count).1 k = some (.list r.1)) := by
  rw [Proofs.C11.lrem_eq]
  exact listMut_hot (Proofs.C11.lremF k v count) _ h (lrem_wf l h.2.1 count v)

theorem ltrim_empty_ceases (s : MState) (k : Bytes) (l : LList) (now start stop : Int)
    (h : HotList s k l now) :
    let l' := DsList.ltrim l start stop
    (Api.ltrim s now k start stop).2 = .unit ∧
    (l'.items = [] → Store.getMeta (Api.ltrim s now k start stop).1 k = none) ∧
    (l'.items ≠ [] → Store.valOf (Api.ltrim s now k start stop).1 k = some (.list l')) := by
  rw [Proofs.C11.ltrim_eq]
  exact listMut_hot (Proofs.C11.ltrimF k start stop) _ h (ltrim_wf l h.2.1 start stop)

/-! The same three, and every other single-list method of list.go, stated end-to-end against the
    reference semantics.  `HoldsSeq s k xs` (Proofs/C02Api.lean): key `k` holds a hot list value
    that is well formed and whose elements are exactly `xs`. -/

theorem holdsSeq_iff (s : MState) (k : Bytes) (xs : List Bytes) :
    HoldsSeq s k xs ↔ ∃ l', Store.valOf s k = some (.list l') ∧ l'.WF ∧ l'.items = xs :=
  Iff.rfl

theorem pop_api (left : Bool) (s : MState) (k : Bytes) (l : LList) (now count : Int)
    (h : HotList s k l now) :
    let r := if left then Spec.List.lpop l.items count.toNat else Spec.List.rpop l.items count.toNat
    (Api.pop left s now k count).2 = .blist (r.1.map some) ∧
    (r.2 = [] → Store.getMeta (Api.pop left s now k count).1 k = none) ∧
    (r.2 ≠ [] → HoldsSeq (Api.pop left s now k count).1 k r.2) := by
  dsimp only
  obtain ⟨a1, a2, a3⟩ := pop_empty_ceases left s k l now count h
  cases left
  · obtain ⟨hi, hr⟩ := rpop_items l count
    simp only [Bool.false_eq_true, if_false] at a1 a2 a3 ⊢
    rw [hr] at a1; rw [hi] at a2 a3
    exact ⟨a1, a2, fun hne => ⟨_, a3 hne, rpop_wf l h.2.1 count, hi⟩⟩
  · obtain ⟨hi, hr⟩ := lpop_items l count
    simp only [if_true] at a1 a2 a3 ⊢
    rw [hr] at a1; rw [hi] at a2 a3
    exact ⟨a1, a2, fun hne => ⟨_, a3 hne, lpop_wf l h.2.1 count, hi⟩⟩

theorem lrem_api (s : MState) (k v : Bytes) (l : LList) (now count : Int) (h : HotList s k l now) :
    let r := Spec.List.lrem l.items count v
    (Api.lrem s now k v count).2 = .int r.2 ∧
    (r.1 = [] → Store.getMeta (Api.lrem s now k v count).1 k = none) ∧
    (r.1 ≠ [] → HoldsSeq (Api.lrem s now k v count).1 k r.1) := by
  dsimp only
  obtain ⟨a1, a2, a3⟩ := lrem_empty_ceases s k v l now count h
  obtain ⟨hwf, hi, hr⟩ := modelStep_refines l h.2.1 (.lrem count v)
  simp only [modelStep, Spec.List.step, Spec.List.Reply.int.injEq] at hwf hi hr
  rw [hr] at a1; rw [hi] at a2 a3
  exact ⟨a1, a2, fun hne => ⟨_, a3 hne, hwf, hi⟩⟩

theorem ltrim_api (s : MState) (k : Bytes) (l : LList) (now start stop : Int) (h : HotList s k l now) :
    let r := Spec.List.ltrim l.items start stop
    (Api.ltrim s now k start stop).2 = .unit ∧
    (r = [] → Store.getMeta (Api.ltrim s now k start stop).1 k = none) ∧
    (r ≠ [] → HoldsSeq (Api.ltrim s now k start stop).1 k r) := by
  dsimp only
  obtain ⟨a1, a2, a3⟩ := ltrim_empty_ceases s k l now start stop h
  have hi := ltrim_items l start stop
  have hwf := ltrim_wf l h.2.1 start stop
  rw [hi] at a2 a3
  exact ⟨a1, a2, fun hne => ⟨_, a3 hne, hwf, hi⟩⟩

/-- LPUSH / RPUSH on an existing list: reply = new element count -/
theorem push_api (left : Bool) (s : MState) (k : Bytes) (l : LList) (now : Int) (vs : List Bytes)
    (h : HotList s k l now) :
    (Api.push left s now k vs).2 = .int ((l.items.length + vs.length : Nat) : Int) ∧
    HoldsSeq (Api.push left s now k vs).1 k
      (if left then Spec.List.lpush l.items vs else Spec.List.rpush l.items vs) := by
  obtain ⟨s1, e, heq, hot1, he1, _⟩ := Proofs.KeyTx.keyTx_hot true (some (.list DsList.empty)) .unit
    Proofs.C11.Cmd.pan (Proofs.C11.decPush left k vs) h.2.2 h.1
  rw [Proofs.C11.push_eq, heq]
  cases left
  · exact ⟨congrArg _ (Spec.List.Reply.int.inj (modelStep_refines l h.2.1 (.rpush vs)).2.2),
      holdsSeq_put hot1 he1 l (.rpush vs) h.2.1 _ _⟩
  · exact ⟨congrArg _ (Spec.List.Reply.int.inj (modelStep_refines l h.2.1 (.lpush vs)).2.2),
      holdsSeq_put hot1 he1 l (.lpush vs) h.2.1 _ _⟩

/-- LPUSH / RPUSH on a key that is not indexed creates the list -/
theorem push_api_create (left : Bool) (s : MState) (k : Bytes) (now : Int) (vs : List Bytes)
    (h : Store.getMeta s k = none) :
    (Api.push left s now k vs).2 = .int (vs.length : Nat) ∧
    HoldsSeq (Api.push left s now k vs).1 k (if left then vs.reverse else vs) := by
  have hl : Proofs.C01.live s now k = none := by unfold Proofs.C01.live; rw [h]
  obtain ⟨heq, hot1, he1, _⟩ := Proofs.KeyTx.keyTx_create (.list DsList.empty) .unit Proofs.C11.Cmd.pan
    (Proofs.C11.decPush left k vs) hl
  rw [Proofs.C11.push_eq, heq]
  cases left
  · have ht := holdsSeq_put hot1 he1 DsList.empty (.rpush vs) empty_wf
      [Api.opList 21 k (vs.map Bytes.toHex)] (.int (DsList.llen (DsList.rpush DsList.empty vs)))
    rw [show (Spec.List.step DsList.empty.items (.rpush vs)).1 = vs by
      simp [Spec.List.step, Spec.List.rpush, DsList.empty]] at ht
    refine ⟨?_, ht⟩
    show Out.int (DsList.llen (DsList.rpush DsList.empty vs)) = _
    simp [rpush_eq, DsList.llen, DsList.empty]
  · have ht := holdsSeq_put hot1 he1 DsList.empty (.lpush vs) empty_wf
      [Api.opList 14 k (vs.map Bytes.toHex)] (.int (DsList.llen (DsList.lpush DsList.empty vs)))
    rw [show (Spec.List.step DsList.empty.items (.lpush vs)).1 = vs.reverse by
      simp [Spec.List.step, Spec.List.lpush, DsList.empty]] at ht
    refine ⟨?_, ht⟩
    show Out.int (DsList.llen (DsList.lpush DsList.empty vs)) = _
    simp [lpush_eq, DsList.llen, DsList.empty]

/-- LPUSHX / RPUSHX on an existing list -/
theorem pushX_api (left : Bool) (s : MState) (k : Bytes) (l : LList) (now : Int) (v : Bytes)
    (h : HotList s k l now) :
    (Api.pushX left s now k v).2 = .int ((l.items.length + 1 : Nat) : Int) ∧
    HoldsSeq (Api.pushX left s now k v).1 k (if left then v :: l.items else l.items ++ [v]) := by
  obtain ⟨s1, e, heq, hot1, he1, _⟩ := Proofs.KeyTx.keyTx_hot true none (.int 0) Proofs.C11.Cmd.pan
    (Proofs.C20.decPushX left k v) h.2.2 h.1
  rw [Proofs.C20.pushX_eq, show (Proofs.C20.pushXF left k v).run s now = _ from heq]
  cases left
  · exact ⟨congrArg _ (Spec.List.Reply.int.inj (modelStep_refines l h.2.1 (.rpush [v])).2.2),
      holdsSeq_put hot1 he1 l (.rpush [v]) h.2.1 _ _⟩
  · exact ⟨congrArg _ (Spec.List.Reply.int.inj (modelStep_refines l h.2.1 (.lpush [v])).2.2),
      holdsSeq_put hot1 he1 l (.lpush [v]) h.2.1 _ _⟩

theorem linsert_api (s : MState) (k pivot v : Bytes) (before : Bool) (l : LList) (now : Int)
    (h : HotList s k l now) :
    match Spec.List.linsert l.items pivot v before with
    | none => (Api.linsert s now k pivot v before).2 = .int (-1) ∧
              HoldsSeq (Api.linsert s now k pivot v before).1 k l.items
    | some xs => (Api.linsert s now k pivot v before).2 = .int xs.length ∧
              HoldsSeq (Api.linsert s now k pivot v before).1 k xs := by
  obtain ⟨s1, e, heq, hot1, he1, _⟩ := Proofs.KeyTx.keyTx_hot true none (.int 0) Proofs.C11.Cmd.pan
    (Proofs.C20.decLinsert k pivot v before) h.2.2 h.1
  have ht := holdsSeq_put hot1 he1 l (.linsert pivot v before) h.2.1
    [Api.opList 11 k [Bytes.toHex pivot, Bytes.toHex v, toString before]] (.int (DsList.linsert l pivot v before).2)
  have hr := (modelStep_refines l h.2.1 (.linsert pivot v before)).2.2
  rw [Proofs.C20.linsert_eq, show (Proofs.C20.linsertF k pivot v before).run s now = _ from heq]
  simp only [modelStep, Spec.List.step] at ht hr
  cases hs : Spec.List.linsert l.items pivot v before with
  | none => rw [hs] at ht hr; exact ⟨congrArg _ (Spec.List.Reply.int.inj hr), ht⟩
  | some xs => rw [hs] at ht hr; exact ⟨congrArg _ (Spec.List.Reply.int.inj hr), ht⟩

theorem lset_api (s : MState) (k v : Bytes) (i : Int) (l : LList) (now : Int) (h : HotList s k l now) :
    match Spec.List.lset l.items i v with
    | none => (Api.lset s now k i v).2 = .bool false ∧ HoldsSeq (Api.lset s now k i v).1 k l.items
    | some xs => (Api.lset s now k i v).2 = .bool true ∧ HoldsSeq (Api.lset s now k i v).1 k xs := by
  obtain ⟨s1, e, heq, hot1, he1, _⟩ := Proofs.KeyTx.keyTx_hot true none (.bool false) Proofs.C11.Cmd.pan
    (Proofs.C20.decLset k i v) h.2.2 h.1
  have ht := holdsSeq_put hot1 he1 l (.lset i v) h.2.1 [Api.opList 17 k [toString i, Bytes.toHex v]] (.bool true)
  rw [Proofs.C20.lset_eq, show (Proofs.C20.lsetF k i v).run s now = _ from heq]
  simp only [modelStep, Spec.List.step] at ht
  simp only [Proofs.C20.decLset]
  rw [lset_eq l h.2.1] at ht ⊢
  cases hs : Spec.List.lset l.items i v with
  | none =>
    -- a failed LSET returns before anything is stored
    simp only [Bool.not_false, if_true]
    exact ⟨rfl, l, Proofs.C01.valOf_hot hot1, h.2.1, rfl⟩
  | some xs =>
    rw [hs] at ht
    simp only [Bool.not_true, Bool.false_eq_true, if_false]
    exact ⟨rfl, ht⟩

theorem lindex_api (s : MState) (k : Bytes) (i : Int) (l : LList) (now : Int) (h : HotList s k l now) :
    (Api.lindex s now k i).2 = .bytes (Spec.List.lindex l.items i) := by
  obtain ⟨s1, e, heq, _⟩ := Proofs.KeyTx.keyTx_hot false none (.bytes none) Proofs.C11.Cmd.pan
    (Proofs.C11.decListRead (fun l => .bytes (DsList.lindex l i)) .panic) h.2.2 h.1
  rw [Proofs.C11.lindex_eq, heq, ← lindex_eq l h.2.1]
  rfl

theorem lrange_api (s : MState) (k : Bytes) (a b : Int) (l : LList) (now : Int) (h : HotList s k l now) :
    (Api.lrange s now k a b).2 = .blist ((Spec.List.lrange l.items a b).map some) := by
  obtain ⟨s1, e, heq, _⟩ := Proofs.KeyTx.keyTx_hot false none (.blist []) Proofs.C11.Cmd.pan
    (Proofs.C11.decListRead (fun l => .blist ((DsList.lrange l a b).map some)) .panic) h.2.2 h.1
  rw [Proofs.C11.lrange_eq, heq]
  simp only [Proofs.C11.decListRead, Proofs.C11.runAct, DsList.lrange, forEach_eq]

/-- LLEN through the API is the number of elements -/
theorem llen_api (s : MState) (k : Bytes) (l : LList) (now : Int) (h : HotList s k l now) :
    (Api.llen s now k).2 = .int l.items.length := by
  obtain ⟨s1, e, heq, _⟩ := Proofs.KeyTx.keyTx_hot false none (.int 0) (fun s1 => (s1, .int (-1)))
    (Proofs.C11.decListRead (fun l => .int (DsList.llen l)) (.int (-1))) h.2.2 h.1
  rw [Proofs.C11.llen_eq, heq]
  show Out.int (DsList.llen l) = _
  have := h.2.1; unfold LList.WF at this
  unfold DsList.llen; rw [this]

/-- a concrete state satisfying `HotList`: two keys, `"k"` holds the 2-element list -/
def demoState : MState :=
  { index := [([97], { exp := 0, value := some (.str [1]), state := 1 }),
              ([107], { exp := 5000, value := some (.list { items := [[1], [2]], length := 2 }), state := 3 })] }

theorem demoState_hot : HotList demoState [107] { items := [[1], [2]], length := 2 } 1000 :=
  ⟨⟨by decide, trivial⟩, rfl, _, rfl, rfl, by decide, rfl⟩

/-- non-vacuity of `push_api_create`: `"x"` is not indexed there -/
example : Store.getMeta demoState [120] = none := by decide

/-- ... and on it the theorems say what execution says: RPOP 2 deletes the key, LLEN is 2 -/
example : Store.getMeta (Api.pop false demoState 1000 [107] 2).1 [107] = none ∧
    (Api.llen demoState 1000 [107]).2 = .int 2 :=
  ⟨pop_all_ceases false demoState [107] _ 1000 2 demoState_hot (by decide),
   llen_api demoState [107] _ 1000 demoState_hot⟩

/-! ## 7. API level: LPOPRPUSH / RPOPLPUSH (`Api.rotate`, two keys)

  Full statement (what Redis does): for every state in which `src` holds a list, the command returns
  the moved element, removes it from one end of `src` (deleting `src` if it becomes empty) and adds
  it at the other end of `dst` (created if missing) — also when `src = dst` (the list is rotated) —
  returns nil, changing nothing, when `src` does not exist, and fails with a type error, changing
  nothing, when `dst` exists with another type.

      ∀ s src dst …, (Api.rotate left s now src dst).2 = .bytes (moved element or none) ∧ …

  After the source list has been obtained — and before anything is popped — the code looks `dst` up
  with a nil constructor and fails when that lookup reports a live record that is not a list.  The
  statement is proved in pieces, by the shape of the source and of the destination:
    * `src` not indexed, not ok or expired: nil reply, nothing but the access counter of `src`
      changes, `dst` is not looked at                                  (`rotate_api_missing_source`);
    * `src` a hot list, `dst` a live record of another type (`DstWrongType`): the command fails,
      *both* values are kept — no element is popped, none is lost —, only the two access counters
      change                                                       (`rotate_api_wrong_type_dest`);
    * `src` an indexed list without elements: value untouched for every `dst`; nil reply for every
      `dst` that passes the type check (`DstPasses`), failure otherwise (`rotate_api_empty_source`);
    * `src = dst`, a hot non-empty list: the list is rotated in place   (`rotate_api_same_key`);
    * `src ≠ dst`, `src` a hot non-empty list, destination absent or a hot list (`RotDst`):
      `rotate_api_partial`.  The restriction that makes it `_partial`
      is the state hypothesis inside `RotDst` that the two records do not share one value object
      (`rotate_api_alias_witness` shows that this hypothesis cannot be dropped). -/

theorem rotDst_iff (s : MState) (src dst : Bytes) (d : LList) (now : Int) :
    RotDst s src dst d now ↔
      ∃ msrc, Store.getMeta s src = some msrc ∧
      ((Store.getMeta s dst = none ∧ d = DsList.empty ∧ (s.pebble = true ∨ msrc.oid ≠ s.nextId + 1)) ∨
       (d.WF ∧ ∃ md, Store.getMeta s dst = some md ∧ md.isOk = true ∧ md.expired now = false ∧
          md.value = some (.list d) ∧
          (s.pebble = true ∨ md.oid ≠ msrc.oid ∨ (md.oid = 0 ∧ msrc.oid = 0)))) :=
  Iff.rfl

/-- `left = true`: LPOPRPUSH (head of `src` → tail of `dst`); `left = false`: RPOPLPUSH (tail of `src`
    → head of `dst`).  Reply = the moved element; `src` keeps exactly the rest (and is deleted when
    nothing is left); `dst` holds exactly its old elements plus the moved one. -/
theorem rotate_api_partial (left : Bool) (s : MState) (src dst : Bytes) (l d : LList) (now : Int)
    (x : Bytes) (rest : List Bytes)
    (hsrc : HotList s src l now) (hne : src ≠ dst)
    (hl : l.items = if left then x :: rest else rest ++ [x])
    (hd : RotDst s src dst d now) :
    (Api.rotate left s now src dst).2 = .bytes (some x) ∧
    (rest = [] → Store.getMeta (Api.rotate left s now src dst).1 src = none) ∧
    (rest ≠ [] → HoldsSeq (Api.rotate left s now src dst).1 src rest) ∧
    HoldsSeq (Api.rotate left s now src dst).1 dst (if left then d.items ++ [x] else x :: d.items) :=
  api_rotate left s src dst l d now x rest hsrc hne hl hd

/-- source absent, or indexed but not ok / past its deadline: nil reply; no other record changes, the
    source record (if any) only has its access counter bumped, the backend is untouched (the lookup
    uses a nil constructor, so no record is unlinked or replaced and `unpersist` never runs: no
    backend entry is removed).  `dst` is never looked at. -/
theorem rotate_api_missing_source (left : Bool) (s : MState) (now : Int) (src dst : Bytes)
    (h : Store.getMeta s src = none ∨
         ∃ m, Store.getMeta s src = some m ∧ (m.isOk = false ∨ m.expired now = true)) :
    (Api.rotate left s now src dst).2 = .bytes none ∧
    (∀ k, k ≠ src → Store.getMeta (Api.rotate left s now src dst).1 k = Store.getMeta s k) ∧
    Store.getMeta (Api.rotate left s now src dst).1 src =
      (Store.getMeta s src).map (fun m => { m with count := m.count + 1 }) ∧
    (Api.rotate left s now src dst).1.disk = s.disk := by
  rcases h with h | ⟨m, hm, hd⟩
  · rw [api_rotate_absent left s now src dst h]
    exact ⟨rfl, fun _ _ => rfl, by rw [h]; rfl, rfl⟩
  · rw [api_rotate_dead left s now src dst m hm hd]
    refine ⟨rfl, ?_, ?_, ?_⟩
    · intro k hk
      show Store.getMeta (Store.putMeta (Store.lockW s src) src _) k = _
      rw [Store.getMeta_putMeta_other _ _ _ _ hk, Store.getMeta_lockW]
    · show Store.getMeta (Store.putMeta (Store.lockW s src) src _) src = _
      rw [Store.getMeta_putMeta_same, hm]; rfl
    · exact Store.lockW_disk s src

/-- in the absent case the state is literally unchanged -/
theorem rotate_api_absent_source (left : Bool) (s : MState) (now : Int) (src dst : Bytes)
    (h : Store.getMeta s src = none) : Api.rotate left s now src dst = (s, .bytes none) :=
  api_rotate_absent left s now src dst h

/-- non-vacuity: `"x"` is absent from `demoState`; `"k"` (deadline 5000) is expired at 6000 -/
example : (Store.getMeta demoState [120] = none ∨
      ∃ m, Store.getMeta demoState [120] = some m ∧ (m.isOk = false ∨ m.expired 1000 = true)) ∧
    (Store.getMeta demoState [107] = none ∨
      ∃ m, Store.getMeta demoState [107] = some m ∧ (m.isOk = false ∨ m.expired 6000 = true)) :=
  ⟨Or.inl (by decide), Or.inr ⟨_, rfl, Or.inr (by decide)⟩⟩

theorem dstPasses_iff (s : MState) (src dst : Bytes) (now : Int) :
    DstPasses s src dst now ↔
      (dst = src ∨ Store.getMeta s dst = none ∨
       (∃ md, Store.getMeta s dst = some md ∧ (md.isOk = false ∨ md.expired now = true)) ∨
       (∃ md d, Store.getMeta s dst = some md ∧ md.isOk = true ∧ md.expired now = false ∧
          md.value = some (.list d))) :=
  Iff.rfl

theorem dstWrongType_iff (s : MState) (dst : Bytes) (v : Val) (now : Int) :
    DstWrongType s dst v now ↔
      ((∀ d, v ≠ .list d) ∧
       ∃ md, Store.getMeta s dst = some md ∧ md.isOk = true ∧ md.expired now = false ∧
         md.value = some v) :=
  Iff.rfl

/-- source an indexed hot list with no elements: the value stays whatever `dst` is (only the two
    lookups happened); the reply is nil for every destination that passes the type check — the
    source itself, a key that is absent / not ok / expired, a hot list — and the command fails for
    the others (a hot destination of another type: `rotate_api_wrong_type_dest`, which does not need
    the source to be empty) -/
theorem rotate_api_empty_source (left : Bool) (s : MState) (now : Int) (src dst : Bytes) (l : LList)
    (hsrc : HotList s src l now) (he : l.items = []) :
    ((Api.rotate left s now src dst).2 = .bytes none ∨ (Api.rotate left s now src dst).2 = .panic) ∧
    Store.valOf (Api.rotate left s now src dst).1 src = some (.list l) ∧
    (DstPasses s src dst now → (Api.rotate left s now src dst).2 = .bytes none) :=
  api_rotate_empty left s now src dst l hsrc he

example : HotList { index := [([107], { exp := 0, value := some (.list DsList.empty), state := 1 })] }
    [107] DsList.empty 1000 ∧ DsList.empty.items = [] ∧
    DstPasses { index := [([107], { exp := 0, value := some (.list DsList.empty), state := 1 })] }
      [107] [108] 1000 :=
  ⟨⟨trivial, rfl, _, rfl, rfl, by decide, rfl⟩, rfl, Or.inr (Or.inl rfl)⟩

/-- destination a live record of another type (whatever the source list holds, empty or not): the
    command fails *before* anything is popped.  The source still holds its whole list, the
    destination still holds its value; the two records only had their access counters bumped, no
    other record and no backend entry changed.  (Before the repair of the Go code the element was
    popped from `src` first and then lost.) -/
theorem rotate_api_wrong_type_dest (left : Bool) (s : MState) (now : Int) (src dst : Bytes) (l : LList)
    (v : Val) (hsrc : HotList s src l now) (hd : DstWrongType s dst v now) :
    (Api.rotate left s now src dst).2 = .panic ∧
    Store.valOf (Api.rotate left s now src dst).1 src = some (.list l) ∧
    Store.valOf (Api.rotate left s now src dst).1 dst = some v ∧
    (∀ k, Store.getMeta (Api.rotate left s now src dst).1 k =
      if k = src ∨ k = dst then (Store.getMeta s k).map (fun m => { m with count := m.count + 1 })
      else Store.getMeta s k) ∧
    (Api.rotate left s now src dst).1.disk = s.disk :=
  api_rotate_wrong_type left s now src dst l v hsrc hd

/-- non-vacuity: in `demoState` the key `"a"` holds a string; RPOPLPUSH k a fails and `"k"` still
    holds [1, 2] -/
example : DstWrongType demoState [97] (.str [1]) 1000 ∧
    (Api.rotate false demoState 1000 [107] [97]).2 = .panic ∧
    Store.valOf (Api.rotate false demoState 1000 [107] [97]).1 [107] =
      some (.list { items := [[1], [2]], length := 2 }) :=
  have hd : DstWrongType demoState [97] (.str [1]) 1000 :=
    ⟨fun _ h => (by cases h), _, rfl, rfl, by decide, rfl⟩
  have h := rotate_api_wrong_type_dest false demoState 1000 [107] [97] _ _ demoState_hot hd
  ⟨hd, h.1, h.2.1⟩

/-- `src = dst` holding a hot non-empty list: the list is rotated in place.  `left = true`
    (LPOPRPUSH k k): `x :: rest` becomes `rest ++ [x]`; `left = false` (RPOPLPUSH k k): `rest ++ [x]`
    becomes `x :: rest`; the reply is the moved element `x`.  This includes the one-element list
    (`rest = []`): the key is unlinked by the pop and created again by the second lookup, so the
    result is stated through the hot value of the key, not through its record.  A call that starts
    without locks (as every call does) is not hung afterwards: the second lookup reuses the write
    lock the call already holds. -/
theorem rotate_api_same_key (left : Bool) (s : MState) (k : Bytes) (l : LList) (now : Int)
    (x : Bytes) (rest : List Bytes)
    (hsrc : HotList s k l now)
    (hl : l.items = if left then x :: rest else rest ++ [x]) :
    (Api.rotate left s now k k).2 = .bytes (some x) ∧
    HoldsSeq (Api.rotate left s now k k).1 k (if left then rest ++ [x] else x :: rest) ∧
    (s.held = [] → (Api.rotate left s now k k).1.hung = s.hung) :=
  api_rotate_same left s k l now x rest hsrc hl

/-- on `demoState` (`"k"` = [1, 2], no locks, not hung): LPOPRPUSH k k replies 1, leaves [2, 1] and
    returns -/
example : (Api.rotate true demoState 1000 [107] [107]).2 = .bytes (some [1]) ∧
    HoldsSeq (Api.rotate true demoState 1000 [107] [107]).1 [107] [[2], [1]] ∧
    (Api.rotate true demoState 1000 [107] [107]).1.hung = false :=
  have h := rotate_api_same_key true demoState [107] _ 1000 [1] [[2]] demoState_hot rfl
  ⟨h.1, h.2.1, h.2.2 rfl⟩

/-- one-element list: RPOPLPUSH k k replies the element and the key still holds it -/
example :
    let s : MState := { index := [([107], { exp := 0, value := some (.list { items := [[7]], length := 1 }), state := 1 })] }
    (Api.rotate false s 1000 [107] [107]).2 = .bytes (some [7]) ∧
    HoldsSeq (Api.rotate false s 1000 [107] [107]).1 [107] [[7]] := by
  intro s
  have hs : HotList s [107] { items := [[7]], length := 1 } 1000 :=
    ⟨trivial, rfl, _, rfl, rfl, by decide, rfl⟩
  have h := rotate_api_same_key false s [107] _ 1000 [7] [] hs rfl
  exact ⟨h.1, h.2.1⟩

/-- two index records sharing one value object (oid 7, in-memory backend): after LPOPRPUSH a → b
    both keys show `[2, 1]`; as two independent sequences `a` would be `[2]` and `b` `[1, 2, 1]` -/
theorem rotate_api_alias_witness :
    let s : MState :=
      { index := [([97], { exp := 0, value := some (.list { items := [[1], [2]], length := 2 }), state := 1, oid := 7 }),
                  ([98], { exp := 0, value := some (.list { items := [[1], [2]], length := 2 }), state := 1, oid := 7 })],
        nextId := 8 }
    Store.valOf (Api.rotate true s 1000 [97] [98]).1 [97] = some (.list { items := [[2], [1]], length := 2 }) ∧
    Store.valOf (Api.rotate true s 1000 [97] [98]).1 [98] = some (.list { items := [[2], [1]], length := 2 }) := by
  decide

/-- non-vacuity of `RotDst`: destination absent (`"l"`) ... -/
example : RotDst demoState [107] [108] DsList.empty 1000 :=
  ⟨_, rfl, Or.inl ⟨rfl, rfl, Or.inr (by decide)⟩⟩

/-- ... and destination an existing list with its own value object -/
def demoState2 : MState :=
  { index := [([107], { exp := 0, value := some (.list { items := [[1], [2]], length := 2 }), state := 1, kid := 1, oid := 2 }),
              ([108], { exp := 0, value := some (.list { items := [[9]], length := 1 }), state := 1, kid := 3, oid := 4 })],
    nextId := 5 }

example : HotList demoState2 [107] { items := [[1], [2]], length := 2 } 1000 ∧
    RotDst demoState2 [107] [108] { items := [[9]], length := 1 } 1000 :=
  ⟨⟨⟨by decide, trivial⟩, rfl, _, rfl, rfl, by decide, rfl⟩,
   ⟨_, rfl, Or.inr ⟨rfl, _, rfl, rfl, by decide, rfl, Or.inr (Or.inl (by decide))⟩⟩⟩


/-! ## 8. The doubly linked list itself: head / tail / prev / next / length on a heap of nodes

  `Model/LinkedList.lean` mirrors ds/list/linked_list.go statement by statement on a heap of nodes
  (pointers are indexes, nil is `none`, nodes are only appended, an unlinked node stays as garbage).  A result
  is `Res.ok …`, `Res.panic` (nil dereference) or `Res.fuel` (a pointer walk ran out of its fuel, which is
  `heap.size + 1` at every loop entry).  `LinkedList.Inv l` says: there is a chain `c` of distinct heap indexes,
  head = first, tail = last (both nil iff `c` is empty), next of c[i] = c[i+1] (nil for the last), prev of
  c[i] = c[i-1] (nil for the first), length = |c|.  `abs l` is the data met walking from head (under `Inv`:
  the data along the chain), `absL l` the sequence-level list `{ items := abs l, length := l.length }`.

  For ALL heaps satisfying `Inv` and all arguments (every `Int`): every method returns `Res.ok` (so it neither
  panics nor runs out of fuel), keeps `Inv`, and its reply and the abstraction of its result are those of the
  corresponding function of Model/DsList.lean on `absL l`.  Hence every theorem of sections 1–5 about
  `DsList.*` on `l.items` speaks about the pointer structure (`ptr_*_redis` spell three of them out).
  Hypotheses beyond `Inv`: LRem with `count = math.MinInt64` (Go: "remove all", because `-count`
  overflows; DsList: up to 2^63 occurrences from the tail) needs a list of at most 2^63 nodes; SetValue
  needs bytes that `Codec.decodeList` accepts (on the others Go panics: `ptr_setValue_fails`). -/

section Pointer
open NodisVerif.LinkedList

/-- the chain of the invariant, spelled out with indexes -/
theorem ptr_inv_iff (l : PList) :
    Inv l ↔ ∃ c : List Nat, c.Nodup ∧ Seg l.heap none c none ∧ l.head = c.head? ∧ l.tail = c.getLast? ∧
      l.length = c.length :=
  ⟨fun ⟨c, h⟩ => ⟨c, h.nodup, h.seg, h.head, h.tail, h.length⟩,
   fun ⟨c, h1, h2, h3, h4, h5⟩ => ⟨c, ⟨h1, h2, h3, h4, h5⟩⟩⟩

/-- `Seg` read pointwise: node k of the chain has prev = node k-1 (nil for the first) and next = node k+1
    (nil for the last) -/
theorem ptr_seg_pointwise (h : Heap) (c : List Nat) (hs : Seg h none c none) (k : Nat) (hk : k < c.length) :
    ∃ n, h[c[k]]? = some n ∧
      n.prev = (if k = 0 then none else c[k - 1]?) ∧ n.next = c[k + 1]? := by
  have hsplit : c = c.take k ++ c[k] :: c.drop (k + 1) := by
    rw [List.getElem_cons_drop, List.take_append_drop]
  have hs' := hs
  rw [hsplit] at hs'
  obtain ⟨n, h1, h2, h3⟩ := seg_mid h _ _ _ none none hs'
  refine ⟨n, h1, ?_, ?_⟩
  · rw [h2, lst_none]
    cases k with
    | zero => simp
    | succ k =>
      simp only [Nat.add_one_ne_zero, ↓reduceIte, Nat.add_sub_cancel]
      rw [List.getLast?_take]
      simp only [Nat.add_one_ne_zero, ↓reduceIte, Nat.add_sub_cancel]
      rw [Option.or_of_isSome (by simp; omega)]
  · rw [h3, hd_none, List.head?_drop]

theorem ptr_inv_empty : Inv LinkedList.empty ∧ absL LinkedList.empty = DsList.empty :=
  ⟨⟨[], empty_invC⟩, by rw [absL_eq empty_invC]; rfl⟩

/-- under the invariant the cached length is the number of nodes on the chain: `LList.WF` of sections 1–5 -/
theorem ptr_wf (l : PList) (h : Inv l) : (absL l).WF := by
  obtain ⟨c, hc⟩ := h
  rw [absL_eq hc]; unfold LList.WF; simp

/-- backward walk (from tail following prev) = reverse of the forward walk (from head following next) -/
theorem bwd_eq_reverse_fwd (l : PList) (h : Inv l) : bwd l = (fwd l).reverse := by
  obtain ⟨c, hc⟩ := h
  unfold bwd fwd
  rw [fwdIdx_eq hc, bwdIdx_eq hc, List.map_reverse]

/-- … node by node, not only their data -/
theorem bwd_nodes_eq_reverse_fwd_nodes (l : PList) (h : Inv l) : bwdIdx l = (fwdIdx l).reverse := by
  obtain ⟨c, hc⟩ := h
  rw [fwdIdx_eq hc, bwdIdx_eq hc]

theorem ptr_lpush (l : PList) (h : Inv l) (data : List Bytes) :
    ∃ l', lpush l data = .ok l' ∧ Inv l' ∧ absL l' = DsList.lpush (absL l) data :=
  lpush_refines l h data

theorem ptr_rpush (l : PList) (h : Inv l) (data : List Bytes) :
    ∃ l', rpush l data = .ok l' ∧ Inv l' ∧ absL l' = DsList.rpush (absL l) data :=
  rpush_refines l h data

theorem ptr_lpop (l : PList) (h : Inv l) (count : Int) :
    ∃ l', lpop l count = .ok (l', (DsList.lpop (absL l) count).2) ∧ Inv l' ∧
      absL l' = (DsList.lpop (absL l) count).1 :=
  lpop_refines l h count

theorem ptr_rpop (l : PList) (h : Inv l) (count : Int) :
    ∃ l', rpop l count = .ok (l', (DsList.rpop (absL l) count).2) ∧ Inv l' ∧
      absL l' = (DsList.rpop (absL l) count).1 :=
  rpop_refines l h count

theorem ptr_size (l : PList) (h : Inv l) : LinkedList.size l = .ok (DsList.size (absL l)) :=
  size_refines l h

theorem ptr_llen (l : PList) : llen l = DsList.llen (absL l) := rfl

theorem ptr_llen_count (l : PList) (h : Inv l) : llen l = (abs l).length :=
  ptr_wf l h

theorem ptr_lrange (l : PList) (h : Inv l) (start stop : Int) :
    LinkedList.lrange l start stop = .ok (DsList.lrange (absL l) start stop) :=
  lrange_refines l h start stop

theorem ptr_lindex (l : PList) (h : Inv l) (index : Int) :
    LinkedList.lindex l index = .ok (DsList.lindex (absL l) index) :=
  lindex_refines l h index

theorem ptr_lset (l : PList) (h : Inv l) (index : Int) (value : Bytes) :
    ∃ l', LinkedList.lset l index value = .ok (l', (DsList.lset (absL l) index value).2) ∧ Inv l' ∧
      absL l' = (DsList.lset (absL l) index value).1 :=
  lset_refines l h index value

theorem ptr_linsert (l : PList) (h : Inv l) (pivot data : Bytes) (before : Bool) :
    ∃ l', LinkedList.linsert l pivot data before = .ok (l', (DsList.linsert (absL l) pivot data before).2) ∧
      Inv l' ∧ absL l' = (DsList.linsert (absL l) pivot data before).1 :=
  linsert_refines l h pivot data before

/-- all three variants (lRem, lRevRem, lRemAll) behind LRem's dispatch on the sign of `count` -/
theorem ptr_lrem (l : PList) (h : Inv l) (count : Int) (value : Bytes)
    (hmin : count = minInt64 → ((abs l).length : Int) ≤ 9223372036854775808) :
    ∃ l', LinkedList.lrem l count value = .ok (l', (DsList.lrem (absL l) count value).2) ∧ Inv l' ∧
      absL l' = (DsList.lrem (absL l) count value).1 :=
  lrem_refines l h count value hmin

theorem ptr_ltrim (l : PList) (h : Inv l) (start stop : Int) :
    ∃ l', LinkedList.ltrim l start stop = .ok l' ∧ Inv l' ∧ absL l' = DsList.ltrim (absL l) start stop :=
  ltrim_refines l h start stop

/-- GetValue: the pointer walk feeds the byte codec of Model/Codec.lean -/
theorem ptr_getValue (l : PList) (h : Inv l) : getValue l = .ok (Codec.encodeList (absL l)) :=
  getValue_refines l h

/-- SetValue: the decoding loop of Model/Codec.lean, every element through RPush -/
theorem ptr_setValue (l : PList) (h : Inv l) (b : Bytes) (fuel : Nat) (r : LList)
    (hd : Codec.decodeList b (absL l) fuel = some r) :
    ∃ l', setValue b l fuel = .ok l' ∧ Inv l' ∧ absL l' = r :=
  setValue_refines fuel b l h r hd

/-- … and when the sequence-level decoder fails (slice out of range = Go's panic, or `fuel` used up) it does
    not return `ok` either; with the fuel `SetValue` runs on, `b.length + 1`, it is the panic
    (`ptr_setValue_fuel`, assembled in `ptr_step_total`) -/
theorem ptr_setValue_fails (l : PList) (h : Inv l) (b : Bytes) (fuel : Nat)
    (hd : Codec.decodeList b (absL l) fuel = none) :
    setValue b l fuel = .panic ∨ setValue b l fuel = .fuel :=
  setValue_fails fuel b l h hd

/-- three of the sequence-level theorems restated on the pointer structure: LRANGE / LINDEX return, and
    LTRIM leaves, exactly what Redis' semantics says for the data along the chain -/
theorem ptr_lrange_redis (l : PList) (h : Inv l) (start stop : Int) :
    LinkedList.lrange l start stop = .ok (Spec.List.lrange (abs l) start stop) := by
  rw [ptr_lrange l h, lrange_spec]; rfl

theorem ptr_lindex_redis (l : PList) (h : Inv l) (index : Int) :
    LinkedList.lindex l index = .ok (Spec.List.lindex (abs l) index) := by
  rw [ptr_lindex l h, lindex_spec _ (ptr_wf l h)]; rfl

theorem ptr_ltrim_redis (l : PList) (h : Inv l) (start stop : Int) :
    ∃ l', LinkedList.ltrim l start stop = .ok l' ∧ Inv l' ∧ abs l' = Spec.List.ltrim (abs l) start stop := by
  obtain ⟨l', e, hi, ha⟩ := ptr_ltrim l h start stop
  refine ⟨l', e, hi, ?_⟩
  have := congrArg LList.items ha
  rw [ltrim_spec] at this
  exact this

/-- one call of any method: under `Inv` (and the 2^63 bound for LRem MinInt64) the pointer structure
    returns `ok` — no walk runs out of fuel, nothing dereferences nil — with the reply and the new abstract
    list of the sequence model, and `Inv` holds again.  (`stepD` is `none` only for SetValue on bytes whose
    decoding panics in Go: `ptr_setValue_fails`.) -/
theorem ptr_step (l : PList) (h : Inv l) (op : Op) (hok : OpOk (absL l) op) (L' : LList) (r : Reply)
    (hd : stepD (absL l) op = some (L', r)) :
    ∃ l', stepP l op = .ok (l', r) ∧ Inv l' ∧ absL l' = L' := by
  obtain ⟨c, hc⟩ := h
  obtain ⟨l', c', e, hi, ha⟩ := LinkedList.step_refines l c hc op hok L' r hd
  exact ⟨l', e, ⟨c', hi⟩, ha⟩

/-- under the invariant no method runs out of fuel and no method panics -/
theorem fuel_sufficient (l : PList) (h : Inv l) (op : Op) (hok : OpOk (absL l) op)
    (hd : (stepD (absL l) op).isSome) : stepP l op ≠ .fuel ∧ stepP l op ≠ .panic := by
  obtain ⟨⟨L', r⟩, hs⟩ := Option.isSome_iff_exists.mp hd
  obtain ⟨l', e, _⟩ := ptr_step l h op hok L' r hs
  rw [e]; exact ⟨by simp, by simp⟩

/-- from any list satisfying `Inv`, any finite sequence of methods keeps `Inv` and refines the run of DsList -/
theorem run_refines_ptr (l : PList) (h : Inv l) (ops : List Op) (hok : RunOk (absL l) ops)
    (L' : LList) (rs : List Reply) (hd : runD (absL l) ops = some (L', rs)) :
    ∃ l', runP l ops = .ok (l', rs) ∧ Inv l' ∧ absL l' = L' := by
  obtain ⟨c, hc⟩ := h
  obtain ⟨l', c', e, hi, ha⟩ := run_refines_invC ops l c hc hok L' rs hd
  exact ⟨l', e, ⟨c', hi⟩, ha⟩

/-- from the empty list: every reachable state satisfies `Inv`, is the state of the sequence model, gave
    the sequence model's replies, and its backward walk is the reverse of its forward walk -/
theorem run_inv (ops : List Op) (hok : RunOk DsList.empty ops) (L' : LList) (rs : List Reply)
    (hd : runD DsList.empty ops = some (L', rs)) :
    ∃ l', runP LinkedList.empty ops = .ok (l', rs) ∧ Inv l' ∧ absL l' = L' ∧ bwd l' = (fwd l').reverse := by
  have he := ptr_inv_empty
  obtain ⟨l', e, hi, ha⟩ := run_refines_ptr LinkedList.empty he.1 ops (by rw [he.2]; exact hok) L' rs
    (by rw [he.2]; exact hd)
  exact ⟨l', e, hi, ha, bwd_eq_reverse_fwd l' hi⟩

/-- `RunOk` is only about LRem with count = MinInt64: a run without such a call needs no side condition -/
theorem runOk_of_no_minInt64 (ops : List Op) (h : ∀ v, Op.lrem minInt64 v ∉ ops) (l : LList) : RunOk l ops := by
  induction ops generalizing l with
  | nil => trivial
  | cons op rest ih =>
    refine ⟨?_, fun l' _ _ => ih (fun v hm => h v (List.mem_cons_of_mem _ hm)) l'⟩
    cases op with
    | lrem c v =>
      intro hc; subst hc
      exact absurd (List.mem_cons_self ..) (h v)
    | _ => trivial

/-- unconditionally (also for LRem MinInt64 on more than 2^63 nodes, where the sequence model is left):
    under `Inv` every method returns `ok` and `Inv` holds again — no walk runs out of fuel, no nil is
    dereferenced — except SetValue on bytes whose decoding loop panics in Go (slice bounds out of range),
    which is exactly when the sequence-level decoder `Codec.decodeList` fails -/
theorem ptr_step_total (l : PList) (h : Inv l) (op : Op) :
    (∃ l' r, stepP l op = .ok (l', r) ∧ Inv l') ∨
    (∃ b, op = .setValue b ∧ stepP l op = .panic ∧ stepD (absL l) op = none) := by
  obtain ⟨c, hc⟩ := h
  rcases step_total l c hc op with ⟨l', c', r, e, hi⟩ | hp
  · exact Or.inl ⟨l', r, e, ⟨c', hi⟩⟩
  · exact Or.inr hp

/-- the decoding loop of SetValue never uses up `len(bytes) + 1` units of fuel -/
theorem ptr_setValue_fuel (l : PList) (h : Inv l) (b : Bytes) : setValue b l (b.length + 1) ≠ .fuel := by
  obtain ⟨c, hc⟩ := h
  exact setValue_no_fuel _ b l c hc (by omega)

/-- every state reachable from the empty list by any finite sequence of methods satisfies `Inv`, its
    backward walk is the reverse of its forward walk, and no run ever stops for lack of fuel
    (no side condition at all) -/
theorem run_inv_total (ops : List Op) :
    runP LinkedList.empty ops ≠ .fuel ∧
    ∀ l' rs, runP LinkedList.empty ops = .ok (l', rs) → Inv l' ∧ bwd l' = (fwd l').reverse := by
  obtain ⟨h1, h2⟩ := run_total ops LinkedList.empty [] empty_invC
  refine ⟨h1, fun l' rs h => ?_⟩
  have hi : Inv l' := h2 l' rs h
  exact ⟨hi, bwd_eq_reverse_fwd l' hi⟩

/-- non-vacuity: a concrete heap with garbage (node 1 was unlinked and still points into the chain)
    satisfying `Inv`, with chain 3 → 0 → 2 -/
def demoPtr : PList :=
  { heap := #[{ data := [97], next := some 2, prev := some 3 }, { data := [120], next := some 2, prev := some 0 },
              { data := [97], next := none, prev := some 0 }, { data := [98], next := some 0, prev := none }],
    head := some 3, tail := some 2, length := 3 }

example : Inv demoPtr ∧ abs demoPtr = [[98], [97], [97]] ∧ bwd demoPtr = [[97], [97], [98]] :=
  ⟨⟨[3, 0, 2], by decide, ⟨_, rfl, rfl, rfl, _, rfl, rfl, rfl, _, rfl, rfl, rfl, trivial⟩, rfl, rfl, rfl⟩,
   by decide, by decide⟩

/-- … reached by the model's own methods from the empty list (RPush a x a; LPush b; LRem 1 x), and the
    hypotheses of `run_inv` hold for that run -/
example : (runP LinkedList.empty [.rpush [[97], [120], [97]], .lpush [[98]], .lrem 1 [120]]).bind
      (fun r => .ok (r.1 == demoPtr)) = .ok true ∧
    RunOk DsList.empty [.rpush [[97], [120], [97]], .lpush [[98]], .lrem 1 [120]] ∧
    (runD DsList.empty [.rpush [[97], [120], [97]], .lpush [[98]], .lrem 1 [120]]).isSome :=
  ⟨by decide, runOk_of_no_minInt64 _ (by intro v hm; simp [minInt64] at hm) _, by decide⟩

/-- the side condition of `ptr_lrem` / `OpOk` on the same state, for the one count that needs it -/
example : (minInt64 = minInt64 → ((abs demoPtr).length : Int) ≤ 9223372036854775808) ∧
    OpOk (absL demoPtr) (.lrem minInt64 [97]) :=
  ⟨fun _ => by decide, fun _ => by decide⟩

/-- the hypothesis of `ptr_setValue` on the same state: two well-formed length-prefixed elements -/
example : (Codec.decodeList [2, 98, 4, 99, 99] (absL demoPtr) 6).isSome := by decide

/-- … and of `ptr_setValue_fails`: a length prefix that points past the end of the bytes -/
example : Codec.decodeList [6, 98] (absL demoPtr) 3 = none := by decide

end Pointer

end NodisVerif.C02

import NodisVerif.Proofs.LinProtoCheck
import NodisVerif.Proofs.LinExamples
import NodisVerif.Proofs.TxProgReach
/-
  C05 — concurrent single-key commands are linearizable: no lost or torn updates.

  Property theorems only.  §1–§8 are about the locking protocol `Model/Proto.lean` (the transition system whose
  steps are the ones `tx.go` / `store.go` report). Reference notions, all in Proofs/ProtoBasic.lean:
    `runAll s es`   the fold of `step` over a trace (`= some s'` iff every step is allowed),
    `Reachable s`   `∃ es, runAll {} es = some s`,
    `evTx e`        the transaction an event belongs to (`clear` belongs to none).
  Every theorem is about ALL reachable states: any trace, any number of transactions, keys, records.
  §7–§8 (linearizability from lock intervals) rest on definitions that live beside their lemmas: `Lin.Obj`, `Lin.step`,
  `WF`, `IsLin`, `Linearizable` (Proofs/LinCore.lean), `Split.step` (Proofs/LinSplit.lean), `HoldsCur`, `Releases`,
  `InInterval`, `Placed`, `PlacedSplit` (Proofs/LinProto.lean).
  §9 is about the program `Model/TxProg.lean` (the code of tx.go, statement by statement): every run of it is a run of the
  protocol.  Its notions: `ProgReachable c` (some schedule leads to `c`; Proofs/TxProgReach.lean); `holdsOf`, `owns`
  (Proofs/TxProgBase.lean); the classes of program counters `inW`, `inR`, `grow` and the invariant `Strong`
  (Proofs/TxProgGuard.lean).

  Why this is linearizability of single-key commands: a command reads / updates the value that lives in
  the record it holds. (2) the record it validated is the one registered under the key; (3) it stays
  the registered one for as long as the command holds it; (1)+(5) while a writer holds it nobody else
  does. So the commands working on the current record of a key are serialized by its lock, and an
  update is never applied to a record that has already left the index (the old lost-update bug, (6)).
-/
namespace NodisVerif.C05
open NodisVerif.Proto
open NodisVerif.Proofs.Proto

/-- `runAll` is the model's own `run`, without the error report -/
theorem runAll_is_run (s s' : PState) (es : List Ev) (i : Nat) :
    run s es i = .ok s' ↔ runAll s es = some s' := by
  induction es generalizing s i with
  | nil => simp [run, runAll]
  | cons e es ih =>
    simp only [run, runAll_cons]
    cases step s e with
    | none => simp
    | some s1 => simpa using ih s1 (i + 1)

/-! ## 1. mutual exclusion -/

/-- A write hold is exclusive: if `t` holds record `h.rid` in mode w, any hold `g` of any transaction
    `u` on the same record is that very hold (no second writer, no reader, not a second hold of `t`). -/
theorem mutual_exclusion {s : PState} (hr : Reachable s) {t u : Tx} {st su : TxSt} {h g : Hold}
    (ht : s.tx t = some st) (hh : h ∈ st.holds) (hw : h.mode = .w)
    (hu : s.tx u = some su) (hg : g ∈ su.holds) (e : g.rid = h.rid) : u = t ∧ g = h := by
  have hi := hr.inv
  have : u = t := (hi.compat t u st su h g ht hu hh hg e.symm (Or.inl hw)).symm
  subst this
  rw [ht] at hu; cases hu
  exact ⟨rfl, same_hold (hi.holdNodup u st ht) hg hh e⟩

/-- the same, on the model's own `heldBy` list -/
theorem write_lock_exclusive {s : PState} (hr : Reachable s) {t : Tx} {st : TxSt} {h : Hold}
    (ht : s.tx t = some st) (hh : h ∈ st.holds) (hw : h.mode = .w) :
    ∀ p ∈ s.heldBy h.rid, p = (t, h) := by
  intro p hp
  obtain ⟨h1, h2⟩ := mem_heldBy.1 hp
  obtain ⟨su, h3, h4⟩ := holds_of_mem_allHolds hr.inv.txNodup (t := p.1) (h := p.2) h1
  obtain ⟨a, b⟩ := mutual_exclusion hr ht hh hw h3 h4 h2
  exact Prod.ext a b

/-- holds of two different transactions on one record are both read holds -/
theorem shared_means_read {s : PState} (hr : Reachable s) {t u : Tx} {st su : TxSt} {h g : Hold}
    (ht : s.tx t = some st) (hh : h ∈ st.holds) (hu : s.tx u = some su) (hg : g ∈ su.holds)
    (e : h.rid = g.rid) (hne : t ≠ u) : h.mode = .r ∧ g.mode = .r :=
  hr.inv.readers ht hu hh hg e hne

/-- a transaction has at most one hold per record, and a transaction id is active at most once -/
theorem one_hold_per_record {s : PState} (hr : Reachable s) {t : Tx} {st : TxSt} {h g : Hold}
    (ht : s.tx t = some st) (hh : h ∈ st.holds) (hg : g ∈ st.holds) (e : h.rid = g.rid) : h = g :=
  same_hold (hr.inv.holdNodup t st ht) hh hg e

theorem active_once {s : PState} (hr : Reachable s) : (s.txs.map Prod.fst).Nodup := hr.inv.txNodup

/-! ## 2. a validated record is the current record of the key -/

theorem valid_means_current {s s' : PState} {t : Tx} {k : Key} {r : Rec}
    (h : step s (.valid t k r true) = some s') : s'.lookup k = some r := by
  obtain ⟨st, g, _, _, _, _, ⟨c, _⟩ | ⟨_, hl, rfl⟩⟩ := step_valid.1 h
  · cases c
  · exact hl

theorem claim_means_current {s s' : PState} {t : Tx} {k : Key} {r : Rec} {m : Mode}
    (h : step s (.claim t k r m) = some s') : s'.lookup k = some r := claim_current h

/-- … and the hold is there, validated, under that key -/
theorem valid_gives_hold {s s' : PState} {t : Tx} {k : Key} {r : Rec}
    (h : step s (.valid t k r true) = some s') :
    ∃ st g, s'.tx t = some st ∧ g ∈ st.holds ∧ g.rid = r ∧ g.key = k ∧ g.valid = true := by
  obtain ⟨st, g, _, hof, _, hk, ⟨c, _⟩ | ⟨_, _, rfl⟩⟩ := step_valid.1 h
  · cases c
  · exact ⟨_, _, tx_setTx_same _ _ _, mem_setHold.2 (Or.inl rfl), (holdOf_some hof).2, hk, rfl⟩

/-! ## 3. stability: nobody but the holder (or a FLUSH) takes a held record out of the index -/

/-- The property as it is worded: `t` holds `r` validated for `k`, `r` is registered under `k`; a step of
    another transaction `u` (so not `clear`) leaves it registered. This is the case `k = h.key` of
    `held_record_stays_registered`; the validity of the hold is not needed. -/
theorem others_cannot_unregister {s s' : PState} (hr : Reachable s) {t u : Tx} {st : TxSt} {h : Hold}
    {e : Ev} (ht : s.tx t = some st) (hh : h ∈ st.holds) (_hv : h.valid = true)
    (hl : s.lookup h.key = some h.rid) (he : evTx e = some u) (hne : u ≠ t) (hs : step s e = some s') :
    s'.lookup h.key = some h.rid :=
  held_stays_registered hr.inv ht hh hl he hne hs

/-- In general: ANY hold (read or write, validated or not) on `r` protects the
    registration of `r` under ANY key `k`, because `unlink` / `drop` need a write hold on `r`, which
    mutual exclusion denies to everybody else. -/
theorem held_record_stays_registered {s s' : PState} (hr : Reachable s) {t u : Tx} {st : TxSt} {h : Hold}
    {k : Key} {e : Ev} (ht : s.tx t = some st) (hh : h ∈ st.holds) (hl : s.lookup k = some h.rid)
    (he : evTx e = some u) (hne : u ≠ t) (hs : step s e = some s') : s'.lookup k = some h.rid :=
  held_stays_registered hr.inv ht hh hl he hne hs

/-- over any stretch of steps of other transactions: `t`'s state is untouched and the record it holds
    is still the registered one -/
theorem held_record_stays_registered_run {s s' : PState} (hr : Reachable s) {t : Tx} {st : TxSt} {h : Hold}
    {k : Key} {es : List Ev} (ht : s.tx t = some st) (hh : h ∈ st.holds) (hl : s.lookup k = some h.rid)
    (he : ∀ e ∈ es, ∃ u, evTx e = some u ∧ u ≠ t) (hs : runAll s es = some s') :
    s'.tx t = some st ∧ s'.lookup k = some h.rid :=
  held_stays_registered_run hr.inv ht hh hl he hs

set_option linter.unusedVariables false in
/-- the only steps that unregister the record of a key at all: `unlink` / `drop` of that record, `clear`
    (true of every state, reachable or not: the invariant is not involved) -/
theorem only_unlink_drop_clear_unregister {s s' : PState} (hr : Reachable s) {e : Ev} {k : Key} {r : Rec}
    (hs : step s e = some s') (hl : s.lookup k = some r) (h1 : ∀ u, e ≠ .unlink u k r)
    (h2 : ∀ u, e ≠ .drop u k r) (h3 : e ≠ .clear) : s'.lookup k = some r :=
  lookup_stable hs hl h1 h2 h3

/-- the FLUSH exception is real: `clear` unregisters a record that is held and validated -/
example : (runAll {} [.begin 1, .claim 1 "k" 10 .w, .publish 1 "k" 10, .clear]).map
    (fun s => (s.lookup "k", s.allHolds.map fun p => (p.1, p.2.rid, p.2.valid))) =
    some (none, [(1, 10, true)]) := by decide +kernel

/-! ## 4. registrations -/

/-- index and `pending` never both register a key -/
theorem one_registered_record_per_key {s : PState} (hr : Reachable s) {k : Key} {r : Rec}
    (h : assoc s.index k = some r) : assoc s.pending k = none := hr.inv.disjoint k r h

/-- a registered record is registered under its own name (its id is in `names`) -/
theorem registered_records_named {s : PState} (hr : Reachable s) {k : Key} {r : Rec}
    (h : s.lookup k = some r) : assoc s.names r = some k := by
  rcases lookup_eq_some.1 h with h | ⟨_, h⟩
  · exact hr.inv.idxName k r h
  · exact hr.inv.pendName k r h

/-- a record is registered under at most one key -/
theorem record_under_one_key {s : PState} (hr : Reachable s) {k k' : Key} {r : Rec}
    (h : s.lookup k = some r) (h' : s.lookup k' = some r) : k = k' := by
  have a := registered_records_named hr h
  have b := registered_records_named hr h'
  rw [a] at b; exact Option.some.inj b

/-- a held record is in `names`, and the hold carries its name -/
theorem held_records_named {s : PState} (hr : Reachable s) {t : Tx} {st : TxSt} {h : Hold}
    (ht : s.tx t = some st) (hh : h ∈ st.holds) : assoc s.names h.rid = some h.key :=
  hr.inv.holdName t st h ht hh

/-! ## 5. the writers of a key are serialized -/

/-- Two different transactions never hold, at the same time, validated holds on the currently
    registered record(s) of one key unless both are readers. (The registered record of a key is
    unique, so this is mutual exclusion on it; the validity of the holds is not even needed.) -/
theorem per_key_writers_serial {s : PState} (hr : Reachable s) {t u : Tx} {st su : TxSt} {h g : Hold}
    (hne : t ≠ u) (ht : s.tx t = some st) (hh : h ∈ st.holds) (hu : s.tx u = some su) (hg : g ∈ su.holds)
    (_hv : h.valid = true ∧ g.valid = true)
    (hl : s.lookup h.key = some h.rid) (hl' : s.lookup g.key = some g.rid) (hk : h.key = g.key) :
    h.mode = .r ∧ g.mode = .r := by
  have e : h.rid = g.rid := by rw [hk, hl'] at hl; exact (Option.some.inj hl).symm
  exact shared_means_read hr ht hh hu hg e hne

/-- a writer of the current record of `k` is alone on `k`: no other transaction holds the record
    registered under `k` -/
theorem writer_is_alone {s : PState} (hr : Reachable s) {t u : Tx} {st su : TxSt} {h g : Hold} {k : Key}
    (ht : s.tx t = some st) (hh : h ∈ st.holds) (hw : h.mode = .w) (hl : s.lookup k = some h.rid)
    (hu : s.tx u = some su) (hg : g ∈ su.holds) (hl' : s.lookup k = some g.rid) : u = t ∧ g = h := by
  have e : g.rid = h.rid := by rw [hl] at hl'; exact (Option.some.inj hl').symm
  exact mutual_exclusion hr ht hh hw hu hg e

/-! ## 6. the old lost-update scenario is rejected; non-vacuity -/

/-- key "k" is created with record 10 by transaction 2 -/
def setupK : List Ev :=
  [.begin 2, .claim 2 "k" 10 .w, .publish 2 "k" 10, .commit 2, .unlock 2 10, .fin 2]

/-- T1 looks "k" up (record 10) and blocks on it; T3 locks 10 first, deletes the key (`unlink`, then the
    placeholder 11 of `delKey`), commits; now T1 gets the lock of the unlinked record 10 -/
def staleTrace : List Ev := setupK ++
  [.begin 1, .begin 3, .look 1 "k" (some 10), .look 3 "k" (some 10),
   .wait 3 "k" 10 .w, .lock 3 "k" 10 .w, .valid 3 "k" 10 true, .wait 1 "k" 10 .w,
   .unlink 3 "k" 10, .claim 3 "k" 11 .w, .commit 3, .drop 3 "k" 11, .unlock 3 11, .unlock 3 10, .fin 3,
   .lock 1 "k" 10 .w]

/-- the trace is a trace of the protocol … -/
theorem staleTrace_runs : (runAll {} staleTrace).isSome = true := by decide +kernel

/-- … after which T1 may NOT treat record 10 as the record of "k" (the old code did: lost update) … -/
theorem no_stale_update_example :
    ((runAll {} staleTrace).bind (step · (.valid 1 "k" 10 true))).isNone = true := by decide +kernel

/-- … it has to give the attempt up (`valid false`, `unlock`) and look the key up again -/
theorem stale_attempt_abandoned :
    (runAll {} (staleTrace ++ [.valid 1 "k" 10 false, .unlock 1 10, .look 1 "k" none])).isSome = true := by
  decide +kernel

/-- nor may it commit with the unvalidated hold -/
theorem stale_cannot_commit : ((runAll {} staleTrace).bind (step · (.commit 1))).isNone = true := by decide +kernel

/-- non-vacuity: a reachable state with two transactions, a shared read hold on record 10 and a write
    hold of transaction 1 on a placeholder -/
def twoReaders : List Ev := setupK ++
  [.begin 1, .begin 3, .wait 1 "k" 10 .r, .lock 1 "k" 10 .r, .valid 1 "k" 10 true,
   .wait 3 "k" 10 .r, .lock 3 "k" 10 .r, .valid 3 "k" 10 true, .claim 1 "z" 11 .w]

example : (runAll {} twoReaders).map (fun s => s.allHolds.map fun p => (p.1, p.2.rid, p.2.key, p.2.mode, p.2.valid)) =
    some [(1, 11, "z", .w, true), (1, 10, "k", .r, true), (3, 10, "k", .r, true)] := by decide +kernel

example : ∃ s, Reachable s ∧ s.lookup "k" = some 10 ∧ s.lookup "z" = some 11 := by
  have h : (runAll {} twoReaders).map (fun s => (s.lookup "k", s.lookup "z")) = some (some 10, some 11) := by
    decide +kernel
  obtain ⟨s, hs, e⟩ := Option.map_eq_some_iff.1 h
  exact ⟨s, ⟨_, hs⟩, congrArg Prod.fst e, congrArg Prod.snd e⟩

/-- a writer waiting for the readers is not granted the lock -/
example : ((runAll {} (twoReaders ++ [.begin 4, .wait 4 "k" 10 .w])).bind (step · (.lock 4 "k" 10 .w))).isNone = true := by
  decide +kernel

/-! ## 7. from lock intervals to linearizability

  The generic part (Proofs/LinCore.lean, LinCorollaries.lean, LinSplit.lean; the events `inv acq eff rel res`,
  the transition system `Lin.step` and `Lin.WF` are described at the head of LinCore.lean).
    `Lin.hist es`             the inv / res events of es
    `Lin.Prec h i j`          `res i _` comes before `inv j _` in h
    `Lin.IsLin O σ0 h lin`    lin : List (id × op × result) has no id twice, contains only invoked
                              operations and every completed one with the result it returned, orders i
                              before j whenever `Prec h i j`, and is a legal sequential execution of
                              `apply` from σ0 with exactly these results (`Lin.Legal`)
    `Lin.Linearizable O σ0 h` `∃ lin, IsLin O σ0 h lin`
-/
open NodisVerif.Lin

section Generic
variable {State Op Ret : Type} [DecidableEq Ret]

/-- THEOREM. The history of every well-formed execution — any number of operations, any interleaving —
    is linearizable, and the order of the `eff` events is a linearization. -/
theorem locked_bodies_linearizable (O : Obj State Op Ret) (σ0 : State) (es : List (Lin.Ev Op Ret))
    (h : WF O σ0 es) : ∃ lin, IsLin O σ0 (hist es) lin ∧ ids lin = effOrder es :=
  Lin.locked_bodies_linearizable O σ0 es h

/-- … the sequential execution ends in the shared state the concurrent one ends in … -/
theorem linearization_final_state {O : Obj State Op Ret} {σ0 : State} {es : List (Lin.Ev Op Ret)}
    {c : Lin.Cfg State Op Ret} (h : Lin.run O true { σ := σ0 } es = some c) :
    IsLin O σ0 (hist es) c.lin ∧ ids c.lin = effOrder es ∧ final O σ0 c.lin = c.σ :=
  run_linearizable h

/-- … and the linearization point `eff i` of a completed operation lies between `inv i` and `res i`. -/
theorem linearization_point_between {O : Obj State Op Ret} {σ0 : State} {es : List (Lin.Ev Op Ret)}
    {c : Lin.Cfg State Op Ret} (h : Lin.run O true { σ := σ0 } es = some c) {i : Nat} {r : Ret}
    (hr : Lin.Ev.res i r ∈ es) : ∃ o, [Lin.Ev.inv i o, Lin.Ev.eff i, Lin.Ev.res i r].Sublist es :=
  (order_inv es c h).2 i r hr

/-- the lock discipline that `WF` checks, as a property of every prefix: two operations that are both
    between `acq` and `rel` are both read-only -/
theorem lock_intervals_disjoint {O : Obj State Op Ret} {σ0 : State} {es : List (Lin.Ev Op Ret)}
    {c : Lin.Cfg State Op Ret} (h : Lin.run O true { σ := σ0 } es = some c) {i j : Nat} {si sj : OpSt Op Ret}
    (h1 : c.ops i = some si) (h2 : c.ops j = some sj) (l1 : si.locked = true) (l2 : sj.locked = true)
    (hne : i ≠ j) : O.readOnly si.op = true ∧ O.readOnly sj.op = true :=
  ((LockInv.init σ0).run h).both_readers h1 h2 l1 l2 hne

/-- a completed operation (a read in particular) returns what `apply` computes on the state after a
    prefix of the writes in linearization order -/
theorem readers_see_a_prefix_state {O : Obj State Op Ret} {σ0 : State} {es : List (Lin.Ev Op Ret)}
    {c : Lin.Cfg State Op Ret} (h : Lin.run O true { σ := σ0 } es = some c) {i : Nat} {r : Ret}
    (hr : Lin.Ev.res i r ∈ es) :
    ∃ o p q, c.lin = p ++ (i, o, r) :: q ∧ writes O p <+: writes O c.lin ∧
      r = (O.apply (final O σ0 (writes O p)) o).2 :=
  Lin.readers_see_a_prefix_state h hr

/-- What the lock buys: when the body is NOT one atomic event but reads the shared state at `rd i` and
    writes `apply` of that snapshot back at a later `wr i` (both inside one `acq … rel` interval, events
    of other operations in between), the history is still linearizable … -/
theorem split_bodies_linearizable (O : Obj State Op Ret) (σ0 : State) (es : List (Split.Ev Op Ret))
    (h : Split.WF O σ0 es) : Linearizable O σ0 (Split.hist es) :=
  Split.split_bodies_linearizable O σ0 es h

end Generic

/-- … whereas without the lock checks two such increments both read 0 and both write 1: the history
    `inv 1, inv 2, res 1 0, res 2 0` has no linearization (and the lock discipline rejects the execution) -/
theorem lost_update_without_lock :
    ¬ Split.WF counter 0 Examples.lostUpdate ∧
    (Split.run counter false { core := { σ := 0 } } Examples.lostUpdate).map (fun c => c.core.σ) = some 1 ∧
    ¬ Linearizable counter 0 (Split.hist Examples.lostUpdate) :=
  ⟨Examples.lostUpdate_rejected, Examples.lostUpdate_runs_unlocked, Examples.lost_update_without_lock⟩

/-- no lost update: if every invoked operation on the counter (`false` = increment, `true` = read) has
    completed, the counter ends at its initial value plus the number of increments invoked … -/
theorem no_lost_update {σ0 : Int} {es : List (Lin.Ev Bool Int)} {c : Lin.Cfg Int Bool Int}
    (h : Lin.run counter true { σ := σ0 } es = some c)
    (hall : ∀ i o, Lin.Ev.inv i o ∈ es → ∃ r, Lin.Ev.res i r ∈ es) :
    c.σ = σ0 + (((invs es).filter fun p => !p.2).length : Int) :=
  Lin.no_lost_update h hall

/-- … so k increments and nothing else end at σ0 + k -/
theorem no_lost_update_k {σ0 : Int} {es : List (Lin.Ev Bool Int)} {c : Lin.Cfg Int Bool Int}
    (h : Lin.run counter true { σ := σ0 } es = some c)
    (hall : ∀ i o, Lin.Ev.inv i o ∈ es → ∃ r, Lin.Ev.res i r ∈ es)
    (hincr : ∀ i o, Lin.Ev.inv i o ∈ es → o = false) : c.σ = σ0 + ((invs es).length : Int) :=
  Lin.no_lost_update_k h hall hincr

/-- no double pop: two different completed pops on a list of distinct elements return different
    elements (and elements of the list) -/
theorem no_double_pop {α : Type} [DecidableEq α] {s0 : List α} (hs : s0.Nodup)
    {es : List (Lin.Ev Unit (Option α))} {c : Lin.Cfg (List α) Unit (Option α)}
    (h : Lin.run (popper α) true { σ := s0 } es = some c) {i j : Nat} {a b : α} (hne : i ≠ j)
    (hi : Lin.Ev.res i (some a) ∈ es) (hj : Lin.Ev.res j (some b) ∈ es) : a ≠ b ∧ a ∈ s0 ∧ b ∈ s0 :=
  ⟨Lin.no_double_pop hs h hne hi hj, pop_returns_element h hi, pop_returns_element h hj⟩

/-- non-vacuity: two increments and a read on a counter at 10, all three overlapping, the reader
    between the writers: well-formed; the linearization is 1, 3, 2 with results 10, 11, 11 -/
example : WF counter 10 Examples.ex3 ∧
    (Lin.run counter true { σ := 10 } Examples.ex3).map (fun c => (c.lin, c.σ)) =
      some ([(1, false, 10), (3, true, 11), (2, false, 11)], 12) ∧
    hist Examples.ex3 = [.inv 1 false, .inv 2 false, .inv 3 true, .res 1 10, .res 3 11, .res 2 11] :=
  ⟨Examples.ex3_wf, Examples.ex3_lin, Examples.ex3_hist⟩

example : Split.WF counter 10 Examples.exSplit := Examples.exSplit_wf

/-! ## 8. the intervals of the protocol obey the lock discipline; single-key commands are linearizable

    `HoldsCur s k t r m`    in s, t holds — validated, in mode m — the record r registered under k now
    `Releases t k r e`      e is `unlock t r`, `unlink t k r` or `drop t k r`
    `InInterval es k t m p` the state after the first p events lies in an interval of t on the current
                            record of k: `HoldsCur` after some event a < p, no `Releases` since
-/

/-- the interval starts when `acquire` has validated the record (or claimed the missing key) … -/
theorem interval_starts_at_validation {s s' : PState} {t : Tx} {k : Key} {r : Rec}
    (hs : step s (.valid t k r true) = some s') : ∃ m, HoldsCur s' k t r m := holdsCur_of_valid hs

theorem interval_starts_at_claim {s s' : PState} {t : Tx} {k : Key} {r : Rec} {m : Mode}
    (hs : step s (.claim t k r m) = some s') : HoldsCur s' k t r m := holdsCur_of_claim hs

/-- … lasts as long as `t` neither unlocks the record nor unregisters it itself, over any steps of
    anybody, FLUSH excepted (section 3: nobody else can unregister it; C07.1: `t` keeps the lock) … -/
theorem interval_lasts_until_release {s s' : PState} (hr : Reachable s) {es : List Ev} {k : Key} {t : Tx}
    {r : Rec} {m : Mode} (hc : HoldsCur s k t r m) (hs : runAll s es = some s')
    (hcl : ∀ e ∈ es, e ≠ .clear) (hrel : ∀ e ∈ es, ¬ Releases t k r e) : HoldsCur s' k t r m :=
  holdsCur_run hr.inv hc hs hcl hrel

/-- … in particular from the validation to the `commit` of that run of the transaction, unless the
    command unlinks the record itself (DEL) … -/
theorem interval_until_commit {es : List Ev} {s : PState} (hs : runAll {} es = some s) {t : Tx} {k : Key}
    {r : Rec} {a c : Nat} {v : Ev} (hv : es[a]? = some v)
    (hval : v = .valid t k r true ∨ ∃ m, v = .claim t k r m) (hc : es[c]? = some (.commit t))
    (hnf : ∀ p, a < p → p < c → es[p]? ≠ some (.fin t))
    (hnu : ∀ p, a < p → p < c → es[p]? ≠ some (.unlink t k r)) :
    ∃ m, ∀ p, a < p → p ≤ c → InInterval es k t m p :=
  Proofs.Proto.interval_until_commit hs hv hval hc hnf hnu

/-- … and two transactions are inside such intervals for one key at the same time only as readers of
    the same record (mutual exclusion + uniqueness of the registered record, sections 1, 4, 5). -/
theorem key_intervals_well_formed_state {s : PState} (hr : Reachable s) {k : Key} {t u : Tx} {r r' : Rec}
    {m m' : Mode} (h1 : HoldsCur s k t r m) (h2 : HoldsCur s k u r' m') (hne : t ≠ u) :
    r = r' ∧ m = .r ∧ m' = .r :=
  holdsCur_exclusive hr.inv h1 h2 hne

/-- THEOREM. In a FLUSH-free trace of the protocol the intervals of two different transactions on the
    current record of one key overlap (share a position) only if both are readers: the lock-discipline
    hypothesis of the generic theorem holds for the commands on each key. -/
theorem key_intervals_well_formed {es : List Ev} {s : PState} (hs : runAll {} es = some s)
    (hcl : ∀ e ∈ es, e ≠ .clear) {k : Key} {t u : Tx} {m m' : Mode} {p : Nat} (hp : p ≤ es.length)
    (h1 : InInterval es k t m p) (h2 : InInterval es k u m' p) (hne : t ≠ u) : m = .r ∧ m' = .r :=
  key_intervals_disjoint hs hcl hp h1 h2 hne

/-- THEOREM (single-key commands are linearizable). `ms` interleaves steps of the protocol (`inl`) with
    the events of operations on key `k` (`inr`; the operation of transaction `t` has id `t`).
    `LinProto.Placed O k {} {σ := σ0} ms` says:
      (a) the protocol steps are a trace of the protocol from the empty state, without FLUSH;
      (b) `acq t` comes at a moment when `HoldsCur k t` holds (i.e. after `acquire` has returned), in
          write mode unless the operation is read-only;
      (c) while the operation is between `acq t` and `rel t`, `t` takes no `Releases` step for that
          record (by `interval_until_commit`: `rel t` at the latest at the commit, or before the
          command's own `unlink`);
      (d) apart from the lock checks the operations' events are accepted by `Lin.step`: `inv`, then the
          body `eff` somewhere between `acq` and `rel`, then `res` with the result of the body.
    (b)–(d) are THE assumption that is not in the protocol model: the effect of a command on the value
    of its key happens between the return of `acquire` and the commit (tx.go: `exec` runs `fn(tx)` and
    then the deferred `commit`), and its reply carries the result computed there.
    Conclusion: all lock checks of the generic theorem pass (the operations' execution is `WF`), hence
    the history of the operations on `k` is linearizable w.r.t. ANY sequential specification `O`. -/
theorem single_key_commands_linearizable {State Op Ret : Type} [DecidableEq Ret] (O : Obj State Op Ret)
    (σ0 : State) (k : Key) (ms : List (Proto.Ev ⊕ Lin.Ev Op Ret))
    (h : LinProto.Placed O k {} { σ := σ0 } ms) :
    WF O σ0 (LinProto.opEvents ms) ∧ Linearizable O σ0 (hist (LinProto.opEvents ms)) := by
  obtain ⟨c', hr⟩ := LinProto.placed_runs Inv.init (LockInv.init σ0) (LinProto.covered_init σ0 {}) h
  have hwf : WF O σ0 (LinProto.opEvents ms) := by unfold WF; rw [hr]; rfl
  exact ⟨hwf, wf_linearizable O σ0 _ hwf⟩

/-- (a) spelled out: the protocol part of such an interleaving is a FLUSH-free trace of the protocol -/
theorem placed_is_protocol_trace {State Op Ret : Type} [DecidableEq Ret] {O : Obj State Op Ret}
    {σ0 : State} {k : Key} {ms : List (Proto.Ev ⊕ Lin.Ev Op Ret)}
    (h : LinProto.Placed O k {} { σ := σ0 } ms) :
    (∃ s, runAll {} (LinProto.protoEvents ms) = some s) ∧ ∀ e ∈ LinProto.protoEvents ms, e ≠ .clear :=
  LinProto.placed_proto_runs h

/-- the same for bodies in two steps (`rd t` … `wr t` between `acq t` and `rel t`): here the lock checks
    discharged by the protocol are what makes the history linearizable (`lost_update_without_lock`) -/
theorem single_key_commands_linearizable_split {State Op Ret : Type} [DecidableEq Ret]
    (O : Obj State Op Ret) (σ0 : State) (k : Key) (ms : List (Proto.Ev ⊕ Split.Ev Op Ret))
    (h : LinProto.PlacedSplit O k {} { core := { σ := σ0 } } ms) :
    Split.WF O σ0 (LinProto.opEventsSplit ms) ∧ Linearizable O σ0 (Split.hist (LinProto.opEventsSplit ms)) := by
  obtain ⟨c', hr⟩ := LinProto.placedSplit_runs Inv.init (LockInv.init σ0) (by intro i v h; cases h)
    (LinProto.covered_init σ0 {}) h
  have hwf : Split.WF O σ0 (LinProto.opEventsSplit ms) := by unfold Split.WF; rw [hr]; rfl
  exact ⟨hwf, Split.split_bodies_linearizable O σ0 _ hwf⟩

/-- non-vacuity: key "k" holds a counter; commands 1, 2 (INCR) and 3 (GET) overlap, 2 and 3 block on the
    record lock while 1 works, the reader is served before writer 2 (`LinProto.exTrace`, 45 events) -/
example : LinProto.Placed counter "k" {} { σ := 0 } LinProto.exTrace := LinProto.exTrace_placed

example : hist (LinProto.opEvents LinProto.exTrace) =
    [.inv 1 false, .inv 2 false, .inv 3 true, .res 1 0, .res 3 1, .res 2 1] := by decide +kernel

example : Linearizable counter 0 (hist (LinProto.opEvents LinProto.exTrace)) :=
  (single_key_commands_linearizable counter 0 "k" _ LinProto.exTrace_placed).2

example : LinProto.PlacedSplit counter "k" {} { core := { σ := 0 } } LinProto.exTraceSplit :=
  LinProto.exTraceSplit_placed

/-- the hypotheses of `interval_until_commit` are satisfiable: in `setupK` transaction 2 claims "k" at
    position 1 and commits at position 3 -/
example : ∃ m, ∀ p, 1 < p → p ≤ 3 → InInterval setupK "k" 2 m p := by
  cases h : runAll {} setupK with
  | none => exact absurd h (by decide +kernel)
  | some s =>
    refine interval_until_commit (a := 1) (c := 3) (r := 10) h (by decide +kernel) (Or.inr ⟨.w, rfl⟩) (by decide +kernel) ?_ ?_
    · intro p h1 h2
      have : p = 2 := by omega
      subst this; decide +kernel
    · intro p h1 h2
      have : p = 2 := by omega
      subst this; decide +kernel

/-! ## 9. the program level: the CODE of tx.go refines the protocol

  `Model/TxProg.lean` is a small-step interleaving semantics of `Tx.acquire`, `lockKeys` (the sorted locking
  phase), `newKey`, `delKey` and `commit`: one transition = one mutex operation or one access to shared state,
  `store.mu` and every record's RWMutex are explicit, and every verifTrace call site emits its protocol event.
  Everything above is about the PROTOCOL `Model/Proto.lean`; the theorems below say that every run of the
  PROGRAM is a run of the protocol, so that all of the above transfers to the program model, and they prove
  directly on program states the two facts §3 of DESIGN.md uses about the hook ("reported inside the critical
  section") and about commands ("data is touched between acquire's return and the commit").
  Also in the program model: the one-record mini transactions of store.go / key.go (`gcRecord`, `flushRecord`, the
  visit of Keys / Scan; pcs g1 … g13).  Not in it: `store.clear` (protocol level only). -/

section ProgramLevel
open NodisVerif.Proofs.TxProg

/-- MAIN THEOREM. For EVERY schedule (any number of threads, any interleaving, any choice of commands, fresh
    records and TryLock outcomes) the sequence of events the program emits is accepted by `Proto.step` from the
    initial state, and the final program state is related to the final protocol state by the simulation
    relation (`Strong` contains `Sim`). -/
theorem prog_refines_proto (sch : List (TxProg.Tid × TxProg.Choice)) :
    ∃ p, runAll {} (TxProg.run {} sch).2 = some p ∧ Strong (TxProg.run {} sch).1 p :=
  strong_refines Strong.init sch

/-- the same with the model's own `run` (the function the driver uses on recorded traces) -/
theorem prog_trace_accepted (sch : List (TxProg.Tid × TxProg.Choice)) :
    ∃ p, run {} (TxProg.run {} sch).2 0 = .ok p := by
  obtain ⟨p, h, _⟩ := prog_refines_proto sch
  exact ⟨p, (runAll_is_run _ _ _ _).2 h⟩

/-- one step: the simulation diagram (a silent transition is matched by no protocol step) -/
theorem prog_step_simulated {c c' : TxProg.Cfg} {p : PState} {t : TxProg.Tid} {ch : TxProg.Choice} {e : Option Ev}
    (hst : Strong c p) (h : TxProg.step c t ch = some (c', e)) : ∃ p', optStep p e = some p' ∧ Strong c' p' :=
  strong_step hst h

/-- every reachable program state has a reachable protocol state as its abstraction -/
theorem prog_state_abstracts {c : TxProg.Cfg} (h : ProgReachable c) : ∃ p, Reachable p ∧ Strong c p := h.strong

/-- the abstraction, spelled out: index, pending and record names are the program's; the protocol state of
    transaction `t` is `absTx` of thread `t`'s program counter and locals -/
theorem prog_abstraction {c : TxProg.Cfg} {p : PState} (hst : Strong c p) :
    p.index = c.sh.index ∧ p.pending = c.sh.pending ∧ p.names = c.sh.names ∧ ∀ t, p.tx t = absTx (c.loc t) :=
  ⟨hst.sim.idx, hst.sim.pend, hst.sim.names, hst.sim.tx⟩

/-- TRANSFER of (1) `mutual_exclusion`: a write hold of thread `t` in a reachable PROGRAM state excludes every
    other hold on that record, of any thread -/
theorem prog_mutual_exclusion {c : TxProg.Cfg} (hr : ProgReachable c) {t u : TxProg.Tid} {g g' : Hold}
    (hg : g ∈ holdsOf (c.loc t)) (hw : g.mode = .w) (hg' : g' ∈ holdsOf (c.loc u)) (e : g'.rid = g.rid) :
    u = t ∧ g' = g := by
  obtain ⟨p, hp, hst⟩ := hr.strong
  have ht : (c.loc t).pc ≠ .init := by intro h; simp [holdsOf, h] at hg
  have hu : (c.loc u).pc ≠ .init := by intro h; simp [holdsOf, h] at hg'
  exact mutual_exclusion hp (hst.sim.tx_some t ht) hg hw (hst.sim.tx_some u hu) hg' e

/-- the same fact read off the mutexes of the program state, without the detour through the protocol: the two
    threads would both own the record's RWMutex, one of them as its writer -/
theorem prog_mutual_exclusion_mutex {c : TxProg.Cfg} (hr : ProgReachable c) {t u : TxProg.Tid} {g g' : Hold}
    (hne : u ≠ t) (hg : g ∈ holdsOf (c.loc t)) (hw : g.mode = .w) (hg' : g' ∈ holdsOf (c.loc u)) :
    g'.rid ≠ g.rid := by
  obtain ⟨p, _, hst⟩ := hr.strong
  exact prog_mutex hst.sim hne hg hw hg'

/-- every hold of the abstraction is backed by the record's mutex: the thread is its writer / one of its readers -/
theorem prog_hold_owns_mutex {c : TxProg.Cfg} (hr : ProgReachable c) {t : TxProg.Tid} {g : Hold}
    (hg : g ∈ holdsOf (c.loc t)) : owns (c.sh.mu g.rid) t g.mode := by
  obtain ⟨p, _, hst⟩ := hr.strong
  exact (hst.sim.thr t).own g hg

/-- TRANSFER of (2) `valid_means_current`: when the program reports a successful re-validation, the record is
    the one registered under the key in the program's own index / pending maps -/
theorem prog_valid_means_current {c c' : TxProg.Cfg} (hr : ProgReachable c) {t : TxProg.Tid} {ch : TxProg.Choice}
    {k : Key} {r : Rec} (h : TxProg.step c t ch = some (c', some (.valid t k r true))) :
    c'.sh.lookup k = some r := by
  obtain ⟨p, _, hst⟩ := hr.strong
  obtain ⟨p', h1, hst'⟩ := strong_step hst h
  rw [← hst'.sim.lookup]
  exact valid_means_current h1

/-- TRANSFER of (3): before its commit, the record registered under the name of any record in `tx.lockedMetas`
    is itself in `tx.lockedMetas` — a command that re-names a key it has locked finds the record it holds -/
theorem prog_held_name_registered {c : TxProg.Cfg} (hr : ProgReachable c) {t : TxProg.Tid}
    (hg : grow (c.loc t).pc = true) (hd : (c.loc t).pc ≠ .d3) {g : Hold} (hm : g ∈ (c.loc t).held) :
    ∃ g' ∈ (c.loc t).held, c.sh.lookup g.key = some g'.rid := by
  obtain ⟨p, _, hst⟩ := hr.strong
  exact (hst.sf t).reg hg g hm (fun x => absurd x hd)

/-- EVENTS INSIDE THE CRITICAL SECTION (DESIGN.md §3 reads the recorded trace under this assumption; here it
    is a theorem about the program model): whenever a transition emits an event, the emitting thread holds, in the state in
    which it emits, the lock that makes the reported step atomic — `store.mu` shared for look / valid,
    `store.mu` exclusive for claim / publish / unlink / drop, the record's own mutex for lock / unlock / trylock -/
theorem events_inside_critical_section {c c' : TxProg.Cfg} (hr : ProgReachable c) {t : TxProg.Tid}
    {ch : TxProg.Choice} {ev : Ev} (h : TxProg.step c t ch = some (c', some ev)) : InCS c.sh t ev := by
  obtain ⟨p, _, hst⟩ := hr.strong
  exact events_in_cs hst h

theorem event_names_its_thread {c c' : TxProg.Cfg} {t : TxProg.Tid} {ch : TxProg.Choice} {ev : Ev}
    (h : TxProg.step c t ch = some (c', some ev)) : evTx ev = some t := by
  obtain ⟨_, _, hts, _⟩ := step_inv h
  exact tstep_evTx hts

/-- `store.mu` is exclusive in the program model: a thread inside an `s.mu.Lock()` section is alone in such a
    section and nobody is inside an `s.mu.RLock()` section -/
theorem store_mutex_exclusive {c : TxProg.Cfg} (hr : ProgReachable c) {t u : TxProg.Tid}
    (ht : inW (c.loc t).pc = true) : (inW (c.loc u).pc = true → u = t) ∧ inR (c.loc u).pc = false := by
  obtain ⟨p, _, hst⟩ := hr.strong
  exact smu_exclusive hst ht

/-- PLACED (the assumption of `single_key_commands_linearizable`, here a theorem): the command body (pc `idle`)
    and the write of `newKey` into the record (pc `n1`) run between acquire's return and the commit — the
    transaction is active, neither blocked nor committing, every record of `tx.lockedMetas` has been validated,
    its mutex is owned in the recorded mode, and it is (or its successor placeholder is) the registered one -/
theorem command_body_is_placed {c : TxProg.Cfg} (hr : ProgReachable c) {t : TxProg.Tid}
    (hpc : (c.loc t).pc = .idle ∨ (c.loc t).pc = .n1) :
    ∃ p, Reachable p ∧ p.tx t = some { holds := (c.loc t).held, waiting := none, committing := false } ∧
    ∀ g ∈ (c.loc t).held, g.valid = true ∧ owns (c.sh.mu g.rid) t g.mode ∧
      ∃ g' ∈ (c.loc t).held, c.sh.lookup g.key = some g'.rid := by
  obtain ⟨p, hp, hst⟩ := hr.strong
  exact ⟨p, hp, body_is_placed hst hpc⟩

/-- the one place where tx.go itself writes record data: `newKey` fills the record in (pc n1) while the thread is
    the writer of the record's mutex, and no other thread has any hold on the record -/
theorem newKey_fills_in_under_write_lock {c : TxProg.Cfg} (hr : ProgReachable c) {t : TxProg.Tid}
    (hpc : (c.loc t).pc = .n1) :
    owns (c.sh.mu (c.loc t).m) t .w ∧ ∀ u, u ≠ t → ∀ g' ∈ holdsOf (c.loc u), g'.rid ≠ (c.loc t).m := by
  obtain ⟨p, _, hst⟩ := hr.strong
  exact newKey_writes_locked hst hpc

/-- the eviction pass (`gcRecord`, pcs g1 … g13 of the program model; `flushRecord` and the visit of Keys / Scan are
    the same code without the unlink): when it unlinks a dead key (pc g8) the record it validated is still the one
    in the index, the thread is the writer of the record's mutex and inside `store.mu` — so the `unlink` it
    reports is the unlink of exactly that record, and no command holds the record -/
theorem gc_unlinks_the_indexed_record {c : TxProg.Cfg} (hr : ProgReachable c) {t : TxProg.Tid}
    (hpc : (c.loc t).pc = .g8) :
    assoc c.sh.index (c.loc t).key = some (c.loc t).m ∧ owns (c.sh.mu (c.loc t).m) t .w ∧
    c.sh.smu.writer = some t ∧ ∀ u, u ≠ t → ∀ g' ∈ holdsOf (c.loc u), g'.rid ≠ (c.loc t).m := by
  obtain ⟨p, _, hst⟩ := hr.strong
  have hf := (hst.sim.thr t).facts
  simp only [Facts, hpc] at hf
  have hh : (⟨(c.loc t).m, (c.loc t).key, .w, (c.loc t).okcur⟩ : Hold) ∈ holdsOf (c.loc t) := by simp [holdsOf, hpc]
  exact ⟨(hst.sf t).gidx (Or.inr (Or.inr hpc)) hf.2, (hst.sim.thr t).own _ hh, (hst.sf t).w (by simp [hpc, inW]),
    fun u hu g' hg' => prog_mutex hst.sim hu hh rfl hg'⟩

/-- hypotheses are satisfiable, and a stale record is left alone: the eviction pass unlinks the dead key "k"; a second
    mini transaction on the same record, taken from an older snapshot, fails its validation and commits nothing -/
example : (TxProg.run {} schedGc).2 =
    [.begin 1, .look 1 "k" none, .claim 1 "k" 10 .w, .look 1 "k" (some 10), .publish 1 "k" 10, .commit 1,
     .unlock 1 10, .fin 1,
     .begin 3, .wait 3 "k" 10 .w, .lock 3 "k" 10 .w, .valid 3 "k" 10 true, .unlink 3 "k" 10, .commit 3,
     .unlock 3 10, .fin 3,
     .begin 4, .wait 4 "k" 10 .w, .lock 4 "k" 10 .w, .valid 4 "k" 10 false, .unlock 4 10, .fin 4] := by decide +kernel

example : ((TxProg.run {} (schedGc.take 28)).1.loc 3).pc = .g8 := by decide +kernel

/-- hypotheses are satisfiable: a schedule in which thread 1 creates "k" through a placeholder while thread 2's
    read waits for the placeholder, is granted the lock after thread 1's commit and validates; the emitted trace -/
example : (TxProg.run {} schedCreate).2 =
    [.begin 1, .look 1 "k" none, .claim 1 "k" 10 .w, .begin 2, .look 2 "k" (some 10), .wait 2 "k" 10 .r,
     .look 1 "k" (some 10), .publish 1 "k" 10, .commit 1, .unlock 1 10, .fin 1,
     .lock 2 "k" 10 .r, .valid 2 "k" 10 true, .commit 2, .unlock 2 10, .fin 2] := by decide +kernel

/-- in the middle of that schedule: thread 1 is in `newKey` at pc n1, holding placeholder 10 as its writer, while
    thread 2 is blocked at pc a8 in `m.RLock()` — a reachable state for `newKey_fills_in_under_write_lock`,
    `command_body_is_placed` and `blocked_waits_for_greater_key` -/
example : ((TxProg.run {} (schedCreate.take 16)).1.loc 1).pc = .n1 ∧
    ((TxProg.run {} (schedCreate.take 16)).1.loc 2).pc = .a8 ∧
    ((TxProg.run {} (schedCreate.take 16)).1.sh.mu 10).writer = some 1 ∧
    TxProg.step (TxProg.run {} (schedCreate.take 16)).1 2 {} = none := by decide +kernel

example : ProgReachable (TxProg.run {} (schedCreate.take 16)).1 := ⟨_, rfl⟩

end ProgramLevel

end NodisVerif.C05

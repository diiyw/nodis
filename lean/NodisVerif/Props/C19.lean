import NodisVerif.Proofs.C19Pos
import NodisVerif.Proofs.C19History
import NodisVerif.Proofs.C19Reopen
import NodisVerif.Proofs.C11Examples
/-
  C19 — a full SCAN / SSCAN / HSCAN / ZSCAN iteration returns every element and terminates.

  Property theorems only. Reference notions: Spec/Scan.lean (the client loop `iterate`, `visited`,
  `calls`, `FullIteration run n vs` = "for every patience ≥ n the loop ends after exactly n calls
  and has seen exactly the list vs"). Helper lemmas: Proofs/C19*.lean, each in the namespace of its file's name;
  the namespace `Proofs.C19ScanIter` is the first part of Proofs/C19Quiescent.lean.

  `Glob.matched` is never unfolded: every theorem holds for the pattern matcher as an arbitrary
  predicate on names.

  Sections
    1. SSCAN / HSCAN / ZSCAN (positional scan + the handler's cursor reply): complete, exact, bounded.
    2. SCAN: what a single call reports exists, is live, matches, has the type.
    3. SCAN: full iteration on a store nobody else touches: complete, exact, ⌈n / count⌉ calls.
    4. SCAN: iteration while keys are added / removed. FINDING: removing a key that sorts before
       the cursor makes the iteration skip a key that was there all the time.
    5. SCAN looks at values only to learn the type of a never-loaded record for a TYPE filter: hot
       or cold, same replies; after a close / reopen `SCAN … TYPE t` reports exactly the keys that
       had a value of type t.
-/
namespace NodisVerif.C19
open NodisVerif.Spec.Scan
open NodisVerif.Proofs.C19Pos (hstep callsNeeded)
open NodisVerif.Proofs.C19Scan (scanStep scanOut ScanFrame view etype)
open NodisVerif.Proofs.C19ScanIter (I63)
open NodisVerif.Proofs.C19Quiescent (Eligible eligibleNames callsScan HotColdVariant Coherent)
open NodisVerif.Proofs.C19History (histStep Stable Mono pos)
open NodisVerif.Proofs

/-! ## 1. SSCAN / HSCAN / ZSCAN -/

/-- The handler-level step (`posScan`, then `scanReply` against the cardinality), iterated from
    cursor 0 over ANY list, with ANY pattern and ANY count (≤ 0 included): ends after exactly
    `callsNeeded n count` calls and the batches, concatenated, are exactly the matching elements
    in order — each matching element once, nothing else. -/
theorem posScan_complete {α : Type} (name : α → Bytes) (xs : List α) (pat : Bytes) (count : Int) :
    FullIteration (iterate (hstep name xs pat count)) (callsNeeded xs.length count)
      (xs.filter fun x => Glob.matched pat (name x)) :=
  C19Pos.posScan_full name xs pat count

/-- the number of calls: 1 for count ≤ 0 or an empty collection … -/
theorem posScan_calls_one (n : Nat) (count : Int) (h : count ≤ 0 ∨ n = 0) : callsNeeded n count = 1 := by
  unfold callsNeeded; rw [if_neg]; omega

/-- … ⌈n / count⌉ otherwise (the least c with n ≤ c · count) … -/
theorem posScan_calls_ceil (n : Nat) (count : Int) (hc : count > 0) (hn : n > 0) :
    n ≤ callsNeeded n count * count.toNat ∧ (callsNeeded n count - 1) * count.toNat < n := by
  unfold callsNeeded
  rw [if_pos ⟨hc, hn⟩]
  exact C19Iter.ceilDiv_spec n count.toNat (by omega) hn

/-- … and in any case at most n + 1 -/
theorem posScan_calls_bound (n : Nat) (count : Int) : callsNeeded n count ≤ n + 1 := by
  unfold callsNeeded
  split
  · rename_i h
    have := C19Iter.ceilDiv_le n count.toNat (by omega) h.2
    omega
  · omega

/-- one HSCAN command on a hash -/
def hscanStep (h : DsHash.H) (pat : Bytes) (count : Int) (c : Int) : Int × List (Bytes × Bytes) :=
  let r := DsHash.hscan h c pat count
  (scanReply r.1 (DsHash.hlen h), r.2)

theorem hscan_complete (h : DsHash.H) (pat : Bytes) (count : Int) :
    FullIteration (iterate (hscanStep h pat count)) (callsNeeded h.length count)
      (h.filter fun fv => Glob.matched pat fv.1) := by
  have e : hscanStep h pat count = hstep (fun fv => fv.1) h pat count := rfl
  rw [e]
  exact C19Pos.posScan_full _ h pat count

/-- on a well-formed hash the visited fields are the distinct matching fields -/
theorem hscan_fields (h : DsHash.H) (hs : AList.Sorted h) (pat : Bytes) :
    ((h.filter fun fv => Glob.matched pat fv.1).map (·.1)).Nodup ∧
    ∀ f, f ∈ (h.filter fun fv => Glob.matched pat fv.1).map (·.1) ↔
      (DsHash.hexists h f = true ∧ Glob.matched pat f = true) := by
  constructor
  · exact (List.Sublist.map _ List.filter_sublist).nodup (AListLemmas2.keys_nodup h hs)
  · intro f
    simp only [List.mem_map, List.mem_filter, DsHash.hexists]
    constructor
    · rintro ⟨⟨k, v⟩, ⟨hm, hp⟩, rfl⟩
      refine ⟨?_, hp⟩
      rw [AListLemmas2.contains_eq_true_iff]
      exact ⟨v, AListLemmas2.get?_of_mem h hs k v hm⟩
    · rintro ⟨hc, hp⟩
      obtain ⟨v, hv⟩ := (AListLemmas2.contains_eq_true_iff h f).1 hc
      exact ⟨(f, v), ⟨AListLemmas2.mem_of_get? h f v hv, hp⟩, rfl⟩

/-- one SSCAN command on a set -/
def sscanStep (s : DsSet.S) (pat : Bytes) (count : Int) (c : Int) : Int × List Bytes :=
  let r := DsSet.sscan s c pat count
  (scanReply r.1 (DsSet.scard s), r.2)

theorem sscan_complete (s : DsSet.S) (pat : Bytes) (count : Int) :
    FullIteration (iterate (sscanStep s pat count)) (callsNeeded s.length count)
      ((DsSet.members s).filter fun m => Glob.matched pat m) := by
  have hl : (DsSet.members s).length = s.length := by simp [DsSet.members, AList.keys]
  have e : sscanStep s pat count = hstep id (DsSet.members s) pat count := by
    unfold sscanStep hstep DsSet.sscan DsSet.scard
    rw [hl]
  rw [e, ← hl]
  exact C19Pos.posScan_full _ (DsSet.members s) pat count

/-- on a well-formed set the visited members are the distinct matching members -/
theorem sscan_members (s : DsSet.S) (hs : AList.Sorted s) (pat : Bytes) :
    ((DsSet.members s).filter fun m => Glob.matched pat m).Nodup ∧
    ∀ m, m ∈ (DsSet.members s).filter (fun m => Glob.matched pat m) ↔
      (DsSet.mem s m = true ∧ Glob.matched pat m = true) := by
  constructor
  · exact List.filter_sublist.nodup (AListLemmas2.keys_nodup s hs)
  · intro m
    simp only [List.mem_filter, DsSet.members, DsSet.mem, AListLemmas2.mem_keys_iff_contains]

/-- one ZSCAN command on a sorted set -/
def zscanStep (z : ZSet) (pat : Bytes) (count : Int) (c : Int) : Int × List Item :=
  let r := DsZSet.zScan z c pat count
  (scanReply r.1 (DsZSet.zCard z), r.2)

/-- ZSCAN: the visited items are the matching items of the chain, in chain (score, member) order
    (an empty pattern stands for "*"). `hlen` is the `sameLen` field of `ZSet.WF`. -/
theorem zscan_complete (z : ZSet) (hlen : z.sl.length = z.dict.length) (pat : Bytes) (count : Int) :
    FullIteration (iterate (zscanStep z pat count)) (callsNeeded z.sl.length count)
      (z.sl.filter fun it => Glob.matched (if pat.isEmpty then [42] else pat) it.2) := by
  have e : zscanStep z pat count = hstep (·.2) z.sl (if pat.isEmpty then [42] else pat) count := by
    unfold zscanStep hstep DsZSet.zScan DsZSet.zCard DsHash.posScan
    rw [hlen]
  rw [e]
  exact C19Pos.posScan_full _ z.sl _ count

theorem zscan_complete_wf (z : ZSet) (h : z.WF) (pat : Bytes) (count : Int) :
    FullIteration (iterate (zscanStep z pat count)) (callsNeeded z.sl.length count)
      (z.sl.filter fun it => Glob.matched (if pat.isEmpty then [42] else pat) it.2) :=
  zscan_complete z h.sameLen pat count

/-- "order = chain order": what is visited is a subsequence of the chain -/
theorem zscan_order (z : ZSet) (pat : Bytes) :
    (z.sl.filter fun it => Glob.matched (if pat.isEmpty then [42] else pat) it.2).Sublist z.sl :=
  List.filter_sublist

/-! non-vacuity for section 1 -/
example : AList.Sorted ([([97], [1]), ([98], [2])] : DsHash.H) := by decide +kernel
example : AList.Sorted ([([97], ()), ([98], ())] : DsSet.S) := by decide +kernel
example : ({ dict := [([97], (0 : UInt64))], sl := [((0 : UInt64), [97])] } : ZSet).sl.length
    = ({ dict := [([97], (0 : UInt64))], sl := [((0 : UInt64), [97])] } : ZSet).dict.length := rfl
/-- five members, COUNT 2: three calls, everything once -/
example : iterate (sscanStep [([97], ()), ([98], ()), ([99], ()), ([100], ()), ([101], ())] [42] 2) 10
    = ([[[97], [98]], [[99], [100]], [[101]]], true) := by decide +kernel

/-! ## 2. a SCAN call reports only what exists -/

/-- the reply of `Api.scan` always has the shape (cursor, keys): `scanOut` loses nothing -/
theorem scan_reply_shape (s : MState) (now cursor : Int) (pat : Bytes) (count : Int) (typ : Nat) :
    (Api.scan s now cursor pat count typ).2 =
      .many [.int (scanOut (Api.scan s now cursor pat count typ).2).1,
             .slist (scanOut (Api.scan s now cursor pat count typ).2).2] := by
  rw [C19Scan.scan_out]; rfl

/-- the type a `SCAN … TYPE typ` call sees for a record (`etype`, Proofs/C19Scan.lean): the cached
    type of a record that is in memory or has one … -/
theorem scanType_cached (s : MState) (typ : Nat) (k : Bytes) (m : Meta) (h : typ = 0 ∨ m.vtype ≠ 0 ∨ m.value.isSome) :
    etype s typ (k, m) = m.vtype :=
  C19Scan.etype_cached s typ k m h

/-- … and for a record that never had its value loaded the type of the value the backend hands
    out (none there: 0, no type) -/
theorem scanType_loaded (s : MState) (typ : Nat) (k : Bytes) (m : Meta) (h0 : typ ≠ 0) (h1 : m.vtype = 0)
    (h2 : m.value = none) :
    etype s typ (k, m) = match Store.loadValue s k m with | some (v, _) => v.typeCode | none => 0 :=
  C19Scan.etype_loaded s typ k m h0 h1 h2

/-- ANY call (any store, cursor, count, pattern, type): every reported key is the name of an
    indexed record that has not expired at `now`, matches the pattern and, if a type is asked
    for, has that type -/
theorem scan_only_existing (s : MState) (now cursor : Int) (pat : Bytes) (count : Int) (typ : Nat) (x : Bytes)
    (hx : x ∈ (scanOut (Api.scan s now cursor pat count typ).2).2) :
    ∃ m, (x, m) ∈ s.index ∧ m.expired now = false ∧ Glob.matched pat x = true ∧ (typ ≠ 0 → etype s typ (x, m) = typ) := by
  obtain ⟨m, hm, he⟩ := C19Quiescent.scan_sound s now cursor pat count typ x hx
  refine ⟨m, hm, ?_⟩
  simp only [C19Quiescent.Eligible, Bool.and_eq_true, Bool.not_eq_true', Bool.or_eq_true, beq_iff_eq] at he
  obtain ⟨⟨h1, h2⟩, h3⟩ := he
  refine ⟨h2, h1, ?_⟩
  intro hne
  rcases h3 with h3 | h3
  · exact absurd h3 hne
  · exact h3

/-- with a proper (btree) index the record is the one a lookup of the name finds -/
theorem scan_only_existing_lookup (s : MState) (hs : AList.Sorted s.index) (now cursor : Int) (pat : Bytes)
    (count : Int) (typ : Nat) (x : Bytes) (hx : x ∈ (scanOut (Api.scan s now cursor pat count typ).2).2) :
    ∃ m, Store.getMeta s x = some m ∧ m.expired now = false ∧ Glob.matched pat x = true ∧
      (typ ≠ 0 → etype s typ (x, m) = typ) := by
  obtain ⟨m, hm, h⟩ := scan_only_existing s now cursor pat count typ x hx
  exact ⟨m, AListLemmas2.get?_of_mem s.index hs x m hm, h⟩

/-! ## 3. full iteration on a quiescent store -/

/-- what a SCAN call does to the store (proper index): only the index changes; record by record
    nothing changes but the access counter and what loading a value sets (value, cached type,
    state, oid) — names, deadlines, key identities and storage positions stay; without a TYPE
    filter nothing changes but the counters -/
theorem scan_frame (s : MState) (hs : AList.Sorted s.index) (now cursor : Int) (pat : Bytes) (count : Int) (typ : Nat) :
    let s' := (Api.scan s now cursor pat count typ).1
    s' = { s with index := s'.index } ∧
    s'.index.map (fun e => (e.1, { e.2 with count := 0, value := none, vtype := 0, state := 0, oid := 0 }))
      = s.index.map (fun e => (e.1, { e.2 with count := 0, value := none, vtype := 0, state := 0, oid := 0 })) ∧
    (typ = 0 → s'.index.map (fun e => (e.1, { e.2 with count := 0 })) = s.index.map (fun e => (e.1, { e.2 with count := 0 }))) :=
  have h := C19Scan.scan_frame s hs now cursor pat count typ
  ⟨h.rest, h.other, h.untyped⟩

/-- … and what a later call with the same TYPE looks at — names, deadlines, types as the filter
    sees them — is unchanged -/
theorem scan_keeps_names_deadlines_types (s : MState) (hs : AList.Sorted s.index) (now cursor : Int) (pat : Bytes)
    (count : Int) (typ : Nat) :
    let s' := (Api.scan s now cursor pat count typ).1
    s'.index.map (fun e => (e.1, e.2.exp, etype s' typ e)) = s.index.map (fun e => (e.1, e.2.exp, etype s typ e)) :=
  (C19Scan.scan_frame s hs now cursor pat count typ).view_eq

theorem scan_keeps_sorted (s : MState) (hs : AList.Sorted s.index) (now cursor : Int) (pat : Bytes)
    (count : Int) (typ : Nat) : AList.Sorted (Api.scan s now cursor pat count typ).1.index :=
  (C19Scan.scan_frame s hs now cursor pat count typ).sorted hs

/-- Full statement: for every 0 < count < 2^63 (= every positive int64)
    on every store with a proper index of fewer than 2^63 records, iterating `Api.scan` from
    cursor 0 ends after exactly `callsScan n count` calls and the batches, concatenated, are
    exactly the eligible names of the index in index order — each once, nothing else -/
theorem scan_complete_quiescent (s : MState) (hs : AList.Sorted s.index) (hn : (s.index.length : Int) < 2 ^ 63)
    (now : Int) (pat : Bytes) (typ : Nat) (count : Int) (hc : 0 < count) (hc2 : count < 2 ^ 63) :
    FullIteration (fun fuel => iterateS (scanStep now pat count typ) fuel s)
      (callsScan s.index.length count.toNat) (eligibleNames s now pat typ s.index) := by
  have h := C19Quiescent.scan_full_pos s hs (by unfold I63; omega) now pat typ count.toNat (by omega)
    (by unfold I63; omega)
  rw [Int.toNat_of_nonneg (by omega)] at h
  exact h

/-- the number of calls: 1 on an empty index, else ⌈n / count⌉ (the call whose batch reaches the
    end of the index answers 0 itself: no extra empty call) … -/
theorem scan_calls_eq (n k : Nat) : callsScan n k = if n = 0 then 1 else (n + k - 1) / k := rfl

theorem scan_calls_ceil (n : Nat) (count : Int) (hc : 0 < count) (hn : 0 < n) :
    n ≤ callsScan n count.toNat * count.toNat ∧ (callsScan n count.toNat - 1) * count.toNat < n :=
  C19Quiescent.callsScan_ceil n count.toNat (by omega) hn

/-- … at most max n 1, in particular at most n + 1 -/
theorem scan_calls_bound (n : Nat) (count : Int) (hc : 0 < count) :
    callsScan n count.toNat ≤ max n 1 ∧ callsScan n count.toNat ≤ n + 1 := by
  have := C19Quiescent.callsScan_le n count.toNat (by omega)
  exact ⟨this, by omega⟩

/-- every eligible name is reported exactly once: the reported names of a proper index are
    pairwise different (no duplicates across batches) -/
theorem scan_no_duplicates (s : MState) (hs : AList.Sorted s.index) (now : Int) (pat : Bytes) (typ : Nat) :
    (eligibleNames s now pat typ s.index).Nodup :=
  C19Quiescent.eligibleNames_nodup s now pat typ s.index hs

theorem mem_eligibleNames (s : MState) (hs : AList.Sorted s.index) (now : Int) (pat : Bytes) (typ : Nat) (x : Bytes) :
    x ∈ eligibleNames s now pat typ s.index ↔ ∃ m, Store.getMeta s x = some m ∧ Eligible s now pat typ (x, m) = true :=
  C19Quiescent.mem_eligibleNames s hs now pat typ x

/-- count < 0 (any negative int64): unlimited — one call reports everything and answers 0 -/
theorem scan_complete_quiescent_negative (s : MState) (hs : AList.Sorted s.index) (hn : (s.index.length : Int) < 2 ^ 63)
    (now : Int) (pat : Bytes) (typ : Nat) (count : Int) (hc : -(2 ^ 63) ≤ count) (hneg : count < 0) :
    FullIteration (fun fuel => iterateS (scanStep now pat count typ) fuel s) 1 (eligibleNames s now pat typ s.index) :=
  C19Quiescent.scan_full_neg s hs (by unfold I63; omega) now pat typ count (by unfold I63; omega) hneg

/-- count = 0 (the RESP handler rejects an explicit `COUNT 0`; the embedded API does not): on a
    non-empty index nothing is ever reported and the cursor stays 1 — the iteration never ends -/
theorem scan_count_zero_never_ends (s : MState) (hs : AList.Sorted s.index) (hn : (s.index.length : Int) < 2 ^ 63)
    (h1 : 1 ≤ s.index.length) (now : Int) (pat : Bytes) (typ : Nat) (fuel : Nat) :
    ¬ terminated (iterateS (scanStep now pat 0 typ) fuel s) ∧
    visited (iterateS (scanStep now pat 0 typ) fuel s) = [] := by
  rw [C19Quiescent.scan_zero_stuck s hs (by unfold I63; omega) h1 now pat typ fuel]
  simp [terminated, visited]

/-- the store of the examples: three string keys a, b, c written through the API -/
def abc : MState :=
  (Api.set (Api.set (Api.set {} 0 [97] [49] false).1 0 [98] [50] false).1 0 [99] [51] false).1

/-! non-vacuity for section 3 (COUNT 2 and COUNT 1 on three keys: the call whose batch reaches the
    end of the index answers 0 itself) -/
example : AList.Sorted abc.index ∧ (abc.index.length : Int) < 2 ^ 63 ∧
    eligibleNames abc 0 [42] 0 abc.index = [[97], [98], [99]] := by decide +kernel
example : iterateS (scanStep 0 [42] 2 0) 10 abc = ([[[97], [98]], [[99]]], true) := by decide +kernel
example : iterateS (scanStep 0 [42] 1 0) 10 abc = ([[[97]], [[98]], [[99]]], true) := by decide +kernel
example : iterateS (scanStep 0 [42] 3 0) 10 abc = ([[[97], [98], [99]]], true) := by decide +kernel
example : iterateS (scanStep 0 [42] (-1) 0) 10 abc = ([[[97], [98], [99]]], true) := by decide +kernel
example : iterateS (scanStep 0 [42] 0 0) 4 abc = ([[], [], [], []], false) := by decide +kernel

/-! ## 4. iteration while the keyspace changes -/

/- FULL STATEMENT WANTED (false, see `scan_stable_finding`): a key that is indexed, live and
   matching during the whole iteration is reported at least once, whatever other keys are added
   or removed between the calls.
   Proved (`scan_stable_partial`) for histories in which the position of the key in the index
   never decreases from one call to the next (keys are only added; or removed only after the key,
   see `pos_insert_other`, `pos_delete_after`). -/

/-- `hist` = the stores in which the 2nd, 3rd, … call is made (arbitrary: whatever ran in between);
    `Stable now pat typ x t` = in store t the index is a proper btree of fewer than 2^63 records and
    x is indexed and eligible; `Mono x (s :: hist)` = the position of x never decreases.
    Then a terminated iteration has reported x. -/
theorem scan_stable_partial (now : Int) (pat : Bytes) (typ : Nat) (x : Bytes) (count : Int) (hc : 0 < count) (hc2 : count < 2 ^ 63)
    (s : MState) (hist : List MState)
    (hst : ∀ t ∈ s :: hist, Stable now pat typ x t) (hmono : Mono x (s :: hist))
    (fuel : Nat) (hterm : terminated (iterateS (histStep now pat count typ) fuel (s, hist))) :
    x ∈ visited (iterateS (histStep now pat count typ) fuel (s, hist)) := by
  have h := C19History.visited_of_start_le now pat typ x count.toNat (by omega) (by unfold I63; omega)
    fuel s hist 0 (by omega) hst hmono (by simp [C19ScanIter.startOf])
  rw [Int.toNat_of_nonneg (by omega)] at h
  exact h hterm

/-- `Stable` in terms of the store: the record at the position of x is x's and is eligible -/
theorem stable_iff (now : Int) (pat : Bytes) (typ : Nat) (x : Bytes) (s : MState) :
    Stable now pat typ x s ↔
      (AList.Sorted s.index ∧ (s.index.length : Int) < 2 ^ 63 ∧
        ∃ m, s.index[pos x s]? = some (x, m) ∧ Eligible s now pat typ (x, m) = true) := by
  unfold Stable C19History.StableV
  rw [C19ScanIter.I63_eq, C19History.posV_view]
  constructor
  · rintro ⟨h1, h2, e, he, hk⟩
    refine ⟨h1, h2, ?_⟩
    have hx := C19History.posV_name x (view s typ) e (by rw [C19History.posV_view]; exact he)
    simp only [view, C19Scan.viewOf, List.getElem?_map, Option.map_eq_some_iff] at he
    obtain ⟨⟨k, m⟩, hkm, rfl⟩ := he
    simp only [C19Scan.proj] at hx
    subst hx
    exact ⟨m, hkm, by rw [← C19Quiescent.keep_proj]; exact hk⟩
  · rintro ⟨h1, h2, m, hm, hk⟩
    refine ⟨h1, h2, C19Scan.proj s typ (x, m), ?_, by rw [C19Quiescent.keep_proj]; exact hk⟩
    simp only [view, C19Scan.viewOf, List.getElem?_map, hm, Option.map_some]

/-- sufficient for `Mono`: writing another key never moves x towards the front -/
theorem pos_insert_other (s : MState) (x key : Bytes) (m : Meta) (hne : key ≠ x) :
    pos x s ≤ pos x (Store.putMeta s key m) :=
  C19History.pos_set_ge x key m hne s.index

/-- sufficient for `Mono`: unlinking a key that sorts after x does not move x (x indexed) -/
theorem pos_delete_after (s : MState) (hs : AList.Sorted s.index) (x key : Bytes) (hlt : Bytes.lt x key = true)
    (hx : pos x s < s.index.length) : pos x (Store.delKey s key) = pos x s := by
  unfold pos at hx ⊢
  rw [Store.delKey_index]
  rcases C19History.pos_erase_after x key hlt s.index hs with h | h
  · exact h
  · omega

/-- WITNESS (3 keys, COUNT 1, one deletion): after the first call (reports a, answers cursor 2)
    key a is deleted; the second call starts at position 2 of the index b, c: reports c and
    answers 0. Key b was indexed, live and matching in both stores, and is never reported. -/
theorem scan_stable_finding :
    let s1 := Store.delKey (scanStep 0 [42] 1 0 abc 0).1 [97]
    iterateS (histStep 0 [42] 1 0) 10 (abc, [s1]) = ([[[97]], [[99]]], true) ∧
    eligibleNames abc 0 [42] 0 abc.index = [[97], [98], [99]] ∧ eligibleNames s1 0 [42] 0 s1.index = [[98], [99]] ∧
    pos [98] s1 < pos [98] abc := by decide +kernel

/-! non-vacuity for section 4: key b of `abc`, a key "d" added after the first call (COUNT 1) -/
def abcd : MState := (Api.set (scanStep 0 [42] 1 0 abc 0).1 0 [100] [52] false).1
example : pos [98] abc ≤ pos [98] abcd ∧ AList.Sorted abc.index ∧ AList.Sorted abcd.index ∧
    abc.index[pos [98] abc]?.map (·.1) = some [98] ∧ abcd.index[pos [98] abcd]?.map (·.1) = some [98] := by decide +kernel
example : iterateS (histStep 0 [42] 1 0) 10 (abc, [abcd]) = ([[[97]], [[98]], [[99]], [[100]]], true) := by decide +kernel

/-! ## 5. hot or cold makes no difference, also for TYPE after a reopen -/

/-- two stores that present the same names, deadlines and types-as-the-filter-sees-them (whatever
    else differs: values in memory or not, counters, states, …) get the same reply to any SCAN call -/
theorem scan_same_view_same_reply (s t : MState) (typ : Nat)
    (h : s.index.map (fun e => (e.1, e.2.exp, etype s typ e)) = t.index.map (fun e => (e.1, e.2.exp, etype t typ e)))
    (now cursor : Int) (pat : Bytes) (count : Int) :
    (Api.scan s now cursor pat count typ).2 = (Api.scan t now cursor pat count typ).2 := by
  rw [C19Scan.scan_out, C19Scan.scan_out]
  have : view s typ = view t typ := h
  rw [this]

/-- Two stores over the same backend whose indexes differ only in which values
    are in memory (`HotColdVariant`), both coherent (a record without cached type has no value in
    memory — `setValue` sets both), get the same reply to any SCAN call, TYPE-filtered or not -/
theorem scan_hot_cold_same (s t : MState) (h : HotColdVariant s t) (hd : s.disk = t.disk) (hp : s.pebble = t.pebble)
    (cs : Coherent s) (ct : Coherent t) (now cursor : Int) (pat : Bytes) (count : Int) (typ : Nat) :
    (Api.scan s now cursor pat count typ).2 = (Api.scan t now cursor pat count typ).2 :=
  scan_same_view_same_reply s t typ (C19Quiescent.view_eq_of_hotCold s t h hd hp cs ct typ) now cursor pat count

/-- … and whole iterations agree, batch by batch -/
theorem scan_hot_cold_same_iteration (s t : MState) (hs : AList.Sorted s.index) (h : HotColdVariant s t)
    (hd : s.disk = t.disk) (hp : s.pebble = t.pebble) (cs : Coherent s) (ct : Coherent t)
    (now : Int) (pat : Bytes) (count : Int) (typ : Nat) (fuel : Nat) :
    iterateS (scanStep now pat count typ) fuel s = iterateS (scanStep now pat count typ) fuel t := by
  have hv : view s typ = view t typ := C19Quiescent.view_eq_of_hotCold s t h hd hp cs ct typ
  have ht : AList.Sorted t.index := (C19Quiescent.hotCold_sorted h).1 hs
  unfold iterateS
  rw [C19Quiescent.iterate_scan_eq now pat count typ s hs, C19Quiescent.iterate_scan_eq now pat count typ t ht, hv]

/-- why coherence is asked: a record in memory that carries no cached type is not reported by a
    TYPE filter, its cold twin is loaded and reported (such records are not reachable: `setValue`
    always sets the type) -/
theorem scan_hot_cold_needs_coherent :
    let cold : MState := Store.reopen (Store.close (Api.set {} 0 [97] [118] false).1 0)
    let hot : MState := { cold with index := cold.index.map fun e => (e.1, { e.2 with value := some (.str [118]) }) }
    HotColdVariant hot cold ∧ hot.disk = cold.disk ∧ hot.pebble = cold.pebble ∧
    scanOut (Api.scan hot 0 0 [42] 10 1).2 = (0, []) ∧ scanOut (Api.scan cold 0 0 [42] 10 1).2 = (0, [[97]]) := by
  refine ⟨rfl, rfl, rfl, by decide +kernel, by decide +kernel⟩

/-- non-vacuity: `abc` and `abc` with the value of b evicted (as `gc` does) -/
def abcCold : MState := { abc with index := abc.index.map fun e => if e.1 = [98] then (e.1, { e.2 with value := none }) else e }
example : HotColdVariant abc abcCold ∧ abc.disk = abcCold.disk ∧ abc.pebble = abcCold.pebble ∧
    (Store.valOf abc [98]).isSome ∧ (Store.valOf abcCold [98]).isNone :=
  ⟨by unfold HotColdVariant; rfl, rfl, rfl, by decide, by decide⟩
example : Coherent abc ∧ Coherent abcCold := by
  unfold Coherent; constructor <;> decide

/-- SCAN … TYPE right after opening a backend (`Store.reopen`; `h` = the storage invariant of C11,
    either backend): the expected report consists of the names that match and are logically
    there (`Spec.Persist.lookup`: live, loadable) with a value of the requested type -/
theorem scan_type_after_reopen {s0 : MState} {x : Option Bytes} {t : Int} (h : C11.StoreInvX s0 x t)
    (now : Int) (pat : Bytes) (typ : Nat) (htyp : typ ≠ 0) (k : Bytes) :
    k ∈ eligibleNames (Store.reopen s0) now pat typ (Store.reopen s0).index ↔
      (Glob.matched pat k = true ∧
        ∃ v exp, Spec.Persist.lookup (Store.reopen s0) now k = some (v, exp) ∧ v.typeCode = typ) :=
  C19Reopen.mem_eligibleNames_reopen h now pat typ htyp k

/-- SCAN … TYPE after a graceful restart, complete statement: on the store obtained by
    `close` at `now` and `reopen`, iterating `SCAN … COUNT count TYPE typ` (typ ≠ 0) at time
    now' ≥ now ends after ⌈n / count⌉ calls and reports exactly — each once — the names that
    match and that had, before the restart, a live value of type typ.
    (`C11.NilFree s`: on Pebble no nil string in memory, the C11 finding; trivial in memory.) -/
theorem scan_type_after_restart {s : MState} {t now now' : Int} (h : C11.StoreInvX s none t) (ht : t ≤ now)
    (ht' : now ≤ now') (hf : s.failSet = 0) (hnil : C11.NilFree s)
    (hn : ((Store.reopen (Store.close s now)).index.length : Int) < 2 ^ 63)
    (pat : Bytes) (typ : Nat) (htyp : typ ≠ 0) (count : Int) (hc : 0 < count) (hc2 : count < 2 ^ 63) :
    let s' := Store.reopen (Store.close s now)
    FullIteration (fun fuel => iterateS (scanStep now' pat count typ) fuel s')
      (callsScan s'.index.length count.toNat) (eligibleNames s' now' pat typ s'.index) ∧
    (eligibleNames s' now' pat typ s'.index).Nodup ∧
    ∀ k, k ∈ eligibleNames s' now' pat typ s'.index ↔
      (Glob.matched pat k = true ∧ ∃ v exp, Spec.Persist.lookup s now' k = some (v, exp) ∧ v.typeCode = typ) := by
  have hs := C19Reopen.restart_sorted h ht (now := now)
  exact ⟨scan_complete_quiescent _ hs hn now' pat typ count hc hc2,
    scan_no_duplicates _ hs now' pat typ,
    fun k => C19Reopen.mem_eligibleNames_restart h ht ht' hf hnil pat typ htyp k⟩

/-- one string key written, store closed and reopened: `SCAN 0 TYPE string` reports the key after
    the restart as before it, and the call has loaded the value -/
theorem scan_type_after_reopen_example :
    let s0 := (Api.set {} 0 [97] [118] false).1
    let s1 := Store.reopen (Store.close s0 0)
    scanOut (Api.scan s0 0 0 [42] 10 1).2 = (0, [[97]]) ∧
    scanOut (Api.scan s1 0 0 [42] 10 1).2 = (0, [[97]]) ∧
    scanOut (Api.scan s1 0 0 [42] 10 3).2 = (0, []) ∧
    (Store.valOf s1 [97]).isNone ∧ (Store.valOf (Api.scan s1 0 0 [42] 10 1).1 [97]).isSome := by
  refine ⟨by decide +kernel, by decide +kernel, by decide +kernel, by decide +kernel, by decide +kernel⟩

/-- non-vacuity of the C11 hypotheses (the example store of C11 on either backend) -/
example : C11.StoreInvX (C11.exState false) none 0 ∧ (C11.exState false).failSet = 0 ∧ C11.NilFree (C11.exState false) :=
  ⟨C11.exState_inv false 0, rfl, fun _ _ _ c => by cases c⟩

/- UNPROVED (not attempted / left open):
   * `scan_stable_partial` is proved for histories in which the position of the key never decreases
     (additions anywhere, removals after the key). The slightly larger class "removals at positions
     after the cursor but before the key" (the key moves towards the front but stays at or after
     the start of the next call) is not covered: its hypothesis would have to mention the cursors
     computed during the run.
   * `scan_stable_partial` is stated for count > 0 only (for count < 0 a single call reports
     everything, section 3).
   * section 1 composes `posScan` with `Spec.Scan.scanReply` by hand (`hstep`); that the RESP handlers of
     SSCAN / HSCAN / ZSCAN (`Handler3.nextCursor`, cardinality read in a second transaction) compute
     this reply is not shown.
   * the RESP handler `Handler.scan` (default COUNT 10, rejection of `COUNT 0`, argument parsing)
     is not composed with `Api.scan` here; all SCAN theorems are about the API call.
   * no statement here about int64 wrap-around on indexes of 2^63 or more records (excluded by
     hypothesis `hn`; the model keeps Go's wrapping `cursor--` / `count--`).
   * `scan_frame` says which fields of a record a call may change, not that a record only ever goes
     from cold to hot (it does: the only value a call writes is the one `loadValue` returns). -/

end NodisVerif.C19

import NodisVerif.Proofs.C09IncrSys
import NodisVerif.Proofs.C16Full
import NodisVerif.Props.C08
import NodisVerif.Proofs.RespWriter
/-
  C16 — exactly one well-formed RESP reply per command, in order; pipelines stay in sync.

  Writer side: `Tok` / `render` / `oneValue` (Model/Resp.lean).  Reader side: the strict reference
  reader `parseReply` / `parseMany` on the value tree `Value` (Spec/RespReply.lean, written from the
  RESP2 specification).  `toValue` (Proofs/C16Parse.lean) is the value a complete token list denotes.
  Dispatch: `step` / `run` (Proofs/C08Step.lean) for an ARBITRARY handler table `H` satisfying the
  explicit well-formedness predicate `TableOneReply H` (every handler result is one value, for all
  stores, clocks and choices, panics included); discharged for the server's COMPLETE dispatch
  `fullTable = Driver.lookup [Handler.table1, Handler2.table2, Handler3.table3, Handler4.table4]` (`Main.tables`),
  without exception: `fullTable_ok`.  (MGET was a finding; the `fix:` is modelled and proved.)

  Side conditions of the wire-level theorems, both necessary (`arrOK_necessary`, `linesOK_necessary`):
  `ArrOK ts`: every array header has a count ≥ -1 (the writer would print `*-5` for `WriteArray(-5)`);
  `LinesOK ts`: no simple-string payload contains CR/LF.  Bulk payloads are unconstrained.
-/
namespace NodisVerif.C16
open NodisVerif.Proofs.C08Step Resp Server
open NodisVerif.Proofs.C16Parse NodisVerif.Spec.RespReply
open NodisVerif.Proofs.C16Handlers (OneReply)

/-- `strconv.FormatInt` output is read back exactly, for every integer -/
theorem decimal_roundtrip (n : Int) : parseDec (formatInt n) = some n := parseDec_formatInt n

/-- the reference reader, applied to the bytes written for one complete value (followed by anything),
    returns exactly the denoted value and leaves exactly the rest (`h1` follows from `hv`) -/
theorem render_parse_roundtrip (ts : List Tok) (rest : Bytes) (h1 : oneValue ts = true)
    (hA : ArrOK ts) (hS : LinesOK ts) (v : Value) (hv : toValue ts = some v) :
    parseReply (renderAll ts ++ rest) = some (v, rest) :=
  Proofs.C16Parse.render_parse_roundtrip ts rest hA hS v hv

/-- every complete token list denotes a value -/
theorem oneValue_denotes (ts : List Tok) (h1 : oneValue ts = true) : ∃ v, toValue ts = some v :=
  toValue_of_oneValue ts h1

/-- a bulk reply is `$len\r\n payload \r\n` with len = the payload's length -/
theorem bulk_exact (b : Bytes) : render (.bulk b) = 36 :: formatInt b.length ++ [13, 10] ++ b ++ [13, 10] := rfl

/-- … and is read back as exactly the stored bytes, for EVERY payload (CR, LF, empty, any length) -/
theorem bulk_carries_exact_bytes (b rest : Bytes) : parseReply (render (.bulk b) ++ rest) = some (.bulk b, rest) := by
  have h := Proofs.C16Parse.render_parse_roundtrip [.bulk b] rest
    (by intro t ht; simp at ht; subst ht; rfl) (by intro t ht; simp at ht; subst ht; rfl)
    (.bulk b) (by simp [toValue, toValueAux])
  simpa [renderAll] using h

/-- end to end, "bulk replies carry exactly the stored bytes with a correct length header": the
    closure of `SET k v` (on a missing key or a string) followed by the closure of the GET handler
    writes the single token `bulk v`, whose rendering is `$len\r\n v \r\n` with len = |v| and is
    read back as exactly `v` — for EVERY byte string v (CR, LF, NUL, empty, any length) -/
theorem stored_bytes_come_back (k v : Bytes) (st : MState) (now now' : Int) (ch ch' : Choice) (rest : Bytes)
    (h : Store.getMeta st k = none ∨ ∃ b, Proofs.C09Incr.StrAt k st b) :
    let reply := replyOf (outOf (storeAfter (outOf st now ch (Proofs.C09Incr.setBody k v))) now' ch'
                  (Proofs.C09Incr.getBody k))
    (∀ more, Handler.getString (k :: more) = .exec (Proofs.C09Incr.getBody k)) ∧
    reply = [Tok.bulk v] ∧
    renderAll reply = 36 :: formatInt v.length ++ [13, 10] ++ v ++ [13, 10] ∧
    parseReply (renderAll reply ++ rest) = some (.bulk v, rest) := by
  intro reply
  have e : reply = [Tok.bulk v] := Proofs.C09Incr.get_after_set k st now now' ch ch' v h
  refine ⟨fun more => rfl, e, ?_, ?_⟩
  · rw [e]; simp [renderAll, bulk_exact]
  · rw [e]
    have := bulk_carries_exact_bytes v rest
    simpa [renderAll] using this

/-- EVERY command of every connection — known or unknown, with any arguments, inside or outside
    MULTI, MULTI / EXEC / DISCARD / WATCH / UNWATCH included — draws exactly one complete RESP value.
    `QueuesSat OneBody sv` (every queued closure writes one value) is an invariant of `run`
    (`queues_reachable`). -/
theorem one_reply_per_command {H : Table} (hH : TableOneReply H) {sv : Server} (hq : QueuesSat OneBody sv) (c : Cmd) :
    oneValue (step H sv c).2 = true := step_one_reply hH hq c

theorem queues_reachable {H : Table} (hH : TableOneReply H) (st : MState) (cs : List Cmd) :
    QueuesSat OneBody (run H { store := st } cs).1 :=
  QueuesSat.run okBody_one (fun n a b hb => hH.exec n a b hb) cs (QueuesSat.init _ st)

/-- replies appear in the order the commands were sent: `run` returns exactly one reply per command,
    the j-th being the reply to the j-th command, each one complete value -/
theorem replies_in_order {H : Table} (hH : TableOneReply H) {sv : Server} (hq : QueuesSat OneBody sv) (cs : List Cmd) :
    (run H sv cs).2.length = cs.length ∧ (∀ r ∈ (run H sv cs).2, oneValue r = true) ∧
    ∀ (pre post : List Cmd) (c : Cmd), cs = pre ++ c :: post →
      (run H sv cs).2[pre.length]? = some (step H (run H sv pre).1 c).2 := by
  refine ⟨run_replies_length H cs sv, run_one_reply hH cs hq, ?_⟩
  intro pre post c e
  subst e
  rw [run_append, run_cons]
  simp [run_replies_length]

/-- a single handler result that is one value (`OneReply`), dispatched outside MULTI: the reply is
    one value — no assumption on the rest of the table or on the queues -/
theorem one_reply_outside_multi (H : Table) (sv : Server) (c : Cmd) (hs : ¬ special c.name) (r : HRes)
    (hH : H c.name c.args = some r) (hr : OneReply r) (hst : runsNow (sv.conn c.id).state) :
    oneValue (step H sv c).2 = true := by
  show oneValue (dispatch H sv c).2 = true
  rw [dispatch_table H sv c hs, hH]
  cases r with
  | direct ts => exact hr
  | crash => exact oneValue_err 0
  | exec b =>
    simp only
    rw [execCommand_eq, if_pos hst, runBody_toks]
    exact hr _ _ _

/-- an unknown command, or a handler that panics outside `execCommand` (caught by the dispatch-level
    recover): one error reply -/
theorem unknown_command_one_error (H : Table) (sv : Server) (c : Cmd) (hs : ¬ special c.name)
    (hH : H c.name c.args = none ∨ H c.name c.args = some .crash) : (step H sv c).2 = [Tok.err 0] := by
  rw [step_unknown H sv c hs hH]

/-- inside MULTI every command whose handler hands a closure to `execCommand` replies exactly `+QUEUED` -/
theorem queued_inside_multi (H : Table) (sv : Server) (c : Cmd) (hs : ¬ special c.name) (b : Body)
    (hH : H c.name c.args = some (.exec b)) (hst : (sv.conn c.id).state % 2 = 1) :
    (step H sv c).2 = [queuedTok] ∧ oneValue (step H sv c).2 = true := by
  have := (C08.queued_has_no_effect H sv c hs b hH hst).1
  exact ⟨this, by rw [this]; exact oneValue_queued⟩

/-- a command that goes through the handler table (any name but MULTI/EXEC/DISCARD/WATCH/UNWATCH),
    any arguments, any server state — inside MULTI it is `+QUEUED` or the handler's own error reply,
    outside the closure's reply; unknown name: one error — draws one value.  No assumption on queues. -/
theorem one_reply_nonspecial {H : Table} (hH : TableOneReply H) (sv : Server) (c : Cmd) (hs : ¬ special c.name) :
    oneValue (step H sv c).2 = true :=
  table_all oneValue_replyProp (fun n a _ h => hH n a _ h) hH.exec sv c hs

/-- the whole of `Handler.table1` satisfies the well-formedness predicate (MGET included, since the
    `fix:` that makes MGET read all its keys before it writes the array header) -/
theorem table1_ok : TableOneReply Handler.table1 := Proofs.C16Handlers.table1_one_reply

/-- every `table1` command, every argument vector, every server state: one value -/
theorem one_reply_table1 (sv : Server) (c : Cmd) (hs : ¬ special c.name) :
    oneValue (step Handler.table1 sv c).2 = true := one_reply_nonspecial table1_ok sv c hs

theorem one_reply_per_command_PING (sv : Server) (c : Cmd) (hn : c.name = "PING") :
    oneValue (step Handler.table1 sv c).2 = true :=
  one_reply_table1 sv c (by simp [special, hn])
theorem one_reply_per_command_ECHO (sv : Server) (c : Cmd) (hn : c.name = "ECHO") :
    oneValue (step Handler.table1 sv c).2 = true :=
  one_reply_table1 sv c (by simp [special, hn])
theorem one_reply_per_command_DBSIZE (sv : Server) (c : Cmd) (hn : c.name = "DBSIZE") :
    oneValue (step Handler.table1 sv c).2 = true :=
  one_reply_table1 sv c (by simp [special, hn])
theorem one_reply_per_command_FLUSHDB (sv : Server) (c : Cmd) (hn : c.name = "FLUSHDB") :
    oneValue (step Handler.table1 sv c).2 = true :=
  one_reply_table1 sv c (by simp [special, hn])
theorem one_reply_per_command_FLUSHALL (sv : Server) (c : Cmd) (hn : c.name = "FLUSHALL") :
    oneValue (step Handler.table1 sv c).2 = true :=
  one_reply_table1 sv c (by simp [special, hn])
theorem one_reply_per_command_DEL (sv : Server) (c : Cmd) (hn : c.name = "DEL") :
    oneValue (step Handler.table1 sv c).2 = true :=
  one_reply_table1 sv c (by simp [special, hn])
theorem one_reply_per_command_UNLINK (sv : Server) (c : Cmd) (hn : c.name = "UNLINK") :
    oneValue (step Handler.table1 sv c).2 = true :=
  one_reply_table1 sv c (by simp [special, hn])
theorem one_reply_per_command_EXISTS (sv : Server) (c : Cmd) (hn : c.name = "EXISTS") :
    oneValue (step Handler.table1 sv c).2 = true :=
  one_reply_table1 sv c (by simp [special, hn])
theorem one_reply_per_command_EXPIRE (sv : Server) (c : Cmd) (hn : c.name = "EXPIRE") :
    oneValue (step Handler.table1 sv c).2 = true :=
  one_reply_table1 sv c (by simp [special, hn])
theorem one_reply_per_command_EXPIREAT (sv : Server) (c : Cmd) (hn : c.name = "EXPIREAT") :
    oneValue (step Handler.table1 sv c).2 = true :=
  one_reply_table1 sv c (by simp [special, hn])
theorem one_reply_per_command_KEYS (sv : Server) (c : Cmd) (hn : c.name = "KEYS") :
    oneValue (step Handler.table1 sv c).2 = true :=
  one_reply_table1 sv c (by simp [special, hn])
theorem one_reply_per_command_RANDOMKEY (sv : Server) (c : Cmd) (hn : c.name = "RANDOMKEY") :
    oneValue (step Handler.table1 sv c).2 = true :=
  one_reply_table1 sv c (by simp [special, hn])
theorem one_reply_per_command_TTL (sv : Server) (c : Cmd) (hn : c.name = "TTL") :
    oneValue (step Handler.table1 sv c).2 = true :=
  one_reply_table1 sv c (by simp [special, hn])
theorem one_reply_per_command_PTTL (sv : Server) (c : Cmd) (hn : c.name = "PTTL") :
    oneValue (step Handler.table1 sv c).2 = true :=
  one_reply_table1 sv c (by simp [special, hn])
theorem one_reply_per_command_PERSIST (sv : Server) (c : Cmd) (hn : c.name = "PERSIST") :
    oneValue (step Handler.table1 sv c).2 = true :=
  one_reply_table1 sv c (by simp [special, hn])
theorem one_reply_per_command_RENAME (sv : Server) (c : Cmd) (hn : c.name = "RENAME") :
    oneValue (step Handler.table1 sv c).2 = true :=
  one_reply_table1 sv c (by simp [special, hn])
theorem one_reply_per_command_RENAMENX (sv : Server) (c : Cmd) (hn : c.name = "RENAMENX") :
    oneValue (step Handler.table1 sv c).2 = true :=
  one_reply_table1 sv c (by simp [special, hn])
theorem one_reply_per_command_TYPE (sv : Server) (c : Cmd) (hn : c.name = "TYPE") :
    oneValue (step Handler.table1 sv c).2 = true :=
  one_reply_table1 sv c (by simp [special, hn])
theorem one_reply_per_command_SCAN (sv : Server) (c : Cmd) (hn : c.name = "SCAN") :
    oneValue (step Handler.table1 sv c).2 = true :=
  one_reply_table1 sv c (by simp [special, hn])
theorem one_reply_per_command_SET (sv : Server) (c : Cmd) (hn : c.name = "SET") :
    oneValue (step Handler.table1 sv c).2 = true :=
  one_reply_table1 sv c (by simp [special, hn])
theorem one_reply_per_command_MSET (sv : Server) (c : Cmd) (hn : c.name = "MSET") :
    oneValue (step Handler.table1 sv c).2 = true :=
  one_reply_table1 sv c (by simp [special, hn])
theorem one_reply_per_command_APPEND (sv : Server) (c : Cmd) (hn : c.name = "APPEND") :
    oneValue (step Handler.table1 sv c).2 = true :=
  one_reply_table1 sv c (by simp [special, hn])
theorem one_reply_per_command_SETEX (sv : Server) (c : Cmd) (hn : c.name = "SETEX") :
    oneValue (step Handler.table1 sv c).2 = true :=
  one_reply_table1 sv c (by simp [special, hn])
theorem one_reply_per_command_SETNX (sv : Server) (c : Cmd) (hn : c.name = "SETNX") :
    oneValue (step Handler.table1 sv c).2 = true :=
  one_reply_table1 sv c (by simp [special, hn])
theorem one_reply_per_command_GET (sv : Server) (c : Cmd) (hn : c.name = "GET") :
    oneValue (step Handler.table1 sv c).2 = true :=
  one_reply_table1 sv c (by simp [special, hn])
theorem one_reply_per_command_GETSET (sv : Server) (c : Cmd) (hn : c.name = "GETSET") :
    oneValue (step Handler.table1 sv c).2 = true :=
  one_reply_table1 sv c (by simp [special, hn])
theorem one_reply_per_command_MGET (sv : Server) (c : Cmd) (hn : c.name = "MGET") :
    oneValue (step Handler.table1 sv c).2 = true :=
  one_reply_table1 sv c (by simp [special, hn])
theorem one_reply_per_command_SETRANGE (sv : Server) (c : Cmd) (hn : c.name = "SETRANGE") :
    oneValue (step Handler.table1 sv c).2 = true :=
  one_reply_table1 sv c (by simp [special, hn])
theorem one_reply_per_command_GETRANGE (sv : Server) (c : Cmd) (hn : c.name = "GETRANGE") :
    oneValue (step Handler.table1 sv c).2 = true :=
  one_reply_table1 sv c (by simp [special, hn])
theorem one_reply_per_command_STRLEN (sv : Server) (c : Cmd) (hn : c.name = "STRLEN") :
    oneValue (step Handler.table1 sv c).2 = true :=
  one_reply_table1 sv c (by simp [special, hn])
theorem one_reply_per_command_INCR (sv : Server) (c : Cmd) (hn : c.name = "INCR") :
    oneValue (step Handler.table1 sv c).2 = true :=
  one_reply_table1 sv c (by simp [special, hn])
theorem one_reply_per_command_DECR (sv : Server) (c : Cmd) (hn : c.name = "DECR") :
    oneValue (step Handler.table1 sv c).2 = true :=
  one_reply_table1 sv c (by simp [special, hn])
theorem one_reply_per_command_INCRBY (sv : Server) (c : Cmd) (hn : c.name = "INCRBY") :
    oneValue (step Handler.table1 sv c).2 = true :=
  one_reply_table1 sv c (by simp [special, hn])
theorem one_reply_per_command_DECRBY (sv : Server) (c : Cmd) (hn : c.name = "DECRBY") :
    oneValue (step Handler.table1 sv c).2 = true :=
  one_reply_table1 sv c (by simp [special, hn])
theorem one_reply_per_command_INCRBYFLOAT (sv : Server) (c : Cmd) (hn : c.name = "INCRBYFLOAT") :
    oneValue (step Handler.table1 sv c).2 = true :=
  one_reply_table1 sv c (by simp [special, hn])
theorem one_reply_per_command_SETBIT (sv : Server) (c : Cmd) (hn : c.name = "SETBIT") :
    oneValue (step Handler.table1 sv c).2 = true :=
  one_reply_table1 sv c (by simp [special, hn])
theorem one_reply_per_command_GETBIT (sv : Server) (c : Cmd) (hn : c.name = "GETBIT") :
    oneValue (step Handler.table1 sv c).2 = true :=
  one_reply_table1 sv c (by simp [special, hn])
theorem one_reply_per_command_BITCOUNT (sv : Server) (c : Cmd) (hn : c.name = "BITCOUNT") :
    oneValue (step Handler.table1 sv c).2 = true :=
  one_reply_table1 sv c (by simp [special, hn])

/-- MGET (a finding before the `fix:`): a wrong-typed key gives the single error reply, whatever
    its position — `MGET a b` after `LPUSH a x` -/
theorem MGET_wrong_type_is_one_error :
    (step Handler.table1 { store := Proofs.C16Handlers.findingStore }
      { id := "c", name := "MGET", args := [[97], [98]] }).2 = [Tok.err 1] := by decide +kernel

/-- the server's complete handler table satisfies the well-formedness predicate: EVERY handler of
    every family, for every argument vector, store, clock and choice, panicking or not, writes exactly
    one complete RESP value.  No handler is left that can write anything else (the dead `done s []`
    branches of the scans and of Z*STORE are shown dead by result-shape lemmas of the Api functions). -/
theorem fullTable_ok : TableOneReply fullTable := fullTable_oneReply

/-- … and only tokens a strict reader accepts -/
theorem fullTable_wire_ok : TableWire fullTable := fullTable_wire

/-- every command that goes through the complete table, any server state -/
theorem one_reply_full_nonspecial (sv : Server) (c : Cmd) (hs : ¬ special c.name) :
    oneValue (step fullTable sv c).2 = true := one_reply_nonspecial fullTable_ok sv c hs

/-- every command whatsoever (MULTI / EXEC / … included) along every schedule from a fresh server -/
theorem one_reply_full (st : MState) (cs : List Cmd) : ∀ r ∈ (run fullTable { store := st } cs).2, oneValue r = true :=
  run_one_reply fullTable_ok cs (QueuesSat.init OneBody st)

theorem one_reply_per_command_LPUSH (sv : Server) (c : Cmd) (hn : c.name = "LPUSH") :
    oneValue (step fullTable sv c).2 = true :=
  one_reply_full_nonspecial sv c (by simp [special, hn])
theorem one_reply_per_command_RPUSH (sv : Server) (c : Cmd) (hn : c.name = "RPUSH") :
    oneValue (step fullTable sv c).2 = true :=
  one_reply_full_nonspecial sv c (by simp [special, hn])
theorem one_reply_per_command_LPOP (sv : Server) (c : Cmd) (hn : c.name = "LPOP") :
    oneValue (step fullTable sv c).2 = true :=
  one_reply_full_nonspecial sv c (by simp [special, hn])
theorem one_reply_per_command_RPOP (sv : Server) (c : Cmd) (hn : c.name = "RPOP") :
    oneValue (step fullTable sv c).2 = true :=
  one_reply_full_nonspecial sv c (by simp [special, hn])
theorem one_reply_per_command_LLEN (sv : Server) (c : Cmd) (hn : c.name = "LLEN") :
    oneValue (step fullTable sv c).2 = true :=
  one_reply_full_nonspecial sv c (by simp [special, hn])
theorem one_reply_per_command_LINDEX (sv : Server) (c : Cmd) (hn : c.name = "LINDEX") :
    oneValue (step fullTable sv c).2 = true :=
  one_reply_full_nonspecial sv c (by simp [special, hn])
theorem one_reply_per_command_LINSERT (sv : Server) (c : Cmd) (hn : c.name = "LINSERT") :
    oneValue (step fullTable sv c).2 = true :=
  one_reply_full_nonspecial sv c (by simp [special, hn])
theorem one_reply_per_command_LPUSHX (sv : Server) (c : Cmd) (hn : c.name = "LPUSHX") :
    oneValue (step fullTable sv c).2 = true :=
  one_reply_full_nonspecial sv c (by simp [special, hn])
theorem one_reply_per_command_RPUSHX (sv : Server) (c : Cmd) (hn : c.name = "RPUSHX") :
    oneValue (step fullTable sv c).2 = true :=
  one_reply_full_nonspecial sv c (by simp [special, hn])
theorem one_reply_per_command_LREM (sv : Server) (c : Cmd) (hn : c.name = "LREM") :
    oneValue (step fullTable sv c).2 = true :=
  one_reply_full_nonspecial sv c (by simp [special, hn])
theorem one_reply_per_command_LTRIM (sv : Server) (c : Cmd) (hn : c.name = "LTRIM") :
    oneValue (step fullTable sv c).2 = true :=
  one_reply_full_nonspecial sv c (by simp [special, hn])
theorem one_reply_per_command_LSET (sv : Server) (c : Cmd) (hn : c.name = "LSET") :
    oneValue (step fullTable sv c).2 = true :=
  one_reply_full_nonspecial sv c (by simp [special, hn])
theorem one_reply_per_command_LRANGE (sv : Server) (c : Cmd) (hn : c.name = "LRANGE") :
    oneValue (step fullTable sv c).2 = true :=
  one_reply_full_nonspecial sv c (by simp [special, hn])
theorem one_reply_per_command_LPOPRPUSH (sv : Server) (c : Cmd) (hn : c.name = "LPOPRPUSH") :
    oneValue (step fullTable sv c).2 = true :=
  one_reply_full_nonspecial sv c (by simp [special, hn])
theorem one_reply_per_command_RPOPLPUSH (sv : Server) (c : Cmd) (hn : c.name = "RPOPLPUSH") :
    oneValue (step fullTable sv c).2 = true :=
  one_reply_full_nonspecial sv c (by simp [special, hn])
theorem one_reply_per_command_HSET (sv : Server) (c : Cmd) (hn : c.name = "HSET") :
    oneValue (step fullTable sv c).2 = true :=
  one_reply_full_nonspecial sv c (by simp [special, hn])
theorem one_reply_per_command_HGET (sv : Server) (c : Cmd) (hn : c.name = "HGET") :
    oneValue (step fullTable sv c).2 = true :=
  one_reply_full_nonspecial sv c (by simp [special, hn])
theorem one_reply_per_command_HDEL (sv : Server) (c : Cmd) (hn : c.name = "HDEL") :
    oneValue (step fullTable sv c).2 = true :=
  one_reply_full_nonspecial sv c (by simp [special, hn])
theorem one_reply_per_command_HLEN (sv : Server) (c : Cmd) (hn : c.name = "HLEN") :
    oneValue (step fullTable sv c).2 = true :=
  one_reply_full_nonspecial sv c (by simp [special, hn])
theorem one_reply_per_command_HKEYS (sv : Server) (c : Cmd) (hn : c.name = "HKEYS") :
    oneValue (step fullTable sv c).2 = true :=
  one_reply_full_nonspecial sv c (by simp [special, hn])
theorem one_reply_per_command_HEXISTS (sv : Server) (c : Cmd) (hn : c.name = "HEXISTS") :
    oneValue (step fullTable sv c).2 = true :=
  one_reply_full_nonspecial sv c (by simp [special, hn])
theorem one_reply_per_command_HGETALL (sv : Server) (c : Cmd) (hn : c.name = "HGETALL") :
    oneValue (step fullTable sv c).2 = true :=
  one_reply_full_nonspecial sv c (by simp [special, hn])
theorem one_reply_per_command_HINCRBY (sv : Server) (c : Cmd) (hn : c.name = "HINCRBY") :
    oneValue (step fullTable sv c).2 = true :=
  one_reply_full_nonspecial sv c (by simp [special, hn])
theorem one_reply_per_command_HINCRBYFLOAT (sv : Server) (c : Cmd) (hn : c.name = "HINCRBYFLOAT") :
    oneValue (step fullTable sv c).2 = true :=
  one_reply_full_nonspecial sv c (by simp [special, hn])
theorem one_reply_per_command_HSETNX (sv : Server) (c : Cmd) (hn : c.name = "HSETNX") :
    oneValue (step fullTable sv c).2 = true :=
  one_reply_full_nonspecial sv c (by simp [special, hn])
theorem one_reply_per_command_HMGET (sv : Server) (c : Cmd) (hn : c.name = "HMGET") :
    oneValue (step fullTable sv c).2 = true :=
  one_reply_full_nonspecial sv c (by simp [special, hn])
theorem one_reply_per_command_HMSET (sv : Server) (c : Cmd) (hn : c.name = "HMSET") :
    oneValue (step fullTable sv c).2 = true :=
  one_reply_full_nonspecial sv c (by simp [special, hn])
theorem one_reply_per_command_HCLEAR (sv : Server) (c : Cmd) (hn : c.name = "HCLEAR") :
    oneValue (step fullTable sv c).2 = true :=
  one_reply_full_nonspecial sv c (by simp [special, hn])
theorem one_reply_per_command_HSTRLEN (sv : Server) (c : Cmd) (hn : c.name = "HSTRLEN") :
    oneValue (step fullTable sv c).2 = true :=
  one_reply_full_nonspecial sv c (by simp [special, hn])
theorem one_reply_per_command_HVALS (sv : Server) (c : Cmd) (hn : c.name = "HVALS") :
    oneValue (step fullTable sv c).2 = true :=
  one_reply_full_nonspecial sv c (by simp [special, hn])
theorem one_reply_per_command_SADD (sv : Server) (c : Cmd) (hn : c.name = "SADD") :
    oneValue (step fullTable sv c).2 = true :=
  one_reply_full_nonspecial sv c (by simp [special, hn])
theorem one_reply_per_command_SMOVE (sv : Server) (c : Cmd) (hn : c.name = "SMOVE") :
    oneValue (step fullTable sv c).2 = true :=
  one_reply_full_nonspecial sv c (by simp [special, hn])
theorem one_reply_per_command_SCARD (sv : Server) (c : Cmd) (hn : c.name = "SCARD") :
    oneValue (step fullTable sv c).2 = true :=
  one_reply_full_nonspecial sv c (by simp [special, hn])
theorem one_reply_per_command_SPOP (sv : Server) (c : Cmd) (hn : c.name = "SPOP") :
    oneValue (step fullTable sv c).2 = true :=
  one_reply_full_nonspecial sv c (by simp [special, hn])
theorem one_reply_per_command_SDIFF (sv : Server) (c : Cmd) (hn : c.name = "SDIFF") :
    oneValue (step fullTable sv c).2 = true :=
  one_reply_full_nonspecial sv c (by simp [special, hn])
theorem one_reply_per_command_SDIFFSTORE (sv : Server) (c : Cmd) (hn : c.name = "SDIFFSTORE") :
    oneValue (step fullTable sv c).2 = true :=
  one_reply_full_nonspecial sv c (by simp [special, hn])
theorem one_reply_per_command_SINTER (sv : Server) (c : Cmd) (hn : c.name = "SINTER") :
    oneValue (step fullTable sv c).2 = true :=
  one_reply_full_nonspecial sv c (by simp [special, hn])
theorem one_reply_per_command_SINTERSTORE (sv : Server) (c : Cmd) (hn : c.name = "SINTERSTORE") :
    oneValue (step fullTable sv c).2 = true :=
  one_reply_full_nonspecial sv c (by simp [special, hn])
theorem one_reply_per_command_SUNION (sv : Server) (c : Cmd) (hn : c.name = "SUNION") :
    oneValue (step fullTable sv c).2 = true :=
  one_reply_full_nonspecial sv c (by simp [special, hn])
theorem one_reply_per_command_SUNIONSTORE (sv : Server) (c : Cmd) (hn : c.name = "SUNIONSTORE") :
    oneValue (step fullTable sv c).2 = true :=
  one_reply_full_nonspecial sv c (by simp [special, hn])
theorem one_reply_per_command_SISMEMBER (sv : Server) (c : Cmd) (hn : c.name = "SISMEMBER") :
    oneValue (step fullTable sv c).2 = true :=
  one_reply_full_nonspecial sv c (by simp [special, hn])
theorem one_reply_per_command_SMEMBERS (sv : Server) (c : Cmd) (hn : c.name = "SMEMBERS") :
    oneValue (step fullTable sv c).2 = true :=
  one_reply_full_nonspecial sv c (by simp [special, hn])
theorem one_reply_per_command_SRANDMEMBER (sv : Server) (c : Cmd) (hn : c.name = "SRANDMEMBER") :
    oneValue (step fullTable sv c).2 = true :=
  one_reply_full_nonspecial sv c (by simp [special, hn])
theorem one_reply_per_command_SREM (sv : Server) (c : Cmd) (hn : c.name = "SREM") :
    oneValue (step fullTable sv c).2 = true :=
  one_reply_full_nonspecial sv c (by simp [special, hn])
theorem one_reply_per_command_ZADD (sv : Server) (c : Cmd) (hn : c.name = "ZADD") :
    oneValue (step fullTable sv c).2 = true :=
  one_reply_full_nonspecial sv c (by simp [special, hn])
theorem one_reply_per_command_ZCARD (sv : Server) (c : Cmd) (hn : c.name = "ZCARD") :
    oneValue (step fullTable sv c).2 = true :=
  one_reply_full_nonspecial sv c (by simp [special, hn])
theorem one_reply_per_command_ZRANK (sv : Server) (c : Cmd) (hn : c.name = "ZRANK") :
    oneValue (step fullTable sv c).2 = true :=
  one_reply_full_nonspecial sv c (by simp [special, hn])
theorem one_reply_per_command_ZREVRANK (sv : Server) (c : Cmd) (hn : c.name = "ZREVRANK") :
    oneValue (step fullTable sv c).2 = true :=
  one_reply_full_nonspecial sv c (by simp [special, hn])
theorem one_reply_per_command_ZSCORE (sv : Server) (c : Cmd) (hn : c.name = "ZSCORE") :
    oneValue (step fullTable sv c).2 = true :=
  one_reply_full_nonspecial sv c (by simp [special, hn])
theorem one_reply_per_command_ZINCRBY (sv : Server) (c : Cmd) (hn : c.name = "ZINCRBY") :
    oneValue (step fullTable sv c).2 = true :=
  one_reply_full_nonspecial sv c (by simp [special, hn])
theorem one_reply_per_command_ZRANGE (sv : Server) (c : Cmd) (hn : c.name = "ZRANGE") :
    oneValue (step fullTable sv c).2 = true :=
  one_reply_full_nonspecial sv c (by simp [special, hn])
theorem one_reply_per_command_ZREVRANGE (sv : Server) (c : Cmd) (hn : c.name = "ZREVRANGE") :
    oneValue (step fullTable sv c).2 = true :=
  one_reply_full_nonspecial sv c (by simp [special, hn])
theorem one_reply_per_command_ZRANGEBYSCORE (sv : Server) (c : Cmd) (hn : c.name = "ZRANGEBYSCORE") :
    oneValue (step fullTable sv c).2 = true :=
  one_reply_full_nonspecial sv c (by simp [special, hn])
theorem one_reply_per_command_ZREVRANGEBYSCORE (sv : Server) (c : Cmd) (hn : c.name = "ZREVRANGEBYSCORE") :
    oneValue (step fullTable sv c).2 = true :=
  one_reply_full_nonspecial sv c (by simp [special, hn])
theorem one_reply_per_command_ZCOUNT (sv : Server) (c : Cmd) (hn : c.name = "ZCOUNT") :
    oneValue (step fullTable sv c).2 = true :=
  one_reply_full_nonspecial sv c (by simp [special, hn])
theorem one_reply_per_command_ZREM (sv : Server) (c : Cmd) (hn : c.name = "ZREM") :
    oneValue (step fullTable sv c).2 = true :=
  one_reply_full_nonspecial sv c (by simp [special, hn])
theorem one_reply_per_command_ZREMRANGEBYRANK (sv : Server) (c : Cmd) (hn : c.name = "ZREMRANGEBYRANK") :
    oneValue (step fullTable sv c).2 = true :=
  one_reply_full_nonspecial sv c (by simp [special, hn])
theorem one_reply_per_command_ZREMRANGEBYSCORE (sv : Server) (c : Cmd) (hn : c.name = "ZREMRANGEBYSCORE") :
    oneValue (step fullTable sv c).2 = true :=
  one_reply_full_nonspecial sv c (by simp [special, hn])
theorem one_reply_per_command_ZUNIONSTORE (sv : Server) (c : Cmd) (hn : c.name = "ZUNIONSTORE") :
    oneValue (step fullTable sv c).2 = true :=
  one_reply_full_nonspecial sv c (by simp [special, hn])
theorem one_reply_per_command_ZINTERSTORE (sv : Server) (c : Cmd) (hn : c.name = "ZINTERSTORE") :
    oneValue (step fullTable sv c).2 = true :=
  one_reply_full_nonspecial sv c (by simp [special, hn])
theorem one_reply_per_command_ZCLEAR (sv : Server) (c : Cmd) (hn : c.name = "ZCLEAR") :
    oneValue (step fullTable sv c).2 = true :=
  one_reply_full_nonspecial sv c (by simp [special, hn])
theorem one_reply_per_command_ZEXISTS (sv : Server) (c : Cmd) (hn : c.name = "ZEXISTS") :
    oneValue (step fullTable sv c).2 = true :=
  one_reply_full_nonspecial sv c (by simp [special, hn])
theorem one_reply_per_command_SSCAN (sv : Server) (c : Cmd) (hn : c.name = "SSCAN") :
    oneValue (step fullTable sv c).2 = true :=
  one_reply_full_nonspecial sv c (by simp [special, hn])
theorem one_reply_per_command_HSCAN (sv : Server) (c : Cmd) (hn : c.name = "HSCAN") :
    oneValue (step fullTable sv c).2 = true :=
  one_reply_full_nonspecial sv c (by simp [special, hn])
theorem one_reply_per_command_ZSCAN (sv : Server) (c : Cmd) (hn : c.name = "ZSCAN") :
    oneValue (step fullTable sv c).2 = true :=
  one_reply_full_nonspecial sv c (by simp [special, hn])

/-- if every command's reply is one value, the concatenated byte stream of k commands followed by a
    marker command parses — reading replies one after the other — into exactly k + 1 values, the j-th
    being the value of the j-th command's reply and the last one the marker's; nothing is left over -/
theorem pipeline_in_sync (H : Table) (sv : Server) (cmds : List Cmd) (marker : Cmd) (rest : Bytes)
    (hok : ∀ r ∈ (run H sv (cmds ++ [marker])).2, oneValue r = true ∧ ArrOK r ∧ LinesOK r) :
    let replies := (run H sv cmds).2
    let m := (step H (run H sv cmds).1 marker).2
    (run H sv (cmds ++ [marker])).2 = replies ++ [m] ∧ replies.length = cmds.length ∧
    ∃ (vs : List Value) (vm : Value), replies.map toValue = vs.map some ∧ toValue m = some vm ∧
      parseMany (cmds.length + 1) ((replies ++ [m]).flatMap renderAll ++ rest) = some (vs ++ [vm], rest) := by
  intro replies m
  have e : (run H sv (cmds ++ [marker])).2 = replies ++ [m] := by
    rw [run_append]; simp [run, replies, m]
  rw [e] at hok
  have hl : replies.length = cmds.length := run_replies_length H cmds sv
  refine ⟨e, hl, ?_⟩
  obtain ⟨vs, vm, h1, h2, h3⟩ := pipeline_in_sync' replies m rest
    (fun r hr => hok r (List.mem_append_left _ hr)) (hok m (by simp))
  rw [hl] at h3
  exact ⟨vs, vm, h1, h2, h3⟩

/-- the same for a table satisfying `TableOneReply`: `oneValue` need not be assumed -/
theorem pipeline_in_sync_table {H : Table} (hH : TableOneReply H) {sv : Server} (hq : QueuesSat OneBody sv)
    (cmds : List Cmd) (marker : Cmd) (rest : Bytes)
    (hok : ∀ r ∈ (run H sv (cmds ++ [marker])).2, ArrOK r ∧ LinesOK r) :
    ∃ (vs : List Value) (vm : Value),
      (run H sv cmds).2.map toValue = vs.map some ∧ toValue (step H (run H sv cmds).1 marker).2 = some vm ∧
      parseMany (cmds.length + 1) ((run H sv (cmds ++ [marker])).2.flatMap renderAll ++ rest) = some (vs ++ [vm], rest) := by
  have h1 := run_one_reply hH (cmds ++ [marker]) hq
  obtain ⟨e, _, vs, vm, a, b, c⟩ := pipeline_in_sync H sv cmds marker rest (fun r hr => ⟨h1 r hr, hok r hr⟩)
  exact ⟨vs, vm, a, b, by rw [e]; exact c⟩

/-- closed form for tables that satisfy both well-formedness predicates (`TableOneReply`: one value
    per handler result; `TableWire`: array counts ≥ -1, simple strings without CR/LF): starting from a
    fresh server on ANY store, for EVERY pipeline of commands of any connections followed by a marker,
    the reader gets exactly one value per command, in order, then the marker's, and nothing is left -/
theorem pipeline_in_sync_wellformed {H : Table} (hH : TableOneReply H) (hW : TableWire H) (st : MState)
    (cmds : List Cmd) (marker : Cmd) (rest : Bytes) :
    ∃ (vs : List Value) (vm : Value), vs.length = cmds.length ∧
      (run H { store := st } cmds).2.map toValue = vs.map some ∧
      toValue (step H (run H { store := st } cmds).1 marker).2 = some vm ∧
      parseMany (cmds.length + 1) ((run H { store := st } (cmds ++ [marker])).2.flatMap renderAll ++ rest) =
        some (vs ++ [vm], rest) := by
  have hw := run_wire hW (cmds ++ [marker]) (QueuesSat.init WireBody st)
  obtain ⟨vs, vm, a, b, c⟩ := pipeline_in_sync_table hH (QueuesSat.init OneBody st) cmds marker rest hw
  refine ⟨vs, vm, ?_, a, b, c⟩
  have := congrArg List.length a
  simp only [List.length_map] at this
  rw [← this]; exact run_replies_length H cmds _

/-- … in particular for the handler table of the connection / keyspace / string families:
    any pipeline, any arguments, any store: k commands + marker ⇒ exactly k + 1 replies, in order -/
theorem pipeline_in_sync_table1 (st : MState) (cmds : List Cmd) (marker : Cmd) (rest : Bytes) :
    ∃ (vs : List Value) (vm : Value), vs.length = cmds.length ∧
      (run Handler.table1 { store := st } cmds).2.map toValue = vs.map some ∧
      toValue (step Handler.table1 (run Handler.table1 { store := st } cmds).1 marker).2 = some vm ∧
      parseMany (cmds.length + 1) ((run Handler.table1 { store := st } (cmds ++ [marker])).2.flatMap renderAll ++ rest) =
        some (vs ++ [vm], rest) :=
  pipeline_in_sync_wellformed table1_ok table1_wire st cmds marker rest

/-- the server's complete dispatch: ANY pipeline of ANY commands of ANY connections from a fresh
    server on any store: k commands + marker ⇒ exactly k + 1 values, in order, nothing left over -/
theorem pipeline_in_sync_full (st : MState) (cmds : List Cmd) (marker : Cmd) (rest : Bytes) :
    ∃ (vs : List Value) (vm : Value), vs.length = cmds.length ∧
      (run fullTable { store := st } cmds).2.map toValue = vs.map some ∧
      toValue (step fullTable (run fullTable { store := st } cmds).1 marker).2 = some vm ∧
      parseMany (cmds.length + 1) ((run fullTable { store := st } (cmds ++ [marker])).2.flatMap renderAll ++ rest) =
        some (vs ++ [vm], rest) :=
  pipeline_in_sync_wellformed fullTable_ok fullTable_wire_ok st cmds marker rest

/-- EXEC on a clean prepared transaction with queue [b₁…bₙ], n > 0, each closure writing one value: on
    the wire the reply is ONE array of exactly n elements, the j-th element being the value of the
    j-th queued closure's reply, in queue order -/
theorem exec_array_matches_queue (H : Table) (sv : Server) (c : Cmd) (hn : c.name = "EXEC")
    (hst : (sv.conn c.id).state = multiPrepare) (hne : (sv.conn c.id).queue ≠ [])
    (hw : (sv.conn c.id).watch.any (·.2) = false)
    (hone : ∀ b ∈ (sv.conn c.id).queue, OneBody b)
    (hwire : ∀ o ∈ execOuts sv.store c.now (sv.conn c.id).queue, ArrOK (replyOf o) ∧ LinesOK (replyOf o))
    (rest : Bytes) :
    ∃ vs : List Value, vs.length = (sv.conn c.id).queue.length ∧
      (execOuts sv.store c.now (sv.conn c.id).queue).map (fun o => toValue (replyOf o)) = vs.map some ∧
      parseReply (renderAll (step H sv c).2 ++ rest) = some (.array vs, rest) := by
  obtain ⟨_, h2, h3, _⟩ := C08.exec_runs_each_once_in_order H sv c hn hst hne hw
  let rs := (execOuts sv.store c.now (sv.conn c.id).queue).map replyOf
  have hrs : ∀ r ∈ rs, oneValue r = true ∧ ArrOK r ∧ LinesOK r := by
    intro r hr
    have h1 := execOuts_one c.now _ sv.store hone r hr
    obtain ⟨o, ho, rfl⟩ := List.mem_map.mp hr
    exact ⟨h1, hwire o ho⟩
  obtain ⟨vs, hvs⟩ := toValues_of_oneValue rs fun r hr => (hrs r hr).1
  have hlen : rs.length = (sv.conn c.id).queue.length := by simp [rs, h3]
  refine ⟨vs, ?_, ?_, ?_⟩
  · have := congrArg List.length hvs
    simp only [List.length_map] at this
    omega
  · simpa [rs, List.map_map, Function.comp_def] using hvs
  · have := parse_array_of_values rs vs rest hrs hvs
    rw [h2, List.flatMap_def, ← hlen]
    exact this

example : TableOneReply Handler.table1 := table1_ok
example : ∃ r, Handler.table1 "GET" [[1]] = some r := ⟨_, rfl⟩
example : QueuesSat OneBody ({} : Server) := QueuesSat.init _ {}
/-- a concrete pipeline: three commands and a marker, replies and parse computed -/
example :
    (run Handler.table1 {} [{ id := "c", name := "SET", args := [[107], [13, 10]] }, { id := "c", name := "GET", args := [[107]] },
      { id := "c", name := "NOSUCH" }, { id := "c", name := "PING" }]).2 =
    [[okTok], [Tok.bulk [13, 10]], [Tok.err 0], [Tok.bulk (Bytes.ofString "PONG")]] := by decide +kernel

/-- a pipeline across the families (lists, sorted sets with scores, hashes, a wrong-type error, PING) -/
example :
    (run fullTable {} [ { id := "c", name := "RPUSH", args := [[108], [97], [98]] },
      { id := "c", name := "LRANGE", args := [[108], [48], [45, 49]] },
      { id := "c", name := "ZADD", args := [[122], [49], [109]] },
      { id := "c", name := "ZRANGE", args := [[122], [48], [45, 49], [87, 73, 84, 72, 83, 67, 79, 82, 69, 83]] },
      { id := "c", name := "HSET", args := [[104], [102], [118]] }, { id := "c", name := "HGETALL", args := [[104]] },
      { id := "c", name := "ZRANGE", args := [[108], [48], [45, 49]] }, { id := "c", name := "PING" }]).2 =
    [[Tok.int 2], [Tok.arr 2, Tok.bulk [97], Tok.bulk [98]], [Tok.int 1], [Tok.arr 2, Tok.bulk [109], Tok.bulk [49]],
     [Tok.int 1], [Tok.arr 2, Tok.bulk [102], Tok.bulk [118]], [Tok.err 1], [Tok.bulk [80, 79, 78, 71]]] := by
  decide +kernel

/-! ## the reply writer's buffer (redis/resp.go `type Writer`, Model/RespWriter.lean)

  The theorems above speak about reply TOKENS.  Below, the byte-level mechanics that carry the tokens —
  `buf`, `w`, `grow`, `writeByte`, `writeBytes`, `Flush`, every `Write*` method — are shown to refine the
  abstract buffered writer of Spec/RespWriterSpec.lean (pending bytes, delivered bytes, the error flag),
  and the result is composed with `pipeline_in_sync_full`.  `WriterInv s` is `s.w ≤ s.buf.size` (named
  `WriterInv` because `Inv` is taken by core's inverse notation class). -/

section Writer
open NodisVerif.RespWriter NodisVerif.Spec.RespWriterSpec

/-- a fresh writer satisfies the invariant (NewWriter: 4096 zero bytes, w = 0) -/
theorem writer_inv_new : WriterInv RespWriter.new := by
  simp only [WriterInv, RespWriter.new, Array.size_replicate]; exact Nat.zero_le _

/-- EVERY exported method, from EVERY state satisfying the invariant: the call does what the abstract
    buffered writer does (same reply, abstract state = abstract step), keeps the invariant, never shrinks
    the array and grows it at most to `max (old size) (defaultSize + 2·w')`. In particular no branch panics.
    The `none` arm is unreachable: every call has an encoding (`Proofs.RespWriter.encode_isSome`, because
    `FloatText.formatFloat` is total), so `AW.step` is always defined and `Res.outside` is never returned. -/
theorem writer_refines_spec (s : Writer) (c : Call) (h : WriterInv s) :
    match AW.step (abs s) c with
    | none => step s c = .outside
    | some (a', r) => ∃ s', step s c = .ok (s', r) ∧ abs s' = a' ∧ WriterInv s' ∧ s.buf.size ≤ s'.buf.size ∧
        s'.buf.size ≤ max s.buf.size (defaultSize + 2 * s'.w) :=
  Proofs.RespWriter.step_refines s c h

/-- the invariant is preserved by every method -/
theorem writer_inv_preserved (s s' : Writer) (c : Call) (r : Reply) (h : WriterInv s) (e : step s c = .ok (s', r)) :
    WriterInv s' := by
  obtain ⟨a', r', ha⟩ := Proofs.RespWriter.AW.step_total (abs s) c
  obtain ⟨s1, e1, _, hi, _⟩ := Proofs.RespWriter.step_refines_some s c h ha
  rw [e1] at e; cases e; exact hi

/-- no method panics under the invariant: neither `w.buf[w.w] = b` nor `w.buf[:w.w]` is ever out of range -/
theorem writer_step_never_panics (s : Writer) (c : Call) (h : WriterInv s) : step s c ≠ .panic := by
  obtain ⟨a', r, ha⟩ := Proofs.RespWriter.AW.step_total (abs s) c
  obtain ⟨s1, e1, _⟩ := Proofs.RespWriter.step_refines_some s c h ha
  rw [e1]; exact fun h => nomatch h

/-- … hence no sequence of calls on a fresh writer ever panics (any payloads, any sizes, any flush
    pattern, failing connections included) -/
theorem writer_never_panics (cs : List Call) : run RespWriter.new cs ≠ .panic :=
  Proofs.RespWriter.run_never_panics _ writer_inv_new cs

/-- the guard is needed: from a state violating the invariant `writeByte` does panic -/
theorem writer_panics_without_inv :
    writeByte { buf := #[], w := defaultSize + 1, err := false, sink := #[] } 0 = .panic := by
  simp [writeByte, grow]

/-- the implementation's run IS the abstract writer's run, with the abstract state as its abstraction
    (the `none` arm is unreachable: the abstract run is defined on every sequence, `AW.run_total`) -/
theorem writer_run_refines (cs : List Call) :
    match AW.run {} cs with
    | none => run RespWriter.new cs = .outside
    | some a' => ∃ s', run RespWriter.new cs = .ok s' ∧ abs s' = a' ∧ WriterInv s' := by
  obtain ⟨s', e, h1, h2, _⟩ := Proofs.RespWriter.run_ok cs _ writer_inv_new
  rw [Proofs.RespWriter.abs_new] at h1
  rw [h1]
  exact ⟨s', e, rfl, h2⟩

/-- every sequence of calls on a fresh writer succeeds (the hypothesis always holds: every call has an
    encoding, `Proofs.RespWriter.encode_isSome`) -/
theorem writer_total (cs : List Call) (h : ∀ c ∈ cs, (encode c).isSome) : ∃ s, run RespWriter.new cs = .ok s := by
  obtain ⟨s', e, _⟩ := Proofs.RespWriter.run_ok cs _ writer_inv_new
  exact ⟨s', e⟩

/-- **writer_bytes**: for EVERY sequence of Write* calls, Flushes, Bytes and HasError on a fresh writer
    (connection not failing): what has reached the connection followed by what is in the buffer below `w`
    is exactly the concatenation of the RESP encodings of the calls, in order — byte-exact, whatever the
    sizes (so also across every `grow`) -/
theorem writer_bytes (cs : List Call) (s : Writer) (hn : NoFailure cs) (e : run RespWriter.new cs = .ok s) :
    s.sink.toList ++ s.buf.toList.take s.w = cs.flatMap written := by
  obtain ⟨h1, _, _⟩ := Proofs.RespWriter.run_ok_abs writer_inv_new e
  rw [Proofs.RespWriter.abs_new] at h1
  have := Proofs.RespWriter.AW.run_content cs {} (abs s) h1 hn
  simpa [abs] using this

/-- `Bytes()` returns exactly the pending bytes and `HasError()` the flag of the abstract writer -/
theorem writer_observers (s : Writer) (h : WriterInv s) :
    step s .bytes = .ok (s, .bytes (s.buf.toList.take s.w)) ∧ step s .hasError = .ok (s, .flag s.err) := by
  refine ⟨?_, rfl⟩
  obtain ⟨s', e, _⟩ := Proofs.RespWriter.bytes_ok s h
  simp only [RespWriter.step, bytes, Res.bind] at e ⊢
  simp only [WriterInv] at h
  simp only [h, if_true] at e ⊢
  simp [Array.toList_extract]

/-- **flush_exactly_once**: for every interleaving of writes, flushes and observers, a (successful) Flush
    leaves the connection with exactly everything written before it, once and in order, nothing pending,
    the write position at 0 and the error flag lowered -/
theorem flush_exactly_once (pre : List Call) (s : Writer) (hn : NoFailure pre)
    (e : run RespWriter.new (pre ++ [.flush none]) = .ok s) :
    s.sink.toList = pre.flatMap written ∧ s.w = 0 ∧ s.err = false := by
  rw [Proofs.RespWriter.run_append] at e
  cases h1 : run RespWriter.new pre with
  | panic => rw [h1] at e; cases e
  | outside => rw [h1] at e; cases e
  | ok s1 =>
    rw [h1] at e
    simp only [Res.bind] at e
    have hb := writer_bytes pre s1 hn h1
    obtain ⟨_, hi, _⟩ := Proofs.RespWriter.run_ok_abs writer_inv_new h1
    obtain ⟨s2, e2, habs, hi2, _⟩ := Proofs.RespWriter.flush_ok_none s1 hi
    simp only [RespWriter.run, e2] at e
    cases e
    have hd := congrArg AW.delivered habs
    have hp := congrArg AW.pending habs
    have he := congrArg AW.err habs
    simp only [abs] at hd hp he
    refine ⟨by rw [hd]; exact hb, ?_, he⟩
    have hl := Proofs.RespWriter.pending_length _ hi2
    simp only [abs] at hl
    rw [hp] at hl
    simpa using hl.symm

/-- one Flush in isolation: the chunk handed to the connection is exactly the pending bytes, appended to
    what was delivered before; a failing connection that takes k bytes gets the first k pending bytes and
    the writer keeps ALL pending bytes and its flag -/
theorem flush_delivers_pending (s : Writer) (h : WriterInv s) :
    (∃ s', step s (.flush none) = .ok (s', .flushed (s.buf.toList.take s.w) false) ∧
        s'.sink.toList = s.sink.toList ++ s.buf.toList.take s.w ∧ s'.w = 0 ∧ s'.err = false ∧ s'.buf = s.buf) ∧
    (∀ k, ∃ s', step s (.flush (some k)) = .ok (s', .flushed ((s.buf.toList.take s.w).take k) true) ∧
        s'.sink.toList = s.sink.toList ++ (s.buf.toList.take s.w).take k ∧ s'.w = s.w ∧ s'.err = s.err ∧ s'.buf = s.buf) := by
  refine ⟨⟨_, Proofs.RespWriter.flush_none_eq s h, ?_, rfl, rfl, rfl⟩,
    fun k => ⟨_, Proofs.RespWriter.flush_some_eq s k h, ?_, rfl, rfl, rfl⟩⟩
  · simp [Array.toList_extract]
  · simp [Array.toList_extract, List.take_take]

/-- the position of the flushes is irrelevant: two call sequences with the same writing calls, each ended
    by a Flush, deliver the same bytes -/
theorem flush_position_irrelevant (cs ds : List Call) (s t : Writer) (hc : NoFailure cs) (hd : NoFailure ds)
    (hw : cs.filter isWrite = ds.filter isWrite)
    (e1 : run RespWriter.new (cs ++ [.flush none]) = .ok s) (e2 : run RespWriter.new (ds ++ [.flush none]) = .ok t) :
    s.sink.toList = t.sink.toList := by
  rw [(flush_exactly_once cs s hc e1).1, (flush_exactly_once ds t hd e2).1,
    Proofs.RespWriter.written_filter cs, Proofs.RespWriter.written_filter ds, hw]

/-- what a failing connection does to "exactly once" (a limit of the code, not of the proof): the writer
    keeps all pending bytes after a failed Flush, so the bytes the connection did take are sent again by
    the next Flush. `+OK\r\n`, a Flush on a connection that takes 3 bytes and fails, a Flush that works:
    the connection has received `+OK+OK\r\n`. (Serve ignores Flush's error; on TCP a failed write ends
    the connection, so the duplicate is not observable there.) -/
theorem flush_failure_resends :
    ∃ s, run RespWriter.new [.ok, .flush (some 3), .flush none] = .ok s ∧
      s.sink.toList = Bytes.ofString "+OK+OK\r\n" := by
  have := writer_run_refines [.ok, .flush (some 3), .flush none]
  have h : AW.run {} [.ok, .flush (some 3), .flush none] =
      some { delivered := Bytes.ofString "+OK+OK\r\n", pending := [], err := false } := by decide +kernel
  rw [h] at this
  obtain ⟨s, e, ha, _⟩ := this
  exact ⟨s, e, congrArg AW.delivered ha⟩

/-- growth: the array is always at least `w` long (and never shorter than the initial 4096), and at most
    `defaultSize + 2·M` where M bounds the number of pending bytes at the end of every call so far — with a
    Flush after every reply the array stays within 4096 + twice the largest reply -/
theorem writer_growth_peak (M : Nat) (cs : List Call) (s : Writer)
    (hM : ∀ pre s1, pre <+: cs → run RespWriter.new pre = .ok s1 → s1.w ≤ M) (e : run RespWriter.new cs = .ok s) :
    s.w ≤ s.buf.size ∧ defaultSize ≤ s.buf.size ∧ s.buf.size ≤ defaultSize + 2 * M := by
  obtain ⟨_, hi, hm⟩ := Proofs.RespWriter.run_ok_abs writer_inv_new e
  refine ⟨hi, ?_, ?_⟩
  · simpa [RespWriter.new] using hm
  · exact Proofs.RespWriter.run_size_le M cs RespWriter.new s writer_inv_new
      (by simp [RespWriter.new]) hM e

/-- … in particular at most `defaultSize + 2·(all bytes ever written)`, whatever the flush pattern -/
theorem writer_growth (cs : List Call) (s : Writer) (e : run RespWriter.new cs = .ok s) :
    s.w ≤ s.buf.size ∧ defaultSize ≤ s.buf.size ∧ s.buf.size ≤ defaultSize + 2 * (cs.flatMap written).length := by
  refine writer_growth_peak _ cs s ?_ e
  intro pre s1 hpre hrun
  obtain ⟨h1, hi, _⟩ := Proofs.RespWriter.run_ok_abs writer_inv_new hrun
  rw [Proofs.RespWriter.abs_new] at h1
  have h2 := Proofs.RespWriter.AW.run_pending_le pre {} (abs s1) h1
  rw [Proofs.RespWriter.pending_length s1 hi] at h2
  obtain ⟨post, rfl⟩ := hpre
  simp only [List.flatMap_append, List.length_append]
  have h0 : ({} : AW).pending.length = 0 := rfl
  rw [h0] at h2
  omega

/-- the policy, exactly: `writeBytes(bs)` reallocates iff `w + len(bs) >= len(buf)` (note `>=`: also
    when the chunk would fit exactly), then by exactly `len(bs)`, once — the byte loop never grows -/
theorem writeBytes_policy (s s' : Writer) (bs : Bytes) (h : WriterInv s) (e : writeBytes s bs = .ok s') :
    s'.buf.size = if s.w + bs.length ≥ s.buf.size then s.buf.size + bs.length else s.buf.size :=
  Proofs.RespWriter.writeBytes_size s bs h s' e

/-- … and a growing `writeBytes` leaves exactly the free space it found (the slack is never replenished by it) -/
theorem writeBytes_free_space (s s' : Writer) (bs : Bytes) (h : WriterInv s) (e : writeBytes s bs = .ok s') :
    s'.buf.size - s'.w = if s.w + bs.length ≥ s.buf.size then s.buf.size - s.w else s.buf.size - s.w - bs.length :=
  Proofs.RespWriter.writeBytes_free s bs h s' e

/-- `writeByte` reallocates iff the array is full (`w >= len(buf)`), then by `defaultSize`: the only source of slack -/
theorem writeByte_policy (s s' : Writer) (b : UInt8) (h : WriterInv s) (e : writeByte s b = .ok s') :
    s'.buf.size = (if s.w ≥ s.buf.size then s.buf.size + defaultSize else s.buf.size) ∧ s'.w = s.w + 1 :=
  Proofs.RespWriter.writeByte_size s b h s' e

/-- `grow(n)` keeps every byte of the old array (stale ones beyond `w` too) and appends n zero bytes -/
theorem grow_copies_everything (s : Writer) (n : Nat) :
    (grow s n).buf.toList = s.buf.toList ++ List.replicate n 0 ∧ (grow s n).w = s.w ∧
    (grow s n).err = s.err ∧ (grow s n).sink = s.sink :=
  ⟨Proofs.RespWriter.grow_buf s n, rfl, rfl, rfl⟩

/-- the calls that write the reply tokens of the token-level model write exactly `render` -/
theorem writer_encodes_tokens (t : Tok) : encode (callOfTok t) = some (render t) :=
  Proofs.RespWriter.encode_callOfTok t

/-- **the writer refines the token model**: write the tokens `ts` in order through a fresh writer, with
    Flushes / Bytes / HasError interleaved at ANY positions (`cs` is any such schedule), flush at the end:
    the connection has received exactly `renderAll ts` -/
theorem writer_tokens_bytes (ts : List Tok) (cs : List Call) (hw : cs.filter isWrite = ts.map callOfTok)
    (hn : NoFailure cs) :
    ∃ s, run RespWriter.new (cs ++ [.flush none]) = .ok s ∧ s.sink.toList = renderAll ts ∧ s.w = 0 := by
  have hsome : ∀ c ∈ cs ++ [Call.flush none], (encode c).isSome := fun c _ => Proofs.RespWriter.encode_isSome c
  obtain ⟨s, e⟩ := writer_total _ hsome
  obtain ⟨h1, h2, _⟩ := flush_exactly_once cs s hn e
  refine ⟨s, e, ?_, h2⟩
  rw [h1, Proofs.RespWriter.written_filter, hw, Proofs.RespWriter.written_tokens]

/-- **end to end**: ANY pipeline of ANY commands from a fresh server on any store, the reply tokens written
    through the Writer under ANY flush schedule: the byte stream the connection receives parses — reading
    reply after reply with the reference RESP reader — into exactly one value per command, in order, then
    the marker's, and nothing is left over. (`pipeline_in_sync_full` through the buffer.) -/
theorem writer_pipeline_in_sync (st : MState) (cmds : List Cmd) (marker : Cmd) (cs : List Call)
    (hw : cs.filter isWrite = ((run fullTable { store := st } (cmds ++ [marker])).2.flatten).map callOfTok)
    (hn : NoFailure cs) :
    ∃ (s : Writer) (vs : List Value) (vm : Value),
      RespWriter.run RespWriter.new (cs ++ [.flush none]) = .ok s ∧ s.w = 0 ∧ vs.length = cmds.length ∧
      (run fullTable { store := st } cmds).2.map toValue = vs.map some ∧
      toValue (step fullTable (run fullTable { store := st } cmds).1 marker).2 = some vm ∧
      parseMany (cmds.length + 1) s.sink.toList = some (vs ++ [vm], []) := by
  obtain ⟨s, e, hs, hw0⟩ := writer_tokens_bytes _ cs hw hn
  obtain ⟨vs, vm, h1, h2, h3, h4⟩ := pipeline_in_sync_full st cmds marker []
  refine ⟨s, vs, vm, e, hw0, h1, h2, h3, ?_⟩
  rw [hs]
  rw [renderAll_flatten]
  simpa using h4

/-- failing Flushes never lose, reorder or corrupt buffered bytes, wherever they occur: after the last
    SUCCESSFUL Flush (before it anything may have happened, failures included) the buffer below `w` is exactly
    what has been written since, and the flag says whether an error was among it -/
theorem pending_is_written_since_last_flush (pre post : List Call) (s : Writer)
    (hp : ∀ c ∈ post, c ≠ .flush none)
    (e : RespWriter.run RespWriter.new (pre ++ [.flush none] ++ post) = .ok s) :
    s.buf.toList.take s.w = post.flatMap written ∧ s.err = post.any isError := by
  obtain ⟨h1, _, _⟩ := Proofs.RespWriter.run_ok_abs writer_inv_new e
  rw [Proofs.RespWriter.abs_new, Proofs.RespWriter.AW.run_append, Proofs.RespWriter.AW.run_append] at h1
  cases ha : AW.run {} pre with
  | none => rw [ha] at h1; cases h1
  | some a1 =>
    rw [ha] at h1
    simp only [Option.bind_some, AW.run, AW.step] at h1
    obtain ⟨h2, h3⟩ := Proofs.RespWriter.AW.run_no_flush post _ (abs s) h1 hp
    simp only [abs] at h2 h3
    exact ⟨by simpa using h2, by simpa using h3⟩

/-! ### the writer as the connection loop uses it (redis/server.go handleConn, nodis.go Serve) -/

/-- what `conn.HasError()` feeds into MULTI's error bit: writing the tokens `ts` of a reply raises the flag
    exactly when one of them is an error token (`toks.any isErr` in Model/Conn.lean `afterHandler`), on
    top of what the flag was; the tokens' rendering is appended to the pending bytes, nothing is sent -/
theorem writer_has_error_is_any_err (s : Writer) (h : WriterInv s) (ts : List Tok) :
    ∃ s', RespWriter.run s (ts.map callOfTok) = .ok s' ∧ WriterInv s' ∧
      s'.err = (s.err || ts.any Server.isErr) ∧
      s'.buf.toList.take s'.w = s.buf.toList.take s.w ++ renderAll ts ∧ s'.sink.toList = s.sink.toList := by
  obtain ⟨s', e, ha, hi, _⟩ := Proofs.RespWriter.run_refines (ts.map callOfTok) s _ h
    (Proofs.RespWriter.AW.run_tokens _ _)
  exact ⟨s', e, hi, congrArg AW.err ha, congrArg AW.pending ha, congrArg AW.delivered ha⟩

/-- the connection loop (`handler(c, cmd); _ = c.Flush()` for every command) on a connection that does not
    fail: while command j is being answered the connection has received exactly the complete replies of
    the commands before it, the buffer holds exactly the reply of command j so far, and `HasError()` at
    the end of the handler is "this reply contains an error token" — no leftover from earlier commands -/
theorem serve_loop_has_error (pre : List (List Tok)) (r : List Tok) :
    ∃ s, RespWriter.run RespWriter.new (serveCalls pre ++ r.map callOfTok) = .ok s ∧
      s.err = r.any Server.isErr ∧ s.sink.toList = pre.flatMap renderAll ∧ s.buf.toList.take s.w = renderAll r := by
  have := writer_run_refines (serveCalls pre ++ r.map callOfTok)
  rw [Proofs.RespWriter.AW.run_append, Proofs.RespWriter.AW.run_serve pre {} rfl rfl, Option.bind_some,
    Proofs.RespWriter.AW.run_tokens] at this
  obtain ⟨s, e, ha, _⟩ := this
  refine ⟨s, e, ?_, ?_, ?_⟩
  · have := congrArg AW.err ha; simp only [abs] at this; rw [this]; simp
  · have := congrArg AW.delivered ha; simp only [abs] at this; rw [this]; simp
  · have := congrArg AW.pending ha; simp only [abs] at this; rw [this]; simp

/-- … and after the last Flush everything has been delivered, reply after reply, nothing is pending
    (also for no replies at all: `hne` is not needed) -/
theorem serve_loop_delivers (rs : List (List Tok)) (hne : rs ≠ []) :
    ∃ s, RespWriter.run RespWriter.new (serveCalls rs) = .ok s ∧
      s.sink.toList = rs.flatMap renderAll ∧ s.w = 0 ∧ s.err = false := by
  have := writer_run_refines (serveCalls rs)
  rw [Proofs.RespWriter.AW.run_serve rs {} rfl rfl] at this
  obtain ⟨s, e, ha, hi⟩ := this
  refine ⟨s, e, ?_, ?_, congrArg AW.err ha⟩
  · have := congrArg AW.delivered ha; simp only [abs] at this; rw [this]; simp
  · have hl := Proofs.RespWriter.pending_length s hi
    rw [ha] at hl
    simpa using hl.symm

/-- **end to end with the schedule the server really uses**: any pipeline of any commands from a fresh server
    on any store, each reply written through the Writer and flushed after its command: the byte stream
    parses into exactly one value per command, in order, then the marker's; nothing left over -/
theorem serve_loop_in_sync (st : MState) (cmds : List Cmd) (marker : Cmd) :
    ∃ (s : Writer) (vs : List Value) (vm : Value),
      RespWriter.run RespWriter.new (serveCalls (run fullTable { store := st } (cmds ++ [marker])).2) = .ok s ∧
      s.w = 0 ∧ s.err = false ∧ vs.length = cmds.length ∧
      (run fullTable { store := st } cmds).2.map toValue = vs.map some ∧
      toValue (step fullTable (run fullTable { store := st } cmds).1 marker).2 = some vm ∧
      parseMany (cmds.length + 1) s.sink.toList = some (vs ++ [vm], []) := by
  have hne : (run fullTable { store := st } (cmds ++ [marker])).2 ≠ [] := by
    intro h
    have := run_replies_length fullTable (cmds ++ [marker]) { store := st }
    rw [h] at this
    simp at this
  obtain ⟨s, e, hs, hw, he⟩ := serve_loop_delivers _ hne
  obtain ⟨vs, vm, h1, h2, h3, h4⟩ := pipeline_in_sync_full st cmds marker []
  refine ⟨s, vs, vm, e, hw, he, h1, h2, h3, ?_⟩
  rw [hs]
  simpa using h4

/-! ### independent of the growth policy: the abstract buffered writer alone

  The three theorems below mention only the abstract writer `AW`. They hold for every
  implementation that refines the abstract writer, whatever its buffer management (the correspondence check
  reports a change of the buffer management alone as `writer-representation-drift`, not as a violation). -/

/-- abstract writer, connection not failing: delivered ++ pending = everything written, in order -/
theorem buffered_writer_bytes (cs : List Call) (a : AW) (e : AW.run {} cs = some a) (hn : NoFailure cs) :
    a.delivered ++ a.pending = cs.flatMap written := by
  have := Proofs.RespWriter.AW.run_content cs {} a e hn
  simpa using this

/-- abstract writer: after a successful Flush exactly everything written has been delivered, once -/
theorem buffered_writer_flush_exactly_once (pre : List Call) (a : AW) (hn : NoFailure pre)
    (e : AW.run {} (pre ++ [.flush none]) = some a) :
    a.delivered = pre.flatMap written ∧ a.pending = [] ∧ a.err = false := by
  rw [Proofs.RespWriter.AW.run_append] at e
  cases h1 : AW.run {} pre with
  | none => rw [h1] at e; cases e
  | some a1 =>
    rw [h1] at e
    simp only [Option.bind_some, AW.run, AW.step] at e
    cases e
    exact ⟨buffered_writer_bytes pre a1 h1 hn, rfl, rfl⟩

/-- abstract writer: the pipeline theorem for any flush schedule -/
theorem buffered_writer_pipeline_in_sync (st : MState) (cmds : List Cmd) (marker : Cmd) (cs : List Call) (a : AW)
    (hw : cs.filter isWrite = ((run fullTable { store := st } (cmds ++ [marker])).2.flatten).map callOfTok)
    (hn : NoFailure cs) (e : AW.run {} (cs ++ [.flush none]) = some a) :
    ∃ (vs : List Value) (vm : Value), vs.length = cmds.length ∧
      (run fullTable { store := st } cmds).2.map toValue = vs.map some ∧
      toValue (step fullTable (run fullTable { store := st } cmds).1 marker).2 = some vm ∧
      parseMany (cmds.length + 1) a.delivered = some (vs ++ [vm], []) ∧ a.pending = [] := by
  obtain ⟨hd, hp, _⟩ := buffered_writer_flush_exactly_once cs a hn e
  obtain ⟨vs, vm, h1, h2, h3, h4⟩ := pipeline_in_sync_full st cmds marker []
  refine ⟨vs, vm, h1, h2, h3, ?_, hp⟩
  rw [hd, Proofs.RespWriter.written_filter, hw, Proofs.RespWriter.written_tokens]
  rw [renderAll_flatten]
  simpa using h4

example : WriterInv RespWriter.new := writer_inv_new
/-- a non-trivial schedule: an array header, a Flush in the middle of the reply, a bulk string with CR LF in
    it, HasError and Bytes in between; it has no failing Flush and writes the tokens of `[arr 1, bulk "\r\n"]` -/
example : NoFailure [Call.array 1, .flush none, .hasError, .bulk [13, 10], .bytes] ∧
    [Call.array 1, .flush none, .hasError, .bulk [13, 10], .bytes].filter isWrite = [Tok.arr 1, Tok.bulk [13, 10]].map callOfTok := by
  constructor
  · intro c hc k; simp at hc; rcases hc with rfl | rfl | rfl | rfl | rfl <;> simp
  · decide
/-- … and what the connection gets for it -/
example : ∃ s, RespWriter.run RespWriter.new ([Call.array 1, .flush none, .hasError, .bulk [13, 10], .bytes] ++ [.flush none]) = .ok s ∧
    s.sink.toList = Bytes.ofString "*1\r\n$2\r\n\r\n\r\n" ∧ s.w = 0 := by
  obtain ⟨s, e, h, w⟩ := writer_tokens_bytes [Tok.arr 1, Tok.bulk [13, 10]] [Call.array 1, .flush none, .hasError, .bulk [13, 10], .bytes]
    (by decide) (by intro c hc k; simp at hc; rcases hc with rfl | rfl | rfl | rfl | rfl <;> simp)
  exact ⟨s, e, by rw [h]; decide +kernel, w⟩
/-- `pending_is_written_since_last_flush` on a run with failing Flushes before and after the successful one -/
example : ∃ s, RespWriter.run RespWriter.new ([Call.ok, .flush (some 3)] ++ [.flush none] ++ [.error [120], .flush (some 0), .int64 1]) = .ok s ∧
    s.buf.toList.take s.w = Bytes.ofString "-x\r\n:1\r\n" ∧ s.err = true := by
  obtain ⟨s, e⟩ := writer_total ([Call.ok, .flush (some 3)] ++ [.flush none] ++ [.error [120], .flush (some 0), .int64 1]) (by decide)
  obtain ⟨h1, h2⟩ := pending_is_written_since_last_flush [Call.ok, .flush (some 3)] [.error [120], .flush (some 0), .int64 1] s (by decide) e
  exact ⟨s, e, by rw [h1]; decide +kernel, by rw [h2]; decide⟩
/-- the abstract writer on a concrete run with an error reply: flag raised by WriteError, lowered by Flush -/
example : AW.run {} [.error (Bytes.ofString "ERR x"), .int64 (-5), .hasError] =
    some { delivered := [], pending := Bytes.ofString "-ERR x\r\n:-5\r\n", err := true } := by decide +kernel
example : AW.run {} [.error (Bytes.ofString "ERR x"), .flush none, .uint64 18446744073709551615] =
    some { delivered := Bytes.ofString "-ERR x\r\n", pending := Bytes.ofString ":18446744073709551615\r\n", err := false } := by decide +kernel

end Writer
/-! ### `Handler4.table4` (CLIENT, CONFIG, INFO, QUIT, SAVE, GEO*)

  `fullTable` (and with it `fullTable_ok`, `fullTable_wire_ok`, `one_reply_full`, `pipeline_in_sync_full`)
  ranges over table1 + table2 + table3 + table4: no command of handler.go's dispatch table is left
  outside the model (`Spec/SourceFacts.lean`: `unmodelled = []`).  For the relational replies (members and
  distances of radius queries, decimal coordinate text) the statement covers EVERY choice list the
  implementation could hand in, well-formed or not. -/

/-- every handler of table4, every argument vector, store, clock and choice, panics included: exactly one
    RESP value -/
theorem table4_ok : TableOneReply Handler4.table4 := Proofs.C16Table4.table4_tableOneReply

/-- … and only tokens a strict reader accepts -/
theorem table4_wire_ok : TableWire Handler4.table4 := Proofs.C16Table4.table4_wire

theorem one_reply_per_command_CLIENT (sv : Server) (c : Cmd) (hn : c.name = "CLIENT") :
    oneValue (step fullTable sv c).2 = true :=
  one_reply_full_nonspecial sv c (by simp [special, hn])
theorem one_reply_per_command_CONFIG (sv : Server) (c : Cmd) (hn : c.name = "CONFIG") :
    oneValue (step fullTable sv c).2 = true :=
  one_reply_full_nonspecial sv c (by simp [special, hn])
theorem one_reply_per_command_INFO (sv : Server) (c : Cmd) (hn : c.name = "INFO") :
    oneValue (step fullTable sv c).2 = true :=
  one_reply_full_nonspecial sv c (by simp [special, hn])
theorem one_reply_per_command_QUIT (sv : Server) (c : Cmd) (hn : c.name = "QUIT") :
    oneValue (step fullTable sv c).2 = true :=
  one_reply_full_nonspecial sv c (by simp [special, hn])
theorem one_reply_per_command_SAVE (sv : Server) (c : Cmd) (hn : c.name = "SAVE") :
    oneValue (step fullTable sv c).2 = true :=
  one_reply_full_nonspecial sv c (by simp [special, hn])
theorem one_reply_per_command_GEOADD (sv : Server) (c : Cmd) (hn : c.name = "GEOADD") :
    oneValue (step fullTable sv c).2 = true :=
  one_reply_full_nonspecial sv c (by simp [special, hn])
theorem one_reply_per_command_GEOHASH (sv : Server) (c : Cmd) (hn : c.name = "GEOHASH") :
    oneValue (step fullTable sv c).2 = true :=
  one_reply_full_nonspecial sv c (by simp [special, hn])
theorem one_reply_per_command_GEOPOS (sv : Server) (c : Cmd) (hn : c.name = "GEOPOS") :
    oneValue (step fullTable sv c).2 = true :=
  one_reply_full_nonspecial sv c (by simp [special, hn])
theorem one_reply_per_command_GEODIST (sv : Server) (c : Cmd) (hn : c.name = "GEODIST") :
    oneValue (step fullTable sv c).2 = true :=
  one_reply_full_nonspecial sv c (by simp [special, hn])
theorem one_reply_per_command_GEORADIUS (sv : Server) (c : Cmd) (hn : c.name = "GEORADIUS") :
    oneValue (step fullTable sv c).2 = true :=
  one_reply_full_nonspecial sv c (by simp [special, hn])
theorem one_reply_per_command_GEORADIUSBYMEMBER (sv : Server) (c : Cmd) (hn : c.name = "GEORADIUSBYMEMBER") :
    oneValue (step fullTable sv c).2 = true :=
  one_reply_full_nonspecial sv c (by simp [special, hn])

/-- these commands are in the complete dispatch -/
example : (fullTable "GEOADD" []).isSome = true ∧ (fullTable "INFO" []).isSome = true ∧ (fullTable "QUIT" []).isSome = true ∧
    (fullTable "GEORADIUSBYMEMBER" [[1]]).isSome = true := by decide +kernel

/-- a pipeline through the commands of `table4`, replies computed by the model (decimal coordinates parsed and
    encoded by the exact arithmetic: the score is Redis' 3479099956230698 for Palermo; GEOHASH / GEOPOS
    as nodis answers them - FINDINGS.md) -/
example :
    (run fullTable {} [ { id := "c", name := "GEOADD", args := [[103], Bytes.ofString "13.361389", Bytes.ofString "38.115556", Bytes.ofString "Palermo"] },
      { id := "c", name := "ZSCORE", args := [[103], Bytes.ofString "Palermo"] },
      { id := "c", name := "GEOHASH", args := [[103], Bytes.ofString "Palermo", Bytes.ofString "nobody"] },
      { id := "c", name := "GEOPOS", args := [[103], Bytes.ofString "nobody"] },
      { id := "c", name := "GEODIST", args := [[103], Bytes.ofString "Palermo", Bytes.ofString "Palermo"] },
      { id := "c", name := "GEORADIUS", args := [[115], [48], [48], [49]] },
      { id := "c", name := "CONFIG", args := [Bytes.ofString "GET", Bytes.ofString "databases"] },
      { id := "c", name := "GEOADD", args := [[103], [49]] }]).2 =
    [[Tok.int 1], [Tok.bulk (Bytes.ofString "3479099956230698")], [Tok.arr 1, Tok.bulk (Bytes.ofString "sf7h526gsz0")],
     [Tok.arr 1, Tok.nullBulk], [Tok.bulk (Bytes.ofString "0.0000")], [Tok.arr 0],
     [Tok.arr 2, Tok.bulk (Bytes.ofString "databases"), Tok.bulk [48]], [Tok.err 0]] := by
  decide +kernel

end NodisVerif.C16

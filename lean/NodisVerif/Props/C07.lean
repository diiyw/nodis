import NodisVerif.Proofs.ProtoOrder
import NodisVerif.Proofs.TxProgReach
/-
  C07 — multi-key commands are atomic (strict two-phase locking).

  Property theorems only.  §1–§5 are about the locking protocol `Model/Proto.lean`; `runAll`, `Reachable`:
  Proofs/ProtoBasic.lean; the notions below: Proofs/ProtoOrder.lean.  §6 is about the program `Model/TxProg.lean`
  (`ProgReachable`, `commitPc`: Proofs/TxProgReach.lean; `holdsOf`, `committingOf`: Proofs/TxProgBase.lean).
  Traces are arbitrary (any length, any number of transactions, keys, records);
  positions in a trace are written `es[i]? = some e`.

    `Grows t e`            e is a step of t's growing phase: look, claim, wait, lock, publish, unlink, commit
    `Validates t r e`      e = `valid t k r true` or e = `claim t k r m`
    `HoldsValid s t r`     in s, t is active and holds r with `valid = true`
    `ValidRelease es p t r` es[p] = `unlock t r` and t's hold on r was validated in the state before
    `Acquires es q u r`    es[q] = `lock u k r m`
    `Conflict es t u`      t released a validated hold on some r at p, u is granted the lock of r at q > p
    `BeginOnce es`         no transaction id begins twice (the harness never reuses ids);
                           `beginOnce_of_nodup`: it is enough that `begins es` has no duplicates
    `commitPos es t`       position of the first `commit t` (`es.length` if none)

  What is shown: every validated hold of a transaction is kept until its commit has begun, all of them
  are held together at the commit (the lock point), and after it nothing is acquired, published or
  unlinked. Hence whenever two transactions conflict on a record, the one that had it first committed
  first: the conflict graph embeds into the order of the commits (`conflict_orders_commitPos`), hence has no
  cycle (`conflict_graph_acyclic`): every trace is conflict-serializable in commit order.
-/
namespace NodisVerif.C07
open NodisVerif.Proto
open NodisVerif.Proofs.Proto

/-! ## 1. no early release, nothing acquired after the commit -/

/-- a validated hold is released only once the commit has begun -/
theorem no_early_release {s s' : PState} {t : Tx} {st : TxSt} {r : Rec} {h : Hold}
    (hs : step s (.unlock t r) = some s') (ht : s.tx t = some st) (hh : st.holdOf r = some h)
    (hv : h.valid = true) : st.committing = true :=
  (unlock_cases hs ht hh).resolve_right (by rw [hv]; nofun)

/-- once its commit has begun a transaction takes no `look`, `claim`, `wait`, `lock`, `publish`,
    `unlink` and no second `commit` -/
theorem growing_phase_is_over {s : PState} (hr : Reachable s) {t : Tx} {st : TxSt} {e : Ev}
    (ht : s.tx t = some st) (hc : st.committing = true) (hg : Grows t e) : step s e = none := by
  cases h : step s e with
  | none => rfl
  | some s' =>
    have := grows_phase hr.inv hg h
    rw [phase_of_tx ht, hc] at this; cases this

/-- along a trace: from `commit t` (position c) until the next `fin t`, no step of `t` is a growing step -/
theorem no_growth_after_commit {es : List Ev} {s : PState} (hs : runAll {} es = some s) {t : Tx}
    {c j : Nat} {e : Ev} (hcj : c < j) (hc : es[c]? = some (.commit t)) (he : es[j]? = some e)
    (hnf : ∀ p, c < p → p < j → es[p]? ≠ some (.fin t)) : ¬ Grows t e := by
  obtain ⟨pre, mid, post, rfl, _, _, hmid, _, _⟩ := split_two hc he hcj
  have hs' : runAll {} ((pre ++ Ev.commit t :: (mid ++ [e])) ++ post) = some s := by simpa using hs
  obtain ⟨s1, h1, _⟩ := runAll_append_some hs'
  exact Proofs.Proto.no_growth_after_commit h1 (not_in_mid hmid hnf)

/-- the only acquisition after the commit, `trylock` (the commit upgrades its read hold on an unused
    placeholder in order to drop it), needs the commit to have begun -/
theorem trylock_only_in_commit {s s' : PState} {t : Tx} {st : TxSt} {k : Key} {r : Rec}
    (hs : step s (.trylock t k r) = some s') (ht : s.tx t = some st) : st.committing = true := by
  obtain ⟨st1, a, b, _⟩ := step_trylock.1 hs
  rw [ht] at a; cases a; exact b

/-! ## 2. the lock point -/

/-- at `commit t` everything `t` holds is validated, and the commit step itself releases nothing -/
theorem lock_point {s s' : PState} {t : Tx} {st : TxSt} (hs : step s (.commit t) = some s')
    (ht : s.tx t = some st) :
    (∀ h ∈ st.holds, h.valid = true) ∧ s'.tx t = some { st with committing := true } := by
  obtain ⟨st1, a, _, _, hv, rfl⟩ := step_commit.1 hs
  rw [ht] at a; cases a
  exact ⟨hv, tx_setTx_same _ _ _⟩

/-- For a trace of any length: if position i validates `(t, r)`, position c > i is `commit t`, and `t`
    does not end in between (so it is the same run of the transaction), then no position j strictly in
    between releases `r` … -/
theorem lock_point_trace {es : List Ev} {s : PState} (hs : runAll {} es = some s) {t : Tx} {r : Rec}
    {i j c : Nat} {v : Ev} (hij : i < j) (hjc : j < c) (hv : es[i]? = some v) (hval : Validates t r v)
    (hc : es[c]? = some (.commit t)) (hnf : ∀ p, i < p → p < c → es[p]? ≠ some (.fin t)) :
    es[j]? ≠ some (.unlock t r) :=
  lock_point_positions hs hij hjc hv hval hc hnf

/-- … and in the state in which the commit is taken, `r` is held, validated: everything the command
    validated is held together at that instant. -/
theorem lock_point_all_held {es : List Ev} {s : PState} (hs : runAll {} es = some s) {t : Tx} {r : Rec}
    {i c : Nat} {v : Ev} (hic : i < c) (hv : es[i]? = some v) (hval : Validates t r v)
    (hc : es[c]? = some (.commit t)) (hnf : ∀ p, i < p → p < c → es[p]? ≠ some (.fin t)) :
    ∃ sc, runAll {} (es.take c) = some sc ∧ HoldsValid sc t r := by
  obtain ⟨pre, mid, post, rfl, h1, h2, hmid, _, _⟩ := split_two hv hc hic
  obtain ⟨_, sc, a, b, _⟩ := lock_point_decomposed hs hval (not_in_mid hmid hnf)
  refine ⟨sc, ?_, b⟩
  have : pre ++ v :: (mid ++ Ev.commit t :: post) = (pre ++ v :: mid) ++ Ev.commit t :: post := by simp
  rw [this, List.take_left' (by simp; omega)]
  exact a

/-! ## 3. conflicts follow the commit order -/

/-- a validated hold released at position p: the `commit` of that run of the transaction is before p -/
theorem release_follows_commit {es : List Ev} {s : PState} (hs : runAll {} es = some s) {t : Tx} {r : Rec}
    {p : Nat} (h : ValidRelease es p t r) :
    ∃ c, c < p ∧ es[c]? = some (.commit t) ∧ ∀ j, c < j → j < p → es[j]? ≠ some (.fin t) :=
  release_after_commit hs h

/-- (ids used once) a lock granted at position q: the `commit` of that transaction, if any, is after q -/
theorem acquisition_precedes_commit {es : List Ev} {s : PState} (hs : runAll {} es = some s)
    (hb : BeginOnce es) {u : Tx} {r : Rec} {q c : Nat} (ha : Acquires es q u r)
    (hc : es[c]? = some (.commit u)) : q < c :=
  acquire_before_commit hs hb ha hc

/-- In a trace in which no transaction id begins twice: if `t` released a validated hold on a record
    before `u` was granted the lock of that record (in any modes, `t = u` included), then `t` has
    committed, and before every `commit u`. -/
theorem precedence_follows_commit_order {es : List Ev} {s : PState} (hs : runAll {} es = some s)
    (hb : BeginOnce es) {t u : Tx} (h : Conflict es t u) :
    ∃ ct : Nat, es[ct]? = some (Ev.commit t) ∧ ∀ cu : Nat, es[cu]? = some (Ev.commit u) → ct < cu :=
  (conflict_commit_order hs hb h).1

theorem conflict_orders_commitPos {es : List Ev} {s : PState} (hs : runAll {} es = some s)
    (hb : BeginOnce es) {t u : Tx} (h : Conflict es t u) : commitPos es t < commitPos es u :=
  (conflict_commit_order hs hb h).2

/-- the conflict graph of such a trace has no cycle: it is conflict-serializable, in commit order -/
theorem conflict_graph_acyclic {es : List Ev} {s : PState} (hs : runAll {} es = some s)
    (hb : BeginOnce es) (t : Tx) : ¬ Relation.TransGen (Conflict es) t t :=
  fun h => Nat.lt_irrefl _ (transGen_lt (commitPos es) (fun _ _ hab => (conflict_commit_order hs hb hab).2) h)

/-- the two holds of a conflict never overlap when one of them is a write hold (mutual exclusion),
    so `Conflict` relates every two transactions that used one record in conflicting modes -/
theorem conflicting_holds_do_not_overlap {s : PState} (hr : Reachable s) {t u : Tx} {st su : TxSt}
    {h g : Hold} (ht : s.tx t = some st) (hh : h ∈ st.holds) (hu : s.tx u = some su) (hg : g ∈ su.holds)
    (e : h.rid = g.rid) (hm : h.mode = .w ∨ g.mode = .w) : t = u :=
  hr.inv.compat t u st su h g ht hu hh hg e hm

/-- FINDING about the statement, not about the code: if `trylock` were counted as an acquisition the
    precedence would be FALSE. Both transactions read-hold the placeholder 10 of the missing key "a";
    2 commits first and releases it, then 1 commits and releases it, then 2's `TryLock` succeeds: 1
    released before 2 acquired, yet 2 committed first. Harmless: the hold obtained by `trylock` is
    only used to drop the placeholder, no value is read or written under it. -/
def trylockTrace : List Ev :=
  [.begin 1, .begin 2, .claim 1 "a" 10 .r, .wait 2 "a" 10 .r, .lock 2 "a" 10 .r, .valid 2 "a" 10 true,
   .commit 2, .unlock 2 10, .commit 1, .unlock 1 10, .trylock 2 "a" 10, .drop 2 "a" 10, .unlock 2 10,
   .fin 2, .fin 1]

theorem precedence_with_trylock_finding :
    (runAll {} trylockTrace).isSome = true ∧
    trylockTrace[9]? = some (.unlock 1 10) ∧
    (runAll {} (trylockTrace.take 9)).map (fun s => s.allHolds.map fun p => (p.1, p.2.rid, p.2.valid)) =
      some [(1, 10, true)] ∧
    trylockTrace[10]? = some (.trylock 2 "a" 10) ∧
    trylockTrace[6]? = some (.commit 2) ∧ trylockTrace[8]? = some (.commit 1) := by decide +kernel

/-! ## 4. a command that moves between two keys holds both -/

/-- While `t` write-holds the registered records of keys `a` and `b` (SMOVE, RENAME, RPOPLPUSH between
    its two updates), no other transaction holds the registered record of `a` or of `b` in any mode:
    nobody observes the state in between. (Neither `a ≠ b` nor the validity of the holds is needed.) -/
theorem moves_hold_both {s : PState} (hr : Reachable s) {t u : Tx} {st su : TxSt} {ha hb g : Hold}
    {a b : Key} (ht : s.tx t = some st) (h1 : ha ∈ st.holds) (h2 : hb ∈ st.holds)
    (hwa : ha.mode = .w) (hwb : hb.mode = .w) (hla : s.lookup a = some ha.rid) (hlb : s.lookup b = some hb.rid)
    (hne : u ≠ t) (hu : s.tx u = some su) (hg : g ∈ su.holds) :
    s.lookup a ≠ some g.rid ∧ s.lookup b ≠ some g.rid := by
  constructor
  · intro c
    have e : ha.rid = g.rid := by rw [hla] at c; exact Option.some.inj c
    exact hne (hr.inv.compat t u st su ha g ht hu h1 hg e (Or.inl hwa)).symm
  · intro c
    have e : hb.rid = g.rid := by rw [hlb] at c; exact Option.some.inj c
    exact hne (hr.inv.compat t u st su hb g ht hu h2 hg e (Or.inl hwb)).symm

/-- and both stay registered until `t` itself unlinks them (or a FLUSH): C05.3 -/
theorem moves_keep_both {s s' : PState} (hr : Reachable s) {t u : Tx} {st : TxSt} {ha hb : Hold}
    {a b : Key} {e : Ev} (ht : s.tx t = some st) (h1 : ha ∈ st.holds) (h2 : hb ∈ st.holds)
    (hla : s.lookup a = some ha.rid) (hlb : s.lookup b = some hb.rid)
    (he : evTx e = some u) (hne : u ≠ t) (hs : step s e = some s') :
    s'.lookup a = some ha.rid ∧ s'.lookup b = some hb.rid :=
  ⟨held_stays_registered hr.inv ht h1 hla he hne hs, held_stays_registered hr.inv ht h2 hlb he hne hs⟩

/-! ## 5. examples -/

/-- key "b" exists (record 2); "a" does not -/
def setupB : List Ev := [.begin 9, .claim 9 "b" 2 .w, .publish 9 "b" 2, .commit 9, .unlock 9 2, .fin 9]

/-- a RENAME b → a: claim "a", lock and validate "b", unlink "b" (with the placeholder 12 of `delKey`),
    publish "a", commit, drop the placeholder, release, end; transaction 3 waits for "b" meanwhile
    and gets it after the commit -/
def renameTrace : List Ev := setupB ++
  [.begin 1, .begin 3, .look 1 "a" none, .claim 1 "a" 11 .w, .look 1 "b" (some 2), .wait 1 "b" 2 .w,
   .lock 1 "b" 2 .w, .valid 1 "b" 2 true, .look 3 "b" (some 2), .wait 3 "b" 2 .r,
   .unlink 1 "b" 2, .claim 1 "b" 12 .w, .publish 1 "a" 11,
   .commit 1, .drop 1 "b" 12, .unlock 1 12, .unlock 1 2, .unlock 1 11, .fin 1,
   .lock 3 "b" 2 .r, .valid 3 "b" 2 false, .unlock 3 2, .look 3 "b" none]

theorem renameTrace_runs : (runAll {} renameTrace).isSome = true := by decide +kernel

/-- at its lock point transaction 1 holds all three records, validated -/
example : (runAll {} (renameTrace.take 19)).map (fun s => s.allHolds.map fun p => (p.1, p.2.rid, p.2.key, p.2.valid)) =
    some [(1, 12, "b", true), (1, 2, "b", true), (1, 11, "a", true)] ∧
    renameTrace[19]? = some (.commit 1) := by decide +kernel

/-- the hypotheses of (2) and (3) are satisfiable on it -/
example : Validates 1 2 (.valid 1 "b" 2 true) ∧ renameTrace[13]? = some (.valid 1 "b" 2 true) ∧
    renameTrace[19]? = some (.commit 1) := ⟨Or.inl ⟨_, rfl⟩, by decide +kernel, by decide +kernel⟩

example : BeginOnce renameTrace := beginOnce_of_nodup (by decide +kernel)

example : Conflict renameTrace 1 3 := by
  refine ⟨22, 25, 2, by decide +kernel, ⟨by decide +kernel, ?_⟩, ⟨"b", .r, by decide +kernel⟩⟩
  have h : (runAll {} (renameTrace.take 22)).bind (fun s => (s.tx 1).map fun st =>
      st.holds.any fun g => g.valid && g.rid == 2) = some true := by decide +kernel
  obtain ⟨sp, hs, h⟩ := Option.bind_eq_some_iff.1 h
  obtain ⟨st, htx, h⟩ := Option.map_eq_some_iff.1 h
  obtain ⟨g, hg, h⟩ := List.any_eq_true.1 h
  simp only [Bool.and_eq_true, beq_iff_eq] at h
  exact ⟨sp, hs, st, g, htx, hg, h.1, h.2⟩

/-- after the commit nothing more can be acquired: a `wait` is rejected -/
example : ((runAll {} (renameTrace.take 20)).bind (step · (.wait 1 "c" 2 .w))).isNone = true := by decide +kernel

/-- and releasing "b" before the commit is rejected -/
example : ((runAll {} (renameTrace.take 19)).bind (step · (.unlock 1 2))).isNone = true := by decide +kernel

/-! ## 6. the program level: strict two-phase locking in the code of tx.go -/

section ProgramLevel
open NodisVerif.Proofs.TxProg

/-- TRANSFER of `no_early_release`: when the program reports the release of a record on which the thread has a
    validated hold, the thread is inside `commit` -/
theorem prog_no_early_release {c c' : TxProg.Cfg} (hr : ProgReachable c) {t : TxProg.Tid} {ch : TxProg.Choice}
    {r : Rec} {g : Hold} (h : TxProg.step c t ch = some (c', some (.unlock t r)))
    (hg : g ∈ holdsOf (c.loc t)) (hrid : g.rid = r) (hv : g.valid = true) : committingOf (c.loc t) = true := by
  obtain ⟨p, _, hst⟩ := hr.strong
  obtain ⟨p', h1, _⟩ := strong_step hst h
  have hpc : (c.loc t).pc ≠ .init := by intro hx; simp [holdsOf, hx] at hg
  have htx := hst.sim.tx_some t hpc
  have hho := holdOf_of_mem (st := ⟨holdsOf (c.loc t), waitingOf (c.loc t), committingOf (c.loc t)⟩)
    (hst.sim.nodup t hpc) hg
  rw [hrid] at hho
  exact no_early_release h1 htx hho hv

/-- the shrinking phase is closed in the code: after the `commit` event the thread only leaves `commit` through
    its `end` event, with an empty `lockedMetas` -/
theorem prog_commit_phase_closed {s s' : TxProg.Shared} {t : TxProg.Tid} {l l' : TxProg.Loc} {ch : TxProg.Choice}
    {e : Option Ev} (h : TxProg.tstep s t l ch = some (s', l', e)) (hc : commitPc l.pc = true) :
    commitPc l'.pc = true ∨ (l' = {} ∧ e = some (.fin t)) := commit_phase_closed h hc

/-- … and it acquires nothing new there: the only events are unlock, trylock (the upgrade of a read-held placeholder
    the commit is about to drop), drop and fin -/
theorem prog_no_growth_in_commit {s s' : TxProg.Shared} {t : TxProg.Tid} {l l' : TxProg.Loc} {ch : TxProg.Choice}
    {ev : Ev} (h : TxProg.tstep s t l ch = some (s', l', some ev)) (hc : commitPc l.pc = true) :
    (∃ r, ev = .unlock t r) ∨ (∃ k r, ev = .trylock t k r) ∨ (∃ k r, ev = .drop t k r) ∨ ev = .fin t :=
  commit_phase_events h hc

/-- the lock point in the code: when the thread is about to report `commit` (pc c0) every record of
    `tx.lockedMetas` is validated and its mutex is owned by the thread in the recorded mode, all at once -/
theorem prog_lock_point {c : TxProg.Cfg} (hr : ProgReachable c) {t : TxProg.Tid} (hpc : (c.loc t).pc = .c0) :
    ∀ g ∈ (c.loc t).held, g.valid = true ∧ owns (c.sh.mu g.rid) t g.mode := by
  obtain ⟨p, _, hst⟩ := hr.strong
  intro g hg
  exact ⟨(hst.sim.thr t).val g hg, (hst.sim.thr t).own g (by simpa [holdsOf, hpc] using hg)⟩

/-- hypotheses are satisfiable: thread 1 of `schedCreate` at its lock point holds the record it created -/
example : ((TxProg.run {} (schedCreate.take 22)).1.loc 1).pc = .c0 ∧
    ((TxProg.run {} (schedCreate.take 22)).1.loc 1).held = [⟨10, "k", .w, true⟩] := by decide +kernel

end ProgramLevel

end NodisVerif.C07

import NodisVerif.Proofs.C14
import NodisVerif.Proofs.C14Counterexamples
/-
  C14 — storage codecs are lossless and injective.
  Every int64 deadline, every collection size, every non-NaN score bit pattern, and every byte
  string of a length a Go slice can have (< 2^63; beyond that the collection round trips are false,
  `list_roundtrip_needs_length_guard`).  The nil string (`Val.strNil`) is not covered: it is stored
  as the empty string and comes back as `.str []` (`Proofs.C11.strNil_decodes`).
-/
namespace NodisVerif.C14
open Varint Codec

/-- every uint64 survives PutUvarint/Uvarint, whatever follows it in the buffer -/
theorem uvarint_roundtrip (n : Nat) (h : n < 2 ^ 64) (rest : Bytes) :
    uvarint (putUvarint n ++ rest) = (n, ((putUvarint n).length : Int)) :=
  Proofs.VarintLemmas.uvarint_putUvarint n h rest

/-- every int64 survives PutVarint/Varint (zig-zag), whatever follows it -/
theorem varint_roundtrip (x : Int) (h : inInt64 x = true) (rest : Bytes) :
    varint (putVarint x ++ rest) = (x, ((putVarint x).length : Int)) :=
  Proofs.VarintLemmas.varint_putVarint x h rest

/-- key codec round trip: every name (any length, incl. empty) and every int64 deadline -/
theorem key_roundtrip (name : Bytes) (exp : Int) (h : inInt64 exp = true) :
    decodeKey (encodeKey name exp) = some (name, exp) :=
  Proofs.C14.decodeKey_encodeKey name exp h

/-- two different (name, deadline) pairs never share an encoding (for every deadline: the proof does not use the
    two range hypotheses) -/
theorem key_injective (n1 n2 : Bytes) (e1 e2 : Int)
    (h1 : inInt64 e1 = true) (h2 : inInt64 e2 = true)
    (h : encodeKey n1 e1 = encodeKey n2 e2) : n1 = n2 ∧ e1 = e2 :=
  Proofs.CodecLemmas.encodeKey_inj h

theorem str_roundtrip (v : Bytes) : decodeEntry (encodeEntry (.str v)) = some (.str v) :=
  Proofs.C14.str_roundtrip v

/-! Collections. The only hypothesis beyond well-formedness is the int64 guard on lengths: a Go
    byte string cannot be 2^63 bytes long, the model's lists can. Without it the statements are
    false (`Proofs.C14Counterexamples.*_roundtrip_false`). -/

/-- lists: every element content and length, any number of elements, order preserved -/
theorem list_roundtrip (l : LList) (h : l.WF) (hlen : ∀ v ∈ l.items, v.length < 2 ^ 63) :
    decodeEntry (encodeEntry (.list l)) = some (.list l) :=
  Proofs.C14.list_roundtrip l h hlen

/-- hashes: every field/value (incl. empty), on both sides of every length-prefix boundary -/
theorem hash_roundtrip (m : AList Bytes) (h : AList.Sorted m)
    (hlen : ∀ p ∈ m, p.1.length + p.2.length + 10 < 2 ^ 63) :
    decodeEntry (encodeEntry (.hash m)) = some (.hash m) :=
  Proofs.C14.hash_roundtrip_of_sizes m h hlen

/-- sets (this is the statement that was false of the code before the `fix:` of set.GetValue:
    members of 64 bytes or more were truncated) -/
theorem set_roundtrip (m : AList Unit) (h : AList.Sorted m) (hlen : ∀ p ∈ m, p.1.length < 2 ^ 63) :
    decodeEntry (encodeEntry (.set m)) = some (.set m) :=
  Proofs.C14.set_roundtrip m h hlen

/-- sorted sets: dictionary *and* skiplist order come back exactly, for every non-NaN score bit
    pattern (incl. ±0, ±inf, subnormals); the decoder re-inserts in member order, the theorem says
    the rebuilt chain is the original one -/
theorem zset_roundtrip (z : ZSet) (h : z.WF) (hlen : ∀ p ∈ z.dict, p.1.length + 8 < 2 ^ 63) :
    decodeEntry (encodeEntry (.zset z)) = some (.zset z) :=
  Proofs.C14.zset_roundtrip z h hlen

/-- the length guard is necessary: with a 2^63-byte element the list round trip fails -/
theorem list_roundtrip_needs_length_guard :
    ¬ ∀ l : LList, l.WF → decodeEntry (encodeEntry (.list l)) = some (.list l) :=
  Proofs.C14Counterexamples.list_roundtrip_false

/-- non-vacuity: concrete non-trivial values meet the hypotheses -/
example : (⟨[[1], [], [2, 3]], 3⟩ : LList).WF := by simp [LList.WF]
example : AList.Sorted ([([1], [9]), ([1, 0], []), ([2], [7])] : AList Bytes) := by
  simp [AList.Sorted, Bytes.lt]
example : inInt64 36028797018963968 = true ∧ inInt64 (-1) = true := by decide

end NodisVerif.C14

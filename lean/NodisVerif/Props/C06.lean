import NodisVerif.Proofs.ProtoRelease
import NodisVerif.Proofs.ProtoWait
import NodisVerif.Proofs.TxProgProgress
import NodisVerif.Proofs.TxProgPlan
/-
  C06 — every command completes: no deadlock.

  Property theorems only.  §1–§6 are about the locking protocol `Model/Proto.lean`; `runAll`, `Reachable`:
  Proofs/ProtoBasic.lean; `Walk`, `Blocked`: Proofs/ProtoWait.lean. Every theorem is about ALL reachable
  states (any trace, any number of transactions, keys, records).
  §7 is about the program `Model/TxProg.lean`: the lock order and blocking on program states (`ProgReachable`, `mayBlock`,
  `commitPc`, `smuAcquire`: Proofs/TxProgReach.lean; `Strong`: Proofs/TxProgGuard.lean; `lockPlan` is sorted:
  Proofs/TxProgPlan.lean).

  The argument: a transaction only blocks on a key greater than every key it holds (`lockKeys` sorts;
  `mayWait`), and whoever holds the awaited record holds it under the awaited key. So along a chain
  of blocked transactions the awaited keys strictly increase: no cycle (3), and the blocked
  transaction with the greatest awaited key waits for somebody who is not blocked (4), who can run
  to its commit, which releases everything (5).
-/
namespace NodisVerif.C06
open NodisVerif.Proto
open NodisVerif.Proofs.Proto

/-! ## 1. the ordering rule holds in every reachable state -/

/-- a blocked transaction holds only keys below the awaited one (no exception) -/
theorem waits_increase {s : PState} (hr : Reachable s) {t : Tx} {st : TxSt} {k : Key} {r : Rec} {m : Mode}
    (ht : s.tx t = some st) (hw : st.waiting = some (k, r, m)) : ∀ h ∈ st.holds, h.key < k :=
  NodisVerif.Proofs.Proto.waits_increase hr.inv ht hw

/-- a blocked transaction has not begun its commit, does not hold the awaited record, and awaits it
    under its name -/
theorem waiting_wellformed {s : PState} (hr : Reachable s) {t : Tx} {st : TxSt} {k : Key} {r : Rec} {m : Mode}
    (ht : s.tx t = some st) (hw : st.waiting = some (k, r, m)) :
    st.committing = false ∧ st.holdOf r = none ∧ assoc s.names r = some k :=
  let ⟨_, a, b, c⟩ := hr.inv.waitOk t st k r m ht hw; ⟨a, c, b⟩

/-- a blocked transaction takes no step that adds a hold other than being granted the awaited lock -/
theorem blocked_takes_no_other_lock {s s' : PState} (hr : Reachable s) {t : Tx} {st : TxSt} {k : Key} {r : Rec}
    {m : Mode} (ht : s.tx t = some st) (hw : st.waiting = some (k, r, m)) :
    (∀ k' r' m', step s (.claim t k' r' m') = none) ∧ (∀ k' r', step s (.trylock t k' r') = none) ∧
    (∀ k' r' m', step s (.wait t k' r' m') = none) ∧
    (∀ k' r' m', step s (.lock t k' r' m') = some s' → (k', r', m') = (k, r, m)) := by
  have hc := (hr.inv.waitOk t st k r m ht hw).2.1
  refine ⟨fun k' r' m' => ?_, fun k' r' => ?_, fun k' r' m' => ?_, fun k' r' m' h => ?_⟩
  · refine Option.eq_none_iff_forall_ne_some.2 fun x h => ?_
    obtain ⟨st1, h1, _, h2, _⟩ := step_claim.1 h
    rw [ht] at h1; cases h1; rw [hw] at h2; cases h2
  · refine Option.eq_none_iff_forall_ne_some.2 fun x h => ?_
    obtain ⟨st1, h1, h2, _⟩ := step_trylock.1 h
    rw [ht] at h1; cases h1; rw [hc] at h2; cases h2
  · refine Option.eq_none_iff_forall_ne_some.2 fun x h => ?_
    obtain ⟨st1, h1, _, h2, _⟩ := step_wait.1 h
    rw [ht] at h1; cases h1; rw [hw] at h2; cases h2
  · obtain ⟨st1, h1, h2, _⟩ := step_lock.1 h
    rw [ht] at h1; cases h1; rw [hw] at h2
    exact (Option.some.inj h2).symm

/-! ## 2. a hold carries the name of its record -/

/-- field `holdName` of the invariant; the same statement as `C05.held_records_named`, repeated here because
    the argument of this file starts from it -/
theorem holder_name {s : PState} (hr : Reachable s) {t : Tx} {st : TxSt} {h : Hold}
    (ht : s.tx t = some st) (hh : h ∈ st.holds) : assoc s.names h.rid = some h.key :=
  hr.inv.holdName t st h ht hh

/-- so whoever holds the record somebody waits for holds it under the awaited key -/
theorem holder_has_awaited_key {s : PState} (hr : Reachable s) {t u : Tx} {st su : TxSt} {k : Key} {r : Rec}
    {m : Mode} {g : Hold} (ht : s.tx t = some st) (hw : st.waiting = some (k, r, m))
    (hu : s.tx u = some su) (hg : g ∈ su.holds) (e : g.rid = r) : g.key = k :=
  holder_key hr.inv ht hw hu hg e

/-! ## 3. no deadlock -/

/-- the model's `waitsFor`, spelled out -/
theorem waitsFor_means {s : PState} (hr : Reachable s) {t u : Tx} : waitsFor s t u = true ↔
    ∃ st k r m su g, s.tx t = some st ∧ st.waiting = some (k, r, m) ∧ s.tx u = some su ∧ g ∈ su.holds ∧
      g.rid = r ∧ u ≠ t ∧ (m = .w ∨ g.mode = .w) := waitsFor_iff hr.inv

/-- along a waits-for edge into a blocked transaction the awaited key strictly grows -/
theorem awaited_keys_increase {s : PState} (hr : Reachable s) {t u : Tx} {st su : TxSt} {k k' : Key}
    {r r' : Rec} {m m' : Mode} (h : waitsFor s t u = true) (ht : s.tx t = some st)
    (hw : st.waiting = some (k, r, m)) (hu : s.tx u = some su) (hw' : su.waiting = some (k', r', m')) :
    k < k' := by
  obtain ⟨k0, h0, hlt⟩ := edge_lt hr.inv h (wants_eq_some.2 ⟨su, r', m', hu, hw'⟩)
  obtain ⟨st0, r0, m0, h1, h2⟩ := wants_eq_some.1 h0
  rw [ht] at h1; cases h1; rw [hw] at h2; cases h2
  exact hlt

/-- There is no cycle t₀ → t₁ → … → tₙ → t₀ of transactions waiting for each other, of any length
    (`Walk s t [t₁, …, tₙ] t`; n = 0 is a self-loop). -/
theorem no_deadlock {s : PState} (hr : Reachable s) (t : Tx) (l : List Tx) : ¬ Walk s t l t :=
  fun h => no_cycle hr.inv t h.transGen

/-- the same with the transitive closure of `waitsFor` -/
theorem no_deadlock' {s : PState} (hr : Reachable s) (t : Tx) :
    ¬ Relation.TransGen (fun a b => waitsFor s a b = true) t t := no_cycle hr.inv t

/-! ## 4. progress -/

/-- If any transaction is active, one of them is not blocked: it is not waiting, or the lock it waits
    for can be granted now (`Blocked s t`: waiting for `(k, r, m)` with `s.free r m = false`). -/
theorem someone_can_move {s : PState} (hr : Reachable s) (hne : s.txs ≠ []) :
    ∃ t st, s.tx t = some st ∧
      (st.waiting = none ∨ ∃ k r m, st.waiting = some (k, r, m) ∧ s.free r m = true) := by
  obtain ⟨t, st, ht, hnb⟩ := someone_not_blocked hr.inv hne
  refine ⟨t, st, ht, ?_⟩
  cases hw : st.waiting with
  | none => exact Or.inl rfl
  | some p =>
    obtain ⟨k, r, m⟩ := p
    refine Or.inr ⟨k, r, m, rfl, ?_⟩
    cases hf : s.free r m with
    | true => rfl
    | false => exact absurd ⟨st, k, r, m, ht, hw, hf⟩ hnb

/-- a lock that can be granted is granted by a step of the protocol -/
theorem free_lock_is_granted {s : PState} {t : Tx} {st : TxSt} {k : Key} {r : Rec} {m : Mode}
    (ht : s.tx t = some st) (hw : st.waiting = some (k, r, m)) (hf : s.free r m = true) :
    (step s (.lock t k r m)).isSome = true := by
  rw [step_lock.2 ⟨st, ht, hw, hf, rfl⟩]; rfl

/-- whoever blocks a transaction is another active transaction holding the awaited record in a
    conflicting mode -/
theorem blocked_by_a_holder {s : PState} (hr : Reachable s) {t : Tx} {st : TxSt} {k : Key} {r : Rec} {m : Mode}
    (ht : s.tx t = some st) (hw : st.waiting = some (k, r, m)) (hf : s.free r m = false) :
    ∃ u, waitsFor s t u = true := by
  obtain ⟨u, g, ⟨su, hu, hg⟩, e, hm⟩ := not_free_holder hr.inv.txNodup hf
  refine ⟨u, (waitsFor_iff hr.inv).2 ⟨st, k, r, m, su, g, ht, hw, hu, hg, e, ?_, hm⟩⟩
  intro c; subst c
  rw [ht] at hu; cases hu
  exact holdOf_none.1 (hr.inv.waitOk u st k r m ht hw).2.2.2 g hg e

/-! ## 5. the commit releases everything -/

/-- a transaction ends only when it holds nothing and waits for nothing -/
theorem fin_needs_nothing {s s' : PState} {t : Tx} (h : step s (.fin t) = some s') :
    ∃ st, s.tx t = some st ∧ st.holds = [] ∧ st.waiting = none ∧ s'.tx t = none := by
  obtain ⟨st, h1, h2, h3, rfl⟩ := step_fin.1 h
  exact ⟨st, h1, h2, h3, by simp [PState.tx, assoc_erase]⟩

/-- A transaction that is not blocked and has validated what it holds (a command that returns, fails
    or panics: `defer tx.commit()`) can run `commit; unlock r₁; …; unlock rₙ; fin` without waiting for
    anybody; afterwards it is gone and index, `pending`, names and all other transactions are
    untouched. (Its placeholders may additionally be dropped; `unlock` does not require it.) -/
theorem commit_releases_everything {s : PState} (hr : Reachable s) {t : Tx} {st : TxSt}
    (ht : s.tx t = some st) (hc : st.committing = false) (hw : st.waiting = none)
    (hv : ∀ h ∈ st.holds, h.valid = true) :
    ∃ s', runAll s (.commit t :: releaseSeq t st.holds) = some s' ∧ s'.tx t = none ∧ SameButTx t s s' :=
  commit_and_release hr.inv ht hc hw hv

/-- … and a transaction whose commit has begun can always finish it -/
theorem commit_can_finish {s : PState} (hr : Reachable s) {t : Tx} {st : TxSt}
    (ht : s.tx t = some st) (hc : st.committing = true) :
    ∃ s', runAll s (releaseSeq t st.holds) = some s' ∧ s'.tx t = none ∧ SameButTx t s s' :=
  release_committing hr.inv ht hc

/-- before its commit a transaction gives up only an attempt that failed its validation -/
theorem unlock_before_commit_is_invalid {s s' : PState} {t : Tx} {st : TxSt} {r : Rec} {h : Hold}
    (hs : step s (.unlock t r) = some s') (ht : s.tx t = some st) (hc : st.committing = false)
    (hh : st.holdOf r = some h) : h.valid = false :=
  (unlock_cases hs ht hh).resolve_left (by rw [hc]; nofun)

/-! ## 6. examples -/

/-- keys "a" "b" "c" exist (records 1 2 3) -/
def setupABC : List Ev :=
  [.begin 9, .claim 9 "a" 1 .w, .publish 9 "a" 1, .claim 9 "b" 2 .w, .publish 9 "b" 2,
   .claim 9 "c" 3 .w, .publish 9 "c" 3, .commit 9, .unlock 9 3, .unlock 9 2, .unlock 9 1, .fin 9]

/-- t1 holds "a" and waits for "b"; t2 holds "b" and waits for "c"; t3 holds "c" -/
def chainTrace : List Ev := setupABC ++
  [.begin 1, .begin 2, .begin 3,
   .wait 3 "c" 3 .w, .lock 3 "c" 3 .w, .valid 3 "c" 3 true,
   .wait 2 "b" 2 .w, .lock 2 "b" 2 .w, .valid 2 "b" 2 true,
   .wait 1 "a" 1 .w, .lock 1 "a" 1 .w, .valid 1 "a" 1 true,
   .wait 2 "c" 3 .w, .wait 1 "b" 2 .w]

/-- two transactions wait, in a chain 1 → 2 → 3, and transaction 3 can move -/
example : (runAll {} chainTrace).map (fun s =>
      (waitsFor s 1 2, waitsFor s 2 3, waitsFor s 3 1, waitsFor s 2 1, s.free 2 .w, s.free 3 .w)) =
    some (true, true, false, false, false, false) := by decide +kernel

/-- the classic deadlock (t1 locks a, t2 locks b, t1 waits for b, t2 waits for a) is not a trace of the
    protocol: the last `wait` is rejected (in `lockKeys` order t2 asks for "a" before "b") -/
def deadlockPrefix : List Ev := setupABC ++
  [.begin 1, .begin 2,
   .wait 1 "a" 1 .w, .lock 1 "a" 1 .w, .valid 1 "a" 1 true,
   .wait 2 "b" 2 .w, .lock 2 "b" 2 .w, .valid 2 "b" 2 true,
   .wait 1 "b" 2 .w]

theorem classic_deadlock_rejected :
    (runAll {} deadlockPrefix).isSome = true ∧
    ((runAll {} deadlockPrefix).bind (step · (.wait 2 "a" 1 .w))).isNone = true := by decide +kernel

/-- read modes do not help: it is rejected for a read lock too -/
example : ((runAll {} deadlockPrefix).bind (step · (.wait 2 "a" 1 .r))).isNone = true := by decide +kernel

/-- the release sequence of (5) on the chain: transaction 3 commits and goes, then 2 gets "c" -/
example : (runAll {} (chainTrace ++ [.commit 3, .unlock 3 3, .fin 3, .lock 2 "c" 3 .w])).isSome = true := by
  decide +kernel

/-! ## 7. the program level: lock order and blocking in the code of tx.go

  `Model/TxProg.lean` models `Tx.acquire` / `lockKeys` / `newKey` / `delKey` / `commit` statement by statement with
  explicit mutexes; `C05.prog_refines_proto` shows that every run of it is a run of the protocol.  Here: what that
  gives for completion, and the lock order proved directly on program states. -/

section ProgramLevel
open NodisVerif.Proofs.TxProg

/-- LOCK ORDER on the program model: a thread blocked in `m.Lock()` / `m.RLock()` (pc a8) holds only records
    whose keys are smaller than the key it waits for; it owns no record mutex outside `tx.lockedMetas`, is outside
    every `store.mu` section, and is in the sorted locking phase of its command (a call from the command body never
    waits: it finds a record the transaction already holds) -/
theorem blocked_waits_for_greater_key {c : TxProg.Cfg} (hr : ProgReachable c) {t : TxProg.Tid}
    (hpc : (c.loc t).pc = .a8) :
    (∀ g ∈ (c.loc t).held, g.key < (c.loc t).key) ∧ extra (c.loc t) = none ∧ (c.loc t).ret = .plan ∧
    inW (c.loc t).pc = false ∧ inR (c.loc t).pc = false := by
  obtain ⟨p, _, hst⟩ := hr.strong
  exact blocked_holds_smaller hst hpc

/-- TRANSFER of `no_deadlock`: the waits-for graph of the protocol state that abstracts a reachable program state
    has no cycle, and the transaction of a thread at pc a8 (about to take the record lock) is `waiting` for that record
    in the mode asked for, holding `lockedMetas` -/
theorem prog_no_deadlock {c : TxProg.Cfg} (hr : ProgReachable c) :
    ∃ p, Strong c p ∧ (∀ t l, ¬ Walk p t l t) ∧
      ∀ t, (c.loc t).pc = .a8 → p.tx t =
        some ⟨(c.loc t).held, some ((c.loc t).key, (c.loc t).m, TxProg.modeOf (c.loc t).write), false⟩ := by
  obtain ⟨p, hp, hst⟩ := hr.strong
  refine ⟨p, hst, fun t l => no_deadlock hp t l, fun t hpc => ?_⟩
  have := hst.sim.tx_some t (by simp [hpc])
  simpa [holdsOf, waitingOf, committingOf, hpc] using this

/-- TRANSFER of `someone_can_move`: in the abstraction of a reachable program state with an active transaction,
    some transaction is not waiting, or waits for a lock the protocol can grant now -/
theorem prog_someone_can_move {c : TxProg.Cfg} (hr : ProgReachable c) {t : TxProg.Tid}
    (hact : (c.loc t).pc ≠ .init) :
    ∃ p, Strong c p ∧ ∃ u st, p.tx u = some st ∧
      (st.waiting = none ∨ ∃ k r m, st.waiting = some (k, r, m) ∧ p.free r m = true) := by
  obtain ⟨p, hp, hst⟩ := hr.strong
  refine ⟨p, hst, someone_can_move hp ?_⟩
  intro hnil
  have := hst.sim.tx_some t hact
  simp [PState.tx, hnil, assoc] at this

/-- where the code can block at all (`mayBlock`): the ten mutex acquisitions (`s.mu.RLock` a1 a10 g4, `s.mu.Lock`
    a4 n2 d1 c8 g7, the record lock a8 g2); init / idle wait for the command's next call, a5 / d3 for a fresh
    object; d2 is listed too and is enabled in every reachable state (`delKey_never_unheld`).  Every other
    transition is enabled in every state: nothing inside a `store.mu` section waits for anything (`store.mu` is a
    leaf lock), and `commit` waits for nothing but `store.mu` — "a failing command releases everything" -/
theorem only_lock_acquisitions_block (c : TxProg.Cfg) (t : TxProg.Tid) (ch : TxProg.Choice)
    (h : mayBlock (c.loc t).pc = false) : (TxProg.step c t ch).isSome = true :=
  enabled_unless_mayBlock c t ch h

/-- … and d2 (delKey under `store.mu`) is enabled in every reachable state: the record found in the index is
    write-held by the transaction, the `unlink-unheld` branch of the code is never taken -/
theorem delKey_never_unheld {c : TxProg.Cfg} (hr : ProgReachable c) {t : TxProg.Tid} (hpc : (c.loc t).pc = .d2)
    (ch : TxProg.Choice) : (TxProg.step c t ch).isSome = true := by
  obtain ⟨p, _, hst⟩ := hr.strong
  exact delKey_not_stuck hst hpc ch

/-- `store.mu` NEVER CLOSES A CYCLE: a thread that cannot get `store.mu` (any of the eight acquisition sites) is kept
    out by another, active thread that is inside one of its sections, and that thread's next transition is enabled
    (whenever the allocator offers a new object — `exists_fresh`: it always can).  The protocol model has no
    `store.mu` at all; this is the part of "every command completes" that only the program model can state. -/
theorem store_mutex_never_deadlocks {c : TxProg.Cfg} (hr : ProgReachable c) {t : TxProg.Tid} {ch : TxProg.Choice}
    (hpc : smuAcquire (c.loc t).pc = true) (hblocked : TxProg.step c t ch = none) :
    ∃ u, u ≠ t ∧ (c.loc u).pc ≠ .init ∧
      ∀ ch', assoc c.sh.names ch'.fresh = none → (TxProg.step c u ch').isSome = true := by
  obtain ⟨p, _, hst⟩ := hr.strong
  exact blocked_on_smu_by_a_mover hst hpc hblocked

/-- the owners of `store.mu` are exactly threads inside its sections: whoever is its writer / one of its readers is
    at a program counter between the Lock / RLock and the matching Unlock / RUnlock, and can take its next step -/
theorem store_mutex_owner_is_in_section {c : TxProg.Cfg} (hr : ProgReachable c) {u : TxProg.Tid}
    (hown : c.sh.smu.writer = some u ∨ u ∈ c.sh.smu.readers) :
    (inW (c.loc u).pc = true ∨ inR (c.loc u).pc = true) ∧
    ∀ ch, assoc c.sh.names ch.fresh = none → (TxProg.step c u ch).isSome = true := by
  obtain ⟨p, _, hst⟩ := hr.strong
  refine ⟨?_, fun ch hf => (smu_holder_can_move hst hown ch hf).2⟩
  rcases hown with h | h
  · exact Or.inl ((hst.conv u).1 h)
  · exact Or.inr ((hst.conv u).2 h)

/-- hypotheses are satisfiable: thread 1 is inside `s.mu.Lock()` (pc a5, about to register its placeholder) while thread 2
    asks for `s.mu.RLock()` (pc a1) and is kept out; thread 1 moves -/
example : let c := (TxProg.run {} (moves 1 { call := .begin [("k", true, true)], fresh := 10 } 5 ++
      moves 2 { call := .begin [("k", false, false)] } 3)).1
    (c.loc 1).pc = .a5 ∧ smuAcquire (c.loc 2).pc = true ∧ TxProg.step c 2 {} = none ∧
      (TxProg.step c 1 { fresh := 10 }).isSome = true := by decide +kernel

theorem a_fresh_record_exists (c : TxProg.Cfg) : ∃ r, assoc c.sh.names r = none := exists_fresh c.sh.names

/-- PROGRESS ON THE PROGRAM MODEL — no deadlock and no permanent stall over record mutexes and `store.mu` together:
    in every reachable program state in which some transaction is active, some ACTIVE thread has an enabled
    transition (for a suitable choice of the scheduler: a fresh object for an allocation, `commit` for a command body).
    Proof: `someone_not_blocked` in the abstraction gives a transaction that is not waiting or waits for a record the
    protocol considers free; such a thread moves, or is kept out of `store.mu` by a thread that moves
    (`store_mutex_never_deadlocks`), or the record mutex is still owned by a thread that sits between a lock operation
    and its event (`record_mutex_owner_is_accounted_for`) and therefore moves. -/
theorem prog_progress {c : TxProg.Cfg} (hr : ProgReachable c) {t0 : TxProg.Tid} (hact : (c.loc t0).pc ≠ .init) :
    ∃ t ch, (c.loc t).pc ≠ .init ∧ (TxProg.step c t ch).isSome = true := by
  obtain ⟨p, _, hf⟩ := hr.full
  exact full_progress hf hact

/-- the converse of `C05.prog_hold_owns_mutex`: whoever is the writer / a reader of a record's mutex has a protocol
    hold on the record in that mode, or is between `Lock` and its `lock` event / between the `unlock` event and
    `Unlock` (`extra`); each thread is a reader of a mutex at most once -/
theorem record_mutex_owner_is_accounted_for {c : TxProg.Cfg} (hr : ProgReachable c) (u : TxProg.Tid) (r : Rec) :
    ((c.sh.mu r).writer = some u → (r, Mode.w) ∈ ownedList (c.loc u)) ∧
    (u ∈ (c.sh.mu r).readers → (r, Mode.r) ∈ ownedList (c.loc u)) ∧ (c.sh.mu r).readers.Nodup := by
  obtain ⟨p, _, hf⟩ := hr.full
  exact ⟨(hf.conv u r).1, (hf.conv u r).2, hf.rnd r⟩

/-- hypotheses are satisfiable: in the state of `C05`'s example thread 2 is blocked in `m.RLock()` and thread 1 moves -/
example : let c := (TxProg.run {} (schedCreate.take 16)).1
    (c.loc 2).pc ≠ .init ∧ TxProg.step c 2 {} = none ∧ (TxProg.step c 1 {}).isSome = true := by decide +kernel

/-- a record lock that is free is granted: the Lock transition at a8 is enabled when nobody owns the mutex -/
theorem free_record_lock_is_granted (c : TxProg.Cfg) (t : TxProg.Tid) (ch : TxProg.Choice)
    (hpc : (c.loc t).pc = .a8) (hfree : (c.sh.mu (c.loc t).m).canLock = true) :
    (TxProg.step c t ch).isSome = true := by
  have hr : (c.sh.mu (c.loc t).m).canRLock = true := by
    simp [TxProg.Mu.canLock] at hfree; simp [TxProg.Mu.canRLock, hfree.1]
  unfold TxProg.step
  simp only [TxProg.tstep, hpc]
  cases hw : (c.loc t).write <;> simp [hfree, hr]

/-- `lockKeys` (the `mode` map, then `sort.Strings` over its keys — `TxProg.lockPlan`) yields strictly increasing
    keys, so `Call.begin (lockPlan write read)` is a command of the model for every `write`, `read` -/
theorem lockKeys_plan_is_sorted (write read : List Key) :
    TxProg.sortedPlan (TxProg.lockPlan write read) = true :=
  foldl_insert_sorted true write _ (foldl_insert_sorted false read [] rfl)

theorem lockKeys_can_begin (c : TxProg.Cfg) (t : TxProg.Tid) (hpc : (c.loc t).pc = .init) (write read : List Key)
    (ch : TxProg.Choice) (hc : ch.call = .begin (TxProg.lockPlan write read)) : (TxProg.step c t ch).isSome = true := by
  unfold TxProg.step
  simp [TxProg.tstep, hpc, hc, lockKeys_plan_is_sorted]

example : TxProg.lockPlan ["b", "a"] ["c", "a"] = [("a", true, true), ("b", true, true), ("c", false, true)] := by decide +kernel

/-- hypotheses are satisfiable: a multi-key command locks "a" then "b" (sorted), both through placeholders, and
    its commit drops them: the read-held one by RUnlock + TryLock + drop, the write-held one directly -/
example : (TxProg.run {} schedTwoKeys).2 =
    [.begin 1, .look 1 "a" none, .claim 1 "a" 1 .w, .look 1 "b" none, .claim 1 "b" 2 .r, .commit 1,
     .unlock 1 2, .trylock 1 "b" 2, .drop 1 "b" 2, .unlock 1 2, .drop 1 "a" 1, .unlock 1 1, .fin 1] := by decide +kernel

/-- a plan that is not sorted is not a command of the model (lockKeys sorts) -/
example : TxProg.step {} 1 { call := .begin [("b", true, true), ("a", true, true)] } = none := by decide +kernel

end ProgramLevel

end NodisVerif.C06

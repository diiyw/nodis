import NodisVerif.Proofs.C01Int
import NodisVerif.Proofs.C01Trace
import NodisVerif.Proofs.C01Float
import NodisVerif.Proofs.FloatDecTrip
/-
  C01 — strings and keyspace follow sequential Redis semantics, byte-exact.

  Property theorems and their non-vacuity examples. Reference semantics: Spec/Str.lean (plain `Bytes`, `Keyspace = List (Bytes × Bytes)`).

  Everything is unbounded: every store state `s : MState` (hot, cold, expired, half-initialised
  records, either backend), every clock value, every key, every byte string of any length, every
  `Int` argument.  Hypotheses that occur:
    * `IndexSorted s` — the index is key-sorted (it is a btree); an invariant of every command
      (section 6), needed only where the *list* `logical s now` is compared;
    * `StringOrMissing s now k` — the key is missing or holds a string (otherwise the command
      panics: sections 3/4 state that case too);
    * `Clean s` (Proofs/C01Clean.lean) for the frame part of MSET and for whole command streams
      (section 7): the backend is Pebble, or it is the in-memory backend with nothing written back
      and no value object shared between two records. On the in-memory backend `setVal` writes
      through to every record sharing the object, see `set_alias_witness`; `Clean` holds for a
      freshly opened store of either backend and is preserved by every command of section 7.

  Vocabulary (Proofs/StoreLive.lean):
    `live s now k : Option Val`   the value a command finds under `k` (record indexed, ok, not
                                  expired, value hot or loadable from the backend);
    `liveExp s now k`             its deadline (0 = none);
    `lookup s now k`              logical content of the record under `k`:
                                  (resolved value, deadline, ok flag), `none` if absent/expired;
    `logical s now`               the list of (name, resolved value, deadline, ok flag) of every
                                  non-expired record, in index order (`count`, `signalled`, `held`,
                                  `feed`, ids, the modified bit are not part of it);
    `Hot s k v now`, `HotExp s k e`  the record under `k` is ok, not expired, holds `v` in memory /
                                  has deadline `e`.

  FINDINGS (model ≠ reference; each has a witness theorem below):
    F1  GETRANGE with `stop < -len`            : model "", Redis the first byte   (`getrange_finding*`)
    F2  GETRANGE with `stop = int64 max`       : `end+1` wraps, model ""           (`getrange_wrap_finding*`)
    F3  GETRANGE out of range                  : model nil, Redis ""               (`getrange_nil_finding`)
    F4  SETRANGE with empty data beyond the end: model zero-pads, Redis no-op      (`setrange_finding`)
    F5  BITCOUNT window normalisation          : (0,0) = whole string, negative start = 0,
        positive stop exclusive, start = stop counts one byte                     (`bitcount_*_finding`)
    F7  SET / GETSET / MSET on a non-string key: panic, Redis SET overwrites       (`set_wrong_type` + comment)
    F8  DECRBY k -2^63 on a missing key        : error reply, but the key now exists (`addInt_creates_key_finding`)
    F10 SETRANGE k 0 "" and SETBIT k -1 on a missing key (commands that open the key with
        `writeKey key newStr` and then write nothing) leave an empty string key behind: EXISTS 1,
        GET ""; Redis creates nothing (SETBIT -1 is an error there). APPEND k "" also creates the
        empty key, which IS what Redis does (`append_missing_get`)                  (`open_creates_key_finding`)
    F11 SET on the in-memory backend may change another key sharing the value object (`set_alias_witness`)
  (F6 "SETEX/PSETEX change the deadline before the wrong-type panic" and F9 "RENAME keeps the
   destination's old deadline" were repaired in the Go code: `wrongtype_writes` covers SETEX/PSETEX and
   `rename_spec` states the deadline move.)
-/
namespace NodisVerif.C01
open NodisVerif
open NodisVerif.Proofs.C01
open Spec.Str

/-! ## 1. Integer text (Go strconv) and the counter commands -/

/-- `ParseInt(FormatInt(x)) = x` for every int64 -/
theorem parse_format (x : Int) (h : inInt64 x = true) : parseInt64 (formatInt x) = some x := by
  rw [Proofs.C15.parseInt64_formatInt_eq, if_pos h]

/-- the decimal text produced for a natural number consists of digits and reads back -/
theorem natDigits_roundtrip (n : Nat) :
    natDigits n ≠ [] ∧ (natDigits n).all isDigit = true ∧ digitsToNat (natDigits n) 0 = n :=
  ⟨Proofs.C15.natDigits_ne_nil n, List.all_eq_true.mpr (Proofs.C15.isDigit_natDigits n), Proofs.C15.digitsToNat_natDigits n⟩

/-- INCRBY on the canonical text of `n`: new text and reply are those of `n + d` -/
theorem incr_spec (n d : Int) (hn : inInt64 n = true) (hs : inInt64 (n + d) = true) :
    DsStr.incr (some (formatInt n)) d = some (some (formatInt (n + d)), n + d) := by
  unfold DsStr.incr; rw [addInt_format n d hn, hs]; rfl

/-- … and an error (`none`: the caller keeps the old value) when the sum leaves int64 -/
theorem incr_overflow (n d : Int) (hn : inInt64 n = true) (hs : inInt64 (n + d) = false) :
    DsStr.incr (some (formatInt n)) d = none := by
  unfold DsStr.incr; rw [addInt_format n d hn, hs]; rfl

/-- a value that is not the text of an int64 is an error for INCR and DECR -/
theorem incr_nonnumeric (v : Bytes) (d : Int) (hv : v ≠ []) (hp : parseInt64 v = none) :
    DsStr.incr (some v) d = none ∧ DsStr.decr (some v) d = none :=
  ⟨addInt_nonnumeric v d hv hp, addInt_nonnumeric v (-d) hv hp⟩

/-- a missing / empty value counts as 0 -/
theorem incr_missing (d : Int) (hd : inInt64 d = true) :
    DsStr.incr none d = some (some (formatInt d), d) := by
  unfold DsStr.incr; rw [addInt_empty none d rfl, hd]; rfl

/-- INCRBY / DECRBY are exactly the reference semantics, for every value and every delta -/
theorem incr_refines_spec (s : DsStr.S) (d : Int) :
    DsStr.incr s d = (Spec.Str.incrby (DsStr.bytes s) d).map fun r => (some r.1, r.2) :=
  addInt_agree s d

theorem decr_refines_spec (s : DsStr.S) (d : Int) :
    DsStr.decr s d = (Spec.Str.decrby (DsStr.bytes s) d).map fun r => (some r.1, r.2) :=
  addInt_agree s (-d)

/-- DECRBY d undoes INCRBY d -/
theorem incr_decr_inverse (n d : Int) (hn : inInt64 n = true) (hs : inInt64 (n + d) = true) :
    (DsStr.incr (some (formatInt n)) d).bind (fun r => DsStr.decr r.1 d) = some (some (formatInt n), n) := by
  rw [incr_spec n d hn hs]
  simp only [Option.bind_some]
  unfold DsStr.decr
  rw [addInt_format (n + d) (-d) hs]
  have : n + d + -d = n := by omega
  rw [this, hn]; rfl

example : inInt64 9223372036854775807 = true ∧ inInt64 (9223372036854775806 + 1) = true := by decide +kernel
example : inInt64 (9223372036854775807 + 1) = false := by decide +kernel
example : ([97, 98] : Bytes) ≠ [] ∧ parseInt64 [97, 98] = none := by decide +kernel

/-! ## 2. Byte-string operations (ds/str) against the reference semantics -/

/-
  Full statement wanted:  ∀ s start stop, (getRange s start stop).getD [] = Spec.getrange (bytes s) start stop.
  It fails exactly on the two regions below (F1, F2); outside them it holds.
-/
/-- GETRANGE agrees with Redis outside the finding regions -/
theorem getrange_spec_partial (s : DsStr.S) (start stop : Int)
    (hi : inInt64 stop = true) (hmax : stop ≠ int64Max)
    (hreg : ¬ (stop < -(DsStr.len s) ∧ DsStr.len s ≠ 0 ∧ (start = 0 ∨ start ≤ stop))) :
    (DsStr.getRange s start stop).getD [] = Spec.Str.getrange (DsStr.bytes s) start stop := by
  have hw : wrap64 (stop + 1) = stop + 1 := by
    apply wrap64_id
    rw [inInt64_iff] at hi
    simp only [int64Max] at hmax
    omega
  apply getRange_agree s start stop hw
  have : 0 ≤ DsStr.len s := by unfold DsStr.len; omega
  omega

/-- F1, the whole region: for `stop < -len` (string non-empty, start denoting position 0, not the
    both-negative-and-inverted case) the model answers "" and Redis the first byte -/
theorem getrange_finding_region (s : DsStr.S) (start stop : Int)
    (hi : inInt64 stop = true) (hmax : stop ≠ int64Max)
    (hreg : stop < -(DsStr.len s) ∧ DsStr.len s ≠ 0 ∧ (start = 0 ∨ start ≤ stop)) :
    (DsStr.getRange s start stop).getD [] = [] ∧
    Spec.Str.getrange (DsStr.bytes s) start stop = (DsStr.bytes s).take 1 := by
  have hw : wrap64 (stop + 1) = stop + 1 := by
    apply wrap64_id
    rw [inInt64_iff] at hi
    simp only [int64Max] at hmax
    omega
  exact getRange_differ s start stop hw hreg.1 hreg.2.1 hreg.2.2

theorem getrange_finding :
    (DsStr.getRange (some [97, 98, 99]) 0 (-5)).getD [] ≠ Spec.Str.getrange [97, 98, 99] 0 (-5) := by decide +kernel

/-- F2, the whole region: `stop = int64 max` -/
theorem getrange_wrap_finding_region (s : DsStr.S) (start : Int) (hlen : DsStr.len s ≤ int64Max) :
    (DsStr.getRange s start int64Max).getD [] = [] ∧
    Spec.Str.getrange (DsStr.bytes s) start int64Max =
      (DsStr.bytes s).drop (clampStart (DsStr.bytes s).length start).toNat := by
  have hw : wrap64 (int64Max + 1) = int64Min := by decide
  rw [getRange_win, hw, getrange_win]
  unfold DsStr.len at hlen
  generalize DsStr.bytes s = v at *
  have hst := clampStart_nonneg v.length start
  have hmax : int64Max = 9223372036854775807 := rfl
  have hmin : int64Min = -9223372036854775808 := rfl
  constructor
  · apply win_nil; left
    unfold mStop; omega
  · rw [if_neg (by omega)]
    apply win_to_end
    unfold sStop; omega

theorem getrange_wrap_finding :
    (DsStr.getRange (some [97, 98, 99]) 0 int64Max).getD [] ≠ Spec.Str.getrange [97, 98, 99] 0 int64Max := by
  decide +kernel

/-- F3: an out-of-range GETRANGE is the nil slice, not the empty string (Redis replies "") -/
theorem getrange_nil_finding : DsStr.getRange (some [97]) 5 10 = none ∧ Spec.Str.getrange [97] 5 10 = [] := by
  decide +kernel

example : inInt64 (-1) = true ∧ (-1 : Int) ≠ int64Max ∧
    ¬ ((-1 : Int) < -(DsStr.len (some [97, 98, 99])) ∧ DsStr.len (some [97, 98, 99]) ≠ 0 ∧ ((0 : Int) = 0 ∨ (0 : Int) ≤ -1)) := by
  decide +kernel
example : inInt64 (-5) = true ∧ (-5 : Int) ≠ int64Max ∧
    ((-5 : Int) < -(DsStr.len (some [97, 98, 99])) ∧ DsStr.len (some [97, 98, 99]) ≠ 0 ∧ ((0 : Int) = 0 ∨ (0 : Int) ≤ -5)) := by
  decide +kernel

/-
  Full statement wanted: ∀ s offset ≥ 0, data: bytes (setRange s offset data).1 = Spec.setrange (bytes s) offset data.
  It fails exactly when `data = []` and `offset > len` (F4).
-/
/-- SETRANGE (offset ≥ 0, `offset + |data|` an int64, growth within the 1 GiB the model follows
    the allocator for): new value and reply (= new length) are those of the reference -/
theorem setrange_spec_partial (s : DsStr.S) (offset : Int) (data : Bytes) (h : 0 ≤ offset)
    (hw : inInt64 (offset + (data.length : Int)) = true) (hg : srGrowth s offset data ≤ 1073741824)
    (hreg : ¬ (data = [] ∧ DsStr.len s < offset)) :
    ∃ r, DsStr.setRange s offset data = some r ∧
      DsStr.bytes r.1 = Spec.Str.setrange (DsStr.bytes s) offset.toNat data ∧
      r.2 = ((Spec.Str.setrange (DsStr.bytes s) offset.toNat data).length : Nat) := by
  have hr : data ≠ [] ∨ offset ≤ DsStr.len s := by
    by_cases hd : data = []
    · right; exact Int.not_lt.mp (fun hlt => hreg ⟨hd, hlt⟩)
    · left; exact hd
  exact setRange_agree s offset data h hw hg hr

theorem setrange_finding :
    (DsStr.setRange (some [97]) 3 []).map (fun r => DsStr.bytes r.1) ≠ some (Spec.Str.setrange [97] 3 []) := by
  decide +kernel

/-- a negative offset changes nothing and replies 0 (Redis: an error; the reference has `none`) -/
theorem setrange_negative (s : DsStr.S) (offset : Int) (data : Bytes) (h : offset < 0) :
    DsStr.setRange s offset data = some (s, 0) ∧ Spec.Str.setrange? (DsStr.bytes s) offset data = none := by
  refine ⟨setRange_neg s offset data h, ?_⟩
  unfold Spec.Str.setrange?; rw [if_pos h]

/-- a growth of more than 1 GiB is outside the model (`none` = panic; the RESP handler rejects
    offsets beyond 512 MiB before they get here, the embedded API does not) -/
theorem setrange_huge (s : DsStr.S) (offset : Int) (data : Bytes) (h : 0 ≤ offset)
    (hw : inInt64 (offset + (data.length : Int)) = true) (hg : srGrowth s offset data > 1073741824) :
    DsStr.setRange s offset data = none := by
  unfold DsStr.setRange
  unfold srGrowth at hg
  rw [if_neg (by omega)]
  simp only [wrap64_id (inInt64_iff.mp hw)]
  rw [if_pos (by constructor <;> omega)]

/-- what SETRANGE means pointwise: length `max len (off + |data|)`, `data` at `off`, the old bytes
    elsewhere, zeros in the gap -/
theorem setrange_pointwise (v : Bytes) (off : Nat) (data : Bytes) (hd : data ≠ []) :
    (Spec.Str.setrange v off data).length = max v.length (off + data.length) ∧
    ∀ i, (Spec.Str.setrange v off data)[i]? =
      if i < off then some (v.getD i 0)
      else if i < off + data.length then data[i - off]?
      else v[i]? :=
  ⟨spec_setrange_length v off data hd, spec_setrange_getElem? v off data hd⟩

example : (0 : Int) ≤ 5 ∧ inInt64 (5 + (([1, 2] : Bytes).length : Int)) = true ∧ srGrowth (some [9]) 5 [1, 2] ≤ 1073741824 ∧
    ¬ (([1, 2] : Bytes) = [] ∧ DsStr.len (some [9]) < 5) := by decide +kernel

/-- APPEND: new value = old ++ data, reply = new length -/
theorem append_spec (s : DsStr.S) (data : Bytes) :
    DsStr.bytes (DsStr.append s data).1 = DsStr.bytes s ++ data ∧
    (DsStr.append s data).2 = ((DsStr.bytes s ++ data).length : Nat) :=
  append_agree s data

/-- STRLEN: the length in bytes -/
theorem strlen_spec (s : DsStr.S) : DsStr.len s = (Spec.Str.strlen (DsStr.bytes s) : Nat) := rfl

/-- GETBIT (offset ≥ 0): bit `off % 8` (0 = most significant) of byte `off / 8`, 0 beyond the end -/
theorem getbit_spec (s : DsStr.S) (offset : Int) (h : 0 ≤ offset) :
    DsStr.getBit s offset = if Spec.Str.getbit (DsStr.bytes s) offset.toNat then 1 else 0 :=
  getBit_agree s offset h

/-- a negative offset reads 0 (Redis: an error) -/
theorem getbit_negative (s : DsStr.S) (offset : Int) (h : offset < 0) : DsStr.getBit s offset = 0 := by
  unfold DsStr.getBit
  simp only []
  rw [if_pos (Or.inl h)]

/-- SETBIT (offset ≥ 0): new value and old bit are those of the reference -/
theorem setbit_spec (s : DsStr.S) (offset : Int) (x : Bool) (h : 0 ≤ offset) :
    DsStr.setBit s offset x =
      (some (Spec.Str.setbit (DsStr.bytes s) offset.toNat x),
       if Spec.Str.getbit (DsStr.bytes s) offset.toNat then 1 else 0) :=
  setBit_agree s offset x h

theorem setbit_negative (s : DsStr.S) (offset : Int) (x : Bool) (h : offset < 0) :
    DsStr.setBit s offset x = (s, 0) ∧ Spec.Str.setbit? (DsStr.bytes s) offset x = none := by
  refine ⟨setBit_neg s offset x h, ?_⟩
  unfold Spec.Str.setbit?; rw [if_pos h]

/-- after SETBIT o x: bit o reads x, every other bit reads what it read before, the string grew
    (zero-padded) to exactly `max len (o/8+1)` bytes; the reply was the old bit -/
theorem getbit_setbit (s : DsStr.S) (o o' : Int) (x : Bool) (h : 0 ≤ o) (h' : 0 ≤ o') :
    DsStr.getBit (DsStr.setBit s o x).1 o' = (if o' = o then (if x then 1 else 0) else DsStr.getBit s o') ∧
    DsStr.len (DsStr.setBit s o x).1 = max (DsStr.len s) (o / 8 + 1) ∧
    (DsStr.setBit s o x).2 = DsStr.getBit s o := by
  obtain ⟨n, rfl⟩ := Int.eq_ofNat_of_zero_le h
  obtain ⟨n', rfl⟩ := Int.eq_ofNat_of_zero_le h'
  rw [setbit_spec s n x h]
  refine ⟨?_, ?_, ?_⟩
  · rw [getbit_spec _ n' h', getbit_spec s n' h']
    show (if Spec.Str.getbit (Spec.Str.setbit (DsStr.bytes s) n x) n' = true then (1 : Int) else 0) = _
    rw [spec_getbit_setbit]
    simp only [Int.natCast_inj]
    split
    · cases x <;> rfl
    · rfl
  · show ((Spec.Str.setbit (DsStr.bytes s) n x).length : Int) = _
    rw [spec_setbit_length]
    unfold DsStr.len
    omega
  · rw [getbit_spec s n h]

example : (0 : Int) ≤ 12 ∧ (0 : Int) ≤ 3 := by decide +kernel

/-- closed form of what the Go `BitCount(start, end)` counts: the 1 bits of the bytes in the window
    `mbcRange len start end` (first byte, number of bytes) — for every input -/
theorem bitcount_closed_form (s : DsStr.S) (start stop : Int) :
    DsStr.bitCount s start stop =
      (Spec.Str.popcountBytes (((DsStr.bytes s).drop (mbcRange (DsStr.bytes s).length start stop).1).take
        (mbcRange (DsStr.bytes s).length start stop).2) : Nat) :=
  bitCount_closed s start stop

/-
  Full statement wanted: ∀ s start stop, bitCount s start stop = Spec.bitcount (bytes s) start stop.
  The Go window differs from Redis' (F5): it holds for start ≥ 0 (or start ≤ -len) together with
  a negative in-range stop (`-len ≤ stop < 0`, except `start = len+stop+1`) or `stop ≥ len`.
-/
theorem bitcount_spec_partial (s : DsStr.S) (start stop : Int)
    (hs : 0 ≤ start ∨ start ≤ -(DsStr.len s))
    (hr : (-(DsStr.len s) ≤ stop ∧ stop < 0 ∧ start ≠ DsStr.len s + stop + 1) ∨ DsStr.len s ≤ stop) :
    DsStr.bitCount s start stop = (Spec.Str.bitcount (DsStr.bytes s) start stop : Nat) :=
  bitCount_agree s start stop hs hr

/-- `BitCount(0, 0)` (what BITCOUNT without a range calls) and `BitCount(0, -1)` = all 1 bits -/
theorem bitcount_total (s : DsStr.S) :
    DsStr.bitCount s 0 0 = (Spec.Str.bitcountAll (DsStr.bytes s) : Nat) ∧
    DsStr.bitCount s 0 (-1) = (Spec.Str.bitcountAll (DsStr.bytes s) : Nat) :=
  ⟨bitCount_whole s 0 (Or.inl rfl), bitCount_whole s (-1) (Or.inr rfl)⟩

/-- "number of 1 bits" means: the number of bit offsets at which GETBIT reads 1 -/
theorem bitcount_counts_bits (v : Bytes) :
    Spec.Str.bitcountAll v = ((List.range (8 * v.length)).filter fun o => Spec.Str.getbit v o).length :=
  popcountBytes_eq_bits v

/-- F5 witnesses: (0,0) is the whole string (pinned by the repository's tests); a negative start is
    0; a positive stop is exclusive; `start = stop` (after normalisation) counts one byte -/
theorem bitcount_zero_zero_finding :
    DsStr.bitCount (some [255, 255]) 0 0 = 16 ∧ Spec.Str.bitcount [255, 255] 0 0 = 8 := by decide +kernel
theorem bitcount_negative_start_finding :
    DsStr.bitCount (some [1, 255]) (-1) (-1) = 9 ∧ Spec.Str.bitcount [1, 255] (-1) (-1) = 8 := by decide +kernel
theorem bitcount_exclusive_stop_finding :
    DsStr.bitCount (some [255, 255, 255]) 0 1 = 8 ∧ Spec.Str.bitcount [255, 255, 255] 0 1 = 16 := by decide +kernel
theorem bitcount_bump_finding :
    DsStr.bitCount (some [255, 255, 255]) 2 (-2) = 8 ∧ Spec.Str.bitcount [255, 255, 255] 2 (-2) = 0 := by decide +kernel

example : ((0 : Int) ≤ 1 ∨ (1 : Int) ≤ -(DsStr.len (some [1, 2, 3]))) ∧
    ((-(DsStr.len (some [1, 2, 3])) ≤ -1 ∧ (-1 : Int) < 0 ∧ (1 : Int) ≠ DsStr.len (some [1, 2, 3]) + -1 + 1) ∨
      DsStr.len (some [1, 2, 3]) ≤ -1) := by decide +kernel

/-! ## 3. Binary safety at the API level -/

/-- a state used for the non-vacuity examples: a string (with a zero and a 0xFF byte) under "a",
    a list under "l" -/
def sDemo : MState :=
  { index := [([97], { exp := 0, value := some (.str [120, 0, 255]), state := 1 }),
              ([108], { exp := 0, value := some (.list ⟨[[1]], 1⟩), state := 1 })] }

theorem sDemo_sorted : IndexSorted sDemo := by simp [IndexSorted, sDemo, AList.Sorted, Bytes.lt]
example : StringOrMissing sDemo 0 [97] := by
  intro v0 h
  have e : live sDemo 0 [97] = some (.str [120, 0, 255]) := by decide +kernel
  rw [e] at h
  cases h; rfl
example : StringOrMissing sDemo 0 [122] := by
  intro v0 h
  have e : live sDemo 0 [122] = none := by decide +kernel
  rw [e] at h; cases h
example : live sDemo 0 [108] = some (.list ⟨[[1]], 1⟩) ∧ isStrVal (.list ⟨[[1]], 1⟩) = false := by decide +kernel

/-- SET then GET returns the value byte for byte — any bytes, any length, any prior state of the
    store; the deadline is dropped unless KEEPTTL -/
theorem set_get (s : MState) (now : Int) (k v : Bytes) (keep : Bool) (h : StringOrMissing s now k) :
    (Api.set s now k v keep).2 = .unit ∧
    (Api.get (Api.set s now k v keep).1 now k).2 = .bytes (some v) ∧
    live (Api.set s now k v keep).1 now k = some (.str v) ∧
    liveExp (Api.set s now k v keep).1 now k = some (if keep then (liveExp s now k).getD 0 else 0) := by
  obtain ⟨h1, h2, h3⟩ := set_ok s now k v keep h
  exact ⟨h1, get_hot h2 rfl, live_of_hot h2, liveExp_of_hot h2 h3⟩

/-- F7. SET on a key holding a list / hash / set / zset panics (Redis: SET overwrites a key of any
    type); value, type, deadline of the key and the whole logical keyspace are unchanged -/
theorem set_wrong_type (s : MState) (now : Int) (k v : Bytes) (keep : Bool) (v0 : Val) (hs : IndexSorted s)
    (hl : live s now k = some v0) (ht : isStrVal v0 = false) :
    (Api.set s now k v keep).2 = .panic ∧
    live (Api.set s now k v keep).1 now k = some v0 ∧
    logical (Api.set s now k v keep).1 now = logical s now := by
  obtain ⟨h1, h2⟩ := set_wrongtype s now k v keep v0 hl ht
  exact ⟨h1, by rw [live_congr (h2 k), hl], logical_ext hs (wk_upd_sorted (set_upd s now k v keep) hs) h2⟩

/-- GETSET: replies the old string (nil for a missing key or a nil value stored through the embedded API), then GET
    returns the new value; the deadline is dropped -/
theorem getSet_get (s : MState) (now : Int) (k v : Bytes) (h : StringOrMissing s now k) :
    (Api.getSet s now k v).2 = .bytes (match live s now k with | some (.str o) => some o | _ => none) ∧
    (Api.get (Api.getSet s now k v).1 now k).2 = .bytes (some v) ∧
    liveExp (Api.getSet s now k v).1 now k = some 0 := by
  obtain ⟨h1, h2, h3⟩ := getSet_ok s now k v h
  refine ⟨?_, get_hot h2 rfl, liveExp_of_hot h2 h3⟩
  rw [h1]
  cases hl : live s now k with
  | none => rfl
  | some v0 => cases v0 <;> rfl

/-- SETNX on a missing key stores the value (no deadline) and replies true; on an existing key of
    any type it replies false and changes nothing -/
theorem setNX_missing_get (s : MState) (now : Int) (k v : Bytes) (keep : Bool) (hl : live s now k = none) :
    (Api.setNX s now k v keep).2 = .bool true ∧
    (Api.get (Api.setNX s now k v keep).1 now k).2 = .bytes (some v) ∧
    liveExp (Api.setNX s now k v keep).1 now k = some 0 := by
  obtain ⟨h1, h2, h3⟩ := setNX_absent s now k v keep hl
  exact ⟨h1, get_hot h2 rfl, liveExp_of_hot h2 h3⟩

theorem setNX_existing (s : MState) (now : Int) (k v : Bytes) (keep : Bool) (v0 : Val) (hs : IndexSorted s)
    (hl : live s now k = some v0) :
    (Api.setNX s now k v keep).2 = .bool false ∧ logical (Api.setNX s now k v keep).1 now = logical s now := by
  obtain ⟨h1, h2⟩ := setNX_present s now k v keep v0 hl
  exact ⟨h1, logical_ext hs (wk_upd_sorted (setNX_upd s now k v keep) hs) h2⟩

/-- SET XX: a missing key stays missing (reply false); an existing string is overwritten -/
theorem setXX_spec (s : MState) (now : Int) (k v : Bytes) (keep : Bool) (hs : IndexSorted s) :
    (live s now k = none →
      (Api.setXX s now k v keep).2 = .bool false ∧ logical (Api.setXX s now k v keep).1 now = logical s now) ∧
    (∀ v0, live s now k = some v0 → isStrVal v0 = true →
      (Api.setXX s now k v keep).2 = .bool true ∧
      (Api.get (Api.setXX s now k v keep).1 now k).2 = .bytes (some v)) := by
  constructor
  · intro hl
    obtain ⟨h1, h2⟩ := setXX_absent s now k v keep hl
    exact ⟨h1, logical_ext hs (wk_upd_sorted (setXX_upd s now k v keep) hs) h2⟩
  · intro v0 hl ht
    obtain ⟨h1, h2, _⟩ := (setXX_present s now k v keep v0 hl).1 ht
    exact ⟨h1, get_hot h2 rfl⟩

/-- SETEX / PSETEX (deadline not already past): value stored, deadline set -/
theorem setEX_get (s : MState) (now : Int) (k v : Bytes) (seconds : Int) (h : StringOrMissing s now k)
    (he : wrap64 (now + wrap64 (seconds * 1000)) = 0 ∨ now < wrap64 (now + wrap64 (seconds * 1000))) :
    (Api.setEX s now k v seconds).2 = .unit ∧
    (Api.get (Api.setEX s now k v seconds).1 now k).2 = .bytes (some v) ∧
    liveExp (Api.setEX s now k v seconds).1 now k = some (wrap64 (now + wrap64 (seconds * 1000))) := by
  obtain ⟨h1, h2, h3⟩ := setPX_ok s now k v (wrap64 (seconds * 1000)) h he
  exact ⟨h1, get_hot h2 rfl, liveExp_of_hot h2 h3⟩

theorem setPX_get (s : MState) (now : Int) (k v : Bytes) (ms : Int) (h : StringOrMissing s now k)
    (he : wrap64 (now + ms) = 0 ∨ now < wrap64 (now + ms)) :
    (Api.setPX s now k v ms).2 = .unit ∧
    (Api.get (Api.setPX s now k v ms).1 now k).2 = .bytes (some v) ∧
    liveExp (Api.setPX s now k v ms).1 now k = some (wrap64 (now + ms)) := by
  obtain ⟨h1, h2, h3⟩ := setPX_ok s now k v ms h he
  exact ⟨h1, get_hot h2 rfl, liveExp_of_hot h2 h3⟩

example : wrap64 (1000 + wrap64 (10 * 1000)) = 0 ∨ (1000 : Int) < wrap64 (1000 + wrap64 (10 * 1000)) := by decide +kernel

/-- APPEND: the reply is the new length and GET returns old ++ data, byte for byte -/
theorem append_get (s : MState) (now : Int) (k data : Bytes) (h : StringOrMissing s now k) :
    (Api.append s now k data).2 = .int ((bytesOf (strAt s now k) ++ data).length : Nat) ∧
    ∃ r, (Api.get (Api.append s now k data).1 now k).2 = .bytes r ∧
      DsStr.bytes r = bytesOf (strAt s now k) ++ data := by
  obtain ⟨h1, h2, _⟩ := append_ok s now k data h
  obtain ⟨a1, a2⟩ := append_agree (strOf (strAt s now k)) data
  refine ⟨by rw [h1, a2]; rfl, _, get_hot h2 (isStrVal_strVal _), ?_⟩
  rw [strOf_strVal, a1]; rfl

/-- APPEND on a missing key creates the key holding exactly `data` — for empty `data` too (the
    empty, non-nil string: GET replies "", as Redis does) -/
theorem append_missing_get (s : MState) (now : Int) (k data : Bytes) (hl : live s now k = none) :
    (Api.append s now k data).2 = .int (data.length : Nat) ∧
    (Api.get (Api.append s now k data).1 now k).2 = .bytes (some data) ∧
    live (Api.append s now k data).1 now k = some (.str data) := by
  have hs : StringOrMissing s now k := by intro v0 h; rw [hl] at h; cases h
  obtain ⟨h1, h2, _⟩ := append_ok s now k data hs
  have e : strAt s now k = .str [] := by unfold strAt; rw [hl]; rfl
  rw [e] at h1 h2
  exact ⟨h1, get_hot h2 rfl, live_of_hot h2⟩

/-- a string command never leaves a nil string behind: whatever SET / GETSET / SETNX / APPEND /
    SETRANGE / SETBIT / INCR* store is a filled (`.str`) value, so GET on it is never nil -/
theorem stored_value_is_filled (o : DsStr.S) (off : Int) (d : Bytes) (x : Bool) (b : Bytes) (ho : o = some b) :
    (∃ r, (DsStr.append o d).1 = some r) ∧ (∃ r, (DsStr.setBit o off x).1 = some r) ∧
    (∀ r, DsStr.setRange o off d = some r → ∃ w, r.1 = some w) := by
  subst ho
  refine ⟨⟨_, rfl⟩, ?_, ?_⟩
  · by_cases h : 0 ≤ off
    · rw [setbit_spec _ off x h]; exact ⟨_, rfl⟩
    · rw [setBit_neg _ off x (Int.not_le.mp h)]; exact ⟨_, rfl⟩
  · exact setRange_filled b off d

/-- SETRANGE / SETBIT through the API: reply and stored value are those of ds/str (section 2) -/
theorem setRange_get (s : MState) (now : Int) (k : Bytes) (offset : Int) (data : Bytes) (h : StringOrMissing s now k)
    (v' : DsStr.S) (n : Int) (hstep : DsStr.setRange (strOf (strAt s now k)) offset data = some (v', n)) :
    (Api.setRange s now k offset data).2 = .int n ∧
    (Api.get (Api.setRange s now k offset data).1 now k).2 = .bytes v' := by
  have := setRange_ok s now k offset data h
  rw [hstep] at this
  obtain ⟨h1, h2, _⟩ := this
  refine ⟨h1, ?_⟩
  rw [get_hot h2 (isStrVal_strVal _), strOf_strVal]

theorem setBit_get (s : MState) (now : Int) (k : Bytes) (offset : Int) (x : Bool) (h : StringOrMissing s now k) :
    (Api.setBit s now k offset x).2 = .int (DsStr.setBit (strOf (strAt s now k)) offset x).2 ∧
    (Api.get (Api.setBit s now k offset x).1 now k).2 =
      .bytes (DsStr.setBit (strOf (strAt s now k)) offset x).1 := by
  obtain ⟨h1, h2, _⟩ := setBit_ok s now k offset x h
  refine ⟨h1, ?_⟩
  rw [get_hot h2 (isStrVal_strVal _), strOf_strVal]

/-- the read commands: reply = ds/str function of the live value (section 2), nil / 0 when missing -/
theorem reads_spec (s : MState) (now : Int) (k : Bytes) (a b : Int) :
    (Api.get s now k).2 = (match live s now k with
      | none => .bytes none | some v => if isStrVal v then .bytes (strOf v) else .panic) ∧
    (Api.strLen s now k).2 = (match live s now k with
      | none => .int 0 | some v => if isStrVal v then .int (DsStr.len (strOf v)) else .panic) ∧
    (Api.getRange s now k a b).2 = (match live s now k with
      | none => .bytes none | some v => if isStrVal v then .bytes (DsStr.getRange (strOf v) a b) else .panic) ∧
    (Api.getBit s now k a).2 = (match live s now k with
      | none => .int 0 | some v => if isStrVal v then .int (DsStr.getBit (strOf v) a) else .panic) ∧
    (Api.bitCount s now k a b false).2 = (match live s now k with
      | none => .int 0 | some v => if isStrVal v then .int (DsStr.bitCount (strOf v) a b) else .panic) :=
  ⟨congrArg Prod.snd (strRead_eq s now k _ _), congrArg Prod.snd (strRead_eq s now k _ _),
    congrArg Prod.snd (strRead_eq s now k _ _), congrArg Prod.snd (strRead_eq s now k _ _),
    congrArg Prod.snd (strRead_eq s now k _ _)⟩

/-- MSET, any backend: an argument list of odd length does nothing; otherwise the reply is OK or
    the call panicked (a key held a non-string), and after OK the key of the last pair holds the
    last value, without deadline -/
theorem mset_last_pair (s : MState) (now : Int) (kvs : List (Bytes × Bytes)) (k v : Bytes) :
    ((Api.mset s now (flat (kvs ++ [(k, v)]))).2 = .unit ∨ (Api.mset s now (flat (kvs ++ [(k, v)]))).2 = .panic) ∧
    ((Api.mset s now (flat (kvs ++ [(k, v)]))).2 = .unit →
      lookup (Api.mset s now (flat (kvs ++ [(k, v)]))).1 now k = some (some (.str v), 0, true)) := by
  rw [mset_eq]; exact mset_last now kvs s k v

theorem mset_odd (s : MState) (now : Int) (pairs : List Bytes) (h : pairs.length % 2 ≠ 0) :
    Api.mset s now pairs = (s, .unit) := by
  unfold Api.mset; rw [if_pos h]

/-- MSET on the Pebble backend, all named keys missing or strings: OK, every named key holds the
    last value given for it (no deadline), every other record is untouched -/
theorem mset_spec_pebble (s : MState) (now : Int) (kvs : List (Bytes × Bytes)) (hp : s.pebble = true)
    (h : ∀ p ∈ kvs, StringOrMissing s now p.1) :
    (Api.mset s now (flat kvs)).2 = .unit ∧
    ∀ x, lookup (Api.mset s now (flat kvs)).1 now x =
      match lastVal kvs x with
      | some v => some (some (.str v), 0, true)
      | none => lookup s now x := by
  rw [mset_eq]; exact mset_go_spec now kvs s (Or.inl hp) h

/-- the same from any `Clean` state of either backend (`hc` and `h` carry the proof; `hs`, `hl` are not used:
    `mset_spec_pebble` above is the instance `hc := Or.inl hp`) -/
theorem mset_spec (s : MState) (now : Int) (kvs : List (Bytes × Bytes)) (hc : Clean s) (hs : IndexSorted s)
    (hl : WLocks s) (h : ∀ p ∈ kvs, StringOrMissing s now p.1) :
    (Api.mset s now (flat kvs)).2 = .unit ∧
    ∀ x, lookup (Api.mset s now (flat kvs)).1 now x =
      match lastVal kvs x with
      | some v => some (some (.str v), 0, true)
      | none => lookup s now x := by
  rw [mset_eq]; exact mset_go_spec now kvs s hc h

example : Clean sDemo ∧ WLocks sDemo := by
  -- no record of `sDemo` has a value-object id
  have h0 : ∀ k m, Store.getMeta sDemo k = some m → m.oid = 0 := by
    intro k m h
    rcases List.mem_cons.mp (Proofs.AListLemmas2.mem_of_get? _ _ _ h) with e | hm
    · cases e; rfl
    · rcases List.mem_cons.mp hm with e | hm
      · cases e; rfl
      · cases hm
  exact ⟨Or.inr ⟨rfl, fun k _ m _ h1 _ _ hne => absurd (h0 k m h1) hne, fun k m h1 => by rw [h0 k m h1]; decide⟩,
    rfl, fun x hx => by cases hx⟩

/-- every argument list of even length is a list of pairs -/
theorem pairs_of_even (l : List Bytes) (n : Nat) (h : l.length = 2 * n) : ∃ kvs, l = flat kvs := flat_of_even n l h

/-- F11 (why the hypothesis): two records of the in-memory backend sharing one value object —
    SET on one changes what GET returns for the other -/
def sAlias : MState :=
  { index := [([97], { exp := 0, value := some (.str [1]), state := 1, oid := 7 }),
              ([98], { exp := 0, value := some (.str [1]), state := 1, oid := 7 })] }

theorem set_alias_witness :
    live sAlias 0 [98] = some (.str [1]) ∧ live (Api.set sAlias 0 [97] [2] false).1 0 [98] = some (.str [2]) := by
  decide +kernel

/-! ## 4. A command that fails leaves the keyspace unchanged -/

/-- INCR / DECR / INCRBY / DECRBY on an existing string whose text is not an int64, or whose sum
    leaves int64: error reply, logical keyspace unchanged -/
theorem addInt_failure (s : MState) (now : Int) (k : Bytes) (delta : Int) (neg : Bool) (v0 : Val) (hs : IndexSorted s)
    (hl : live s now k = some v0) (ht : isStrVal v0 = true)
    (hf : counterStep (strOf v0) delta neg = none) :
    (Api.addInt s now k delta neg).2 = .many [.int 0, .err true] ∧
    logical (Api.addInt s now k delta neg).1 now = logical s now := by
  have := addInt_ok s now k delta neg false (fun v1 h1 => by rw [hl] at h1; cases h1; exact ht)
  rw [strAt_live hl, hf] at this
  obtain ⟨h1, h2⟩ := this
  exact ⟨h1, by rw [h2]; exact logical_writeKey_live s now k _ v0 hs hl⟩

/-- the two ways to fail, in terms of the stored bytes -/
theorem addInt_nonnumeric_fails (v : Bytes) (delta : Int) (neg : Bool) (hv : v ≠ []) (hp : parseInt64 v = none) :
    counterStep (strOf (.str v)) delta neg = none := by
  unfold counterStep
  cases neg
  · exact (incr_nonnumeric v delta hv hp).1
  · exact (incr_nonnumeric v delta hv hp).2

theorem addInt_overflow_fails (n delta : Int) (neg : Bool) (hn : inInt64 n = true)
    (ho : inInt64 (if neg then n + -delta else n + delta) = false) :
    counterStep (strOf (.str (formatInt n))) delta neg = none := by
  unfold counterStep
  cases neg
  · exact incr_overflow n delta hn ho
  · exact incr_overflow n (-delta) hn ho

/-- … and the successful case: reply and stored text are those of `n ± delta` -/
theorem addInt_success (s : MState) (now : Int) (k : Bytes) (delta : Int) (neg : Bool) (h : StringOrMissing s now k)
    (v' : DsStr.S) (n : Int) (hstep : counterStep (strOf (strAt s now k)) delta neg = some (v', n)) :
    (Api.addInt s now k delta neg).2 = .many [.int n, .err false] ∧
    (Api.get (Api.addInt s now k delta neg).1 now k).2 = .bytes v' := by
  have := addInt_ok s now k delta neg false h
  rw [hstep] at this
  obtain ⟨h1, h2, _⟩ := this
  refine ⟨h1, ?_⟩
  rw [get_hot h2 (isStrVal_strVal _), strOf_strVal]

/-- F8. `DECRBY k -2^63` on a missing key: the reply is an error, yet the key exists afterwards
    (as an empty string: TYPE string, EXISTS 1, GET "") -/
theorem addInt_creates_key_finding :
    live ({} : MState) 0 [107] = none ∧
    (match (Api.addInt {} 0 [107] int64Min true).2 with | .many [.int 0, .err true] => true | _ => false) = true ∧
    live (Api.addInt {} 0 [107] int64Min true).1 0 [107] = some (.str []) := by decide +kernel

/-- F10. SETRANGE k 0 "" / SETBIT k -1 1 on a missing key reply 0 and leave an empty string key
    behind (EXISTS 1, TYPE string, GET ""); Redis creates nothing (and rejects the negative offset) -/
theorem open_creates_key_finding :
    live ({} : MState) 0 [107] = none ∧
    live (Api.setRange {} 0 [107] 0 []).1 0 [107] = some (.str []) ∧
    live (Api.setBit {} 0 [107] (-1) true).1 0 [107] = some (.str []) ∧
    (Spec.Str.step [] (.setrange [107] 0 [])).1 = [] ∧ (Spec.Str.step [] (.setbit [107] (-1) true)).1 = [] := by
  decide +kernel

example : live sDemo 0 [97] = some (.str [120, 0, 255]) ∧ isStrVal (.str [120, 0, 255]) = true ∧
    counterStep (strOf (.str [120, 0, 255])) 1 false = none := by decide +kernel

/-- any writing string command on a key that holds a list / hash / set / zset panics and leaves the
    logical keyspace unchanged -/
theorem wrongtype_writes (s : MState) (now : Int) (k : Bytes) (v0 : Val) (hs : IndexSorted s)
    (hl : live s now k = some v0) (ht : isStrVal v0 = false)
    (v : Bytes) (o : DsStr.S) (keep : Bool) (d : Int) (neg x : Bool) :
    ((Api.set s now k v keep).2 = .panic ∧ logical (Api.set s now k v keep).1 now = logical s now) ∧
    ((Api.setOpt s now k o keep).2 = .panic ∧ logical (Api.setOpt s now k o keep).1 now = logical s now) ∧
    ((Api.getSet s now k v).2 = .panic ∧ logical (Api.getSet s now k v).1 now = logical s now) ∧
    ((Api.setXX s now k v keep).2 = .panic ∧ logical (Api.setXX s now k v keep).1 now = logical s now) ∧
    ((Api.addInt s now k d neg).2 = .panic ∧ logical (Api.addInt s now k d neg).1 now = logical s now) ∧
    ((Api.setBit s now k d x).2 = .panic ∧ logical (Api.setBit s now k d x).1 now = logical s now) ∧
    ((Api.append s now k v).2 = .panic ∧ logical (Api.append s now k v).1 now = logical s now) ∧
    ((Api.setRange s now k d v).2 = .panic ∧ logical (Api.setRange s now k d v).1 now = logical s now) ∧
    ((Api.setEX s now k v d).2 = .panic ∧ logical (Api.setEX s now k v d).1 now = logical s now) ∧
    ((Api.setPX s now k v d).2 = .panic ∧ logical (Api.setPX s now k v d).1 now = logical s now) := by
  -- the string writers are key transactions deciding by `decStrWrite`: the decision panics at once
  have hw : ∀ f fail mk miss nov,
      (Proofs.C11.keyTx true mk miss nov (Proofs.C11.decStrWrite f fail) s now k).2 = .panic ∧
      logical (Proofs.C11.keyTx true mk miss nov (Proofs.C11.decStrWrite f fail) s now k).1 now = logical s now :=
    fun f fail mk miss nov =>
      have w := strWrite_wrongtype f fail mk miss nov hl ht
      ⟨w.1, logical_ext hs (wk_upd_sorted (strWrite_upd f fail mk miss nov s now k) hs) w.2⟩
  refine ⟨?_, ?_, ?_, ?_, ?_, ?_, ?_, ?_, ?_, ?_⟩
  · rw [Proofs.C11.set_eq]; exact hw _ _ _ _ _
  · rw [Proofs.C11.setOpt_eq]; exact hw _ _ _ _ _
  · obtain ⟨h1, h2⟩ := getSet_wrongtype s now k v v0 hl ht
    exact ⟨h1, logical_ext hs (wk_upd_sorted (getSet_upd s now k v) hs) h2⟩
  · rw [Proofs.C11.setXX_eq]; exact hw _ _ _ _ _
  · rw [Proofs.C11.addInt_eq]; exact hw _ _ _ _ _
  · rw [Proofs.C20.setBit_eq]
    exact hw _ _ _ _ _
  · rw [Proofs.C11.append_eq]; exact hw _ _ _ _ _
  · rw [Proofs.C20.setRange_eq]
    exact hw _ _ _ _ _
  · rw [Proofs.C11.setEX_eq]
    exact hw _ _ _ _ _
  · rw [Proofs.C11.setPX_eq]
    exact hw _ _ _ _ _

/-- the reading string commands on such a key panic as well (GET, STRLEN, GETRANGE, GETBIT, BITCOUNT) -/
theorem wrongtype_reads (s : MState) (now : Int) (k : Bytes) (v0 : Val)
    (hl : live s now k = some v0) (ht : isStrVal v0 = false) (a b : Int) (bit : Bool) :
    (Api.get s now k).2 = .panic ∧ (Api.strLen s now k).2 = .panic ∧ (Api.getRange s now k a b).2 = .panic ∧
    (Api.getBit s now k a).2 = .panic ∧ (Api.bitCount s now k a b bit).2 = .panic := by
  have h : ∀ {r : Api.R} (dflt : Out) (f : DsStr.S → Out), r = ((Store.readKey s now k).1, match live s now k with
      | none => dflt
      | some v => if isStrVal v then f (strOf v) else .panic) → r.2 = .panic := fun _ _ e => by
    rw [e, hl]; simp only [ht]; rfl
  exact ⟨h (.bytes none) .bytes (strRead_eq s now k _ _), h (.int 0) (fun v => .int (DsStr.len v)) (strRead_eq s now k _ _),
    h (.bytes none) (fun v => .bytes (DsStr.getRange v a b)) (strRead_eq s now k _ _),
    h (.int 0) (fun v => .int (DsStr.getBit v a)) (strRead_eq s now k _ _),
    h (.int 0) (fun v => .int (if bit then DsStr.bitCountByBit v a b else DsStr.bitCount v a b))
      (strRead_eq s now k _ _)⟩

/-- GET, STRLEN, GETRANGE, GETBIT, BITCOUNT, TYPE, EXISTS, KEYS never change the logical keyspace
    (whatever they find, including a wrong type, a cold value they load, an expired record) -/
theorem reads_preserve_logical (s : MState) (now : Int) (k : Bytes) (hs : IndexSorted s)
    (a b : Int) (bit : Bool) (ks : List Bytes) (pat : Bytes) :
    logical (Api.get s now k).1 now = logical s now ∧
    logical (Api.strLen s now k).1 now = logical s now ∧
    logical (Api.getRange s now k a b).1 now = logical s now ∧
    logical (Api.getBit s now k a).1 now = logical s now ∧
    logical (Api.bitCount s now k a b bit).1 now = logical s now ∧
    logical (Api.type_ s now k).1 now = logical s now ∧
    logical (Api.exists_ s now ks).1 now = logical s now ∧
    logical (Api.keys s now pat).1 now = logical s now := by
  have h : ∀ {r : Api.R} {o : Out}, r = ((Store.readKey s now k).1, o) → logical r.1 now = logical s now :=
    fun e => by rw [e]; exact logical_readKey s now k hs
  refine ⟨h (strRead_eq s now k _ _), h (strRead_eq s now k _ _), h (strRead_eq s now k _ _),
    h (strRead_eq s now k _ _), h (strRead_eq s now k _ _), ?_, ?_, ?_⟩
  · rw [(type_live s now k).2]; exact logical_readKey s now k hs
  · rw [Proofs.C01.exists_eq]
    exact logical_ext hs ((exists_fold now ks s 0).2.2 hs) (exists_fold now ks s 0).2.1
  · rw [keys_eq]

/-! ## 5. Keyspace commands -/

/-- DEL k₁ … kₙ against a reference keyspace that has the same keys: the reply is the reference
    reply (number of named keys that existed, a repeated name counting once), afterwards the same
    keys exist as in the reference, none of the named keys is live, and every record that was not
    named is untouched (value, deadline) -/
theorem del_spec (s : MState) (now : Int) (keys : List Bytes) (ks : Keyspace) (hs : IndexSorted s)
    (hr : ∀ k, Keyspace.exists_ ks k = (live s now k).isSome) :
    (Api.del s now keys).2 = .int ((Keyspace.delMany ks keys).2 : Nat) ∧
    (∀ k, Keyspace.exists_ (Keyspace.delMany ks keys).1 k = (live (Api.del s now keys).1 now k).isSome) ∧
    (∀ k, k ∈ keys → live (Api.del s now keys).1 now k = none) ∧
    (∀ k, k ∉ keys → lookup (Api.del s now keys).1 now k = lookup s now k) ∧
    IndexSorted (Api.del s now keys).1 := by
  obtain ⟨h1, h2, h3, h4, h5⟩ := del_fold now keys s 0 ks hs hr
  rw [del_eq]
  exact ⟨by rw [h1]; simp, h2, h5, h4, h3⟩

/-- EXISTS k₁ … kₙ: number of named keys that are live (a repeated name counts repeatedly) -/
theorem exists_spec (s : MState) (now : Int) (keys : List Bytes) (ks : Keyspace)
    (hr : ∀ k, Keyspace.exists_ ks k = (live s now k).isSome) :
    (Api.exists_ s now keys).2 = .int (Keyspace.existsMany ks keys : Nat) := by
  rw [Proofs.C01.exists_eq, (exists_fold now keys s 0).1]
  unfold Keyspace.existsMany
  simp only [hr, Int.zero_add]

/-- TYPE: the type name of the live value, "none" for a missing key; it never panics -/
theorem type_spec (s : MState) (now : Int) (k : Bytes) :
    (Api.type_ s now k).2 = .str (Bytes.ofString (match live s now k with
      | none => "none"
      | some v => typeName v.typeCode)) :=
  (type_live s now k).1

/-- KEYS pattern: the names of the logical keyspace that match, in byte order -/
theorem keys_spec (s : MState) (now : Int) (pat : Bytes) :
    Api.keys s now pat = (s, .slist (((logical s now).map (·.1)).filter (Glob.matched pat))) :=
  keys_eq s now pat

/-- RENAME src dst, src ≠ dst, src exists: OK; src is gone; dst holds src's value and src's
    deadline (whatever dst held before); every other record is untouched -/
theorem rename_spec (s : MState) (now : Int) (src dst : Bytes) (v : Val) (hs : IndexSorted s)
    (hl : live s now src = some v) (hne : src ≠ dst) :
    (Api.rename s now src dst).2 = .err false ∧
    live (Api.rename s now src dst).1 now src = none ∧
    live (Api.rename s now src dst).1 now dst = some v ∧
    liveExp (Api.rename s now src dst).1 now dst = some ((liveExp s now src).getD 0) ∧
    (∀ k, k ≠ src → k ≠ dst → lookup (Api.rename s now src dst).1 now k = lookup s now k) ∧
    IndexSorted (Api.rename s now src dst).1 := by
  obtain ⟨h1, h2, h3, h4, h5, h6⟩ := rename_ok s now src dst v hs hl hne
  exact ⟨h1, h2, live_of_hot h3, liveExp_of_hot h3 h4, h5, h6⟩

/-- RENAME of a missing source: error, nothing changes -/
theorem rename_missing_source (s : MState) (now : Int) (src dst : Bytes) (hs : IndexSorted s)
    (hl : live s now src = none) :
    (Api.rename s now src dst).2 = .err true ∧ logical (Api.rename s now src dst).1 now = logical s now := by
  obtain ⟨h1, h2⟩ := rename_missing s now src dst hl
  refine ⟨h1, logical_ext hs ?_ h2⟩
  rw [Proofs.C11.rename_eq, writeKey_none_flag, hl]
  exact Store.writeKey_sorted s now src none hs

/-- RENAME k k on an existing key: OK, nothing changes -/
theorem rename_same_key (s : MState) (now : Int) (k : Bytes) (v : Val) (hl : live s now k = some v) :
    (Api.rename s now k k).2 = .err false ∧ ∀ k', lookup (Api.rename s now k k).1 now k' = lookup s now k' :=
  rename_same s now k v hl

/-- RENAMENX: destination exists ⇒ error reply (Redis: integer 0), nothing changes; source
    missing ⇒ error, nothing changes; otherwise the source is gone and the destination holds the
    source's value and deadline, every other record untouched -/
theorem renameNX_spec (s : MState) (now : Int) (src dst : Bytes) (hs : IndexSorted s) :
    (∀ vd, live s now dst = some vd →
      (Api.renameNX s now src dst).2 = .err true ∧
      ∀ k, lookup (Api.renameNX s now src dst).1 now k = lookup s now k) ∧
    (live s now dst = none → live s now src = none →
      (Api.renameNX s now src dst).2 = .err true ∧
      ∀ k, lookup (Api.renameNX s now src dst).1 now k = lookup s now k) ∧
    (∀ v, live s now dst = none → live s now src = some v →
      (Api.renameNX s now src dst).2 = .err false ∧
      live (Api.renameNX s now src dst).1 now src = none ∧
      live (Api.renameNX s now src dst).1 now dst = some v ∧
      liveExp (Api.renameNX s now src dst).1 now dst = some ((liveExp s now src).getD 0) ∧
      (∀ k, k ≠ src → k ≠ dst → lookup (Api.renameNX s now src dst).1 now k = lookup s now k) ∧
      IndexSorted (Api.renameNX s now src dst).1) := by
  refine ⟨fun vd hd => renameNX_dst_exists s now src dst vd hd,
    fun hd hl => renameNX_missing s now src dst hd hl, fun v hd hl => ?_⟩
  obtain ⟨h1, h2, h3, h4, h5, h6⟩ := renameNX_ok s now src dst v hs hd hl
  exact ⟨h1, h2, live_of_hot h3, liveExp_of_hot h3 h4, h5, h6⟩

/-- non-vacuity for section 5: a reference keyspace with the keys of `sDemo`, a live source, a
    missing destination -/
example : ∀ k, Keyspace.exists_ [([97], []), ([108], [])] k = (live sDemo 0 k).isSome := by
  intro k
  by_cases h1 : k = [97]
  · subst h1; decide +kernel
  · by_cases h2 : k = [108]
    · subst h2; decide +kernel
    · have e1 : Keyspace.exists_ [([97], []), ([108], [])] k = false := by
        have a1 : ¬ ([97] : Bytes) = k := fun e => h1 e.symm
        have a2 : ¬ ([108] : Bytes) = k := fun e => h2 e.symm
        simp [Keyspace.exists_, Keyspace.get, a1, a2]
      have e2 : live sDemo 0 k = none := by
        have a1 : ¬ ([97] : Bytes) = k := fun e => h1 e.symm
        have a2 : ¬ ([108] : Bytes) = k := fun e => h2 e.symm
        simp [live, Store.getMeta, sDemo, AList.get?, a1, a2]
      rw [e1, e2]; rfl
example : live sDemo 0 [97] = some (.str [120, 0, 255]) ∧ live sDemo 0 [122] = none ∧ ([97] : Bytes) ≠ [122] := by
  decide +kernel

/-! ## 6. `IndexSorted` is an invariant -/

theorem sorted_initial : IndexSorted ({} : MState) := trivial

theorem sorted_invariant (s : MState) (now : Int) (k : Bytes) (hs : IndexSorted s)
    (v : Bytes) (keep : Bool) (d : Int) (neg x : Bool) (ks : List Bytes) (kvs : List (Bytes × Bytes)) :
    IndexSorted (Api.set s now k v keep).1 ∧ IndexSorted (Api.getSet s now k v).1 ∧
    IndexSorted (Api.setEX s now k v d).1 ∧ IndexSorted (Api.setPX s now k v d).1 ∧
    IndexSorted (Api.setNX s now k v keep).1 ∧ IndexSorted (Api.setXX s now k v keep).1 ∧
    IndexSorted (Api.addInt s now k d neg).1 ∧ IndexSorted (Api.setBit s now k d x).1 ∧
    IndexSorted (Api.append s now k v).1 ∧ IndexSorted (Api.setRange s now k d v).1 ∧
    IndexSorted (Api.mset s now (flat kvs)).1 ∧
    IndexSorted (Api.get s now k).1 ∧ IndexSorted (Api.exists_ s now ks).1 := by
  refine ⟨wk_upd_sorted (set_upd s now k v keep) hs, wk_upd_sorted (getSet_upd s now k v) hs,
    wk_upd_sorted (setPX_upd s now k v (wrap64 (d * 1000))) hs, wk_upd_sorted (setPX_upd s now k v d) hs,
    wk_upd_sorted (setNX_upd s now k v keep) hs, wk_upd_sorted (setXX_upd s now k v keep) hs,
    wk_upd_sorted (addInt_upd s now k d neg false) hs, wk_upd_sorted (setBit_upd s now k d x) hs,
    wk_upd_sorted (append_upd s now k v) hs, wk_upd_sorted (setRange_upd s now k d v) hs, ?_, ?_,
    exists_sorted s now ks hs⟩
  · rw [mset_eq]; exact mset_go_sorted now kvs s hs
  · rw [show Api.get s now k = _ from strRead_eq s now k _ _]; exact Store.readKey_sorted s now k hs

/-! ## 7. A whole command stream of one client refines the reference machine -/

/-
  The property itself: for every sequence of commands issued by one client, every reply and the
  resulting visible keyspace equal those of the Redis semantics over an abstract map key ↦ bytes.

  Reference machine: `Spec.Str.run` (Spec/Str.lean) over `Keyspace`, commands SET GET GETSET SETNX
  MSET APPEND STRLEN SETRANGE GETBIT SETBIT INCRBY DECRBY DEL EXISTS.
  Model: `driverRun` = the driver's loop of Main.lean around the embedded API (`exec`): lock set
  emptied before each call, HANG reported if the call deadlocked on itself, locks released and
  `syncShared` applied after it.
  `Refines s now ks`: the visible keyspace of `s` IS `ks` (∀ k, live s now k = (ks.get k).map .str).
  `Matches`: API result ↔ Redis reply (unit↔OK, nil slice↔nil, bytes↔bulk, int↔integer,
  bool↔0/1, (n, nil error)↔integer, (_, error)↔error reply).
  `SafeRun ks cmds`: every command, at the reference state it is issued in, lies outside the
  finding regions F4/F8/F10 and the negative-offset deviations: SETRANGE with offset ≥ 0, offset+len an int64, growth ≤ 1 GiB, and empty data only
  on an existing key within its length; GETBIT/SETBIT offset ≥ 0; INCRBY/DECRBY delta an int64
  (DECRBY not −2^63). GETRANGE, BITCOUNT, RENAME, SETEX/PSETEX, KEYS, TYPE are not in the
  machine (GETRANGE / BITCOUNT because of F1–F3, F5; the others involve deadlines or non-string
  replies); sections 2–5 cover them per command.
  The clock is the same `now` for the whole stream (the commands of the machine create no
  deadlines; keys of the initial state may carry deadlines in the future of `now`).
-/
theorem stream_refines (s : MState) (now : Int) (ks : Keyspace) (cmds : List Cmd)
    (hc : Clean s) (hs : IndexSorted s) (hR : Refines s now ks) (hsafe : SafeRun ks cmds) :
    MatchesAll (driverRun s now cmds).2 (Spec.Str.run ks cmds).2 ∧
    Refines (driverRun s now cmds).1 now (Spec.Str.run ks cmds).1 ∧
    Clean (driverRun s now cmds).1 ∧ IndexSorted (driverRun s now cmds).1 := by
  obtain ⟨h1, h2, h3⟩ := driverRun_refines now cmds s ks ⟨hc, hs⟩ hR hsafe
  exact ⟨h1, h2, h3.clean, h3.sorted⟩

/-- … in particular from a freshly opened store, on either backend -/
theorem stream_from_fresh (pebble : Bool) (now : Int) (cmds : List Cmd) (hsafe : SafeRun [] cmds) :
    MatchesAll (driverRun { pebble := pebble } now cmds).2 (Spec.Str.run [] cmds).2 ∧
    Refines (driverRun { pebble := pebble } now cmds).1 now (Spec.Str.run [] cmds).1 := by
  have hR : Refines ({ pebble := pebble } : MState) now [] := fun k => rfl
  obtain ⟨h1, h2, _⟩ := stream_refines { pebble := pebble } now [] cmds (clean_initial pebble) trivial hR hsafe
  exact ⟨h1, h2⟩

/-- one step of it: a single command outside the finding regions -/
theorem command_refines (s : MState) (now : Int) (ks : Keyspace) (c : Cmd)
    (hc : Clean s) (hs : IndexSorted s) (hR : Refines s now ks) (hsafe : Safe ks c) :
    Matches (driverStep s now c).2 (Spec.Str.step ks c).2 ∧
    Refines (driverStep s now c).1 now (Spec.Str.step ks c).1 := by
  obtain ⟨h1, h2, _⟩ := driverStep_refines s now ks c ⟨hc, hs⟩ hR hsafe
  exact ⟨h1, h2⟩

/-- what the reference machine answers on a small stream (sanity of Spec/Str.lean itself) -/
example : (Spec.Str.run [] [.set [97] [1, 0, 255], .append [97] [2], .get [97], .setrange [97] 6 [9],
    .setbit [98] 9 true, .getbit [98] 9, .mset [([97], [3]), ([99], [])], .del [[97], [122]],
    .exists_ [[97], [99], [99]], .get [98]]).2 =
    [.ok, .int 4, .bulk [1, 0, 255, 2], .int 7, .int 0, .int 1, .ok, .int 1, .int 2, .bulk [0, 64]] := by decide +kernel

/-- non-vacuity: a stream touching binary values, a counter, a missing key, DEL of two names -/
example : SafeRun [] [.set [97] [1, 0, 255], .append [97] [2], .get [97], .setrange [97] 6 [9], .incrby [110] 5,
    .decrby [110] 7, .setbit [98] 9 true, .getbit [98] 9, .mset [([97], [3]), ([99], [])], .del [[97], [122]],
    .exists_ [[97], [99], [99]], .append [122] [], .getset [122] [7], .getset [120] [8]] := by
  refine ⟨trivial, trivial, trivial, ⟨by decide, by decide, by decide, Or.inl (by decide)⟩,
    ?_, ⟨by decide, by decide⟩, ?_, ?_, trivial, trivial, trivial, trivial, trivial, trivial, trivial⟩
  · show inInt64 5 = true; decide +kernel
  · show (0 : Int) ≤ 9; decide +kernel
  · show (0 : Int) ≤ 9; decide +kernel

/-! ## 8. INCRBYFLOAT on decimal float text

  `Api.incrByFloat` = ds/str `IncrByFloat`: ParseFloat of the stored text ("0" when empty or missing), IEEE addition,
  FormatFloat(sum,'f',-1,64) stored back. The text may be any decimal float (fractions, exponents, underscores,
  inf / nan: Model/FloatDec.lean); `.unsupported` is hexadecimal floats and > 800 digits only. -/

/-- success: the reply is the exact IEEE sum, GET returns FormatFloat of it -/
theorem incrByFloat_success (s : MState) (now : Int) (k : Bytes) (delta : F64) (h : StringOrMissing s now k) (old : F64)
    (hp : Api.parseFloatText (floatText (strOf (strAt s now k))) = some (some old)) :
    (Api.incrByFloat s now k delta).2 = .many [.f64 (F64.add old delta), .err false] ∧
    (Api.get (Api.incrByFloat s now k delta).1 now k).2 = .bytes (some (FloatDec.formatShortest (F64.add old delta))) := by
  have := incrByFloat_ok s now k delta h
  rw [hp] at this
  obtain ⟨h1, h2, _⟩ := this
  refine ⟨h1, ?_⟩
  rw [get_hot h2 rfl]; rfl

/-- failure (text that is not a float, or a range error such as "1e400") on an existing string: error reply, logical
    keyspace unchanged -/
theorem incrByFloat_failure (s : MState) (now : Int) (k : Bytes) (delta : F64) (v0 : Val) (hs : IndexSorted s)
    (hl : live s now k = some v0) (ht : isStrVal v0 = true)
    (hf : Api.parseFloatText (floatText (strOf v0)) = some none) :
    (Api.incrByFloat s now k delta).2 = .many [.f64 0, .err true] ∧
    logical (Api.incrByFloat s now k delta).1 now = logical s now := by
  have := incrByFloat_ok s now k delta (fun v1 h1 => by rw [hl] at h1; cases h1; exact ht)
  rw [strAt_live hl, hf] at this
  obtain ⟨h1, h2⟩ := this
  exact ⟨h1, by rw [h2]; exact logical_writeKey_live s now k _ v0 hs hl⟩

/-- two increments in a row: the second one reads back exactly the double the first one stored (round trip of the
    shortest text; partial in the same sense as `C04.formatShortest_roundtrip_partial`: the first sum is not NaN and
    its text does not come from the 17-digit fallback), so the replies are `old + d1` and `(old + d1) + d2` -/
theorem incrByFloat_twice_partial (s : MState) (now : Int) (k : Bytes) (d1 d2 : F64) (h : StringOrMissing s now k) (old : F64)
    (hp : Api.parseFloatText (floatText (strOf (strAt s now k))) = some (some old))
    (hnan : F64.isNaN (F64.add old d1) = false)
    (hsr : F64.isInf (F64.add old d1) = true ∨ F64.isZero (F64.add old d1) = true ∨
      (FloatDec.searchShortest (F64.add old d1)).isSome = true) :
    (Api.incrByFloat s now k d1).2 = .many [.f64 (F64.add old d1), .err false] ∧
    (Api.incrByFloat (Api.incrByFloat s now k d1).1 now k d2).2 = .many [.f64 (F64.add (F64.add old d1) d2), .err false] := by
  have h0 := incrByFloat_ok s now k d1 h
  rw [hp] at h0
  obtain ⟨h1, h2, _⟩ := h0
  refine ⟨h1, ?_⟩
  have hl := live_of_hot h2
  have hso : StringOrMissing (Api.incrByFloat s now k d1).1 now k := by
    intro v1 hv1; rw [hl] at hv1; cases hv1; rfl
  have hrt := Proofs.FloatDecTrip.formatShortest_roundtrip_partial (F64.add old d1) hnan hsr
  have hne : (FloatDec.formatShortest (F64.add old d1)).isEmpty = false := by
    cases ht : FloatDec.formatShortest (F64.add old d1) with
    | nil =>
      have hnil : FloatDec.parseFloat [] = some none := by decide +kernel
      rw [ht, hnil] at hrt; cases hrt
    | cons _ _ => rfl
  have hp2 : Api.parseFloatText (floatText (strOf (strAt (Api.incrByFloat s now k d1).1 now k))) =
      some (some (F64.add old d1)) := by
    rw [strAt_live hl]
    show Api.parseFloatText (floatText (some (FloatDec.formatShortest (F64.add old d1)))) = _
    unfold floatText DsStr.bytes
    simp only [Option.getD_some, hne, Bool.false_eq_true, if_false]
    exact hrt
  exact (incrByFloat_success _ now k d2 hso _ hp2).1

/-- non-vacuity: "10.5" under key "f", +0.1 twice: replies 10.6 and 10.7 (as doubles), GET "10.6" after the first -/
example :
    let s0 := (Api.set {} 0 [102] (Bytes.ofString "10.5") false).1
    (match (Api.incrByFloat s0 0 [102] 0x3FB999999999999A).2 with
      | .many [.f64 x, .err false] => x == 0x4025333333333333 | _ => false) = true ∧
    (match (Api.get (Api.incrByFloat s0 0 [102] 0x3FB999999999999A).1 0 [102]).2 with
      | .bytes (some t) => t == Bytes.ofString "10.6" | _ => false) = true ∧
    (match (Api.incrByFloat (Api.incrByFloat s0 0 [102] 0x3FB999999999999A).1 0 [102] 0x3FB999999999999A).2 with
      | .many [.f64 x, .err false] => x == 0x4025666666666666 | _ => false) = true := by decide +kernel

/-- … and a failing text: "1e400" (range error) is answered with an error and left alone -/
example :
    let s0 := (Api.set {} 0 [102] (Bytes.ofString "1e400") false).1
    (match (Api.incrByFloat s0 0 [102] 1).2 with | .many [.f64 0, .err true] => true | _ => false) = true ∧
    (match (Api.get (Api.incrByFloat s0 0 [102] 1).1 0 [102]).2 with
      | .bytes (some t) => t == Bytes.ofString "1e400" | _ => false) = true := by decide +kernel

/-
  UNPROVED / not covered:
  * INCRBYFLOAT: outside the model are hexadecimal float text and more than 800 significant digits (`.unsupported`);
    the general round trip depends on the unproved 17-digit sufficiency (C04.formatShortest_roundtrip_partial).
  * RANDOMKEY, DBSIZE, FLUSHDB/FLUSHALL, UNLINK, SET with the GET option: not among the model
    functions listed for C01 (`randomKey` is relational, `Store.clear` is FLUSH); no theorem.
  * The network-protocol half of the property (argument parsing, reply encoding): out of the model
    under proof here.
  * Frame ("other keys untouched") of the one-key writing commands on the in-memory backend is
    false in general states (`set_alias_witness`); it is proved under `Clean` (inside
    `command_refines` / `stream_refines` and `mset_spec`), not for arbitrary states.
  * The stream theorem (section 7) covers 14 commands and only states whose live keys are all
    filled strings; GETRANGE / BITCOUNT / RENAME / RENAMENX / SETEX / PSETEX / KEYS / TYPE / SETXX
    are specified per command (sections 2–5) but are not part of the reference machine.
  * Varying clock along a stream (expiry between commands) is not modelled in section 7.
-/

end NodisVerif.C01

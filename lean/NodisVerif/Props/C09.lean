import NodisVerif.Proofs.C09Sound
import NodisVerif.Proofs.C09Full
import NodisVerif.Proofs.C09IncrExec
import NodisVerif.Proofs.GateProgExamples
import NodisVerif.Proofs.GeoReads
import NodisVerif.Proofs.C11Examples
import NodisVerif.Proofs.GateProgRun
/-
  C09 — WATCH is sound optimistic locking: a changed watched key always aborts EXEC.

  Stated about `step` / `run` of Proofs/C08Step.lean for an ARBITRARY handler table `H`, arbitrary
  closures, any number of connections, any command-granularity schedule, starting in any server
  state satisfying the reachable-state invariant `RegWF` (holds initially, preserved by every step:
  `C08.regWF_reachable`).

  "A step signalled k" is `stepTouches H s m k`: one of the closures the step ran (`stepOuts`: the
  closure of a command served outside MULTI, or the queued closures of an EXEC that runs) returned a
  store whose `signalled` list contains k — i.e. the API passed k to `signalModifiedKey` — or whose
  `flushed` bit is set (`Nodis.Clear()` ran: FLUSHDB / FLUSHALL).  Which API writes signal which
  keys is the table `writers_signal_*` (section Writers of this file, from the `frame_*` lemmas of Proofs/C09Writers*.lean).
  (Imports: Proofs/C11Examples and GeoReads serve section table4 only - `save_keeps_logical_partial` and the GEO reads.)
-/
namespace NodisVerif.C09
open NodisVerif.Proofs.C08Step Resp Server

variable (H : Table)

/-- WATCH k₁ … kₙ outside MULTI: reply OK, store untouched; the connection is registered for every
    kⱼ; a key it did not watch yet starts with flag false; a key it already watched KEEPS its flag
    (watching again does not launder an earlier modification); state and queue unchanged -/
theorem watch_registers (sv : Server) (c : Cmd) (hn : c.name = "WATCH")
    (hacc : (sv.conn c.id).state % 2 ≠ 1) (hne : c.args ≠ []) :
    (step H sv c).2 = [okTok] ∧ (step H sv c).1.store = sv.store ∧
    (∀ k ∈ c.args, registered (step H sv c).1 c.id k) ∧
    (∀ x, AList.get? ((step H sv c).1.conn c.id).watch x =
        if x ∈ c.args ∧ AList.get? (sv.conn c.id).watch x = none then some false
        else AList.get? (sv.conn c.id).watch x) ∧
    ((step H sv c).1.conn c.id).state = (sv.conn c.id).state ∧
    ((step H sv c).1.conn c.id).queue = (sv.conn c.id).queue := by
  rw [step_watch H sv c hn hacc hne]
  refine ⟨rfl, watchLoop_store _ _ _, ?_, watchLoop_watch _ _ _, (watchLoop_state_queue _ _ _).1,
    (watchLoop_state_queue _ _ _).2⟩
  intro k hk
  exact (watchLoop_registered c.id c.id k c.args sv).mpr (Or.inr ⟨rfl, hk⟩)

/-- WATCH inside MULTI is refused (error reply, which also aborts the transaction: C08) -/
theorem watch_inside_multi (sv : Server) (c : Cmd) (hn : c.name = "WATCH") (hst : (sv.conn c.id).state % 2 = 1) :
    (step H sv c).2 = [Tok.err 0] ∧ (step H sv c).1.registry = sv.registry ∧
    ((step H sv c).1.conn c.id).watch = (sv.conn c.id).watch := by
  simp only [step, dispatch_watch H sv c hn, watch_eq, if_pos hst, afterHandler_registry, afterHandler_watch]
  simp

/-- if connection `i` is registered for `k` and a step — of any connection, `i` included, except a
    step by which `i` itself ends its watches — has a store effect with `k ∈ signalled`, then `i`'s
    flag for `k` is true afterwards -/
theorem signal_sets_flag {sv : Server} (hwf : RegWF sv) (m : Cmd) (i : String) (k : Bytes)
    (hreg : registered sv i k) (hsig : ∃ o ∈ stepOuts H sv m, k ∈ o.store.signalled)
    (hc : ¬ (m.id = i ∧ clearsWatch sv m)) :
    AList.get? ((step H sv m).1.conn i).watch k = some true := by
  obtain ⟨o, ho, hk⟩ := hsig
  exact (step_keeps H hwf m i hc).hit k ⟨o, ho, Or.inl hk⟩ hreg

/-- … and stays true until EXEC / DISCARD / (running) UNWATCH of `i` -/
theorem flag_stays {sv : Server} (hwf : RegWF sv) (i : String) (k : Bytes) (ms : List Cmd)
    (hflag : AList.get? (sv.conn i).watch k = some true)
    (hms : AllSteps H (notClearedBy i) sv ms) :
    AList.get? ((run H sv ms).1.conn i).watch k = some true :=
  (run_keeps H i ms sv hwf hms).mono k hflag

/-- a step whose store effect has `flushed = true` (FLUSHDB / FLUSHALL ran) sets the flag of every
    registered (connection, key) pair -/
theorem flush_aborts {sv : Server} (hwf : RegWF sv) (m : Cmd) (hfl : ∃ o ∈ stepOuts H sv m, o.store.flushed = true)
    (i : String) (k : Bytes) (hreg : registered sv i k) (hc : ¬ (m.id = i ∧ clearsWatch sv m)) :
    AList.get? ((step H sv m).1.conn i).watch k = some true := by
  obtain ⟨o, ho, hk⟩ := hfl
  exact (step_keeps H hwf m i hc).hit k ⟨o, ho, Or.inr hk⟩ hreg

/-
  Property text: "if some step strictly between the WATCH and the EXEC signalled k, that EXEC replies
  null and has no effect".  `exec` tests, in this order: prepared?  MultiError bit?  watch flags?
  empty queue?  So with a dirty watch every prepared transaction without a queue-time error — the
  EMPTY one included (this was a finding before the `fix:` of `exec`; `dirty_watch_empty_transaction_replies_null`
  below) — replies null.  A queue-time error replies `-EXECABORT` (as in Redis), EXEC without MULTI an error;
  "no effect" holds always.
-/

/-- In any schedule: connection `w.id` WATCHes k outside MULTI (`w`, served in state `sv`); `mid` are
    the commands of all connections served afterwards, among them none by which `w.id` ends its
    watches (so `e` is its first EXEC after the WATCH, and no DISCARD / running UNWATCH in between);
    some step of `mid` — by any connection, `w.id` included — signalled k.  Then the EXEC `e` of
    `w.id` has NO EFFECT (store unchanged, no closure runs), and, if the connection is in MULTI
    without a queue-time error, it replies exactly null — whatever the queue holds. -/
theorem watch_sound {sv : Server} (hwf : RegWF sv) (w e : Cmd) (mid : List Cmd) (k : Bytes)
    (hw : w.name = "WATCH") (hk : k ∈ w.args) (hacc : (sv.conn w.id).state % 2 ≠ 1)
    (hmid : AllSteps H (notClearedBy w.id) (step H sv w).1 mid)
    (hsig : SomeStep H (fun s m => stepTouches H s m k) (step H sv w).1 mid)
    (he : e.name = "EXEC") (hid : e.id = w.id) :
    let svE := (run H (step H sv w).1 mid).1
    (step H svE e).1.store = svE.store ∧ stepOuts H svE e = [] ∧
    ((svE.conn e.id).state % 2 = 1 → ((svE.conn e.id).state / 4) % 2 ≠ 1 →
      (step H svE e).2 = [Tok.nullBulk]) := by
  intro svE
  have hne : w.args ≠ [] := by intro h; rw [h] at hk; cases hk
  have hreg : registered (step H sv w).1 w.id k := (watch_registers H sv w hw hacc hne).2.2.1 k hk
  have hflag : AList.get? (svE.conn e.id).watch k = some true := by
    rw [hid]; exact (run_keeps H w.id mid _ (hwf.step H w) hmid).hit k hsig hreg
  have hany := not_clean_of_flag hflag
  rw [step_exec H svE e he]
  refine ⟨exec_flag_no_effect svE e.id e.now hany, ?_, ?_⟩
  · rw [stepOuts_exec H svE e he, if_neg (fun h => by rw [h.2.2.2] at hany; cases hany)]
  · intro h1 h2
    rw [exec_watch_abort svE e.id e.now h1 h2 hany]

/-- in the words of the property: the EXEC of a transaction (state "prepare", no queue-time error;
    any queue, empty or not) replies null and leaves the store unchanged -/
theorem watch_sound_null_reply {sv : Server} (hwf : RegWF sv) (w e : Cmd) (mid : List Cmd) (k : Bytes)
    (hw : w.name = "WATCH") (hk : k ∈ w.args) (hacc : (sv.conn w.id).state % 2 ≠ 1)
    (hmid : AllSteps H (notClearedBy w.id) (step H sv w).1 mid)
    (hsig : SomeStep H (fun s m => stepTouches H s m k) (step H sv w).1 mid)
    (he : e.name = "EXEC") (hid : e.id = w.id)
    (hst : ((run H (step H sv w).1 mid).1.conn e.id).state = multiPrepare) :
    (step H (run H (step H sv w).1 mid).1 e).2 = [Tok.nullBulk] ∧
    (step H (run H (step H sv w).1 mid).1 e).1.store = (run H (step H sv w).1 mid).1.store := by
  obtain ⟨a, _, c⟩ := watch_sound H hwf w e mid k hw hk hacc hmid hsig he hid
  exact ⟨c (by rw [hst]; rfl) (by rw [hst]; decide), a⟩

/-- a sufficient, purely syntactic condition for `hmid`: between its WATCH and its EXEC the
    connection sends no EXEC, DISCARD or UNWATCH -/
theorem notCleared_of_names (i : String) (sv : Server) (mid : List Cmd)
    (h : ∀ m ∈ mid, m.id = i → m.name ≠ "EXEC" ∧ m.name ≠ "DISCARD" ∧ m.name ≠ "UNWATCH") :
    AllSteps H (notClearedBy i) sv mid := by
  apply AllSteps.of_forall
  intro m hm s ⟨hi, hc⟩
  obtain ⟨a, b, c⟩ := h m hm hi
  rcases hc with hc | hc | ⟨hc, _⟩
  · exact a hc
  · exact b hc
  · exact c hc

/-- the position view of `hsig`: the schedule is `m1 ++ m :: m2` and `m`, served after `m1`, signals k -/
theorem someStep_of_split (sv : Server) (m1 m2 : List Cmd) (m : Cmd) (k : Bytes)
    (h : stepTouches H (run H sv m1).1 m k) :
    SomeStep H (fun s m => stepTouches H s m k) sv (m1 ++ m :: m2) :=
  SomeStep.of_split H m1 m m2 sv h

/-! ## no false aborts -/

/-- if no flag of connection `i` is set, and no step of the schedule `mid` (by anybody) signals a key
    that `i` watches at that moment (nor flushes while `i` watches something), then no flag is set
    when `i`'s EXEC arrives, and the EXEC of a clean non-empty transaction RUNS the queue -/
theorem no_signal_no_abort {sv : Server} (hwf : RegWF sv) (i : String) (mid : List Cmd) (e : Cmd)
    (hcl : (sv.conn i).watch.any (·.2) = false)
    (hq : AllSteps H (fun s m => ∀ x, AList.contains (s.conn i).watch x = true → ¬ stepTouches H s m x) sv mid)
    (he : e.name = "EXEC") (hid : e.id = i) :
    let svE := (run H sv mid).1
    (svE.conn i).watch.any (·.2) = false ∧
    ((svE.conn i).state = multiPrepare → (svE.conn i).queue ≠ [] →
      (step H svE e).1.store = execStore svE.store e.now (svE.conn i).queue ∧
      (step H svE e).2 = Tok.arr (svE.conn i).queue.length ::
          (execOuts svE.store e.now (svE.conn i).queue).flatMap replyOf ∧
      stepOuts H svE e = execOuts svE.store e.now (svE.conn i).queue) := by
  intro svE
  have hclean : (svE.conn i).watch.any (·.2) = false :=
    (clean_iff_any _).mp (run_keeps_clean H i mid sv hwf ((clean_iff_any _).mpr hcl) hq)
  refine ⟨hclean, ?_⟩
  intro hst hne
  subst hid
  exact step_exec_runs H svE e he hst hne hclean

/-! ## watches end -/

/-- after EXEC, DISCARD or a running UNWATCH of connection `c.id` its watch map is empty and it is in
    no registry list; whatever is signalled afterwards (`mid`: any commands of any connections, none
    of them a WATCH by `c.id`) its watch map stays empty, so its next transaction cannot be aborted
    by a watch: the EXEC of a clean non-empty transaction runs the queue -/
theorem watch_ends {sv : Server} (hwf : RegWF sv) (c : Cmd) (hc : clearsWatch sv c) (mid : List Cmd) (e : Cmd)
    (hmid : ∀ m ∈ mid, ¬ (m.id = c.id ∧ m.name = "WATCH")) (he : e.name = "EXEC") (hid : e.id = c.id) :
    let sv1 := (step H sv c).1
    let svE := (run H sv1 mid).1
    (sv1.conn c.id).watch = [] ∧ (∀ x, ¬ registered sv1 c.id x) ∧
    (svE.conn c.id).watch = [] ∧ (∀ x, ¬ registered svE c.id x) ∧
    ((svE.conn c.id).state = multiPrepare → (svE.conn c.id).queue ≠ [] →
      (step H svE e).1.store = execStore svE.store e.now (svE.conn c.id).queue ∧
      (step H svE e).2 = Tok.arr (svE.conn c.id).queue.length ::
          (execOuts svE.store e.now (svE.conn c.id).queue).flatMap replyOf) := by
  intro sv1 svE
  have hwf1 : RegWF sv1 := hwf.step H c
  have hwfE : RegWF svE := RegWF.run H mid hwf1
  have h1 : (sv1.conn c.id).watch = [] := step_own_clears H hwf c hc
  have hE : (svE.conn c.id).watch = [] := run_keeps_unwatched H c.id mid sv1 hwf1 h1 hmid
  refine ⟨h1, hwf1.not_registered_of_watch_nil h1, hE, hwfE.not_registered_of_watch_nil hE, ?_⟩
  intro hst hne
  rw [step_exec H svE e he, hid]
  exact exec_runs svE c.id e.now (by rw [hst]; rfl) (by rw [hst]; decide) hne (by rw [hE]; rfl)

/-- an UNWATCH inside MULTI is only queued: it does not end the watches before EXEC (and EXEC's own
    reset ends them anyway) -/
theorem unwatch_inside_multi (sv : Server) (c : Cmd) (hn : c.name = "UNWATCH") (hst : (sv.conn c.id).state % 2 = 1) :
    (step H sv c).2 = [queuedTok] ∧ ((step H sv c).1.conn c.id).watch = (sv.conn c.id).watch ∧
    (step H sv c).1.registry = sv.registry := by
  have hr : ¬ runsNow (sv.conn c.id).state := by unfold runsNow multiCommit; omega
  simp only [step, dispatch_unwatch H sv c hn, if_neg hr, execCommand_eq, afterHandler_watch, afterHandler_registry,
    conn_setConn_same, if_pos hst]
  simp


/-! ## a change implies a signal

  `C09Writers.changed s s' k`: the logical content of the index record named k differs between s and
  s' — existence, liveness bit, deadline, record identity (`kid`: a re-created record), or value
  (a cold record becoming hot by a load is NOT a change).
  `TableSignals H`: every closure `H` hands to `execCommand`, started on a Pebble-backed store with an
  empty `signalled` list, leaves every key it changed in `signalled` (or sets `flushed`).  It is the
  explicit well-formedness predicate of the handler table for C09; it is discharged command by command
  from the `frame_*` lemmas behind the `writers_signal_*` table below (`Proofs/C09Table1*.lean` … `C09Table4.lean`).
-/

/-- soundness in the words of the property: if the logical content of a WATCHed key k was CHANGED by
    some step — of any client — between the WATCH and the EXEC, the EXEC has no effect and (transaction
    without queue-time error) replies null -/
theorem watch_sound_changed {H : Table} (hH : TableSignals H) {sv : Server} (hwf : RegWF sv) (hq : QueuesSignal sv)
    (hp : sv.store.pebble = true) (w e : Cmd) (mid : List Cmd) (k : Bytes)
    (hw : w.name = "WATCH") (hk : k ∈ w.args) (hacc : (sv.conn w.id).state % 2 ≠ 1)
    (hmid : AllSteps H (notClearedBy w.id) (step H sv w).1 mid)
    (hch : SomeStep H (fun s m => Proofs.C09Writers.changed s.store (step H s m).1.store k) (step H sv w).1 mid)
    (he : e.name = "EXEC") (hid : e.id = w.id) :
    let svE := (run H (step H sv w).1 mid).1
    (step H svE e).1.store = svE.store ∧ stepOuts H svE e = [] ∧
    ((svE.conn e.id).state % 2 = 1 → ((svE.conn e.id).state / 4) % 2 ≠ 1 →
      (step H svE e).2 = [Tok.nullBulk]) :=
  watch_sound H hwf w e mid k hw hk hacc hmid
    (someStep_changed_touches hH k mid _ (SigInv.step hH ⟨hq, hp⟩ w) hch) he hid

/-- the invariants used by `watch_sound_changed` hold initially and along every schedule -/
theorem sigInv_reachable {H : Table} (hH : TableSignals H) (st : MState) (hp : st.pebble = true) (cs : List Cmd) :
    QueuesSignal (run H { store := st } cs).1 ∧ (run H { store := st } cs).1.store.pebble = true :=
  SigInv.run hH cs ⟨QueuesSignal.init st, hp⟩

/-! ### the server's complete dispatch: `fullTable = Driver.lookup [table1, table2, table3, table4]`

  (connection / keyspace / strings; lists / hashes / sets; sorted sets and the *SCAN commands —
  `Main.tables`).  FULL STATEMENT `TableSignals fullTable` is FALSE / not fully proved; the exact
  status, command by command:
  * FALSE, genuine finding (`table_signals_finding`): `DECRBY k -9223372036854775808` on a missing key
    creates k (the empty string), fails with the overflow error and signals nothing.
  * FALSE only on stores holding an EXISTING EMPTY sorted set (`T3.signals_zRem_region_witness` …):
    ZREM / ZREMRANGEBYRANK / ZREMRANGEBYSCORE unlink such a record without signalling.  Since the
    repairs of ZADD LT|GT and ZUNIONSTORE no API call sequence is known that produces such a record
    (data-structure lemmas `zAdd_nonempty` … in Proofs/C09Writers3.lean), but no
    reachability invariant is proved, and `TableSignals` quantifies over all stores — so the three
    commands are excluded from the table-level theorem and covered by `table3_tells_partial` below
    (store-relative region).
  * NOT PROVED: SCAN with a TYPE option (it loads cold records; needs an index invariant).
  * NOT PROVED: SAVE (`Store.flush` rewrites the persistence bookkeeping of every record; that it leaves the
    logical content alone is C11 / C12's subject, not shown again here).
  * (GEOADD with NX / XX as argument 1 would build a closure around `GeoAddNX`, which creates the key without
    signalling - docs/WP-D-findings.md D-8; `geoadd_option_words_never_run` shows the handler never gets that far, so
    nothing is excluded there.)
  * everything else — all other commands and option combinations of the four tables, GEOADD and the
    GEO reads included (`table4_signals`) — signals every key it changes: `fullSafe_signals`.
-/

/-- the complete dispatch minus the excluded region satisfies the well-formedness predicate -/
theorem fullSafe_signals : TableSignals fullSafe := Proofs.C08Step.fullSafe_signals

/-- … and outside the excluded region it IS the server's dispatch -/
theorem fullSafe_is_fullTable (name : String) (args : List Bytes) (h : ¬ excluded name args) :
    fullSafe name args = fullTable name args := fullSafe_eq name args h

/-- per family table, outside the regions -/
theorem table1_signals_partial (name : String) (args : List Bytes) (b : Body)
    (h : Handler.table1 name args = some (.exec b)) (hreg : name = "DECRBY" → decrByMin true args = false)
    (hsc : ¬ scanTyped name args) : SignalsChanges b :=
  Proofs.C08Step.table1_signals_partial name args b h hreg hsc

theorem table2_signals : TableSignals Handler2.table2 := Proofs.C08Step.table2_signals

theorem table3_signals_partial (name : String) (args : List Bytes) (b : Body)
    (h : Handler3.table3 name args = some (.exec b)) (hn : name ∉ T3.zRemNames) : SignalsChanges b :=
  T3.table3_signals_partial name args b h hn

/-- the ZREM family on every store in which the key does not hold an existing empty sorted set -/
theorem table3_tells_partial (name : String) (args : List Bytes) (b : Body)
    (h : Handler3.table3 name args = some (.exec b)) (st : MState) (now : Int) (ch : Choice)
    (hp : st.pebble = true) (hsig : st.signalled = [])
    (hreg : name ∈ T3.zRemNames → T3.zRemRegion st now args = false) : TellsChanges st (b st now ch) :=
  T3.table3_tells_region name args b h st now ch hp hsig hreg

/-- witness of the DECRBY finding, and the consequence for the table -/
theorem table_signals_finding :
    (∃ b, Handler.incrDecrBy true decrByMinArgs = .exec b ∧
      let st : MState := { pebble := true }
      let o := b st 0 none
      Proofs.C09Writers.changed st o.store [107] ∧ [107] ∉ o.store.signalled ∧ o.store.flushed = false) ∧
    ¬ TableSignals Handler.table1 :=
  ⟨signals_incrDecrBy_finding, table1_signals_false⟩

/-- soundness for the server's dispatch, in the words of the property, from a fresh server on any
    Pebble-backed store: `pre` is any history; connection `w.id` WATCHes k; if afterwards ANY command of
    ANY connection (outside the excluded region) CHANGES the logical content of k before `w.id`'s next
    EXEC, that EXEC has no effect, and replies null (transaction without queue-time error, any queue) -/
theorem watch_sound_full (st : MState) (hp : st.pebble = true) (pre mid : List Cmd) (w e : Cmd) (k : Bytes)
    (hw : w.name = "WATCH") (hk : k ∈ w.args)
    (hacc : ((run fullSafe { store := st } pre).1.conn w.id).state % 2 ≠ 1)
    (hmid : ∀ m ∈ mid, m.id = w.id → m.name ≠ "EXEC" ∧ m.name ≠ "DISCARD" ∧ m.name ≠ "UNWATCH")
    (hch : SomeStep fullSafe (fun s m => Proofs.C09Writers.changed s.store (step fullSafe s m).1.store k)
      (step fullSafe (run fullSafe { store := st } pre).1 w).1 mid)
    (he : e.name = "EXEC") (hid : e.id = w.id) :
    let svE := (run fullSafe { store := st } (pre ++ w :: mid)).1
    (step fullSafe svE e).1.store = svE.store ∧
    ((svE.conn e.id).state = multiPrepare → (step fullSafe svE e).2 = [Tok.nullBulk]) := by
  intro svE
  have hinv := sigInv_reachable fullSafe_signals st hp pre
  have hwf : RegWF (run fullSafe { store := st } pre).1 := RegWF.run fullSafe pre (RegWF.init st)
  have e1 : svE = (run fullSafe (step fullSafe (run fullSafe { store := st } pre).1 w).1 mid).1 := by
    simp only [svE, run_append, run_cons]
  obtain ⟨a, _, c⟩ := watch_sound_changed fullSafe_signals hwf hinv.1 hinv.2 w e mid k hw hk hacc
    (notCleared_of_names fullSafe w.id _ mid hmid) hch he hid
  rw [← e1] at a c
  exact ⟨a, fun h1 => c (by rw [h1]; rfl) (by rw [h1]; decide)⟩

/-! ## the API side: writers signal

  One theorem per exported write method of *Nodis: whenever the call changes the logical content of
  ANY key k (its own keys and all others), k is in `signalled` afterwards.  Pebble backend
  (`hypothesis_pebble_is_necessary`: with the in-memory backend `setVal` rewrites every record that
  shares the value object).  After the repairs of ZADD LT|GT and Z*STORE those hold at full strength.
  Still FALSE as stated, given as `_partial` (outside an explicit decidable region) + witness:
  * addInt (DECRBY -2^63 on a missing key) and setRange (offset MaxInt64, embedded API only):
    genuine `_finding`s, reachable from the empty store;
  * zrem, zremRangeByRank, zremRangeByScore on an existing EMPTY sorted set: `_region_witness` on a
    hand-written store that is not known to be reachable any more (see above).
-/
section Writers
open NodisVerif.Store NodisVerif.Api NodisVerif.Proofs.C09Writers

theorem writers_signal_set (s : MState) (hp : s.pebble = true) (now : Int) (key value : Bytes) (keepTTL : Bool) (k : Bytes) :
    changed s (Api.set s now key value keepTTL).1 k → k ∈ (Api.set s now key value keepTTL).1.signalled :=
  (Proofs.C09Writers.frame_set s hp now key value keepTTL).sound k

theorem writers_signal_setOpt (s : MState) (hp : s.pebble = true) (now : Int) (key : Bytes) (value : DsStr.S) (keepTTL : Bool) (k : Bytes) :
    changed s (Api.setOpt s now key value keepTTL).1 k → k ∈ (Api.setOpt s now key value keepTTL).1.signalled :=
  (Proofs.C09Writers.frame_setOpt s hp now key value keepTTL).sound k

theorem writers_signal_setNX (s : MState) (hp : s.pebble = true) (now : Int) (key value : Bytes) (keepTTL : Bool) (k : Bytes) :
    changed s (Api.setNX s now key value keepTTL).1 k → k ∈ (Api.setNX s now key value keepTTL).1.signalled :=
  (Proofs.C09Writers.frame_setNX s hp now key value keepTTL).sound k

theorem writers_signal_setXX (s : MState) (hp : s.pebble = true) (now : Int) (key value : Bytes) (keepTTL : Bool) (k : Bytes) :
    changed s (Api.setXX s now key value keepTTL).1 k → k ∈ (Api.setXX s now key value keepTTL).1.signalled :=
  (Proofs.C09Writers.frame_setXX s hp now key value keepTTL).sound k

theorem writers_signal_getSet (s : MState) (hp : s.pebble = true) (now : Int) (key value : Bytes) (k : Bytes) :
    changed s (Api.getSet s now key value).1 k → k ∈ (Api.getSet s now key value).1.signalled :=
  (Proofs.C09Writers.frame_getSet s hp now key value).sound k

theorem writers_signal_setEX (s : MState) (hp : s.pebble = true) (now : Int) (key value : Bytes) (seconds : Int) (k : Bytes) :
    changed s (Api.setEX s now key value seconds).1 k → k ∈ (Api.setEX s now key value seconds).1.signalled :=
  (Proofs.C09Writers.frame_setEX s hp now key value seconds).sound k

theorem writers_signal_setPX (s : MState) (hp : s.pebble = true) (now : Int) (key value : Bytes) (ms : Int) (k : Bytes) :
    changed s (Api.setPX s now key value ms).1 k → k ∈ (Api.setPX s now key value ms).1.signalled :=
  (Proofs.C09Writers.frame_setPX s hp now key value ms).sound k

theorem writers_signal_append (s : MState) (hp : s.pebble = true) (now : Int) (key value : Bytes) (k : Bytes) :
    changed s (Api.append s now key value).1 k → k ∈ (Api.append s now key value).1.signalled :=
  (Proofs.C09Writers.frame_append s hp now key value).sound k

theorem writers_signal_setBit (s : MState) (hp : s.pebble = true) (now : Int) (key : Bytes) (offset : Int) (value : Bool) (k : Bytes) :
    changed s (Api.setBit s now key offset value).1 k → k ∈ (Api.setBit s now key offset value).1.signalled :=
  (Proofs.C09Writers.frame_setBit s hp now key offset value).sound k

theorem writers_signal_mset (s : MState) (hp : s.pebble = true) (now : Int) (pairs : List Bytes) (k : Bytes) :
    changed s (Api.mset s now pairs).1 k → k ∈ (Api.mset s now pairs).1.signalled :=
  (Proofs.C09Writers.frame_mset s hp now pairs).sound k

/-- INCR/INCRBY/DECR/DECRBY outside the finding region (see `writers_signal_addInt_finding`): the key is
    live, or the sum on the freshly created empty string stays inside int64 -/
theorem writers_signal_addInt_partial (s : MState) (hp : s.pebble = true) (now : Int) (key : Bytes) (delta : Int) (neg sw : Bool) (hreg : live s now key = true ∨ inInt64 (if neg then -delta else delta) = true) (k : Bytes) :
    changed s (Api.addInt s now key delta neg sw).1 k → k ∈ (Api.addInt s now key delta neg sw).1.signalled :=
  (Proofs.C09Writers.frame_addInt s hp now key delta neg sw hreg).sound k

/-- witness: `DecrBy(k, math.MinInt64)` on a missing key: the record is created (an empty string now
    exists under `k`), the overflow error is returned, nothing is signalled -/
theorem writers_signal_addInt_finding :
    let s : MState := { pebble := true }
    let s' := (Api.addInt s 0 [107] int64Min true).1
    changed s s' [107] ∧ [107] ∉ s'.signalled :=
  by decide

/-- SETRANGE outside the finding region (see `writers_signal_setRange_finding`): the key is live, or
    `SetRange` does not panic on the freshly created empty string -/
theorem writers_signal_setRange_partial (s : MState) (hp : s.pebble = true) (now : Int) (key : Bytes) (offset : Int) (value : Bytes) (hreg : live s now key = true ∨ (DsStr.setRange none offset value).isSome = true) (k : Bytes) :
    changed s (Api.setRange s now key offset value).1 k → k ∈ (Api.setRange s now key offset value).1.signalled :=
  (Proofs.C09Writers.frame_setRange s hp now key offset value hreg).sound k

/-- witness (embedded API; the RESP handler rejects such offsets): `SetRange(k, math.MaxInt64, "x")` on a
    missing key: the record is created, `offset+len` wraps negative, `s.V[offset:]` panics (slice bounds),
    nothing is signalled -/
theorem writers_signal_setRange_finding :
    let s : MState := { pebble := true }
    let s' := (Api.setRange s 0 [107] 9223372036854775807 [120]).1
    changed s s' [107] ∧ [107] ∉ s'.signalled :=
  by decide

theorem writers_signal_del (s : MState) (hp : s.pebble = true) (now : Int) (keys : List Bytes) (k : Bytes) :
    changed s (Api.del s now keys).1 k → k ∈ (Api.del s now keys).1.signalled :=
  (Proofs.C09Writers.frame_del s hp now keys).sound k

theorem writers_signal_expire (s : MState) (hp : s.pebble = true) (now : Int) (key : Bytes) (seconds : Int) (k : Bytes) :
    changed s (Api.expire s now key seconds).1 k → k ∈ (Api.expire s now key seconds).1.signalled :=
  (Proofs.C09Writers.frame_expire s hp now key seconds).sound k

theorem writers_signal_expirePX (s : MState) (hp : s.pebble = true) (now : Int) (key : Bytes) (ms : Int) (k : Bytes) :
    changed s (Api.expirePX s now key ms).1 k → k ∈ (Api.expirePX s now key ms).1.signalled :=
  (Proofs.C09Writers.frame_expirePX s hp now key ms).sound k

theorem writers_signal_expireNX (s : MState) (hp : s.pebble = true) (now : Int) (key : Bytes) (seconds : Int) (k : Bytes) :
    changed s (Api.expireNX s now key seconds).1 k → k ∈ (Api.expireNX s now key seconds).1.signalled :=
  (Proofs.C09Writers.frame_expireNX s hp now key seconds).sound k

theorem writers_signal_expireXX (s : MState) (hp : s.pebble = true) (now : Int) (key : Bytes) (seconds : Int) (k : Bytes) :
    changed s (Api.expireXX s now key seconds).1 k → k ∈ (Api.expireXX s now key seconds).1.signalled :=
  (Proofs.C09Writers.frame_expireXX s hp now key seconds).sound k

theorem writers_signal_expireLT (s : MState) (hp : s.pebble = true) (now : Int) (key : Bytes) (seconds : Int) (k : Bytes) :
    changed s (Api.expireLT s now key seconds).1 k → k ∈ (Api.expireLT s now key seconds).1.signalled :=
  (Proofs.C09Writers.frame_expireLT s hp now key seconds).sound k

theorem writers_signal_expireGT (s : MState) (hp : s.pebble = true) (now : Int) (key : Bytes) (seconds : Int) (k : Bytes) :
    changed s (Api.expireGT s now key seconds).1 k → k ∈ (Api.expireGT s now key seconds).1.signalled :=
  (Proofs.C09Writers.frame_expireGT s hp now key seconds).sound k

theorem writers_signal_expireAt (s : MState) (hp : s.pebble = true) (now : Int) (key : Bytes) (ts : Int) (k : Bytes) :
    changed s (Api.expireAt s now key ts).1 k → k ∈ (Api.expireAt s now key ts).1.signalled :=
  (Proofs.C09Writers.frame_expireAt s hp now key ts).sound k

theorem writers_signal_expireAtNX (s : MState) (hp : s.pebble = true) (now : Int) (key : Bytes) (ts : Int) (k : Bytes) :
    changed s (Api.expireAtNX s now key ts).1 k → k ∈ (Api.expireAtNX s now key ts).1.signalled :=
  (Proofs.C09Writers.frame_expireAtNX s hp now key ts).sound k

theorem writers_signal_expireAtXX (s : MState) (hp : s.pebble = true) (now : Int) (key : Bytes) (ts : Int) (k : Bytes) :
    changed s (Api.expireAtXX s now key ts).1 k → k ∈ (Api.expireAtXX s now key ts).1.signalled :=
  (Proofs.C09Writers.frame_expireAtXX s hp now key ts).sound k

theorem writers_signal_expireAtLT (s : MState) (hp : s.pebble = true) (now : Int) (key : Bytes) (ts : Int) (k : Bytes) :
    changed s (Api.expireAtLT s now key ts).1 k → k ∈ (Api.expireAtLT s now key ts).1.signalled :=
  (Proofs.C09Writers.frame_expireAtLT s hp now key ts).sound k

theorem writers_signal_expireAtGT (s : MState) (hp : s.pebble = true) (now : Int) (key : Bytes) (ts : Int) (k : Bytes) :
    changed s (Api.expireAtGT s now key ts).1 k → k ∈ (Api.expireAtGT s now key ts).1.signalled :=
  (Proofs.C09Writers.frame_expireAtGT s hp now key ts).sound k

theorem writers_signal_persist (s : MState) (hp : s.pebble = true) (now : Int) (key : Bytes) (k : Bytes) :
    changed s (Api.persist s now key).1 k → k ∈ (Api.persist s now key).1.signalled :=
  (Proofs.C09Writers.frame_persist s hp now key).sound k

theorem writers_signal_rename (s : MState) (hp : s.pebble = true) (now : Int) (key dst : Bytes) (k : Bytes) :
    changed s (Api.rename s now key dst).1 k → k ∈ (Api.rename s now key dst).1.signalled :=
  (Proofs.C09Writers.frame_rename s now key dst).sound k

theorem writers_signal_renameNX (s : MState) (hp : s.pebble = true) (now : Int) (key dst : Bytes) (k : Bytes) :
    changed s (Api.renameNX s now key dst).1 k → k ∈ (Api.renameNX s now key dst).1.signalled :=
  (Proofs.C09Writers.frame_renameNX s now key dst).sound k

theorem writers_signal_push (s : MState) (hp : s.pebble = true) (now : Int) (left : Bool) (key : Bytes) (values : List Bytes) (k : Bytes) :
    changed s (Api.push left s now key values).1 k → k ∈ (Api.push left s now key values).1.signalled :=
  (Proofs.C09Writers.frame_push s hp now left key values).sound k

theorem writers_signal_pop (s : MState) (hp : s.pebble = true) (now : Int) (left : Bool) (key : Bytes) (count : Int) (k : Bytes) :
    changed s (Api.pop left s now key count).1 k → k ∈ (Api.pop left s now key count).1.signalled :=
  (Proofs.C09Writers.frame_pop s hp now left key count).sound k

theorem writers_signal_pushX (s : MState) (hp : s.pebble = true) (now : Int) (left : Bool) (key data : Bytes) (k : Bytes) :
    changed s (Api.pushX left s now key data).1 k → k ∈ (Api.pushX left s now key data).1.signalled :=
  (Proofs.C09Writers.frame_pushX s hp now left key data).sound k

theorem writers_signal_linsert (s : MState) (hp : s.pebble = true) (now : Int) (key pivot data : Bytes) (before : Bool) (k : Bytes) :
    changed s (Api.linsert s now key pivot data before).1 k → k ∈ (Api.linsert s now key pivot data before).1.signalled :=
  (Proofs.C09Writers.frame_linsert s hp now key pivot data before).sound k

theorem writers_signal_lrem (s : MState) (hp : s.pebble = true) (now : Int) (key data : Bytes) (count : Int) (k : Bytes) :
    changed s (Api.lrem s now key data count).1 k → k ∈ (Api.lrem s now key data count).1.signalled :=
  (Proofs.C09Writers.frame_lrem s hp now key data count).sound k

theorem writers_signal_lset (s : MState) (hp : s.pebble = true) (now : Int) (key : Bytes) (index : Int) (data : Bytes) (k : Bytes) :
    changed s (Api.lset s now key index data).1 k → k ∈ (Api.lset s now key index data).1.signalled :=
  (Proofs.C09Writers.frame_lset s hp now key index data).sound k

theorem writers_signal_ltrim (s : MState) (hp : s.pebble = true) (now : Int) (key : Bytes) (start stop : Int) (k : Bytes) :
    changed s (Api.ltrim s now key start stop).1 k → k ∈ (Api.ltrim s now key start stop).1.signalled :=
  (Proofs.C09Writers.frame_ltrim s hp now key start stop).sound k

theorem writers_signal_rotate (s : MState) (hp : s.pebble = true) (now : Int) (left : Bool) (src dst : Bytes) (k : Bytes) :
    changed s (Api.rotate left s now src dst).1 k → k ∈ (Api.rotate left s now src dst).1.signalled :=
  (Proofs.C09Writers.frame_rotate s hp now left src dst).sound k

theorem writers_signal_hset (s : MState) (hp : s.pebble = true) (now : Int) (key field value : Bytes) (k : Bytes) :
    changed s (Api.hset s now key field value).1 k → k ∈ (Api.hset s now key field value).1.signalled :=
  (Proofs.C09Writers.frame_hset s hp now key field value).sound k

theorem writers_signal_hdel (s : MState) (hp : s.pebble = true) (now : Int) (key : Bytes) (fields : List Bytes) (k : Bytes) :
    changed s (Api.hdel s now key fields).1 k → k ∈ (Api.hdel s now key fields).1.signalled :=
  (Proofs.C09Writers.frame_hdel s hp now key fields).sound k

theorem writers_signal_hincrby (s : MState) (hp : s.pebble = true) (now : Int) (key field : Bytes) (delta : Int) (k : Bytes) :
    changed s (Api.hincrby s now key field delta).1 k → k ∈ (Api.hincrby s now key field delta).1.signalled :=
  (Proofs.C09Writers.frame_hincrby s hp now key field delta).sound k

theorem writers_signal_hsetnx (s : MState) (hp : s.pebble = true) (now : Int) (key field value : Bytes) (k : Bytes) :
    changed s (Api.hsetnx s now key field value).1 k → k ∈ (Api.hsetnx s now key field value).1.signalled :=
  (Proofs.C09Writers.frame_hsetnx s hp now key field value).sound k

theorem writers_signal_hmset (s : MState) (hp : s.pebble = true) (now : Int) (key : Bytes) (pairs : List (Bytes × Bytes)) (k : Bytes) :
    changed s (Api.hmset s now key pairs).1 k → k ∈ (Api.hmset s now key pairs).1.signalled :=
  (Proofs.C09Writers.frame_hmset s hp now key pairs).sound k

theorem writers_signal_sadd (s : MState) (hp : s.pebble = true) (now : Int) (key : Bytes) (members : List Bytes) (k : Bytes) :
    changed s (Api.sadd s now key members).1 k → k ∈ (Api.sadd s now key members).1.signalled :=
  (Proofs.C09Writers.frame_sadd s hp now key members).sound k

theorem writers_signal_srem (s : MState) (hp : s.pebble = true) (now : Int) (key : Bytes) (members : List Bytes) (k : Bytes) :
    changed s (Api.srem s now key members).1 k → k ∈ (Api.srem s now key members).1.signalled :=
  (Proofs.C09Writers.frame_srem s hp now key members).sound k

theorem writers_signal_spop (s : MState) (hp : s.pebble = true) (now : Int) (key : Bytes) (count : Int) (choice : List Bytes) (k : Bytes) :
    changed s (Api.spop s now key count choice).1 k → k ∈ (Api.spop s now key count choice).1.signalled :=
  (Proofs.C09Writers.frame_spop s hp now key count choice).sound k

theorem writers_signal_smove (s : MState) (hp : s.pebble = true) (now : Int) (src dst member : Bytes) (k : Bytes) :
    changed s (Api.smove s now src dst member).1 k → k ∈ (Api.smove s now src dst member).1.signalled :=
  (Proofs.C09Writers.frame_smove s hp now src dst member).sound k

/-- S*STORE over any read-only set operation -/
theorem writers_signal_sstore (op : MState → Int → List Bytes → R) (hop : ReadOnly op) (s : MState) (hp : s.pebble = true) (now : Int) (dst : Bytes) (keys : List Bytes) (k : Bytes) :
    changed s (Api.sstore op s now dst keys).1 k → k ∈ (Api.sstore op s now dst keys).1.signalled :=
  (Proofs.C09Writers.frame_sstore op hop s hp now dst keys).sound k

theorem writers_signal_sdiffstore (s : MState) (hp : s.pebble = true) (now : Int) (dst : Bytes) (keys : List Bytes) (k : Bytes) :
    changed s (Api.sstore Api.sdiff s now dst keys).1 k → k ∈ (Api.sstore Api.sdiff s now dst keys).1.signalled :=
  (Proofs.C09Writers.frame_sstore _ Proofs.C09Writers.readOnly_sdiff s hp now dst keys).sound k

theorem writers_signal_sinterstore (s : MState) (hp : s.pebble = true) (now : Int) (dst : Bytes) (keys : List Bytes) (k : Bytes) :
    changed s (Api.sstore Api.sinter s now dst keys).1 k → k ∈ (Api.sstore Api.sinter s now dst keys).1.signalled :=
  (Proofs.C09Writers.frame_sstore _ Proofs.C09Writers.readOnly_sinter s hp now dst keys).sound k

theorem writers_signal_sunionstore (s : MState) (hp : s.pebble = true) (now : Int) (dst : Bytes) (keys : List Bytes) (k : Bytes) :
    changed s (Api.sstore Api.sunion s now dst keys).1 k → k ∈ (Api.sstore Api.sunion s now dst keys).1.signalled :=
  (Proofs.C09Writers.frame_sstore _ Proofs.C09Writers.readOnly_sunion s hp now dst keys).sound k

theorem writers_signal_zaddWith (f : ZSet → Bytes → F64 → ZSet × Int) (s : MState) (hp : s.pebble = true) (now : Int) (key m : Bytes) (sc : F64) (k : Bytes) :
    changed s (Api.zaddWith f s now key m sc).1 k → k ∈ (Api.zaddWith f s now key m sc).1.signalled :=
  (Proofs.C09Writers.frame_zaddWith s hp now f key m sc).sound k

theorem writers_signal_zadd (s : MState) (hp : s.pebble = true) (now : Int) (key m : Bytes) (sc : F64) (k : Bytes) :
    changed s (Api.zadd s now key m sc).1 k → k ∈ (Api.zadd s now key m sc).1.signalled :=
  (Proofs.C09Writers.frame_zaddWith s hp now DsZSet.zAdd key m sc).sound k

theorem writers_signal_zaddNX (s : MState) (hp : s.pebble = true) (now : Int) (key m : Bytes) (sc : F64) (k : Bytes) :
    changed s (Api.zaddNX s now key m sc).1 k → k ∈ (Api.zaddNX s now key m sc).1.signalled :=
  (Proofs.C09Writers.frame_zaddWith s hp now DsZSet.zAddNX key m sc).sound k

theorem writers_signal_zaddXX (s : MState) (hp : s.pebble = true) (now : Int) (key m : Bytes) (sc : F64) (k : Bytes) :
    changed s (Api.zaddXX s now key m sc).1 k → k ∈ (Api.zaddXX s now key m sc).1.signalled :=
  (Proofs.C09Writers.frame_zaddXX s hp now key m sc).sound k

/-- ZADD LT|GT (any comparison update `f`), full strength: no region (the call does not create keys) -/
theorem writers_signal_zaddCmp (f : ZSet → Bytes → F64 → ZSet × Bool) (s : MState) (hp : s.pebble = true) (now : Int) (key m : Bytes) (sc : F64) (k : Bytes) :
    changed s (Api.zaddCmp f s now key m sc).1 k → k ∈ (Api.zaddCmp f s now key m sc).1.signalled :=
  (Proofs.C09Writers.frame_zaddCmp s hp now f key m sc).sound k

theorem writers_signal_zaddLT (s : MState) (hp : s.pebble = true) (now : Int) (key m : Bytes) (sc : F64) (k : Bytes) :
    changed s (Api.zaddLT s now key m sc).1 k → k ∈ (Api.zaddLT s now key m sc).1.signalled :=
  (Proofs.C09Writers.frame_zaddCmp s hp now DsZSet.zAddLT key m sc).sound k

theorem writers_signal_zaddGT (s : MState) (hp : s.pebble = true) (now : Int) (key m : Bytes) (sc : F64) (k : Bytes) :
    changed s (Api.zaddGT s now key m sc).1 k → k ∈ (Api.zaddGT s now key m sc).1.signalled :=
  (Proofs.C09Writers.frame_zaddCmp s hp now DsZSet.zAddGT key m sc).sound k

theorem writers_signal_zincrby (s : MState) (hp : s.pebble = true) (now : Int) (key m : Bytes) (delta : F64) (k : Bytes) :
    changed s (Api.zincrby s now key m delta).1 k → k ∈ (Api.zincrby s now key m delta).1.signalled :=
  (Proofs.C09Writers.frame_zincrby s hp now key m delta).sound k

/-- ZREM outside the region: the key does not hold an existing empty sorted set -/
theorem writers_signal_zrem_partial (s : MState) (hp : s.pebble = true) (now : Int) (key : Bytes) (members : List Bytes) (hreg : holdsEmptyZSet s now key = false) (k : Bytes) :
    changed s (Api.zrem s now key members).1 k → k ∈ (Api.zrem s now key members).1.signalled :=
  (Proofs.C09Writers.frame_zrem s hp now key members hreg).sound k

theorem writers_signal_zremRangeByRank_partial (s : MState) (hp : s.pebble = true) (now : Int) (key : Bytes) (start stop : Int) (hreg : holdsEmptyZSet s now key = false) (k : Bytes) :
    changed s (Api.zremRangeByRank s now key start stop).1 k → k ∈ (Api.zremRangeByRank s now key start stop).1.signalled :=
  (Proofs.C09Writers.frame_zremRangeByRank s hp now key start stop hreg).sound k

theorem writers_signal_zremRangeByScore_partial (s : MState) (hp : s.pebble = true) (now : Int) (key : Bytes) (min max : F64) (mode : Int) (hreg : holdsEmptyZSet s now key = false) (k : Bytes) :
    changed s (Api.zremRangeByScore s now key min max mode).1 k → k ∈ (Api.zremRangeByScore s now key min max mode).1.signalled :=
  (Proofs.C09Writers.frame_zremRangeByScore s hp now key min max mode hreg).sound k

/-- the hypothesis of the three `_partial` theorems is necessary (on a possibly unreachable state): on
    `emptyZSetStore` ZREM / ZREMRANGEBYRANK / ZREMRANGEBYSCORE remove nothing, unlink the record, and signal
    nothing. These are NOT findings against the implementation unless the state is shown reachable. -/
theorem writers_signal_zrem_region_witness :
    let s' := (Api.zrem emptyZSetStore 0 [107] [[109]]).1
    changed emptyZSetStore s' [107] ∧ [107] ∉ s'.signalled :=
  by decide

theorem writers_signal_zremRangeByRank_region_witness :
    let s' := (Api.zremRangeByRank emptyZSetStore 0 [107] 0 (-1)).1
    changed emptyZSetStore s' [107] ∧ [107] ∉ s'.signalled :=
  by decide

theorem writers_signal_zremRangeByScore_region_witness :
    let s' := (Api.zremRangeByScore emptyZSetStore 0 [107] 0 0 0).1
    changed emptyZSetStore s' [107] ∧ [107] ∉ s'.signalled :=
  by decide

/-- Z*STORE, both flavours, full strength -/
theorem writers_signal_zstore (union : Bool) (s : MState) (hp : s.pebble = true) (now : Int) (dst : Bytes) (keys : List Bytes) (weights : List F64) (agg : Bytes) (k : Bytes) :
    changed s (Api.zstore union s now dst keys weights agg).1 k → k ∈ (Api.zstore union s now dst keys weights agg).1.signalled :=
  (Proofs.C09Writers.frame_zstore union s now dst keys weights agg).sound k

theorem writers_signal_zinterstore (s : MState) (hp : s.pebble = true) (now : Int) (dst : Bytes) (keys : List Bytes) (weights : List F64) (agg : Bytes) (k : Bytes) :
    changed s (Api.zstore false s now dst keys weights agg).1 k → k ∈ (Api.zstore false s now dst keys weights agg).1.signalled :=
  (Proofs.C09Writers.frame_zstore false s now dst keys weights agg).sound k

theorem writers_signal_zunionstore (s : MState) (hp : s.pebble = true) (now : Int) (dst : Bytes) (keys : List Bytes) (weights : List F64) (agg : Bytes) (k : Bytes) :
    changed s (Api.zstore true s now dst keys weights agg).1 k → k ∈ (Api.zstore true s now dst keys weights agg).1.signalled :=
  (Proofs.C09Writers.frame_zstore true s now dst keys weights agg).sound k

theorem hypothesis_pebble_is_necessary :
    let s : MState := { pebble := false, index :=
      [([1], { exp := 0, value := some (.str []), state := 1, oid := 7 }),
       ([2], { exp := 0, value := some (.str []), state := 1, oid := 7 })] }
    let s' := (Api.set s 0 [1] [120] false).1
    changed s s' [2] ∧ [2] ∉ s'.signalled :=
  Proofs.C09Writers.hypothesis_pebble_is_necessary

end Writers

/-! ## the optimistic read-modify-write loop never loses an update

  Closed system (Proofs/C09IncrSys.lean): any number of connections, each running the script
      WATCH k; GET k; MULTI; SET k (v+1); EXEC      (v = the value its GET returned; retry on null)
  with closures built from `Api.get` / `Api.set` and `parseInt64` / `formatInt`; a schedule is any
  list of (connection, clock reading): who sends its next command when.  `wins` counts the EXECs
  that did not reply null.
-/
section Incr
open NodisVerif.Proofs.C09Incr

/-- whatever the interleaving: the stored counter at the end is the initial value plus the number of
    successful EXECs — no increment is lost, none is applied twice -/
theorem optimistic_increment_never_loses_update (k : Bytes) (st0 : MState) (v0 : Nat)
    (h0 : CounterIs k st0 v0) (hfl : st0.flushed = false) (sched : List (String × Int))
    (hrange : ((v0 + sched.length : Nat) : Int) ≤ int64Max) :
    let fin := sysRun k { sv := { store := st0 }, ph := fun _ => .idle, wins := 0 } sched
    CounterIs k fin.sv.store (v0 + fin.wins) := by
  intro fin
  exact (Inv.sysRun k v0 sched _ (Inv.init k v0 st0 h0 hfl) (by simpa using hrange)).cnt

/-- per transaction: in every reachable state of the system, the EXEC of a connection that read `v`
    either replies null and leaves the store unchanged, or finds the counter STILL equal to the
    value it read and leaves it at exactly v + 1 -/
theorem successful_exec_increments_by_one (k : Bytes) (st0 : MState) (v0 : Nat)
    (h0 : CounterIs k st0 v0) (hfl : st0.flushed = false) (sched : List (String × Int))
    (hrange : ((v0 + sched.length : Nat) : Int) ≤ int64Max) (i : String) (now : Int) (v : Nat) :
    let s := sysRun k { sv := { store := st0 }, ph := fun _ => .idle, wins := 0 } sched
    s.ph i = .queued v →
    let r := step scriptTable s.sv (cmdOf k i now (.queued v))
    (r.2 = [Tok.nullBulk] ∧ r.1.store = s.sv.store) ∨
    (r.2 = [Tok.arr 1, Handler.ok] ∧ CounterIs k s.sv.store v ∧ CounterIs k r.1.store (v + 1)) := by
  intro s hp r
  have hinv : Inv k v0 s := Inv.sysRun k v0 sched _ (Inv.init k v0 st0 h0 hfl) (by simpa using hrange)
  obtain ⟨hA, hB⟩ := exec_move k v0 s hinv i now v hp
  by_cases hw : (s.sv.conn i).watch.any (·.2) = true
  · exact Or.inl (hA hw)
  · obtain ⟨_, b, c, d, _⟩ := hB (by simpa using hw)
    exact Or.inr ⟨c, b, d⟩

end Incr

section Examples

def kk : Bytes := [107]

/-- two connections: a WATCHes k, b overwrites k, a's transaction is refused -/
def sched1 : List Cmd :=
  [ { id := "a", name := "WATCH", args := [kk] },
    { id := "b", name := "SET", args := [kk, [49]] },
    { id := "a", name := "MULTI" },
    { id := "a", name := "SET", args := [kk, [50]] },
    { id := "a", name := "EXEC" } ]

/-- the replies of that schedule on the real handler table: the EXEC replies null … -/
theorem interfering_set_aborts :
    (run Handler.table1 { store := { pebble := true } } sched1).2 =
      [[okTok], [okTok], [okTok], [queuedTok], [Tok.nullBulk]] := by decide +kernel

/-- … and the value b wrote survives (a GET afterwards returns it) -/
theorem interfering_set_survives :
    (run Handler.table1 { store := { pebble := true } } (sched1 ++ [{ id := "a", name := "GET", args := [kk] }])).2.getLast? =
      some [Tok.bulk [49]] := by
  decide +kernel

/-- the hypotheses of `watch_sound` hold of it: b's SET signalled k -/
example : stepTouches Handler.table1
    (run Handler.table1 { store := { pebble := true } } [{ id := "a", name := "WATCH", args := [kk] }]).1
    { id := "b", name := "SET", args := [kk, [49]] } kk := by
  unfold stepTouches; decide +kernel

/-- without the interfering SET the same transaction runs -/
theorem no_interference_runs :
    (run Handler.table1 { store := { pebble := true } }
      [ { id := "a", name := "WATCH", args := [kk] }, { id := "a", name := "MULTI" },
        { id := "a", name := "SET", args := [kk, [50]] }, { id := "a", name := "EXEC" } ]).2 =
      [[okTok], [okTok], [queuedTok], [Tok.arr 1, okTok]] := by decide +kernel

/-- (a finding before the `fix:` of `exec`, now the required behaviour) a dirty watch with an EMPTY
    transaction — WATCH k by a; SET k by b; MULTI; EXEC by a — replies null, not `*0` -/
theorem dirty_watch_empty_transaction_replies_null :
    (run Handler.table1 { store := { pebble := true } }
      [ { id := "a", name := "WATCH", args := [kk] }, { id := "b", name := "SET", args := [kk, [49]] },
        { id := "a", name := "MULTI" }, { id := "a", name := "EXEC" } ]).2 =
      [[okTok], [okTok], [okTok], [Tok.nullBulk]] := by decide +kernel

/-- FINDING (end to end, consequence of `writers_signal_addInt_finding`): connection a WATCHes the
    missing key k and sees `EXISTS k = 0`; connection b sends `DECRBY k -9223372036854775808`, which
    CREATES k (an empty string) and then fails with an overflow error (error reply) WITHOUT signalling
    k; a's transaction MULTI; EXISTS k; EXEC is NOT aborted and observes `EXISTS k = 1`: a watched
    key was created between WATCH and EXEC and the EXEC ran.  The other `writers_signal_*_finding`
    (`SetRange` with an overflowing offset) is reachable through the embedded API only. -/
theorem watch_sound_end_to_end_finding :
    (run Handler.table1 { store := { pebble := true } }
      [ { id := "a", name := "WATCH", args := [kk] }, { id := "a", name := "EXISTS", args := [kk] },
        { id := "b", name := "DECRBY", args := [kk, [45, 57, 50, 50, 51, 51, 55, 50, 48, 51, 54, 56, 53, 52, 55, 55, 53, 56, 48, 56]] },
        { id := "a", name := "MULTI" }, { id := "a", name := "EXISTS", args := [kk] },
        { id := "a", name := "EXEC" } ]).2 =
      [[okTok], [Tok.int 0], [Handler.e], [okTok], [queuedTok], [Tok.arr 1, Tok.int 1]] := by decide +kernel

/-- what it tests: `ZADD k XX 0 m` on a missing key (a ZADD that may not add) creates nothing, and
    `ZUNIONSTORE d 1 x` with a wrong-typed operand fails before the destination exists (both were findings
    before the `fix:`es of nodis).
    LT / GT do not prevent adding (`zadd_lt_gt_add_new_members` below); XX is the one option under which a ZADD
    on a missing key writes nothing, so it is the case in which no empty key may be left behind. -/
theorem repaired_zadd_lt_and_zunionstore_create_nothing :
    (run fullTable { store := { pebble := true } }
      [ { id := "a", name := "ZADD", args := [kk, [88, 88], [48], [109]] }, { id := "a", name := "EXISTS", args := [kk] },
        { id := "a", name := "SET", args := [[120], [49]] },
        { id := "a", name := "ZUNIONSTORE", args := [[100], [49], [120]] },
        { id := "a", name := "EXISTS", args := [[100]] } ]).2 =
      [[Tok.int 0], [Tok.int 0], [okTok], [Tok.err 1], [Tok.int 0]] := by decide +kernel

/-- (A-48 repaired) LT / GT do not prevent adding: `ZADD k LT 0 m` on a missing key adds m and creates k;
    `ZADD k GT CH 0 m 1 n` then leaves m alone (0 is not greater than 0), adds n, and CH counts it -/
theorem zadd_lt_gt_add_new_members :
    (run fullTable { store := { pebble := true } }
      [ { id := "a", name := "ZADD", args := [kk, [76, 84], [48], [109]] }, { id := "a", name := "EXISTS", args := [kk] },
        { id := "a", name := "ZADD", args := [kk, [71, 84], [67, 72], [48], [109], [49], [110]] },
        { id := "a", name := "ZCARD", args := [kk] } ]).2 =
      [[Tok.int 1], [Tok.int 1], [Tok.int 1], [Tok.int 2]] := by decide +kernel

/-- a store with a counter, for the increment theorem -/
example : Proofs.C09Incr.CounterIs kk ({ pebble := true } : MState) 0 := Or.inl ⟨rfl, rfl⟩
example : ((0 + 10 : Nat) : Int) ≤ int64Max := by decide

end Examples

/-! ## the watch check under real concurrency (the gate of Model/Gate.lean)

  The sequential theorems above treat EXEC's look at its watch flags and its queued bodies as one step.
  In the server several goroutines run; what makes that one step is `store.execMu`. Over every run of
  the gate protocol (whose steps the implementation reports and the check replays): -/
section gate
open NodisVerif.Gate

/-- From EXEC's look at the watch flags (`chk g` accepted) on, in every continuation until `g` leaves
    the gate, no watch signal and no transaction of another goroutine that serves a connection is
    accepted: a write by another client either finished - with its signal - before the check, and is
    then seen by it, or begins after the last queued body. -/
theorem no_client_write_between_check_and_bodies (pre seg : List Ev) (s s' : GState)
    (hr : Gate.run {} pre = some s) (g : G) (hc : Gate.step s (.chk g) = some s')
    (hn : Ev.gout g ∉ seg) : SegOk g s' seg := by
  obtain ⟨hx, rfl⟩ := step_x (.inl rfl) hc
  exact segment_inside_section seg s' g (inv_reach hr) hx hn

/-- A watch signal of a goroutine that serves a connection is only accepted under the gate. -/
theorem client_signal_is_gated (es : List Ev) (s s' : GState) (_hr : Gate.run {} es = some s) (g : G)
    (hs : Gate.step s (.sig g) = some s') (hc : s.isClient g = true) : s.holds g = true := by
  exact holds_of_allowed hc (step_sig hs).1

/-- non-vacuity / the repaired defect: a signal from client 2 between client 1's check and its bodies
    is not a run of the protocol -/
theorem signal_inside_foreign_exec_rejected :
    Gate.run {} [.serve 1, .serve 2, .gin 1 .x, .chk 1, .sig 2] = none := by decide +kernel

end gate

/-! ### `Handler4.table4`: CLIENT, CONFIG, INFO, QUIT, SAVE and the GEO commands -/

section table4
open NodisVerif.Proofs.C08Step.T4 NodisVerif.Proofs.GeoReads

/-- CLIENT, CONFIG, INFO, QUIT, GEOADD, GEOHASH, GEOPOS, GEODIST, GEORADIUS, GEORADIUSBYMEMBER: every closure
    signals every key whose logical content it changes -/
theorem table4_signals : TableSignals table4Safe := table4Safe_signals

/-- GEOADD (the API function behind the handler): whatever key's logical content changes is signalled -
    which is its own key, signalled once after the last `ZAdd` (this was a defect: `GeoAdd` changed a
    sorted set without telling the watchers; found by the regenerated `writers` table, repaired) -/
theorem geoadd_signals_its_key (s : MState) (hp : s.pebble = true) (now : Int) (key : Bytes)
    (items : List (Bytes × F64)) (k : Bytes) :
    NodisVerif.Proofs.C09Writers.changed s (Handler4.geoAdd s now key items).1 k →
      k ∈ (Handler4.geoAdd s now key items).1.signalled :=
  (frame_geoAdd s hp now key items).sound k

/-- `GEOADD key NX …` / `GEOADD key XX …` (the option word as argument 1) never reaches `execCommand`: the word
    stays in front of the items and is parsed as a longitude (docs/WP-D-findings.md D-7). So the closures around `GeoAddNX`
    / `GeoAddXX` - the former creates its key without signalling - are never built -/
theorem geoadd_option_words_never_run (args : List Bytes) (h : opt args "NX" = 1 ∨ opt args "XX" = 1) (b : Body) :
    Handler4.geoAddH args ≠ .exec b := NodisVerif.Proofs.GeoAddOpt.geoAddH_opt_not_exec args h b

example : opt [[103], Bytes.ofString "nx", [49], [50], [109]] "NX" = 1 := by decide +kernel

/-- the read commands of the GEO family never write: started as `runBody` starts every closure, they signal
    nothing, emit no change record, and leave every record logically as it was -/
theorem geo_reads_never_write (name : String) (args : List Bytes) (b : Body) (hn : name ∈ geoReads)
    (h : Handler4.table4 name args = some (.exec b)) (st : MState) (now : Int) (ch : Choice) (h0 : st.signalled = []) :
    (b st now ch).store.signalled = [] ∧ (b st now ch).store.feed = st.feed ∧
    ∀ k, NodisVerif.Proofs.C09Writers.unchanged (Store.getMeta st k) (Store.getMeta (b st now ch).store k) :=
  readOnly_effect (geoReads_readOnly name args b hn h) st now ch h0

/-- PARTIAL (SAVE is not in `table4Safe`): on a store that satisfies C11's store invariant, SAVE - the closure is
    `Store.flush` - changes no key's logical content (`Spec.Persist.lookup`: value and deadline of every name, now and
    at every later time), so there is nothing it would have to signal.  What is missing for `SignalsChanges` proper:
    that predicate quantifies over ALL Pebble stores (no invariant), and its `unchanged` is about the index record
    (identity, liveness bit), which `flush` rewrites from the copy it read at the start of the pass -/
theorem save_keeps_logical_partial (st : MState) (t now : Int) (ch : Choice)
    (h : NodisVerif.Proofs.C11.StoreInvX st none t) (ht : t ≤ now) (b : Body) (hb : Handler4.save = .exec b) :
    ∀ t', now ≤ t' → ∀ k, NodisVerif.Spec.Persist.lookup (b st now ch).store t' k = NodisVerif.Spec.Persist.lookup st t' k := by
  cases hb
  exact (NodisVerif.Proofs.C11.flush_spec h ht).1.look

/-- hypotheses satisfiable (the empty Pebble store; C11 shows the invariant is kept by every command) -/
example : NodisVerif.Proofs.C11.StoreInvX (NodisVerif.Spec.Persist.empty true) none 0 ∧ ∃ b, Handler4.save = .exec b :=
  ⟨NodisVerif.Proofs.C11.empty_inv true 0, _, rfl⟩

/-- hypotheses satisfiable: GEOPOS on a store holding a geo key -/
example : ∃ b, Handler4.table4 "GEOPOS" [[103], [109]] = some (.exec b) := ⟨_, rfl⟩
example : "GEOPOS" ∈ geoReads := by decide

end table4

/-! ### The code around the gate as a program (Model/GateProg.lean): the protocol theorems of section gate, transferred -/
section gateprog
open NodisVerif.Gate

/-- `no_client_write_between_check_and_bodies` for the program: from a configuration in which EXEC is about to read
    its watch flags (pc e3: `conn.WatchKeys.Scan`) or to report the check (e4), in every continuation of the schedule,
    as long as `g` does not report leaving the gate, the program's trace is accepted by the protocol and every
    keyspace step in it (transaction begin / end, watch signal) is `g`'s own or an embedded caller's. -/
theorem gateprog_no_client_write_between_check_and_bodies (pre seg : List (GateProg.Tid × GateProg.Choice))
    (g : GateProg.Tid)
    (hpc : ((GateProg.run {} pre).1.loc g).pc = .e3 ∨ ((GateProg.run {} pre).1.loc g).pc = .e4)
    (hn : Ev.gout g ∉ (GateProg.run (GateProg.run {} pre).1 seg).2) :
    ∃ gs, Gate.run {} (GateProg.run {} pre).2 = some gs ∧
      (Gate.run gs (GateProg.run (GateProg.run {} pre).1 seg).2).isSome = true ∧
      SegOk g gs (GateProg.run (GateProg.run {} pre).1 seg).2 := by
  obtain ⟨-, -, hi, -⟩ := GateProg.reach_inv pre
  exact GateProg.exec_section_trace pre seg g
    (GateProg.ok_exec_section (hi.ok g) (hpc.elim (fun h => h ▸ rfl) fun h => h ▸ rfl)) hn

/-- `client_signal_is_gated` for the program: a goroutine that serves a connection is inside `signalModifiedKey`
    (pcs g1 - g3) only while it holds a side of execMu that it has reported: the shared side of its command or of its
    blocking pop's look, or the exclusive side of its EXEC. -/
theorem gateprog_client_signal_is_gated (sch : List (GateProg.Tid × GateProg.Choice)) (g : GateProg.Tid)
    (hpc : ((GateProg.run {} sch).1.loc g).pc = .g1 ∨ ((GateProg.run {} sch).1.loc g).pc = .g2 ∨
           ((GateProg.run {} sch).1.loc g).pc = .g3)
    (hc : ((GateProg.run {} sch).1.loc g).emb = false) :
    ∃ m, (g, m) ∈ (GateProg.run {} sch).1.sh.execMu ∧ ((GateProg.run {} sch).1.loc g).rep = true := by
  obtain ⟨gs, h, hi, hr⟩ := GateProg.reach_inv sch
  obtain ⟨m, hm, hrep⟩ := GateProg.ok_signal (hi.ok g) hpc hc
  exact ⟨m, (hi.mu g m).2 hm, hrep⟩

open GateProg.Ex in
example : ((GateProg.run {} schedToCheck).1.loc 1).pc = .e4 ∧
    Ev.gout 1 ∉ (GateProg.run (GateProg.run {} schedToCheck).1 schedSeg).2 := by decide +kernel
/-- a signalling SET of connection 2, stopped inside signalModifiedKey -/
example : ((GateProg.run {} (GateProg.Ex.simple 1 (.watch ["k"]) ++ (GateProg.Ex.setK 2 5).take 9)).1.loc 2).pc = .g2 ∧
    ((GateProg.run {} (GateProg.Ex.simple 1 (.watch ["k"]) ++ (GateProg.Ex.setK 2 5).take 9)).1.loc 2).emb = false := by decide +kernel
/-- … and the signal reaches the watching connection, whose EXEC then answers null without running a body -/
example : ((GateProg.run {} GateProg.Ex.schedWatch).1.loc 1).noChange = false := by decide +kernel

end gateprog

/- What `fullSafe` (Proofs/C09Full.lean, `excluded`) leaves out of `fullSafe_signals` and `watch_sound_full`:
   all of DECRBY (false for the decrement -2^63 on a missing key: `table_signals_finding`; the rest of DECRBY is
   covered by `table1_signals_partial`), SCAN with a TYPE option (not proved: the scan loads cold records of unknown
   type, which needs an index invariant `Frame` does not carry), ZREM / ZREMRANGEBYRANK / ZREMRANGEBYSCORE (false on a
   store holding an existing empty sorted set, which is not known to be reachable; covered relative to the store by
   `table3_tells_partial`), and SAVE (not proved here: `save_keeps_logical_partial`).  Every other command of the
   four tables is covered.  False as stated and given as `_partial` + `_finding`: `TableSignals fullTable`,
   `writers_signal_addInt`, `writers_signal_setRange`.  Stated hypothesis: the writers table and
   `watch_sound_changed` are for the Pebble backend (`hypothesis_pebble_is_necessary`). -/

end NodisVerif.C09

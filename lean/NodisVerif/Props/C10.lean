import NodisVerif.Proofs.C10More
import NodisVerif.Proofs.C10Rename
import NodisVerif.Proofs.C10Scan
import NodisVerif.Proofs.C10Gc
import NodisVerif.Proofs.C10Examples
import NodisVerif.Proofs.C10Resp
/-
  C10 — Expiry: a key is visible before its deadline and to no command at or after it.

  Reference notions: `Store.live`, `Store.purge`, `Store.LiveWith`, `NodisVerif.Sim`, `Spec.deadlineSec/Ms`,
  `Spec.expireApplies`, `Spec.pttl`, `Spec.ttlNs` are in Spec/Expire.lean, whose header states exactly which fields
  `Sim` compares; the observable view it compares (`Store.vis`, `Store.recOf`, `Store.frame`, `View.Rec`) is in
  Spec/View.lean.

  Every theorem about a command assumes `AList.Sorted s.index` (the index is a btree: keys strictly
  increasing); without it a record can be shadowed by another record of the same name and `purge`
  would uncover it.
-/
namespace NodisVerif.C10
open NodisVerif Store
open NodisVerif.Proofs.C10

/-- An expired record that is still indexed is absent for `readKey`: the result is `false`, the only
    changes are the access counter of that record and the lock list (so no visible record changes),
    and on the purged state the result is `false` too. -/
theorem readKey_expired_is_absent (s : MState) (now : Int) (k : Bytes) (m : Meta)
    (hm : getMeta s k = some m) (he : m.expired now = true) (hs : AList.Sorted s.index) :
    (readKey s now k).2 = false ∧
    (readKey s now k).1 = putMeta (lockR s k) k { m with count := m.count + 1 } ∧
    (∀ k', vis now (readKey s now k).1 k' = vis now s k') ∧
    (readKey (purge now s) now k).2 = false ∧
    (readKey (purge now s) now k).1 = purge now s ∧
    Sim now (readKey s now k).1 (readKey (purge now s) now k).1 := by
  have hv := vis_none_of_expired hm he
  obtain ⟨a1, a2, _, _⟩ := readKey_spec s now k hs
  have hp := getMeta_purge_expired hm he hs
  refine ⟨by rw [a1, hv]; rfl, ?_, ?_, ?_, ?_, (readKey_good (good_purge now s hs) k).1.good.sim⟩
  · unfold readKey
    rw [hm]
    have e2 : Meta.expired { m with count := m.count + 1 } now = true := he
    simp only [e2, if_true]
    split <;> rfl
  · intro k'
    rw [a2, hv]
    split
    · rename_i h; subst h; simp [rkOk, hv]
    · rfl
  · unfold readKey; rw [hp]
  · unfold readKey; rw [hp]

/-- A write to an expired key behaves exactly as on a key that never existed: with a constructor
    the key afterwards holds the fresh value, in memory, ok, with deadline 0, and the resulting state is
    `Sim`-equivalent to the one obtained from the purged state (where `k` is not indexed at all);
    without a constructor the lookup fails. -/
theorem writeKey_expired_is_fresh (s : MState) (now : Int) (k : Bytes) (m : Meta) (v : Val)
    (hm : getMeta s k = some m) (he : m.expired now = true) (hs : AList.Sorted s.index) :
    (writeKey s now k (some v)).2 = true ∧
    (∃ m', getMeta (writeKey s now k (some v)).1 k = some m' ∧ m'.exp = 0 ∧ m'.value = some v ∧ m'.isOk = true) ∧
    getMeta (purge now s) k = none ∧
    (writeKey (purge now s) now k (some v)).2 = true ∧
    Sim now (writeKey s now k (some v)).1 (writeKey (purge now s) now k (some v)).1 ∧
    (writeKey s now k none).2 = false ∧ (writeKey (purge now s) now k none).2 = false := by
  have hl := live_none_of_expired hm he
  have hp := getMeta_purge_expired hm he hs
  obtain ⟨⟨e, g⟩, _⟩ := writeKey_good (good_purge now s hs) k (some v)
  obtain ⟨a, _, _, _, _, hpost⟩ := writeKey_fresh hl hs v
  obtain ⟨m', hm', _, hr⟩ := vis_some_getMeta hpost
  have hr' := hr.symm
  simp only [recOf, freshRec, View.Rec.mk.injEq] at hr'
  refine ⟨a, ⟨m', hm', hr'.1, hr'.2.1, hr'.2.2.2.2.1⟩, hp, by rw [← e]; exact a, g.sim, ?_, ?_⟩
  · exact writeKey_absent hl hs
  · unfold writeKey; rw [hp]

/-- Visible before the deadline with its full value: a hot, ok record whose deadline has not been
    reached (or that has none) is found by `readKey`; value and deadline are untouched (only the
    access counter moves). -/
theorem readKey_live (s : MState) (now : Int) (k : Bytes) (m : Meta) (v : Val)
    (hm : getMeta s k = some m) (hok : m.isOk = true) (hd : now < m.exp ∨ m.exp = 0)
    (hv : m.value = some v) :
    (readKey s now k).2 = true ∧
    getMeta (readKey s now k).1 k = some { m with count := m.count + 1 } :=
  lookupKey_live Proofs.C01.lockR_op s now k m v none hm hok hd hv

theorem writeKey_live (s : MState) (now : Int) (k : Bytes) (m : Meta) (v : Val) (mk : Option Val)
    (hm : getMeta s k = some m) (hok : m.isOk = true) (hd : now < m.exp ∨ m.exp = 0)
    (hv : m.value = some v) :
    (writeKey s now k mk).2 = true ∧
    getMeta (writeKey s now k mk).1 k = some { m with count := m.count + 1 } :=
  lookupKey_live Proofs.C01.lockW_op s now k m v mk hm hok hd hv

/-- the same for a cold record whose value can be loaded from the backend (`LiveWith`): found,
    the full value is in memory afterwards, the deadline is unchanged -/
theorem readKey_liveWith (s : MState) (now : Int) (k : Bytes) (m : Meta) (v : Val)
    (h : LiveWith s now k m v) (hs : AList.Sorted s.index) :
    (readKey s now k).2 = true ∧ valOf (readKey s now k).1 k = some v ∧
    Api.expOf (readKey s now k).1 k = m.exp :=
  Proofs.C10.readKey_liveWith h hs

theorem writeKey_liveWith (s : MState) (now : Int) (k : Bytes) (m : Meta) (v : Val) (mk : Option Val)
    (h : LiveWith s now k m v) (hs : AList.Sorted s.index) :
    (writeKey s now k mk).2 = true ∧ valOf (writeKey s now k mk).1 k = some v ∧
    Api.expOf (writeKey s now k mk).1 k = m.exp := by
  obtain ⟨a, b, c, _⟩ := Proofs.C10.writeKey_liveWith h hs mk
  exact ⟨a, b, c⟩

/-! ## Deadline arithmetic

  `LiveWith s now k m v`: the key is live with record `m` (deadline `m.exp`, 0 = none) and value `v`.
  `Api.expOf s k` is the deadline stored in the index record of `k` (0 = none / not indexed). -/

/-- without int64 overflow the deadline is the instant of the command plus the requested duration -/
theorem deadlineSec_exact (now seconds : Int) (h1 : inInt64 (seconds * 1000) = true)
    (h2 : inInt64 (now + seconds * 1000) = true) : Spec.deadlineSec now seconds = now + seconds * 1000 := by
  unfold Spec.deadlineSec
  rw [wrap64_id (inInt64_iff.mp h1), wrap64_id (inInt64_iff.mp h2)]

theorem deadlineMs_exact (now ms : Int) (h : inInt64 (now + ms) = true) : Spec.deadlineMs now ms = now + ms := by
  unfold Spec.deadlineMs
  exact wrap64_id (inInt64_iff.mp h)

/-- EXPIRE on a live key: reply 1, deadline = now + seconds*1000 (int64 arithmetic) -/
theorem expire_deadline (s : MState) (now : Int) (k : Bytes) (m : Meta) (v : Val) (seconds : Int)
    (h : LiveWith s now k m v) (hs : AList.Sorted s.index) (hz : seconds ≠ 0) :
    (Api.expire s now k seconds).2 = .int 1 ∧
    Api.expOf (Api.expire s now k seconds).1 k = Spec.deadlineSec now seconds := by
  rw [Proofs.C11.expire_eq s now k seconds hz]
  exact keyTx_liveWith h hs true none _ _ _ nofun

/-- EXPIRE key 0 is DEL key -/
theorem expire_zero_is_del (s : MState) (now : Int) (k : Bytes) :
    Api.expire s now k 0 = Api.del s now [k] := by
  unfold Api.expire; rw [if_pos rfl]

theorem expirePX_deadline (s : MState) (now : Int) (k : Bytes) (m : Meta) (v : Val) (ms : Int)
    (h : LiveWith s now k m v) (hs : AList.Sorted s.index) (hz : ms ≠ 0) :
    (Api.expirePX s now k ms).2 = .int 1 ∧
    Api.expOf (Api.expirePX s now k ms).1 k = Spec.deadlineMs now ms := by
  rw [Proofs.C11.expirePX_eq s now k ms hz]
  exact keyTx_liveWith h hs true none _ _ _ nofun

theorem expirePX_zero_is_del (s : MState) (now : Int) (k : Bytes) :
    Api.expirePX s now k 0 = Api.del s now [k] := by
  unfold Api.expirePX; rw [if_pos rfl]

/-- EXPIREAT / PEXPIREAT: the requested absolute time (also one in the past: the key is then dead) -/
theorem expireAt_deadline (s : MState) (now : Int) (k : Bytes) (m : Meta) (v : Val) (ts : Int)
    (h : LiveWith s now k m v) (hs : AList.Sorted s.index) :
    (Api.expireAt s now k ts).2 = .int 1 ∧ Api.expOf (Api.expireAt s now k ts).1 k = ts := by
  rw [Proofs.C11.expireAt_eq]
  exact keyTx_liveWith h hs true none _ _ _ nofun

/-- the EXPIRE family on a key that is absent or expired: reply 0 -/
theorem expire_absent (s : MState) (now : Int) (k : Bytes) (seconds : Int)
    (h : live s now k = none) (hs : AList.Sorted s.index) (hz : seconds ≠ 0) :
    (Api.expire s now k seconds).2 = .int 0 := by
  rw [Proofs.C11.expire_eq s now k seconds hz]; exact keyTx_absent h hs _ _ _ _

/-- SETEX / SET EX on a live string key and on a key with no visible record -/
theorem setEX_deadline (s : MState) (now : Int) (k value : Bytes) (m : Meta) (old : DsStr.S) (seconds : Int)
    (h : LiveWith s now k m (Api.strVal old)) (hs : AList.Sorted s.index) :
    (Api.setEX s now k value seconds).2 = .unit ∧
    Api.expOf (Api.setEX s now k value seconds).1 k = Spec.deadlineSec now seconds := by
  rw [Proofs.C11.setEX_eq]
  cases old <;> exact keyTx_liveWith h hs true _ _ _ (Proofs.C11.decSetEx k value (Spec.deadlineSec now seconds)) nofun

theorem setEX_deadline_new (s : MState) (now : Int) (k value : Bytes) (seconds : Int)
    (h : live s now k = none) (hs : AList.Sorted s.index) :
    (Api.setEX s now k value seconds).2 = .unit ∧
    Api.expOf (Api.setEX s now k value seconds).1 k = Spec.deadlineSec now seconds := by
  rw [Proofs.C11.setEX_eq]
  exact keyTx_fresh h hs (.str []) .unit _ _

theorem setPX_deadline (s : MState) (now : Int) (k value : Bytes) (m : Meta) (old : DsStr.S) (ms : Int)
    (h : LiveWith s now k m (Api.strVal old)) (hs : AList.Sorted s.index) :
    (Api.setPX s now k value ms).2 = .unit ∧
    Api.expOf (Api.setPX s now k value ms).1 k = Spec.deadlineMs now ms := by
  rw [Proofs.C11.setPX_eq]
  cases old <;> exact keyTx_liveWith h hs true _ _ _ (Proofs.C11.decSetEx k value (Spec.deadlineMs now ms)) nofun

theorem setPX_deadline_new (s : MState) (now : Int) (k value : Bytes) (ms : Int)
    (h : live s now k = none) (hs : AList.Sorted s.index) :
    (Api.setPX s now k value ms).2 = .unit ∧
    Api.expOf (Api.setPX s now k value ms).1 k = Spec.deadlineMs now ms := by
  rw [Proofs.C11.setPX_eq]
  exact keyTx_fresh h hs (.str []) .unit _ _

/-! ### conditional forms

  What the model does, exactly (`cur = m.exp`, 0 = no deadline):
    NX changes iff `cur = 0`;  XX iff `cur ≠ 0`;  LT iff `cur ≠ 0 ∧ new < cur`;  GT iff `cur < new`.
  Redis (`Spec.expireApplies`) treats "no deadline" as infinite for GT/LT; the model (like the Go
  code, whose tests pin it) treats it as 0 = the smallest value. NX and XX agree with Redis
  everywhere; GT and LT agree when the key has a deadline (`_partial`) and deviate when it has none
  (`_finding`). -/

/-- shape of all conditional statements: reply 1 and the new deadline if `c`, else reply 0 and no change -/
def CondResult (r : Api.R) (k : Bytes) (c : Bool) (new cur : Int) : Prop :=
  r.2 = .int (if c then 1 else 0) ∧ Api.expOf r.1 k = if c then new else cur

theorem expireNX_iff (s : MState) (now : Int) (k : Bytes) (m : Meta) (v : Val) (seconds : Int)
    (h : LiveWith s now k m v) (hs : AList.Sorted s.index) :
    CondResult (Api.expireNX s now k seconds) k
      (Spec.expireApplies .nx (Spec.deadlineOf m.exp) (Spec.deadlineSec now seconds))
      (Spec.deadlineSec now seconds) m.exp := by
  rw [Proofs.C11.expireNX_eq, applies_nx]
  exact keyTx_decExpire h hs _ _ _

theorem expireXX_iff (s : MState) (now : Int) (k : Bytes) (m : Meta) (v : Val) (seconds : Int)
    (h : LiveWith s now k m v) (hs : AList.Sorted s.index) :
    CondResult (Api.expireXX s now k seconds) k
      (Spec.expireApplies .xx (Spec.deadlineOf m.exp) (Spec.deadlineSec now seconds))
      (Spec.deadlineSec now seconds) m.exp := by
  rw [Proofs.C11.expireXX_eq, applies_xx]
  exact keyTx_decExpire h hs _ _ _

/-- GT, what the model does: the deadline changes iff `m.exp < new` with "no deadline" = 0 -/
theorem expireGT_iff (s : MState) (now : Int) (k : Bytes) (m : Meta) (v : Val) (seconds : Int)
    (h : LiveWith s now k m v) (hs : AList.Sorted s.index) :
    CondResult (Api.expireGT s now k seconds) k (decide (m.exp < Spec.deadlineSec now seconds))
      (Spec.deadlineSec now seconds) m.exp := by
  rw [Proofs.C11.expireGT_eq]
  exact keyTx_decExpire h hs _ _ _

/-- LT, what the model does: the deadline changes iff the key has one and `new < m.exp` -/
theorem expireLT_iff (s : MState) (now : Int) (k : Bytes) (m : Meta) (v : Val) (seconds : Int)
    (h : LiveWith s now k m v) (hs : AList.Sorted s.index) :
    CondResult (Api.expireLT s now k seconds) k
      (decide (m.exp ≠ 0 ∧ Spec.deadlineSec now seconds < m.exp))
      (Spec.deadlineSec now seconds) m.exp := by
  rw [Proofs.C11.expireLT_eq, Bool.decide_and]
  exact keyTx_decExpire h hs _ _ _

/-- FULL STATEMENT (false for keys without deadline, see `expireGT_finding`):
      CondResult (Api.expireGT …) k (Spec.expireApplies .gt (Spec.deadlineOf m.exp) new) new m.exp
    Proved for keys that have a deadline. -/
theorem expireGT_partial (s : MState) (now : Int) (k : Bytes) (m : Meta) (v : Val) (seconds : Int)
    (h : LiveWith s now k m v) (hs : AList.Sorted s.index) (hd : m.exp ≠ 0) :
    CondResult (Api.expireGT s now k seconds) k
      (Spec.expireApplies .gt (Spec.deadlineOf m.exp) (Spec.deadlineSec now seconds))
      (Spec.deadlineSec now seconds) m.exp := by
  have := expireGT_iff s now k m v seconds h hs
  simpa [Spec.expireApplies, Spec.deadlineOf, hd] using this

theorem expireLT_partial (s : MState) (now : Int) (k : Bytes) (m : Meta) (v : Val) (seconds : Int)
    (h : LiveWith s now k m v) (hs : AList.Sorted s.index) (hd : m.exp ≠ 0) :
    CondResult (Api.expireLT s now k seconds) k
      (Spec.expireApplies .lt (Spec.deadlineOf m.exp) (Spec.deadlineSec now seconds))
      (Spec.deadlineSec now seconds) m.exp := by
  have := expireLT_iff s now k m v seconds h hs
  simpa [Spec.expireApplies, Spec.deadlineOf, hd] using this

theorem expireAtNX_iff (s : MState) (now : Int) (k : Bytes) (m : Meta) (v : Val) (ts : Int)
    (h : LiveWith s now k m v) (hs : AList.Sorted s.index) :
    CondResult (Api.expireAtNX s now k ts) k (Spec.expireApplies .nx (Spec.deadlineOf m.exp) ts) ts m.exp := by
  rw [Proofs.C11.expireAtNX_eq, applies_nx]
  exact keyTx_decExpire h hs _ _ _

theorem expireAtXX_iff (s : MState) (now : Int) (k : Bytes) (m : Meta) (v : Val) (ts : Int)
    (h : LiveWith s now k m v) (hs : AList.Sorted s.index) :
    CondResult (Api.expireAtXX s now k ts) k (Spec.expireApplies .xx (Spec.deadlineOf m.exp) ts) ts m.exp := by
  rw [Proofs.C11.expireAtXX_eq, applies_xx]
  exact keyTx_decExpire h hs _ _ _

theorem expireAtGT_iff (s : MState) (now : Int) (k : Bytes) (m : Meta) (v : Val) (ts : Int)
    (h : LiveWith s now k m v) (hs : AList.Sorted s.index) :
    CondResult (Api.expireAtGT s now k ts) k (decide (m.exp < ts)) ts m.exp := by
  rw [Proofs.C11.expireAtGT_eq]
  exact keyTx_decExpire h hs _ _ _

theorem expireAtLT_iff (s : MState) (now : Int) (k : Bytes) (m : Meta) (v : Val) (ts : Int)
    (h : LiveWith s now k m v) (hs : AList.Sorted s.index) :
    CondResult (Api.expireAtLT s now k ts) k (decide (m.exp ≠ 0 ∧ ts < m.exp)) ts m.exp := by
  rw [Proofs.C11.expireAtLT_eq, Bool.decide_and]
  exact keyTx_decExpire h hs _ _ _

theorem expireAtGT_partial (s : MState) (now : Int) (k : Bytes) (m : Meta) (v : Val) (ts : Int)
    (h : LiveWith s now k m v) (hs : AList.Sorted s.index) (hd : m.exp ≠ 0) :
    CondResult (Api.expireAtGT s now k ts) k (Spec.expireApplies .gt (Spec.deadlineOf m.exp) ts) ts m.exp := by
  have := expireAtGT_iff s now k m v ts h hs
  simpa [Spec.expireApplies, Spec.deadlineOf, hd] using this

theorem expireAtLT_partial (s : MState) (now : Int) (k : Bytes) (m : Meta) (v : Val) (ts : Int)
    (h : LiveWith s now k m v) (hs : AList.Sorted s.index) (hd : m.exp ≠ 0) :
    CondResult (Api.expireAtLT s now k ts) k (Spec.expireApplies .lt (Spec.deadlineOf m.exp) ts) ts m.exp := by
  have := expireAtLT_iff s now k m v ts h hs
  simpa [Spec.expireApplies, Spec.deadlineOf, hd] using this

/-! ### the boundary: strictly before the deadline the record is live, at or after it it is not -/

theorem live_iff_before_deadline (s : MState) (now : Int) (k : Bytes) (m : Meta)
    (hm : getMeta s k = some m) (hok : m.isOk = true) (hd : m.exp ≠ 0) :
    live s now k = some m ↔ now < m.exp := by
  rw [live_iff]
  constructor
  · rintro ⟨_, _, he⟩
    simp only [Meta.expired, Bool.and_eq_false_iff, bne_eq_false_iff_eq, decide_eq_false_iff_not] at he
    rcases he with he | he
    · exact absurd he hd
    · omega
  · intro h
    refine ⟨hm, hok, ?_⟩
    have : ¬ m.exp ≤ now := by omega
    simp [Meta.expired, this]

theorem dead_from_deadline_on (s : MState) (now : Int) (k : Bytes) (m : Meta)
    (hm : getMeta s k = some m) (hd : m.exp ≠ 0) (h : m.exp ≤ now) : live s now k = none :=
  live_none_of_expired hm (by simp [Meta.expired, hd, h])

theorem live_without_deadline (s : MState) (now : Int) (k : Bytes) (m : Meta)
    (hm : getMeta s k = some m) (hok : m.isOk = true) (hd : m.exp = 0) : live s now k = some m :=
  live_iff.mpr ⟨hm, hok, by simp [Meta.expired, hd]⟩

/-! ### overwrites clear the deadline, KEEPTTL and in-place updates keep it -/

/-- plain SET (keepTTL = false) on a live string key: the deadline is cleared -/
theorem set_clears_deadline (s : MState) (now : Int) (k value : Bytes) (m : Meta) (old : DsStr.S)
    (h : LiveWith s now k m (Api.strVal old)) (hs : AList.Sorted s.index) :
    (Api.set s now k value false).2 = .unit ∧ Api.expOf (Api.set s now k value false).1 k = 0 := by
  rw [Proofs.C11.set_eq]
  cases old <;> exact keyTx_liveWith h hs true _ _ _ (Proofs.C11.decSet k value false) nofun

/-- SET … KEEPTTL keeps it -/
theorem set_keepttl_keeps (s : MState) (now : Int) (k value : Bytes) (m : Meta) (old : DsStr.S)
    (h : LiveWith s now k m (Api.strVal old)) (hs : AList.Sorted s.index) :
    (Api.set s now k value true).2 = .unit ∧ Api.expOf (Api.set s now k value true).1 k = m.exp := by
  rw [Proofs.C11.set_eq]
  cases old <;> exact keyTx_liveWith h hs true _ _ _ (Proofs.C11.decSet k value true) nofun

/-- SET on a key with no visible record (absent or expired): no deadline, whatever KEEPTTL says -/
theorem set_new_no_deadline (s : MState) (now : Int) (k value : Bytes) (keep : Bool)
    (h : live s now k = none) (hs : AList.Sorted s.index) :
    (Api.set s now k value keep).2 = .unit ∧ Api.expOf (Api.set s now k value keep).1 k = 0 := by
  rw [Proofs.C11.set_eq]
  cases keep <;> exact keyTx_fresh h hs _ _ _ _

/-- after SET the key is live and holds the new value (so the handler's `SET k v EX s` = `Set; Expire`
    chains: see `set_ex_deadline`) -/
theorem set_live_after (s : MState) (now : Int) (k value : Bytes) (keep : Bool) (m : Meta) (old : DsStr.S)
    (h : LiveWith s now k m (Api.strVal old)) (hs : AList.Sorted s.index) :
    ∃ m', LiveWith (Api.set s now k value keep).1 now k m' (.str value) :=
  (set_then value keep (Or.inl ⟨m, old, h⟩) hs).2

theorem set_live_after_new (s : MState) (now : Int) (k value : Bytes) (keep : Bool)
    (h : live s now k = none) (hs : AList.Sorted s.index) :
    ∃ m', LiveWith (Api.set s now k value keep).1 now k m' (.str value) :=
  (set_then value keep (Or.inr h) hs).2

/-- `SET k v EX seconds` as the handler performs it (Set, commit, Expire): reply 1 from Expire and the
    deadline is now + seconds*1000, whether the key was live (string) or had no visible record -/
theorem set_ex_deadline (s : MState) (now : Int) (k value : Bytes) (keep : Bool) (seconds : Int)
    (h : (∃ m old, LiveWith s now k m (Api.strVal old)) ∨ live s now k = none) (hs : AList.Sorted s.index)
    (hz : seconds ≠ 0) :
    (Api.expire (Api.commit (Api.set s now k value keep).1) now k seconds).2 = .int 1 ∧
    Api.expOf (Api.expire (Api.commit (Api.set s now k value keep).1) now k seconds).1 k
      = Spec.deadlineSec now seconds := by
  obtain ⟨hsorted, m', hl⟩ := set_then value keep h hs
  -- with the state after SET left explicit, seeing through `commit` makes the unifier unfold `Api.set`
  generalize (Api.set s now k value keep).1 = t at hsorted hl ⊢
  exact expire_deadline (Api.commit t) now k m' _ seconds hl hsorted hz

/-- `SET k v EXAT/PXAT ts` (Set, commit, ExpireAt) -/
theorem set_exat_deadline (s : MState) (now : Int) (k value : Bytes) (keep : Bool) (ts : Int)
    (h : (∃ m old, LiveWith s now k m (Api.strVal old)) ∨ live s now k = none) (hs : AList.Sorted s.index) :
    (Api.expireAt (Api.commit (Api.set s now k value keep).1) now k ts).2 = .int 1 ∧
    Api.expOf (Api.expireAt (Api.commit (Api.set s now k value keep).1) now k ts).1 k = ts := by
  obtain ⟨hsorted, m', hl⟩ := set_then value keep h hs
  generalize (Api.set s now k value keep).1 = t at hsorted hl ⊢
  exact expireAt_deadline (Api.commit t) now k m' _ ts hl hsorted

theorem getSet_clears (s : MState) (now : Int) (k value : Bytes) (m : Meta) (old : DsStr.S)
    (h : LiveWith s now k m (Api.strVal old)) (hs : AList.Sorted s.index) :
    (Api.getSet s now k value).2 = .bytes old ∧ Api.expOf (Api.getSet s now k value).1 k = 0 := by
  obtain ⟨a, _⟩ := Proofs.C10.writeKey_liveWith h hs none
  rw [Proofs.C11.getSet_eq, a]
  simp only [Bool.not_true, Bool.false_eq_true, if_false]
  cases old <;> exact keyTx_liveWith h hs true none _ _ (Proofs.C11.decGetSet k value) nofun

/-- GETSET on a key with no visible record (absent or expired): reply nil, the key is created with the
    value and without deadline -/
theorem getSet_new (s : MState) (now : Int) (k value : Bytes)
    (h : live s now k = none) (hs : AList.Sorted s.index) :
    (Api.getSet s now k value).2 = .bytes none ∧ Api.expOf (Api.getSet s now k value).1 k = 0 := by
  have a := writeKey_absent h hs
  rw [Proofs.C11.getSet_eq, a]
  simp only [Bool.not_false, if_true]
  refine ⟨trivial, ?_⟩
  rw [expOf_emit, expOf_signal]
  apply expOf_setExp
  apply present_setVal
  obtain ⟨r, hr, _⟩ := hot_newKeyWith now (writeKey s now k none).1 k none (.str [])
  obtain ⟨m, hm, _, _⟩ := vis_some_getMeta hr
  rw [hm]; rfl

/-- PERSIST: reply 1 iff there was a deadline; afterwards there is none -/
theorem persist_clears (s : MState) (now : Int) (k : Bytes) (m : Meta) (v : Val)
    (h : LiveWith s now k m v) (hs : AList.Sorted s.index) :
    (Api.persist s now k).2 = .int (if m.exp = 0 then 0 else 1) ∧ Api.expOf (Api.persist s now k).1 k = 0 := by
  rw [Proofs.C11.apiPersist_eq]
  obtain ⟨a, b⟩ := keyTx_liveWith h hs true none (.int 0) _ (Proofs.C11.decPersist k) nofun
  rw [a, b]
  by_cases h0 : m.exp = 0 <;> simp [Proofs.C11.decPersist, h0, expAfter, Proofs.C11.Act.reply]

/-- In-place updates keep the deadline of a live key (whatever its value: on a value of another
    type the command panics and changes nothing). -/
theorem append_keeps_deadline (s : MState) (now : Int) (k value : Bytes) (m : Meta) (v : Val)
    (h : LiveWith s now k m v) (hs : AList.Sorted s.index) :
    Api.expOf (Api.append s now k value).1 k = m.exp := by
  rw [Proofs.C11.append_eq]
  exact keyTx_keeps h hs _ _ _ _ (fun v _ => by cases v <;> rfl)

theorem addInt_keeps_deadline (s : MState) (now : Int) (k : Bytes) (delta : Int) (neg sw : Bool) (m : Meta)
    (v : Val) (h : LiveWith s now k m v) (hs : AList.Sorted s.index) :
    Api.expOf (Api.addInt s now k delta neg sw).1 k = m.exp := by
  rw [Proofs.C11.addInt_eq]
  exact keyTx_keeps h hs _ _ _ _ (expAfter_decStrWrite _ _ fun _ _ _ _ _ h => by split at h <;> cases h <;> rfl)

theorem setBit_keeps_deadline (s : MState) (now : Int) (k : Bytes) (off : Int) (b : Bool) (m : Meta) (v : Val)
    (h : LiveWith s now k m v) (hs : AList.Sorted s.index) :
    Api.expOf (Api.setBit s now k off b).1 k = m.exp := by
  rw [Proofs.C20.setBit_eq]
  exact keyTx_keeps h hs _ _ _ _ (fun v _ => by cases v <;> rfl)

theorem setRange_keeps_deadline (s : MState) (now : Int) (k : Bytes) (off : Int) (value : Bytes) (m : Meta)
    (v : Val) (h : LiveWith s now k m v) (hs : AList.Sorted s.index) :
    Api.expOf (Api.setRange s now k off value).1 k = m.exp := by
  rw [Proofs.C20.setRange_eq]
  refine keyTx_keeps h hs _ _ _ _ (fun v e => ?_)
  simp only [Proofs.C20.decSetRange]
  exact expAfter_decStrWrite _ _ (fun _ _ _ _ _ h => by split at h <;> cases h <;> rfl) v e

theorem push_keeps_deadline (left : Bool) (s : MState) (now : Int) (k : Bytes) (values : List Bytes) (m : Meta)
    (v : Val) (h : LiveWith s now k m v) (hs : AList.Sorted s.index) :
    Api.expOf (Api.push left s now k values).1 k = m.exp := by
  rw [Proofs.C11.push_eq]
  exact keyTx_keeps h hs _ _ _ _ (fun v _ => by cases v <;> rfl)

theorem pushX_keeps_deadline (left : Bool) (s : MState) (now : Int) (k data : Bytes) (m : Meta)
    (v : Val) (h : LiveWith s now k m v) (hs : AList.Sorted s.index) :
    Api.expOf (Api.pushX left s now k data).1 k = m.exp := by
  rw [Proofs.C20.pushX_eq]
  exact keyTx_keeps h hs _ _ _ _ (fun v _ => by cases v <;> rfl)

theorem linsert_keeps_deadline (s : MState) (now : Int) (k pivot data : Bytes) (before : Bool) (m : Meta)
    (v : Val) (h : LiveWith s now k m v) (hs : AList.Sorted s.index) :
    Api.expOf (Api.linsert s now k pivot data before).1 k = m.exp := by
  rw [Proofs.C20.linsert_eq]
  exact keyTx_keeps h hs _ _ _ _ (fun v _ => by cases v <;> rfl)

theorem lset_keeps_deadline (s : MState) (now : Int) (k : Bytes) (i : Int) (data : Bytes) (m : Meta)
    (v : Val) (h : LiveWith s now k m v) (hs : AList.Sorted s.index) :
    Api.expOf (Api.lset s now k i data).1 k = m.exp := by
  rw [Proofs.C20.lset_eq]
  refine keyTx_keeps h hs _ _ _ _ (fun v e => ?_)
  cases v with
  | list l => simp only [Proofs.C20.lsetF, Proofs.C20.decLset]; split <;> rfl
  | _ => rfl

theorem hset_keeps_deadline (s : MState) (now : Int) (k field value : Bytes) (m : Meta)
    (v : Val) (h : LiveWith s now k m v) (hs : AList.Sorted s.index) :
    Api.expOf (Api.hset s now k field value).1 k = m.exp := by
  rw [Proofs.C11.hset_eq]
  exact keyTx_keeps h hs _ _ _ _ (fun v _ => by cases v <;> rfl)

theorem hincrby_keeps_deadline (s : MState) (now : Int) (k field : Bytes) (delta : Int) (m : Meta)
    (v : Val) (h : LiveWith s now k m v) (hs : AList.Sorted s.index) :
    Api.expOf (Api.hincrby s now k field delta).1 k = m.exp := by
  rw [Proofs.C20.hincrby_eq]
  refine keyTx_keeps h hs _ _ _ _ (fun v e => ?_)
  cases v with
  | hash x => simp only [Proofs.C20.hincrbyF, Proofs.C20.decHincrby]; split <;> rfl
  | _ => rfl

theorem sadd_keeps_deadline (s : MState) (now : Int) (k : Bytes) (members : List Bytes) (m : Meta)
    (v : Val) (h : LiveWith s now k m v) (hs : AList.Sorted s.index) :
    Api.expOf (Api.sadd s now k members).1 k = m.exp := by
  rw [Proofs.C11.sadd_eq]
  exact keyTx_keeps h hs _ _ _ _ (fun v _ => by cases v <;> rfl)

/-- ZADD and ZADD NX (`Api.zadd = zaddWith zAdd`, `Api.zaddNX = zaddWith zAddNX`) -/
theorem zadd_keeps_deadline (f : ZSet → Bytes → F64 → ZSet × Int) (s : MState) (now : Int) (k mem : Bytes)
    (sc : F64) (m : Meta) (v : Val) (h : LiveWith s now k m v) (hs : AList.Sorted s.index) :
    Api.expOf (Api.zaddWith f s now k mem sc).1 k = m.exp := by
  rw [Proofs.C11.zaddWith_eq]
  exact keyTx_keeps h hs _ _ _ _ (fun v _ => by cases v <;> rfl)

theorem zincrby_keeps_deadline (s : MState) (now : Int) (k mem : Bytes) (delta : F64) (m : Meta)
    (v : Val) (h : LiveWith s now k m v) (hs : AList.Sorted s.index) :
    Api.expOf (Api.zincrby s now k mem delta).1 k = m.exp := by
  rw [Proofs.C20.zincrby_eqU]
  exact keyTx_keeps h hs _ _ _ _ (fun v _ => by cases v <;> rfl)

/-- PTTL and TTL of a live key: remaining time (PTTL = deadline − now; TTL = that as a Go duration in
    ns rounded to whole seconds), −1 without deadline -/
theorem ttl_reports (s : MState) (now : Int) (k : Bytes) (m : Meta) (v : Val)
    (h : LiveWith s now k m v) (hs : AList.Sorted s.index) :
    (Api.pttl s now k).2 = .int (Spec.pttl now (some m.exp)) ∧
    (Api.ttl s now k).2 = .int (Spec.ttlNs now (some m.exp)) := by
  rw [Proofs.C11.pttl_eq, Proofs.C11.ttl_eq, (keyTx_liveWith h hs false none _ _ _ (fun _ => rfl)).1,
    (keyTx_liveWith h hs false none _ _ _ (fun _ => rfl)).1]
  exact ⟨pttlOut_eq now m.exp, ttlOut_eq now m.exp⟩

/-- … and −2 when the key is absent or expired -/
theorem ttl_reports_absent (s : MState) (now : Int) (k : Bytes)
    (h : live s now k = none) (hs : AList.Sorted s.index) :
    (Api.pttl s now k).2 = .int (Spec.pttl now none) ∧ (Api.ttl s now k).2 = .int (Spec.ttlNs now none) := by
  rw [Proofs.C11.pttl_eq, Proofs.C11.ttl_eq, keyTx_absent h hs, keyTx_absent h hs]
  exact ⟨rfl, rfl⟩

/-- with a deadline in the future the reported PTTL is positive and is exactly deadline − now -/
theorem pttl_positive (now e : Int) (h0 : e ≠ 0) (h : now < e) :
    Spec.pttl now (some e) = e - now ∧ 0 < Spec.pttl now (some e) := by
  unfold Spec.pttl
  simp only
  rw [if_neg h0]
  omega

/-- when nothing overflows, TTL is the remaining milliseconds rounded to the nearest second (half up), in ns -/
theorem ttlNs_exact (now e : Int) (h0 : e ≠ 0) (h1 : (e - now) * 1000000 ≤ int64Max - 500000000) :
    Spec.ttlNs now (some e) = (e - now + 500) / 1000 * 1000000000 := by
  unfold Spec.ttlNs int64Max at *
  simp only [h0, if_false]
  split
  · omega
  · split <;> omega

/-- TTL never increases while no command touches the key (same state, later instant) -/
theorem pttl_monotone (s : MState) (now now' : Int) (k : Bytes) (m m' : Meta) (v v' : Val)
    (hn : now ≤ now') (h : LiveWith s now k m v) (h' : LiveWith s now' k m' v') (hs : AList.Sorted s.index) :
    ∃ a b, (Api.pttl s now k).2 = .int a ∧ (Api.pttl s now' k).2 = .int b ∧ b ≤ a := by
  cases live_unique h.1 h'.1
  refine ⟨_, _, (ttl_reports s now k m v h hs).1, (ttl_reports s now' k m v' h' hs).1, ?_⟩
  unfold Spec.pttl
  simp only
  split <;> omega

theorem ttl_monotone (s : MState) (now now' : Int) (k : Bytes) (m m' : Meta) (v v' : Val)
    (hn : now ≤ now') (h : LiveWith s now k m v) (h' : LiveWith s now' k m' v') (hs : AList.Sorted s.index) :
    ∃ a b, (Api.ttl s now k).2 = .int a ∧ (Api.ttl s now' k).2 = .int b ∧ b ≤ a := by
  cases live_unique h.1 h'.1
  exact ⟨_, _, (ttl_reports s now k m v h hs).2, (ttl_reports s now' k m v' h' hs).2, ttlNs_antitone m.exp hn⟩

/-! ## No command sees an expired record

  GENERIC LEMMA: `Proofs.C10.keyTx_good` — a key transaction (`Proofs.C11.keyTx`: it touches the store only
  through `readKey` / `writeKey` on its key argument and then acts on that key with `setVal`, `setExp`,
  `delKey`, `signal`, `emit`) gives the same reply on two `Sim`-related states and leaves them
  related. Every single-key command is an instance (`Proofs/KeyTxApi.lean`, by unfolding only);
  DEL, EXISTS, KEYS, RANDOMKEY, SETNX, RENAME, RENAMENX, SDIFF/SINTER/SUNION, MSET are proved from
  the same primitive lemmas (`Proofs/C10Resp.lean`). -/

/-- the commands covered -/
inductive Cmd
  -- strings
  | get (k : Bytes) | getBit (k : Bytes) (off : Int) | bitCount (k : Bytes) (a b : Int) (bit : Bool)
  | getRange (k : Bytes) (a b : Int) | strLen (k : Bytes)
  | set (k v : Bytes) (keepTTL : Bool) | setOpt (k : Bytes) (v : DsStr.S) (keepTTL : Bool)
  | getSet (k v : Bytes) | setNX (k v : Bytes) (keepTTL : Bool) | setXX (k v : Bytes) (keepTTL : Bool)
  | setEX (k v : Bytes) (seconds : Int) | setPX (k v : Bytes) (ms : Int)
  | addInt (k : Bytes) (delta : Int) (neg : Bool) | setBit (k : Bytes) (off : Int) (b : Bool)
  | append (k v : Bytes) | setRange (k : Bytes) (off : Int) (v : Bytes) | mset (pairs : List Bytes)
  -- keys
  | exists_ (ks : List Bytes) | del (ks : List Bytes) | type_ (k : Bytes) | keys (pat : Bytes)
  | randomKey (choice : Option Bytes) | ttl (k : Bytes) | pttl (k : Bytes)
  | expire (k : Bytes) (seconds : Int) | expirePX (k : Bytes) (ms : Int)
  | expireNX (k : Bytes) (seconds : Int) | expireXX (k : Bytes) (seconds : Int)
  | expireLT (k : Bytes) (seconds : Int) | expireGT (k : Bytes) (seconds : Int)
  | expireAt (k : Bytes) (ts : Int) | expireAtNX (k : Bytes) (ts : Int) | expireAtXX (k : Bytes) (ts : Int)
  | expireAtLT (k : Bytes) (ts : Int) | expireAtGT (k : Bytes) (ts : Int) | persist (k : Bytes)
  | rename (k dst : Bytes) | renameNX (k dst : Bytes)
  -- lists
  | push (left : Bool) (k : Bytes) (vs : List Bytes) | pop (left : Bool) (k : Bytes) (count : Int)
  | llen (k : Bytes) | lindex (k : Bytes) (i : Int) | lrange (k : Bytes) (a b : Int)
  | linsert (k pivot data : Bytes) (before : Bool) | pushX (left : Bool) (k data : Bytes)
  | lrem (k data : Bytes) (count : Int) | lset (k : Bytes) (i : Int) (data : Bytes) | ltrim (k : Bytes) (a b : Int)
  -- hashes
  | hset (k f v : Bytes) | hget (k f : Bytes) | hlen (k : Bytes) | hkeys (k : Bytes) | hvals (k : Bytes)
  | hgetall (k : Bytes) | hexists (k f : Bytes) | hstrlen (k f : Bytes) | hmget (k : Bytes) (fs : List Bytes)
  | hscan (k : Bytes) (cursor : Int) (pat : Bytes) (count : Int) | hdel (k : Bytes) (fs : List Bytes)
  | hincrby (k f : Bytes) (delta : Int) | hsetnx (k f v : Bytes)
  -- sets
  | sadd (k : Bytes) (ms : List Bytes) | scard (k : Bytes) | smembers (k : Bytes) | sismember (k m : Bytes)
  | sscan (k : Bytes) (cursor : Int) (pat : Bytes) (count : Int) | srem (k : Bytes) (ms : List Bytes)
  | sdiff (ks : List Bytes) | sinter (ks : List Bytes) | sunion (ks : List Bytes)
  -- sorted sets
  | zadd (k m : Bytes) (sc : F64) | zaddNX (k m : Bytes) (sc : F64) | zaddXX (k m : Bytes) (sc : F64)
  | zaddLT (k m : Bytes) (sc : F64) | zaddGT (k m : Bytes) (sc : F64)
  | zcard (k : Bytes) | zrank (k m : Bytes) | zrevrank (k m : Bytes) | zscore (k m : Bytes)
  | rankWithScore (desc : Bool) (k m : Bytes)
  | zrange (desc withScores : Bool) (k : Bytes) (a b : Int)
  | zrangeByScore (desc withScores : Bool) (k : Bytes) (min max : F64) (offset count mode : Int)
  | zexists (k m : Bytes) | zcount (k : Bytes) (min max : F64) (mode : Int) | zmax (k : Bytes) | zmin (k : Bytes)
  | zscan (k : Bytes) (cursor : Int) (pat : Bytes) (count : Int)
  | zincrby (k m : Bytes) (delta : F64) | zrem (k : Bytes) (ms : List Bytes)
  | zremRangeByRank (k : Bytes) (a b : Int) | zremRangeByScore (k : Bytes) (min max : F64) (mode : Int)
  | zunion (ks : List Bytes) (weights : List F64) (agg : Bytes)
  | zinter (ks : List Bytes) (weights : List F64) (agg : Bytes)
  | zunionstore (dst : Bytes) (ks : List Bytes) (weights : List F64) (agg : Bytes)
  | zinterstore (dst : Bytes) (ks : List Bytes) (weights : List F64) (agg : Bytes)
  -- further commands
  | incrByFloat (k : Bytes) (delta : F64) | hincrbyfloat (k f : Bytes) (delta : F64)
  | hmset (k : Bytes) (pairs : List (Bytes × Bytes))
  | spop (k : Bytes) (count : Int) (choice : List Bytes) | srandmember (k : Bytes) (count : Int) (choice : List Bytes)
  | sdiffstore (dst : Bytes) (ks : List Bytes) | sinterstore (dst : Bytes) (ks : List Bytes)
  | sunionstore (dst : Bytes) (ks : List Bytes)
  | rotate (left : Bool) (src dst : Bytes) | smove (src dst member : Bytes)

/-- dispatch to the model's API functions -/
def run (s : MState) (now : Int) : Cmd → MState × Out
  | .get k => Api.get s now k | .getBit k o => Api.getBit s now k o
  | .bitCount k a b bit => Api.bitCount s now k a b bit | .getRange k a b => Api.getRange s now k a b
  | .strLen k => Api.strLen s now k
  | .set k v keep => Api.set s now k v keep | .setOpt k v keep => Api.setOpt s now k v keep
  | .getSet k v => Api.getSet s now k v | .setNX k v keep => Api.setNX s now k v keep
  | .setXX k v keep => Api.setXX s now k v keep
  | .setEX k v sec => Api.setEX s now k v sec | .setPX k v ms => Api.setPX s now k v ms
  | .addInt k d neg => Api.addInt s now k d neg | .setBit k o b => Api.setBit s now k o b
  | .append k v => Api.append s now k v | .setRange k o v => Api.setRange s now k o v
  | .mset pairs => Api.mset s now pairs
  | .exists_ ks => Api.exists_ s now ks | .del ks => Api.del s now ks | .type_ k => Api.type_ s now k
  | .keys pat => Api.keys s now pat | .randomKey c => Api.randomKey s now c
  | .ttl k => Api.ttl s now k | .pttl k => Api.pttl s now k
  | .expire k sec => Api.expire s now k sec | .expirePX k ms => Api.expirePX s now k ms
  | .expireNX k sec => Api.expireNX s now k sec | .expireXX k sec => Api.expireXX s now k sec
  | .expireLT k sec => Api.expireLT s now k sec | .expireGT k sec => Api.expireGT s now k sec
  | .expireAt k ts => Api.expireAt s now k ts | .expireAtNX k ts => Api.expireAtNX s now k ts
  | .expireAtXX k ts => Api.expireAtXX s now k ts | .expireAtLT k ts => Api.expireAtLT s now k ts
  | .expireAtGT k ts => Api.expireAtGT s now k ts | .persist k => Api.persist s now k
  | .rename k d => Api.rename s now k d | .renameNX k d => Api.renameNX s now k d
  | .push l k vs => Api.push l s now k vs | .pop l k c => Api.pop l s now k c
  | .llen k => Api.llen s now k | .lindex k i => Api.lindex s now k i | .lrange k a b => Api.lrange s now k a b
  | .linsert k p d b => Api.linsert s now k p d b | .pushX l k d => Api.pushX l s now k d
  | .lrem k d c => Api.lrem s now k d c | .lset k i d => Api.lset s now k i d
  | .ltrim k a b => Api.ltrim s now k a b
  | .hset k f v => Api.hset s now k f v | .hget k f => Api.hget s now k f | .hlen k => Api.hlen s now k
  | .hkeys k => Api.hkeys s now k | .hvals k => Api.hvals s now k | .hgetall k => Api.hgetall s now k
  | .hexists k f => Api.hexists s now k f | .hstrlen k f => Api.hstrlen s now k f
  | .hmget k fs => Api.hmget s now k fs | .hscan k c p n => Api.hscan s now k c p n
  | .hdel k fs => Api.hdel s now k fs | .hincrby k f d => Api.hincrby s now k f d
  | .hsetnx k f v => Api.hsetnx s now k f v
  | .sadd k ms => Api.sadd s now k ms | .scard k => Api.scard s now k | .smembers k => Api.smembers s now k
  | .sismember k m => Api.sismember s now k m | .sscan k c p n => Api.sscan s now k c p n
  | .srem k ms => Api.srem s now k ms
  | .sdiff ks => Api.sdiff s now ks | .sinter ks => Api.sinter s now ks | .sunion ks => Api.sunion s now ks
  | .zadd k m sc => Api.zadd s now k m sc | .zaddNX k m sc => Api.zaddNX s now k m sc
  | .zaddXX k m sc => Api.zaddXX s now k m sc | .zaddLT k m sc => Api.zaddLT s now k m sc
  | .zaddGT k m sc => Api.zaddGT s now k m sc
  | .zcard k => Api.zcard s now k | .zrank k m => Api.zrank s now k m | .zrevrank k m => Api.zrevrank s now k m
  | .zscore k m => Api.zscore s now k m | .rankWithScore d k m => Api.rankWithScore d s now k m
  | .zrange d w k a b => Api.zrange d w s now k a b
  | .zrangeByScore d w k mn mx o c md => Api.zrangeByScore d w s now k mn mx o c md
  | .zexists k m => Api.zexists s now k m | .zcount k mn mx md => Api.zcount s now k mn mx md
  | .zmax k => Api.zmax s now k | .zmin k => Api.zmin s now k | .zscan k c p n => Api.zscan s now k c p n
  | .zincrby k m d => Api.zincrby s now k m d | .zrem k ms => Api.zrem s now k ms
  | .zremRangeByRank k a b => Api.zremRangeByRank s now k a b
  | .zremRangeByScore k mn mx md => Api.zremRangeByScore s now k mn mx md
  | .zunion ks w a => Api.zunion s now ks w a | .zinter ks w a => Api.zinter s now ks w a
  | .zunionstore d ks w a => Api.zstore true s now d ks w a
  | .zinterstore d ks w a => Api.zstore false s now d ks w a
  | .incrByFloat k d => Api.incrByFloat s now k d | .hincrbyfloat k f d => Api.hincrbyfloat s now k f d
  | .hmset k ps => Api.hmset s now k ps
  | .spop k c ch => Api.spop s now k c ch | .srandmember k c ch => Api.srandmember s now k c ch
  | .sdiffstore d ks => Api.sstore Api.sdiff s now d ks | .sinterstore d ks => Api.sstore Api.sinter s now d ks
  | .sunionstore d ks => Api.sstore Api.sunion s now d ks
  | .rotate l a b => Api.rotate l s now a b | .smove a b m => Api.smove s now a b m

theorem run_resp (now : Int) (c : Cmd) : Resp now (fun s => run s now c) := by
  cases c with
  | get k => exact resp_keyTx (fun s => Proofs.C11.get_eq s now k) (fun _ => rfl)
  | getBit k o => exact resp_keyTx (fun s => Proofs.C11.getBit_eq s now k o) (fun _ => rfl)
  | bitCount k a b bit => exact resp_keyTx (fun s => Proofs.C11.bitCount_eq s now k a b bit) (fun _ => rfl)
  | getRange k a b => exact resp_keyTx (fun s => Proofs.C11.getRange_eq s now k a b) (fun _ => rfl)
  | strLen k => exact resp_keyTx (fun s => Proofs.C11.strLen_eq s now k) (fun _ => rfl)
  | set k v keep => exact resp_set now k v keep
  | setOpt k v keep => exact resp_keyTx (fun s => Proofs.C11.setOpt_eq s now k v keep) nofun
  | getSet k v => exact resp_getSet now k v
  | setNX k v keep => exact resp_setNX now k v keep
  | setXX k v keep => exact resp_keyTx (fun s => Proofs.C11.setXX_eq s now k v keep) nofun
  | setEX k v sec => exact resp_keyTx (fun s => Proofs.C11.setEX_eq s now k v sec) nofun
  | setPX k v ms => exact resp_keyTx (fun s => Proofs.C11.setPX_eq s now k v ms) nofun
  | addInt k d neg => exact resp_keyTx (fun s => Proofs.C11.addInt_eq s now k d neg false) nofun
  | setBit k o b => exact resp_keyTx (fun s => Proofs.C20.setBit_eq s now k o b) nofun
  | append k v => exact resp_keyTx (fun s => Proofs.C11.append_eq s now k v) nofun
  | setRange k o v => exact resp_keyTx (fun s => Proofs.C20.setRange_eq s now k o v) nofun
  | mset pairs => exact resp_mset now pairs
  | exists_ ks => exact resp_exists now ks
  | del ks => exact resp_del now ks
  | type_ k => exact resp_keyTx (fun s => Proofs.C11.type_eq s now k) (fun _ => rfl)
  | keys pat => exact resp_keys now pat
  | randomKey c => exact resp_randomKey now c
  | ttl k => exact resp_keyTx (fun s => Proofs.C11.ttl_eq s now k) (fun _ => rfl)
  | pttl k => exact resp_keyTx (fun s => Proofs.C11.pttl_eq s now k) (fun _ => rfl)
  | expire k sec => exact resp_expire now k sec
  | expirePX k ms => exact resp_expirePX now k ms
  | expireNX k sec => exact resp_keyTx (fun s => Proofs.C11.expireNX_eq s now k sec) nofun
  | expireXX k sec => exact resp_keyTx (fun s => Proofs.C11.expireXX_eq s now k sec) nofun
  | expireLT k sec => exact resp_keyTx (fun s => Proofs.C11.expireLT_eq s now k sec) nofun
  | expireGT k sec => exact resp_keyTx (fun s => Proofs.C11.expireGT_eq s now k sec) nofun
  | expireAt k ts => exact resp_keyTx (fun s => Proofs.C11.expireAt_eq s now k ts) nofun
  | expireAtNX k ts => exact resp_keyTx (fun s => Proofs.C11.expireAtNX_eq s now k ts) nofun
  | expireAtXX k ts => exact resp_keyTx (fun s => Proofs.C11.expireAtXX_eq s now k ts) nofun
  | expireAtLT k ts => exact resp_keyTx (fun s => Proofs.C11.expireAtLT_eq s now k ts) nofun
  | expireAtGT k ts => exact resp_keyTx (fun s => Proofs.C11.expireAtGT_eq s now k ts) nofun
  | persist k => exact resp_keyTx (fun s => Proofs.C11.apiPersist_eq s now k) nofun
  | rename k d => exact resp_rename now k d
  | renameNX k d => exact resp_renameNX now k d
  | push l k vs => exact resp_keyTx (fun s => Proofs.C11.push_eq l s now k vs) nofun
  | pop l k c => exact resp_keyTx (fun s => Proofs.C11.pop_eq l s now k c) nofun
  | llen k => exact resp_keyTx (fun s => Proofs.C11.llen_eq s now k) (fun _ => rfl)
  | lindex k i => exact resp_keyTx (fun s => Proofs.C11.lindex_eq s now k i) (fun _ => rfl)
  | lrange k a b => exact resp_keyTx (fun s => Proofs.C11.lrange_eq s now k a b) (fun _ => rfl)
  | linsert k p d b => exact resp_keyTx (fun s => Proofs.C20.linsert_eq s now k p d b) nofun
  | pushX l k d => exact resp_keyTx (fun s => Proofs.C20.pushX_eq l s now k d) nofun
  | lrem k d c => exact resp_keyTx (fun s => Proofs.C11.lrem_eq s now k d c) nofun
  | lset k i d => exact resp_keyTx (fun s => Proofs.C20.lset_eq s now k i d) nofun
  | ltrim k a b => exact resp_keyTx (fun s => Proofs.C11.ltrim_eq s now k a b) nofun
  | hset k f v => exact resp_keyTx (fun s => Proofs.C11.hset_eq s now k f v) nofun
  | hget k f => exact resp_keyTx (fun s => Proofs.C11.hget_eq s now k f) (fun _ => rfl)
  | hlen k => exact resp_keyTx (fun s => Proofs.C11.hread_eq _ _ s now k) (fun _ => rfl)
  | hkeys k => exact resp_keyTx (fun s => Proofs.C11.hread_eq _ _ s now k) (fun _ => rfl)
  | hvals k => exact resp_keyTx (fun s => Proofs.C11.hread_eq _ _ s now k) (fun _ => rfl)
  | hgetall k => exact resp_keyTx (fun s => Proofs.C11.hread_eq _ _ s now k) (fun _ => rfl)
  | hexists k f => exact resp_keyTx (fun s => Proofs.C11.hread_eq _ _ s now k) (fun _ => rfl)
  | hstrlen k f => exact resp_keyTx (fun s => Proofs.C11.hread_eq _ _ s now k) (fun _ => rfl)
  | hmget k fs => exact resp_keyTx (fun s => Proofs.C11.hread_eq _ _ s now k) (fun _ => rfl)
  | hscan k c p n => exact resp_keyTx (fun s => Proofs.C11.hread_eq _ _ s now k) (fun _ => rfl)
  | hdel k fs => exact resp_keyTx (fun s => Proofs.C11.hdel_eq s now k fs) nofun
  | hincrby k f d => exact resp_keyTx (fun s => Proofs.C20.hincrby_eq s now k f d) nofun
  | hsetnx k f v => exact resp_keyTx (fun s => Proofs.C11.hsetnx_eq s now k f v) nofun
  | sadd k ms => exact resp_sadd now k ms
  | scard k => exact resp_sread now k _ _
  | smembers k => exact resp_sread now k _ _
  | sismember k m => exact resp_sread now k _ _
  | sscan k c p n => exact resp_sread now k _ _
  | srem k ms => exact resp_keyTx (fun s => Proofs.C11.srem_eq s now k ms) nofun
  | sdiff ks => exact resp_sdiff now ks
  | sinter ks => exact resp_sinter now ks
  | sunion ks => exact resp_sunion now ks
  | zadd k m sc => exact resp_keyTx (fun s => Proofs.C11.zaddWith_eq DsZSet.zAdd s now k m sc) nofun
  | zaddNX k m sc => exact resp_keyTx (fun s => Proofs.C11.zaddWith_eq DsZSet.zAddNX s now k m sc) nofun
  | zaddXX k m sc => exact resp_keyTx (fun s => Proofs.C20.zaddXX_eq s now k m sc) nofun
  | zaddLT k m sc => exact resp_keyTx (fun s => Proofs.C20.zaddCmp_eq DsZSet.zAddLT Proofs.C20.zAddLT_fst s now k m sc) nofun
  | zaddGT k m sc => exact resp_keyTx (fun s => Proofs.C20.zaddCmp_eq DsZSet.zAddGT Proofs.C20.zAddGT_fst s now k m sc) nofun
  | zcard k => exact resp_keyTx (fun s => Proofs.C11.zread_eq _ _ s now k) (fun _ => rfl)
  | zrank k m => exact resp_keyTx (fun s => Proofs.C11.zread_eq _ _ s now k) (fun _ => rfl)
  | zrevrank k m => exact resp_keyTx (fun s => Proofs.C11.zread_eq _ _ s now k) (fun _ => rfl)
  | zscore k m => exact resp_keyTx (fun s => Proofs.C11.zread_eq _ _ s now k) (fun _ => rfl)
  | rankWithScore d k m => exact resp_keyTx (fun s => Proofs.C11.zread_eq _ _ s now k) (fun _ => rfl)
  | zrange d w k a b => exact resp_keyTx (fun s => Proofs.C11.zread_eq _ _ s now k) (fun _ => rfl)
  | zrangeByScore d w k mn mx o c md => exact resp_keyTx (fun s => Proofs.C11.zread_eq _ _ s now k) (fun _ => rfl)
  | zexists k m => exact resp_keyTx (fun s => Proofs.C11.zread_eq _ _ s now k) (fun _ => rfl)
  | zcount k mn mx md => exact resp_keyTx (fun s => Proofs.C11.zread_eq _ _ s now k) (fun _ => rfl)
  | zmax k => exact resp_keyTx (fun s => Proofs.C11.zread_eq _ _ s now k) (fun _ => rfl)
  | zmin k => exact resp_keyTx (fun s => Proofs.C11.zread_eq _ _ s now k) (fun _ => rfl)
  | zscan k c p n => exact resp_keyTx (fun s => Proofs.C11.zread_eq _ _ s now k) (fun _ => rfl)
  | zincrby k m d => exact resp_keyTx (fun s => Proofs.C20.zincrby_eqU s now k m d) nofun
  | zrem k ms => exact resp_remTx fun s => Proofs.C20.zrem_eq s now k ms
  | zremRangeByRank k a b => exact resp_remTx fun s => Proofs.C20.zremRangeByRank_eq s now k a b
  | zremRangeByScore k mn mx md => exact resp_remTx fun s => Proofs.C20.zremRangeByScore_eq s now k mn mx md
  | zunion ks w a => exact resp_zunion now ks w a
  | zinter ks w a => exact resp_zinter now ks w a
  | zunionstore d ks w a => exact resp_zstore now true d ks w a
  | zinterstore d ks w a => exact resp_zstore now false d ks w a
  | incrByFloat k d => exact resp_incrByFloat now k d
  | hincrbyfloat k f d => exact resp_hincrbyfloat now k f d
  | hmset k ps => exact resp_hmset now k ps
  | spop k c ch => exact resp_spop now k c ch
  | srandmember k c ch => exact resp_srandmember now k c ch
  | sdiffstore d ks => exact resp_sstore now Api.sdiff d ks (resp_sdiff now ks)
  | sinterstore d ks => exact resp_sstore now Api.sinter d ks (resp_sinter now ks)
  | sunionstore d ks => exact resp_sstore now Api.sunion d ks (resp_sunion now ks)
  | rotate l a b => exact resp_rotate now l a b
  | smove a b m => exact resp_smove now a b m

/-- MAIN THEOREM: a command run on `s` and on the purged state gives the same reply, and the
    two resulting states are observationally equivalent (same unexpired records, same frame). -/
theorem expired_invisible (s : MState) (now : Int) (c : Cmd) (hs : AList.Sorted s.index) :
    (run s now c).2 = (run (purge now s) now c).2 ∧
    Sim now (run s now c).1 (run (purge now s) now c).1 := by
  have r := run_resp now c s (purge now s) (good_purge now s hs)
  exact ⟨r.reply, r.good.sim⟩

/-- the general form: `Sim` is a congruence for every covered command (so the statement iterates
    along any sequence of commands issued at the same instant), and the btree invariant is kept -/
theorem sim_congruence (s s' : MState) (now : Int) (c : Cmd) (hs : AList.Sorted s.index)
    (hs' : AList.Sorted s'.index) (h : Sim now s s') :
    (run s now c).2 = (run s' now c).2 ∧ Sim now (run s now c).1 (run s' now c).1 ∧
    AList.Sorted (run s now c).1.index ∧ AList.Sorted (run s' now c).1.index := by
  have r := run_resp now c s s' ⟨hs, hs', h⟩
  exact ⟨r.reply, r.good.sim, r.good.sorted₁, r.good.sorted₂⟩

/-- `purge` really relates to `s`: `Sim now s (purge now s)`, and the purged state indexes no expired record -/
theorem sim_purge (s : MState) (now : Int) (hs : AList.Sorted s.index) : Sim now s (purge now s) :=
  (good_purge now s hs).2.2

theorem purge_no_expired (s : MState) (now : Int) (k : Bytes) (m : Meta) (hs : AList.Sorted s.index)
    (h : getMeta (purge now s) k = some m) : m.expired now = false ∧ getMeta s k = some m := by
  rw [getMeta_purge now s hs] at h
  cases hg : getMeta s k with
  | none => rw [hg] at h; cases h
  | some m0 =>
    rw [hg] at h
    simp only [Option.filter] at h
    split at h
    · rename_i hc; cases h; exact ⟨by simpa using hc, rfl⟩
    · cases h

/-- what `Sim` gives for a name: same live record up to bookkeeping — same deadline, same value -/
theorem sim_live (s s' : MState) (now : Int) (k : Bytes) (h : Sim now s s') :
    (live s now k).map (fun m => (m.exp, m.value)) = (live s' now k).map (fun m => (m.exp, m.value)) := by
  have hv := h.recs k
  have key : ∀ (t : MState), (live t now k).map (fun m => (m.exp, m.value)) =
      ((vis now t k).filter (·.ok)).map (fun r => (r.exp, r.value)) := by
    intro t
    unfold live vis
    cases getMeta t k with
    | none => rfl
    | some m =>
      simp only [Option.filter]
      by_cases he : m.expired now = true
      · simp [he]
      · by_cases ho : m.isOk = true
        · simp [he, ho, recOf]
        · simp [he, ho, recOf]
  rw [key s, key s', hv]

/-! ### named instances (the commands listed in the property) -/

theorem invisible_of_resp {f : MState → Api.R} {now : Int} (h : Resp now f) (s : MState)
    (hs : AList.Sorted s.index) :
    (f s).2 = (f (purge now s)).2 ∧ Sim now (f s).1 (f (purge now s)).1 := by
  have r := h s (purge now s) (good_purge now s hs)
  exact ⟨r.reply, r.good.sim⟩

theorem expired_invisible_get (s : MState) (now : Int) (k : Bytes) (hs : AList.Sorted s.index) :
    (Api.get s now k).2 = (Api.get (purge now s) now k).2 ∧
    Sim now (Api.get s now k).1 (Api.get (purge now s) now k).1 :=
  expired_invisible s now (.get k) hs
theorem expired_invisible_set (s : MState) (now : Int) (k v : Bytes) (keep : Bool) (hs : AList.Sorted s.index) :
    (Api.set s now k v keep).2 = (Api.set (purge now s) now k v keep).2 ∧
    Sim now (Api.set s now k v keep).1 (Api.set (purge now s) now k v keep).1 :=
  expired_invisible s now (.set k v keep) hs
theorem expired_invisible_setNX (s : MState) (now : Int) (k v : Bytes) (keep : Bool) (hs : AList.Sorted s.index) :
    (Api.setNX s now k v keep).2 = (Api.setNX (purge now s) now k v keep).2 ∧
    Sim now (Api.setNX s now k v keep).1 (Api.setNX (purge now s) now k v keep).1 :=
  expired_invisible s now (.setNX k v keep) hs
theorem expired_invisible_setXX (s : MState) (now : Int) (k v : Bytes) (keep : Bool) (hs : AList.Sorted s.index) :
    (Api.setXX s now k v keep).2 = (Api.setXX (purge now s) now k v keep).2 ∧
    Sim now (Api.setXX s now k v keep).1 (Api.setXX (purge now s) now k v keep).1 :=
  expired_invisible s now (.setXX k v keep) hs
theorem expired_invisible_getSet (s : MState) (now : Int) (k v : Bytes) (hs : AList.Sorted s.index) :
    (Api.getSet s now k v).2 = (Api.getSet (purge now s) now k v).2 ∧
    Sim now (Api.getSet s now k v).1 (Api.getSet (purge now s) now k v).1 :=
  expired_invisible s now (.getSet k v) hs
theorem expired_invisible_append (s : MState) (now : Int) (k v : Bytes) (hs : AList.Sorted s.index) :
    (Api.append s now k v).2 = (Api.append (purge now s) now k v).2 ∧
    Sim now (Api.append s now k v).1 (Api.append (purge now s) now k v).1 :=
  expired_invisible s now (.append k v) hs
theorem expired_invisible_addInt (s : MState) (now : Int) (k : Bytes) (d : Int) (neg : Bool)
    (hs : AList.Sorted s.index) :
    (Api.addInt s now k d neg).2 = (Api.addInt (purge now s) now k d neg).2 ∧
    Sim now (Api.addInt s now k d neg).1 (Api.addInt (purge now s) now k d neg).1 :=
  expired_invisible s now (.addInt k d neg) hs
theorem expired_invisible_strLen (s : MState) (now : Int) (k : Bytes) (hs : AList.Sorted s.index) :
    (Api.strLen s now k).2 = (Api.strLen (purge now s) now k).2 ∧
    Sim now (Api.strLen s now k).1 (Api.strLen (purge now s) now k).1 :=
  expired_invisible s now (.strLen k) hs
theorem expired_invisible_exists (s : MState) (now : Int) (ks : List Bytes) (hs : AList.Sorted s.index) :
    (Api.exists_ s now ks).2 = (Api.exists_ (purge now s) now ks).2 ∧
    Sim now (Api.exists_ s now ks).1 (Api.exists_ (purge now s) now ks).1 :=
  expired_invisible s now (.exists_ ks) hs
theorem expired_invisible_type (s : MState) (now : Int) (k : Bytes) (hs : AList.Sorted s.index) :
    (Api.type_ s now k).2 = (Api.type_ (purge now s) now k).2 ∧
    Sim now (Api.type_ s now k).1 (Api.type_ (purge now s) now k).1 :=
  expired_invisible s now (.type_ k) hs
theorem expired_invisible_del (s : MState) (now : Int) (ks : List Bytes) (hs : AList.Sorted s.index) :
    (Api.del s now ks).2 = (Api.del (purge now s) now ks).2 ∧
    Sim now (Api.del s now ks).1 (Api.del (purge now s) now ks).1 :=
  expired_invisible s now (.del ks) hs
theorem expired_invisible_ttl (s : MState) (now : Int) (k : Bytes) (hs : AList.Sorted s.index) :
    (Api.ttl s now k).2 = (Api.ttl (purge now s) now k).2 ∧
    Sim now (Api.ttl s now k).1 (Api.ttl (purge now s) now k).1 :=
  expired_invisible s now (.ttl k) hs
theorem expired_invisible_pttl (s : MState) (now : Int) (k : Bytes) (hs : AList.Sorted s.index) :
    (Api.pttl s now k).2 = (Api.pttl (purge now s) now k).2 ∧
    Sim now (Api.pttl s now k).1 (Api.pttl (purge now s) now k).1 :=
  expired_invisible s now (.pttl k) hs
theorem expired_invisible_keys (s : MState) (now : Int) (pat : Bytes) (hs : AList.Sorted s.index) :
    (Api.keys s now pat).2 = (Api.keys (purge now s) now pat).2 ∧
    Sim now (Api.keys s now pat).1 (Api.keys (purge now s) now pat).1 :=
  expired_invisible s now (.keys pat) hs
/-- RANDOMKEY is relational: the same implementation choices are accepted on both states -/
theorem expired_invisible_randomKey (s : MState) (now : Int) (c : Option Bytes) (hs : AList.Sorted s.index) :
    (Api.randomKey s now c).2 = (Api.randomKey (purge now s) now c).2 ∧
    Sim now (Api.randomKey s now c).1 (Api.randomKey (purge now s) now c).1 :=
  expired_invisible s now (.randomKey c) hs
theorem expired_invisible_rename (s : MState) (now : Int) (k d : Bytes) (hs : AList.Sorted s.index) :
    (Api.rename s now k d).2 = (Api.rename (purge now s) now k d).2 ∧
    Sim now (Api.rename s now k d).1 (Api.rename (purge now s) now k d).1 :=
  expired_invisible s now (.rename k d) hs
theorem expired_invisible_renameNX (s : MState) (now : Int) (k d : Bytes) (hs : AList.Sorted s.index) :
    (Api.renameNX s now k d).2 = (Api.renameNX (purge now s) now k d).2 ∧
    Sim now (Api.renameNX s now k d).1 (Api.renameNX (purge now s) now k d).1 :=
  expired_invisible s now (.renameNX k d) hs
theorem expired_invisible_expire (s : MState) (now : Int) (k : Bytes) (sec : Int) (hs : AList.Sorted s.index) :
    (Api.expire s now k sec).2 = (Api.expire (purge now s) now k sec).2 ∧
    Sim now (Api.expire s now k sec).1 (Api.expire (purge now s) now k sec).1 :=
  expired_invisible s now (.expire k sec) hs
theorem expired_invisible_persist (s : MState) (now : Int) (k : Bytes) (hs : AList.Sorted s.index) :
    (Api.persist s now k).2 = (Api.persist (purge now s) now k).2 ∧
    Sim now (Api.persist s now k).1 (Api.persist (purge now s) now k).1 :=
  expired_invisible s now (.persist k) hs
theorem expired_invisible_push (left : Bool) (s : MState) (now : Int) (k : Bytes) (vs : List Bytes)
    (hs : AList.Sorted s.index) :
    (Api.push left s now k vs).2 = (Api.push left (purge now s) now k vs).2 ∧
    Sim now (Api.push left s now k vs).1 (Api.push left (purge now s) now k vs).1 :=
  expired_invisible s now (.push left k vs) hs
theorem expired_invisible_pop (left : Bool) (s : MState) (now : Int) (k : Bytes) (c : Int)
    (hs : AList.Sorted s.index) :
    (Api.pop left s now k c).2 = (Api.pop left (purge now s) now k c).2 ∧
    Sim now (Api.pop left s now k c).1 (Api.pop left (purge now s) now k c).1 :=
  expired_invisible s now (.pop left k c) hs
theorem expired_invisible_llen (s : MState) (now : Int) (k : Bytes) (hs : AList.Sorted s.index) :
    (Api.llen s now k).2 = (Api.llen (purge now s) now k).2 ∧
    Sim now (Api.llen s now k).1 (Api.llen (purge now s) now k).1 :=
  expired_invisible s now (.llen k) hs
theorem expired_invisible_lrange (s : MState) (now : Int) (k : Bytes) (a b : Int) (hs : AList.Sorted s.index) :
    (Api.lrange s now k a b).2 = (Api.lrange (purge now s) now k a b).2 ∧
    Sim now (Api.lrange s now k a b).1 (Api.lrange (purge now s) now k a b).1 :=
  expired_invisible s now (.lrange k a b) hs
theorem expired_invisible_hset (s : MState) (now : Int) (k f v : Bytes) (hs : AList.Sorted s.index) :
    (Api.hset s now k f v).2 = (Api.hset (purge now s) now k f v).2 ∧
    Sim now (Api.hset s now k f v).1 (Api.hset (purge now s) now k f v).1 :=
  expired_invisible s now (.hset k f v) hs
theorem expired_invisible_hget (s : MState) (now : Int) (k f : Bytes) (hs : AList.Sorted s.index) :
    (Api.hget s now k f).2 = (Api.hget (purge now s) now k f).2 ∧
    Sim now (Api.hget s now k f).1 (Api.hget (purge now s) now k f).1 :=
  expired_invisible s now (.hget k f) hs
theorem expired_invisible_hgetall (s : MState) (now : Int) (k : Bytes) (hs : AList.Sorted s.index) :
    (Api.hgetall s now k).2 = (Api.hgetall (purge now s) now k).2 ∧
    Sim now (Api.hgetall s now k).1 (Api.hgetall (purge now s) now k).1 :=
  expired_invisible s now (.hgetall k) hs
theorem expired_invisible_sadd (s : MState) (now : Int) (k : Bytes) (ms : List Bytes) (hs : AList.Sorted s.index) :
    (Api.sadd s now k ms).2 = (Api.sadd (purge now s) now k ms).2 ∧
    Sim now (Api.sadd s now k ms).1 (Api.sadd (purge now s) now k ms).1 :=
  expired_invisible s now (.sadd k ms) hs
theorem expired_invisible_smembers (s : MState) (now : Int) (k : Bytes) (hs : AList.Sorted s.index) :
    (Api.smembers s now k).2 = (Api.smembers (purge now s) now k).2 ∧
    Sim now (Api.smembers s now k).1 (Api.smembers (purge now s) now k).1 :=
  expired_invisible s now (.smembers k) hs
theorem expired_invisible_sinter (s : MState) (now : Int) (ks : List Bytes) (hs : AList.Sorted s.index) :
    (Api.sinter s now ks).2 = (Api.sinter (purge now s) now ks).2 ∧
    Sim now (Api.sinter s now ks).1 (Api.sinter (purge now s) now ks).1 :=
  expired_invisible s now (.sinter ks) hs
theorem expired_invisible_sunion (s : MState) (now : Int) (ks : List Bytes) (hs : AList.Sorted s.index) :
    (Api.sunion s now ks).2 = (Api.sunion (purge now s) now ks).2 ∧
    Sim now (Api.sunion s now ks).1 (Api.sunion (purge now s) now ks).1 :=
  expired_invisible s now (.sunion ks) hs
theorem expired_invisible_sdiff (s : MState) (now : Int) (ks : List Bytes) (hs : AList.Sorted s.index) :
    (Api.sdiff s now ks).2 = (Api.sdiff (purge now s) now ks).2 ∧
    Sim now (Api.sdiff s now ks).1 (Api.sdiff (purge now s) now ks).1 :=
  expired_invisible s now (.sdiff ks) hs
theorem expired_invisible_zadd (s : MState) (now : Int) (k m : Bytes) (sc : F64) (hs : AList.Sorted s.index) :
    (Api.zadd s now k m sc).2 = (Api.zadd (purge now s) now k m sc).2 ∧
    Sim now (Api.zadd s now k m sc).1 (Api.zadd (purge now s) now k m sc).1 :=
  expired_invisible s now (.zadd k m sc) hs
theorem expired_invisible_zrange (desc ws : Bool) (s : MState) (now : Int) (k : Bytes) (a b : Int)
    (hs : AList.Sorted s.index) :
    (Api.zrange desc ws s now k a b).2 = (Api.zrange desc ws (purge now s) now k a b).2 ∧
    Sim now (Api.zrange desc ws s now k a b).1 (Api.zrange desc ws (purge now s) now k a b).1 :=
  expired_invisible s now (.zrange desc ws k a b) hs
theorem expired_invisible_zscore (s : MState) (now : Int) (k m : Bytes) (hs : AList.Sorted s.index) :
    (Api.zscore s now k m).2 = (Api.zscore (purge now s) now k m).2 ∧
    Sim now (Api.zscore s now k m).1 (Api.zscore (purge now s) now k m).1 :=
  expired_invisible s now (.zscore k m) hs

/-- ZUNIONSTORE (`union = true`) / ZINTERSTORE: after the repair of `ZUnionStore`/`ZInterStore` (result
    computed before the destination is looked up) an expired destination that is still indexed — also
    one that is among the operands — is invisible to them too -/
theorem expired_invisible_zstore (union : Bool) (s : MState) (now : Int) (dst : Bytes) (ks : List Bytes)
    (w : List F64) (agg : Bytes) (hs : AList.Sorted s.index) :
    (Api.zstore union s now dst ks w agg).2 = (Api.zstore union (purge now s) now dst ks w agg).2 ∧
    Sim now (Api.zstore union s now dst ks w agg).1 (Api.zstore union (purge now s) now dst ks w agg).1 :=
  invisible_of_resp (resp_zstore now union dst ks w agg) s hs
/-- ZADD LT / GT (in the repaired nodis they do not create the key) -/
theorem expired_invisible_zaddLT (s : MState) (now : Int) (k m : Bytes) (sc : F64) (hs : AList.Sorted s.index) :
    (Api.zaddLT s now k m sc).2 = (Api.zaddLT (purge now s) now k m sc).2 ∧
    Sim now (Api.zaddLT s now k m sc).1 (Api.zaddLT (purge now s) now k m sc).1 :=
  expired_invisible s now (.zaddLT k m sc) hs
theorem expired_invisible_zaddGT (s : MState) (now : Int) (k m : Bytes) (sc : F64) (hs : AList.Sorted s.index) :
    (Api.zaddGT s now k m sc).2 = (Api.zaddGT (purge now s) now k m sc).2 ∧
    Sim now (Api.zaddGT s now k m sc).1 (Api.zaddGT (purge now s) now k m sc).1 :=
  expired_invisible s now (.zaddGT k m sc) hs
/-- the ZADD command's transaction (`zAddPairs`: all pairs, every option set): an expired record that
    is still indexed is invisible to it - same reply, simulating stores - as for ZAdd -/
theorem expired_invisible_zaddPairs (s : MState) (now : Int) (k : Bytes) (nx xx gt lt ch : Bool)
    (pairs : List (Bytes × F64)) (hne : pairs ≠ []) (hs : AList.Sorted s.index) :
    (Api.zaddPairs s now k nx xx gt lt ch pairs).2 = (Api.zaddPairs (purge now s) now k nx xx gt lt ch pairs).2 ∧
    Sim now (Api.zaddPairs s now k nx xx gt lt ch pairs).1 (Api.zaddPairs (purge now s) now k nx xx gt lt ch pairs).1 :=
  invisible_of_resp (resp_zaddPairs now k nx xx gt lt ch pairs hne) s hs
/-- ZADD XX ... on a key with no visible record (absent or expired): reply 0 -/
theorem zaddPairs_xx_absent (s : MState) (now : Int) (k : Bytes) (nx gt lt ch : Bool) (pairs : List (Bytes × F64))
    (hne : pairs ≠ []) (h : live s now k = none) (hs : AList.Sorted s.index) :
    (Api.zaddPairs s now k nx true gt lt ch pairs).2 = .int 0 := by
  rw [Proofs.C20.zaddPairs_eq s now k nx true gt lt ch pairs hne]; exact keyTx_absent h hs _ _ _ _
/-- hypotheses satisfiable: the empty store, two pairs -/
example : AList.Sorted ({} : MState).index ∧ live ({} : MState) 0 [107] = none ∧
    ([(([97] : Bytes), (0x4014000000000000 : F64)), ([98], 0x3FF0000000000000)] : List (Bytes × F64)) ≠ [] := by
  refine ⟨?_, rfl, by simp⟩
  simp [AList.Sorted]
/-- ZADD LT/GT on a key with no visible record (absent or expired): reply 0 -/
theorem zaddCmp_absent (f : ZSet → Bytes → F64 → ZSet × Bool) (s : MState) (now : Int) (k m : Bytes) (sc : F64)
    (h : live s now k = none) (hs : AList.Sorted s.index) : (Api.zaddCmp f s now k m sc).2 = .int 0 := by
  rw [Proofs.C20.zaddCmp_eqU]; exact keyTx_absent h hs _ _ _ _

/-! ### what the replies are on a key with no visible record (absent or expired) -/

theorem get_absent (s : MState) (now : Int) (k : Bytes) (h : live s now k = none) (hs : AList.Sorted s.index) :
    (Api.get s now k).2 = .bytes none := by rw [Proofs.C11.get_eq]; exact keyTx_absent h hs _ _ _ _
theorem type_absent (s : MState) (now : Int) (k : Bytes) (h : live s now k = none) (hs : AList.Sorted s.index) :
    (Api.type_ s now k).2 = .str (Bytes.ofString "none") := by rw [Proofs.C11.type_eq]; exact keyTx_absent h hs _ _ _ _
theorem exists_absent (s : MState) (now : Int) (k : Bytes) (h : live s now k = none) (hs : AList.Sorted s.index) :
    (Api.exists_ s now [k]).2 = .int 0 := by
  have a := readKey_absent h hs
  unfold Api.exists_
  simp only [List.foldl_cons, List.foldl_nil]
  cases hw : readKey s now k with
  | mk s1 ok => rw [hw] at a; simp only at a; subst a; rfl
theorem del_absent (s : MState) (now : Int) (k : Bytes) (h : live s now k = none) (hs : AList.Sorted s.index) :
    (Api.del s now [k]).2 = .int 0 := by
  have a := writeKey_absent h hs
  unfold Api.del
  simp only [List.foldl_cons, List.foldl_nil]
  cases hw : writeKey s now k none with
  | mk s1 ok =>
    rw [hw] at a
    simp only at a
    subst a
    rfl

/-- … and on a live key the value is the full value: GET of a live string key -/
theorem get_live (s : MState) (now : Int) (k : Bytes) (m : Meta) (v : DsStr.S)
    (h : LiveWith s now k m (Api.strVal v)) (hs : AList.Sorted s.index) : (Api.get s now k).2 = .bytes v := by
  rw [Proofs.C11.get_eq, (keyTx_liveWith h hs false none _ _ _ (fun _ => rfl)).1]
  cases v <;> rfl

/-! ### SCAN

  FULL STATEMENT (false, see `expired_invisible_scan_finding`):
     (Api.scan s now cursor pat count typ).2 = (Api.scan (purge now s) now cursor pat count typ).2
  SCAN's cursor is a position in the index, and expired records that are still indexed occupy
  positions (and consume `count`). What holds: no name in a reply is expired. -/
theorem scan_never_returns_expired (s : MState) (now cursor : Int) (pat : Bytes) (count : Int) (typ : Nat)
    (n : Int) (ks : List Bytes) (h : (Api.scan s now cursor pat count typ).2 = .many [.int n, .slist ks]) :
    ∀ k ∈ ks, ∃ m, (k, m) ∈ s.index ∧ m.expired now = false ∧ Glob.matched pat k = true :=
  scan_sound s now cursor pat count typ n ks h

/-- the destination gets the source's deadline, whether or not the destination existed; the source
    name is unlinked -/
theorem rename_carries_deadline (s : MState) (now : Int) (k dst : Bytes) (m : Meta) (v : Val)
    (h : LiveWith s now k m v) (hs : AList.Sorted s.index) (hne : k ≠ dst) :
    (Api.rename s now k dst).2 = .err false ∧
    Api.expOf (Api.rename s now k dst).1 dst = m.exp ∧
    getMeta (Api.rename s now k dst).1 k = none :=
  rename_deadline h hs hne

theorem expire_zero_deletes (s : MState) (now : Int) (k : Bytes) (m : Meta) (v : Val)
    (h : LiveWith s now k m v) (hs : AList.Sorted s.index) :
    (Api.expire s now k 0).2 = .int 1 ∧ getMeta (Api.expire s now k 0).1 k = none := by
  rw [expire_zero_is_del]; exact del_live h hs

/-! ## gc

  A gc pass never changes which keys are visible nor their deadlines: the live record of every
  name is the same before and after up to hot/cold-ness (the value may be evicted) and bookkeeping
  (`count`, `state`'s modified bit, `stored`). Records that are expired or not ok are the only ones
  unlinked. -/
theorem gc_drops_only_dead (s : MState) (now : Int) (k : Bytes) (hs : AList.Sorted s.index) :
    (live (gc s now) now k).map (fun m => (m.exp, m.kid, m.oid, m.vtype)) =
      (live s now k).map (fun m => (m.exp, m.kid, m.oid, m.vtype)) ∧
    (∀ m', live (gc s now) now k = some m' →
      ∃ m, live s now k = some m ∧ (m'.value = m.value ∨ m'.value = none)) := by
  by_cases hc : s.closed = true
  · have : gc s now = s := by rw [Proofs.C11.gc_eq, if_pos hc]
    rw [this]
    exact ⟨rfl, fun m' h => ⟨m', h, Or.inl rfl⟩⟩
  · have key := gc_live s now k hs (by simpa using hc)
    cases hl : live s now k with
    | none =>
      rw [hl] at key
      rw [key]
      exact ⟨rfl, fun m' h => by cases h⟩
    | some m =>
      rw [hl] at key
      obtain ⟨m', hm', ke, kk, ko, kv, _, kval⟩ := key
      rw [hm']
      refine ⟨by simp [ke, kk, ko, kv], fun m'' h => ?_⟩
      cases h
      exact ⟨m, rfl, kval⟩

/-! ## Findings (the model, like the Go code, deviates from the reference semantics) -/

open Proofs.C10.Ex in
/-- FINDING 1. EXPIRE … GT on a key *without* deadline sets one (Redis: never, "no deadline" is
    infinite). Witness: key "c" (no deadline) at now = 1000, EXPIRE c 10 GT → reply 1. -/
theorem expireGT_finding :
    LiveWith st 1000 kC mC (.str [3]) ∧ AList.Sorted st.index ∧ mC.exp = 0 ∧
    (Api.expireGT st 1000 kC 10).2 = .int 1 ∧ Api.expOf (Api.expireGT st 1000 kC 10).1 kC = 11000 ∧
    Spec.expireApplies .gt (Spec.deadlineOf mC.exp) (Spec.deadlineSec 1000 10) = false := by
  have hl : LiveWith st 1000 kC mC (.str [3]) := ⟨rfl, Or.inl rfl⟩
  have hs : AList.Sorted st.index := ⟨rfl, rfl, trivial⟩
  obtain ⟨a, b⟩ := expireGT_iff st 1000 kC mC _ 10 hl hs
  exact ⟨hl, hs, rfl, a, b, rfl⟩

open Proofs.C10.Ex in
/-- FINDING 2. EXPIRE … LT on a key without deadline never sets one (Redis: always). -/
theorem expireLT_finding :
    LiveWith st 1000 kC mC (.str [3]) ∧ AList.Sorted st.index ∧ mC.exp = 0 ∧
    (Api.expireLT st 1000 kC 10).2 = .int 0 ∧ Api.expOf (Api.expireLT st 1000 kC 10).1 kC = 0 ∧
    Spec.expireApplies .lt (Spec.deadlineOf mC.exp) (Spec.deadlineSec 1000 10) = true := by
  have hl : LiveWith st 1000 kC mC (.str [3]) := ⟨rfl, Or.inl rfl⟩
  have hs : AList.Sorted st.index := ⟨rfl, rfl, trivial⟩
  obtain ⟨a, b⟩ := expireLT_iff st 1000 kC mC _ 10 hl hs
  exact ⟨hl, hs, rfl, a, b, rfl⟩

open Proofs.C10.Ex in
theorem expireAtGT_finding :
    (Api.expireAtGT st 1000 kC 5000).2 = .int 1 ∧
    Spec.expireApplies .gt (Spec.deadlineOf mC.exp) 5000 = false := by
  have hl : LiveWith st 1000 kC mC (.str [3]) := ⟨rfl, Or.inl rfl⟩
  have hs : AList.Sorted st.index := ⟨rfl, rfl, trivial⟩
  exact ⟨(expireAtGT_iff st 1000 kC mC _ 5000 hl hs).1, rfl⟩

open Proofs.C10.Ex in
theorem expireAtLT_finding :
    (Api.expireAtLT st 1000 kC 5000).2 = .int 0 ∧
    Spec.expireApplies .lt (Spec.deadlineOf mC.exp) 5000 = true := by
  have hl : LiveWith st 1000 kC mC (.str [3]) := ⟨rfl, Or.inl rfl⟩
  have hs : AList.Sorted st.index := ⟨rfl, rfl, trivial⟩
  exact ⟨(expireAtLT_iff st 1000 kC mC _ 5000 hl hs).1, rfl⟩

open Proofs.C10.Ex in
/-- FINDING 3. SCAN sees expired records through its cursor: with "a" expired-but-indexed and "b"
    live, `SCAN 0 MATCH * COUNT 1` answers (2, []) — "a" consumed the COUNT, "b" at position 2 is next —
    but (0, [b]) (done) once "a" is purged. -/
theorem expired_invisible_scan_finding :
    AList.Sorted scanSt.index ∧
    (Api.scan scanSt 1000 0 [42] 1 0).2 = .many [.int 2, .slist []] ∧
    (Api.scan (purge 1000 scanSt) 1000 0 [42] 1 0).2 = .many [.int 0, .slist [kB]] ∧
    (Api.scan scanSt 1000 0 [42] 1 0).2 ≠ (Api.scan (purge 1000 scanSt) 1000 0 [42] 1 0).2 := by
  have a : (Api.scan scanSt 1000 0 [42] 1 0).2 = .many [.int 2, .slist []] := rfl
  have b : (Api.scan (purge 1000 scanSt) 1000 0 [42] 1 0).2 = .many [.int 0, .slist [kB]] := rfl
  refine ⟨⟨rfl, trivial⟩, a, b, ?_⟩
  rw [a, b]
  intro h
  simp only [Out.many.injEq, List.cons.injEq, Out.int.injEq] at h
  exact absurd h.1 (by decide)

/-! ## Non-vacuity: concrete values satisfying each hypothesis set -/
section examples
open Proofs.C10.Ex

/-- the index is sorted -/
example : AList.Sorted st.index := ⟨rfl, rfl, trivial⟩
/-- a live key with a deadline (2000 > now = 1000), value in memory -/
example : LiveWith st 1000 kA mA (.str [1]) ∧ mA.exp = 2000 := ⟨⟨rfl, Or.inl rfl⟩, rfl⟩
example : LiveWith st 1000 kA mA (Api.strVal (some [1])) := ⟨rfl, Or.inl rfl⟩
/-- an expired-but-still-indexed key (hypotheses of `readKey_expired_is_absent`, `writeKey_expired_is_fresh`) -/
example : getMeta st kB = some mB ∧ mB.expired 1000 = true := ⟨rfl, rfl⟩
/-- … which has no visible record -/
example : live st 1000 kB = none := rfl
/-- a key that is not indexed at all -/
example : live st 1000 kD = none := rfl
/-- a live key without deadline -/
example : LiveWith st 1000 kC mC (.str [3]) ∧ mC.exp = 0 := ⟨⟨rfl, Or.inl rfl⟩, rfl⟩
/-- hypotheses of `readKey_live` / `writeKey_live` -/
example : getMeta st kA = some mA ∧ mA.isOk = true ∧ (1000 < mA.exp ∨ mA.exp = 0) ∧ mA.value = some (.str [1]) :=
  ⟨rfl, rfl, Or.inl (by decide), rfl⟩
/-- a cold live key whose value is loaded from the backend -/
example : LiveWith coldSt 1000 kA mCold (.str [7]) ∧ AList.Sorted coldSt.index := by
  exact ⟨⟨rfl, Or.inr ⟨rfl, 0, by decide +kernel⟩⟩, trivial⟩
/-- two instants at which the same record is live (`pttl_monotone`, `ttl_monotone`) -/
example : (1000 : Int) ≤ 1500 ∧ LiveWith st 1000 kA mA (.str [1]) ∧ LiveWith st 1500 kA mA (.str [1]) :=
  ⟨by decide, ⟨rfl, Or.inl rfl⟩, ⟨rfl, Or.inl rfl⟩⟩
/-- `deadlineSec_exact`, `deadlineMs_exact` -/
example : inInt64 (10 * 1000) = true ∧ inInt64 (1000 + 10 * 1000) = true ∧ Spec.deadlineSec 1000 10 = 11000 :=
  ⟨rfl, rfl, rfl⟩
/-- `expireGT_partial` / `expireLT_partial`: a live key that has a deadline -/
example : LiveWith st 1000 kA mA (.str [1]) ∧ mA.exp ≠ 0 := ⟨⟨rfl, Or.inl rfl⟩, by decide⟩
/-- `rename_carries_deadline`: distinct names -/
example : kA ≠ kD := by decide
/-- `pttl_positive`, `ttlNs_exact` -/
example : (2000 : Int) ≠ 0 ∧ (1000 : Int) < 2000 ∧ ((2000 : Int) - 1000) * 1000000 ≤ int64Max - 500000000 :=
  ⟨by decide, by decide, by decide⟩
/-- `scan_never_returns_expired`: a reply of that shape -/
example : (Api.scan scanSt 1000 0 [42] 10 0).2 = .many [.int 0, .slist [kB]] := rfl
/-- `sim_congruence`: two different related states -/
example : Sim 1000 st (purge 1000 st) ∧ (purge 1000 st).index = [(kA, mA), (kC, mC)] :=
  ⟨sim_purge st 1000 ⟨rfl, rfl, trivial⟩, rfl⟩
/-- `live_iff_before_deadline` (record with a deadline), `dead_from_deadline_on`, `live_without_deadline` -/
example : getMeta st kA = some mA ∧ mA.isOk = true ∧ mA.exp ≠ 0 := ⟨rfl, rfl, by decide⟩
example : getMeta st kB = some mB ∧ mB.exp ≠ 0 ∧ mB.exp ≤ 1000 := ⟨rfl, by decide, by decide⟩
example : getMeta st kC = some mC ∧ mC.isOk = true ∧ mC.exp = 0 := ⟨rfl, rfl, rfl⟩
/-- `set_ex_deadline`: both alternatives of its hypothesis -/
example : (∃ m old, LiveWith st 1000 kA m (Api.strVal old)) ∨ live st 1000 kA = none :=
  Or.inl ⟨mA, some [1], rfl, Or.inl rfl⟩
example : (∃ m old, LiveWith st 1000 kB m (Api.strVal old)) ∨ live st 1000 kB = none := Or.inr rfl
/-- `expired_invisible_zstore` where the destination is expired, still indexed, and an operand: with the repaired
    ZUNIONSTORE / ZINTERSTORE of nodis neither form hangs or self-deadlocks, and both answer as on the purged state -/
example : AList.Sorted zSt.index ∧
    (Api.zstore true zSt 1000 kA [kA] [] []).2 = .int 0 ∧
    (Api.zstore true (purge 1000 zSt) 1000 kA [kA] [] []).2 = .int 0 ∧
    (Api.zstore false zSt 1000 kA [kA] [] []).1.hung = false ∧
    (Api.zstore false zSt 1000 kA [kA] [] []).2 = (Api.zstore false (purge 1000 zSt) 1000 kA [kA] [] []).2 :=
  ⟨trivial, rfl, rfl, rfl, rfl⟩
/-- the concrete replies: the live key is seen with its full value, the expired one by no command -/
example : (Api.get st 1000 kA).2 = .bytes (some [1]) ∧ (Api.get st 1000 kB).2 = .bytes none ∧
    (Api.exists_ st 1000 [kA, kB, kC]).2 = .int 2 ∧ (Api.keys st 1000 [42]).2 = .slist [kA, kC] ∧
    (Api.pttl st 1000 kA).2 = .int 1000 ∧ (Api.pttl st 1000 kB).2 = .int (-2) ∧
    (Api.pttl st 1000 kC).2 = .int (-1) ∧ (Api.ttl st 1000 kA).2 = .int 1000000000 :=
  ⟨rfl, rfl, rfl, rfl, rfl, rfl, rfl, rfl⟩

end examples

/- UNPROVED / NOT COVERED (none of it is assumed anywhere; there is no `sorry`):

   * SCAN is not in `Cmd`: the full "expired-invisible" statement is FALSE for it
     (`expired_invisible_scan_finding`); what is proved is `scan_never_returns_expired`.
   * `Sim` does not compare `held` / `hung` (locks of the running call): an expired record that is still
     indexed *is* locked by lookups, an absent one is not. No covered command's reply depends on it
     (ZUNIONSTORE / ZINTERSTORE included, as repaired in nodis: they are in `Cmd`), but the lock state of the
     two runs differs; that no call deadlocks on an expired record is not stated here.
   * `Sim` compares the backend only through `load` of unexpired cold records; `stored` and stale backend
     entries are not compared (see Spec/Expire.lean). Consequently nothing is claimed here about what a
     later flush / reopen sees (that is the persistence properties' business).
   * Handler level: only the API calls are covered. `SET … EX/PX/EXAT/PXAT` (= Set; commit; Expire*) is
     chained in `set_ex_deadline` / `set_exat_deadline`; blocking pops (BLPOP/BRPOP = repeated `Api.pop`)
     and the RESP option parsing are not modelled in `Model/Api.lean` and are not covered.
   * All statements are about one instant `now` (one command, or a sequence of commands issued at the
     same instant via `sim_congruence`). Monotonicity in time is only stated for TTL/PTTL
     (`pttl_monotone`, `ttl_monotone`) and through `live_iff_before_deadline`.
   * The GT/LT conditional forms deviate from Redis on keys without deadline
     (`expireGT_finding`, `expireLT_finding`, `expireAtGT_finding`, `expireAtLT_finding`); the theorems
     `expire*_iff` state what the model does, the `_partial` ones where it agrees with Redis. -/

end NodisVerif.C10

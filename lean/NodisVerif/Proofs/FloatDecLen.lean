import NodisVerif.Proofs.FloatDecTrip
import NodisVerif.Proofs.C15Decimal
/-
  A length bound for `FloatDec.formatShortest` (FormatFloat(x,'f',-1,64)): at most 1000 bytes.
  (The true maximum is 327: "-0." + 307 zeros + 17 digits; the bound proved here does not depend on the
  accuracy of the decimal-exponent estimate `decExp`, only on its range.) Its only use is the size side condition
  of the storage codec (value length < 2^63).
-/
namespace NodisVerif.Proofs.FloatDecLen
open NodisVerif NodisVerif.F64 NodisVerif.FloatDec

theorem stripTrailingZeros_length (ds : Bytes) : (stripTrailingZeros ds).length ≤ ds.length := by
  unfold stripTrailingZeros
  rw [List.length_reverse]
  have := (List.dropWhile_sublist (l := ds.reverse) (fun x => decide (x = 48))).length_le
  rw [List.length_reverse] at this
  exact this

theorem renderF_length (c : Nat) (k : Int) : (renderF c k).length ≤ (natDigits c).length + k.natAbs + 2 := by
  unfold renderF
  simp only
  split
  · rw [List.length_append, List.length_replicate]; omega
  · generalize hds : natDigits c = ds
    generalize hj : (-k).toNat = j
    have hjk : j = k.natAbs := by omega
    by_cases hlen : ds.length > j
    · simp only [hlen, if_true]
      have hs := stripTrailingZeros_length (List.drop (ds.length - j) ds)
      rw [List.length_drop] at hs
      split
      · rw [List.length_take]; omega
      · rw [List.length_append, List.length_cons, List.length_take]; omega
    · simp only [hlen, if_false]
      have hs := stripTrailingZeros_length (List.replicate (j - ds.length) 48 ++ ds)
      rw [List.length_append, List.length_replicate] at hs
      split
      · simp only [List.length_cons, List.length_nil]; omega
      · rw [List.length_append, List.length_cons]; simp only [List.length_cons, List.length_nil]; omega

theorem signed_length (neg : Bool) (t : Bytes) : (signed neg t).length ≤ t.length + 1 := by
  unfold signed; split <;> simp

theorem decode_bounds (x : F64) : (decode x).1 < 2 ^ 53 ∧ -1074 ≤ (decode x).2 ∧ (decode x).2 ≤ 972 := by
  unfold decode
  have h1 := C09Float.manBits_lt x
  have h2 := C09Float.expBits_lt x
  split
  · exact ⟨by simp only; omega, by simp, by simp⟩
  · refine ⟨by simp only; omega, by simp only; omega, by simp only; omega⟩

/-- numerator and denominator of the exact value m × 2^e, as `searchShortest` writes them -/
def numOf (m : Nat) (e : Int) : Nat := if e ≥ 0 then m * 2 ^ e.toNat else m
def denOf (e : Int) : Nat := if e ≥ 0 then 1 else 2 ^ (-e).toNat

theorem numOf_lt (m : Nat) (e : Int) (hm : m < 2 ^ 53) (he : e ≤ 972) : numOf m e < 2 ^ 1025 := by
  unfold numOf
  rw [FloatDecRound.exact_num]
  have h1 : 2 ^ e.toNat ≤ 2 ^ 972 := Nat.pow_le_pow_right (by decide) (by omega)
  have h2 : m * 2 ^ e.toNat < 2 ^ 53 * 2 ^ 972 :=
    Nat.lt_of_lt_of_le (Nat.mul_lt_mul_of_pos_right hm (Nat.two_pow_pos _)) (Nat.mul_le_mul_left _ h1)
  rw [← Nat.pow_add] at h2
  exact h2

theorem denOf_le (e : Int) (he : -1074 ≤ e) : denOf e ≤ 2 ^ 1074 ∧ 0 < denOf e := by
  unfold denOf
  rw [FloatDecRound.exact_den]
  exact ⟨Nat.pow_le_pow_right (by decide) (by omega), Nat.two_pow_pos _⟩

theorem decExp_bounds (a b : Nat) (ha : a < 2 ^ 1025) (hb : b ≤ 2 ^ 1074) :
    -326 ≤ decExp a b ∧ decExp a b ≤ 311 := by
  have h1 : a.log2 ≤ 1024 := C09Float.log2_le_of_lt a 1024 ha
  have h2 : b.log2 ≤ 1074 := C09Float.log2_le_of_lt b 1074 (Nat.lt_of_le_of_lt hb (Nat.pow_lt_pow_right (by decide) (by decide)))
  unfold decExp
  extract_lets l p0 bump
  -- the estimate from the bit lengths is in range, and each correction adds 0 or 1
  have hp : -326 ≤ p0 ∧ p0 ≤ 307 := by omega
  have hbump : ∀ p, p ≤ bump p ∧ bump p ≤ p + 1 := fun p => by
    by_cases hc : ge10 a b (p + 1) = true <;> simp only [bump, hc, if_true] <;> omega
  clear_value bump p0
  have b1 := hbump p0
  have b2 := hbump (bump p0)
  have b3 := hbump (bump (bump p0))
  have b4 := hbump (bump (bump (bump p0)))
  omega

theorem floorDiv10_le (a b : Nat) (k : Int) (_hb : 0 < b) : floorDiv10 a b k ≤ a * 10 ^ k.natAbs := by
  unfold floorDiv10
  have hp : 0 < 10 ^ k.natAbs := Nat.pow_pos (by decide)
  split
  · exact Nat.le_trans (Nat.div_le_self _ _) (Nat.le_mul_of_pos_right _ hp)
  · have : (-k).toNat = k.natAbs := by omega
    rw [this]
    exact Nat.div_le_self _ _

/-- kept apart so that `omega` sees `P`, `Q` as variables, never the literals `2^1025 * 10^342`, `10^652` -/
theorem big_step (a b P Q : Nat) (h1 : a * b ≤ P) (h2 : P + 1 < Q) : a * b + 1 < Q := by omega

theorem render_bound (a b c : Nat) (k17 k : Int) (neg : Bool) (ha : a < 2 ^ 1025) (hb : 0 < b)
    (hk17 : k17.natAbs ≤ 342) (hk : k.natAbs ≤ 342) (hc : c ≤ floorDiv10 a b k17 + 1) :
    (signed neg (renderF c k)).length ≤ 1000 := by
  have h1 := floorDiv10_le a b k17 hb
  have h2 : 10 ^ k17.natAbs ≤ 10 ^ 342 := Nat.pow_le_pow_right (by decide) hk17
  have h3 : a * 10 ^ k17.natAbs ≤ 2 ^ 1025 * 10 ^ 342 := Nat.mul_le_mul (Nat.le_of_lt ha) h2
  have h4 : 2 ^ 1025 * 10 ^ 342 + 1 < 10 ^ 652 := by decide +kernel
  have h5 : a * 10 ^ k17.natAbs + 1 < 10 ^ 652 := big_step _ _ _ _ h3 h4
  have h6 : c < 10 ^ 652 := by
    generalize (10 : Nat) ^ 652 = Q at h5 ⊢
    generalize a * 10 ^ k17.natAbs = R at h1 h5
    omega
  have h7 := Proofs.C15.natDigits_length_le c 652 (by decide) h6
  have h8 := renderF_length c k
  have h9 := signed_length neg (renderF c k)
  omega

theorem formatShortest_length (x : F64) : (formatShortest x).length ≤ 1000 := by
  unfold formatShortest
  split
  · decide +kernel  -- NaN
  · split
    · split <;> decide +kernel  -- ±Inf
    · split
      · split <;> decide +kernel  -- ±0
      · have hd := decode_bounds (x &&& 0x7FFFFFFFFFFFFFFF)
        generalize hde : decode (x &&& 0x7FFFFFFFFFFFFFFF) = de at hd
        obtain ⟨m, e⟩ := de
        simp only at hd
        have ha := numOf_lt m e hd.1 hd.2.2
        have hb := denOf_le e hd.2.1
        have hp := decExp_bounds (numOf m e) (denOf e) ha hb.1
        split
        · next c k hs =>
          unfold searchShortest at hs
          simp only [hde] at hs
          obtain ⟨i, hi, ht⟩ := List.exists_of_findSome?_eq_some hs
          have hi' : i < 17 := List.mem_range.1 hi
          obtain ⟨hk, hc, _⟩ := FloatDecTrip.tryDigits_some ht
          have hc := Nat.le_trans hc (Nat.succ_le_succ (Nat.div_le_self _ _))
          have hk' : k = decExp (numOf m e) (denOf e) - 16 + 17 - ((i + 1 : Nat) : Int) := hk
          exact render_bound (numOf m e) (denOf e) c (decExp (numOf m e) (denOf e) - 16) k (sign x) ha hb.2
            (by omega) (by omega) hc
        · unfold fallback17
          simp only [hde]
          exact render_bound (numOf m e) (denOf e) (floorDiv10 (numOf m e) (denOf e) (decExp (numOf m e) (denOf e) - 16))
            (decExp (numOf m e) (denOf e) - 16) (decExp (numOf m e) (denOf e) - 16) (sign x) ha hb.2
            (by omega) (by omega) (Nat.le_succ _)

end NodisVerif.Proofs.FloatDecLen

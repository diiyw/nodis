import NodisVerif.Model.Varint
/-
  encoding/binary varints: decoding what was encoded gives the number back and the rest of the input; an encoding has
  between 1 and 10 bytes; an encoding followed by anything determines the number and what follows; `zigzag` is injective.
-/
namespace NodisVerif.Proofs.VarintLemmas
open Varint

theorem putUvarint_length_pos (n : Nat) : 0 < (putUvarint n).length := by
  rw [putUvarint]
  split <;> simp

theorem or_split (n s : Nat) :
    ((n % 128) <<< s) ||| ((n / 128) <<< (s + 7)) = n <<< s := by
  have h1 : (n / 128) <<< (s + 7) = ((n / 128) <<< 7) <<< s := by
    rw [Nat.add_comm, Nat.shiftLeft_add]
  rw [h1, ← Nat.shiftLeft_or_distrib, Nat.or_comm]
  have h2 : n % 128 < 2 ^ 7 := Nat.mod_lt _ (by decide)
  rw [← Nat.shiftLeft_add_eq_or_of_lt h2, Nat.shiftLeft_eq (n / 128) 7]
  congr 1
  exact Nat.div_add_mod' n 128

theorem toNat_ofNat_of_lt {n : Nat} (h : n < 256) : (UInt8.ofNat n).toNat = n := by
  rw [UInt8.toNat_ofNat']; exact Nat.mod_eq_of_lt h

theorem div128_lt {n k : Nat} (h : n < 2 ^ (k + 7)) : n / 128 < 2 ^ k := by
  rw [Nat.pow_add] at h
  exact Nat.div_lt_of_lt_mul (by rw [Nat.mul_comm]; exact h)

theorem uvarintAux_putUvarint (n : Nat) (rest : Bytes) :
    ∀ (i s x : Nat), i ≤ 9 → n < 2 ^ (64 - 7 * i) →
      uvarintAux (putUvarint n ++ rest) i s x
        = (x ||| (n <<< s), (i : Int) + ((putUvarint n).length : Int)) := by
  induction n using Nat.strongRecOn with
  | _ n ih =>
    intro i s x hi hn
    have hi10 : i ≠ 10 := by omega
    rw [putUvarint]
    by_cases h : n < 128
    · have hb : (UInt8.ofNat n).toNat = n := toNat_ofNat_of_lt (by omega)
      have hlt : UInt8.ofNat n < 128 := by
        rw [UInt8.lt_iff_toNat_lt, hb]; exact h
      have hnot : ¬ (i = 9 ∧ UInt8.ofNat n > 1) := by
        rintro ⟨h9, hgt⟩
        have : (1 : UInt8) < UInt8.ofNat n := hgt
        rw [UInt8.lt_iff_toNat_lt, hb] at this
        subst h9
        exact absurd hn (Nat.not_lt.mpr this)
      rw [dif_pos h, List.singleton_append, uvarintAux, if_neg hi10, if_pos hlt, if_neg hnot, hb]
      rfl
    · have hb : (UInt8.ofNat (n % 128 + 128)).toNat = n % 128 + 128 :=
        toNat_ofNat_of_lt (by have := Nat.mod_lt n (show 0 < 128 by decide); omega)
      have hlt : ¬ (UInt8.ofNat (n % 128 + 128) < 128) := by
        rw [UInt8.lt_iff_toNat_lt, hb]; exact Nat.not_lt.mpr (Nat.le_add_left _ _)
      have hi8 : i ≤ 8 := by
        apply Classical.byContradiction
        intro hc
        have h9 : i = 9 := by omega
        subst h9
        exact h (Nat.lt_trans hn (by decide))
      have hdiv : n / 128 < 2 ^ (64 - 7 * (i + 1)) :=
        div128_lt (by rw [show 64 - 7 * (i + 1) + 7 = 64 - 7 * i by omega]; exact hn)
      rw [dif_neg h, List.cons_append, uvarintAux, if_neg hi10, if_neg hlt, hb,
        ih (n / 128) (Nat.div_lt_self (by omega) (by decide)) (i + 1) (s + 7) _ (by omega) hdiv,
        Nat.add_mod_right, Nat.mod_mod, Nat.or_assoc, or_split, List.length_cons]
      refine Prod.ext rfl ?_
      show ((i + 1 : Nat) : Int) + _ = (i : Int) + ((_ + 1 : Nat) : Int)
      omega
/-- the three ways a byte ends or continues the loop of `binary.Uvarint` -/
theorem uvarintAux_cons (a : UInt8) (rest : Bytes) (i s x : Nat) :
    uvarintAux (a :: rest) i s x = (0, -((i : Int) + 1)) ∨
    (i ≠ 10 ∧ a < 128 ∧ (i = 9 → a ≤ 1) ∧ uvarintAux (a :: rest) i s x = (x ||| (a.toNat <<< s), (i : Int) + 1)) ∨
    (i ≠ 10 ∧ uvarintAux (a :: rest) i s x = uvarintAux rest (i + 1) (s + 7) (x ||| ((a.toNat % 128) <<< s))) := by
  rw [uvarintAux]
  by_cases h10 : i = 10
  · left; rw [if_pos h10]
  · rw [if_neg h10]
    by_cases ha : a < 128
    · rw [if_pos ha]
      by_cases h9 : i = 9 ∧ a > 1
      · left; rw [if_pos h9]
      · right; left; rw [if_neg h9]
        exact ⟨h10, ha, fun e => UInt8.not_lt.mp fun h => h9 ⟨e, h⟩, rfl⟩
    · right; right; rw [if_neg ha]; exact ⟨h10, rfl⟩

theorem uvarintAux_le (b : Bytes) : ∀ (i s x : Nat), (uvarintAux b i s x).2 ≤ (i : Int) + b.length := by
  induction b with
  | nil => intro i s x; exact Int.add_nonneg (Int.natCast_nonneg i) (Int.le_refl 0)
  | cons a rest ih =>
    intro i s x
    rw [List.length_cons]
    rcases uvarintAux_cons a rest i s x with h | ⟨_, _, _, h⟩ | ⟨_, h⟩
    · rw [h]; show -((i : Int) + 1) ≤ _; omega
    · rw [h]; show (i : Int) + 1 ≤ _; omega
    · rw [h]
      have := ih (i + 1) (s + 7) (x ||| ((a.toNat % 128) <<< s))
      omega

theorem uvarint_putUvarint (n : Nat) (h : n < 2 ^ 64) (rest : Bytes) :
    uvarint (putUvarint n ++ rest) = (n, ((putUvarint n).length : Int)) := by
  unfold uvarint
  rw [uvarintAux_putUvarint n rest 0 0 0 (by omega) (by simpa using h)]
  simp

theorem zigzag_lt (x : Int) (h : inInt64 x = true) : zigzag x < 2 ^ 64 := by
  have h' : -9223372036854775808 ≤ x ∧ x ≤ 9223372036854775807 := by
    unfold inInt64 int64Min int64Max at h
    exact of_decide_eq_true h
  unfold zigzag
  split <;> omega

theorem unzigzag_zigzag (x : Int) : unzigzag (zigzag x) = x := by
  unfold unzigzag zigzag
  split <;> split <;> omega

theorem varint_putVarint (x : Int) (h : inInt64 x = true) (rest : Bytes) :
    varint (putVarint x ++ rest) = (x, ((putVarint x).length : Int)) := by
  unfold varint putVarint
  rw [uvarint_putUvarint _ (zigzag_lt x h) rest]
  simp [unzigzag_zigzag]

theorem putVarint_length_pos (x : Int) : 0 < (putVarint x).length :=
  putUvarint_length_pos _

theorem putUvarint_length_le : ∀ (k n : Nat), n < 2 ^ (7 * (k + 1)) →
    (putUvarint n).length ≤ k + 1 := by
  intro k
  induction k with
  | zero =>
    intro n hn
    have : n < 128 := by simpa using hn
    rw [putUvarint, dif_pos this]
    simp
  | succ k ih =>
    intro n hn
    rw [putUvarint]
    by_cases h : n < 128
    · rw [dif_pos h]; simp
    · rw [dif_neg h]
      have := ih (n / 128) (div128_lt hn)
      simp only [List.length_cons]
      omega

theorem putVarint_length_le (x : Int) (h : inInt64 x = true) : (putVarint x).length ≤ 10 := by
  have hz := zigzag_lt x h
  apply putUvarint_length_le 9
  have : (2 : Nat) ^ 64 ≤ 2 ^ (7 * (9 + 1)) := Nat.pow_le_pow_right (by omega) (by omega)
  omega

theorem putUvarint_head (n : Nat) : ∃ d t, putUvarint n = d :: t ∧
    d.toNat = (if n < 128 then n else n % 128 + 128) ∧ t = if n < 128 then [] else putUvarint (n / 128) := by
  have hm := Nat.mod_lt n (show 0 < 128 by decide)
  rw [putUvarint]
  by_cases h : n < 128
  · rw [dif_pos h, if_pos h, if_pos h]; exact ⟨_, [], rfl, toNat_ofNat_of_lt (by omega), rfl⟩
  · rw [dif_neg h, if_neg h, if_neg h]; exact ⟨_, _, rfl, toNat_ofNat_of_lt (by omega), rfl⟩

theorem putUvarint_prefix_free : ∀ (n n' : Nat) (a b : Bytes),
    putUvarint n ++ a = putUvarint n' ++ b → n = n' ∧ a = b := by
  intro n
  induction n using Nat.strongRecOn with
  | _ n ih =>
    intro n' a b h
    obtain ⟨d, t, e, hd, ht⟩ := putUvarint_head n
    obtain ⟨d', t', e', hd', ht'⟩ := putUvarint_head n'
    rw [e, e', List.cons_append, List.cons_append, List.cons.injEq] at h
    obtain ⟨h0, h⟩ := h
    -- equal first bytes: both numbers end here, or both go on with equal low 7 bits
    rw [← h0, hd] at hd'
    have hm := Nat.mod_lt n (show 0 < 128 by decide)
    have hm' := Nat.mod_lt n' (show 0 < 128 by decide)
    by_cases h1 : n < 128 <;> by_cases h2 : n' < 128 <;> simp only [h1, h2, if_true, if_false] at hd' ht ht'
    · subst ht ht'; exact ⟨hd', h⟩
    · omega
    · omega
    · subst ht ht'
      obtain ⟨i1, i2⟩ := ih (n / 128) (Nat.div_lt_self (by omega) (by decide)) (n' / 128) a b h
      exact ⟨by omega, i2⟩

theorem zigzag_inj (x y : Int) (h : zigzag x = zigzag y) : x = y := by
  rw [← unzigzag_zigzag x, h, unzigzag_zigzag]

end NodisVerif.Proofs.VarintLemmas

import NodisVerif.Proofs.SkiplistSpecs
import NodisVerif.Proofs.C04Score
/-
  hasInRange / getFirstInRange / getLastInRange of the pointer-level skiplist against the list model.
-/
namespace NodisVerif.Skiplist
open NodisVerif.DsZSet (Item nodeLt)
open NodisVerif.Proofs.C04 (ILt)
open NodisVerif.Proofs.ZSetLemmas (Good)

theorem walk_acc_indep (h : List Node) (i : Nat) (p : Node → Bool) : ∀ (fuel x : Nat) (a b : Int),
    (walk h i (fun fn _ => p fn) fuel x a).map (·.1) = (walk h i (fun fn _ => p fn) fuel x b).map (·.1) := by
  intro fuel
  induction fuel with
  | zero => intro x a b; simp [walk, throw, throwThe, MonadExceptOf.throw, Except.map]
  | succ fuel ih =>
    intro x a b
    unfold walk
    cases hl : getLevel h x i with
    | error e => simp [bind, Except.bind, Except.map]
    | ok lv =>
      simp only [bind, Except.bind]
      cases hf : lv.forward with
      | none => simp [pure, Except.pure, Except.map]
      | some f =>
        simp only
        cases hn : getNode h f with
        | error e => simp [Except.map]
        | ok fn =>
          simp only
          by_cases hp : p fn = true
          · simp only [hp, if_true]; exact ih f _ _
          · simp [hp, pure, Except.pure, Except.map]

/-- the level loop without bookkeeping reaches the node the level loop of `insert` reaches (the condition ignores the
    accumulated rank, which `descend` resets at every level) -/
theorem descend_eq_search (h : List Node) (p : Node → Bool) : ∀ (l x : Nat) (acc : Int) (update : List (Option Nat))
    (rank : List Int), l ≤ update.length → l ≤ rank.length →
    descend h (fun fn _ => p fn) l x = (search h (fun fn _ => p fn) l x acc update rank).map (·.1) := by
  intro l
  induction l with
  | zero => intro x acc update rank _ _; rfl
  | succ l ih =>
    intro x acc update rank hu hr
    have hw := walk_acc_indep h l p (h.length + 1) x 0 acc
    unfold descend search
    cases h0 : walk h l (fun fn _ => p fn) (h.length + 1) x 0 with
    | error e =>
      rw [h0] at hw
      cases ha : walk h l (fun fn _ => p fn) (h.length + 1) x acc with
      | error e' => rw [ha] at hw; cases hw; rfl
      | ok r => rw [ha] at hw; cases hw
    | ok r0 =>
      rw [h0] at hw
      cases ha : walk h l (fun fn _ => p fn) (h.length + 1) x acc with
      | error e' => rw [ha] at hw; cases hw
      | ok r =>
        rw [ha] at hw
        obtain ⟨n0, a0⟩ := r0
        obtain ⟨n, a⟩ := r
        cases hw
        simp only [bind, Except.bind, setArr_ok update l (some n0) (by omega), setArr_ok rank l a (by omega)]
        exact ih n0 a _ _ (by simp; omega) (by simp; omega)

theorem descend_spec {sl : SL} {c : List Nat} (hc : IsChain sl c) (p : Node → Bool) (k : Nat)
    (hcond : CondUpTo sl c (fun fn _ => p fn) k) :
    ∃ A x, descend sl.heap (fun fn _ => p fn) sl.level 0 = .ok x ∧ (0 :: c).take (k + 1) = A ++ [x] := by
  obtain ⟨x, acc, update, rank, hs, -, -, -, -, hlast, -⟩ := search_spec hc _ k hcond
  obtain ⟨A, hA⟩ := List.getLast?_eq_some_iff.1 hlast
  refine ⟨A, x, ?_, hA⟩
  rw [descend_eq_search sl.heap p sl.level 0 0 emptyUpdate emptyRank (by simpa [emptyUpdate] using hc.levelHi)
    (by simpa [emptyRank] using hc.levelHi), hs]
  rfl

theorem getNode_of_mem {sl : SL} {c : List Nat} (hc : IsChain sl c) {n : Nat} (hn : n ∈ c) :
    ∃ nd, sl.heap[n]? = some nd ∧ getNode sl.heap n = .ok nd ∧ itemAt sl.heap n = nd.item := by
  have hb := hc.bound n hn
  refine ⟨sl.heap[n], by simp, (getNode_ok_iff _ _ _).2 (by simp), itemAt_of_getElem (by simp)⟩

theorem hasInRange_chain {sl : SL} {c : List Nat} (hc : IsChain sl c) (min max : F64) :
    hasInRange sl min max = .ok (DsZSet.hasInRange (abs sl) min max) := by
  rw [abs_eq hc]
  unfold hasInRange DsZSet.hasInRange
  by_cases hmm : F64.gt min max = true
  · simp [hmm, pure, Except.pure]
  simp only [hmm, if_false, Bool.false_eq_true]
  obtain ⟨l0, hl0, hf0⟩ := level0_next hc [] 0 c rfl
  rw [hc.tail]
  cases hlast : c.getLast? with
  | none => simp [List.getLast?_map, hlast, pure, Except.pure]
  | some t =>
    have htc : t ∈ c := List.mem_of_getLast? hlast
    obtain ⟨tn, _, htn, hti⟩ := getNode_of_mem hc htc
    obtain ⟨f, hf⟩ : ∃ f, c.head? = some f := by
      cases c with
      | nil => simp at hlast
      | cons f c' => exact ⟨f, rfl⟩
    obtain ⟨fn, _, hfn, hfi⟩ := getNode_of_mem hc (List.mem_of_head? hf)
    have hL : (c.map (itemAt sl.heap)).getLast? = some (tn.score, tn.member) := by
      rw [List.getLast?_map, hlast]; simp [hti, Node.item]
    have hH : (c.map (itemAt sl.heap)).head? = some (fn.score, fn.member) := by
      rw [List.head?_map, hf]; simp [hfi, Node.item]
    rw [hf] at hf0
    rw [hL, hH]
    simp only [htn, bind, Except.bind, hl0, hf0, hfn]
    cases F64.gt min tn.score <;> cases F64.lt max fn.score <;> simp [pure, Except.pure]

theorem hasInRange_spec {sl : SL} (h : Inv sl) (min max : F64) :
    hasInRange sl min max = .ok (DsZSet.hasInRange (abs sl) min max) := by
  obtain ⟨c, hc⟩ := h
  exact hasInRange_chain hc min max

theorem hasInRange_true {L : List Item} {min max : F64} (h : DsZSet.hasInRange L min max = true) :
    ∃ t hd, L.getLast? = some t ∧ L.head? = some hd ∧ F64.gt min t.1 = false ∧ F64.lt max hd.1 = false := by
  unfold DsZSet.hasInRange at h
  split at h
  · simp at h
  · split at h
    · rename_i t hd ht hhd
      simp at h
      exact ⟨t, hd, ht, hhd, h.1, h.2⟩
    · simp at h

theorem split_of_take_len {c : List Nat} {k : Nat} {A : List Nat} {x : Nat} (hk : k ≤ c.length)
    (hx : (0 :: c).take (k + 1) = A ++ [x]) :
    A.length = k ∧ 0 :: c = A ++ x :: c.drop k := by
  have hl := congrArg List.length hx
  simp at hl
  exact ⟨by omega, by simpa using split_of_take hx⟩

/-- no panic (the `n.Item.Score` on nil cannot happen), no fuel exhaustion, agreement with the list model; holds for
    every `min` / `max` including NaN (NaN `min`: the loop stays on the header and the first node is examined, in both
    models) -/
theorem getFirstInRange_spec {sl : SL} {c : List Nat} (hc : IsChain sl c) (min max : F64) :
    ∃ r, getFirstInRange sl min max = .ok r ∧
      (r.map (itemAt sl.heap)) = (DsZSet.getFirstInRange (abs sl) min max).map (·.cur) ∧
      (∀ n, r = some n → ∃ j, c[j]? = some n ∧
        j = ((c.map (itemAt sl.heap)).takeWhile (fun x => F64.gt min x.1)).length) ∧
      DsZSet.getFirstInRange (abs sl) min max =
        r.bind fun _ => DsZSet.cursorAt (abs sl) ((abs sl).takeWhile (fun x => F64.gt min x.1)).length := by
  unfold getFirstInRange DsZSet.getFirstInRange
  rw [hasInRange_chain hc]
  simp only [bind, Except.bind]
  cases hir : DsZSet.hasInRange (abs sl) min max with
  | false => exact ⟨none, by simp [pure, Except.pure]⟩
  | true =>
    rw [abs_eq hc] at hir ⊢
    have hcond := condUpTo_of_downclosed hc (fun x : Item => F64.gt min x.1) (Proofs.C04.gt_downclosed min)
    obtain ⟨A, x, hd, hx⟩ := descend_spec hc (fun fn => F64.gt min fn.item.1) _ hcond
    have hd' : descend sl.heap (fun fn _ => F64.gt min fn.score) sl.level 0 = .ok x := hd
    obtain ⟨t, _, hlast, _, hmt, _⟩ := hasInRange_true hir
    have hklt : ((c.map (itemAt sl.heap)).takeWhile (fun x : Item => F64.gt min x.1)).length < c.length := by
      rw [List.getLast?_eq_getElem?] at hlast
      have h1 := item_takeWhile_index hc (fun x : Item => F64.gt min x.1) (Proofs.C04.gt_downclosed min) _ _ hlast
      have hne : c ≠ [] := by intro h; subst h; simp at hlast
      have h0 : 0 < c.length := List.length_pos_iff.2 hne
      simp [hmt] at h1
      omega
    obtain ⟨_, hsplit⟩ := split_of_take_len (by omega) hx
    obtain ⟨l0, hl0, hf0⟩ := level0_next hc A x _ hsplit
    obtain ⟨f, hf⟩ : ∃ f, c[((c.map (itemAt sl.heap)).takeWhile (fun x : Item => F64.gt min x.1)).length]? = some f :=
      ⟨_, List.getElem?_eq_getElem hklt⟩
    rw [List.head?_drop, hf] at hf0
    have hfc : f ∈ c := List.mem_of_getElem? hf
    obtain ⟨fn, _, hfn, hfi⟩ := getNode_of_mem hc hfc
    have hLk : (c.map (itemAt sl.heap))[((c.map (itemAt sl.heap)).takeWhile (fun x : Item => F64.gt min x.1)).length]? = some fn.item := by
      simp [hf, hfi]
    obtain ⟨cu, hcu, hcur⟩ := cursorAt_of_get hLk
    simp only [hd', hl0, hf0, hfn, Bool.not_true, Bool.false_eq_true, if_false, hcu]
    have hsc : cu.cur.1 = fn.score := by rw [hcur]; rfl
    rw [hsc]
    by_cases hmx : F64.lt max fn.score = true
    · exact ⟨none, by simp [hmx, pure, Except.pure]⟩
    · refine ⟨some f, by simp [hmx, pure, Except.pure], by simp [hmx, hcur, hfi], ?_, by simp [hmx]⟩
      intro n hn
      simp at hn; subst hn
      exact ⟨_, hf, rfl⟩

theorem getLastInRange_spec {sl : SL} {c : List Nat} (hc : IsChain sl c) (min max : F64)
    (hmax : F64.isNaN max = false) :
    ∃ r, getLastInRange sl min max = .ok r ∧
      (r.map (itemAt sl.heap)) = (DsZSet.getLastInRange (abs sl) min max).map (·.cur) ∧
      r ≠ some 0 ∧
      (∀ n, r = some n → ∃ j, c[j]? = some n ∧
        j + 1 = ((c.map (itemAt sl.heap)).takeWhile (fun x => F64.ge max x.1)).length) ∧
      DsZSet.getLastInRange (abs sl) min max =
        r.bind fun _ => DsZSet.cursorAt (abs sl) (((abs sl).takeWhile (fun x => F64.ge max x.1)).length - 1) := by
  unfold getLastInRange DsZSet.getLastInRange
  rw [hasInRange_chain hc]
  simp only [bind, Except.bind]
  cases hir : DsZSet.hasInRange (abs sl) min max with
  | false => exact ⟨none, by simp [pure, Except.pure]⟩
  | true =>
    rw [abs_eq hc] at hir ⊢
    have hcond := condUpTo_of_downclosed hc (fun x : Item => F64.ge max x.1) (Proofs.C04.ge_downclosed max)
    obtain ⟨A, x, hd, hx⟩ := descend_spec hc (fun fn => F64.ge max fn.item.1) _ hcond
    have hd' : descend sl.heap (fun fn _ => F64.ge max fn.score) sl.level 0 = .ok x := hd
    have hg := chain_good hc
    obtain ⟨_, hd0, _, hhead, _, hmh⟩ := hasInRange_true hir
    have hkle : ((c.map (itemAt sl.heap)).takeWhile (fun x : Item => F64.ge max x.1)).length ≤ c.length := by
      have := (List.takeWhile_sublist (fun x : Item => F64.ge max x.1) (l := c.map (itemAt sl.heap))).length_le
      simpa using this
    have hkpos : 0 < ((c.map (itemAt sl.heap)).takeWhile (fun x : Item => F64.ge max x.1)).length := by
      rw [List.head?_eq_getElem?] at hhead
      have h1 := item_takeWhile_index hc (fun x : Item => F64.ge max x.1) (Proofs.C04.ge_downclosed max) _ _ hhead
      have hgd : F64.isNaN hd0.1 = false := hg hd0 (List.mem_of_getElem? hhead)
      have hge : F64.ge max hd0.1 = true := by
        simp [F64.lt, F64.ge, F64.le, hmax, hgd] at hmh ⊢
        omega
      simpa [hge] using h1
    obtain ⟨hAk, hsplit⟩ := split_of_take_len hkle hx
    obtain ⟨j, hj⟩ : ∃ j, ((c.map (itemAt sl.heap)).takeWhile (fun x : Item => F64.ge max x.1)).length = j + 1 :=
      ⟨_, (Nat.sub_add_cancel hkpos).symm⟩
    rw [hj] at hAk hsplit ⊢
    have hxj : c[j]? = some x := by
      have := congrArg (fun l => l[j + 1]?) hsplit
      simp only [List.getElem?_cons_succ] at this
      rw [this, List.getElem?_append_right (by omega)]
      simp [hAk]
    have hxc : x ∈ c := List.mem_of_getElem? hxj
    have hx0 : x ≠ 0 := by
      intro h0; subst h0
      have := hc.nodup
      simp at this
      exact this.1 hxc
    obtain ⟨nd, _, hnd, hni⟩ := getNode_of_mem hc hxc
    have hLj : (c.map (itemAt sl.heap))[j]? = some nd.item := by simp [hxj, hni]
    obtain ⟨cu, hcu, hcur⟩ := cursorAt_of_get hLj
    have hsc : cu.cur.1 = nd.score := by rw [hcur]; rfl
    simp only [hd', hnd, Bool.not_true, Bool.false_eq_true, if_false, Nat.add_sub_cancel, hcu, hsc,
      Nat.add_one_ne_zero]
    by_cases hmn : F64.gt min nd.score = true
    · exact ⟨none, by simp [hmn, pure, Except.pure]⟩
    · refine ⟨some x, by simp [hmn, pure, Except.pure], by simp [hmn, hcur, hni], by simp [hx0], ?_, by simp [hmn]⟩
      intro n hn
      simp at hn; subst hn
      exact ⟨j, hxj, rfl⟩

/-! ### the NaN `max` corner of getLastInRange: the pointer code returns the HEADER, the list model `none`

  With a NaN `max`, `min > max` and `max < head.score` are both false, so `hasInRange` is true as soon as the chain
  is not empty and `¬ min > tail.score`. The level loop `max >= forward.score` is false everywhere and stays on the
  header; then `min > header.score` is evaluated on the header (score 0 in `makeSkiplist`) and, when false, the
  header itself is returned (`some 0`). `DsZSet.getLastInRange` returns `none` there (`k = 0`). -/

theorem getLastInRange_nan_max {sl : SL} {c : List Nat} (hc : IsChain sl c) (min max : F64)
    (hmax : F64.isNaN max = true) (hir : DsZSet.hasInRange (abs sl) min max = true) :
    ∃ hd, sl.heap[0]? = some hd ∧
      getLastInRange sl min max = .ok (if F64.gt min hd.score then none else some 0) ∧
      DsZSet.getLastInRange (abs sl) min max = none := by
  have hk : ((c.map (itemAt sl.heap)).takeWhile (fun x : Item => F64.ge max x.1)).length = 0 := by
    rw [List.length_eq_zero_iff]
    cases c.map (itemAt sl.heap) with
    | nil => rfl
    | cons a l => simp [F64.ge, F64.le, hmax]
  have hcond := condUpTo_of_downclosed hc (fun x : Item => F64.ge max x.1) (Proofs.C04.ge_downclosed max)
  rw [hk] at hcond
  obtain ⟨A, x, hd, hx⟩ := descend_spec hc (fun fn => F64.ge max fn.item.1) _ hcond
  have hd' : descend sl.heap (fun fn _ => F64.ge max fn.score) sl.level 0 = .ok x := hd
  have hx0 : x = 0 := by
    cases A with
    | nil => simp at hx; exact hx.symm
    | cons a A => have := congrArg List.length hx; simp at this
  subst hx0
  have hh := hc.header
  unfold height at hh
  cases h0 : sl.heap[0]? with
  | none => rw [h0] at hh; simp [maxLevel] at hh
  | some nd =>
    refine ⟨nd, rfl, ?_, ?_⟩
    · unfold getLastInRange
      rw [hasInRange_chain hc, hir]
      simp only [bind, Except.bind, hd', (getNode_ok_iff _ _ _).2 h0]
      cases F64.gt min nd.score <;> simp [pure, Except.pure]
    · unfold DsZSet.getLastInRange
      rw [hir, abs_eq hc, hk]
      simp

/-- a concrete instance on the structure built by the model itself: one member with score 1.0, `min = 0`,
    `max = NaN`: the pointer code answers with the header (index 0), the list model with `none` -/
example :
    (do let sl ← insert makeSkiplist [97] 0x3FF0000000000000 1
        let r ← getLastInRange sl 0 0x7FF8000000000000
        pure (r, (DsZSet.getLastInRange (abs sl) 0 0x7FF8000000000000).isNone)) = .ok (some 0, true) := by
  rfl

theorem getFirstInRange_inv {sl : SL} (h : Inv sl) (min max : F64) :
    ∃ r, getFirstInRange sl min max = .ok r ∧
      (r.map (itemAt sl.heap)) = (DsZSet.getFirstInRange (abs sl) min max).map (·.cur) ∧
      (∀ n, r = some n → ∃ j, (chain sl)[j]? = some n ∧
        j = ((abs sl).takeWhile (fun x => F64.gt min x.1)).length) := by
  obtain ⟨c, hc⟩ := h
  rw [chain_eq hc, abs_eq hc]
  obtain ⟨r, h1, h2, h3, _⟩ := getFirstInRange_spec hc min max
  rw [abs_eq hc] at h2
  exact ⟨r, h1, h2, h3⟩

theorem getLastInRange_inv {sl : SL} (h : Inv sl) (min max : F64) (hmax : F64.isNaN max = false) :
    ∃ r, getLastInRange sl min max = .ok r ∧
      (r.map (itemAt sl.heap)) = (DsZSet.getLastInRange (abs sl) min max).map (·.cur) ∧
      r ≠ some 0 ∧
      (∀ n, r = some n → ∃ j, (chain sl)[j]? = some n ∧
        j + 1 = ((abs sl).takeWhile (fun x => F64.ge max x.1)).length) := by
  obtain ⟨c, hc⟩ := h
  rw [chain_eq hc, abs_eq hc]
  obtain ⟨r, h1, h2, h3, h4, _⟩ := getLastInRange_spec hc min max hmax
  rw [abs_eq hc] at h2
  exact ⟨r, h1, h2, h3, h4⟩

end NodisVerif.Skiplist

import NodisVerif.Proofs.GateProgSim
/-
  What the connection looks like when a command is over: after EXEC / DISCARD the state is MultiNone and the queue is
  empty on every path (`doneOk`), a queued command takes no keyspace step, the epilogue reports nothing but `gout`.
-/
namespace NodisVerif.GateProg
open NodisVerif.Gate (G T GMode Ev GState)

def isExecOrDiscard : Cmd → Bool
  | .exec | .discard => true
  | _ => false

/-- the handlers that are neither EXEC's nor DISCARD's (the last branch of `call`) -/
theorem isExecOrDiscard_elim {c : Cmd} {P : Prop} (hx : c = .exec → False) (hd : c = .discard → False)
    (h : isExecOrDiscard c = true) : P := by
  cases c <;> first | exact (hx rfl).elim | exact (hd rfl).elim | cases h

/-- from the reset of EXEC / DISCARD until the next command is read: State == MultiNone, Commands empty; before that, that
    only EXEC's loop runs a body while the command is EXEC -/
def doneOk (l : Loc) (cs : ConnSt) : Prop :=
  match l.pc with
  | .u1 | .u2 | .u3 =>
    match l.after with
    | .bodyEnd => isExecOrDiscard l.cmd = true → l.ctx = .execLoop
    | _ => cs.none? = true ∧ cs.queue = []
  | .dOut | .dUnlock | .dRec | .flush | .idle => isExecOrDiscard l.cmd = true → cs.none? = true ∧ cs.queue = []
  | .ec | .w1 | .w2 | .w3 => isExecOrDiscard l.cmd = false
  | .b0 | .b1 | .b2 | .g1 | .g2 | .g3 | .b3 | .bret | .p0 | .p1 | .p2 | .p3 | .p4 | .p5 =>
    isExecOrDiscard l.cmd = true → l.ctx = .execLoop
  | _ => True

theorem conn_markAll (s : Shared) (k : Key) (cl : List Tid) (t : Tid) :
    sameButWatch (({ s with conns := markAll s.conns k cl } : Shared).conn t) (s.conn t) :=
  markAll_conn s.conns k cl t

theorem doneOk_epilogue {l : Loc} {cs : ConnSt} (h : isExecOrDiscard l.cmd = true → cs.none? = true ∧ cs.queue = []) :
    doneOk (epilogue l) cs := by
  unfold epilogue
  split <;> exact h

theorem doneOk_startBody {l : Loc} {cs : ConnSt} (q : QCmd) (c : Bool) (h : isExecOrDiscard l.cmd = true → l.ctx = .execLoop) :
    doneOk (startBody l q c) cs := by
  cases q <;> exact h

/-- The reset of DISCARD (`call`) and of EXEC's deferred function (`edef`) establishes State == MultiNone and an empty queue;
    `unwatchAll` and the closure's epilogue keep them (`dRec` ors MultiError only into a State != 0); every other way into
    the epilogue is from a handler that is not EXEC's or DISCARD's. -/
theorem done_step {s : Shared} {t : Tid} {l : Loc} {ch : Choice} {s' l' evs}
    (hd : doneOk l (s.conn t)) (hs : tstep s t l ch = some (s', l', evs)) : doneOk l' (s'.conn t) := by
  obtain ⟨pc, cmd, held, rep, emb, ctx, inLook, neg, found, tx, todo, cur, noChange, after, key, panicking, rerr⟩ := l
  revert s' l' evs
  fun_cases tstep s t _ ch
  all_goals first | exact @out_none _ | refine @out_some _ _ _ _ ?_
  -- most transitions lead to a pc of which the table says nothing, or, with the pc of the branch put in, stay within one
  -- line of it
  all_goals first | exact trivial | skip
  all_goals cases ‹pc = _›
  all_goals first | exact hd | skip
  -- the others, in the order of `tstep`.  idle: an embedded caller's command is MULTI
  · exact nofun
  -- call: MULTI, WATCH and a failed argument check go to the epilogue; DISCARD resets; the others go on to execCommand
  iterate 2 cases ‹cmd = .multi›; exact doneOk_epilogue nofun
  · rw [conn_setConn_same]; exact ⟨rfl, rfl⟩
  iterate 2 cases ‹cmd = .watch _›; exact doneOk_epilogue nofun
  · cases ‹cmd = .watch _›; rfl
  · cases ‹cmd = .unwatch›; rfl
  iterate 2 exact doneOk_epilogue (isExecOrDiscard_elim ‹_› ‹_›)
  · exact Bool.eq_false_iff.2 (isExecOrDiscard_elim ‹_› ‹_›)
  -- ec: not EXEC's or DISCARD's handler
  · exact doneOk_startBody _ _ fun h => (Bool.false_ne_true (hd.symm.trans h)).elim
  · exact doneOk_epilogue fun h => (Bool.false_ne_true (hd.symm.trans h)).elim
  -- b3
  · unfold afterTx
    cases inLook <;> cases panicking <;> (try cases neg) <;> exact hd
  -- bret: an embedded caller, execCommand's caller
  · cases ‹ctx = .embedded›; exact fun h => nomatch hd h
  · cases ‹ctx = .direct›; exact doneOk_epilogue fun h => nomatch hd h
  -- p2
  iterate 2 cases neg <;> exact hd
  -- w3, u2, u3
  · exact doneOk_epilogue fun h => (Bool.false_ne_true (hd.symm.trans h)).elim
  · rw [conn_setConn_same]; cases after <;> exact hd
  · cases ‹after = .discardOk›; exact doneOk_epilogue fun _ => hd
  · cases ‹after = .bodyEnd›; exact hd
  · cases ‹after = .execDefer›; exact doneOk_epilogue fun _ => hd
  -- e6, edef
  · exact doneOk_startBody _ _ fun _ => rfl
  · rw [conn_setConn_same]; exact ⟨rfl, rfl⟩
  -- dRec ors MultiError only into a State != 0
  · rename_i cs werr cs'
    rw [conn_setConn_same]
    unfold cs' werr cs
    intro h
    obtain ⟨hn, hq⟩ := hd h
    refine ⟨?_, hq⟩
    simp only [ConnSt.none?, Bool.and_eq_true, Bool.not_eq_true'] at hn ⊢
    simp [hn]
  -- flush
  · rw [conn_setConn_same]; exact hd

theorem doneOk_over {l : Loc} {cs : ConnSt} (hd : doneOk l cs) (hpc : handlerOver l.pc = true)
    (hc : isExecOrDiscard l.cmd = true) : cs.none? = true ∧ cs.queue = [] := by
  obtain ⟨pc⟩ := l
  cases pc <;> first | exact Bool.noConfusion hpc | exact hd hc

theorem doneOk_congr (l : Loc) {a b : ConnSt} (h : sameButWatch a b) : doneOk l a = doneOk l b := by
  obtain ⟨h1, h2, h3, h4, _⟩ := h
  unfold doneOk ConnSt.none?
  rw [h1, h2, h3, h4]

def AllDone (c : Cfg) : Prop := ∀ g, doneOk (c.loc g) (c.sh.conn g)

theorem allDone_init : AllDone {} := fun _ => nofun

theorem allDone_step {c c' : Cfg} {t : Tid} {ch : Choice} {evs : List Ev} (hd : AllDone c)
    (hs : step c t ch = some (c', evs)) : AllDone c' := by
  obtain ⟨s, l, heq, rfl⟩ := step_inv hs
  intro g
  show doneOk ((Cfg.mk s (put c.thr t l)).loc g) (s.conn g)
  rw [loc_put]
  by_cases hg : g = t
  · subst hg; simp only [if_true]; exact done_step (hd g) heq
  · simp only [hg, if_false]
    rw [doneOk_congr _ (tstep_conn_other heq hg)]; exact hd g

theorem reach_done (sch : List (Tid × Choice)) : AllDone (run {} sch).1 :=
  run_preserves allDone_step sch {} allDone_init

theorem queued_tstep {s : Shared} {t : Tid} {l : Loc} {ch : Choice} {s' l' evs} (hpc : l.pc = .ec)
    (hq : (s.conn t).prep = true) (hs : tstep s t l ch = some (s', l', evs)) :
    evs = [] ∧ (l'.pc = .dOut ∨ l'.pc = .dRec) ∧ (s'.conn t).queue = (s.conn t).queue ++ [qcmdOf l.cmd] ∧
    s'.active = s.active ∧ s'.execMu = s.execMu ∧ s'.registry = s.registry := by
  obtain ⟨pc, cmd, held, rep, emb, ctx, inLook, neg, found, tx, todo, cur, noChange, after, key, panicking, rerr⟩ := l
  cases hpc
  -- a connection in MULTI does not run the closure now: the queuing branch
  have hr : (s.conn t).runsNow = false := by simp [ConnSt.runsNow, hq]
  simp only [tstep, hr, hq, Bool.false_eq_true, if_false, if_true] at hs
  cases hs
  refine ⟨rfl, ?_, by rw [conn_setConn_same], rfl, rfl, rfl⟩
  unfold epilogue
  cases held
  · exact .inr rfl
  · exact .inl rfl

theorem unwatch_tstep {s : Shared} {t : Tid} {l : Loc} {ch : Choice} {s' l' evs} (hpc : l.pc = .u2)
    (hs : tstep s t l ch = some (s', l', evs)) : (s'.conn t).watch = [] ∧ l'.pc = .u3 ∧ evs = [] := by
  simp only [tstep, hpc] at hs
  cases hs
  exact ⟨by rw [conn_setConn_same], rfl, rfl⟩

theorem epilogue_tstep {s : Shared} {t : Tid} {l : Loc} {ch : Choice} {s' l' evs}
    (hpc : l.pc = .dOut ∨ l.pc = .dUnlock ∨ l.pc = .dRec ∨ l.pc = .flush)
    (hs : tstep s t l ch = some (s', l', evs)) :
    (∀ e ∈ evs, e = Ev.gout t) ∧ s'.active = s.active ∧
    (l'.pc = .dUnlock ∨ l'.pc = .dRec ∨ l'.pc = .flush ∨ l'.pc = .idle) := by
  obtain ⟨pc, cmd, held, rep, emb, ctx, inLook, neg, found, tx, todo, cur, noChange, after, key, panicking, rerr⟩ := l
  rcases hpc with rfl | rfl | rfl | rfl <;> dsimp only [tstep] at hs
  · -- dOut: the gate-out report
    cases hs; exact ⟨fun e he => List.mem_singleton.1 he, rfl, .inl rfl⟩
  · -- dUnlock
    cases hs; exact ⟨nofun, rfl, .inr (.inl rfl)⟩
  · -- dRec
    cases hs; exact ⟨nofun, rfl, .inr (.inr (.inl rfl))⟩
  · -- flush, whether the write succeeds or not
    split at hs <;> cases hs <;> exact ⟨nofun, rfl, .inr (.inr (.inr rfl))⟩

theorem epilogue_enabled (s : Shared) (t : Tid) (l : Loc) (ch : Choice)
    (hpc : l.pc = .dOut ∨ l.pc = .dUnlock ∨ l.pc = .dRec ∨ l.pc = .flush) : (tstep s t l ch).isSome = true := by
  rcases hpc with hpc | hpc | hpc | hpc <;> simp only [tstep, hpc] <;> (try split) <;> rfl

end NodisVerif.GateProg

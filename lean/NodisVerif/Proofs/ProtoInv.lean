import NodisVerif.Proofs.ProtoStep
import NodisVerif.Proofs.ProtoBasic
/-
  Locking protocol: the invariant of all reachable states (lock compatibility, record names,
  registrations, the ordering rule for waiting) and its preservation by every step.
-/
namespace NodisVerif.Proofs.Proto
open NodisVerif.Proto

structure Inv (s : PState) : Prop where
  /-- a transaction id is active at most once -/
  txNodup : NodupKeys s.txs
  /-- a transaction has at most one hold per record -/
  holdNodup : ∀ t st, s.tx t = some st → NodupRids st.holds
  /-- two holds of different transactions on one record are both read holds -/
  compat : ∀ t u st su h g, s.tx t = some st → s.tx u = some su → h ∈ st.holds → g ∈ su.holds →
      h.rid = g.rid → (h.mode = .w ∨ g.mode = .w) → t = u
  /-- a hold carries the name of its record -/
  holdName : ∀ t st h, s.tx t = some st → h ∈ st.holds → assoc s.names h.rid = some h.key
  /-- a record is registered under its name only -/
  idxName : ∀ k r, assoc s.index k = some r → assoc s.names r = some k
  pendName : ∀ k r, assoc s.pending k = some r → assoc s.names r = some k
  /-- a key is never in the index and in `pending` at the same time -/
  disjoint : ∀ k r, assoc s.index k = some r → assoc s.pending k = none
  /-- a blocked transaction obeyed the ordering rule, has not begun its commit, waits for a record
      under its name, and does not hold that record -/
  waitOk : ∀ t st k r m, s.tx t = some st → st.waiting = some (k, r, m) →
      st.mayWait k = true ∧ st.committing = false ∧ assoc s.names r = some k ∧ st.holdOf r = none

theorem Inv.init : Inv {} where
  txNodup := List.nodup_nil
  holdNodup := by intro t st h; cases h
  compat := by intro t u st su h g h1; cases h1
  holdName := by intro t st h h1; cases h1
  idxName := by intro k r h; cases h
  pendName := by intro k r h; cases h
  disjoint := by intro k r h; cases h
  waitOk := by intro t st k r m h1; cases h1

theorem Inv.setTx {s : PState} (hi : Inv s) (t : Tx) (st' : TxSt)
    (hn : NodupRids st'.holds)
    (hc : ∀ h ∈ st'.holds, ∀ u su g, u ≠ t → s.tx u = some su → g ∈ su.holds → h.rid = g.rid →
      h.mode = .r ∧ g.mode = .r)
    (hname : ∀ h ∈ st'.holds, assoc s.names h.rid = some h.key)
    (hw : ∀ k r m, st'.waiting = some (k, r, m) →
      st'.mayWait k = true ∧ st'.committing = false ∧ assoc s.names r = some k ∧ st'.holdOf r = none) :
    Inv (s.setTx t st') where
  txNodup := nodupKeys_put hi.txNodup t st'
  holdNodup := by
    intro u su hu
    rw [tx_setTx] at hu
    split at hu
    · cases hu; exact hn
    · exact hi.holdNodup u su hu
  compat := by
    intro u v su sv h g hu hv hh hg e hm
    rw [tx_setTx] at hu hv
    by_cases h1 : u = t <;> by_cases h2 : v = t
    · rw [h1, h2]
    · rw [if_pos h1] at hu; rw [if_neg h2] at hv; cases hu
      have := hc h hh v sv g h2 hv hg e
      rcases hm with hm | hm <;> simp [this] at hm
    · rw [if_neg h1] at hu; rw [if_pos h2] at hv; cases hv
      have := hc g hg u su h h1 hu hh e.symm
      rcases hm with hm | hm <;> simp [this] at hm
    · rw [if_neg h1] at hu; rw [if_neg h2] at hv
      exact hi.compat u v su sv h g hu hv hh hg e hm
  holdName := by
    intro u su h hu hh
    rw [tx_setTx] at hu
    split at hu
    · cases hu; exact hname h hh
    · exact hi.holdName u su h hu hh
  idxName := hi.idxName
  pendName := hi.pendName
  disjoint := hi.disjoint
  waitOk := by
    intro u su k r m hu hwt
    rw [tx_setTx] at hu
    split at hu
    · cases hu; exact hw k r m hwt
    · exact hi.waitOk u su k r m hu hwt

theorem Inv.readers {s : PState} (hi : Inv s) {t u : Tx} {st su : TxSt} {h g : Hold} (ht : s.tx t = some st)
    (hu : s.tx u = some su) (hh : h ∈ st.holds) (hg : g ∈ su.holds) (e : h.rid = g.rid) (hne : t ≠ u) :
    h.mode = .r ∧ g.mode = .r := by
  constructor
  · cases hm : h.mode with
    | r => rfl
    | w => exact absurd (hi.compat t u st su h g ht hu hh hg e (Or.inl hm)) hne
  · cases hm : g.mode with
    | r => rfl
    | w => exact absurd (hi.compat t u st su h g ht hu hh hg e (Or.inr hm)) hne

/-- change the state of an active transaction: a hold that stands for an old one (same record, mode, key)
    needs no argument; a new hold carries the name of its record and meets only read holds of the others -/
theorem Inv.updTx {s : PState} (hi : Inv s) {t : Tx} {st : TxSt} (htx : s.tx t = some st) (st' : TxSt)
    (hn : NodupRids st'.holds)
    (hold : ∀ h ∈ st'.holds, (∃ h0 ∈ st.holds, h0.rid = h.rid ∧ h0.mode = h.mode ∧ h0.key = h.key) ∨
      (assoc s.names h.rid = some h.key ∧ ∀ u su g, u ≠ t → s.tx u = some su → g ∈ su.holds →
        h.rid = g.rid → h.mode = .r ∧ g.mode = .r))
    (hw : ∀ k r m, st'.waiting = some (k, r, m) →
      st'.mayWait k = true ∧ st'.committing = false ∧ assoc s.names r = some k ∧ st'.holdOf r = none) :
    Inv (s.setTx t st') := by
  refine hi.setTx t st' hn ?_ ?_ hw
  · intro h hh u su g hut hu hg e
    rcases hold h hh with ⟨h0, hh0, e1, e2, _⟩ | ⟨_, hc⟩
    · rw [← e2]; exact hi.readers htx hu hh0 hg (e1.trans e) (Ne.symm hut)
    · exact hc u su g hut hu hg e
  · intro h hh
    rcases hold h hh with ⟨h0, hh0, e1, _, e3⟩ | ⟨hname, _⟩
    · rw [← e1, ← e3]; exact hi.holdName t st h0 htx hh0
    · exact hname

theorem Inv.regs {s : PState} (hi : Inv s) (index' pending' : List (Key × Rec))
    (h1 : ∀ k r, assoc index' k = some r → assoc s.names r = some k)
    (h2 : ∀ k r, assoc pending' k = some r → assoc s.names r = some k)
    (h3 : ∀ k r, assoc index' k = some r → assoc pending' k = none) :
    Inv { s with index := index', pending := pending' } where
  txNodup := hi.txNodup
  holdNodup := hi.holdNodup
  compat := hi.compat
  holdName := hi.holdName
  idxName := h1
  pendName := h2
  disjoint := h3
  waitOk := hi.waitOk

theorem lookup_none {s : PState} {k : Key} (h : s.lookup k = none) :
    assoc s.index k = none ∧ assoc s.pending k = none := by
  unfold PState.lookup at h
  cases h1 : assoc s.index k with
  | none => simpa [h1] using h
  | some x => simp [h1] at h

theorem Inv.claimReg {s : PState} (hi : Inv s) (k : Key) (r : Rec)
    (hl : s.lookup k = none) (hf : assoc s.names r = none) :
    Inv { s with pending := put s.pending k r, names := (r, k) :: s.names } := by
  have hidx := (lookup_none hl).1
  exact {
    txNodup := hi.txNodup
    holdNodup := hi.holdNodup
    compat := hi.compat
    holdName := fun t st h h1 h2 => assoc_names_cons hf (hi.holdName t st h h1 h2)
    idxName := fun k' r' h => assoc_names_cons hf (hi.idxName k' r' h)
    pendName := by
      intro k' r' h
      simp only [assoc_put] at h
      split at h
      · cases h; subst_vars; simp [assoc_cons]
      · exact assoc_names_cons hf (hi.pendName k' r' h)
    disjoint := by
      intro k' r' h
      simp only [assoc_put]
      split
      · subst_vars; simp [hidx] at h
      · exact hi.disjoint k' r' h
    waitOk := by
      intro t st k' r' m h1 h2
      obtain ⟨a, b, c, d⟩ := hi.waitOk t st k' r' m h1 h2
      exact ⟨a, b, assoc_names_cons hf c, d⟩ }

theorem Inv.fin {s : PState} (hi : Inv s) (t : Tx) : Inv { s with txs := erase s.txs t } := by
  have htx : ∀ u su, PState.tx { s with txs := erase s.txs t } u = some su → s.tx u = some su := by
    intro u su h
    simp only [PState.tx, assoc_erase] at h
    split at h
    · cases h
    · exact h
  exact {
    txNodup := nodupKeys_erase hi.txNodup t
    holdNodup := fun u su h => hi.holdNodup u su (htx u su h)
    compat := fun u v su sv h g hu hv => hi.compat u v su sv h g (htx _ _ hu) (htx _ _ hv)
    holdName := fun u su h hu => hi.holdName u su h (htx _ _ hu)
    idxName := hi.idxName
    pendName := hi.pendName
    disjoint := hi.disjoint
    waitOk := fun u su k r m hu => hi.waitOk u su k r m (htx _ _ hu) }

theorem mayWait_iff {st : TxSt} {k : Key} : st.mayWait k = true ↔ ∀ h ∈ st.holds, h.key < k := by
  simp [TxSt.mayWait]

theorem Inv.step {s s' : PState} {e : Ev} (hi : Inv s) (hs : Proto.step s e = some s') : Inv s' := by
  have kept : ∀ {st : TxSt} {h : Hold}, h ∈ st.holds →
      ∃ h0 ∈ st.holds, h0.rid = h.rid ∧ h0.mode = h.mode ∧ h0.key = h.key := fun hh => ⟨_, hh, rfl, rfl, rfl⟩
  cases e with
  | begin t =>
    obtain ⟨h1, rfl⟩ := step_begin.1 hs
    exact hi.setTx t {} (by simp [NodupRids]) nofun nofun nofun
  | look t k r =>
    obtain ⟨st, _, _, _, _, rfl⟩ := step_look.1 hs
    exact hi
  | claim t k r m =>
    obtain ⟨st, htx, hc, hw, hl, hf, rfl⟩ := step_claim.1 hs
    refine (hi.claimReg k r hl hf).updTx htx _ (nodupRids_setHold (hi.holdNodup t st htx) _) ?_ ?_
    · intro h hh
      rcases mem_setHold.1 hh with rfl | ⟨hh, _⟩
      · -- the record is fresh: nobody holds it
        refine Or.inr ⟨by simp [assoc_cons], fun u su g _ hu hg e => ?_⟩
        have := hi.holdName u su g hu hg
        rw [← e, hf] at this; cases this
      · exact Or.inl (kept hh)
    · intro k' r' m' hw'
      rw [setHold_waiting, hw] at hw'; cases hw'
  | wait t k r m =>
    obtain ⟨st, htx, hc, hw, hn, hh, hm, rfl⟩ := step_wait.1 hs
    refine hi.updTx htx _ (hi.holdNodup t st htx) (fun h hh => Or.inl (kept hh)) ?_
    intro k' r' m' hw'
    simp only [Option.some.injEq, Prod.mk.injEq] at hw'
    obtain ⟨rfl, rfl, rfl⟩ := hw'
    exact ⟨hm, hc, hn, hh⟩
  | lock t k r m =>
    obtain ⟨st, htx, hw, hf, rfl⟩ := step_lock.1 hs
    obtain ⟨_, hc, hn, _⟩ := hi.waitOk t st k r m htx hw
    refine hi.updTx htx _ (nodupRids_setHold (hi.holdNodup t st htx) _) ?_ (fun k' r' m' hw' => by simp at hw')
    intro h hh
    rcases mem_setHold.1 hh with rfl | ⟨hh, _⟩
    · refine Or.inr ⟨hn, fun u su g _ hu hg e => ?_⟩
      cases m with
      | w => exact absurd e.symm (free_w_holds hf ⟨su, hu, hg⟩)
      | r => exact ⟨rfl, free_r_holds hf ⟨su, hu, hg⟩ e.symm⟩
    · exact Or.inl (kept (st := { st with waiting := none }) hh)
  | valid t k r ok =>
    obtain ⟨st, h0, htx, hh0, hv, hk, ⟨_, rfl⟩ | ⟨_, hl, rfl⟩⟩ := step_valid.1 hs
    · exact hi
    · obtain ⟨hm0, hr0⟩ := holdOf_some hh0
      -- every hold afterwards stands for a hold before, on the same record
      have back : ∀ h ∈ (st.setHold { h0 with valid := true }).holds,
          ∃ g ∈ st.holds, g.rid = h.rid ∧ g.mode = h.mode ∧ g.key = h.key := by
        intro h hh
        rcases mem_setHold.1 hh with rfl | ⟨hh, _⟩
        · exact ⟨h0, hm0, rfl, rfl, rfl⟩
        · exact kept hh
      refine hi.updTx htx _ (nodupRids_setHold (hi.holdNodup t st htx) _) (fun h hh => Or.inl (back h hh)) ?_
      intro k' r' m' hw'
      rw [setHold_waiting] at hw'
      obtain ⟨a, b, c, d⟩ := hi.waitOk t st k' r' m' htx hw'
      refine ⟨?_, b, c, ?_⟩
      · rw [mayWait_iff] at a ⊢
        intro h hh
        obtain ⟨g, hg, _, _, e⟩ := back h hh
        rw [← e]; exact a g hg
      · rw [holdOf_none] at d ⊢
        intro h hh
        obtain ⟨g, hg, e, _⟩ := back h hh
        rw [← e]; exact d g hg
  | publish t k r =>
    obtain ⟨st, h, htx, hh, hv, hm, hk, hc, hp, hx, rfl⟩ := step_publish.1 hs
    refine hi.regs _ _ ?_ (fun k' r' h' => hi.pendName k' r' (assoc_erase_some h').2) ?_
    · intro k' r' h'
      rw [assoc_put] at h'
      split at h'
      · cases h'; subst_vars; exact hi.pendName _ _ hp
      · exact hi.idxName k' r' h'
    · intro k' r' h'
      rw [assoc_erase]
      rw [assoc_put] at h'
      split
      · rfl
      · rename_i hne; rw [if_neg hne] at h'; exact hi.disjoint k' r' h'
  | unlink t k r =>
    obtain ⟨st, h, htx, hh, hv, hm, hk, hc, hx, rfl⟩ := step_unlink.1 hs
    exact hi.regs _ _ (fun k' r' h' => hi.idxName k' r' (assoc_erase_some h').2) hi.pendName
      (fun k' r' h' => hi.disjoint k' r' (assoc_erase_some h').2)
  | commit t =>
    obtain ⟨st, htx, hc, hw, hv, rfl⟩ := step_commit.1 hs
    refine hi.updTx htx _ (hi.holdNodup t st htx) (fun h hh => Or.inl (kept hh)) ?_
    intro k' r' m' hw'
    rw [hw] at hw'; cases hw'
  | trylock t k r =>
    obtain ⟨st, htx, hc, hn, hf, rfl⟩ := step_trylock.1 hs
    refine hi.updTx htx _ (nodupRids_setHold (hi.holdNodup t st htx) _) ?_ ?_
    · intro h hh
      rcases mem_setHold.1 hh with rfl | ⟨hh, _⟩
      · exact Or.inr ⟨hn, fun u su g _ hu hg e => absurd e.symm (free_w_holds hf ⟨su, hu, hg⟩)⟩
      · exact Or.inl (kept hh)
    · intro k' r' m' hw'
      rw [setHold_waiting] at hw'
      have := (hi.waitOk t st k' r' m' htx hw').2.1
      rw [hc] at this; cases this
  | drop t k r =>
    obtain ⟨st, h, htx, hh, hc, hm, hk, hp, rfl⟩ := step_drop.1 hs
    refine hi.regs _ _ hi.idxName (fun k' r' h' => hi.pendName k' r' (assoc_erase_some h').2) ?_
    intro k' r' h'
    rw [assoc_erase]
    split
    · rfl
    · exact hi.disjoint k' r' h'
  | unlock t r =>
    obtain ⟨st, h0, htx, hh0, hc, rfl⟩ := step_unlock.1 hs
    refine hi.updTx htx _ (nodupRids_filter (hi.holdNodup t st htx) _)
      (fun h hh => Or.inl (kept (mem_delHold.1 hh).1)) ?_
    intro k' r' m' hw'
    rw [delHold_waiting] at hw'
    obtain ⟨a, b, c, d⟩ := hi.waitOk t st k' r' m' htx hw'
    refine ⟨?_, b, c, ?_⟩
    · rw [mayWait_iff] at a ⊢
      intro h hh
      exact a h (mem_delHold.1 hh).1
    · rw [holdOf_none] at d ⊢
      intro h hh
      exact d h (mem_delHold.1 hh).1
  | fin t =>
    obtain ⟨st, htx, _, _, rfl⟩ := step_fin.1 hs
    exact hi.fin t
  | clear =>
    have := step_clear.1 hs
    subst this
    refine hi.regs [] s.pending ?_ hi.pendName ?_
    · intro k r h; simp [assoc] at h
    · intro k r h; simp [assoc] at h

theorem Inv.run {s s' : PState} {es : List Ev} (hi : Inv s) (h : runAll s es = some s') : Inv s' := by
  induction es generalizing s with
  | nil => cases h; exact hi
  | cons e es ih =>
    obtain ⟨s1, h1, h2⟩ := runAll_cons_some h
    exact ih (hi.step h1) h2

theorem Reachable.inv {s : PState} (h : Reachable s) : Inv s := by
  obtain ⟨es, he⟩ := h
  exact Inv.init.run he

end NodisVerif.Proofs.Proto

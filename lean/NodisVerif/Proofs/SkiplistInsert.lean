import NodisVerif.Proofs.SkiplistInsertHeap
import NodisVerif.Proofs.SkiplistSpecs

/-
  skiplist.insert: `Linked` of the new chain from a pointwise description of the new heap (`InsCtx`), level by level
  through `LevelNs.insert`; then the operation on a chain cut where the search stops (`InsRun`): the invariant is kept,
  the new node sits after every node that is "less", `DsZSet.slInsert` is refined.
-/
namespace NodisVerif.Skiplist
open NodisVerif.DsZSet (Item nodeLt)

/-- the heap `hf` after `insert` described against the heap `h1` after `extendLevels`: the chain is `pre ++ post`, the
    new node `N` of height `lvl` goes between the two, `level'` is the level after the extension, `U j` / `R j` are
    `update[j]` / `rank[j]` of the Go code (the last node of `0 :: pre` that takes part in level `j`, and its position),
    `r0` is `rank[0]` (the position of the last node of `pre`) -/
structure InsCtx (h1 hf : List Node) (pre post : List Nat) (N lvl level' : Nat)
    (U : Nat → Nat) (R : Nat → Int) (r0 : Int) : Prop where
  hlink : Linked h1 (0 :: pre ++ post)
  hnd : (0 :: pre ++ post).Nodup
  hNmem : N ∉ 0 :: pre ++ post
  hN1 : ∀ j, lv h1 N j = none
  hht : ∀ x, x ≠ N → height hf x = height h1 x
  hhN : height hf N = lvl
  hlvl : lvl ≤ level'
  hhi : ∀ y ∈ pre ++ post, height h1 y ≤ level'
  hU : ∀ j, j < level' → ∃ A B, 0 :: pre = A ++ U j :: B ∧ above h1 j (U j) = true ∧
      (∀ y ∈ B, above h1 j y = false) ∧ R j = (A.length : Int)
  hr0 : r0 = (pre.length : Int)
  hlv : ∀ x j, lv hf x j =
      if j < lvl then
        (if x = U j then some { forward := some N, span := r0 - R j + 1 }
         else if x = N then
           (lv h1 (U j) j).map (fun l => { forward := l.forward, span := l.span - (r0 - R j) })
         else lv h1 x j)
      else if j < level' ∧ x = U j then (lv h1 x j).map (fun l => { l with span := l.span + 1 })
      else lv h1 x j

namespace InsCtx
variable {h1 hf : List Node} {pre post : List Nat} {N lvl level' : Nat} {U : Nat → Nat} {R : Nat → Int} {r0 : Int}

theorem mem_pre_of_split {pre A' c'' : List Nat} {n : Nat} (hs : 0 :: pre = A' ++ n :: c'') :
    ∀ y ∈ c'', y ∈ pre := by
  cases A' with
  | nil => simp at hs; intro y hy; rw [hs.2]; exact hy
  | cons a A'' => simp at hs; intro y hy; rw [hs.2]; simp [hy]

/-- `ns = some len` carries the span discipline of nil links along (only below `level'`, where the code maintains it) -/
theorem level (C : InsCtx h1 hf pre post N lvl level' U R r0) (ns : Option Int) (j : Nat)
    (hns : ns = none ∨ j < level') (hold : LevelNs ns (above h1 j) (lv h1 · j) ((0 :: pre) ++ post)) :
    LevelNs (ns.map (· + 1)) (above hf j) (lv hf · j) ((0 :: pre) ++ N :: post) := by
  have hsp : ∀ x l, lv h1 x j = some l → above h1 j x = true := fun x l hl => by
    simp [above, (lv_isSome_iff h1 x j).1 ⟨l, hl⟩]
  have hp : ∀ x, x ≠ N → above hf j x = above h1 j x := fun x hx => by unfold above; rw [C.hht x hx]
  by_cases hj : j < level'
  · obtain ⟨A, B, hP, hu, hB, hR⟩ := C.hU j hj
    have hd : r0 - R j = (B.length : Int) := by
      rw [C.hr0, hR]; have := congrArg List.length hP; simp at this; omega
    obtain ⟨l, hl⟩ := (lv_isSome_iff h1 (U j) j).2 (by simpa [above] using hu)
    have hNU : N ≠ U j := fun e => C.hNmem (by rw [e]; exact List.mem_append_left _ (by rw [hP]; simp))
    refine LevelNs.insert ((List.perm_middle (l₁ := 0 :: pre)).nodup_iff.2 (List.nodup_cons.2 ⟨C.hNmem, C.hnd⟩))
      hold hsp hP hu hB hp ?_ ?_
    · intro x hxu hxN
      show lv hf x j = _
      rw [C.hlv]; by_cases h1j : j < lvl <;> simp [h1j, hxu, hxN]
    · by_cases h1j : j < lvl
      · refine .splice l (by unfold above; rw [C.hhN]; simpa using h1j) hl ?_ ?_
        · show lv hf (U j) j = _
          rw [C.hlv]; simp [h1j, hd]
        · show lv hf N j = _
          rw [C.hlv]; simp [h1j, hNU, hl, hd]
      · refine .bump l { l with span := l.span + 1 } (by unfold above; rw [C.hhN]; simpa using h1j) ?_ hl ?_ rfl
          (fun _ => rfl)
        · show lv hf N j = _
          rw [C.hlv]; simp [h1j, hNU, C.hN1]
        · show lv hf (U j) j = _
          rw [C.hlv]; simp [h1j, hj, hl]
  · obtain rfl : ns = none := hns.resolve_right hj
    have hlv : ∀ x, lv hf x j = lv h1 x j := fun x => by
      rw [C.hlv]; have := C.hlvl; simp [hj, show ¬ j < lvl by omega]
    have hno : ∀ y ∈ pre ++ post, above h1 j y = false := fun y hy => by
      have := C.hhi y hy; simp [above]; omega
    refine LevelNs.single (z := 0) (fun x l hl => ?_) (fun y hy => ?_) (fun l hl => ⟨?_, fun _ e => by cases e⟩)
    · by_cases hxN : x = N
      · rw [hxN, hlv, C.hN1] at hl; cases hl
      · rw [hp x hxN]; exact hsp x l ((hlv x).symm.trans hl)
    · by_cases hyN : y = N
      · subst hyN; unfold above; rw [C.hhN]; have := C.hlvl; simp; omega
      · rw [hp y hyN]; exact hno y (List.mem_append.2 ((List.mem_append.1 hy).imp_right fun h => (List.mem_cons.1 h).resolve_left hyN))
    · rw [(hold [] 0 (pre ++ post) l rfl ((hlv 0).symm.trans hl)).1, find_all_false hno]

theorem linked (C : InsCtx h1 hf pre post N lvl level' U R r0) : Linked hf (0 :: pre ++ N :: post) := by
  rw [linked_iff_levels]
  exact fun j => C.level none j (Or.inl rfl) ((linked_iff_levels h1 _).1 C.hlink j)

end InsCtx

end NodisVerif.Skiplist

-- the same namespace again, with the order lemmas of ZSetLemmas open
namespace NodisVerif.Skiplist
open NodisVerif.DsZSet (Item nodeLt slInsert)
open NodisVerif.Proofs.C04 (ILt)
open NodisVerif.Proofs.ZSetLemmas (Good itemLt_trans itemLt_total slInsert_pairwise)

theorem slInsert_eq (m : Bytes) (s : F64) : ∀ (l : List Item),
    slInsert l m s = l.takeWhile (fun a => nodeLt a s m) ++ (s, m) :: l.dropWhile (fun a => nodeLt a s m) := by
  intro l
  induction l with
  | nil => simp [slInsert]
  | cons a l ih =>
    unfold slInsert
    by_cases h : nodeLt a s m = true
    · simp [h, ih]
    · simp [h]

theorem take_pre (p : Nat → Bool) (c : List Nat) :
    (0 :: c).take ((c.takeWhile p).length + 1) = 0 :: c.takeWhile p := by
  rw [List.take_succ_cons]
  congr 1
  have h := List.takeWhile_append_dropWhile (p := p) (l := c)
  have h2 : ∀ (a b : List Nat), (a ++ b).take a.length = a := by intro a b; simp
  have h3 := h2 (c.takeWhile p) (c.dropWhile p)
  rwa [h] at h3

theorem level_extend {sl : SL} {c : List Nat} (hc : IsChain sl c) (h1 : List Node) (lvl : Nat)
    (hs : skel h1 = skel sl.heap) (hlv : ∀ x j, lv h1 x j = extLv sl lvl x j) (j : Nat) (ns : Option Int)
    (hold : LevelNs ns (above sl.heap j) (lv sl.heap · j) (0 :: c)) :
    LevelNs (if sl.level ≤ j ∧ j < lvl then some sl.length else ns) (above h1 j) (lv h1 · j) (0 :: c) := by
  by_cases hnew : sl.level ≤ j ∧ j < lvl
  · rw [if_pos hnew]
    refine LevelNs.single (fun x l hl => ?_) (fun y hy => ?_) (fun l hl => ?_)
    · simp [above, (lv_isSome_iff h1 x j).1 ⟨l, hl⟩]
    · have := hc.hle y hy
      simp [above, height_congr hs]; omega
    · have hrest : ∀ y ∈ c, above sl.heap j y = false := fun y hy => by
        have := hc.hle y hy; simp [above]; omega
      have h0 : lv h1 0 j = _ := hl
      rw [hlv, extLv, if_pos ⟨rfl, hnew⟩] at h0
      cases hl0 : lv sl.heap 0 j with
      | none => rw [hl0] at h0; cases h0
      | some l0 =>
        rw [hl0] at h0; cases h0
        exact ⟨by rw [(hold [] 0 c l0 rfl hl0).1, find_all_false hrest], fun len e => by cases e; rfl⟩
  · rw [if_neg hnew]
    refine hold.congr (fun x _ => above_congr hs j x) (fun x _ => ?_)
    show lv h1 x j = _
    rw [hlv, extLv, if_neg (fun h => hnew h.2)]

theorem linked_extend {sl : SL} {c : List Nat} (hc : IsChain sl c) (h1 : List Node) (lvl : Nat)
    (hs : skel h1 = skel sl.heap)
    (hlv : ∀ x j, lv h1 x j = extLv sl lvl x j) :
    Linked h1 (0 :: c) := by
  rw [linked_iff_levels]
  exact fun j => (level_extend hc h1 lvl hs hlv j none ((linked_iff_levels _ _).1 hc.linked j)).weaken

theorem updateRank_extend {sl : SL} {c : List Nat} (hc : IsChain sl c) (pre : List Nat) (hpre : ∀ y ∈ pre, y ∈ c)
    (h1 : List Node) (lvl : Nat) (hl2 : lvl ≤ maxLevel)
    (update update' : List (Option Nat)) (rank rank' : List Int)
    (hUR : UpdateRankFor sl.heap sl.level (0 :: pre) update rank)
    (hs : skel h1 = skel sl.heap)
    (hup : ∀ j, update'[j]? = if sl.level ≤ j ∧ j < lvl then some (some 0) else update[j]?)
    (hrk : ∀ j, rank'[j]? = if sl.level ≤ j ∧ j < lvl then some 0 else rank[j]?) :
    UpdateRankFor h1 (max sl.level lvl) (0 :: pre) update' rank' := by
  intro j hj
  by_cases hjl : j < sl.level
  · obtain ⟨A, u, B, h1', h2, h3, h4, h5⟩ := hUR j hjl
    have hn : ¬ (sl.level ≤ j ∧ j < lvl) := by omega
    refine ⟨A, u, B, h1', by rw [above_congr hs]; exact h2, fun y hy => by rw [above_congr hs]; exact h3 y hy, ?_, ?_⟩
    · rw [hup, if_neg hn]; exact h4
    · rw [hrk, if_neg hn]; exact h5
  · have hn : sl.level ≤ j ∧ j < lvl := by omega
    refine ⟨[], 0, pre, rfl, ?_, ?_, ?_, ?_⟩
    · have := hc.header
      simp [above, height_congr hs, this]; omega
    · intro y hy
      have := hc.hle y (hpre y hy)
      simp [above, height_congr hs]; omega
    · rw [hup, if_pos hn]
    · rw [hrk, if_pos hn]; rfl

/-- the run of `insert` on a chain `pre ++ post` cut where the search stops: `h1` is the heap after the level
    extension, `U j` / `R j` are `update[j]` / `rank[j]`, `l0` the level-0 slot of the new node -/
structure InsRun (sl sl' : SL) (m : Bytes) (s : F64) (lvl : Nat) (pre post : List Nat)
    (h1 : List Node) (U : Nat → Nat) (R : Nat → Int) (l0 : Level) : Prop where
  run : insert sl m s lvl = .ok sl'
  skel1 : skel h1 = skel sl.heap
  lv1 : ∀ x j, lv h1 x j = extLv sl lvl x j
  ctx : InsCtx h1 sl'.heap pre post sl.heap.length lvl (max sl.level lvl) U R (R 0)
  length : sl'.length = sl.length + 1
  level : sl'.level = max sl.level lvl
  size : sl'.heap.length = sl.heap.length + 1
  ht : ∀ x, height sl'.heap x = if x = sl.heap.length then lvl else height sl.heap x
  item : ∀ x, itemAt sl'.heap x = if x = sl.heap.length then (s, m) else itemAt sl.heap x
  lv0 : lv sl'.heap sl.heap.length 0 = some l0
  tail : sl'.tail = (match l0.forward with | some _ => sl.tail | none => some sl.heap.length)
  bk : ∀ x, bk sl'.heap x =
    if some x = l0.forward then some (some sl.heap.length)
    else if x = sl.heap.length then some (if U 0 = 0 then none else some (U 0)) else bk sl.heap x
  last : ∃ A, 0 :: pre = A ++ [U 0]

theorem insert_desc {sl : SL} {pre post : List Nat} (hc : IsChain sl (pre ++ post)) (m : Bytes) (s : F64) (lvl : Nat)
    (hl1 : 1 ≤ lvl) (hl2 : lvl ≤ maxLevel) (hcond : CondUpTo sl (pre ++ post) (lessCond m s) pre.length) :
    ∃ sl' h1 U R l0, InsRun sl sl' m s lvl pre post h1 U R l0 := by
  obtain ⟨x, acc, update, rank, hsearch, hul, hrl, hUR, hupper, _, _⟩ :=
    search_spec hc (lessCond m s) pre.length hcond
  have htake : (0 :: (pre ++ post)).take (pre.length + 1) = 0 :: pre := by simp [List.take_succ_cons]
  rw [htake] at hUR
  obtain ⟨h1, update', rank', hext, hs1, hb1, hul', hrl', hlv1, hup, hrk⟩ :=
    extendBranch_spec sl lvl update rank hul hrl hl2 hc.header
  have hUR' := updateRank_extend hc pre (fun y hy => by simp [hy]) h1 lvl hl2 update update' rank rank' hUR hs1 hup hrk
  have hlink1 := linked_extend hc h1 lvl hs1 hlv1
  have hlen1 : h1.length = sl.heap.length := length_congr hs1
  obtain ⟨U, hU⟩ : ∃ U : Nat → Nat, ∀ j, U j = ((update'[j]?).getD none).getD 0 := ⟨_, fun _ => rfl⟩
  obtain ⟨R, hR⟩ : ∃ R : Nat → Int, ∀ j, R j = (rank'[j]?).getD 0 := ⟨_, fun _ => rfl⟩
  have hUf : ∀ j, j < max sl.level lvl → ∃ A B, 0 :: pre = A ++ U j :: B ∧ above h1 j (U j) = true ∧
      (∀ y ∈ B, above h1 j y = false) ∧ R j = (A.length : Int) ∧ update'[j]? = some (some (U j)) ∧
      rank'[j]? = some (R j) := by
    intro j hj
    obtain ⟨A, u, B, e1, e2, e3, e4, e5⟩ := hUR' j hj
    have hu : U j = u := by rw [hU, e4]; rfl
    have hr : R j = A.length := by rw [hR, e5]; rfl
    rw [← hu] at e1 e2 e4
    rw [← hr] at e5
    exact ⟨A, B, e1, e2, e3, hr, e4, e5⟩
  have hUt : ∀ j, j < max sl.level lvl →
      update'[j]? = some (some (U j)) ∧ rank'[j]? = some (R j) ∧ j < height h1 (U j) := by
    intro j hj
    obtain ⟨A, B, e1, e2, e3, e4, e5, e6⟩ := hUf j hj
    exact ⟨e5, e6, by simpa [above] using e2⟩
  have hsplit0 : (0 :: (pre ++ post)) = (0 :: pre) ++ post := rfl
  have hfw : ∀ l f, lv h1 (U 0) 0 = some l → l.forward = some f → f < h1.length := by
    intro l f hl hf
    obtain ⟨A, B, e1, e2, e3, e4, e5, e6⟩ := hUf 0 (by have := hc.levelLo; omega)
    have hlk := (linked_iff_split h1 _).1 hlink1 A (U 0) (B ++ post) (by rw [hsplit0, e1]; simp) 0 l hl
    rw [hf] at hlk
    have hmem : f ∈ B ++ post := List.mem_of_find?_eq_some hlk.1.symm
    have hmem' : f ∈ pre ++ post := by
      rcases List.mem_append.1 hmem with h | h
      · exact List.mem_append_left _ (InsCtx.mem_pre_of_split e1 f h)
      · exact List.mem_append_right _ h
    rw [hlen1]
    exact hc.bound f hmem'
  obtain ⟨sl', l0, htail, hsk, hlvf, hlen', hlev', hl0, htl, hbk⟩ :=
    insertTail_spec sl m s lvl h1 update' rank' (max sl.level lvl) U R hl1 (by omega) hUt hfw
  have hins : insert sl m s lvl = .ok sl' := by
    rw [insert_eq, hsearch]
    simp only [bind, Except.bind]
    rw [hext]
    exact htail
  have hN0 : sl.heap.length ≠ 0 := by have := hc.size; omega
  have hNc : sl.heap.length ∉ pre ++ post := fun h => by have := hc.bound _ h; omega
  have hU0 : ∃ A, 0 :: pre = A ++ [U 0] ∧ R 0 = (A.length : Int) := by
    obtain ⟨A, B, e1, e2, e3, e4, e5, e6⟩ := hUf 0 (by have := hc.levelLo; omega)
    have hB : B = [] := by
      cases B with
      | nil => rfl
      | cons b B =>
        have hb : b ∈ pre := InsCtx.mem_pre_of_split e1 b (by simp)
        have h1b := hc.hpos b (by simp [hb])
        have := e3 b (by simp)
        simp [above, height_congr hs1] at this
        omega
    subst hB
    exact ⟨A, e1, e4⟩
  have hr0 : R 0 = (pre.length : Int) := by
    obtain ⟨A, e1, e4⟩ := hU0
    have := congrArg List.length e1
    simp at this
    rw [e4]; omega
  have C : InsCtx h1 sl'.heap pre post sl.heap.length lvl (max sl.level lvl) U R (R 0) :=
    { hlink := hlink1
      hnd := hc.nodup
      hNmem := by
        intro h
        rcases List.mem_cons.1 h with h | h
        · exact hN0 h
        · exact hNc h
      hN1 := by
        intro j
        rw [lv_eq_none_iff, ← hlen1]; simp [height]
      hht := by
        intro x hx
        rw [height_of_skel h1 sl'.heap lvl s m hsk, if_neg (by rw [hlen1]; exact hx)]
      hhN := by rw [height_of_skel h1 sl'.heap lvl s m hsk, if_pos hlen1.symm]
      hlvl := by omega
      hhi := by
        intro y hy
        rw [height_congr hs1]
        have := hc.hle y hy
        omega
      hU := by
        intro j hj
        obtain ⟨A, B, e1, e2, e3, e4, _⟩ := hUf j hj
        exact ⟨A, B, e1, e2, e3, e4⟩
      hr0 := hr0
      hlv := by
        intro x j
        rw [hlvf, hlen1]; rfl }
  have hht' : ∀ x, height sl'.heap x = if x = sl.heap.length then lvl else height sl.heap x := by
    intro x
    rw [height_of_skel h1 sl'.heap lvl s m hsk, hlen1, height_congr hs1]
  have hit' : ∀ x, itemAt sl'.heap x = if x = sl.heap.length then (s, m) else itemAt sl.heap x := by
    intro x
    rw [itemAt_of_skel h1 sl'.heap lvl s m hsk, hlen1, itemAt_congr hs1]
  have hlenf : sl'.heap.length = sl.heap.length + 1 := by
    have := congrArg List.length hsk
    simp [skel] at this
    omega
  rw [hlen1] at hl0 htl hbk
  exact ⟨sl', h1, U, R, l0,
    { run := hins, skel1 := hs1, lv1 := hlv1, ctx := C, length := hlen', level := hlev', size := hlenf, ht := hht',
      item := hit', lv0 := hl0, tail := htl, bk := fun x => by rw [hbk, hb1], last := hU0.imp fun _ h => h.1 }⟩

theorem insert_isChain_aux {sl : SL} {c : List Nat} (hc : IsChain sl c) (m : Bytes) (s : F64) (lvl : Nat)
    (hl1 : 1 ≤ lvl) (hl2 : lvl ≤ maxLevel) (hs : F64.isNaN s = false)
    (pre post : List Nat) (hcp : c = pre ++ post) (hcond : CondUpTo sl c (lessCond m s) pre.length)
    (hsort : (pre.map (itemAt sl.heap) ++ (s, m) :: post.map (itemAt sl.heap)).Pairwise ILt) :
    ∃ sl', insert sl m s lvl = .ok sl' ∧ IsChain sl' (pre ++ sl.heap.length :: post) ∧
      itemAt sl'.heap sl.heap.length = (s, m) ∧ (∀ x ∈ c, itemAt sl'.heap x = itemAt sl.heap x) ∧
      itemAt sl'.heap 0 = itemAt sl.heap 0 ∧ bk sl'.heap 0 = bk sl.heap 0 := by
  subst hcp
  obtain ⟨sl', h1, U, R, l0, ⟨hins, _, _, C, hlen', hlev', hlenf, hht', hit', hl0, htl, hbk, hU0⟩⟩ :=
    insert_desc hc m s lvl hl1 hl2 hcond
  have hN0 : sl.heap.length ≠ 0 := by have := hc.size; omega
  have hNc : sl.heap.length ∉ pre ++ post := fun h => by have := hc.bound _ h; omega
  have hfwd : l0.forward = post.head? := by
    have h1' := ((linked_iff_split _ _).1 C.linked (0 :: pre) sl.heap.length post rfl 0 l0 hl0).1
    rw [h1']
    apply find_all_true
    intro y hy
    have hyN : y ≠ sl.heap.length := fun e => hNc (by rw [← e]; simp [hy])
    have := hc.hpos y (by simp [hy])
    simp [above, hht', hyN]; omega
  have hmemc : ∀ n, n ∈ pre ++ sl.heap.length :: post → n = sl.heap.length ∨ n ∈ pre ++ post := by
    intro n hn
    simp at hn ⊢
    rcases hn with h | h | h
    · exact Or.inr (Or.inl h)
    · exact Or.inl h
    · exact Or.inr (Or.inr h)
  have hmemc' : ∀ n, n ∈ pre ++ post → n ∈ pre ++ sl.heap.length :: post := by
    intro n hn
    simp at hn ⊢
    rcases hn with h | h
    · exact Or.inl h
    · exact Or.inr (Or.inr h)
  have hneN : ∀ n, n ∈ pre ++ post → n ≠ sl.heap.length := fun n hn e => hNc (e ▸ hn)
  have h0post : ¬ some 0 = l0.forward := by
    rw [hfwd]
    intro e
    exact (List.nodup_cons.1 hc.nodup).1 (List.mem_append_right _ (List.mem_of_head? e.symm))
  refine ⟨sl', hins, ?_, by rw [hit', if_pos rfl], fun x hx => by rw [hit', if_neg (hneN x hx)],
    by rw [hit', if_neg (Ne.symm hN0)], by rw [hbk, if_neg h0post, if_neg (Ne.symm hN0)]⟩
  refine
    { nodup := ?nodup, bound := ?bound, size := ?size, header := ?header, hpos := ?hpos, hle := ?hle,
      levelLo := ?levelLo, levelHi := ?levelHi, levelMax := ?levelMax, linked := C.linked, back := ?back, tail := ?tail,
      length := ?length, sorted := ?sorted, good := ?good }
  case nodup =>
    have hp : (0 :: pre ++ sl.heap.length :: post).Perm (sl.heap.length :: (0 :: pre ++ post)) :=
      List.perm_middle (l₁ := 0 :: pre)
    show (0 :: pre ++ sl.heap.length :: post).Nodup
    rw [hp.nodup_iff, List.nodup_cons]
    exact ⟨C.hNmem, hc.nodup⟩
  case bound =>
    intro n hn
    rcases hmemc n hn with h | h
    · omega
    · have := hc.bound n h; omega
  case size =>
    have := hc.size
    simp at this ⊢
    omega
  case header =>
    rw [hht', if_neg (fun e => hN0 e.symm)]; exact hc.header
  case hpos =>
    intro n hn
    rw [hht']
    rcases hmemc n hn with h | h
    · rw [if_pos h]; exact hl1
    · rw [if_neg (hneN n h)]; exact hc.hpos n h
  case hle =>
    intro n hn
    rw [hht', hlev']
    rcases hmemc n hn with h | h
    · rw [if_pos h]; omega
    · rw [if_neg (hneN n h)]; have := hc.hle n h; omega
  case levelLo =>
    rw [hlev']; have := hc.levelLo; omega
  case levelHi =>
    rw [hlev']; have := hc.levelHi; omega
  case levelMax =>
    rw [hlev']
    by_cases hl : lvl > sl.level
    · right
      refine ⟨sl.heap.length, by simp, ?_⟩
      rw [hht', if_pos rfl]; omega
    · rcases hc.levelMax with h | ⟨n, hn, hh⟩
      · left; omega
      · right
        refine ⟨n, hmemc' n hn, ?_⟩
        rw [hht', if_neg (hneN n hn), hh]; omega
  case back =>
    have hnd2 := List.nodup_append.1 (List.nodup_cons.1 hc.nodup).2
    have h0mem : (0 : Nat) ∉ pre ++ post := (List.nodup_cons.1 hc.nodup).1
    have hb0 := hc.back
    rw [backLinked_append] at hb0 ⊢
    rw [backLinked_cons]
    obtain ⟨hbpre, hbpost⟩ := hb0
    have hbU : (if U 0 = 0 then none else some (U 0)) = lastOr none pre := by
      obtain ⟨A, e1⟩ := hU0
      cases A with
      | nil =>
        simp at e1
        simp [e1.1.symm, e1.2, lastOr]
      | cons a A' =>
        simp at e1
        have hmem : U 0 ∈ pre := by rw [e1.2]; simp
        have hne : U 0 ≠ 0 := fun e => h0mem (by rw [← e]; simp [hmem])
        rw [if_neg hne, e1.2, lastOr_append_singleton]
    have hNpost : sl.heap.length ∉ post := fun h => hNc (by simp [h])
    have hheadN : ¬ some sl.heap.length = l0.forward := by
      rw [hfwd]
      intro e
      exact hNpost (List.mem_of_head? e.symm)
    refine ⟨?_, ?_, ?_⟩
    · refine backLinked_congr pre none ?_ hbpre
      intro x hx
      have hxN : x ≠ sl.heap.length := hneN x (by simp [hx])
      have hxh : ¬ some x = l0.forward := by
        rw [hfwd]
        intro e
        exact hnd2.2.2 x hx x (List.mem_of_head? e.symm) rfl
      rw [hbk, if_neg hxh, if_neg hxN]
    · rw [hbk, if_neg hheadN, if_pos rfl, hbU]
    · cases post with
      | nil => trivial
      | cons f post' =>
        rw [backLinked_cons] at hbpost ⊢
        refine ⟨by rw [hbk, hfwd]; simp, ?_⟩
        refine backLinked_congr post' (some f) ?_ hbpost.2
        intro x hx
        have hxN : x ≠ sl.heap.length := hneN x (by simp [hx])
        have hxf : x ≠ f := by
          intro e
          have := (List.nodup_cons.1 hnd2.2.1).1
          exact this (e ▸ hx)
        have hxh : ¬ some x = l0.forward := by
          rw [hfwd]; simp [hxf]
        rw [hbk, if_neg hxh, if_neg hxN]
  case tail =>
    rw [htl, hfwd]
    cases post with
    | nil => simp
    | cons f post' => simp [hc.tail]
  case length =>
    rw [hlen', hc.length]; simp; omega
  case sorted =>
    have hmap : ∀ L : List Nat, (∀ x ∈ L, x ∈ pre ++ post) →
        L.map (itemAt sl'.heap) = L.map (itemAt sl.heap) := by
      intro L hL
      apply List.map_congr_left
      intro x hx
      rw [hit', if_neg (hneN x (hL x hx))]
    rw [List.map_append, List.map_cons, hmap pre (fun x hx => by simp [hx]),
      hmap post (fun x hx => by simp [hx]), hit', if_pos rfl]
    exact hsort
  case good =>
    intro n hn
    rw [hit']
    rcases hmemc n hn with h | h
    · rw [if_pos h]; exact hs
    · rw [if_neg (hneN n h)]; exact hc.good n h


theorem insert_isChain {sl : SL} {c : List Nat} (hc : IsChain sl c) (m : Bytes) (s : F64) (lvl : Nat)
    (hl1 : 1 ≤ lvl) (hl2 : lvl ≤ maxLevel) (hs : F64.isNaN s = false)
    (hm : ∀ n ∈ c, (itemAt sl.heap n).2 ≠ m) :
    ∃ sl', insert sl m s lvl = .ok sl' ∧
      IsChain sl' (c.takeWhile (fun n => nodeLt (itemAt sl.heap n) s m) ++ sl.heap.length ::
        c.dropWhile (fun n => nodeLt (itemAt sl.heap n) s m)) ∧
      itemAt sl'.heap sl.heap.length = (s, m) ∧ (∀ x ∈ c, itemAt sl'.heap x = itemAt sl.heap x) ∧
      itemAt sl'.heap 0 = itemAt sl.heap 0 ∧ bk sl'.heap 0 = bk sl.heap 0 := by
  apply insert_isChain_aux hc m s lvl hl1 hl2 hs _ _ List.takeWhile_append_dropWhile.symm
    (condUpTo_less hc m s)
  have hgood := chain_good hc
  have hm' : ∀ a ∈ c.map (itemAt sl.heap), a.2 ≠ m := by
    intro a ha
    obtain ⟨n, hn, rfl⟩ := List.mem_map.1 ha
    exact hm n hn
  have := slInsert_pairwise m s hs (c.map (itemAt sl.heap)) hc.sorted hgood hm'
  rw [slInsert_eq, List.takeWhile_map, List.dropWhile_map] at this
  exact this

theorem insert_refines {sl : SL} (h : Inv sl) (m : Bytes) (s : F64) (lvl : Nat) (hl1 : 1 ≤ lvl)
    (hl2 : lvl ≤ maxLevel) (hs : F64.isNaN s = false) (hm : ∀ x ∈ abs sl, x.2 ≠ m) :
    ∃ sl', insert sl m s lvl = .ok sl' ∧ Inv sl' ∧ abs sl' = DsZSet.slInsert (abs sl) m s := by
  obtain ⟨c, hc⟩ := h
  rw [abs_eq hc] at hm
  obtain ⟨sl', e, hc', hN, hold, _⟩ := insert_isChain hc m s lvl hl1 hl2 hs
    (fun n hn => hm _ (List.mem_map.2 ⟨n, hn, rfl⟩))
  refine ⟨sl', e, ⟨_, hc'⟩, ?_⟩
  have hmap : ∀ L : List Nat, (∀ x ∈ L, x ∈ c) → L.map (itemAt sl'.heap) = L.map (itemAt sl.heap) := by
    intro L hL
    apply List.map_congr_left
    intro x hx
    exact hold x (hL x hx)
  rw [abs_eq hc', abs_eq hc, slInsert_eq, List.takeWhile_map, List.dropWhile_map, List.map_append,
    List.map_cons, hN, hmap _ (fun x hx => (List.takeWhile_sublist _).subset hx),
    hmap _ (fun x hx => (List.dropWhile_sublist _).subset hx)]
  rfl

end NodisVerif.Skiplist

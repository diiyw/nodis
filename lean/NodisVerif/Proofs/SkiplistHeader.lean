import NodisVerif.Proofs.SkiplistRun
import NodisVerif.Proofs.SkiplistZSet

/-
  Ranks and the header node: `getByRank` against the list model; two concrete skiplists (built by `insert`, satisfying
  `Inv`) on which `getRank` differs from the list model `slGetRank` when a hypothesis of `getRank_spec_of_score` is
  dropped; `HeaderOk`, the header node's own fields, kept along runs.
-/
namespace NodisVerif.Skiplist
open NodisVerif.DsZSet (Item nodeLt)
open NodisVerif.Proofs.C04 (ILt)
open NodisVerif.Proofs.ZSetLemmas (Good)

theorem getByRank_item {sl : SL} {c : List Nat} (hc : IsChain sl c) (r : Int) (hr : r ≠ 0) :
    ∃ o, getByRank sl r = .ok o ∧ o.map (itemAt sl.heap) = (DsZSet.getByRank (abs sl) r).map (·.cur) := by
  refine ⟨_, getByRank_spec hc r, ?_⟩
  rw [abs_eq hc]
  unfold DsZSet.getByRank
  by_cases hneg : r < 0
  · simp [hneg]
  · simp only [if_neg hneg, if_neg hr, cursorAt_cur]
    simp

def f1 : F64 := 0x3FF0000000000000   -- 1.0
def f2 : F64 := 0x4000000000000000   -- 2.0
def f5 : F64 := 0x4014000000000000   -- 5.0

def exA : M SL := do
  let a ← insert makeSkiplist [109] f1 2
  insert a [120] f2 1


/-- the same keys, heights 2 and 1, but both nodes carry member "m" (impossible under `SortedSet`) -/
def exB : M SL := do
  let a ← insert makeSkiplist [109] f1 2
  insert a [109] f2 1

def hdr (l : Level) : Node :=
  { score := 0, member := [], backward := none, level := l :: l :: List.replicate 14 {} }

def slA : SL :=
  { heap := [hdr { forward := some 1, span := 1 },
             { score := f1, member := [109], backward := none, level := [{ forward := some 2, span := 1 }, { forward := none, span := 1 }] },
             { score := f2, member := [120], backward := some 1, level := [{ forward := none, span := 0 }] }],
    tail := some 2, length := 2, level := 2 }

def slB : SL :=
  { heap := [hdr { forward := some 1, span := 1 },
             { score := f1, member := [109], backward := none, level := [{ forward := some 2, span := 1 }, { forward := none, span := 1 }] },
             { score := f2, member := [109], backward := some 1, level := [{ forward := none, span := 0 }] }],
    tail := some 2, length := 2, level := 2 }

theorem exA_eq : exA = .ok slA := by rfl
theorem exB_eq : exB = .ok slB := by rfl

theorem absA : abs slA = [(f1, [109]), (f2, [120])] := by decide +kernel

/-- `huniq` alone is not enough: members are unique, the score passed (5.0) is not the stored one (1.0); the walked
    prefix is the whole chain, its last node is "x" (list model: 0), but the taller node "m" is where level 1 stops
    (code: 1) -/
theorem getRank_needs_score :
    ((abs slA).map (·.2)).Nodup ∧ getRank slA [109] f5 = .ok 1 ∧ DsZSet.slGetRank (abs slA) [109] f5 = 0 :=
  ⟨by decide +kernel, rfl, by decide +kernel⟩

/-- without unique members: asked for ("m", 2.0), which is node 2; the list model says 2, the code returns 1, the
    position of the taller node ("m", 1.0) on which level 1 stops -/
theorem getRank_needs_uniq :
    (abs slB)[1]? = some (f2, [109]) ∧ getRank slB [109] f2 = .ok 1 ∧ DsZSet.slGetRank (abs slB) [109] f2 = 2 :=
  ⟨by decide +kernel, rfl, by decide +kernel⟩

/-- a decidable form of one conjunct of `Linked` -/
def linkOk (h : List Node) (n : Nat) (rest : List Nat) : Bool :=
  (List.range (height h n)).all fun i =>
    match getLevel h n i with
    | .ok l => decide (l.forward = rest.find? (above h i)) &&
        (l.forward == none || decide (l.span = (rest.findIdx (above h i) : Int) + 1))
    | .error _ => false

theorem linkOk_sound (h : List Node) (n : Nat) (rest : List Nat) (hok : linkOk h n rest = true) :
    ∀ i l, getLevel h n i = .ok l →
      l.forward = rest.find? (above h i) ∧ (l.forward ≠ none → l.span = (rest.findIdx (above h i) : Int) + 1) := by
  intro i l hl
  have hi := lt_height_of_getLevel h n i l hl
  unfold linkOk at hok
  rw [List.all_eq_true] at hok
  have := hok i (List.mem_range.2 hi)
  rw [hl] at this
  simp at this
  refine ⟨this.1, fun hne => ?_⟩
  rcases this.2 with h0 | h1
  · exact absurd h0 hne
  · exact h1

theorem isChainA : IsChain slA [1, 2] where
  nodup := by decide +kernel
  bound := by decide +kernel
  size := by decide +kernel
  header := by decide +kernel
  hpos := by decide +kernel
  hle := by decide +kernel
  levelLo := by decide +kernel
  levelHi := by decide +kernel
  levelMax := by decide +kernel
  linked := ⟨linkOk_sound _ _ _ (by decide +kernel), linkOk_sound _ _ _ (by decide +kernel), linkOk_sound _ _ _ (by decide +kernel), trivial⟩
  back := ⟨⟨_, rfl, rfl⟩, ⟨_, rfl, rfl⟩, trivial⟩
  tail := by decide +kernel
  length := by decide +kernel
  sorted := by decide +kernel
  good := by intro n hn; unfold Good; revert n; decide +kernel

theorem isChainB : IsChain slB [1, 2] where
  nodup := by decide +kernel
  bound := by decide +kernel
  size := by decide +kernel
  header := by decide +kernel
  hpos := by decide +kernel
  hle := by decide +kernel
  levelLo := by decide +kernel
  levelHi := by decide +kernel
  levelMax := by decide +kernel
  linked := ⟨linkOk_sound _ _ _ (by decide +kernel), linkOk_sound _ _ _ (by decide +kernel), linkOk_sound _ _ _ (by decide +kernel), trivial⟩
  back := ⟨⟨_, rfl, rfl⟩, ⟨_, rfl, rfl⟩, trivial⟩
  tail := by decide +kernel
  length := by decide +kernel
  sorted := by decide +kernel
  good := by intro n hn; unfold Good; revert n; decide +kernel

theorem invA : Inv slA := ⟨_, isChainA⟩
theorem invB : Inv slB := ⟨_, isChainB⟩

/-! ## the header node's own fields

  `makeSkiplist` creates the header (heap index 0) with score 0, member "" and
  backward nil, and no operation of ds/zset/skiplist.go ever writes them. `IsChain` does not say so (it only talks
  about the header's level slots), but `getByRank 0` returns the header, so the item a caller reads from it
  (finding A-41b) depends on it. `HeaderOk` is the missing clause; it is preserved by every mutating operation.

  Score / member are kept for purely syntactic reasons (`modLevel`, `setBackward`, append never touch them). The
  backward pointer is only written by `setBackward` on (a) the freshly appended node (index = old heap length ≥ 1) and
  (b) a node that is the level-0 forward of a node of the chain, which under the invariant is itself a node of the
  chain and therefore not index 0 (`IsChain.nodup`). -/

def Hdr (h : List Node) : Prop := ∃ hd, h[0]? = some hd ∧ hd.score = 0 ∧ hd.member = [] ∧ hd.backward = none

def HeaderOk (sl : SL) : Prop := ∃ hd, sl.heap[0]? = some hd ∧ hd.score = 0 ∧ hd.member = [] ∧ hd.backward = none

theorem headerOk_iff (sl : SL) : HeaderOk sl ↔ Hdr sl.heap := Iff.rfl

theorem hdr_iff (h : List Node) : Hdr h ↔ itemAt h 0 = (0, []) ∧ bk h 0 = some none := by
  unfold Hdr itemAt bk
  cases h[0]? with
  | none => simp
  | some hd => simp [Node.item, and_assoc]

theorem makeSkiplist_headerOk : HeaderOk makeSkiplist :=
  ⟨newNode maxLevel 0 [], rfl, rfl, rfl, rfl⟩

theorem stepInv_headerOk : StepInv HeaderOk := by
  intro sl sl' A n B update hc hupd hr hh
  obtain ⟨sl'', hr', _, hfr, _, _, _, hbk⟩ := removeNode_desc hc update hupd
  rw [hr] at hr'
  cases hr'
  rw [headerOk_iff, hdr_iff] at hh ⊢
  have h0 : ¬ some 0 = B.head? := fun e =>
    (List.nodup_cons.1 hc.nodup).1 (List.mem_append_right _ (List.mem_cons_of_mem _ (List.mem_of_head? e.symm)))
  rw [hfr.item, hbk, if_neg h0]
  exact hh

theorem insertInv_headerOk : InsertInv HeaderOk := by
  intro sl sl' m s lvl h hh hok hr
  obtain ⟨c, hc⟩ := h
  have hm := hok.2.2.2
  rw [abs_eq hc] at hm
  obtain ⟨sl'', e, _, _, _, hi, hb⟩ := insert_isChain hc m s lvl hok.1 hok.2.1 hok.2.2.1
    (fun n hn => hm _ (List.mem_map.2 ⟨n, hn, rfl⟩))
  rw [hr] at e; cases e
  rw [headerOk_iff, hdr_iff] at hh ⊢
  rw [hi, hb]; exact hh

theorem run_headerOk (ops : List SlOp) {sl sl' : SL} (h : Inv sl) (hh : HeaderOk sl) (hok : OpsOk (abs sl) ops)
    (hr : runM sl ops = .ok sl') : HeaderOk sl' := by
  obtain ⟨sl'', hr', _, h', _⟩ :=
    run_spec insertInv_headerOk stepInv_headerOk ops h hh hok
  rw [hr] at hr'
  cases hr'
  exact h'

theorem run_headerOk_from_empty (ops : List SlOp) (hok : OpsOk [] ops) {sl : SL}
    (hr : runM makeSkiplist ops = .ok sl) : HeaderOk sl :=
  run_headerOk ops makeSkiplist_inv makeSkiplist_headerOk (by rw [abs_makeSkiplist]; exact hok) hr

theorem headerOk_itemAt {sl : SL} (hh : HeaderOk sl) : itemAt sl.heap 0 = DsZSet.headerItem := by
  obtain ⟨hd, h0, e1, e2, _⟩ := hh
  simp [itemAt, h0, Node.item, e1, e2, DsZSet.headerItem]

theorem getByRank_item_all {sl : SL} {c : List Nat} (hc : IsChain sl c) (hh : HeaderOk sl) (r : Int) :
    ∃ o, getByRank sl r = .ok o ∧ o.map (itemAt sl.heap) = (DsZSet.getByRank (abs sl) r).map (·.cur) := by
  by_cases hr : r = 0
  · subst hr
    refine ⟨_, getByRank_spec hc 0, ?_⟩
    simp [DsZSet.getByRank, headerOk_itemAt hh]
  · exact getByRank_item hc r hr

end NodisVerif.Skiplist

-- the same namespace, with all of `NodisVerif.Proofs` open (`C04.Inv` in the statements below)
namespace NodisVerif.Skiplist
open NodisVerif.DsZSet (Item nodeLt)
open NodisVerif.Proofs

theorem pz_run_full (ops : List PZOp) (hok : ∀ op ∈ ops, PZOpOk op) :
    ∃ p rs, pzRun PZSet.empty ops = .ok (p, rs) ∧ Inv p.sl ∧ C04.Inv p.toZSet ∧ HeaderOk p.sl ∧
      (p.toZSet, rs) = zRun DsZSet.empty ops := by
  obtain ⟨p, rs, he, hi, hh, ha⟩ :=
    pz_run_spec insertInv_headerOk stepInv_headerOk ops pzInv_empty makeSkiplist_headerOk hok
  rw [toZSet_empty] at ha
  exact ⟨p, rs, he, hi.1, hi.2, hh, ha⟩

theorem pz_run_full_prefix (ops : List PZOp) (hok : ∀ op ∈ ops, PZOpOk op) (k : Nat) :
    ∃ p rs, pzRun PZSet.empty (ops.take k) = .ok (p, rs) ∧ Inv p.sl ∧ C04.Inv p.toZSet ∧ HeaderOk p.sl ∧
      (p.toZSet, rs) = zRun DsZSet.empty (ops.take k) :=
  pz_run_full (ops.take k) (fun op ho => hok op (List.mem_of_mem_take ho))

end NodisVerif.Skiplist

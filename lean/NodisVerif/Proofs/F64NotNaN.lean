import NodisVerif.Model.F64More
import NodisVerif.Proofs.FloatDecMono2
/-
  A non-negative correctly rounded value is never NaN: the bit pattern of `roundPack false n e` is a key capped at
  +Inf's (`roundPack_toNat`), so at most 0x7FF0000000000000.  In particular `float64(x)` of an unsigned integer -
  the score GEOADD stores - is not NaN.
-/
namespace NodisVerif.Proofs.F64NotNaN
open NodisVerif NodisVerif.F64 NodisVerif.Proofs.FloatDecMono

theorem roundPack_false_not_nan (n : Nat) (e : Int) : isNaN (roundPack false n e) = false := by
  by_cases hn : n = 0
  · subst hn; rw [C09Float.roundPack_zero]; decide
  · have := roundPack_toNat n (by omega) e
    exact (nonneg_facts _ (by omega)).1

theorem ofNat_not_nan (n : Nat) : isNaN (F64.ofNat n) = false := roundPack_false_not_nan n 0

end NodisVerif.Proofs.F64NotNaN

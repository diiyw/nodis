import NodisVerif.Proofs.C02
import NodisVerif.Proofs.LinkedListUnlink
/-
  LPop / RPop on the pointer structure refine DsList.lpop / DsList.rpop.
-/
namespace NodisVerif.LinkedList

theorem InvC.first {l : PList} {x : Nat} {rest : List Nat} (hi : InvC l (x :: rest)) :
    ∃ n, l.heap[x]? = some n := by
  obtain ⟨n, hx, _⟩ := hi.seg; exact ⟨n, hx⟩

/-- the number of elements still to pop, before and after one iteration -/
theorem min_toNat_succ (count i : Int) (n : Nat) (h : i < count) :
    min (count - i).toNat (n + 1) = min (count - (i + 1)).toNat n + 1 := by
  rw [← Nat.add_min_add_right, ← Int.toNat_add_nat (Int.sub_nonneg.2 h)]
  congr 2; omega

/-- one iteration of LPop's loop body after `result = append(…)`: the list without its first node -/
theorem lpop_step (l : PList) (x : Nat) (rest : List Nat) (hi : InvC l (x :: rest)) (n : Node)
    (hx : l.heap[x]? = some n) :
    ∃ l1, InvC l1 rest ∧ SameData l l1 ∧
      ((n.next = none ∧ l1 = { l with head := none, tail := none, length := l.length - 1 }) ∨
       (∃ h2 heap, n.next = some h2 ∧ setPrev l.heap h2 none = .ok heap ∧
          l1 = { l with heap, head := some h2, length := l.length - 1 })) := by
  obtain ⟨n', hx', _, hnx, srest⟩ := hi.seg
  have : n' = n := by rw [hx] at hx'; cases hx'; rfl
  subst this
  have hnd := List.nodup_cons.mp hi.nodup
  cases rest with
  | nil =>
    simp only [hd_nil] at hnx
    refine ⟨{ l with head := none, tail := none, length := l.length - 1 },
      ⟨List.nodup_nil, trivial, rfl, rfl, ?_⟩, ⟨rfl, fun _ => rfl⟩, Or.inl ⟨hnx, rfl⟩⟩
    simp only; rw [hi.length]; simp
  | cons r rest' =>
    simp only [hd_cons] at hnx
    have ⟨nr, hr, _⟩ := srest
    have hrr : r ∉ rest' := (List.nodup_cons.mp hnd.2).1
    refine ⟨{ l with heap := l.heap.setIfInBounds r { nr with prev := none }, head := some r, length := l.length - 1 },
      ⟨hnd.2, ?_, rfl, ?_, ?_⟩, ⟨by simp, fun i => dataAt_set_prev _ _ _ _ hr i⟩,
      Or.inr ⟨r, _, hnx, setPrev_ok hr _, rfl⟩⟩
    · exact seg_setPrev_first _ rest' r _ none none nr hrr hr srest
    · simp only; rw [hi.tail, List.getLast?_cons_cons]
    · simp only; rw [hi.length]; simp

theorem lpopLoop_spec (fuel : Nat) (l : PList) (c : List Nat) (hi : InvC l c) (i count : Int)
    (result : Option (List Bytes)) (hf : c.length < fuel) :
    ∃ l', lpopLoop fuel l i count result =
        .ok (l', if min (count - i).toNat c.length = 0 then result
                 else some (result.getD [] ++ (c.take (min (count - i).toNat c.length)).map (dataAt l.heap))) ∧
      InvC l' (c.drop (min (count - i).toNat c.length)) ∧ SameData l l' := by
  induction fuel generalizing l c i result with
  | zero => omega
  | succ fuel ih =>
    unfold lpopLoop
    by_cases hlt : i < count
    · simp only [hlt, not_true_eq_false, ↓reduceIte]
      cases c with
      | nil =>
        have hh : l.head = none := hi.head
        simp only [hh]
        exact ⟨l, by simp, by simpa using hi, SameData.refl _⟩
      | cons x rest =>
        have hh : l.head = some x := hi.head
        obtain ⟨n, hx⟩ := hi.first
        simp only [hh, rd_ok hx, Res.bind_ok]
        obtain ⟨l1, hi1, sd1, hcase⟩ := lpop_step l x rest hi n hx
        have hk : min (count - i).toNat (x :: rest).length = min (count - (i + 1)).toNat rest.length + 1 :=
          min_toNat_succ count i rest.length hlt
        have key : ∃ l', lpopLoop fuel l1 (i + 1) count (some (result.getD [] ++ [n.data])) =
            .ok (l', if min (count - i).toNat (x :: rest).length = 0 then result
                 else some (result.getD [] ++ ((x :: rest).take (min (count - i).toNat (x :: rest).length)).map (dataAt l.heap))) ∧
            InvC l' ((x :: rest).drop (min (count - i).toNat (x :: rest).length)) ∧ SameData l l' := by
          obtain ⟨l2, e2, hi2, sd2⟩ := ih l1 rest hi1 (i + 1) (some (result.getD [] ++ [n.data])) (by simpa using hf)
          refine ⟨l2, ?_, ?_, sd1.trans sd2⟩
          · rw [e2, hk]
            simp only [Nat.add_one_ne_zero, ↓reduceIte, List.take_succ_cons, List.map_cons, Option.getD_some,
              dataAt_of hx]
            rw [map_dataAt_congr _ _ _ (fun i _ => sd1.data i)]
            split
            · rename_i h0; rw [h0]; rfl
            · rw [List.append_assoc]; rfl
          · rw [hk]; simpa using hi2
        rcases hcase with ⟨hnn, rfl⟩ | ⟨h2, heap, hnn, hset, rfl⟩
        · simp only [hnn]; exact key
        · simp only [hnn, hset, Res.bind_ok]; exact key
    · have hk : (count - i).toNat = 0 := by omega
      simp only [hlt, not_false_eq_true, ↓reduceIte, hk, Nat.zero_min, List.drop_zero]
      exact ⟨l, rfl, hi, SameData.refl _⟩

theorem lpop_refines (l : PList) (hi : Inv l) (count : Int) :
    ∃ l', lpop l count = .ok (l', (DsList.lpop (absL l) count).2) ∧ Inv l' ∧
      absL l' = (DsList.lpop (absL l) count).1 := by
  obtain ⟨c, hi⟩ := hi
  unfold lpop
  cases c with
  | nil =>
    have hh : l.head = none := hi.head
    simp only [hh]
    refine ⟨l, ?_, ⟨[], hi⟩, ?_⟩ <;> simp [DsList.lpop, absL_eq hi]
  | cons x rest =>
    have hh : l.head = some x := hi.head
    simp only [hh]
    obtain ⟨l', e, hi', sd⟩ := lpopLoop_spec (l.heap.size + 1) l _ hi 0 count none
      (by have := hi.length_le; omega)
    refine ⟨l', ?_, ⟨_, hi'⟩, ?_⟩
    · rw [e]
      simp only [DsList.lpop, absL_eq hi, Int.sub_zero, List.length_map]
      simp only [List.map_cons, List.isEmpty_cons, Bool.false_eq_true, ↓reduceIte]
      split
      · rfl
      · simp [List.map_take]
    · rw [absL_eq hi']
      simp only [DsList.lpop, absL_eq hi, Int.sub_zero, List.length_map]
      simp only [List.map_cons, List.isEmpty_cons, Bool.false_eq_true, ↓reduceIte]
      rw [map_dataAt_congr _ _ _ (fun i _ => sd.data i)]
      split
      · rename_i h0; rw [h0]; simp
      · simp only [List.map_drop, List.map_cons, List.length_drop, List.length_cons]
        congr 1
        omega

theorem rpopLoop_mirror (fuel : Nat) (l : PList) (i count : Int) (result : Option (List Bytes)) :
    rpopLoop fuel l.mirror i count result =
      (lpopLoop fuel l i count result).map fun p => (p.1.mirror, p.2) := by
  induction fuel generalizing l i result with
  | zero => rfl
  | succ fuel ih =>
    have ih' : ∀ h hd tl len i r, rpopLoop fuel ⟨Array.map Node.mirror h, tl, hd, len⟩ i count r =
        (lpopLoop fuel ⟨h, hd, tl, len⟩ i count r).map fun p => (p.1.mirror, p.2) :=
      fun h hd tl len => ih ⟨h, hd, tl, len⟩
    unfold rpopLoop lpopLoop
    split
    · rfl
    · show (match l.head with | none => _ | some tl => _) = _
      cases l.head with
      | none => rfl
      | some hd =>
        simp only [PList.mirror_heap, rd_mirror, Res.bind_map]
        cases rd l.heap hd with
        | panic => rfl
        | fuel => rfl
        | ok a =>
          simp only [Res.bind_ok, Node.mirror, PList.mirror]
          cases a.next with
          | none => exact ih' ..
          | some h2 =>
            simp only [setNext_mirror, Res.bind_map, Res.map_bind, ih']
            rfl

theorem rpop_mirror (l : PList) (count : Int) :
    rpop l.mirror count = (lpop l count).map fun p => (p.1.mirror, p.2) := by
  unfold rpop lpop
  show (match l.head with | none => _ | some _ => _) = _
  cases l.head with
  | none => rfl
  | some hd =>
    rw [PList.mirror_heap, Array.size_map]
    exact rpopLoop_mirror _ l 0 count none

theorem rpop_refines (l : PList) (hi : Inv l) (count : Int) :
    ∃ l', rpop l count = .ok (l', (DsList.rpop (absL l) count).2) ∧ Inv l' ∧
      absL l' = (DsList.rpop (absL l) count).1 := by
  obtain ⟨c, hi⟩ := hi
  obtain ⟨l1, e, ⟨c1, hi1⟩, ha⟩ := lpop_refines l.mirror ⟨_, hi.mirror⟩ count
  rw [absL_mirror hi] at e ha
  have em := rpop_mirror l.mirror count
  rw [PList.mirror_mirror, e] at em
  rw [Proofs.C02.dsrpop_reverse]
  exact ⟨l1.mirror, em, ⟨_, hi1.mirror⟩, by rw [absL_mirror hi1, ha]⟩

end NodisVerif.LinkedList

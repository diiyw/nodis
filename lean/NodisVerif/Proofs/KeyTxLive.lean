import NodisVerif.Proofs.KeyTx
import NodisVerif.Proofs.StoreLive
/-
  Key transactions on ANY store state.

  `keyTx` (Proofs/KeyTx.lean) is split once into its two phases, with no invariant of the store but the sorted index
  (`IndexSorted`, where a key is unlinked: `delKey` erases one entry):
    the lookup, by the logical content `live s now k` of the key (Proofs/StoreLive.lean): the decision runs on the
      value and deadline found, on a state where the record is hot and no logical content has moved (`keyTx_found`;
      `keyTx_hot` when the key is known to be hot); or the command answers `miss` (`keyTx_missing`); or the decision
      runs on a fresh record (`keyTx_create`);
    the decision, on a hot record: the record stays hot with the new content (`runAct_put`), or, for "store `v'` and
      unlink the key when the collection came out empty", it is gone or hot accordingly (`runAct_emptied`).
  `KeyClosed.keyTx`: what the store primitives on the key keep (`KeyClosed`), every key transaction keeps.
  The names are in `Proofs.KeyTx`.
-/
namespace NodisVerif.Proofs.KeyTx
open NodisVerif Store Api
open NodisVerif.Proofs.C01 (live liveExp lookup Hot HotExp IndexSorted FutureExp)
open NodisVerif.Proofs.C11 (Act runAct keyTx access looked emits emits_eq optSetVal optSetExp)

theorem getMeta_emits (s : MState) (ops : List FeedOp) (k : Bytes) : getMeta (emits s ops) k = getMeta s k := by
  rw [emits_eq]; split <;> rfl

theorem emits_sorted (s : MState) (ops : List FeedOp) (h : IndexSorted s) : IndexSorted (emits s ops) := by
  rw [emits_eq]; split <;> exact h

theorem keyTx_found (w : Bool) (mk : Option Val) (miss : Out) (nov : MState → R) (dec : Val → Int → Act)
    {s : MState} {now : Int} {k : Bytes} {v : Val} (hl : live s now k = some v) :
    keyTx w mk miss nov dec s now k = runAct (looked w mk s now k) k (dec v ((liveExp s now k).getD 0)) ∧
    Hot (looked w mk s now k) k v now ∧ HotExp (looked w mk s now k) k ((liveExp s now k).getD 0) ∧
    (∀ k', lookup (looked w mk s now k) now k' = lookup s now k') ∧
    (IndexSorted s → IndexSorted (looked w mk s now k)) := by
  have acc : (access w mk s now k).2 = true ∧
      Hot (looked w mk s now k) k v now ∧ (∀ k', lookup (looked w mk s now k) now k' = lookup s now k') ∧
      (IndexSorted s → IndexSorted (looked w mk s now k)) := by
    cases w
    · simp only [looked, access, Bool.false_eq_true, if_false]
      exact ⟨by rw [(C01.readKey_live s now k).1, hl]; rfl, (C01.readKey_live s now k).2 v hl,
        C01.lookup_readKey s now k, readKey_sorted s now k⟩
    · simp only [looked, access, if_true]
      obtain ⟨a, b, c⟩ := C01.writeKey_live s now k mk v hl
      exact ⟨a, b, c, writeKey_sorted s now k mk⟩
  rw [C11.keyTx_access]
  unfold looked at *
  generalize access w mk s now k = r at acc ⊢
  obtain ⟨s1, ok⟩ := r
  obtain ⟨hok, hot, hlk, hsrt⟩ := acc
  have he := C01.hotExp_of_lookup hot (hlk k)
  refine ⟨?_, hot, he, hlk, hsrt⟩
  obtain ⟨m, hm, hme⟩ := he
  simp only at hok hm
  simp only [hok, Bool.not_true, Bool.false_and, Bool.false_eq_true, if_false, C01.valOf_hot hot, expOf, hm,
    Option.map_some, Option.getD_some, hme]

theorem keyTx_hot (w : Bool) (mk : Option Val) (miss : Out) (nov : MState → R) (dec : Val → Int → Act)
    {s : MState} {now : Int} {k : Bytes} {v : Val} (h : Hot s k v now) (hi : IndexSorted s) :
    ∃ s1 e, keyTx w mk miss nov dec s now k = runAct s1 k (dec v e) ∧ Hot s1 k v now ∧ HotExp s1 k e ∧
      IndexSorted s1 := by
  obtain ⟨heq, hot1, he1, _, hsrt⟩ := keyTx_found w mk miss nov dec (C01.live_of_hot h)
  exact ⟨_, _, heq, hot1, he1, hsrt hi⟩

theorem keyTx_missing (w : Bool) (miss : Out) (nov : MState → R) (dec : Val → Int → Act)
    {s : MState} {now : Int} {k : Bytes} (hl : live s now k = none) :
    keyTx w none miss nov dec s now k = (looked w none s now k, miss) ∧
    (∀ k', lookup (looked w none s now k) now k' = lookup s now k') ∧
    (IndexSorted s → IndexSorted (looked w none s now k)) := by
  unfold keyTx looked access
  cases w
  · refine ⟨?_, C01.lookup_readKey s now k, readKey_sorted s now k⟩
    simp only [Bool.false_eq_true, if_false, (C01.readKey_live s now k).1, hl]
    rfl
  · refine ⟨?_, C01.lookup_writeKey_none s now k, writeKey_sorted s now k none⟩
    simp only [if_true, C01.writeKey_none_flag, hl]
    rfl

theorem keyTx_create (v0 : Val) (miss : Out) (nov : MState → R) (dec : Val → Int → Act)
    {s : MState} {now : Int} {k : Bytes} (hl : live s now k = none) :
    keyTx true (some v0) miss nov dec s now k = runAct (looked true (some v0) s now k) k (dec v0 0) ∧
    Hot (looked true (some v0) s now k) k v0 now ∧ HotExp (looked true (some v0) s now k) k 0 ∧
    (IndexSorted s → IndexSorted (looked true (some v0) s now k)) := by
  obtain ⟨s', old, e⟩ := C01.writeKey_absent s now k (some v0) hl
  obtain ⟨hot, he⟩ := C01.hot_newKeyWith s' k old v0 now
  have el : looked true (some v0) s now k = newKeyWith s' k old v0 := by
    simp only [looked, access, if_true, e, C01.orCreate]
  rw [el]
  refine ⟨?_, hot, he, fun hs => ?_⟩
  · obtain ⟨m, hm, hme⟩ := he
    unfold keyTx
    simp only [if_true, e, C01.orCreate, Bool.not_true, Bool.false_and, Bool.false_eq_true, if_false,
      C01.valOf_hot hot, expOf, hm, Option.map_some, Option.getD_some, hme]
  · rw [← el]; exact writeKey_sorted s now k (some v0) hs

theorem getMeta_put {s : MState} {k : Bytes} {m : Meta} (hm : getMeta s k = some m) (v' : Option Val)
    (e' : Option Int) (ops : List FeedOp) (r : Out) :
    getMeta (runAct s k (.put v' e' ops r)).1 k =
      some ({ m with value := v' <|> m.value, exp := e'.getD m.exp } : Meta).markModified := by
  have h1 : getMeta (optSetVal s k v') k = some { m with value := v' <|> m.value } := by
    cases v' with
    | none => exact hm
    | some x => exact getMeta_setVal_same s k x m hm
  have h2 : getMeta (optSetExp (optSetVal s k v') k e') k =
      some { m with value := v' <|> m.value, exp := e'.getD m.exp } := by
    cases e' with
    | none => exact h1
    | some x => exact getMeta_setExp_same _ k x _ h1
  show getMeta (emits (signal _ k) ops) k = _
  rw [getMeta_emits, getMeta_signal_same, h2]
  rfl

theorem put_sorted {s : MState} (k : Bytes) (v' : Option Val) (e' : Option Int) (ops : List FeedOp) (r : Out)
    (hs : IndexSorted s) : IndexSorted (runAct s k (.put v' e' ops r)).1 := by
  exact emits_sorted _ _ (signal_sorted _ _
    (C11.optSet_ind k (fun _ _ => setVal_sorted _ _ _) (fun _ _ => setExp_sorted _ _ _) hs v' e'))

theorem getMeta_runAct_other {s : MState} {k k' : Bytes} {m : Meta} (hm : getMeta s k = some m) (hne : k ≠ k')
    (hna : s.pebble = true ∨ m.oid = 0 ∨ ∀ m', getMeta s k' = some m' → m'.oid ≠ m.oid) (a : Act) :
    getMeta (runAct s k a).1 k' = getMeta s k' := by
  have hk := Ne.symm hne
  cases a with
  | keep r => rfl
  | put v' e' ops r =>
    show getMeta (emits (signal (optSetExp (optSetVal s k v') k e') k) ops) k' = _
    rw [getMeta_emits, getMeta_signal_other _ _ _ hk]
    have h1 : getMeta (optSetVal s k v') k' = getMeta s k' := by
      cases v' with
      | none => rfl
      | some v => exact getMeta_setVal_other s k v m hm k' hk hna
    cases e' with
    | none => exact h1
    | some e => exact (getMeta_setExp_other _ k e k' hk).trans h1
  | drop v' ops r =>
    show getMeta (emits (signal (delKey (Api.setVal s k v') k) k) ops) k' = _
    rw [getMeta_emits, getMeta_signal_other _ _ _ hk, getMeta_delKey_other _ _ _ hk]
    exact getMeta_setVal_other s k v' m hm k' hk hna

theorem runAct_put {s : MState} {k : Bytes} {v : Val} {now e : Int} (h : Hot s k v now) (he : HotExp s k e)
    (v' : Option Val) (e' : Option Int) (ops : List FeedOp) (r : Out) (hf : FutureExp now e') :
    Hot (runAct s k (.put v' e' ops r)).1 k (v'.getD v) now ∧
    HotExp (runAct s k (.put v' e' ops r)).1 k (e'.getD e) := by
  obtain ⟨m, hm, hok, hex, hv⟩ := h
  obtain ⟨m', hm', rfl⟩ := he
  rw [hm] at hm'; cases hm'
  refine ⟨⟨_, getMeta_put hm v' e' ops r, (markModified_isOk _).trans hok, ?_, ?_⟩,
    ⟨_, getMeta_put hm v' e' ops r, rfl⟩⟩
  · cases e' with
    | none => exact hex
    | some x => exact C01.not_expired_of_future _ now (hf x rfl)
  · show (v' <|> m.value) = some (v'.getD v)
    rw [hv]; cases v' <;> rfl

theorem getMeta_drop {s : MState} {k : Bytes} (hs : IndexSorted s) (v' : Val) (ops : List FeedOp) (r : Out) :
    getMeta (runAct s k (.drop v' ops r)).1 k = none := by
  show getMeta (emits (signal (delKey (setVal s k v') k) k) ops) k = none
  rw [getMeta_emits, getMeta_signal_same, getMeta_delKey_same _ k (setVal_sorted s k v' hs)]
  rfl

theorem runAct_emptied {s : MState} {k : Bytes} {v : Val} {now e : Int} (h : Hot s k v now) (he : HotExp s k e)
    (hs : IndexSorted s) (b : Prop) [Decidable b] (v' : Val) (ops : List FeedOp) (r : Out) :
    (runAct s k (if b then .drop v' ops r else .put (some v') none ops r)).2 = r ∧
    IndexSorted (runAct s k (if b then .drop v' ops r else .put (some v') none ops r)).1 ∧
    (b → getMeta (runAct s k (if b then .drop v' ops r else .put (some v') none ops r)).1 k = none) ∧
    (¬ b → Hot (runAct s k (if b then .drop v' ops r else .put (some v') none ops r)).1 k v' now ∧
      HotExp (runAct s k (if b then .drop v' ops r else .put (some v') none ops r)).1 k e) := by
  by_cases hb : b
  · rw [if_pos hb]
    have hd := delKey_sorted _ k (setVal_sorted s k v' hs)
    exact ⟨rfl, emits_sorted _ _ (signal_sorted _ _ hd), fun _ => getMeta_drop hs v' ops r, fun n => absurd hb n⟩
  · rw [if_neg hb]
    exact ⟨rfl, put_sorted k _ _ ops r hs, fun p => absurd p hb,
      fun _ => runAct_put h he (some v') none ops r (fun _ hx => by cases hx)⟩

/-- `P` is kept by the store primitives through which a command works on the record of `key` -/
structure KeyClosed (P : MState → Prop) (key : Bytes) : Prop where
  writeKey : ∀ {s} now mk, P s → P (writeKey s now key mk).1
  readKey : ∀ {s} now, P s → P (readKey s now key).1
  setVal : ∀ {s} v, P s → P (setVal s key v)
  setExp : ∀ {s} e, P s → P (setExp s key e)
  delKey : ∀ {s}, P s → P (delKey s key)
  signal : ∀ {s}, P s → P (signal s key)
  emit : ∀ {s} op, P s → P (emit s op)

namespace KeyClosed
variable {P : MState → Prop} {key : Bytes} (c : KeyClosed P key)
include c

theorem emits (ops : List FeedOp) : ∀ {s}, P s → P (C11.emits s ops) := by
  induction ops with
  | nil => exact id
  | cons op rest ih => exact fun h => ih (c.emit op h)

theorem runAct {s : MState} (a : Act) (h : P s) : P (C11.runAct s key a).1 := by
  cases a with
  | keep _ => exact h
  | put v' e' ops _ =>
    exact c.emits ops (c.signal (C11.optSet_ind key (fun _ v => c.setVal v) (fun _ e => c.setExp e) h v' e'))
  | drop v' ops _ => exact c.emits ops (c.signal (c.delKey (c.setVal _ h)))

theorem keyTx (w : Bool) (mk : Option Val) (miss : Out) (nov : MState → R) (dec : Val → Int → Act)
    {s : MState} (now : Int) (h : P s) (hw : w = false → mk = none) :
    P (C11.keyTx w mk miss nov dec s now key).1 := by
  have h1 : P (looked w mk s now key) := by
    cases w
    · exact c.readKey now h
    · exact c.writeKey now mk h
  rcases C11.keyTx_cases w mk miss nov dec s now key hw with ⟨_, _, e⟩ | ⟨_, v, _, e⟩ <;> rw [e]
  · exact h1
  · exact c.runAct _ h1

end KeyClosed

end NodisVerif.Proofs.KeyTx

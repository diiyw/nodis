import NodisVerif.Proofs.FloatDecMono
/-
  Nearest rounding: the result of `FloatDec.roundRat`, read as a significand q at an exponent g, is within half a unit 2^g of num/den,
  with the even significand on an exact tie (`roundRat_nearest`; that g is the exponent of num/den's own binade is not part of the
  statement). (Continues the namespace of FloatDecMono.lean.)
-/
namespace NodisVerif.Proofs.FloatDecMono
open NodisVerif NodisVerif.F64 NodisVerif.FloatDec NodisVerif.Proofs.C09Float NodisVerif.Proofs.FloatDecRound

/-- round-half-even of n / 2^sh (sh ≥ 1): within half a unit; strictly inside when n is odd and sh ≥ 2; even on a tie -/
theorem rne_error (n sh : Nat) (hsh : 1 ≤ sh) :
    rne n sh * 2 ^ sh ≤ n + 2 ^ (sh - 1) ∧ n ≤ rne n sh * 2 ^ sh + 2 ^ (sh - 1) ∧
    (n % 2 = 1 → 2 ≤ sh → rne n sh * 2 ^ sh + 1 ≤ n + 2 ^ (sh - 1) ∧ n + 1 ≤ rne n sh * 2 ^ sh + 2 ^ (sh - 1)) ∧
    ((rne n sh * 2 ^ sh = n + 2 ^ (sh - 1) ∨ n = rne n sh * 2 ^ sh + 2 ^ (sh - 1)) → rne n sh % 2 = 0) := by
  have e1 := Nat.div_add_mod n (2 ^ sh)
  have m1 := Nat.mod_lt n (Nat.two_pow_pos sh)
  have hpar : 2 ≤ sh → ∃ K, 2 ^ (sh - 1) = 2 * K := fun h => ⟨_, two_pow_pred (show 1 ≤ sh - 1 by omega)⟩
  unfold rne
  generalize n / 2 ^ sh = q0 at *
  generalize n % 2 ^ sh = r at *
  rw [two_pow_pred hsh] at e1 m1 ⊢
  generalize 2 ^ (sh - 1) = H at *
  -- n = 2Y + r with Y = H·q0; the candidates are 2Y and 2Y + 2H, an odd n is not the midpoint when H is even
  have hq0 : q0 * (2 * H) = 2 * (H * q0) := by rw [Nat.mul_comm, Nat.mul_assoc]
  rw [Nat.mul_assoc] at e1
  split
  · next hc =>
    rw [Nat.add_mul, Nat.one_mul, hq0]
    generalize H * q0 = Y at *
    refine ⟨by omega, by omega, fun hodd h2 => ?_, fun ht => by omega⟩
    obtain ⟨K, rfl⟩ := hpar h2
    omega
  · next hc =>
    rw [hq0]
    generalize H * q0 = Y at *
    refine ⟨by omega, by omega, fun hodd h2 => ?_, fun ht => by omega⟩
    obtain ⟨K, rfl⟩ := hpar h2
    omega

/-- ≤ and = carried across a common factor (a·K = A·B, b·K = A'·B); `half_unit_iff` is the same for "x within h of n" and its two
    ties: the whole of the last step of `roundRat_nearest` -/
theorem cross_iff {a b A A' K B : Nat} (hK : 0 < K) (hB : 0 < B) (e1 : a * K = A * B) (e2 : b * K = A' * B) :
    (a ≤ b ↔ A ≤ A') ∧ (a = b ↔ A = A') := by
  constructor
  · rw [← Nat.mul_le_mul_right_iff hK, e1, e2, Nat.mul_le_mul_right_iff hB]
  · rw [← Nat.mul_left_inj (Nat.ne_of_gt hK), e1, e2, Nat.mul_left_inj (Nat.ne_of_gt hB)]

theorem half_unit_iff {x n h X N H K B : Nat} (hK : 0 < K) (hB : 0 < B)
    (e1 : x * K = X * B) (e2 : n * K = N * B) (e3 : h * K = H * B) :
    (x ≤ n + h ↔ X ≤ N + H) ∧ (n ≤ x + h ↔ N ≤ X + H) ∧ (x = n + h ↔ X = N + H) ∧ (n = x + h ↔ N = X + H) := by
  have s1 : (n + h) * K = (N + H) * B := by rw [Nat.add_mul, e2, e3, Nat.add_mul]
  have s2 : (x + h) * K = (X + H) * B := by rw [Nat.add_mul, e1, e3, Nat.add_mul]
  exact ⟨(cross_iff hK hB e1 s1).1, (cross_iff hK hB e2 s2).1, (cross_iff hK hB e1 s1).2, (cross_iff hK hB e2 s2).2⟩

/-- the quotient + sticky bit handed to `roundPack` is rounded to within half a unit of the true value 2N/D -/
theorem scaled_nearest (N D : Nat) (hD : 0 < D) (hQ : 2 ^ 54 ≤ N / D) (e : Int) :
    ∃ sh : Nat, 2 ≤ sh ∧ (rndq (scaled N D 0) e).2 = e + sh ∧
      (rndq (scaled N D 0) e).1 * 2 ^ sh * D ≤ 2 * N + 2 ^ (sh - 1) * D ∧
      2 * N ≤ (rndq (scaled N D 0) e).1 * 2 ^ sh * D + 2 ^ (sh - 1) * D ∧
      (((rndq (scaled N D 0) e).1 * 2 ^ sh * D = 2 * N + 2 ^ (sh - 1) * D ∨
        2 * N = (rndq (scaled N D 0) e).1 * 2 ^ sh * D + 2 ^ (sh - 1) * D) → (rndq (scaled N D 0) e).1 % 2 = 0) := by
  have hdm := Nat.div_add_mod N D
  have hml := Nat.mod_lt N hD
  have hs0 := scaled_zero N D
  have hbig : 2 ^ 55 ≤ scaled N D 0 := by
    rw [hs0]; have : (2 : Nat) ^ 55 = 2 * 2 ^ 54 := by decide
    omega
  have hlog : 55 ≤ (scaled N D 0).log2 := (Nat.le_log2 (by omega)).2 hbig
  generalize hn' : scaled N D 0 = n' at *
  unfold rndq
  have hS3 : 3 ≤ shiftOf n' e := by unfold shiftOf; omega
  obtain ⟨sh, hS⟩ : ∃ sh : Nat, shiftOf n' e = sh := ⟨_, (Int.toNat_of_nonneg (by omega)).symm⟩
  rw [hS] at hS3 ⊢
  have hsh : 2 ≤ sh := by omega
  rw [if_neg (by omega), Int.toNat_natCast]
  refine ⟨sh, hsh, rfl, ?_⟩
  obtain ⟨r1, r2, r3, r4⟩ := rne_error n' sh (Nat.le_of_succ_le hsh)
  dsimp only
  generalize rne n' sh = qq at *
  generalize 2 ^ (sh - 1) = H at *
  generalize qq * 2 ^ sh = T at *
  by_cases hR : N % D = 0
  ·
    rw [if_pos hR, Nat.add_zero] at hs0
    have hN : 2 * N = n' * D := by
      rw [hs0, Nat.mul_assoc, Nat.mul_comm (N / D) D]; omega
    rw [hN]
    obtain ⟨l1, l2, q1, q2⟩ := half_unit_iff hD Nat.one_pos (Nat.mul_one (T * D)).symm (Nat.mul_one (n' * D)).symm
      (Nat.mul_one (H * D)).symm
    exact ⟨l1.1 r1, l2.1 r2, fun ht => r4 (ht.imp q1.2 q2.2)⟩
  · -- sticky: n' = 2Q + 1 with Q = N / D, the true value lies strictly between 2Q and 2Q + 2
    rw [if_neg hR] at hs0
    generalize N / D = Q at *
    subst hs0
    obtain ⟨t1, t2⟩ := r3 (Nat.mul_add_mod 2 Q 1) hsh
    have hlow : 2 * Q * D < 2 * N := by rw [Nat.mul_assoc, Nat.mul_comm Q D]; omega
    have hup : 2 * N < (2 * Q + 2) * D := by rw [Nat.add_mul, Nat.mul_assoc, Nat.mul_comm Q D]; omega
    have a1 : T * D ≤ (2 * Q + H) * D := Nat.mul_le_mul_right _ (by omega)
    have a2 : (2 * Q + 2) * D ≤ T * D + H * D := Nat.add_mul T H D ▸ Nat.mul_le_mul_right _ t2
    rw [Nat.add_mul] at a1
    -- strictly inside: 2Q·D < 2N < (2Q + 2)·D, so neither bound is attained
    refine ⟨Nat.le_trans a1 (Nat.add_le_add_right (Nat.le_of_lt hlow) _), Nat.le_trans (Nat.le_of_lt hup) a2, fun ht => ?_⟩
    rcases ht with ht | ht
    · exact absurd (ht ▸ a1) (Nat.not_le.mpr (Nat.add_lt_add_right hlow _))
    · exact absurd (ht ▸ hup) (Nat.not_lt.mpr a2)

/-- change of vocabulary: from (N, D, sh) at scale k to (num, den) and the exponent g = sh − 1 − k -/
theorem rescale_eq (q num den kp kn sh a b : Nat) (hrel : a + kp = b + kn + (sh - 1)) (hsh : 1 ≤ sh) :
    (2 * q * 2 ^ a * den) * 2 ^ kp = (q * 2 ^ sh * (den * 2 ^ kn)) * 2 ^ b ∧
    (2 * num * 2 ^ b) * 2 ^ kp = (2 * (num * 2 ^ kp)) * 2 ^ b ∧
    (2 ^ a * den) * 2 ^ kp = (2 ^ (sh - 1) * (den * 2 ^ kn)) * 2 ^ b := by
  have h2 := two_pow_pred hsh
  have hM : 2 ^ a * 2 ^ kp = 2 ^ b * 2 ^ kn * 2 ^ (sh - 1) := by
    rw [← Nat.pow_add, ← Nat.pow_add, ← Nat.pow_add, hrel]
  rw [h2]
  generalize 2 ^ a = A at *
  generalize 2 ^ b = B at *
  generalize 2 ^ kp = KP at *
  generalize 2 ^ kn = KN at *
  generalize 2 ^ (sh - 1) = S1 at *
  refine ⟨?_, by ac_rfl, ?_⟩
  · calc 2 * q * A * den * KP = 2 * q * den * (A * KP) := by ac_rfl
      _ = 2 * q * den * (B * KN * S1) := by rw [hM]
      _ = q * (2 * S1) * (den * KN) * B := by ac_rfl
  · calc A * den * KP = den * (A * KP) := by ac_rfl
      _ = den * (B * KN * S1) := by rw [hM]
      _ = S1 * (den * KN) * B := by ac_rfl

theorem exp_rel (g k : Int) (sh : Nat) (hg : g = -k - 1 + sh) (hsh : 1 ≤ sh) :
    g.toNat + k.toNat = (-g).toNat + (-k).toNat + (sh - 1) := by
  have := Int.toNat_sub_toNat_neg g
  have := Int.toNat_sub_toNat_neg k
  omega

/-- NEAREST: the result of `roundRat`, read as a significand q at exponent g (bit pattern = min(+Inf, (g+1074)·2^52 + q),
    q in [2^52, 2^53] unless g = −1074), is within HALF A UNIT 2^g of num/den; on an exact tie q is even -/
theorem roundRat_nearest (num den : Nat) (hnum : 0 < num) (hden : 0 < den) :
    ∃ (q : Nat) (g : Int),
      ((roundRat false num den).toNat : Int) = min (2047 * 2 ^ 52) ((g + 1074) * 2 ^ 52 + q) ∧
      -1074 ≤ g ∧ q ≤ 2 ^ 53 ∧ (-1074 < g → 2 ^ 52 ≤ q) ∧
      2 * q * 2 ^ g.toNat * den ≤ 2 * num * 2 ^ (-g).toNat + 2 ^ g.toNat * den ∧
      2 * num * 2 ^ (-g).toNat ≤ 2 * q * 2 ^ g.toNat * den + 2 ^ g.toNat * den ∧
      ((2 * q * 2 ^ g.toNat * den = 2 * num * 2 ^ (-g).toNat + 2 ^ g.toNat * den ∨
        2 * num * 2 ^ (-g).toNat = 2 * q * 2 ^ g.toNat * den + 2 ^ g.toNat * den) → q % 2 = 0) := by
  have hq := quot_big num den hnum hden
  have hD := DOf_pos num den hden
  have hpos := scaled_pos (NOf num den) (DOf num den) 0 hq
  obtain ⟨b1, b2, b3, _⟩ := rndq_bounds _ hpos (-(kOf num den) - 1)
  have ht := roundPack_toNat _ hpos (-(kOf num den) - 1)
  obtain ⟨sh, hsh, hg, E1, E2, E3⟩ := scaled_nearest (NOf num den) (DOf num den) hD hq (-(kOf num den) - 1)
  rw [← roundRat_eq_scaled false num den hnum] at ht
  unfold keyOf at ht
  generalize rndq (scaled (NOf num den) (DOf num den) 0) (-(kOf num den) - 1) = p at *
  obtain ⟨q, g⟩ := p
  simp only at *
  refine ⟨q, g, ht, b1, b2, b3, ?_⟩
  unfold NOf DOf at E1 E2 E3
  have hrel := exp_rel g (kOf num den) sh hg (by omega)
  obtain ⟨c1, c2, c3⟩ := rescale_eq q num den (kOf num den).toNat (-(kOf num den)).toNat sh g.toNat (-g).toNat hrel (by omega)
  -- each side of each comparison, multiplied by 2^k⁺, is that of `scaled_nearest` multiplied by 2^g⁻
  obtain ⟨l1, l2, q1, q2⟩ := half_unit_iff (Nat.two_pow_pos (kOf num den).toNat) (Nat.two_pow_pos (-g).toNat) c1 c2 c3
  exact ⟨l1.2 E1, l2.2 E2, fun ht => E3 (ht.imp q1.1 q2.1)⟩

end NodisVerif.Proofs.FloatDecMono

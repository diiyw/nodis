import NodisVerif.Proofs.StoreLemmas
/-
  API commands as *key transactions*.

  Almost every command of Model/Api.lean that works on one key has the shape
    look the key up (`writeKey` with or without constructor / `readKey`);
    decide from the value and the deadline found: reply only (`keep`) / rewrite value and-or deadline, signal,
    notify (`put`) / rewrite, unlink, signal, notify (`drop`).
  `keyTx` is that shape as a combinator; the decision is a function `dec : Val → Int → Act` of the data structures
  alone (Model/Ds*.lean), with no store in it.  The equations `Api.f … = keyTx …` are in Proofs/KeyTxApi.lean.

  What a property of commands then needs is one lemma about the lookup and one about `runAct`; `keyTx_cases` puts
  the two together (a miss, or `runAct` on the hot record the lookup handed back).  `access` names the lookup of a
  transaction (the state it leaves and its flag), `looked` the state.  The names are in `Proofs.C11`.
-/
namespace NodisVerif.Proofs.C11
open NodisVerif.Store

/-- what a command does once it holds the (hot) record -/
inductive Act
  | keep (r : Out)
  | put (v' : Option Val) (e' : Option Int) (ops : List FeedOp) (r : Out)
  | drop (v' : Val) (ops : List FeedOp) (r : Out)

def emits (s : MState) (ops : List FeedOp) : MState := ops.foldl emit s

theorem emits_eq (ops : List FeedOp) : ∀ (s : MState),
    emits s ops = if s.listeners then { s with feed := ops.reverse ++ s.feed } else s := by
  induction ops with
  | nil => intro s; show s = _; split <;> rfl
  | cons op rest ih =>
    intro s
    show emits (emit s op) rest = _
    rw [ih]
    unfold emit
    cases h : s.listeners <;> simp [h]

def optSetVal (s : MState) (key : Bytes) : Option Val → MState
  | some v' => Api.setVal s key v'
  | none => s
def optSetExp (s : MState) (key : Bytes) : Option Int → MState
  | some e' => Api.setExp s key e'
  | none => s

/-- what `setVal` and `setExp` on `key` keep holds after the two optional writes of a `put` -/
theorem optSet_ind {P : MState → Prop} (key : Bytes) (hv : ∀ s v, P s → P (Api.setVal s key v))
    (he : ∀ s e, P s → P (Api.setExp s key e)) {s : MState} (h : P s) (v' : Option Val) (e' : Option Int) :
    P (optSetExp (optSetVal s key v') key e') := by
  have h1 : P (optSetVal s key v') := by
    cases v' with
    | none => exact h
    | some v => exact hv _ _ h
  cases e' with
  | none => exact h1
  | some e => exact he _ _ h1

def runAct (s : MState) (key : Bytes) : Act → Api.R
  | .keep r => (s, r)
  | .put v' e' ops r => (emits (signal (optSetExp (optSetVal s key v') key e') key) ops, r)
  | .drop v' ops r => (emits (signal (delKey (Api.setVal s key v') key) key) ops, r)

/-- the lookup of a key transaction (the first line of `keyTx`): the state it leaves, and whether it holds a record -/
abbrev access (write : Bool) (mk : Option Val) (s : MState) (now : Int) (key : Bytes) : MState × Bool :=
  if write then writeKey s now key mk else readKey s now key

abbrev looked (write : Bool) (mk : Option Val) (s : MState) (now : Int) (key : Bytes) : MState :=
  (access write mk s now key).1

def keyTx (write : Bool) (mk : Option Val) (miss : Out) (nov : MState → Api.R) (dec : Val → Int → Act)
    (s : MState) (now : Int) (key : Bytes) : Api.R :=
  let r := if write then writeKey s now key mk else readKey s now key
  if !r.2 && mk.isNone then (r.1, miss) else
  match valOf r.1 key with
  | some v => runAct r.1 key (dec v (Api.expOf r.1 key))
  | none => nov r.1   -- not reached when `write = false → mk = none` (`keyTx_cases`): a record handed back is hot

theorem keyTx_access (write : Bool) (mk : Option Val) (miss : Out) (nov : MState → Api.R) (dec : Val → Int → Act)
    (s : MState) (now : Int) (key : Bytes) :
    keyTx write mk miss nov dec s now key =
      if !(access write mk s now key).2 && mk.isNone then ((access write mk s now key).1, miss) else
      match valOf (access write mk s now key).1 key with
      | some v => runAct (access write mk s now key).1 key (dec v (Api.expOf (access write mk s now key).1 key))
      | none => nov (access write mk s now key).1 := rfl

namespace Act
def reply : Act → Out
  | keep r => r
  | put _ _ _ r => r
  | drop _ _ r => r

def isKeep : Act → Bool
  | keep _ => true
  | _ => false

/-- the new content of the key: `none` = untouched, `some none` = removed -/
def eff (a : Act) (v : Val) (e : Int) : Option (Option (Val × Int)) :=
  match a with
  | keep _ => none
  | put v' e' _ _ => some (some (v'.getD v, e'.getD e))
  | drop _ _ _ => some none
end Act

theorem runAct_reply (s : MState) (key : Bytes) (a : Act) : (runAct s key a).2 = a.reply := by
  cases a <;> rfl

/-- the arguments of a key transaction, packaged: for what is said of every command at once (the records and the
    content after it, `TxForm.ops` / `TxForm.post` in Proofs/C20Core.lean) -/
structure TxForm where
  write : Bool
  ctor : Option Val
  miss : Out
  nov : MState → Api.R
  dec : Val → Int → Act
  key : Bytes

namespace TxForm
def run (f : TxForm) (s : MState) (now : Int) : Api.R := keyTx f.write f.ctor f.miss f.nov f.dec s now f.key
end TxForm

namespace Cmd
/-- the `nov` of every command's equation (Proofs/KeyTxApi.lean): on a record without a value the model panics -/
def pan (s1 : MState) : Api.R := (s1, .panic)
end Cmd

theorem valOf_newKeyWith (s : MState) (key : Bytes) (old : Option Meta) (v : Val) :
    valOf (newKeyWith s key old v) key = some v :=
  valOf_of_getMeta (getMeta_newKeyWith_same s key old v)

theorem valOf_putMeta_hot (s : MState) (key : Bytes) (m : Meta) (hm : m.value.isSome = true) :
    ∃ w, valOf (putMeta s key m) key = some w := by
  obtain ⟨w, hw⟩ := Option.isSome_iff_exists.mp hm
  exact ⟨w, (valOf_of_getMeta (getMeta_putMeta_same s key m)).trans hw⟩

theorem accessKey_hotOr {lock : MState → Bytes → MState} (hl : C01.LockOp lock) (s : MState) (now : Int) (key : Bytes)
    (mk : Option Val) :
    ((C01.accessKey lock s now key mk).2 = true ∧ ∃ v, valOf (C01.accessKey lock s now key mk).1 key = some v) ∨
    ((C01.accessKey lock s now key mk).2 = false ∧ mk = none) := by
  have hc : ∀ x old, ((C01.orCreate x key old mk).2 = true ∧ ∃ v, valOf (C01.orCreate x key old mk).1 key = some v) ∨
      ((C01.orCreate x key old mk).2 = false ∧ mk = none) := by
    intro x old
    cases mk with
    | none => exact Or.inr ⟨rfl, rfl⟩
    | some v => exact Or.inl ⟨rfl, v, valOf_newKeyWith _ _ _ _⟩
  rcases C01.accessKey_shape hl s now key mk with ⟨_, e⟩ | ⟨m0, _, ⟨e, _⟩ | ⟨e, _, _, hv⟩ | ⟨v, oid, e, _⟩⟩ <;> rw [e]
  · exact hc _ _
  · exact hc _ _
  · exact Or.inl ⟨rfl, valOf_putMeta_hot _ _ _ hv⟩
  · exact Or.inl ⟨rfl, valOf_putMeta_hot _ _ _ rfl⟩

theorem writeKey_hot (s : MState) (now : Int) (key : Bytes) (mk : Option Val) :
    ((writeKey s now key mk).2 = true ∧ ∃ v, valOf (writeKey s now key mk).1 key = some v) ∨
    ((writeKey s now key mk).2 = false ∧ mk = none) :=
  accessKey_hotOr C01.lockW_op s now key mk

theorem readKey_hot (s : MState) (now : Int) (key : Bytes) (h : (readKey s now key).2 = true) :
    ∃ v, valOf (readKey s now key).1 key = some v := by
  rcases accessKey_hotOr C01.lockR_op s now key none with ⟨_, hv⟩ | ⟨hf, _⟩
  · exact hv
  · rw [C01.readKey_eq, hf] at h; cases h

/-- `hw`: a read takes no constructor.  `readKey` never sees `mk`, so with `write = false` and `mk = some _` a failed
    lookup would pass the miss test `!r.2 && mk.isNone` of `keyTx` and run on a record that is not there. -/
theorem keyTx_cases (write : Bool) (mk : Option Val) (miss : Out) (nov : MState → Api.R) (dec : Val → Int → Act)
    (s : MState) (now : Int) (key : Bytes) (hw : write = false → mk = none) :
    ((access write mk s now key).2 = false ∧ mk = none ∧
      keyTx write mk miss nov dec s now key = ((access write mk s now key).1, miss)) ∨
    ((access write mk s now key).2 = true ∧
      ∃ v, valOf (access write mk s now key).1 key = some v ∧
      keyTx write mk miss nov dec s now key =
        runAct (access write mk s now key).1 key (dec v (Api.expOf (access write mk s now key).1 key))) := by
  have h : ((access write mk s now key).2 = true ∧ ∃ v, valOf (access write mk s now key).1 key = some v) ∨
      ((access write mk s now key).2 = false ∧ mk = none) := by
    cases write with
    | true => exact writeKey_hot s now key mk
    | false =>
      cases hw rfl
      cases hok : (readKey s now key).2 with
      | false => exact Or.inr ⟨hok, rfl⟩
      | true => exact Or.inl ⟨hok, readKey_hot s now key hok⟩
  rw [keyTx_access]
  generalize access write mk s now key = r at h ⊢
  rcases h with ⟨hok, v, hv⟩ | ⟨hok, hmk⟩
  · refine Or.inr ⟨hok, v, hv, ?_⟩
    simp only [hok, hv, Bool.not_true, Bool.false_and, Bool.false_eq_true, if_false]
  · refine Or.inl ⟨hok, hmk, ?_⟩
    simp only [hok, hmk, Bool.not_false, Option.isNone_none, Bool.and_self, if_true]

end NodisVerif.Proofs.C11

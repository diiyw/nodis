import NodisVerif.Model.Codec
import NodisVerif.Proofs.VarintLemmas
import NodisVerif.Proofs.AListLemmas
/-
  The storage codecs, from the inside out: injectivity of `Key.Encode`, slicing, the length-prefixed
  chunk, one step of each of the four collection decoders, a decoder loop run on the encodings of a
  list (`decode_flatMap`) with the four decoders as instances, the little-endian uint64 of scores.
-/
namespace NodisVerif.Proofs.CodecLemmas
open Varint Codec AListLemmas

/-- `Key.Encode` is injective: distinct (name, deadline) pairs address distinct backend entries -/
theorem encodeKey_inj {n1 n2 : Bytes} {e1 e2 : Int}
    (h : encodeKey n1 e1 = encodeKey n2 e2) : n1 = n2 ∧ e1 = e2 := by
  unfold encodeKey putVarint at h
  obtain ⟨a, b⟩ := VarintLemmas.putUvarint_prefix_free _ _ _ _ h
  exact ⟨b, VarintLemmas.zigzag_inj _ _ a⟩

theorem slice?_mid (a b c : Bytes) :
    slice? (a ++ b ++ c) (a.length : Int) ((a.length : Int) + (b.length : Int)) = some b := by
  unfold slice?
  have hc : (0 : Int) ≤ (a.length : Int) ∧ (a.length : Int) ≤ (a.length : Int) + (b.length : Int) ∧
      (a.length : Int) + (b.length : Int) ≤ ((a ++ b ++ c).length : Int) := by
    simp only [List.length_append]
    omega
  rw [if_pos hc]
  have h1 : ((a.length : Int)).toNat = a.length := Int.toNat_natCast _
  have h2 : ((a.length : Int) + (b.length : Int) - (a.length : Int)).toNat = b.length := by omega
  rw [h1, h2, List.append_assoc, List.drop_left, List.take_left]

theorem slice?_zero (b c : Bytes) :
    slice? (b ++ c) 0 (b.length : Int) = some b := by
  have := slice?_mid [] b c
  simpa using this

theorem from?_append (a b : Bytes) : from? (a ++ b) (a.length : Int) = some b := by
  unfold from?
  have := slice?_mid a b []
  simpa using this

theorem inInt64_len (n : Nat) (h : n < 2 ^ 63) : inInt64 (n : Int) = true := by
  unfold inInt64 int64Min int64Max
  apply decide_eq_true
  omega

theorem varint_lenPrefixed (v rest : Bytes) (h : v.length < 2 ^ 63) :
    varint (lenPrefixed v ++ rest)
      = ((v.length : Int), ((putVarint (v.length : Int)).length : Int)) := by
  unfold lenPrefixed
  rw [List.append_assoc]
  exact VarintLemmas.varint_putVarint _ (inInt64_len _ h) _

theorem lenPrefixed_length (v : Bytes) :
    (lenPrefixed v).length = (putVarint (v.length : Int)).length + v.length := by
  simp [lenPrefixed]

theorem lenPrefixed_ne_nil (v rest : Bytes) : lenPrefixed v ++ rest ≠ [] := by
  have := VarintLemmas.putVarint_length_pos (v.length : Int)
  intro h
  have h2 := congrArg List.length h
  simp only [lenPrefixed, List.length_append, List.length_nil] at h2
  omega

theorem from?_lenPrefixed (v rest : Bytes) :
    from? (lenPrefixed v ++ rest)
      (((putVarint (v.length : Int)).length : Int) + (v.length : Int)) = some rest := by
  have := from?_append (lenPrefixed v) rest
  rw [lenPrefixed_length] at this
  simpa using this

theorem slice?_lenPrefixed (v rest : Bytes) :
    slice? (lenPrefixed v ++ rest) ((putVarint (v.length : Int)).length : Int)
      (((putVarint (v.length : Int)).length : Int) + (v.length : Int)) = some v := by
  unfold lenPrefixed
  exact slice?_mid _ _ _

/-- A decoder loop that takes the encoding `enc x` of one item off the front and goes on (`hstep`), run on
    the encodings of a whole list: `res s l` is what comes out of accumulator `s` and items `l`, `Q s l` what
    a step may assume of them. Fuel above the length of the input suffices, each item taking a byte at least. -/
theorem decode_flatMap {β σ : Type} (dec : Bytes → σ → Nat → Option σ) (enc : β → Bytes)
    (res : σ → List β → σ) (Q : σ → List β → Prop)
    (hnil : ∀ s f, dec [] s (f + 1) = some (res s []))
    (hstep : ∀ x l rest s f, Q s (x :: l) →
      ∃ s', dec (enc x ++ rest) s (f + 1) = dec rest s' f ∧ Q s' l ∧ res s' l = res s (x :: l))
    (hpos : ∀ x, 0 < (enc x).length) :
    ∀ (l : List β) (s : σ) (fuel : Nat), Q s l → (l.flatMap enc).length < fuel →
      dec (l.flatMap enc) s fuel = some (res s l) := by
  intro l
  induction l with
  | nil =>
    intro s fuel _ hf
    obtain ⟨f, rfl⟩ : ∃ f, fuel = f + 1 := ⟨fuel - 1, by omega⟩
    exact hnil s f
  | cons x l ih =>
    intro s fuel hQ hf
    obtain ⟨f, rfl⟩ : ∃ f, fuel = f + 1 := ⟨fuel - 1, by omega⟩
    rw [List.flatMap_cons, List.length_append] at hf
    obtain ⟨s', e, hQ', hr⟩ := hstep x l (l.flatMap enc) s f hQ
    have := hpos x
    rw [List.flatMap_cons, e, ih s' f hQ' (by omega), hr]

theorem lenPrefixed_pos (v : Bytes) : 0 < (lenPrefixed v).length := by
  have := VarintLemmas.putVarint_length_pos (v.length : Int)
  rw [lenPrefixed_length]; omega

/-- the accumulator of a keyed decoder: sorted, all keys below those still to come; `AList.set` then appends -/
theorem set_of_pairwise {V : Type} {acc : AList V} {k : Bytes} {v : V} {ms : AList V}
    (h : (acc ++ (k, v) :: ms).Pairwise KeyLt) :
    AList.set acc k v = acc ++ [(k, v)] ∧ AList.get? acc k = none ∧ ((acc ++ [(k, v)]) ++ ms).Pairwise KeyLt := by
  have hacc : ∀ q ∈ acc, Bytes.lt q.1 k = true :=
    fun q hq => (List.pairwise_append.mp h).2.2 q hq (k, v) List.mem_cons_self
  exact ⟨set_append k v acc hacc, get?_none k acc hacc, by rw [List.append_assoc]; exact h⟩

theorem forEach_all (l : LList) : DsList.forEach l 0 (-1) = l.items := by
  unfold DsList.forEach DsList.size
  have hc : ¬ ((if (0 : Int) < 0 then (if (0 : Int) + (l.items.length : Int) < 0 then 0 else 0 + (l.items.length : Int)) else 0)
      > (if (-1 : Int) < 0 then (-1 : Int) + (l.items.length : Int) else -1)) ∨ l.items = [] := by
    cases hl : l.items with
    | nil => right; rfl
    | cons a t => left; simp only [List.length_cons]; omega
  rcases hc with hc | hc
  · simp only [hc, if_false]
    have hf : (l.items.zipIdx.filter fun (p : Bytes × Nat) =>
        decide ((if (0 : Int) < 0 then (if (0 : Int) + (l.items.length : Int) < 0 then 0 else 0 + (l.items.length : Int)) else 0) ≤ (p.2 : Int) ∧
          (p.2 : Int) ≤ (if (-1 : Int) < 0 then (-1 : Int) + (l.items.length : Int) else -1)))
        = l.items.zipIdx := by
      rw [List.filter_eq_self]
      rintro ⟨x, i⟩ hm
      have := List.mem_zipIdx hm
      simp only [decide_eq_true_eq]
      omega
    rw [hf, List.zipIdx_map_fst]
  · simp [hc]

theorem decodeList_step (v rest : Bytes) (l : LList) (fuel : Nat) (h : v.length < 2 ^ 63) :
    decodeList (lenPrefixed v ++ rest) l (fuel + 1)
      = decodeList rest (DsList.rpush l [v]) fuel := by
  rw [decodeList.eq_3 _ _ _ (lenPrefixed_ne_nil v rest), varint_lenPrefixed v rest h]
  have hp := VarintLemmas.putVarint_length_pos (v.length : Int)
  have hne : ¬ (((putVarint (v.length : Int)).length : Int) = 0) := by omega
  simp only [hne, if_false, slice?_lenPrefixed, from?_lenPrefixed]

theorem decodeList_flatMap (items : List Bytes) (l : LList) (fuel : Nat) (hlen : ∀ v ∈ items, v.length < 2 ^ 63)
    (hf : (items.flatMap lenPrefixed).length < fuel) :
    decodeList (items.flatMap lenPrefixed) l fuel = some (DsList.rpush l items) :=
  decode_flatMap decodeList lenPrefixed DsList.rpush (fun _ (items : List Bytes) => ∀ v ∈ items, v.length < 2 ^ 63)
    (fun _ f => decodeList.eq_2 _ _ (Nat.succ_ne_zero f))
    (fun x _ rest s f hQ => ⟨_, decodeList_step x rest s f (hQ x List.mem_cons_self),
      fun v hv => hQ v (List.mem_cons_of_mem _ hv), rfl⟩)
    lenPrefixed_pos items l fuel hlen hf

theorem from?_lenPrefixed_head (v rest : Bytes) :
    from? (lenPrefixed v ++ rest) ((putVarint (v.length : Int)).length : Int) = some (v ++ rest) := by
  unfold lenPrefixed
  rw [List.append_assoc]
  exact from?_append _ _

theorem decodeSet_step (m rest : Bytes) (s : AList Unit) (fuel : Nat) (h : m.length < 2 ^ 63) :
    decodeSet (lenPrefixed m ++ rest) s (fuel + 1)
      = decodeSet rest (AList.set s m ()) fuel := by
  rw [decodeSet.eq_3 _ _ _ (lenPrefixed_ne_nil m rest), varint_lenPrefixed m rest h]
  have hp := VarintLemmas.putVarint_length_pos (m.length : Int)
  have hne : ¬ ((((putVarint (m.length : Int)).length : Int) ≤ 0) ∧ ((m.length : Int) ≤ 0)) := by
    omega
  simp only [from?_lenPrefixed_head, slice?_zero, from?_append, hne, if_false]

theorem decodeSet_all (ms : AList Unit) (acc : AList Unit) (fuel : Nat) (hlen : ∀ p ∈ ms, p.1.length < 2 ^ 63)
    (hpw : (acc ++ ms).Pairwise KeyLt) (hf : (encodeSet ms).length < fuel) :
    decodeSet (encodeSet ms) acc fuel = some (acc ++ ms) := by
  have e : encodeSet ms = ms.flatMap fun p => lenPrefixed p.1 := List.flatMap_map ..
  rw [e] at hf ⊢
  exact decode_flatMap decodeSet (fun p => lenPrefixed p.1) (· ++ ·)
    (fun (acc ms : AList Unit) => (∀ p ∈ ms, p.1.length < 2 ^ 63) ∧ (acc ++ ms).Pairwise KeyLt)
    (fun s f => by rw [decodeSet.eq_2 _ _ (Nat.succ_ne_zero f), List.append_nil])
    (fun x l rest s f hQ => by
      obtain ⟨h1, _, h3⟩ := set_of_pairwise hQ.2
      exact ⟨_, by rw [decodeSet_step x.1 rest s f (hQ.1 x List.mem_cons_self), h1],
        ⟨fun p hp => hQ.1 p (List.mem_cons_of_mem _ hp), h3⟩, List.append_assoc ..⟩)
    (fun p => lenPrefixed_pos p.1) ms acc fuel ⟨hlen, hpw⟩ hf

theorem decodeHash_step (k v rest : Bytes) (h : AList Bytes) (fuel : Nat)
    (hk : k.length < 2 ^ 63) (hkv : (lenPrefixed k ++ v).length < 2 ^ 63) :
    decodeHash (lenPrefixed (lenPrefixed k ++ v) ++ rest) h (fuel + 1)
      = decodeHash rest (AList.set h k v) fuel := by
  rw [decodeHash.eq_3 _ _ _ (lenPrefixed_ne_nil _ rest), varint_lenPrefixed _ rest hkv]
  have hp := VarintLemmas.putVarint_length_pos ((lenPrefixed k ++ v).length : Int)
  have hne : ¬ (((putVarint ((lenPrefixed k ++ v).length : Int)).length : Int) ≤ 0) := by omega
  simp only [hne, if_false, slice?_lenPrefixed, from?_lenPrefixed, varint_lenPrefixed k v hk,
    from?_lenPrefixed_head, slice?_zero, from?_append, DsHash.hset]

theorem decodeHash_all (ms : AList Bytes) (acc : AList Bytes) (fuel : Nat)
    (hlen : ∀ p ∈ ms, p.1.length < 2 ^ 63 ∧ (lenPrefixed p.1 ++ p.2).length < 2 ^ 63)
    (hpw : (acc ++ ms).Pairwise KeyLt) (hf : (encodeHash ms).length < fuel) :
    decodeHash (encodeHash ms) acc fuel = some (acc ++ ms) := by
  have e : encodeHash ms = ms.flatMap fun p => lenPrefixed (lenPrefixed p.1 ++ p.2) := rfl
  rw [e] at hf ⊢
  exact decode_flatMap decodeHash (fun p => lenPrefixed (lenPrefixed p.1 ++ p.2)) (· ++ ·)
    (fun (acc ms : AList Bytes) => (∀ p ∈ ms, p.1.length < 2 ^ 63 ∧ (lenPrefixed p.1 ++ p.2).length < 2 ^ 63)
      ∧ (acc ++ ms).Pairwise KeyLt)
    (fun s f => by rw [decodeHash.eq_2 _ _ (Nat.succ_ne_zero f), List.append_nil])
    (fun x l rest s f hQ => by
      obtain ⟨h1, _, h3⟩ := set_of_pairwise hQ.2
      obtain ⟨hk, hkv⟩ := hQ.1 x List.mem_cons_self
      exact ⟨_, by rw [decodeHash_step x.1 x.2 rest s f hk hkv, h1],
        ⟨fun p hp => hQ.1 p (List.mem_cons_of_mem _ hp), h3⟩, List.append_assoc ..⟩)
    (fun p => lenPrefixed_pos _) ms acc fuel ⟨hlen, hpw⟩ hf

theorem u64le_length (x : UInt64) : (u64le x).length = 8 := by
  simp [u64le]

theorem digit_step (m P Q : Nat) : m % 256 * P + m / 256 % Q * (P * 256) = m % (Q * 256) * P := by
  rw [Nat.mul_comm Q, Nat.mod_mul, Nat.add_mul, Nat.mul_comm P, Nat.mul_assoc, Nat.mul_left_comm]

/-- summing `k` little-endian bytes of `n` from byte `s` on puts the base-256 digits `s … s+k-1` of `n`
    back in their places -/
theorem foldl_bytes (n : Nat) : ∀ (k s acc : Nat),
    (((List.range' s k).map fun i => UInt8.ofNat ((n >>> (8 * i)) % 256)).zipIdx s).foldl
      (fun acc (x, i) => acc + x.toNat <<< (8 * i)) acc
      = acc + n / 256 ^ s % 256 ^ k * 256 ^ s := by
  intro k
  induction k with
  | zero => intro s acc; rw [Nat.pow_zero, Nat.mod_one, Nat.zero_mul]; rfl
  | succ k ih =>
    intro s acc
    rw [List.range'_succ, List.map_cons, List.zipIdx_cons, List.foldl_cons, ih, Nat.add_assoc]
    congr 1
    have e : (UInt8.ofNat (n >>> (8 * s) % 256)).toNat <<< (8 * s) = n / 256 ^ s % 256 * 256 ^ s := by
      rw [UInt8.toNat_ofNat', Nat.shiftRight_eq_div_pow, Nat.shiftLeft_eq, Nat.pow_mul]
      exact congrArg (· * _) (Nat.mod_mod _ _)
    rw [e, Nat.pow_succ, ← Nat.div_div_eq_div_mul, Nat.pow_succ, digit_step]

theorem leU64_u64le (x : UInt64) (m : Bytes) : leU64 (u64le x ++ m) = x := by
  have ht : (u64le x ++ m).take 8 = u64le x := by
    rw [← u64le_length x, List.take_left]
  unfold leU64
  rw [ht]
  unfold u64le
  rw [List.range_eq_range', foldl_bytes x.toNat 8 0 0]
  simp

theorem decodeZSet_step (m rest : Bytes) (sc : F64) (z : ZSet) (fuel : Nat)
    (hm : (u64le sc ++ m).length < 2 ^ 63) :
    decodeZSet (lenPrefixed (u64le sc ++ m) ++ rest) z (fuel + 1)
      = decodeZSet rest (DsZSet.zAdd z m sc).1 fuel := by
  rw [decodeZSet.eq_3 _ _ _ (lenPrefixed_ne_nil _ rest), varint_lenPrefixed _ rest hm]
  have hp := VarintLemmas.putVarint_length_pos ((u64le sc ++ m).length : Int)
  have hne : ¬ (((putVarint ((u64le sc ++ m).length : Int)).length : Int) ≤ 0) := by omega
  have h8 : ¬ ((u64le sc ++ m).length < 8) := by
    rw [List.length_append, u64le_length]; omega
  have hd : (u64le sc ++ m).drop 8 = m := by
    have := u64le_length sc
    rw [← this, List.drop_left]
  simp only [hne, if_false, slice?_lenPrefixed, from?_lenPrefixed, h8, hd, leU64_u64le]

/-- the chain the decoder builds: insert every dictionary entry, in member order -/
def insAll (sl : List DsZSet.Item) (ms : AList F64) : List DsZSet.Item :=
  ms.foldl (fun sl p => DsZSet.slInsert sl p.1 p.2) sl

theorem decodeZSet_all (ms : AList F64) (acc : AList F64) (sl : List DsZSet.Item) (fuel : Nat)
    (hlen : ∀ p ∈ ms, (u64le p.2 ++ p.1).length < 2 ^ 63)
    (hpw : (acc ++ ms).Pairwise KeyLt) (hf : (encodeZSet ⟨ms, []⟩).length < fuel) :
    decodeZSet (encodeZSet ⟨ms, []⟩) ⟨acc, sl⟩ fuel = some ⟨acc ++ ms, insAll sl ms⟩ := by
  have e : encodeZSet ⟨ms, []⟩ = ms.flatMap fun p => lenPrefixed (u64le p.2 ++ p.1) := rfl
  rw [e] at hf ⊢
  exact decode_flatMap decodeZSet (fun p => lenPrefixed (u64le p.2 ++ p.1)) (fun z ms => ⟨z.dict ++ ms, insAll z.sl ms⟩)
    (fun (z : ZSet) (ms : AList F64) => (∀ p ∈ ms, (u64le p.2 ++ p.1).length < 2 ^ 63) ∧ (z.dict ++ ms).Pairwise KeyLt)
    (fun z f => by rw [decodeZSet.eq_2 _ _ (Nat.succ_ne_zero f), List.append_nil]; rfl)
    (fun x l rest z f hQ => by
      obtain ⟨h1, h2, h3⟩ := set_of_pairwise hQ.2
      refine ⟨⟨z.dict ++ [x], DsZSet.slInsert z.sl x.1 x.2⟩, ?_,
        ⟨fun p hp => hQ.1 p (List.mem_cons_of_mem _ hp), h3⟩, by rw [List.append_assoc]; rfl⟩
      rw [decodeZSet_step x.1 rest x.2 z f (hQ.1 x List.mem_cons_self)]
      simp only [DsZSet.zAdd, h1, h2])
    (fun p => lenPrefixed_pos _) ms ⟨acc, sl⟩ fuel ⟨hlen, hpw⟩ hf

theorem decodeEntry_list (l : LList) : decodeEntry (encodeEntry (.list l))
    = (decodeList (encodeList l) DsList.empty ((encodeList l).length + 1)).map .list := rfl
theorem decodeEntry_set (m : AList Unit) : decodeEntry (encodeEntry (.set m))
    = (decodeSet (encodeSet m) [] ((encodeSet m).length + 1)).map .set := rfl
theorem decodeEntry_hash (m : AList Bytes) : decodeEntry (encodeEntry (.hash m))
    = (decodeHash (encodeHash m) [] ((encodeHash m).length + 1)).map .hash := rfl
theorem decodeEntry_zset (z : ZSet) : decodeEntry (encodeEntry (.zset z))
    = (decodeZSet (encodeZSet z) DsZSet.empty ((encodeZSet z).length + 1)).map .zset := rfl

end NodisVerif.Proofs.CodecLemmas

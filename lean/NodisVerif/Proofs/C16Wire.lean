import NodisVerif.Proofs.C16Handlers
import NodisVerif.Proofs.C16Parse
import NodisVerif.Proofs.C08Ops
/-
  C16 — the two conditions on what a handler writes for one command, and the vocabulary in which
  they are proved handler by handler.  `WireOK` … `TableWire` stand in `Proofs.C08Step`, beside `step` / `run` and
  `TableOneReply` (C16Step.lean), of which they speak; the handler-level vocabulary (`WfToks` …) in `Proofs.C16Handlers`.

  `WireOK`: the side conditions of the round trip writer → bytes → strict RESP reader
  (`C16Parse.render_parse_roundtrip`, `pipeline_in_sync`): array counts ≥ -1 (`arrOK`), no CR / LF
  inside a simple string (`lineOK`).
  `WfToks ts`: `ts` is exactly one RESP value and `WireOK`.  A handler is walked once, for both:
  `WfRes r` gives `OneReply r` and `WireRes r`.  Its closure is built from `call`, `done` and a panic
  before anything is written, its tokens from scalars and the array shapes below.
-/
namespace NodisVerif.Proofs.C08Step
open NodisVerif NodisVerif.Resp Server
open NodisVerif.Proofs.C16Parse
open NodisVerif.Spec.RespReply (cleanLine)

def WireOK (ts : List Tok) : Prop := ArrOK ts ∧ LinesOK ts

/-- the closure writes only such tokens, on ANY store, clock and choice, panicking or not -/
def WireBody (b : Body) : Prop := ∀ st now ch, WireOK (replyOf (b st now ch))

def WireRes : HRes → Prop
  | .direct ts => WireOK ts
  | .exec b => WireBody b
  | .crash => True

def TableWire (H : Table) : Prop := ∀ name args r, H name args = some r → WireRes r

instance (ts : List Tok) : Decidable (WireOK ts) := by unfold WireOK; infer_instance

def tokOK (t : Tok) : Bool := arrOK t && lineOK t

theorem wireOK_iff (ts : List Tok) : WireOK ts ↔ ∀ t ∈ ts, tokOK t = true := by
  unfold WireOK ArrOK LinesOK tokOK
  constructor
  · rintro ⟨h1, h2⟩ t ht
    rw [h1 t ht, h2 t ht]; rfl
  · intro h
    constructor <;> intro t ht <;> have := h t ht <;> simp only [Bool.and_eq_true] at this
    · exact this.1
    · exact this.2

theorem wireOK_nil : WireOK [] := (wireOK_iff _).2 (fun _ h => by cases h)

theorem wireOK_cons (t : Tok) (ts : List Tok) : WireOK (t :: ts) ↔ tokOK t = true ∧ WireOK ts := by
  simp only [wireOK_iff, List.mem_cons]
  constructor
  · intro h; exact ⟨h t (Or.inl rfl), fun u hu => h u (Or.inr hu)⟩
  · rintro ⟨h1, h2⟩ u (rfl | hu)
    · exact h1
    · exact h2 u hu

theorem wireOK_single (t : Tok) (h : tokOK t = true) : WireOK [t] :=
  (wireOK_cons t []).2 ⟨h, wireOK_nil⟩

theorem wireOK_flatMap {α : Type} (xs : List α) (f : α → List Tok) (h : ∀ x ∈ xs, WireOK (f x)) :
    WireOK (xs.flatMap f) := by
  rw [wireOK_iff]
  intro t ht
  rw [List.mem_flatMap] at ht
  obtain ⟨x, hx, htx⟩ := ht
  exact (wireOK_iff _).1 (h x hx) t htx

theorem tokOK_simple (s : Bytes) (h : cleanLine s = true) : tokOK (.simple s) = true := h
theorem tokOK_arr (n : Int) (h : -1 ≤ n) : tokOK (.arr n) = true := by
  simp [tokOK, arrOK, lineOK, h]
theorem wireOK_err (k : Nat) : WireOK [Tok.err k] := wireOK_single _ rfl
theorem wireOK_int (n : Int) : WireOK [Tok.int n] := wireOK_single _ rfl
theorem wireOK_nullBulk : WireOK [Tok.nullBulk] := wireOK_single _ rfl
theorem wireOK_nullArr : WireOK [Tok.nullArr] := wireOK_single _ rfl
theorem wireOK_arr (n : Int) (h : -1 ≤ n) : WireOK [Tok.arr n] := wireOK_single _ (tokOK_arr n h)

theorem clean_OK : cleanLine (Bytes.ofString "OK") = true := by decide +kernel
theorem clean_UNSUPPORTED : cleanLine (Bytes.ofString "UNSUPPORTED") = true := by decide +kernel
theorem clean_none : cleanLine (Bytes.ofString "none") = true := by decide +kernel
theorem clean_nil : cleanLine [] = true := rfl

/-- every type name (`ds.ValueType.String()`) is CR/LF-free -/
theorem clean_typeName (n : Nat) : cleanLine (Bytes.ofString (typeName n)) = true := by
  unfold typeName
  split <;> decide +kernel

theorem tokOK_ok : tokOK Handler.ok = true := tokOK_simple _ clean_OK
theorem tokOK_e : tokOK Handler.e = true := rfl

theorem wireOK_ok : WireOK [okTok] := wireOK_single _ tokOK_ok
theorem wireOK_queued : WireOK [queuedTok] := wireOK_single _ (tokOK_simple _ (by decide +kernel))

theorem wireOK_flatten (vs : List (List Tok)) (h : ∀ v ∈ vs, WireOK v) : WireOK vs.flatten := by
  rw [← List.flatMap_id]
  exact wireOK_flatMap vs id h

end NodisVerif.Proofs.C08Step

namespace NodisVerif.Proofs.C16Handlers
open NodisVerif NodisVerif.Resp NodisVerif.Handler
open NodisVerif.Proofs.C08Step hiding replyOf
open NodisVerif.Spec.RespReply (cleanLine)

def WfToks (ts : List Tok) : Prop := oneValue ts = true ∧ WireOK ts

/-- the closure's reply (the recovery error of a panic included) -/
def WfOut (o : BodyOut) : Prop := WfToks (replyOf o)

/-- whatever the handler does (reply by itself, or hand a closure to `execCommand`, which runs on ANY
    store, clock and choice, panicking or not) -/
def WfRes : HRes → Prop
  | .direct ts => WfToks ts
  | .exec b => ∀ s now ch, WfOut (b s now ch)
  | .crash => True

theorem WfRes.one {r : HRes} (h : WfRes r) : OneReply r := by
  cases r with
  | direct ts => exact h.1
  | exec b => exact fun s now ch => (h s now ch).1
  | crash => trivial

theorem WfRes.wire {r : HRes} (h : WfRes r) : WireRes r := by
  cases r with
  | direct ts => exact h.2
  -- `WireBody` is written with `C08Step.replyOf`, `WfOut` with the `replyOf` of this namespace: one function
  -- (`C08Step.replyOf_eq`), the two unfold to the same term
  | exec b => exact fun s now ch => (h s now ch).2
  | crash => trivial

def tokWf (t : Tok) : Bool := isScalar t && tokOK t

theorem tokWf_ok : tokWf ok = true := tokOK_ok
theorem tokWf_simple (s : Bytes) (h : cleanLine s = true) : tokWf (.simple s) = true := h
theorem tokWf_unsupported : tokWf (.simple (Bytes.ofString "UNSUPPORTED")) = true := tokWf_simple _ clean_UNSUPPORTED
theorem tokWf_optBulk (b : Option Bytes) : tokWf (optBulk b) = true := by
  cases b <;> rfl

theorem tokWf_ite (c : Prop) [Decidable c] (a b : Tok) (ha : tokWf a = true) (hb : tokWf b = true) :
    tokWf (if c then a else b) = true := by
  split <;> assumption

theorem wf_single (t : Tok) (h : tokWf t = true) : WfToks [t] := by
  rw [tokWf, Bool.and_eq_true] at h
  exact ⟨oneValue_scalar t h.1, wireOK_single t h.2⟩

theorem wf_arr0 : WfToks [Tok.arr 0] := ⟨oneValue_arr_nonpos 0 (by omega), wireOK_arr 0 (by omega)⟩

theorem wf_arr_flatten (vs : List (List Tok)) (h : ∀ v ∈ vs, WfToks v) :
    WfToks (Tok.arr vs.length :: vs.flatten) :=
  ⟨oneValue_arr_flatten vs fun v hv => (h v hv).1,
   (wireOK_cons _ _).2 ⟨tokOK_arr _ (by omega), wireOK_flatten vs fun v hv => (h v hv).2⟩⟩

theorem wf_arr_flatten' (n : Int) (vs : List (List Tok)) (hn : n = vs.length) (h : ∀ v ∈ vs, WfToks v) :
    WfToks (Tok.arr n :: vs.flatten) := by
  subst hn; exact wf_arr_flatten vs h

theorem wf_arr_scalars (ts : List Tok) (h : ∀ t ∈ ts, tokWf t = true) : WfToks (Tok.arr ts.length :: ts) := by
  have := wf_arr_flatten (ts.map fun t => [t]) (by
    intro v hv
    rw [List.mem_map] at hv
    obtain ⟨t, ht, rfl⟩ := hv
    exact wf_single t (h t ht))
  rw [List.length_map, flatten_map_singleton] at this
  exact this

theorem wf_arr_map {α : Type} (xs : List α) (f : α → Tok) (h : ∀ x, tokWf (f x) = true) :
    WfToks (Tok.arr xs.length :: xs.map f) := by
  have := wf_arr_scalars (xs.map f) (by
    intro t ht
    rw [List.mem_map] at ht
    obtain ⟨x, _, rfl⟩ := ht
    exact h x)
  rw [List.length_map] at this
  exact this

theorem wf_bulkList (xs : List Bytes) : WfToks (bulkList xs) := wf_arr_map xs Tok.bulk fun _ => rfl

theorem wf_arr_pairs {α : Type} (xs : List α) (f g : α → Tok) (hf : ∀ x, tokWf (f x) = true)
    (hg : ∀ x, tokWf (g x) = true) : WfToks (Tok.arr (2 * xs.length) :: xs.flatMap fun x => [f x, g x]) := by
  have hl : ∀ xs : List α, (xs.flatMap fun x => [f x, g x]).length = 2 * xs.length := by
    intro xs
    induction xs with
    | nil => rfl
    | cons x xs ih => rw [List.flatMap_cons, List.length_append, ih, List.length_cons]; simp only [List.length_cons, List.length_nil]; omega
  have := wf_arr_scalars (xs.flatMap fun x => [f x, g x]) (by
    intro t ht
    rw [List.mem_flatMap] at ht
    obtain ⟨x, _, hx⟩ := ht
    simp only [List.mem_cons, List.mem_nil_iff, or_false] at hx
    rcases hx with rfl | rfl
    · exact hf x
    · exact hg x)
  rw [hl, Int.natCast_mul] at this
  exact this

theorem wf_cursorReply (c : Bytes) (v : List Tok) (hv : WfToks v) : WfToks ([Tok.arr 2, Tok.bulk c] ++ v) := by
  have := wf_arr_flatten [[Tok.bulk c], v] (by
    intro w hw
    simp only [List.mem_cons, List.mem_nil_iff, or_false] at hw
    rcases hw with rfl | rfl
    · exact wf_single _ rfl
    · exact hv)
  simpa using this

theorem wf_panic_nil (s : MState) : WfOut { store := s, toks := [], panicked := true } :=
  wf_single (Tok.err 1) rfl

theorem wf_done (s : MState) (ts : List Tok) (h : WfToks ts) : WfOut (done s ts) := h

theorem wf_done_tok (s : MState) (t : Tok) (h : tokWf t = true) : WfOut (done s [t]) := wf_single t h

/-- `call`: `.panic` gives the single recovered error; everything else (including `.hang`, which the
    model hands to the continuation like any other result) is the continuation's reply -/
theorem wf_call (r : MState × Out) (k : MState → Out → BodyOut)
    (hk : r.2 ≠ Out.panic → WfOut (k r.1 r.2)) : WfOut (call r k) := by
  obtain ⟨s, o⟩ := r
  unfold call
  split
  · exact wf_panic_nil _
  · rename_i s' o' hne heq
    cases heq
    exact hk (fun h => hne h)

theorem wf_call_all (r : MState × Out) (k : MState → Out → BodyOut)
    (hk : ∀ s o, WfOut (k s o)) : WfOut (call r k) :=
  wf_call r k (fun _ => hk _ _)

theorem wf_errReply : WfRes errReply := wf_single _ rfl

theorem wfOut_ite (c : Prop) [Decidable c] {a b : BodyOut} (ha : WfOut a) (hb : WfOut b) :
    WfOut (if c then a else b) := by
  split <;> assumption

theorem wfRes_ite (c : Prop) [Decidable c] (a b : HRes) (ha : WfRes a) (hb : WfRes b) :
    WfRes (if c then a else b) := by
  split <;> assumption

end NodisVerif.Proofs.C16Handlers

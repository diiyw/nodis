import NodisVerif.Translated.Snapshot
import NodisVerif.Model.Resp
import NodisVerif.Proofs.GoLibLemmas
import NodisVerif.Proofs.C15Upper
/-
  internal/strings.ToUpper as translated (snapshot) is the model's `Resp.upper`; on ASCII input that is the bytewise map of
  a–z to A–Z.
  (On other input it is NOT a case mapping at all: it writes the low byte of each rune at the rune's offset and
  leaves zeros behind it; see the examples in translated/strings.lean.)
-/
namespace NodisVerif.SnapStrings
open NodisVerif NodisVerif.GoLib

def upByte (c : UInt8) : UInt8 := if 97 ≤ c ∧ c ≤ 122 then c - 32 else c

def isAscii (v : Bytes) : Prop := ∀ c ∈ v, c < 128

/-- the body of ToUpper's loop, as the translator emits it -/
def step (x : Int × Int) (s : Bytes) : M (ForInStep Bytes) :=
  if (decide (97 ≤ x.snd) && decide (x.snd ≤ 122)) = true then do
    let r ← setIdx s x.fst (wrap IT.u8 (wrap IT.i32 (x.snd - 32)))
    pure (ForInStep.yield r)
  else do
    let r ← setIdx s x.fst (wrap IT.u8 x.snd)
    pure (ForInStep.yield r)

theorem upByte_ascii (c : UInt8) (h : c < 128) : upByte c < 128 := by
  have : ∀ n : Fin 256, n.val < 128 → (upByte (UInt8.ofNat n.val)).toNat < 128 := by decide +kernel
  have := this ⟨c.toNat, c.toNat_lt⟩ h
  simp only [UInt8.ofNat_toNat] at this
  exact this

theorem upByte_idem (c : UInt8) : upByte (upByte c) = upByte c := by
  have : ∀ n : Fin 256, upByte (upByte (UInt8.ofNat n.val)) = upByte (UInt8.ofNat n.val) := by decide +kernel
  have := this ⟨c.toNat, c.toNat_lt⟩
  simpa using this

theorem upByte_only_lower (c : UInt8) (h : ¬ (97 ≤ c ∧ c ≤ 122)) : upByte c = c := by simp [upByte, h]

theorem decodeRune_eq_model : GoLib.decodeRune = Resp.decodeRune := by
  funext b
  unfold GoLib.decodeRune Resp.decodeRune
  rfl

/-- every leaf of `decodeRune`'s decision tree that reports width `k` has matched `k` bytes -/
theorem decodeRune_width (b0 : UInt8) (rest : Bytes) :
    1 ≤ (decodeRune (b0 :: rest)).2 ∧ (decodeRune (b0 :: rest)).2 ≤ (b0 :: rest).length := by
  generalize hb : b0 :: rest = b
  -- one goal per leaf, the matched bytes in the pattern of `b`
  fun_cases decodeRune b
  · cases hb
  all_goals simp only [List.length_cons]
  all_goals omega

/-- the byte ToUpper writes for rune r (as in the model: `(if 97 ≤ r ≤ 122 then r - 32 else r) % 256`) -/
def upRune (r : Nat) : UInt8 := UInt8.ofNat ((if 97 ≤ r ∧ r ≤ 122 then r - 32 else r) % 256)

theorem step_general (done rest : Bytes) (z : UInt8) (r : Nat) :
    step ((done.length : Int), (r : Int)) (done ++ z :: rest) = .ok (ForInStep.yield (done ++ upRune r :: rest)) := by
  have hb : (0 : Int) ≤ (done.length : Int) ∧ (done.length : Int) < ((done ++ z :: rest).length : Int) := by
    simp only [List.length_append, List.length_cons]; omega
  have hset : ∀ x : Int, setIdx (done ++ z :: rest) (done.length : Int) x = .ok (done ++ byteOf x :: rest) := by
    intro x; simp only [setIdx, hb, and_self, if_true, pure, Except.pure]; simp
  -- Go's `uint8(k)` of a natural number
  have h8 (k : Nat) : byteOf (wrap IT.u8 (k : Int)) = UInt8.ofNat (k % 256) := by
    rw [wrap_u8, byteOf, Int.emod_emod, Int.toNat_emod (Int.natCast_nonneg k) (by decide)]; rfl
  have h1 : (decide ((97 : Int) ≤ r) && decide ((r : Int) ≤ 122)) = decide (97 ≤ r ∧ r ≤ 122) := by
    rw [Bool.decide_and]
    congr 1 <;> exact decide_eq_decide.mpr (by omega)
  unfold step
  by_cases hr : 97 ≤ r ∧ r ≤ 122
  · have h32 : wrap IT.i32 ((r : Int) - 32) = ((r - 32 : Nat) : Int) := by rw [wrap_i32]; split <;> omega
    simp only [h1, decide_eq_true hr, if_true, hset, bind, Except.bind, pure, Except.pure, h32, h8, upRune, if_pos hr]
  · simp only [h1, decide_eq_false hr, Bool.false_eq_true, if_false, hset, bind, Except.bind, pure, Except.pure, h8,
      upRune, if_neg hr]

theorem loop_general : ∀ (fuel : Nat) (b done : Bytes), b.length ≤ fuel →
    forIn (m := M) (runesAux b done.length fuel) (done ++ List.replicate b.length 0) step
      = .ok (done ++ Resp.upperAux b fuel)
  | 0, b, done, h => by
    have : b = [] := List.length_eq_zero_iff.mp (by omega)
    subst this
    cases done <;> simp [runesAux, Resp.upperAux, pure, Except.pure]
  | fuel + 1, [], done, _ => by simp [runesAux, Resp.upperAux, pure, Except.pure]
  | fuel + 1, b0 :: rest, done, h => by
    have hw := decodeRune_width b0 rest
    rcases hd : decodeRune (b0 :: rest) with ⟨r, w⟩
    rw [hd] at hw
    simp only [List.length_cons] at hw h
    have hm : Resp.decodeRune (b0 :: rest) = (r, w) := by rw [← decodeRune_eq_model]; exact hd
    have hrest : rest.length = (w - 1) + ((b0 :: rest).drop w).length := by
      simp only [List.length_drop, List.length_cons]; omega
    simp only [runesAux, hd, Resp.upperAux, hm, List.forIn_cons, List.length_cons, List.replicate_succ]
    rw [step_general]
    simp only [bind, Except.bind]
    have ih := loop_general fuel ((b0 :: rest).drop w) (done ++ upRune r :: List.replicate (w - 1) 0)
      (by simp only [List.length_drop, List.length_cons]; omega)
    have hlen : (done ++ upRune r :: List.replicate (w - 1) 0).length = done.length + w := by
      simp only [List.length_append, List.length_cons, List.length_replicate]; omega
    rw [hlen] at ih
    have hbuf : done ++ upRune r :: List.replicate rest.length 0 =
        (done ++ upRune r :: List.replicate (w - 1) 0) ++ List.replicate ((b0 :: rest).drop w).length 0 := by
      rw [hrest, List.replicate_append_replicate.symm]; simp
    rw [hbuf, ih]
    simp [upRune]

theorem upperAux_fuel : ∀ (fuel : Nat) (b : Bytes), b.length ≤ fuel →
    Resp.upperAux b (fuel + 1) = Resp.upperAux b fuel ∧ (Resp.upperAux b fuel).length = b.length
  | 0, b, h => by
    have : b = [] := List.length_eq_zero_iff.mp (by omega)
    subst this; simp [Resp.upperAux]
  | fuel + 1, [], _ => by simp [Resp.upperAux]
  | fuel + 1, b0 :: rest, h => by
    have hw := decodeRune_width b0 rest
    rcases hd : decodeRune (b0 :: rest) with ⟨r, w⟩
    rw [hd] at hw
    simp only [List.length_cons] at hw h
    have hm : Resp.decodeRune (b0 :: rest) = (r, w) := by rw [← decodeRune_eq_model]; exact hd
    have ih := upperAux_fuel fuel ((b0 :: rest).drop w) (by simp only [List.length_drop, List.length_cons]; omega)
    constructor
    · simp only [Resp.upperAux, hm]
      rw [ih.1]
    · simp only [Resp.upperAux, hm, List.length_cons, List.length_append, List.length_replicate, ih.2, List.length_drop]
      omega

/-- **`ToUpper` (as translated) is the model's `Resp.upper`, for every input, and never panics** -/
theorem ToUpper_eq_model (v : Bytes) : Snap.strings.ToUpper v = .ok (Resp.upper v) := by
  have hm : makeBytes (len v) = .ok (List.replicate v.length 0) := makeBytes_ok (Int.natCast_nonneg _)
  have hl := loop_general v.length v [] (Nat.le_refl _)
  simp only [List.length_nil, List.nil_append] at hl
  have hf := upperAux_fuel v.length v (Nat.le_refl _)
  have key : Snap.strings.ToUpper v =
      (makeBytes (len v) >>= fun b => (forIn (runes v) b step >>= fun s => pure s)) := rfl
  rw [key, hm]
  simp only [runes, bind, Except.bind, hl]
  simp only [Resp.upper, hf.1, pure, Except.pure]
  rw [List.take_of_length_le (by omega)]

/-- `ToUpper` on ASCII input: bytewise a–z ↦ A–Z, never panics -/
theorem ToUpper_ascii (v : Bytes) (h : isAscii v) : Snap.strings.ToUpper v = .ok (v.map upByte) := by
  rw [ToUpper_eq_model, Proofs.C15.upper_ascii' v h]
  rfl

end NodisVerif.SnapStrings

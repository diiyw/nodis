import NodisVerif.Proofs.C12Sched
/-
  C12: further commands as key transactions, to be used through `Cmd.raw`: for each, the side conditions and
  nil-safety of its form (the forms and the equations with the model's implementation are in Proofs/KeyTxApi.lean).
-/
namespace NodisVerif.Proofs.C11
open NodisVerif.Store NodisVerif.Codec NodisVerif.Spec.Persist
open NodisVerif.Proofs.AListLemmas NodisVerif.Proofs.AListLemmas2 NodisVerif.Proofs.C11AList

theorem setExForm_ok (key value : Bytes) (e : Int) (he : inInt64 e = true) : (setExForm key value e).OK := by
  refine ⟨(fun h => nomatch h), (fun w h => by cases h; exact good_str []), fun w e' _ _ => ?_⟩
  show (decSetEx key value e w e').GoodA
  unfold decSetEx
  apply Cmd.goodA_strWrite
  intro x v' e'' ops r hx
  simp only [Option.some.injEq, Prod.mk.injEq] at hx
  obtain ⟨rfl, rfl, _, _⟩ := hx
  exact ⟨(fun w hw => by cases hw; exact good_str _), (fun e1 he1 => by cases he1; exact he)⟩

theorem setExForm_nilSafe (key value : Bytes) (e : Int) : (setExForm key value e).NilSafe :=
  nilSafe_of_noNil _
    (fun v e' hv => show (decSetEx key value e v e').NoNil from
      decStrWrite_noNil (fun _ _ _ _ _ h => by cases h; exact nofun) hv e')
    (fun _ h0 => by cases h0; exact nofun)

theorem readForm_ok (f : TxForm) (_hw : f.write = false) (hc : f.ctor = none)
    (hk : ∀ v e, ∃ r, f.dec v e = .keep r) : f.OK := by
  refine ⟨fun _ => hc, (fun v h => by rw [hc] at h; cases h), fun v e _ _ => ?_⟩
  obtain ⟨r, hr⟩ := hk v e
  rw [hr]; trivial

theorem readForm_nilSafe (f : TxForm) (hc : f.ctor = none) (hk : ∀ v e, ∃ r, f.dec v e = .keep r) :
    f.NilSafe := by
  apply nilSafe_of
  · intro v e hv
    obtain ⟨r, hr⟩ := hk v e
    rw [hr]; exact hv
  · intro v0 h0; rw [hc] at h0; cases h0

theorem bitCountForm_keep (key : Bytes) (start stop : Int) (bit : Bool) (v : Val) (e : Int) :
    ∃ r, (bitCountForm key start stop bit).dec v e = .keep r := by
  cases v <;> exact ⟨_, rfl⟩

theorem expireCondForm_ok (key : Bytes) (ts : Int) (cond : Int → Bool) (hts : inInt64 ts = true) :
    (expireCondForm key ts cond).OK :=
  ⟨(fun h => nomatch h), (fun _ h => nomatch h), fun v e _ _ => Cmd.goodA_expire key ts cond hts v e⟩

theorem expireCondForm_nilSafe (key : Bytes) (ts : Int) (cond : Int → Bool) : (expireCondForm key ts cond).NilSafe :=
  nilSafe_of_noNil _ (fun v e _ => show (decExpire key ts cond v e).NoNil from noNil_ite _ trivial trivial) nofun

theorem hsetnxForm_ok (key field value : Bytes) (hb : field.length + value.length + 10 < 2 ^ 63) :
    (hsetnxForm key field value).OK := by
  refine ⟨(fun h => nomatch h), (fun w h => by cases h; exact good_emptyHash), fun w e hg _ => ?_⟩
  cases w with
  | hash h =>
    show (decHsetnx key field value (.hash h) e).GoodA
    unfold decHsetnx
    simp only
    split
    · trivial
    · exact ⟨(fun w hw => by cases hw; exact good_hset h field value hg hb), (fun e he => by cases he)⟩
  | _ => trivial

theorem hsetnxForm_nilSafe (key field value : Bytes) : (hsetnxForm key field value).NilSafe := by
  refine nilSafe_of_noNil _ (fun v e _ => ?_) (fun _ h0 => by cases h0; exact nofun)
  cases v with
  | hash h => exact noNil_ite _ trivial trivial
  | _ => exact trivial

theorem zaddNXForm_ok (key m : Bytes) (sc : F64) (hn : F64.isNaN sc = false) (hb : m.length + 8 < 2 ^ 63) :
    (zaddNXForm key m sc).OK := by
  refine ⟨(fun h => nomatch h), (fun w h => by cases h; exact good_emptyZSet), fun w e hg _ => ?_⟩
  cases w with
  | zset z =>
    refine ⟨(fun w hw => ?_), (fun e he => by cases he)⟩
    cases hw
    unfold DsZSet.zAddNX
    split
    · exact good_zadd z m sc hg hn hb
    · exact hg
  | _ => trivial

theorem zaddNXForm_nilSafe (key m : Bytes) (sc : F64) : (zaddNXForm key m sc).NilSafe :=
  nilSafe_of_noNil _ (fun v _ _ => by cases v <;> exact trivial) (fun _ h0 => by cases h0; exact nofun)

end NodisVerif.Proofs.C11

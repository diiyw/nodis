import NodisVerif.Proofs.SkiplistSpecs
/-
  `skiplist.remove(member, score)` (Model/Skiplist.lean `remove`) refines `DsZSet.slRemove` on the level-0 chain.
-/
namespace NodisVerif.Skiplist.Remove
open NodisVerif.DsZSet (Item nodeLt slRemove)
open NodisVerif.Proofs.C04 (ILt)
open NodisVerif.Proofs.ZSetLemmas (Good itemLt_iff itemLt_trans)
open NodisVerif.Proofs.AListLemmas (lt_irrefl)

theorem less_not_match (m : Bytes) (s : F64) (x : Item) (hlt : nodeLt x s m = true) :
    ¬ (F64.eq s x.1 = true ∧ x.2 = m) := by
  rintro ⟨he, hm⟩
  subst hm
  simp [nodeLt, F64.lt, F64.eq, lt_irrefl] at hlt he
  omega

theorem after_not_match (m : Bytes) (s : F64) (a x : Item) (ha : Good a) (hx : Good x) (hax : ILt a x)
    (hna : nodeLt a s m = false) : ¬ (F64.eq s x.1 = true ∧ x.2 = m) := by
  rintro ⟨he, hm⟩
  have hs : F64.isNaN s = false := by
    simp [F64.eq] at he; exact he.1.1
  have hk : F64.key s = F64.key x.1 := by
    simp [F64.eq] at he; exact he.2
  have hg : Good (s, m) := hs
  have h1 := (itemLt_iff a x ha hx).1 hax
  have h2 : ¬ (F64.key a.1 < F64.key s ∨ (F64.key a.1 = F64.key s ∧ Bytes.lt a.2 m = true)) := by
    rw [← itemLt_iff a (s, m) ha hg]
    simp [NodisVerif.itemLt, hna]
  rw [hm, ← hk] at h1
  exact h2 h1

theorem slRemove_split (m : Bytes) (s : F64) : ∀ (X : List Item) (a : Item) (Y : List Item),
    (∀ y ∈ X, nodeLt y s m = true) → nodeLt a s m = false →
    slRemove (X ++ a :: Y) m s = X ++ (if F64.eq s a.1 = true ∧ a.2 = m then Y else a :: Y) := by
  intro X
  induction X with
  | nil => intro a Y _ ha; simp [slRemove, ha]
  | cons x X ih =>
    intro a Y hX ha
    simp only [List.cons_append, slRemove, hX x (by simp), if_true]
    rw [ih a Y (fun y hy => hX y (by simp [hy])) ha]

theorem slRemove_all_less (m : Bytes) (s : F64) : ∀ (X : List Item),
    (∀ y ∈ X, nodeLt y s m = true) → slRemove X m s = X := by
  intro X
  induction X with
  | nil => intro _; rfl
  | cons x X ih =>
    intro hX
    simp only [slRemove, hX x (by simp), if_true]
    rw [ih (fun y hy => hX y (by simp [hy]))]

end NodisVerif.Skiplist.Remove

namespace NodisVerif.Skiplist
open NodisVerif.DsZSet (Item nodeLt slRemove)
open NodisVerif.Proofs.C04 (ILt)
open NodisVerif.Proofs.ZSetLemmas (Good)
open Remove

/-- `skiplist.remove(member, score)` never panics on a sound skiplist, keeps the invariant (and any predicate that
    single removals keep), acts on the level-0 chain as `slRemove`, and reports whether an item with an equal score and
    the member was there -/
theorem remove_spec {sl : SL} (h : Inv sl) (m : Bytes) (s : F64) {P : SL → Prop} (hP : StepInv P) (h0 : P sl) :
    ∃ sl' b, remove sl m s = .ok (sl', b) ∧ Inv sl' ∧ P sl' ∧ abs sl' = DsZSet.slRemove (abs sl) m s ∧
      (b = true ↔ ∃ x ∈ abs sl, F64.eq s x.1 = true ∧ x.2 = m) := by
  obtain ⟨c, hc⟩ := h
  have hpw := List.pairwise_map.1 hc.sorted
  -- the search stops behind the nodes that are "less"
  have hcond := condUpTo_less hc m s
  obtain ⟨x, acc, update, rank, l0, hrun, hupd, _, hl0, hl0f⟩ := search_split hc _ _ hcond
  obtain ⟨hC1, hC2⟩ := hcond.split hc (q := fun a => nodeLt a s m) (fun _ _ => rfl)
  obtain ⟨C1, C2, hsp, hC1, hC2, hupd, hl0f⟩ : ∃ C1 C2, c = C1 ++ C2 ∧
      (∀ y ∈ C1, nodeLt (itemAt sl.heap y) s m = true) ∧ (∀ y ∈ C2, nodeLt (itemAt sl.heap y) s m = false) ∧
      UpdateFor sl.heap sl.level (0 :: C1) update ∧ l0.forward = C2.head? :=
    ⟨_, _, (List.take_append_drop _ c).symm, hC1, hC2, hupd, hl0f⟩
  have habs : abs sl = c.map (itemAt sl.heap) := abs_eq hc
  have hless : ∀ y ∈ C1.map (itemAt sl.heap), nodeLt y s m = true := by
    intro y hy
    obtain ⟨n, hn, e⟩ := List.mem_map.1 hy
    rw [← e]; exact hC1 n hn
  cases C2 with
  | nil =>
    simp only [List.head?_nil] at hl0f
    refine ⟨sl, false, ?_, ⟨c, hc⟩, h0, ?_, ?_⟩
    · simp [remove, hrun, hl0, hl0f, bind, Except.bind, pure, Except.pure]
    · rw [habs, hsp, List.append_nil, slRemove_all_less m s _ hless]
    · constructor
      · intro e; cases e
      · rintro ⟨y, hy, hmatch⟩
        rw [habs, hsp, List.append_nil] at hy
        exact absurd hmatch (less_not_match m s y (hless y hy))
  | cons n B =>
    simp only [List.head?_cons] at hl0f
    have hnc : n ∈ c := by rw [hsp]; simp
    have hnlt := hc.bound n hnc
    have hnd : sl.heap[n]? = some sl.heap[n] := by simp [hnlt]
    have hitem : itemAt sl.heap n = (sl.heap[n].score, sl.heap[n].member) := itemAt_of_getElem hnd
    have hnl : nodeLt (itemAt sl.heap n) s m = false := hC2 n (by simp)
    have hsplit : abs sl = C1.map (itemAt sl.heap) ++ itemAt sl.heap n :: B.map (itemAt sl.heap) := by
      rw [habs, hsp]; simp
    have hrem := slRemove_split m s _ (itemAt sl.heap n) (B.map (itemAt sl.heap)) hless hnl
    rw [← hsplit] at hrem
    by_cases hmatch : F64.eq s sl.heap[n].score = true ∧ sl.heap[n].member = m
    · obtain ⟨sl', hrm, hc', _, _, hitems, _⟩ := removeNode_spec hc C1 n B hsp update hupd
      refine ⟨sl', true, ?_, ⟨_, hc'⟩, hP (hsp ▸ hc) hupd hrm h0, ?_, ?_⟩
      · simp [remove, hrun, hl0, hl0f, (getNode_ok_iff sl.heap n _).2 hnd, hmatch, hrm, bind, Except.bind, pure,
          Except.pure]
      · rw [hrem, abs_eq hc']
        have hm' : F64.eq s (itemAt sl.heap n).1 = true ∧ (itemAt sl.heap n).2 = m := by rw [hitem]; exact hmatch
        rw [if_pos hm', ← List.map_append, hitems]
      · constructor
        · intro _
          refine ⟨itemAt sl.heap n, by rw [hsplit]; simp, ?_⟩
          rw [hitem]; exact hmatch
        · intro _; rfl
    · refine ⟨sl, false, ?_, ⟨c, hc⟩, h0, ?_, ?_⟩
      · simp [remove, hrun, hl0, hl0f, (getNode_ok_iff sl.heap n _).2 hnd, hmatch, bind, Except.bind, pure,
          Except.pure]
      · have hm' : ¬ (F64.eq s (itemAt sl.heap n).1 = true ∧ (itemAt sl.heap n).2 = m) := by rw [hitem]; exact hmatch
        rw [hrem, if_neg hm', ← hsplit]
      · constructor
        · intro e; cases e
        · rintro ⟨y, hy, hym⟩
          rw [hsplit] at hy
          rcases List.mem_append.1 hy with hy | hy
          · exact (less_not_match m s y (hless y hy) hym).elim
          · rcases List.mem_cons.1 hy with e | hy
            · subst e; rw [hitem] at hym; exact (hmatch hym).elim
            · obtain ⟨z, hz, e⟩ := List.mem_map.1 hy
              subst e
              have hzc : z ∈ c := by rw [hsp]; simp [hz]
              rw [hsp] at hpw
              have h1 := (List.pairwise_append.1 hpw).2.1
              have h2 := (List.pairwise_cons.1 h1).1 z hz
              exact (after_not_match m s _ _ (hc.good n hnc) (hc.good z hzc) h2 hnl hym).elim

theorem remove_refines {sl : SL} (h : Inv sl) (m : Bytes) (s : F64) :
    ∃ sl' b, remove sl m s = .ok (sl', b) ∧ Inv sl' ∧ abs sl' = DsZSet.slRemove (abs sl) m s ∧
      (b = true ↔ ∃ x ∈ abs sl, F64.eq s x.1 = true ∧ x.2 = m) := by
  obtain ⟨sl', b, h1, h2, _, h3⟩ := remove_spec h m s stepInv_true trivial
  exact ⟨sl', b, h1, h2, h3⟩

end NodisVerif.Skiplist

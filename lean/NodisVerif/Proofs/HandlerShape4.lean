import NodisVerif.Proofs.HandlerShape
import NodisVerif.Model.Handler4
/-
  `Handler4.table4`: the two radius queries, whose argument parsing is a `Pre` block, in normal form; the other handlers
  (no call, or a closure that reads the store itself behind a one-line arity check) enter `table4_elim` by name.
-/
namespace NodisVerif.Proofs.HandlerShape
open NodisVerif NodisVerif.Resp NodisVerif.Handler NodisVerif.Handler3 NodisVerif.Handler4 NodisVerif.Store NodisVerif.Api

/-- the closures of GEORADIUS and GEORADIUSBYMEMBER -/
inductive Special4 : HRes → Prop
  | radius (args : List Bytes) (key : Bytes) (lon lat : F64) :
      Special4 (.exec fun s now ch =>
        let (s, okk) := readKey s now key
        if !okk then done s [.arr 0] else
        if outOfRange lon lat then done s [.nullArr] else
        match asZSet s key with
        | none => panicOut s
        | some z => done s (radiusReply z (radiusOpts args) none ch))
  | radiusByMember (args : List Bytes) (key member : Bytes) :
      Special4 (.exec fun s now ch =>
        let (s, okk) := readKey s now key
        if !okk then done s [.arr 0] else
        match asZSet s key with
        | none => panicOut s
        | some z =>
          match DsZSet.zScore z member with
          | none => done s [.nullArr]
          | some sc =>
            let (a, b) := scorePos sc
            if outOfRange b a then done s [.nullArr]
            else done s (radiusReply z (radiusOpts args) (some zeroDist) ch))

theorem shape_geoRadiusH (args : List Bytes) : Shape Special4 (geoRadiusH args) := by
  unfold geoRadiusH
  split
  · exact .bind fun _ => .bind fun _ => .bind fun _ => .bind fun _ => .special (.radius ..)
  · exact .err

theorem shape_geoRadiusByMemberH (args : List Bytes) : Shape Special4 (geoRadiusByMemberH args) := by
  unfold geoRadiusByMemberH
  split
  · exact .bind fun _ => .bind fun _ => .special (.radiusByMember ..)
  · exact .err

theorem table4_elim {P : String → List Bytes → HRes → Prop}
    (shape : ∀ {name args r}, Shape Special4 r → P name args r)
    (client : ∀ args, P "CLIENT" args (client args)) (config : ∀ args, P "CONFIG" args (config args))
    (info : ∀ args, P "INFO" args info) (quit : ∀ args, P "QUIT" args quit) (save : ∀ args, P "SAVE" args save)
    (geoAdd : ∀ args, P "GEOADD" args (geoAddH args)) (geoHash : ∀ args, P "GEOHASH" args (geoHashH args))
    (geoPos : ∀ args, P "GEOPOS" args (geoPosH args)) (geoDist : ∀ args, P "GEODIST" args (geoDistH args))
    (name : String) (args : List Bytes) (r : HRes) (h : table4 name args = some r) : P name args r := by
  unfold table4 at h
  split at h
  all_goals cases h
  · exact client _
  · exact config _
  · exact info _
  · exact quit _
  · exact save _
  · exact geoAdd _
  · exact geoHash _
  · exact geoPos _
  · exact geoDist _
  · exact shape (shape_geoRadiusH _)
  · exact shape (shape_geoRadiusByMemberH _)

end NodisVerif.Proofs.HandlerShape

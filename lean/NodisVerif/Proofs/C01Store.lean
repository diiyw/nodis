import NodisVerif.Proofs.StoreLive
/-
  C01 helper lemmas, store level: what `delKey` and the record updates do to the *logical* content of the keyspace
  index (Proofs/StoreLive.lean), for every store state; the logical keyspace as a list.
-/
namespace NodisVerif.Proofs.C01
open NodisVerif
open NodisVerif.Proofs.AListLemmas NodisVerif.Proofs.AListLemmas2
open Store Api

theorem sameDisk_modMeta (s : MState) (k : Bytes) (f : Meta → Meta) : SameDisk s (modMeta s k f) := by
  unfold modMeta
  cases getMeta s k with
  | none => exact ⟨rfl, rfl⟩
  | some m => exact ⟨rfl, rfl⟩

theorem sameDisk_emit (s : MState) (op : FeedOp) : SameDisk s (emit s op) := by
  unfold emit; split <;> exact ⟨rfl, rfl⟩

theorem sameDisk_signal (s : MState) (k : Bytes) : SameDisk s (signal s k) :=
  sameDisk_modMeta s k Meta.markModified

theorem getMeta_commit (s : MState) (k : Bytes) : getMeta (commit s) k = getMeta s k := rfl

theorem markModified_expired (m : Meta) (now : Int) : m.markModified.expired now = m.expired now := rfl
theorem markModified_value (m : Meta) : m.markModified.value = m.value := rfl

theorem hot_commit {s : MState} {k : Bytes} {v : Val} {now : Int} (h : Hot s k v now) : Hot (commit s) k v now := h

theorem frameOn_lookup {K : List Bytes} {s s' : MState} (h : FrameOn K s s') (now : Int) (k' : Bytes) (hk : k' ∉ K) :
    lookup s' now k' = lookup s now k' := by
  unfold lookup
  rw [h.2.2 k' hk]
  cases getMeta s k' with
  | none => rfl
  | some m =>
    have : entryView s' k' m = entryView s k' m := by
      unfold entryView resolve
      rw [h.2.1 k' m hk]
    simp only [this]

theorem frameOn_writeKey {K : List Bytes} (s : MState) (now : Int) (k : Bytes) (mk : Option Val) (hk : k ∈ K) :
    FrameOn K s (writeKey s now k mk).1 :=
  frameOn_same (sameDisk_writeKey s now k mk) (fun k' h => getMeta_writeKey_other s now k mk k' (not_mem_ne hk h))

theorem frameOn_readKey {K : List Bytes} (s : MState) (now : Int) (k : Bytes) (hk : k ∈ K) :
    FrameOn K s (readKey s now k).1 :=
  frameOn_same (sameDisk_accessKey lockR_op s now k none)
    (fun k' h => getMeta_readKey_other s now k k' (not_mem_ne hk h))

theorem frameOn_emit {K : List Bytes} (s : MState) (op : FeedOp) : FrameOn K s (emit s op) :=
  frameOn_same (sameDisk_emit s op) (fun k' _ => getMeta_emit s op k')

theorem frameOn_signal {K : List Bytes} (s : MState) (k : Bytes) (hk : k ∈ K) : FrameOn K s (signal s k) :=
  frameOn_same (sameDisk_signal s k) (fun k' h => getMeta_signal_other s k k' (not_mem_ne hk h))

theorem lookup_delKey_same (s : MState) (now : Int) (k : Bytes) (h : IndexSorted s) : lookup (delKey s k) now k = none := by
  unfold lookup; rw [getMeta_delKey_same s k h]

theorem lookup_delKey_other (s : MState) (now : Int) (k k' : Bytes) (h : k' ≠ k) :
    lookup (delKey s k) now k' = lookup s now k' :=
  frameOn_lookup (frameOn_delKey (K := [k]) s k List.mem_cons_self) now k' (by simpa using h)

theorem get?_logical (s : MState) (now : Int) (h : IndexSorted s) (k : Bytes) :
    AList.get? (logical s now) k = lookup s now k := by
  unfold logical lookup getMeta
  rw [get?_map (fun k m => entryView s k m), get?_filter _ _ h]
  cases AList.get? s.index k with
  | none => rfl
  | some m =>
    cases he : m.expired now <;> simp [Option.filter, he]

theorem logical_sorted (s : MState) (now : Int) (h : IndexSorted s) : AList.Sorted (logical s now) := by
  unfold logical
  rw [sorted_iff_pairwise, List.pairwise_map]
  have := (sorted_iff_pairwise _).mp h
  exact (this.filter _).imp (fun {a b} hab => hab)

theorem logical_ext {s s' : MState} {now : Int} (h : IndexSorted s) (h' : IndexSorted s')
    (hl : ∀ k, lookup s' now k = lookup s now k) : logical s' now = logical s now := by
  apply ext_of_sorted _ _ (logical_sorted s' now h') (logical_sorted s now h)
  intro k
  rw [get?_logical s' now h', get?_logical s now h, hl]
theorem futureExp_keep (now : Int) (keep : Bool) : FutureExp now (if keep then none else some 0) := by
  intro x hx
  cases keep
  · cases hx; exact Or.inl rfl
  · cases hx

end NodisVerif.Proofs.C01

import NodisVerif.Proofs.C11Gc
/-
  C11: `reopen` (= `newStore` on the backend left behind).
-/
namespace NodisVerif.Proofs.C11
open NodisVerif.Store NodisVerif.Codec NodisVerif.Spec.Persist
open NodisVerif.Proofs.AListLemmas NodisVerif.Proofs.AListLemmas2 NodisVerif.Proofs.C11AList

/-- the record `newStore` creates for a stored entry -/
def coldOf (e : DiskEntry) : Meta :=
  { exp := e.exp, value := none, state := 1, kid := e.kid, oid := e.oid, stored := some e.exp }

/-- the step function of `Store.reopen` (`reopen_eq`); Proofs/C13Recover.lean has its own copy -/
def reopenStep (acc : AList Meta × List (Bytes × Int)) (p : Bytes × DiskEntry) : AList Meta × List (Bytes × Int) :=
  (AList.set acc.1 p.2.name (coldOf p.2),
    match AList.get? acc.1 p.2.name with
    | some old => (match old.stored with | some oe => (p.2.name, oe) :: acc.2 | none => acc.2)
    | none => acc.2)

theorem reopen_eq (s : MState) :
    reopen s = { (s.disk.foldl reopenStep ([], [])).2.foldl (fun s p => diskDelete s p.1 p.2) s with
      index := (s.disk.foldl reopenStep ([], [])).1, closed := false, feed := [], signalled := [] } := by
  unfold reopen
  rfl

theorem reopen_fold (l : List (Bytes × DiskEntry)) (hnd : (l.map (·.2.name)).Nodup)
    (acc : AList Meta) (sh : List (Bytes × Int)) (hnone : ∀ p ∈ l, AList.get? acc p.2.name = none)
    (hs : AList.Sorted acc) :
    (l.foldl reopenStep (acc, sh)).2 = sh ∧ AList.Sorted (l.foldl reopenStep (acc, sh)).1 ∧
    (∀ p ∈ l, AList.get? (l.foldl reopenStep (acc, sh)).1 p.2.name = some (coldOf p.2)) ∧
    (∀ k, (∀ p ∈ l, p.2.name ≠ k) → AList.get? (l.foldl reopenStep (acc, sh)).1 k = AList.get? acc k) := by
  obtain ⟨⟨a1, a2⟩, a3, a4, _⟩ := Pass.fold_pass (fun p : Bytes × DiskEntry => p.2.name) reopenStep
    (fun a => a.2 = sh ∧ AList.Sorted a.1)
    (fun a p => AList.get? a.1 p.2.name = none) (fun a p => AList.get? a.1 p.2.name = some (coldOf p.2))
    (fun a k => AList.get? a.1 k = AList.get? acc k)
    (by
      rintro a p ⟨h1, h2⟩ h0
      refine ⟨⟨by simp only [reopenStep, h0, h1], set_preserves_sorted _ h2 _ _⟩,
        by simp only [reopenStep, get?_set, if_true], fun q hq => ?_, fun k hk => ?_⟩
      · simp only [reopenStep, get?_set, if_neg hq]; exact ⟨id, id⟩
      · simp only [reopenStep, get?_set, if_neg hk]; exact id)
    l hnd (acc, sh) ⟨rfl, hs⟩ hnone
  exact ⟨a1, a2, a3, fun k hk => a4 k (fun hmem => by
    obtain ⟨p, hp, e⟩ := List.mem_map.mp hmem
    exact hk p hp e) rfl⟩

theorem disk_names_nodup {s : MState} {x : Option Bytes} {t : Int} (h : StoreInvX s x t) :
    (s.disk.map (·.2.name)).Nodup := by
  have hp := (sorted_iff_pairwise _).mp h.diskSorted
  unfold List.Nodup
  rw [List.pairwise_map]
  refine List.Pairwise.imp_of_mem ?_ hp
  intro a b ha hb hab hn
  have ga := get?_of_mem _ h.diskSorted a.1 a.2 ha
  have gb := get?_of_mem _ h.diskSorted b.1 b.2 hb
  have := (h.ent_unique ga gb hn).1
  exact lt_ne _ _ hab this

structure ReopenFacts (s : MState) : Prop where
  disk : (reopen s).disk = s.disk
  peb : (reopen s).pebble = s.pebble
  nid : (reopen s).nextId = s.nextId
  fs : (reopen s).failSet = s.failSet
  sorted : AList.Sorted (reopen s).index
  /-- `reopen` never meets two entries for one name: nothing is shadowed, nothing is deleted -/
  noShadow : (s.disk.foldl reopenStep ([], [])).2 = []
  hit : ∀ dk e, AList.get? s.disk dk = some e → AList.get? (reopen s).index e.name = some (coldOf e)
  miss : ∀ k, (∀ dk e, AList.get? s.disk dk = some e → e.name ≠ k) → AList.get? (reopen s).index k = none

theorem reopen_facts {s : MState} {x : Option Bytes} {t : Int} (h : StoreInvX s x t) : ReopenFacts s := by
  obtain ⟨r1, r2, r3, r4⟩ := reopen_fold s.disk (disk_names_nodup h) [] [] (fun _ _ => rfl) trivial
  have hre := reopen_eq s
  rw [r1] at hre
  simp only [List.foldl_nil] at hre
  refine ⟨by rw [hre], by rw [hre], by rw [hre], by rw [hre], by rw [hre]; exact r2, r1, ?_, ?_⟩
  · intro dk e he
    rw [hre]
    exact r3 (dk, e) (mem_of_get? _ _ _ he)
  · intro k hk
    rw [hre]
    show AList.get? (s.disk.foldl reopenStep ([], [])).1 k = none
    rw [r4 k (fun p hp => hk p.1 p.2 (get?_of_mem _ h.diskSorted p.1 p.2 hp))]
    rfl

theorem reopen_rec {s : MState} {x : Option Bytes} {t : Int} (h : StoreInvX s x t) {k : Bytes} {m : Meta}
    (hm : AList.get? (reopen s).index k = some m) :
    ∃ dk e, AList.get? s.disk dk = some e ∧ e.name = k ∧ m = coldOf e := by
  have f := reopen_facts h
  by_cases hex : ∃ dk e, AList.get? s.disk dk = some e ∧ e.name = k
  · obtain ⟨dk, e, he, hn⟩ := hex
    have := f.hit dk e he
    rw [hn, hm] at this
    exact ⟨dk, e, he, hn, by simpa using this⟩
  · have := f.miss k (fun dk e he hn => hex ⟨dk, e, he, hn⟩)
    rw [this] at hm; cases hm

theorem inv_reopen {s : MState} {x : Option Bytes} {t t' : Int} (h : StoreInvX s x t) :
    StoreInvX (reopen s) none t' := by
  have f := reopen_facts h
  refine ⟨f.sorted, by rw [f.disk]; exact h.diskSorted, ?_, ?_, ?_, by rw [f.nid]; exact h.idPos⟩
  · intro k m hm
    obtain ⟨dk, e, he, hn, rfl⟩ := reopen_rec h hm
    have q := h.ents dk e he
    rw [f.disk]
    refine ⟨by simp [coldOf, Meta.isOk], q.expR, (by intro v hv; cases hv), ?_, fun _ _ => rfl,
      (by intro _ _ _ v hv; cases hv)⟩
    intro e0 he0
    simp only [coldOf, Option.some.injEq] at he0
    subst he0
    exact ⟨e, by rw [← hn, ← q.key]; exact he, hn, rfl⟩
  · intro dk e he
    rw [f.disk] at he
    have q := h.ents dk e he
    exact ⟨q.key, q.expR, q.good, coldOf e, f.hit dk e he, rfl⟩
  · intro hp
    rw [f.peb] at hp
    have o := h.oids hp
    refine ⟨?_, ?_, ?_, ?_, ?_⟩
    · intro k m hm
      obtain ⟨dk, e, he, _, rfl⟩ := reopen_rec h hm
      rw [f.nid]; exact o.entR dk e he
    · intro k1 m1 k2 m2 h1 h2 ho
      obtain ⟨dk1, e1, he1, hn1, rfl⟩ := reopen_rec h h1
      obtain ⟨dk2, e2, he2, hn2, rfl⟩ := reopen_rec h h2
      rw [← hn1, ← hn2]
      exact o.entInj dk1 e1 dk2 e2 he1 he2 ho
    · intro dk e he
      rw [f.disk] at he; rw [f.nid]; exact o.entR dk e he
    · intro dk e k m he hm ho
      rw [f.disk] at he
      obtain ⟨dk2, e2, he2, hn2, rfl⟩ := reopen_rec h hm
      rw [← hn2]
      exact o.entInj dk e dk2 e2 he he2 ho
    · intro dk1 e1 dk2 e2 h1 h2
      rw [f.disk] at h1 h2
      exact o.entInj dk1 e1 dk2 e2 h1 h2

theorem decode_ne_nil {b : Bytes} {v : Val} (h : decodeEntry b = some v) : v ≠ .strNil := by
  unfold decodeEntry at h
  split at h
  · cases h
  · split at h
    · cases h; intro c; cases c
    · simp only [Option.map_eq_some_iff] at h; obtain ⟨_, _, rfl⟩ := h; intro c; cases c
    · simp only [Option.map_eq_some_iff] at h; obtain ⟨_, _, rfl⟩ := h; intro c; cases c
    · simp only [Option.map_eq_some_iff] at h; obtain ⟨_, _, rfl⟩ := h; intro c; cases c
    · simp only [Option.map_eq_some_iff] at h; obtain ⟨_, _, rfl⟩ := h; intro c; cases c
    · cases h

theorem lookup_reopen {s : MState} {now t' : Int} (h : StoreInvX s none now) (ht : now ≤ t')
    (hfl : ∀ k, RecFlushed s now k)
    (hnil : NilFreeAt s now)
    (k : Bytes) : lookup (reopen s) t' k = lookup s t' k := by
  have f := reopen_facts h
  by_cases hex : ∃ dk e, AList.get? s.disk dk = some e ∧ e.name = k
  · obtain ⟨dk, e, he, hn⟩ := hex
    have q := h.ents dk e he
    obtain ⟨m, hm, hst⟩ := q.owner
    rw [hn] at hm
    have r := h.recs k m hm
    have hdk : dk = encodeKey k e.exp := by rw [q.key, hn]
    -- the record is alive at `now` (a dead one has nothing stored) and its deadline is the entry's
    have hal : m.expired now = false := by
      cases hc : m.expired now with
      | false => rfl
      | true => have := (hfl k m hm).1 hc; rw [this] at hst; cases hst
    have hexp : m.exp = e.exp := by
      cases hv : m.value with
      | none => have := r.cold hal hv; rw [this] at hst; simpa using hst
      | some v =>
        obtain ⟨_, a, _⟩ := (hfl k m hm).2 hal v hv
        rw [a] at hst; simpa using hst
    have hrec := f.hit dk e he
    rw [hn] at hrec
    simp only [lookup, getMeta, hrec, hm, Option.bind_some]
    have hload : loadValue (reopen s) k (coldOf e) =
        (if s.pebble then (decodeEntry (encodeEntry e.val)).map fun v => (v, 0) else some (e.val, e.oid)) := by
      simp only [loadValue, diskGet, f.disk, f.peb, coldOf, ← hdk, he]
    unfold view
    have e1 : (coldOf e).isOk = true := by simp [coldOf, Meta.isOk]
    have e2 : (coldOf e).expired t' = m.expired t' := by
      unfold Meta.expired; rw [hexp]; rfl
    rw [e1, e2, r.ok]
    by_cases hc : (true && !m.expired t') = true
    · rw [if_pos hc, if_pos hc]
      have e3 : (coldOf e).value = none := rfl
      have e4 : (coldOf e).exp = m.exp := hexp.symm
      rw [e3, hload, e4]
      simp only []
      cases hv : m.value with
      | none =>
        simp only [loadValue, diskGet, hexp, ← hdk, he]
      | some v =>
        simp only []
        obtain ⟨ent, a, b, c⟩ := (hfl k m hm).2 hal v hv
        rw [hexp, ← hdk, he] at b
        cases b
        have hl := c.load (r.good v hv) (fun hp e' => hnil k m hm hal hp (e' ▸ hv)) (m' := m) (k := k)
          (by rw [hexp, ← hdk]; exact he)
        simp only [loadValue, diskGet, hexp, ← hdk, he] at hl
        rw [hl]
        rfl
    · rw [if_neg hc, if_neg hc]
  · have hnone := f.miss k (fun dk e he hn => hex ⟨dk, e, he, hn⟩)
    simp only [lookup, getMeta, hnone]
    cases hm : AList.get? s.index k with
    | none => rfl
    | some m =>
      simp only [Option.bind_some, Option.bind_none]
      have r := h.recs k m hm
      cases hc : m.expired now with
      | true => exact (view_dead (Meta.expired_mono m ht hc)).symm
      | false =>
        exfalso
        cases hv : m.value with
        | none =>
          obtain ⟨ent, a, b, _⟩ := r.stored _ (r.cold hc hv)
          exact hex ⟨_, ent, a, b⟩
        | some v =>
          obtain ⟨ent, a, b, _⟩ := (hfl k m hm).2 hc v hv
          exact hex ⟨_, ent, b, (h.ent_at b).1⟩

end NodisVerif.Proofs.C11

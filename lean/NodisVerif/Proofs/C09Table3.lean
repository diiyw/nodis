import NodisVerif.Proofs.HandlerShape3
import NodisVerif.Proofs.C09Shape
/-
  C09 (WATCH soundness), the handler table of Model/Handler3.lean (`Handler3.table3`: the sorted-set
  family, ZUNIONSTORE / ZINTERSTORE, SSCAN / HSCAN / ZSCAN) and its two fixtures (SADD, HSET): every
  closure a handler hands to `execCommand` tells the watchers about every key whose logical content it
  changes (`SignalsChanges`, C09Changed.lean). The handlers are in normal form (HandlerShape3.lean): what is shown
  here is `Frame [] st (b st now ch).store` for the special closures of the table (`Special3.signals`), from the
  `frame_*` table of C09Writers3.lean and `Frame []` lemmas for the read-only API functions.

  Exclusions: ZREM / ZREMRANGEBYRANK / ZREMRANGEBYSCORE, proved relative to the store (`tells_zRem_partial` …); see the
  comment at `zRemRegion`.
-/

namespace NodisVerif.Proofs.C08Step.T3
open Resp Server
open NodisVerif NodisVerif.Store NodisVerif.Api
open NodisVerif.Proofs.C09Writers
open NodisVerif.Handler3 (Pre)

/-- inside `T3` this name shadows `C08Step.frame_call2` (C09Table1.lean), whose continuation premise is a frame from
    every store; here it is a frame from `st` through `r.1`, which is what the special closures of the table give -/
theorem frame_call2 {st : MState} (r : MState × Out) (k : MState → Out → BodyOut)
    (h : Frame [] st r.1) (hk : ∀ o, Frame [] st (k r.1 o).store) : Frame [] st (Handler.call r k).store := by
  obtain ⟨s1, o⟩ := r
  unfold Handler.call
  split
  · next heq => cases heq; exact h
  · next heq => cases heq; exact hk _

/-- every value a `Pre` computation can deliver satisfies `Q` (for the argument parsers of the GEO reads,
    Proofs/GeoReads.lean; nothing in this file uses it) -/
def PreAll {α : Type} (Q : α → Prop) : Pre α → Prop
  | .ok a => Q a
  | _ => True

theorem preAll_ok {α : Type} {Q : α → Prop} {a : α} (h : Q a) : PreAll Q (Pre.ok a) := h
theorem preAll_err {α : Type} {Q : α → Prop} : PreAll Q (Pre.err : Pre α) := trivial

theorem preAll_bind {α β : Type} {Q : β → Prop} (x : Pre α) (f : α → Pre β) (h : ∀ a, PreAll Q (f a)) :
    PreAll Q (x >>= f) := by
  cases x with
  | ok a => exact h a
  | err => trivial
  | crash => trivial
  | unsup => trivial

theorem preAll_pure {α : Type} {Q : α → Prop} {a : α} (h : Q a) : PreAll Q (pure a : Pre α) := h

theorem frame_zcard (s : MState) (now : Int) (key : Bytes) : Frame [] s (Api.zcard s now key).1 :=
  frame_zread _ _ s now key
theorem frame_zmax (s : MState) (now : Int) (key : Bytes) : Frame [] s (Api.zmax s now key).1 :=
  frame_zread _ _ s now key
theorem frame_zmin (s : MState) (now : Int) (key : Bytes) : Frame [] s (Api.zmin s now key).1 :=
  frame_zread _ _ s now key
theorem frame_zscan (s : MState) (now : Int) (key : Bytes) (cursor : Int) (pat : Bytes) (count : Int) :
    Frame [] s (Api.zscan s now key cursor pat count).1 :=
  frame_zread _ _ s now key
theorem frame_sscan (s : MState) (now : Int) (key : Bytes) (cursor : Int) (pat : Bytes) (count : Int) :
    Frame [] s (Api.sscan s now key cursor pat count).1 :=
  frame_sread _ _ s now key
theorem frame_hscan (s : MState) (now : Int) (key : Bytes) (cursor : Int) (pat : Bytes) (count : Int) :
    Frame [] s (Api.hscan s now key cursor pat count).1 :=
  frame_hread _ _ s now key

theorem store_panicOut (s : MState) (ts : List Tok) : (Handler3.panicOut s ts).store = s := rfl

theorem store_writeMembers (s : MState) (o : Out) : (Handler3.writeMembers s o).store = s := by
  unfold Handler3.writeMembers
  split <;> rfl

theorem store_writeItems_go (s : MState) : ∀ (items : List (Option Item)) (acc : List Tok),
    (Handler3.writeItems.go s items acc).store = s
  | [], acc => by unfold Handler3.writeItems.go; rfl
  | none :: _, acc => by unfold Handler3.writeItems.go; rfl
  | some (sc, m) :: rest, acc => by
    unfold Handler3.writeItems.go
    exact store_writeItems_go s rest _

theorem store_writeItems (s : MState) (o : Out) : (Handler3.writeItems s o).store = s := by
  unfold Handler3.writeItems
  split
  · exact store_writeItems_go s _ _
  · rfl
  · rfl

theorem store_writeRange (ws : Bool) (s : MState) (o : Out) : (Handler3.writeRange ws s o).store = s := by
  unfold Handler3.writeRange
  split
  · exact store_writeItems s o
  · exact store_writeMembers s o

theorem frame_zAddBody (args : List Bytes) (key : Bytes) (itemStart : Int) (s : MState) (now : Int) (ch : Choice)
    (hp : s.pebble = true) : Frame [] s (Handler3.zAddBody args key itemStart s now ch).store := by
  unfold Handler3.zAddBody
  have r := Frame.refl [] s
  refine frame_ite_store r (frame_ite_store r (frame_ite_store r (frame_ite_store r ?_)))
  split
  · exact r
  · refine frame_ite_store ?_ (frame_call _ _ (fun _ _ => rfl) (frame_zaddPairs s hp now key _ _ _ _ _ _))
    split
    · exact r
    · exact frame_call _ _ (fun _ o => by split <;> rfl) (frame_zincrby s hp now key _ _)

theorem signals_rankBody (desc : Bool) (args : List Bytes) : SignalsChanges (Handler3.rankBody desc args) := by
  refine signals_of_frame fun st now _ hp => ?_
  unfold Handler3.rankBody
  split
  · split
    · exact frame_call _ _ (fun _ o => by split <;> rfl) (frame_zread _ _ st now _)
    · refine frame_call _ _ (fun _ o => by split <;> rfl) ?_
      cases desc
      · exact frame_zread _ _ st now _
      · exact frame_zread _ _ st now _
  · exact Frame.refl _ _

theorem preAll_limitP (args : List Bytes) {Q : Int × Int → Prop} (h : ∀ x, Q x) : PreAll Q (Handler3.limitP args) := by
  cases Handler3.limitP args <;> first | exact h _ | trivial

theorem frame_nextCursor {st s : MState} (card : MState → Int → Bytes → Api.R)
    (hcard : ∀ s now key, Frame [] s (card s now key).1) (now : Int) (key : Bytes) (next : Int)
    (k : MState → Int → BodyOut) (hk : ∀ s n, (k s n).store = s) (h : Frame [] st s) :
    Frame [] st (Handler3.nextCursor card s now key next k).store := by
  unfold Handler3.nextCursor
  exact h.trans0 ((frame_commit _).trans0 (frame_call _ _ (fun _ _ => hk _ _) (hcard _ now key)))

theorem preAll_matchCountP (args : List Bytes) (thr dflt : Int) {Q : Bytes × Int → Prop} (h : ∀ x, Q x) :
    PreAll Q (Handler3.matchCountP args thr dflt) := by
  cases Handler3.matchCountP args thr dflt <;> first | exact h _ | trivial

section
open NodisVerif.Proofs.HandlerShape

/-- the special results of the table: every call is framed, calls that follow one another are separated by `commit` -/
theorem Special3.signals {r : HRes} (h : Special3 r) : ExecSignals r := by
  cases h with
  | byScore | byRank =>
    exact execSignals_exec (signals_of_frame fun st now _ _ =>
      frame_call _ _ (fun s o => store_writeRange _ s o) (frame_zread _ _ st now _))
  | rank desc args => exact execSignals_exec (signals_rankBody desc args)
  | zAdd args key i => exact execSignals_exec (signals_of_frame fun st now ch hp => frame_zAddBody args key i st now ch hp)
  | zStore union dst keys weights agg =>
    refine execSignals_exec (signals_of_frame fun st now _ hp => ?_)
    have h1 := frame_zstore union st now dst keys weights agg
    refine frame_call2 _ _ h1 (fun o => ?_)
    split
    · exact h1
    · exact h1
    · exact h1.trans0 ((frame_commit _).trans0 (frame_call _ _ (fun _ _ => rfl) (frame_zcard _ now dst)))
  | sScan key cursor pat count =>
    refine execSignals_exec (signals_of_frame fun st now _ hp => ?_)
    refine frame_call2 _ _ (frame_sscan st now _ _ _ _) (fun o => ?_)
    split
    · exact frame_nextCursor Api.scard frame_scard now _ _ _ (fun _ _ => rfl) (frame_sscan st now _ _ _ _)
    · exact frame_sscan st now _ _ _ _
  | hScan key cursor pat count =>
    refine execSignals_exec (signals_of_frame fun st now _ hp => ?_)
    refine frame_call2 _ _ (frame_hscan st now _ _ _ _) (fun o => ?_)
    split
    · exact frame_nextCursor Api.hlen frame_hlen now _ _ _ (fun _ _ => rfl) (frame_hscan st now _ _ _ _)
    · exact frame_hscan st now _ _ _ _
  | zScan key cursor pat count =>
    refine execSignals_exec (signals_of_frame fun st now _ hp => ?_)
    refine frame_call2 _ _ (frame_zscan st now _ _ _ _) (fun o => ?_)
    split
    · exact frame_nextCursor Api.zcard frame_zcard now _ _ _ (fun s _ => store_writeItems s _)
        (frame_zscan st now _ _ _ _)
    · exact frame_zscan st now _ _ _ _
  | hSetFix key f v more =>
    refine execSignals_exec (signals_of_frame fun st now _ hp => ?_)
    have h1 := frame_hset st hp now key f v
    refine frame_call2 _ _ h1 (fun o => ?_)
    split
    · exact h1
    · exact h1.trans0 ((frame_commit _).trans0 (frame_call _ _ (fun _ _ => rfl)
        (frame_hmset _ (h1.commit.pebble hp) now _ _)))

end

/-
  FULL STATEMENTS (false), for h ∈ {zRem, zRemRangeByRank, zRemRangeByScore}:
    theorem signals_zRem (args) (b) (h : Handler3.zRem args = .exec b) : SignalsChanges b
  `SignalsChanges` quantifies over every Pebble store. On a store where the key argument holds an existing
  EMPTY sorted set (`C09Writers.holdsEmptyZSet`), the call removes nothing (reply 0), unlinks the record
  because the set is empty, and signals only when something was removed. Whether such a store is reachable
  is open (C09Writers3.lean: no API path to it is known), so what follows is (1) the statement relative to the store, outside the region, and (2) the
  literal-store counterexample under the name `_region_witness` — NOT a finding.
-/

/-- the region, relative to the store: the first argument (the key) holds an existing empty sorted set -/
def zRemRegion (st : MState) (now : Int) (args : List Bytes) : Bool :=
  match args with
  | key :: _ => holdsEmptyZSet st now key
  | [] => false

section
open NodisVerif.Proofs.HandlerShape

theorem ZRemCall.tells {args : List Bytes} {r : HRes} (h : ZRemCall args r) {st : MState} {now : Int} {ch : Choice}
    (hp : st.pebble = true) (hreg : zRemRegion st now args = false) :
    ∀ b, r = .exec b → TellsChanges st (b st now ch) := by
  cases h with
  | rem key ms =>
    exact fun _ h => by cases h; exact tells_of_frame hp (frame_call _ _ (fun _ _ => rfl) (frame_zrem st hp now key ms hreg))
  | byRank key rest a b =>
    exact fun _ h => by
      cases h; exact tells_of_frame hp (frame_call _ _ (fun _ _ => rfl) (frame_zremRangeByRank st hp now key a b hreg))
  | byScore key rest min max mode =>
    exact fun _ h => by
      cases h
      exact tells_of_frame hp (frame_call _ _ (fun _ _ => rfl) (frame_zremRangeByScore st hp now key min max mode hreg))

theorem tells_zRem_partial (args : List Bytes) (b : Body) (h : Handler3.zRem args = .exec b)
    (st : MState) (now : Int) (ch : Choice) (hp : st.pebble = true) (hreg : zRemRegion st now args = false) :
    TellsChanges st (b st now ch) :=
  (shape_zRem args).tells hp (fun _ hr => ZRemCall.tells hr hp hreg) b h

theorem tells_zRemRangeByRank_partial (args : List Bytes) (b : Body) (h : Handler3.zRemRangeByRank args = .exec b)
    (st : MState) (now : Int) (ch : Choice) (hp : st.pebble = true) (hreg : zRemRegion st now args = false) :
    TellsChanges st (b st now ch) :=
  (shape_zRemRangeByRank args).tells hp (fun _ hr => ZRemCall.tells hr hp hreg) b h

theorem tells_zRemRangeByScore_partial (args : List Bytes) (b : Body) (h : Handler3.zRemRangeByScore args = .exec b)
    (st : MState) (now : Int) (ch : Choice) (hp : st.pebble = true) (hreg : zRemRegion st now args = false) :
    TellsChanges st (b st now ch) :=
  (shape_zRemRangeByScore args).tells hp (fun _ hr => ZRemCall.tells hr hp hreg) b h

end

/-- `ZREM k m`, `ZREMRANGEBYRANK k 0 -1`, `ZREMRANGEBYSCORE k 0 0` -/
def zRemArgs : List Bytes := [[107], [109]]
def zRemRankArgs : List Bytes := [[107], [48], [45, 49]]
def zRemScoreArgs : List Bytes := [[107], [48], [48]]

/-- the region hypothesis is necessary — on the hand-written, POSSIBLY UNREACHABLE store
    `C09Writers.emptyZSetStore` (the key holds an existing empty sorted set): the closure unlinks the record,
    signals nothing, the store is not flushed. Not a finding unless that store is shown reachable. -/
theorem signals_zRem_region_witness :
    ∃ b, Handler3.zRem zRemArgs = .exec b ∧
      let o := b emptyZSetStore 0 none
      changed emptyZSetStore o.store [107] ∧ [107] ∉ o.store.signalled ∧ o.store.flushed = false :=
  ⟨_, rfl, by decide⟩

theorem signals_zRemRangeByRank_region_witness :
    ∃ b, Handler3.zRemRangeByRank zRemRankArgs = .exec b ∧
      let o := b emptyZSetStore 0 none
      changed emptyZSetStore o.store [107] ∧ [107] ∉ o.store.signalled ∧ o.store.flushed = false :=
  ⟨_, rfl, by decide⟩

theorem parseFloat_zero : FloatText.parseFloat [48] = some (some 0) := by decide +kernel

theorem floatP_zero : Handler3.floatP [48] = .ok 0 := by
  unfold Handler3.floatP FloatText.redisFloat
  have : (if (48 : UInt8) = 40 then ([] : Bytes) else [48]) = [48] := by decide
  simp only [this, parseFloat_zero]
  rfl

theorem zRemRangeByScore_zero :
    Handler3.zRemRangeByScore zRemScoreArgs = .exec fun s now _ =>
      Handler.call (Api.zremRangeByScore s now [107] 0 0 0) fun s o => Handler.done s [.int (Handler.intOf o)] := by
  have a0 : Handler3.argP zRemScoreArgs 0 = .ok [107] := by simp [Handler3.argP, argAt, zRemScoreArgs]
  have a1 : Handler3.argP zRemScoreArgs 1 = .ok [48] := by simp [Handler3.argP, argAt, zRemScoreArgs]
  have a2 : Handler3.argP zRemScoreArgs 2 = .ok [48] := by simp [Handler3.argP, argAt, zRemScoreArgs]
  unfold Handler3.zRemRangeByScore
  dsimp only
  rw [if_neg (by decide)]
  simp only [a0, a1, a2, HandlerShape.pre_ok_bind, floatP_zero]
  rfl

theorem signals_zRemRangeByScore_region_witness :
    ∃ b, Handler3.zRemRangeByScore zRemScoreArgs = .exec b ∧
      let o := b emptyZSetStore 0 none
      changed emptyZSetStore o.store [107] ∧ [107] ∉ o.store.signalled ∧ o.store.flushed = false :=
  ⟨_, zRemRangeByScore_zero, by decide⟩

theorem not_signals_of_witness {b : Body}
    (hw : let o := b emptyZSetStore 0 none
      changed emptyZSetStore o.store [107] ∧ [107] ∉ o.store.signalled ∧ o.store.flushed = false) :
    ¬ SignalsChanges b := by
  intro hb
  obtain ⟨hc, hs, hf⟩ := hw
  rcases (hb emptyZSetStore 0 none rfl rfl).2 [107] hc with h | h
  · exact hs h
  · rw [hf] at h; cases h

theorem signals_zRem_false : ¬ ∀ (args : List Bytes) (b : Body), Handler3.zRem args = .exec b → SignalsChanges b := by
  intro hall
  obtain ⟨b, hb, hw⟩ := signals_zRem_region_witness
  exact not_signals_of_witness hw (hall _ b hb)

theorem signals_zRemRangeByRank_false :
    ¬ ∀ (args : List Bytes) (b : Body), Handler3.zRemRangeByRank args = .exec b → SignalsChanges b := by
  intro hall
  obtain ⟨b, hb, hw⟩ := signals_zRemRangeByRank_region_witness
  exact not_signals_of_witness hw (hall _ b hb)

theorem signals_zRemRangeByScore_false :
    ¬ ∀ (args : List Bytes) (b : Body), Handler3.zRemRangeByScore args = .exec b → SignalsChanges b := by
  intro hall
  obtain ⟨b, hb, hw⟩ := signals_zRemRangeByScore_region_witness
  exact not_signals_of_witness hw (hall _ b hb)

/-- non-vacuity: the witness arguments give closures; on stores reached through the API (empty store, the
    store after `ZADD k 0 m`) they are outside the region, on `emptyZSetStore` inside -/
example : (∃ b, Handler3.zRem zRemArgs = .exec b) ∧ zRemRegion ({ pebble := true } : MState) 0 zRemArgs = false ∧
    zRemRegion oneZSetStore 0 zRemArgs = false ∧ zRemRegion emptyZSetStore 0 zRemArgs = true :=
  ⟨⟨_, rfl⟩, by decide⟩
example : (∃ b, Handler3.zRemRangeByRank zRemRankArgs = .exec b) ∧ zRemRegion oneZSetStore 0 zRemRankArgs = false :=
  ⟨⟨_, rfl⟩, by decide⟩
example : (∃ b, Handler3.zRemRangeByScore zRemScoreArgs = .exec b) ∧ zRemRegion oneZSetStore 0 zRemScoreArgs = false :=
  ⟨⟨_, zRemRangeByScore_zero⟩, by decide⟩

def zRemNames : List String := ["ZREM", "ZREMRANGEBYRANK", "ZREMRANGEBYSCORE"]

/-- `Handler3.table3` without the three commands for which `SignalsChanges` (all stores) is false -/
def table3Safe : Table := fun name args =>
  if name ∈ zRemNames then none else Handler3.table3 name args

theorem table3_signals_partial (name : String) (args : List Bytes) (b : Body)
    (h : Handler3.table3 name args = some (.exec b)) (hn : name ∉ zRemNames) : SignalsChanges b :=
  HandlerShape.table3_elim (P := fun name _ r => name ∉ zRemNames → ExecSignals r)
    (fun s _ => s.signals fun _ => Special3.signals)  -- `shape`
    -- `zRem`, `zRemRangeByRank`, `zRemRangeByScore`: excluded by name
    (fun _ hn => absurd (by decide) hn) (fun _ hn => absurd (by decide) hn) (fun _ hn => absurd (by decide) hn)
    name args _ h hn b rfl

theorem table3Safe_signals : TableSignals table3Safe := by
  intro name args b h
  unfold table3Safe at h
  split at h
  · cases h
  · next hn => exact table3_signals_partial name args b h hn

theorem fixtures_signals : TableSignals Handler3.fixtures := fun name args b h =>
  (HandlerShape.fixtures_shape name args _ h).signals (fun _ => Special3.signals) b rfl

theorem table3_zRem (args : List Bytes) : Handler3.table3 "ZREM" args = some (Handler3.zRem args) := rfl

theorem table3_tells_region (name : String) (args : List Bytes) (b : Body)
    (h : Handler3.table3 name args = some (.exec b)) (st : MState) (now : Int) (ch : Choice)
    (hp : st.pebble = true) (hsig : st.signalled = [])
    (hreg : name ∈ zRemNames → zRemRegion st now args = false) : TellsChanges st (b st now ch) :=
  HandlerShape.table3_elim
    (P := fun name args r => (name ∈ zRemNames → zRemRegion st now args = false) →
      ∀ b, r = .exec b → TellsChanges st (b st now ch))
    (fun s _ b hb => (s.signals fun _ => Special3.signals) b hb st now ch hp hsig)  -- `shape`, then the three by name
    (fun a hr b hb => tells_zRem_partial a b hb st now ch hp (hr (by decide)))
    (fun a hr b hb => tells_zRemRangeByRank_partial a b hb st now ch hp (hr (by decide)))
    (fun a hr b hb => tells_zRemRangeByScore_partial a b hb st now ch hp (hr (by decide)))
    name args _ h hreg b rfl

theorem table3_signals_false : ¬ TableSignals Handler3.table3 := by
  intro hall
  obtain ⟨b, hb, hw⟩ := signals_zRem_region_witness
  have h1 : Handler3.table3 "ZREM" zRemArgs = some (.exec b) := by
    rw [table3_zRem, hb]
  exact not_signals_of_witness hw (hall "ZREM" zRemArgs b h1)

/- OPEN (not attempted): carrying an invariant "no live empty sorted set" through `C08Step.step`, which would turn
   `table3_tells_region` into an unconditional statement on reachable servers. -/

end NodisVerif.Proofs.C08Step.T3

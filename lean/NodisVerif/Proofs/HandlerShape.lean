import NodisVerif.Model.Handler2
import NodisVerif.Model.Handler3
/-
  The normal form of a handler result: what a handler hands to `execCommand` once its argument checks are
  through.  It is the error reply, a crash, the closure that replies UNSUPPORTED, a closure that panics before
  writing, a closure that makes ONE call from the catalogue `ApiCall` and hands the result to ONE continuation
  from the catalogue `Render`, or one of the few results listed apart (`Sp`: several calls, a loop, direct access to
  the store).  `Sp` is a parameter: one catalogue for a table (`Special3`, `Special4`), `NoSpecial` where there is
  nothing to list, or a catalogue for one handler that depends on the argument vector (`ScanCall args` for SCAN,
  HandlerShape1.lean; `ZRemCall args` for ZREM / ZREMRANGEBYRANK / ZREMRANGEBYSCORE, HandlerShape3.lean).

  `shape_<handler>` says which, once per handler; `table#_elim` walks a table literal once (both in
  HandlerShape1.lean … HandlerShape4.lean, one file per table).  A property of handler results is then proved per
  catalogue entry: C16 (one well-formed reply) is a fact about `Render`, C09 (changes are
  signalled) a fact about `ApiCall`.

  A handler that is not "one call, one rendering" gets an entry in the table's catalogue `Sp` when its closure stands
  behind argument checks that every property would otherwise walk again; it is a premise of `table#_elim` BY NAME when a
  property speaks of it by command name or arguments (C09 leaves out DECRBY, SCAN with TYPE, the ZREM family, SAVE), or
  when its checks are one line and it makes no call or several (PING … MGET, GEOHASH …).
-/
namespace NodisVerif.Proofs.HandlerShape
open NodisVerif NodisVerif.Resp NodisVerif.Handler
open NodisVerif.Handler3 (Pre)

/-- a call as a closure makes it: from the store, the clock and what RANDOMKEY / SPOP / SRANDMEMBER take from the
    implementation's run (`Choice`) to the store after the call and its result -/
abbrev ApiFn := MState → Int → Choice → MState × Out
/-- what a closure does after its call: from the store after the call and the call's result to the closure's result -/
abbrev Cont := MState → Out → BodyOut

/-- the calls of the handlers that make one call; a hypothesis of a constructor is what the handler's argument
    checks guarantee.  `ite` is there for the option flags of EXPIRE / EXPIREAT, which choose the call inside the
    closure. -/
inductive ApiCall : ApiFn → Prop
  | ite {c : Prop} [Decidable c] {a b : ApiFn} : ApiCall a → ApiCall b →
      ApiCall fun s now ch => if c then a s now ch else b s now ch
  | del (ks : List Bytes) : ApiCall fun s now _ => Api.del s now ks
  | exists_ (ks : List Bytes) : ApiCall fun s now _ => Api.exists_ s now ks
  | expire (k : Bytes) (n : Int) : ApiCall fun s now _ => Api.expire s now k n
  | expireNX (k : Bytes) (n : Int) : ApiCall fun s now _ => Api.expireNX s now k n
  | expireXX (k : Bytes) (n : Int) : ApiCall fun s now _ => Api.expireXX s now k n
  | expireLT (k : Bytes) (n : Int) : ApiCall fun s now _ => Api.expireLT s now k n
  | expireGT (k : Bytes) (n : Int) : ApiCall fun s now _ => Api.expireGT s now k n
  | expireAt (k : Bytes) (t : Int) : ApiCall fun s now _ => Api.expireAt s now k t
  | expireAtNX (k : Bytes) (t : Int) : ApiCall fun s now _ => Api.expireAtNX s now k t
  | expireAtXX (k : Bytes) (t : Int) : ApiCall fun s now _ => Api.expireAtXX s now k t
  | expireAtLT (k : Bytes) (t : Int) : ApiCall fun s now _ => Api.expireAtLT s now k t
  | expireAtGT (k : Bytes) (t : Int) : ApiCall fun s now _ => Api.expireAtGT s now k t
  | ttl (k : Bytes) : ApiCall fun s now _ => Api.ttl s now k
  | pttl (k : Bytes) : ApiCall fun s now _ => Api.pttl s now k
  | persist (k : Bytes) : ApiCall fun s now _ => Api.persist s now k
  | randomKey : ApiCall fun s now ch => Api.randomKey s now (ch.bind (·.head?))
  | rename (a b : Bytes) : ApiCall fun s now _ => Api.rename s now a b
  | renameNX (a b : Bytes) : ApiCall fun s now _ => Api.renameNX s now a b
  | append (k v : Bytes) : ApiCall fun s now _ => Api.append s now k v
  | setEX (k v : Bytes) (n : Int) : ApiCall fun s now _ => Api.setEX s now k v n
  | setNX (k v : Bytes) (keep : Bool) : ApiCall fun s now _ => Api.setNX s now k v keep
  | addInt (k : Bytes) (d : Int) (neg : Bool) (h : inInt64 (if neg then -d else d) = true) :
      ApiCall fun s now _ => Api.addInt s now k d neg
  | incrByFloat (k : Bytes) (d : F64) : ApiCall fun s now _ => Api.incrByFloat s now k d
  | get (k : Bytes) : ApiCall fun s now _ => Api.get s now k
  | getSet (k v : Bytes) : ApiCall fun s now _ => Api.getSet s now k v
  | setRange (k : Bytes) (o : Int) (v : Bytes) (h : (DsStr.setRange none o v).isSome = true) :
      ApiCall fun s now _ => Api.setRange s now k o v
  | getRange (k : Bytes) (a b : Int) : ApiCall fun s now _ => Api.getRange s now k a b
  | strLen (k : Bytes) : ApiCall fun s now _ => Api.strLen s now k
  | setBit (k : Bytes) (o : Int) (b : Bool) : ApiCall fun s now _ => Api.setBit s now k o b
  | getBit (k : Bytes) (o : Int) : ApiCall fun s now _ => Api.getBit s now k o
  | bitCount (k : Bytes) (a b : Int) (bit : Bool) : ApiCall fun s now _ => Api.bitCount s now k a b bit
  | push (left : Bool) (k : Bytes) (vs : List Bytes) : ApiCall fun s now _ => Api.push left s now k vs
  | pop (left : Bool) (k : Bytes) (n : Int) : ApiCall fun s now _ => Api.pop left s now k n
  | pushX (left : Bool) (k v : Bytes) : ApiCall fun s now _ => Api.pushX left s now k v
  | llen (k : Bytes) : ApiCall fun s now _ => Api.llen s now k
  | lindex (k : Bytes) (i : Int) : ApiCall fun s now _ => Api.lindex s now k i
  | linsert (k p v : Bytes) (before : Bool) : ApiCall fun s now _ => Api.linsert s now k p v before
  | lrem (k v : Bytes) (n : Int) : ApiCall fun s now _ => Api.lrem s now k v n
  | ltrim (k : Bytes) (a b : Int) : ApiCall fun s now _ => Api.ltrim s now k a b
  | lrange (k : Bytes) (a b : Int) : ApiCall fun s now _ => Api.lrange s now k a b
  | lset (k : Bytes) (i : Int) (v : Bytes) : ApiCall fun s now _ => Api.lset s now k i v
  | rotate (left : Bool) (a b : Bytes) : ApiCall fun s now _ => Api.rotate left s now a b
  | hmset (k : Bytes) (ps : List (Bytes × Bytes)) : ApiCall fun s now _ => Api.hmset s now k ps
  | hdel (k : Bytes) (fs : List Bytes) : ApiCall fun s now _ => Api.hdel s now k fs
  | hincrby (k f : Bytes) (d : Int) : ApiCall fun s now _ => Api.hincrby s now k f d
  | hincrbyfloat (k f : Bytes) (d : F64) : ApiCall fun s now _ => Api.hincrbyfloat s now k f d
  | hsetnx (k f v : Bytes) : ApiCall fun s now _ => Api.hsetnx s now k f v
  | hread (f : AList Bytes → Out) (d : Out) (k : Bytes) : ApiCall fun s now _ => Api.hread f d s now k
  | sadd (k : Bytes) (ms : List Bytes) : ApiCall fun s now _ => Api.sadd s now k ms
  | srem (k : Bytes) (ms : List Bytes) : ApiCall fun s now _ => Api.srem s now k ms
  | smove (a b m : Bytes) : ApiCall fun s now _ => Api.smove s now a b m
  | sread (f : AList Unit → Out) (d : Out) (k : Bytes) : ApiCall fun s now _ => Api.sread f d s now k
  | sdiff (ks : List Bytes) : ApiCall fun s now _ => Api.sdiff s now ks
  | sinter (ks : List Bytes) : ApiCall fun s now _ => Api.sinter s now ks
  | sunion (ks : List Bytes) : ApiCall fun s now _ => Api.sunion s now ks
  | sstore {op : MState → Int → List Bytes → Api.R} (hop : ∀ ks, ApiCall fun s now _ => op s now ks) (dst : Bytes)
      (ks : List Bytes) : ApiCall fun s now _ => Api.sstore op s now dst ks
  | zread (f : ZSet → Out) (d : Out) (k : Bytes) : ApiCall fun s now _ => Api.zread f d s now k
  | zincrby (k m : Bytes) (d : F64) : ApiCall fun s now _ => Api.zincrby s now k m d

/-- what the handlers that make one call do with its result (`ok`, `e` are the constants `Handler.ok`, `Handler.e`:
    `+OK` and the error token, not variables) -/
inductive Render : Cont → Prop
  | int : Render fun s o => done s [.int (intOf o)]
  | ok : Render fun s _ => done s [ok]
  | boolInt : Render fun s o => done s [.int (Handler2.boolInt o)]
  | isTrue : Render fun s o => done s [.int (match o with | .bool true => 1 | _ => 0)]
  | ttl : Render fun s o =>
      let v := intOf o
      done s [.int (if v = -1 then -1 else if v = -2 then -2 else v / 1000000000)]
  | llen : Render fun s o => done s [if intOf o = -1 then .nullBulk else .int (intOf o)]
  | randomKey : Render fun s o => done s [match o with | .str k => (if k.isEmpty then .nullBulk else .bulk k) | _ => .nullBulk]
  | rename : Render fun s o => done s [match o with | .err false => ok | _ => e]
  | renameNx : Render fun s o => done s [.int (match o with | .err false => 1 | _ => 0)]
  | optBulk : Render fun s o => done s [match o with | .bytes b => optBulk b | _ => .nullBulk]
  | hget : Render fun s o => done s [match o with | .bytes (some v) => .bulk v | _ => .nullBulk]
  | getRange : Render fun s o => done s [.bulk (match o with | .bytes (some v) => v | _ => [])]
  | members : Render fun s o => done s (match o with | .slist ms => bulkList ms | _ => [.arr 0])
  | values : Render fun s o => done s (match o with | .blist vs => bulkList (vs.map (·.getD [])) | _ => [.arr 0])
  | pop (noCount : Bool) : Render fun s o => match o with
      | .blist (v :: vs) =>
        let bs := (v :: vs).map (·.getD [])
        if noCount then done s [.bulk (v.getD [])] else done s (bulkList bs)
      | _ => done s [.nullBulk]
  | lset : Render fun s o => match o with
      | .bool true => done s [ok]
      | _ => done s [e]
  | incr : Render fun s o => match o with
      | .many [.int v, .err false] => done s [.int v]
      | _ => done s [e]
  | float : Render fun s o => match o with
      | .many [.f64 v, .err false] =>
        done s [match Api.formatFloat v with | some t => .bulk t | none => Handler2.unsupported]
      | .unsupported => done s [Handler2.unsupported]
      | _ => done s [e]
  | hgetall : Render fun s o => match o with
      | .bmap m => done s (.arr (2 * m.length) :: m.flatMap fun (k, v) => [.bulk k, .bulk (v.getD [])])
      | _ => done s [.arr 0]
  | hmget (fields : List Bytes) : Render fun s o => match o with
      | .blist [] => done s (.arr fields.length :: fields.map fun _ => .nullBulk)
      | .blist vs => done s (.arr vs.length :: vs.map Handler.optBulk)
      | _ => done s [.arr 0]
  | score : Render fun s o => match o with
      | .f64 v => done s [Handler3.fmtScore v]
      | _ => done s [Handler3.unsupported]
  | zscore : Render fun s o => match o with
      | .many [.f64 v, .err false] => done s [Handler3.fmtScore v]
      | _ => done s [.nullBulk]

theorem Render.store {k : Cont} (h : Render k) (s : MState) (o : Out) : (k s o).store = s := by
  cases h with
  | pop =>
    dsimp only
    split
    · split <;> rfl
    · rfl
  | lset | incr | float | hgetall | hmget | score | zscore => dsimp only; split <;> rfl
  | _ => rfl

/-- the normal form of a handler result; `Sp` lists the results beyond one call and a rendering (of a table, or of
    one handler) -/
inductive Shape (Sp : HRes → Prop) : HRes → Prop
  | err : Shape Sp errReply
  | crash : Shape Sp .crash
  | unsup : Shape Sp (.exec fun s _ _ => { store := s, toks := [Handler3.unsupported] })
  | panic : Shape Sp (.exec fun s _ _ => { store := s, toks := [], panicked := true })
  | call {api : ApiFn} {k : Cont} : ApiCall api → Render k → Shape Sp (.exec fun s now ch => call (api s now ch) k)
  | special {r : HRes} : Sp r → Shape Sp r

/-- the empty catalogue, for handlers that have no result beyond one call and a rendering -/
abbrev NoSpecial : HRes → Prop := fun _ => False

variable {Sp : HRes → Prop}

theorem Shape.ite {c : Prop} [Decidable c] {x y : HRes} (hx : Shape Sp x) (hy : Shape Sp y) :
    Shape Sp (if c then x else y) := by
  split
  · exact hx
  · exact hy

/-- the statements before `execCommand` (`Pre`): an error reply, a panic, float text outside the model's fragment
    (the UNSUPPORTED closure), or a value with which the handler goes on -/
theorem Shape.bind {α : Type} {x : Pre α} {f : α → Pre HRes} (h : ∀ a, Shape Sp (Pre.run (f a))) :
    Shape Sp (Pre.run (x >>= f)) := by
  cases x with
  | ok a => exact h a
  | err => exact .err
  | crash => exact .crash
  | unsup => exact .unsup

/-- a conditional inside the `Pre` block (a `do` block hands its continuation to both branches) -/
theorem Shape.run_ite {c : Prop} [Decidable c] {x y : Pre HRes} (hx : Shape Sp (Pre.run x)) (hy : Shape Sp (Pre.run y)) :
    Shape Sp (Pre.run (if c then x else y)) := by
  rw [apply_ite Pre.run]
  exact .ite hx hy

end NodisVerif.Proofs.HandlerShape

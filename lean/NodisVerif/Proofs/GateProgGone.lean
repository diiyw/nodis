import NodisVerif.Proofs.GateProgWatch
import NodisVerif.Proofs.GateProgDone
/-
  After EXEC / DISCARD the connection's watches are gone - and stay gone until its next command, whatever the other
  goroutines signal (`reach_gone`), because it has left every watcher list (`WInv`).
-/
namespace NodisVerif.GateProg
open NodisVerif.Gate (G T GMode Ev GState)

def goneOk (l : Loc) (cs : ConnSt) : Prop :=
  match l.pc with
  | .u3 => cs.watch = []
  | .dOut | .dUnlock | .dRec | .flush | .idle => isExecOrDiscard l.cmd = true → cs.watch = []
  | _ => True

theorem goneOk_epilogue {l : Loc} {cs : ConnSt} (h : isExecOrDiscard l.cmd = true → cs.watch = []) :
    goneOk (epilogue l) cs := by
  unfold epilogue
  split <;> exact h

theorem goneOk_over {l : Loc} {cs : ConnSt} (hg : goneOk l cs) (hpc : handlerOver l.pc = true)
    (hc : isExecOrDiscard l.cmd = true) : cs.watch = [] := by
  obtain ⟨pc⟩ := l
  cases pc <;> first | exact Bool.noConfusion hpc | exact hg hc

/-- `unwatchAll` empties the flags at u2, nothing of the connection's own steps after it sets one; the handlers that return
    without `unwatchAll` are not those of EXEC / DISCARD (`doneOk`) -/
theorem gone_step {s : Shared} {t : Tid} {l : Loc} {ch : Choice} {s' l' evs}
    (hd : doneOk l (s.conn t)) (hg : goneOk l (s.conn t))
    (hs : tstep s t l ch = some (s', l', evs)) : goneOk l' (s'.conn t) := by
  obtain ⟨pc, cmd, held, rep, emb, ctx, inLook, neg, found, tx, todo, cur, noChange, after, key, panicking, rerr⟩ := l
  revert s' l' evs
  fun_cases tstep s t _ ch
  all_goals first | exact @out_none _ | refine @out_some _ _ _ _ ?_
  -- most transitions lead to a pc of which the table says nothing; for the others the pc of the branch is put in
  all_goals first | exact trivial | skip
  all_goals cases ‹pc = _›
  -- the others, in the order of `tstep`.  call: MULTI, WATCH and a failed argument check go to the epilogue
  iterate 2 cases ‹cmd = .multi›; exact goneOk_epilogue nofun
  iterate 2 cases ‹cmd = .watch _›; exact goneOk_epilogue nofun
  iterate 2 exact goneOk_epilogue (isExecOrDiscard_elim ‹_› ‹_›)
  -- ec: the body starts, or QUEUED (not EXEC's or DISCARD's handler: `doneOk`)
  · cases qcmdOf cmd <;> trivial
  · exact goneOk_epilogue fun h => (Bool.false_ne_true (hd.symm.trans h)).elim
  -- b3
  · unfold afterTx
    cases inLook <;> cases panicking <;> (try cases neg) <;> trivial
  -- bret: an embedded caller, execCommand's caller
  · cases ‹ctx = .embedded›; exact fun h => nomatch hd h
  · cases ‹ctx = .direct›; exact goneOk_epilogue fun h => nomatch hd h
  -- p2, w3
  iterate 2 cases neg <;> trivial
  · exact goneOk_epilogue fun h => (Bool.false_ne_true (hd.symm.trans h)).elim
  -- u2: `unwatchAll` empties the flags; u3
  · rw [conn_setConn_same]; rfl
  iterate 2 exact goneOk_epilogue fun _ => hg
  -- e6
  · cases cur <;> trivial
  -- the epilogue keeps them: dOut, dUnlock, dRec, flush
  iterate 2 exact hg
  iterate 2 rw [conn_setConn_same]; exact hg
  · exact hg

theorem watch_other_empty {s : Shared} {t : Tid} {l : Loc} {ch : Choice} {s' l' evs} (hw : WInv s)
    (hs : tstep s t l ch = some (s', l', evs)) {g : Tid} (hg : g ≠ t) (he : (s.conn g).watch = []) :
    (s'.conn g).watch = [] := by
  have hn : g ∉ (kassoc s.registry l.key).getD [] := fun hm => by
    have := hw.j1 l.key g hm
    rw [he] at this; cases this
  unfold Shared.conn at he ⊢
  rcases tstep_frame hs with ⟨-, h | ⟨c, h, -⟩⟩ | ⟨-, c, h⟩ | ⟨-, -, h⟩ <;> rw [h]
  · exact he
  · rw [assoc_put_other _ _ _ _ hg]; exact he
  · rw [assoc_put_other _ _ _ _ hg]; exact he
  · rw [markAll_other _ _ _ _ hn]; exact he

theorem goneOk_other (l : Loc) {a b : ConnSt} (h : a.watch = [] → b.watch = []) (hg : goneOk l a) : goneOk l b := by
  obtain ⟨pc⟩ := l
  cases pc
  case u3 => exact h hg
  case dOut | dUnlock | dRec | flush | idle => exact fun hc => h (hg hc)
  all_goals trivial

structure Gone (c : Cfg) : Prop where
  winv : WInv c.sh
  allDone : AllDone c
  watchesGone : ∀ t, goneOk (c.loc t) (c.sh.conn t)

theorem gone_init : Gone {} := ⟨winv_init, allDone_init, fun _ => nofun⟩

theorem gone_cfg_step {c c' : Cfg} {t : Tid} {ch : Choice} {evs : List Ev} (hg : Gone c)
    (hs : step c t ch = some (c', evs)) : Gone c' := by
  obtain ⟨s, l, heq, rfl⟩ := step_inv hs
  refine ⟨winv_step hg.winv heq, allDone_step hg.allDone hs, fun g => ?_⟩
  show goneOk ((Cfg.mk s (put c.thr t l)).loc g) (s.conn g)
  rw [loc_put]
  by_cases hgt : g = t
  · subst hgt; simp only [if_true]; exact gone_step (hg.allDone g) (hg.watchesGone g) heq
  · simp only [hgt, if_false]
    exact goneOk_other _ (watch_other_empty hg.winv heq hgt) (hg.watchesGone g)

theorem reach_gone (sch : List (Tid × Choice)) : Gone (run {} sch).1 :=
  run_preserves gone_cfg_step sch {} gone_init

end NodisVerif.GateProg

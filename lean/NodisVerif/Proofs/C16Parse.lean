import NodisVerif.Spec.RespReply
import NodisVerif.Model.Resp
import NodisVerif.Proofs.C15Decimal

/-
  C16, reader side: the reference reader of RESP replies (Spec/RespReply.lean) against what the writer renders.
  Three parts: decimal numbers, lines, bulk payloads, literal renderings; the reader's fuel (nesting bound) is monotone,
  and one-token parse lemmas; the value denoted by a token list and the round trip writer → bytes → reference reader
  (`render_parse_roundtrip`), with pipelines staying in sync (`pipeline_in_sync'`).
-/
namespace NodisVerif.Proofs.C16Parse
open NodisVerif NodisVerif.Resp NodisVerif.Spec.RespReply NodisVerif.Proofs.C15

theorem spec_isDigit_eq (b : UInt8) : Spec.RespReply.isDigit b = NodisVerif.isDigit b := by
  simp [Spec.RespReply.isDigit, NodisVerif.isDigit, Bool.decide_and]

theorem foldl_eq_digitsToNat (ds : Bytes) (acc : Nat) :
    ds.foldl (fun acc d => acc * 10 + (d.toNat - 48)) acc = digitsToNat ds acc := by
  induction ds generalizing acc with
  | nil => rfl
  | cons d t ih => simp only [List.foldl_cons, digitsToNat, ih]

theorem digitsVal_eq (ds : Bytes) : digitsVal ds = digitsToNat ds 0 := foldl_eq_digitsToNat ds 0

theorem parseNat_natDigits (n : Nat) : parseNat (natDigits n) = some n := by
  have h1 : (natDigits n).all NodisVerif.isDigit = true := by simpa using isDigit_natDigits n
  have h2 := natDigits_ne_nil n
  have h3 := digitsToNat_natDigits n
  have h1' : (natDigits n).all Spec.RespReply.isDigit = true := by
    rw [← h1]; congr 1; funext b; exact spec_isDigit_eq b
  unfold parseNat
  have : (natDigits n).isEmpty = false := by
    cases h : natDigits n with
    | nil => exact absurd h h2
    | cons _ _ => rfl
  simp only [this, h1', digitsVal_eq, h3]; simp

theorem natDigits_head_ne_minus (n : Nat) : ∀ d t, natDigits n = d :: t → d ≠ 45 := by
  intro d t h hd
  have := isDigit_natDigits n d (by rw [h]; simp)
  subst hd
  simp [NodisVerif.isDigit] at this

theorem parseDec_of_not_minus (ds : Bytes) (h : ∀ d t, ds = d :: t → d ≠ 45) :
    parseDec ds = (parseNat ds).map fun (n : Nat) => (n : Int) := by
  unfold parseDec
  split
  · rename_i ds'; exact absurd rfl (h 45 ds' rfl)
  · rfl

theorem parseDec_formatInt (n : Int) : parseDec (formatInt n) = some n := by
  unfold formatInt
  split
  · rename_i h
    simp only [parseDec, parseNat_natDigits, Option.map_some]
    congr 1; omega
  · rename_i h
    rw [parseDec_of_not_minus _ (natDigits_head_ne_minus _), parseNat_natDigits]
    simp only [Option.map_some]; congr 1; omega

theorem formatInt_no_cr (n : Int) : (13 : UInt8) ∉ formatInt n := by
  have hd : ∀ m, (13 : UInt8) ∉ natDigits m := by
    intro m hm
    have := isDigit_natDigits m 13 hm
    simp [NodisVerif.isDigit] at this
  unfold formatInt
  split
  · simp only [List.mem_cons, not_or]; exact ⟨by decide, hd _⟩
  · exact hd _

theorem splitLine_append (l rest : Bytes) (h : (13 : UInt8) ∉ l) :
    splitLine (l ++ 13 :: 10 :: rest) = some (l, rest) := by
  induction l with
  | nil => simp [splitLine]
  | cons a t ih =>
    have ha : a ≠ 13 := fun e => h (by simp [e])
    have ht : (13 : UInt8) ∉ t := fun e => h (by simp [e])
    simp only [List.cons_append, splitLine, ha, false_and, if_false, ih ht]

theorem cleanLine_iff (l : Bytes) : cleanLine l = true ↔ (13 : UInt8) ∉ l ∧ (10 : UInt8) ∉ l := by
  unfold cleanLine
  induction l with
  | nil => simp
  | cons a t ih =>
    simp only [List.all_cons, Bool.and_eq_true, ih, List.mem_cons, not_or, bne_iff_ne, ne_eq]
    constructor
    · rintro ⟨⟨h1, h2⟩, h3, h4⟩; exact ⟨⟨fun e => h1 e.symm, h3⟩, fun e => h2 e.symm, h4⟩
    · rintro ⟨⟨h1, h3⟩, h2, h4⟩; exact ⟨⟨fun e => h1 e.symm, fun e => h2 e.symm⟩, h3, h4⟩

theorem takeBulk_append (b rest : Bytes) :
    takeBulk b.length (b ++ 13 :: 10 :: rest) = some (b, rest) := by
  simp [takeBulk]

theorem render_nullBulk : render .nullBulk = [36, 45, 49, 13, 10] := by decide +kernel

theorem render_nullArr : render .nullArr = [42, 45, 49, 13, 10] := by decide +kernel

theorem formatInt_neg_one : formatInt (-1) = [45, 49] := by
  have : natDigits 1 = [49] := by rw [natDigits_eq_map]; decide
  simp [formatInt, this]

theorem errText_clean (k : Nat) : cleanLine (errText k) = true := by
  unfold errText Bytes.ofString
  -- `ByteArray.toList` walks the array index by index; `data.toList` is the same list, read off at once
  split <;> rw [ByteArray_toList] <;> decide +kernel

end NodisVerif.Proofs.C16Parse

namespace NodisVerif.Proofs.C16Parse
open NodisVerif NodisVerif.Resp NodisVerif.Spec.RespReply

theorem seqN_mono {α σ : Type} (p q : σ → Option (α × σ)) (h : ∀ s r, p s = some r → q s = some r) :
    ∀ k s r, seqN p k s = some r → seqN q k s = some r := by
  intro k
  induction k with
  | zero => intro s r hr; simpa [seqN] using hr
  | succ k ih =>
    intro s r hr
    simp only [seqN] at hr ⊢
    cases hp : p s with
    | none => simp [hp] at hr
    | some vs =>
      obtain ⟨v, s'⟩ := vs
      simp only [hp] at hr
      simp only [h s _ hp]
      cases hk : seqN p k s' with
      | none => simp [hk] at hr
      | some ws =>
        obtain ⟨ws, s''⟩ := ws
        simp only [hk] at hr
        simp only [ih s' _ hk]
        exact hr

theorem seqN_add {α σ : Type} (p : σ → Option (α × σ)) (j k : Nat) (s s' s'' : σ) (vs ws : List α)
    (h1 : seqN p j s = some (vs, s')) (h2 : seqN p k s' = some (ws, s'')) :
    seqN p (j + k) s = some (vs ++ ws, s'') := by
  induction j generalizing s vs with
  | zero =>
    simp only [seqN, Option.some.injEq, Prod.mk.injEq] at h1
    obtain ⟨rfl, rfl⟩ := h1
    simpa using h2
  | succ j ih =>
    rw [show j + 1 + k = (j + k) + 1 by omega]
    simp only [seqN] at h1 ⊢
    cases hp : p s with
    | none => simp [hp] at h1
    | some a =>
      obtain ⟨v, t⟩ := a
      simp only [hp] at h1
      cases hj : seqN p j t with
      | none => simp [hj] at h1
      | some b =>
        obtain ⟨us, t'⟩ := b
        simp only [hj, Option.some.injEq, Prod.mk.injEq] at h1
        obtain ⟨rfl, rfl⟩ := h1
        simp only [ih t us hj, List.cons_append]

/-- a list of items read by repeating the item reader `p`, off the concatenation of their encodings: each item `i`
    with `P i` is read off the front of anything that satisfies the guard `G`, which suffixes inherit (fuel above
    the length; `True` where there is no fuel); `val i` = the value the item stands for -/
theorem seqN_flatMap {α β ι : Type} (p : List β → Option (α × List β)) (enc : ι → List β) (val : ι → Option α)
    (P : ι → Prop) (G : List β → Prop) (hG : ∀ a b, G (a ++ b) → G b)
    (h : ∀ i v rest, P i → val i = some v → G (enc i ++ rest) → p (enc i ++ rest) = some (v, rest)) :
    ∀ (is : List ι) (vs : List α) (rest : List β), (∀ i ∈ is, P i) → is.map val = vs.map some →
      G (is.flatMap enc ++ rest) → seqN p is.length (is.flatMap enc ++ rest) = some (vs, rest) := by
  intro is
  induction is with
  | nil =>
    intro vs rest _ hvs _
    cases vs with
    | nil => rfl
    | cons _ _ => cases hvs
  | cons i is ih =>
    intro vs rest hP hvs hg
    cases vs with
    | nil => cases hvs
    | cons v vs =>
      simp only [List.map_cons, List.cons.injEq] at hvs
      simp only [List.flatMap_cons, List.append_assoc] at hg
      simp only [List.flatMap_cons, List.append_assoc, List.length_cons, seqN,
        h i v _ (hP i List.mem_cons_self) hvs.1 hg,
        ih vs rest (fun j hj => hP j (List.mem_cons_of_mem _ hj)) hvs.2 (hG _ _ hg)]

/-- the reader's step with the recursive call abstracted -/
def body (p : Bytes → Option (Value × Bytes)) (t : UInt8) (bs : Bytes) : Option (Value × Bytes) :=
  match splitLine bs with
  | none => none
  | some (line, rest) =>
    if t = 43 then
      if cleanLine line then some (.simple line, rest) else none
    else if t = 45 then
      if cleanLine line then some (.error line, rest) else none
    else if t = 58 then
      match parseDec line with
      | none => none
      | some n => some (.int n, rest)
    else if t = 36 then
      match parseDec line with
      | none => none
      | some n =>
        if n = -1 then some (.nullBulk, rest)
        else if n < 0 then none
        else match takeBulk n.toNat rest with
          | none => none
          | some (b, rest') => some (.bulk b, rest')
    else if t = 42 then
      match parseDec line with
      | none => none
      | some n =>
        if n = -1 then some (.nullArray, rest)
        else if n < 0 then none
        else match seqN p n.toNat rest with
          | none => none
          | some (xs, rest') => some (.array xs, rest')
    else none

theorem parseFuel_succ_cons (f : Nat) (t : UInt8) (bs : Bytes) :
    parseFuel (f + 1) (t :: bs) = body (parseFuel f) t bs := by
  rw [parseFuel]; rfl

theorem body_mono (p q : Bytes → Option (Value × Bytes)) (h : ∀ s r, p s = some r → q s = some r)
    (t : UInt8) (bs : Bytes) (r : Value × Bytes) (hr : body p t bs = some r) : body q t bs = some r := by
  by_cases ht : t = 42
  · subst ht
    unfold body at hr ⊢
    cases hs : splitLine bs with
    | none => simp [hs] at hr
    | some lr =>
      obtain ⟨line, rest⟩ := lr
      simp only [hs] at hr ⊢
      have e1 : ¬ (42 : UInt8) = 43 := by decide
      have e2 : ¬ (42 : UInt8) = 45 := by decide
      have e3 : ¬ (42 : UInt8) = 58 := by decide
      have e4 : ¬ (42 : UInt8) = 36 := by decide
      simp only [e1, e2, e3, e4, if_false, if_true] at hr ⊢
      cases hd : parseDec line with
      | none => simp [hd] at hr
      | some n =>
        simp only [hd] at hr ⊢
        by_cases hn1 : n = -1
        · simpa [hn1] using hr
        · by_cases hn0 : n < 0
          · simp [hn1, hn0] at hr
          · simp only [hn1, hn0, if_false] at hr ⊢
            cases hq : seqN p n.toNat rest with
            | none => simp [hq] at hr
            | some a =>
              rw [seqN_mono p q h _ _ _ hq]
              rw [hq] at hr
              exact hr
  · have : body q t bs = body p t bs := by
      unfold body
      simp only [ht, if_false]
    rw [this]; exact hr

theorem parseFuel_succ (f : Nat) : ∀ bs r, parseFuel f bs = some r → parseFuel (f + 1) bs = some r := by
  induction f with
  | zero => intro bs r h; simp [parseFuel] at h
  | succ f ih =>
    intro bs r h
    cases bs with
    | nil => simp [parseFuel] at h
    | cons t bs =>
      rw [parseFuel_succ_cons] at h ⊢
      exact body_mono _ _ ih t bs r h

theorem parseFuel_le (f g : Nat) (hfg : f ≤ g) (bs : Bytes) (r : Value × Bytes)
    (h : parseFuel f bs = some r) : parseFuel g bs = some r := by
  induction hfg with
  | refl => exact h
  | step _ ih => exact parseFuel_succ _ _ _ ih

theorem body_simple (p) (s rest : Bytes) (h : cleanLine s = true) :
    body p 43 (s ++ 13 :: 10 :: rest) = some (.simple s, rest) := by
  have h13 := ((cleanLine_iff s).1 h).1
  simp [body, splitLine_append _ _ h13, h]

theorem body_error (p) (s rest : Bytes) (h : cleanLine s = true) :
    body p 45 (s ++ 13 :: 10 :: rest) = some (.error s, rest) := by
  have h13 := ((cleanLine_iff s).1 h).1
  simp [body, splitLine_append _ _ h13, h]

theorem body_int (p) (n : Int) (rest : Bytes) :
    body p 58 (formatInt n ++ 13 :: 10 :: rest) = some (.int n, rest) := by
  simp [body, splitLine_append _ _ (formatInt_no_cr n), parseDec_formatInt]

theorem body_bulk (p) (b rest : Bytes) :
    body p 36 (formatInt (b.length : Int) ++ 13 :: 10 :: (b ++ 13 :: 10 :: rest)) = some (.bulk b, rest) := by
  have h1 : ¬ ((b.length : Int) = -1) := by omega
  have h2 : ¬ ((b.length : Int) < 0) := by omega
  simp [body, splitLine_append _ _ (formatInt_no_cr _), parseDec_formatInt, h1, h2, takeBulk_append]

theorem body_nullBulk (p) (rest : Bytes) :
    body p 36 (45 :: 49 :: 13 :: 10 :: rest) = some (.nullBulk, rest) := by
  have := splitLine_append (formatInt (-1)) rest (formatInt_no_cr _)
  rw [formatInt_neg_one] at this
  have hd := parseDec_formatInt (-1)
  rw [formatInt_neg_one] at hd
  simp only [List.cons_append, List.nil_append] at this
  simp [body, this, hd]

theorem body_nullArray (p) (rest : Bytes) :
    body p 42 (45 :: 49 :: 13 :: 10 :: rest) = some (.nullArray, rest) := by
  have := splitLine_append (formatInt (-1)) rest (formatInt_no_cr _)
  rw [formatInt_neg_one] at this
  have hd := parseDec_formatInt (-1)
  rw [formatInt_neg_one] at hd
  simp only [List.cons_append, List.nil_append] at this
  simp [body, this, hd]

theorem body_array (p) (n : Int) (hn : 0 ≤ n) (rest : Bytes) :
    body p 42 (formatInt n ++ 13 :: 10 :: rest) =
      match seqN p n.toNat rest with
      | none => none
      | some (xs, rest') => some (.array xs, rest') := by
  have h1 : ¬ (n = -1) := by omega
  have h2 : ¬ (n < 0) := by omega
  simp [body, splitLine_append _ _ (formatInt_no_cr _), parseDec_formatInt, h1, h2]

/-- read one value off the head of a token list (fuel as in `valueSize`); returns the unread tokens.
    A negative array header is the null array. -/
def toValueAux : Nat → List Tok → Option (Value × List Tok)
  | 0, _ => none
  | _, [] => none
  | fuel + 1, t :: rest =>
    match t with
    | .simple s => some (.simple s, rest)
    | .err k => some (.error (errText k), rest)
    | .int n => some (.int n, rest)
    | .bulk b => some (.bulk b, rest)
    | .nullBulk => some (.nullBulk, rest)
    | .nullArr => some (.nullArray, rest)
    | .arr n =>
      if n < 0 then some (.nullArray, rest)
      else match seqN (toValueAux fuel) n.toNat rest with
        | none => none
        | some (xs, rest') => some (.array xs, rest')

/-- the value denoted by a token list that is exactly one value -/
def toValue (ts : List Tok) : Option Value :=
  match toValueAux (ts.length + 1) ts with
  | some (v, []) => some v
  | _ => none

def arrOK : Tok → Bool
  | .arr n => decide (-1 ≤ n)
  | _ => true

def lineOK : Tok → Bool
  | .simple s => s.all fun b => b != 13 && b != 10
  | _ => true

/-- every array header carries a count ≥ -1 (`*-5` is not RESP; the writer would print it) -/
def ArrOK (ts : List Tok) : Prop := ∀ t ∈ ts, arrOK t = true

/-- no simple-string payload contains CR or LF (bulk payloads are unconstrained) -/
def LinesOK (ts : List Tok) : Prop := ∀ t ∈ ts, lineOK t = true

instance (ts : List Tok) : Decidable (ArrOK ts) := by unfold ArrOK; infer_instance
instance (ts : List Tok) : Decidable (LinesOK ts) := by unfold LinesOK; infer_instance

theorem toValueAux_of_valueSize (f : Nat) :
    ∀ ts sz, valueSize ts f = some sz → ∃ v, toValueAux f ts = some (v, ts.drop sz) := by
  induction f with
  | zero => intro ts sz h; simp [valueSize] at h
  | succ f ih =>
    have hel : ∀ k ts acc total, valueSize.elems f k ts acc = some total →
        acc ≤ total ∧ ∃ vs, seqN (toValueAux f) k ts = some (vs, ts.drop (total - acc)) := by
      intro k
      induction k with
      | zero =>
        intro ts acc total h
        rw [valueSize.elems] at h
        simp only [Option.some.injEq] at h
        subst h
        exact ⟨Nat.le_refl _, [], by simp [seqN]⟩
      | succ k ihk =>
        intro ts acc total h
        rw [valueSize.elems] at h
        cases hv : valueSize ts f with
        | none => simp [hv] at h
        | some sz =>
          simp only [hv] at h
          obtain ⟨hle, vs, hvs⟩ := ihk _ _ _ h
          obtain ⟨v, hv'⟩ := ih ts sz hv
          refine ⟨by omega, v :: vs, ?_⟩
          simp only [seqN, hv', hvs, List.drop_drop]
          congr 3; omega
    intro ts sz h
    cases ts with
    | nil => simp [valueSize] at h
    | cons t rest =>
      cases t with
      | arr n =>
        rw [valueSize] at h
        by_cases hn : n < 0
        · simp only [hn, if_true, Option.some.injEq] at h
          subst h
          exact ⟨.nullArray, by simp [toValueAux, hn]⟩
        · simp only [hn, if_false] at h
          obtain ⟨hle, vs, hvs⟩ := hel _ _ _ _ h
          refine ⟨.array vs, ?_⟩
          simp only [toValueAux, hn, if_false, hvs]
          obtain ⟨m, rfl⟩ : ∃ m, sz = m + 1 := ⟨sz - 1, by omega⟩
          simp
      | _ =>
        simp only [valueSize, Option.some.injEq] at h
        subst h
        simp [toValueAux]

theorem toValue_of_oneValue (ts : List Tok) (h1 : oneValue ts = true) : ∃ v, toValue ts = some v := by
  unfold oneValue at h1
  have h : valueSize ts (ts.length + 1) = some ts.length := by simpa using h1
  obtain ⟨v, hv⟩ := toValueAux_of_valueSize _ _ _ h
  exact ⟨v, by simp [toValue, hv]⟩

theorem renderAll_cons (t : Tok) (ts : List Tok) : renderAll (t :: ts) = render t ++ renderAll ts := by
  simp [renderAll]

theorem renderAll_nil : renderAll [] = [] := rfl

theorem renderAll_flatten (xs : List (List Tok)) : renderAll xs.flatten = xs.flatMap renderAll := by
  simp only [renderAll, List.flatMap_def, List.map_flatten, List.flatten_flatten, List.map_map]
  rfl

theorem lineOK_clean (s : Bytes) (h : lineOK (.simple s) = true) : cleanLine s = true := h

theorem parseFuel_render (f : Nat) :
    ∀ ts v tl, toValueAux f ts = some (v, tl) → ArrOK ts → LinesOK ts →
      (∀ t ∈ tl, t ∈ ts) ∧
      ∀ rest, parseFuel f (renderAll ts ++ rest) = some (v, renderAll tl ++ rest) := by
  induction f with
  | zero => intro ts v tl h; simp [toValueAux] at h
  | succ f ih =>
    have hseq : ∀ k ts vs tl, seqN (toValueAux f) k ts = some (vs, tl) → ArrOK ts → LinesOK ts →
        (∀ t ∈ tl, t ∈ ts) ∧
        ∀ rest, seqN (parseFuel f) k (renderAll ts ++ rest) = some (vs, renderAll tl ++ rest) := by
      intro k
      induction k with
      | zero =>
        intro ts vs tl h _ _
        simp only [seqN, Option.some.injEq, Prod.mk.injEq] at h
        obtain ⟨rfl, rfl⟩ := h
        exact ⟨fun _ h => h, fun rest => by simp [seqN]⟩
      | succ k ihk =>
        intro ts vs tl h hA hS
        simp only [seqN] at h
        cases h1 : toValueAux f ts with
        | none => simp [h1] at h
        | some a =>
          obtain ⟨v, ts'⟩ := a
          simp only [h1] at h
          cases h2 : seqN (toValueAux f) k ts' with
          | none => simp [h2] at h
          | some b =>
            obtain ⟨ws, tl'⟩ := b
            simp only [h2, Option.some.injEq, Prod.mk.injEq] at h
            obtain ⟨rfl, rfl⟩ := h
            obtain ⟨hsub1, hp1⟩ := ih ts v ts' h1 hA hS
            obtain ⟨hsub2, hp2⟩ := ihk ts' ws tl' h2 (fun t ht => hA t (hsub1 t ht)) (fun t ht => hS t (hsub1 t ht))
            refine ⟨fun t ht => hsub1 t (hsub2 t ht), fun rest => ?_⟩
            simp only [seqN, hp1, hp2]
    intro ts v tl h hA hS
    cases ts with
    | nil => simp [toValueAux] at h
    | cons t ts =>
      have hsubtl : ∀ x ∈ ts, x ∈ t :: ts := fun x hx => List.mem_cons_of_mem _ hx
      cases t with
      | simple s =>
        simp only [toValueAux, Option.some.injEq, Prod.mk.injEq] at h
        obtain ⟨rfl, rfl⟩ := h
        refine ⟨hsubtl, fun rest => ?_⟩
        have hc := lineOK_clean s (hS _ (by simp))
        rw [renderAll_cons]
        simp only [render, crlf, List.cons_append, List.append_assoc, List.nil_append, parseFuel_succ_cons]
        exact body_simple _ _ _ hc
      | err k =>
        simp only [toValueAux, Option.some.injEq, Prod.mk.injEq] at h
        obtain ⟨rfl, rfl⟩ := h
        refine ⟨hsubtl, fun rest => ?_⟩
        rw [renderAll_cons]
        simp only [render, crlf, List.cons_append, List.append_assoc, List.nil_append, parseFuel_succ_cons]
        exact body_error _ _ _ (errText_clean k)
      | int n =>
        simp only [toValueAux, Option.some.injEq, Prod.mk.injEq] at h
        obtain ⟨rfl, rfl⟩ := h
        refine ⟨hsubtl, fun rest => ?_⟩
        rw [renderAll_cons]
        simp only [render, crlf, List.cons_append, List.append_assoc, List.nil_append, parseFuel_succ_cons]
        exact body_int _ _ _
      | bulk b =>
        simp only [toValueAux, Option.some.injEq, Prod.mk.injEq] at h
        obtain ⟨rfl, rfl⟩ := h
        refine ⟨hsubtl, fun rest => ?_⟩
        rw [renderAll_cons]
        simp only [render, crlf, List.cons_append, List.append_assoc, List.nil_append, parseFuel_succ_cons]
        exact body_bulk _ _ _
      | nullBulk =>
        simp only [toValueAux, Option.some.injEq, Prod.mk.injEq] at h
        obtain ⟨rfl, rfl⟩ := h
        refine ⟨hsubtl, fun rest => ?_⟩
        rw [renderAll_cons, render_nullBulk]
        simp only [List.cons_append, List.nil_append, parseFuel_succ_cons]
        exact body_nullBulk _ _
      | nullArr =>
        simp only [toValueAux, Option.some.injEq, Prod.mk.injEq] at h
        obtain ⟨rfl, rfl⟩ := h
        refine ⟨hsubtl, fun rest => ?_⟩
        rw [renderAll_cons, render_nullArr]
        simp only [List.cons_append, List.nil_append, parseFuel_succ_cons]
        exact body_nullArray _ _
      | arr n =>
        have hn1 : -1 ≤ n := by simpa [arrOK] using hA (.arr n) (by simp)
        simp only [toValueAux] at h
        by_cases hn : n < 0
        · simp only [hn, if_true, Option.some.injEq, Prod.mk.injEq] at h
          obtain ⟨rfl, rfl⟩ := h
          have : n = -1 := by omega
          subst this
          refine ⟨hsubtl, fun rest => ?_⟩
          rw [renderAll_cons]
          simp only [render, crlf, formatInt_neg_one, List.cons_append, List.nil_append, parseFuel_succ_cons]
          exact body_nullArray _ _
        · simp only [hn, if_false] at h
          cases h2 : seqN (toValueAux f) n.toNat ts with
          | none => simp [h2] at h
          | some b =>
            obtain ⟨ws, tl'⟩ := b
            simp only [h2, Option.some.injEq, Prod.mk.injEq] at h
            obtain ⟨rfl, rfl⟩ := h
            obtain ⟨hsub, hp⟩ := hseq _ ts ws tl' h2 (fun t ht => hA t (hsubtl t ht)) (fun t ht => hS t (hsubtl t ht))
            refine ⟨fun t ht => hsubtl t (hsub t ht), fun rest => ?_⟩
            rw [renderAll_cons]
            simp only [render, crlf, List.cons_append, List.append_assoc, List.nil_append, parseFuel_succ_cons]
            rw [body_array _ _ (by omega), hp]

theorem length_le_renderAll (ts : List Tok) : ts.length ≤ (renderAll ts).length := by
  induction ts with
  | nil => simp
  | cons t ts ih =>
    rw [renderAll_cons]
    have : 1 ≤ (render t).length := by
      cases t with
      | nullBulk => rw [render_nullBulk]; decide
      | nullArr => rw [render_nullArr]; decide
      | _ => simp only [render, List.length_cons, List.length_append]; omega
    simp only [List.length_cons, List.length_append]; omega

/-- (`toValue ts = some v` already says that `ts` is one complete value) -/
theorem render_parse_roundtrip (ts : List Tok) (rest : Bytes)
    (hA : ArrOK ts) (hS : LinesOK ts) (v : Value) (hv : toValue ts = some v) :
    parseReply (renderAll ts ++ rest) = some (v, rest) := by
  unfold toValue at hv
  split at hv
  · rename_i v' heq
    simp only [Option.some.injEq] at hv
    subst hv
    have := (parseFuel_render _ ts v' [] heq hA hS).2 rest
    simp only [renderAll_nil, List.nil_append] at this
    unfold parseReply
    refine parseFuel_le _ _ ?_ _ _ this
    have := length_le_renderAll ts
    simp only [List.length_append]; omega
  · exact absurd hv (by simp)

theorem render_parse_roundtrip' (ts : List Tok) (rest : Bytes) (h1 : oneValue ts = true)
    (hA : ArrOK ts) (hS : LinesOK ts) :
    ∃ v, toValue ts = some v ∧ parseReply (renderAll ts ++ rest) = some (v, rest) := by
  obtain ⟨v, hv⟩ := toValue_of_oneValue ts h1
  exact ⟨v, hv, render_parse_roundtrip ts rest hA hS v hv⟩

theorem parseMany_renderAll (rs : List (List Tok)) (vs : List Value) (rest : Bytes)
    (hok : ∀ r ∈ rs, oneValue r = true ∧ ArrOK r ∧ LinesOK r)
    (hvs : rs.map toValue = vs.map some) :
    parseMany rs.length (rs.flatMap renderAll ++ rest) = some (vs, rest) :=
  seqN_flatMap parseReply renderAll toValue (fun r => oneValue r = true ∧ ArrOK r ∧ LinesOK r) (fun _ => True)
    (fun _ _ _ => trivial)
    (fun r v rest hr hv _ => render_parse_roundtrip r rest hr.2.1 hr.2.2 v hv) rs vs rest hok hvs trivial

theorem parseMany_append (j k : Nat) (bs bs' bs'' : Bytes) (vs ws : List Value)
    (h1 : parseMany j bs = some (vs, bs')) (h2 : parseMany k bs' = some (ws, bs'')) :
    parseMany (j + k) bs = some (vs ++ ws, bs'') := seqN_add _ j k bs bs' bs'' vs ws h1 h2

theorem pipeline_in_sync (rs : List (List Tok)) (m : List Tok) (rest : Bytes)
    (vs : List Value) (vm : Value)
    (hok : ∀ r ∈ rs, oneValue r = true ∧ ArrOK r ∧ LinesOK r)
    (hm : oneValue m = true ∧ ArrOK m ∧ LinesOK m)
    (hvs : rs.map toValue = vs.map some) (hvm : toValue m = some vm) :
    parseMany (rs.length + 1) ((rs ++ [m]).flatMap renderAll ++ rest) = some (vs ++ [vm], rest) := by
  have := parseMany_renderAll (rs ++ [m]) (vs ++ [vm]) rest
    (by
      intro r hr
      rcases List.mem_append.1 hr with h | h
      · exact hok r h
      · simp at h; subst h; exact hm)
    (by simp [hvs, hvm])
  simpa using this

theorem toValues_of_oneValue (rs : List (List Tok)) (h : ∀ r ∈ rs, oneValue r = true) :
    ∃ vs : List Value, rs.map toValue = vs.map some := by
  induction rs with
  | nil => exact ⟨[], rfl⟩
  | cons r rs ih =>
    obtain ⟨vs, hvs⟩ := ih (fun r' hr' => h r' (List.mem_cons_of_mem _ hr'))
    obtain ⟨v, hv⟩ := toValue_of_oneValue r (h r (by simp))
    exact ⟨v :: vs, by simp [hv, hvs]⟩

theorem pipeline_in_sync' (rs : List (List Tok)) (m : List Tok) (rest : Bytes)
    (hok : ∀ r ∈ rs, oneValue r = true ∧ ArrOK r ∧ LinesOK r)
    (hm : oneValue m = true ∧ ArrOK m ∧ LinesOK m) :
    ∃ (vs : List Value) (vm : Value), rs.map toValue = vs.map some ∧ toValue m = some vm ∧
      parseMany (rs.length + 1) ((rs ++ [m]).flatMap renderAll ++ rest) = some (vs ++ [vm], rest) := by
  obtain ⟨vs, hvs⟩ := toValues_of_oneValue rs fun r hr => (hok r hr).1
  obtain ⟨vm, hvm⟩ := toValue_of_oneValue m hm.1
  exact ⟨vs, vm, hvs, hvm, pipeline_in_sync rs m rest vs vm hok hm hvs hvm⟩

theorem formatInt_nat_lit (n : Nat) (l : Bytes)
    (h : (Nat.toDigits 10 n).map (fun c => c.val.toUInt8) = l) : formatInt (n : Int) = l := by
  have : ¬ ((n : Int) < 0) := by omega
  simp only [formatInt, this, if_false, Int.toNat_natCast, C15.natDigits_eq_map, h]

theorem formatInt_neg_lit (n : Nat) (hn : 0 < n) (l : Bytes)
    (h : (Nat.toDigits 10 n).map (fun c => c.val.toUInt8) = l) : formatInt (-(n : Int)) = 45 :: l := by
  have : (-(n : Int) < 0) := by omega
  simp only [formatInt, this, if_true, Int.natAbs_neg, Int.natAbs_natCast, C15.natDigits_eq_map, h]

/-- Witness: a handler writes the header `*2` but only one element.  The reply is not one value
    (`oneValue = false`); the client, reading two replies (this one and the next command's `+OK`),
    swallows the next command's reply into the array and takes the marker's `+PONG` for the second
    reply: the pipeline is out of sync (and a client reading the three replies it is owed blocks
    forever: `parseMany 3 = none`). -/
theorem short_array_desync :
    oneValue [.arr 2, .bulk [97]] = false ∧
    parseMany 2 (renderAll [.arr 2, .bulk [97]] ++ renderAll [.simple [79, 75]] ++ renderAll [.simple [80, 79, 78, 71]]) =
      some ([.array [.bulk [97], .simple [79, 75]], .simple [80, 79, 78, 71]], []) ∧
    parseMany 3 (renderAll [.arr 2, .bulk [97]] ++ renderAll [.simple [79, 75]] ++ renderAll [.simple [80, 79, 78, 71]]) =
      none := by
  have f2 : formatInt 2 = [50] := formatInt_nat_lit 2 _ (by decide)
  have f1 : formatInt 1 = [49] := formatInt_nat_lit 1 _ (by decide)
  have hb : renderAll [.arr 2, .bulk [97]] ++ renderAll [.simple [79, 75]] ++ renderAll [.simple [80, 79, 78, 71]] =
      [42, 50, 13, 10, 36, 49, 13, 10, 97, 13, 10, 43, 79, 75, 13, 10, 43, 80, 79, 78, 71, 13, 10] := by
    simp [renderAll, render, crlf, f2, f1]
  refine ⟨by simp [oneValue, valueSize, valueSize.elems], ?_, ?_⟩
  · rw [hb]; rfl
  · rw [hb]; rfl

/-- without `ArrOK`: `WriteArray(-5)` is "one value" for the writer but prints `*-5`, which no
    RESP reader accepts -/
theorem arrOK_necessary :
    oneValue [.arr (-5)] = true ∧ ¬ ArrOK [.arr (-5)] ∧ parseReply (renderAll [.arr (-5)]) = none := by
  have f5 : formatInt (-5) = [45, 53] := formatInt_neg_lit 5 (by decide) _ (by decide)
  have hb : renderAll [.arr (-5)] = [42, 45, 53, 13, 10] := by simp [renderAll, render, crlf, f5]
  refine ⟨by simp [oneValue, valueSize], by decide, ?_⟩
  rw [hb]; rfl

/-- without `LinesOK`: a simple string with an LF inside is rejected by the strict reader -/
theorem linesOK_necessary :
    oneValue [.simple [79, 10, 75]] = true ∧ ¬ LinesOK [.simple [79, 10, 75]] ∧
    parseReply (renderAll [.simple [79, 10, 75]]) = none := by
  have hb : renderAll [.simple [79, 10, 75]] = [43, 79, 10, 75, 13, 10] := by simp [renderAll, render, crlf]
  refine ⟨by simp [oneValue, valueSize], by decide, ?_⟩
  rw [hb]; rfl

/-- `*6` [ bulk "a\r\nb", bulk "", null bulk, :-42, `*2` [ +OK, -ERR ], null array ] -/
def sampleToks : List Tok :=
  [.arr 6, .bulk [97, 13, 10, 98], .bulk [], .nullBulk, .int (-42), .arr 2, .simple [79, 75], .err 0, .nullArr]

def sampleValue : Value :=
  .array [.bulk [97, 13, 10, 98], .bulk [], .nullBulk, .int (-42), .array [.simple [79, 75], .error (errText 0)], .nullArray]

example : oneValue sampleToks = true := by simp [sampleToks, oneValue, valueSize, valueSize.elems]
example : ArrOK sampleToks := by decide
example : LinesOK sampleToks := by decide
example : toValue sampleToks = some sampleValue := rfl

example : parseReply (renderAll sampleToks ++ [1, 2, 3]) = some (sampleValue, [1, 2, 3]) :=
  render_parse_roundtrip sampleToks [1, 2, 3] (by decide) (by decide) sampleValue rfl

/-- the same computed on the literal bytes -/
example :
    renderAll sampleToks =
      [42, 54, 13, 10,                                   -- *6
       36, 52, 13, 10, 97, 13, 10, 98, 13, 10,           -- $4 a\r\nb
       36, 48, 13, 10, 13, 10,                           -- $0
       36, 45, 49, 13, 10,                               -- $-1
       58, 45, 52, 50, 13, 10,                           -- :-42
       42, 50, 13, 10,                                   -- *2
       43, 79, 75, 13, 10,                               -- +OK
       45, 69, 82, 82, 13, 10,                           -- -ERR
       42, 45, 49, 13, 10] ∧                             -- *-1
    parseReply
      [42, 54, 13, 10, 36, 52, 13, 10, 97, 13, 10, 98, 13, 10, 36, 48, 13, 10, 13, 10, 36, 45, 49, 13, 10,
       58, 45, 52, 50, 13, 10, 42, 50, 13, 10, 43, 79, 75, 13, 10, 45, 69, 82, 82, 13, 10, 42, 45, 49, 13, 10, 7] =
      some (.array [.bulk [97, 13, 10, 98], .bulk [], .nullBulk, .int (-42),
                    .array [.simple [79, 75], .error [69, 82, 82]], .nullArray], [7]) := by
  have f6 : formatInt 6 = [54] := formatInt_nat_lit 6 _ (by decide)
  have f4 : formatInt 4 = [52] := formatInt_nat_lit 4 _ (by decide)
  have f0 : formatInt 0 = [48] := formatInt_nat_lit 0 _ (by decide)
  have f2 : formatInt 2 = [50] := formatInt_nat_lit 2 _ (by decide)
  have f42 : formatInt (-42) = [45, 52, 50] := formatInt_neg_lit 42 (by decide) _ (by decide)
  have he : errText 0 = [69, 82, 82] := by
    show Bytes.ofString "ERR" = _
    rw [C15.ofString_ascii _ (by decide)]; decide
  have hnb : Bytes.ofString "$-1\r\n" = [36, 45, 49, 13, 10] := render_nullBulk
  have hna : Bytes.ofString "*-1\r\n" = [42, 45, 49, 13, 10] := render_nullArr
  refine ⟨?_, rfl⟩
  simp [sampleToks, renderAll, render, crlf, f6, f4, f0, f2, f42, he, hnb, hna]

/-- a pipeline of three commands and a marker -/
example :
    parseMany 4 (([[Tok.int 1], sampleToks, [Tok.bulk [13, 10]]] ++ [[Tok.simple [80, 79, 78, 71]]]).flatMap renderAll ++ [9]) =
      some ([Value.int 1, sampleValue, Value.bulk [13, 10]] ++ [Value.simple [80, 79, 78, 71]], [9]) :=
  pipeline_in_sync [[.int 1], sampleToks, [.bulk [13, 10]]] [.simple [80, 79, 78, 71]] [9]
    [.int 1, sampleValue, .bulk [13, 10]] (.simple [80, 79, 78, 71])
    (by
      intro r hr
      simp only [List.mem_cons, List.not_mem_nil, or_false] at hr
      rcases hr with rfl | rfl | rfl
      · exact ⟨by simp [oneValue, valueSize], by decide, by decide⟩
      · exact ⟨by simp [sampleToks, oneValue, valueSize, valueSize.elems], by decide, by decide⟩
      · exact ⟨by simp [oneValue, valueSize], by decide, by decide⟩)
    ⟨by simp [oneValue, valueSize], by decide, by decide⟩ rfl rfl

example : parseDec (formatInt 0) = some 0 := parseDec_formatInt 0
example : parseDec (formatInt 18446744073709551616) = some 18446744073709551616 := parseDec_formatInt _
example : parseDec (formatInt (-9223372036854775808)) = some (-9223372036854775808) := parseDec_formatInt _
example : formatInt ((4096 : Nat) : Int) = [52, 48, 57, 54] := formatInt_nat_lit 4096 _ (by decide)
example : parseDec [52, 48, 57, 54] = some 4096 := by decide
example : parseDec [45, 55] = some (-7) := by decide
example : parseDec [45] = none := by decide
example : parseDec [] = none := by decide
example : parseDec [43, 55] = none := by decide
example : parseReply [42, 45, 53, 13, 10] = none := rfl            -- `*-5`
example : parseReply [36, 51, 13, 10, 97, 98, 13, 10] = none := rfl   -- `$3` with 2 bytes
example : parseReply [43, 79, 10, 75, 13, 10] = none := rfl         -- LF inside a simple string
example : parseReply [63, 13, 10] = none := rfl                     -- unknown type byte

end NodisVerif.Proofs.C16Parse

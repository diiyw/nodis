import NodisVerif.Proofs.C15Flat
import NodisVerif.Proofs.C15Decimal
import NodisVerif.Spec.RespEnc
/-
  C15 (§2 of Props/C15.lean): the reader inverts the RESP request encoding, for any chunking of the stream.
  `readBulk_header` / `readCommand_header` say what happens after the header line `$ds` / `*ds` for every text
  `ds`; the round trip is the case of a well-formed size, C17's rejections (C17Sizes.lean) the other cases.
-/
namespace NodisVerif.Proofs.C15
open Resp RespReader Spec.RespEnc

theorem readLine_ok : ∀ (ds : Bytes) (t : Bytes) (st : RState) (fuel : Nat),
    (∀ x ∈ ds, x ≠ 10) → srcFlat st.src = ds ++ 13 :: 10 :: t → ds.length + 2 ≤ fuel →
    ∃ src', srcFlat src' = t ∧ readLine st fuel = .ok () ⟨src', st.before, st.win ++ ds⟩ := by
  intro ds
  induction ds with
  | nil =>
    intro t st fuel _ hf hfuel
    match fuel, hfuel with
    | fuel + 2, _ =>
      obtain ⟨s1, hs1, e1⟩ := readByte_cons (st := st) hf
      obtain ⟨s2, hs2, e2⟩ := readByte_cons (st := ⟨s1, st.before, st.win ++ [13]⟩) hs1
      refine ⟨s2, hs2, ?_⟩
      unfold readLine
      simp only [e1]
      have : ¬ ((st.win ++ [13]).length > 1 ∧ (st.win ++ [13]).getLast? = some 10) := by simp
      rw [if_neg this]
      unfold readLine
      simp only [e2]
      have : ((st.win ++ [13] ++ [10]).length > 1 ∧ (st.win ++ [13] ++ [10]).getLast? = some 10) := by simp
      rw [if_pos this]
      simp
  | cons d ds ih =>
    intro t st fuel hd hf hfuel
    match fuel, hfuel with
    | fuel + 1, hfuel =>
      obtain ⟨s1, hs1, e1⟩ := readByte_cons (st := st) hf
      obtain ⟨s2, hs2, e2⟩ := ih t ⟨s1, st.before, st.win ++ [d]⟩ fuel (fun x hx => hd x (by simp [hx])) hs1
        (by simp at hfuel; omega)
      refine ⟨s2, hs2, ?_⟩
      unfold readLine
      simp only [e1]
      have : ¬ ((st.win ++ [d]).length > 1 ∧ (st.win ++ [d]).getLast? = some 10) := by
        simp; intro _; exact hd d (by simp)
      rw [if_neg this, e2]
      simp

theorem readInteger_line (ds t : Bytes) (st : RState) (hd : ∀ x ∈ ds, x ≠ 10) (hw : st.win = [])
    (hf : srcFlat st.src = ds ++ 13 :: 10 :: t) :
    ∃ st', srcFlat st'.src = t ∧ st'.win = [] ∧
      readInteger st = (match parseInt64 ds with | some v => .ok v st' | none => .err .badInteger st') := by
  obtain ⟨s1, hs1, e1⟩ := readLine_ok ds t st (remaining st + 1) hd hf (by simp [remaining, hf])
  refine ⟨malloc ⟨s1, st.before, st.win ++ ds⟩, by simpa [malloc] using hs1, by simp [malloc], ?_⟩
  unfold readInteger
  simp only [e1, hw, List.nil_append]
  cases parseInt64 ds <;> rfl

theorem formatInt_natCast_no_lf (n : Nat) : ∀ x ∈ formatInt (n : Int), x ≠ 10 := by
  have hfi : formatInt (n : Int) = natDigits n := by simp [formatInt]
  exact hfi ▸ natDigits_ne_lf n

theorem readBulk_header (ds t : Bytes) (st : RState) (hd : ∀ x ∈ ds, x ≠ 10) (hw : st.win = [])
    (hf : srcFlat st.src = 36 :: (ds ++ 13 :: 10 :: t)) :
    ∃ st', srcFlat st'.src = t ∧ st'.win = [] ∧
      readBulk st = match parseInt64 ds with
        | none => .err .badInteger st'
        | some l =>
          if l < 0 ∨ l > maxBulk then .err .tooLarge st' else
          match readByteN st' l.toNat (remaining st' + 1) with
          | .err e st => .err e st
          | .panic => .panic
          | .ok _ st =>
            match readLine (malloc st) (remaining (malloc st) + 1) with
            | .err e st => .err e st
            | .panic => .panic
            | .ok _ st' => .ok st.win (malloc st') := by
  obtain ⟨s1, hs1, e1⟩ := readByte_cons hf
  obtain ⟨st2, hs2, hw2, e2⟩ := readInteger_line ds t (malloc ⟨s1, st.before, st.win ++ [36]⟩) hd
    (by simp [malloc]) (by simpa [malloc] using hs1)
  rw [hw] at e2
  simp only [List.nil_append] at e2
  refine ⟨st2, hs2, hw2, ?_⟩
  unfold readBulk
  simp only [e1, hw, List.nil_append, List.head?_cons, ne_eq, not_true_eq_false, if_false, e2]
  cases parseInt64 ds <;> rfl

theorem readCommand_header (ds t : Bytes) (src : Source) (hd : ∀ x ∈ ds, x ≠ 10)
    (hf : srcFlat src = 42 :: (ds ++ 13 :: 10 :: t)) :
    ∃ st', srcFlat st'.src = t ∧ st'.win = [] ∧
      readCommand src = match parseInt64 ds with
        | none => .err .expectedArrayLength st'
        | some l =>
          match readBulks st' l.toNat [] with
          | .err e st => .err e st
          | .panic => .panic
          | .ok [] st => .ok { name := [], args := [] } st
          | .ok (n :: args) st => .ok { name := upper n, args := args } st := by
  obtain ⟨s1, hs1, e1⟩ := readByte_cons (st := { src := src }) hf
  obtain ⟨st2, hs2, hw2, e2⟩ := readInteger_line ds t (malloc ⟨s1, none, [] ++ [42]⟩) hd
    (by simp [malloc]) (by simpa [malloc] using hs1)
  simp only [List.nil_append] at e2
  refine ⟨st2, hs2, hw2, ?_⟩
  unfold readCommand
  simp only [e1, List.nil_append, List.head?_cons, ne_eq, not_true_eq_false, if_false, e2]
  cases parseInt64 ds <;> rfl

theorem readByteN_ok (b t : Bytes) (st : RState) (hw : st.win = []) (hf : srcFlat st.src = b ++ t)
    (fuel : Nat) (hfuel : remaining st < fuel) :
    ∃ st', readByteN st b.length fuel = .ok () st' ∧ srcFlat st'.src = t ∧ st'.win = b ∧ st'.before = st.before := by
  have h := readByteN_spec b.length fuel st hfuel
  simp only [readByteNF, hw, hf, List.length_nil, List.nil_append, Nat.sub_zero] at h
  by_cases hb : b.length = 0
  · have : b = [] := List.eq_nil_of_length_eq_zero hb
    subst this
    simp at h
    obtain ⟨p, e1, hpq⟩ := h.of_ok
    exact ⟨p, e1, by simpa using hpq.1, hpq.2.2, hpq.2.1⟩
  · have h1 : ¬ (0 ≥ b.length) := by omega
    have h2 : (b ++ t).length ≥ b.length := by simp
    simp only [h1, if_false, h2, if_true] at h
    obtain ⟨p, e1, hpq⟩ := h.of_ok
    exact ⟨p, e1, by simpa using hpq.1, by simpa using hpq.2.2, hpq.2.1⟩

theorem encodeBulk_eq (b : Bytes) :
    encodeBulk b = 36 :: (formatInt (b.length : Int) ++ 13 :: 10 :: (b ++ 13 :: 10 :: [])) := by
  simp [encodeBulk, Spec.RespEnc.crlf]

theorem readBulk_ok (b t : Bytes) (hb : (b.length : Int) ≤ maxBulk) (st : RState) (hw : st.win = [])
    (hf : srcFlat st.src = encodeBulk b ++ t) :
    ∃ st', readBulk st = .ok b st' ∧ srcFlat st'.src = t ∧ st'.win = [] := by
  rw [encodeBulk_eq] at hf
  simp only [List.cons_append, List.append_assoc, List.nil_append] at hf
  have hmb : (b.length : Int) ≤ int64Max := by simp [maxBulk, int64Max] at *; omega
  obtain ⟨st2, hs2, hw2, e⟩ := readBulk_header _ _ st (formatInt_natCast_no_lf b.length) hw hf
  have : ¬ ((b.length : Int) < 0 ∨ (b.length : Int) > maxBulk) := by omega
  rw [parseInt64_formatInt_nat b.length hmb] at e
  simp only [if_neg this, Int.toNat_natCast] at e
  obtain ⟨st3, e3, hs3, hw3, _⟩ := readByteN_ok b (13 :: 10 :: t) st2 hw2 hs2 (remaining st2 + 1) (Nat.lt_succ_self _)
  obtain ⟨s4, hs4, e4⟩ := readLine_ok [] t (malloc st3) (remaining (malloc st3) + 1) (by simp)
    (by simpa [malloc] using hs3) (by simp [remaining, malloc, hs3])
  rw [e]
  simp only [e3, e4, hw3]
  exact ⟨_, rfl, by simpa [malloc] using hs4, by simp [malloc]⟩

theorem readBulks_prefix : ∀ (bs : List Bytes) (t : Bytes) (m : Nat) (st : RState) (acc : List Bytes),
    (∀ b ∈ bs, (b.length : Int) ≤ maxBulk) → st.win = [] → srcFlat st.src = bs.flatMap encodeBulk ++ t →
    ∃ st', readBulks st (bs.length + m) acc = readBulks st' m (bs.reverse ++ acc) ∧ srcFlat st'.src = t ∧ st'.win = [] := by
  intro bs
  induction bs with
  | nil => intro t m st acc _ hw hf; exact ⟨st, by simp, by simpa using hf, hw⟩
  | cons b bs ih =>
    intro t m st acc hb hw hf
    simp only [List.flatMap_cons, List.append_assoc] at hf
    obtain ⟨st1, e1, hs1, hw1⟩ := readBulk_ok b _ (hb b (by simp)) st hw hf
    obtain ⟨st2, e2, hs2, hw2⟩ := ih t m st1 (b :: acc) (fun x hx => hb x (by simp [hx])) hw1 hs1
    refine ⟨st2, ?_, hs2, hw2⟩
    have : (b :: bs).length + m = (bs.length + m) + 1 := by simp; omega
    rw [this, readBulks]
    simp only [e1, e2]
    simp

theorem readBulks_ok (bs : List Bytes) (t : Bytes) (st : RState) (acc : List Bytes)
    (hb : ∀ b ∈ bs, (b.length : Int) ≤ maxBulk) (hw : st.win = []) (hf : srcFlat st.src = bs.flatMap encodeBulk ++ t) :
    ∃ st', readBulks st bs.length acc = .ok (acc.reverse ++ bs) st' ∧ srcFlat st'.src = t ∧ st'.win = [] := by
  obtain ⟨st', e, hs, hw'⟩ := readBulks_prefix bs t 0 st acc hb hw hf
  exact ⟨st', by simpa [readBulks] using e, hs, hw'⟩

theorem readCommand_encode (name : Bytes) (args : List Bytes) (rest : Bytes) (src : Source)
    (hname : (name.length : Int) ≤ maxBulk) (hargs : ∀ a ∈ args, (a.length : Int) ≤ maxBulk)
    (hcount : ((1 + args.length : Nat) : Int) ≤ int64Max)
    (hf : srcFlat src = encodeCommand name args ++ rest) :
    ∃ st, readCommand src = .ok { name := upper name, args := args } st ∧ srcFlat st.src = rest ∧ st.win = [] := by
  have henc : encodeCommand name args ++ rest =
      42 :: (formatInt ((1 + args.length : Nat) : Int) ++ 13 :: 10 :: ((name :: args).flatMap encodeBulk ++ rest)) := by
    simp [encodeCommand, Spec.RespEnc.crlf]
  rw [henc] at hf
  obtain ⟨st2, hs2, hw2, e⟩ := readCommand_header _ _ src (formatInt_natCast_no_lf (1 + args.length)) hf
  obtain ⟨st3, e3, hs3, hw3⟩ := readBulks_ok (name :: args) rest st2 []
    (by intro b hb; simp at hb; rcases hb with rfl | hb; exact hname; exact hargs b hb) hw2 (by simpa using hs2)
  refine ⟨st3, ?_, hs3, hw3⟩
  have : 1 + args.length = (name :: args).length := by simp; omega
  rw [e, parseInt64_formatInt_nat _ hcount]
  simp only [Int.toNat_natCast, this, e3]
  simp

end NodisVerif.Proofs.C15

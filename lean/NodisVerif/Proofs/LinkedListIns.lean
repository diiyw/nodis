import NodisVerif.Proofs.LinkedListUnlink
/-
  LIndex / LSet / LInsert of the pointer-level list (Model/LinkedList.lean) refine the sequence-level
  functions of Model/DsList.lean.
-/
namespace NodisVerif.LinkedList

theorem toNat_sub_succ (index k : Int) (h : k < index) :
    (index - k).toNat = (index - (k + 1)).toNat + 1 := by omega

theorem lindexLoop_seg (h : Heap) (suf : List Nat) (p : Option Nat) (fuel : Nat) (k index : Int)
    (hf : suf.length ≤ fuel) (hs : Seg h p suf none) :
    lindexLoop fuel h (hd suf none) k index =
      .ok (if index < k then none else (suf.map (dataAt h))[(index - k).toNat]?) := by
  induction suf generalizing p fuel k with
  | nil =>
    cases fuel <;> simp [lindexLoop]
  | cons i suf ih =>
    obtain ⟨n, h1, _, h3, h4⟩ := hs
    cases fuel with
    | zero => simp at hf
    | succ fuel =>
      simp only [hd_cons, lindexLoop, rd_ok h1, Res.bind_ok, h3]
      by_cases e : k = index
      · subst e
        simp [dataAt_of h1]
      · rw [if_neg e, ih _ fuel (k + 1) (by simpa using hf) h4]
        by_cases hlt : index < k
        · rw [if_pos hlt, if_pos (by omega)]
        · rw [if_neg hlt, if_neg (by omega)]
          rw [toNat_sub_succ index k (by omega), List.map_cons, List.getElem?_cons_succ]

theorem lindex_refines (l : PList) (hi : Inv l) (index : Int) :
    lindex l index = .ok (DsList.lindex (absL l) index) := by
  obtain ⟨c, hi⟩ := hi
  unfold lindex DsList.lindex absL
  simp only
  rw [hi.head, ← hd_none, lindexLoop_seg _ c none _ _ _ (by have := hi.length_le; omega) hi.seg,
    abs_eq hi]
  rw [Int.sub_zero]

theorem seg_setData (h : Heap) (c : List Nat) (p q : Option Nat) (x : Nat) (n : Node) (v : Bytes)
    (hn : h[x]? = some n) (hs : Seg h p c q) : Seg (h.setIfInBounds x { n with data := v }) p c q := by
  induction c generalizing p with
  | nil => trivial
  | cons i c ih =>
    obtain ⟨m, h1, h2, h3, h4⟩ := hs
    by_cases e : x = i
    · subst e
      have : m = n := by rw [hn] at h1; cases h1; rfl
      subst this
      exact ⟨_, get_set_eq h x m _ hn, h2, h3, ih _ h4⟩
    · exact ⟨m, by rw [get_set_ne h x i _ e]; exact h1, h2, h3, ih _ h4⟩

theorem dataAt_set_data_ne (h : Heap) (x : Nat) (v : Node) (i : Nat) (hne : x ≠ i) :
    dataAt (h.setIfInBounds x v) i = dataAt h i := by
  simp [dataAt, get_set_ne h x i v hne]

theorem lsetLoop_miss (h : Heap) (suf : List Nat) (p : Option Nat) (fuel : Nat) (k index : Int) (value : Bytes)
    (hf : suf.length ≤ fuel) (hs : Seg h p suf none) (ho : index < k ∨ index ≥ k + suf.length) :
    lsetLoop fuel h (hd suf none) k index value = .ok (h, false) := by
  induction suf generalizing p fuel k with
  | nil => cases fuel <;> simp [lsetLoop]
  | cons i suf ih =>
    obtain ⟨n, h1, _, h3, h4⟩ := hs
    cases fuel with
    | zero => simp at hf
    | succ fuel =>
      simp only [hd_cons, lsetLoop, rd_ok h1, Res.bind_ok, h3]
      have e : k ≠ index := by simp only [List.length_cons] at ho; omega
      rw [if_neg e]
      exact ih _ fuel (k + 1) (by simpa using hf) h4 (by simp only [List.length_cons] at ho; omega)

theorem lsetLoop_hit (h : Heap) (suf : List Nat) (p : Option Nat) (fuel : Nat) (k index : Int) (value : Bytes)
    (hf : suf.length ≤ fuel) (hs : Seg h p suf none) (hnd : suf.Nodup)
    (hk : k ≤ index) (hlt : index < k + suf.length) :
    ∃ h', lsetLoop fuel h (hd suf none) k index value = .ok (h', true) ∧
      (∀ p c q, Seg h p c q → Seg h' p c q) ∧
      (∀ i, i ∉ suf → dataAt h' i = dataAt h i) ∧
      suf.map (dataAt h') = (suf.map (dataAt h)).set (index - k).toNat value := by
  induction suf generalizing p fuel k with
  | nil => simp at hlt; omega
  | cons i suf ih =>
    obtain ⟨n, h1, _, h3, h4⟩ := hs
    obtain ⟨hni, hnd'⟩ := List.nodup_cons.mp hnd
    cases fuel with
    | zero => simp at hf
    | succ fuel =>
      simp only [hd_cons, lsetLoop, rd_ok h1, Res.bind_ok, h3]
      by_cases e : k = index
      · subst e
        simp only [if_true, setData_ok h1, Res.bind_ok]
        refine ⟨_, rfl, fun p c q hs => seg_setData h c p q i n value h1 hs, ?_, ?_⟩
        · intro j hj
          exact dataAt_set_data_ne h i _ j (fun e => hj (by simp [e]))
        · simp only [Int.sub_self, Int.toNat_zero, List.map_cons, List.set_cons_zero, List.cons.injEq]
          refine ⟨by simp [dataAt, get_set_eq h i n _ h1], ?_⟩
          exact map_dataAt_congr _ _ _ (fun j hj => dataAt_set_data_ne h i _ j (fun e => hni (e ▸ hj)))
      · rw [if_neg e]
        obtain ⟨h', e1, e3, e4, e5⟩ := ih _ fuel (k + 1) (by simpa using hf) h4 hnd' (by omega)
          (by simp only [List.length_cons] at hlt; omega)
        refine ⟨h', e1, e3, fun j hj => e4 j (fun hm => hj (List.mem_cons_of_mem _ hm)), ?_⟩
        rw [toNat_sub_succ index k (by omega)]
        simp only [List.map_cons, List.set_cons_succ, List.cons.injEq]
        exact ⟨e4 i hni, e5⟩

theorem lset_refines (l : PList) (hi : Inv l) (index : Int) (value : Bytes) :
    ∃ l', lset l index value = .ok (l', (DsList.lset (absL l) index value).2) ∧ Inv l' ∧
      absL l' = (DsList.lset (absL l) index value).1 := by
  obtain ⟨c, hi⟩ := hi
  have hfuel : c.length ≤ l.heap.size + 1 := by have := hi.length_le; omega
  have habs := abs_eq hi
  unfold lset DsList.lset
  simp only [show (absL l).length = l.length from rfl, show (absL l).items = abs l from rfl]
  generalize (if index < 0 then l.length + index else index) = ix
  by_cases ho : ix < 0 ∨ ix ≥ (abs l).length
  · rw [if_pos ho]
    have ho' : ix < 0 ∨ ix ≥ 0 + (c.length : Int) := by
      rw [habs, List.length_map] at ho; omega
    have e1 := lsetLoop_miss _ c none _ 0 ix value hfuel hi.seg ho'
    rw [hd_none, ← hi.head] at e1
    rw [e1]
    exact ⟨l, rfl, ⟨c, hi⟩, rfl⟩
  · rw [if_neg ho]
    have hk : (0 : Int) ≤ ix := by omega
    have hlt : ix < 0 + (c.length : Int) := by
      rw [habs, List.length_map] at ho; omega
    obtain ⟨h', e1, e3, _, e5⟩ := lsetLoop_hit _ c none _ 0 ix value hfuel hi.seg hi.nodup hk hlt
    rw [hd_none, ← hi.head] at e1
    rw [e1]
    have hi' : InvC { l with heap := h' } c := ⟨hi.nodup, e3 _ _ _ hi.seg, hi.head, hi.tail, hi.length⟩
    refine ⟨{ l with heap := h' }, rfl, ⟨c, hi'⟩, ?_⟩
    · unfold absL
      rw [abs_eq hi', habs]
      simp only [Int.sub_zero] at e5
      simp only [e5]

theorem setNext_step {h : Heap} {i : Nat} {n : Node} (hn : h[i]? = some n) (v : Option Nat) :
    ∃ h', setNext h i v = .ok h' ∧ h'[i]? = some { n with next := v } ∧ (∀ j, i ≠ j → h'[j]? = h[j]?) ∧
      (∀ j, dataAt h' j = dataAt h j) :=
  ⟨_, setNext_ok hn v, get_set_eq h i n _ hn, fun j hne => get_set_ne h i j _ hne,
    fun j => dataAt_set_next h i n v hn j⟩

theorem setPrev_step {h : Heap} {i : Nat} {n : Node} (hn : h[i]? = some n) (v : Option Nat) :
    ∃ h', setPrev h i v = .ok h' ∧ h'[i]? = some { n with prev := v } ∧ (∀ j, i ≠ j → h'[j]? = h[j]?) ∧
      (∀ j, dataAt h' j = dataAt h j) :=
  ⟨_, setPrev_ok hn v, get_set_eq h i n _ hn, fun j hne => get_set_ne h i j _ hne,
    fun j => dataAt_set_prev h i n v hn j⟩

/-- `last.next = v`, the written heap given by what it holds -/
theorem seg_next_last (h h' : Heap) (a : List Nat) (y : Nat) (p q v : Option Nat) (n : Node) (hy : y ∉ a)
    (hn : h[y]? = some n) (hs : Seg h p (a ++ [y]) q) (hy' : h'[y]? = some { n with next := v })
    (hfr : ∀ j, y ≠ j → h'[j]? = h[j]?) : Seg h' p (a ++ [y]) v := by
  refine seg_frame (h.setIfInBounds y { n with next := v }) h' _ p v ?_
    (seg_setNext_last h a y p q v n hy hn hs)
  intro i _
  by_cases e : y = i
  · subst e; rw [hy', get_set_eq h y n _ hn]
  · rw [hfr i e, get_set_ne h y i _ e]

/-- `first.prev = v`, the written heap given by what it holds -/
theorem seg_prev_first (h h' : Heap) (b : List Nat) (y : Nat) (p q v : Option Nat) (n : Node) (hy : y ∉ b)
    (hn : h[y]? = some n) (hs : Seg h p (y :: b) q) (hy' : h'[y]? = some { n with prev := v })
    (hfr : ∀ j, y ≠ j → h'[j]? = h[j]?) : Seg h' v (y :: b) q := by
  refine seg_frame (h.setIfInBounds y { n with prev := v }) h' _ v q ?_
    (seg_setPrev_first h b y p q v n hy hn hs)
  intro i _
  by_cases e : y = i
  · subst e; rw [hy', get_set_eq h y n _ hn]
  · rw [hfr i e, get_set_ne h y i _ e]

theorem nodup_insert_mid {a b : List Nat} {y : Nat} (h : (a ++ b).Nodup) (hy : y ∉ a ++ b) :
    (a ++ y :: b).Nodup := by
  rw [List.nodup_append] at h ⊢
  obtain ⟨ha, hb, hd⟩ := h
  rw [List.mem_append] at hy
  refine ⟨ha, List.nodup_cons.mpr ⟨fun hm => hy (Or.inr hm), hb⟩, ?_⟩
  intro i hi j hj
  rcases List.mem_cons.mp hj with rfl | hj
  · intro e; subst e; exact hy (Or.inl hi)
  · exact hd i hi j hj

/-- `newNode.next = currentNode; currentNode.prev = newNode` -/
theorem link_new_before (h : Heap) (new x : Nat) (m n : Node) (rest : List Nat) (pv pv' : Option Nat)
    (hne : new ≠ x) (hm : h[new]? = some m) (hmp : m.prev = pv) (hn : h[x]? = some n)
    (hs : Seg h pv' (x :: rest) none) (hnr : new ∉ rest) (hxr : x ∉ rest) :
    ∃ h3 h4, setNext h new (some x) = .ok h3 ∧ setPrev h3 x (some new) = .ok h4 ∧
      Seg h4 pv (new :: x :: rest) none ∧ (∀ j, new ≠ j → x ≠ j → h4[j]? = h[j]?) ∧
      ∀ j, dataAt h4 j = dataAt h j := by
  obtain ⟨h3, e3, g3, f3, d3⟩ := setNext_step hm (some x)
  have hx3 : h3[x]? = some n := by rw [f3 x hne]; exact hn
  obtain ⟨h4, e4, g4, f4, d4⟩ := setPrev_step hx3 (some new)
  refine ⟨h3, h4, e3, e4, ?_, ?_, fun j => by rw [d4, d3]⟩
  · have hs3 : Seg h3 pv' (x :: rest) none :=
      seg_frame h h3 _ _ _ (fun i hi => f3 i (fun e => by
        subst e; rcases List.mem_cons.mp hi with e | hi
        · exact hne e
        · exact hnr hi)) hs
    refine ⟨{ m with next := some x }, by rw [f4 new (fun e => hne e.symm)]; exact g3, hmp, rfl, ?_⟩
    exact seg_prev_first h3 h4 rest x pv' none (some new) n hxr hx3 hs3 g4 f4
  · intro j hj1 hj2; rw [f4 j hj2, f3 j hj1]

theorem getLast?_insert_before (a b : List Nat) (x y : Nat) :
    (a ++ y :: x :: b).getLast? = (a ++ x :: b).getLast? := by
  rw [getLast?_append', getLast?_append', lst_cons]
  exact lst_cons_indep ..

theorem insertBefore_spec (l : PList) (pre rest : List Nat) (x : Nat) (n : Node) (data : Bytes)
    (hi : InvC l (pre ++ x :: rest)) (hx : l.heap[x]? = some n) :
    ∃ l', insertAtNode l x n data true = .ok (l', l.length + 1) ∧
      InvC l' (pre ++ l.heap.size :: x :: rest) ∧
      (∀ i, i < l.heap.size → dataAt l'.heap i = dataAt l.heap i) ∧
      dataAt l'.heap l.heap.size = data := by
  obtain ⟨n', hx', hp, hnx⟩ := seg_mid _ pre rest x none none hi.seg
  have : n = n' := by rw [hx] at hx'; cases hx'; rfl
  subst this
  obtain ⟨hnpre, hnrest, hxpre, hxrest, hdis, _⟩ := nodup_mid hi.nodup
  have hlt := seg_lt _ _ _ _ hi.seg
  have hseg := hi.seg
  rw [seg_append] at hseg
  obtain ⟨sa, sb⟩ := hseg
  simp only [hd_cons] at sa
  have hnewc : l.heap.size ∉ pre ++ x :: rest := fun hm => by have := hlt _ hm; omega
  have hnew_pre : l.heap.size ∉ pre := fun hm => hnewc (List.mem_append_left _ hm)
  have hnew_x : l.heap.size ≠ x := fun e => hnewc (by rw [e]; simp)
  have hnew_rest : l.heap.size ∉ rest := fun hm => hnewc (by simp [hm])
  have hxlt : x < l.heap.size := hlt x (by simp)
  have sa0 := seg_push _ _ _ _ { data := data } sa
  have sb0 := seg_push _ _ _ _ { data := data } sb
  have hx0 : (l.heap.push { data := data })[x]? = some n := by rw [get_push_lt _ _ _ hxlt]; exact hx
  have hnew0 : (l.heap.push { data := data })[l.heap.size]? = some { data := data } := by simp
  have hd0 : ∀ i, i < l.heap.size → dataAt (l.heap.push { data := data }) i = dataAt l.heap i :=
    fun i hi => dataAt_push _ _ i hi
  have hdn0 : dataAt (l.heap.push { data := data }) l.heap.size = data := dataAt_of hnew0
  have hnd' : (pre ++ l.heap.size :: x :: rest).Nodup := nodup_insert_mid hi.nodup hnewc
  have hlen : l.length + 1 = ((pre ++ l.heap.size :: x :: rest).length : Int) := by
    rw [hi.length]; simp only [List.length_append, List.length_cons]; omega
  unfold insertAtNode
  rcases List.eq_nil_or_concat pre with rfl | ⟨pre', p', rfl⟩
  · simp only [lst_nil] at hp sb0
    obtain ⟨h3, h4, e3, e4, s4, f4, d4⟩ := link_new_before _ l.heap.size x { data := data } n rest
      none none hnew_x hnew0 rfl hx0 sb0 hnew_rest hxrest
    simp only [if_true, hp, Res.pure_eq, Res.bind_ok, e3, e4]
    refine ⟨_, rfl, ⟨hnd', s4, rfl, ?_, hlen⟩, ?_, ?_⟩
    · simp only; rw [hi.tail]; exact (getLast?_insert_before [] rest x _).symm
    · intro i hi; simp only; rw [d4, hd0 i hi]
    · simp only; rw [d4, hdn0]
  · rw [List.concat_eq_append] at *
    simp only [lst_concat] at hp sb0
    obtain ⟨np, hp0, _, _⟩ := seg_mid _ pre' [] p' none (some x) sa0
    have hp'pre' : p' ∉ pre' := by
      rw [List.nodup_append] at hnpre
      intro hm; exact hnpre.2.2 p' hm p' (by simp) rfl
    have hp'new : p' ≠ l.heap.size := fun e => hnew_pre (by simp [← e])
    have hp'x : p' ≠ x := fun e => hxpre (by simp [← e])
    obtain ⟨h1, e1, g1, f1, d1⟩ := setNext_step hp0 (some l.heap.size)
    have hnew1 : h1[l.heap.size]? = some { data := data } := by rw [f1 _ hp'new]; exact hnew0
    obtain ⟨h2, e2, g2, f2, d2⟩ := setPrev_step hnew1 (some p')
    have hx2 : h2[x]? = some n := by rw [f2 x hnew_x, f1 x hp'x]; exact hx0
    have sb2 : Seg h2 (some p') (x :: rest) none := by
      refine seg_frame _ h2 _ _ _ (fun i hi => ?_) sb0
      have hi' : i ∈ pre' ++ [p'] ++ x :: rest := List.mem_append_right _ hi
      have hip : i ∉ pre' ++ [p'] := by
        intro hm
        rcases List.mem_cons.mp hi with e | hi
        · exact hxpre (e ▸ hm)
        · exact hdis i hm hi
      rw [f2 i (fun e => hnewc (e ▸ hi')), f1 i (fun e => hip (by simp [← e]))]
    obtain ⟨h3, h4, e3, e4, s4, f4, d4⟩ := link_new_before h2 l.heap.size x _ n rest
      (some p') (some p') hnew_x g2 rfl hx2 sb2 hnew_rest hxrest
    have sa1 : Seg h1 none (pre' ++ [p']) (some l.heap.size) :=
      seg_next_last _ h1 pre' p' none (some x) _ np hp'pre' hp0 sa0 g1 f1
    have sa4 : Seg h4 none (pre' ++ [p']) (some l.heap.size) := by
      refine seg_frame h1 h4 _ _ _ (fun i hi => ?_) sa1
      rw [f4 i (fun e => hnew_pre (e ▸ hi)) (fun e => hxpre (e ▸ hi)), f2 i (fun e => hnew_pre (e ▸ hi))]
    simp only [if_true, hp, Res.pure_eq, Res.bind_ok, e1, e2, e3, e4]
    refine ⟨_, rfl, ⟨hnd', ?_, ?_, ?_, hlen⟩, ?_, ?_⟩
    · rw [seg_append]; simp only [hd_cons, lst_concat]; exact ⟨sa4, s4⟩
    · simp only; rw [hi.head, head?_append', head?_append']; exact hd_concat_indep ..
    · simp only; rw [hi.tail]; exact (getLast?_insert_before _ rest x _).symm
    · intro i hi; simp only; rw [d4, d2, d1, hd0 i hi]
    · simp only; rw [d4, d2, d1, hdn0]

theorem insertAtNode_mirror (l : PList) (x : Nat) (n : Node) (data : Bytes) :
    insertAtNode l.mirror x n.mirror data false =
      (insertAtNode l x n data true).map fun p => (p.1.mirror, p.2) := by
  unfold insertAtNode
  simp only [PList.mirror, Node.mirror, Bool.false_eq_true, if_false, if_true, Res.pure_eq]
  cases n.prev <;>
    simp only [Res.bind_ok, push_mirror, Array.size_map, setPrev_mirror, setNext_mirror, Res.bind_map,
      Res.map_bind, Res.map_ok]

theorem insertAfter_spec (l : PList) (pre rest : List Nat) (x : Nat) (n : Node) (data : Bytes)
    (hi : InvC l (pre ++ x :: rest)) (hx : l.heap[x]? = some n) :
    ∃ l', insertAtNode l x n data false = .ok (l', l.length + 1) ∧
      InvC l' (pre ++ x :: l.heap.size :: rest) ∧
      (∀ i, i < l.heap.size → dataAt l'.heap i = dataAt l.heap i) ∧
      dataAt l'.heap l.heap.size = data := by
  have hi' : InvC l.mirror (rest.reverse ++ x :: pre.reverse) := by simpa using hi.mirror
  obtain ⟨l1, e, hi1, hd1, hd2⟩ :=
    insertBefore_spec l.mirror _ _ x n.mirror data hi' (get_mirror hx)
  have em := insertAtNode_mirror l.mirror x n.mirror data
  rw [PList.mirror_mirror, Node.mirror_mirror, e] at em
  have hsz : l.mirror.heap.size = l.heap.size := Array.size_map ..
  have hda : dataAt l.mirror.heap = dataAt l.heap := dataAt_mirror _
  rw [hsz] at hi1 hd1 hd2
  rw [hda] at hd1
  refine ⟨l1.mirror, em, by simpa using hi1.mirror, ?_, ?_⟩
  · intro i hlt
    show dataAt (l1.heap.map Node.mirror) i = _
    rw [dataAt_mirror, hd1 i hlt]
  · show dataAt (l1.heap.map Node.mirror) _ = _
    rw [dataAt_mirror, hd2]

theorem linsertLoop_spec (pivot data : Bytes) (before : Bool) (suf : List Nat) :
    ∀ (l : PList) (pre : List Nat) (fuel : Nat), InvC l (pre ++ suf) → suf.length ≤ fuel →
      (DsList.insertAt (suf.map (dataAt l.heap)) pivot data before = none →
        linsertLoop fuel l (hd suf none) pivot data before = .ok (l, -1)) ∧
      (∀ xs, DsList.insertAt (suf.map (dataAt l.heap)) pivot data before = some xs →
        ∃ l' c', linsertLoop fuel l (hd suf none) pivot data before = .ok (l', l.length + 1) ∧
          InvC l' c' ∧ c'.map (dataAt l'.heap) = pre.map (dataAt l.heap) ++ xs ∧
          l'.length = l.length + 1) := by
  induction suf with
  | nil =>
    intro l pre fuel _ _
    refine ⟨fun _ => (by cases fuel <;> simp [linsertLoop]), fun xs hxs => ?_⟩
    simp [DsList.insertAt] at hxs
  | cons x rest ih =>
    intro l pre fuel hi hf
    obtain ⟨n, hx, _, hnx⟩ := seg_mid _ pre rest x none none hi.seg
    have hdx : dataAt l.heap x = n.data := dataAt_of hx
    have hlt := seg_lt _ _ _ _ hi.seg
    cases fuel with
    | zero => simp at hf
    | succ fuel =>
      simp only [hd_cons, linsertLoop, rd_ok hx, Res.bind_ok, List.map_cons, DsList.insertAt, hdx]
      by_cases e : n.data = pivot
      · simp only [if_pos e]
        refine ⟨fun h => (by cases h), fun xs hxs => ?_⟩
        cases hxs
        cases before with
        | true =>
          obtain ⟨l', e1, hi', hd1, hd2⟩ := insertBefore_spec l pre rest x n data hi hx
          refine ⟨l', _, e1, hi', ?_, ?_⟩
          · simp only [List.map_append, List.map_cons, if_true, hd2]
            rw [map_dataAt_congr l.heap l'.heap pre (fun i hm => hd1 i (hlt i (List.mem_append_left _ hm))),
              map_dataAt_congr l.heap l'.heap rest (fun i hm => hd1 i (hlt i (by simp [hm]))),
              hd1 x (hlt x (by simp)), hdx, e]
          · rw [hi'.length, hi.length]; simp only [List.length_append, List.length_cons]; omega
        | false =>
          obtain ⟨l', e1, hi', hd1, hd2⟩ := insertAfter_spec l pre rest x n data hi hx
          refine ⟨l', _, e1, hi', ?_, ?_⟩
          · simp only [List.map_append, List.map_cons, Bool.false_eq_true, if_false, hd2]
            rw [map_dataAt_congr l.heap l'.heap pre (fun i hm => hd1 i (hlt i (List.mem_append_left _ hm))),
              map_dataAt_congr l.heap l'.heap rest (fun i hm => hd1 i (hlt i (by simp [hm]))),
              hd1 x (hlt x (by simp)), hdx, e]
          · rw [hi'.length, hi.length]; simp only [List.length_append, List.length_cons]; omega
      · simp only [if_neg e, hnx]
        have hi2 : InvC l ((pre ++ [x]) ++ rest) := by simpa using hi
        obtain ⟨ih1, ih2⟩ := ih l (pre ++ [x]) fuel hi2 (by simpa using hf)
        refine ⟨fun h => ih1 (by simpa using h), fun xs hxs => ?_⟩
        cases hr : DsList.insertAt (rest.map (dataAt l.heap)) pivot data before with
        | none => rw [hr] at hxs; cases hxs
        | some ys =>
          rw [hr] at hxs
          simp only [Option.map_some, Option.some.injEq] at hxs
          subst hxs
          obtain ⟨l', c', e1, hi', hm, hl⟩ := ih2 ys hr
          refine ⟨l', c', e1, hi', ?_, hl⟩
          rw [hm]; simp [hdx]

theorem linsert_refines (l : PList) (hi : Inv l) (pivot data : Bytes) (before : Bool) :
    ∃ l', linsert l pivot data before = .ok (l', (DsList.linsert (absL l) pivot data before).2) ∧ Inv l' ∧
      absL l' = (DsList.linsert (absL l) pivot data before).1 := by
  obtain ⟨c, hi⟩ := hi
  have hfuel : c.length ≤ l.heap.size + 1 := by have := hi.length_le; omega
  obtain ⟨h1, h2⟩ := linsertLoop_spec pivot data before c l [] (l.heap.size + 1) (by simpa using hi) hfuel
  rw [hd_none, ← hi.head, ← abs_eq hi] at h1 h2
  unfold linsert DsList.linsert
  simp only [show (absL l).items = abs l from rfl, show (absL l).length = l.length from rfl]
  cases hr : DsList.insertAt (abs l) pivot data before with
  | none =>
    exact ⟨l, h1 hr, ⟨c, hi⟩, rfl⟩
  | some xs =>
    obtain ⟨l', c', e1, hi', hm, hl⟩ := h2 xs hr
    refine ⟨l', e1, ⟨c', hi'⟩, ?_⟩
    unfold absL
    rw [abs_eq hi', hm, hl]; simp

end NodisVerif.LinkedList

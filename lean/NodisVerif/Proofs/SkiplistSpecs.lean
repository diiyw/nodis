import NodisVerif.Proofs.SkiplistSearch
import NodisVerif.Proofs.SkiplistRemoveNode
import NodisVerif.Proofs.C04Rem
/-
  What the proofs about the operations share: where a search stops when its condition is a downward closed predicate of the
  items, the list model's cursor at a position, one removal step and the predicates it keeps (`StepInv`).
-/
namespace NodisVerif.Skiplist
open NodisVerif.DsZSet (Item nodeLt)
open NodisVerif.Proofs.C04 (ILt)
open NodisVerif.Proofs.ZSetLemmas (Good itemLt_trans)

/-- the index form of `C04.filter_downclosed`: a downward closed predicate holds exactly at the positions of the
    `takeWhile` prefix -/
theorem takeWhile_index {α : Type} (p : α → Bool) (l : List α)
    (hpw : l.Pairwise (fun a b => p b = true → p a = true)) (t : Nat) (x : α) (hx : l[t]? = some x) :
    p x = decide (t < (l.takeWhile p).length) := by
  obtain ⟨ht, hd⟩ := Proofs.C04.filter_downclosed _ p l hpw (fun _ _ _ _ h => h)
  rw [← List.takeWhile_append_dropWhile (p := p) (l := l), List.getElem?_append] at hx
  by_cases hlt : t < (l.takeWhile p).length
  · rw [if_pos hlt, ← ht] at hx
    simpa [hlt] using (List.mem_filter.1 (List.mem_of_getElem? hx)).2
  · rw [if_neg hlt, ← hd] at hx
    simpa [hlt] using (List.mem_filter.1 (List.mem_of_getElem? hx)).2


theorem cursorAt_cur (L : List Item) (i : Nat) : (DsZSet.cursorAt L i).map (·.cur) = L[i]? := by
  unfold DsZSet.cursorAt
  have := List.head?_drop (l := L) (i := i)
  split
  · next h => rw [h] at this; simp at this; simp [this]
  · next x f h => rw [h] at this; simp at this; simp [← this]

theorem cursorAt_of_get {L : List Item} {k : Nat} {a : Item} (h : L[k]? = some a) :
    ∃ cu, DsZSet.cursorAt L k = some cu ∧ cu.cur = a := by
  have := cursorAt_cur L k
  rw [h] at this
  cases hc : DsZSet.cursorAt L k with
  | none => rw [hc] at this; cases this
  | some cu => exact ⟨cu, rfl, by rw [hc] at this; exact Option.some.inj this⟩

theorem itemAt_of_getElem {h : List Node} {n : Nat} {nd : Node} (hn : h[n]? = some nd) : itemAt h n = nd.item := by
  simp [itemAt, hn]

theorem item_takeWhile_index {sl : SL} {c : List Nat} (hc : IsChain sl c) (q : Item → Bool)
    (hq : ∀ a b : Item, Good a → Good b → ILt a b → q b = true → q a = true) (j : Nat) (x : Item)
    (hx : (c.map (itemAt sl.heap))[j]? = some x) :
    q x = decide (j < ((c.map (itemAt sl.heap)).takeWhile q).length) := by
  refine takeWhile_index q _ (List.Pairwise.imp_of_mem ?_ hc.sorted) j x hx
  intro a b ha hb
  obtain ⟨x, hx, rfl⟩ := List.mem_map.1 ha
  obtain ⟨y, hy, rfl⟩ := List.mem_map.1 hb
  exact hq _ _ (hc.good x hx) (hc.good y hy)

theorem condUpTo_of_downclosed {sl : SL} {c : List Nat} (hc : IsChain sl c) (q : Item → Bool)
    (hq : ∀ a b : Item, Good a → Good b → ILt a b → q b = true → q a = true) :
    CondUpTo sl c (fun fn _ => q fn.item) ((c.map (itemAt sl.heap)).takeWhile q).length := by
  intro pos n nd hpos hnd h1
  obtain ⟨j, rfl⟩ : ∃ j, pos = j + 1 := ⟨pos - 1, by omega⟩
  simp at hpos
  have := item_takeWhile_index hc q hq j nd.item (by simp [hpos, itemAt_of_getElem hnd])
  simp only [this, decide_eq_decide]
  omega

theorem CondUpTo.split {sl : SL} {c : List Nat} (hc : IsChain sl c) {q : Item → Bool} {cond : Node → Int → Bool} {k : Nat}
    (hcond : CondUpTo sl c cond k) (hq : ∀ nd a, cond nd a = q nd.item) :
    (∀ y ∈ c.take k, q (itemAt sl.heap y) = true) ∧ (∀ y ∈ c.drop k, q (itemAt sl.heap y) = false) := by
  have key : ∀ j y, c[j]? = some y → q (itemAt sl.heap y) = decide (j + 1 ≤ k) := by
    intro j y hj
    have hb := hc.bound y (List.mem_of_getElem? hj)
    have hy : sl.heap[y]? = some sl.heap[y] := by simp [hb]
    rw [itemAt_of_getElem hy, ← hq _ ((j + 1 : Nat) : Int)]
    exact hcond (j + 1) y _ (by simpa using hj) hy (by omega)
  constructor
  · intro y hy
    obtain ⟨j, hj⟩ := List.mem_iff_getElem?.1 hy
    have hjk : j < k := by
      have := (List.getElem?_eq_some_iff.1 hj).1
      rw [List.length_take] at this
      omega
    rw [List.getElem?_take_of_lt hjk] at hj
    rw [key j y hj]; simp; omega
  · intro y hy
    obtain ⟨j, hj⟩ := List.mem_iff_getElem?.1 hy
    rw [List.getElem?_drop] at hj
    rw [key _ y hj]; simp; omega

theorem less_closed (m : Bytes) (s : F64) (a b : Item) (ha : Good a) (hb : Good b) (hab : ILt a b)
    (hlt : nodeLt b s m = true) : nodeLt a s m = true := by
  cases hs : F64.isNaN s with
  | true => simp [nodeLt, F64.lt, F64.eq, hs] at hlt
  | false =>
    have hg : Good (s, m) := hs
    exact itemLt_trans a b (s, m) ha hb hg hab hlt

/-- the search of `insert` / `remove` stops behind the nodes that are "less" -/
theorem condUpTo_less {sl : SL} {c : List Nat} (hc : IsChain sl c) (m : Bytes) (s : F64) :
    CondUpTo sl c (lessCond m s) (c.takeWhile (fun n => nodeLt (itemAt sl.heap n) s m)).length := by
  have := condUpTo_of_downclosed hc (fun a => nodeLt a s m) (less_closed m s)
  rwa [List.takeWhile_map, List.length_map] at this

theorem condUpTo_start (sl : SL) (c : List Nat) (start : Int) : CondUpTo sl c (startCond start) (start - 1).toNat := by
  intro q n nd _ _ hq
  simp only [startCond, decide_eq_decide]
  omega

theorem split_of_take {L : List Nat} {k : Nat} {A' : List Nat} {u' : Nat} {B' : List Nat}
    (h : L.take (k + 1) = A' ++ u' :: B') : L = A' ++ u' :: (B' ++ L.drop (k + 1)) := by
  conv => lhs; rw [← List.take_append_drop (k + 1) L, h]
  simp

/-- `UpdateFor` only depends on the heights and is kept when the level shrinks -/
theorem updateFor_transfer {h h' : List Node} {level level' : Nat} {P : List Nat} {update : List (Option Nat)}
    (hh : ∀ x, height h' x = height h x) (hl : level' ≤ level) (hu : UpdateFor h level P update) :
    UpdateFor h' level' P update := by
  have ha : ∀ i x, above h' i x = above h i x := by intro i x; simp [above, hh]
  intro i hi
  obtain ⟨A, u, B, h1, h2, h3, h4⟩ := hu i (by omega)
  exact ⟨A, u, B, h1, by rw [ha]; exact h2, by intro y hy; rw [ha]; exact h3 y hy, h4⟩

theorem updateFor_of_rank {h : List Node} {level : Nat} {P : List Nat} {update : List (Option Nat)} {rank : List Int}
    (hu : UpdateRankFor h level P update rank) : UpdateFor h level P update := by
  intro i hi
  obtain ⟨A, u, B, h1, h2, h3, h4, _⟩ := hu i hi
  exact ⟨A, u, B, h1, h2, h3, h4⟩

theorem level0_next {sl : SL} {c : List Nat} (hc : IsChain sl c) (P : List Nat) (x : Nat) (C : List Nat)
    (hs : 0 :: c = P ++ x :: C) : ∃ l0, getLevel sl.heap x 0 = .ok l0 ∧ l0.forward = C.head? := by
  obtain ⟨nd, l0, hn, hli, hf⟩ := linked_level0 hc.linked (fun y => above_zero_of_mem hc) hs
  exact ⟨l0, (getLevel_ok_iff _ _ _ _).2 ⟨nd, hn, hli⟩, hf⟩

/-- the state after `search`: the chain splits at position `k` (clipped), `update[]` fits the first part, and the
    level-0 forward of the node found is the first node of the second part -/
theorem search_split {sl : SL} {c : List Nat} (hc : IsChain sl c) (cond : Node → Int → Bool) (k : Nat)
    (hcond : CondUpTo sl c cond k) :
    ∃ x acc update rank l0, search sl.heap cond sl.level 0 0 emptyUpdate emptyRank = .ok (x, acc, update, rank) ∧
      UpdateFor sl.heap sl.level (0 :: c.take k) update ∧ acc = ((min k c.length : Nat) : Int) ∧
      getLevel sl.heap x 0 = .ok l0 ∧ l0.forward = (c.drop k).head? := by
  obtain ⟨x, acc, update, rank, hs, _, _, hur, _, hlast, hacc⟩ := search_spec hc cond k hcond
  have htake : (0 :: c).take (k + 1) = 0 :: c.take k := by simp
  rw [htake] at hur hlast
  obtain ⟨P, hP⟩ := List.getLast?_eq_some_iff.1 hlast
  obtain ⟨l0, hl0, hf⟩ := level0_next hc P x (c.drop k) (by
    rw [← List.take_append_drop k c]
    rw [← List.cons_append, hP]; simp)
  exact ⟨x, acc, update, rank, l0, hs, updateFor_of_rank hur, hacc, hl0, hf⟩

/-- `P` survives the removal of a node of the chain with a fitting `update[]` -/
def StepInv (P : SL → Prop) : Prop :=
  ∀ {sl sl' : SL} {A : List Nat} {n : Nat} {B : List Nat} {update : List (Option Nat)},
    IsChain sl (A ++ n :: B) → UpdateFor sl.heap sl.level (0 :: A) update → removeNode sl n update = .ok sl' →
    P sl → P sl'

theorem stepInv_true : StepInv fun _ => True := fun _ _ _ _ => trivial

/-- one iteration of either loop on the first node of what is left of the block -/
theorem remove_step {sl : SL} {A : List Nat} {n : Nat} {B : List Nat} (hc : IsChain sl (A ++ n :: B))
    (update : List (Option Nat)) (hupd : UpdateFor sl.heap sl.level (0 :: A) update)
    {P : SL → Prop} (hP : StepInv P) (h0 : P sl) :
    ∃ nd l0 sl', getNode sl.heap n = .ok nd ∧ nd.item = itemAt sl.heap n ∧
      getLevel sl.heap n 0 = .ok l0 ∧ l0.forward = B.head? ∧
      removeNode sl n update = .ok sl' ∧ IsChain sl' (A ++ B) ∧ P sl' ∧
      UpdateFor sl'.heap sl'.level (0 :: A) update ∧ itemAt sl'.heap = itemAt sl.heap := by
  obtain ⟨l0, hl0, hf⟩ := level0_next hc (0 :: A) n B (by simp)
  obtain ⟨sl', h1, h2, h3, h4, h5, h6⟩ := removeNode_spec hc A n B rfl update hupd
  obtain ⟨nd, hnd, _⟩ := (getLevel_ok_iff _ _ _ _).1 hl0
  exact ⟨nd, l0, sl', (getNode_ok_iff _ _ _).2 hnd, by simp [itemAt, hnd], hl0, hf, h1, h2, hP hc hupd h1 h0,
    updateFor_transfer h6 h4 hupd, h5⟩

end NodisVerif.Skiplist

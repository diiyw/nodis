import NodisVerif.Proofs.C19Quiescent
import NodisVerif.Proofs.C11Main
import NodisVerif.Proofs.C12Seq
/-
  C12: SCAN (with or without TYPE filter) across an eviction pass; C11: across a reopen.
-/
namespace NodisVerif.Proofs.C11
open NodisVerif.Store NodisVerif.Codec NodisVerif.Spec.Persist
open NodisVerif.Proofs.AListLemmas NodisVerif.Proofs.AListLemmas2 NodisVerif.Proofs.C11AList

/-- the type SCAN's TYPE filter sees for a record: the cached one, or — for a record that never had
    its value loaded — the type of the value in the backend -/
def effType (s : MState) (p : Bytes × Meta) : Nat :=
  if p.2.vtype = 0 ∧ p.2.value.isNone then
    match loadValue s p.1 p.2 with
    | some (v, _) => v.typeCode
    | none => p.2.vtype
  else p.2.vtype

/-- what SCAN looks at in an index record -/
def ScanRel (now : Int) (s1 s2 : MState) (a b : Bytes × Meta) : Prop :=
  a.1 = b.1 ∧ a.2.expired now = b.2.expired now ∧
  (a.2.expired now = false → effType s1 a = effType s2 b)

theorem etype_eq_effType (s : MState) {typ : Nat} (ht : typ ≠ 0) (p : Bytes × Meta) :
    C19Scan.etype s typ p = effType s p := by
  simp only [C19Scan.etype, effType, ne_eq, ht, not_false_eq_true, true_and]
  rfl

theorem eligible_of_scanRel {now : Int} {s1 s2 : MState} {a b : Bytes × Meta} (h : ScanRel now s1 s2 a b)
    (pat : Bytes) (typ : Nat) :
    C19Quiescent.Eligible s1 now pat typ a = C19Quiescent.Eligible s2 now pat typ b := by
  obtain ⟨hk, he, hty⟩ := h
  unfold C19Quiescent.Eligible
  rw [← hk, ← he]
  cases hal : a.2.expired now with
  | true => simp
  | false =>
    by_cases ht : typ = 0
    · simp [ht]
    · rw [etype_eq_effType s1 ht, etype_eq_effType s2 ht, hty hal]

theorem scan_congr {s1 s2 : MState} {now : Int} (f : Bytes × Meta → Bytes × Meta)
    (hmap : s2.index = s1.index.map f) (h : ∀ p ∈ s1.index, ScanRel now s1 s2 p (f p))
    (cursor : Int) (pat : Bytes) (count : Int) (typ : Nat) :
    (Api.scan s1 now cursor pat count typ).2 = (Api.scan s2 now cursor pat count typ).2 :=
  C19Quiescent.scan_congr f hmap
    (fun p hp => ⟨(h p hp).1.symm, (eligible_of_scanRel (h p hp) pat typ).symm⟩) cursor count

/-- the cached types are right: a hot record caches the type of its value, a cold one either
    caches nothing or the type of what is in the backend -/
def TypeOK (s : MState) : Prop :=
  ∀ k m, AList.get? s.index k = some m →
    (∀ v, m.value = some v → m.vtype = v.typeCode) ∧
    (m.value = none → ∀ v o, loadValue s k m = some (v, o) → m.vtype = 0 ∨ m.vtype = v.typeCode)

theorem typeCode_pos (v : Val) : v.typeCode ≠ 0 := by cases v <;> simp [Val.typeCode]

theorem effType_cold {s : MState} {now : Int} {k : Bytes} {m : Meta} {v : Val} {e : Int}
    (hm : AList.get? s.index k = some m) (hvt : m.vtype = 0) (hv : m.value = none)
    (hl : lookup s now k = some (v, e)) : effType s (k, m) = v.typeCode := by
  rcases (lookup_cases hm hl).2 with h | ⟨_, o, hld⟩
  · rw [hv] at h; cases h
  · simp only [effType, hvt, hv, Option.isNone_none, and_self, if_true, hld]

theorem effType_typeOK {s : MState} (hty : TypeOK s) {now : Int} {k : Bytes} {m : Meta} {v : Val} {e : Int}
    (hm : AList.get? s.index k = some m) (hl : lookup s now k = some (v, e)) :
    effType s (k, m) = v.typeCode := by
  obtain ⟨t1, t2⟩ := hty k m hm
  rcases (lookup_cases hm hl).2 with hv | ⟨hv, o, hld⟩
  · simp only [effType, hv, Option.isNone_some, Bool.false_eq_true, and_false, if_false]
    exact t1 v hv
  · by_cases hvt : m.vtype = 0
    · exact effType_cold hm hvt hv hl
    · simp only [effType, hvt, false_and, if_false]
      exact (t2 hv v o hld).resolve_left hvt

theorem effType_cached {s : MState} {p : Bytes × Meta} (h : p.2.vtype ≠ 0) : effType s p = p.2.vtype := by
  simp only [effType, h, false_and, if_false]

theorem lookup_live {s : MState} {t now : Int} (h : StoreInvX s none t) (ht : t ≤ now) {k : Bytes} {m : Meta}
    (hm : AList.get? s.index k = some m) (hal : m.expired now = false) :
    ∃ v e, lookup s now k = some (v, e) := by
  have := view_isSome h ht hm
  rw [hal] at this
  simp only [lookup, getMeta, hm, Option.bind_some]
  cases hv : view s now k m with
  | none => rw [hv] at this; simp at this
  | some q => exact ⟨q.1, q.2, rfl⟩

theorem scanRel_of_recs {s S : MState} {now : Int} (hs : AList.Sorted s.index) (hS : AList.Sorted S.index)
    (hrec : ∀ k m, AList.get? s.index k = some m → ∃ m', AList.get? S.index k = some m' ∧ m'.exp = m.exp ∧
      (m.expired now = false → effType s (k, m) = effType S (k, m')))
    (hnone : ∀ k, AList.get? s.index k = none → AList.get? S.index k = none) :
    S.index = s.index.map (fun p => (p.1, (AList.get? S.index p.1).getD p.2)) ∧
    ∀ p ∈ s.index, ScanRel now s S p (p.1, (AList.get? S.index p.1).getD p.2) := by
  refine ⟨?_, ?_⟩
  · apply ext_of_sorted _ _ hS (sorted_map (fun k m => (AList.get? S.index k).getD m) _ hs)
    intro k
    rw [get?_map (fun k m => (AList.get? S.index k).getD m)]
    cases hm : AList.get? s.index k with
    | none => rw [hnone k hm]; rfl
    | some m =>
      obtain ⟨m', a, _⟩ := hrec k m hm
      rw [a]; rfl
  · intro p hp
    obtain ⟨k, m⟩ := p
    obtain ⟨m', a, b, c⟩ := hrec k m (get?_of_mem _ hs k m hp)
    simp only [a, Option.getD_some]
    exact ⟨rfl, by simp only [Meta.expired, b], c⟩

theorem gc_scanRel {s : MState} {t now : Int} (h : StoreInvX s none t) (ht : t ≤ now) (hnil : NilFree s)
    (hty : TypeOK s) (hlive : ∀ k m, AList.get? s.index k = some m → m.expired now = false) :
    (gc s now).index = s.index.map (fun p => (p.1, (AList.get? (gc s now).index p.1).getD p.2)) ∧
    ∀ p ∈ s.index, ScanRel now s (gc s now) p (p.1, (AList.get? (gc s now).index p.1).getD p.2) := by
  have hrec : ∀ k, (∀ m, AList.get? s.index k = some m →
        ∃ m', AList.get? (gc s now).index k = some m' ∧ m'.exp = m.exp ∧ m'.vtype = m.vtype ∧
          (m.value = none → m'.value = none)) ∧
      (AList.get? s.index k = none → AList.get? (gc s now).index k = none) := by
    intro k
    by_cases hc : s.closed = true
    · rw [gc_eq, if_pos hc]; exact ⟨fun m hm => ⟨m, hm, rfl, rfl, id⟩, id⟩
    obtain ⟨ok, _, e⟩ := (Pass.gc_index s now h.idxSorted (by simpa using hc)).2 k
    refine ⟨fun m hm => ?_, fun hn => by rw [e, hn]; rfl⟩
    obtain ⟨m', a, b1, _, _, b4, _, b6⟩ := Pass.gcSlot_live (now := now) ok
      (show (m.expired now || !m.isOk) = false by rw [hlive k m hm, (h.recs k m hm).ok]; rfl)
    exact ⟨m', by rw [e, hm]; exact a, b1, b4, fun hn => by rcases b6 with h | h; rw [h, hn]; exact h⟩
  have g := gc_spec h ht hnil
  refine scanRel_of_recs h.idxSorted g.inv.idxSorted (fun k m hm => ?_) (fun k => (hrec k).2)
  obtain ⟨m', a, b, c, d⟩ := (hrec k).1 m hm
  refine ⟨m', a, b, fun hal => ?_⟩
  obtain ⟨v, e, hl⟩ := lookup_live h ht hm hal
  rw [effType_typeOK hty hm hl]
  by_cases hvt : m.vtype = 0
  · -- nothing cached: the record is cold (a hot record caches the type of its value), and stays so
    have hv : m.value = none := by
      cases hv : m.value with
      | none => rfl
      | some w => exact absurd ((hty k m hm).1 w hv ▸ hvt) (typeCode_pos w)
    exact (effType_cold (now := now) a (by rw [c]; exact hvt) (d hv)
      (by rw [g.look now (Int.le_refl _)]; exact hl)).symm
  · rw [effType_cached (by simp only; rw [c]; exact hvt), c]
    -- the cached type is the type of the value shown
    have := effType_typeOK hty hm hl
    rw [effType_cached (by simpa using hvt)] at this
    exact this.symm

theorem flush_no_new {s : MState} (now : Int) (hs : AList.Sorted s.index) {k : Bytes}
    (hn : AList.get? s.index k = none) : AList.get? (flush s now).index k = none := by
  obtain ⟨ok, _, e⟩ := (Pass.flush_index s now hs).2 k
  rw [e, hn]; rfl

theorem close_no_new {s : MState} (now : Int) (hs : AList.Sorted s.index) {k : Bytes}
    (hn : AList.get? s.index k = none) : AList.get? (close s now).index k = none :=
  flush_no_new (s := { s with closed := true }) now hs hn

theorem reopen_scanRel {s : MState} {t now : Int} (h : StoreInvX s none t) (ht : t ≤ now)
    (hf : s.failSet = 0) (hnil : NilFree s) (hty : TypeOK s)
    (hlive : ∀ k m, AList.get? s.index k = some m → m.expired now = false) :
    (reopen (close s now)).index =
      s.index.map (fun p => (p.1, (AList.get? (reopen (close s now)).index p.1).getD p.2)) ∧
    ∀ p ∈ s.index, ScanRel now s (reopen (close s now)) p
      (p.1, (AList.get? (reopen (close s now)).index p.1).getD p.2) := by
  have c := cycle_spec h ht hf hnil
  -- every record of `s` has exactly one record after the cycle: cold, nothing cached, same deadline
  have hrec : ∀ k, (∀ m, AList.get? s.index k = some m →
        ∃ m', AList.get? (reopen (close s now)).index k = some m' ∧ m'.exp = m.exp ∧ m'.vtype = 0 ∧
          m'.value = none) ∧
      (AList.get? s.index k = none → AList.get? (reopen (close s now)).index k = none) := by
    intro k
    have cl := (close_spec h ht (now := now)).1
    constructor
    · intro m hm
      obtain ⟨v, e, hl⟩ := lookup_live h ht hm (hlive k m hm)
      have hl' : lookup (reopen (close s now)) now k = some (v, e) := by
        rw [c.look now (Int.le_refl _)]; exact hl
      cases hm' : AList.get? (reopen (close s now)).index k with
      | none => simp [lookup, getMeta, hm'] at hl'
      | some m' =>
        obtain ⟨dk, ent, _, _, rfl⟩ := reopen_rec cl.inv hm'
        refine ⟨_, rfl, ?_, rfl, rfl⟩
        -- same deadline: both states show (v, e) under k
        rw [← (lookup_cases hm' hl').1, (lookup_cases hm hl).1]
    · intro hn
      cases hm' : AList.get? (reopen (close s now)).index k with
      | none => rfl
      | some m' =>
        exfalso
        obtain ⟨dk, ent, hent, hname, _⟩ := reopen_rec cl.inv hm'
        obtain ⟨m0, hm0, _⟩ := (cl.inv.ents dk ent hent).owner
        rw [hname] at hm0
        -- close keeps the index names: flush never adds a record
        have : AList.get? (close s now).index k = none := close_no_new now h.idxSorted hn
        rw [this] at hm0; cases hm0
  refine scanRel_of_recs h.idxSorted c.inv.idxSorted (fun k m hm => ?_) (fun k => (hrec k).2)
  obtain ⟨m', a, b, cc, d⟩ := (hrec k).1 m hm
  refine ⟨m', a, b, fun hal => ?_⟩
  obtain ⟨v, e, hl⟩ := lookup_live h ht hm hal
  rw [effType_typeOK hty hm hl]
  exact (effType_cold (now := now) a cc d (by rw [c.look now (Int.le_refl _)]; exact hl)).symm

end NodisVerif.Proofs.C11

import NodisVerif.Model.DsHashSet
import NodisVerif.Spec.HashSet
import NodisVerif.Proofs.AListLemmas2
import NodisVerif.Proofs.GoLibLemmas
/-
  C03 at the data-structure level (ds/hash, ds/set on `AList`): enumerations and cardinality, the folds of
  HDEL / SREM / SADD / SUNION (`delStep`, `addStep`, `dedupStep`: the step functions that Model/DsHashSet.lean writes
  inline, with `hdel_eq_fold` / `srem_eq_fold` / `sadd_eq_fold` / `sunion_eq` by `rfl`), the packaged specifications
  that Props/C03.lean restates, and HINCRBY against the Redis reference outside `hincrOverflow`.
-/
namespace NodisVerif.Proofs.C03
open NodisVerif.Proofs.AListLemmas NodisVerif.Proofs.AListLemmas2

theorem enumerates_length_unique {l₁ l₂ : List Bytes} {s : Spec.BSet}
    (h1 : Spec.Enumerates l₁ s) (h2 : Spec.Enumerates l₂ s) : l₁.length = l₂.length :=
  ((List.perm_ext_iff_of_nodup h1.1 h2.1).mpr fun a => (h1.2 a).trans (h2.2 a).symm).length_eq

theorem hasCard_unique {s : Spec.BSet} {n₁ n₂ : Nat} (h1 : Spec.HasCard s n₁) (h2 : Spec.HasCard s n₂) : n₁ = n₂ := by
  obtain ⟨l1, e1, rfl⟩ := h1
  obtain ⟨l2, e2, rfl⟩ := h2
  exact enumerates_length_unique e1 e2

theorem foldl_keeps {α β : Type} (Q : β → Prop) (f : β → α → β) (hf : ∀ b a, Q b → Q (f b a)) :
    ∀ (l : List α) (b : β), Q b → Q (l.foldl f b) := by
  intro l
  induction l with
  | nil => exact fun _ h => h
  | cons a l ih => exact fun b h => ih _ (hf b a h)

theorem length_filter_partition {α : Type} (p : α → Bool) : ∀ (l : List α),
    l.length = (l.filter p).length + (l.filter (fun a => !p a)).length := by
  intro l
  induction l with
  | nil => rfl
  | cons a l ih =>
    simp only [List.filter_cons]
    cases h : p a <;> simp <;> omega

theorem nodup_filter {α : Type} (p : α → Bool) {l : List α} (h : l.Nodup) : (l.filter p).Nodup :=
  List.Nodup.sublist List.filter_sublist h

theorem keys_enumerates {V : Type} (m : AList V) (hs : AList.Sorted m) :
    Spec.Enumerates (AList.keys m) (AList.contains m) :=
  ⟨keys_nodup m hs, fun x => mem_keys_iff_contains m x⟩

theorem count_added {V : Type} (m r : AList V) (hm : AList.Sorted m) (hr : AList.Sorted r) (ks : List Bytes)
    (hc : ∀ x, AList.contains r x = true ↔ AList.contains m x = true ∨ x ∈ ks)
    (d : List Bytes) (hd : Spec.Enumerates d (Spec.listed ks (fun x => !AList.contains m x))) :
    r.length = m.length + d.length := by
  have e1 : Spec.Enumerates ((AList.keys r).filter (AList.contains m)) (AList.contains m) := by
    refine ⟨nodup_filter _ (keys_nodup r hr), fun x => ?_⟩
    rw [List.mem_filter, mem_keys_iff_contains, hc]
    constructor
    · exact fun h => h.2
    · exact fun h => ⟨Or.inl h, h⟩
  have e2 : Spec.Enumerates ((AList.keys r).filter (fun a => !AList.contains m a))
      (Spec.listed ks (fun x => !AList.contains m x)) := by
    refine ⟨nodup_filter _ (keys_nodup r hr), fun x => ?_⟩
    rw [List.mem_filter, mem_keys_iff_contains, hc]
    simp only [Spec.listed, Bool.and_eq_true, decide_eq_true_eq, Bool.not_eq_true']
    constructor
    · rintro ⟨h1 | h1, h2⟩
      · rw [h1] at h2; cases h2
      · exact ⟨h1, h2⟩
    · exact fun h => ⟨Or.inr h.1, h.2⟩
  have := length_filter_partition (AList.contains m) (AList.keys r)
  rw [length_keys, enumerates_length_unique e1 (keys_enumerates m hm), length_keys,
    enumerates_length_unique e2 hd] at this
  exact this

theorem listed_enum {V : Type} (m : AList V) (hs : AList.Sorted m) (ks : List Bytes) :
    Spec.Enumerates ((AList.keys m).filter (fun f => decide (f ∈ ks))) (Spec.listed ks (AList.contains m)) := by
  refine ⟨nodup_filter _ (keys_nodup m hs), fun x => ?_⟩
  rw [List.mem_filter, mem_keys_iff_contains]
  simp only [Spec.listed, Bool.and_eq_true, decide_eq_true_eq]
  exact And.comm

theorem count_removed {V : Type} (m r : AList V) (hm : AList.Sorted m) (hr : AList.Sorted r) (ks : List Bytes)
    (hc : ∀ x, AList.contains r x = true ↔ AList.contains m x = true ∧ x ∉ ks)
    (d : List Bytes) (hd : Spec.Enumerates d (Spec.listed ks (AList.contains m))) :
    m.length = r.length + d.length := by
  have e1 := listed_enum m hm ks
  have e2 : Spec.Enumerates ((AList.keys m).filter (fun a => !decide (a ∈ ks))) (AList.contains r) := by
    refine ⟨nodup_filter _ (keys_nodup m hm), fun x => ?_⟩
    rw [List.mem_filter, mem_keys_iff_contains, hc]
    simp
  have := length_filter_partition (fun a => decide (a ∈ ks)) (AList.keys m)
  rw [length_keys, enumerates_length_unique e1 hd,
    enumerates_length_unique e2 (keys_enumerates r hr), length_keys] at this
  omega

def delStep {V : Type} (acc : AList V × Int) (k : Bytes) : AList V × Int :=
  if AList.contains acc.1 k then (AList.erase acc.1 k, acc.2 + 1) else acc

theorem foldl_delStep {V : Type} : ∀ (ks : List Bytes) (m : AList V) (c : Int), AList.Sorted m →
    AList.Sorted (ks.foldl delStep (m, c)).1 ∧
    (∀ x, AList.get? (ks.foldl delStep (m, c)).1 x = if x ∈ ks then none else AList.get? m x) ∧
    (m.length : Int) = (ks.foldl delStep (m, c)).1.length + ((ks.foldl delStep (m, c)).2 - c) := by
  intro ks
  induction ks with
  | nil => intro m c hs; simp [hs]
  | cons k ks ih =>
    intro m c hs
    simp only [List.foldl_cons]
    by_cases hk : AList.contains m k = true
    · have hstep : delStep (m, c) k = (AList.erase m k, c + 1) := by simp [delStep, hk]
      rw [hstep]
      obtain ⟨i1, i2, i3⟩ := ih (AList.erase m k) (c + 1) (erase_preserves_sorted m hs k)
      refine ⟨i1, ?_, ?_⟩
      · intro x
        rw [i2 x, get?_erase m hs]
        by_cases hx : x = k
        · simp [hx]
        · simp [hx]
      · have hl := length_erase m k
        simp only [hk, if_true] at hl
        have hpos : m.length ≠ 0 := by
          intro h0
          have : m = [] := List.length_eq_zero_iff.mp h0
          subst this
          simp [AList.contains, AList.get?] at hk
        omega
    · have hk' : AList.contains m k = false := by simpa using hk
      have hstep : delStep (m, c) k = (m, c) := by simp [delStep, hk']
      rw [hstep]
      obtain ⟨i1, i2, i3⟩ := ih m c hs
      refine ⟨i1, ?_, i3⟩
      intro x
      rw [i2 x]
      by_cases hx : x = k
      · subst hx
        have : AList.get? m x = none := (contains_eq_false_iff m x).mp hk'
        simp [this]
      · simp [hx]

theorem foldl_delStep_nil {V : Type} : ∀ (ks : List Bytes) (c : Int), ks.foldl delStep (([] : AList V), c) = ([], c) := by
  intro ks
  induction ks with
  | nil => exact fun _ => rfl
  | cons k ks ih => exact fun c => ih c

open DsSet

theorem mem_eq_contains (s : S) : DsSet.mem s = AList.contains s := rfl

theorem members_enumerates (s : S) (hs : AList.Sorted s) : Spec.Enumerates (members s) (mem s) :=
  keys_enumerates s hs

theorem mem_members_iff (s : S) (x : Bytes) : x ∈ members s ↔ mem s x = true :=
  mem_keys_iff_contains s x

def addStep (acc : S × Int) (m : Bytes) : S × Int :=
  if mem acc.1 m then acc else (AList.set acc.1 m (), acc.2 + 1)

theorem sadd_eq_fold (s : S) (ms : List Bytes) : sadd s ms = ms.foldl addStep (s, 0) := rfl

theorem foldl_addStep : ∀ (ms : List Bytes) (s : S) (c : Int), AList.Sorted s →
    AList.Sorted (ms.foldl addStep (s, c)).1 ∧
    (∀ x, mem (ms.foldl addStep (s, c)).1 x = true ↔ mem s x = true ∨ x ∈ ms) ∧
    ((ms.foldl addStep (s, c)).1.length : Int) = s.length + ((ms.foldl addStep (s, c)).2 - c) := by
  intro ms
  induction ms with
  | nil => intro s c hs; simp [hs]
  | cons m ms ih =>
    intro s c hs
    simp only [List.foldl_cons]
    by_cases hm : mem s m = true
    · have hstep : addStep (s, c) m = (s, c) := by simp [addStep, hm]
      rw [hstep]
      obtain ⟨i1, i2, i3⟩ := ih s c hs
      refine ⟨i1, ?_, i3⟩
      intro x
      rw [i2 x, List.mem_cons]
      constructor
      · rintro (h | h)
        · exact Or.inl h
        · exact Or.inr (Or.inr h)
      · rintro (h | h | h)
        · exact Or.inl h
        · subst h; exact Or.inl hm
        · exact Or.inr h
    · have hm' : mem s m = false := by simpa using hm
      have hstep : addStep (s, c) m = (AList.set s m (), c + 1) := by simp [addStep, hm']
      rw [hstep]
      obtain ⟨i1, i2, i3⟩ := ih (AList.set s m ()) (c + 1) (set_preserves_sorted s hs m ())
      refine ⟨i1, ?_, ?_⟩
      · intro x
        rw [i2 x, List.mem_cons, mem_eq_contains, contains_set]
        simp only [Bool.or_eq_true, decide_eq_true_eq]
        constructor
        · rintro ((h | h) | h)
          · exact Or.inr (Or.inl h)
          · exact Or.inl h
          · exact Or.inr (Or.inr h)
        · rintro (h | h | h)
          · exact Or.inl (Or.inr h)
          · exact Or.inl (Or.inl h)
          · exact Or.inr h
      · have hl := length_set s hs m ()
        rw [mem_eq_contains] at hm'
        simp only [hm', Bool.false_eq_true, if_false] at hl
        omega

theorem srem_eq_fold (s : S) (ms : List Bytes) : srem s ms = ms.foldl delStep (s, 0) := rfl

theorem mem_iff_get? (s : S) (x : Bytes) : mem s x = true ↔ AList.get? s x = some () := by
  rw [mem_eq_contains, contains_eq_true_iff]
  constructor
  · rintro ⟨v, h⟩; exact h
  · exact fun h => ⟨(), h⟩

theorem set_ext (s₁ s₂ : S) (h1 : AList.Sorted s₁) (h2 : AList.Sorted s₂) (h : ∀ x, mem s₁ x = mem s₂ x) : s₁ = s₂ := by
  apply ext_of_sorted s₁ s₂ h1 h2
  intro x
  have hx := h x
  cases e1 : AList.get? s₁ x with
  | none =>
    cases e2 : AList.get? s₂ x with
    | none => rfl
    | some u =>
      simp [DsSet.mem, AList.contains, e1, e2] at hx
  | some u =>
    cases e2 : AList.get? s₂ x with
    | none => simp [DsSet.mem, AList.contains, e1, e2] at hx
    | some u' => rfl

theorem mem_sinter (s : S) (others : List S) (x : Bytes) :
    x ∈ sinter s others ↔ mem s x = true ∧ ∀ o ∈ others, mem o x = true := by
  simp only [sinter, List.mem_filter, mem_members_iff, List.all_eq_true]

theorem mem_sdiff (s : S) (others : List S) (x : Bytes) :
    x ∈ sdiff s others ↔ mem s x = true ∧ ∀ o ∈ others, mem o x = false := by
  simp only [sdiff, List.mem_filter, mem_members_iff, Bool.not_eq_true', List.any_eq_false,
    Bool.not_eq_true]

theorem sinter_nodup (s : S) (hs : AList.Sorted s) (others : List S) : (sinter s others).Nodup :=
  nodup_filter _ (keys_nodup s hs)

theorem sdiff_nodup (s : S) (hs : AList.Sorted s) (others : List S) : (sdiff s others).Nodup :=
  nodup_filter _ (keys_nodup s hs)

def dedupStep (acc : List Bytes) (m : Bytes) : List Bytes := if acc.contains m then acc else acc ++ [m]

theorem foldl_dedupStep : ∀ (l acc : List Bytes), acc.Nodup →
    (l.foldl dedupStep acc).Nodup ∧ ∀ x, x ∈ l.foldl dedupStep acc ↔ x ∈ acc ∨ x ∈ l := by
  intro l
  induction l with
  | nil => intro acc h; simp [h]
  | cons m l ih =>
    intro acc h
    simp only [List.foldl_cons]
    by_cases hm : m ∈ acc
    · have : dedupStep acc m = acc := by simp [dedupStep, hm]
      rw [this]
      obtain ⟨i1, i2⟩ := ih acc h
      refine ⟨i1, fun x => ?_⟩
      rw [i2 x, List.mem_cons]
      constructor
      · rintro (h | h)
        · exact Or.inl h
        · exact Or.inr (Or.inr h)
      · rintro (h | h | h)
        · exact Or.inl h
        · subst h; exact Or.inl hm
        · exact Or.inr h
    · have : dedupStep acc m = acc ++ [m] := by simp [dedupStep, hm]
      rw [this]
      have hn : (acc ++ [m]).Nodup := by
        rw [List.nodup_append]
        refine ⟨h, by simp, ?_⟩
        intro a ha b hb
        simp only [List.mem_singleton] at hb
        subst hb
        intro e; subst e; exact hm ha
      obtain ⟨i1, i2⟩ := ih (acc ++ [m]) hn
      refine ⟨i1, fun x => ?_⟩
      rw [i2 x, List.mem_cons, List.mem_append, List.mem_singleton]
      constructor
      · rintro ((h | h) | h)
        · exact Or.inl h
        · exact Or.inr (Or.inl h)
        · exact Or.inr (Or.inr h)
      · rintro (h | h | h)
        · exact Or.inl (Or.inl h)
        · exact Or.inl (Or.inr h)
        · exact Or.inr h

theorem sunion_eq (s : S) (others : List S) :
    sunion s others = members s ++
      (others.flatMap fun o => (members o).filter fun m => !(mem s m)).foldl dedupStep [] := rfl

theorem mem_sunion (s : S) (others : List S) (x : Bytes) :
    x ∈ sunion s others ↔ mem s x = true ∨ ∃ o ∈ others, mem o x = true := by
  rw [sunion_eq, List.mem_append, (foldl_dedupStep _ [] List.nodup_nil).2 x, mem_members_iff]
  simp only [List.not_mem_nil, false_or, List.mem_flatMap, List.mem_filter, mem_members_iff,
    Bool.not_eq_true']
  constructor
  · rintro (h | ⟨o, ho, h1, _⟩)
    · exact Or.inl h
    · exact Or.inr ⟨o, ho, h1⟩
  · rintro (h | ⟨o, ho, h1⟩)
    · exact Or.inl h
    · by_cases hs : mem s x = true
      · exact Or.inl hs
      · exact Or.inr ⟨o, ho, h1, by simpa using hs⟩

theorem sunion_nodup (s : S) (hs : AList.Sorted s) (others : List S) : (sunion s others).Nodup := by
  rw [sunion_eq, List.nodup_append]
  obtain ⟨n, hm⟩ := foldl_dedupStep (others.flatMap fun o => (members o).filter fun m => !(mem s m)) [] List.nodup_nil
  refine ⟨keys_nodup s hs, n, ?_⟩
  intro a ha b hb e
  subst e
  rw [hm a] at hb
  simp only [List.not_mem_nil, false_or, List.mem_flatMap, List.mem_filter, Bool.not_eq_true'] at hb
  obtain ⟨o, _, _, h2⟩ := hb
  rw [mem_members_iff] at ha
  rw [ha] at h2
  cases h2

open DsHash

theorem hdel_eq_fold (h : H) (ks : List Bytes) : hdel h ks = ks.foldl delStep (h, 0) := rfl


theorem contains_of_get?_delAll {V : Type} (m r : AList V) (ks : List Bytes)
    (h : ∀ x, AList.get? r x = if x ∈ ks then none else AList.get? m x) (x : Bytes) :
    AList.contains r x = true ↔ AList.contains m x = true ∧ x ∉ ks := by
  simp only [AList.contains, h x]
  by_cases hx : x ∈ ks <;> simp [hx]

theorem sadd_spec (s : S) (hs : AList.Sorted s) (ms : List Bytes) :
    AList.Sorted (sadd s ms).1 ∧
    mem (sadd s ms).1 = Spec.BSet.insertAll (mem s) ms ∧
    (∀ d, Spec.Enumerates d (Spec.listed ms (fun x => !mem s x)) → (sadd s ms).2 = d.length) ∧
    scard (sadd s ms).1 = scard s + (sadd s ms).2 := by
  rw [sadd_eq_fold]
  obtain ⟨i1, i2, i3⟩ := foldl_addStep ms s 0 hs
  refine ⟨i1, ?_, ?_, ?_⟩
  · funext x
    apply Bool.eq_iff_iff.mpr
    rw [i2 x]
    simp [Spec.BSet.insertAll]
  · intro d hd
    have := count_added s _ hs i1 ms i2 d hd
    omega
  · simp only [scard]
    omega

theorem srem_spec (s : S) (hs : AList.Sorted s) (ms : List Bytes) :
    AList.Sorted (srem s ms).1 ∧
    mem (srem s ms).1 = Spec.BSet.removeAll (mem s) ms ∧
    (∀ d, Spec.Enumerates d (Spec.listed ms (mem s)) → (srem s ms).2 = d.length) ∧
    scard (srem s ms).1 = scard s - (srem s ms).2 := by
  rw [srem_eq_fold]
  obtain ⟨i1, i2, i3⟩ := foldl_delStep ms s 0 hs
  have hc := contains_of_get?_delAll s _ ms i2
  refine ⟨i1, ?_, ?_, ?_⟩
  · funext x
    apply Bool.eq_iff_iff.mpr
    rw [mem_eq_contains, hc x]
    simp [Spec.BSet.removeAll, mem_eq_contains]
  · intro d hd
    have := count_removed s _ hs i1 ms hc d hd
    omega
  · simp only [scard]
    omega

theorem hdel_spec (h : H) (hs : AList.Sorted h) (ks : List Bytes) :
    AList.Sorted (hdel h ks).1 ∧
    hget (hdel h ks).1 = Spec.Map.delAll (hget h) ks ∧
    (∀ d, Spec.Enumerates d (Spec.listed ks (hexists h)) → (hdel h ks).2 = d.length) ∧
    hlen (hdel h ks).1 = hlen h - (hdel h ks).2 := by
  rw [hdel_eq_fold]
  obtain ⟨i1, i2, i3⟩ := foldl_delStep ks h 0 hs
  have hc := contains_of_get?_delAll h _ ks i2
  refine ⟨i1, ?_, ?_, ?_⟩
  · funext x
    exact i2 x
  · intro d hd
    have := count_removed h _ hs i1 ks hc d hd
    omega
  · simp only [hlen]
    omega

theorem hgetall_enumerates (h : H) (hs : AList.Sorted h) : Spec.EnumeratesMap (hgetall h) (hget h) :=
  ⟨keys_nodup h hs, fun k v => (get?_eq_some_iff_mem h hs k v).symm⟩

/-- the field holds a decimal int64 `i` and `i + delta` leaves int64: where the model (like the Go code) wraps and
    Redis answers an error; outside this region the two agree (`hincrby_redis_partial`) -/
def hincrOverflow (h : H) (f : Bytes) (delta : Int) : Bool :=
  match AList.get? h f with
  | none => false
  | some v =>
    match parseInt64 v with
    | none => false
    | some i => !inInt64 (i + delta)

theorem exists_enum_listed (ks : List Bytes) (p : Bytes → Bool) : ∃ d, Spec.Enumerates d (Spec.listed ks p) := by
  obtain ⟨hn, hm⟩ := foldl_dedupStep (ks.filter p) [] List.nodup_nil
  refine ⟨(ks.filter p).foldl dedupStep [], hn, fun x => ?_⟩
  rw [hm x, List.mem_filter]
  simp [Spec.listed]

theorem hincrby_missing (h : H) (f : Bytes) (delta : Int) (hg : AList.get? h f = none) :
    hincrby h f delta = some (AList.set h f (formatInt delta), delta) := by
  simp [hincrby, hg]

theorem hincrby_int (h : H) (f : Bytes) (delta : Int) (v : Bytes) (i : Int) (hg : AList.get? h f = some v)
    (hp : parseInt64 v = some i) :
    hincrby h f delta = some (AList.set h f (formatInt (wrap64 (i + delta))), wrap64 (i + delta)) := by
  simp [hincrby, hg, hp]

theorem hincrby_nonnumeric (h : H) (f : Bytes) (delta : Int) (v : Bytes) (hg : AList.get? h f = some v)
    (hp : parseInt64 v = none) : hincrby h f delta = none := by
  simp [hincrby, hg, hp]

theorem hincrby_redis_partial (h : H) (f : Bytes) (delta : Int) (hd : inInt64 delta = true)
    (hreg : hincrOverflow h f delta = false) :
    (hincrby h f delta).map (·.2) = Spec.hincr (hget h f) delta ∧
    ∀ h' r, hincrby h f delta = some (h', r) → hget h' = Spec.Map.put (hget h) f (formatInt r) := by
  have hput : ∀ r, hget (AList.set h f (formatInt r)) = Spec.Map.put (hget h) f (formatInt r) := by
    intro r; funext x; exact get?_set h f _ x
  cases hg : AList.get? h f with
  | none =>
    rw [hincrby_missing h f delta hg]
    refine ⟨by simp [Spec.hincr, hget, hg, hd], ?_⟩
    intro h' r e
    cases e
    exact hput _
  | some v =>
    cases hp : parseInt64 v with
    | none =>
      rw [hincrby_nonnumeric h f delta v hg hp]
      exact ⟨by simp [Spec.hincr, hget, hg, hp], fun h' r e => by cases e⟩
    | some i =>
      have hin : inInt64 (i + delta) = true := by
        simpa [hincrOverflow, hg, hp] using hreg
      rw [hincrby_int h f delta v i hg hp, wrap64_id (inInt64_iff.1 hin)]
      refine ⟨by simp [Spec.hincr, hget, hg, hp, hin], ?_⟩
      intro h' r e
      cases e
      exact hput _

end NodisVerif.Proofs.C03

import NodisVerif.Proofs.SkiplistInRange
import NodisVerif.Proofs.SkiplistInsert
import NodisVerif.Proofs.SkiplistRange
import NodisVerif.Proofs.SkiplistRank
import NodisVerif.Proofs.SkiplistRemove
/-
  Under the invariant no operation of Model/Skiplist.lean runs out of fuel and none panics: every call returns `.ok`
  (`insert`: under the sorted set's preconditions: a level in `1..maxLevel`, a score that is not NaN, a new member).
-/
namespace NodisVerif.Skiplist
open NodisVerif.DsZSet (Item nodeLt)

theorem getLastInRange_ok {sl : SL} (h : Inv sl) (min max : F64) : ∃ r, getLastInRange sl min max = .ok r := by
  cases hmax : F64.isNaN max with
  | false =>
    obtain ⟨r, hr, _⟩ := getLastInRange_inv h min max hmax
    exact ⟨r, hr⟩
  | true =>
    cases hir : DsZSet.hasInRange (abs sl) min max with
    | true =>
      obtain ⟨c, hc⟩ := h
      obtain ⟨hd, _, hr, _⟩ := getLastInRange_nan_max hc min max hmax hir
      exact ⟨_, hr⟩
    | false =>
      refine ⟨none, ?_⟩
      unfold getLastInRange
      rw [hasInRange_spec h min max, hir]
      rfl

theorem fuel_sufficient {sl : SL} (h : Inv sl) :
    (∀ m s lvl, 1 ≤ lvl → lvl ≤ maxLevel → F64.isNaN s = false → (∀ x ∈ abs sl, x.2 ≠ m) →
        ∃ r, insert sl m s lvl = .ok r) ∧
    (∀ m s, ∃ r, remove sl m s = .ok r) ∧
    (∀ m s, ∃ r, getRank sl m s = .ok r) ∧
    (∀ r, ∃ o, getByRank sl r = .ok o) ∧
    (∀ a b, ∃ r, hasInRange sl a b = .ok r) ∧
    (∀ a b, ∃ r, getFirstInRange sl a b = .ok r) ∧
    (∀ a b, ∃ r, getLastInRange sl a b = .ok r) ∧
    (∀ a b limit mode, ∃ r, removeRange sl a b limit mode = .ok r) ∧
    (∀ a b, ∃ r, removeRangeByRank sl a b = .ok r) := by
  refine ⟨?_, ?_, ?_, ?_, ?_, ?_, ?_, ?_, ?_⟩
  · intro m s lvl h1 h2 h3 h4
    obtain ⟨r, hr, _⟩ := insert_refines h m s lvl h1 h2 h3 h4
    exact ⟨r, hr⟩
  · intro m s
    obtain ⟨sl', b, hr, _⟩ := remove_refines h m s
    exact ⟨_, hr⟩
  · intro m s
    obtain ⟨r, hr, _⟩ := getRank_ok h m s
    exact ⟨r, hr⟩
  · intro r
    obtain ⟨c, hc⟩ := h
    exact ⟨_, getByRank_spec hc r⟩
  · intro a b
    exact ⟨_, hasInRange_spec h a b⟩
  · intro a b
    obtain ⟨r, hr, _⟩ := getFirstInRange_inv h a b
    exact ⟨r, hr⟩
  · intro a b
    exact getLastInRange_ok h a b
  · intro a b limit mode
    obtain ⟨sl', rem, hr, _⟩ := removeRange_refines h a b limit mode
    exact ⟨_, hr⟩
  · intro a b
    obtain ⟨sl', rem, hr, _⟩ := removeRangeByRank_refines h a b
    exact ⟨_, hr⟩

end NodisVerif.Skiplist

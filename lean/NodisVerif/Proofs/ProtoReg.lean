import NodisVerif.Proofs.ProtoInv
/-
  Locking protocol: who can change what. A step of one transaction leaves the other transactions alone;
  the record registered under a key only leaves through `unlink` / `drop` of that very record, or `clear`.
  While a transaction holds a record, the others can neither unregister it (`held_stays_registered`) nor touch its
  index entry (`index_stable`).
-/
namespace NodisVerif.Proofs.Proto
open NodisVerif.Proto

theorem same_hold {l : List Hold} (hn : NodupRids l) {h g : Hold} (hh : h ∈ l) (hg : g ∈ l)
    (e : h.rid = g.rid) : h = g := by
  have a := holdOf_of_mem (st := { holds := l }) hn hh
  have b := holdOf_of_mem (st := { holds := l }) hn hg
  rw [e, b] at a
  exact (Option.some.inj a).symm

theorem tx_step_other {s s' : PState} {e : Ev} {t : Tx} (hs : step s e = some s') (ht : evTx e ≠ some t) :
    s'.tx t = s.tx t := by
  have ne : ∀ u, evTx e = some u → t ≠ u := by intro u h c; subst c; exact ht h
  cases e with
  | begin u => obtain ⟨_, rfl⟩ := step_begin.1 hs; exact tx_setTx_ne _ _ (ne u rfl)
  | look u k r => obtain ⟨_, _, _, _, _, rfl⟩ := step_look.1 hs; rfl
  | claim u k r m =>
    obtain ⟨_, _, _, _, _, _, rfl⟩ := step_claim.1 hs
    rw [tx_setTx_ne _ _ (ne u rfl)]; rfl
  | wait u k r m => obtain ⟨_, _, _, _, _, _, _, rfl⟩ := step_wait.1 hs; exact tx_setTx_ne _ _ (ne u rfl)
  | lock u k r m => obtain ⟨_, _, _, _, rfl⟩ := step_lock.1 hs; exact tx_setTx_ne _ _ (ne u rfl)
  | valid u k r ok =>
    obtain ⟨_, _, _, _, _, _, ⟨_, rfl⟩ | ⟨_, _, rfl⟩⟩ := step_valid.1 hs
    · rfl
    · exact tx_setTx_ne _ _ (ne u rfl)
  | publish u k r => obtain ⟨_, _, _, _, _, _, _, _, _, _, rfl⟩ := step_publish.1 hs; rfl
  | unlink u k r => obtain ⟨_, _, _, _, _, _, _, _, _, rfl⟩ := step_unlink.1 hs; rfl
  | commit u => obtain ⟨_, _, _, _, _, rfl⟩ := step_commit.1 hs; exact tx_setTx_ne _ _ (ne u rfl)
  | trylock u k r => obtain ⟨_, _, _, _, _, rfl⟩ := step_trylock.1 hs; exact tx_setTx_ne _ _ (ne u rfl)
  | drop u k r => obtain ⟨_, _, _, _, _, _, _, _, rfl⟩ := step_drop.1 hs; rfl
  | unlock u r => obtain ⟨_, _, _, _, _, rfl⟩ := step_unlock.1 hs; exact tx_setTx_ne _ _ (ne u rfl)
  | fin u =>
    obtain ⟨_, _, _, _, rfl⟩ := step_fin.1 hs
    simp [PState.tx, assoc_erase, ne u rfl]
  | clear => have := step_clear.1 hs; subst this; rfl

theorem lookup_eq_some {s : PState} {k : Key} {r : Rec} : s.lookup k = some r ↔
    assoc s.index k = some r ∨ (assoc s.index k = none ∧ assoc s.pending k = some r) := by
  unfold PState.lookup
  cases h : assoc s.index k <;> simp

/-- `publish` moves the record from `pending` to the index: `lookup` does not notice -/
theorem lookup_publish {s : PState} {k : Key} {r : Rec} (hp : assoc s.pending k = some r)
    (hx : assoc s.index k = none) (k' : Key) :
    PState.lookup { s with pending := erase s.pending k, index := put s.index k r } k' = s.lookup k' := by
  unfold PState.lookup
  simp only [assoc_put, assoc_erase]
  by_cases h : k' = k
  · subst h; simp [hx, hp]
  · simp [h]

theorem claim_current {s s' : PState} {t : Tx} {k : Key} {r : Rec} {m : Mode}
    (h : step s (.claim t k r m) = some s') : s'.lookup k = some r := by
  obtain ⟨st, _, _, _, hl, _, rfl⟩ := step_claim.1 h
  rw [setTx_lookup]
  unfold PState.lookup
  simp [(lookup_none hl).1, assoc_put]

theorem lookup_stable {s s' : PState} {e : Ev} (hs : step s e = some s') {k : Key} {r : Rec}
    (hl : s.lookup k = some r) (h1 : ∀ u, e ≠ .unlink u k r) (h2 : ∀ u, e ≠ .drop u k r) (h3 : e ≠ .clear) :
    s'.lookup k = some r := by
  cases e with
  | begin u => obtain ⟨_, rfl⟩ := step_begin.1 hs; exact hl
  | look u k r => obtain ⟨_, _, _, _, _, rfl⟩ := step_look.1 hs; exact hl
  | claim u k' r' m =>
    obtain ⟨_, _, _, _, hn, _, rfl⟩ := step_claim.1 hs
    rw [setTx_lookup]
    have hne : k ≠ k' := by intro c; subst c; rw [hn] at hl; cases hl
    unfold PState.lookup at hl ⊢
    simpa [assoc_put, hne] using hl
  | wait u k r m => obtain ⟨_, _, _, _, _, _, _, rfl⟩ := step_wait.1 hs; exact hl
  | lock u k r m => obtain ⟨_, _, _, _, rfl⟩ := step_lock.1 hs; exact hl
  | valid u k r ok =>
    obtain ⟨_, _, _, _, _, _, ⟨_, rfl⟩ | ⟨_, _, rfl⟩⟩ := step_valid.1 hs <;> exact hl
  | publish u k' r' =>
    obtain ⟨_, _, _, _, _, _, _, _, hp, hx, rfl⟩ := step_publish.1 hs
    rw [lookup_publish hp hx]; exact hl
  | unlink u k' r' =>
    obtain ⟨_, _, _, _, _, _, _, _, hx, rfl⟩ := step_unlink.1 hs
    have hne : k ≠ k' := by
      intro c; subst c
      rcases lookup_eq_some.1 hl with h | ⟨h, _⟩
      · rw [hx] at h; cases h; exact h1 u rfl
      · rw [hx] at h; cases h
    unfold PState.lookup at hl ⊢
    simpa [assoc_erase, hne] using hl
  | commit u => obtain ⟨_, _, _, _, _, rfl⟩ := step_commit.1 hs; exact hl
  | trylock u k r => obtain ⟨_, _, _, _, _, rfl⟩ := step_trylock.1 hs; exact hl
  | drop u k' r' =>
    obtain ⟨_, _, _, _, _, _, _, hp, rfl⟩ := step_drop.1 hs
    rcases lookup_eq_some.1 hl with h | ⟨h, h'⟩
    · unfold PState.lookup; simp [h]
    · have hne : k ≠ k' := by
        intro c; subst c
        rw [hp] at h'; cases h'; exact h2 u rfl
      unfold PState.lookup
      simp [h, assoc_erase, hne, h']
  | unlock u r => obtain ⟨_, _, _, _, _, rfl⟩ := step_unlock.1 hs; exact hl
  | fin u => obtain ⟨_, _, _, _, rfl⟩ := step_fin.1 hs; exact hl
  | clear => exact absurd rfl h3

theorem unlink_needs_w {s s' : PState} {u : Tx} {k : Key} {r : Rec} (hs : step s (.unlink u k r) = some s') :
    ∃ su g, s.tx u = some su ∧ g ∈ su.holds ∧ g.rid = r ∧ g.mode = .w := by
  obtain ⟨su, g, h1, h2, _, h3, _⟩ := step_unlink.1 hs
  exact ⟨su, g, h1, (holdOf_some h2).1, (holdOf_some h2).2, h3⟩

theorem drop_needs_w {s s' : PState} {u : Tx} {k : Key} {r : Rec} (hs : step s (.drop u k r) = some s') :
    ∃ su g, s.tx u = some su ∧ g ∈ su.holds ∧ g.rid = r ∧ g.mode = .w := by
  obtain ⟨su, g, h1, h2, _, h3, _⟩ := step_drop.1 hs
  exact ⟨su, g, h1, (holdOf_some h2).1, (holdOf_some h2).2, h3⟩

/-- C05.3: while `t` holds record `r` (any mode), nobody else can take `r` out of the index -/
theorem held_stays_registered {s s' : PState} {e : Ev} (hi : Inv s) {t u : Tx} {st : TxSt} {h : Hold}
    {k : Key} (htx : s.tx t = some st) (hh : h ∈ st.holds) (hl : s.lookup k = some h.rid)
    (he : evTx e = some u) (hne : u ≠ t) (hs : step s e = some s') : s'.lookup k = some h.rid := by
  refine lookup_stable hs hl ?_ ?_ ?_
  · intro v c; subst c
    obtain ⟨su, g, a, b, c, d⟩ := unlink_needs_w hs
    cases he
    exact hne (hi.compat u t su st g h a htx b hh c (Or.inl d))
  · intro v c; subst c
    obtain ⟨su, g, a, b, c, d⟩ := drop_needs_w hs
    cases he
    exact hne (hi.compat u t su st g h a htx b hh c (Or.inl d))
  · intro c; subst c; cases he

theorem held_stays_registered_run {s s' : PState} {es : List Ev} (hi : Inv s) {t : Tx} {st : TxSt} {h : Hold}
    {k : Key} (htx : s.tx t = some st) (hh : h ∈ st.holds) (hl : s.lookup k = some h.rid)
    (he : ∀ e ∈ es, ∃ u, evTx e = some u ∧ u ≠ t) (hs : runAll s es = some s') :
    s'.tx t = some st ∧ s'.lookup k = some h.rid := by
  induction es generalizing s with
  | nil => cases hs; exact ⟨htx, hl⟩
  | cons e es ih =>
    obtain ⟨s1, h1, h2⟩ := runAll_cons_some hs
    obtain ⟨u, hu, hne⟩ := he e List.mem_cons_self
    have htx1 : s1.tx t = some st := by
      rw [tx_step_other h1 (by rw [hu]; intro c; exact hne (Option.some.inj c))]; exact htx
    exact ih (hi.step h1) htx1 (held_stays_registered hi htx hh hl hu hne h1)
      (fun e' he' => he e' (List.mem_cons_of_mem _ he')) h2

/-- while a transaction holds a record (any mode), the index entry of that record is not touched by the steps of
    other transactions: a publication under the same key is impossible (the key is in the index), an unlink of it
    needs a write hold on the record -/
theorem index_stable {s s' : PState} {e : Ev} (hi : Inv s) {t u : Tx} {st : TxSt} {h : Hold} {k : Key}
    (htx : s.tx u = some st) (hh : h ∈ st.holds) (hl : assoc s.index k = some h.rid)
    (he : evTx e = some t) (hne : t ≠ u) (hs : step s e = some s') : assoc s'.index k = some h.rid := by
  cases e with
  | begin v => obtain ⟨_, rfl⟩ := step_begin.1 hs; exact hl
  | look v k r => obtain ⟨_, _, _, _, _, rfl⟩ := step_look.1 hs; exact hl
  | claim v k' r' m => obtain ⟨_, _, _, _, _, _, rfl⟩ := step_claim.1 hs; exact hl
  | wait v k r m => obtain ⟨_, _, _, _, _, _, _, rfl⟩ := step_wait.1 hs; exact hl
  | lock v k r m => obtain ⟨_, _, _, _, rfl⟩ := step_lock.1 hs; exact hl
  | valid v k r ok => obtain ⟨_, _, _, _, _, _, ⟨_, rfl⟩ | ⟨_, _, rfl⟩⟩ := step_valid.1 hs <;> exact hl
  | publish v k' r' =>
    obtain ⟨_, _, _, _, _, _, _, _, _, hx, rfl⟩ := step_publish.1 hs
    have hne' : k ≠ k' := by intro c; subst c; rw [hx] at hl; cases hl
    simpa [assoc_put, hne'] using hl
  | unlink v k' r' =>
    obtain ⟨su, g, a, b, c, d⟩ := unlink_needs_w hs
    obtain ⟨_, _, _, _, _, _, _, _, hx, rfl⟩ := step_unlink.1 hs
    simp only [evTx, Option.some.injEq] at he; subst he
    have hne' : k ≠ k' := by
      intro e; subst e
      rw [hx] at hl
      have hr : r' = h.rid := Option.some.inj hl
      exact hne (hi.compat v u su st g h a htx b hh (by rw [c, hr]) (Or.inl d))
    simpa [assoc_erase, hne'] using hl
  | commit v => obtain ⟨_, _, _, _, _, rfl⟩ := step_commit.1 hs; exact hl
  | trylock v k r => obtain ⟨_, _, _, _, _, rfl⟩ := step_trylock.1 hs; exact hl
  | drop v k' r' => obtain ⟨_, _, _, _, _, _, _, _, rfl⟩ := step_drop.1 hs; exact hl
  | unlock v r => obtain ⟨_, _, _, _, _, rfl⟩ := step_unlock.1 hs; exact hl
  | fin v => obtain ⟨_, _, _, _, rfl⟩ := step_fin.1 hs; exact hl
  | clear => cases he

end NodisVerif.Proofs.Proto

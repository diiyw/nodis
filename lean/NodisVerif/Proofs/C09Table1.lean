import NodisVerif.Proofs.C09Changed
import NodisVerif.Proofs.C09Writers2
import NodisVerif.Model.Handler
/-
  C09 (WATCH soundness) at the level of handlers: every closure a handler hands to `execCommand` tells the watchers
  about every key whose logical content it changes (`SignalsChanges`, for a handler result `ExecSignals`).
  Here: the rules for a handler walked by name (`execSignals_*`); `Frame []` for the API functions that C09Writers*.lean
  does not cover (the read-only ones, `Api.incrByFloat`, `Api.hincrbyfloat`); then the handlers of `Handler.table1`
  that are walked by name: those that make no call, KEYS and TYPE.  For the handlers in normal form see C09Shape.lean.
  Namespace `Proofs.C08Step`, like the C08* files, C09Own, C09Run and C09Table1b (C09Table3: `C08Step.T3`, C09Table4:
  `C08Step.T4`): the `frame_*` lemmas here stand beside those of `Proofs.C09Writers`.
-/

namespace NodisVerif.Proofs.C08Step
open Resp Server
open NodisVerif NodisVerif.Store NodisVerif.Api
open NodisVerif.Proofs.C09Writers

theorem tells_of_frame {st : MState} {o : BodyOut} (hp : st.pebble = true) (h : Frame [] st o.store) :
    TellsChanges st o :=
  ⟨h.pebble hp, fun k hk => Or.inl (h.sound k hk)⟩

theorem signals_of_frame {b : Body} (h : ∀ st now ch, st.pebble = true → Frame [] st (b st now ch).store) :
    SignalsChanges b :=
  fun st now ch hp _ => tells_of_frame hp (h st now ch hp)

theorem store_done (s : MState) (ts : List Tok) : (Handler.done s ts).store = s := rfl

theorem store_call (r : MState × Out) (k : MState → Out → BodyOut) (hk : ∀ s o, (k s o).store = s) :
    (Handler.call r k).store = r.1 := by
  unfold Handler.call
  split
  · rfl
  · exact hk _ _

theorem frame_call {st : MState} (r : MState × Out) (k : MState → Out → BodyOut) (hk : ∀ s o, (k s o).store = s)
    (h : Frame [] st r.1) : Frame [] st (Handler.call r k).store := by
  rw [store_call r k hk]; exact h

theorem frame_ite_store {s : MState} {c : Prop} [Decidable c] {a b : BodyOut}
    (ha : Frame [] s a.store) (hb : Frame [] s b.store) : Frame [] s (if c then a else b).store := by
  split
  · exact ha
  · exact hb

def ExecSignals (r : HRes) : Prop := ∀ b, r = .exec b → SignalsChanges b

theorem execSignals_err : ExecSignals Handler.errReply := fun _ h => nomatch h
theorem execSignals_crash : ExecSignals .crash := fun _ h => nomatch h
theorem execSignals_exec {b : Body} (hb : SignalsChanges b) : ExecSignals (.exec b) := fun _ h => by
  cases h; exact hb
theorem execSignals_ite {c : Prop} [Decidable c] {x y : HRes} (hx : ExecSignals x) (hy : ExecSignals y) :
    ExecSignals (if c then x else y) := by
  split
  · exact hx
  · exact hy

theorem execSignals_call {r : MState → Int → Choice → MState × Out} {k : MState → Out → BodyOut}
    (hk : ∀ s o, (k s o).store = s) (h : ∀ st now ch, st.pebble = true → Frame [] st (r st now ch).1) :
    ExecSignals (.exec fun s now ch => Handler.call (r s now ch) k) :=
  execSignals_exec (signals_of_frame fun st now ch hp => frame_call _ _ hk (h st now ch hp))

/-- `Store.clear`: everything may change, and `flushed` says so -/
theorem tells_clear (st : MState) (hp : st.pebble = true) (ts : List Tok) :
    TellsChanges st (Handler.done (Store.clear st) ts) :=
  ⟨hp, fun _ _ => Or.inr rfl⟩

theorem frame_exists (s : MState) (hp : s.pebble = true) (now : Int) (keys : List Bytes) :
    Frame [] s (Api.exists_ s now keys).1 := by
  unfold Api.exists_
  split
  next s' c heq =>
  have := frame_foldl (α := Int) (fun (acc : MState × Int) key =>
    let (s, ok) := readKey acc.1 now key
    (s, if ok then acc.2 + 1 else acc.2))
    (fun acc key _ => by
      dsimp only
      rk acc.1 now key with s1 ok h
      exact h) keys (s, 0) hp
  rw [heq] at this
  exact this

theorem frame_keys (s : MState) (now : Int) (pat : Bytes) : Frame [] s (Api.keys s now pat).1 := Frame.refl _ _

theorem frame_randomKey (s : MState) (now : Int) (c : Option Bytes) : Frame [] s (Api.randomKey s now c).1 := by
  unfold Api.randomKey
  split <;> exact Frame.refl _ _

theorem frame_ttl (s : MState) (now : Int) (key : Bytes) : Frame [] s (Api.ttl s now key).1 := by
  unfold Api.ttl
  rk s now key with s1 ok h
  simp only [apply_ite Prod.fst, ite_self]
  exact h

theorem frame_pttl (s : MState) (now : Int) (key : Bytes) : Frame [] s (Api.pttl s now key).1 := by
  unfold Api.pttl
  rk s now key with s1 ok h
  refine frame_ite h ?_
  split <;> exact h

theorem frame_type (s : MState) (now : Int) (key : Bytes) : Frame [] s (Api.type_ s now key).1 := by
  unfold Api.type_
  rk s now key with s1 ok h
  refine frame_ite h ?_
  split <;> exact h

theorem frame_get (s : MState) (now : Int) (key : Bytes) : Frame [] s (Api.get s now key).1 := by
  unfold Api.get
  rk s now key with s1 ok h
  refine frame_ite h ?_
  split <;> exact h

theorem frame_getRange (s : MState) (now : Int) (key : Bytes) (a b : Int) :
    Frame [] s (Api.getRange s now key a b).1 := by
  unfold Api.getRange
  rk s now key with s1 ok h
  refine frame_ite h ?_
  split <;> exact h

theorem frame_strLen (s : MState) (now : Int) (key : Bytes) : Frame [] s (Api.strLen s now key).1 := by
  unfold Api.strLen
  rk s now key with s1 ok h
  refine frame_ite h ?_
  split <;> exact h

theorem frame_getBit (s : MState) (now : Int) (key : Bytes) (o : Int) : Frame [] s (Api.getBit s now key o).1 := by
  unfold Api.getBit
  rk s now key with s1 ok h
  refine frame_ite h ?_
  split <;> exact h

theorem frame_bitCount (s : MState) (now : Int) (key : Bytes) (a b : Int) (bit : Bool) :
    Frame [] s (Api.bitCount s now key a b bit).1 := by
  unfold Api.bitCount
  rk s now key with s1 ok h
  refine frame_ite h ?_
  split <;> exact h

theorem frame_hlen (s : MState) (now : Int) (key : Bytes) : Frame [] s (Api.hlen s now key).1 :=
  frame_hread _ _ s now key
theorem frame_scard (s : MState) (now : Int) (key : Bytes) : Frame [] s (Api.scard s now key).1 :=
  frame_sread _ _ s now key

theorem frame_bumpCount (s : MState) (key : Bytes) :
    Frame [] s (modMeta s key fun m => { m with count := m.count + 1 }) := by
  unfold modMeta
  split
  · next m hm => exact frame_putMeta_same s key m _ hm (count_unchanged m)
  · exact Frame.refl _ _

/-
  FULL STATEMENT (not proved): `Frame [] s (Api.scan s now cursor pat count typ).1` for every `typ`.
  With a TYPE filter (`typ ≠ 0`) the scan LOADS cold records of unknown type
  (`modMeta s key fun m' => ({ m' with oid := oid }.setValue v)`); that this is not a logical change needs
  facts about the store that `Frame` does not carry (the index record is live and still cold, keys of
  the index are distinct).  Proved here: the scan without a TYPE filter (`typ = 0`), which only bumps
  access counters.
-/
theorem frame_scan_go (now : Int) (pat : Bytes) :
    ∀ (ents : List (Bytes × Meta)) (s : MState) (cursor iter count : Int) (acc : List Bytes),
      Frame [] s (Api.scan.go now pat 0 ents s cursor iter count acc).1
  | [], s, cursor, iter, count, acc => by unfold Api.scan.go; exact Frame.refl _ _
  | (key, m) :: rest, s, cursor, iter, count, acc => by
    have hb := fun c i n a => (frame_bumpCount s key).trans0 (frame_scan_go now pat rest _ c i n a)
    unfold Api.scan.go
    -- `typ = 0`: the load for a TYPE filter and the filter itself are off
    simp only [ne_eq, not_true_eq_false, false_and, if_false]
    exact frame_ite (frame_scan_go now pat rest s _ _ _ _)
      (frame_ite (Frame.refl _ _) (frame_ite (hb _ _ _ _) (hb _ _ _ _)))

theorem frame_scan (s : MState) (now : Int) (cursor : Int) (pat : Bytes) (count : Int) :
    Frame [] s (Api.scan s now cursor pat count 0).1 := by
  unfold Api.scan
  dsimp only
  split
  · exact Frame.refl _ _
  · split
    · exact Frame.refl _ _
    · exact frame_scan_go now pat s.index s cursor 0 count []

/-- INCRBYFLOAT: on a freshly created key the sum `0 + delta` can be formatted (`Api.formatFloat` is total,
    Model/FloatDec.lean), so the `.unsupported` exit is not taken after a creation -/
theorem frame_incrByFloat (s : MState) (hp : s.pebble = true) (now : Int) (key : Bytes) (delta : F64) :
    Frame [] s (Api.incrByFloat s now key delta).1 := by
  rw [C20.incrByFloat_eq]
  refine frame_keyTx s hp _ _ _ _ _ now key nofun (fun _ h _ => ?_)
  cases h
  have hin : (Api.formatFloat (F64.add 0 delta)).isSome = true := rfl
  have hp0 : Api.parseFloatText [48] = some (some 0) := by decide +kernel
  show (C20.decIncrByFloat key delta (.str []) 0).isKeep = false
  simp only [C20.decIncrByFloat, C11.decStrWrite, C20.ibfCalc, DsStr.bytes, Option.getD_some, List.isEmpty_nil, if_true,
    hp0, F64.add?]
  cases hf : Api.formatFloat (F64.add 0 delta) with
  | none => rw [hf] at hin; cases hin
  | some t => rfl

theorem frame_call2 {st : MState} (hp : st.pebble = true) (r : MState × Out) (k : MState → Out → BodyOut)
    (h : Frame [] st r.1) (hk : ∀ s o, s.pebble = true → Frame [] s (k s o).store) :
    Frame [] st (Handler.call r k).store := by
  obtain ⟨s1, o⟩ := r
  unfold Handler.call
  split
  · next heq => cases heq; exact h
  · next heq => cases heq; exact h.trans0 (hk _ _ (h.pebble hp))

theorem frame_llen (s : MState) (now : Int) (key : Bytes) : Frame [] s (Api.llen s now key).1 := by
  unfold Api.llen
  rk s now key with s1 ok h
  refine frame_ite h ?_
  split <;> exact h

theorem frame_lindex (s : MState) (now : Int) (key : Bytes) (i : Int) : Frame [] s (Api.lindex s now key i).1 := by
  unfold Api.lindex
  rk s now key with s1 ok h
  refine frame_ite h ?_
  split <;> exact h

theorem frame_lrange (s : MState) (now : Int) (key : Bytes) (a b : Int) :
    Frame [] s (Api.lrange s now key a b).1 := by
  unfold Api.lrange
  rk s now key with s1 ok h
  refine frame_ite h ?_
  split <;> exact h

theorem frame_srandmember (s : MState) (now : Int) (key : Bytes) (count : Int) (choice : List Bytes) :
    Frame [] s (Api.srandmember s now key count choice).1 := by
  unfold Api.srandmember
  rk s now key with s1 ok h
  refine frame_ite h ?_
  split
  · exact h
  · exact frame_ite h (frame_ite h h)

/-- HINCRBYFLOAT: on a freshly created hash the field is absent and the increment itself is stored; it can be
    formatted (`Api.formatFloat` is total), so the `.unsupported` exit is not taken after a creation -/
theorem frame_hincrbyfloat (s : MState) (hp : s.pebble = true) (now : Int) (key field : Bytes) (delta : F64) :
    Frame [] s (Api.hincrbyfloat s now key field delta).1 := by
  rw [C20.hincrbyfloat_eq]
  refine frame_form _ s hp now nofun (fun _ h _ => ?_)
  cases h
  have hin : (Api.formatFloat delta).isSome = true := rfl
  have hg : DsHash.hget [] field = none := rfl
  show (C20.decHibf key field delta (.hash []) 0).isKeep = false
  simp only [C20.decHibf, C20.hibfCalc, hg]
  cases hf : Api.formatFloat delta with
  | none => rw [hf] at hin; cases hin
  | some t => rfl

/-- `HIncrByFloat(k, f, 0.5)` on the empty Pebble store changes `k` and signals it
    (a fraction: the float text goes through Model/FloatDec.lean) -/
theorem frame_hincrbyfloat_fraction :
    let s : MState := { pebble := true }
    let s' := (Api.hincrbyfloat s 0 [107] [102] 0x3fe0000000000000).1
    changed s s' [107] ∧ [107] ∈ s'.signalled ∧ s'.flushed = false := by decide +kernel

/-- the doubles INCRBYFLOAT / HINCRBYFLOAT accept as increments in the model (`ofInt?` of an integer) can
    be formatted (cf. `C09Float.ofInt_formattable`, which is about `0 + x`) -/
theorem ofInt_formattable_self (n : Int) (x : F64) (h : F64.ofInt? n = some x) :
    (Api.formatFloat x).isSome = true := rfl

theorem signals_ping (args : List Bytes) : ExecSignals (Handler.ping args) :=
  execSignals_exec (signals_of_frame fun st _ _ _ => Frame.refl _ st)

theorem signals_echo (args : List Bytes) : ExecSignals (Handler.echo args) :=
  execSignals_exec (signals_of_frame fun st _ _ _ => Frame.refl _ st)

theorem signals_dbSize : ExecSignals Handler.dbSize :=
  execSignals_exec (signals_of_frame fun st _ _ _ => Frame.refl _ st)

theorem signals_flushDB : ExecSignals Handler.flushDB :=
  execSignals_exec fun st _ _ hp _ => tells_clear st hp _

theorem signals_keys (args : List Bytes) : ExecSignals (Handler.keys args) := by
  unfold Handler.keys
  split
  · exact execSignals_call (fun _ _ => rfl) fun st now _ _ => frame_keys st now _
  · exact execSignals_err

theorem signals_typ (args : List Bytes) : ExecSignals (Handler.typ args) := by
  unfold Handler.typ
  split
  · exact execSignals_call (fun _ _ => rfl) fun st now _ _ => frame_type st now _
  · exact execSignals_err

end NodisVerif.Proofs.C08Step

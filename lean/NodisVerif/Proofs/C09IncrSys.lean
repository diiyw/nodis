import NodisVerif.Proofs.C09Incr
import NodisVerif.Proofs.C09Own
import NodisVerif.Proofs.C15Decimal

/-
  C09 — the optimistic increment loop  WATCH k; GET k; MULTI; SET k (v+1); EXEC  run by any number of
  connections under any command-granularity interleaving, as a closed system: server + one script
  phase per connection.  No update is ever lost.  At the end, for C16 and on the same scripts' bodies: what SET stored is
  what GET writes as a bulk reply (`get_after_set`).
-/
namespace NodisVerif.Proofs.C09Incr
open NodisVerif.Proofs.C08Step NodisVerif.Proofs.AListLemmas2 Store Resp Server

variable (k : Bytes)

/-- the two commands of the script that go through the handler table -/
def scriptTable : Table := fun name args =>
  if name = "GET" then (match args with | [x] => some (.exec (getBody x)) | _ => none)
  else if name = "SET" then (match args with | [x, v] => some (.exec (setBody x v)) | _ => none)
  else none

/-- where a client is in its script; `v` is the counter value it read -/
inductive Phase
  | idle | watched | read (v : Nat) | inMulti (v : Nat) | queued (v : Nat)

/-- what the client makes of the reply to its GET: the decimal value (a missing key counts as 0) -/
def counterOf : List Tok → Nat
  | [Tok.bulk b] => ((parseInt64 b).getD 0).toNat
  | _ => 0

def cmdOf (i : String) (now : Int) : Phase → Cmd
  | .idle => { id := i, name := "WATCH", args := [k], now := now }
  | .watched => { id := i, name := "GET", args := [k], now := now }
  | .read _ => { id := i, name := "MULTI", now := now }
  | .inMulti v => { id := i, name := "SET", args := [k, formatInt ((v + 1 : Nat) : Int)], now := now }
  | .queued _ => { id := i, name := "EXEC", now := now }

/-- the client's reaction to the reply; the Bool says "my EXEC succeeded" (reply not null) -/
def nextPhase : Phase → List Tok → Phase × Bool
  | .idle, _ => (.watched, false)
  | .watched, r => (.read (counterOf r), false)
  | .read v, _ => (.inMulti v, false)
  | .inMulti v, _ => (.queued v, false)
  | .queued _, r => (.idle, r != [Tok.nullBulk])

structure Sys where
  sv : Server
  ph : String → Phase
  wins : Nat            -- number of successful EXECs so far

/-- one move: connection `mv.1` sends its next command at clock reading `mv.2` and reads the reply -/
def sysStep (s : Sys) (mv : String × Int) : Sys :=
  let r := step scriptTable s.sv (cmdOf k mv.1 mv.2 (s.ph mv.1))
  let p := nextPhase (s.ph mv.1) r.2
  { sv := r.1, ph := fun j => if j = mv.1 then p.1 else s.ph j, wins := if p.2 then s.wins + 1 else s.wins }

def sysRun (s : Sys) (sched : List (String × Int)) : Sys := sched.foldl (sysStep k) s

theorem prep_getMeta (st : MState) (x : Bytes) : getMeta (prep st) x = getMeta st x := rfl
theorem storeAfter_getMeta (o : BodyOut) (x : Bytes) : getMeta (storeAfter o) x = getMeta o.store x := rfl

theorem counterIs_congr {st st' : MState} (h : ∀ x, getMeta st' x = getMeta st x) (n : Nat) :
    CounterIs k st n → CounterIs k st' n := by
  rintro (⟨a, b⟩ | ⟨m, a, b⟩)
  · exact Or.inl ⟨by rw [h]; exact a, b⟩
  · exact Or.inr ⟨m, by rw [h]; exact a, b⟩

theorem counterOf_bulk (n : Nat) (h : (n : Int) ≤ int64Max) : counterOf [Tok.bulk (formatInt (n : Int))] = n := by
  simp [counterOf, NodisVerif.Proofs.C15.parseInt64_formatInt_nat n h]

theorem getBody_out (st : MState) (now : Int) (ch : Choice) (n : Nat) (h : CounterIs k st n) (hn : (n : Int) ≤ int64Max) :
    counterOf (replyOf (outOf st now ch (getBody k))) = n ∧
    CounterIs k (storeAfter (outOf st now ch (getBody k))) n ∧
    (outOf st now ch (getBody k)).store.signalled = [] ∧
    (outOf st now ch (getBody k)).store.flushed = st.flushed := by
  obtain ⟨h1, h2, h3, h4⟩ := get_counter k (prep st) now n (counterIs_congr k (prep_getMeta st) n h)
  unfold outOf getBody
  generalize Api.get (prep st) now k = r at h1 h2 h3 h4
  obtain ⟨s1, o⟩ := r
  simp only at h1 h2 h3 h4
  rcases h1 with ⟨rfl, rfl⟩ | rfl
  · exact ⟨rfl, h2, h3, h4⟩
  · refine ⟨?_, h2, h3, h4⟩
    simp only [Handler.call, Handler.done, replyOf, Handler.optBulk]
    exact counterOf_bulk n hn

theorem setBody_out (st : MState) (now : Int) (ch : Choice) (v : Bytes) (h : getMeta st k = none ∨ ∃ b, StrAt k st b) :
    replyOf (outOf st now ch (setBody k v)) = [Handler.ok] ∧
    StrAt k (storeAfter (outOf st now ch (setBody k v))) v ∧
    k ∈ (outOf st now ch (setBody k v)).store.signalled := by
  obtain ⟨h1, h2, h3, _⟩ := set_counter k (prep st) now v h
  unfold outOf setBody
  generalize Api.set (prep st) now k v false = r at h1 h2 h3
  obtain ⟨s1, o⟩ := r
  simp only at h1 h2 h3
  subst h1
  refine ⟨rfl, h2, ?_⟩
  simp only [Handler.call, Handler.done]
  rw [h3]; simp

/-- what the server knows about a connection in a given script phase; `total` is the current
    counter.  The value read is still current unless the connection's watch map has a flag set. -/
def ConnInv (sv : Server) (total : Nat) (i : String) : Phase → Prop
  | .idle => (sv.conn i).state = 0 ∧ (sv.conn i).queue = []
  | .watched => (sv.conn i).state = 0 ∧ (sv.conn i).queue = [] ∧ registered sv i k
  | .read v => (sv.conn i).state = 0 ∧ (sv.conn i).queue = [] ∧ registered sv i k ∧
      (Clean (sv.conn i).watch → v = total)
  | .inMulti v => (sv.conn i).state = multiPrepare ∧ (sv.conn i).queue = [] ∧ registered sv i k ∧
      (Clean (sv.conn i).watch → v = total)
  | .queued v => (sv.conn i).state = multiPrepare ∧
      (sv.conn i).queue = [setBody k (formatInt ((v + 1 : Nat) : Int))] ∧ registered sv i k ∧
      (Clean (sv.conn i).watch → v = total)

structure Inv (v0 : Nat) (s : Sys) : Prop where
  wf : RegWF s.sv
  nofl : s.sv.store.flushed = false
  cnt : CounterIs k s.sv.store (v0 + s.wins)
  conns : ∀ i, ConnInv k s.sv (v0 + s.wins) i (s.ph i)

theorem ConnInv.transfer {sv sv' : Server} {total : Nat} {j : String} {p : Phase}
    (hc : sv'.conn j = sv.conn j) (hr : registered sv j k → registered sv' j k)
    (h : ConnInv k sv total j p) : ConnInv k sv' total j p := by
  cases p <;> simp only [ConnInv, hc] at h ⊢
  · exact h
  · exact ⟨h.1, h.2.1, hr h.2.2⟩
  · exact ⟨h.1, h.2.1, hr h.2.2.1, h.2.2.2⟩
  · exact ⟨h.1, h.2.1, hr h.2.2.1, h.2.2.2⟩
  · exact ⟨h.1, h.2.1, hr h.2.2.1, h.2.2.2⟩

theorem ConnInv.flagged {sv sv' : Server} {total total' : Nat} {j : String} {p : Phase}
    (hs : (sv'.conn j).state = (sv.conn j).state) (hq : (sv'.conn j).queue = (sv.conn j).queue)
    (hr : registered sv j k → registered sv' j k)
    (hf : registered sv j k → AList.get? (sv'.conn j).watch k = some true)
    (h : ConnInv k sv total j p) : ConnInv k sv' total' j p := by
  have nc : registered sv j k → ¬ Clean (sv'.conn j).watch := by
    intro r hcl
    have := not_clean_of_flag (hf r)
    rw [(clean_iff_any _).mp hcl] at this
    cases this
  cases p <;> simp only [ConnInv, hs, hq] at h ⊢
  · exact h
  · exact ⟨h.1, h.2.1, hr h.2.2⟩
  · exact ⟨h.1, h.2.1, hr h.2.2.1, fun c => absurd c (nc h.2.2.1)⟩
  · exact ⟨h.1, h.2.1, hr h.2.2.1, fun c => absurd c (nc h.2.2.1)⟩
  · exact ⟨h.1, h.2.1, hr h.2.2.1, fun c => absurd c (nc h.2.2.1)⟩

theorem others_of_quiet {H : Table} {sv : Server} (hwf : RegWF sv) (c : Cmd)
    (hq : ∀ x, ¬ stepTouches H sv c x) (j : String) (hj : j ≠ c.id) :
    (step H sv c).1.conn j = sv.conn j ∧ (registered sv j k → registered (step H sv c).1 j k) := by
  have o := step_othersS H hwf c
  exact ⟨o.same j hj (fun x hx => hq x hx.1), fun h => (o.reg j hj k).mpr h⟩

theorem quiet_of_no_outs {H : Table} {sv : Server} {c : Cmd} (h : stepOuts H sv c = []) :
    ∀ x, ¬ stepTouches H sv c x := by
  intro x ⟨o, ho, _⟩
  rw [h] at ho; cases ho

/-- the step rule of `Inv`: a move of connection `c.id` re-establishes `Inv` from the store facts, the mover's own
    `ConnInv`, and EITHER "the step touches nothing" (`w = false`) OR "the step touches `k`" (`w = true`, a win: every
    registered watcher gets flagged); the other connections are dealt with here, once -/
theorem Inv.of_step (v0 : Nat) (s : Sys) (h : Inv k v0 s) (c : Cmd) (p : Phase) (w : Bool)
    (hfl : (step scriptTable s.sv c).1.store.flushed = false)
    (hcnt : CounterIs k (step scriptTable s.sv c).1.store (v0 + (if w then s.wins + 1 else s.wins)))
    (hown : ConnInv k (step scriptTable s.sv c).1 (v0 + (if w then s.wins + 1 else s.wins)) c.id p)
    (hoth : if w then stepTouches scriptTable s.sv c k else ∀ x, ¬ stepTouches scriptTable s.sv c x) :
    Inv k v0 { sv := (step scriptTable s.sv c).1, ph := fun j => if j = c.id then p else s.ph j,
               wins := if w then s.wins + 1 else s.wins } := by
  refine ⟨h.wf.step scriptTable c, hfl, hcnt, fun j => ?_⟩
  by_cases hj : j = c.id
  · simp only [hj, if_true]; exact hown
  · simp only [if_neg hj]
    cases w with
    | false =>
      simp only [Bool.false_eq_true, if_false] at hoth ⊢
      have o := others_of_quiet k h.wf c hoth j hj
      exact (h.conns j).transfer k o.1 o.2
    | true =>
      simp only [if_true] at hoth ⊢
      have o := Others.step scriptTable s.sv c
      exact (h.conns j).flagged k (o.state j hj) (o.queue j hj) (fun r => (o.reg j hj k).mpr r)
        (fun r => (step_keeps scriptTable h.wf c j (fun hc => hj hc.1.symm)).hit k hoth r)

theorem Inv.of_quiet_step (v0 : Nat) (s : Sys) (h : Inv k v0 s) (c : Cmd) (p : Phase)
    (houts : stepOuts scriptTable s.sv c = [])
    (hown : ConnInv k (step scriptTable s.sv c).1 (v0 + s.wins) c.id p) :
    Inv k v0 { sv := (step scriptTable s.sv c).1, ph := fun j => if j = c.id then p else s.ph j, wins := s.wins } :=
  Inv.of_step k v0 s h c p false (by rw [step_quiet _ _ _ houts]; exact h.nofl)
    (by rw [step_quiet _ _ _ houts]; exact h.cnt) hown (quiet_of_no_outs houts)

end NodisVerif.Proofs.C09Incr

namespace NodisVerif.Proofs.C09Incr
open NodisVerif.Proofs.C08Step Store Resp

variable (k : Bytes)

theorem getString_eq (rest : List Bytes) : Handler.getString (k :: rest) = .exec (getBody k) := rfl

theorem getBody_strAt (st : MState) (now : Int) (ch : Choice) (b : Bytes) (h : StrAt k st b) :
    replyOf (outOf st now ch (getBody k)) = [Tok.bulk b] := by
  have h' : StrAt k (prep st) b := h
  obtain ⟨h1, _⟩ := get_strAt k (prep st) now b h'
  unfold outOf getBody
  generalize Api.get (prep st) now k = r at h1
  obtain ⟨s1, o⟩ := r
  simp only at h1
  subst h1
  rfl

theorem get_after_set (st : MState) (now now' : Int) (ch ch' : Choice) (v : Bytes)
    (h : getMeta st k = none ∨ ∃ b, StrAt k st b) :
    replyOf (outOf (storeAfter (outOf st now ch (setBody k v))) now' ch' (getBody k)) = [Tok.bulk v] :=
  getBody_strAt k _ now' ch' v (setBody_out k st now ch v h).2.1

end NodisVerif.Proofs.C09Incr

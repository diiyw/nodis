import NodisVerif.Model.Resp
import NodisVerif.Spec.RespEnc
import NodisVerif.Proofs.C15Decimal
/-
  C15 (§4 of Props/C15.lean): `strings.ToUpper` (Go `range` over the string): ASCII upper-casing on ASCII input; on any other
  input a 0x00 or 0xFD byte appears, so the result is no option word (the words are 'A'..'Z' only).  The scan of
  `readOptions` itself is in C15Opt.lean.
-/
namespace NodisVerif.Proofs.C15
open Resp Spec.RespEnc

theorem decodeRune_ascii (b : UInt8) (t : Bytes) (h : b < 128) : decodeRune (b :: t) = (b.toNat, 1) := by
  have : b.toNat < 0x80 := by simpa [UInt8.lt_iff_toNat_lt] using h
  -- `decodeRune` on a non-empty text starts with this test
  exact if_pos this

theorem upperByte_eq (b : UInt8) (h : b < 128) :
    UInt8.ofNat ((if 97 ≤ b.toNat ∧ b.toNat ≤ 122 then b.toNat - 32 else b.toNat) % 256) = asciiUpperByte b := by
  have hb : b.toNat < 128 := by simpa [UInt8.lt_iff_toNat_lt] using h
  apply UInt8.toNat_inj.mp
  unfold asciiUpperByte
  simp only [UInt8.le_iff_toNat_le, UInt8.toNat_ofNat']
  have e97 : UInt8.toNat 97 = 97 := rfl
  have e122 : UInt8.toNat 122 = 122 := rfl
  rw [e97, e122]
  by_cases hc : 97 ≤ b.toNat ∧ b.toNat ≤ 122
  · rw [if_pos hc, if_pos hc, UInt8.toNat_sub]
    have : UInt8.toNat 32 = 32 := rfl
    rw [this]; omega
  · rw [if_neg hc, if_neg hc]; omega

theorem upperAux_ascii : ∀ (v : Bytes) (fuel : Nat), (∀ b ∈ v, b < 128) → v.length ≤ fuel →
    upperAux v fuel = asciiUpper v := by
  intro v
  induction v with
  | nil => intro fuel _ _; cases fuel <;> simp [upperAux, asciiUpper]
  | cons b t ih =>
    intro fuel hv hf
    match fuel, hf with
    | fuel + 1, hf =>
      have hb := hv b (by simp)
      simp only [upperAux, decodeRune_ascii b t hb]
      simp only [Nat.sub_self, List.replicate_zero, List.nil_append, List.drop_succ_cons, List.drop_zero]
      rw [ih fuel (fun x hx => hv x (by simp [hx])) (by simpa using hf), upperByte_eq b hb]
      simp [asciiUpper]

theorem upper_ascii' (v : Bytes) (h : ∀ b ∈ v, b < 128) : upper v = asciiUpper v := by
  unfold upper
  rw [upperAux_ascii v _ h (by omega)]
  simp only [asciiUpper]
  exact List.take_of_length_le (by simp)

/-- the two outcomes of decoding at a lead byte ≥ 0x80 with `t` behind it: U+FFFD of width 1, or a
    rune of width ≥ 2 whose second byte is there -/
def BadOrWide (t : Bytes) (p : Nat × Nat) : Prop := p = (0xFFFD, 1) ∨ (2 ≤ p.2 ∧ t ≠ [])

theorem bw_bad (t : Bytes) : BadOrWide t (0xFFFD, 1) := Or.inl rfl

theorem bw_ite (t : Bytes) (c : Prop) [Decidable c] (r w : Nat) (hw : 2 ≤ w) (ht : t ≠ []) :
    BadOrWide t (if c then (r, w) else (0xFFFD, 1)) := by
  split
  · exact Or.inr ⟨hw, ht⟩
  · exact Or.inl rfl

theorem decodeRune_nonascii (b : UInt8) (t : Bytes) (h : 128 ≤ b.toNat) :
    decodeRune (b :: t) = (0xFFFD, 1) ∨ ∃ r w, decodeRune (b :: t) = (r, w) ∧ 2 ≤ w ∧ t ≠ [] := by
  suffices h : BadOrWide t (decodeRune (b :: t)) by
    rcases h with h | ⟨hw, ht⟩
    · exact Or.inl h
    · exact Or.inr ⟨_, _, rfl, hw, ht⟩
  unfold decodeRune
  simp only
  have h0 : ¬ b.toNat < 0x80 := by omega
  rw [if_neg h0]
  by_cases h1 : b.toNat < 0xC2
  · rw [if_pos h1]; exact bw_bad t
  rw [if_neg h1]
  by_cases h2 : b.toNat < 0xE0
  · rw [if_pos h2]
    cases t with
    | nil => exact bw_bad _
    | cons b1 t => exact bw_ite _ _ _ _ (by decide) (List.cons_ne_nil _ _)
  rw [if_neg h2]
  by_cases h3 : b.toNat < 0xF0
  · rw [if_pos h3]
    cases t with
    | nil => exact bw_bad _
    | cons b1 t =>
      cases t with
      | nil => exact bw_bad _
      | cons b2 t => exact bw_ite _ _ _ _ (by decide) (List.cons_ne_nil _ _)
  rw [if_neg h3]
  by_cases h4 : b.toNat < 0xF5
  · rw [if_pos h4]
    cases t with
    | nil => exact bw_bad _
    | cons b1 t =>
      cases t with
      | nil => exact bw_bad _
      | cons b2 t =>
        cases t with
        | nil => exact bw_bad _
        | cons b3 t => exact bw_ite _ _ _ _ (by decide) (List.cons_ne_nil _ _)
  · rw [if_neg h4]; exact bw_bad t
/-- a byte ≥ 0x80 leaves a mark: U+FFFD is written as its low byte 0xFD at the rune's offset, a rune of width ≥ 2
    as its first byte followed by a 0x00 -/
theorem upperAux_bad : ∀ (v : Bytes) (fuel : Nat), v.length ≤ fuel → (∃ b ∈ v, 128 ≤ b.toNat) →
    ∃ i, i < v.length ∧ ((upperAux v fuel)[i]? = some 0 ∨ (upperAux v fuel)[i]? = some 253) := by
  intro v
  induction v with
  | nil => intro fuel _ h; simp at h
  | cons b t ih =>
    intro fuel hf hbad
    match fuel, hf with
    | fuel + 1, hf =>
      by_cases hb : b.toNat < 128
      · have hb' : b < 128 := by simpa [UInt8.lt_iff_toNat_lt] using hb
        have hbad' : ∃ x ∈ t, 128 ≤ x.toNat := by
          obtain ⟨x, hx, hx2⟩ := hbad
          simp at hx
          rcases hx with rfl | hx
          · omega
          · exact ⟨x, hx, hx2⟩
        obtain ⟨i, hi, hi2⟩ := ih fuel (by simpa using hf) hbad'
        refine ⟨i + 1, by simpa using hi, ?_⟩
        simp only [upperAux, decodeRune_ascii b t hb', Nat.sub_self, List.replicate_zero, List.nil_append,
          List.drop_succ_cons, List.drop_zero, List.getElem?_cons_succ]
        exact hi2
      · rcases decodeRune_nonascii b t (by omega) with hd | ⟨r, w, hd, hw, ht⟩
        · refine ⟨0, by simp, .inr ?_⟩
          simp only [upperAux, hd]
          rfl
        · refine ⟨1, ?_, .inl ?_⟩
          · cases t with
            | nil => exact absurd rfl ht
            | cons _ _ => simp
          · simp only [upperAux, hd]
            obtain ⟨k, rfl⟩ : ∃ k, w = k + 2 := ⟨w - 2, by omega⟩
            simp [List.replicate_succ]

theorem upper_bad (v : Bytes) (h : ∃ b ∈ v, 128 ≤ b) : ∃ x ∈ upper v, x = 0 ∨ x = 253 := by
  have h' : ∃ b ∈ v, 128 ≤ b.toNat := by
    obtain ⟨b, hb, hb2⟩ := h
    exact ⟨b, hb, by simpa [UInt8.le_iff_toNat_le] using hb2⟩
  obtain ⟨i, hi, hi2⟩ := upperAux_bad v (v.length + 1) (by omega) h'
  have hget : (upper v)[i]? = (upperAux v (v.length + 1))[i]? := by
    unfold upper
    rw [List.getElem?_take]; simp [hi]
  rcases hi2 with h0 | h0
  · exact ⟨0, List.mem_of_getElem? (hget.trans h0), .inl rfl⟩
  · exact ⟨253, List.mem_of_getElem? (hget.trans h0), .inr rfl⟩

theorem optionTable_ascii : ∀ w ∈ optionTable, ∀ c ∈ w.1.toList, c.toNat ≤ 127 := by decide +kernel

theorem optionTable_bytes : ∀ w ∈ optionTable, ∀ x ∈ w.1.toList.map (fun c => c.val.toUInt8), 65 ≤ x ∧ x ≤ 90 := by
  decide +kernel

theorem optionTable_upper_letters (w : String × Bool) (hw : w ∈ optionTable) :
    ∀ x ∈ Bytes.ofString w.1, 65 ≤ x ∧ x ≤ 90 := by
  rw [ofString_ascii _ (optionTable_ascii w hw)]
  exact optionTable_bytes w hw

theorem upper_nonascii_ne_word (v : Bytes) (h : ∃ b ∈ v, 128 ≤ b) (w : String × Bool) (hw : w ∈ optionTable) :
    upper v ≠ Bytes.ofString w.1 := by
  intro heq
  obtain ⟨x, hx, hx2⟩ := upper_bad v h
  rw [heq] at hx
  have := optionTable_upper_letters w hw x hx
  rcases hx2 with rfl | rfl
  · exact absurd this.1 (by decide)
  · exact absurd this.2 (by decide)

end NodisVerif.Proofs.C15

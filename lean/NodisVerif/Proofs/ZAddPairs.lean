import NodisVerif.Model.Api
/-
  Basic facts about the loop of `Api.zaddPairs` (`Api.zaddStep`): the list of records only grows, a
  turn that writes nothing leaves the sorted set alone, and on an empty sorted set without XX the first
  pair is always written (so a key created by the command is never left empty and unsignalled).
-/
namespace NodisVerif.Proofs.ZAddPairs
open NodisVerif NodisVerif.Api

theorem zaddStep_cases (nx xx gt lt : Bool) (a : ZAcc) (p : Bytes × F64) :
    zaddStep nx xx gt lt a p = a ∨
      ((zaddStep nx xx gt lt a p).z = (DsZSet.zAdd a.z p.1 p.2).1 ∧
       (zaddStep nx xx gt lt a p).ops = a.ops ++ [p]) := by
  unfold zaddStep
  split
  · split
    · exact Or.inl rfl
    · exact Or.inr ⟨rfl, rfl⟩
  · split
    · exact Or.inl rfl
    · exact Or.inr ⟨rfl, rfl⟩

theorem zaddStep_ops_ne (nx xx gt lt : Bool) (a : ZAcc) (p : Bytes × F64) (h : a.ops ≠ []) :
    (zaddStep nx xx gt lt a p).ops ≠ [] := by
  rcases zaddStep_cases nx xx gt lt a p with e | e
  · rw [e]
    exact h
  · rw [e.2]
    simp

theorem zaddFold_ops_ne (nx xx gt lt : Bool) : ∀ (ps : List (Bytes × F64)) (a : ZAcc), a.ops ≠ [] →
    (ps.foldl (zaddStep nx xx gt lt) a).ops ≠ []
  | [], _, h => h
  | p :: ps, a, h => by
    rw [List.foldl_cons]
    exact zaddFold_ops_ne nx xx gt lt ps _ (zaddStep_ops_ne nx xx gt lt a p h)

theorem zaddFold_empty_ops_ne (nx gt lt : Bool) (ps : List (Bytes × F64)) (hps : ps ≠ []) (a : ZAcc)
    (hz : a.z.dict = []) : (ps.foldl (zaddStep nx false gt lt) a).ops ≠ [] := by
  cases ps with
  | nil => exact absurd rfl hps
  | cons p ps =>
    rw [List.foldl_cons]
    apply zaddFold_ops_ne
    unfold zaddStep
    have : DsZSet.zScore a.z p.1 = none := by simp [DsZSet.zScore, hz, AList.get?]
    rw [this]
    simp

theorem zaddStep_ops_nil (nx xx gt lt : Bool) (a : ZAcc) (p : Bytes × F64)
    (h : (zaddStep nx xx gt lt a p).ops = []) : zaddStep nx xx gt lt a p = a := by
  rcases zaddStep_cases nx xx gt lt a p with e | e
  · exact e
  · rw [e.2] at h
    simp at h

theorem zaddFold_ops_nil (nx xx gt lt : Bool) : ∀ (ps : List (Bytes × F64)) (a : ZAcc),
    (ps.foldl (zaddStep nx xx gt lt) a).ops = [] → (ps.foldl (zaddStep nx xx gt lt) a).z = a.z
  | [], _, _ => rfl
  | p :: ps, a, h => by
    rw [List.foldl_cons] at h ⊢
    by_cases h1 : (zaddStep nx xx gt lt a p).ops = []
    · have := zaddStep_ops_nil nx xx gt lt a p h1
      rw [this] at h ⊢
      exact zaddFold_ops_nil nx xx gt lt ps a h
    · exact absurd h (zaddFold_ops_ne nx xx gt lt ps _ h1)

end NodisVerif.Proofs.ZAddPairs

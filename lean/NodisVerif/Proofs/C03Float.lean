import NodisVerif.Proofs.C03Seq
/-
  HINCRBYFLOAT on the decimal float text of Model/FloatDec.lean: `Api.hincrbyfloat` against the hash content, in
  the style of `hincrby_rel`. Continues the namespace of Proofs/C03Seq.lean (`C03Seq.hfloatStep`, `C03Seq.hincrbyfloat_rel`).
-/
namespace NodisVerif.Proofs.C03Seq
open NodisVerif
open NodisVerif.Proofs.AListLemmas NodisVerif.Proofs.AListLemmas2 NodisVerif.Proofs.C03 NodisVerif.Proofs.C03Api
open Store Api

/-- ds/hash `HIncrByFloat` on the content: `none` = outside the model (the field holds a hexadecimal float or more
    than 800 digits), `some none` = "ERR hash value is not …" (ParseFloat error, syntax or range),
    `some (some (h', sum))` = new content and reply. A missing field is set to FormatFloat(delta) itself. -/
def hfloatStep (h : AList Bytes) (f : Bytes) (delta : F64) : Option (Option (AList Bytes × F64)) :=
  match DsHash.hget h f with
  | none => some (some ((DsHash.hset h f (FloatDec.formatShortest delta)).1, delta))
  | some old =>
    match Api.parseFloatText old with
    | none => none
    | some none => some none
    | some (some o) => some (some ((DsHash.hset h f (FloatDec.formatShortest (F64.add o delta))).1, F64.add o delta))

theorem hincrbyfloat_rel (s : MState) (now : Int) (key f : Bytes) (delta : F64) (h : AList Bytes)
    (hr : HashRel s key now h) (hi : IndexSorted s) :
    (Api.hincrbyfloat s now key f delta).2 =
      (match hfloatStep h f delta with
       | none => .unsupported
       | some none => .many [.f64 0, .err true]
       | some (some (_, v)) => .many [.f64 v, .err false]) ∧
    HashRel (Api.hincrbyfloat s now key f delta).1 key now
      (match hfloatStep h f delta with | some (some (h', _)) => h' | _ => h) ∧
    IndexSorted (Api.hincrbyfloat s now key f delta).1 := by
  obtain ⟨s1, e, heq, hot1, he1, hi1⟩ := open_create Val.hash .unit C11.Cmd.pan (C20.decHibf key f delta)
    (hr.2.imp (fun ⟨e, a⟩ => ⟨a, e⟩) (·.2)) hi
  rw [C20.hincrbyfloat_eq, show (C20.hibfF key f delta).run s now = _ from heq]
  unfold hfloatStep
  simp only [C20.decHibf, C20.hibfCalc, Api.formatFloat, F64.add?]
  cases hg : DsHash.hget h f with
  | none =>
    exact runAct_rel hot1 he1 hi1 hr.1 (set_preserves_sorted h hr.1 f _) (.put _ _ _ (set_ne_nil h f _))
  | some old =>
    have hne : h ≠ [] := by
      intro e; subst e
      simp [DsHash.hget, AList.get?] at hg
    simp only
    cases hp : Api.parseFloatText old with
    | none => exact runAct_rel hot1 he1 hi1 hr.1 hr.1 (.keep _ hne)
    | some r =>
      cases r with
      | none => exact runAct_rel hot1 he1 hi1 hr.1 hr.1 (.touch _ _ hne)
      | some o =>
        exact runAct_rel hot1 he1 hi1 hr.1 (set_preserves_sorted h hr.1 f _) (.put _ _ _ (set_ne_nil h f _))

/-- non-vacuity: field "f" holds "10.5"; +0.1 gives 10.6 with text "10.6"; a field holding "1e400" is an error;
    on a missing field the increment 0.1 itself is stored as "0.1"; hexadecimal text is outside the model -/
theorem hfloatStep_examples :
    hfloatStep [([102], Bytes.ofString "10.5")] [102] 0x3FB999999999999A =
      some (some ([([102], Bytes.ofString "10.6")], 0x4025333333333333)) ∧
    hfloatStep [([102], Bytes.ofString "1e400")] [102] 1 = some none ∧
    hfloatStep [] [102] 0x3FB999999999999A = some (some ([([102], Bytes.ofString "0.1")], 0x3FB999999999999A)) ∧
    hfloatStep [([102], Bytes.ofString "0x1p3")] [102] 1 = none :=
  ⟨by decide +kernel, by decide +kernel, by decide +kernel, by decide +kernel⟩

end NodisVerif.Proofs.C03Seq

import NodisVerif.Proofs.HandlerShape
import NodisVerif.Proofs.C16Wire
/-
  C16 over the normal form of handler results (HandlerShape.lean): one well-formed reply is a fact about the renderings.
  Every continuation of the catalogue `Render` writes exactly one RESP value that a strict reader reads back, whatever
  the call returned (`Render.wf`); hence every result in normal form does, given that the table's special results do
  (`Shape.wf`).
-/
namespace NodisVerif.Proofs.C16Handlers
open NodisVerif NodisVerif.Resp NodisVerif.Handler
open NodisVerif.Proofs.C08Step hiding replyOf

theorem tokWf_fmtScore (x : F64) : tokWf (Handler3.fmtScore x) = true := by
  unfold Handler3.fmtScore
  split
  · rfl
  · exact tokWf_unsupported

end NodisVerif.Proofs.C16Handlers

namespace NodisVerif.Proofs.HandlerShape
open NodisVerif NodisVerif.Resp NodisVerif.Handler
open NodisVerif.Proofs.C08Step hiding replyOf
open NodisVerif.Proofs.C16Handlers

theorem Render.wf {k : Cont} (h : Render k) (s : MState) (o : Out) : WfOut (k s o) := by
  cases h with
  | int | boolInt | isTrue | ttl | renameNx | getRange => exact wf_done_tok _ _ rfl
  | ok => exact wf_done_tok _ _ tokWf_ok
  | llen => exact wf_done_tok _ _ (tokWf_ite _ _ _ rfl rfl)
  | randomKey =>
    refine wf_done_tok _ _ ?_
    split
    · exact tokWf_ite _ _ _ rfl rfl
    · rfl
  | rename =>
    refine wf_done_tok _ _ ?_
    split
    · exact tokWf_ok
    · rfl
  | optBulk =>
    refine wf_done_tok _ _ ?_
    split
    · exact tokWf_optBulk _
    · rfl
  | hget => refine wf_done_tok _ _ ?_; split <;> rfl
  | members | values =>
    refine wf_done _ _ ?_
    split
    · exact wf_bulkList _
    · exact wf_arr0
  -- LPOP / RPOP: null, one bulk (no count given), or `*len` with `len` bulk strings
  | pop noCount =>
    dsimp only
    split
    · split
      · exact wf_done_tok _ _ rfl
      · exact wf_done _ _ (wf_bulkList _)
    · exact wf_done_tok _ _ rfl
  | lset =>
    dsimp only
    split
    · exact wf_done_tok _ _ tokWf_ok
    · exact wf_done_tok _ _ rfl
  | incr => dsimp only; split <;> exact wf_done_tok _ _ rfl
  | float =>
    dsimp only
    split
    · refine wf_done_tok _ _ ?_
      split
      · rfl
      · exact tokWf_unsupported
    · exact wf_done_tok _ _ tokWf_unsupported
    · exact wf_done_tok _ _ rfl
  -- HGETALL: `*2·len` and `2·len` bulk strings (or `*0`)
  | hgetall =>
    dsimp only
    split
    · exact wf_done _ _ (wf_arr_pairs _ _ _ (fun _ => rfl) (fun _ => rfl))
    · exact wf_done _ _ wf_arr0
  -- HMGET: `*n` and one bulk / null per field, whichever alternative is taken
  | hmget fields =>
    dsimp only
    split
    · exact wf_done _ _ (wf_arr_map _ _ (fun _ => rfl))
    · exact wf_done _ _ (wf_arr_map _ _ tokWf_optBulk)
    · exact wf_done _ _ wf_arr0
  | score =>
    dsimp only
    split
    · exact wf_done_tok _ _ (tokWf_fmtScore _)
    · exact wf_done_tok _ _ tokWf_unsupported
  | zscore =>
    dsimp only
    split
    · exact wf_done_tok _ _ (tokWf_fmtScore _)
    · exact wf_done_tok _ _ rfl

theorem Shape.wf {Sp : HRes → Prop} (hSp : ∀ r, Sp r → WfRes r) {r : HRes} (h : Shape Sp r) : WfRes r := by
  cases h with
  | err => exact wf_errReply
  | crash => trivial
  | unsup => exact fun _ _ _ => wf_single _ tokWf_unsupported
  | panic => exact fun _ _ _ => wf_panic_nil _
  | call _ hk => exact fun _ _ _ => wf_call_all _ _ hk.wf
  | special h => exact hSp _ h

end NodisVerif.Proofs.HandlerShape

import NodisVerif.Proofs.C01Api
import NodisVerif.Proofs.Oids
/-
  C01 helper lemmas: the `Clean` invariant (Pebble backend, or in-memory backend without shared
  value objects) under which a string command touches the record of its own key only.
-/
namespace NodisVerif.Proofs.C01
open NodisVerif
open NodisVerif.Proofs.AListLemmas NodisVerif.Proofs.AListLemmas2
open Store Api

/-- distinct records have distinct value-object ids (0 = none), all below the allocator's next id -/
def OidsOK (s : MState) : Prop :=
  (∀ k k' m m', getMeta s k = some m → getMeta s k' = some m' → m.oid = m'.oid → m.oid ≠ 0 → k = k') ∧
  (∀ k m, getMeta s k = some m → m.oid < s.nextId)

/-- the backend is Pebble (records hold copies), or it is the in-memory backend with nothing
    written back yet and no value object shared between records — every state reachable from a
    freshly opened store by the commands of this family is like that -/
def Clean (s : MState) : Prop := s.pebble = true ∨ (s.disk = [] ∧ OidsOK s)

theorem clean_of_sub {s s' : MState} (hs : C03Oids.OidSub s s') (hp : s'.pebble = s.pebble) (hc : Clean s) : Clean s' := by
  rcases hc with hc | ⟨hd, ho⟩
  · exact Or.inl (hp.trans hc)
  · refine Or.inr ⟨?_, ?_, ?_⟩
    · cases hd' : s'.disk with
      | nil => rfl
      | cons p rest =>
        obtain ⟨e, he, _⟩ := hs.disk p.1 p.2 (by rw [hd']; exact List.mem_cons_self)
        rw [hd] at he; cases he
    · intro k k' m m' hm hm' hoid hne
      obtain ⟨m0, h0, e0⟩ := hs.idx k m hm
      obtain ⟨m1, h1, e1⟩ := hs.idx k' m' hm'
      exact ho.1 k k' m0 m1 h0 h1 (by rw [e0, e1]; exact hoid) (by rw [e0]; exact hne)
    · intro k m hm
      obtain ⟨m0, h0, e0⟩ := hs.idx k m hm
      exact Nat.lt_of_lt_of_le (by rw [← e0]; exact ho.2 k m0 h0) hs.nextId

theorem oids_put {s0 s : MState} (k : Bytes) (m : Meta) (hg : ∀ x, getMeta s x = getMeta s0 x)
    (hn : s0.nextId ≤ s.nextId) (hlt : m.oid < s.nextId)
    (hfresh : ∀ b mb, b ≠ k → getMeta s0 b = some mb → mb.oid = m.oid → m.oid ≠ 0 → False)
    (h : OidsOK s0) : OidsOK (putMeta s k m) := by
  refine ⟨fun a b ma mb h1 h2 heq hne => ?_, fun a ma h1 => ?_⟩
  · rw [getMeta_putMeta, hg] at h1 h2
    by_cases ea : a = k <;> by_cases eb : b = k
    · rw [ea, eb]
    · rw [if_pos ea] at h1; rw [if_neg eb] at h2
      cases h1
      exact absurd (hfresh b mb eb h2 heq.symm hne) id
    · rw [if_neg ea] at h1; rw [if_pos eb] at h2
      cases h2
      exact absurd (hfresh a ma ea h1 heq (by rw [← heq]; exact hne)) id
    · rw [if_neg ea] at h1; rw [if_neg eb] at h2
      exact h.1 a b ma mb h1 h2 heq hne
  · rw [getMeta_putMeta, hg] at h1
    by_cases ea : a = k
    · rw [if_pos ea] at h1; cases h1; exact hlt
    · rw [if_neg ea] at h1; exact Nat.lt_of_lt_of_le (h.2 a ma h1) hn

theorem oids_newKeyWith (s : MState) (k : Bytes) (old : Option Meta) (v : Val) (h : OidsOK s) :
    OidsOK (newKeyWith s k old v) := by
  rw [newKeyWith_eq]
  have hn : (nkBase s k old).nextId = s.nextId + 1 + 1 := (nkBase_drops s k old).nextId
  refine oids_put k _ (getMeta_nkBase s k old) (by rw [hn]; omega)
    (by rw [hn]; show s.nextId + 1 < _; omega) (fun b mb _ hb heq _ => ?_) h
  have := h.2 b mb hb
  have e : mb.oid = s.nextId + 1 := heq
  omega

theorem setVal_misc (s : MState) (k : Bytes) (v : Val) :
    (setVal s k v).pebble = s.pebble ∧ (setVal s k v).nextId = s.nextId ∧
    (s.pebble = true ∨ s.disk = [] → (setVal s k v).disk = s.disk) := by
  unfold setVal
  cases getMeta s k with
  | none => exact ⟨rfl, rfl, fun _ => rfl⟩
  | some m =>
    simp only
    split
    · exact ⟨rfl, rfl, fun _ => rfl⟩
    · next hn =>
      refine ⟨rfl, rfl, fun h => ?_⟩
      rcases h with h | h
      · exact absurd (Or.inl h) hn
      · show List.map _ s.disk = s.disk
        rw [h]; rfl

theorem clean_of_fields {s s' : MState} (hc : Clean s) (hi : s'.index = s.index) (hd : s'.disk = s.disk)
    (hp : s'.pebble = s.pebble) (hn : s'.nextId = s.nextId) : Clean s' :=
  clean_of_sub (C03Oids.OidSub.of_eq hi hd hn) hp hc

theorem clean_commit {s : MState} (hc : Clean s) : Clean (commit s) := clean_of_fields hc rfl rfl rfl rfl

theorem clean_putMeta_same (s : MState) (k : Bytes) (m0 m : Meta) (hm : getMeta s k = some m0) (ho : m.oid = m0.oid)
    (hc : Clean s) : Clean (putMeta s k m) :=
  clean_of_sub (C03Oids.sub_putMeta_same s k m0 m hm ho) rfl hc

theorem clean_setVal (s : MState) (k : Bytes) (v : Val) (hc : Clean s) :
    Clean (setVal s k v) ∧ SameDisk s (setVal s k v) ∧ ∀ k', k' ≠ k → getMeta (setVal s k v) k' = getMeta s k' := by
  obtain ⟨m1, _, m3⟩ := setVal_misc s k v
  refine ⟨clean_of_sub (C03Oids.sub_setVal s k v) m1 hc, ⟨m3 (hc.imp id And.left), m1⟩, fun k' h => ?_⟩
  cases hm : getMeta s k with
  | none => rw [show setVal s k v = s by unfold setVal; rw [hm]]
  | some m =>
    -- the other record does not share the value object written (`getMeta_setVal_other`)
    refine getMeta_setVal_other s k v m hm k' h ?_
    rcases hc with hp | ⟨_, ho⟩
    · exact Or.inl hp
    · by_cases h0 : m.oid = 0
      · exact Or.inr (Or.inl h0)
      · exact Or.inr (Or.inr fun m' hm' e => h (ho.1 k' k m' m hm' hm e (by rw [e]; exact h0)))

theorem clean_modMeta (s : MState) (k : Bytes) (f : Meta → Meta) (hf : ∀ m, (f m).oid = m.oid) (hc : Clean s) :
    Clean (modMeta s k f) := by
  unfold modMeta
  cases hm : getMeta s k with
  | none => exact hc
  | some m => exact clean_putMeta_same s k m _ hm (hf m) hc

theorem clean_setExp (s : MState) (k : Bytes) (e : Int) (hc : Clean s) :
    Clean (setExp s k e) ∧ SameDisk s (setExp s k e) ∧ ∀ k', k' ≠ k → getMeta (setExp s k e) k' = getMeta s k' := by
  rw [setExp_eq]
  exact ⟨clean_modMeta s k _ (fun _ => rfl) hc, sameDisk_modMeta s k _, fun k' h => getMeta_modMeta_other s k _ k' h⟩

theorem clean_newKeyWith (s : MState) (k : Bytes) (old : Option Meta) (v : Val) (hc : Clean s) :
    Clean (newKeyWith s k old v) := by
  rcases hc with hp | ⟨hdk, hoo⟩
  · left
    rw [newKeyWith_eq]
    exact (nkBase_drops s k old).pebble.trans hp
  · right
    refine ⟨?_, oids_newKeyWith s k old v hoo⟩
    rw [newKeyWith_eq]
    exact (nkBase_drops s k old).2.1 hdk

theorem clean_signal (s : MState) (k : Bytes) (hc : Clean s) : Clean (signal s k) :=
  clean_of_fields (clean_modMeta s k Meta.markModified (fun _ => rfl) hc) rfl rfl rfl rfl

theorem clean_emit (s : MState) (op : FeedOp) (hc : Clean s) : Clean (emit s op) :=
  clean_of_sub (C03Oids.sub_emit s op) (sameDisk_emit s op).2 hc

theorem clean_lock {lock : MState → Bytes → MState} (hl : LockOp lock) (s : MState) (k : Bytes) (hc : Clean s) :
    Clean (lock s k) :=
  clean_of_sub (C03Oids.sub_lock hl s k) (hl.sameDisk s k).2 hc

theorem clean_orCreate (s : MState) (k : Bytes) (old : Option Meta) (mk : Option Val) (hc : Clean s) :
    Clean (orCreate s k old mk).1 := by
  unfold orCreate
  cases mk with
  | none => exact hc
  | some v => exact clean_newKeyWith s k old v hc

theorem clean_loaded (s : MState) (k : Bytes) (m0 : Meta) (v : Val) (oid : Nat)
    (hl : loadValue s k m0 = some (v, oid)) (hc : Clean s) : s.pebble = true := by
  rcases hc with hp | ⟨hd, _⟩
  · exact hp
  · unfold loadValue diskGet at hl
    rw [hd] at hl; cases hl

theorem clean_accessKey {lock : MState → Bytes → MState} (hl : LockOp lock) (s : MState) (now : Int) (k : Bytes)
    (mk : Option Val) (hc : Clean s) : Clean (accessKey lock s now k mk).1 := by
  have hb : ∀ m0, getMeta s k = some m0 → Clean (putMeta (lock s k) k (bump m0)) := fun m0 hm =>
    clean_putMeta_same _ k m0 _ (by rw [getMeta_lock hl]; exact hm) rfl (clean_lock hl s k hc)
  rcases accessKey_shape hl s now k mk with ⟨_, e⟩ | ⟨m0, hm, ⟨e, _⟩ | ⟨e, _⟩ | ⟨v, oid, e, _, _, _, hld⟩⟩ <;> rw [e]
  · -- not indexed
    exact clean_orCreate _ _ _ _ hc
  · -- indexed, but dead or not loadable
    exact clean_orCreate _ _ _ _ (hb m0 hm)
  · -- hot
    exact hb m0 hm
  · -- cold, and a value was loaded: the backend is not empty, so it is Pebble
    exact Or.inl (((hl.sameDisk s k).trans ((sameDisk_putMeta _ _ _).trans (sameDisk_putMeta _ _ _))).2.trans
      (clean_loaded s k m0 v oid hld hc))

theorem clean_writeKey (s : MState) (now : Int) (k : Bytes) (mk : Option Val) (hc : Clean s) :
    Clean (writeKey s now k mk).1 :=
  clean_accessKey lockW_op s now k mk hc

theorem clean_readKey (s : MState) (now : Int) (k : Bytes) (hc : Clean s) : Clean (readKey s now k).1 :=
  clean_accessKey lockR_op s now k none hc

theorem clean_delKey (s : MState) (k : Bytes) (hs : IndexSorted s) (hc : Clean s) : Clean (delKey s k) := by
  obtain ⟨s1, hd, e⟩ := delKey_eq s k
  exact clean_of_sub (C03Oids.sub_delKey s k hs) (by rw [e]; exact hd.pebble) hc

theorem syncShared_clean (s : MState) (hc : Clean s) : Store.syncShared s = s := by
  unfold Store.syncShared
  split
  · rfl
  · rcases hc with hp | ⟨hd, _⟩
    · next hn => exact absurd hp hn
    · cases s with
      | mk index disk pebble nextId closed failSet feed listeners signalled held hung =>
        simp only at hd
        subst hd
        rfl

theorem clean_initial (pebble : Bool) : Clean ({ pebble := pebble } : MState) := by
  cases pebble
  · right
    refine ⟨rfl, fun k k' m m' h => ?_, fun k m h => ?_⟩
    · cases h
    · cases h
  · left; rfl

/-- logically, `s'` differs from `s` at most in the record of `k` -/
abbrev Frame (s s' : MState) (k : Bytes) : Prop := FrameOn [k] s s'

theorem Frame.lookup {s s' : MState} {k : Bytes} (h : Frame s s' k) (now : Int) (k' : Bytes) (hk : k' ≠ k) :
    Proofs.C01.lookup s' now k' = Proofs.C01.lookup s now k' := frameOn_lookup h now k' (by simpa using hk)

theorem frame_writeKey (s : MState) (now : Int) (k : Bytes) (mk : Option Val) : Frame s (writeKey s now k mk).1 k :=
  frameOn_writeKey s now k mk List.mem_cons_self

theorem frame_of (s s' : MState) (k : Bytes) (hd : SameDisk s s')
    (hg : ∀ k', k' ≠ k → getMeta s' k' = getMeta s k') : Frame s s' k :=
  frameOn_same hd (fun k' h => hg k' (by simpa using h))

theorem upd_frame_clean {k : Bytes} {s s' : MState} (h : Upd k s s') : Clean s → Frame s s' k ∧ Clean s' := by
  induction h with
  | refl s => intro hc; exact ⟨FrameOn.refl [k] s, hc⟩
  | setVal s v => intro hc; obtain ⟨c, sd, fr⟩ := clean_setVal s k v hc; exact ⟨frame_of _ _ k sd fr, c⟩
  | setExp s e => intro hc; obtain ⟨c, sd, fr⟩ := clean_setExp s k e hc; exact ⟨frame_of _ _ k sd fr, c⟩
  | signal s => intro hc; exact ⟨frameOn_signal s k List.mem_cons_self, clean_signal s k hc⟩
  | emit s op => intro hc; exact ⟨frameOn_emit s op, clean_emit s op hc⟩
  | newKey s old v =>
    intro hc
    exact ⟨frameOn_newKeyWith s k old v List.mem_cons_self, clean_newKeyWith s k old v hc⟩
  | trans _ _ ih1 ih2 =>
    intro hc
    obtain ⟨f1, c1⟩ := ih1 hc
    obtain ⟨f2, c2⟩ := ih2 c1
    exact ⟨FrameOn.trans f1 f2, c2⟩

theorem wk_upd_clean {s s' : MState} {now : Int} {k : Bytes} {mk : Option Val}
    (h : Upd k (writeKey s now k mk).1 s') (hc : Clean s) : Frame s s' k ∧ Clean s' := by
  obtain ⟨f2, c2⟩ := upd_frame_clean h (clean_writeKey s now k mk hc)
  exact ⟨FrameOn.trans (frame_writeKey s now k mk) f2, c2⟩

theorem mset_go_spec (now : Int) : ∀ (kvs : List (Bytes × Bytes)) (s : MState), Clean s →
    (∀ p ∈ kvs, C01.StringOrMissing s now p.1) →
    (Api.mset.go now (flat kvs) s).2 = .unit ∧
    ∀ x, lookup (Api.mset.go now (flat kvs) s).1 now x =
      match lastVal kvs x with
      | some v => some (some (.str v), 0, true)
      | none => lookup s now x := by
  intro kvs
  induction kvs with
  | nil => intro s _ _; rw [mset_go_nil]; exact ⟨rfl, fun _ => rfl⟩
  | cons a rest ih =>
    intro s hc hs
    obtain ⟨k, v⟩ := a
    obtain ⟨h1, h2, h3⟩ := set_ok s now k v false (hs (k, v) List.mem_cons_self)
    obtain ⟨f, c⟩ := wk_upd_clean (set_upd s now k v false) hc
    rw [mset_go_cons, if_pos (by rw [h1]; rfl)]
    -- what follows compares states only: the result of SET is a variable
    generalize Api.set s now k v false = r at h2 h3 f c ⊢
    have hk : lookup (commit r.1) now k = some (some (.str v), 0, true) := lookup_of_hot (hot_commit h2) h3
    have ho : ∀ x, x ≠ k → lookup (commit r.1) now x = lookup s now x := fun x hx => f.lookup now x hx
    have hc1 := clean_commit c
    generalize commit r.1 = s1 at *
    have hs' : ∀ p ∈ rest, C01.StringOrMissing s1 now p.1 := by
      intro p hpm v0 hl
      by_cases e : p.1 = k
      · rw [e, live_eq_of_lookup, hk] at hl
        cases hl; rfl
      · rw [live_congr (ho p.1 e)] at hl
        exact hs p (List.mem_cons_of_mem _ hpm) v0 hl
    obtain ⟨j1, j2⟩ := ih s1 hc1 hs'
    refine ⟨j1, fun x => ?_⟩
    rw [j2 x]
    simp only [lastVal]
    cases lastVal rest x with
    | some w => rfl
    | none =>
      simp only
      by_cases e : x = k
      · subst e; simp only [if_true]; exact hk
      · simp only [e, if_false]; exact ho x e

end NodisVerif.Proofs.C01

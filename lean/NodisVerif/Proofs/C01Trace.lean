import NodisVerif.Proofs.C01Clean
import NodisVerif.Proofs.C01Bytes
/-
  C01 helper lemmas: a whole command stream of one client refines the reference machine
  `Spec.Str.run` (either backend, from any `Clean` state, e.g. a freshly opened store).
-/
namespace NodisVerif.Proofs.C01
open NodisVerif
open NodisVerif.Proofs.AListLemmas NodisVerif.Proofs.AListLemmas2
open Store Api
open Spec.Str

/-! ### locks: no command of the family self-deadlocks -/

def WLocks (s : MState) : Prop := s.hung = false ∧ ∀ h ∈ s.held, h.2 = true

theorem lockW_wlocks (s : MState) (k : Bytes) (h : WLocks s) : WLocks (lockW s k) := by
  unfold lockW
  split
  · exact h
  · next h1 =>
    split
    · next h2 =>
      exfalso
      rw [List.any_eq_true] at h2
      obtain ⟨x, hx, hk⟩ := h2
      apply h1
      rw [List.any_eq_true]
      exact ⟨x, hx, by simp only [decide_eq_true_eq] at hk ⊢; exact ⟨hk, h.2 x hx⟩⟩
    · refine ⟨h.1, fun x hx => ?_⟩
      rcases List.mem_cons.mp hx with e | e
      · rw [e]
      · exact h.2 x e

def SameLocks (s s' : MState) : Prop := s'.hung = s.hung ∧ s'.held = s.held

theorem SameLocks.refl (s : MState) : SameLocks s s := ⟨rfl, rfl⟩
theorem SameLocks.trans {a b c : MState} (h1 : SameLocks a b) (h2 : SameLocks b c) : SameLocks a c :=
  ⟨h2.1.trans h1.1, h2.2.trans h1.2⟩
theorem SameLocks.wlocks {s s' : MState} (h : SameLocks s s') (hw : WLocks s) : WLocks s' :=
  ⟨h.1.trans hw.1, by rw [h.2]; exact hw.2⟩

theorem sameLocks_putMeta (s : MState) (k : Bytes) (m : Meta) : SameLocks s (putMeta s k m) := ⟨rfl, rfl⟩
theorem sameLocks_newKeyWith (s : MState) (k : Bytes) (old : Option Meta) (v : Val) :
    SameLocks s (newKeyWith s k old v) := by
  rw [newKeyWith_eq]; exact (nkBase_drops s k old).locks
theorem sameLocks_orCreate (s : MState) (k : Bytes) (old : Option Meta) (mk : Option Val) :
    SameLocks s (orCreate s k old mk).1 := by
  unfold orCreate
  cases mk with
  | none => exact ⟨rfl, rfl⟩
  | some v => exact sameLocks_newKeyWith s k old v
theorem sameLocks_emit (s : MState) (op : FeedOp) : SameLocks s (emit s op) := by
  unfold emit; split <;> exact ⟨rfl, rfl⟩
theorem sameLocks_modMeta (s : MState) (k : Bytes) (f : Meta → Meta) : SameLocks s (modMeta s k f) := by
  unfold modMeta; cases getMeta s k <;> exact ⟨rfl, rfl⟩
theorem sameLocks_signal (s : MState) (k : Bytes) : SameLocks s (signal s k) := sameLocks_modMeta s k _
theorem sameLocks_setVal (s : MState) (k : Bytes) (v : Val) : SameLocks s (setVal s k v) := by
  rw [setVal_rest]; exact ⟨rfl, rfl⟩
theorem sameLocks_setExp (s : MState) (k : Bytes) (e : Int) : SameLocks s (setExp s k e) := by
  rw [setExp_eq]; exact sameLocks_modMeta s k _
theorem sameLocks_tail (s : MState) (k : Bytes) (v : Val) (op : FeedOp) :
    SameLocks s (emit (signal (setVal s k v) k) op) :=
  (sameLocks_setVal s k v).trans ((sameLocks_signal _ k).trans (sameLocks_emit _ op))

theorem accessKey_locks {lock : MState → Bytes → MState} (hl : LockOp lock) (s : MState) (now : Int) (k : Bytes)
    (mk : Option Val) : SameLocks s (accessKey lock s now k mk).1 ∨ SameLocks (lock s k) (accessKey lock s now k mk).1 := by
  rcases accessKey_shape hl s now k mk with ⟨_, e⟩ | ⟨m0, _, ⟨e, _⟩ | ⟨e, _⟩ | ⟨v, oid, e, _⟩⟩ <;> rw [e]
  · -- not indexed: no lock taken
    exact Or.inl (sameLocks_orCreate _ _ _ _)
  · -- indexed, but dead or not loadable
    exact Or.inr ((sameLocks_putMeta _ _ _).trans (sameLocks_orCreate _ _ _ _))
  · -- hot
    exact Or.inr (sameLocks_putMeta _ _ _)
  · -- cold, loaded from the backend
    exact Or.inr ((sameLocks_putMeta _ _ _).trans (sameLocks_putMeta _ _ _))

theorem writeKey_wlocks (s : MState) (now : Int) (k : Bytes) (mk : Option Val) (h : WLocks s) :
    WLocks (writeKey s now k mk).1 := by
  rcases accessKey_locks lockW_op s now k mk with e | e
  · exact e.wlocks h
  · exact e.wlocks (lockW_wlocks s k h)

theorem readKey_hung (s : MState) (now : Int) (k : Bytes) : (readKey s now k).1.hung = s.hung := by
  rcases accessKey_locks lockR_op s now k none with e | e
  · exact e.1
  · exact e.1.trans (by unfold lockR; split <;> rfl)

theorem delKey_wlocks (s : MState) (k : Bytes) (h : WLocks s) : WLocks (delKey s k) := by
  obtain ⟨s1, hd, e⟩ := delKey_eq s k
  rw [e]
  exact ⟨hd.locks.1.trans h.1, fun x hx => h.2 x (by rw [← hd.locks.2]; exact (List.mem_filter.mp hx).1)⟩

theorem delKeySig_wlocks (s : MState) (k : Bytes) (h : WLocks s) : WLocks (delKeySig s k) :=
  (sameLocks_emit _ _).wlocks (s := { delKey s k with signalled := k :: s.signalled }) (delKey_wlocks s k h)

theorem commit_wlocks (s : MState) (h : s.hung = false) : WLocks (commit s) :=
  ⟨h, fun x hx => by cases hx⟩

theorem upd_sameLocks {k : Bytes} {s s' : MState} (h : Upd k s s') : SameLocks s s' := by
  induction h with
  | refl s => exact SameLocks.refl s
  | setVal s v => exact sameLocks_setVal s k v
  | setExp s e => exact sameLocks_setExp s k e
  | signal s => exact sameLocks_signal s k
  | emit s op => exact sameLocks_emit s op
  | newKey s old v => exact sameLocks_newKeyWith s k old v
  | trans _ _ ih1 ih2 => exact ih1.trans ih2

/-- how the embedded API serves one command of the reference machine -/
def exec (s : MState) (now : Int) : Cmd → MState × Out
  | .set k v => Api.set s now k v false
  | .get k => Api.get s now k
  | .getset k v => Api.getSet s now k v
  | .setnx k v => Api.setNX s now k v false
  | .mset kvs => Api.mset s now (flat kvs)
  | .append k d => Api.append s now k d
  | .strlen k => Api.strLen s now k
  | .setrange k off d => Api.setRange s now k off d
  | .getbit k off => Api.getBit s now k off
  | .setbit k off x => Api.setBit s now k off x
  | .incrby k d => Api.addInt s now k d false
  | .decrby k d => Api.addInt s now k d true
  | .del keys => Api.del s now keys
  | .exists_ keys => Api.exists_ s now keys

/-- one call as the driver (Main.lean) performs it: empty lock set before, `HANG` if the call
    deadlocked on itself, locks released and backend sharing restored after -/
def driverStep (s : MState) (now : Int) (c : Cmd) : MState × Out :=
  let r := exec { s with signalled := [], held := [], hung := false } now c
  if r.1.hung then (Store.syncShared r.1, .hang) else (Store.syncShared { r.1 with held := [] }, r.2)

def driverRun : MState → Int → List Cmd → MState × List Out
  | s, _, [] => (s, [])
  | s, now, c :: rest =>
    ((driverRun (driverStep s now c).1 now rest).1, (driverStep s now c).2 :: (driverRun (driverStep s now c).1 now rest).2)

/-- reply correspondence: API result ↔ Redis reply -/
def Matches : Out → Reply → Prop
  | .unit, .ok => True
  | .bytes none, .nil => True
  | .bytes (some b), .bulk b' => b = b'
  | .int n, .int n' => n = n'
  | .bool true, .int n' => n' = 1
  | .bool false, .int n' => n' = 0
  | .many [.int n, .err false], .int n' => n = n'
  | .many [.int _, .err true], .err => True
  | _, _ => False

/-- the visible keyspace of the store is exactly the reference keyspace: every live key holds a
    filled string, and it is the reference's byte string -/
def Refines (s : MState) (now : Int) (ks : Keyspace) : Prop :=
  ∀ k, live s now k = (Keyspace.get ks k).map Val.str

/-- the inputs outside the finding regions of sections 2–4 of Props/C01.lean (F4, F8, F10 in its head; negative offsets)
    and inside the part of SETRANGE the model follows -/
def Safe (ks : Keyspace) : Cmd → Prop
  | .setrange k off d =>
    0 ≤ off ∧ inInt64 (off + (d.length : Int)) = true ∧
    off + (d.length : Int) - (((Keyspace.get ks k).getD []).length : Int) ≤ 1073741824 ∧
    (d ≠ [] ∨ (Keyspace.exists_ ks k = true ∧ off ≤ (((Keyspace.get ks k).getD []).length : Int)))
  | .getbit _ off => 0 ≤ off
  | .setbit _ off _ => 0 ≤ off
  | .incrby _ d => inInt64 d = true
  | .decrby _ d => inInt64 d = true ∧ d ≠ int64Min
  | _ => True

/-- safety of a whole stream, evaluated along the reference run -/
def SafeRun : Keyspace → List Cmd → Prop
  | _, [] => True
  | ks, c :: rest => Safe ks c ∧ SafeRun (step ks c).1 rest

theorem refines_str {s : MState} {now : Int} {ks : Keyspace} (h : Refines s now ks) (k : Bytes) :
    C01.StringOrMissing s now k ∧
    strOf (strAt s now k) = some ((Keyspace.get ks k).getD []) := by
  constructor
  · intro v0 hl
    rw [h k] at hl
    cases hg : Keyspace.get ks k with
    | none => rw [hg] at hl; cases hl
    | some b => rw [hg] at hl; cases hl; rfl
  · unfold strAt
    rw [h k]
    cases Keyspace.get ks k <;> rfl

theorem refines_same {s s' : MState} {now : Int} {ks : Keyspace} (h : Refines s now ks)
    (hl : ∀ k, lookup s' now k = lookup s now k) : Refines s' now ks :=
  fun k => by rw [live_congr (hl k)]; exact h k

theorem refines_write {s s' : MState} {now : Int} {ks : Keyspace} {k : Bytes} (h : Refines s now ks)
    (hf : ∀ k', k' ≠ k → lookup s' now k' = lookup s now k') (nv : Bytes) (hk : live s' now k = some (.str nv)) :
    Refines s' now (Keyspace.set ks k nv) := by
  intro k'
  rw [ks_get_set]
  by_cases e : k' = k
  · subst e; rw [hk]; simp
  · rw [live_congr (hf k' e), h k']; simp [e]

theorem exists_of_refines {s : MState} {now : Int} {ks : Keyspace} (h : Refines s now ks) (k : Bytes) :
    Keyspace.exists_ ks k = (live s now k).isSome := by
  unfold Keyspace.exists_
  rw [h k]
  cases Keyspace.get ks k <;> rfl

structure Inv (s : MState) : Prop where
  clean : Clean s
  sorted : IndexSorted s

structure StepOk (s' : MState) (out : Out) (now : Int) (ks' : Keyspace) (rep : Reply) : Prop where
  reply : Matches out rep
  refines : Refines s' now ks'
  inv : Inv s'
  nohang : s'.hung = false

/-- serving command `c` from `s` refines the reference step from `ks` -/
abbrev StepRefines (s : MState) (now : Int) (ks : Keyspace) (c : Cmd) : Prop :=
  StepOk (exec s now c).1 (exec s now c).2 now (step ks c).1 (step ks c).2

theorem write_step {s s' : MState} {now : Int} {k : Bytes} {mk : Option Val}
    (hu : Upd k (writeKey s now k mk).1 s') (hi : Inv s) (hw : WLocks s) :
    Inv s' ∧ s'.hung = false ∧ ∀ k', k' ≠ k → lookup s' now k' = lookup s now k' := by
  obtain ⟨f, hp⟩ := wk_upd_clean hu hi.clean
  exact ⟨⟨hp, wk_upd_sorted hu hi.sorted⟩, ((upd_sameLocks hu).wlocks (writeKey_wlocks s now k mk hw)).1,
    fun k' h => f.lookup now k' h⟩


theorem ks_get_setMany : ∀ (kvs : List (Bytes × Bytes)) (ks : Keyspace) (x : Bytes),
    Keyspace.get (Keyspace.setMany ks kvs) x =
      match lastVal kvs x with
      | some v => some v
      | none => Keyspace.get ks x := by
  intro kvs
  induction kvs with
  | nil => intro ks x; rfl
  | cons a rest ih =>
    intro ks x
    obtain ⟨k, v⟩ := a
    simp only [Keyspace.setMany, lastVal]
    rw [ih]
    cases lastVal rest x with
    | some w => rfl
    | none =>
      simp only
      rw [ks_get_set]
      by_cases e : x = k <;> simp [e]

theorem ks_get_delMany : ∀ (keys : List Bytes) (ks : Keyspace) (x : Bytes),
    Keyspace.get (Keyspace.delMany ks keys).1 x = if x ∈ keys then none else Keyspace.get ks x := by
  intro keys
  induction keys with
  | nil => intro ks x; simp [Keyspace.delMany]
  | cons key rest ih =>
    intro ks x
    simp only [Keyspace.delMany]
    rw [ih, ks_get_del]
    by_cases h1 : x ∈ rest
    · simp [h1]
    · by_cases h2 : x = key
      · simp [h2]
      · simp [h1, h2]

theorem spec_getbit_nil (n : Nat) : Spec.Str.getbit [] n = false := by
  unfold Spec.Str.getbit
  simp only [List.getD_eq_getElem?_getD, List.getElem?_nil, Option.getD_none]
  exact bitOf_zero _

theorem del_fold_inv (now : Int) : ∀ (keys : List Bytes) (s : MState) (c : Int), Clean s → IndexSorted s → WLocks s →
    Clean (keys.foldl (delStep now) (s, c)).1 ∧ WLocks (keys.foldl (delStep now) (s, c)).1 := by
  intro keys
  induction keys with
  | nil => intro s c hp _ hw; exact ⟨hp, hw⟩
  | cons key rest ih =>
    intro s c hp hs hw
    rw [List.foldl_cons]
    have hp1 := clean_writeKey s now key none hp
    have hs1 := writeKey_sorted s now key none hs
    have hw1 := writeKey_wlocks s now key none hw
    unfold delStep
    simp only
    generalize writeKey s now key none = w at hp1 hs1 hw1 ⊢
    split
    · exact ih _ _ hp1 hs1 hw1
    · exact ih _ _ (clean_emit _ _ (clean_of_fields (clean_delKey _ key hs1 hp1) rfl rfl rfl rfl))
        (delKeySig_sorted _ key hs1) (delKeySig_wlocks _ key hw1)

theorem exists_fold_inv (now : Int) : ∀ (keys : List Bytes) (s : MState) (c : Int),
    (Clean s → Clean (keys.foldl (existsStep now) (s, c)).1) ∧
    (keys.foldl (existsStep now) (s, c)).1.hung = s.hung := by
  intro keys
  induction keys with
  | nil => intro s c; exact ⟨fun h => h, rfl⟩
  | cons key rest ih =>
    intro s c
    rw [List.foldl_cons]
    obtain ⟨i1, i2⟩ := ih (existsStep now (s, c) key).1 (existsStep now (s, c) key).2
    exact ⟨fun h => i1 (clean_readKey s now key h), i2.trans (readKey_hung s now key)⟩

theorem mset_go_inv (now : Int) : ∀ (kvs : List (Bytes × Bytes)) (s : MState), Inv s → WLocks s →
    Inv (Api.mset.go now (flat kvs) s).1 ∧ (Api.mset.go now (flat kvs) s).1.hung = false := by
  intro kvs
  induction kvs with
  | nil => intro s hi hw; rw [mset_go_nil]; exact ⟨hi, hw.1⟩
  | cons a rest ih =>
    intro s hi hw
    obtain ⟨k, v⟩ := a
    obtain ⟨i1, i2, _⟩ := write_step (set_upd s now k v false) hi hw
    rw [mset_go_cons]
    generalize Api.set s now k v false = r at i1 i2 ⊢
    split
    · exact ih _ ⟨clean_commit i1.clean, i1.sorted⟩ (commit_wlocks _ i2)
    · exact ⟨i1, i2⟩

theorem setRange_filled (b : Bytes) (off : Int) (d : Bytes) (r : DsStr.S × Int)
    (h : DsStr.setRange (some b) off d = some r) : ∃ w, r.1 = some w := by
  unfold DsStr.setRange at h
  by_cases h0 : off < 0
  · rw [if_pos h0] at h; cases h; exact ⟨_, rfl⟩
  · rw [if_neg h0] at h
    -- neither refusal happened: the result is the last line of the definition
    simp only [Option.ite_none_left_eq_some] at h
    obtain ⟨_, _, h⟩ := h
    cases h; exact ⟨_, rfl⟩


theorem ref_set (s : MState) (now : Int) (ks : Keyspace) (k v : Bytes) (hi : Inv s) (hw : WLocks s)
    (hR : Refines s now ks) :
    StepRefines s now ks (.set k v) := by
  obtain ⟨hstr, _⟩ := refines_str hR k
  obtain ⟨h1, h2, _⟩ := set_ok s now k v false hstr
  obtain ⟨i1, i2, i3⟩ := write_step (set_upd s now k v false) hi hw
  exact ⟨by show Matches (Api.set s now k v false).2 .ok; rw [h1]; trivial,
    refines_write hR i3 v (live_of_hot h2), i1, i2⟩

theorem ref_read (s : MState) (now : Int) (ks : Keyspace) (k : Bytes) (dflt : Out) (f : DsStr.S → Out) (rep : Reply)
    (hi : Inv s) (hw : WLocks s) (hR : Refines s now ks)
    (hm : Matches (match Keyspace.get ks k with | none => dflt | some b => f (some b)) rep) {r : R}
    (hr : r = ((readKey s now k).1, match live s now k with
      | none => dflt
      | some v => if isStrVal v then f (strOf v) else .panic)) :
    StepOk r.1 r.2 now ks rep := by
  rw [hr]
  refine ⟨?_, refines_same hR (lookup_readKey s now k),
    ⟨clean_readKey s now k hi.clean, readKey_sorted s now k hi.sorted⟩, (readKey_hung s now k).trans hw.1⟩
  simp only [hR k]
  generalize Keyspace.get ks k = g at hm ⊢
  cases g <;> exact hm

theorem ref_get (s : MState) (now : Int) (ks : Keyspace) (k : Bytes) (hi : Inv s) (hw : WLocks s)
    (hR : Refines s now ks) :
    StepRefines s now ks (.get k) := by
  refine ref_read s now ks k (.bytes none) .bytes (match Keyspace.get ks k with | some b => .bulk b | none => .nil) hi hw hR ?_ (strRead_eq s now k _ _)
  cases Keyspace.get ks k with
  | none => trivial
  | some b => exact rfl

theorem ref_getset (s : MState) (now : Int) (ks : Keyspace) (k v : Bytes) (hi : Inv s) (hw : WLocks s)
    (hR : Refines s now ks) :
    StepRefines s now ks (.getset k v) := by
  obtain ⟨hstr, hso⟩ := refines_str hR k
  obtain ⟨h1, h2, _⟩ := getSet_ok s now k v hstr
  obtain ⟨i1, i2, i3⟩ := write_step (getSet_upd s now k v) hi hw
  refine ⟨?_, refines_write hR i3 v (live_of_hot h2), i1, i2⟩
  show Matches (Api.getSet s now k v).2 (match Keyspace.get ks k with | some b => .bulk b | none => .nil)
  rw [h1, hR k]
  cases Keyspace.get ks k with
  | none => trivial
  | some b => exact rfl

theorem ref_setnx (s : MState) (now : Int) (ks : Keyspace) (k v : Bytes) (hi : Inv s) (hw : WLocks s)
    (hR : Refines s now ks) :
    StepRefines s now ks (.setnx k v) := by
  obtain ⟨i1, i2, i3⟩ := write_step (setNX_upd s now k v false) hi hw
  have hex := exists_of_refines hR k
  dsimp only [StepRefines, exec, step]
  simp only [hex]
  cases hl : live s now k with
  | none =>
    obtain ⟨h1, h2, _⟩ := setNX_absent s now k v false hl
    simp only [Option.isSome_none, Bool.false_eq_true, if_false]
    exact ⟨by rw [h1]; exact rfl, refines_write hR i3 v (live_of_hot h2), i1, i2⟩
  | some v0 =>
    obtain ⟨h1, h2⟩ := setNX_present s now k v false v0 hl
    simp only [Option.isSome_some, if_true]
    exact ⟨by rw [h1]; exact rfl, refines_same hR h2, i1, i2⟩

theorem ref_mset (s : MState) (now : Int) (ks : Keyspace) (kvs : List (Bytes × Bytes)) (hi : Inv s) (hw : WLocks s)
    (hR : Refines s now ks) :
    StepRefines s now ks (.mset kvs) := by
  dsimp only [StepRefines, exec, step]
  rw [mset_eq]
  obtain ⟨m1, m2⟩ := mset_go_spec now kvs s hi.clean (fun p _ => (refines_str hR p.1).1)
  obtain ⟨i1, i2⟩ := mset_go_inv now kvs s hi hw
  refine ⟨by rw [m1]; trivial, ?_, i1, i2⟩
  intro x
  rw [live_eq_of_lookup, m2 x, ks_get_setMany]
  cases lastVal kvs x with
  | some v => rfl
  | none =>
    simp only
    rw [← live_eq_of_lookup, hR x]

theorem ref_append (s : MState) (now : Int) (ks : Keyspace) (k d : Bytes) (hi : Inv s) (hw : WLocks s)
    (hR : Refines s now ks) :
    StepRefines s now ks (.append k d) := by
  obtain ⟨hstr, hso⟩ := refines_str hR k
  obtain ⟨h1, h2, _⟩ := append_ok s now k d hstr
  obtain ⟨i1, i2, i3⟩ := write_step (append_upd s now k d) hi hw
  rw [hso] at h1 h2
  have hval : DsStr.append (some ((Keyspace.get ks k).getD [])) d =
      ((some (Spec.Str.append ((Keyspace.get ks k).getD []) d) : DsStr.S),
       (((Spec.Str.append ((Keyspace.get ks k).getD []) d).length : Nat) : Int)) := rfl
  rw [hval] at h1 h2
  exact ⟨by show Matches (Api.append s now k d).2 _; rw [h1]; exact rfl,
    refines_write hR i3 _ (live_of_hot h2), i1, i2⟩

theorem ref_strlen (s : MState) (now : Int) (ks : Keyspace) (k : Bytes) (hi : Inv s) (hw : WLocks s)
    (hR : Refines s now ks) :
    StepRefines s now ks (.strlen k) := by
  refine ref_read s now ks k (.int 0) (fun v => .int (DsStr.len v)) (.int (Spec.Str.strlen ((Keyspace.get ks k).getD []))) hi hw hR ?_ (strRead_eq s now k _ _)
  cases Keyspace.get ks k <;> exact rfl

theorem ref_getbit (s : MState) (now : Int) (ks : Keyspace) (k : Bytes) (off : Int) (hi : Inv s) (hw : WLocks s)
    (hR : Refines s now ks) (hs : Safe ks (.getbit k off)) :
    StepRefines s now ks (.getbit k off) := by
  have h0 : 0 ≤ off := hs
  dsimp only [StepRefines, step]
  rw [if_neg (Int.not_lt.mpr h0)]
  refine ref_read s now ks k (.int 0) (fun v => .int (DsStr.getBit v off)) _ hi hw hR ?_ (strRead_eq s now k _ _)
  cases Keyspace.get ks k with
  | none =>
    show (0 : Int) = if Spec.Str.getbit [] off.toNat = true then 1 else 0
    rw [spec_getbit_nil]; rfl
  | some b => exact getBit_agree (some b) off h0

theorem ref_setbit (s : MState) (now : Int) (ks : Keyspace) (k : Bytes) (off : Int) (x : Bool) (hi : Inv s)
    (hw : WLocks s) (hR : Refines s now ks) (hs : Safe ks (.setbit k off x)) :
    StepRefines s now ks (.setbit k off x) := by
  have h0 : 0 ≤ off := hs
  obtain ⟨hstr, hso⟩ := refines_str hR k
  obtain ⟨h1, h2, _⟩ := setBit_ok s now k off x hstr
  obtain ⟨i1, i2, i3⟩ := write_step (setBit_upd s now k off x) hi hw
  rw [hso, setBit_agree (some ((Keyspace.get ks k).getD [])) off x h0] at h1 h2
  dsimp only [StepRefines, exec, step]
  rw [Spec.Str.setbit?, if_neg (Int.not_lt.mpr h0)]
  exact ⟨by rw [h1]; exact rfl, refines_write hR i3 _ (live_of_hot h2), i1, i2⟩


theorem ref_setrange (s : MState) (now : Int) (ks : Keyspace) (k : Bytes) (off : Int) (d : Bytes) (hi : Inv s)
    (hw : WLocks s) (hR : Refines s now ks) (hs : Safe ks (.setrange k off d)) :
    StepRefines s now ks (.setrange k off d) := by
  obtain ⟨h0, hwrap, hgrow, hreg⟩ := hs
  obtain ⟨hstr, hso⟩ := refines_str hR k
  have hok := setRange_ok s now k off d hstr
  obtain ⟨i1, i2, i3⟩ := write_step (setRange_upd s now k off d) hi hw
  rw [hso] at hok
  have hbytes : DsStr.bytes (some ((Keyspace.get ks k).getD [])) = (Keyspace.get ks k).getD [] := rfl
  have hr : d ≠ [] ∨ off ≤ DsStr.len (some ((Keyspace.get ks k).getD [])) := by
    rcases hreg with h | ⟨_, h⟩
    · exact Or.inl h
    · exact Or.inr h
  obtain ⟨r, e, hb, hl⟩ := setRange_agree (some ((Keyspace.get ks k).getD [])) off d h0 hwrap hgrow hr
  have hsome : r.1 = some (DsStr.bytes r.1) := by
    obtain ⟨w, hw⟩ := setRange_filled _ off d r e
    rw [hw]; rfl
  obtain ⟨v', n⟩ := r
  rw [e] at hok
  obtain ⟨h1, h2, _⟩ := hok
  simp only at hb hl hsome
  rw [hsome, hb] at h2
  rw [hbytes] at hb hl h2
  dsimp only [StepRefines, exec, step]
  simp only [Spec.Str.setrange?, if_neg (Int.not_lt.mpr h0)]
  by_cases hd : d = []
  · rw [if_pos hd]
    refine ⟨by rw [h1, hl]; exact rfl, ?_, i1, i2⟩
    -- nothing was written: the value is the old one
    have hv : Spec.Str.setrange ((Keyspace.get ks k).getD []) off.toNat d = (Keyspace.get ks k).getD [] := by
      unfold Spec.Str.setrange; rw [if_pos hd]
    have hex : Keyspace.exists_ ks k = true := by
      rcases hreg with h | ⟨h, _⟩
      · exact absurd hd h
      · exact h
    intro k'
    by_cases e' : k' = k
    · subst e'
      rw [live_of_hot h2, hv]
      unfold Keyspace.exists_ at hex
      cases hg : Keyspace.get ks k' with
      | none => rw [hg] at hex; cases hex
      | some b => rfl
    · rw [live_congr (i3 k' e')]; exact hR k'
  · rw [if_neg hd]
    exact ⟨by rw [h1, hl]; exact rfl, refines_write hR i3 _ (live_of_hot h2), i1, i2⟩

theorem ref_counter (s : MState) (now : Int) (ks : Keyspace) (k : Bytes) (d : Int) (neg : Bool) (hi : Inv s)
    (hw : WLocks s) (hR : Refines s now ks) (hd : inInt64 (if neg then -d else d) = true) :
    StepOk (Api.addInt s now k d neg).1 (Api.addInt s now k d neg).2 now
      (match Spec.Str.incrby ((Keyspace.get ks k).getD []) (if neg then -d else d) with
        | none => (ks, Reply.err)
        | some (t, n) => (Keyspace.set ks k t, Reply.int n)).1
      (match Spec.Str.incrby ((Keyspace.get ks k).getD []) (if neg then -d else d) with
        | none => (ks, Reply.err)
        | some (t, n) => (Keyspace.set ks k t, Reply.int n)).2 := by
  obtain ⟨hstr, hso⟩ := refines_str hR k
  have hok := addInt_ok s now k d neg false hstr
  obtain ⟨i1, i2, i3⟩ := write_step (addInt_upd s now k d neg false) hi hw
  rw [hso] at hok
  have hstep : counterStep (some ((Keyspace.get ks k).getD [])) d neg =
      (Spec.Str.incrby ((Keyspace.get ks k).getD []) (if neg then -d else d)).map fun r => (some r.1, r.2) := by
    unfold counterStep
    cases neg
    · exact addInt_agree _ d
    · exact addInt_agree _ (-d)
  rw [hstep] at hok
  cases hinc : Spec.Str.incrby ((Keyspace.get ks k).getD []) (if neg then -d else d) with
  | none =>
    rw [hinc] at hok
    simp only [Option.map_none] at hok
    obtain ⟨h1, h2⟩ := hok
    refine ⟨by rw [h1]; trivial, ?_, i1, i2⟩
    -- the key must have existed: on a missing key the step cannot fail
    cases hl : live s now k with
    | some v0 =>
      rw [h2]
      exact refines_same hR (writeKey_live s now k _ v0 hl).2.2
    | none =>
      exfalso
      have hg : Keyspace.get ks k = none := by
        have := hR k; rw [hl] at this
        cases hgg : Keyspace.get ks k with
        | none => rfl
        | some b => rw [hgg] at this; cases this
      rw [hg] at hinc
      unfold Spec.Str.incrby at hinc
      simp only [Option.getD_none, if_true] at hinc
      have hp : parseInt64 [48] = some 0 := by decide
      rw [hp] at hinc
      simp only [Int.zero_add, hd, if_true] at hinc
      cases hinc
  | some p =>
    obtain ⟨t, n⟩ := p
    rw [hinc] at hok
    simp only [Option.map_some] at hok
    obtain ⟨h1, h2, _⟩ := hok
    exact ⟨by rw [h1]; exact rfl, refines_write hR i3 t (live_of_hot h2), i1, i2⟩

theorem ref_incrby (s : MState) (now : Int) (ks : Keyspace) (k : Bytes) (d : Int) (hi : Inv s)
    (hw : WLocks s) (hR : Refines s now ks) (hs : Safe ks (.incrby k d)) :
    StepRefines s now ks (.incrby k d) :=
  ref_counter s now ks k d false hi hw hR hs

theorem ref_decrby (s : MState) (now : Int) (ks : Keyspace) (k : Bytes) (d : Int) (hi : Inv s)
    (hw : WLocks s) (hR : Refines s now ks) (hs : Safe ks (.decrby k d)) :
    StepRefines s now ks (.decrby k d) := by
  have hd : inInt64 (if true then -d else d) = true := by
    obtain ⟨h1, h2⟩ := hs
    rw [inInt64_iff] at h1 ⊢
    simp only [int64Min] at h2
    simp only [if_true]
    omega
  exact ref_counter s now ks k d true hi hw hR hd

theorem ref_del (s : MState) (now : Int) (ks : Keyspace) (keys : List Bytes) (hi : Inv s) (hw : WLocks s)
    (hR : Refines s now ks) :
    StepRefines s now ks (.del keys) := by
  dsimp only [StepRefines, exec, step]
  rw [del_eq]
  obtain ⟨d1, _, d3, d4, d5⟩ := del_fold now keys s 0 ks hi.sorted (exists_of_refines hR)
  obtain ⟨p1, p2⟩ := del_fold_inv now keys s 0 hi.clean hi.sorted hw
  refine ⟨by rw [d1]; simp [Matches], ?_, ⟨p1, d3⟩, p2.1⟩
  intro x
  rw [ks_get_delMany]
  by_cases hx : x ∈ keys
  · rw [if_pos hx, d5 x hx]; rfl
  · rw [if_neg hx, live_congr (d4 x hx)]; exact hR x

theorem ref_exists (s : MState) (now : Int) (ks : Keyspace) (keys : List Bytes) (hi : Inv s) (hw : WLocks s)
    (hR : Refines s now ks) :
    StepRefines s now ks (.exists_ keys) := by
  dsimp only [StepRefines, exec, step]
  rw [Proofs.C01.exists_eq]
  obtain ⟨e1, e2, e3⟩ := exists_fold now keys s 0
  obtain ⟨p1, p2⟩ := exists_fold_inv now keys s 0
  refine ⟨?_, refines_same hR e2, ⟨p1 hi.clean, e3 hi.sorted⟩, p2.trans hw.1⟩
  rw [e1]
  unfold Keyspace.existsMany
  simp only [exists_of_refines hR, Int.zero_add]
  exact rfl

theorem exec_refines (s : MState) (now : Int) (ks : Keyspace) (c : Cmd) (hi : Inv s) (hw : WLocks s)
    (hR : Refines s now ks) (hs : Safe ks c) :
    StepRefines s now ks c := by
  cases c with
  | set k v => exact ref_set s now ks k v hi hw hR
  | get k => exact ref_get s now ks k hi hw hR
  | getset k v => exact ref_getset s now ks k v hi hw hR
  | setnx k v => exact ref_setnx s now ks k v hi hw hR
  | mset kvs => exact ref_mset s now ks kvs hi hw hR
  | append k d => exact ref_append s now ks k d hi hw hR
  | strlen k => exact ref_strlen s now ks k hi hw hR
  | setrange k off d => exact ref_setrange s now ks k off d hi hw hR hs
  | getbit k off => exact ref_getbit s now ks k off hi hw hR hs
  | setbit k off x => exact ref_setbit s now ks k off x hi hw hR hs
  | incrby k d => exact ref_incrby s now ks k d hi hw hR hs
  | decrby k d => exact ref_decrby s now ks k d hi hw hR hs
  | del keys => exact ref_del s now ks keys hi hw hR
  | exists_ keys => exact ref_exists s now ks keys hi hw hR

theorem driverStep_refines (s : MState) (now : Int) (ks : Keyspace) (c : Cmd) (hi : Inv s)
    (hR : Refines s now ks) (hs : Safe ks c) :
    Matches (driverStep s now c).2 (step ks c).2 ∧ Refines (driverStep s now c).1 now (step ks c).1 ∧
    Inv (driverStep s now c).1 := by
  have hi0 : Inv { s with signalled := [], held := [], hung := false } :=
    ⟨clean_of_fields hi.clean rfl rfl rfl rfl, hi.sorted⟩
  have hw0 : WLocks { s with signalled := [], held := [], hung := false } := ⟨rfl, fun x hx => by cases hx⟩
  have hR0 : Refines { s with signalled := [], held := [], hung := false } now ks := hR
  obtain ⟨r1, r2, r3, r4⟩ := exec_refines _ now ks c hi0 hw0 hR0 hs
  unfold driverStep
  simp only
  rw [if_neg (by rw [r4]; simp)]
  have hc : Clean ({ (exec { s with signalled := [], held := [], hung := false } now c).1 with held := [] } : MState) :=
    clean_of_fields r3.clean rfl rfl rfl rfl
  rw [syncShared_clean _ hc]
  exact ⟨r1, r2, ⟨hc, r3.sorted⟩⟩

def MatchesAll : List Out → List Reply → Prop
  | [], [] => True
  | o :: os, r :: rs => Matches o r ∧ MatchesAll os rs
  | _, _ => False

theorem driverRun_refines (now : Int) : ∀ (cmds : List Cmd) (s : MState) (ks : Keyspace), Inv s → Refines s now ks →
    SafeRun ks cmds →
    MatchesAll (driverRun s now cmds).2 (run ks cmds).2 ∧ Refines (driverRun s now cmds).1 now (run ks cmds).1 ∧
    Inv (driverRun s now cmds).1 := by
  intro cmds
  induction cmds with
  | nil => intro s ks hi hR _; exact ⟨trivial, hR, hi⟩
  | cons c rest ih =>
    intro s ks hi hR hs
    obtain ⟨s1, s2, s3⟩ := driverStep_refines s now ks c hi hR hs.1
    obtain ⟨i1, i2, i3⟩ := ih (driverStep s now c).1 (step ks c).1 s3 s2 hs.2
    exact ⟨⟨s1, i1⟩, i2, i3⟩

end NodisVerif.Proofs.C01

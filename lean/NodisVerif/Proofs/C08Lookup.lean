import NodisVerif.Proofs.C08Step
import NodisVerif.Driver.RespOps
import NodisVerif.Model.Handler2
import NodisVerif.Model.Handler4

/-
  The full dispatch of the server: `Driver.lookup` over the list of family tables
  (`Main.tables = [Handler.table1, Handler2.table2, Handler3.table3, Handler4.table4]`).  A predicate of the form
  "every result of the table is good" holds of the lookup if it holds of every family table.
-/
namespace NodisVerif.Proofs.C08Step

/-- the family tables in the order of `Main.tables` -/
def allTables : List Table := [Handler.table1, Handler2.table2, Handler3.table3, Handler4.table4]

def fullTable : Table := Driver.lookup allTables

theorem lookup_some (tables : List Table) (name : String) (args : List Bytes) (r : HRes)
    (h : Driver.lookup tables name args = some r) : ∃ t ∈ tables, t name args = some r := by
  unfold Driver.lookup at h
  exact List.exists_of_findSome?_eq_some h

theorem lookup_all {P : HRes → Prop} (tables : List Table)
    (h : ∀ t ∈ tables, ∀ name args r, t name args = some r → P r) (name : String) (args : List Bytes) (r : HRes)
    (hr : Driver.lookup tables name args = some r) : P r := by
  obtain ⟨t, ht, e⟩ := lookup_some tables name args r hr
  exact h t ht name args r e

end NodisVerif.Proofs.C08Step

/-
  The `step` the theorems are about is the dispatch step the differential driver executes
  (`Driver.respStep`, which is what is compared against the Go server).
-/
namespace NodisVerif.Proofs.C08Step
open Resp Server

/-- the command name as the driver computes it -/
def driverName (nameB : Bytes) : String := String.fromUTF8! (ByteArray.mk (upper nameB).toArray)

theorem respStep_eq (tables : List (String → List Bytes → Option HRes)) (sv : Server) (id : String)
    (now : Int) (nameB : Bytes) (args : List Bytes) (ch : Choice) :
    Driver.respStep tables sv id now (nameB :: args) ch =
      ((step (Driver.lookup tables) sv { id := id, name := driverName nameB, args := args, now := now, ch := ch }).1,
       Wire.joinWith " " (Driver.canonical (driverName nameB)
        (step (Driver.lookup tables) sv { id := id, name := driverName nameB, args := args, now := now, ch := ch }).2)) := by
  simp only [Driver.respStep, step, dispatch, driverName]
  split
  · next h => simp [h]
  · next h => simp [h]
  · next h => simp [h]
  · next h => simp [h]
  · next h => simp [h, runsNow]; exact ⟨rfl, rfl⟩
  · next h1 h2 h3 h4 h5 =>
    simp only [if_neg h1, if_neg h2, if_neg h3, if_neg h4, if_neg h5]
    split <;> simp_all

theorem step_matches_driver (tables : List (String → List Bytes → Option HRes)) (sv : Server) (id : String)
    (now : Int) (nameB : Bytes) (args : List Bytes) (ch : Choice) :
    (Driver.respStep tables sv id now (nameB :: args) ch).1 =
      (step (Driver.lookup tables) sv { id := id, name := driverName nameB, args := args, now := now, ch := ch }).1 := by
  rw [respStep_eq]

theorem step_matches_driver_reply (tables : List (String → List Bytes → Option HRes)) (sv : Server) (id : String)
    (now : Int) (nameB : Bytes) (args : List Bytes) (ch : Choice) :
    (Driver.respStep tables sv id now (nameB :: args) ch).2 =
      Wire.joinWith " " (Driver.canonical (driverName nameB)
        (step (Driver.lookup tables) sv { id := id, name := driverName nameB, args := args, now := now, ch := ch }).2) := by
  rw [respStep_eq]

end NodisVerif.Proofs.C08Step

import NodisVerif.Model.Proto
/-
  Locking protocol: what each step requires and what it does (`step s e = some s' ↔ …`), one lemma per event.
  Each proof unfolds `step` once; `Option.ite_none_left_eq_some` turns the chain of guards
  `if g then none else …` into a conjunction.  Cases are split on the `match`es of `step` (`s.tx t`, `st.holdOf r`), and
  on a guard only where the result differs (`step_valid` on `ok`, `step_unlock` on `st.committing`).
-/
namespace NodisVerif.Proofs.Proto
open NodisVerif.Proto
variable {s s' : PState} {t : Tx} {k : Key} {r : Rec} {m : Mode}

theorem step_begin : step s (.begin t) = some s' ↔ s.tx t = none ∧ s' = s.setTx t {} := by
  simp only [step]
  cases s.tx t <;> simp [eq_comm (a := s')]

theorem step_look {r : Option Rec} : step s (.look t k r) = some s' ↔ ∃ st, s.tx t = some st ∧
    st.committing = false ∧ st.waiting = none ∧ s.lookup k = r ∧ s' = s := by
  simp only [step, NodisVerif.Proto.guard]
  cases s.tx t with
  | none => simp
  | some st => simp [eq_comm (a := s'), and_assoc]

theorem step_claim : step s (.claim t k r m) = some s' ↔ ∃ st, s.tx t = some st ∧ st.committing = false ∧
    st.waiting = none ∧ s.lookup k = none ∧ assoc s.names r = none ∧
    s' = ({ s with pending := put s.pending k r, names := (r, k) :: s.names } : PState).setTx t
            (st.setHold { rid := r, key := k, mode := m, valid := true }) := by
  simp only [step]
  cases s.tx t with
  | none => simp
  | some st => simp [Option.ite_none_left_eq_some, eq_comm (a := s'), and_assoc]

theorem step_wait : step s (.wait t k r m) = some s' ↔ ∃ st, s.tx t = some st ∧ st.committing = false ∧
    st.waiting = none ∧ assoc s.names r = some k ∧ st.holdOf r = none ∧ st.mayWait k = true ∧
    s' = s.setTx t { st with waiting := some (k, r, m) } := by
  simp only [step]
  cases s.tx t with
  | none => simp
  | some st => simp [Option.ite_none_left_eq_some, eq_comm (a := s'), and_assoc]

theorem step_lock : step s (.lock t k r m) = some s' ↔ ∃ st, s.tx t = some st ∧ st.waiting = some (k, r, m) ∧
    s.free r m = true ∧
    s' = s.setTx t ({ st with waiting := none }.setHold { rid := r, key := k, mode := m, valid := false }) := by
  simp only [step]
  cases s.tx t with
  | none => simp
  | some st => simp [Option.ite_none_left_eq_some, eq_comm (a := s')]

theorem step_valid {ok : Bool} : step s (.valid t k r ok) = some s' ↔ ∃ st h, s.tx t = some st ∧
    st.holdOf r = some h ∧ h.valid = false ∧ h.key = k ∧
    ((ok = false ∧ s' = s) ∨
      (ok = true ∧ s.lookup k = some r ∧ s' = s.setTx t (st.setHold { h with valid := true }))) := by
  simp only [step]
  cases s.tx t with
  | none => simp
  | some st =>
    cases hh : st.holdOf r with
    | none => simp [hh]
    | some h => cases ok <;> simp [hh, Option.ite_none_left_eq_some, eq_comm (a := s'), and_assoc]

theorem step_publish : step s (.publish t k r) = some s' ↔ ∃ st h, s.tx t = some st ∧
    st.holdOf r = some h ∧ h.valid = true ∧ h.mode = .w ∧ h.key = k ∧ st.committing = false ∧
    assoc s.pending k = some r ∧ assoc s.index k = none ∧
    s' = { s with pending := erase s.pending k, index := put s.index k r } := by
  simp only [step]
  cases s.tx t with
  | none => simp
  | some st =>
    cases hh : st.holdOf r with
    | none => simp [hh]
    | some h => simp [hh, Option.ite_none_left_eq_some, eq_comm (a := s'), and_assoc]

theorem step_unlink : step s (.unlink t k r) = some s' ↔ ∃ st h, s.tx t = some st ∧
    st.holdOf r = some h ∧ h.valid = true ∧ h.mode = .w ∧ h.key = k ∧ st.committing = false ∧
    assoc s.index k = some r ∧ s' = { s with index := erase s.index k } := by
  simp only [step]
  cases s.tx t with
  | none => simp
  | some st =>
    cases hh : st.holdOf r with
    | none => simp [hh]
    | some h => simp [hh, Option.ite_none_left_eq_some, eq_comm (a := s'), and_assoc]

theorem step_commit : step s (.commit t) = some s' ↔ ∃ st, s.tx t = some st ∧ st.committing = false ∧
    st.waiting = none ∧ (∀ h ∈ st.holds, h.valid = true) ∧ s' = s.setTx t { st with committing := true } := by
  simp only [step]
  cases s.tx t with
  | none => simp
  | some st => simp [Option.ite_none_left_eq_some, eq_comm (a := s'), and_assoc]

theorem step_trylock : step s (.trylock t k r) = some s' ↔ ∃ st, s.tx t = some st ∧ st.committing = true ∧
    assoc s.names r = some k ∧ s.free r .w = true ∧
    s' = s.setTx t (st.setHold { rid := r, key := k, mode := .w, valid := s.lookup k == some r }) := by
  simp only [step]
  cases s.tx t with
  | none => simp
  | some st => simp [Option.ite_none_left_eq_some, eq_comm (a := s')]

theorem step_drop : step s (.drop t k r) = some s' ↔ ∃ st h, s.tx t = some st ∧
    st.holdOf r = some h ∧ st.committing = true ∧ h.mode = .w ∧ h.key = k ∧
    assoc s.pending k = some r ∧ s' = { s with pending := erase s.pending k } := by
  simp only [step]
  cases s.tx t with
  | none => simp
  | some st =>
    cases hh : st.holdOf r with
    | none => simp [hh]
    | some h => simp [hh, Option.ite_none_left_eq_some, eq_comm (a := s'), and_assoc]

theorem step_unlock : step s (.unlock t r) = some s' ↔ ∃ st h, s.tx t = some st ∧
    st.holdOf r = some h ∧ (st.committing = true ∨ h.valid = false) ∧ s' = s.setTx t (st.delHold r) := by
  simp only [step]
  cases s.tx t with
  | none => simp
  | some st =>
    cases hh : st.holdOf r with
    | none => simp [hh]
    | some h => cases hc : st.committing <;> simp [hh, hc, eq_comm (a := s')]

theorem step_fin : step s (.fin t) = some s' ↔ ∃ st, s.tx t = some st ∧ st.holds = [] ∧ st.waiting = none ∧
    s' = { s with txs := erase s.txs t } := by
  simp only [step]
  cases s.tx t with
  | none => simp
  | some st => simp [Option.ite_none_left_eq_some, eq_comm (a := s'), and_assoc]

theorem step_clear : step s .clear = some s' ↔ s' = { s with index := [] } := by
  simp [step, eq_comm (a := s')]

theorem unlock_cases {st : TxSt} {h : Hold}
    (hs : step s (.unlock t r) = some s') (htx : s.tx t = some st) (hof : st.holdOf r = some h) :
    st.committing = true ∨ h.valid = false := by
  obtain ⟨st1, h0, h1, hof0, hcv, _⟩ := step_unlock.1 hs
  rw [htx] at h1; cases h1; rw [hof] at hof0; cases hof0
  exact hcv

end NodisVerif.Proofs.Proto

import NodisVerif.Proofs.SkiplistInv
/-
  One level of the skiplist on its own. `insert` and `removeNode` are loops over the levels, and turn `j` writes only
  level-`j` slots; `Linked` and the span discipline of nil links (`NilSpans`, Proofs/SkiplistSpansRun.lean) both say
  "for every level, something about that level". Here the level is a list `L` of nodes and two functions: `p x` = node
  `x` takes part in the level, `s x` = its slot. What `insert` does to a level is one of two things (`RewireNs`), what
  `removeNode` does is one of the two converses (`Unwire`); that a level stays a level under them (`LevelNs.insert`,
  `LevelNs.remove`) is a fact about lists, with no heap in it. The proofs about the heap (`InsCtx.level`,
  `Unlink.level_remove`) only have to say which of the two cases a level is in.
-/
namespace NodisVerif.Skiplist

/-- the nodes of `L` that take part are chained by `forward`, and the span of a link that exists is the distance in `L`.
    With `ns = some len` also the nil links are bound: the one of the node at position `q` carries span `len - q`
    (`len` = `skiplist.length`, as in Redis); `ns = none` says nothing about them. -/
def LevelNs (ns : Option Int) (p : Nat → Bool) (s : Nat → Option Level) (L : List Nat) : Prop :=
  ∀ A n B l, L = A ++ n :: B → s n = some l →
    l.forward = B.find? p ∧ (l.forward ≠ none → l.span = (B.findIdx p : Int) + 1) ∧
    ∀ len, ns = some len → l.forward = none → l.span = len - (A.length : Int)

theorem linked_iff_levels (h : List Node) (L : List Nat) :
    Linked h L ↔ ∀ j, LevelNs none (above h j) (lv h · j) L := by
  rw [linked_iff_split]
  exact ⟨fun H j A n B l hs hl => ⟨(H A n B hs j l hl).1, (H A n B hs j l hl).2, fun _ h => by cases h⟩,
    fun H A n B hs j l hl => ⟨(H j A n B l hs hl).1, (H j A n B l hs hl).2.1⟩⟩

theorem LevelNs.weaken {ns : Option Int} {p : Nat → Bool} {s : Nat → Option Level} {L : List Nat}
    (h : LevelNs ns p s L) : LevelNs none p s L :=
  fun A n B l hs hl => ⟨(h A n B l hs hl).1, (h A n B l hs hl).2.1, fun _ e => by cases e⟩

theorem LevelNs.congr {ns : Option Int} {p p' : Nat → Bool} {s s' : Nat → Option Level} {L : List Nat}
    (hp : ∀ x ∈ L, p' x = p x) (hs : ∀ x ∈ L, s' x = s x) (h : LevelNs ns p s L) : LevelNs ns p' s' L := by
  intro A n B l hsp hl
  rw [hs n (by rw [hsp]; simp)] at hl
  have hc := find_congr2 (p := p') (q := p) (B := B) (fun y hy => hp y (by rw [hsp]; simp [hy]))
  rw [hc.1, hc.2]
  exact h A n B l hsp hl

theorem LevelNs.single {ns : Option Int} {p : Nat → Bool} {s : Nat → Option Level} {z : Nat} {rest : List Nat}
    (hsp : ∀ x l, s x = some l → p x = true) (hrest : ∀ y ∈ rest, p y = false)
    (hz : ∀ l, s z = some l → l.forward = none ∧ ∀ len, ns = some len → l.span = len) :
    LevelNs ns p s (z :: rest) := by
  intro A n B l hs hl
  cases A with
  | cons a A' =>
    simp only [List.cons_append, List.cons.injEq] at hs
    have := hrest n (by rw [hs.2]; simp)
    rw [hsp n l hl] at this; cases this
  | nil =>
    simp only [List.nil_append, List.cons.injEq] at hs
    obtain ⟨rfl, rfl⟩ := hs
    obtain ⟨hf, hspan⟩ := hz l hl
    rw [find_all_false hrest]
    exact ⟨hf, fun h => absurd hf h, fun len hlen _ => by rw [hspan len hlen]; simp⟩

theorem mem_behind_of_last {p : Nat → Bool} {P A B A' S1 : List Nat} {u n : Nat} (hP : P = A ++ u :: B)
    (hB : ∀ y ∈ B, p y = false) (hPn : P = A' ++ n :: S1) (hnu : n ≠ u) (hn : p n = true) : u ∈ S1 := by
  rcases append_eq_append_cons (hPn.symm.trans hP) with ⟨as, _, e2⟩ | ⟨S2, _, e2⟩
  · cases as with
    | nil => simp at e2; exact absurd e2.1 hnu
    | cons a as => simp at e2; rw [e2.2]; simp
  · have := hB n (by rw [e2]; simp)
    rw [hn] at this; cases this

/-- what `insert` does on one level to the slot of `u = update[j]` and to the slot of the new node `N`, `d` nodes
    behind `u`: either `N` takes part and is spliced in behind `u`, or it does not and the link of `u` grows by one -/
inductive RewireNs (ns : Option Int) (p' : Nat → Bool) (s s' : Nat → Option Level) (u N : Nat) (d : Nat) : Prop
  | splice (l : Level) (hN : p' N = true) (hu : s u = some l)
      (hu' : s' u = some { forward := some N, span := (d : Int) + 1 })
      (hN' : s' N = some { forward := l.forward, span := l.span - d })
  | bump (l l' : Level) (hN : p' N = false) (hN' : s' N = none) (hu : s u = some l) (hu' : s' u = some l')
      (hf : l'.forward = l.forward) (hsp : l.forward ≠ none ∨ ns.isSome = true → l'.span = l.span + 1)

theorem LevelNs.insert {ns : Option Int} {p p' : Nat → Bool} {s s' : Nat → Option Level} {P S A B : List Nat}
    {u N : Nat}
    (hnd : (P ++ N :: S).Nodup) (hold : LevelNs ns p s (P ++ S))
    (hsp : ∀ x l, s x = some l → p x = true)
    (hP : P = A ++ u :: B) (hu : p u = true) (hB : ∀ y ∈ B, p y = false)
    (hp : ∀ x, x ≠ N → p' x = p x) (hs : ∀ x, x ≠ u → x ≠ N → s' x = s x)
    (hr : RewireNs ns p' s s' u N B.length) :
    LevelNs (ns.map (· + 1)) p' s' (P ++ N :: S) := by
  obtain ⟨hPnd, hNS, hdisj⟩ := List.nodup_append.1 hnd
  have hNP : N ∉ P := fun h => hdisj N h N (by simp) rfl
  have hNSm : N ∉ S := (List.nodup_cons.1 hNS).1
  have huP : u ∈ P := by rw [hP]; simp
  have hcg : ∀ X : List Nat, N ∉ X → X.find? p' = X.find? p ∧ X.findIdx p' = X.findIdx p := fun X hX =>
    find_congr2 (fun y hy => hp y (fun e => hX (e ▸ hy)))
  have hB' : ∀ y ∈ B, p' y = false := fun y hy => by
    rw [hp y (fun e => hNP (by rw [← e, hP]; simp [hy]))]; exact hB y hy
  have hns : ∀ len', ns.map (· + 1) = some len' → ∃ len, ns = some len ∧ len' = len + 1 := by
    intro len' h
    cases ns with
    | none => simp at h
    | some len => exact ⟨len, rfl, by simpa using h.symm⟩
  have hPl : (P.length : Int) = A.length + 1 + B.length := by rw [hP]; simp; omega
  have hul : ∀ l, s u = some l → l.forward = S.find? p ∧
      (l.forward ≠ none → l.span = (B.length : Int) + S.findIdx p + 1) ∧
      ∀ len, ns = some len → l.forward = none → l.span = len - (A.length : Int) := by
    intro l hl
    obtain ⟨e1, e2, e3⟩ := hold A u (B ++ S) l (by rw [hP]; simp) hl
    rw [(find_append_none hB).1] at e1
    rw [(find_append_none hB).2] at e2
    exact ⟨e1, fun h => by rw [e2 h]; push_cast; omega, e3⟩
  intro A' n B' l' hsplit hl'
  -- where `n` sits: it is the new node, it is behind it, or it is in `P`
  rcases append_eq_append_cons hsplit with ⟨as, hA', has⟩ | ⟨S1, hPn, rfl⟩
  · cases as with
    | nil =>
      simp only [List.nil_append, List.cons.injEq] at has
      obtain ⟨rfl, rfl⟩ := has
      rcases hr with ⟨l, _, hsu, _, hN'⟩ | ⟨_, _, _, hN', _, _, _, _⟩
      · rw [hN'] at hl'; cases hl'
        obtain ⟨e1, e2, e3⟩ := hul l hsu
        rw [(hcg _ hNSm).1, (hcg _ hNSm).2]
        refine ⟨e1, fun h => by simp only at h ⊢; rw [e2 h]; omega, fun len' hl hf => ?_⟩
        obtain ⟨len, hlen, rfl⟩ := hns len' hl
        simp only at hf ⊢
        rw [e3 len hlen hf, hA']; simp only [List.append_nil]; omega
      · rw [hN'] at hl'; cases hl'
    | cons a as' =>
      simp only [List.cons_append, List.cons.injEq] at has
      obtain ⟨rfl, rfl⟩ := has
      have hnS : n ∈ as' ++ n :: B' := by simp
      have hnN : n ≠ N := fun e => hNSm (e ▸ hnS)
      have hnu : n ≠ u := fun e => hdisj u huP n (List.mem_cons_of_mem _ hnS) e.symm
      rw [hs n hnu hnN] at hl'
      have hNB : N ∉ B' := fun h => hNSm (by simp [h])
      rw [(hcg _ hNB).1, (hcg _ hNB).2]
      obtain ⟨e1, e2, e3⟩ := hold (P ++ as') n B' l' (by simp) hl'
      refine ⟨e1, e2, fun len' hl hf => ?_⟩
      obtain ⟨len, hlen, rfl⟩ := hns len' hl
      rw [e3 len hlen hf, hA']; simp; omega
  · have hNS1 : N ∉ S1 := fun h => hNP (by rw [hPn]; simp [h])
    by_cases hnu : n = u
    · subst hnu
      obtain ⟨rfl, rfl⟩ := split_unique hPnd hPn hP
      rcases hr with ⟨l, hN, _, hu', _⟩ | ⟨l, l2, hN, _, hsu, hu', hf, hspan⟩
      · rw [hu'] at hl'; cases hl'
        rw [(find_append_none hB').1, (find_append_none hB').2]
        simp [List.findIdx_cons, hN]
      · rw [hu'] at hl'; cases hl'
        obtain ⟨e1, e2, e3⟩ := hul l hsu
        rw [(find_append_none hB').1, (find_append_none hB').2, List.find?_cons, List.findIdx_cons, hN,
          (hcg _ hNSm).1, (hcg _ hNSm).2, hf]
        refine ⟨e1, fun h => by rw [hspan (Or.inl h), e2 h]; simp only [cond_false]; push_cast; omega,
          fun len' hl hf' => ?_⟩
        obtain ⟨len, hlen, rfl⟩ := hns len' hl
        rw [hspan (Or.inr (by rw [hlen]; rfl)), e3 len hlen hf']; omega
    · have hnN : n ≠ N := fun e => hNP (by rw [← e, hPn]; simp)
      rw [hs n hnu hnN] at hl'
      have huS1 : u ∈ S1 := mem_behind_of_last hP hB hPn hnu (hsp n l' hl')
      have hex : ∃ y ∈ S1, p y = true := ⟨u, huS1, hu⟩
      have hex' : ∃ y ∈ S1, p' y = true := ⟨u, huS1, by rw [hp u (fun e => hNS1 (e ▸ huS1))]; exact hu⟩
      obtain ⟨e1, e2, _⟩ := hold A' n (S1 ++ S) l' (by rw [hPn]; simp) hl'
      rw [(find_append_some hex').1, (find_append_some hex').2, (hcg _ hNS1).1, (hcg _ hNS1).2,
        ← (find_append_some (X := S) hex).1, ← (find_append_some (X := S) hex).2]
      refine ⟨e1, e2, fun _ _ hf => ?_⟩
      rw [e1, (find_append_some hex).1, List.find?_eq_none] at hf
      exact absurd hu (hf u huS1)

/-- what `removeNode` does to the slot of `u = update[j]`: it takes over the link of `N` if it pointed to `N`, else its
    link shrinks by one -/
inductive Unwire (p : Nat → Bool) (s' s : Nat → Option Level) (u N : Nat) : Prop
  | unsplice (lu lN : Level) (hN : p N = true) (hu' : s' u = some lu) (hN' : s' N = some lN)
      (hu : s u = some { forward := lN.forward, span := lu.span + (lN.span - 1) })
  | unbump (lu : Level) (hN : p N = false) (hu' : s' u = some lu) (hu : s u = some { lu with span := lu.span - 1 })

theorem LevelNs.remove {ns : Option Int} {p : Nat → Bool} {s' s : Nat → Option Level} {P S A B : List Nat} {u N : Nat}
    (hnd : (P ++ N :: S).Nodup) (hold : LevelNs ns p s' (P ++ N :: S))
    (hsp : ∀ x l, s' x = some l → p x = true)
    (hP : P = A ++ u :: B) (hu : p u = true) (hB : ∀ y ∈ B, p y = false)
    (hs : ∀ x, x ≠ u → s x = s' x) (hr : Unwire p s' s u N) :
    LevelNs (ns.map (· - 1)) p s (P ++ S) := by
  obtain ⟨hPnd, hNS, hdisj⟩ := List.nodup_append.1 hnd
  have huP : u ∈ P := by rw [hP]; simp
  have hns : ∀ len', ns.map (· - 1) = some len' → ∃ len, ns = some len ∧ len' = len - 1 := by
    intro len' h
    cases ns with
    | none => simp at h
    | some len => exact ⟨len, rfl, by simpa using h.symm⟩
  have hPl : (P.length : Int) = A.length + 1 + B.length := by rw [hP]; simp; omega
  intro A' n B' l hsplit hl
  rcases append_eq_append_cons hsplit with ⟨as, hA', rfl⟩ | ⟨S1, hPn, rfl⟩
  · have hnS : n ∈ as ++ n :: B' := by simp
    have hnu : n ≠ u := fun e => hdisj u huP n (List.mem_cons_of_mem _ hnS) e.symm
    rw [hs n hnu] at hl
    obtain ⟨e1, e2, e3⟩ := hold (P ++ N :: as) n B' l (by simp) hl
    refine ⟨e1, e2, fun len' hl hf => ?_⟩
    obtain ⟨len, hlen, rfl⟩ := hns len' hl
    rw [e3 len hlen hf, hA']; simp; omega
  · by_cases hnu : n = u
    · subst hnu
      obtain ⟨rfl, rfl⟩ := split_unique hPnd hPn hP
      rw [(find_append_none hB).1, (find_append_none hB).2]
      rcases hr with ⟨lu, lN, hN, hu', hN', hsu⟩ | ⟨lu, hN, hu', hsu⟩
      · rw [hsu] at hl; cases hl
        obtain ⟨d1, d2, _⟩ := hold A' n (S1 ++ N :: S) lu (by rw [hPn]; simp) hu'
        obtain ⟨e1, e2, e3⟩ := hold P N S lN rfl hN'
        rw [(find_append_none hB).2] at d2
        rw [(find_append_none hB).1, List.find?_cons, hN] at d1
        simp only [List.findIdx_cons, hN, cond_true] at d2
        have d2' := d2 (by rw [d1]; simp)
        refine ⟨e1, fun h => by simp only at h ⊢; rw [d2', e2 h]; push_cast; omega, fun len' hl hf => ?_⟩
        obtain ⟨len, hlen, rfl⟩ := hns len' hl
        simp only at hf ⊢
        rw [d2', e3 len hlen hf]; omega
      · rw [hsu] at hl; cases hl
        obtain ⟨d1, d2, d3⟩ := hold A' n (S1 ++ N :: S) lu (by rw [hPn]; simp) hu'
        rw [(find_append_none hB).2] at d2
        rw [(find_append_none hB).1] at d1
        simp only [List.find?_cons, List.findIdx_cons, hN, cond_false] at d1 d2
        refine ⟨d1, fun h => by simp only at h ⊢; rw [d2 h]; push_cast; omega, fun len' hl hf => ?_⟩
        obtain ⟨len, hlen, rfl⟩ := hns len' hl
        simp only at hf ⊢
        rw [d3 len hlen hf]; omega
    · rw [hs n hnu] at hl
      have huS1 : u ∈ S1 := mem_behind_of_last hP hB hPn hnu (hsp n l hl)
      have hex : ∃ y ∈ S1, p y = true := ⟨u, huS1, hu⟩
      obtain ⟨e1, e2, _⟩ := hold A' n (S1 ++ N :: S) l (by rw [hPn]; simp) hl
      rw [(find_append_some hex).1, ← (find_append_some (X := N :: S) hex).1,
        (find_append_some hex).2, ← (find_append_some (X := N :: S) hex).2]
      refine ⟨e1, e2, fun _ _ hf => ?_⟩
      rw [e1, (find_append_some hex).1, List.find?_eq_none] at hf
      exact absurd hu (hf u huS1)

end NodisVerif.Skiplist

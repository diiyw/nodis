import NodisVerif.Proofs.FloatDecLen
import NodisVerif.Proofs.C20Hash
/-
  C20, HIncrByFloat.  The record is the increment itself; a call that finds no float (or leaves the model's float
  fragment) delivers nothing and changes nothing.  The new text of a field is at most 1000 bytes
  (Proofs/FloatDecLen.lean), which is what keeps the hash representable.
-/
namespace NodisVerif.Proofs.C20
open NodisVerif NodisVerif.Store NodisVerif.Spec.Persist NodisVerif.Proofs.C11

variable {now : Int} {p r : MState}

theorem toInt?_bound {x : F64} {n : Int} (h : F64.toInt? x = some n) : inInt64 n = true := by
  have hm : F64.manBits x < 2 ^ 52 := by
    unfold F64.manBits
    rw [UInt64.toNat_and]
    exact Nat.lt_of_le_of_lt Nat.and_le_right (by decide)
  -- every result is ±v for a natural number v ≤ 2^53
  have small : ∀ (v : Nat) (neg : Bool), v ≤ 2 ^ 53 → inInt64 (if neg then -(v : Int) else v) = true := by
    intro v neg hv
    unfold inInt64 int64Min int64Max
    rw [decide_eq_true_eq]
    cases neg <;> simp only [Bool.false_eq_true, if_false, if_true] <;> omega
  generalize hs : F64.manBits x + 2 ^ 52 = sig at *
  unfold F64.toInt? at h
  simp only [hs] at h
  generalize F64.expBits x = e at h
  generalize F64.sign x = neg at h
  -- the conditions one by one (`split at h` is very slow on them)
  by_cases h1 : e = 0
  · rw [if_pos h1] at h
    by_cases h0 : F64.manBits x = 0
    · rw [if_pos h0] at h; cases h; rfl
    · rw [if_neg h0] at h; cases h
  rw [if_neg h1] at h
  by_cases h2 : e = 0x7FF
  · rw [if_pos h2] at h; cases h
  rw [if_neg h2] at h
  by_cases h3 : e ≥ 1075
  · rw [if_pos h3] at h
    by_cases hv : ((sig * 2 ^ (e - 1075) : Nat) : Int) ≤ F64.pow2_53
    · rw [if_pos hv] at h
      cases h
      exact small _ _ (Int.ofNat_le.mp hv)
    · rw [if_neg hv] at h; cases h
  rw [if_neg h3] at h
  by_cases h4 : 1075 - e > 52
  · rw [if_pos h4] at h; cases h
  rw [if_neg h4] at h
  by_cases h5 : sig % 2 ^ (1075 - e) = 0
  · rw [if_pos h5] at h
    cases h
    exact small _ _ (Nat.le_trans (Nat.div_le_self _ _) (by omega))
  · rw [if_neg h5] at h; cases h

/-- FormatFloat(x,'f',-1,64) is at most 1000 bytes long (Proofs/FloatDecLen.lean) -/
theorem formatFloat_length {x : F64} {t : Bytes} (h : Api.formatFloat x = some t) : t.length ≤ 1000 := by
  unfold Api.formatFloat at h
  cases h
  exact Proofs.FloatDecLen.formatShortest_length x

theorem hibfCalc_len {h : AList Bytes} {field : Bytes} {delta : F64} {t : Bytes} {x : F64}
    (hc : hibfCalc h field delta = .inl (t, x)) : t.length ≤ 1000 := by
  unfold hibfCalc at hc
  split at hc
  · split at hc
    · cases hc
    · rename_i hf; simp only [Sum.inl.injEq, Prod.mk.injEq] at hc; rw [← hc.1]; exact formatFloat_length hf
  · split at hc
    · cases hc
    · cases hc
    · split at hc
      · cases hc
      · split at hc
        · cases hc
        · rename_i hf; simp only [Sum.inl.injEq, Prod.mk.injEq] at hc; rw [← hc.1]; exact formatFloat_length hf

theorem hibfF_ok (key field : Bytes) (delta : F64) (hb : field.length + 1040 < 2 ^ 63) : (hibfF key field delta).OK := by
  refine ⟨(fun h => nomatch h), (fun w h => by cases h; exact good_emptyHash), fun w e hg _ => ?_⟩
  cases w with
  | hash h =>
    show (decHibf key field delta (.hash h) e).GoodA
    unfold decHibf
    simp only
    cases hc : hibfCalc h field delta with
    | inl q =>
      obtain ⟨t, x⟩ := q
      have := hibfCalc_len hc
      exact ⟨(fun w hw => by cases hw; exact good_hset h field t hg (by omega)), (fun _ he => nomatch he)⟩
    | inr b =>
      cases b
      · trivial
      · exact ⟨(fun _ hw => nomatch hw), (fun _ he => nomatch he)⟩
  | _ => trivial

theorem hibfF_nilSafe (key field : Bytes) (delta : F64) : (hibfF key field delta).NilSafe := by
  apply nilSafe_of
  · intro v e hv
    cases v <;> simp_all [hibfF, decHibf]
    split <;> simp
  · intro v0 h0
    simp only [hibfF, Option.some.injEq] at h0
    subst h0
    simp only [hibfF, decHibf]
    split <;> simp

/-- region: the key is missing and the increment is outside the model's float fragment (the key is
    created, the model answers `.unsupported`) -/
def HIncrByFloatCreatesAndFails (L : Option (Val × Int)) (delta : F64) : Prop :=
  L = none ∧ Api.formatFloat delta = none

theorem hincrbyfloat_echo (c : Feed.CallInfo) (hc : c.method = "HIncrByFloat") (k f : Bytes) (delta : F64)
    (hb : f.length + 1040 < 2 ^ 63) (L : Option (Val × Int)) (hlive : Live now L)
    (hreg : ¬ HIncrByFloatCreatesAndFails L delta) : Echo now (Feed.emission c) (hibfF k f delta) L := by
  have hem1 := fun x raw => (emission_hincr (c := c) (Or.inr hc) x raw).1
  have hem2 := fun x raw => (emission_hincr (c := c) (Or.inr hc) x raw).2
  have hem3 := emission_hincr_nil (c := c) (Or.inr hc)
  refine echo_dec (hem3 _) fun w e hsee => ?_
  cases w with
  | hash h =>
    cases hcalc : hibfCalc h f delta with
    | inl q =>
      obtain ⟨t, x⟩ := q
      refine Or.inr ⟨opHIncrByFloat k f delta, hibfF k f delta, ?_, rfl, hibfF_ok k f delta hb, rfl, hsee,
        fun r0 => by rw [opHIncrByFloat, replica_hincrbyfloat, hincrbyfloat_eq], rfl⟩
      simp [hibfF, decHibf, hcalc, Act.ops, Act.reply, hem2]
    | inr b =>
      left
      rcases TxForm.sees_cases hsee with rfl | ⟨h0, hc0, _⟩
      · cases b <;> simp [hibfF, decHibf, hcalc, Act.ops, Act.reply, Act.post, Act.eff, hem1, hem3, hlive _ _ rfl]
      · cases hc0
        refine absurd ⟨h0, ?_⟩ hreg
        simp only [hibfCalc, DsHash.hget, AList.get?] at hcalc
        cases hf : Api.formatFloat delta with
        | none => rfl
        | some t => rw [hf] at hcalc; cases hcalc
  | _ =>
    left
    rcases TxForm.sees_cases hsee with rfl | ⟨_, hc0, _⟩
    · simp [hibfF, decHibf, Act.ops, Act.reply, Act.post, Act.eff, hem3]
    · cases hc0

end NodisVerif.Proofs.C20

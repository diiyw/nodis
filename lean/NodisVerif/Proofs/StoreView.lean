import NodisVerif.Spec.View
import NodisVerif.Spec.Persist
import NodisVerif.Proofs.StoreLemmas
import NodisVerif.Proofs.CodecLemmas
/-
  The observable record of a key and the rest of the state (`Store.vis`, `Store.frame`), under every primitive.

  `Store.vis now s k` (Spec/View) is the finest description of what the record of `k` shows at `now`; the logical
  keyspace of C11 / C12 (`Spec.Persist.lookup`) and the logical content of C01 (`C01.lookup`) are readings of it
  (`plookup_eq`, `C01.lookup_eq_vis`).  So what a store primitive does to the logical content is said once, for `vis`
  and for the non-index fields `Store.frame`, and holds of every store state.  Names other than the one a primitive
  works on keep their view by `C01.FrameOn` (`frameOn_vis`).  The lookup gets one theorem (`accessKey_view`), with the
  time it runs and the time its result is looked at kept apart, since C11 / C12 look at a state at later times.
  The names are in `Proofs.C01` (frames), `Proofs.C10` (`vis` under the primitives) and `Proofs.StoreView`.
-/
namespace NodisVerif.Proofs.C01
open NodisVerif
open NodisVerif.Proofs.AListLemmas NodisVerif.Proofs.AListLemmas2
open Store Api

/-- outside the key set `K`, `s'` has the records of `s` and the backend hands back the same
    values; the backend kind is the same -/
def FrameOn (K : List Bytes) (s s' : MState) : Prop :=
  s'.pebble = s.pebble ∧
  (∀ k' m, k' ∉ K → loadValue s' k' m = loadValue s k' m) ∧
  (∀ k', k' ∉ K → getMeta s' k' = getMeta s k')

theorem FrameOn.refl (K : List Bytes) (s : MState) : FrameOn K s s := ⟨rfl, fun _ _ _ => rfl, fun _ _ => rfl⟩
theorem FrameOn.trans {K : List Bytes} {a b c : MState} (h1 : FrameOn K a b) (h2 : FrameOn K b c) : FrameOn K a c :=
  ⟨h2.1.trans h1.1, fun k' m hk => (h2.2.1 k' m hk).trans (h1.2.1 k' m hk),
    fun k' hk => (h2.2.2 k' hk).trans (h1.2.2 k' hk)⟩
theorem FrameOn.mono {K K' : List Bytes} {s s' : MState} (h : FrameOn K s s') (hs : ∀ x, x ∈ K → x ∈ K') :
    FrameOn K' s s' :=
  ⟨h.1, fun k' m hk => h.2.1 k' m (fun hx => hk (hs _ hx)), fun k' hk => h.2.2 k' (fun hx => hk (hs _ hx))⟩

theorem not_mem_ne {K : List Bytes} {k k' : Bytes} (hk : k ∈ K) (h : k' ∉ K) : k' ≠ k :=
  fun e => h (e ▸ hk)

/-- `s'` is `s` except that backend entries stored under the name `k` may be gone: what `unpersist`
    does, and with it the inner steps of `newKeyWith` and `delKey` -/
def DropsEntry (k : Bytes) (s s' : MState) : Prop :=
  s' = { s with disk := s'.disk } ∧ (s.disk = [] → s'.disk = []) ∧
  ∀ k' m, k' ≠ k → loadValue s' k' m = loadValue s k' m

namespace DropsEntry
variable {k : Bytes} {s s' : MState} (h : DropsEntry k s s')
include h
theorem index : s'.index = s.index := (congrArg MState.index h.1 :)
theorem pebble : s'.pebble = s.pebble := (congrArg MState.pebble h.1 :)
theorem nextId : s'.nextId = s.nextId := (congrArg MState.nextId h.1 :)
theorem locks : s'.hung = s.hung ∧ s'.held = s.held := ⟨(congrArg MState.hung h.1 :), (congrArg MState.held h.1 :)⟩
theorem getMeta (k' : Bytes) : Store.getMeta s' k' = Store.getMeta s k' := congrArg (AList.get? · k') h.index
theorem frame : Store.frame s' = Store.frame s := (congrArg Store.frame h.1 :)
theorem frameOn {K : List Bytes} (hk : k ∈ K) : FrameOn K s s' :=
  ⟨h.pebble, fun k' m hn => h.2.2 k' m (not_mem_ne hk hn), fun k' _ => h.getMeta k'⟩
end DropsEntry

theorem LockOp.frame {lock : MState → Bytes → MState} (hl : LockOp lock) (s : MState) (k : Bytes) :
    Store.frame (lock s k) = Store.frame s := by
  rw [hl s k]; rfl

theorem DropsEntry.refl (k : Bytes) (s : MState) : DropsEntry k s s := ⟨rfl, id, fun _ _ _ => rfl⟩

/-- entries are addressed by (deadline, name), and the encoding is injective: another name's entry stays -/
theorem unpersist_drops (s : MState) (k : Bytes) (m0 : Meta) : DropsEntry k s (unpersist s k m0) := by
  unfold unpersist diskDelete
  cases m0.stored with
  | none => exact .refl k s
  | some e0 =>
    refine ⟨rfl, fun h => ?_, fun k' m hk => ?_⟩
    · show AList.erase s.disk _ = []
      rw [h]; rfl
    · unfold loadValue diskGet
      simp only
      rw [get?_erase_other _ _ _ (fun heq => hk (CodecLemmas.encodeKey_inj heq).1)]

theorem nkBase_drops (s : MState) (k : Bytes) (old : Option Meta) :
    DropsEntry k { s with nextId := s.nextId + 1 + 1 } (nkBase s k old) := by
  unfold nkBase
  cases old with
  | some _ => exact .refl _ _
  | none =>
    cases getMeta ({ s with nextId := s.nextId + 1 + 1 } : MState) k with
    | none => exact .refl _ _
    | some dead => exact unpersist_drops _ k dead

theorem delKey_eq (s : MState) (k : Bytes) :
    ∃ s1, DropsEntry k s s1 ∧
      delKey s k = { s1 with index := AList.erase s1.index k, held := s1.held.filter (·.1 ≠ k) } := by
  unfold delKey
  cases AList.get? s.index k with
  | none => exact ⟨s, .refl k s, rfl⟩
  | some m => exact ⟨unpersist s k m, unpersist_drops s k m, rfl⟩

theorem frameOn_same {K : List Bytes} {s s' : MState} (hd : SameDisk s s')
    (hg : ∀ k', k' ∉ K → getMeta s' k' = getMeta s k') : FrameOn K s s' :=
  ⟨hd.2, fun k' m _ => loadValue_congr hd k' m m rfl, hg⟩

theorem frameOn_putMeta {K : List Bytes} (s : MState) (k : Bytes) (m : Meta) (hk : k ∈ K) :
    FrameOn K s (putMeta s k m) :=
  frameOn_same (sameDisk_putMeta s k m) (fun k' h => getMeta_putMeta_other s k m k' (not_mem_ne hk h))

theorem frameOn_unpersist {K : List Bytes} (s : MState) (k : Bytes) (m : Meta) (hk : k ∈ K) :
    FrameOn K s (unpersist s k m) :=
  (unpersist_drops s k m).frameOn hk

theorem frameOn_delKey {K : List Bytes} (s : MState) (k : Bytes) (hk : k ∈ K) : FrameOn K s (delKey s k) := by
  obtain ⟨s1, h, e⟩ := delKey_eq s k
  exact ⟨by rw [e]; exact h.pebble, fun k' m hn => by rw [e]; exact h.2.2 k' m (not_mem_ne hk hn),
    fun k' hn => getMeta_delKey_other s k k' (not_mem_ne hk hn)⟩

theorem frameOn_newKeyWith {K : List Bytes} (s : MState) (k : Bytes) (old : Option Meta) (v : Val) (hk : k ∈ K) :
    FrameOn K s (newKeyWith s k old v) := by
  rw [newKeyWith_eq]
  exact (frameOn_same (s' := { s with nextId := s.nextId + 1 + 1 }) ⟨rfl, rfl⟩ (fun _ _ => rfl)).trans
    (((nkBase_drops s k old).frameOn hk).trans (frameOn_putMeta _ k _ hk))

end NodisVerif.Proofs.C01

namespace NodisVerif.Proofs.C10
open NodisVerif Store
open NodisVerif.Proofs.AListLemmas NodisVerif.Proofs.AListLemmas2

/-- a cold record whose value can be loaded becomes hot -/
def touch (r : View.Rec) : View.Rec :=
  match r.value, r.load with
  | none, some (v, oid) => { r with value := some v, load := none, oid := oid, vtype := v.typeCode, ok := true }
  | _, _ => r

/-- does `readKey` / `writeKey … nil` find the key? -/
def rkOk (r : Option View.Rec) : Bool :=
  match r with
  | some r => r.ok && (r.value.isSome || r.load.isSome)
  | none => false

/-- the record `newKeyWith` publishes -/
def freshRec (n : Nat) (v : Val) : View.Rec :=
  { exp := 0, value := some v, load := none, vtype := v.typeCode, ok := true, modified := true,
    kid := n, oid := n + 1 }

theorem recOf_congr {s s' : MState} (h2 : s.disk = s'.disk) (h3 : s.pebble = s'.pebble) (k : Bytes) :
    recOf s k = recOf s' k := by
  funext m
  simp only [recOf, loadValue, diskGet, h2, h3]

theorem vis_congr {s s' : MState} (now : Int) (h1 : s.index = s'.index) (h2 : s.disk = s'.disk)
    (h3 : s.pebble = s'.pebble) (k : Bytes) : vis now s k = vis now s' k := by
  simp only [vis, getMeta, h1, recOf_congr h2 h3]

theorem getMeta_lockW (s : MState) (k k' : Bytes) : getMeta (lockW s k) k' = getMeta s k' :=
  Store.getMeta_lockW s k k'
theorem getMeta_lockR (s : MState) (k k' : Bytes) : getMeta (lockR s k) k' = getMeta s k' :=
  Store.getMeta_lockR s k k'

theorem vis_putMeta (now : Int) (s : MState) (k k' : Bytes) (m : Meta) :
    vis now (putMeta s k m) k' =
      if k = k' then (if m.expired now then none else some (recOf s k m)) else vis now s k' := by
  have hr : ∀ x, recOf (putMeta s k m) x = recOf s x := fun x => recOf_congr rfl rfl x
  unfold vis
  rw [getMeta_putMeta, hr]
  by_cases h : k = k'
  · subst h
    simp only [if_true, Option.filter]
    by_cases he : m.expired now = true <;> simp [he]
  · rw [if_neg h, if_neg (Ne.symm h)]

theorem recOf_count (s : MState) (k : Bytes) (m : Meta) (c : Int) (st : Option Int) :
    recOf s k { m with count := c, stored := st } = recOf s k m := by
  simp only [recOf, loadValue, Meta.isOk]

theorem vis_eq_of_getMeta {now : Int} {s : MState} {k : Bytes} {m : Meta} (h : getMeta s k = some m) :
    vis now s k = if m.expired now then none else some (recOf s k m) := by
  unfold vis; rw [h]; simp only [Option.filter]
  by_cases he : m.expired now = true <;> simp [he]

theorem vis_none_of_getMeta {now : Int} {s : MState} {k : Bytes} (h : getMeta s k = none) :
    vis now s k = none := by
  unfold vis; rw [h]; rfl

theorem vis_some_getMeta {now : Int} {s : MState} {k : Bytes} {r : View.Rec} (h : vis now s k = some r) :
    ∃ m, getMeta s k = some m ∧ m.expired now = false ∧ r = recOf s k m := by
  cases hm : getMeta s k with
  | none => rw [vis_none_of_getMeta hm] at h; cases h
  | some m =>
    rw [vis_eq_of_getMeta hm] at h
    split at h
    · cases h
    · rename_i he
      simp only [Option.some.injEq] at h
      exact ⟨m, rfl, by simpa using he, h.symm⟩

theorem unpersist_pebble (s : MState) (k : Bytes) (m : Meta) : (unpersist s k m).pebble = s.pebble := by
  rw [unpersist_eq]
theorem unpersist_frame (s : MState) (k : Bytes) (m : Meta) : frame (unpersist s k m) = frame s := by
  rw [unpersist_eq]; rfl
theorem unpersist_nextId (s : MState) (k : Bytes) (m : Meta) : (unpersist s k m).nextId = s.nextId := by
  rw [unpersist_eq]
theorem frameOn_vis {K : List Bytes} {s s' : MState} (h : C01.FrameOn K s s') (now : Int) {k' : Bytes}
    (hk : k' ∉ K) : vis now s' k' = vis now s k' := by
  unfold vis
  rw [h.2.2 k' hk]
  have : recOf s' k' = recOf s k' := by
    funext m; simp only [recOf, h.2.1 k' m hk]
  rw [this]

theorem delKey_frame (s : MState) (k : Bytes) : frame (delKey s k) = frame s := by
  obtain ⟨s1, h, e⟩ := C01.delKey_eq s k
  rw [e]; exact h.frame
theorem vis_delKey (now : Int) (s : MState) (k k' : Bytes) (hs : AList.Sorted s.index) :
    vis now (delKey s k) k' = if k = k' then none else vis now s k' := by
  by_cases h : k = k'
  · subst h
    rw [if_pos rfl]; exact vis_none_of_getMeta (getMeta_delKey_same s k hs)
  · rw [if_neg h]
    exact frameOn_vis (C01.frameOn_delKey (K := [k]) s k List.mem_cons_self) now (by simpa using Ne.symm h)

theorem recOf_fresh (s : MState) (k : Bytes) (base : Meta) (kid oid : Nat) (v : Val) :
    recOf s k (({ base with exp := 0, kid := kid, oid := oid } : Meta).setValue v).markModified =
      { exp := 0, value := some v, load := none, vtype := v.typeCode, ok := true, modified := true,
        kid := kid, oid := oid } := by
  simp only [recOf, Meta.setValue, Meta.markModified, Meta.isOk, Option.isSome_some, if_true, mod_set, mod_set_ok,
    ok_set, decide_true]

theorem expired_fresh (base : Meta) (kid oid : Nat) (v : Val) (now : Int) :
    (({ base with exp := 0, kid := kid, oid := oid } : Meta).setValue v).markModified.expired now = false := by
  simp [Meta.expired, Meta.setValue, Meta.markModified]

theorem newKeyWith_frame (s : MState) (k : Bytes) (old : Option Meta) (v : Val) :
    frame (newKeyWith s k old v) = { frame s with nextId := s.nextId + 2 } := by
  rw [Store.newKeyWith_eq]; exact (C01.nkBase_drops s k old).frame
theorem vis_newKeyWith (now : Int) (s : MState) (k k' : Bytes) (old : Option Meta) (v : Val) :
    vis now (newKeyWith s k old v) k' = if k = k' then some (freshRec s.nextId v) else vis now s k' := by
  by_cases h : k = k'
  · subst h
    rw [if_pos rfl, Store.newKeyWith_eq, vis_putMeta, if_pos rfl, expired_fresh, recOf_fresh]
    rfl
  · rw [if_neg h]
    exact frameOn_vis (C01.frameOn_newKeyWith (K := [k]) s k old v List.mem_cons_self) now
      (by simpa using Ne.symm h)

theorem recOf_bump (s s1 : MState) (k : Bytes) (m : Meta) (hd : s1.disk = s.disk) (hp : s1.pebble = s.pebble) :
    recOf s1 k (C01.bump m) = recOf s k m := by
  rw [recOf_congr hd hp]; exact recOf_count s k m _ m.stored

theorem recOf_loaded (s : MState) (k : Bytes) (m : Meta) (v : Val) (oid : Nat) (hok : m.isOk = true)
    (hc : m.value = none) (hl : loadValue s k m = some (v, oid)) :
    recOf s k (C01.loaded m oid v) = touch (recOf s k m) := by
  have h1 : m.state % 2 = 1 := by simpa [Meta.isOk] using hok
  simp only [touch, recOf, C01.loaded, C01.bump, hc, hl, Meta.setValue, Meta.isOk, h1, if_true, Option.isSome_some,
    Option.isSome_none, Bool.false_eq_true, if_false, decide_true]
/-- what an in-place mutation of the value object `oid` does to the view of a record -/
def sharedRec (oid : Nat) (v : Val) (r : View.Rec) : View.Rec :=
  { r with value := if r.oid = oid ∧ r.value.isSome then some v else r.value,
           load := r.load.map fun p => (if p.2 = oid then v else p.1, p.2) }

/-- what `setVal` on a key does to the view of a record: `self` = it is the key's own record (value replaced, hot);
    any record sees the new value iff it shares the object `oid` (`sharedRec`) -/
def setValRec (pebble : Bool) (oid : Nat) (v : Val) (self : Bool) (r : View.Rec) : View.Rec :=
  let r1 := if self then { r with value := some v, load := none } else r
  if pebble ∨ oid = 0 then r1 else sharedRec oid v r1

theorem recOf_shared (s2 : MState) (idx : AList Meta) (oid : Nat) (v : Val) (k' : Bytes) (m' : Meta)
    (hp : s2.pebble = false) :
    recOf { s2 with index := idx, disk := s2.disk.map fun p => (p.1, shareE oid v p.2) } k' (setValG oid v k' m')
      = sharedRec oid v (recOf s2 k' m') := by
  have hd : ∀ e, diskGet { s2 with index := idx, disk := s2.disk.map fun p => (p.1, shareE oid v p.2) } k' e
      = (diskGet s2 k' e).map (shareE oid v) := by
    intro e
    simp only [diskGet]
    exact get?_map (fun _ e => shareE oid v e) s2.disk _
  rw [setValG_eq]
  have hl : loadValue { s2 with index := idx, disk := s2.disk.map fun p => (p.1, shareE oid v p.2) } k'
      { m' with value := if m'.oid = oid ∧ m'.value.isSome then some v else m'.value } =
      (loadValue s2 k' m').map fun p => (if p.2 = oid then v else p.1, p.2) := by
    unfold loadValue
    dsimp only
    rw [hd]
    cases hdg : diskGet s2 k' m'.exp with
    | none => rfl
    | some e =>
      simp only [Option.map_some, hp, Bool.false_eq_true, if_false, shareE_eq]
  simp only [recOf, sharedRec, hl, Meta.isOk]
  by_cases hs : m'.value.isSome = true
  · by_cases hc : m'.oid = oid
    · simp only [hs, hc, and_self, if_true, Option.isSome_some, Option.map_none]
    · simp only [hs, hc, false_and, if_false, if_true, Option.map_none]
  · simp only [hs, Bool.false_eq_true, and_false, if_false]

theorem vis_setVal (now : Int) (s : MState) (k k' : Bytes) (v : Val) (m : Meta) (hm : getMeta s k = some m) :
    vis now (Api.setVal s k v) k' = (vis now s k').map (setValRec s.pebble m.oid v (k = k')) := by
  -- the key's own record, through `putMeta`
  have h2 : vis now (putMeta s k { m with value := some v }) k' =
      (vis now s k').map (fun r => if k = k' then { r with value := some v, load := none } else r) := by
    rw [vis_putMeta]
    by_cases h : k = k'
    · subst h
      simp only [if_true]
      rw [vis_eq_of_getMeta hm]
      have he : Meta.expired { m with value := some v } now = m.expired now := rfl
      rw [he]
      split
      · rfl
      · simp [recOf, loadValue, Meta.isOk]
    · simp [h]
  rw [setVal_eq s k v m hm]
  by_cases hc : s.pebble = true ∨ m.oid = 0
  · rw [if_pos hc, h2]
    congr 1; funext r
    simp only [setValRec, hc, if_true]
    by_cases h : k = k' <;> simp [h]
  · rw [if_neg hc]
    have hp : (putMeta s k { m with value := some v }).pebble = false := by
      show s.pebble = false
      cases hpp : s.pebble with
      | false => rfl
      | true => exact absurd (Or.inl hpp) hc
    -- the sharing map over index and backend (`setValG`, `shareE`) is `sharedRec` on views (`recOf_shared`)
    have h3 : vis now { putMeta s k { m with value := some v } with
        index := (putMeta s k { m with value := some v }).index.map fun p => (p.1, setValG m.oid v p.1 p.2),
        disk := s.disk.map fun p => (p.1, shareE m.oid v p.2) } k'
        = (vis now (putMeta s k { m with value := some v }) k').map (sharedRec m.oid v) := by
      simp only [vis, getMeta]
      rw [get?_map (fun k x => setValG m.oid v k x) _ k']
      cases hgm : AList.get? (putMeta s k { m with value := some v }).index k' with
      | none => rfl
      | some m' =>
        have he : (setValG m.oid v k' m').expired now = m'.expired now := by
          unfold setValG; split <;> rfl
        simp only [Option.map_some, Option.filter, he]
        split
        · simp only [Option.map_some, Option.some.injEq]
          exact recOf_shared (putMeta s k { m with value := some v }) _ m.oid v k' m' hp
        · rfl
    rw [h3, h2, Option.map_map]
    congr 1; funext r
    simp only [setValRec, hc, if_false, Function.comp]
    by_cases h : k = k' <;> simp [h]

theorem setVal_frame (s : MState) (k : Bytes) (v : Val) : frame (Api.setVal s k v) = frame s := by
  rw [setVal_rest]; rfl

theorem setExp_frame (s : MState) (k : Bytes) (e : Int) : frame (Api.setExp s k e) = frame s := by
  unfold Api.setExp; split <;> rfl

/-- `hot`: the value of a cold record is fetched from the backend under `m.exp` (`loadValue`), so its view under a new
    deadline is not `{ r with exp := e }` -/
theorem vis_setExp (now : Int) (s : MState) (k k' : Bytes) (e : Int) (r : View.Rec)
    (hv : vis now s k = some r) (hot : r.value.isSome = true) :
    vis now (Api.setExp s k e) k' =
      if k = k' then (if e ≠ 0 ∧ e ≤ now then none else some { r with exp := e }) else vis now s k' := by
  unfold Api.setExp
  cases hm : getMeta s k with
  | none => rw [vis_none_of_getMeta hm] at hv; cases hv
  | some m =>
    simp only
    rw [vis_putMeta]
    by_cases h : k = k'
    · subst h
      simp only [if_true]
      rw [vis_eq_of_getMeta hm] at hv
      have he : Meta.expired { m with exp := e } now = (e != 0 && decide (e ≤ now)) := rfl
      rw [he]
      split at hv
      · cases hv
      · simp only [Option.some.injEq] at hv
        subst hv
        simp only [recOf] at hot
        by_cases hd : e ≠ 0 ∧ e ≤ now
        · simp [hd]
        · rw [if_neg hd]
          have : (e != 0 && decide (e ≤ now)) = false := by
            by_cases h0 : e = 0
            · simp [h0]
            · have : ¬ e ≤ now := fun hle => hd ⟨h0, hle⟩
              simp [this]
          simp only [this, Bool.false_eq_true, if_false, Option.some.injEq]
          simp only [recOf, hot, if_true, Meta.isOk]
    · simp only [h, if_false]

theorem modMeta_frame (s : MState) (k : Bytes) (f : Meta → Meta) : frame (modMeta s k f) = frame s := by
  unfold modMeta; split <;> rfl

theorem vis_modMeta (now : Int) (s : MState) (k k' : Bytes) (f : Meta → Meta) (g : View.Rec → View.Rec)
    (hexp : ∀ m, (f m).expired now = m.expired now)
    (hrec : ∀ m, recOf s k (f m) = g (recOf s k m)) :
    vis now (modMeta s k f) k' = if k = k' then (vis now s k).map g else vis now s k' := by
  unfold modMeta
  cases hm : getMeta s k with
  | none =>
    simp only
    split
    · rename_i h; subst h; rw [vis_none_of_getMeta hm]; rfl
    · rfl
  | some m =>
    simp only
    rw [vis_putMeta]
    by_cases h : k = k'
    · subst h
      simp only [if_true, hexp, hrec, vis_eq_of_getMeta hm]
      split <;> rfl
    · simp only [h, if_false]

def markModRec (r : View.Rec) : View.Rec := { r with modified := true }

theorem recOf_markModified (s : MState) (k : Bytes) (m : Meta) :
    recOf s k m.markModified = markModRec (recOf s k m) := by
  simp only [recOf, markModRec, Meta.markModified, Meta.isOk, mod_set, mod_set_ok, decide_true]
  rfl

theorem vis_signal (now : Int) (s : MState) (k k' : Bytes) :
    vis now (signal s k) k' = if k = k' then (vis now s k).map markModRec else vis now s k' := by
  have h : vis now (signal s k) k' = vis now (modMeta s k Meta.markModified) k' :=
    vis_congr now rfl rfl rfl k'
  rw [h]
  exact vis_modMeta now s k k' _ _ (fun _ => rfl) (recOf_markModified s k)

theorem signal_frame (s : MState) (k : Bytes) :
    frame (signal s k) = { frame s with signalled := k :: s.signalled } := by
  have := modMeta_frame s k Meta.markModified
  simp only [frame, View.Frame.mk.injEq] at this ⊢
  simp only [signal]
  obtain ⟨a, b, c, d, e, f, g, h⟩ := this
  exact ⟨a, b, c, d, e, f, trivial, h⟩

theorem vis_emit (now : Int) (s : MState) (op : FeedOp) (k : Bytes) : vis now (emit s op) k = vis now s k := by
  unfold emit; split
  · exact vis_congr now rfl rfl rfl k
  · rfl

theorem emit_frame (s : MState) (op : FeedOp) :
    frame (emit s op) = if s.listeners then { frame s with feed := op :: s.feed } else frame s := by
  unfold emit; split <;> rfl

theorem vis_commit (now : Int) (s : MState) (k : Bytes) : vis now (Api.commit s) k = vis now s k :=
  vis_congr now rfl rfl rfl k

end NodisVerif.Proofs.C10

namespace NodisVerif.Proofs.StoreView
open NodisVerif Store
open NodisVerif.Proofs.C10 (touch rkOk freshRec)

/-- what a reader of the record gets: the hot value, or what the backend hands back -/
def resolveR (r : View.Rec) : Option Val :=
  match r.value with
  | some v => some v
  | none => r.load.map (·.1)

/-- C11 / C12: value and deadline of a record that is ok and readable -/
def pview (r : View.Rec) : Option (Val × Int) := if r.ok then (resolveR r).map (·, r.exp) else none

/-- C01: resolved value, deadline, ok flag -/
def eview (r : View.Rec) : Option Val × Int × Bool := (resolveR r, r.exp, r.ok)

theorem plookup_eq (s : MState) (now : Int) (k : Bytes) :
    Spec.Persist.lookup s now k = (vis now s k).bind pview := by
  unfold Spec.Persist.lookup
  cases hm : getMeta s k with
  | none => rw [C10.vis_none_of_getMeta hm]; rfl
  | some m =>
    rw [C10.vis_eq_of_getMeta hm, Option.bind_some, Spec.Persist.view]
    cases he : m.expired now with
    | true => simp
    | false =>
      simp only [Bool.false_eq_true, if_false, Option.bind_some, Bool.not_false, Bool.and_true, pview, resolveR,
        recOf]
      cases m.isOk <;> cases m.value <;> simp [Function.comp_def]

theorem frameOn_plookup {K : List Bytes} {s s' : MState} (h : C01.FrameOn K s s') (t' : Int) {k' : Bytes}
    (hk : k' ∉ K) : Spec.Persist.lookup s' t' k' = Spec.Persist.lookup s t' k' := by
  rw [plookup_eq, plookup_eq, C10.frameOn_vis h t' hk]

theorem plookup_delKey (s : MState) (hs : AList.Sorted s.index) (t' : Int) (k k' : Bytes) :
    Spec.Persist.lookup (delKey s k) t' k' = if k' = k then none else Spec.Persist.lookup s t' k' := by
  rw [plookup_eq, plookup_eq, C10.vis_delKey t' s k k' hs]
  by_cases h : k = k'
  · subst h; simp
  · simp [h, Ne.symm h]

theorem plookup_newKeyWith (s : MState) (t' : Int) (k : Bytes) (old : Option Meta) (v : Val) (k' : Bytes) :
    Spec.Persist.lookup (newKeyWith s k old v) t' k' =
      if k' = k then some (v, 0) else Spec.Persist.lookup s t' k' := by
  rw [plookup_eq, plookup_eq, C10.vis_newKeyWith]
  by_cases h : k = k'
  · subst h; simp [pview, resolveR, freshRec]
  · simp [h, Ne.symm h]

theorem plookup_signal (s : MState) (k : Bytes) (t' : Int) (k' : Bytes) :
    Spec.Persist.lookup (signal s k) t' k' = Spec.Persist.lookup s t' k' := by
  rw [plookup_eq, plookup_eq, C10.vis_signal]
  split
  · next h => subst h; cases vis t' s k <;> rfl
  · rfl

theorem rkOk_iff_pview (r : Option View.Rec) : rkOk r = (r.bind pview).isSome := by
  cases r with
  | none => rfl
  | some r =>
    simp only [rkOk, Option.bind_some, pview, resolveR]
    cases r.ok <;> cases r.value <;> cases r.load <;> rfl

theorem resolveR_touch (r : View.Rec) : resolveR (touch r) = resolveR r := by
  unfold touch resolveR
  cases hv : r.value <;> cases hl : r.load <;> simp [hv, hl]

theorem touch_exp (r : View.Rec) : (touch r).exp = r.exp := by
  unfold touch; split <;> rfl

theorem touch_ok (r : View.Rec) (h : rkOk (some r) = true) : (touch r).ok = r.ok := by
  simp only [rkOk, Bool.and_eq_true] at h
  unfold touch; split
  · exact h.1.symm
  · rfl

theorem touch_value (r : View.Rec) (h : rkOk (some r) = true) : (touch r).value = resolveR r := by
  simp only [rkOk, Bool.and_eq_true, Bool.or_eq_true] at h
  unfold touch resolveR
  cases hv : r.value <;> cases hl : r.load <;> simp_all

theorem pview_touch (r : View.Rec) (h : rkOk (some r) = true) : pview (touch r) = pview r := by
  unfold pview; rw [resolveR_touch, touch_exp, touch_ok r h]

theorem eview_touch (r : View.Rec) (h : rkOk (some r) = true) : eview (touch r) = eview r := by
  unfold eview; rw [resolveR_touch, touch_exp, touch_ok r h]

theorem touch_of_hot {r : View.Rec} (h : r.value.isSome = true) : touch r = r := by
  obtain ⟨v, hv⟩ := Option.isSome_iff_exists.mp h
  simp [touch, hv]

theorem frame_kind {s s' : MState} (h : frame s' = frame s) : s'.pebble = s.pebble ∧ s'.failSet = s.failSet :=
  ⟨congrArg View.Frame.pebble h, congrArg View.Frame.failSet h⟩


theorem rkOk_of_getMeta {s : MState} {now : Int} {k : Bytes} {m : Meta} (h : getMeta s k = some m) :
    rkOk (vis now s k) =
      (!m.expired now && (m.isOk && (m.value.isSome || (loadValue s k m).isSome))) := by
  rw [C10.vis_eq_of_getMeta h]
  cases m.expired now
  · simp only [Bool.false_eq_true, if_false, rkOk, recOf, Bool.not_false, Bool.true_and]
    cases m.value <;> simp
  · rfl

/-- the exit of the lookup that found nothing usable, on a state `s` that looks like `s0` -/
theorem orCreate_view (s0 s : MState) (k : Bytes) (old : Option Meta) (mk : Option Val)
    (h : ∀ tv k', vis tv s k' = vis tv s0 k') (hn : s.nextId = s0.nextId) :
    (C01.orCreate s k old mk).2 = mk.isSome ∧
    (∀ tv k', vis tv (C01.orCreate s k old mk).1 k' =
      if k = k' then (match mk with | some v => some (freshRec s0.nextId v) | none => vis tv s0 k)
      else vis tv s0 k') ∧
    (frame s = frame s0 → frame (C01.orCreate s k old mk).1 =
      (match mk with | some _ => { frame s0 with nextId := s0.nextId + 2 } | none => frame s0)) := by
  cases mk with
  | none => exact ⟨rfl, fun tv k' => by simp only [C01.orCreate, h]; split <;> simp_all, id⟩
  | some v =>
    refine ⟨rfl, fun tv k' => by simp only [C01.orCreate, C10.vis_newKeyWith, hn, h], fun hf => ?_⟩
    show frame (newKeyWith s k old v) = _
    rw [C10.newKeyWith_frame, hf, hn]

section
variable {lock : MState → Bytes → MState} (hl : C01.LockOp lock)
include hl

theorem vis_bump {s : MState} {k : Bytes} {m0 : Meta} (hm : getMeta s k = some m0) (tv : Int) (k' : Bytes) :
    vis tv (putMeta (lock s k) k (C01.bump m0)) k' = vis tv s k' := by
  rw [C10.vis_putMeta]
  split
  · next h =>
    subst h
    rw [C10.vis_eq_of_getMeta hm, C01.bump_expired]
    exact congrArg _ (congrArg some (C10.recOf_bump s _ k m0 (hl.sameDisk s k).1 (hl.sameDisk s k).2))
  · exact C10.vis_congr tv (hl.index s k) (hl.sameDisk s k).1 (hl.sameDisk s k).2 k'

/-- The lookup in terms of the view, for every store state. `now` is when the lookup runs, `tv` when its result is
    looked at: a record found at `now` comes back hot (`touch`), whatever it shows at `tv`; nothing else changes,
    unless nothing usable was found and a constructor publishes a fresh record. -/
theorem accessKey_view (s : MState) (now : Int) (k : Bytes) (mk : Option Val) :
    (C01.accessKey lock s now k mk).2 = (rkOk (vis now s k) || mk.isSome) ∧
    (∀ tv k', vis tv (C01.accessKey lock s now k mk).1 k' =
      if k = k' then
        (if rkOk (vis now s k) then (vis tv s k).map touch
         else match mk with | some v => some (freshRec s.nextId v) | none => vis tv s k)
      else vis tv s k') ∧
    frame (C01.accessKey lock s now k mk).1 =
      (if rkOk (vis now s k) then frame s
       else match mk with | some _ => { frame s with nextId := s.nextId + 2 } | none => frame s) := by
  have hfr : ∀ m, frame (putMeta (lock s k) k m) = frame s := fun _ => hl.frame s k
  have hnid : ∀ m, (putMeta (lock s k) k m).nextId = s.nextId := fun _ => hl.nextId s k
  rcases C01.accessKey_shape hl s now k mk with
    ⟨hm, e⟩ | ⟨m0, hm, ⟨e, hc⟩ | ⟨e, hok, hex, hv⟩ | ⟨v, oid, e, hok, hex, hv, hld⟩⟩ <;> rw [e]
  -- not indexed
  · have hr : rkOk (vis now s k) = false := by rw [C10.vis_none_of_getMeta hm]; rfl
    simp only [hr, Bool.false_or, Bool.false_eq_true, if_false]
    obtain ⟨a, b, c⟩ := orCreate_view s s k none mk (fun _ _ => rfl) rfl
    exact ⟨a, b, c rfl⟩
  -- indexed, but dead or not loadable
  · have hr : rkOk (vis now s k) = false := by
      rw [rkOk_of_getMeta hm]
      rcases hc with hc | ⟨_, _, hv, hld⟩
      · cases h1 : m0.isOk <;> cases h2 : m0.expired now <;> simp_all
      · simp [hv, hld]
    simp only [hr, Bool.false_or, Bool.false_eq_true, if_false]
    obtain ⟨a, b, c⟩ := orCreate_view s _ k _ mk (vis_bump hl hm) (hnid _)
    exact ⟨a, b, c (hfr _)⟩
  -- hot
  · have hr : rkOk (vis now s k) = true := by rw [rkOk_of_getMeta hm]; simp [hok, hex, hv]
    simp only [hr, Bool.true_or, if_true]
    refine ⟨trivial, fun tv k' => ?_, hfr _⟩
    rw [vis_bump hl hm]
    split
    · next h =>
      subst h
      rw [C10.vis_eq_of_getMeta hm]
      split
      · rfl
      · rw [Option.map_some, touch_of_hot (by simpa [recOf] using hv)]
    · rfl
  -- cold and loaded
  · have hr : rkOk (vis now s k) = true := by rw [rkOk_of_getMeta hm]; simp [hok, hex, hld]
    simp only [hr, Bool.true_or, if_true]
    refine ⟨trivial, fun tv k' => ?_, hfr (C01.bump m0)⟩
    rw [C10.vis_putMeta]
    split
    · next h =>
      subst h
      rw [C10.vis_eq_of_getMeta hm, show (C01.loaded m0 oid v).expired tv = m0.expired tv from rfl]
      split
      · rfl
      · rw [Option.map_some, C10.recOf_congr (s := putMeta (lock s k) k (C01.bump m0)) (s' := s)
          (hl.sameDisk s k).1 (hl.sameDisk s k).2]
        exact congrArg some (C10.recOf_loaded s k m0 v oid hok hv hld)
    · exact vis_bump hl hm tv k'

theorem accessKey_kind (s : MState) (now : Int) (k : Bytes) (mk : Option Val) :
    (C01.accessKey lock s now k mk).1.pebble = s.pebble ∧ (C01.accessKey lock s now k mk).1.failSet = s.failSet :=
  C01.accessKey_ind hl (fun x => x.pebble = s.pebble ∧ x.failSet = s.failSet) s now k mk ⟨rfl, rfl⟩
    (fun _ _ => frame_kind (hl.frame s k))
    (fun x old v _ hx =>
      have f := C10.newKeyWith_frame x k old v
      ⟨(congrArg View.Frame.pebble f).trans hx.1, (congrArg View.Frame.failSet f).trans hx.2⟩)
    (fun _ _ _ _ hx _ => hx)

/-- the lookup in terms of the logical keyspace of C11 / C12 (`Spec.Persist.lookup`): other names; a key found; a key
    created; a key that stays missing -/
theorem accessKey_lookup (s : MState) (now : Int) (k : Bytes) (mk : Option Val) :
    (∀ t' k', k' ≠ k → Spec.Persist.lookup (C01.accessKey lock s now k mk).1 t' k' = Spec.Persist.lookup s t' k') ∧
    (∀ c, Spec.Persist.lookup s now k = some c → (C01.accessKey lock s now k mk).2 = true ∧
      ∀ t', Spec.Persist.lookup (C01.accessKey lock s now k mk).1 t' k = Spec.Persist.lookup s t' k) ∧
    (∀ v, Spec.Persist.lookup s now k = none → mk = some v → (C01.accessKey lock s now k mk).2 = true ∧
      ∀ t', Spec.Persist.lookup (C01.accessKey lock s now k mk).1 t' k = some (v, 0)) ∧
    (Spec.Persist.lookup s now k = none → mk = none → (C01.accessKey lock s now k mk).2 = false ∧
      ∀ t', Spec.Persist.lookup (C01.accessKey lock s now k mk).1 t' k = Spec.Persist.lookup s t' k) := by
  obtain ⟨hr, hv, _⟩ := accessKey_view hl s now k mk
  have hk : rkOk (vis now s k) = (Spec.Persist.lookup s now k).isSome := by rw [rkOk_iff_pview, plookup_eq]
  refine ⟨fun t' k' h => ?_, fun c hc => ?_, fun v hn hmk => ?_, fun hn hmk => ?_⟩
  · rw [plookup_eq, plookup_eq, hv, if_neg (Ne.symm h)]
  · rw [hc] at hk
    have hk : rkOk (vis now s k) = true := hk
    refine ⟨by rw [hr, hk]; rfl, fun t' => ?_⟩
    rw [plookup_eq, plookup_eq, hv, if_pos rfl, if_pos hk]
    cases hvt : vis t' s k with
    | none => rfl
    | some r =>
      -- the record seen at `t'` is the record seen at `now`
      have : rkOk (some r) = true := by
        obtain ⟨m, hm, _, rfl⟩ := C10.vis_some_getMeta hvt
        rw [C10.vis_eq_of_getMeta hm] at hk
        split at hk
        · cases hk
        · exact hk
      exact pview_touch r this
  · rw [hn] at hk
    subst hmk
    refine ⟨by rw [hr]; simp, fun t' => ?_⟩
    rw [plookup_eq, hv, if_pos rfl, if_neg (by rw [hk]; simp)]
    rfl
  · rw [hn] at hk
    subst hmk
    refine ⟨by rw [hr, hk]; rfl, fun t' => ?_⟩
    rw [plookup_eq, plookup_eq, hv, if_pos rfl, if_neg (by rw [hk]; simp)]

/-- the record handed back when the key was found or created: in memory, with the value and deadline the keyspace shows -/
theorem accessKey_found (s : MState) (now : Int) (k : Bytes) (mk : Option Val) {v : Val} {e : Int}
    (h : Spec.Persist.lookup s now k = some (v, e) ∨ (Spec.Persist.lookup s now k = none ∧ mk = some v ∧ e = 0)) :
    ∃ m, getMeta (C01.accessKey lock s now k mk).1 k = some m ∧ m.value = some v ∧ m.exp = e ∧
      m.expired now = false := by
  obtain ⟨_, hv, _⟩ := accessKey_view hl s now k mk
  have hvk := hv now k
  rw [if_pos rfl] at hvk
  rcases h with hL | ⟨hL, rfl, rfl⟩
  · rw [plookup_eq] at hL
    cases hv0 : vis now s k with
    | none => rw [hv0] at hL; cases hL
    | some r0 =>
      rw [hv0] at hL hvk
      have hk : rkOk (some r0) = true := by rw [rkOk_iff_pview, hL]; rfl
      rw [if_pos hk] at hvk
      obtain ⟨m, hm, hex, hr⟩ := C10.vis_some_getMeta hvk
      have h1 := touch_value r0 hk
      have h2 := touch_exp r0
      rw [hr] at h1 h2
      have hp : pview r0 = some (v, e) := hL
      unfold pview at hp
      split at hp
      · cases hres : resolveR r0 with
        | none => rw [hres] at hp; cases hp
        | some w =>
          rw [hres] at hp h1
          cases hp
          exact ⟨m, hm, h1, h2, hex⟩
      · cases hp
  · have hk : rkOk (vis now s k) = false := by rw [rkOk_iff_pview, ← plookup_eq, hL]; rfl
    rw [if_neg (by rw [hk]; simp)] at hvk
    obtain ⟨m, hm, hex, hrec⟩ := C10.vis_some_getMeta hvk
    exact ⟨m, hm, (congrArg View.Rec.value hrec).symm, (congrArg View.Rec.exp hrec).symm, hex⟩

end

end NodisVerif.Proofs.StoreView

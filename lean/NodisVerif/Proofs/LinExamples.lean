import NodisVerif.Proofs.LinCorollaries
import NodisVerif.Proofs.LinSplit
/-
  Non-vacuity of the generic development: concrete interleavings, checked by evaluation.
-/
namespace NodisVerif.Lin.Examples
open NodisVerif.Lin

/-- two increments (ids 1, 2) and a read (id 3) on a counter that starts at 10; the three operations
    overlap: all are invoked before any replies, writer 2 asks for the lock after writer 1, the reader
    gets in between the two writers -/
def ex3 : List (Ev Bool Int) :=
  [.inv 1 false, .inv 2 false, .inv 3 true,
   .acq 1, .eff 1, .rel 1,
   .acq 3, .eff 3, .rel 3,
   .acq 2, .res 1 10, .eff 2, .res 3 11, .rel 2, .res 2 11]

theorem ex3_wf : WF counter 10 ex3 := by decide +kernel

/-- its linearization: the `eff` order 1, 3, 2 with the results 10, 11, 11; the counter ends at 12 -/
theorem ex3_lin : (run counter true { σ := 10 } ex3).map (fun c => (c.lin, c.σ)) =
    some ([(1, false, 10), (3, true, 11), (2, false, 11)], 12) := by decide +kernel

theorem ex3_effOrder : effOrder ex3 = [1, 3, 2] := by decide +kernel

theorem ex3_hist : hist ex3 =
    [.inv 1 false, .inv 2 false, .inv 3 true, .res 1 10, .res 3 11, .res 2 11] := by decide +kernel

example : Linearizable counter 10 (hist ex3) := wf_linearizable _ _ _ ex3_wf

/-- the lock discipline is checked: a second writer inside the interval of the first is rejected … -/
example : ¬ WF counter 10 [.inv 1 false, .inv 2 false, .acq 1, .acq 2] := by decide +kernel
/-- … so is a writer inside a reader's interval, and a reader inside a writer's … -/
example : ¬ WF counter 10 [.inv 1 false, .inv 3 true, .acq 3, .acq 1] := by decide +kernel
example : ¬ WF counter 10 [.inv 1 false, .inv 3 true, .acq 1, .acq 3] := by decide +kernel
/-- … two readers may overlap … -/
example : WF counter 10 [.inv 3 true, .inv 4 true, .acq 3, .acq 4, .eff 4, .eff 3, .rel 3, .rel 4,
    .res 4 10, .res 3 10] := by decide +kernel
/-- … a body outside the lock, a wrong result, a reply before the release are rejected -/
example : ¬ WF counter 10 [.inv 1 false, .eff 1] := by decide +kernel
example : ¬ WF counter 10 [.inv 1 false, .acq 1, .eff 1, .rel 1, .res 1 11] := by decide +kernel
example : ¬ WF counter 10 [.inv 1 false, .acq 1, .eff 1, .res 1 10] := by decide +kernel
/-- a retry (lock taken, given back, taken again) is accepted; the body runs once -/
example : WF counter 10 [.inv 1 false, .acq 1, .rel 1, .acq 1, .eff 1, .rel 1, .res 1 10] := by decide +kernel
example : ¬ WF counter 10 [.inv 1 false, .acq 1, .eff 1, .rel 1, .acq 1, .eff 1] := by decide +kernel

/-- pops: two overlapping pops on [7, 8, 9] get 7 and 8 -/
example : WF (popper Nat) [7, 8, 9] [.inv 1 (), .inv 2 (), .acq 2, .eff 2, .rel 2, .acq 1, .eff 1, .rel 1,
    .res 1 (some 8), .res 2 (some 7)] := by decide +kernel

/-- read and write-back at different moments, other operations' events in between -/
def exSplit : List (Split.Ev Bool Int) :=
  [.inv 1 false, .inv 2 false, .inv 3 true,
   .acq 1, .rd 1, .inv 4 true, .wr 1, .rel 1,
   .acq 3, .rd 3, .acq 4, .rd 4, .wr 3, .rel 3, .wr 4, .rel 4,
   .acq 2, .res 1 10, .rd 2, .res 3 11, .wr 2, .rel 2, .res 2 11, .res 4 11]

theorem exSplit_wf : Split.WF counter 10 exSplit := by decide +kernel

example : Linearizable counter 10 (Split.hist exSplit) := Split.split_bodies_linearizable _ _ _ exSplit_wf

/-- the classic lost update: both bodies read 0, both write 1 -/
def lostUpdate : List (Split.Ev Bool Int) :=
  [.inv 1 false, .inv 2 false, .acq 1, .acq 2, .rd 1, .rd 2, .wr 1, .wr 2, .rel 1, .rel 2, .res 1 0, .res 2 0]

/-- the lock discipline rejects it … -/
theorem lostUpdate_rejected : ¬ Split.WF counter 0 lostUpdate := by decide +kernel

/-- … without the lock checks it runs, both increments return 0 and the counter ends at 1 … -/
theorem lostUpdate_runs_unlocked :
    (Split.run counter false { core := { σ := 0 } } lostUpdate).map (fun c => c.core.σ) = some 1 := by decide +kernel

theorem counter_mono (s : Int) (l : SeqHist Bool Int) : s ≤ final counter s l := by
  induction l generalizing s with
  | nil => exact Int.le_refl _
  | cons y l ih =>
    have h2 : s ≤ (counter.apply s y.2.1).1 := by cases y.2.1 <;> simp [counter] <;> omega
    exact Int.le_trans h2 (ih _)

theorem counter_result_ge {s : Int} {l : SeqHist Bool Int} (hl : Legal counter s l)
    {x : Nat × Bool × Int} (hx : x ∈ l) : s ≤ x.2.2 := by
  induction l generalizing s with
  | nil => cases hx
  | cons y l ih =>
    rcases List.mem_cons.1 hx with rfl | hx'
    · have := hl.1
      cases h : x.2.1 <;> simp [counter, h] at this <;> omega
    · have := ih hl.2 hx'
      have h2 : s ≤ (counter.apply s y.2.1).1 := by cases y.2.1 <;> simp [counter] <;> omega
      omega

theorem final_append {State Op Ret : Type} {O : Obj State Op Ret} (s : State) (a b : SeqHist Op Ret) :
    final O s (a ++ b) = final O (final O s a) b := by
  induction a generalizing s with
  | nil => rfl
  | cons x a ih => exact ih _

/-- … and that history has no linearization: two increments from 0 cannot both return 0 -/
theorem lost_update_without_lock : ¬ Linearizable counter 0 (Split.hist lostUpdate) := by
  rintro ⟨lin, h⟩
  have hist_eq : Split.hist lostUpdate = [.inv 1 false, .inv 2 false, .res 1 0, .res 2 0] := by decide +kernel
  rw [hist_eq] at h
  obtain ⟨o1, m1⟩ := h.complete 1 0 (by simp)
  obtain ⟨o2, m2⟩ := h.complete 2 0 (by simp)
  have f1 : o1 = false := by have := h.invoked _ m1; simpa using this
  have f2 : o2 = false := by have := h.invoked _ m2; simpa using this
  subst f1; subst f2
  obtain ⟨p, q, e⟩ := List.append_of_mem m1
  have hleg := h.legal
  rw [e] at hleg m2
  obtain ⟨hhead, hq⟩ := legal_append hleg
  have hp0 : final counter 0 p = 0 := by simpa [counter] using hhead
  rcases List.mem_append.1 m2 with m2 | m2
  · obtain ⟨p1, p2, e2⟩ := List.append_of_mem m2
    rw [e2, final_append] at hp0
    have h1 := counter_mono 0 p1
    have h2 := counter_mono (final counter (final counter 0 p1) [(2, false, 0)]) p2
    have h3 : final counter (final counter 0 p1) [(2, false, 0)] = final counter 0 p1 + 1 := by
      simp [final, counter]
    have h4 : final counter (final counter 0 p1) ((2, false, 0) :: p2) =
        final counter (final counter (final counter 0 p1) [(2, false, 0)]) p2 := rfl
    omega
  · rcases List.mem_cons.1 m2 with m2 | m2
    · cases m2
    · have := counter_result_ge hq m2
      rw [hp0] at this
      simp [counter] at this

end NodisVerif.Lin.Examples

import NodisVerif.Model.Handler
import NodisVerif.Proofs.StoreLemmas
/-
  C09 — the optimistic increment script: facts about `Api.get` / `Api.set` on a store whose key k
  holds a decimal counter (or is missing).
-/
namespace NodisVerif.Proofs.C09Incr
open NodisVerif.Proofs.AListLemmas2 Store Resp

variable (k : Bytes)

/-- key `k` is a live string record without deadline holding exactly `b` -/
def StrAt (st : MState) (b : Bytes) : Prop :=
  ∃ m, getMeta st k = some m ∧ m.isOk = true ∧ m.exp = 0 ∧ m.value = some (.str b)

/-- the counter stored under `k` is `n` (a missing key counts as 0, as for INCR) -/
def CounterIs (st : MState) (n : Nat) : Prop :=
  (getMeta st k = none ∧ n = 0) ∨ StrAt k st (formatInt (n : Int))

def getBody : Body := fun s now _ =>
  Handler.call (Api.get s now k) fun s o =>
    Handler.done s [match o with | .bytes b => Handler.optBulk b | _ => Tok.nullBulk]

def setBody (v : Bytes) : Body := fun s now _ =>
  Handler.call (Api.set s now k v false) fun s _ => Handler.done s [Handler.ok]

theorem getMeta_putMeta_other (s : MState) (key x : Bytes) (m : Meta) (h : x ≠ key) :
    getMeta (putMeta s key m) x = getMeta s x :=
  Store.getMeta_putMeta_other s key m x h

theorem getMeta_setVal_same (s : MState) (key : Bytes) (v : Val) :
    getMeta (Api.setVal s key v) key = (getMeta s key).map (fun m => { m with value := some v }) := by
  cases h : getMeta s key with
  | none => simp [Api.setVal, h]
  | some m => exact Store.getMeta_setVal_same s key v m h

theorem setVal_signalled (s : MState) (key : Bytes) (v : Val) : (Api.setVal s key v).signalled = s.signalled := by
  rw [Store.setVal_rest]

theorem setVal_flushed (s : MState) (key : Bytes) (v : Val) : (Api.setVal s key v).flushed = s.flushed := by
  rw [Store.setVal_rest]

theorem getMeta_setExp_same (s : MState) (key : Bytes) (e : Int) :
    getMeta (Api.setExp s key e) key = (getMeta s key).map (fun m => { m with exp := e }) := by
  rw [Store.getMeta_setExp, if_pos rfl]

theorem setExp_fields (s : MState) (key : Bytes) (e : Int) :
    (Api.setExp s key e).signalled = s.signalled ∧ (Api.setExp s key e).flushed = s.flushed := by
  unfold Api.setExp
  cases getMeta s key <;> exact ⟨rfl, rfl⟩

theorem signal_fields (s : MState) (key : Bytes) :
    (signal s key).signalled = key :: s.signalled ∧ (signal s key).flushed = s.flushed := by
  refine ⟨rfl, ?_⟩
  show (modMeta s key Meta.markModified).flushed = _
  unfold modMeta
  cases getMeta s key <;> rfl

theorem emit_fields (s : MState) (op : FeedOp) :
    getMeta (emit s op) = getMeta s ∧ (emit s op).signalled = s.signalled ∧ (emit s op).flushed = s.flushed := by
  unfold emit; split <;> exact ⟨rfl, rfl, rfl⟩

theorem markModified_fields (m : Meta) : m.markModified.isOk = m.isOk ∧ m.markModified.exp = m.exp ∧
    m.markModified.value = m.value := by
  refine ⟨?_, rfl, rfl⟩
  simp only [Meta.markModified, Meta.isOk]
  split
  · rfl
  · have : (m.state + 2) % 2 = m.state % 2 := by omega
    rw [this]

theorem readKey_noDeadline (st : MState) (now : Int) (m : Meta) (hm : getMeta st k = some m) (hok : m.isOk = true)
    (he : m.exp = 0) (hv : m.value.isSome = true) :
    (readKey st now k).2 = true ∧ getMeta (readKey st now k).1 k = some { m with count := m.count + 1 } ∧
    (readKey st now k).1.signalled = st.signalled ∧ (readKey st now k).1.flushed = st.flushed := by
  rw [C01.readKey_eq, C01.accessKey_hot C01.lockR_op st now k _ m hm hok (by simp [Meta.expired, he]) hv]
  exact ⟨rfl, getMeta_putMeta_same _ _ _, by rw [lockR_eq]; rfl, by rw [lockR_eq]; rfl⟩

theorem readKey_missing (st : MState) (now : Int) (hm : getMeta st k = none) : readKey st now k = (st, false) := by
  unfold readKey; simp [hm]

theorem get_counter (st : MState) (now : Int) (n : Nat) (h : CounterIs k st n) :
    ((Api.get st now k).2 = .bytes none ∧ n = 0 ∨ (Api.get st now k).2 = .bytes (some (formatInt (n : Int)))) ∧
    CounterIs k (Api.get st now k).1 n ∧
    (Api.get st now k).1.signalled = st.signalled ∧ (Api.get st now k).1.flushed = st.flushed := by
  rcases h with ⟨hm, hn⟩ | ⟨m, hm, hok, he, hv⟩
  · unfold Api.get
    rw [readKey_missing k st now hm]
    exact ⟨Or.inl ⟨rfl, hn⟩, Or.inl ⟨hm, hn⟩, rfl, rfl⟩
  · obtain ⟨h1, h2, h3, h4⟩ := readKey_noDeadline k st now m hm hok he (by rw [hv]; rfl)
    unfold Api.get
    generalize readKey st now k = r at h1 h2 h3 h4
    obtain ⟨s1, ok⟩ := r
    simp only at h1 h2 h3 h4
    subst h1
    have hs : Api.asStr s1 k = some (some (formatInt (n : Int))) := by
      simp [Api.asStr, valOf, h2, hv]
    simp only [Bool.not_true, Bool.false_eq_true, if_false, hs]
    exact ⟨Or.inr trivial, Or.inr ⟨_, h2, hok, he, hv⟩, h3, h4⟩

theorem get_strAt (st : MState) (now : Int) (b : Bytes) (h : StrAt k st b) :
    (Api.get st now k).2 = .bytes (some b) ∧ StrAt k (Api.get st now k).1 b := by
  obtain ⟨m, hm, hok, he, hv⟩ := h
  obtain ⟨h1, h2, _, _⟩ := readKey_noDeadline k st now m hm hok he (by rw [hv]; rfl)
  unfold Api.get
  generalize readKey st now k = r at h1 h2
  obtain ⟨s1, ok⟩ := r
  simp only at h1 h2
  subst h1
  have hs : Api.asStr s1 k = some (some b) := by
    simp [Api.asStr, valOf, h2, hv]
  simp only [Bool.not_true, Bool.false_eq_true, if_false, hs]
  exact ⟨trivial, _, h2, hok, he, hv⟩

theorem writeKey_for_set (st : MState) (now : Int) (h : getMeta st k = none ∨ ∃ b, StrAt k st b) :
    ∃ m, getMeta (writeKey st now k (some (.str []))).1 k = some m ∧ m.isOk = true ∧
      (∃ b, m.value = some (.str b)) ∧
      (writeKey st now k (some (.str []))).1.signalled = st.signalled ∧
      (writeKey st now k (some (.str []))).1.flushed = st.flushed := by
  rcases h with hm | ⟨b, m, hm, hok, he, hv⟩
  · simp only [getMeta] at hm
    simp only [writeKey, getMeta, hm, newKeyWith, fresh]
    refine ⟨_, getMeta_putMeta_same _ _ _, ?_, ⟨[], rfl⟩, rfl, rfl⟩
    simp [Meta.isOk, Meta.markModified, Meta.setValue]
  · rw [C01.writeKey_eq, C01.accessKey_hot C01.lockW_op st now k _ m hm hok (by simp [Meta.expired, he]) (by rw [hv]; rfl)]
    exact ⟨_, getMeta_putMeta_same _ _ _, hok, ⟨b, hv⟩, by rw [lockW_eq]; rfl, by rw [lockW_eq]; rfl⟩

theorem set_counter (st : MState) (now : Int) (v : Bytes) (h : getMeta st k = none ∨ ∃ b, StrAt k st b) :
    (Api.set st now k v false).2 = .unit ∧ StrAt k (Api.set st now k v false).1 v ∧
    (Api.set st now k v false).1.signalled = k :: st.signalled ∧
    (Api.set st now k v false).1.flushed = st.flushed := by
  obtain ⟨m, h1, hok, hval, h3, h4⟩ := writeKey_for_set k st now h
  unfold Api.set
  generalize writeKey st now k (some (Val.str [])) = r at h1 h3 h4
  obtain ⟨s1, ok⟩ := r
  simp only at h1 h3 h4
  have hs : ∃ x, Api.asStr s1 k = some x := by
    obtain ⟨b, hv⟩ := hval
    exact ⟨some b, by simp [Api.asStr, valOf, h1, hv]⟩
  obtain ⟨x, hx⟩ := hs
  simp only [hx, Bool.not_false, if_true]
  obtain ⟨e1, e2, e3⟩ := emit_fields (signal (Api.setExp (Api.setVal s1 k (Val.str v)) k 0) k) (Api.opSet k v false)
  refine ⟨trivial, ?_, ?_, ?_⟩
  · refine ⟨(({ m with value := some (Val.str v) } : Meta)).markModified |> fun mm => { mm with exp := 0 }, ?_, ?_, rfl, rfl⟩
    · rw [e1, getMeta_signal_same, getMeta_setExp_same, getMeta_setVal_same, h1]
      simp [Meta.markModified]
    · have := (markModified_fields ({ m with value := some (Val.str v) } : Meta)).1
      simp only [Meta.isOk, Meta.markModified] at this ⊢
      rw [this]; exact hok
  · rw [e2, (signal_fields _ _).1, (setExp_fields _ _ _).1, setVal_signalled, h3]
  · rw [e3, (signal_fields _ _).2, (setExp_fields _ _ _).2, setVal_flushed, h4]

end NodisVerif.Proofs.C09Incr

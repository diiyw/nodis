import NodisVerif.Proofs.ProtoPhase
import NodisVerif.Proofs.ProtoReg

/-
  Locking protocol: strict two-phase locking along a trace (C07), first on decomposed traces, then with positions in
  the trace; conflicts between transactions follow the order of their commits, so the conflict graph has no cycle.
-/
namespace NodisVerif.Proofs.Proto
open NodisVerif.Proto

def HoldsValid (s : PState) (t : Tx) (r : Rec) : Prop :=
  ∃ st h, s.tx t = some st ∧ h ∈ st.holds ∧ h.valid = true ∧ h.rid = r

theorem mem_setHold_of_ne {st : TxSt} {h g : Hold} (hg : g ∈ st.holds) (hne : g.rid ≠ h.rid) :
    g ∈ (st.setHold h).holds := mem_setHold.2 (Or.inr ⟨hg, hne⟩)

theorem valid_hold_step {s s' : PState} {e : Ev} {t : Tx} {st : TxSt} {h : Hold} (hi : Inv s)
    (htx : s.tx t = some st) (hh : h ∈ st.holds) (hv : h.valid = true) (hs : step s e = some s')
    (hne : e ≠ .unlock t h.rid) : ∃ st', s'.tx t = some st' ∧ h ∈ st'.holds := by
  by_cases he : evTx e = some t
  · cases e with
    | begin u =>
      cases he
      obtain ⟨h1, _⟩ := step_begin.1 hs
      rw [htx] at h1; cases h1
    | look u k r' =>
      obtain ⟨_, _, _, _, _, rfl⟩ := step_look.1 hs
      exact ⟨st, htx, hh⟩
    | claim u k r' m =>
      cases he
      obtain ⟨st1, h1, _, _, _, hf, rfl⟩ := step_claim.1 hs
      rw [htx] at h1; cases h1
      have hne' : h.rid ≠ r' := by
        intro c
        have := hi.holdName t st h htx hh
        rw [c, hf] at this; cases this
      exact ⟨_, tx_setTx_same _ _ _, mem_setHold_of_ne hh hne'⟩
    | wait u k r' m =>
      cases he
      obtain ⟨st1, h1, _, _, _, _, _, rfl⟩ := step_wait.1 hs
      rw [htx] at h1; cases h1
      exact ⟨_, tx_setTx_same _ _ _, hh⟩
    | lock u k r' m =>
      cases he
      obtain ⟨st1, h1, hw, _, rfl⟩ := step_lock.1 hs
      rw [htx] at h1; cases h1
      have hne' : h.rid ≠ r' := holdOf_none.1 (hi.waitOk t st k r' m htx hw).2.2.2 h hh
      exact ⟨_, tx_setTx_same _ _ _, mem_setHold_of_ne (st := { st with waiting := none }) hh hne'⟩
    | valid u k r' ok =>
      cases he
      obtain ⟨st1, h0, h1, hof, hv0, _, ⟨_, rfl⟩ | ⟨_, _, rfl⟩⟩ := step_valid.1 hs
      · exact ⟨st, htx, hh⟩
      · rw [htx] at h1; cases h1
        obtain ⟨hm0, hr0⟩ := holdOf_some hof
        have hne' : h.rid ≠ r' := by
          intro c
          have := same_hold (hi.holdNodup t st htx) hh hm0 (c.trans hr0.symm)
          subst this; rw [hv] at hv0; cases hv0
        exact ⟨_, tx_setTx_same _ _ _, mem_setHold_of_ne hh (by rw [hr0]; exact hne')⟩
    | publish u k r' =>
      obtain ⟨_, _, _, _, _, _, _, _, _, _, rfl⟩ := step_publish.1 hs
      exact ⟨st, htx, hh⟩
    | unlink u k r' =>
      obtain ⟨_, _, _, _, _, _, _, _, _, rfl⟩ := step_unlink.1 hs
      exact ⟨st, htx, hh⟩
    | commit u =>
      cases he
      obtain ⟨st1, h1, _, _, _, rfl⟩ := step_commit.1 hs
      rw [htx] at h1; cases h1
      exact ⟨_, tx_setTx_same _ _ _, hh⟩
    | trylock u k r' =>
      cases he
      obtain ⟨st1, h1, _, _, hf, rfl⟩ := step_trylock.1 hs
      rw [htx] at h1; cases h1
      have hne' : h.rid ≠ r' := free_w_holds hf ⟨st, htx, hh⟩
      exact ⟨_, tx_setTx_same _ _ _, mem_setHold_of_ne hh hne'⟩
    | drop u k r' =>
      obtain ⟨_, _, _, _, _, _, _, _, rfl⟩ := step_drop.1 hs
      exact ⟨st, htx, hh⟩
    | unlock u r' =>
      cases he
      obtain ⟨st1, h0, h1, hof, _, rfl⟩ := step_unlock.1 hs
      rw [htx] at h1; cases h1
      have hne' : h.rid ≠ r' := by intro c; subst c; exact hne rfl
      exact ⟨_, tx_setTx_same _ _ _, mem_delHold.2 ⟨hh, hne'⟩⟩
    | fin u =>
      cases he
      obtain ⟨st1, h1, hemp, _⟩ := step_fin.1 hs
      rw [htx] at h1; cases h1
      rw [hemp] at hh; cases hh
    | clear => cases he
  · exact ⟨st, by rw [tx_step_other hs he]; exact htx, hh⟩

theorem holdsValid_step {s s' : PState} {e : Ev} {t : Tx} {r : Rec} (hi : Inv s) (hq : HoldsValid s t r)
    (hp : phase s t = some false) (hs : step s e = some s') : e ≠ .unlock t r ∧ HoldsValid s' t r := by
  obtain ⟨st, h, htx, hh, hv, rfl⟩ := hq
  have hc : st.committing = false := by rw [phase_of_tx htx] at hp; exact Option.some.inj hp
  have hne : e ≠ .unlock t h.rid := by
    intro c; subst c
    rcases unlock_cases hs htx (holdOf_of_mem (hi.holdNodup t st htx) hh) with a | a
    · rw [hc] at a; cases a
    · rw [hv] at a; cases a
  obtain ⟨st', htx', hh'⟩ := valid_hold_step hi htx hh hv hs hne
  exact ⟨hne, st', h, htx', hh', hv, rfl⟩

/-- C07.2 (lock point), on a stretch of the trace that ends with `commit t`: a hold that is validated
    at the beginning of the stretch is not released inside it -/
theorem lock_point_stretch {s s' : PState} {mid : List Ev} {t : Tx} {r : Rec} (hi : Inv s)
    (hq : HoldsValid s t r) (hs : runAll s (mid ++ [.commit t]) = some s') (hnf : ∀ e ∈ mid, e ≠ .fin t) :
    (∀ e ∈ mid, e ≠ .unlock t r) ∧
      ∃ sc, runAll s mid = some sc ∧ HoldsValid sc t r ∧ phase sc t = some false := by
  induction mid generalizing s with
  | nil =>
    refine ⟨nofun, s, rfl, hq, ?_⟩
    simp only [List.nil_append, runAll_single] at hs
    exact (phase_commit hs).1
  | cons e mid ih =>
    obtain ⟨s1, h1, h2⟩ := runAll_cons_some (by simpa using hs)
    -- `t` is still growing here: otherwise it would be committing at the final `commit t`
    have hp : phase s t = some false := by
      obtain ⟨st, h, htx, _⟩ := hq
      cases hc : st.committing with
      | false => rw [phase_of_tx htx, hc]
      | true =>
        obtain ⟨sc, h3, h4⟩ := runAll_append_some hs
        have := phase_true_run h3 (by rw [phase_of_tx htx, hc]) hnf
        rw [runAll_single] at h4
        rw [(phase_commit h4).1] at this; cases this
    obtain ⟨hne, hq1⟩ := holdsValid_step hi hq hp h1
    obtain ⟨hrest, sc, h3, h4, h5⟩ := ih (hi.step h1) hq1 h2 (fun x hx => hnf x (List.mem_cons_of_mem _ hx))
    refine ⟨?_, sc, by rw [runAll_cons, h1]; exact h3, h4, h5⟩
    intro x hx
    rcases List.mem_cons.1 hx with rfl | hx
    · exact hne
    · exact hrest x hx

def Validates (t : Tx) (r : Rec) (e : Ev) : Prop :=
  (∃ k, e = .valid t k r true) ∨ (∃ k m, e = .claim t k r m)

theorem validates_step {s s' : PState} {e : Ev} {t : Tx} {r : Rec} (hv : Validates t r e)
    (hs : step s e = some s') : HoldsValid s' t r := by
  rcases hv with ⟨k, rfl⟩ | ⟨k, m, rfl⟩
  · obtain ⟨st, h, htx, hof, _, _, ⟨c, _⟩ | ⟨_, _, rfl⟩⟩ := step_valid.1 hs
    · cases c
    · exact ⟨_, _, tx_setTx_same _ _ _, mem_setHold.2 (Or.inl rfl), rfl, (holdOf_some hof).2⟩
  · obtain ⟨st, htx, _, _, _, _, rfl⟩ := step_claim.1 hs
    exact ⟨_, _, tx_setTx_same _ _ _, mem_setHold.2 (Or.inl rfl), rfl, rfl⟩

/-- C07.2, decomposed trace -/
theorem lock_point_decomposed {s : PState} {pre mid post : List Ev} {v : Ev} {t : Tx} {r : Rec}
    (hs : runAll {} (pre ++ v :: (mid ++ .commit t :: post)) = some s) (hv : Validates t r v)
    (hnf : ∀ e ∈ mid, e ≠ .fin t) :
    (∀ e ∈ mid, e ≠ .unlock t r) ∧
      ∃ sc, runAll {} (pre ++ v :: mid) = some sc ∧ HoldsValid sc t r ∧ phase sc t = some false := by
  obtain ⟨s1, h1, h2⟩ := runAll_append_some hs
  obtain ⟨s2, h3, h4⟩ := runAll_cons_some h2
  have h4' : runAll s2 ((mid ++ [.commit t]) ++ post) = some s := by simpa using h4
  obtain ⟨s3, h5, _⟩ := runAll_append_some h4'
  have hi2 : Inv s2 := (Inv.init.run h1).step h3
  obtain ⟨a, sc, b, c, d⟩ := lock_point_stretch hi2 (validates_step hv h3) h5 hnf
  refine ⟨a, sc, ?_, c, d⟩
  rw [runAll_append, h1]; simp [runAll_cons, h3, b]

def Grows (t : Tx) : Ev → Prop
  | .look u _ _ | .claim u _ _ _ | .wait u _ _ _ | .lock u _ _ _ | .publish u _ _ | .unlink u _ _
  | .commit u => u = t
  | _ => False

theorem grows_phase {s s' : PState} {e : Ev} {t : Tx} (hi : Inv s) (hg : Grows t e)
    (hs : step s e = some s') : phase s t = some false := by
  cases e with
  | look u k r =>
    cases hg
    obtain ⟨st, h1, h2, _⟩ := step_look.1 hs
    rw [phase_of_tx h1, h2]
  | claim u k r m =>
    cases hg
    obtain ⟨st, h1, h2, _⟩ := step_claim.1 hs
    rw [phase_of_tx h1, h2]
  | wait u k r m =>
    cases hg
    obtain ⟨st, h1, h2, _⟩ := step_wait.1 hs
    rw [phase_of_tx h1, h2]
  | lock u k r m =>
    cases hg
    obtain ⟨st, h1, hw, _⟩ := step_lock.1 hs
    rw [phase_of_tx h1, (hi.waitOk t st k r m h1 hw).2.1]
  | publish u k r =>
    cases hg
    obtain ⟨st, _, h1, _, _, _, _, h2, _⟩ := step_publish.1 hs
    rw [phase_of_tx h1, h2]
  | unlink u k r =>
    cases hg
    obtain ⟨st, _, h1, _, _, _, _, h2, _⟩ := step_unlink.1 hs
    rw [phase_of_tx h1, h2]
  | commit u =>
    cases hg
    obtain ⟨st, h1, h2, _⟩ := step_commit.1 hs
    rw [phase_of_tx h1, h2]
  | begin u => cases hg
  | valid u k r ok => cases hg
  | trylock u k r => cases hg
  | drop u k r => cases hg
  | unlock u r => cases hg
  | fin u => cases hg
  | clear => cases hg

/-- C07.1, decomposed trace: between `commit t` and the next `fin t` there is no growing step of `t` -/
theorem no_growth_after_commit {s : PState} {pre mid : List Ev} {e : Ev} {t : Tx}
    (hs : runAll {} (pre ++ .commit t :: (mid ++ [e])) = some s) (hnf : ∀ x ∈ mid, x ≠ .fin t) :
    ¬ Grows t e := by
  intro hg
  obtain ⟨s1, h1, h2⟩ := runAll_append_some hs
  obtain ⟨s2, h3, h4⟩ := runAll_cons_some h2
  obtain ⟨s3, h5, h6⟩ := runAll_append_some h4
  rw [runAll_single] at h6
  have hp3 := phase_true_run h5 (phase_commit h3).2 hnf
  have hi3 : Inv s3 := ((Inv.init.run h1).step h3).run h5
  rw [grows_phase hi3 hg h6] at hp3
  cases hp3

theorem commit_before_release {s : PState} {pre : List Ev} {t : Tx} {r : Rec}
    (hs : runAll {} pre = some s) (hq : HoldsValid s t r) {s' : PState} (hu : step s (.unlock t r) = some s') :
    ∃ p1 p2, pre = p1 ++ .commit t :: p2 ∧ ∀ e ∈ p2, e ≠ .fin t := by
  have hi := Inv.init.run hs
  obtain ⟨st, h, htx, hh, hv, rfl⟩ := hq
  have hc : st.committing = true :=
    (unlock_cases hu htx (holdOf_of_mem (hi.holdNodup t st htx) hh)).resolve_right (by rw [hv]; nofun)
  refine committing_has_commit (s0 := {}) (t := t) ?_ pre s hs (by rw [phase_of_tx htx, hc])
  rw [phase_init]; nofun

/-- C07.2 with positions: validated at `i`, committed at `c`, not ended in between: no release at `j` -/
theorem lock_point_positions {es : List Ev} {s : PState} (hs : runAll {} es = some s) {t : Tx} {r : Rec}
    {i j c : Nat} {v : Ev} (hij : i < j) (hjc : j < c) (hv : es[i]? = some v) (hval : Validates t r v)
    (hc : es[c]? = some (.commit t)) (hnf : ∀ p, i < p → p < c → es[p]? ≠ some (.fin t)) :
    es[j]? ≠ some (.unlock t r) := by
  obtain ⟨pre, mid, post, rfl, _, _, hmid, _, hmem⟩ := split_two hv hc (by omega)
  have h := (lock_point_decomposed hs hval (not_in_mid hmid hnf)).1
  intro c'
  exact h _ (hmem j _ hij hjc c') rfl

def ValidRelease (es : List Ev) (p : Nat) (t : Tx) (r : Rec) : Prop :=
  es[p]? = some (.unlock t r) ∧ ∃ sp, runAll {} (es.take p) = some sp ∧ HoldsValid sp t r

def Acquires (es : List Ev) (q : Nat) (u : Tx) (r : Rec) : Prop := ∃ k m, es[q]? = some (.lock u k r m)

def BeginOnce (es : List Ev) : Prop :=
  ∀ (t : Tx) (i j : Nat), es[i]? = some (Ev.begin t) → es[j]? = some (Ev.begin t) → i = j

def begins (es : List Ev) : List Tx := es.filterMap fun e => match e with | .begin t => some t | _ => none

theorem beginOnce_of_nodup {es : List Ev} (h : (begins es).Nodup) : BeginOnce es := by
  have key : ∀ (t : Tx) (i j : Nat), i < j → es[i]? = some (Ev.begin t) → es[j]? = some (Ev.begin t) → False := by
    intro t i j hij hi hj
    obtain ⟨pre, mid, post, rfl, _⟩ := split_two hi hj hij
    simp only [begins, List.filterMap_append, List.filterMap_cons] at h
    have h1 := (List.nodup_append.1 h).2.1
    have h2 := (List.nodup_cons.1 h1).1
    exact h2 (List.mem_append_right _ List.mem_cons_self)
  intro t i j hi hj
  apply Classical.byContradiction
  intro hne
  rcases Nat.lt_or_gt_of_ne hne with h' | h'
  · exact key t i j h' hi hj
  · exact key t j i h' hj hi

theorem release_after_commit {es : List Ev} {s : PState} (hs : runAll {} es = some s) {t : Tx} {r : Rec}
    {p : Nat} (h : ValidRelease es p t r) :
    ∃ c, c < p ∧ es[c]? = some (.commit t) ∧ ∀ j, c < j → j < p → es[j]? ≠ some (.fin t) := by
  obtain ⟨hp, sp, hsp, hq⟩ := h
  obtain ⟨pre, post, rfl, hl⟩ := split_at hp
  rw [List.take_left' hl] at hsp
  obtain ⟨s1, h1, h2⟩ := runAll_append_some hs
  rw [hsp] at h1; cases h1
  obtain ⟨s2, h3, _⟩ := runAll_cons_some h2
  obtain ⟨p1, p2, rfl, hnf⟩ := commit_before_release hsp hq h3
  refine ⟨p1.length, by rw [← hl]; simp, by simp, ?_⟩
  intro j h1 h2 c
  obtain ⟨d, rfl⟩ : ∃ d, j = p1.length + 1 + d := ⟨j - p1.length - 1, by omega⟩
  have hd : d < p2.length := by simp at hl; omega
  rw [List.getElem?_append_left (by simp; omega), getElem?_past] at c
  exact hnf _ (List.mem_of_getElem? c) rfl

theorem acquire_before_commit {es : List Ev} {s : PState} (hs : runAll {} es = some s) (hb : BeginOnce es)
    {u : Tx} {r : Rec} {q c : Nat} (ha : Acquires es q u r) (hc : es[c]? = some (.commit u)) : q < c := by
  obtain ⟨k, m, hq⟩ := ha
  apply Classical.byContradiction
  intro hlt
  have hne : c ≠ q := by intro e; subst e; rw [hc] at hq; cases hq
  have hcq : c < q := by omega
  obtain ⟨pre, mid, post, rfl, hl1, hl2, hmid, hpre, _⟩ := split_two hc hq hcq
  obtain ⟨s1, h1, h2⟩ := runAll_append_some hs
  obtain ⟨s2, h3, h4⟩ := runAll_cons_some h2
  obtain ⟨s3, h5, h6⟩ := runAll_append_some h4
  obtain ⟨s4, h7, _⟩ := runAll_cons_some h6
  have hp1 := phase_commit h3
  have hbeg : .begin u ∈ pre := active_has_begin h1 (phase_init u) (by rw [hp1.1]; nofun)
  obtain ⟨i, hi1, hi2⟩ := hpre _ hbeg
  have hnb : ∀ e ∈ mid, e ≠ .begin u := by
    intro e he c'; subst c'
    obtain ⟨j, hj1, hj2, hj3⟩ := hmid _ he
    have := hb u i j hi2 hj3
    omega
  have hp3 := phase_done_run h5 (by rw [hp1.2]; nofun) hnb
  have hi3 : Inv s3 := ((Inv.init.run h1).step h3).run h5
  exact hp3 (grows_phase hi3 (show Grows u (.lock u k r m) from rfl) h7)

def Conflict (es : List Ev) (t u : Tx) : Prop :=
  ∃ p q r, p < q ∧ ValidRelease es p t r ∧ Acquires es q u r

def isCommit (t : Tx) : Ev → Bool
  | .commit u => u == t
  | _ => false

theorem isCommit_iff {t : Tx} {e : Ev} : isCommit t e = true ↔ e = .commit t := by
  cases e <;> simp [isCommit]

/-- the position of the first `commit t` (the length of the trace if there is none) -/
def commitPos (es : List Ev) (t : Tx) : Nat := es.findIdx (isCommit t)

theorem commitPos_le {es : List Ev} {t : Tx} {c : Nat} (h : es[c]? = some (.commit t)) : commitPos es t ≤ c := by
  apply Classical.byContradiction
  intro hlt
  have hc : c < es.length := by
    apply Classical.byContradiction; intro h'
    rw [List.getElem?_eq_none (by omega)] at h; cases h
  have := List.not_of_lt_findIdx (p := isCommit t) (xs := es) (i := c) (by unfold commitPos at hlt; omega)
  rw [List.getElem?_eq_getElem hc] at h
  rw [Option.some.inj h] at this
  simp [isCommit] at this

theorem commitPos_spec {es : List Ev} {t : Tx} (h : commitPos es t < es.length) :
    es[commitPos es t]? = some (.commit t) := by
  rw [List.getElem?_eq_getElem h]
  exact congrArg some (isCommit_iff.1 (List.findIdx_getElem (w := h)))

/-- C07.3: conflicts follow the commit order -/
theorem conflict_commit_order {es : List Ev} {s : PState} (hs : runAll {} es = some s) (hb : BeginOnce es)
    {t u : Tx} (h : Conflict es t u) :
    (∃ ct : Nat, es[ct]? = some (Ev.commit t) ∧ ∀ cu : Nat, es[cu]? = some (Ev.commit u) → ct < cu) ∧
      commitPos es t < commitPos es u := by
  obtain ⟨p, q, r, hpq, hrel, hacq⟩ := h
  obtain ⟨ct, h1, h2, _⟩ := release_after_commit hs hrel
  have hord : ∀ cu, es[cu]? = some (.commit u) → ct < cu := by
    intro cu hcu
    have := acquire_before_commit hs hb hacq hcu
    omega
  refine ⟨⟨ct, h2, hord⟩, ?_⟩
  have hle := commitPos_le h2
  have hq : q < es.length := by
    obtain ⟨k, m, hq⟩ := hacq
    apply Classical.byContradiction; intro h'
    rw [List.getElem?_eq_none (by omega)] at hq; cases hq
  by_cases hlen : commitPos es u < es.length
  · have := hord _ (commitPos_spec hlen)
    omega
  · omega

theorem transGen_lt {α : Type} {R : α → α → Prop} (f : α → Nat) (hR : ∀ a b, R a b → f a < f b) {a b : α}
    (h : Relation.TransGen R a b) : f a < f b := by
  induction h with
  | single h1 => exact hR _ _ h1
  | tail _ h2 ih => exact Nat.lt_trans ih (hR _ _ h2)

end NodisVerif.Proofs.Proto

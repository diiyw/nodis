import NodisVerif.Proofs.C11Gc
/-
  C11 / C12: `syncShared` (entry by entry: `ssEnt`) keeps the invariant and what the store shows; the whole `gc` /
  `flush` / `close` passes (`PassSpec`) by `Pass.fold_pass` over the steps of C11Gc.
-/
namespace NodisVerif.Proofs.C11
open NodisVerif.Store NodisVerif.Codec NodisVerif.Spec.Persist
open NodisVerif.Proofs.AListLemmas NodisVerif.Proofs.AListLemmas2 NodisVerif.Proofs.C11AList

/-- the per-entry function of `Store.syncShared` (`syncShared_eq`): an entry takes the value of the hot record that
    shares its object -/
def ssEnt (s : MState) (e : DiskEntry) : DiskEntry :=
  match s.index.find? (fun (_, m) => m.oid = e.oid ∧ e.oid ≠ 0 ∧ m.value.isSome) with
  | some (_, m) => { e with val := m.value.getD e.val }
  | none => e

theorem syncShared_eq (s : MState) :
    syncShared s = if s.pebble then s else { s with disk := s.disk.map fun p => (p.1, ssEnt s p.2) } := by
  unfold syncShared
  split
  · rfl
  · congr 1

theorem ssEnt_cases (s : MState) (e : DiskEntry) :
    ssEnt s e = e ∨ ∃ k m v, (k, m) ∈ s.index ∧ m.oid = e.oid ∧ m.value = some v ∧
      ssEnt s e = { e with val := v } := by
  unfold ssEnt
  cases hf : s.index.find? (fun (_, m) => m.oid = e.oid ∧ e.oid ≠ 0 ∧ m.value.isSome) with
  | none => left; rfl
  | some p =>
    obtain ⟨k, m⟩ := p
    right
    have hmem := List.mem_of_find?_eq_some hf
    have hp := List.find?_some hf
    simp only [decide_eq_true_eq] at hp
    obtain ⟨v, hv⟩ := Option.isSome_iff_exists.mp hp.2.2
    exact ⟨k, m, v, hmem, hp.1, hv, by simp [hv]⟩

@[simp] theorem ssEnt_name (s : MState) (e : DiskEntry) : (ssEnt s e).name = e.name := by
  rcases ssEnt_cases s e with h | ⟨_, _, _, _, _, _, h⟩ <;> rw [h]
@[simp] theorem ssEnt_exp (s : MState) (e : DiskEntry) : (ssEnt s e).exp = e.exp := by
  rcases ssEnt_cases s e with h | ⟨_, _, _, _, _, _, h⟩ <;> rw [h]
@[simp] theorem ssEnt_oid (s : MState) (e : DiskEntry) : (ssEnt s e).oid = e.oid := by
  rcases ssEnt_cases s e with h | ⟨_, _, _, _, _, _, h⟩ <;> rw [h]

theorem syncShared_peb {s : MState} (hp : s.pebble = true) : syncShared s = s := by
  rw [syncShared_eq]; simp [hp]

theorem syncShared_fields (s : MState) :
    (syncShared s).index = s.index ∧ (syncShared s).pebble = s.pebble ∧
    (syncShared s).nextId = s.nextId ∧ (syncShared s).failSet = s.failSet := by
  rw [syncShared_eq]; split <;> exact ⟨rfl, rfl, rfl, rfl⟩

theorem get?_syncShared_disk {s : MState} (hp : s.pebble = false) (dk : Bytes) :
    AList.get? (syncShared s).disk dk = (AList.get? s.disk dk).map (ssEnt s) := by
  rw [syncShared_eq]
  simp only [hp, Bool.false_eq_true, if_false]
  exact get?_map (fun _ e => ssEnt s e) s.disk dk

theorem syncShared_back {s : MState} (hp : s.pebble = false) {dk : Bytes} {e' : DiskEntry}
    (he' : AList.get? (syncShared s).disk dk = some e') :
    ∃ e, AList.get? s.disk dk = some e ∧ e' = ssEnt s e := by
  rw [get?_syncShared_disk hp] at he'
  cases he : AList.get? s.disk dk with
  | none => rw [he] at he'; cases he'
  | some e =>
    rw [he] at he'
    simp only [Option.map_some, Option.some.injEq] at he'
    exact ⟨e, rfl, he'.symm⟩

theorem ssEnt_owner {s : MState} {x : Option Bytes} {t : Int} (h : StoreInvX s x t) (hp : s.pebble = false)
    {dk : Bytes} {e : DiskEntry} (he : AList.get? s.disk dk = some e) :
    ssEnt s e = e ∨ ∃ m0 v0, AList.get? s.index e.name = some m0 ∧ m0.value = some v0 ∧
      m0.oid = e.oid ∧ ssEnt s e = { e with val := v0 } := by
  rcases ssEnt_cases s e with h1 | ⟨k, m, v, hmem, ho, hv, h1⟩
  · left; exact h1
  · right
    have hg := get?_of_mem _ h.idxSorted k m hmem
    have hn := (h.oids hp).entRec dk e k m he hg ho.symm
    exact ⟨m, v, by rw [hn]; exact hg, hv, ho, h1⟩

/-- the entry that holds the value of a clean record still holds it after `syncShared` (in-memory backend): it is
    rewritten with the value of the record that shares its object, which is this record -/
theorem Holds.syncShared {s : MState} {x : Option Bytes} {t : Int} {k : Bytes} {m : Meta} {v : Val} {ent : DiskEntry}
    (h3 : Holds s.pebble m v ent) (h : StoreInvX s x t) (hp : s.pebble = false)
    (hm : AList.get? s.index k = some m) (hv : m.value = some v)
    (h2 : AList.get? s.disk (encodeKey k m.exp) = some ent) : Holds s.pebble m v (ssEnt s ent) := by
  refine ⟨(fun c => by rw [hp] at c; cases c), fun _ => ?_⟩
  have hm3 := h3.mem hp
  refine ⟨by simp [hm3.1], ?_⟩
  rcases ssEnt_owner h hp h2 with h4 | ⟨m0, v0, g1, g2, g3, g4⟩
  · rw [h4]; exact hm3.2
  · have hn := (h.ent_at h2).1
    rw [hn, hm] at g1
    cases g1
    rw [g4]
    rw [hv] at g2; cases g2; rfl

theorem inv_syncShared {s : MState} {x : Option Bytes} {t : Int} (h : StoreInvX s x t) :
    StoreInvX (syncShared s) x t := by
  cases hp : s.pebble with
  | true => rw [syncShared_peb hp]; exact h
  | false =>
    obtain ⟨f1, f2, f3, _⟩ := syncShared_fields s
    have o := h.oids hp
    -- `diskSorted`, `recs`, `ents`, `oids` (`recR`, `recInj`, `entR`, `entRec`, `entInj`), in this order
    refine ⟨by rw [f1]; exact h.idxSorted, ?_, ?_, ?_, ?_, by rw [f3]; exact h.idPos⟩
    · rw [syncShared_eq]; simp only [hp, Bool.false_eq_true, if_false]
      exact sorted_map (fun _ e => ssEnt s e) _ h.diskSorted
    · intro k m hm
      rw [f1] at hm
      have r := h.recs k m hm
      rw [f2]
      refine ⟨r.ok, r.expR, r.good, ?_, r.cold, ?_⟩
      · intro e he
        obtain ⟨ent, a, b, c⟩ := r.stored e he
        exact ⟨ssEnt s ent, by rw [get?_syncShared_disk hp, a]; rfl, by simp [b], by simp [c]⟩
      · intro a b c v hv
        obtain ⟨ent, h1, h2, h3⟩ := r.clean a b c v hv
        refine ⟨ssEnt s ent, h1, by rw [get?_syncShared_disk hp, h2]; rfl, ?_⟩
        exact h3.syncShared h hp hm hv h2
    · intro dk e' he'
      obtain ⟨e, he, rfl⟩ := syncShared_back hp he'
      have q := h.ents dk e he
      rw [f1]
      refine ⟨by simpa using q.key, by simpa using q.expR, ?_, by simpa using q.owner⟩
      rcases ssEnt_owner h hp he with h4 | ⟨m0, v0, g1, g2, g3, g4⟩
      · rw [h4]; exact q.good
      · rw [g4]; exact (h.recs _ m0 g1).good v0 g2
    · intro _
      refine ⟨?_, ?_, ?_, ?_, ?_⟩
      · intro k m hm; rw [f1] at hm; rw [f3]; exact o.recR k m hm
      · intro k1 m1 k2 m2 h1 h2; rw [f1] at h1 h2; exact o.recInj k1 m1 k2 m2 h1 h2
      · intro dk e' he'
        obtain ⟨e, he, rfl⟩ := syncShared_back hp he'
        rw [f3, ssEnt_oid]; exact o.entR dk e he
      · intro dk e' k m he' hm
        obtain ⟨e, he, rfl⟩ := syncShared_back hp he'
        rw [f1] at hm
        rw [ssEnt_oid, ssEnt_name]; exact o.entRec dk e k m he hm
      · intro dk1 e1' dk2 e2' h1 h2
        obtain ⟨e1, he1, rfl⟩ := syncShared_back hp h1
        obtain ⟨e2, he2, rfl⟩ := syncShared_back hp h2
        simp only [ssEnt_oid, ssEnt_name]; exact o.entInj dk1 e1 dk2 e2 he1 he2

theorem lookup_syncShared {s : MState} {x : Option Bytes} {t t' : Int} (h : StoreInvX s x t) (ht : t ≤ t')
    (k : Bytes) : lookup (syncShared s) t' k = lookup s t' k := by
  cases hp : s.pebble with
  | true => rw [syncShared_peb hp]
  | false =>
    obtain ⟨f1, f2, _, _⟩ := syncShared_fields s
    simp only [lookup, getMeta, f1]
    cases hm : AList.get? s.index k with
    | none => rfl
    | some m =>
      simp only [Option.bind_some]
      -- the entry of a cold record shares its object with no hot record, so `syncShared` leaves it as it is
      refine view_of_entry h ht f2 hm (fun hv ent h1 => ?_)
      rw [get?_syncShared_disk hp, h1]
      rcases ssEnt_owner h hp h1 with h4 | ⟨m0, v0, g1, g2, _, _⟩
      · rw [Option.map_some, h4]
      · rw [(h.ent_at h1).1, hm] at g1; cases g1; rw [hv] at g2; cases g2

theorem flushed_syncShared {s : MState} {x : Option Bytes} {t now : Int} (h : StoreInvX s x t) {k : Bytes}
    (hq : RecFlushed s now k) : RecFlushed (syncShared s) now k := by
  cases hp : s.pebble with
  | true => rw [syncShared_peb hp]; exact hq
  | false =>
    obtain ⟨f1, f2, _, _⟩ := syncShared_fields s
    intro m hm
    rw [f1] at hm
    obtain ⟨q1, q2⟩ := hq m hm
    refine ⟨q1, fun a v hv => ?_⟩
    obtain ⟨ent, h1, h2, h3⟩ := q2 a v hv
    refine ⟨ssEnt s ent, h1, by rw [get?_syncShared_disk hp, h2]; rfl, ?_⟩
    rw [f2]
    exact h3.syncShared h hp hm hv h2

theorem index_pass_facts {s : MState} (hs : AList.Sorted s.index) :
    (s.index.map (·.1)).Nodup ∧ (∀ p ∈ s.index, AList.get? s.index p.1 = some p.2) ∧
    (∀ k, k ∉ s.index.map (·.1) → AList.get? s.index k = none) := by
  refine ⟨keys_nodup _ hs, fun p hp => get?_of_mem _ hs p.1 p.2 hp, ?_⟩
  intro k hk
  cases hg : AList.get? s.index k with
  | none => rfl
  | some m => exact absurd (get?_mem_keys _ _ _ hg) hk

/-- a whole pass: `StepSpec` without the clauses about one name.  `gc` gives it at the horizon `t` it found, `flush`
    and `close` at `now` (see `flushStep_spec`) -/
structure PassSpec (s s' : MState) (t now : Int) : Prop where
  inv : StoreInvX s' none t
  peb : s'.pebble = s.pebble
  look : ∀ t', now ≤ t' → ∀ k, lookup s' t' k = lookup s t' k
  fs0 : s.failSet = 0 → s'.failSet = 0

theorem gc_spec_at {s : MState} {t now : Int} (h : StoreInvX s none t) (ht : t ≤ now) (hnil : NilFreeAt s now) :
    PassSpec s (gc s now) t now := by
  rw [gc_eq]
  split
  · exact ⟨h, rfl, fun _ _ _ => rfl, fun a => a⟩
  · obtain ⟨nd, hget, _⟩ := index_pass_facts h.idxSorted
    have key := Pass.fold_pass Prod.fst (gcStep now)
      (fun cur => StoreInvX cur none t ∧ cur.pebble = s.pebble ∧
        (∀ t', now ≤ t' → ∀ k, lookup cur t' k = lookup s t' k) ∧ (s.failSet = 0 → cur.failSet = 0))
      (fun cur p => AList.get? cur.index p.1 = some p.2 ∧ (p.2.expired now = false → NilOK s.pebble p.2))
      (fun _ _ => True) (fun _ _ => True)
      (by
        rintro cur ⟨k, m⟩ ⟨p1, p2, p3, p4⟩ ⟨hm, he⟩
        have sp := (gcStep_spec p1 ht hm (by rw [p2]; exact he)).1
        exact ⟨⟨sp.inv, by rw [sp.peb, p2], fun t' ht' k' => by rw [sp.look t' ht', p3 t' ht'],
          fun hf => sp.fs0 (p4 hf)⟩, trivial, fun q hq => ⟨fun ⟨a, b⟩ => ⟨by rw [sp.idx q.1 hq]; exact a, b⟩, id⟩,
          fun _ _ _ => trivial⟩)
      s.index nd s ⟨h, rfl, fun _ _ _ => rfl, fun a => a⟩ (fun p hp => ⟨hget p hp, hnil p.1 p.2 (hget p hp)⟩)
    obtain ⟨⟨p1, p2, p3, p4⟩, _⟩ := key
    obtain ⟨_, f2, _, f4⟩ := syncShared_fields (s.index.foldl (gcStep now) s)
    exact ⟨inv_syncShared p1, by rw [f2, p2],
      fun t' ht' k => by rw [lookup_syncShared p1 (Int.le_trans ht ht'), p3 t' ht'],
      fun hf => by rw [f4]; exact p4 hf⟩

theorem gc_spec {s : MState} {t now : Int} (h : StoreInvX s none t) (ht : t ≤ now) (hnil : NilFree s) :
    PassSpec s (gc s now) t now := gc_spec_at h ht (hnil.at now)

theorem flush_spec {s : MState} {t now : Int} (h : StoreInvX s none t) (ht : t ≤ now) :
    PassSpec s (flush s now) now now ∧ (s.failSet = 0 → ∀ k, RecFlushed (flush s now) now k) := by
  rw [flush_eq]
  have h' := h.mono ht
  obtain ⟨nd, hget, hnone⟩ := index_pass_facts h.idxSorted
  have key := Pass.fold_pass Prod.fst (flushStep now)
    (fun cur => StoreInvX cur none now ∧ cur.pebble = s.pebble ∧
      (∀ t', now ≤ t' → ∀ k, lookup cur t' k = lookup s t' k) ∧ (s.failSet = 0 → cur.failSet = 0))
    (fun cur p => AList.get? cur.index p.1 = some p.2)
    (fun cur p => s.failSet = 0 → RecFlushed cur now p.1)
    (fun cur k => AList.get? cur.index k = AList.get? s.index k)
    (by
      rintro cur ⟨k, m⟩ ⟨p1, p2, p3, p4⟩ hm
      obtain ⟨sp, fl⟩ := flushStep_spec p1 hm
      refine ⟨⟨sp.inv, by rw [sp.peb, p2], fun t' ht' k' => by rw [sp.look t' ht', p3 t' ht'],
        fun hf => sp.fs0 (p4 hf)⟩, fun hf => fl (p4 hf), fun q hq => ⟨fun a => by rw [sp.idx q.1 hq]; exact a, ?_⟩,
        fun k' hk a => by rw [sp.idx k' hk]; exact a⟩
      intro hq' hf m' hm'
      rw [sp.idx q.1 hq] at hm'
      obtain ⟨q1, q2⟩ := hq' hf m' hm'
      refine ⟨q1, fun a v hv => ?_⟩
      obtain ⟨ent, e1, e2, e3⟩ := q2 a v hv
      have hn := (p1.ent_at e2).1
      exact ⟨ent, e1, (sp.disk _ ent (by rw [hn]; exact hq)).mpr e2, by rw [sp.peb]; exact e3⟩)
    s.index nd s ⟨h', rfl, fun _ _ _ => rfl, fun a => a⟩ hget
  obtain ⟨⟨p1, p2, p3, p4⟩, q, i, _⟩ := key
  obtain ⟨f1, f2, _, f4⟩ := syncShared_fields (s.index.foldl (flushStep now) s)
  refine ⟨⟨inv_syncShared p1, by rw [f2, p2],
    fun t' ht' k => by rw [lookup_syncShared p1 ht', p3 t' ht'],
    fun hf => by rw [f4]; exact p4 hf⟩, ?_⟩
  intro hf k
  apply flushed_syncShared p1
  by_cases hk : k ∈ s.index.map (·.1)
  · obtain ⟨p, hp, rfl⟩ := List.mem_map.mp hk
    exact q p hp hf
  · intro m hm
    rw [i k hk rfl, hnone k hk] at hm; cases hm

theorem close_eq (s : MState) (now : Int) :
    close s now = { flush { s with closed := true } now with closed := true } := rfl

theorem close_spec {s : MState} {t now : Int} (h : StoreInvX s none t) (ht : t ≤ now) :
    PassSpec s (close s now) now now ∧ (s.failSet = 0 → ∀ k, RecFlushed (close s now) now k) := by
  have h1 : StoreInvX { s with closed := true } none t := h.congr rfl rfl rfl rfl
  obtain ⟨sp, fl⟩ := flush_spec h1 ht
  rw [close_eq]
  refine ⟨⟨sp.inv.congr rfl rfl rfl rfl, sp.peb, ?_, sp.fs0⟩, ?_⟩
  · intro t' ht' k
    have e1 : lookup ({ flush { s with closed := true } now with closed := true }) t' k
        = lookup (flush { s with closed := true } now) t' k := lookup_congr rfl rfl rfl _ _
    rw [e1, sp.look t' ht']
    exact lookup_congr rfl rfl rfl _ _
  · intro hf k m hm
    exact fl hf k m hm

end NodisVerif.Proofs.C11

import NodisVerif.Proofs.C08Exec

/-
  C08, the step level, for an arbitrary handler table.  First part: what `dispatch` does by command name
  (`dispatch_cases`: the case analysis every step-level invariant goes through), the step as an equation for EXEC, DISCARD,
  a queued command, a handler's own reply and a closure run at once (`step_exec` … `step_runs`), `RegWF` along steps and
  runs, and `run` over an appended schedule (`run_append`, `run_cons`, `run_replies_length`).  Second part: what a step of connection c does to the *other* connections
  (`Others`), the store effects of a step (`stepOuts`, `stepTouches`, `lastStore`), and the state of a connection that is
  inside MULTI.
-/
namespace NodisVerif.Proofs.C08Step
open Resp Server
open NodisVerif.Proofs.AListLemmas2

variable (H : Table) (sv : Server) (c : Cmd)

theorem not_special {n : String} (h : ¬ special n) :
    n ≠ "MULTI" ∧ n ≠ "EXEC" ∧ n ≠ "DISCARD" ∧ n ≠ "WATCH" ∧ n ≠ "UNWATCH" := by
  unfold special at h
  refine ⟨fun e => h (Or.inl e), fun e => h (Or.inr (Or.inl e)), fun e => h (Or.inr (Or.inr (Or.inl e))),
    fun e => h (Or.inr (Or.inr (Or.inr (Or.inl e)))), fun e => h (Or.inr (Or.inr (Or.inr (Or.inr e))))⟩

theorem dispatch_multi (hn : c.name = "MULTI") : dispatch H sv c = multi sv c.id := by
  simp [dispatch, hn]
theorem dispatch_exec (hn : c.name = "EXEC") : dispatch H sv c = exec sv c.id c.now := by
  simp [dispatch, hn]
theorem dispatch_discard (hn : c.name = "DISCARD") : dispatch H sv c = discard sv c.id := by
  simp [dispatch, hn]
theorem dispatch_watch (hn : c.name = "WATCH") : dispatch H sv c = watch sv c.id c.args := by
  simp [dispatch, hn]
theorem dispatch_unwatch (hn : c.name = "UNWATCH") : dispatch H sv c =
    execCommand (if runsNow (sv.conn c.id).state then unwatchAll sv c.id else sv) c.id c.now c.ch okBody := by
  simp [dispatch, hn, unwatchBody]
theorem dispatch_table (hs : ¬ special c.name) : dispatch H sv c =
    match H c.name c.args with
    | none => (sv, [Tok.err 0])
    | some (.direct ts) => (sv, ts)
    | some .crash => (sv, [Tok.err 0])
    | some (.exec b) => execCommand sv c.id c.now c.ch b := by
  obtain ⟨h1, h2, h3, h4, h5⟩ := not_special hs
  simp only [dispatch, if_neg h1, if_neg h2, if_neg h3, if_neg h4, if_neg h5]
  rfl

theorem dispatch_cases {P : Server × List Tok → Prop} (H : Table) (sv : Server) (c : Cmd)
    (multi : c.name = "MULTI" → P (multi sv c.id))
    (exec : c.name = "EXEC" → P (exec sv c.id c.now))
    (discard : c.name = "DISCARD" → P (discard sv c.id))
    (watch : c.name = "WATCH" → P (watch sv c.id c.args))
    (unwatch : c.name = "UNWATCH" →
      P (execCommand (if runsNow (sv.conn c.id).state then unwatchAll sv c.id else sv) c.id c.now c.ch okBody))
    (reply : ¬ special c.name → (∀ b, H c.name c.args ≠ some (.exec b)) → ∀ ts, P (sv, ts))
    (call : ¬ special c.name → ∀ b, H c.name c.args = some (.exec b) → P (execCommand sv c.id c.now c.ch b)) :
    P (dispatch H sv c) := by
  by_cases h1 : c.name = "MULTI"
  · rw [dispatch_multi H sv c h1]; exact multi h1
  by_cases h2 : c.name = "EXEC"
  · rw [dispatch_exec H sv c h2]; exact exec h2
  by_cases h3 : c.name = "DISCARD"
  · rw [dispatch_discard H sv c h3]; exact discard h3
  by_cases h4 : c.name = "WATCH"
  · rw [dispatch_watch H sv c h4]; exact watch h4
  by_cases h5 : c.name = "UNWATCH"
  · rw [dispatch_unwatch H sv c h5]; exact unwatch h5
  have hs : ¬ special c.name := by
    unfold special; rintro (e | e | e | e | e) <;> contradiction
  rw [dispatch_table H sv c hs]
  cases hH : H c.name c.args with
  | none => exact reply hs (fun b e => by rw [hH] at e; cases e) _
  | some r =>
    cases r with
    | direct ts => exact reply hs (fun b e => by rw [hH] at e; cases e) ts
    | crash => exact reply hs (fun b e => by rw [hH] at e; cases e) _
    | exec b => exact call hs b hH

theorem exec_conn_reset (id : String) (now : Int) : ((exec sv id now).1.conn id) = {} := by
  by_cases h : execRuns (sv.conn id)
  · obtain ⟨c', _, e⟩ := exec_of_runs sv id now h
    rw [e]; exact resetConn_conn_same _ _
  · obtain ⟨ts, e⟩ := exec_of_not_runs sv id now h
    rw [e]; exact resetConn_conn_same _ _

theorem step_exec (hn : c.name = "EXEC") : step H sv c = exec sv c.id c.now := by
  simp only [step, dispatch_exec H sv c hn]
  -- EXEC has reset the connection: the error-flag bookkeeping finds it idle
  rw [afterHandler_noerr _ _ _ (Or.inr (by rw [exec_conn_reset]))]

theorem step_discard (hn : c.name = "DISCARD") : step H sv c = (resetConn sv c.id, [okTok]) := by
  simp only [step, dispatch_discard H sv c hn, discard_eq]
  rw [afterHandler_noerr _ _ _ (Or.inl (by simp [okTok, isErr]))]

theorem step_queued (hs : ¬ special c.name) (b : Body) (hH : H c.name c.args = some (.exec b))
    (hst : (sv.conn c.id).state % 2 = 1) :
    step H sv c = (sv.setConn c.id { (sv.conn c.id) with queue := (sv.conn c.id).queue ++ [b] }, [queuedTok]) := by
  have hr : ¬ runsNow (sv.conn c.id).state := by
    unfold runsNow multiCommit; omega
  simp only [step, dispatch_table H sv c hs, hH, execCommand_eq, if_neg hr, if_pos hst]
  rw [afterHandler_noerr _ _ _ (Or.inl (by simp [queuedTok, isErr]))]

theorem step_direct (hs : ¬ special c.name) (ts : List Tok) (hH : H c.name c.args = some (.direct ts)) :
    step H sv c = (afterHandler sv c.id ts, ts) := by
  simp only [step, dispatch_table H sv c hs, hH]

theorem step_unknown (hs : ¬ special c.name) (hH : H c.name c.args = none ∨ H c.name c.args = some .crash) :
    step H sv c = (afterHandler sv c.id [Tok.err 0], [Tok.err 0]) := by
  rcases hH with hH | hH <;> simp only [step, dispatch_table H sv c hs, hH]

theorem step_runs (hs : ¬ special c.name) (b : Body) (hH : H c.name c.args = some (.exec b))
    (hst : runsNow (sv.conn c.id).state) :
    step H sv c = (afterHandler (runBody sv c.now c.ch b).1 c.id (replyOf (outOf sv.store c.now c.ch b)),
                   replyOf (outOf sv.store c.now c.ch b)) := by
  simp only [step, dispatch_table H sv c hs, hH, execCommand_eq, if_pos hst, runBody_toks]

theorem exec_runs (id : String) (now : Int)
    (hst : (sv.conn id).state % 2 = 1) (herr : ((sv.conn id).state / 4) % 2 ≠ 1)
    (hne : (sv.conn id).queue ≠ []) (hw : (sv.conn id).watch.any (·.2) = false) :
    (exec sv id now).1.store = execStore sv.store now (sv.conn id).queue ∧
    (exec sv id now).2 = Tok.arr (sv.conn id).queue.length ::
        (execOuts sv.store now (sv.conn id).queue).flatMap replyOf := by
  obtain ⟨c', _, e⟩ := exec_of_runs sv id now ⟨hst, herr, hne, hw⟩
  rw [e]
  obtain ⟨h1, h2, _⟩ := execLoop_spec now (sv.conn id).queue (sv.setConn id c') [Tok.arr (sv.conn id).queue.length]
  refine ⟨?_, ?_⟩
  · rw [resetConn_store, h2]; rfl
  · rw [h1]; rfl

theorem exec_empty (id : String) (now : Int)
    (hst : (sv.conn id).state % 2 = 1) (herr : ((sv.conn id).state / 4) % 2 ≠ 1)
    (hw : (sv.conn id).watch.any (·.2) = false)
    (hq : (sv.conn id).queue = []) : exec sv id now = (resetConn sv id, [Tok.arr 0]) := by
  rw [exec_eq]; simp only
  rw [if_neg (by simpa using hst), if_neg herr, if_neg (by simp [hw]), if_pos (by simp [hq])]

theorem exec_no_multi (id : String) (now : Int) (hst : (sv.conn id).state % 2 ≠ 1) :
    exec sv id now = (resetConn sv id, [Tok.err 0]) := by
  rw [exec_eq]; simp only
  rw [if_pos hst]

theorem exec_aborted (id : String) (now : Int)
    (hst : (sv.conn id).state % 2 = 1) (herr : ((sv.conn id).state / 4) % 2 = 1) :
    exec sv id now = (resetConn sv id, [Tok.err 2]) := by
  rw [exec_eq]; simp only
  rw [if_neg (by simpa using hst), if_pos herr]

theorem exec_watch_abort (id : String) (now : Int)
    (hst : (sv.conn id).state % 2 = 1) (herr : ((sv.conn id).state / 4) % 2 ≠ 1)
    (hw : (sv.conn id).watch.any (·.2) = true) :
    exec sv id now = (resetConn sv id, [Tok.nullBulk]) := by
  rw [exec_eq]; simp only
  rw [if_neg (by simpa using hst), if_neg herr, if_pos (by simp [hw])]

theorem exec_flag_no_effect (id : String) (now : Int) (hw : (sv.conn id).watch.any (·.2) = true) :
    (exec sv id now).1.store = sv.store := by
  obtain ⟨ts, e⟩ := exec_of_not_runs sv id now (fun h => by rw [h.2.2.2] at hw; cases hw)
  rw [e]; exact resetConn_store _ _

theorem RegWF.runBody {sv : Server} (h : RegWF sv) (now : Int) (ch : Choice) (b : Body) :
    RegWF (Server.runBody sv now ch b).1 := h.flaggedC (runBody_flagged sv now ch b)

theorem RegWF.execCommand {sv : Server} (h : RegWF sv) (id : String) (now : Int) (ch : Choice) (b : Body) :
    RegWF (Server.execCommand sv id now ch b).1 := by
  rw [execCommand_eq]; split
  · exact h.runBody now ch b
  · refine h.setConn_keep id _ ?_
    split <;> rfl

theorem RegWF.exec {sv : Server} (h : RegWF sv) (id : String) (now : Int) : RegWF (Server.exec sv id now).1 := by
  by_cases hr : execRuns (sv.conn id)
  · obtain ⟨c', hw, e⟩ := exec_of_runs sv id now hr
    rw [e]
    exact RegWF.resetConn ((h.setConn_keep id c' hw).flaggedC (execLoop_spec now _ _ _).2.2) id
  · obtain ⟨ts, e⟩ := exec_of_not_runs sv id now hr
    rw [e]; exact h.resetConn id

theorem RegWF.dispatch {sv : Server} (h : RegWF sv) (H : Table) (c : Cmd) : RegWF (dispatch H sv c).1 := by
  refine dispatch_cases (P := fun d => RegWF d.1) H sv c ?_ ?_ ?_ ?_ ?_ ?_ ?_
  · intro _  -- multi
    rw [multi_eq]; split
    · exact h
    · exact h.setConn_keep _ _ rfl
  · intro _; exact h.exec _ _  -- exec
  · intro _; exact h.resetConn _  -- discard
  · intro _  -- watch
    rw [watch_eq]; split
    · exact h
    · split
      · exact h
      · exact h.watchLoop _ _
  · intro _  -- unwatch
    apply RegWF.execCommand
    split
    · exact h.unwatchAll _
    · exact h
  · intro _ _ _; exact h  -- reply
  · intro _ b _; exact h.execCommand _ _ _ _  -- call

theorem RegWF.step {sv : Server} (h : RegWF sv) (H : Table) (c : Cmd) : RegWF (step H sv c).1 :=
  (h.dispatch H c).afterHandler _ _

theorem RegWF.run (H : Table) : ∀ (cs : List Cmd) {sv : Server}, RegWF sv → RegWF (run H sv cs).1 := by
  intro cs; induction cs with
  | nil => intro sv h; exact h
  | cons c rest ih => intro sv h; exact ih (h.step H c)

theorem run_append : ∀ (cs ds : List Cmd) (sv : Server),
    run H sv (cs ++ ds) = ((run H (run H sv cs).1 ds).1, (run H sv cs).2 ++ (run H (run H sv cs).1 ds).2) := by
  intro cs; induction cs with
  | nil => intro ds sv; rfl
  | cons c rest ih =>
    intro ds sv
    simp only [List.cons_append, run, ih]

theorem run_cons (c : Cmd) (cs : List Cmd) (sv : Server) :
    run H sv (c :: cs) = ((run H (step H sv c).1 cs).1, (step H sv c).2 :: (run H (step H sv c).1 cs).2) := rfl

theorem run_replies_length : ∀ (cs : List Cmd) (sv : Server), (run H sv cs).2.length = cs.length := by
  intro cs; induction cs with
  | nil => intro sv; rfl
  | cons c rest ih => intro sv; simp [run, ih]

end NodisVerif.Proofs.C08Step

namespace NodisVerif.Proofs.C08Step
open Resp Server
open NodisVerif.Proofs.AListLemmas2

/-- everything about connections other than `id` is as before, except that watch flags may have
    been set to true -/
structure Others (id : String) (sv sv' : Server) : Prop where
  state : ∀ i, i ≠ id → (sv'.conn i).state = (sv.conn i).state
  queue : ∀ i, i ≠ id → (sv'.conn i).queue = (sv.conn i).queue
  watch : ∀ i, i ≠ id → ∀ x, AList.get? (sv'.conn i).watch x = AList.get? (sv.conn i).watch x ∨
                              AList.get? (sv'.conn i).watch x = some true
  reg : ∀ i, i ≠ id → ∀ x, registered sv' i x ↔ registered sv i x

theorem Others.refl (id : String) (sv : Server) : Others id sv sv :=
  ⟨fun _ _ => rfl, fun _ _ => rfl, fun _ _ _ => Or.inl rfl, fun _ _ _ => Iff.rfl⟩

theorem Others.trans {id : String} {a b c : Server} (h₁ : Others id a b) (h₂ : Others id b c) : Others id a c := by
  refine ⟨fun i hi => (h₂.state i hi).trans (h₁.state i hi), fun i hi => (h₂.queue i hi).trans (h₁.queue i hi), ?_,
    fun i hi x => (h₂.reg i hi x).trans (h₁.reg i hi x)⟩
  intro i hi x
  rcases h₂.watch i hi x with h | h
  · rw [h]; exact h₁.watch i hi x
  · exact Or.inr h

theorem Others.of_same {id : String} {a b : Server} (hc : ∀ i, i ≠ id → b.conn i = a.conn i)
    (hr : ∀ i, i ≠ id → ∀ x, registered b i x ↔ registered a i x) : Others id a b :=
  ⟨fun i hi => by rw [hc i hi], fun i hi => by rw [hc i hi], fun i hi x => Or.inl (by rw [hc i hi]), hr⟩

theorem Others.setConn (id : String) (sv : Server) (c : ConnState) : Others id sv (sv.setConn id c) :=
  Others.of_same (fun _ hi => conn_setConn_other _ _ _ _ hi) (fun _ _ _ => Iff.rfl)

theorem Others.resetConn (id : String) (sv : Server) : Others id sv (resetConn sv id) :=
  Others.of_same (fun i hi => resetConn_conn_other _ _ _ hi) (fun i hi x => by
    rw [resetConn_registered]; constructor
    · exact fun h => h.1
    · exact fun h => ⟨h, fun h' => hi h'.1⟩)

theorem Others.unwatchAll (id : String) (sv : Server) : Others id sv (unwatchAll sv id) :=
  Others.of_same (fun i hi => unwatchAll_conn_other _ _ _ hi) (fun i hi x => by
    rw [unwatchAll_registered]; constructor
    · exact fun h => h.1
    · exact fun h => ⟨h, fun h' => hi h'.1⟩)

theorem Others.watchLoop (id : String) (keys : List Bytes) (sv : Server) : Others id sv (watchLoop id keys sv) :=
  Others.of_same (fun i hi => watchLoop_conn_other id i hi keys sv) (fun i hi x => by
    rw [watchLoop_registered]; constructor
    · rintro (h | ⟨h, _⟩)
      · exact h
      · exact absurd h hi
    · exact fun h => Or.inl h)

theorem Others.afterHandler (id : String) (sv : Server) (toks : List Tok) : Others id sv (afterHandler sv id toks) :=
  Others.of_same (fun _ hi => afterHandler_conn_other _ _ _ _ hi)
    (fun i _ x => registered_congr (afterHandler_registry _ _ _) i x)

theorem Others.flaggedC {S : String → Bytes → Prop} {sv sv' : Server} (f : FlaggedC S sv sv') (id : String) : Others id sv sv' :=
  ⟨fun i _ => f.state i, fun i _ => f.queue i, fun i _ x => f.watch_or i x, fun i _ x => registered_congr f.registry i x⟩

theorem Others.runBody (id : String) (sv : Server) (now : Int) (ch : Choice) (b : Body) :
    Others id sv (runBody sv now ch b).1 := Others.flaggedC (runBody_flagged sv now ch b) id

theorem Others.execCommand (id : String) (sv : Server) (now : Int) (ch : Choice) (b : Body) :
    Others id sv (execCommand sv id now ch b).1 := by
  rw [execCommand_eq]; split
  · exact Others.runBody _ _ _ _ _
  · exact Others.setConn _ _ _

theorem Others.exec (id : String) (sv : Server) (now : Int) : Others id sv (exec sv id now).1 := by
  by_cases h : execRuns (sv.conn id)
  · obtain ⟨c', _, e⟩ := exec_of_runs sv id now h
    rw [e]
    exact ((Others.setConn id sv c').trans (Others.flaggedC (execLoop_spec now _ _ _).2.2 id)).trans (Others.resetConn _ _)
  · obtain ⟨ts, e⟩ := exec_of_not_runs sv id now h
    rw [e]
    exact Others.resetConn _ _

theorem Others.dispatch (H : Table) (sv : Server) (c : Cmd) : Others c.id sv (dispatch H sv c).1 := by
  refine dispatch_cases (P := fun d => Others c.id sv d.1) H sv c ?_ ?_ ?_ ?_ ?_ ?_ ?_
  · intro _  -- multi
    rw [multi_eq]; split
    · exact Others.refl _ _
    · exact Others.setConn _ _ _
  · intro _; exact Others.exec _ _ _  -- exec
  · intro _; exact Others.resetConn _ _  -- discard
  · intro _  -- watch
    rw [watch_eq]; split
    · exact Others.refl _ _
    · split
      · exact Others.refl _ _
      · exact Others.watchLoop _ _ _
  · intro _  -- unwatch
    split
    · exact (Others.unwatchAll _ _).trans (Others.execCommand _ _ _ _ _)
    · exact Others.execCommand _ _ _ _ _
  · intro _ _ _; exact Others.refl _ _  -- reply
  · intro _ b _; exact Others.execCommand _ _ _ _ _  -- call

theorem Others.step (H : Table) (sv : Server) (c : Cmd) : Others c.id sv (step H sv c).1 :=
  (Others.dispatch H sv c).trans (Others.afterHandler _ _ _)

/-- the outputs of the closures a step runs, in order (none if the command is only queued, refused
    or answered by the handler itself) -/
def stepOuts (H : Table) (sv : Server) (c : Cmd) : List BodyOut :=
  if c.name = "EXEC" then
    (if execRuns (sv.conn c.id) then execOuts sv.store c.now (sv.conn c.id).queue else [])
  else if c.name = "MULTI" ∨ c.name = "DISCARD" ∨ c.name = "WATCH" then []
  else if c.name = "UNWATCH" then
    (if runsNow (sv.conn c.id).state then [outOf sv.store c.now c.ch okBody] else [])
  else match H c.name c.args with
    | some (.exec b) => if runsNow (sv.conn c.id).state then [outOf sv.store c.now c.ch b] else []
    | _ => []

section
variable (H : Table) (sv : Server) (c : Cmd)

theorem stepOuts_exec (h : c.name = "EXEC") : stepOuts H sv c =
    if execRuns (sv.conn c.id) then execOuts sv.store c.now (sv.conn c.id).queue else [] := if_pos h
theorem stepOuts_multi (h : c.name = "MULTI") : stepOuts H sv c = [] := by simp [stepOuts, h]
theorem stepOuts_discard (h : c.name = "DISCARD") : stepOuts H sv c = [] := by simp [stepOuts, h]
theorem stepOuts_watch (h : c.name = "WATCH") : stepOuts H sv c = [] := by simp [stepOuts, h]
theorem stepOuts_unwatch (h : c.name = "UNWATCH") : stepOuts H sv c =
    if runsNow (sv.conn c.id).state then [outOf sv.store c.now c.ch okBody] else [] := by simp [stepOuts, h]
theorem stepOuts_table (hs : ¬ special c.name) : stepOuts H sv c =
    match H c.name c.args with
    | some (.exec b) => if runsNow (sv.conn c.id).state then [outOf sv.store c.now c.ch b] else []
    | _ => [] := by
  obtain ⟨h1, h2, h3, h4, h5⟩ := not_special hs
  unfold stepOuts
  rw [if_neg h2, if_neg (by rintro (e | e | e) <;> contradiction), if_neg h5]
theorem stepOuts_reply (hs : ¬ special c.name) (hH : ∀ b, H c.name c.args ≠ some (.exec b)) : stepOuts H sv c = [] := by
  rw [stepOuts_table H sv c hs]
  split
  · next b hb => exact absurd hb (hH b)
  · rfl
theorem stepOuts_call (hs : ¬ special c.name) {b : Body} (hH : H c.name c.args = some (.exec b)) : stepOuts H sv c =
    if runsNow (sv.conn c.id).state then [outOf sv.store c.now c.ch b] else [] := by
  rw [stepOuts_table H sv c hs, hH]
end

theorem stepOuts_ind {P : List BodyOut → Prop} (H : Table) (sv : Server) (c : Cmd) (nil : P [])
    (one : ∀ b, b = okBody ∨ H c.name c.args = some (.exec b) → P [outOf sv.store c.now c.ch b])
    (queue : P (execOuts sv.store c.now (sv.conn c.id).queue)) : P (stepOuts H sv c) := by
  unfold stepOuts
  by_cases h2 : c.name = "EXEC"
  · rw [if_pos h2]
    by_cases hr : execRuns (sv.conn c.id)
    · rw [if_pos hr]; exact queue
    · rw [if_neg hr]; exact nil
  rw [if_neg h2]
  by_cases h134 : c.name = "MULTI" ∨ c.name = "DISCARD" ∨ c.name = "WATCH"
  · rw [if_pos h134]; exact nil
  rw [if_neg h134]
  by_cases hr : runsNow (sv.conn c.id).state
  · simp only [if_pos hr]
    split
    · exact one _ (Or.inl rfl)
    · split
      · next b hb => exact one b (Or.inr hb)
      · exact nil
  · simp only [if_neg hr]
    split
    · exact nil
    · split <;> exact nil

/-- the step's store effect passed key `x` to `signalModifiedKey`, or cleared the whole store -/
def stepTouches (H : Table) (sv : Server) (c : Cmd) (x : Bytes) : Prop :=
  ∃ o ∈ stepOuts H sv c, x ∈ o.store.signalled ∨ o.store.flushed = true

/-- the store after a step is the store after its last closure (unchanged if it ran none) -/
def lastStore (st : MState) : List BodyOut → MState
  | [] => st
  | o :: os => lastStore (storeAfter o) os

theorem lastStore_execOuts (now : Int) : ∀ (bs : List Body) (st : MState),
    lastStore st (execOuts st now bs) = execStore st now bs := by
  intro bs; induction bs with
  | nil => intro st; rfl
  | cons b rest ih => intro st; simp only [execOuts, lastStore, ih]; rfl

theorem exec_not_runs (sv : Server) (id : String) (now : Int) (h : ¬ execRuns (sv.conn id)) :
    (exec sv id now).1 = resetConn sv id := by
  obtain ⟨ts, e⟩ := exec_of_not_runs sv id now h
  rw [e]

theorem step_store (H : Table) (sv : Server) (c : Cmd) :
    (step H sv c).1.store = lastStore sv.store (stepOuts H sv c) := by
  simp only [step, afterHandler_store]
  refine dispatch_cases (P := fun d => d.1.store = lastStore sv.store (stepOuts H sv c)) H sv c ?_ ?_ ?_ ?_ ?_ ?_ ?_
  · intro h1; rw [multi_eq, stepOuts_multi H sv c h1]; split <;> rfl  -- multi
  · intro h2; rw [stepOuts_exec H sv c h2]  -- exec
    by_cases hr : execRuns (sv.conn c.id)
    · rw [if_pos hr, lastStore_execOuts]
      exact (exec_runs sv c.id c.now hr.1 hr.2.1 hr.2.2.1 hr.2.2.2).1
    · rw [if_neg hr, exec_not_runs sv c.id c.now hr]; exact resetConn_store _ _
  · intro h3; rw [discard_eq, stepOuts_discard H sv c h3]; exact resetConn_store _ _  -- discard
  · intro h4; rw [watch_eq, stepOuts_watch H sv c h4]  -- watch
    split
    · rfl
    · split
      · rfl
      · exact watchLoop_store _ _ _
  · intro h5; rw [execCommand_eq, stepOuts_unwatch H sv c h5]  -- unwatch
    by_cases hr : runsNow (sv.conn c.id).state
    · have : runsNow ((unwatchAll sv c.id).conn c.id).state := by rw [unwatchAll_conn_same]; exact hr
      rw [if_pos hr, if_pos hr, if_pos this, runBody_store, unwatchAll_store]; rfl
    · rw [if_neg hr, if_neg hr, if_neg hr]; rfl
  · intro hs hH _; rw [stepOuts_reply H sv c hs hH]; rfl  -- reply
  · intro hs b hH; rw [execCommand_eq, stepOuts_call H sv c hs hH]  -- call
    by_cases hr : runsNow (sv.conn c.id).state
    · rw [if_pos hr, if_pos hr, runBody_store]; rfl
    · rw [if_neg hr, if_neg hr]; rfl

theorem step_exec_runs (H : Table) (sv : Server) (c : Cmd) (hn : c.name = "EXEC")
    (hst : (sv.conn c.id).state = multiPrepare) (hne : (sv.conn c.id).queue ≠ [])
    (hw : (sv.conn c.id).watch.any (·.2) = false) :
    (step H sv c).1.store = execStore sv.store c.now (sv.conn c.id).queue ∧
    (step H sv c).2 = Tok.arr (sv.conn c.id).queue.length ::
        (execOuts sv.store c.now (sv.conn c.id).queue).flatMap replyOf ∧
    stepOuts H sv c = execOuts sv.store c.now (sv.conn c.id).queue := by
  have h1 : (sv.conn c.id).state % 2 = 1 := by rw [hst]; rfl
  have h2 : ((sv.conn c.id).state / 4) % 2 ≠ 1 := by rw [hst]; decide
  rw [step_exec H sv c hn, stepOuts_exec H sv c hn, if_pos ⟨h1, h2, hne, hw⟩]
  exact ⟨(exec_runs sv c.id c.now h1 h2 hne hw).1, (exec_runs sv c.id c.now h1 h2 hne hw).2, rfl⟩

theorem step_quiet (H : Table) (sv : Server) (c : Cmd) (hq : stepOuts H sv c = []) :
    (step H sv c).1.store = sv.store := by
  rw [step_store, hq]; rfl

theorem step_state_in_multi (H : Table) (sv : Server) (c : Cmd)
    (hst : (sv.conn c.id).state % 2 = 1) (h2 : c.name ≠ "EXEC") (h3 : c.name ≠ "DISCARD") :
    ((step H sv c).1.conn c.id).state =
      (if (step H sv c).2.any isErr ∧ ((sv.conn c.id).state / 4) % 2 ≠ 1
       then (sv.conn c.id).state + multiError else (sv.conn c.id).state) ∧
    (step H sv c).1.store = sv.store := by
  have hr : ¬ runsNow (sv.conn c.id).state := by unfold runsNow multiCommit; omega
  have hne : (sv.conn c.id).state ≠ 0 := by omega
  have hd : (dispatch H sv c).1.store = sv.store ∧ ((dispatch H sv c).1.conn c.id).state = (sv.conn c.id).state := by
    refine dispatch_cases (P := fun d => d.1.store = sv.store ∧ (d.1.conn c.id).state = (sv.conn c.id).state) H sv c
      ?_ ?_ ?_ ?_ ?_ ?_ ?_
    · intro _; rw [multi_eq, if_pos hst]; exact ⟨rfl, rfl⟩  -- multi
    · intro e; exact absurd e h2  -- exec
    · intro e; exact absurd e h3  -- discard
    · intro _; rw [watch_eq, if_pos hst]; exact ⟨rfl, rfl⟩  -- watch
    · intro _; rw [if_neg hr, execCommand_eq, if_neg hr]; exact ⟨rfl, by rw [conn_setConn_same, if_pos hst]⟩  -- unwatch
    · intro _ _ _; exact ⟨rfl, rfl⟩  -- reply
    · intro _ b _; rw [execCommand_eq, if_neg hr]; exact ⟨rfl, by rw [conn_setConn_same, if_pos hst]⟩  -- call
  simp only [step]
  rw [afterHandler_state, afterHandler_store, hd.1, hd.2]
  simp [hne]

end NodisVerif.Proofs.C08Step

import NodisVerif.Proofs.C20Str
/-
  C20, strings: GetSet and SetNX (which publish a brand-new record on a missing key) and MSet.
-/
namespace NodisVerif.Proofs.C20
open NodisVerif NodisVerif.Store NodisVerif.Spec.Persist NodisVerif.Proofs.C11

variable {now : Int} {p r : MState}

theorem publish_spec {s : MState} {now : Int} (h : StoreInv s now) (k : Bytes) (hL : lookup s now k = none)
    (v0 : Val) (hv0 : Good v0) (a : Act) (ha : a.GoodA) (hl : s.listeners = true) :
    StoreInv (runAct (newKeyWith (writeKey s now k none).1 k none v0) k a).1 now ∧
    (runAct (newKeyWith (writeKey s now k none).1 k none v0) k a).2 = a.reply ∧
    (∀ k', lookup (runAct (newKeyWith (writeKey s now k none).1 k none v0) k a).1 now k' =
      upd (lookup s now) k (match a.eff v0 0 with
        | none => some (v0, 0)
        | some c => c.bind (filt · now)) k') ∧
    fl (runAct (newKeyWith (writeKey s now k none).1 k none v0) k a).1 = ((Act.ops a).reverse ++ s.feed, true) ∧
    (writeKey s now k none).2 = false := by
  have ks := writeKey_spec h (Int.le_refl now) k none (fun _ hc => nomatch hc)
  have hfl := fl_writeKey s now k none
  generalize writeKey s now k none = r0 at ks hfl
  obtain ⟨s1, okk⟩ := r0
  obtain ⟨hok, _⟩ := ks.miss hL rfl
  simp only at hok hfl ⊢
  have kinv : StoreInvX s1 none now := ks.inv
  have kother : ∀ t', now ≤ t' → ∀ k', k' ≠ k → lookup s1 t' k' = lookup s t' k' := ks.other
  have i2 : StoreInvX (newKeyWith s1 k none v0) none now :=
    inv_newKeyWith kinv k none (fun _ hc => nomatch hc) hv0
  obtain ⟨n1, n2, _⟩ := newRec_facts s1 none v0
  have hm2 : AList.get? (newKeyWith s1 k none v0).index k = some (newRec s1 none v0) := by
    rw [get?_newKeyWith]; simp
  obtain ⟨a1, _, _, a4, a5⟩ := runAct_spec i2 hm2 n1 a ha
  have hfl2 : fl (newKeyWith s1 k none v0) = fl s := by rw [fl_newKeyWith]; exact hfl
  have hl2 : (newKeyWith s1 k none v0).listeners = true := ((fl_eq hfl2).2).trans hl
  refine ⟨a1, a4, ?_, ?_, hok⟩
  · intro k'
    rw [a5 now (Int.le_refl _) k', n2, applyEff_now]
    simp only [StoreView.plookup_newKeyWith, if_true, upd]
    by_cases hk : k' = k
    · simp only [hk, if_true]; rfl
    · simp only [hk, if_false]; exact kother now (Int.le_refl _) k' hk
  · rw [fl_runAct _ _ _ hl2]
    rw [show (newKeyWith s1 k none v0).feed = s.feed from (fl_eq hfl2).1]

theorem getSet_raw (h : StoreInv p now) (hl : p.listeners = true) (hfd : p.feed = []) (k v : Bytes) :
    (Api.getSet p now k v).1.feed.reverse = ((Cmd.getSet k v).form now).ops (lookup p now k) ∧
    (Api.getSet p now k v).1.listeners = true := by
  rw [getSet_eq]
  cases hL : lookup p now k with
  | none =>
    obtain ⟨_, _, _, a4, a5⟩ := publish_spec h k hL (.str []) (good_str [])
      (.put (some (.str v)) (some 0) [Api.opSet k v false] (.bytes none))
      ⟨(fun w hw => by cases hw; exact good_str _), (fun e he => by cases he; decide)⟩ hl
    rw [a5, if_pos (show (!false) = true from rfl)]
    -- with the new record as a variable the two spellings of the state are seen to agree at once
    generalize newKeyWith (writeKey p now k none).1 k none (.str []) = s0 at a4 ⊢
    exact ⟨(congrArg (fun q => q.1.reverse) a4).trans (by rw [hfd]; rfl), (fl_eq a4).2⟩
  | some c =>
    obtain ⟨w, e⟩ := c
    have ks := writeKey_spec h (Int.le_refl now) k none (fun _ hc => nomatch hc)
    rw [(ks.hit w e hL).1, if_neg (by decide)]
    have hf : (⟨true, none, .bytes none, Cmd.pan, decGetSet k v, k⟩ : TxForm).OK :=
      ⟨(fun c => nomatch c), (fun _ hc => nomatch hc), (Cmd.ok (.getSet k v) now trivial).decGood⟩
    have := form_raw hf h hl hfd
    rw [hL] at this
    exact this

theorem getSet_echo (c : Feed.CallInfo) (hc : plainMethod c.method = true) (k v : Bytes) (L : Option (Val × Int))
    (hlive : Live now L) (hnn : ∀ e, L ≠ some (.strNil, e)) :
    Echo now (Feed.emission c) ((Cmd.getSet k v).form now) L ∧
      ∀ e, ((Cmd.getSet k v).form now).post now L ≠ some (.strNil, e) := by
  let g : DsStr.S → Option (Option Val × Option Int × List FeedOp × Out) :=
    fun old => some (some (Val.str v), some 0, [Api.opSet k v false], Out.bytes old)
  have hrec : ∀ (s : DsStr.S) x, g s = some x → StrRec c k x := by
    intro _ x hx
    cases hx
    exact strRec_plain hc k v false 0 (by decide) (fun h => nomatch h) _
  exact strWrite_echo c (fun out => emission_plain hc out []) ((Cmd.getSet k v).form now) g (fun _ => .panic) rfl none
    (Or.inl rfl) (fun b x hx => hrec (some b) x hx) (fun x hx => hrec none x hx) L hlive hnn (fun _ _ h => nomatch h)

/-- GETSET publishes a new record on a missing key, so it is no key transaction; it meets the specification of
    one (`Cmd.getSet_spec`), and that is all `echo_tx` asks for -/
theorem getSet_main (hs : Same now p r) (hl : p.listeners = true) (hfd : p.feed = [])
    (c : Feed.CallInfo) (hc : plainMethod c.method = true) (k v : Bytes) :
    Replay now r c (Api.getSet p now k v) ∧ (Api.getSet p now k v).1.listeners = true ∧
    ∀ op ∈ Feed.emission c (Api.getSet p now k v).2 (Api.getSet p now k v).1.feed.reverse, op.key = k := by
  obtain ⟨hraw, hlis⟩ := getSet_raw hs.invP hl hfd k v
  unfold Replay
  rw [hraw]
  obtain ⟨a, b⟩ := echo_tx hs ((Cmd.getSet k v).form now) _ (Cmd.getSet_spec hs.invP (Int.le_refl now) k v)
    (Feed.emission c) fun L hlive hnn _ => getSet_echo c hc k v L hlive hnn
  exact ⟨a, hlis, b⟩

theorem setExp_newKeyWith_zero (s : MState) (k : Bytes) (v0 : Val) :
    Api.setExp (newKeyWith s k none v0) k 0 = newKeyWith s k none v0 := by
  rw [C11.newKeyWith_eq, setExp_putMeta]
  rfl

theorem setNX_hit (s : MState) (now : Int) (k v : Bytes) (keep : Bool) (hok : (writeKey s now k none).2 = true) :
    Api.setNX s now k v keep = ((writeKey s now k none).1, .bool false) := by
  unfold Api.setNX
  generalize writeKey s now k none = r0 at hok
  obtain ⟨s1, okk⟩ := r0
  simp only at hok; subst hok
  rfl

theorem setNX_miss (s : MState) (now : Int) (k v : Bytes) (keep : Bool) (hok : (writeKey s now k none).2 = false) :
    Api.setNX s now k v keep =
      runAct (newKeyWith (writeKey s now k none).1 k none (.str [])) k
        (.put (some (.str v)) none [Api.opSet k v keep] (.bool true)) := by
  unfold Api.setNX
  generalize writeKey s now k none = r0 at hok
  obtain ⟨s1, okk⟩ := r0
  simp only at hok; subst hok
  simp only [Bool.false_eq_true, if_false]
  cases keep
  · simp only [Bool.not_false, if_true, setExp_newKeyWith_zero]; rfl
  · rfl

theorem setNX_spec (h : StoreInv p now) (hl : p.listeners = true) (k v : Bytes) (keep : Bool) :
    StoreInv (Api.setNX p now k v keep).1 now ∧
    (∀ k', lookup (Api.setNX p now k v keep).1 now k' =
      upd (lookup p now) k (some ((lookup p now k).getD (.str v, 0))) k') ∧
    fl (Api.setNX p now k v keep).1 =
      ((if (lookup p now k).isSome then [] else [Api.opSet k v keep]) ++ p.feed, true) := by
  cases hL : lookup p now k with
  | some cc =>
    have ks := writeKey_spec h (Int.le_refl now) k none (fun _ hc => nomatch hc)
    obtain ⟨hok, hlk, _⟩ := ks.hit cc.1 cc.2 hL
    rw [setNX_hit p now k v keep hok]
    refine ⟨ks.inv, fun k' => ?_, by rw [fl_writeKey]; simp [fl, hl]⟩
    by_cases hk : k' = k
    · subst hk; rw [upd_same]; exact (hlk now (Int.le_refl _)).trans hL
    · rw [upd_other _ _ _ hk]; exact ks.other now (Int.le_refl _) k' hk
  | none =>
    obtain ⟨a1, _, a3, a4, a5⟩ := publish_spec h k hL (.str []) (good_str [])
      (.put (some (.str v)) none [Api.opSet k v keep] (.bool true))
      ⟨(fun w hw => by cases hw; exact good_str _), (fun e he => by cases he)⟩ hl
    rw [setNX_miss p now k v keep a5]
    exact ⟨a1, fun k' => by rw [a3 k']; simp [Act.eff, filt_zero], a4⟩

theorem setNX_replay (hs : Same now p r) (hl : p.listeners = true) (hfd : p.feed = [])
    (c : Feed.CallInfo) (hc : plainMethod c.method = true) (k v : Bytes) (keep : Bool) :
    Replay now r c (Api.setNX p now k v keep) := by
  obtain ⟨i1, l1, f1⟩ := setNX_spec hs.invP hl k v keep
  unfold Replay
  rw [emission_plain hc, (fl_eq f1).1, hfd]
  refine main_of i1 l1 ?_ ?_
  · intro k' e
    by_cases hk : k' = k
    · subst hk
      rw [upd_same]
      cases hL : lookup p now k' with
      | none => exact fun hc => nomatch hc
      | some cc => intro hc; cases hc; exact hs.nonil k' e hL
    · rw [upd_other _ _ _ hk]; exact hs.nonil k' e
  · cases hL : lookup p now k with
    | some cc =>
      have := Replays.nil hs.invR
      rw [funext hs.look, ← upd_self (lookup p now) k, hL] at this
      exact this
    | none =>
      have := replays_set hs.invR k v keep 0 (by decide)
      rw [hs.look k, funext hs.look, hL] at this
      exact this

theorem setNX_main (hs : Same now p r) (hl : p.listeners = true) (hfd : p.feed = [])
    (c : Feed.CallInfo) (hc : plainMethod c.method = true) (k v : Bytes) (keep : Bool) :
    Replay now r c (Api.setNX p now k v keep) ∧ (Api.setNX p now k v keep).1.listeners = true ∧
    ∀ op ∈ (Api.setNX p now k v keep).1.feed.reverse, op.key = k := by
  have hfl := fl_eq (setNX_spec hs.invP hl k v keep).2.2
  refine ⟨setNX_replay hs hl hfd c hc k v keep, hfl.2, ?_⟩
  rw [hfl.1, hfd]
  split
  · exact fun _ hop => nomatch hop
  · exact fun _ hop => by rw [List.mem_singleton.mp hop]; rfl

theorem set_echo (c : Feed.CallInfo) (hc : plainMethod c.method = true) (k v : Bytes) (keep : Bool)
    (L : Option (Val × Int)) (hlive : Live now L) (hnn : ∀ e, L ≠ some (.strNil, e)) :
    Echo now (Feed.emission c) (setF now k v keep) L ∧ ∀ e, (setF now k v keep).post now L ≠ some (.strNil, e) := by
  let g : DsStr.S → Option (Option Val × Option Int × List FeedOp × Out) :=
    fun _ => some (some (Val.str v), (if keep then none else some (0 : Int)), [Api.opSet k v keep], Out.unit)
  have hrec : ∀ (s : DsStr.S) x, g s = some x → StrRec c k x := by
    intro _ x hx
    cases hx
    exact strRec_plain hc k v keep 0 (by decide) (fun _ => rfl) _
  exact strWrite_echo c (fun out => emission_plain hc out []) (setF now k v keep) g (fun _ => .panic) rfl (some [])
    (Or.inl rfl) (fun b x hx => hrec (some b) x hx) (fun x hx => hrec (some []) x hx) L hlive hnn (fun _ _ h => nomatch h)

/-- one SET on a primary whose feed need not be drained (MSET is a sequence of them) -/
theorem set_step (hs : Same now p r) (hl : p.listeners = true) (k v : Bytes) (keep : Bool) :
    Follows now p r (Api.set p now k v keep).1 (·.key = k) := by
  rw [show Api.set p now k v keep = (setF now k v keep).run p now from
    Cmd.run_eq (.set k v keep) now trivial (fun _ _ h => nomatch h) p]
  let c : Feed.CallInfo := { method := "Set" }
  have hc : plainMethod c.method = true := by decide
  exact Follows.of_echo hs hl (setF now k v keep) (setF_ok now k v keep) (emission_plain hc)
    fun L hlive hnn => set_echo c hc k v keep L hlive hnn

theorem mset_go_step : ∀ (n : Nat) (pairs : List Bytes), pairs.length ≤ n → ∀ (p r : MState), Same now p r →
    p.listeners = true → Follows now p r (Api.mset.go now pairs p).1 (·.key ∈ pairs) := by
  intro n
  induction n with
  | zero =>
    intro pairs hn p r hs hl
    cases pairs with
    | nil => exact Follows.refl hs hl _
    | cons a t => simp at hn
  | succ n ih =>
    intro pairs hn p r hs hl
    match pairs, hn with
    | [], _ => exact Follows.refl hs hl _
    | [a], _ => exact Follows.refl hs hl _
    | k :: v :: rest, hn =>
      have one : Follows now p r (Api.set p now k v false).1 (·.key ∈ k :: v :: rest) :=
        (set_step hs hl k v false).mono fun op h => h ▸ List.mem_cons_self ..
      rw [Api.mset.go]
      generalize Api.set p now k v false = res at one
      obtain ⟨s, o⟩ := res
      have cont : Follows now p r (Api.mset.go now rest (Api.commit s)).1 (·.key ∈ k :: v :: rest) :=
        one.commit.trans fun r1 s1 hl1 =>
          (ih rest (by simp at hn; omega) (Api.commit s) r1 s1 hl1).mono fun op h =>
            List.mem_cons_of_mem _ (List.mem_cons_of_mem _ h)
      cases o <;> first | exact one | exact cont

/-- MSET as a whole: an odd argument list does nothing, otherwise the loop -/
theorem mset_follows (hs : Same now p r) (hl : p.listeners = true) (pairs : List Bytes) :
    Follows now p r (Api.mset p now pairs).1 (·.key ∈ pairs) := by
  unfold Api.mset
  split
  · exact Follows.refl hs hl _
  · exact mset_go_step pairs.length pairs (Nat.le_refl _) p r hs hl

end NodisVerif.Proofs.C20

import NodisVerif.Proofs.C12Sched
import NodisVerif.Proofs.C20Ops
/-
  C20, sorted sets: ZAdd, ZAddNX, ZAddXX, ZAddLT, ZAddGT (every record is a ZADD member score).
-/
namespace NodisVerif.Proofs.C20
open NodisVerif NodisVerif.Store NodisVerif.Spec.Persist NodisVerif.Proofs.C11

variable {now : Int} {p r : MState}

def zaddF (now : Int) (k m : Bytes) (sc : F64) : TxForm := (Cmd.zadd k m sc).form now

theorem zaddF_ok (now : Int) (k m : Bytes) (sc : F64) (hn : F64.isNaN sc = false) (hb : m.length + 8 < 2 ^ 63) :
    (zaddF now k m sc).OK := Cmd.ok (.zadd k m sc) now ⟨hn, hb⟩

theorem applyOp_zadd (r0 : MState) (now : Int) (k m : Bytes) (sc : F64) :
    Feed.applyOp r0 now (Api.opZAdd k m sc) = some ((zaddF now k m sc).run r0 now).1 := by
  rw [replica_zadd, zadd_eq]; rfl

/-- content of a key after `ZADD m sc` -/
def zaddPost (m : Bytes) (sc : F64) : Option (Val × Int) → Option (Val × Int)
  | none => some (.zset (DsZSet.zAdd DsZSet.empty m sc).1, 0)
  | some (.zset z, e) => some (.zset (DsZSet.zAdd z m sc).1, e)
  | some c => some c

theorem zaddF_post (k m : Bytes) (sc : F64) {L : Option (Val × Int)} (hL : Live now L) :
    (zaddF now k m sc).post now L = zaddPost m sc L := by
  cases L with
  | none => simp [zaddF, TxForm.post, TxForm.spec, txSpec, Cmd.form, decZaddWith, Act.eff, zaddPost, filt_zero]
  | some c =>
    obtain ⟨w, e0⟩ := c
    have hl := hL w e0 rfl
    cases w <;> simp [zaddF, TxForm.post, TxForm.spec, txSpec, Cmd.form, decZaddWith, Act.eff, zaddPost, hl]

theorem zaddIfF_ok (cond : ZSet → Bool) (out : ZSet → Out) (no : Out) (key m : Bytes) (sc : F64)
    (hn : F64.isNaN sc = false) (hb : m.length + 8 < 2 ^ 63) : (zaddIfF cond out no key m sc).OK := by
  refine ⟨(fun h => nomatch h), (fun _ h => nomatch h), fun w e hg _ => ?_⟩
  cases w with
  | zset z =>
    show (decZaddIf cond out no key m sc (.zset z) e).GoodA
    unfold decZaddIf
    simp only
    split
    · exact ⟨(fun w hw => by cases hw; exact good_zadd z m sc hg hn hb), (fun e he => by cases he)⟩
    · trivial
  | _ => trivial

theorem zaddIfF_nilSafe (cond : ZSet → Bool) (out : ZSet → Out) (no : Out) (key m : Bytes) (sc : F64) :
    (zaddIfF cond out no key m sc).NilSafe := by
  apply nilSafe_of
  · intro v e hv
    cases v <;> simp_all [zaddIfF, decZaddIf]
  · intro v0 h0; cases h0


theorem zaddF_self (k m : Bytes) (sc : F64) : SelfRec now (zaddF now k m sc) (Api.opZAdd k m sc) := by
  refine ⟨rfl, fun r0 => applyOp_zadd r0 now k m sc, fun w e => ?_, fun v0 h0 => by cases h0; rfl⟩
  cases w with
  | zset z => exact Or.inr rfl
  | _ => exact Or.inl ⟨_, rfl⟩

/-- ZADD NX: the record of a call that added nothing is not delivered -/
theorem zaddNX_echo (c : Feed.CallInfo) (hc : c.method = "ZAddNX") (k m : Bytes) (sc : F64)
    (hn : F64.isNaN sc = false) (hb : m.length + 8 < 2 ^ 63) (L : Option (Val × Int)) (hlive : Live now L) :
    Echo now (Feed.emission c) (zaddNXForm k m sc) L := by
  have hem0 : ∀ raw, Feed.emission c (.int 0) raw = [] := by
    intro raw; unfold Feed.emission; simp [hc, Feed.keepTTLMethods]
  have hem1 : ∀ raw, Feed.emission c (.int 1) raw = raw := by
    intro raw; unfold Feed.emission; simp [hc, Feed.keepTTLMethods]
  have hnil : ∀ o, Feed.emission c o [] = [] := by
    intro o; unfold Feed.emission; simp [hc, Feed.keepTTLMethods]; split <;> rfl
  refine echo_dec (hnil _) fun w e hsee => ?_
  cases w with
  | zset z =>
    cases hg : AList.get? z.dict m with
    | some old =>
      have hnx : DsZSet.zAddNX z m sc = (z, 0) := by simp [DsZSet.zAddNX, AList.contains, hg]
      left
      rcases TxForm.sees_cases hsee with rfl | ⟨_, hc0, _⟩
      · simp [zaddNXForm, decZaddWith, hnx, Act.reply, hem0, Act.post, Act.eff, hlive _ _ rfl]
      · cases hc0; simp [DsZSet.empty, AList.get?] at hg
    | none =>
      have hnx : DsZSet.zAddNX z m sc = DsZSet.zAdd z m sc := by simp [DsZSet.zAddNX, AList.contains, hg]
      have h1 : (DsZSet.zAdd z m sc).2 = 1 := by simp [DsZSet.zAdd, hg]
      refine Or.inr ⟨Api.opZAdd k m sc, zaddF now k m sc, ?_, rfl, zaddF_ok now k m sc hn hb, rfl, hsee,
        fun r0 => applyOp_zadd r0 now k m sc, ?_⟩
      · simp [zaddNXForm, decZaddWith, hnx, h1, Act.ops, Act.reply, hem1]
      · simp [zaddNXForm, zaddF, Cmd.form, decZaddWith, hnx]
  | _ =>
    left
    rcases TxForm.sees_cases hsee with rfl | ⟨_, hc0, _⟩
    · simp [zaddNXForm, decZaddWith, Act.ops, Act.reply, Act.post, Act.eff, hnil]
    · cases hc0

theorem zaddIf_echo {em : Out → List FeedOp → List FeedOp} (hem : ∀ o l, em o l = l) (cond : ZSet → Bool)
    (out : ZSet → Out) (no : Out) (k m : Bytes) (sc : F64) (hn : F64.isNaN sc = false) (hb : m.length + 8 < 2 ^ 63)
    (L : Option (Val × Int)) : Echo now em (zaddIfF cond out no k m sc) L := by
  refine echo_dec (hem _ _) fun w e hsee => ?_
  rw [hem]
  obtain rfl : L = some (w, e) := (TxForm.sees_cases hsee).resolve_right fun h => by cases h.2.1
  cases w with
  | zset z =>
    by_cases hcd : cond z = true
    · refine Or.inr ⟨Api.opZAdd k m sc, zaddF now k m sc, ?_, rfl, zaddF_ok now k m sc hn hb, rfl, rfl,
        fun r0 => applyOp_zadd r0 now k m sc, ?_⟩ <;>
        simp [zaddIfF, decZaddIf, hcd, Act.ops, Act.post, Act.eff, zaddF, Cmd.form, decZaddWith]
    · left
      simp [zaddIfF, decZaddIf, hcd, Act.ops, Act.post, Act.eff]
  | _ =>
    left
    simp [zaddIfF, decZaddIf, Act.ops, Act.post, Act.eff]

end NodisVerif.Proofs.C20

import NodisVerif.Proofs.C11Inv
import NodisVerif.Proofs.StoreLemmas
/-
  C11 / C12: the store primitives preserve the invariant; their effect on the logical keyspace.
-/
namespace NodisVerif.Proofs.C11
open NodisVerif.Store NodisVerif.Codec NodisVerif.Spec.Persist
open NodisVerif.Proofs.AListLemmas NodisVerif.Proofs.AListLemmas2 NodisVerif.Proofs.C11AList

theorem logical_eq (s : MState) (now : Int) :
    logical s now = s.index.filterMap fun p => (view s now p.1 p.2).map fun w => (p.1, w) := rfl

theorem logical_sorted (s : MState) (now : Int) (h : AList.Sorted s.index) :
    AList.Sorted (logical s now) := by
  rw [logical_eq]; exact sorted_filterMap _ _ h

theorem get?_logical (s : MState) (now : Int) (h : AList.Sorted s.index) (k : Bytes) :
    AList.get? (logical s now) k = lookup s now k := by
  rw [logical_eq, get?_filterMap _ _ h]; rfl

theorem logical_ext {s s' : MState} {now now' : Int} (h : AList.Sorted s.index) (h' : AList.Sorted s'.index)
    (hl : ∀ k, lookup s' now' k = lookup s now k) : logical s' now' = logical s now := by
  apply ext_of_sorted _ _ (logical_sorted _ _ h') (logical_sorted _ _ h)
  intro k
  rw [get?_logical _ _ h', get?_logical _ _ h, hl]

theorem lookup_of_logical {s s' : MState} {now now' : Int} (h : AList.Sorted s.index) (h' : AList.Sorted s'.index)
    (hl : logical s' now' = logical s now) (k : Bytes) : lookup s' now' k = lookup s now k := by
  rw [← get?_logical _ _ h', ← get?_logical _ _ h, hl]

theorem view_congr {s s' : MState} (hd : s'.disk = s.disk) (hp : s'.pebble = s.pebble)
    (now : Int) (k : Bytes) (m : Meta) : view s' now k m = view s now k m := by
  simp only [view, loadValue, diskGet, hd, hp]

theorem lookup_congr {s s' : MState} (hi : s'.index = s.index) (hd : s'.disk = s.disk)
    (hp : s'.pebble = s.pebble) (now : Int) (k : Bytes) : lookup s' now k = lookup s now k := by
  simp only [lookup, getMeta, hi]
  cases AList.get? s.index k with
  | none => rfl
  | some m => simp only [Option.bind_some]; exact view_congr hd hp now k m

theorem view_of_entry {s s' : MState} {x : Option Bytes} {t t' : Int} {k : Bytes} {m : Meta}
    (h : StoreInvX s x t) (ht : t ≤ t') (hp : s'.pebble = s.pebble) (hm : AList.get? s.index k = some m)
    (hE : m.value = none → ∀ ent, AList.get? s.disk (encodeKey k m.exp) = some ent →
      AList.get? s'.disk (encodeKey k m.exp) = some ent) : view s' t' k m = view s t' k m := by
  have r := h.recs k m hm
  unfold view
  by_cases hc : (m.isOk && !m.expired t') = true
  · simp only [hc, if_true]
    cases hv : m.value with
    | some v => rfl
    | none =>
      simp only []
      have hal : m.expired t = false := by
        simp only [Bool.and_eq_true, Bool.not_eq_true'] at hc
        exact Meta.alive_anti m ht hc.2
      obtain ⟨ent, h1, _, _⟩ := r.stored _ (r.cold hal hv)
      simp only [loadValue, diskGet, h1, hE hv ent h1, hp]
  · simp only [hc]
    rfl

theorem view_frame {s s' : MState} {x : Option Bytes} {t t' : Int} {k k' : Bytes} {m : Meta}
    (h : StoreInvX s x t) (ht : t ≤ t') (hp : s'.pebble = s.pebble)
    (hD1 : ∀ dk e, AList.get? s.disk dk = some e → e.name ≠ k → AList.get? s'.disk dk = some e)
    (hk : k' ≠ k) (hm : AList.get? s.index k' = some m) : view s' t' k' m = view s t' k' m :=
  view_of_entry h ht hp hm (fun _ ent he => hD1 _ _ he (by rw [(h.ent_at he).1]; exact hk))

theorem lookup_frame {s s' : MState} {x : Option Bytes} {t t' : Int} {k : Bytes}
    (h : StoreInvX s x t) (ht : t ≤ t') (hp : s'.pebble = s.pebble)
    (hD1 : ∀ dk e, AList.get? s.disk dk = some e → e.name ≠ k → AList.get? s'.disk dk = some e)
    (k' : Bytes) (hk : k' ≠ k) (hI : AList.get? s'.index k' = AList.get? s.index k') :
    lookup s' t' k' = lookup s t' k' := by
  simp only [lookup, getMeta, hI]
  cases hm : AList.get? s.index k' with
  | none => rfl
  | some m => simp only [Option.bind_some]; exact view_frame h ht hp hD1 hk hm

theorem RecInv.hot {disk : AList DiskEntry} {pebble : Bool} {x : Option Bytes} {t : Int} {k : Bytes}
    {m : Meta} {v : Val} (hv : m.value = some v) (hok : m.isOk = true) (hexp : inInt64 m.exp = true)
    (hg : Good v)
    (hst : ∀ e, m.stored = some e →
      ∃ ent, AList.get? disk (encodeKey k e) = some ent ∧ ent.name = k ∧ ent.exp = e)
    (hm : m.isModified = true ∨ x = some k) : RecInv disk pebble x t k m := by
  refine ⟨hok, hexp, ?_, hst, ?_, ?_⟩
  · intro v' hv'; rw [hv] at hv'; cases hv'; exact hg
  · intro _ hn; rw [hv] at hn; cases hn
  · intro _ hx hmod
    rcases hm with hm | hm
    · rw [hm] at hmod; cases hmod
    · exact absurd hm hx

theorem inv_putMeta {s : MState} {x x' : Option Bytes} {t : Int} {k : Bytes} {m' : Meta}
    (h : StoreInvX s x t) (hx : ∀ k', k' ≠ k → x' ≠ some k' → x ≠ some k')
    (hrec : RecInv s.disk s.pebble x' t k m')
    (hown : ∀ dk e, AList.get? s.disk dk = some e → e.name = k → m'.stored = some e.exp)
    (hoid : s.pebble = false → 0 < m'.oid ∧ m'.oid < s.nextId ∧ OidFree s k m'.oid) :
    StoreInvX (putMeta s k m') x' t := by
  apply frame (k := k) (s' := putMeta s k m') h hx rfl (Nat.le_refl _)
  case hI => exact set_preserves_sorted _ h.idxSorted _ _
  case hD => exact h.diskSorted
  case hIo => intro k' hk; simp [putMeta, get?_set, hk]
  case hDo => exact fun _ _ _ => Iff.rfl
  case hrec =>
    intro m hm
    simp only [putMeta, get?_set, if_true] at hm
    cases hm; exact hrec
  case hent =>
    intro dk e he hn
    have r := h.ents dk e he
    refine ⟨r.key, r.expR, r.good, m', ?_, hown dk e he hn⟩
    simp [putMeta, get?_set, hn]
  case hoid =>
    intro hpb
    have o := h.oids hpb
    refine ⟨?_, ?_⟩
    · intro m hm
      simp only [putMeta, get?_set, if_true] at hm
      cases hm; exact hoid hpb
    · intro dk e he hn
      have := o.entR dk e he
      exact ⟨this.1, this.2, o.ent_fresh he hn⟩

theorem inv_putMeta_same {s : MState} {x x' : Option Bytes} {t : Int} {k : Bytes} {m m' : Meta}
    (h : StoreInvX s x t) (hx : ∀ k', k' ≠ k → x' ≠ some k' → x ≠ some k')
    (hm : AList.get? s.index k = some m)
    (hrec : RecInv s.disk s.pebble x' t k m')
    (hst : m'.stored = m.stored) (ho : m'.oid = m.oid) :
    StoreInvX (putMeta s k m') x' t := by
  apply inv_putMeta h hx hrec
  · intro dk e he hn
    subst hn
    rw [hst]; exact (h.ent_of_name he hm).1
  · intro hpb
    have o := h.oids hpb
    have := o.recR k m hm
    rw [ho]
    exact ⟨this.1, this.2, o.rec_fresh hm⟩

theorem lookup_putMeta_other {s : MState} {k : Bytes} {m' : Meta} (now : Int) (k' : Bytes) (hk : k' ≠ k) :
    lookup (putMeta s k m') now k' = lookup s now k' := by
  simp only [lookup, getMeta, putMeta, get?_set, hk, if_false]
  cases AList.get? s.index k' with
  | none => rfl
  | some m => simp only [Option.bind_some]; exact view_congr rfl rfl now k' m

theorem lookup_putMeta_same {s : MState} {k : Bytes} {m' : Meta} (now : Int) :
    lookup (putMeta s k m') now k = view s now k m' := by
  simp only [lookup, getMeta, putMeta, get?_set, if_true, Option.bind_some]
  exact view_congr rfl rfl now k m'

theorem view_hot' (s : MState) (t' : Int) (k : Bytes) {m : Meta} {v : Val} (hv : m.value = some v) :
    view s t' k m = if (m.isOk && !m.expired t') = true then some (v, m.exp) else none := by
  simp only [view, hv]

theorem view_hot {s : MState} {now : Int} {k : Bytes} {m : Meta} {v : Val} (hv : m.value = some v)
    (hok : m.isOk = true) (he : m.expired now = false) : view s now k m = some (v, m.exp) := by
  simp [view, hok, he, hv]

theorem view_dead {s : MState} {now : Int} {k : Bytes} {m : Meta} (he : m.expired now = true) :
    view s now k m = none := by
  simp [view, he]

theorem StoreInvX.dk_ne {s : MState} {x : Option Bytes} {t : Int} (h : StoreInvX s x t) {dk : Bytes}
    {e' : DiskEntry} (he' : AList.get? s.disk dk = some e') {k : Bytes} {e : Int}
    (hk : e'.name ≠ k) : dk ≠ encodeKey k e := by
  intro heq
  have r := h.ents dk e' he'
  rw [r.key] at heq
  exact hk (CodecLemmas.encodeKey_inj heq).1

theorem StoreInvX.stored_int {s : MState} {x : Option Bytes} {t : Int} (h : StoreInvX s x t) {k : Bytes}
    {m : Meta} (hm : AList.get? s.index k = some m) {e : Int} (he : m.stored = some e) :
    inInt64 e = true := by
  obtain ⟨ent, h1, _, h3⟩ := (h.recs k m hm).stored e he
  rw [← h3]; exact (h.ents _ _ h1).expR

theorem unpersist_spec {s : MState} {x : Option Bytes} {t : Int} (h : StoreInvX s x t) {k : Bytes}
    {m : Meta} (hm : AList.get? s.index k = some m) :
    (unpersist s k m).index = s.index ∧ (unpersist s k m).pebble = s.pebble ∧
    (unpersist s k m).nextId = s.nextId ∧ (unpersist s k m).failSet = s.failSet ∧
    AList.Sorted (unpersist s k m).disk ∧
    (∀ dk e, AList.get? (unpersist s k m).disk dk = some e ↔ (AList.get? s.disk dk = some e ∧ e.name ≠ k)) := by
  unfold unpersist
  cases hs : m.stored with
  | none =>
    refine ⟨rfl, rfl, rfl, rfl, h.diskSorted, ?_⟩
    intro dk e
    constructor
    · intro he
      refine ⟨he, ?_⟩
      intro hn; subst hn
      have := (h.ent_of_name he hm).1
      rw [hs] at this; cases this
    · exact fun a => a.1
  | some e0 =>
    have hi := h.stored_int hm hs
    refine ⟨rfl, rfl, rfl, rfl, erase_preserves_sorted _ h.diskSorted _, ?_⟩
    intro dk e
    simp only [diskDelete, get?_erase _ h.diskSorted]
    constructor
    · intro he
      by_cases hd : dk = encodeKey k e0
      · simp [hd] at he
      · simp only [hd, if_false] at he
        refine ⟨he, ?_⟩
        intro hn; subst hn
        have := h.ent_of_name he hm
        rw [hs] at this
        have h2 : e0 = e.exp := by simpa using this.1
        exact hd (by rw [this.2, h2])
    · intro ⟨he, hn⟩
      have := h.dk_ne (e := e0) he hn
      simp [this, he]

theorem held_irrelevant (s : MState) (hl : List (Bytes × Bool)) (x : Option Bytes) (t : Int)
    (h : StoreInvX s x t) : StoreInvX { s with held := hl } x t := h.congr rfl rfl rfl rfl

/-- `hx` says that the exempted name, if there is one, is `k` (the same hypothesis in `inv_setVal`,
    `inv_setExp`, `inv_signal`) -/
theorem inv_delKey {s : MState} {x : Option Bytes} {t : Int} (h : StoreInvX s x t) (k : Bytes)
    (hx : ∀ k', k' ≠ k → x ≠ some k') : StoreInvX (delKey s k) none t := by
  unfold delKey
  cases hm : AList.get? s.index k with
  | none =>
    simp only []
    have : AList.erase s.index k = s.index :=
      erase_of_not_contains _ _ (by simp [AList.contains, hm])
    rw [this]
    refine StoreInvX.congr (s := s) ?_ rfl rfl rfl rfl
    refine ⟨h.idxSorted, h.diskSorted, ?_, h.ents, h.oids, h.idPos⟩
    intro k' m' hk'
    have r := h.recs k' m' hk'
    have hne : k' ≠ k := by intro e; subst e; rw [hm] at hk'; cases hk'
    exact { r with clean := fun he _ => r.clean he (hx k' hne) }
  | some m =>
    simp only []
    obtain ⟨u1, u2, u3, _, u5, u6⟩ := unpersist_spec h hm
    apply frame (k := k) h
    case hx => intro k' hk _; exact hx k' hk
    case hp => exact u2
    case hn => simp [u3]
    case hI => simp only [u1]; exact erase_preserves_sorted _ h.idxSorted _
    case hD => exact u5
    case hIo => intro k' hk; simp only [u1, get?_erase _ h.idxSorted, hk, if_false]
    case hDo => intro dk e hn; rw [u6]; exact ⟨fun a => a.1, fun a => ⟨a, hn⟩⟩
    case hrec => intro m'; simp only [u1, get?_erase _ h.idxSorted, if_true]; intro hc; cases hc
    case hent => intro dk e he hn; exact absurd hn ((u6 dk e).mp he).2
    case hoid =>
      intro _
      refine ⟨?_, ?_⟩
      · intro m'; simp only [u1, get?_erase _ h.idxSorted, if_true]; intro hc; cases hc
      · intro dk e he hn; exact absurd hn ((u6 dk e).mp he).2

theorem Holds.congr {p : Bool} {m m' : Meta} {v : Val} {ent : DiskEntry} (ho : m'.oid = m.oid)
    (h : Holds p m v ent) : Holds p m' v ent :=
  ⟨h.peb, fun hp => by rw [ho]; exact h.mem hp⟩

theorem RecInv.congr {disk : AList DiskEntry} {p : Bool} {x : Option Bytes} {t : Int} {k : Bytes}
    {m m' : Meta} (r : RecInv disk p x t k m) (hs : m'.state = m.state) (he : m'.exp = m.exp)
    (hv : m'.value = m.value) (hst : m'.stored = m.stored) (ho : m'.oid = m.oid) :
    RecInv disk p x t k m' := by
  have e1 : m'.isOk = m.isOk := by simp [Meta.isOk, hs]
  have e2 : ∀ t, m'.expired t = m.expired t := by intro t; simp [Meta.expired, he]
  have e3 : m'.isModified = m.isModified := by simp [Meta.isModified, hs, hv]
  refine ⟨by rw [e1]; exact r.ok, by rw [he]; exact r.expR, by rw [hv]; exact r.good,
    by rw [hst]; exact r.stored, ?_, ?_⟩
  · rw [e2, hv, hst, he]; exact r.cold
  · rw [e2, e3, hv, hst, he]
    intro a b c v hv'
    obtain ⟨ent, h1, h2, h3⟩ := r.clean a b c v hv'
    exact ⟨ent, h1, h2, h3.congr ho⟩

attribute [simp] markModified_isOk setValue_isOk

@[simp] theorem markModified_isModified (m : Meta) : m.markModified.isModified = m.value.isSome := by
  simp only [Meta.markModified, Meta.isModified]
  cases m.value with
  | none => simp
  | some v =>
    simp only [Option.isSome_some, Bool.true_and]
    split
    · simp_all
    · rename_i h
      simp only [decide_eq_true_eq]
      omega

@[simp] theorem markModified_exp (m : Meta) : m.markModified.exp = m.exp := rfl
@[simp] theorem markModified_value (m : Meta) : m.markModified.value = m.value := rfl
@[simp] theorem markModified_stored (m : Meta) : m.markModified.stored = m.stored := rfl
@[simp] theorem markModified_oid (m : Meta) : m.markModified.oid = m.oid := rfl
@[simp] theorem markModified_expired (m : Meta) (t : Int) : m.markModified.expired t = m.expired t := rfl

@[simp] theorem setValue_exp (m : Meta) (v : Val) : (m.setValue v).exp = m.exp := rfl
@[simp] theorem setValue_value (m : Meta) (v : Val) : (m.setValue v).value = some v := rfl
@[simp] theorem setValue_stored (m : Meta) (v : Val) : (m.setValue v).stored = m.stored := rfl
@[simp] theorem setValue_oid (m : Meta) (v : Val) : (m.setValue v).oid = m.oid := rfl
@[simp] theorem setValue_expired (m : Meta) (v : Val) (t : Int) : (m.setValue v).expired t = m.expired t := rfl

theorem setValue_state_of_ok (m : Meta) (v : Val) (h : m.isOk = true) : (m.setValue v).state = m.state := by
  simp only [Meta.isOk, decide_eq_true_eq] at h
  simp [Meta.setValue, h]

theorem StoreInvX.drop_exempt {s : MState} {k : Bytes} {t : Int} (h : StoreInvX s (some k) t)
    (hk : ∀ m, AList.get? s.index k = some m → m.value = none ∨ m.isModified = true) :
    StoreInvX s none t := by
  refine ⟨h.idxSorted, h.diskSorted, ?_, h.ents, h.oids, h.idPos⟩
  intro k' m hm
  have r := h.recs k' m hm
  refine { r with clean := ?_ }
  intro he _ hmod v hv
  by_cases hkk : k' = k
  · subst hkk
    rcases hk m hm with h1 | h1
    · rw [h1] at hv; cases hv
    · rw [h1] at hmod; cases hmod
  · exact r.clean he (by simpa using fun e => hkk e.symm) hmod v hv

theorem StoreInvX.exempt_irrelevant {s : MState} {x : Option Bytes} {k : Bytes} {t : Int}
    (h : StoreInvX s x t) (hx : ∀ k', k' ≠ k → x ≠ some k') : StoreInvX s (some k) t := by
  refine ⟨h.idxSorted, h.diskSorted, ?_, h.ents, h.oids, h.idPos⟩
  intro k' m hm
  have r := h.recs k' m hm
  refine { r with clean := ?_ }
  intro he hne
  have : k' ≠ k := by intro e; subst e; exact hne rfl
  exact r.clean he (hx k' this)

/-- `signalModifiedKey`: marks the record modified; ends the exemption of that name -/
theorem inv_signal {s : MState} {x : Option Bytes} {t : Int} (h : StoreInvX s x t) (k : Bytes)
    (hx : ∀ k', k' ≠ k → x ≠ some k') : StoreInvX (signal s k) none t := by
  have h' := h.exempt_irrelevant hx
  refine StoreInvX.congr (s := modMeta s k Meta.markModified) ?_ rfl rfl rfl rfl
  unfold modMeta getMeta
  cases hm : AList.get? s.index k with
  | none =>
    simp only []
    exact h'.drop_exempt (fun m hm' => by rw [hm] at hm'; cases hm')
  | some m =>
    simp only []
    have r := h'.recs k m hm
    have : StoreInvX (putMeta s k m.markModified) (some k) t := by
      apply inv_putMeta_same (m' := m.markModified) h' (fun _ _ a => a) hm _ rfl rfl
      cases hv : m.value with
      | some v =>
        exact RecInv.hot (v := v) (by simp [hv]) (by simp [r.ok]) r.expR (r.good v hv) r.stored (Or.inr rfl)
      | none =>
        refine ⟨by simp [r.ok], r.expR, by simp [hv], r.stored, ?_, ?_⟩
        · intro he _; exact r.cold he hv
        · intro _ _ _ v hv'; simp [hv] at hv'
    apply this.drop_exempt
    intro m' hm'
    simp only [putMeta, get?_set, if_true] at hm'
    cases hm'
    cases hv : m.value with
    | none => left; exact hv
    | some v => right; simp [hv]

theorem get?_signal (s : MState) (k k' : Bytes) :
    AList.get? (signal s k).index k' =
      if k' = k then (AList.get? s.index k).map Meta.markModified else AList.get? s.index k' :=
  Store.getMeta_signal s k k'

theorem view_ok_congr (s : MState) (t' : Int) (k : Bytes) {m m' : Meta}
    (hv : m'.value = m.value) (hs : m'.isOk = m.isOk) (he : m'.exp = m.exp) :
    view s t' k m' = view s t' k m := by
  unfold view Meta.expired loadValue diskGet
  rw [hs, he, hv]

end NodisVerif.Proofs.C11

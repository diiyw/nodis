import NodisVerif.Proofs.C20List
import NodisVerif.Proofs.C20Str
/-
  C20, LPopRPush / RPopLPush (`rotate`): two keys; the record is the rotation itself (source key,
  destination in the fields), the replica, showing the same two lists, rotates too.
-/
namespace NodisVerif.Proofs.C20
open NodisVerif NodisVerif.Store NodisVerif.Spec.Persist NodisVerif.Proofs.C11
open NodisVerif.Proofs.AListLemmas NodisVerif.Proofs.AListLemmas2

variable {now : Int} {p r : MState}

theorem rotAddF_ok (left : Bool) (src dst : Bytes) (vs : List Bytes) (hvs : ∀ v ∈ vs, v.length < 2 ^ 63) :
    (rotAddF left src dst vs).OK := by
  refine ⟨(fun h => nomatch h), (fun w h => by cases h; exact good_emptyList), fun w e hg _ => ?_⟩
  cases w with
  | list d =>
    refine ⟨(fun w hw => ?_), (fun e he => by cases he)⟩
    cases hw
    have := good_push (!left) d vs hg hvs
    cases left <;> simpa using this
  | _ => trivial

theorem rotAddF_nilSafe (left : Bool) (src dst : Bytes) (vs : List Bytes) : (rotAddF left src dst vs).NilSafe := by
  apply nilSafe_of
  · intro v e hv; cases v <;> simp_all [rotAddF, decRotAdd]
  · intro v0 h0
    simp only [rotAddF, Option.some.injEq] at h0
    subst h0
    simp [rotAddF, decRotAdd]

theorem rotPop_sub (left : Bool) (l : LList) (vs : List Bytes) (h : (rotPop left l).2 = some vs) :
    ∀ v ∈ vs, v ∈ l.items := by
  unfold rotPop at h
  cases left with
  | true =>
    simp only [if_true, DsList.lpop] at h
    split at h
    · cases h
    · split at h
      · cases h
      · simp only [Option.some.injEq] at h; subst h
        intro v hv; exact List.mem_of_mem_take hv
  | false =>
    simp only [Bool.false_eq_true, if_false, DsList.rpop] at h
    split at h
    · cases h
    · split at h
      · cases h
      · simp only [Option.some.injEq] at h; subst h
        intro v hv; exact List.mem_of_mem_drop (List.mem_reverse.mp hv)

/-- what the rotation moves, given what the two names show (`none` = nothing happens) -/
def rotMoves (left : Bool) (K : Bytes → Option (Val × Int)) (src dst : Bytes) : Option (List Bytes) :=
  match K src with
  | some (.list l, _) =>
    (match K dst with
     | none => (rotPop left l).2
     | some (.list _, _) => (rotPop left l).2
     | some _ => none)
  | _ => none

def popPost (now : Int) (left : Bool) (src : Bytes) (L : Option (Val × Int)) : Option (Val × Int) :=
  (popF' now left src 1).post now L

/-- the logical keyspace after the rotation -/
def rotateK (now : Int) (K : Bytes → Option (Val × Int)) (left : Bool) (src dst : Bytes)
    (moves : Option (List Bytes)) : Bytes → Option (Val × Int) :=
  match moves with
  | none => K
  | some vs =>
    upd (upd K src (popPost now left src (K src))) dst
      ((rotAddF left src dst vs).post now (upd K src (popPost now left src (K src)) dst))

theorem asList_isNone {s : MState} {k : Bytes} {v : Val} (h : valOf s k = some v) :
    (Api.asList s k).isNone = true ↔ ∀ d, v ≠ .list d := by
  cases v <;> simp [Api.asList, h]

theorem rotate_spec (left : Bool) {s : MState} (h : StoreInv s now) (src dst : Bytes) :
    StoreInv (Api.rotate left s now src dst).1 now ∧
    (∀ k', lookup (Api.rotate left s now src dst).1 now k' =
      rotateK now (lookup s now) left src dst (rotMoves left (lookup s now) src dst) k') ∧
    (s.listeners = true → fl (Api.rotate left s now src dst).1 =
      ((match rotMoves left (lookup s now) src dst with
        | some _ => [opRotate left src dst] | none => []) ++ s.feed, true)) := by
  rw [rotate_eq]
  have ht : now ≤ now := Int.le_refl now
  have stay : ∀ (sX : MState), StoreInv sX now → (∀ k', lookup sX now k' = lookup s now k') → fl sX = fl s →
      rotMoves left (lookup s now) src dst = none →
      StoreInv sX now ∧
        (∀ k', lookup sX now k' = rotateK now (lookup s now) left src dst (rotMoves left (lookup s now) src dst) k') ∧
        (s.listeners = true → fl sX = ((match rotMoves left (lookup s now) src dst with
          | some _ => [opRotate left src dst] | none => []) ++ s.feed, true)) := by
    intro sX hi hlk hf hno
    rw [hno]
    refine ⟨hi, fun k' => by simp [rotateK, hlk k'], fun hl => ?_⟩
    rw [hf]; simp [fl, hl]
  have hfl1 := fl_writeKey s now src none
  cases hL : lookup s now src with
  | none =>
    have ks1 := writeKey_spec h ht src none (fun _ hc => nomatch hc)
    obtain ⟨hok, hl⟩ := ks1.miss hL rfl
    simp only [hok, Bool.not_false, if_true]
    refine stay _ ks1.inv (fun k' => ?_) hfl1 (by simp [rotMoves, hL])
    by_cases hk : k' = src
    · subst hk; exact hl now ht
    · exact ks1.other now ht k' hk
  | some c =>
    obtain ⟨v, es⟩ := c
    obtain ⟨hok, hvo, i1, hsame1, i2, hsame2, hfl2', ⟨m2, hm2, hv2, he2⟩, hdok, hvod⟩ := twoLookups h src dst hL
    generalize writeKey s now src none = r1 at hok hvo i1 hsame1 i2 hsame2 hfl2' hm2 hdok hvod hfl1
    obtain ⟨s1, ok⟩ := r1
    simp only at hok hvo i1 hsame1 i2 hsame2 hfl2' hm2 hdok hvod hfl1 ⊢
    subst hok
    simp only [Bool.not_true, Bool.false_eq_true, if_false]
    by_cases hnl : ¬ ∃ l, v = .list l
    · have hz : Api.asList s1 src = none :=
        Option.isNone_iff_eq_none.mp ((asList_isNone hvo).mpr fun d hd => hnl ⟨d, hd⟩)
      simp only [hz]
      refine stay s1 i1 hsame1 hfl1 ?_
      cases v <;> first | (exact absurd ⟨_, rfl⟩ hnl) | simp [rotMoves, hL]
    obtain ⟨l, rfl⟩ : ∃ l, v = .list l := Classical.not_not.mp hnl
    have hz : Api.asList s1 src = some l := by simp [Api.asList, hvo]
    simp only [hz]
    generalize writeKey s1 now dst none = r2 at i2 hsame2 hfl2' hm2 hdok hvod
    obtain ⟨s2, dok⟩ := r2
    simp only at i2 hsame2 hfl2' hm2 hdok hvod ⊢
    have hchk : (dok && (Api.asList s2 dst).isNone) = true ↔
        ∃ vd ed, lookup s now dst = some (vd, ed) ∧ ∀ d, vd ≠ .list d := by
      rw [hdok]
      cases hLd : lookup s now dst with
      | none => simp
      | some cd =>
        rw [Option.isSome_some, Bool.true_and, asList_isNone (hvod cd.1 cd.2 hLd)]
        exact ⟨fun h2 => ⟨cd.1, cd.2, rfl, h2⟩, fun ⟨_, _, h1, h2⟩ => by cases h1; exact h2⟩
    by_cases hbad : (dok && (Api.asList s2 dst).isNone) = true
    · simp only [hbad, if_true]
      obtain ⟨vd, ed, h1, h2⟩ := hchk.mp hbad
      refine stay s2 i2 hsame2 hfl2' ?_
      cases vd <;> first | (exact absurd rfl (h2 _)) | simp [rotMoves, hL, h1]
    · simp only [hbad, Bool.false_eq_true, if_false]
      have hdstok : lookup s now dst = none ∨ ∃ d ed, lookup s now dst = some (.list d, ed) := by
        cases hLd : lookup s now dst with
        | none => left; rfl
        | some cd =>
          obtain ⟨vd, ed⟩ := cd
          right
          cases vd with
          | list d => exact ⟨d, ed, rfl⟩
          | _ => exact absurd (hchk.mpr ⟨_, ed, hLd, fun d hc => by cases hc⟩) hbad
      have hmv : rotMoves left (lookup s now) src dst = (rotPop left l).2 := by
        rcases hdstok with h0 | ⟨d, ed, h0⟩ <;> simp [rotMoves, hL, h0]
      cases hr : (rotPop left l).2 with
      | none =>
        simp only
        exact stay s2 i2 hsame2 hfl2' (by rw [hmv, hr])
      | some vs =>
        simp only
        rw [hmv, hr]
        have hgl : Good (.list l) := (i2.recs src m2 hm2).good _ hv2
        have hgrem : Good (.list (rotPop left l).1) := good_pop left l 1 hgl
        have hvs : ∀ v ∈ vs, v.length < 2 ^ 63 := fun v hv => hgl.2 v (rotPop_sub left l vs hr v hv)
        have hgA : (rotRemAct (rotPop left l).1).GoodA := by
          unfold rotRemAct
          split
          · exact hgrem
          · exact ⟨(fun w hw => by cases hw; exact hgrem), (fun _ hx => nomatch hx)⟩
        obtain ⟨i3, _, _, _, l3⟩ := runAct_spec i2 hm2 hv2 (rotRemAct (rotPop left l).1) hgA
        have hl3 : ∀ k', lookup (runAct s2 src (rotRemAct (rotPop left l).1)).1 now k' =
            upd (lookup s now) src (popPost now left src (lookup s now src)) k' := by
          intro k'
          rw [l3 now ht k', he2, hL]
          have hlive := lookup_filt hL
          unfold rotRemAct
          by_cases hc : DsList.llen (rotPop left l).1 = 0
          · have hc' : DsList.llen (if left = true then DsList.lpop l 1 else DsList.rpop l 1).1 = 0 := hc
            simp only [hc, if_true, Act.eff, applyEff, upd]
            by_cases hk : k' = src
            · simp [hk, popPost, popF', TxForm.post, TxForm.spec, txSpec, Cmd.form, decListMut, popF, hc', Act.eff]
            · simp only [hk, if_false]; exact hsame2 k'
          · have hc' : ¬ DsList.llen (if left = true then DsList.lpop l 1 else DsList.rpop l 1).1 = 0 := hc
            simp only [hc, if_false, Act.eff, applyEff, upd, Option.getD_some, Option.getD_none]
            by_cases hk : k' = src
            · simp [hk, popPost, popF', TxForm.post, TxForm.spec, txSpec, Cmd.form, decListMut, popF, hc', Act.eff,
                hlive]
              rfl
            · simp only [hk, if_false]; exact hsame2 k'
        obtain ⟨i4, l4⟩ := form_step (rotAddF_ok left src dst vs hvs) i3
        refine ⟨i4, fun k' => ?_, fun hlis => ?_⟩
        · rw [l4 k']
          simp only [show (rotAddF left src dst vs).key = dst from rfl, rotateK]
          rw [hl3 dst]
          by_cases hk : k' = dst
          · subst hk; simp [upd]
          · rw [upd_other _ _ _ hk, upd_other _ _ _ hk, hl3 k']
        · have hfl3 : fl (runAct s2 src (rotRemAct (rotPop left l).1)).1 = fl s := by
            have hl2 : s2.listeners = true := ((fl_eq hfl2').2).trans hlis
            rw [fl_runAct _ _ _ hl2]
            have : Act.ops (rotRemAct (rotPop left l).1) = [] := by unfold rotRemAct; split <;> rfl
            rw [this]
            simp [fl, ← hlis, show s2.feed = s.feed from (fl_eq hfl2').1]
          have hl3' : (runAct s2 src (rotRemAct (rotPop left l).1)).1.listeners = true :=
            ((fl_eq hfl3).2).trans hlis
          rw [form_feed (rotAddF_ok left src dst vs hvs) i3 hl3']
          rw [show (runAct s2 src (rotRemAct (rotPop left l).1)).1.feed = s.feed from (fl_eq hfl3).1]
          have hops : (rotAddF left src dst vs).ops (lookup (runAct s2 src (rotRemAct (rotPop left l).1)).1 now dst) =
              [opRotate left src dst] := by
            rw [hl3 dst]
            by_cases hk : dst = src
            · subst hk
              rw [upd_same, hL]
              have hlive := lookup_filt hL
              by_cases hc : DsList.llen (if left = true then DsList.lpop l 1 else DsList.rpop l 1).1 = 0
              · simp [popPost, popF', TxForm.post, TxForm.spec, txSpec, Cmd.form, decListMut, popF, hc, Act.eff,
                  TxForm.ops, rotAddF, decRotAdd, Act.ops]
              · simp [popPost, popF', TxForm.post, TxForm.spec, txSpec, Cmd.form, decListMut, popF, hc, Act.eff,
                  TxForm.ops, rotAddF, decRotAdd, Act.ops, hlive]
            · rw [upd_other _ _ _ hk]
              rcases hdstok with h0 | ⟨d, ed, h0⟩ <;>
                simp [h0, TxForm.ops, rotAddF, decRotAdd, Act.ops]
          simp only [show (rotAddF left src dst vs).key = dst from rfl] at hops ⊢
          rw [hops]
          rfl

theorem rotateK_nonil {K : Bytes → Option (Val × Int)} (hK : ∀ k e, K k ≠ some (.strNil, e)) (left : Bool)
    (src dst : Bytes) (moves : Option (List Bytes)) (k : Bytes) (e : Int) :
    rotateK now K left src dst moves k ≠ some (.strNil, e) := by
  unfold rotateK
  cases moves with
  | none => exact hK k e
  | some vs =>
    simp only
    have h1 : ∀ k e, upd K src (popPost now left src (K src)) k ≠ some (.strNil, e) := by
      intro k e
      by_cases hk : k = src
      · subst hk; rw [upd_same]
        exact post_nonil (Cmd.nilSafe (.pop left k 1) now trivial) now _ (fun e0 => hK k e0) e
      · rw [upd_other _ _ _ hk]; exact hK k e
    by_cases hk : k = dst
    · subst hk; rw [upd_same]
      exact post_nonil (rotAddF_nilSafe left src k vs) now _ (fun e0 => h1 k e0) e
    · rw [upd_other _ _ _ hk]; exact h1 k e

theorem rotate_main (left : Bool) (hs : Same now p r) (hl : p.listeners = true) (hfd : p.feed = [])
    (c : Feed.CallInfo) (hc : plainMethod c.method = true) (src dst : Bytes) :
    Replay now r c (Api.rotate left p now src dst) ∧ (Api.rotate left p now src dst).1.listeners = true ∧
    ∀ op ∈ (Api.rotate left p now src dst).1.feed.reverse, op.key = src := by
  obtain ⟨i1, l1, f1⟩ := rotate_spec left hs.invP src dst
  have f1' := f1 hl
  have hfeed : (Api.rotate left p now src dst).1.feed = _ := (fl_eq f1').1
  refine ⟨?_, (fl_eq f1').2, ?_⟩
  · unfold Replay
    rw [emission_plain hc, hfeed, hfd]
    refine main_of i1 l1 (rotateK_nonil hs.nonil left src dst _) ?_
    have hK : lookup r now = lookup p now := funext hs.look
    cases hm : rotMoves left (lookup p now) src dst with
    | none =>
      simp only [List.append_nil, List.reverse_nil, rotateK]
      rw [← hK]; exact Replays.nil hs.invR
    | some vs =>
      simp only [List.append_nil, List.reverse_cons, List.reverse_nil, List.nil_append]
      obtain ⟨i2, l2, _⟩ := rotate_spec left hs.invR src dst
      rw [hK, hm] at l2
      refine ⟨_, ?_, i2, l2⟩
      exact (applyAll_one r now _).trans (replica_rotate r now src left dst)
  · intro op hop
    rw [hfeed, hfd] at hop
    cases hm : rotMoves left (lookup p now) src dst with
    | none => rw [hm] at hop; simp at hop
    | some vs =>
      rw [hm] at hop
      simp at hop
      subst hop
      rfl

end NodisVerif.Proofs.C20

import NodisVerif.Proofs.C01Api
/-
  C01 helper (INCRBYFLOAT), on the decimal float text of Model/FloatDec.lean: what `Api.incrByFloat` replies and
  stores, in terms of `strconv.ParseFloat` of the current text, the exact IEEE sum and `FormatFloat(sum,'f',-1,64)`.
-/
namespace NodisVerif.Proofs.C01
open NodisVerif
open Store Api

/-- the text `IncrByFloat` hands to ParseFloat: the stored bytes, "0" for an empty or missing value -/
def floatText (o : DsStr.S) : Bytes := if (DsStr.bytes o).isEmpty then [48] else DsStr.bytes o

theorem incrByFloat_ok (s : MState) (now : Int) (k : Bytes) (delta : F64)
    (hs : C01.StringOrMissing s now k) :
    match Api.parseFloatText (floatText (strOf (strAt s now k))) with
    | none =>
      (Api.incrByFloat s now k delta).2 = .unsupported ∧
      (Api.incrByFloat s now k delta).1 = (openStr s now k)
    | some none =>
      (Api.incrByFloat s now k delta).2 = .many [.f64 0, .err true] ∧
      (Api.incrByFloat s now k delta).1 = (openStr s now k)
    | some (some old) =>
      (Api.incrByFloat s now k delta).2 = .many [.f64 (F64.add old delta), .err false] ∧
      Hot (Api.incrByFloat s now k delta).1 k (.str (FloatDec.formatShortest (F64.add old delta))) now ∧
      HotExp (Api.incrByFloat s now k delta).1 k ((liveExp s now k).getD 0) := by
  -- `ibfCalc` (Proofs/KeyTxApi.lean) is this case distinction, with `F64.add?` and `formatFloat` total
  have hcalc : Proofs.C20.ibfCalc (strOf (strAt s now k)) delta =
      match Api.parseFloatText (floatText (strOf (strAt s now k))) with
      | none => .inr .unsupported
      | some none => .inr (.many [.f64 0, .err true])
      | some (some old) => .inl (FloatDec.formatShortest (F64.add old delta), F64.add old delta) := by
    unfold Proofs.C20.ibfCalc floatText
    cases Api.parseFloatText _ with
    | none => rfl
    | some r => cases r <;> rfl
  obtain ⟨_, hot1, he1⟩ := strWrite_found (fun _ => none) (fun _ => .unit) .unit Proofs.C11.Cmd.pan hs
  rw [Proofs.C20.incrByFloat_eq, Proofs.C20.decIncrByFloat]
  rw [(strWrite_found _ _ .unit Proofs.C11.Cmd.pan hs).1]
  simp only [strAct, hcalc]
  cases Api.parseFloatText (floatText (strOf (strAt s now k))) with
  | none => exact ⟨rfl, rfl⟩
  | some r =>
    cases r with
    | none => exact ⟨rfl, rfl⟩
    | some old => exact ⟨rfl, Proofs.KeyTx.runAct_put hot1 he1 _ none _ _ nofun⟩

theorem incrByFloat_wrongtype (s : MState) (now : Int) (k : Bytes) (delta : F64) (v0 : Val)
    (hl : live s now k = some v0) (ht : isStrVal v0 = false) :
    (Api.incrByFloat s now k delta).2 = .panic ∧
    (∀ k', lookup (Api.incrByFloat s now k delta).1 now k' = lookup s now k') := by
  rw [Proofs.C20.incrByFloat_eq]
  exact strWrite_wrongtype _ _ _ _ _ hl ht

end NodisVerif.Proofs.C01

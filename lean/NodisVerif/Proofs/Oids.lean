import NodisVerif.Proofs.StoreLemmas
/-
  Identities of value objects (`Meta.oid`, `DiskEntry.oid`; 0 = a private copy).

  `Api.setVal` mutates the value *object* of a key, so with the in-memory backend the new value shows through every
  record that carries the same identity.  `OidsDistinct` says that no two indexed records, and no backend entry filed
  under another name, share one.  `OidSub s s'` says that `s'` carries no identity that `s` did not carry at the same
  place: the store primitives that publish nothing are of that kind, and such a step keeps `OidsDistinct`
  (`OidsDistinct.mono`).  The names are in `Proofs.C03Oids`, as are those of Proofs/C03Oids.lean.
-/
namespace NodisVerif.Proofs.C03Oids
open NodisVerif
open NodisVerif.Proofs.AListLemmas NodisVerif.Proofs.AListLemmas2
open Store Api

/-- the identity invariant with an explicit bound `n` in place of `s.nextId` -/
structure OidsBelow (n : Nat) (s : MState) : Prop where
  /-- identities of index records are below the bound (0 = "no identity": a copy decoded from Pebble) -/
  idxBound : ∀ k m, getMeta s k = some m → m.oid ≠ 0 → m.oid < n
  idxDistinct : ∀ k k' m m', getMeta s k = some m → getMeta s k' = some m' → m.oid = m'.oid → m.oid ≠ 0 → k = k'
  diskBound : ∀ ek e, (ek, e) ∈ s.disk → e.oid ≠ 0 → e.oid < n
  /-- an identity kept in a backend entry belongs to the key under whose name the entry is filed -/
  diskOwner : ∀ ek e k m name exp, (ek, e) ∈ s.disk → getMeta s k = some m → m.oid = e.oid → e.oid ≠ 0 →
    ek = Codec.encodeKey name exp → k = name
  /-- two backend entries with one identity are filed under one name -/
  diskDisk : ∀ ek e ek' e' name exp name' exp', (ek, e) ∈ s.disk → (ek', e') ∈ s.disk → e.oid = e'.oid → e.oid ≠ 0 →
    ek = Codec.encodeKey name exp → ek' = Codec.encodeKey name' exp' → name = name'

/-- distinct indexed keys have distinct value objects, all identities are below `nextId`, and the backend
    does not hold a key's identity under another key's name -/
def OidsDistinct (s : MState) : Prop := OidsBelow s.nextId s

/-- `s'` carries no identity that `s` did not carry at the same place -/
structure OidSub (s s' : MState) : Prop where
  nextId : s.nextId ≤ s'.nextId
  idx : ∀ k m', getMeta s' k = some m' → ∃ m, getMeta s k = some m ∧ m.oid = m'.oid
  disk : ∀ ek e', (ek, e') ∈ s'.disk → ∃ e, (ek, e) ∈ s.disk ∧ e.oid = e'.oid

theorem OidsBelow.mono {n n' : Nat} {s s' : MState} (h : OidsBelow n s) (hn : n ≤ n')
    (hi : ∀ k m', getMeta s' k = some m' → ∃ m, getMeta s k = some m ∧ m.oid = m'.oid)
    (hd : ∀ ek e', (ek, e') ∈ s'.disk → ∃ e, (ek, e) ∈ s.disk ∧ e.oid = e'.oid) : OidsBelow n' s' := by
  -- the fields in order: idxBound, idxDistinct, diskBound, diskOwner, diskDisk
  refine ⟨?_, ?_, ?_, ?_, ?_⟩
  · intro k m' hm' hne
    obtain ⟨m, hm, ho⟩ := hi k m' hm'
    have := h.idxBound k m hm (by rw [ho]; exact hne)
    omega
  · intro k k' m1' m2' h1 h2 heq hne
    obtain ⟨m1, hm1, ho1⟩ := hi k m1' h1
    obtain ⟨m2, hm2, ho2⟩ := hi k' m2' h2
    exact h.idxDistinct k k' m1 m2 hm1 hm2 (by rw [ho1, ho2]; exact heq) (by rw [ho1]; exact hne)
  · intro ek e' he' hne
    obtain ⟨e, he, ho⟩ := hd ek e' he'
    have := h.diskBound ek e he (by rw [ho]; exact hne)
    omega
  · intro ek e' k m' name exp he' hm' heq hne hek
    obtain ⟨e, he, ho⟩ := hd ek e' he'
    obtain ⟨m, hm, hmo⟩ := hi k m' hm'
    exact h.diskOwner ek e k m name exp he hm (by rw [hmo, ho]; exact heq) (by rw [ho]; exact hne) hek
  · intro ek1 e1' ek2 e2' n1 x1 n2 x2 h1 h2 heq hne hk1 hk2
    obtain ⟨e1, he1, ho1⟩ := hd ek1 e1' h1
    obtain ⟨e2, he2, ho2⟩ := hd ek2 e2' h2
    exact h.diskDisk ek1 e1 ek2 e2 n1 x1 n2 x2 he1 he2 (by rw [ho1, ho2]; exact heq) (by rw [ho1]; exact hne) hk1 hk2

theorem OidsDistinct.mono {s s' : MState} (h : OidsDistinct s) (hs : OidSub s s') : OidsDistinct s' :=
  OidsBelow.mono h hs.nextId hs.idx hs.disk

theorem OidSub.refl (s : MState) : OidSub s s :=
  ⟨Nat.le_refl _, fun _ m h => ⟨m, h, rfl⟩, fun _ e h => ⟨e, h, rfl⟩⟩

theorem OidSub.trans {s1 s2 s3 : MState} (a : OidSub s1 s2) (b : OidSub s2 s3) : OidSub s1 s3 := by
  refine ⟨Nat.le_trans a.nextId b.nextId, fun k m3 h3 => ?_, fun ek e3 h3 => ?_⟩
  · obtain ⟨m2, h2, o2⟩ := b.idx k m3 h3
    obtain ⟨m1, h1, o1⟩ := a.idx k m2 h2
    exact ⟨m1, h1, o1.trans o2⟩
  · obtain ⟨e2, h2, o2⟩ := b.disk ek e3 h3
    obtain ⟨e1, h1, o1⟩ := a.disk ek e2 h2
    exact ⟨e1, h1, o1.trans o2⟩

theorem oids_empty : OidsDistinct ({} : MState) := by
  -- idxBound, idxDistinct, diskBound, diskOwner, diskDisk
  refine ⟨?_, ?_, ?_, ?_, ?_⟩
  · intro k m h; simp [getMeta, AList.get?] at h
  · intro k k' m m' h; simp [getMeta, AList.get?] at h
  · intro ek e h; simp at h
  · intro ek e k m name exp h; simp at h
  · intro ek e ek' e' n x n' x' h; simp at h

theorem OidSub.of_eq {s s' : MState} (hi : s'.index = s.index) (hd : s'.disk = s.disk) (hn : s'.nextId = s.nextId) :
    OidSub s s' := by
  refine ⟨by rw [hn]; exact Nat.le_refl _, fun k m' h => ⟨m', ?_, rfl⟩, fun ek e' h => ⟨e', ?_, rfl⟩⟩
  · exact (getMeta_congr hi k).symm.trans h
  · rw [← hd]; exact h

theorem sub_lock {lock : MState → Bytes → MState} (hl : C01.LockOp lock) (s : MState) (k : Bytes) :
    OidSub s (lock s k) :=
  OidSub.of_eq (hl.index s k) (hl.sameDisk s k).1 (hl.nextId s k)
theorem sub_emit (s : MState) (op : FeedOp) : OidSub s (emit s op) := by
  unfold emit
  split
  · exact OidSub.of_eq rfl rfl rfl
  · exact OidSub.refl s
theorem sub_commit (s : MState) : OidSub s (commit s) := OidSub.of_eq rfl rfl rfl

theorem sub_putMeta_same (s : MState) (k : Bytes) (m0 m : Meta) (hm : getMeta s k = some m0) (ho : m.oid = m0.oid) :
    OidSub s (putMeta s k m) := by
  refine ⟨Nat.le_refl _, fun k' m' h => ?_, fun ek e' h => ⟨e', h, rfl⟩⟩
  rw [getMeta_putMeta] at h
  by_cases e : k' = k
  · rw [if_pos e] at h; cases h; subst e; exact ⟨m0, hm, ho.symm⟩
  · rw [if_neg e] at h; exact ⟨m', h, rfl⟩

theorem sub_setExp (s : MState) (k : Bytes) (e : Int) : OidSub s (setExp s k e) := by
  unfold setExp
  cases hm : getMeta s k with
  | none => exact OidSub.refl s
  | some m => exact sub_putMeta_same s k m _ hm rfl

theorem sub_signal (s : MState) (k : Bytes) : OidSub s (signal s k) := by
  have h1 : OidSub s (modMeta s k Meta.markModified) := by
    unfold modMeta
    cases hm : getMeta s k with
    | none => exact OidSub.refl s
    | some m => exact sub_putMeta_same s k m _ hm rfl
  exact h1.trans (OidSub.of_eq rfl rfl rfl)

theorem unpersist_nextId (s : MState) (k : Bytes) (m : Meta) : (unpersist s k m).nextId = s.nextId := by
  rw [unpersist_eq]

theorem unpersist_disk_sub (s : MState) (k : Bytes) (m : Meta) (p : Bytes × DiskEntry)
    (h : p ∈ (unpersist s k m).disk) : p ∈ s.disk := by
  unfold unpersist at h
  split at h
  · exact mem_of_mem_erase _ _ _ h
  · exact h

theorem sub_unpersist (s : MState) (k : Bytes) (m : Meta) : OidSub s (unpersist s k m) := by
  refine ⟨by rw [unpersist_nextId]; exact Nat.le_refl _, fun k' m' h => ⟨m', ?_, rfl⟩,
    fun ek e' h => ⟨e', unpersist_disk_sub s k m _ h, rfl⟩⟩
  exact (getMeta_unpersist s k m k').symm.trans h

theorem delKey_nextId (s : MState) (k : Bytes) : (delKey s k).nextId = s.nextId := by
  unfold delKey
  split
  · exact unpersist_nextId _ _ _
  · rfl

theorem delKey_disk_sub (s : MState) (k : Bytes) (p : Bytes × DiskEntry) (h : p ∈ (delKey s k).disk) : p ∈ s.disk := by
  unfold delKey at h
  split at h
  · exact unpersist_disk_sub _ _ _ _ h
  · exact h

/-- unlinking a record (the index must be well formed: `erase` unlinks one entry) -/
theorem sub_delKey (s : MState) (k : Bytes) (hs : AList.Sorted s.index) : OidSub s (delKey s k) := by
  refine ⟨by rw [delKey_nextId]; exact Nat.le_refl _, fun k' m' h => ?_, fun ek e' h => ⟨e', delKey_disk_sub s k _ h, rfl⟩⟩
  by_cases e : k' = k
  · subst e; rw [getMeta_delKey_same s k' hs] at h; cases h
  · rw [getMeta_delKey_other s k k' e] at h; exact ⟨m', h, rfl⟩

theorem setValG_oid (oid : Nat) (v : Val) (k : Bytes) (m : Meta) : (setValG oid v k m).oid = m.oid := by
  rw [setValG_eq]

theorem setVal_nextId (s : MState) (key : Bytes) (v : Val) : (setVal s key v).nextId = s.nextId := by
  rw [setVal_rest]

theorem setVal_disk_sub (s : MState) (key : Bytes) (v : Val) (ek : Bytes) (e' : DiskEntry)
    (h : (ek, e') ∈ (setVal s key v).disk) : ∃ e, (ek, e) ∈ s.disk ∧ e.oid = e'.oid := by
  unfold setVal at h
  split at h
  · exact ⟨e', h, rfl⟩
  · simp only at h
    split at h
    · exact ⟨e', h, rfl⟩
    · simp only [putMeta, List.mem_map] at h
      obtain ⟨⟨k0, e0⟩, hmem, heq⟩ := h
      simp only at heq
      split at heq
      · cases heq; exact ⟨e0, hmem, rfl⟩
      · cases heq; exact ⟨_, hmem, rfl⟩

theorem sub_setVal (s : MState) (key : Bytes) (v : Val) : OidSub s (setVal s key v) := by
  refine ⟨by rw [setVal_nextId]; exact Nat.le_refl _, fun k' m' h => ?_, setVal_disk_sub s key v⟩
  cases hm : getMeta s key with
  | none =>
    have : setVal s key v = s := by unfold setVal; rw [hm]
    rw [this] at h; exact ⟨m', h, rfl⟩
  | some m =>
    unfold getMeta at h
    rw [setVal_index s key v m hm] at h
    split at h
    · rw [get?_set] at h
      by_cases e : k' = key
      · rw [if_pos e] at h; cases h; subst e; exact ⟨m, hm, rfl⟩
      · rw [if_neg e] at h; exact ⟨m', h, rfl⟩
    · rw [get?_map, get?_set] at h
      by_cases e : k' = key
      · rw [if_pos e] at h
        simp only [Option.map_some] at h
        cases h; subst e
        exact ⟨m, hm, by rw [setValG_oid]⟩
      · rw [if_neg e] at h
        cases hk : AList.get? s.index k' with
        | none => rw [hk] at h; cases h
        | some m0 =>
          rw [hk] at h
          simp only [Option.map_some] at h
          cases h
          exact ⟨m0, hk, by rw [setValG_oid]⟩

end NodisVerif.Proofs.C03Oids

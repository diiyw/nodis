import NodisVerif.Model.Handler4
import NodisVerif.Proofs.C15Opt
import NodisVerif.Proofs.C15Upper
/-
  GEOADD with NX / XX as argument 1 never reaches `execCommand`: `readOptions` records the word's
  index, but the handler leaves the word in front of the items, where it is parsed as a longitude.
-/
namespace NodisVerif.Proofs.GeoAddOpt
open NodisVerif NodisVerif.Resp NodisVerif.Handler NodisVerif.Handler3 NodisVerif.Handler4
open NodisVerif.Proofs.C15 NodisVerif.Spec.RespEnc

/-- the three option words GEOADD's handler looks at; none takes a value -/
def words : List String := ["NX", "XX", "CH"]

theorem words_plus (w : String) (hw : w ∈ words) : optPlus w = 0 := by
  simp only [words, List.mem_cons, List.not_mem_nil, or_false] at hw
  rcases hw with rfl | rfl | rfl <;> decide

theorem words_in_table (w : String) (hw : w ∈ words) : (w, false) ∈ optionTable := by
  simp only [words, List.mem_cons, List.not_mem_nil, or_false] at hw
  rcases hw with rfl | rfl | rfl <;> decide

/-- the letters of the option words -/
def letters : List UInt8 := [78, 88, 67, 72]

theorem upperByte_mem (c x : UInt8) (h : asciiUpperByte c = x) : c ∈ [x, x + 32] := by
  unfold asciiUpperByte at h
  split at h
  · rw [← h, UInt8.sub_add_cancel]
    exact List.mem_cons_of_mem _ List.mem_cons_self
  · rw [h]
    exact List.mem_cons_self

/-- two such letters in any letter case are not a number -/
theorem word_cases : ∀ x ∈ letters, ∀ y ∈ letters, ∀ c1 ∈ [x, x + 32], ∀ c2 ∈ [y, y + 32],
    GeoText.redisFloat [c1, c2] = some none := by decide +kernel

theorem floatG_word (a : Bytes) (w : String) (hw : w ∈ words) (h : upper a = Bytes.ofString w) : floatG a = .err := by
  have hasc : ∀ b ∈ a, b < 128 := by
    intro b hb
    by_cases hlt : b < 128
    · exact hlt
    · exact absurd h (upper_nonascii_ne_word a ⟨b, hb, by simpa [UInt8.not_lt] using hlt⟩ (w, false) (words_in_table w hw))
  rw [upper_ascii' a hasc] at h
  have key : ∀ x ∈ letters, ∀ y ∈ letters, asciiUpper a = [x, y] → floatG a = .err := by
    intro x hx y hy he
    unfold asciiUpper at he
    match a, he with
    | [c1, c2], he =>
      simp only [List.map_cons, List.map_nil, List.cons.injEq, and_true] at he
      unfold floatG
      rw [word_cases x hx y hy c1 (upperByte_mem c1 x he.1) c2 (upperByte_mem c2 y he.2)]
  simp only [words, List.mem_cons, List.not_mem_nil, or_false] at hw
  rcases hw with rfl | rfl | rfl
  · exact key 78 (by decide) 88 (by decide) (h.trans (by decide +kernel))
  · exact key 88 (by decide) 88 (by decide) (h.trans (by decide +kernel))
  · exact key 67 (by decide) 72 (by decide) (h.trans (by decide +kernel))

theorem parseItems_word_err (a la m : Bytes) (rest : List Bytes) (w : String) (hw : w ∈ words)
    (h : upper a = Bytes.ofString w) : parseItems (a :: la :: m :: rest) = .err := by
  unfold parseItems
  rw [floatG_word a w hw h]; rfl

/-- the item loop stops at a first longitude that is an option word -/
theorem parseItems_word (a : Bytes) (t : List Bytes) (w : String) (hw : w ∈ words) (h : upper a = Bytes.ofString w) :
    (parseItems (a :: t)) = .err ∨ parseItems (a :: t) = .ok [] := by
  match t with
  | la :: m :: rest => exact .inl (parseItems_word_err a la m rest w hw h)
  | [] => right; unfold parseItems; rfl
  | [_] => right; unfold parseItems; rfl

theorem errReply_ne_exec (b : Body) : errReply ≠ HRes.exec b := fun h => nomatch h

/-- a non-zero option index n points at an argument that is the word; it is the first of the items left after
    dropping n arguments, so they never get as far as `execCommand` -/
theorem drop_not_exec (args : List Bytes) (w : String) (hw : w ∈ words) (n : Nat) (hn : n ≠ 0) (h : opt args w = n)
    (k : List (Bytes × F64 × F64) → Pre HRes) (b : Body) :
    (if (args.drop n).length < 3 then errReply else if (args.drop n).length % 3 ≠ 0 then errReply
      else Pre.run (parseItems (args.drop n) >>= k)) ≠ .exec b := by
  rw [opt_eq_optScan, words_plus w hw] at h
  rcases last_match_split (Bytes.ofString w) args with hno | ⟨pre, a, post, rfl, ha, hpost⟩
  · rw [optScan_none _ _ _ _ _ hno] at h; omega
  · rw [optScan_last _ _ pre a post 0 ha hpost] at h
    rw [show n = pre.length by omega, List.drop_left]
    split
    · exact errReply_ne_exec b
    · split
      · exact errReply_ne_exec b
      · next h3 _ =>
        match post, h3 with
        | la :: m :: rest, _ =>
          rw [parseItems_word_err a la m rest w hw ha]
          exact errReply_ne_exec b
        | [], h3 => exact absurd (by simp) h3
        | [_], h3 => exact absurd (by simp) h3

theorem geoAddH_opt_not_exec (args : List Bytes) (h : opt args "NX" = 1 ∨ opt args "XX" = 1) (b : Body) :
    Handler4.geoAddH args ≠ .exec b := by
  have nx : "NX" ∈ words := by simp [words]
  have xx : "XX" ∈ words := by simp [words]
  have ch : "CH" ∈ words := by simp [words]
  unfold Handler4.geoAddH
  by_cases hl : args.length < 4
  · rw [if_pos hl]
    exact errReply_ne_exec b
  · rw [if_neg hl]
    split
    · exact errReply_ne_exec b
    · next _ key t =>
      dsimp only
      by_cases h2 : opt (key :: t) "NX" = 2 ∨ opt (key :: t) "XX" = 2
      · rw [if_pos h2]
        rcases h2 with h2 | h2
        · exact drop_not_exec _ "NX" nx 2 (by decide) h2 _ b
        · exact drop_not_exec _ "XX" xx 2 (by decide) h2 _ b
      · rw [if_neg h2, if_pos h]
        by_cases hc : opt (key :: t) "CH" = 2
        · rw [if_pos hc]
          exact drop_not_exec _ "CH" ch 2 (by decide) hc _ b
        · rw [if_neg hc]
          rcases h with h1 | h1
          · exact drop_not_exec _ "NX" nx 1 (by decide) h1 _ b
          · exact drop_not_exec _ "XX" xx 1 (by decide) h1 _ b

end NodisVerif.Proofs.GeoAddOpt

import NodisVerif.Model.Gate
/-
  Invariants of the EXEC gate (Model/Gate.lean) over every run of the transition system.
-/
namespace NodisVerif.Gate

/-- an exclusive holder is alone; an open transaction of a client goroutine is covered by the gate -/
def Inv (s : GState) : Prop :=
  (∀ h ∈ s.holders, h.2 = .x → s.holders = [h]) ∧
  (∀ p ∈ s.active, s.isClient p.2 = true → s.holds p.2 = true)

theorem inv_init : Inv {} := by
  constructor <;> intro _ h <;> simp at h

theorem holds_iff {s : GState} {g : G} : s.holds g = true ↔ ∃ m, (g, m) ∈ s.holders := by
  unfold GState.holds
  simp only [List.any_eq_true, beq_iff_eq]
  constructor
  · rintro ⟨⟨g', m⟩, hm, rfl⟩; exact ⟨m, hm⟩
  · rintro ⟨m, hm⟩; exact ⟨(g, m), hm, rfl⟩

theorem holdsX_iff {s : GState} {g : G} : s.holdsX g = true ↔ (g, GMode.x) ∈ s.holders := by
  unfold GState.holdsX
  simp only [List.any_eq_true, Bool.and_eq_true, beq_iff_eq]
  constructor
  · rintro ⟨⟨g', m⟩, hm, rfl, rfl⟩; exact hm
  · intro hm; exact ⟨(g, .x), hm, rfl, rfl⟩

theorem holdsX_holds {s : GState} {g : G} (h : s.holdsX g = true) : s.holds g = true :=
  holds_iff.2 ⟨_, holdsX_iff.1 h⟩

section
variable {s s' : GState} {g : G}

theorem step_serve (h : step s (.serve g) = some s') :
    s' = s ∨ (s.active.any (·.2 == g) = false ∧ s' = { s with clients := g :: s.clients }) := by
  simp only [step] at h
  split at h
  · cases h; exact .inl rfl
  · split at h <;> cases h
    exact .inr ⟨Bool.eq_false_iff.2 ‹_›, rfl⟩

theorem step_gin {m : GMode} (h : step s (.gin g m) = some s') :
    (m = .x ∧ s.holders = [] ∧ s' = { s with holders := [(g, .x)] }) ∨
    (m = .s ∧ s.holders.all (·.2 == .s) = true ∧ s' = { s with holders := (g, .s) :: s.holders }) := by
  simp only [step] at h
  split at h
  · cases h
  · cases m <;> dsimp only at h <;> split at h <;> cases h
    · exact .inr ⟨rfl, ‹_›, rfl⟩
    · exact .inl ⟨rfl, List.isEmpty_iff.1 ‹_›, rfl⟩

theorem step_gout (h : step s (.gout g) = some s') :
    s.active.any (·.2 == g) = false ∧ s' = { s with holders := s.holders.filter (·.1 != g) } := by
  simp only [step] at h
  split at h
  · cases h
  · split at h <;> cases h
    exact ⟨Bool.eq_false_iff.2 ‹_›, rfl⟩

theorem step_txb {t : T} (h : step s (.txb g t) = some s') :
    s.allowed g = true ∧ s' = { s with active := (t, g) :: s.active } := by
  simp only [step] at h
  split at h
  · cases h
  · split at h <;> cases h
    exact ⟨by simpa using ‹¬(!s.allowed g) = true›, rfl⟩

theorem step_txe {t : T} (h : step s (.txe g t) = some s') :
    (t, g) ∈ s.active ∧ s' = { s with active := s.active.filter (·.1 != t) } := by
  simp only [step] at h
  split at h <;> cases h
  exact ⟨by simpa using ‹¬(!s.active.contains (t, g)) = true›, rfl⟩

theorem step_sig (h : step s (.sig g) = some s') : s.allowed g = true ∧ s' = s := by
  simp only [step] at h
  split at h <;> cases h
  exact ⟨‹_›, rfl⟩

theorem step_x {e : Ev} (he : e = .chk g ∨ e = .run g) (h : step s e = some s') :
    s.holdsX g = true ∧ s' = s := by
  rcases he with rfl | rfl <;> simp only [step] at h <;> split at h <;> cases h <;> exact ⟨‹_›, rfl⟩

end

theorem holds_of_allowed {s : GState} {g : G} (hc : s.isClient g = true) (h : s.allowed g = true) : s.holds g = true := by
  simpa [GState.allowed, hc] using h

theorem ne_of_no_active {s : GState} {g : G} {p : T × G} (ha : s.active.any (·.2 == g) = false) (hp : p ∈ s.active) :
    p.2 ≠ g := fun heq => by
  have : s.active.any (·.2 == g) = true := List.any_eq_true.2 ⟨p, hp, by simp [heq]⟩
  rw [ha] at this; cases this

theorem holds_mono {s : GState} {g : G} {hs : List (G × GMode)} (h : s.holds g = true) (hm : ∀ m, (g, m) ∈ s.holders → (g, m) ∈ hs) :
    ({ s with holders := hs } : GState).holds g = true := by
  obtain ⟨m, h⟩ := holds_iff.1 h
  exact holds_iff.2 ⟨m, hm m h⟩

theorem inv_step {s s' : GState} {e : Ev} (hi : Inv s) (hs : step s e = some s') : Inv s' := by
  obtain ⟨h1, h2⟩ := hi
  cases e with
  | serve g =>
    rcases step_serve hs with rfl | ⟨ha, rfl⟩
    · exact ⟨h1, h2⟩
    · refine ⟨h1, fun p hp hcl => ?_⟩
      -- the new client has no open transaction, so `p` is an old one's
      have hne := ne_of_no_active ha hp
      have hcl' : s.isClient p.2 = true := by
        simp only [GState.isClient, List.contains_cons, Bool.or_eq_true, beq_iff_eq] at hcl
        exact hcl.resolve_left hne
      exact h2 p hp hcl'
  | gin g m =>
    rcases step_gin hs with ⟨rfl, he, rfl⟩ | ⟨rfl, hall, rfl⟩
    · refine ⟨fun h hm _ => by rw [List.mem_singleton.1 hm], fun p hp hcl => ?_⟩
      -- nobody held the gate, so no client had a transaction open
      obtain ⟨m, hm⟩ := holds_iff.1 (h2 p hp hcl)
      rw [he] at hm; cases hm
    · refine ⟨fun h hm hx => ?_, fun p hp hcl => holds_mono (h2 p hp hcl) fun m hm => List.mem_cons_of_mem _ hm⟩
      rcases List.mem_cons.1 hm with rfl | hm
      · cases hx
      · have := (List.all_eq_true.1 hall) h hm
        rw [beq_iff_eq, hx] at this; cases this
  | gout g =>
    obtain ⟨ha, rfl⟩ := step_gout hs
    refine ⟨fun h hm hx => ?_, fun p hp hcl => ?_⟩
    · have hm' := List.mem_filter.1 hm
      rw [h1 h hm'.1 hx]
      simp only [List.filter_cons, hm'.2, if_true, List.filter_nil]
    · -- the leaving goroutine has no open transaction, so `p` is another's
      have hne := ne_of_no_active ha hp
      exact holds_mono (h2 p hp hcl) fun m hm => List.mem_filter.2 ⟨hm, by simpa using hne⟩
  | txb g t =>
    obtain ⟨hal, rfl⟩ := step_txb hs
    refine ⟨h1, fun p hp hcl => ?_⟩
    rcases List.mem_cons.1 hp with rfl | hp
    · exact holds_of_allowed (s := s) hcl hal
    · exact h2 p hp hcl
  | txe g t =>
    obtain ⟨-, rfl⟩ := step_txe hs
    exact ⟨h1, fun p hp hcl => h2 p (List.mem_filter.1 hp).1 hcl⟩
  | sig g => obtain ⟨-, rfl⟩ := step_sig hs; exact ⟨h1, h2⟩
  | chk g => obtain ⟨-, rfl⟩ := step_x (.inl rfl) hs; exact ⟨h1, h2⟩
  | run g => obtain ⟨-, rfl⟩ := step_x (.inr rfl) hs; exact ⟨h1, h2⟩

theorem inv_run : ∀ (es : List Ev) (s s' : GState), Inv s → run s es = some s' → Inv s'
  | [], s, s', hi, h => by simp only [run] at h; cases h; exact hi
  | e :: es, s, s', hi, h => by
    simp only [run] at h
    cases hst : step s e with
    | none => rw [hst] at h; cases h
    | some s1 =>
      rw [hst] at h
      exact inv_run es s1 s' (inv_step hi hst) h

theorem run_append (s : GState) (a b : List Ev) : run s (a ++ b) = (run s a).bind fun s' => run s' b := by
  induction a generalizing s with
  | nil => rfl
  | cons e es ih =>
    simp only [List.cons_append, run]
    cases step s e with
    | none => rfl
    | some s1 => exact ih s1

theorem inv_reach {es : List Ev} {s : GState} (hr : run {} es = some s) : Inv s := inv_run es {} s inv_init hr

/-- the goroutine of a step that touches the keyspace or a connection's watch flags -/
def Ev.actor : Ev → Option G
  | .txb g _ => some g
  | .txe g _ => some g
  | .sig g => some g
  | .chk g => some g
  | .run g => some g
  | _ => none

theorem x_holder_alone {s : GState} (hi : Inv s) {g : G} (hx : s.holdsX g = true) : s.holders = [(g, .x)] :=
  hi.1 _ (holdsX_iff.1 hx) rfl

theorem holder_is_g {s : GState} (hi : Inv s) {g g' : G} (hx : s.holdsX g = true) (hh : s.holds g' = true) : g' = g := by
  have := x_holder_alone hi hx
  rw [holds_iff] at hh
  obtain ⟨m, hm⟩ := hh
  rw [this] at hm
  simp only [List.mem_singleton, Prod.mk.injEq] at hm
  exact hm.1

theorem step_inside_section {s s' : GState} {e : Ev} (hi : Inv s) {g : G} (hx : s.holdsX g = true)
    (hs : step s e = some s') {g' : G} (ha : e.actor = some g') (hc : s.isClient g' = true) : g' = g := by
  -- a client's step needs the gate, and g is its only holder
  have hal : s.allowed g' = true → g' = g := fun hal => holder_is_g hi hx (holds_of_allowed hc hal)
  cases e with
  | serve _ => cases ha
  | gin _ _ => cases ha
  | gout _ => cases ha
  | txb g1 t => cases ha; exact hal (step_txb hs).1
  | txe g1 t => cases ha; exact holder_is_g hi hx (hi.2 _ (step_txe hs).1 hc)
  | sig g1 => cases ha; exact hal (step_sig hs).1
  | chk g1 => cases ha; exact holder_is_g hi hx (holdsX_holds (step_x (.inl rfl) hs).1)
  | run g1 => cases ha; exact holder_is_g hi hx (holdsX_holds (step_x (.inr rfl) hs).1)

theorem section_lasts {s s' : GState} {e : Ev} (hi : Inv s) {g : G} (hx : s.holdsX g = true)
    (hs : step s e = some s') (hne : e ≠ .gout g) : s'.holdsX g = true := by
  have hal := x_holder_alone hi hx
  cases e with
  | serve g1 => rcases step_serve hs with rfl | ⟨-, rfl⟩ <;> exact hx
  | gin g1 m =>
    -- nobody enters while g is inside
    rcases step_gin hs with ⟨-, he, -⟩ | ⟨-, hall, -⟩
    · rw [hal] at he; cases he
    · rw [hal] at hall; cases hall
  | gout g1 =>
    obtain ⟨-, rfl⟩ := step_gout hs
    have : g1 ≠ g := fun h => hne (by rw [h])
    exact holdsX_iff.2 (List.mem_filter.2 ⟨holdsX_iff.1 hx, by simpa using fun h => this h.symm⟩)
  | txb g1 t => obtain ⟨-, rfl⟩ := step_txb hs; exact hx
  | txe g1 t => obtain ⟨-, rfl⟩ := step_txe hs; exact hx
  | sig g1 => obtain ⟨-, rfl⟩ := step_sig hs; exact hx
  | chk g1 => obtain ⟨-, rfl⟩ := step_x (.inl rfl) hs; exact hx
  | run g1 => obtain ⟨-, rfl⟩ := step_x (.inr rfl) hs; exact hx

/-- every accepted keyspace step of a trace segment is by `g` or by a goroutine that serves no
    connection at that moment -/
def SegOk (g : G) : GState → List Ev → Prop
  | _, [] => True
  | s, e :: es =>
    (∀ s' g', step s e = some s' → e.actor = some g' → s.isClient g' = true → g' = g) ∧
    ∀ s', step s e = some s' → SegOk g s' es

theorem segment_inside_section : ∀ (seg : List Ev) (s : GState) (g : G), Inv s → s.holdsX g = true →
    Ev.gout g ∉ seg → SegOk g s seg
  | [], _, _, _, _, _ => trivial
  | e :: es, s, g, hi, hx, hn => by
    refine ⟨fun s' g' hs ha hc => step_inside_section hi hx hs ha hc, fun s' hs => ?_⟩
    have hne : e ≠ .gout g := fun h => hn (by rw [h]; exact List.mem_cons_self)
    exact segment_inside_section es s' g (inv_step hi hs) (section_lasts hi hx hs hne)
      (fun h => hn (List.mem_cons_of_mem _ h))

end NodisVerif.Gate

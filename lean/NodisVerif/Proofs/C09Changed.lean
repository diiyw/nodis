import NodisVerif.Proofs.C08Queues
import NodisVerif.Proofs.C09Writers
import NodisVerif.Proofs.C09
/-
  C09 — a change implies a signal: if every closure of the handler table tells the watchers about
  every key whose logical content it changes (`SignalsChanges`, discharged command by command from the
  `frame_*` table of C09Writers*.lean), then a step that changes key k touches k.
-/
namespace NodisVerif.Proofs.C08Step
open Resp Server
open NodisVerif.Proofs.C09Writers

/-- the store effect `o` of a closure started on `st` tells the watchers about every key whose
    logical content (`C09Writers.changed`) it changed: the key is in `signalled`, or the whole store
    was cleared (`flushed`), which flags every watched key -/
def TellsChanges (st : MState) (o : BodyOut) : Prop :=
  o.store.pebble = true ∧ ∀ k, changed st o.store k → k ∈ o.store.signalled ∨ o.store.flushed = true

/-- a closure that does so on every Pebble-backed store, whenever it is started with an empty
    `signalled` list (as `runBody` does) -/
def SignalsChanges (b : Body) : Prop :=
  ∀ st now ch, st.pebble = true → st.signalled = [] → TellsChanges st (b st now ch)

def TableSignals (H : Table) : Prop := ∀ name args b, H name args = some (.exec b) → SignalsChanges b

def QueuesSignal (sv : Server) : Prop := ∀ i, ∀ b ∈ (sv.conn i).queue, SignalsChanges b

theorem okBody_signals : SignalsChanges okBody := by
  intro st now ch hp _
  refine ⟨hp, fun k hk => ?_⟩
  exact absurd (unchanged_refl _) hk

theorem prep_pebble (st : MState) : (prep st).pebble = st.pebble := rfl
theorem storeAfter_pebble (o : BodyOut) : (storeAfter o).pebble = o.store.pebble := rfl

theorem outOf_tells {b : Body} (hb : SignalsChanges b) (st : MState) (hp : st.pebble = true) (now : Int) (ch : Choice) :
    (outOf st now ch b).store.pebble = true ∧
    ∀ k, changed st (storeAfter (outOf st now ch b)) k →
      k ∈ (outOf st now ch b).store.signalled ∨ (outOf st now ch b).store.flushed = true := by
  have h := hb (prep st) now ch hp rfl
  refine ⟨h.1, fun k hk => h.2 k ?_⟩
  have e : changed (prep st) (outOf st now ch b).store k ↔ changed st (storeAfter (outOf st now ch b)) k :=
    changed_congr (s := st) (t := prep st) (s' := storeAfter (outOf st now ch b)) (t' := (outOf st now ch b).store) rfl rfl k
  exact e.mpr hk

theorem execOuts_tells (now : Int) : ∀ (bs : List Body) (st : MState), st.pebble = true →
    (∀ b ∈ bs, SignalsChanges b) →
    (execStore st now bs).pebble = true ∧
    ∀ k, changed st (execStore st now bs) k → touched (execOuts st now bs) k := by
  intro bs
  induction bs with
  | nil =>
    intro st hp _
    exact ⟨hp, fun k hk => absurd (unchanged_refl _) hk⟩
  | cons b rest ih =>
    intro st hp hb
    have h1 := outOf_tells (hb b (by simp)) st hp now none
    have h2 := ih (storeAfter (outOf st now none b)) (by rw [storeAfter_pebble]; exact h1.1)
      (fun b' hb' => hb b' (by simp [hb']))
    refine ⟨h2.1, fun k hk => ?_⟩
    by_cases hc1 : changed st (storeAfter (outOf st now none b)) k
    · exact ⟨_, by simp [execOuts], h1.2 k hc1⟩
    · by_cases hc2 : changed (storeAfter (outOf st now none b)) (execStore (storeAfter (outOf st now none b)) now rest) k
      · obtain ⟨o, ho, hk'⟩ := h2.2 k hc2
        exact ⟨o, by simp [execOuts, ho], hk'⟩
      · exfalso
        apply hk
        have u1 : unchanged _ _ := Classical.not_not.mp hc1
        have u2 : unchanged _ _ := Classical.not_not.mp hc2
        exact unchanged_trans u1 u2

theorem QueuesSignal.init (st : MState) : QueuesSignal { store := st } := QueuesSat.init SignalsChanges st

theorem step_changed_touches {H : Table} (hH : TableSignals H) {sv : Server} (hq : QueuesSignal sv)
    (hp : sv.store.pebble = true) (c : Cmd) :
    (step H sv c).1.store.pebble = true ∧
    ∀ k, changed sv.store (step H sv c).1.store k → stepTouches H sv c k := by
  rw [step_store]
  refine stepOuts_ind (P := fun os => (lastStore sv.store os).pebble = true ∧
    ∀ k, changed sv.store (lastStore sv.store os) k → touched os k) H sv c ?_ ?_ ?_
  · exact ⟨hp, fun k hk => absurd (unchanged_refl _) hk⟩
  · intro b hb
    have h := outOf_tells (hb.elim (fun e => e ▸ okBody_signals) (hH _ _ b)) sv.store hp c.now c.ch
    exact ⟨h.1, fun k hk => ⟨_, by simp, h.2 k hk⟩⟩
  · rw [lastStore_execOuts]
    exact execOuts_tells c.now _ sv.store hp (hq c.id)

theorem QueuesSignal.step {H : Table} (hH : TableSignals H) {sv : Server} (hq : QueuesSignal sv) (c : Cmd) :
    QueuesSignal (C08Step.step H sv c).1 :=
  QueuesSat.step (P := SignalsChanges) okBody_signals hH hq c

theorem QueuesSignal.run {H : Table} (hH : TableSignals H) (cs : List Cmd) {sv : Server} (hq : QueuesSignal sv) :
    QueuesSignal (C08Step.run H sv cs).1 :=
  QueuesSat.run (P := SignalsChanges) okBody_signals hH cs hq

end NodisVerif.Proofs.C08Step

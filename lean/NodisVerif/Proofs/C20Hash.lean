import NodisVerif.Proofs.C12Sched
import NodisVerif.Proofs.C15Decimal
import NodisVerif.Proofs.C20Ops
/-
  C20, hashes: HSet, HDel, HSetNX, HIncrBy, HMSet (HClear = Del).
-/
namespace NodisVerif.Proofs.C20
open NodisVerif NodisVerif.Store NodisVerif.Spec.Persist NodisVerif.Proofs.C11

variable {now : Int} {p r : MState}

def hsetF (now : Int) (k f v : Bytes) : TxForm := (Cmd.hset k f v).form now
def hdelF (now : Int) (k : Bytes) (fs : List Bytes) : TxForm := (Cmd.hdel k fs).form now

theorem applyOp_hset (r0 : MState) (now : Int) (k f v : Bytes) :
    Feed.applyOp r0 now (opHSet k f v) = some ((hsetF now k f v).run r0 now).1 := by
  rw [opHSet, replica_hset, hset_eq]; rfl

/-- content of a key after `HSET f v` -/
def hsetPost (f v : Bytes) : Option (Val × Int) → Option (Val × Int)
  | none => some (.hash (AList.set [] f v), 0)
  | some (.hash h, e) => some (.hash (AList.set h f v), e)
  | some c => some c

theorem hsetF_post (k f v : Bytes) {L : Option (Val × Int)} (hL : Live now L) :
    (hsetF now k f v).post now L = hsetPost f v L := by
  cases L with
  | none => simp [hsetF, TxForm.post, TxForm.spec, txSpec, Cmd.form, decHset, Act.eff, hsetPost, filt_zero, DsHash.hset]
  | some c =>
    obtain ⟨w, e0⟩ := c
    have hl := hL w e0 rfl
    cases w <;> simp [hsetF, TxForm.post, TxForm.spec, txSpec, Cmd.form, decHset, Act.eff, hsetPost, hl, DsHash.hset]

theorem formatInt_length (x : Int) (h : inInt64 x = true) : (formatInt x).length ≤ 21 := by
  unfold inInt64 int64Min int64Max at h
  simp only [decide_eq_true_eq] at h
  unfold formatInt
  split
  · have := Proofs.C15.natDigits_length_le x.natAbs 20 (by decide) (by omega)
    simp only [List.length_cons]; omega
  · have := Proofs.C15.natDigits_length_le x.toNat 20 (by decide) (by omega)
    omega

theorem good_hincrby {h h' : AList Bytes} {field : Bytes} {delta n : Int} (hg : Good (.hash h))
    (hd : inInt64 delta = true) (hb : field.length + 40 < 2 ^ 63)
    (hh : DsHash.hincrby h field delta = some (h', n)) : Good (.hash h') := by
  unfold DsHash.hincrby at hh
  split at hh
  · simp only [Option.some.injEq, Prod.mk.injEq] at hh
    rw [← hh.1]
    have := formatInt_length delta hd
    exact good_hset h field (formatInt delta) hg (by omega)
  · split at hh
    · cases hh
    · rename_i vi _
      simp only [Option.some.injEq, Prod.mk.injEq] at hh
      rw [← hh.1]
      have := formatInt_length (wrap64 (vi + delta)) (inInt64_wrap64 _)
      exact good_hset h field _ hg (by omega)

theorem hincrbyF_ok (key field : Bytes) (delta : Int) (hd : inInt64 delta = true) (hb : field.length + 40 < 2 ^ 63) :
    (hincrbyF key field delta).OK := by
  refine ⟨(fun h => nomatch h), (fun w h => by cases h; exact good_emptyHash), fun w e hg _ => ?_⟩
  cases w with
  | hash h =>
    show (decHincrby key field delta (.hash h) e).GoodA
    unfold decHincrby
    simp only
    cases hh : DsHash.hincrby h field delta with
    | none => exact ⟨(fun _ hw => nomatch hw), (fun _ he => nomatch he)⟩
    | some q =>
      obtain ⟨h', n⟩ := q
      exact ⟨(fun w hw => by cases hw; exact good_hincrby hg hd hb hh), (fun _ he => nomatch he)⟩
  | _ => trivial

theorem hincrbyF_nilSafe (key field : Bytes) (delta : Int) : (hincrbyF key field delta).NilSafe := by
  apply nilSafe_of
  · intro v e hv
    cases v <;> simp_all [hincrbyF, decHincrby]
    split <;> simp
  · intro v0 h0
    simp only [hincrbyF, Option.some.injEq] at h0
    subst h0
    simp only [hincrbyF, decHincrby]
    split <;> simp

/-- HINCRBY / HINCRBYFLOAT: the record of a call that failed is not delivered, any other is -/
theorem emission_hincr {c : Feed.CallInfo} (hc : c.method = "HIncrBy" ∨ c.method = "HIncrByFloat") (x : Out)
    (raw : List FeedOp) :
    Feed.emission c (.many [x, .err true]) raw = [] ∧ Feed.emission c (.many [x, .err false]) raw = raw := by
  unfold Feed.emission
  rcases hc with h | h <;> simp [h, Feed.keepTTLMethods]

theorem emission_hincr_nil {c : Feed.CallInfo} (hc : c.method = "HIncrBy" ∨ c.method = "HIncrByFloat") (out : Out) :
    Feed.emission c out [] = [] := by
  unfold Feed.emission
  rcases hc with h | h <;> simp [h, Feed.keepTTLMethods] <;> split <;> rfl

def hsetAll (h : AList Bytes) (pairs : List (Bytes × Bytes)) : AList Bytes :=
  pairs.foldl (fun h q => AList.set h q.1 q.2) h

theorem hmsetDs_fst (pairs : List (Bytes × Bytes)) : ∀ (h : AList Bytes) (c : Int),
    (pairs.foldl (fun (acc : AList Bytes × Int) (kv : Bytes × Bytes) =>
      ((DsHash.hset acc.1 kv.1 kv.2).1, acc.2 + (DsHash.hset acc.1 kv.1 kv.2).2)) (h, c)).1 = hsetAll h pairs := by
  induction pairs with
  | nil => intro h c; rfl
  | cons q rest ih => intro h c; simp only [List.foldl_cons, hsetAll]; rw [ih]; rfl

theorem good_hsetAll (pairs : List (Bytes × Bytes)) (hb : ∀ q ∈ pairs, q.1.length + q.2.length + 10 < 2 ^ 63) :
    ∀ h, Good (.hash h) → Good (.hash (hsetAll h pairs)) := by
  induction pairs with
  | nil => intro h hg; exact hg
  | cons q rest ih =>
    intro h hg
    simp only [hsetAll, List.foldl_cons]
    exact ih (fun q' hq' => hb q' (List.mem_cons_of_mem _ hq')) _ (good_hset h q.1 q.2 hg (hb q (by simp)))

theorem hmsetF_ok (key : Bytes) (pairs : List (Bytes × Bytes))
    (hb : ∀ q ∈ pairs, q.1.length + q.2.length + 10 < 2 ^ 63) : (hmsetF key pairs).OK := by
  refine ⟨(fun h => nomatch h), (fun w h => by cases h; exact good_emptyHash), fun w e hg _ => ?_⟩
  cases w with
  | hash h =>
    refine ⟨(fun w hw => ?_), (fun _ he => nomatch he)⟩
    cases hw
    show Good (.hash (C03Seq.hmsetDs h pairs).1)
    rw [show (C03Seq.hmsetDs h pairs).1 = hsetAll h pairs from hmsetDs_fst pairs h 0]
    exact good_hsetAll pairs hb h hg
  | _ => trivial

theorem hmsetF_nilSafe (key : Bytes) (pairs : List (Bytes × Bytes)) : (hmsetF key pairs).NilSafe := by
  apply nilSafe_of
  · intro v e hv; cases v <;> simp_all [hmsetF, decHmset]
  · intro v0 h0
    simp only [hmsetF, Option.some.injEq] at h0
    subst h0
    simp [hmsetF, decHmset]

/-- HSETs folded over a hash; its deadline `e` stays, so every intermediate content is live -/
theorem hsetF_fold (k : Bytes) (pairs : List (Bytes × Bytes)) (h : AList Bytes) {e : Int}
    (hlive : ∀ v', filt (v', e) now = some (v', e)) :
    pairs.foldl (fun L q => (hsetF now k q.1 q.2).post now L) (some (.hash h, e)) =
      some (.hash (hsetAll h pairs), e) := by
  induction pairs generalizing h with
  | nil => rfl
  | cons q rest ih =>
    rw [List.foldl_cons, hsetF_post k q.1 q.2 (fun _ _ heq v' => by cases heq; exact hlive v')]
    exact ih _

/-- HMSET with no fields on a missing key creates an empty hash and emits nothing: finding region -/
def HMSetCreatesEmpty (L : Option (Val × Int)) (pairs : List (Bytes × Bytes)) : Prop := L = none ∧ pairs = []

instance (L : Option (Val × Int)) (pairs : List (Bytes × Bytes)) : Decidable (HMSetCreatesEmpty L pairs) := by
  unfold HMSetCreatesEmpty; exact inferInstance


theorem hsetF_self (k f v : Bytes) : SelfRec now (hsetF now k f v) (opHSet k f v) := by
  refine ⟨rfl, fun r0 => applyOp_hset r0 now k f v, fun w e => ?_, fun v0 h0 => by cases h0; rfl⟩
  cases w with
  | hash h => exact Or.inr rfl
  | _ => exact Or.inl ⟨_, rfl⟩

theorem hdelF_self (k : Bytes) (fs : List Bytes) :
    SelfRec now (hdelF now k fs) { typ := 6, key := k, args := fs.map Bytes.toHex } := by
  refine ⟨rfl, fun r0 => by rw [replica_hdel, hdel_eq]; rfl, fun w e => ?_, fun _ h0 => nomatch h0⟩
  cases w with
  | hash h => exact Or.inr (by simp only [hdelF, Cmd.form, decHdel]; split <;> rfl)
  | _ => exact Or.inl ⟨_, rfl⟩

/-- HSETNX: the record is an HSET -/
theorem hsetnx_echo {em : Out → List FeedOp → List FeedOp} (hem : ∀ o l, em o l = l) (k f v : Bytes)
    (hb : f.length + v.length + 10 < 2 ^ 63) (L : Option (Val × Int)) : Echo now em (hsetnxForm k f v) L := by
  refine echo_dec (hem _ _) fun w e hsee => ?_
  rw [hem]
  cases w with
  | hash h =>
    cases hex : DsHash.hexists h f
    · refine Or.inr ⟨opHSet k f v, hsetF now k f v, ?_, rfl, Cmd.ok (.hset k f v) now hb, rfl, hsee,
        fun r0 => applyOp_hset r0 now k f v, ?_⟩ <;>
        simp [hsetnxForm, decHsetnx, hex, hsetF, Cmd.form, decHset, Act.ops, opHSet]
    · left
      rcases TxForm.sees_cases hsee with rfl | ⟨_, hc, _⟩
      · simp [hsetnxForm, decHsetnx, hex, Act.ops, Act.post, Act.eff]
      · cases hc; cases hex
  | _ =>
    left
    rcases TxForm.sees_cases hsee with rfl | ⟨_, hc, _⟩
    · simp [hsetnxForm, decHsetnx, Act.ops, Act.post, Act.eff]
    · cases hc

/-- HINCRBY: a failing call delivers nothing and changes nothing -/
theorem hincrby_echo (c : Feed.CallInfo) (hc : c.method = "HIncrBy") (k f : Bytes) (delta : Int)
    (hd : inInt64 delta = true) (hb : f.length + 40 < 2 ^ 63) (L : Option (Val × Int)) (hlive : Live now L) :
    Echo now (Feed.emission c) (hincrbyF k f delta) L := by
  have hem1 := fun x raw => (emission_hincr (c := c) (Or.inl hc) x raw).1
  have hem2 := fun x raw => (emission_hincr (c := c) (Or.inl hc) x raw).2
  have hem3 := emission_hincr_nil (c := c) (Or.inl hc)
  refine echo_dec (hem3 _) fun w e hsee => ?_
  cases w with
  | hash h =>
    cases hh : DsHash.hincrby h f delta with
    | none =>
      left
      rcases TxForm.sees_cases hsee with rfl | ⟨_, hc0, _⟩
      · simp [hincrbyF, decHincrby, hh, Act.reply, Act.post, Act.eff, hem1, hlive _ _ rfl]
      · cases hc0; simp [DsHash.hincrby, AList.get?] at hh
    | some q =>
      obtain ⟨h', n⟩ := q
      refine Or.inr ⟨opHIncrBy k f delta, hincrbyF k f delta, ?_, rfl, hincrbyF_ok k f delta hd hb, rfl, hsee,
        fun r0 => by rw [opHIncrBy, replica_hincrby, hincrby_eq], rfl⟩
      simp [hincrbyF, decHincrby, hh, Act.ops, Act.reply, hem2]
  | _ =>
    left
    rcases TxForm.sees_cases hsee with rfl | ⟨_, hc0, _⟩
    · simp [hincrbyF, decHincrby, Act.ops, Act.reply, Act.post, Act.eff, hem3]
    · cases hc0

/-- HMSET: one HSET record per pair, applied one after the other -/
theorem hmset_echo {em : Out → List FeedOp → List FeedOp} (hem : ∀ o l, em o l = l) (k : Bytes)
    (pairs : List (Bytes × Bytes)) (hb : ∀ q ∈ pairs, q.1.length + q.2.length + 10 < 2 ^ 63)
    (L : Option (Val × Int)) (hlive : Live now L) (hcov : ¬ HMSetCreatesEmpty L pairs) :
    Echo now em (hmsetF k pairs) L := by
  obtain ⟨w, e, hsee⟩ : ∃ w e, (hmsetF k pairs).sees L = some (w, e) := by
    cases L with
    | some c => exact ⟨c.1, c.2, rfl⟩
    | none => exact ⟨_, _, rfl⟩
  obtain ⟨h1, h2, h3⟩ := (hmsetF k pairs).sees_some now hsee
  unfold Echo
  rw [h1, h2, h3, hem]
  cases w with
  | hash h =>
    refine ⟨pairs.map fun q => (opHSet k q.1 q.2, (hsetF now k q.1 q.2).post now), ?_, fun q hq => ?_, ?_⟩
    · rw [List.map_map]; rfl
    · obtain ⟨q0, hq0, rfl⟩ := List.mem_map.mp hq
      exact Acts.of_tx (g := hsetF now k q0.1 q0.2) rfl (Cmd.ok (.hset k q0.1 q0.2) now (hb q0 hq0)) fun r0 => applyOp_hset r0 now k q0.1 q0.2
    · rw [List.foldl_map]
      have hpost : (decHmset k pairs (.hash h) e).post now (.hash h) e = filt (.hash (hsetAll h pairs), e) now := by
        simp only [decHmset, Act.post, Act.eff, Option.getD_some, Option.getD_none, Option.bind_some]
        rw [show (C03Seq.hmsetDs h pairs).1 = hsetAll h pairs from hmsetDs_fst pairs h 0]
      show List.foldl (fun L q => (hsetF now k q.1 q.2).post now L) L pairs =
        (decHmset k pairs (.hash h) e).post now (.hash h) e
      rw [hpost]
      rcases TxForm.sees_cases hsee with rfl | ⟨rfl, hc, rfl⟩
      · have hl0 := hlive _ _ rfl
        rw [hsetF_fold k pairs h hl0, hl0]
      · cases hc
        cases pairs with
        | nil => exact absurd ⟨rfl, rfl⟩ hcov
        | cons q rest =>
          rw [List.foldl_cons, hsetF_post k q.1 q.2 (live_none now)]
          exact (hsetF_fold k rest _ (fun v' => filt_zero v' now)).trans (filt_zero _ now).symm
  | _ =>
    all_goals
      refine ⟨[], rfl, nofun, ?_⟩
      rcases TxForm.sees_cases hsee with rfl | ⟨_, hc, _⟩
      · rfl
      · cases hc

end NodisVerif.Proofs.C20

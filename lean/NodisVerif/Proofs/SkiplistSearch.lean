import NodisVerif.Proofs.SkiplistInv
/-
  The pointer walks along the chain of the invariant: one inner loop (`walk_spec`), the level loop with `update[]` /
  `rank[]` (`search_spec`), and the level-0 walk that computes `chain` / `abs` (`chain_eq`, `abs_eq`).
-/
namespace NodisVerif.Skiplist
open NodisVerif.DsZSet (Item nodeLt)
open NodisVerif.Proofs.C04 (ILt)
open NodisVerif.Proofs.ZSetLemmas (Good)

theorem take_split {α} (A : List α) (u : α) (B : List α) (k : Nat) (hA : A.length ≤ k) :
    (A ++ u :: B).take (k + 1) = A ++ u :: B.take (k - A.length) := by
  rw [List.take_append, List.take_of_length_le (by omega)]
  have : k + 1 - A.length = (k - A.length) + 1 := by omega
  rw [this, List.take_succ_cons]

theorem above_mono (h : List Node) (i j x : Nat) (hij : j ≤ i) (hx : above h i x = true) : above h j x = true := by
  simp [above] at *
  omega

theorem heap_of_above (h : List Node) (i x : Nat) (hx : above h i x = true) : ∃ nd, h[x]? = some nd := by
  simp [above, height] at hx
  cases hn : h[x]? with
  | none => simp [hn] at hx
  | some nd => exact ⟨nd, rfl⟩

theorem above_zero_of_mem {sl : SL} {c : List Nat} (hc : IsChain sl c) {y : Nat} (hy : y ∈ 0 :: c) :
    above sl.heap 0 y = true := by
  simp only [above, decide_eq_true_eq]
  rcases List.mem_cons.1 hy with rfl | hy
  · rw [hc.header]; decide
  · exact hc.hpos y hy

theorem header_above {sl : SL} {c : List Nat} (hc : IsChain sl c) (i : Nat) (hi : i < sl.level) :
    above sl.heap i 0 = true := by
  simp only [above, decide_eq_true_eq]
  rw [hc.header]
  have := hc.levelHi
  omega

theorem walk_none (h : List Node) (i : Nat) (cond : Node → Int → Bool) (fuel x : Nat) (acc : Int) (lv : Level)
    (hlv : getLevel h x i = .ok lv) (hf : lv.forward = none) :
    walk h i cond (fuel + 1) x acc = .ok (x, acc) := by
  simp [walk, hlv, hf, bind, Except.bind, pure, Except.pure]

theorem walk_some (h : List Node) (i : Nat) (cond : Node → Int → Bool) (fuel x : Nat) (acc : Int) (lv : Level)
    (f : Nat) (fn : Node) (hlv : getLevel h x i = .ok lv) (hf : lv.forward = some f) (hfn : getNode h f = .ok fn) :
    walk h i cond (fuel + 1) x acc =
      if cond fn (acc + lv.span) then walk h i cond fuel f (acc + lv.span) else .ok (x, acc) := by
  simp [walk, hlv, hf, hfn, bind, Except.bind, pure, Except.pure]

/-- one inner loop on any linked list `L`, started on a level-`i` node `u` at position `|A| ≤ k` with the accumulator equal
    to that position; `hcond` is `CondUpTo` for `L`: the loop condition holds exactly at the positions `1..k`. The walk
    ends on the last level-`i` node among the positions `0..k`, and the accumulator is that node's position. -/
theorem walk_gen (h : List Node) (L : List Nat) (hl : Linked h L) (cond : Node → Int → Bool) (k : Nat)
    (hcond : ∀ (q n : Nat) (nd : Node), L[q]? = some n → h[n]? = some nd → 1 ≤ q → cond nd (q : Int) = decide (q ≤ k))
    (i : Nat) (fuel : Nat) : ∀ (A : List Nat) (u : Nat) (B : List Nat), L = A ++ u :: B → above h i u = true →
      A.length ≤ k → B.length + 1 ≤ fuel →
      ∃ A' u' B', L.take (k + 1) = A' ++ u' :: B' ∧ above h i u' = true ∧ (∀ y ∈ B', above h i y = false) ∧
        A.length ≤ A'.length ∧ walk h i cond fuel u (A.length : Int) = .ok (u', (A'.length : Int)) := by
  induction fuel with
  | zero => intro A u B _ _ _ hf; omega
  | succ fuel ih =>
    intro A u B hsplit hu hA hfuel
    have hui : i < height h u := by simpa [above] using hu
    obtain ⟨lv, hlv, _⟩ := getLevel_ok_of_lt h u i hui
    have hlk := (linked_iff_split h L).1 hl A u B hsplit i lv ((getLevel_eq_lv _ _ _ _).1 hlv)
    have htake : L.take (k + 1) = A ++ u :: B.take (k - A.length) := by
      rw [hsplit]; exact take_split A u B k hA
    cases hfw : B.find? (above h i) with
    | none =>
      have hnone := List.find?_eq_none.1 hfw
      refine ⟨A, u, B.take (k - A.length), htake, hu, ?_, Nat.le_refl _, ?_⟩
      · intro y hy
        have := hnone y (List.mem_of_mem_take hy)
        simpa using this
      · have hf0 : lv.forward = none := by rw [hlk.1, hfw]
        exact walk_none h i cond fuel u _ lv hlv hf0
    | some f =>
      obtain ⟨hfa, B1, B2, hB, hB1⟩ := List.find?_eq_some_iff_append.1 hfw
      have hB1' : ∀ a ∈ B1, above h i a = false := by
        intro a ha; simpa using hB1 a ha
      have hf1 : lv.forward = some f := by rw [hlk.1, hfw]
      have hidx : B.findIdx (above h i) = B1.length := by
        rw [hB, (find_append_none hB1').2]; simp [List.findIdx_cons, hfa]
      have hspan : lv.span = (B1.length : Int) + 1 := by
        have := hlk.2 (by rw [hf1]; simp)
        rw [this, hidx]
      obtain ⟨fn, hfn⟩ := heap_of_above h i f hfa
      have hgn : getNode h f = .ok fn := (getNode_ok_iff h f fn).2 hfn
      have hsplit' : L = (A ++ u :: B1) ++ f :: B2 := by
        rw [hsplit, hB]; simp
      have hlen : (A ++ u :: B1).length = A.length + 1 + B1.length := by simp; omega
      have hq : L[A.length + 1 + B1.length]? = some f := by
        rw [hsplit', ← hlen]; simp
      have hc := hcond (A.length + 1 + B1.length) f fn hq hfn (by omega)
      have hacc : (A.length : Int) + lv.span = ((A.length + 1 + B1.length : Nat) : Int) := by
        rw [hspan]; omega
      by_cases hle : A.length + 1 + B1.length ≤ k
      · have hB2 : B2.length + 1 ≤ fuel := by
          have : B.length = B1.length + (B2.length + 1) := by rw [hB]; simp
          omega
        obtain ⟨A', u', B', h1, h2, h3, h4, h5⟩ := ih (A ++ u :: B1) f B2 hsplit' hfa (by omega) hB2
        refine ⟨A', u', B', h1, h2, h3, by omega, ?_⟩
        rw [hlen] at h5
        rw [walk_some h i cond fuel u _ lv f fn hlv hf1 hgn, hacc, hc, h5]
        simp [hle]
      · refine ⟨A, u, B.take (k - A.length), htake, hu, ?_, Nat.le_refl _, ?_⟩
        · intro y hy
          rw [hB, List.take_append_of_le_length (by omega)] at hy
          exact hB1' y (List.mem_of_mem_take hy)
        · rw [walk_some h i cond fuel u _ lv f fn hlv hf1 hgn, hacc, hc]
          simp [hle]

theorem walk_spec {sl : SL} {c : List Nat} (hc : IsChain sl c) (cond : Node → Int → Bool) (k : Nat)
    (hcond : CondUpTo sl c cond k) (i : Nat) (A : List Nat) (u : Nat) (B : List Nat)
    (hsplit : 0 :: c = A ++ u :: B) (hu : above sl.heap i u = true) (hA : A.length ≤ k)
    (fuel : Nat) (hfuel : B.length + 1 ≤ fuel) :
    ∃ A' u' B', (0 :: c).take (k + 1) = A' ++ u' :: B' ∧ above sl.heap i u' = true ∧
      (∀ y ∈ B', above sl.heap i y = false) ∧ A.length ≤ A'.length ∧
      walk sl.heap i cond fuel u (A.length : Int) = .ok (u', (A'.length : Int)) :=
  walk_gen sl.heap (0 :: c) hc.linked cond k hcond i fuel A u B hsplit hu hA hfuel

theorem search_succ (h : List Node) (cond : Node → Int → Bool) (i x : Nat) (acc : Int)
    (update : List (Option Nat)) (rank : List Int) (x' : Nat) (acc' : Int)
    (hw : walk h i cond (h.length + 1) x acc = .ok (x', acc')) (hu : i < update.length) (hr : i < rank.length) :
    search h cond (i + 1) x acc update rank = search h cond i x' acc' (update.set i (some x')) (rank.set i acc') := by
  simp [search, hw, setArr, hu, hr, bind, Except.bind, pure, Except.pure]

/-- the level loop with `j` levels to go, standing on `x` at position `|A|` with `acc = |A|` (the accumulator is the
    position). The loop invariant is the hypothesis on `Clause`: the levels `j .. level-1` are done, i.e. `update[i]` /
    `rank[i]` hold the last level-`i` node among the positions `0..k` and its position; the slots at and above `level`
    are untouched. The hypothesis `j = 0 → …` and the last conjunct of the conclusion exist only for the base case:
    they hand on what the walk of level 0 found (the node stood on is the last of the positions `0..k`). -/
theorem search_gen (h : List Node) (L : List Nat) (hl : Linked h L) (hsize : L.length ≤ h.length)
    (cond : Node → Int → Bool) (k : Nat)
    (hcond : ∀ (q n : Nat) (nd : Node), L[q]? = some n → h[n]? = some nd → 1 ≤ q → cond nd (q : Int) = decide (q ≤ k))
    (level : Nat) (hlevel : level ≤ maxLevel) :
    ∀ (j x : Nat) (acc : Int) (update : List (Option Nat)) (rank : List Int) (A B : List Nat),
      j ≤ level → L = A ++ x :: B → acc = (A.length : Int) → A.length ≤ k →
      (∀ i, i < j → above h i x = true) →
      update.length = maxLevel → rank.length = maxLevel →
      (∀ i, j ≤ i → i < level → Clause h (L.take (k + 1)) update rank i) →
      (∀ i, level ≤ i → i < maxLevel → update[i]? = some none ∧ rank[i]? = some 0) →
      (j = 0 → ∃ A' B', L.take (k + 1) = A' ++ x :: B' ∧ acc = (A'.length : Int) ∧ ∀ y ∈ B', above h 0 y = false) →
      ∃ x' acc' update' rank', search h cond j x acc update rank = .ok (x', acc', update', rank') ∧
        update'.length = maxLevel ∧ rank'.length = maxLevel ∧
        (∀ i, i < level → Clause h (L.take (k + 1)) update' rank' i) ∧
        (∀ i, level ≤ i → i < maxLevel → update'[i]? = some none ∧ rank'[i]? = some 0) ∧
        (∃ A' B', L.take (k + 1) = A' ++ x' :: B' ∧ acc' = (A'.length : Int) ∧ ∀ y ∈ B', above h 0 y = false) := by
  intro j
  induction j with
  | zero =>
    intro x acc update rank A B _ _ _ _ _ hul hrl hcl hhi hq
    exact ⟨x, acc, update, rank, by simp [search, pure, Except.pure], hul, hrl,
      fun i hi => hcl i (Nat.zero_le _) hi, hhi, hq rfl⟩
  | succ i ih =>
    intro x acc update rank A B hj hsplit hacc hA habove hul hrl hcl hhi _
    have hLlen : L.length = A.length + (B.length + 1) := by rw [hsplit]; simp
    obtain ⟨A', u', B', h1, h2, h3, h4, h5⟩ :=
      walk_gen h L hl cond k hcond i (h.length + 1) A x B hsplit (habove i (Nat.lt_succ_self i)) hA (by omega)
    rw [hacc, search_succ h cond i x _ update rank u' _ h5 (by omega) (by omega)]
    have hA' : A'.length ≤ k := by
      have := congrArg List.length h1
      simp [List.length_take] at this
      omega
    have hsplit' : L = A' ++ u' :: (B' ++ L.drop (k + 1)) := by
      have := (List.take_append_drop (k + 1) L).symm
      rw [h1] at this
      simpa using this
    apply ih u' _ _ _ A' (B' ++ L.drop (k + 1)) (by omega) hsplit' rfl hA'
    · intro i' hi'
      exact above_mono h i i' u' (by omega) h2
    · simpa using hul
    · simpa using hrl
    · intro i' h1' h2'
      by_cases hii : i' = i
      · subst hii
        exact ⟨A', u', B', h1, h2, h3, List.getElem?_set_self (by omega), List.getElem?_set_self (by omega)⟩
      · obtain ⟨A2, u2, B2, e1, e2, e3, e4, e5⟩ := hcl i' (by omega) h2'
        have hne : i ≠ i' := fun e => hii e.symm
        exact ⟨A2, u2, B2, e1, e2, e3, by rw [List.getElem?_set_ne hne]; exact e4,
          by rw [List.getElem?_set_ne hne]; exact e5⟩
    · intro i' h1' h2'
      have hne : i ≠ i' := by omega
      rw [List.getElem?_set_ne hne, List.getElem?_set_ne hne]
      exact hhi i' h1' h2'
    · intro hi0
      subst hi0
      exact ⟨A', B', h1, rfl, h3⟩

theorem search_spec {sl : SL} {c : List Nat} (hc : IsChain sl c) (cond : Node → Int → Bool) (k : Nat)
    (hcond : CondUpTo sl c cond k) :
    ∃ x acc update rank, search sl.heap cond sl.level 0 0 emptyUpdate emptyRank = .ok (x, acc, update, rank) ∧
      update.length = maxLevel ∧ rank.length = maxLevel ∧
      UpdateRankFor sl.heap sl.level ((0 :: c).take (k + 1)) update rank ∧
      (∀ i, sl.level ≤ i → i < maxLevel → update[i]? = some none ∧ rank[i]? = some 0) ∧
      ((0 :: c).take (k + 1)).getLast? = some x ∧ acc = ((min k c.length : Nat) : Int) := by
  obtain ⟨x, acc, update, rank, h1, h2, h3, h4, h5, A', B', h6, h7, h8⟩ :=
    search_gen sl.heap (0 :: c) hc.linked (by simpa using hc.size) cond k hcond sl.level hc.levelHi
      sl.level 0 0 emptyUpdate emptyRank [] c (Nat.le_refl _) rfl rfl (Nat.zero_le _)
      (header_above hc)
      (by simp [emptyUpdate]) (by simp [emptyRank])
      (by intro i h1 h2; omega)
      (by intro i _ hi; simp [emptyUpdate, emptyRank, hi])
      (by intro h0; have := hc.levelLo; omega)
  have hB' : B' = [] := by
    cases B' with
    | nil => rfl
    | cons y B'' =>
      have hy : y ∈ (0 :: c).take (k + 1) := by rw [h6]; simp
      have := above_zero_of_mem hc (List.mem_of_mem_take hy)
      rw [h8 y (by simp)] at this
      exact absurd this (by simp)
  subst hB'
  refine ⟨x, acc, update, rank, h1, h2, h3, h4, h5, by rw [h6]; simp, ?_⟩
  have := congrArg List.length h6
  simp [List.length_take] at this
  rw [h7]
  omega

theorem linked_level0 {h : List Node} {L : List Nat} (hl : Linked h L) (hall : ∀ y ∈ L, above h 0 y = true)
    {A : List Nat} {u : Nat} {B : List Nat} (hs : L = A ++ u :: B) :
    ∃ nd l0, h[u]? = some nd ∧ nd.level[0]? = some l0 ∧ l0.forward = B.head? := by
  have hmem : ∀ y ∈ u :: B, above h 0 y = true := fun y hy => hall y (by rw [hs]; exact List.mem_append_right _ hy)
  obtain ⟨l0, hl0, _⟩ := getLevel_ok_of_lt h u 0 (by simpa [above] using hmem u (by simp))
  obtain ⟨nd, hn, hli⟩ := (getLevel_ok_iff h u 0 l0).1 hl0
  refine ⟨nd, l0, hn, hli, ?_⟩
  rw [((linked_iff_split h L).1 hl A u B hs 0 l0 ((getLevel_eq_lv _ _ _ _).1 hl0)).1]
  exact find_all_true B fun y hy => hmem y (List.mem_cons_of_mem _ hy)

theorem chainFrom_gen (h : List Node) (L : List Nat) (hl : Linked h L) (hall : ∀ y ∈ L, above h 0 y = true) :
    ∀ (B A : List Nat) (u fuel : Nat), L = A ++ u :: B → B.length + 1 ≤ fuel →
      chainFrom h fuel (some u) = u :: B := by
  intro B
  induction B with
  | nil =>
    intro A u fuel hsplit hfuel
    obtain ⟨fuel, rfl⟩ : ∃ f, fuel = f + 1 := ⟨fuel - 1, by omega⟩
    obtain ⟨nd, l0, hn, hli, hf⟩ := linked_level0 hl hall hsplit
    cases fuel <;> simp [chainFrom, hn, hli, hf]
  | cons b B ih =>
    intro A u fuel hsplit hfuel
    obtain ⟨fuel, rfl⟩ : ∃ f, fuel = f + 1 := ⟨fuel - 1, by simp at hfuel; omega⟩
    obtain ⟨nd, l0, hn, hli, hf⟩ := linked_level0 hl hall hsplit
    have := ih (A ++ [u]) b fuel (by rw [hsplit]; simp) (by simp at hfuel; omega)
    simp [chainFrom, hn, hli, hf, this]

theorem chain_eq {sl : SL} {c : List Nat} (hc : IsChain sl c) : chain sl = c := by
  have := chainFrom_gen sl.heap (0 :: c) hc.linked (fun y => above_zero_of_mem hc) c [] 0 (sl.heap.length + 1) rfl (by have := hc.size; omega)
  simp [chain, this]

theorem filterMap_item (h : List Node) (c : List Nat) (hb : ∀ n ∈ c, n < h.length) :
    c.filterMap (fun n => (h[n]?).map Node.item) = c.map (itemAt h) := by
  induction c with
  | nil => rfl
  | cons n c ih =>
    have hn : n < h.length := hb n (by simp)
    have := ih (fun m hm => hb m (by simp [hm]))
    simp [itemAt, hn, this]

theorem abs_eq {sl : SL} {c : List Nat} (hc : IsChain sl c) : abs sl = c.map (itemAt sl.heap) := by
  unfold abs
  rw [chain_eq hc]
  exact filterMap_item sl.heap c hc.bound


theorem chain_good {sl : SL} {c : List Nat} (hc : IsChain sl c) : ∀ a ∈ c.map (itemAt sl.heap), Good a := by
  intro a ha
  obtain ⟨m, hm, rfl⟩ := List.mem_map.mp ha
  exact hc.good m hm

theorem abs_sorted {sl : SL} (h : Inv sl) : (abs sl).Pairwise ILt := by
  obtain ⟨c, hc⟩ := h
  rw [abs_eq hc]; exact hc.sorted

theorem abs_good {sl : SL} (h : Inv sl) : ∀ x ∈ abs sl, Good x := by
  obtain ⟨c, hc⟩ := h
  rw [abs_eq hc]
  exact chain_good hc

end NodisVerif.Skiplist

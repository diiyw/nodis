import NodisVerif.Proofs.HandlerShape
import NodisVerif.Proofs.GoLibLemmas
/-
  The keyspace and string handlers (`Handler.table1`) in normal form.
-/
namespace NodisVerif.Proofs.HandlerShape
open NodisVerif NodisVerif.Resp NodisVerif.Handler

theorem shape_del (args : List Bytes) : Shape NoSpecial (del args) := by
  unfold del
  exact .ite .err (.call (.del _) .int)

theorem shape_exists_ (args : List Bytes) : Shape NoSpecial (exists_ args) := by
  unfold exists_
  exact .ite .err (.call (.exists_ _) .int)

theorem shape_expire (args : List Bytes) : Shape NoSpecial (expire args) := by
  unfold expire
  split
  · exact .call (.ite (.expireNX ..) (.ite (.expireXX ..) (.ite (.expireLT ..) (.ite (.expireGT ..) (.expire ..))))) .int
  · exact .err

theorem shape_expireAt (args : List Bytes) : Shape NoSpecial (expireAt args) := by
  unfold expireAt
  split
  · split
    · exact .err
    · exact .call (.ite (.expireAtNX ..) (.ite (.expireAtXX ..) (.ite (.expireAtLT ..) (.ite (.expireAtGT ..) (.expireAt ..)))))
        .int
  · exact .err

theorem shape_ttl (args : List Bytes) : Shape NoSpecial (ttl args) := by
  unfold ttl
  split
  · exact .call (.ttl _) .ttl
  · exact .err

theorem shape_pttl (args : List Bytes) : Shape NoSpecial (pttl args) := by
  unfold pttl
  split
  · exact .call (.pttl _) .int
  · exact .err

theorem shape_persist (args : List Bytes) : Shape NoSpecial (persist args) := by
  unfold persist
  split
  · exact .call (.persist _) .int
  · exact .err

theorem shape_randomKey : Shape NoSpecial randomKey := .call .randomKey .randomKey

theorem shape_rename (args : List Bytes) : Shape NoSpecial (rename args) := by
  unfold rename
  split
  · exact .call (.rename ..) .rename
  · exact .err

theorem shape_renameNx (args : List Bytes) : Shape NoSpecial (renameNx args) := by
  unfold renameNx
  split
  · exact .call (.renameNX ..) .renameNx
  · exact .err

theorem shape_appendString (args : List Bytes) : Shape NoSpecial (appendString args) := by
  unfold appendString
  split
  · exact .call (.append ..) .int
  · exact .err

theorem shape_setex (args : List Bytes) : Shape NoSpecial (setex args) := by
  unfold setex
  split
  · exact .call (.setEX ..) .ok
  · exact .err

theorem shape_setnx (args : List Bytes) : Shape NoSpecial (setnx args) := by
  unfold setnx
  split
  · exact .call (.setNX ..) .isTrue
  · exact .err

/-- INCR / DECR: the step is 1, so the sum on a freshly created key (0 ± 1) stays inside int64 -/
theorem shape_incrDecr (neg : Bool) (args : List Bytes) : Shape NoSpecial (incrDecr neg args) := by
  unfold incrDecr
  split
  · exact .call (.addInt _ 1 neg (by cases neg <;> decide)) .incr
  · exact .err

/-- INCRBYFLOAT: an increment whose text is outside the model's float fragment gets the closure that replies
    UNSUPPORTED without touching the store (nothing is claimed about the Go code for those) -/
theorem shape_incrByFloat (args : List Bytes) : Shape NoSpecial (incrByFloat args) := by
  unfold incrByFloat
  split
  · split
    · exact .crash
    · exact .err
    · exact .unsup
    · exact .call (.incrByFloat ..) .float
  · exact .err

theorem shape_getString (args : List Bytes) : Shape NoSpecial (getString args) := by
  unfold getString
  split
  · exact .call (.get _) .optBulk
  · exact .err

theorem shape_getSet (args : List Bytes) : Shape NoSpecial (getSet args) := by
  unfold getSet
  split
  · exact .call (.getSet ..) .optBulk
  · exact .err

/-- what SETRANGE's bounds check guarantees: writing at the offset into a fresh (empty) string succeeds -/
theorem setRange_none_isSome (o : Int) (v : Bytes)
    (h : ¬ (o < 0 ∨ o > maxStringSize ∨ o + v.length > maxStringSize)) :
    (DsStr.setRange none o v).isSome = true := by
  simp only [maxStringSize, not_or, Int.not_lt] at h
  obtain ⟨h0, h1, h2⟩ := h
  have hw : wrap64 (o + (v.length : Int)) = o + v.length := wrap64_id ⟨by omega, by omega⟩
  unfold DsStr.setRange
  simp only [DsStr.bytes, Option.getD_none, List.length_nil, hw]
  rw [if_neg (by omega), if_neg (by omega), if_neg]
  · rfl
  · simp only [Bool.not_eq_true', decide_eq_false_iff_not, not_and]; intro; omega

theorem shape_setRange (args : List Bytes) : Shape NoSpecial (setRange args) := by
  unfold setRange
  split
  · split
    · exact .err
    · split
      · exact .err
      · next hc => exact .call (.setRange _ _ _ (setRange_none_isSome _ _ hc)) .int
  · exact .err

theorem shape_getRange (args : List Bytes) : Shape NoSpecial (getRange args) := by
  unfold getRange
  split
  · split
    · exact .call (.getRange ..) .getRange
    · exact .err
  · exact .err

theorem shape_strLen (args : List Bytes) : Shape NoSpecial (strLen args) := by
  unfold strLen
  split
  · exact .call (.strLen _) .int
  · exact .err

theorem shape_setBit (args : List Bytes) : Shape NoSpecial (setBit args) := by
  unfold setBit
  split
  · split
    · exact .err
    · split
      · exact .err
      · split
        · exact .err
        · split
          · exact .err
          · exact .call (.setBit ..) .int
  · exact .err

theorem shape_getBit (args : List Bytes) : Shape NoSpecial (getBit args) := by
  unfold getBit
  split
  · split
    · exact .err
    · split
      · exact .err
      · exact .call (.getBit ..) .int
  · exact .err

theorem shape_bitCount (args : List Bytes) : Shape NoSpecial (bitCount args) := by
  unfold bitCount
  split
  · exact .err
  · exact .ite .err (.call (.bitCount ..) .int)

/-- the closure of SCAN: the TYPE filter is off (0) unless the option was given -/
inductive ScanCall (args : List Bytes) : HRes → Prop
  | scan (cursor : Int) (pat : Bytes) (count : Int) (t : Bytes) :
      ScanCall args (.exec fun s now _ =>
        call (Api.scan s now cursor pat count (if opt args "TYPE" > 0 then typeCodeOf (upper t) else 0)) fun s o =>
          match o with
          | .many [.int next, .slist ks] => done s ([.arr 2, .bulk (formatInt next)] ++ bulkList ks)
          | _ => done s [])

/-- SCAN: everything but the scan itself happens outside the closure; an option word in last position indexes past the
    end of the arguments (a crash) -/
theorem shape_scan (args : List Bytes) : Shape (ScanCall args) (scan args) := by
  unfold scan
  split
  · exact .err
  · split
    · exact .err
    · dsimp only
      split
      · exact .crash
      · split
        · exact .crash
        · exact .err
        · refine .ite .err ?_
          split
          · exact .crash
          · exact .special (.scan ..)

/-- `Handler.table1`, walked once.  By name: the handlers whose closure makes no call (PING, ECHO, DBSIZE, FLUSHDB /
    FLUSHALL), makes several (SET, MSET, MGET), writes what only a fact about the call makes well-formed (KEYS, TYPE,
    SCAN), and INCRBY / DECRBY (C09 leaves out DECRBY with the decrement -2^63) -/
theorem table1_elim {P : String → List Bytes → HRes → Prop}
    (shape : ∀ {name args r}, Shape NoSpecial r → P name args r)
    (ping : ∀ args, P "PING" args (ping args)) (echo : ∀ args, P "ECHO" args (echo args))
    (dbSize : ∀ args, P "DBSIZE" args dbSize) (flushDB : ∀ name args, P name args flushDB)
    (keys : ∀ args, P "KEYS" args (keys args)) (typ : ∀ args, P "TYPE" args (typ args))
    (scan : ∀ args, P "SCAN" args (scan args)) (set : ∀ args, P "SET" args (setString args))
    (mSet : ∀ args, P "MSET" args (mSet args)) (mGet : ∀ args, P "MGET" args (mGet args))
    (incrBy : ∀ args, P "INCRBY" args (incrDecrBy false args)) (decrBy : ∀ args, P "DECRBY" args (incrDecrBy true args))
    (name : String) (args : List Bytes) (r : HRes) (h : table1 name args = some r) : P name args r := by
  unfold table1 at h
  split at h
  all_goals cases h
  · exact ping _
  · exact echo _
  · exact dbSize _
  · exact flushDB _ _
  · exact flushDB _ _
  · exact shape (shape_del _)
  · exact shape (shape_del _)
  · exact shape (shape_exists_ _)
  · exact shape (shape_expire _)
  · exact shape (shape_expireAt _)
  · exact keys _
  · exact shape shape_randomKey
  · exact shape (shape_ttl _)
  · exact shape (shape_pttl _)
  · exact shape (shape_persist _)
  · exact shape (shape_rename _)
  · exact shape (shape_renameNx _)
  · exact typ _
  · exact scan _
  · exact set _
  · exact mSet _
  · exact shape (shape_appendString _)
  · exact shape (shape_setex _)
  · exact shape (shape_setnx _)
  · exact shape (shape_getString _)
  · exact shape (shape_getSet _)
  · exact mGet _
  · exact shape (shape_setRange _)
  · exact shape (shape_getRange _)
  · exact shape (shape_strLen _)
  · exact shape (shape_incrDecr _ _)
  · exact shape (shape_incrDecr _ _)
  · exact incrBy _
  · exact decrBy _
  · exact shape (shape_incrByFloat _)
  · exact shape (shape_setBit _)
  · exact shape (shape_getBit _)
  · exact shape (shape_bitCount _)

end NodisVerif.Proofs.HandlerShape

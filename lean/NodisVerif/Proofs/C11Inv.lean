import NodisVerif.Spec.Persist
import NodisVerif.Proofs.C14

/-
  C11 / C12: the storage invariant `StoreInvX s x t` (per record `RecInv`, per backend entry `EntInv`, object identities
  `OidInv`; `x` = the name a command is rewriting, `t` = the time horizon), with `StoreInv s t := StoreInvX s none t`,
  and its frame lemma `frame` (an operation that touches the record and the entries of one name only). Before it, in
  `Proofs.C11AList`, two lemmas on the value-dependent `filterMap` of a key-sorted list and `get?_mem_keys`.
-/
namespace NodisVerif.Proofs.C11AList
open NodisVerif.Proofs.AListLemmas NodisVerif.Proofs.AListLemmas2

variable {V W : Type}

theorem sorted_filterMap (f : Bytes → V → Option W) (l : AList V) (h : AList.Sorted l) :
    AList.Sorted (l.filterMap fun p => (f p.1 p.2).map fun w => (p.1, w)) := by
  rw [sorted_iff_pairwise] at h ⊢
  rw [List.pairwise_filterMap]
  refine h.imp ?_
  intro a b hab a' ha' b' hb'
  simp only [Option.map_eq_some_iff] at ha' hb'
  obtain ⟨w, _, rfl⟩ := ha'
  obtain ⟨w', _, rfl⟩ := hb'
  exact hab

theorem get?_filterMap (f : Bytes → V → Option W) : ∀ (l : AList V), AList.Sorted l → ∀ (x : Bytes),
    AList.get? (l.filterMap fun p => (f p.1 p.2).map fun w => (p.1, w)) x = (AList.get? l x).bind (f x) := by
  intro l
  induction l with
  | nil => intro _ x; rfl
  | cons a rest ih =>
    intro hs x
    obtain ⟨k, v⟩ := a
    have hs' := sorted_tail hs
    have hlt := (sorted_cons (k, v) rest hs).2
    simp only [List.filterMap_cons, AList.get?]
    by_cases h : k = x
    · subst h
      cases hf : f k v with
      | some w => simp [AList.get?, hf]
      | none =>
        simp only [Option.map_none, if_true, Option.bind_some, hf]
        rw [ih hs' k]
        have : AList.get? rest k = none := get?_none_of_lt rest k (fun p hp => hlt p hp)
        rw [this]; rfl
    · cases hf : f k v with
      | some w => simp [AList.get?, h, ih hs' x]
      | none => simp [h, ih hs' x]

theorem get?_mem_keys (l : AList V) (k : Bytes) (v : V) (h : AList.get? l k = some v) : k ∈ l.map (·.1) := by
  have := mem_of_get? l k v h
  exact List.mem_map.mpr ⟨(k, v), this, rfl⟩

end NodisVerif.Proofs.C11AList

namespace NodisVerif.Proofs.C11
open NodisVerif.Store NodisVerif.Codec NodisVerif.Spec.Persist
open NodisVerif.Proofs.AListLemmas NodisVerif.Proofs.AListLemmas2 NodisVerif.Proofs.C11AList

/-- lengths fit Go's int (a Go byte string cannot be 2^63 bytes long) -/
def Bounded : Val → Prop
  | .str _ => True
  | .strNil => True
  | .list l => ∀ v ∈ l.items, v.length < 2 ^ 63
  | .hash h => ∀ p ∈ h, p.1.length + p.2.length + 10 < 2 ^ 63
  | .set s => ∀ p ∈ s, p.1.length < 2 ^ 63
  | .zset z => ∀ p ∈ z.dict, p.1.length + 8 < 2 ^ 63

def Good (v : Val) : Prop := v.WF ∧ Bounded v

theorem good_roundtrip (v : Val) (h : Good v) (hn : v ≠ .strNil) :
    decodeEntry (encodeEntry v) = some v := by
  obtain ⟨hw, hb⟩ := h
  cases v with
  | str b => exact C14.str_roundtrip b
  | strNil => exact absurd rfl hn
  | list l => exact C14.list_roundtrip l hw hb
  | hash m => exact C14.hash_roundtrip_of_sizes m hw hb
  | set m => exact C14.set_roundtrip m hw hb
  | zset z => exact C14.zset_roundtrip z hw hb

theorem strNil_decodes : decodeEntry (encodeEntry .strNil) = some (.str []) := by
  simp [encodeEntry, encodeVal, Val.typeCode, decodeEntry]

theorem good_decodes (v : Val) (h : Good v) :
    ∃ v', decodeEntry (encodeEntry v) = some v' ∧ Good v' := by
  by_cases hn : v = .strNil
  · subst hn
    exact ⟨.str [], strNil_decodes, ⟨trivial, trivial⟩⟩
  · exact ⟨v, good_roundtrip v h hn, h⟩

/-- the backend entry `ent` holds the value `v` of the clean record `m`: Pebble keeps a copy
    (which may only be known up to one encode/decode trip), the in-memory backend the object -/
structure Holds (pebble : Bool) (m : Meta) (v : Val) (ent : DiskEntry) : Prop where
  peb : pebble = true → ent.val = v ∨ decodeEntry (encodeEntry ent.val) = some v
  mem : pebble = false → ent.oid = m.oid ∧ ent.val = v

/-- loading the entry that holds the value of a record hands that value back (Pebble: a good value that is not the
    nil string survives the encode/decode trip; memory: the object itself) -/
theorem Holds.load {s : MState} {k : Bytes} {m m' : Meta} {v : Val} {ent : DiskEntry} (hh : Holds s.pebble m v ent)
    (hg : Good v) (hn : s.pebble = true → v ≠ .strNil)
    (hent : AList.get? s.disk (encodeKey k m'.exp) = some ent) :
    loadValue s k m' = some (v, if s.pebble then 0 else ent.oid) := by
  simp only [loadValue, diskGet, hent]
  cases hp : s.pebble with
  | true =>
    have hrt : decodeEntry (encodeEntry ent.val) = some v := by
      rcases hh.peb hp with h1 | h1
      · rw [h1]; exact good_roundtrip v hg (hn hp)
      · exact h1
    simp [hrt]
  | false => simp [(hh.mem hp).2]

/-- per index record. `x` = a name whose record is currently being rewritten by a command
    (between `setVal`/`setExp` and `signalModifiedKey`); `t` = time horizon: a record that was
    already expired at `t` is dead for good (all later operations run at `now ≥ t`) -/
structure RecInv (disk : AList DiskEntry) (pebble : Bool) (x : Option Bytes) (t : Int)
    (k : Bytes) (m : Meta) : Prop where
  ok : m.isOk = true
  expR : inInt64 m.exp = true
  good : ∀ v, m.value = some v → Good v
  /-- what `stored` says is in the backend is there, under this name -/
  stored : ∀ e, m.stored = some e →
    ∃ ent, AList.get? disk (encodeKey k e) = some ent ∧ ent.name = k ∧ ent.exp = e
  /-- a cold live record sits in the backend under its current deadline -/
  cold : m.expired t = false → m.value = none → m.stored = some m.exp
  /-- a hot live record that is not marked modified is in the backend, current deadline, same value -/
  clean : m.expired t = false → x ≠ some k → m.isModified = false → ∀ v, m.value = some v →
    ∃ ent, m.stored = some m.exp ∧ AList.get? disk (encodeKey k m.exp) = some ent ∧ Holds pebble m v ent

/-- per backend entry: filed under its own encoding, decodable, and it is *the* stored entry of
    the indexed record of its name (no stale entries) -/
structure EntInv (index : AList Meta) (dk : Bytes) (e : DiskEntry) : Prop where
  key : dk = encodeKey e.name e.exp
  expR : inInt64 e.exp = true
  good : Good e.val
  owner : ∃ m, AList.get? index e.name = some m ∧ m.stored = some e.exp

/-- object identities (in-memory backend only): `oid` names the value object an index record and a backend entry
    share (Model/Store.lean, head); 0 = a copy without identity, hence `0 <`.  `C03Oids.OidsBelow` (Proofs/Oids.lean)
    has the same five clauses for an explicit bound in place of `s.nextId`, guarded by `oid ≠ 0` where these ask `0 <`. -/
structure OidInv (s : MState) : Prop where
  recR : ∀ k m, AList.get? s.index k = some m → 0 < m.oid ∧ m.oid < s.nextId
  recInj : ∀ k1 m1 k2 m2, AList.get? s.index k1 = some m1 → AList.get? s.index k2 = some m2 →
    m1.oid = m2.oid → k1 = k2
  entR : ∀ dk e, AList.get? s.disk dk = some e → 0 < e.oid ∧ e.oid < s.nextId
  entRec : ∀ dk e k m, AList.get? s.disk dk = some e → AList.get? s.index k = some m →
    e.oid = m.oid → e.name = k
  entInj : ∀ dk1 e1 dk2 e2, AList.get? s.disk dk1 = some e1 → AList.get? s.disk dk2 = some e2 →
    e1.oid = e2.oid → e1.name = e2.name

/-- the storage invariant with the record of `x` exempted from `RecInv.clean`.
    (C13's `StoreAgrees`, Proofs/C13Reopen.lean, is a separate, weaker invariant for the crash property:
    Pebble only, it allows the two entries of one name a crash inside `persist` leaves; no theorem
    relates the two.) -/
structure StoreInvX (s : MState) (x : Option Bytes) (t : Int) : Prop where
  idxSorted : AList.Sorted s.index
  diskSorted : AList.Sorted s.disk
  recs : ∀ k m, AList.get? s.index k = some m → RecInv s.disk s.pebble x t k m
  ents : ∀ dk e, AList.get? s.disk dk = some e → EntInv s.index dk e
  oids : s.pebble = false → OidInv s
  idPos : 0 < s.nextId

/-- the storage invariant (between commands) -/
def StoreInv (s : MState) (t : Int) : Prop := StoreInvX s none t

theorem Meta.expired_mono (m : Meta) {t t' : Int} (h : t ≤ t') (he : m.expired t = true) :
    m.expired t' = true := by
  simp only [Meta.expired, Bool.and_eq_true, bne_iff_ne, ne_eq, decide_eq_true_eq] at he ⊢
  exact ⟨he.1, by omega⟩

theorem Meta.alive_anti (m : Meta) {t t' : Int} (h : t ≤ t') (he : m.expired t' = false) :
    m.expired t = false := by
  cases h1 : m.expired t with
  | false => rfl
  | true => rw [Meta.expired_mono m h h1] at he; cases he

theorem RecInv.mono {disk pebble x t t' k m} (h : RecInv disk pebble x t k m) (ht : t ≤ t') :
    RecInv disk pebble x t' k m :=
  { ok := h.ok, expR := h.expR, good := h.good, stored := h.stored
    cold := fun he => h.cold (Meta.alive_anti m ht he)
    clean := fun he => h.clean (Meta.alive_anti m ht he) }

theorem StoreInvX.mono {s x t t'} (h : StoreInvX s x t) (ht : t ≤ t') : StoreInvX s x t' :=
  { idxSorted := h.idxSorted, diskSorted := h.diskSorted
    recs := fun k m hk => (h.recs k m hk).mono ht
    ents := h.ents, oids := h.oids, idPos := h.idPos }

theorem RecInv.weaken {disk pebble t k m} (x : Option Bytes) (h : RecInv disk pebble none t k m) :
    RecInv disk pebble x t k m :=
  { ok := h.ok, expR := h.expR, good := h.good, stored := h.stored, cold := h.cold
    clean := fun he _ => h.clean he (by simp) }

theorem StoreInvX.weaken {s t} (x : Option Bytes) (h : StoreInvX s none t) : StoreInvX s x t :=
  { idxSorted := h.idxSorted, diskSorted := h.diskSorted
    recs := fun k m hk => (h.recs k m hk).weaken x
    ents := h.ents, oids := h.oids, idPos := h.idPos }

theorem StoreInvX.congr {s s' : MState} {x t} (h : StoreInvX s x t)
    (hi : s'.index = s.index) (hd : s'.disk = s.disk) (hp : s'.pebble = s.pebble)
    (hn : s'.nextId = s.nextId) : StoreInvX s' x t := by
  obtain ⟨a, b, c, d, e, f⟩ := h
  refine ⟨by rw [hi]; exact a, by rw [hd]; exact b, ?_, ?_, ?_, by rw [hn]; exact f⟩
  -- in the order of the structures: `recs`, `ents`, `oids` (`recR`, `recInj`, `entR`, `entRec`, `entInj`)
  · intro k m hk; rw [hi] at hk; rw [hd, hp]; exact c k m hk
  · intro dk en hk; rw [hd] at hk; rw [hi]; exact d dk en hk
  · intro hpb; rw [hp] at hpb
    obtain ⟨o1, o2, o3, o4, o5⟩ := e hpb
    refine ⟨?_, ?_, ?_, ?_, ?_⟩
    · intro k m hk; rw [hi] at hk; rw [hn]; exact o1 k m hk
    · intro k1 m1 k2 m2 h1 h2; rw [hi] at h1 h2; exact o2 k1 m1 k2 m2 h1 h2
    · intro dk en hk; rw [hd] at hk; rw [hn]; exact o3 dk en hk
    · intro dk en k m h1 h2; rw [hd] at h1; rw [hi] at h2; exact o4 dk en k m h1 h2
    · intro dk1 e1 dk2 e2 h1 h2; rw [hd] at h1 h2; exact o5 dk1 e1 dk2 e2 h1 h2

theorem StoreInvX.ent_at {s x t} (h : StoreInvX s x t) {k : Bytes} {e : Int} {ent : DiskEntry}
    (hg : AList.get? s.disk (encodeKey k e) = some ent) :
    ent.name = k ∧ ent.exp = e :=
  CodecLemmas.encodeKey_inj (h.ents _ _ hg).key.symm

theorem StoreInvX.ent_unique {s x t} (h : StoreInvX s x t) {dk1 dk2 : Bytes} {e1 e2 : DiskEntry}
    (h1 : AList.get? s.disk dk1 = some e1) (h2 : AList.get? s.disk dk2 = some e2)
    (hn : e1.name = e2.name) : dk1 = dk2 ∧ e1 = e2 := by
  have i1 := h.ents _ _ h1
  have i2 := h.ents _ _ h2
  obtain ⟨m1, hm1, hs1⟩ := i1.owner
  obtain ⟨m2, hm2, hs2⟩ := i2.owner
  rw [hn] at hm1
  rw [hm1] at hm2
  have : m1 = m2 := by simpa using hm2
  subst this
  rw [hs1] at hs2
  have hexp : e1.exp = e2.exp := by simpa using hs2
  have hk : dk1 = dk2 := by rw [i1.key, i2.key, hn, hexp]
  subst hk
  rw [h1] at h2
  exact ⟨rfl, by simpa using h2⟩

theorem StoreInvX.ent_of_name {s x t} (h : StoreInvX s x t) {dk : Bytes} {e : DiskEntry} {m : Meta}
    (h1 : AList.get? s.disk dk = some e) (hm : AList.get? s.index e.name = some m) :
    m.stored = some e.exp ∧ dk = encodeKey e.name e.exp := by
  have i1 := h.ents _ _ h1
  obtain ⟨m1, hm1, hs1⟩ := i1.owner
  rw [hm] at hm1
  have : m = m1 := by simpa using hm1
  subst this
  exact ⟨hs1, i1.key⟩

theorem StoreInvX.no_entry {s x t} (h : StoreInvX s x t) {dk : Bytes} {e : DiskEntry}
    (h1 : AList.get? s.disk dk = some e) (hm : AList.get? s.index e.name = none) : False := by
  obtain ⟨m1, hm1, _⟩ := (h.ents _ _ h1).owner
  rw [hm] at hm1; cases hm1

/-- nothing of another name than `k` carries the object identity `n`: no index record, no backend entry -/
structure OidFree (s : MState) (k : Bytes) (n : Nat) : Prop where
  recs : ∀ k' m', k' ≠ k → AList.get? s.index k' = some m' → m'.oid ≠ n
  ents : ∀ dk e, AList.get? s.disk dk = some e → e.name ≠ k → e.oid ≠ n

theorem OidFree.congr {s s' : MState} {k : Bytes} {n : Nat} (h : OidFree s k n) (hi : s'.index = s.index)
    (hd : s'.disk = s.disk) : OidFree s' k n :=
  ⟨by rw [hi]; exact h.recs, by rw [hd]; exact h.ents⟩

/-- the identities `s'` carries under the name `k` (record and entries) are in range and free in `s` -/
structure OidFrame (s s' : MState) (k : Bytes) : Prop where
  recK : ∀ m, AList.get? s'.index k = some m → 0 < m.oid ∧ m.oid < s'.nextId ∧ OidFree s k m.oid
  entK : ∀ dk e, AList.get? s'.disk dk = some e → e.name = k → 0 < e.oid ∧ e.oid < s'.nextId ∧ OidFree s k e.oid

theorem frame {s s' : MState} {x x' : Option Bytes} {t : Int} {k : Bytes} (h : StoreInvX s x t)
    (hx : ∀ k', k' ≠ k → x' ≠ some k' → x ≠ some k')
    (hp : s'.pebble = s.pebble) (hn : s.nextId ≤ s'.nextId)
    (hI : AList.Sorted s'.index) (hD : AList.Sorted s'.disk)
    (hIo : ∀ k', k' ≠ k → AList.get? s'.index k' = AList.get? s.index k')
    (hDo : ∀ dk e, e.name ≠ k → (AList.get? s'.disk dk = some e ↔ AList.get? s.disk dk = some e))
    (hrec : ∀ m, AList.get? s'.index k = some m → RecInv s'.disk s'.pebble x' t k m)
    (hent : ∀ dk e, AList.get? s'.disk dk = some e → e.name = k → EntInv s'.index dk e)
    (hoid : s.pebble = false → OidFrame s s' k) : StoreInvX s' x' t := by
  -- every clause splits on "is the name `k`": `k` itself from `hrec` / `hent` / `hoid`, any other name is carried
  -- over `hIo` / `hDo` from the invariant of `s`
  refine ⟨hI, hD, ?_, ?_, ?_, by have := h.idPos; omega⟩
  · -- `recs`
    intro k' m hk
    by_cases hkk : k' = k
    · subst hkk; exact hrec m hk
    · rw [hIo k' hkk] at hk
      have r := h.recs k' m hk
      have hst : ∀ e, m.stored = some e →
          ∃ ent, AList.get? s'.disk (encodeKey k' e) = some ent ∧ ent.name = k' ∧ ent.exp = e := by
        intro e he
        obtain ⟨ent, h1, h2, h3⟩ := r.stored e he
        exact ⟨ent, (hDo _ _ (by rw [h2]; exact hkk)).mpr h1, h2, h3⟩
      refine ⟨r.ok, r.expR, r.good, hst, r.cold, ?_⟩
      intro he hx' hm v hv
      obtain ⟨ent, h1, h2, h3⟩ := r.clean he (hx k' hkk hx') hm v hv
      obtain ⟨ent', g1, g2, _⟩ := r.stored _ h1
      rw [h2] at g1
      have : ent = ent' := by simpa using g1
      subst this
      refine ⟨ent, h1, (hDo _ _ (by rw [g2]; exact hkk)).mpr h2, ?_⟩
      rw [hp]; exact h3
  · -- `ents`
    intro dk e hk
    by_cases hkk : e.name = k
    · exact hent dk e hk hkk
    · have r := h.ents dk e ((hDo dk e hkk).mp hk)
      refine ⟨r.key, r.expR, r.good, ?_⟩
      obtain ⟨m, hm, hs⟩ := r.owner
      exact ⟨m, by rw [hIo _ hkk]; exact hm, hs⟩
  · -- `oids`: `recR`, `recInj`, `entR`, `entRec`, `entInj`
    intro hpb
    rw [hp] at hpb
    have o := h.oids hpb
    have f := hoid hpb
    refine ⟨?_, ?_, ?_, ?_, ?_⟩
    · intro k' m hk
      by_cases hkk : k' = k
      · subst hkk; have := f.recK m hk; exact ⟨this.1, this.2.1⟩
      · rw [hIo k' hkk] at hk
        have := o.recR k' m hk
        exact ⟨this.1, by omega⟩
    · intro k1 m1 k2 m2 h1 h2 he
      by_cases hk1 : k1 = k
      · by_cases hk2 : k2 = k
        · rw [hk1, hk2]
        · subst hk1
          rw [hIo k2 hk2] at h2
          exact absurd he.symm ((f.recK m1 h1).2.2.recs k2 m2 hk2 h2)
      · by_cases hk2 : k2 = k
        · subst hk2
          rw [hIo k1 hk1] at h1
          exact absurd he ((f.recK m2 h2).2.2.recs k1 m1 hk1 h1)
        · rw [hIo k1 hk1] at h1
          rw [hIo k2 hk2] at h2
          exact o.recInj k1 m1 k2 m2 h1 h2 he
    · intro dk e hk
      by_cases hkk : e.name = k
      · have := f.entK dk e hk hkk; exact ⟨this.1, this.2.1⟩
      · have := o.entR dk e ((hDo dk e hkk).mp hk)
        exact ⟨this.1, by omega⟩
    · intro dk e k' m h1 h2 he
      by_cases hkk : e.name = k
      · by_cases hk2 : k' = k
        · rw [hkk, hk2]
        · rw [hIo k' hk2] at h2
          exact absurd he.symm ((f.entK dk e h1 hkk).2.2.recs k' m hk2 h2)
      · have h1' := (hDo dk e hkk).mp h1
        by_cases hk2 : k' = k
        · subst hk2
          exact absurd he ((f.recK m h2).2.2.ents dk e h1' hkk)
        · rw [hIo k' hk2] at h2
          exact o.entRec dk e k' m h1' h2 he
    · intro dk1 e1 dk2 e2 h1 h2 he
      by_cases hk1 : e1.name = k
      · by_cases hk2 : e2.name = k
        · rw [hk1, hk2]
        · have h2' := (hDo dk2 e2 hk2).mp h2
          exact absurd he.symm ((f.entK dk1 e1 h1 hk1).2.2.ents dk2 e2 h2' hk2)
      · have h1' := (hDo dk1 e1 hk1).mp h1
        by_cases hk2 : e2.name = k
        · exact absurd he ((f.entK dk2 e2 h2 hk2).2.2.ents dk1 e1 h1' hk1)
        · exact o.entInj dk1 e1 dk2 e2 h1' ((hDo dk2 e2 hk2).mp h2) he

theorem OidInv.rec_fresh {s : MState} (o : OidInv s) {k : Bytes} {m : Meta}
    (hm : AList.get? s.index k = some m) : OidFree s k m.oid := by
  refine ⟨?_, ?_⟩
  · intro k' m' hk h1 he
    exact hk (o.recInj k' m' k m h1 hm he)
  · intro dk e h1 hne he
    exact hne (o.entRec dk e k m h1 hm he)

theorem OidInv.ent_fresh {s : MState} (o : OidInv s) {k dk : Bytes} {e : DiskEntry}
    (he : AList.get? s.disk dk = some e) (hn : e.name = k) : OidFree s k e.oid := by
  refine ⟨?_, ?_⟩
  · intro k' m' hk h1 h2
    have := o.entRec dk e k' m' he h1 h2.symm
    exact hk (by rw [← this, hn])
  · intro dk' e' h1 hne h2
    have := o.entInj dk' e' dk e h1 he h2
    exact hne (by rw [this, hn])

theorem OidInv.new_fresh {s : MState} (o : OidInv s) (k : Bytes) {n : Nat} (hn : s.nextId ≤ n) : OidFree s k n := by
  refine ⟨?_, ?_⟩
  · intro k' m' _ h1 he
    have := o.recR k' m' h1; omega
  · intro dk e h1 _ he
    have := o.entR dk e h1; omega

theorem empty_inv (pebble : Bool) (t : Int) : StoreInv (empty pebble) t := by
  refine ⟨trivial, trivial, ?_, ?_, ?_, by simp [empty]⟩
  · intro k m hm; cases hm
  · intro dk e he; cases he
  · intro _
    exact ⟨(fun k m hm => by cases hm), (fun k1 m1 _ _ h1 => by cases h1), (fun dk e he => by cases he),
      (fun dk e _ _ he => by cases he), (fun dk e _ _ he => by cases he)⟩

end NodisVerif.Proofs.C11

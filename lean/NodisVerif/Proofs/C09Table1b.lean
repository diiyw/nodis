import NodisVerif.Proofs.HandlerShape1
import NodisVerif.Proofs.C09Shape
import NodisVerif.Proofs.C15Decimal
/-
  C09 (WATCH soundness), the handler table of Model/Handler.lean: INCRBY/DECRBY (finding:
  `DECRBY k -9223372036854775808`), SET, MSET, MGET, SCAN, and the table theorems for `Handler.table1`.  The handlers
  that make one call are in normal form (HandlerShape1.lean), so for them this is `HandlerShape.ApiCall.frame`.
-/

namespace NodisVerif.Proofs.C08Step
open Resp Server
open NodisVerif NodisVerif.Store NodisVerif.Api
open NodisVerif.Proofs.C09Writers

theorem parseInt64_inInt64 {s : Bytes} {v : Int} (h : parseInt64 s = some v) : inInt64 v = true :=
  (C15.parseInt64_some h).1

theorem parseIntGo_inInt64 {s : Bytes} {v : Int} (h : Handler.parseIntGo s = (v, false)) : inInt64 v = true := by
  unfold Handler.parseIntGo at h
  split at h
  · next hv => cases h; exact parseInt64_inInt64 hv
  · -- every exit of the `none` branch carries the flag `true`
    (repeat' split at h) <;> cases h

/-
  FULL STATEMENT (false):
    theorem signals_incrDecrBy (neg : Bool) (args : List Bytes) (b : Body)
        (h : Handler.incrDecrBy neg args = .exec b) : SignalsChanges b
  Finding region (`decrByMin`): DECRBY whose decrement parses to -2^63 (`neg = true`, delta = int64Min).
  On a key that is not live, `writeKey` creates the record (an empty string, read as 0); `Decr(-2^63)`
  then fails its overflow check (0 - (-2^63) leaves int64) and the call returns the overflow error
  (the handler replies `.err 0`) without `signalModifiedKey`: the key now exists, a watcher is not told.
  For INCRBY (`neg = false`) the parsed delta is itself an int64, so 0 + delta never overflows.
-/
/-- finding region of INCRBY / DECRBY: DECRBY with the decrement -2^63 (its negation leaves int64) -/
def decrByMin (neg : Bool) (args : List Bytes) : Bool :=
  neg && match args with
    | _ :: d :: _ => (Handler.parseIntGo d).1 == int64Min
    | _ => false

theorem signals_incrDecrBy_partial (neg : Bool) (args : List Bytes) (hreg : decrByMin neg args = false) :
    ExecSignals (Handler.incrDecrBy neg args) := by
  unfold Handler.incrDecrBy
  split
  · next k d rest =>
    split
    · exact execSignals_err
    · next delta hd =>
      have hin := parseIntGo_inInt64 hd
      refine execSignals_call (fun _ o => by split <;> rfl) fun st now _ hp =>
        frame_addInt st hp now _ delta neg false (Or.inr ?_)
      cases neg
      · exact hin
      · simp only [decrByMin, Bool.true_and, hd, beq_eq_false_iff_ne, ne_eq] at hreg
        simp only [if_true]
        simp only [inInt64, int64Min, int64Max] at hin hreg ⊢
        have hin' := of_decide_eq_true hin
        exact decide_eq_true (by omega)
  · exact execSignals_err

/-- the arguments of `DECRBY k -9223372036854775808` (the second one is the decimal text, as bytes) -/
def decrByMinArgs : List Bytes := [[107], [45, 57, 50, 50, 51, 51, 55, 50, 48, 51, 54, 56, 53, 52, 55, 55, 53, 56, 48, 56]]

/-- witness: `DECRBY k -9223372036854775808` on the empty Pebble store: the closure's output store has a
    record under `k` (created, empty string), `k` was not signalled, the store was not flushed -/
theorem signals_incrDecrBy_finding :
    ∃ b, Handler.incrDecrBy true decrByMinArgs = .exec b ∧
      let st : MState := { pebble := true }
      let o := b st 0 none
      changed st o.store [107] ∧ [107] ∉ o.store.signalled ∧ o.store.flushed = false :=
  ⟨_, rfl, by decide⟩

theorem signals_incrDecrBy_false :
    ¬ ∀ (neg : Bool) (args : List Bytes) (b : Body), Handler.incrDecrBy neg args = .exec b → SignalsChanges b := by
  intro hall
  obtain ⟨b, hb, hc, hs, hf⟩ := signals_incrDecrBy_finding
  rcases (hall true decrByMinArgs b hb { pebble := true } 0 none rfl rfl).2 [107] hc with h | h
  · exact hs h
  · rw [hf] at h; cases h

/-- non-vacuity of the `_partial` hypotheses: `DECRBY k 5` (closure exists, outside the region); the witness
    arguments are inside the region -/
example : (∃ b, Handler.incrDecrBy true [[107], [53]] = .exec b) ∧ decrByMin true [[107], [53]] = false :=
  ⟨⟨_, rfl⟩, by decide⟩
example : decrByMin true decrByMinArgs = true := by decide

/-- SET … GET: the read of the old value -/
def setGetStage (c : Prop) [Decidable c] (s : MState) (now : Int) (key : Bytes) : MState × Option Bytes × Bool :=
  if c then
    match Api.get s now key with
    | (s, .panic) => (s, none, true)
    | (s, .bytes b) => (Handler.commit s, b, false)
    | (s, _) => (s, none, false)
  else (s, none, false)

/-- SET: the write (plain / NX / XX) -/
def setWriteStage (nx xx : Prop) [Decidable nx] [Decidable xx] (keep : Bool) (s : MState) (now : Int)
    (key value : Bytes) : MState × Option Bool :=
  if nx then
    match Api.setNX s now key value keep with
    | (s, .bool b) => (s, some b) | (s, _) => (s, none)
  else if xx then
    match Api.setXX s now key value keep with
    | (s, .bool b) => (s, some b) | (s, _) => (s, none)
  else
    match Api.set s now key value keep with
    | (s, .panic) => (s, none) | (s, _) => (s, some true)

/-- SET: the deadline options and the reply -/
def setTailStage (args : List Bytes) (key : Bytes) (now : Int) (getR : Option Bytes) (s : MState) : BodyOut :=
  let s := Handler.commit s
  let argI (w : String) : Option Int := (argAt args (opt args w)).map fun a => (Handler.parseIntGo a).1
  if opt args "EX" > 1 then
    match argI "EX" with
    | none => { store := s, toks := [], panicked := true }
    | some secs => Handler.call (Api.expire s now key secs) fun s _ => Handler.done s [Handler.ok]
  else if opt args "PX" > 1 then
    match argI "PX" with
    | none => { store := s, toks := [], panicked := true }
    | some ms => Handler.call (Api.expirePX s now key ms) fun s o =>
        Handler.done s [if Handler.intOf o = 0 then .nullBulk else Handler.ok]
  else if opt args "EXAT" > 1 then
    match argI "EXAT" with
    | none => { store := s, toks := [], panicked := true }
    | some ts => Handler.call (Api.expireAt s now key (Handler.unixMilli ts)) fun s o =>
        Handler.done s [if Handler.intOf o = 0 then .nullBulk else Handler.ok]
  else if opt args "PXAT" > 1 then
    match argI "PXAT" with
    | none => { store := s, toks := [], panicked := true }
    | some ms => Handler.call (Api.expireAt s now key ms) fun s _ => Handler.done s [Handler.ok]
  else
    match getR with
    | some g => Handler.done s [.bulk g]
    | none => Handler.done s [Handler.ok]

/-- the closure of `Handler.setString`, stage by stage -/
def setBody (args : List Bytes) (key value : Bytes) (s : MState) (now : Int) : BodyOut :=
  let g := setGetStage (opt args "GET" > 1) s now key
  if g.2.2 then { store := g.1, toks := [], panicked := true } else
  match setWriteStage (opt args "NX" > 1) (opt args "XX" > 1) (opt args "KEEPTTL" > 1) g.1 now key value with
  | (s, none) => { store := s, toks := [], panicked := true }
  | (s, some false) => Handler.done s [.nullBulk]
  | (s, some true) => setTailStage args key now g.2.1 s

theorem setString_eq (key value : Bytes) (rest : List Bytes) :
    Handler.setString (key :: value :: rest) = .exec fun s now _ => setBody (key :: value :: rest) key value s now := by
  unfold Handler.setString
  rfl

theorem frame_setGetStage (c : Prop) [Decidable c] (s : MState) (now : Int) (key : Bytes) :
    Frame [] s (setGetStage c s now key).1 := by
  unfold setGetStage
  split
  · have hg := frame_get s now key
    generalize Api.get s now key = r at hg ⊢
    obtain ⟨s1, o⟩ := r
    split
    · next heq => cases heq; exact hg
    · next heq => cases heq; exact hg.commit
    · next heq => cases heq; exact hg
  · exact Frame.refl _ _

theorem frame_setWriteStage (nx xx : Prop) [Decidable nx] [Decidable xx] (keep : Bool) (s : MState)
    (hp : s.pebble = true) (now : Int) (key value : Bytes) :
    Frame [] s (setWriteStage nx xx keep s now key value).1 := by
  unfold setWriteStage
  split
  · have hg := frame_setNX s hp now key value keep
    generalize Api.setNX s now key value keep = r at hg ⊢
    obtain ⟨s1, o⟩ := r
    split <;> (next heq => cases heq; exact hg)
  · split
    · have hg := frame_setXX s hp now key value keep
      generalize Api.setXX s now key value keep = r at hg ⊢
      obtain ⟨s1, o⟩ := r
      split <;> (next heq => cases heq; exact hg)
    · have hg := frame_set s hp now key value keep
      generalize Api.set s now key value keep = r at hg ⊢
      obtain ⟨s1, o⟩ := r
      split <;> (next heq => cases heq; exact hg)

theorem frame_setTailStage (args : List Bytes) (key : Bytes) (now : Int) (getR : Option Bytes) (s : MState)
    (hp : s.pebble = true) : Frame [] s (setTailStage args key now getR s).store := by
  unfold setTailStage
  have hc : Frame [] s (Handler.commit s) := frame_commit s
  have hpc := hc.pebble hp
  generalize Handler.commit s = sc at hc hpc ⊢
  refine frame_ite_store ?_ (frame_ite_store ?_ (frame_ite_store ?_ (frame_ite_store ?_ ?_)))
  · split
    · exact hc
    · exact hc.trans0 (frame_call _ _ (fun _ _ => rfl) (frame_expire sc hpc now key _))
  · split
    · exact hc
    · exact hc.trans0 (frame_call _ _ (fun _ _ => rfl) (frame_expirePX sc hpc now key _))
  · split
    · exact hc
    · exact hc.trans0 (frame_call _ _ (fun _ _ => rfl) (frame_expireAt sc hpc now key _))
  · split
    · exact hc
    · exact hc.trans0 (frame_call _ _ (fun _ _ => rfl) (frame_expireAt sc hpc now key _))
  · split <;> exact hc

theorem frame_setBody (args : List Bytes) (key value : Bytes) (s : MState) (hp : s.pebble = true) (now : Int) :
    Frame [] s (setBody args key value s now).store := by
  unfold setBody
  have h1 := frame_setGetStage (opt args "GET" > 1) s now key
  generalize setGetStage (opt args "GET" > 1) s now key = g at h1 ⊢
  obtain ⟨s1, getR, gp⟩ := g
  dsimp only at h1 ⊢
  have hp1 := h1.pebble hp
  split
  · exact h1
  · have h2 := frame_setWriteStage (opt args "NX" > 1) (opt args "XX" > 1) (opt args "KEEPTTL" > 1) s1 hp1 now key value
    generalize setWriteStage (opt args "NX" > 1) (opt args "XX" > 1) (opt args "KEEPTTL" > 1) s1 now key value = w at h2 ⊢
    obtain ⟨s2, r⟩ := w
    dsimp only at h2
    split
    · next heq => cases heq; exact h1.trans0 h2
    · next heq => cases heq; exact h1.trans0 h2
    · next heq =>
      cases heq
      exact (h1.trans0 h2).trans0 (frame_setTailStage args key now getR _ ((h1.trans0 h2).pebble hp))

theorem signals_setString : ∀ args : List Bytes, ExecSignals (Handler.setString args)
  | key :: value :: rest => by
    rw [setString_eq]
    exact execSignals_exec (signals_of_frame fun st now _ hp => frame_setBody (key :: value :: rest) key value st hp now)
  | [] | [_] => execSignals_err

theorem frame_mSet_go (now : Int) : ∀ (ps : List (Bytes × Bytes)) (s : MState), s.pebble = true →
    Frame [] s (Handler.mSet.go now ps s).store
  | [], s, _ => by unfold Handler.mSet.go; exact Frame.refl _ _
  | (k, v) :: rest, s, hp => by
    unfold Handler.mSet.go
    have h1 := frame_set s hp now k v false
    generalize Api.set s now k v false = r at h1 ⊢
    obtain ⟨s1, o⟩ := r
    dsimp only at h1 ⊢
    split
    · next heq => cases heq; exact h1
    · next heq =>
      cases heq
      exact h1.trans0 ((frame_commit _).trans0 (frame_mSet_go now rest _ (h1.pebble hp)))

theorem signals_mSet (args : List Bytes) : ExecSignals (Handler.mSet args) := by
  unfold Handler.mSet
  exact execSignals_ite execSignals_err (execSignals_exec (signals_of_frame fun st now _ hp => frame_mSet_go now _ st hp))

theorem frame_mGet_go (args : List Bytes) (now : Int) : ∀ (ks : List Bytes) (s : MState) (acc : List Tok),
    Frame [] s (Handler.mGet.go args now ks s acc).store
  | [], s, acc => by unfold Handler.mGet.go; exact Frame.refl _ _
  | k :: rest, s, acc => by
    unfold Handler.mGet.go
    have h1 := frame_get s now k
    generalize Api.get s now k = r at h1 ⊢
    obtain ⟨s1, o⟩ := r
    dsimp only at h1 ⊢
    split
    · next heq => cases heq; exact h1
    · next heq => cases heq; exact h1.trans0 ((frame_commit _).trans0 (frame_mGet_go args now rest _ _))
    · next heq => cases heq; exact h1.trans0 ((frame_commit _).trans0 (frame_mGet_go args now rest _ _))

theorem signals_mGet (args : List Bytes) : ExecSignals (Handler.mGet args) := by
  unfold Handler.mGet
  exact execSignals_ite execSignals_err (execSignals_exec (signals_of_frame fun st now _ hp => frame_mGet_go _ now _ st _))

/-
  FULL STATEMENT (not proved): `signals_scan (args) (b) (h : Handler.scan args = .exec b) : SignalsChanges b`.
  Region left open: SCAN with a TYPE option (`opt args "TYPE" > 0`): the scan then loads cold records of
  unknown type, see the comment at `frame_scan` (C09Table1.lean).  Not known to be false.
-/
theorem signals_scan_partial (args : List Bytes) (hreg : ¬ (Resp.opt args "TYPE" > 0)) :
    ExecSignals (Handler.scan args) :=
  (HandlerShape.shape_scan args).signals fun _ h => by
    cases h with
    | scan cursor pat count t =>
      rw [if_neg hreg]
      exact execSignals_exec (signals_of_frame fun st now _ hp =>
        frame_call _ _ (fun _ o => by split <;> rfl) (frame_scan st now _ _ _))

/-- SCAN with a TYPE option: the region for which `SignalsChanges` is not proved -/
def scanTyped (name : String) (args : List Bytes) : Prop := name = "SCAN" ∧ Resp.opt args "TYPE" > 0

instance (name : String) (args : List Bytes) : Decidable (scanTyped name args) := by unfold scanTyped; exact inferInstance

/-- `Handler.table1` without the command for which `SignalsChanges` is false (DECRBY: `signals_incrDecrBy_finding`)
    and without the region for which it is not proved (SCAN … TYPE t) -/
def table1Safe : Table := fun name args =>
  if name ∈ ["DECRBY"] then none else if scanTyped name args then none else Handler.table1 name args

theorem table1_signals_partial (name : String) (args : List Bytes) (b : Body)
    (h : Handler.table1 name args = some (.exec b)) (hreg : name = "DECRBY" → decrByMin true args = false)
    (hsc : ¬ scanTyped name args) : SignalsChanges b :=
  HandlerShape.table1_elim
    (P := fun name args r => (name = "DECRBY" → decrByMin true args = false) → ¬ scanTyped name args → ExecSignals r)
    (fun s _ _ => s.signals fun _ h => h.elim)  -- `shape`; `NoSpecial` has no constructor.  Then the premises in order.
    (fun a _ _ => signals_ping a) (fun a _ _ => signals_echo a) (fun _ _ _ => signals_dbSize)
    (fun _ _ _ _ => signals_flushDB) (fun a _ _ => signals_keys a) (fun a _ _ => signals_typ a)
    (fun a _ hsc => signals_scan_partial a fun hp => hsc ⟨rfl, hp⟩)
    (fun a _ _ => signals_setString a) (fun a _ _ => signals_mSet a) (fun a _ _ => signals_mGet a)
    (fun a _ _ => signals_incrDecrBy_partial false a rfl) (fun a hreg _ => signals_incrDecrBy_partial true a (hreg rfl))
    name args _ h hreg hsc b rfl

theorem table1Safe_signals : TableSignals table1Safe := by
  intro name args b h
  unfold table1Safe at h
  split at h
  · cases h
  · next hn =>
    split at h
    · cases h
    · next hsc => exact table1_signals_partial name args b h (fun e => absurd (e ▸ List.mem_singleton_self _) hn) hsc

theorem table1_decrBy (args : List Bytes) : Handler.table1 "DECRBY" args = some (Handler.incrDecrBy true args) := rfl

theorem table1_signals_false : ¬ TableSignals Handler.table1 := by
  intro hall
  obtain ⟨b, hb, hc, hs, hf⟩ := signals_incrDecrBy_finding
  have h1 : Handler.table1 "DECRBY" decrByMinArgs = some (.exec b) := by
    rw [table1_decrBy, hb]
  rcases (hall "DECRBY" decrByMinArgs b h1 { pebble := true } 0 none rfl rfl).2 [107] hc with h | h
  · exact hs h
  · rw [hf] at h; cases h

end NodisVerif.Proofs.C08Step

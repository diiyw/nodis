import NodisVerif.Proofs.GateProgEff
/-
  The watch registry of the program model (`store.watchedKeys` against the connections' `WatchKeys`): a connection is in
  the watcher list of a key only if it has a flag for that key, and watcher lists are duplicate-free.  Hence `UnWatch`
  removes the connection from every list it is in, and no later signal of anybody re-creates a flag.
-/
namespace NodisVerif.GateProg
open NodisVerif.Gate (G T GMode Ev GState)

def regOf (reg : List (Key × List Tid)) (k : Key) : List Tid := (kassoc reg k).getD []
def hasKey (w : List (Key × Bool)) (k : Key) : Bool := (kassoc w k).isSome

theorem kassoc_kput_same {β} (l : List (Key × β)) (a : Key) (b : β) : kassoc (kput l a b) a = some b := by
  simp [kassoc, kput]

theorem kassoc_kput_other {β} (l : List (Key × β)) (a a' : Key) (b : β) (h : a' ≠ a) :
    kassoc (kput l a b) a' = kassoc l a' := by
  simp [kassoc, kput, find?_put, h]

theorem regOf_kput (reg : List (Key × List Tid)) (k0 k : Key) (v : List Tid) :
    regOf (kput reg k0 v) k = if k = k0 then v else regOf reg k := by
  unfold regOf
  by_cases h : k = k0
  · subst h; simp [kassoc_kput_same]
  · simp [h, kassoc_kput_other _ _ _ _ h]

theorem hasKey_kput (w : List (Key × Bool)) (k0 k : Key) (v : Bool) :
    hasKey (kput w k0 v) k = (decide (k = k0) || hasKey w k) := by
  unfold hasKey
  by_cases h : k = k0
  · subst h; simp [kassoc_kput_same]
  · simp [h, kassoc_kput_other _ _ _ _ h]

theorem hasKey_nil (k : Key) : hasKey [] k = false := rfl

theorem unwatch_iter (t : Tid) (reg : List (Key × List Tid)) (k0 k : Key) :
    regOf (unwatchIter t reg k0) k = if k = k0 then (regOf reg k0).erase t else regOf reg k := by
  unfold unwatchIter
  cases h : kassoc reg k0 with
  | none => by_cases hk : k = k0 <;> simp [regOf, h, hk]
  | some cl => rw [regOf_kput]; simp [regOf, h]

theorem unwatchLoop_spec (t : Tid) : ∀ (ks : List Key) (reg : List (Key × List Tid)),
    (∀ k, (regOf reg k).Nodup) →
    (∀ k, (regOf (unwatchLoop t reg ks) k).Nodup) ∧
    (∀ k t', t' ∈ regOf (unwatchLoop t reg ks) k → t' ∈ regOf reg k) ∧
    (∀ k, k ∈ ks → t ∉ regOf (unwatchLoop t reg ks) k)
  | [], reg, hn => ⟨hn, fun _ _ h => h, fun _ h => by cases h⟩
  | k0 :: ks, reg, hn => by
    simp only [unwatchLoop]
    have hit := unwatch_iter t reg k0
    generalize unwatchIter t reg k0 = reg1 at hit ⊢
    have hn1 : ∀ k, (regOf reg1 k).Nodup := by
      intro k; rw [hit]; split
      · exact (hn k0).erase t
      · exact hn k
    obtain ⟨h1, h2, h3⟩ := unwatchLoop_spec t ks reg1 hn1
    refine ⟨h1, fun k t' h => ?_, fun k hk => ?_⟩
    · have := h2 k t' h
      rw [hit] at this
      split at this
      · rename_i hk; rw [hk]; exact List.mem_of_mem_erase this
      · exact this
    · by_cases hk0 : k = k0
      · intro hm
        have := h2 k t hm
        rw [hit, if_pos hk0] at this
        exact ((hn k0).mem_erase_iff.1 this).1 rfl
      · rcases List.mem_cons.1 hk with h | h
        · exact absurd h hk0
        · exact h3 k h

theorem watch_iter (t : Tid) (reg : List (Key × List Tid)) (k0 k : Key) :
    regOf (watchIterReg t reg k0) k =
    if k = k0 then (if t ∈ regOf reg k0 then regOf reg k0 else t :: regOf reg k0) else regOf reg k := by
  unfold watchIterReg
  cases h : kassoc reg k0 with
  | none => rw [regOf_kput]; simp [regOf, h]
  | some cl =>
    by_cases hc : t ∈ cl
    · by_cases hk : k = k0 <;> simp [regOf, h, hc, hk]
    · simp only [List.contains_eq_mem, hc, decide_false, Bool.false_eq_true, if_false, regOf_kput]
      simp [regOf, h, hc]

theorem watchLoop_spec (t : Tid) : ∀ (ks : List Key) (reg : List (Key × List Tid)) (w : List (Key × Bool)),
    (∀ k, (regOf reg k).Nodup) →
    (∀ k, (regOf (watchLoop t reg w ks).1 k).Nodup) ∧
    (∀ k, hasKey w k = true → hasKey (watchLoop t reg w ks).2 k = true) ∧
    (∀ k t', t' ∈ regOf (watchLoop t reg w ks).1 k → t' ∈ regOf reg k ∨ (t' = t ∧ hasKey (watchLoop t reg w ks).2 k = true))
  | [], reg, w, hn => ⟨hn, fun _ h => h, fun _ _ h => Or.inl h⟩
  | k0 :: ks, reg, w, hn => by
    simp only [watchLoop]
    have hit := watch_iter t reg k0
    generalize watchIterReg t reg k0 = reg1 at hit ⊢
    have hw1 : ∀ k, hasKey w k = true → hasKey (watchIterW w k0) k = true := by
      intro k hk; unfold watchIterW; split
      · exact hk
      · rw [hasKey_kput, hk]; simp
    have hk0 : hasKey (watchIterW w k0) k0 = true := by
      unfold watchIterW; split
      · rename_i h; exact h
      · rw [hasKey_kput]; simp
    generalize watchIterW w k0 = w1 at hw1 hk0 ⊢
    have hn1 : ∀ k, (regOf reg1 k).Nodup := by
      intro k; rw [hit]; split
      · split
        · exact hn k0
        · rename_i hnm; exact List.nodup_cons.2 ⟨hnm, hn k0⟩
      · exact hn k
    obtain ⟨h1, h2, h3⟩ := watchLoop_spec t ks reg1 w1 hn1
    refine ⟨h1, fun k hk => h2 k (hw1 k hk), fun k t' h => ?_⟩
    rcases h3 k t' h with h | h
    · rw [hit] at h
      split at h
      · rename_i hk
        split at h
        · left; rw [hk]; exact h
        · rcases List.mem_cons.1 h with h | h
          · right; exact ⟨h, by rw [hk]; exact h2 k0 hk0⟩
          · left; rw [hk]; exact h
      · left; exact h
    · right; exact h

theorem markAll_hasKey (k : Key) : ∀ (cl : List Tid) (conns : List (Tid × ConnSt)) (t : Tid) (k' : Key),
    hasKey ((assoc conns t).getD {}).watch k' = true → hasKey ((assoc (markAll conns k cl) t).getD {}).watch k' = true
  | [], _, _, _, h => h
  | c :: cs, conns, t, k', h => by
    simp only [markAll]
    apply markAll_hasKey k cs
    by_cases hc : t = c
    · subst hc
      rw [assoc_put_same]
      simp only [Option.getD_some, hasKey_kput, h, Bool.or_true]
    · rw [assoc_put_other _ _ _ _ hc]; exact h

theorem markAll_other (k : Key) : ∀ (cl : List Tid) (conns : List (Tid × ConnSt)) (t : Tid), t ∉ cl →
    (assoc (markAll conns k cl) t) = assoc conns t
  | [], _, _, _ => rfl
  | c :: cs, conns, t, h => by
    simp only [markAll]
    rw [markAll_other k cs _ t (fun hm => h (List.mem_cons_of_mem _ hm))]
    exact assoc_put_other _ _ _ _ (fun e => h (by rw [e]; exact List.mem_cons_self))

structure WInv (s : Shared) : Prop where
  j1 : ∀ k t, t ∈ regOf s.registry k → hasKey (s.conn t).watch k = true
  j2 : ∀ k, (regOf s.registry k).Nodup

theorem winv_init : WInv {} where
  j1 := fun k t h => by cases h
  j2 := fun k => List.nodup_nil

@[simp] theorem setConn_registry (s : Shared) (t : Tid) (c : ConnSt) : (s.setConn t c).registry = s.registry := rfl

theorem tstep_watch_frame {s : Shared} {t : Tid} {l : Loc} {ch : Choice} {s' l' evs}
    (hpc : l.pc ≠ .w2 ∧ l.pc ≠ .u2 ∧ l.pc ≠ .g2) (hs : tstep s t l ch = some (s', l', evs)) :
    s'.registry = s.registry ∧ ∀ g, (s'.conn g).watch = (s.conn g).watch := by
  rcases tstep_frame hs with ⟨hr, h⟩ | ⟨h | h, -⟩ | ⟨h, -⟩
  · refine ⟨hr, fun g => ?_⟩
    unfold Shared.conn
    rcases h with h | ⟨c, h, hc⟩ <;> rw [h]
    by_cases hg : g = t
    · subst hg; rw [assoc_put_same]; exact hc
    · rw [assoc_put_other _ _ _ _ hg]
  · exact absurd h hpc.1
  · exact absurd h hpc.2.1
  · exact absurd h hpc.2.2

theorem winv_step {s : Shared} {t : Tid} {l : Loc} {ch : Choice} {s' l' evs}
    (hw : WInv s) (hs : tstep s t l ch = some (s', l', evs)) : WInv s' := by
  by_cases h1 : l.pc = .w2
  · -- Watch
    simp only [tstep, h1] at hs
    split at hs
    · rename_i ks hcmd
      injection hs with hs; injection hs with e1 e2; subst e1
      obtain ⟨n1, n2, n3⟩ := watchLoop_spec t ks s.registry (s.conn t).watch hw.j2
      refine ⟨fun k g h => ?_, fun k => n1 k⟩
      show hasKey ((({ s with registry := _ } : Shared).setConn t _).conn g).watch k = true
      have h' : g ∈ regOf (watchLoop t s.registry (s.conn t).watch ks).1 k := h
      by_cases hg : g = t
      · subst hg
        rw [conn_setConn_same]
        rcases n3 k g h' with h'' | h''
        · exact n2 k (hw.j1 k g h'')
        · exact h''.2
      · rw [conn_setConn_other _ _ _ _ hg]
        rcases n3 k g h' with h'' | h''
        · exact hw.j1 k g h''
        · exact absurd h''.1 hg
    · cases hs
  by_cases h2 : l.pc = .u2
  · -- UnWatch
    simp only [tstep, h2] at hs
    injection hs with hs; injection hs with e1 e2; subst e1
    obtain ⟨n1, n2, n3⟩ := unwatchLoop_spec t ((s.conn t).watch.map (·.1)) s.registry hw.j2
    refine ⟨fun k g h => ?_, fun k => n1 k⟩
    show hasKey ((({ s with registry := _ } : Shared).setConn t _).conn g).watch k = true
    have h' : g ∈ regOf (unwatchLoop t s.registry ((s.conn t).watch.map (·.1))) k := h
    by_cases hg : g = t
    · subst hg
      exfalso
      have hk := hw.j1 k g (n2 k g h')
      have hmem : k ∈ (s.conn g).watch.map (·.1) := by
        unfold hasKey kassoc at hk
        simp only [Option.isSome_map, List.find?_isSome, beq_iff_eq] at hk
        obtain ⟨x, hx, rfl⟩ := hk
        exact List.mem_map_of_mem hx
      exact n3 k hmem h'
    · rw [conn_setConn_other _ _ _ _ hg]
      exact hw.j1 k g (n2 k g h')
  by_cases h3 : l.pc = .g2
  · -- signalModifiedKey
    simp only [tstep, h3] at hs
    injection hs with hs; injection hs with e1 e2; subst e1
    exact ⟨fun k g h => markAll_hasKey l.key _ s.conns g k (hw.j1 k g h), hw.j2⟩
  obtain ⟨hr, hc⟩ := tstep_watch_frame ⟨h1, h2, h3⟩ hs
  exact ⟨fun k g h => by rw [hc]; rw [hr] at h; exact hw.j1 k g h, fun k => by rw [hr]; exact hw.j2 k⟩

end NodisVerif.GateProg

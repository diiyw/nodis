import NodisVerif.Proofs.FloatDecMono
import NodisVerif.Proofs.C04Bits
/-
  Corollaries of `roundRat_mono`: the decimal form used by `parseDec`, faithfulness (a rounding never passes a double), the
  statement in the order the sorted sets use (`F64.le`, which is `key ≤ key` on operands that are not NaN), and the negative half
  through the sign (the sign only sets the top bit: the order of the bit patterns is mirrored, `F64.key`).
  The names live in the namespace of FloatDecMono.lean.
-/
namespace NodisVerif.Proofs.FloatDecMono
open NodisVerif NodisVerif.F64 NodisVerif.FloatDec NodisVerif.Proofs.C09Float NodisVerif.Proofs.FloatDecRound

/-- one form for both signs of the exponent -/
theorem roundDec_eq (neg : Bool) (m : Nat) (e : Int) :
    roundDec neg m e = roundRat neg (m * 10 ^ e.toNat) (10 ^ (-e).toNat) := by
  unfold roundDec
  split
  · rw [show (-e).toNat = 0 by omega, Nat.pow_zero]
  · rw [show e.toNat = 0 by omega, Nat.pow_zero, Nat.mul_one]

theorem roundDec_mono (m1 m2 : Nat) (e1 e2 : Int)
    (h : m1 * 10 ^ e1.toNat * 10 ^ (-e2).toNat ≤ m2 * 10 ^ e2.toNat * 10 ^ (-e1).toNat) :
    (roundDec false m1 e1).toNat ≤ (roundDec false m2 e2).toNat := by
  rw [roundDec_eq, roundDec_eq]
  exact roundRat_mono _ _ _ _ (Nat.pow_pos (by decide)) (Nat.pow_pos (by decide)) h

/-- FAITHFUL: the rounding of a rational never passes a double — if num/den ≤ the exact value of a finite non-negative
    double y, the result is at most y; if it is ≥, the result is at least y -/
theorem roundRat_le_of_le (y : F64) (hs : sign y = false) (hfin : expBits y < 2047) (num den : Nat) (hden : 0 < den)
    (h : num * (if (decode y).2 ≥ 0 then 1 else 2 ^ (-(decode y).2).toNat) ≤
         (if (decode y).2 ≥ 0 then (decode y).1 * 2 ^ (decode y).2.toNat else (decode y).1) * den) :
    (roundRat false num den).toNat ≤ y.toNat := by
  have hy := FloatDecRound.roundRat_decode y hfin
  rw [hs] at hy
  exact hy ▸ roundRat_mono num den _ _ hden (exact_den_pos _) h

theorem roundRat_ge_of_ge (y : F64) (hs : sign y = false) (hfin : expBits y < 2047) (num den : Nat) (hden : 0 < den)
    (h : (if (decode y).2 ≥ 0 then (decode y).1 * 2 ^ (decode y).2.toNat else (decode y).1) * den ≤
         num * (if (decode y).2 ≥ 0 then 1 else 2 ^ (-(decode y).2).toNat)) :
    y.toNat ≤ (roundRat false num den).toNat := by
  have hy := FloatDecRound.roundRat_decode y hfin
  rw [hs] at hy
  exact hy ▸ roundRat_mono _ _ num den (exact_den_pos _) hden h

theorem roundRat_toNat_le (num den : Nat) (hden : 0 < den) : (roundRat false num den).toNat ≤ 2047 * 2 ^ 52 := by
  by_cases hn : num = 0
  · subst hn
    have : roundRat false 0 den = 0 := roundRat_zero false den
    rw [this]; decide
  · have hn' : 0 < num := by omega
    rw [roundRat_eq_scaled false num den hn']
    have := roundPack_toNat _ (scaled_pos _ _ 0 (quot_big num den hn' hden)) (-(kOf num den) - 1)
    omega

theorem nonneg_facts (a : F64) (h : a.toNat ≤ 2047 * 2 ^ 52) : isNaN a = false ∧ F64.key a = (a.toNat : Int) := by
  constructor
  · rw [isNaN_eq, expBits_eq, manBits_eq]
    by_cases he : a.toNat / 2 ^ 52 % 2 ^ 11 = 2047
    · have : a.toNat % 2 ^ 52 = 0 := by omega
      simp [this]
    · simp [he]
  · rw [F64.key_eq]
    have h1 : ¬ (a.toNat / 2 ^ 63 = 1) := by omega
    rw [if_neg h1]
    have : a.toNat % 2 ^ 63 = a.toNat := by omega
    rw [this]

theorem roundRat_le (num1 den1 num2 den2 : Nat) (hd1 : 0 < den1) (hd2 : 0 < den2) (h : num1 * den2 ≤ num2 * den1) :
    F64.le (roundRat false num1 den1) (roundRat false num2 den2) = true := by
  obtain ⟨n1, k1⟩ := nonneg_facts _ (roundRat_toNat_le num1 den1 hd1)
  obtain ⟨n2, k2⟩ := nonneg_facts _ (roundRat_toNat_le num2 den2 hd2)
  have hm := roundRat_mono num1 den1 num2 den2 hd1 hd2 h
  unfold F64.le
  rw [n1, n2, k1, k2]
  simp only [Bool.not_false, Bool.true_and, decide_eq_true_eq]
  exact Int.ofNat_le.2 hm

theorem roundPack_neg (n : Nat) (e : Int) : roundPack true n e = roundPack false n e ||| 0x8000000000000000 := by
  rw [roundPack_eq, roundPack_eq]
  split
  · decide
  · unfold rpFinish
    split
    · dsimp only
      split
      · decide
      · simp
    · simp

theorem roundRat_neg (num den : Nat) : roundRat true num den = roundRat false num den ||| 0x8000000000000000 := by
  unfold roundRat
  split
  · decide
  · exact roundPack_neg _ _

theorem roundDec_neg (m : Nat) (ex : Int) : roundDec true m ex = roundDec false m ex ||| 0x8000000000000000 := by
  rw [roundDec_eq, roundDec_eq]
  exact roundRat_neg _ _

theorem key_neg_of (a : F64) (h : a.toNat ≤ 2047 * 2 ^ 52) : F64.key (a ||| 0x8000000000000000) = -(a.toNat : Int) := by
  rw [F64.key_eq, or_sign_toNat a (by omega), if_pos (by omega), show (2 ^ 63 + a.toNat) % 2 ^ 63 = a.toNat by omega]

theorem roundRat_neg_le (num1 den1 num2 den2 : Nat) (hd1 : 0 < den1) (hd2 : 0 < den2) (h : num1 * den2 ≤ num2 * den1) :
    F64.key (roundRat true num2 den2) ≤ F64.key (roundRat true num1 den1) := by
  rw [roundRat_neg, roundRat_neg, key_neg_of _ (roundRat_toNat_le num1 den1 hd1), key_neg_of _ (roundRat_toNat_le num2 den2 hd2)]
  have := roundRat_mono num1 den1 num2 den2 hd1 hd2 h
  omega

theorem roundRat_neg_le_pos (num1 den1 num2 den2 : Nat) (hd1 : 0 < den1) (hd2 : 0 < den2) :
    F64.key (roundRat true num1 den1) ≤ F64.key (roundRat false num2 den2) := by
  rw [roundRat_neg, key_neg_of _ (roundRat_toNat_le num1 den1 hd1), (nonneg_facts _ (roundRat_toNat_le num2 den2 hd2)).2]
  omega

end NodisVerif.Proofs.FloatDecMono

import NodisVerif.Proofs.C08Ops

/-
  The registration relation (`registered sv i x`: connection i is in the registry list of key x),
  how WATCH / unwatchAll / signalling change it, and the reachable-state invariant `RegWF`
  (registry sorted; a registered connection has the key in its own watch map).  Then EXEC / DISCARD / MULTI /
  execCommand / afterHandler: each as an equation that says exactly what it does.  The parts these equations name, in
  which Props/C08 and Props/C09 are written: `watchOne` / `watchLoop` (WATCH's loop over its keys, `watch_eq`);
  `execLoop` (EXEC's loop over the queue), `execOuts` / `execStore` (its outputs and final store), `execRuns`,
  `execHits`, `resetConn` (`exec_eq`, `exec_of_runs`, `exec_of_not_runs`).
-/
namespace NodisVerif.Proofs.C08Step
open Resp Server
open NodisVerif.Proofs.AListLemmas2

/-- connection `i` is in the registry's list for key `x` (it will be told when `x` is signalled) -/
def registered (sv : Server) (i : String) (x : Bytes) : Prop :=
  ∃ ids, AList.get? sv.registry x = some ids ∧ i ∈ ids

theorem registered_congr {sv sv' : Server} (h : sv'.registry = sv.registry) (i : String) (x : Bytes) :
    registered sv' i x ↔ registered sv i x := by simp [registered, h]

def watchOne (id : String) (sv : Server) (key : Bytes) : Server :=
  let c := sv.conn id
  let c := if AList.contains c.watch key then c else { c with watch := AList.set c.watch key false }
  let sv := sv.setConn id c
  match AList.get? sv.registry key with
  | none => { sv with registry := AList.set sv.registry key [id] }
  | some ids => if ids.contains id then sv else { sv with registry := AList.set sv.registry key (id :: ids) }

def watchLoop (id : String) (keys : List Bytes) (sv : Server) : Server := keys.foldl (watchOne id) sv

theorem watch_eq (sv : Server) (id : String) (keys : List Bytes) :
    watch sv id keys =
      if (sv.conn id).state % 2 = 1 then (sv, [Tok.err 0]) else
      if keys.isEmpty then (sv, [Tok.err 0]) else (watchLoop id keys sv, [okTok]) := rfl

theorem watchOne_store (id : String) (sv : Server) (key : Bytes) : (watchOne id sv key).store = sv.store := by
  unfold watchOne; simp only; split
  · rfl
  · split <;> rfl

theorem watchOne_conn (id : String) (sv : Server) (key : Bytes) (i : String) :
    (watchOne id sv key).conn i =
      if i = id then
        (if AList.contains (sv.conn id).watch key then sv.conn id
         else { (sv.conn id) with watch := AList.set (sv.conn id).watch key false })
      else sv.conn i := by
  have : ∀ (s : Server) (r : AList (List String)), ({ s with registry := r } : Server).conn i = s.conn i := fun _ _ => rfl
  unfold watchOne; simp only; split
  · rw [this, conn_setConn]
  · split
    · rw [conn_setConn]
    · rw [this, conn_setConn]

theorem watchOne_registered (id : String) (sv : Server) (key : Bytes) (i : String) (x : Bytes) :
    registered (watchOne id sv key) i x ↔ registered sv i x ∨ (i = id ∧ x = key) := by
  unfold watchOne registered; simp only [registry_setConn]
  cases hk : AList.get? sv.registry key with
  | none =>
    simp only [get?_set]
    by_cases hx : x = key
    · subst hx; simp [hk]
    · simp [hx]
  | some ids =>
    simp only
    by_cases hc : ids.contains id = true
    · simp only [hc, if_true, registry_setConn]
      constructor
      · intro h; exact Or.inl h
      · rintro (h | ⟨rfl, rfl⟩)
        · exact h
        · exact ⟨ids, hk, by simpa using hc⟩
    · simp only [hc, Bool.false_eq_true, if_false, get?_set]
      by_cases hx : x = key
      · subst hx; simp only [if_true, hk, Option.some.injEq, and_true]
        constructor
        · rintro ⟨ids', rfl, h⟩
          rcases List.mem_cons.mp h with h | h
          · exact Or.inr h
          · exact Or.inl ⟨ids, rfl, h⟩
        · rintro (⟨ids', rfl, h⟩ | h)
          · exact ⟨_, rfl, List.mem_cons_of_mem _ h⟩
          · exact ⟨_, rfl, by simp [h]⟩
      · simp [hx]

theorem watchOne_sorted (id : String) (sv : Server) (key : Bytes) (h : AList.Sorted sv.registry) :
    AList.Sorted (watchOne id sv key).registry := by
  unfold watchOne; simp only [registry_setConn]; split
  · exact set_preserves_sorted _ h _ _
  · split
    · exact h
    · exact set_preserves_sorted _ h _ _

theorem watchLoop_store (id : String) : ∀ (keys : List Bytes) (sv : Server), (watchLoop id keys sv).store = sv.store := by
  intro keys; induction keys with
  | nil => intro sv; rfl
  | cons k rest ih => intro sv; show (watchLoop id rest (watchOne id sv k)).store = _; rw [ih, watchOne_store]

theorem watchLoop_sorted (id : String) : ∀ (keys : List Bytes) (sv : Server), AList.Sorted sv.registry →
    AList.Sorted (watchLoop id keys sv).registry := by
  intro keys; induction keys with
  | nil => intro sv h; exact h
  | cons k rest ih => intro sv h; exact ih _ (watchOne_sorted id sv k h)

theorem watchLoop_conn_other (id : String) (i : String) (hi : i ≠ id) : ∀ (keys : List Bytes) (sv : Server),
    (watchLoop id keys sv).conn i = sv.conn i := by
  intro keys; induction keys with
  | nil => intro sv; rfl
  | cons k rest ih =>
    intro sv; show (watchLoop id rest (watchOne id sv k)).conn i = _
    rw [ih, watchOne_conn, if_neg hi]

theorem watchLoop_state_queue (id : String) : ∀ (keys : List Bytes) (sv : Server),
    ((watchLoop id keys sv).conn id).state = (sv.conn id).state ∧
    ((watchLoop id keys sv).conn id).queue = (sv.conn id).queue := by
  intro keys; induction keys with
  | nil => intro sv; exact ⟨rfl, rfl⟩
  | cons k rest ih =>
    intro sv; show ((watchLoop id rest (watchOne id sv k)).conn id).state = _ ∧ ((watchLoop id rest (watchOne id sv k)).conn id).queue = _
    rw [(ih _).1, (ih _).2, watchOne_conn, if_pos rfl]
    split <;> exact ⟨rfl, rfl⟩

/-- a flag that is already true is NOT cleared by watching again -/
theorem watchLoop_watch (id : String) : ∀ (keys : List Bytes) (sv : Server) (x : Bytes),
    AList.get? ((watchLoop id keys sv).conn id).watch x =
      if x ∈ keys ∧ AList.get? (sv.conn id).watch x = none then some false else AList.get? (sv.conn id).watch x := by
  intro keys; induction keys with
  | nil => intro sv x; simp [watchLoop]
  | cons k rest ih =>
    intro sv x
    show AList.get? ((watchLoop id rest (watchOne id sv k)).conn id).watch x = _
    rw [ih, watchOne_conn, if_pos rfl]
    by_cases hc : AList.contains (sv.conn id).watch k = true
    · rw [if_pos hc]
      by_cases hx : x = k
      · subst hx
        obtain ⟨v, hv⟩ := (contains_eq_true_iff _ _).mp hc
        simp [hv]
      · simp [hx]
    · rw [if_neg hc]
      have hn : AList.get? (sv.conn id).watch k = none := (contains_eq_false_iff _ _).mp (by simpa using hc)
      by_cases hx : x = k
      · subst hx; simp [hn, get?_set_same]
      · simp [hx, get?_set_other _ _ _ _ hx]

theorem watchLoop_registered (id : String) (i : String) (x : Bytes) : ∀ (keys : List Bytes) (sv : Server),
    registered (watchLoop id keys sv) i x ↔ registered sv i x ∨ (i = id ∧ x ∈ keys) := by
  intro keys; induction keys with
  | nil => intro sv; simp [watchLoop]
  | cons k rest ih =>
    intro sv
    show registered (watchLoop id rest (watchOne id sv k)) i x ↔ _
    rw [ih, watchOne_registered]
    simp only [List.mem_cons]
    constructor
    · rintro ((h | ⟨a, b⟩) | ⟨a, b⟩)
      · exact Or.inl h
      · exact Or.inr ⟨a, Or.inl b⟩
      · exact Or.inr ⟨a, Or.inr b⟩
    · rintro (h | ⟨a, b | b⟩)
      · exact Or.inl (Or.inl h)
      · exact Or.inl (Or.inr ⟨a, b⟩)
      · exact Or.inr ⟨a, b⟩

theorem unwatchAll_registered (sv : Server) (id : String) (i : String) (x : Bytes) :
    registered (unwatchAll sv id) i x ↔
      registered sv i x ∧ ¬ (i = id ∧ AList.contains (sv.conn id).watch x = true) := by
  unfold registered
  rw [unwatchAll_registry]
  have hm : x ∈ (sv.conn id).watch.map (·.1) ↔ AList.contains (sv.conn id).watch x = true :=
    mem_keys_iff_contains _ _
  cases hk : AList.get? sv.registry x with
  | none => simp
  | some ids =>
    simp only [Option.map_some, Option.some.injEq, exists_eq_left', hm]
    by_cases hc : AList.contains (sv.conn id).watch x = true
    · simp only [hc, if_true, and_true, List.mem_filter, decide_eq_true_eq]
    · simp [hc]

/-- registry sorted by key (it is a `btree.Map`), and whoever is registered for a key has that key
    in its own `WatchKeys` -/
structure RegWF (sv : Server) : Prop where
  sorted : AList.Sorted sv.registry
  has : ∀ i x, registered sv i x → AList.contains (sv.conn i).watch x = true

theorem RegWF.not_registered_of_watch_nil {sv : Server} (h : RegWF sv) {i : String} (hw : (sv.conn i).watch = [])
    (x : Bytes) : ¬ registered sv i x := fun hr => by
  have := h.has i x hr
  rw [hw] at this
  cases this

theorem RegWF.init (st : MState) : RegWF { store := st } := by
  refine ⟨trivial, ?_⟩
  rintro i x ⟨ids, h, _⟩
  simp [AList.get?] at h

/-- membership form (what the `Clear()` loop sees) -/
theorem RegWF.of_mem {sv : Server} (h : RegWF sv) (x : Bytes) (ids : List String) (i : String)
    (hm : (x, ids) ∈ sv.registry) (hi : i ∈ ids) : registered sv i x :=
  ⟨ids, get?_of_mem _ h.sorted _ _ hm, hi⟩

theorem RegWF.flaggedC {S : String → Bytes → Prop} {sv sv' : Server} (h : RegWF sv) (f : FlaggedC S sv sv') : RegWF sv' := by
  refine ⟨by rw [f.registry]; exact h.sorted, ?_⟩
  intro i x hr
  exact f.contains_mono i x (h.has i x ((registered_congr f.registry i x).mp hr))

theorem RegWF.setConn_keep {sv : Server} (h : RegWF sv) (id : String) (c : ConnState)
    (hw : c.watch = (sv.conn id).watch) : RegWF (sv.setConn id c) := by
  refine ⟨h.sorted, ?_⟩
  intro i x hr
  rw [conn_setConn]
  split
  · next e => subst e; rw [hw]; exact h.has i x hr
  · exact h.has i x hr

theorem RegWF.unwatchAll {sv : Server} (h : RegWF sv) (id : String) : RegWF (unwatchAll sv id) := by
  refine ⟨unwatchAll_sorted sv id h.sorted, ?_⟩
  intro i x hr
  obtain ⟨h1, h2⟩ := (unwatchAll_registered sv id i x).mp hr
  by_cases hi : i = id
  · subst hi
    exact absurd ⟨rfl, h.has i x h1⟩ h2
  · rw [unwatchAll_conn_other _ _ _ hi]; exact h.has i x h1

theorem unwatchAll_unregistered {sv : Server} (h : RegWF sv) (id : String) (x : Bytes) :
    ¬ registered (unwatchAll sv id) id x := by
  intro hr
  obtain ⟨h1, h2⟩ := (unwatchAll_registered sv id id x).mp hr
  exact h2 ⟨rfl, h.has id x h1⟩

theorem RegWF.watchLoop {sv : Server} (h : RegWF sv) (id : String) (keys : List Bytes) : RegWF (watchLoop id keys sv) := by
  refine ⟨watchLoop_sorted id keys sv h.sorted, ?_⟩
  intro i x hr
  rcases (watchLoop_registered id i x keys sv).mp hr with h1 | ⟨rfl, h1⟩
  · by_cases hi : i = id
    · subst hi
      have := h.has i x h1
      obtain ⟨v, hv⟩ := (contains_eq_true_iff _ _).mp this
      rw [contains_eq_true_iff, watchLoop_watch]
      simp [hv]
    · rw [watchLoop_conn_other id i hi]; exact h.has i x h1
  · rw [contains_eq_true_iff, watchLoop_watch]
    cases hv : AList.get? (sv.conn i).watch x with
    | none => simp [h1]
    | some v => simp

/-- outputs of the queued closures in order, each run on the store the previous one left
    (EXEC passes no relational choice) -/
def execOuts (st : MState) (now : Int) : List Body → List BodyOut
  | [] => []
  | b :: bs => outOf st now none b :: execOuts (storeAfter (outOf st now none b)) now bs

def execStore (st : MState) (now : Int) (bs : List Body) : MState :=
  bs.foldl (fun st b => storeAfter (outOf st now none b)) st

theorem execOuts_length (now : Int) : ∀ (bs : List Body) (st : MState), (execOuts st now bs).length = bs.length := by
  intro bs; induction bs with
  | nil => intro _; rfl
  | cons b rest ih => intro st; simp [execOuts, ih]

theorem execOuts_forall {P : BodyOut → Prop} (now : Int) : ∀ (bs : List Body) (st : MState),
    (∀ b ∈ bs, ∀ st now ch, P (b st now ch)) → ∀ o ∈ execOuts st now bs, P o
  | [], _, _, _, ho => nomatch ho
  | b :: rest, st, hb, o, ho => by
    rcases List.mem_cons.mp ho with rfl | ho
    · exact hb b List.mem_cons_self _ _ _
    · exact execOuts_forall now rest _ (fun b' hb' => hb b' (List.mem_cons_of_mem _ hb')) o ho

theorem execOuts_append (now : Int) : ∀ (bs cs : List Body) (st : MState),
    execOuts st now (bs ++ cs) = execOuts st now bs ++ execOuts (execStore st now bs) now cs := by
  intro bs; induction bs with
  | nil => intro cs st; rfl
  | cons b rest ih => intro cs st; simp [execOuts, execStore, ih]

def execLoop (now : Int) (bs : List Body) (acc : Server × List Tok) : Server × List Tok :=
  bs.foldl (fun (acc : Server × List Tok) b =>
      let (sv, ts) := runBody acc.1 now none b
      (sv, acc.2 ++ ts)) acc

/-- `reset` of EXEC = the body of DISCARD -/
def resetConn (sv : Server) (id : String) : Server :=
  let sv := unwatchAll sv id
  sv.setConn id { (sv.conn id) with state := 0, queue := [] }

theorem exec_eq (sv : Server) (id : String) (now : Int) :
    exec sv id now =
      (let c := sv.conn id
       if c.state % 2 ≠ 1 then (resetConn sv id, [Tok.err 0]) else
       if (c.state / 4) % 2 = 1 then (resetConn sv id, [Tok.err 2]) else
       if c.watch.any (·.2) then (resetConn sv id, [Tok.nullBulk]) else
       if c.queue.isEmpty then (resetConn sv id, [Tok.arr 0]) else
       let r := execLoop now c.queue
         (sv.setConn id { c with state := c.state + multiCommit - (if (c.state / 2) % 2 = 1 then multiCommit else 0) },
          [Tok.arr c.queue.length])
       (resetConn r.1 id, r.2)) := rfl

/-- EXEC runs the queue: prepared, no queue-time error, queue not empty, no watch flag set -/
def execRuns (cs : ConnState) : Prop :=
  cs.state % 2 = 1 ∧ (cs.state / 4) % 2 ≠ 1 ∧ cs.queue ≠ [] ∧ cs.watch.any (·.2) = false

instance (cs : ConnState) : Decidable (execRuns cs) := by unfold execRuns; exact inferInstance

theorem exec_of_not_runs (sv : Server) (id : String) (now : Int) (h : ¬ execRuns (sv.conn id)) :
    ∃ ts, exec sv id now = (resetConn sv id, ts) := by
  rw [exec_eq]; simp only
  by_cases h1 : (sv.conn id).state % 2 ≠ 1
  · exact ⟨_, if_pos h1⟩
  rw [if_neg h1]
  by_cases h2 : ((sv.conn id).state / 4) % 2 = 1
  · exact ⟨_, if_pos h2⟩
  rw [if_neg h2]
  by_cases h3 : (sv.conn id).watch.any (·.2) = true
  · exact ⟨_, if_pos h3⟩
  rw [if_neg h3]
  by_cases h4 : (sv.conn id).queue.isEmpty = true
  · exact ⟨_, if_pos h4⟩
  exact absurd ⟨by omega, h2, by simpa using h4, by simpa using h3⟩ h

theorem exec_of_runs (sv : Server) (id : String) (now : Int) (h : execRuns (sv.conn id)) :
    ∃ c' : ConnState, c'.watch = (sv.conn id).watch ∧
      exec sv id now =
        (resetConn (execLoop now (sv.conn id).queue (sv.setConn id c', [Tok.arr (sv.conn id).queue.length])).1 id,
         (execLoop now (sv.conn id).queue (sv.setConn id c', [Tok.arr (sv.conn id).queue.length])).2) := by
  refine ⟨{ (sv.conn id) with state := (sv.conn id).state + multiCommit -
    (if ((sv.conn id).state / 2) % 2 = 1 then multiCommit else 0) }, rfl, ?_⟩
  rw [exec_eq]; simp only
  rw [if_neg (by simpa using h.1), if_neg h.2.1, if_neg (by simp [h.2.2.2]), if_neg (by simpa using h.2.2.1)]

theorem discard_eq (sv : Server) (id : String) : discard sv id = (resetConn sv id, [okTok]) := rfl

/-- pairs flagged by some closure of the queue -/
def execHits (reg : AList (List String)) (st : MState) (now : Int) (bs : List Body) (i : String) (x : Bytes) : Prop :=
  ∃ o ∈ execOuts st now bs, hits reg o.store i x

theorem execLoop_spec (now : Int) : ∀ (bs : List Body) (sv : Server) (ts : List Tok),
    (execLoop now bs (sv, ts)).2 = ts ++ (execOuts sv.store now bs).flatMap replyOf ∧
    (execLoop now bs (sv, ts)).1.store = execStore sv.store now bs ∧
    FlaggedC (execHits sv.registry sv.store now bs) sv (execLoop now bs (sv, ts)).1 := by
  intro bs
  induction bs with
  | nil =>
    intro sv ts
    refine ⟨by simp [execLoop, execOuts], rfl, ?_⟩
    exact (FlaggedC.refl sv).congr (by simp [execHits, execOuts])
  | cons b rest ih =>
    intro sv ts
    have e : execLoop now (b :: rest) (sv, ts) =
        execLoop now rest ((runBody sv now none b).1, ts ++ (runBody sv now none b).2) := rfl
    rw [e]
    obtain ⟨h1, h2, h3⟩ := ih (runBody sv now none b).1 (ts ++ (runBody sv now none b).2)
    have hf := runBody_flagged sv now none b
    rw [runBody_store] at h1 h2 h3
    rw [hf.registry] at h3
    refine ⟨?_, ?_, ?_⟩
    · rw [h1, runBody_toks]; simp [execOuts]
    · rw [h2]; rfl
    · refine (hf.trans h3).congr ?_
      intro i x
      simp [execHits, execOuts]

@[simp] theorem resetConn_store (sv : Server) (id : String) : (resetConn sv id).store = sv.store := by
  simp [resetConn]

theorem resetConn_conn_same (sv : Server) (id : String) : (resetConn sv id).conn id = {} := by
  simp [resetConn, unwatchAll_conn_same]

theorem resetConn_conn_other (sv : Server) (id i : String) (h : i ≠ id) : (resetConn sv id).conn i = sv.conn i := by
  simp only [resetConn]; rw [conn_setConn_other _ _ _ _ h, unwatchAll_conn_other _ _ _ h]

theorem resetConn_registered (sv : Server) (id : String) (i : String) (x : Bytes) :
    registered (resetConn sv id) i x ↔
      registered sv i x ∧ ¬ (i = id ∧ AList.contains (sv.conn id).watch x = true) := by
  rw [← unwatchAll_registered]; exact registered_congr rfl i x

theorem RegWF.resetConn {sv : Server} (h : RegWF sv) (id : String) : RegWF (resetConn sv id) :=
  (h.unwatchAll id).setConn_keep id _ rfl

theorem resetConn_unregistered {sv : Server} (h : RegWF sv) (id : String) (x : Bytes) :
    ¬ registered (resetConn sv id) id x := fun hr =>
  unwatchAll_unregistered h id x ((registered_congr rfl id x).mp hr)

theorem afterHandler_eq (sv : Server) (id : String) (toks : List Tok) :
    afterHandler sv id toks =
      if toks.any isErr ∧ (sv.conn id).state ≠ 0 then
        sv.setConn id { (sv.conn id) with
          state := if ((sv.conn id).state / 4) % 2 = 1 then (sv.conn id).state else (sv.conn id).state + multiError }
      else sv := rfl

@[simp] theorem afterHandler_store (sv : Server) (id : String) (toks : List Tok) : (afterHandler sv id toks).store = sv.store := by
  rw [afterHandler_eq]; split <;> rfl
@[simp] theorem afterHandler_registry (sv : Server) (id : String) (toks : List Tok) :
    (afterHandler sv id toks).registry = sv.registry := by
  rw [afterHandler_eq]; split <;> rfl
theorem afterHandler_conn_other (sv : Server) (id i : String) (toks : List Tok) (h : i ≠ id) :
    (afterHandler sv id toks).conn i = sv.conn i := by
  rw [afterHandler_eq]; split
  · rw [conn_setConn_other _ _ _ _ h]
  · rfl
theorem afterHandler_queue (sv : Server) (id i : String) (toks : List Tok) :
    ((afterHandler sv id toks).conn i).queue = (sv.conn i).queue := by
  rw [afterHandler_eq]; split
  · rw [conn_setConn]; split
    · next h => subst h; rfl
    · rfl
  · rfl
theorem afterHandler_watch (sv : Server) (id i : String) (toks : List Tok) :
    ((afterHandler sv id toks).conn i).watch = (sv.conn i).watch := by
  rw [afterHandler_eq]; split
  · rw [conn_setConn]; split
    · next h => subst h; rfl
    · rfl
  · rfl
theorem afterHandler_noerr (sv : Server) (id : String) (toks : List Tok)
    (h : toks.any isErr = false ∨ (sv.conn id).state = 0) : afterHandler sv id toks = sv := by
  rw [afterHandler_eq, if_neg]
  rintro ⟨a, b⟩
  rcases h with h | h
  · rw [h] at a; cases a
  · exact b h
theorem afterHandler_state (sv : Server) (id : String) (toks : List Tok) :
    ((afterHandler sv id toks).conn id).state =
      if toks.any isErr ∧ (sv.conn id).state ≠ 0 ∧ ((sv.conn id).state / 4) % 2 ≠ 1
      then (sv.conn id).state + multiError else (sv.conn id).state := by
  rw [afterHandler_eq]
  by_cases h1 : toks.any isErr = true ∧ (sv.conn id).state ≠ 0
  · rw [if_pos h1, conn_setConn_same]
    by_cases h2 : ((sv.conn id).state / 4) % 2 = 1
    · simp [h2]
    · simp [h1.1, h1.2, h2]
  · rw [if_neg h1, if_neg]
    rintro ⟨a, b, _⟩; exact h1 ⟨a, b⟩

theorem RegWF.afterHandler {sv : Server} (h : RegWF sv) (id : String) (toks : List Tok) : RegWF (afterHandler sv id toks) := by
  rw [afterHandler_eq]; split
  · exact h.setConn_keep id _ rfl
  · exact h

theorem multi_eq (sv : Server) (id : String) :
    multi sv id = if (sv.conn id).state % 2 = 1 then (sv, [Tok.err 0])
      else (sv.setConn id { (sv.conn id) with state := (sv.conn id).state + 1 }, [okTok]) := rfl

theorem execCommand_eq (sv : Server) (id : String) (now : Int) (ch : Choice) (b : Body) :
    execCommand sv id now ch b =
      if runsNow (sv.conn id).state then runBody sv now ch b
      else (sv.setConn id (if (sv.conn id).state % 2 = 1 then { (sv.conn id) with queue := (sv.conn id).queue ++ [b] } else sv.conn id),
            [queuedTok]) := rfl

end NodisVerif.Proofs.C08Step

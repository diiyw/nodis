import NodisVerif.Proofs.C12Sched
import NodisVerif.Proofs.C20Ops
/-
  C20, lists: LPush/RPush, LPop/RPop, LInsert, LPushX/RPushX, LRem, LSet, LTrim.  Every record is
  the command itself with its arguments; the replica, showing the same list, runs the same
  transaction (`SelfRec`).
-/
namespace NodisVerif.Proofs.C20
open NodisVerif NodisVerif.Store NodisVerif.Spec.Persist NodisVerif.Proofs.C11

variable {now : Int} {p r : MState}

theorem insertAt_mem (pivot data : Bytes) (before : Bool) : ∀ (xs ys : List Bytes),
    DsList.insertAt xs pivot data before = some ys → ∀ y ∈ ys, y = data ∨ y ∈ xs := by
  intro xs
  induction xs with
  | nil => intro ys h; cases h
  | cons x rest ih =>
    intro ys h y hy
    unfold DsList.insertAt at h
    split at h
    · simp only [Option.some.injEq] at h; subst h
      cases before
      · simp only [Bool.false_eq_true, if_false, List.mem_cons] at hy ⊢
        rcases hy with h1 | h1 | h1
        · right; left; exact h1
        · left; exact h1
        · right; right; exact h1
      · simp only [if_true, List.mem_cons] at hy ⊢
        exact hy
    · simp only [Option.map_eq_some_iff] at h
      obtain ⟨zs, hz, rfl⟩ := h
      simp only [List.mem_cons] at hy ⊢
      rcases hy with rfl | hy
      · right; left; rfl
      · rcases ih zs hz y hy with h1 | h1
        · left; exact h1
        · right; right; exact h1

theorem removeFirst_mem (v : Bytes) : ∀ (k : Nat) (xs : List Bytes), ∀ y ∈ (DsList.removeFirst xs v k).1, y ∈ xs := by
  intro k xs
  induction xs generalizing k with
  | nil => intro y hy; cases k <;> simp [DsList.removeFirst] at hy
  | cons x rest ih =>
    intro y hy
    cases k with
    | zero => simpa [DsList.removeFirst] using hy
    | succ k =>
      simp only [DsList.removeFirst] at hy
      split at hy
      · exact List.mem_cons_of_mem _ (ih k y hy)
      · simp only [List.mem_cons] at hy ⊢
        rcases hy with rfl | hy
        · left; rfl
        · right; exact ih (k + 1) y hy

theorem lrem_mem (l : LList) (count : Int) (v : Bytes) : ∀ y ∈ (DsList.lrem l count v).1.items, y ∈ l.items := by
  intro y hy
  unfold DsList.lrem at hy
  split at hy
  · exact removeFirst_mem v _ _ y hy
  · split at hy
    · simp only [List.mem_reverse] at hy
      exact List.mem_reverse.mp (removeFirst_mem v _ _ y hy)
    · exact (List.mem_filter.mp hy).1

theorem ltrim_mem (l : LList) (start stop : Int) : ∀ y ∈ (DsList.ltrim l start stop).items, y ∈ l.items := by
  intro y hy
  unfold DsList.ltrim at hy
  simp only [List.mem_map] at hy
  obtain ⟨⟨a, i⟩, h1, rfl⟩ := hy
  have := (List.mem_filter.mp h1).1
  obtain ⟨_, h3, h4⟩ := List.mem_zipIdx this
  simp only at h4 ⊢
  rw [h4]; exact List.getElem_mem _

theorem good_linsert (l : LList) (pivot data : Bytes) (before : Bool) (hg : Good (.list l))
    (hb : data.length < 2 ^ 63) : Good (.list (DsList.linsert l pivot data before).1) := by
  obtain ⟨hw, hbd⟩ := hg
  refine ⟨C02.linsert_wf l hw pivot data before, ?_⟩
  unfold DsList.linsert
  split
  · exact hbd
  · rename_i xs hx
    intro y hy
    rcases insertAt_mem pivot data before _ _ hx y hy with rfl | h1
    · exact hb
    · exact hbd y h1

theorem good_lrem (l : LList) (count : Int) (v : Bytes) (hg : Good (.list l)) :
    Good (.list (DsList.lrem l count v).1) :=
  ⟨C02.lrem_wf l hg.1 count v, fun y hy => hg.2 y (lrem_mem l count v y hy)⟩

theorem good_ltrim (l : LList) (start stop : Int) (hg : Good (.list l)) :
    Good (.list (DsList.ltrim l start stop)) :=
  ⟨C02.ltrim_wf l hg.1 start stop, fun y hy => hg.2 y (ltrim_mem l start stop y hy)⟩

theorem good_lset (l : LList) (i : Int) (data : Bytes) (hg : Good (.list l)) (hb : data.length < 2 ^ 63) :
    Good (.list (DsList.lset l i data).1) := by
  refine ⟨C02.lset_wf l hg.1 i data, ?_⟩
  unfold DsList.lset
  simp only
  generalize (if i < 0 then l.length + i else i) = j
  split
  · exact hg.2
  · intro y hy
    rcases List.mem_or_eq_of_mem_set hy with h1 | rfl
    · exact hg.2 y h1
    · exact hb

def pushF (now : Int) (left : Bool) (k : Bytes) (vs : List Bytes) : TxForm := (Cmd.push left k vs).form now
def popF' (now : Int) (left : Bool) (k : Bytes) (count : Int) : TxForm := (Cmd.pop left k count).form now

theorem linsertF_ok (key pivot data : Bytes) (before : Bool) (hb : data.length < 2 ^ 63) :
    (linsertF key pivot data before).OK := by
  refine ⟨(fun h => nomatch h), (fun _ h => nomatch h), fun w e hg _ => ?_⟩
  cases w with
  | list l => exact ⟨(fun w hw => by cases hw; exact good_linsert l pivot data before hg hb), (fun e he => by cases he)⟩
  | _ => trivial

theorem pushXF_ok (left : Bool) (key data : Bytes) (hb : data.length < 2 ^ 63) : (pushXF left key data).OK := by
  refine ⟨(fun h => nomatch h), (fun _ h => nomatch h), fun w e hg _ => ?_⟩
  cases w with
  | list l =>
    exact ⟨(fun w hw => by cases hw; exact good_push left l [data] hg (by simpa using hb)), (fun e he => by cases he)⟩
  | _ => trivial

def lremF' (key data : Bytes) (count : Int) : TxForm :=
  ⟨true, none, .int 0, Cmd.pan, decListMut (lremF key data count), key⟩

theorem lremF'_ok (key data : Bytes) (count : Int) : (lremF' key data count).OK := by
  refine ⟨(fun h => nomatch h), (fun _ h => nomatch h), fun w e hg _ => ?_⟩
  cases w with
  | list l =>
    show (decListMut (lremF key data count) (.list l) e).GoodA
    unfold decListMut
    simp only
    split
    · exact good_lrem l count data hg
    · exact ⟨(fun w hw => by cases hw; exact good_lrem l count data hg), (fun e he => by cases he)⟩
  | _ => trivial

def ltrimF' (key : Bytes) (start stop : Int) : TxForm :=
  ⟨true, none, .unit, Cmd.pan, decListMut (ltrimF key start stop), key⟩

theorem ltrimF'_ok (key : Bytes) (start stop : Int) : (ltrimF' key start stop).OK := by
  refine ⟨(fun h => nomatch h), (fun _ h => nomatch h), fun w e hg _ => ?_⟩
  cases w with
  | list l =>
    show (decListMut (ltrimF key start stop) (.list l) e).GoodA
    unfold decListMut
    simp only
    split
    · exact good_ltrim l start stop hg
    · exact ⟨(fun w hw => by cases hw; exact good_ltrim l start stop hg), (fun e he => by cases he)⟩
  | _ => trivial

theorem lsetF_ok (key : Bytes) (index : Int) (data : Bytes) (hb : data.length < 2 ^ 63) :
    (lsetF key index data).OK := by
  refine ⟨(fun h => nomatch h), (fun _ h => nomatch h), fun w e hg _ => ?_⟩
  cases w with
  | list l =>
    show (decLset key index data (.list l) e).GoodA
    unfold decLset
    simp only
    split
    · trivial
    · exact ⟨(fun w hw => by cases hw; exact good_lset l index data hg hb), (fun e he => by cases he)⟩
  | _ => trivial

theorem linsertF_nilSafe (key pivot data : Bytes) (before : Bool) : (linsertF key pivot data before).NilSafe := by
  apply nilSafe_of
  · intro v e hv; cases v <;> simp_all [linsertF, decLinsert]
  · intro v0 h0; cases h0

theorem pushXF_nilSafe (left : Bool) (key data : Bytes) : (pushXF left key data).NilSafe := by
  apply nilSafe_of
  · intro v e hv; cases v <;> simp_all [pushXF, decPushX]
  · intro v0 h0; cases h0

theorem listMut_nilSafe (f : LList → LList × List FeedOp × Out) (miss : Out) (nov : MState → Api.R) (key : Bytes) :
    (⟨true, none, miss, nov, decListMut f, key⟩ : TxForm).NilSafe := by
  apply nilSafe_of
  · intro v e hv
    cases v <;> simp_all [decListMut]
  · intro v0 h0; cases h0

theorem lsetF_nilSafe (key : Bytes) (index : Int) (data : Bytes) : (lsetF key index data).NilSafe := by
  apply nilSafe_of
  · intro v e hv
    cases v <;> simp_all [lsetF, decLset]
  · intro v0 h0; cases h0


theorem pushF_self (left : Bool) (k : Bytes) (vs : List Bytes) :
    SelfRec now (pushF now left k vs) (Api.opList (if left then 14 else 21) k (vs.map Bytes.toHex)) := by
  refine ⟨rfl, fun r0 => by rw [replica_push, push_eq]; rfl, fun v e => ?_, fun v0 h0 => by cases h0; rfl⟩
  cases v with
  | list l => exact Or.inr rfl
  | _ => exact Or.inl ⟨_, rfl⟩

theorem popF_self (left : Bool) (k : Bytes) (count : Int) :
    SelfRec now (popF' now left k count) (Api.opList (if left then 12 else 19) k [toString count]) := by
  refine ⟨rfl, fun r0 => by rw [replica_pop, pop_eq]; rfl, fun v e => ?_, fun _ h0 => nomatch h0⟩
  cases v with
  | list l => exact Or.inr (by simp only [popF', Cmd.form, decListMut]; split <;> rfl)
  | _ => exact Or.inl ⟨_, rfl⟩

theorem linsertF_self (k pivot data : Bytes) (before : Bool) :
    SelfRec now (linsertF k pivot data before)
      (Api.opList 11 k [Bytes.toHex pivot, Bytes.toHex data, toString before]) := by
  refine ⟨rfl, fun r0 => by rw [replica_linsert, linsert_eq], fun v e => ?_, fun _ h0 => nomatch h0⟩
  cases v with
  | list l => exact Or.inr rfl
  | _ => exact Or.inl ⟨_, rfl⟩

theorem pushXF_self (left : Bool) (k data : Bytes) :
    SelfRec now (pushXF left k data) (Api.opList (if left then 15 else 22) k [Bytes.toHex data]) := by
  refine ⟨rfl, fun r0 => by rw [replica_pushX, pushX_eq], fun v e => ?_, fun _ h0 => nomatch h0⟩
  cases v with
  | list l => exact Or.inr rfl
  | _ => exact Or.inl ⟨_, rfl⟩

theorem lremF_self (k data : Bytes) (count : Int) :
    SelfRec now (lremF' k data count) (Api.opList 16 k [Bytes.toHex data, toString count]) := by
  refine ⟨rfl, fun r0 => by rw [replica_lrem, lrem_eq]; rfl, fun v e => ?_, fun _ h0 => nomatch h0⟩
  cases v with
  | list l => exact Or.inr (by simp only [lremF', decListMut]; split <;> rfl)
  | _ => exact Or.inl ⟨_, rfl⟩

theorem ltrimF_self (k : Bytes) (start stop : Int) :
    SelfRec now (ltrimF' k start stop) (Api.opList 18 k [toString start, toString stop]) := by
  refine ⟨rfl, fun r0 => by rw [replica_ltrim, ltrim_eq]; rfl, fun v e => ?_, fun _ h0 => nomatch h0⟩
  cases v with
  | list l => exact Or.inr (by simp only [ltrimF', decListMut]; split <;> rfl)
  | _ => exact Or.inl ⟨_, rfl⟩

theorem lsetF_self (k : Bytes) (i : Int) (d : Bytes) :
    SelfRec now (lsetF k i d) (Api.opList 17 k [toString i, Bytes.toHex d]) := by
  refine ⟨rfl, fun r0 => by rw [replica_lset, lset_eq], fun v e => ?_, fun _ h0 => nomatch h0⟩
  cases v with
  | list l =>
    cases hr : (DsList.lset l i d).2
    · exact Or.inl ⟨.bool false, by simp [lsetF, decLset, hr]⟩
    · exact Or.inr (by simp [lsetF, decLset, hr, Act.ops])
  | _ => exact Or.inl ⟨_, rfl⟩

end NodisVerif.Proofs.C20

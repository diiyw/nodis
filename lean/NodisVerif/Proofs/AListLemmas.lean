import NodisVerif.Model.WF
/-
  Order lemmas for bytewise `<` and for key-sorted association lists.
-/
namespace NodisVerif.Proofs.AListLemmas

theorem lt_irrefl (a : Bytes) : Bytes.lt a a = false := by
  induction a with
  | nil => rfl
  | cons x xs ih => simp [Bytes.lt, ih]

theorem lt_trans : ∀ (a b c : Bytes), Bytes.lt a b = true → Bytes.lt b c = true → Bytes.lt a c = true := by
  intro a
  induction a with
  | nil =>
    intro b c h1 h2
    cases b with
    | nil => simp [Bytes.lt] at h1
    | cons y ys =>
      cases c with
      | nil => simp [Bytes.lt] at h2
      | cons z zs => simp [Bytes.lt]
  | cons x xs ih =>
    intro b c h1 h2
    cases b with
    | nil => simp [Bytes.lt] at h1
    | cons y ys =>
      cases c with
      | nil => simp [Bytes.lt] at h2
      | cons z zs =>
        simp only [Bytes.lt] at h1 h2 ⊢
        by_cases hxy : x < y
        · by_cases hyz : y < z
          · rw [if_pos (UInt8.lt_trans hxy hyz)]
          · rw [if_neg hyz] at h2
            by_cases hzy : z < y
            · rw [if_pos hzy] at h2; cases h2
            · rw [← UInt8.le_antisymm (UInt8.not_lt.mp hzy) (UInt8.not_lt.mp hyz), if_pos hxy]
        · rw [if_neg hxy] at h1
          by_cases hyx : y < x
          · rw [if_pos hyx] at h1; cases h1
          · rw [if_neg hyx] at h1
            rw [← UInt8.le_antisymm (UInt8.not_lt.mp hyx) (UInt8.not_lt.mp hxy)] at h2
            by_cases hxz : x < z
            · rw [if_pos hxz]
            · rw [if_neg hxz] at h2 ⊢
              by_cases hzx : z < x
              · rw [if_pos hzx] at h2; cases h2
              · rw [if_neg hzx] at h2 ⊢
                exact ih ys zs h1 h2

theorem lt_asymm (a b : Bytes) (h : Bytes.lt a b = true) : Bytes.lt b a = false := by
  cases hb : Bytes.lt b a with
  | false => rfl
  | true =>
    have := lt_trans a b a h hb
    rw [lt_irrefl] at this
    cases this

theorem lt_ne (a b : Bytes) (h : Bytes.lt a b = true) : a ≠ b := by
  intro e
  subst e
  rw [lt_irrefl] at h
  cases h

theorem lt_total : ∀ (a b : Bytes), Bytes.lt a b = false → Bytes.lt b a = false → a = b := by
  intro a
  induction a with
  | nil =>
    intro b h1 h2
    cases b with
    | nil => rfl
    | cons y ys => simp [Bytes.lt] at h1
  | cons x xs ih =>
    intro b h1 h2
    cases b with
    | nil => simp [Bytes.lt] at h2
    | cons y ys =>
      simp only [Bytes.lt] at h1 h2
      simp only [UInt8.lt_iff_toNat_lt] at h1 h2
      by_cases hxy : x.toNat < y.toNat
      · simp [hxy] at h1
      · by_cases hyx : y.toNat < x.toNat
        · simp [hyx] at h2
        · simp only [hxy, hyx, if_false] at h1 h2
          have : x = y := UInt8.toNat_inj.mp (by omega)
          rw [this, ih ys h1 h2]

def KeyLt {V : Type} (a b : Bytes × V) : Prop := Bytes.lt a.1 b.1 = true

theorem sorted_cons {V : Type} (a : Bytes × V) : ∀ (rest : AList V), AList.Sorted (a :: rest) →
    AList.Sorted rest ∧ ∀ b ∈ rest, KeyLt a b := by
  intro rest
  induction rest generalizing a with
  | nil => intro _; exact ⟨trivial, by simp⟩
  | cons b rest ih =>
    intro h
    obtain ⟨ka, va⟩ := a
    obtain ⟨kb, vb⟩ := b
    simp only [AList.Sorted] at h
    obtain ⟨h1, h2⟩ := h
    obtain ⟨_, h4⟩ := ih (kb, vb) h2
    refine ⟨h2, ?_⟩
    intro c hc
    rcases List.mem_cons.mp hc with rfl | hc
    · exact h1
    · exact lt_trans _ _ _ h1 (h4 c hc)

theorem sorted_pairwise {V : Type} : ∀ (m : AList V), AList.Sorted m → m.Pairwise KeyLt := by
  intro m
  induction m with
  | nil => intro _; exact List.Pairwise.nil
  | cons a rest ih =>
    intro h
    obtain ⟨h1, h2⟩ := sorted_cons a rest h
    exact List.Pairwise.cons h2 (ih h1)

theorem set_append {V : Type} (key : Bytes) (v : V) : ∀ (acc : AList V),
    (∀ p ∈ acc, Bytes.lt p.1 key = true) → AList.set acc key v = acc ++ [(key, v)] := by
  intro acc
  induction acc with
  | nil => intro _; rfl
  | cons a rest ih =>
    intro h
    obtain ⟨k, w⟩ := a
    have hk : Bytes.lt k key = true := h (k, w) (by simp)
    have h1 : ¬ k = key := lt_ne _ _ hk
    have h2 : Bytes.lt key k = false := lt_asymm _ _ hk
    simp only [AList.set, h1, if_false, h2, List.cons_append, Bool.false_eq_true]
    rw [ih (fun p hp => h p (by simp [hp]))]

theorem get?_none_iff {V : Type} (key : Bytes) : ∀ (d : AList V),
    (AList.get? d key = none ↔ ∀ p ∈ d, p.1 ≠ key) := by
  intro d
  induction d with
  | nil => simp [AList.get?]
  | cons p rest ih =>
    obtain ⟨k, w⟩ := p
    simp only [AList.get?]
    by_cases hk : k = key
    · simp [hk]
    · simp only [hk, if_false, ih, List.mem_cons, forall_eq_or_imp, ne_eq, not_false_eq_true,
        true_and]

theorem get?_none {V : Type} (key : Bytes) (acc : AList V)
    (h : ∀ p ∈ acc, Bytes.lt p.1 key = true) : AList.get? acc key = none :=
  (get?_none_iff key acc).2 fun p hp => lt_ne _ _ (h p hp)

end NodisVerif.Proofs.AListLemmas

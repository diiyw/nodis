import NodisVerif.Model.DsStr
import NodisVerif.Proofs.GoLibLemmas
/-
  Normal forms of the translated `GetRange` and `getBit` of ds/str/str.go (the translator's output with the receiver `s`
  replaced by its only field `v`), and their equality with the hand-written model Model/DsStr.lean. The namespace is
  `StrNF`; BitCount, SetBit and SetRange are in SnapStrBits, SnapStrSetBit and SnapStrSetRange.
  Every run shows `Translated.str.String_.f ⟨v⟩ … = StrNF.f v …` for the freshly translated text
  (translated/str.lean); the theorems here are then reused.
-/
namespace NodisVerif.StrNF
open NodisVerif NodisVerif.GoLib

def GetRange (v : Bytes) (start : Int) (end_ : Int) : GoLib.M Bytes := do
  let mut start := start
  let mut end_ := end_
  let mut bl : Int := (GoLib.len v)
  if (decide (start < 0)) then
    start := (GoLib.wrap .i64 (bl + start))
    if (decide (start < 0)) then
      start := 0
  if (decide (start ≥ (GoLib.len v))) then
    return []
  end_ := (GoLib.wrap .i64 (end_ + 1))
  if (decide (end_ ≤ 0)) then
    end_ := (GoLib.wrap .i64 (end_ + bl))
  if (decide (end_ > bl)) then
    end_ := bl
  if (decide (start > end_)) then
    return []
  return (← GoLib.slice v start end_)

/-- The join points of `GetRange`, innermost first: the code after each reassignment of `start` / `end_`,
    as a function of the reassigned variable. `GetRange` unfolds to them by `rfl`. -/
def grCut (v : Bytes) (s e : Int) : M Bytes := if decide (s > e) then pure [] else slice v s e

def grClip (v : Bytes) (s e : Int) : M Bytes := if decide (e > len v) then grCut v s (len v) else grCut v s e

def grFrom (v : Bytes) (b s : Int) : M Bytes :=
  if decide (s ≥ len v) then pure []
  else if decide (wrap .i64 (b + 1) ≤ 0) then grClip v s (wrap .i64 (wrap .i64 (b + 1) + len v))
  else grClip v s (wrap .i64 (b + 1))

theorem GetRange_jp (v : Bytes) (a b : Int) : GetRange v a b =
    if decide (a < 0) then
      (if decide (wrap .i64 (len v + a) < 0) then grFrom v b 0 else grFrom v b (wrap .i64 (len v + a)))
    else grFrom v b a := rfl

/-- A conditional reassignment `if c then k x else k y` is `k (if c then x else y)`: `apply_ite` read from right to left,
    first for the nested reassignment of `start`, then at each join point `k` before it is unfolded. -/
theorem GetRange_struct (v : Bytes) (a b : Int) : GetRange v a b =
    (let s := if a < 0 then (if wrap .i64 (len v + a) < 0 then 0 else wrap .i64 (len v + a)) else a
     if s ≥ len v then pure [] else
     let e := wrap .i64 (b + 1)
     let e0 := if e ≤ 0 then wrap .i64 (e + len v) else e
     let e1 := if e0 > len v then len v else e0
     if s > e1 then pure [] else slice v s e1) := by
  rw [GetRange_jp]
  simp only [← apply_ite]
  simp only [↓ ← apply_ite, grFrom, grClip, grCut, decide_eq_true_eq]

theorem cut_eq (v : Bytes) (s e : Int) (hs : 0 ≤ s) (he : e ≤ v.length) :
    (if s ≥ (v.length : Int) then pure [] else if s > e then pure [] else slice v s e : M Bytes) =
    .ok ((if s ≥ (v.length : Int) then none else if s > e then none
      else some ((v.drop s.toNat).take (e - s).toNat)).getD []) := by
  split
  · rfl
  · split
    · rfl
    · exact slice_ok v s e (by omega)

theorem GetRange_eq_model (v : Bytes) (a b : Int) (hv : v.length < 2 ^ 62) (ha : inInt64 a) (hb : inInt64 b) :
    GetRange v a b = .ok ((DsStr.getRange (some v) a b).getD []) := by
  have ha' := inInt64_iff.mp ha
  have hr := wrap64_range (b + 1)
  rw [GetRange_struct]
  simp only [len_eq, wrap_i64, DsStr.getRange, DsStr.bytes, Option.getD_some]
  generalize wrap64 (b + 1) = e at hr
  -- `bl + start` and `end_ + bl` are computed only where they cannot wrap
  have h1 : (if a < 0 then if wrap64 (v.length + a) < 0 then 0 else wrap64 (v.length + a) else a) =
      (if a < 0 then if v.length + a < 0 then 0 else v.length + a else a) :=
    ite_congr rfl (fun h => by rw [wrap64_id (by omega)]) (fun _ => rfl)
  have h2 : (if e ≤ 0 then wrap64 (e + v.length) else e) = (if e ≤ 0 then e + v.length else e) :=
    ite_congr rfl (fun h => wrap64_id (by omega)) (fun _ => rfl)
  rw [h1, h2]
  exact cut_eq v _ _ (by omega) (by omega)

def getBit (v : Bytes) (offset : Int) : GoLib.M Int := do
  let mut i : Int := (Int.tdiv offset 8)
  if (((decide (offset < 0)) || ((GoLib.len v) == 0)) || (decide (i > (GoLib.wrap .i64 ((GoLib.len v) - 1))))) then
    return 0
  let mut by_ : Int := (← GoLib.idx v i)
  let mut bit : Int := (GoLib.shl .u8 1 (GoLib.wrap .u64 (7 - (GoLib.wrap .u64 (Int.tmod offset 8)))))
  if ((GoLib.band .u8 by_ bit) != 0) then
    return 1
  return 0

/-- the mask of `getBit` / `SetBit`, `1 << (7 - offset % 8)` on Go's uint8, is the model's `bitMask` -/
theorem shl_bitMask (o : Int) : shl .u8 1 (wrap .u64 (7 - wrap .u64 (o % 8))) = ((DsStr.bitMask o).toNat : Int) := by
  have h := shl_u8_one ⟨7 - (o % 8).toNat, by omega⟩
  have hcast : ((7 - (o % 8).toNat : Nat) : Int) = wrap .u64 (7 - wrap .u64 (o % 8)) := by
    -- `o % 8` lies in [0, 8): neither conversion to uint64 wraps
    have hr : 0 ≤ o % 8 ∧ o % 8 < 8 := by omega
    generalize o % 8 = r at hr ⊢
    rw [wrap_u64, wrap_u64, Int.emod_eq_of_lt hr.1 (by omega), Int.emod_eq_of_lt (by omega) (by omega)]
    omega
  rwa [hcast] at h

theorem getBit_eq_model (v : Bytes) (o : Int) (hv : v.length < 2 ^ 62) (ho : inInt64 o) :
    getBit v o = .ok (DsStr.getBit (some v) o) := by
  have hw : wrap .i64 ((v.length : Int) - 1) = (v.length : Int) - 1 := by
    rw [wrap_i64_id]; omega
  unfold getBit DsStr.getBit
  simp only [DsStr.bytes, Option.getD_some, len_eq, hw]
  by_cases hneg : o < 0
  · have hcond : (o < 0 ∨ v.length = 0 ∨ o / 8 > (v.length : Int) - 1) := Or.inl hneg
    simp only [decide_eq_true hneg, Bool.true_or, if_true, hcond]
    rfl
  have hdiv : Int.tdiv o 8 = o / 8 := Int.tdiv_eq_ediv_of_nonneg (by omega)
  have hmod : Int.tmod o 8 = o % 8 := Int.tmod_eq_emod_of_nonneg (by omega)
  rw [hdiv, hmod]
  by_cases hz : v.length = 0
  · have hcond : (o < 0 ∨ v.length = 0 ∨ o / 8 > (v.length : Int) - 1) := Or.inr (Or.inl hz)
    have hz' : ((v.length : Int) == 0) = true := by rw [hz]; rfl
    simp only [hz', Bool.or_true, Bool.true_or, if_true, hcond]
    rfl
  have hz' : ((v.length : Int) == 0) = false := beq_eq_false_iff_ne.mpr (by omega)
  by_cases hi : o / 8 > (v.length : Int) - 1
  · have hcond : (o < 0 ∨ v.length = 0 ∨ o / 8 > (v.length : Int) - 1) := Or.inr (Or.inr hi)
    simp only [decide_eq_true hi, Bool.or_true, if_true, hcond]
    rfl
  have hidx := idx_ok v (o / 8) (by omega)
  have hcond : ¬ (o < 0 ∨ v.length = 0 ∨ o / 8 > (v.length : Int) - 1) := by omega
  simp only [decide_eq_false hneg, decide_eq_false hi, hz', Bool.or_false, Bool.false_eq_true, if_false, hidx, bind,
    Except.bind, hcond, shl_bitMask o, band_u8, toNat_bne_zero]
  exact (apply_ite Except.ok _ _ _).symm

end NodisVerif.StrNF

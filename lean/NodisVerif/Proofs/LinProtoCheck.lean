import NodisVerif.Proofs.LinProto
import NodisVerif.Proofs.LinCorollaries
/-
  An executable check that implies `Placed` / `PlacedSplit` (Proofs/LinProto.lean), and concrete
  interleavings that pass it: the hypotheses of `single_key_commands_linearizable` are satisfiable.
-/
namespace NodisVerif.LinProto
open NodisVerif.Proto NodisVerif.Proofs.Proto NodisVerif.Lin

def releasesB (t : Tx) (k : Key) (r : Rec) (e : Proto.Ev) : Bool :=
  e == .unlock t r || e == .unlink t k r || e == .drop t k r

theorem releasesB_iff {t : Tx} {k : Key} {r : Rec} {e : Proto.Ev} : releasesB t k r e = true ↔ Releases t k r e := by
  simp [releasesB, Releases, or_assoc]

theorem releases_evTx {t : Tx} {k : Key} {r : Rec} {e : Proto.Ev} (h : Releases t k r e) : evTx e = some t := by
  rcases h with rfl | rfl | rfl <;> rfl

/-- `t` releases none of the validated holds it has on the current record of `k` -/
def relOK (p : PState) (k : Key) (t : Tx) (e : Proto.Ev) : Bool :=
  match p.tx t with
  | none => true
  | some st => st.holds.all fun h => !(h.valid && p.lookup k == some h.rid && releasesB t k h.rid e)

/-- `t` holds the current record of `k`, validated, in write mode unless `ro` -/
def acqOK (p : PState) (k : Key) (t : Tx) (ro : Bool) : Bool :=
  match p.tx t with
  | none => false
  | some st => st.holds.any fun h => h.valid && p.lookup k == some h.rid && (ro || h.mode == .w)

theorem relOK_sound {p : PState} {k : Key} {t : Tx} {e : Proto.Ev} (h : relOK p k t e = true) {r : Rec} {m : Mode}
    (hc : HoldsCur p k t r m) : ¬ Releases t k r e := by
  obtain ⟨st, g, htx, hg, hv, hr, _, hl⟩ := hc
  intro hrel
  simp only [relOK, htx, List.all_eq_true] at h
  have := h g hg
  rw [hv, hr, hl, releasesB_iff.2 hrel] at this
  simp at this

theorem acqOK_sound {p : PState} {k : Key} {t : Tx} {ro : Bool} (h : acqOK p k t ro = true) :
    ∃ r m, HoldsCur p k t r m ∧ (ro = false → m = .w) := by
  unfold acqOK at h
  cases htx : p.tx t with
  | none => rw [htx] at h; cases h
  | some st =>
    rw [htx] at h
    simp only [List.any_eq_true, Bool.and_eq_true, Bool.or_eq_true, beq_iff_eq] at h
    obtain ⟨g, hg, ⟨hv, hl⟩, hm⟩ := h
    refine ⟨g.rid, g.mode, ⟨st, g, htx, hg, hv, rfl, rfl, hl⟩, ?_⟩
    intro hro
    rcases hm with hm | hm
    · rw [hro] at hm; cases hm
    · exact hm

section
variable {State Op Ret : Type}

/-- the check on a protocol step, given the operations' entries: no FLUSH, and an operation inside its
    `acq … rel` interval does not release -/
def stepOK (k : Key) (p : PState) (ops : Nat → Option (OpSt Op Ret)) (e : Proto.Ev) : Bool :=
  (e != .clear) &&
  (match evTx e with
    | some t => (match ops t with | some st => !st.locked || relOK p k t e | none => true)
    | none => true)

def acqChk (O : Obj State Op Ret) (k : Key) (p : PState) (ops : Nat → Option (OpSt Op Ret)) (t : Nat) : Bool :=
  match ops t with
  | some st => acqOK p k t (O.readOnly st.op)
  | none => true

variable {O : Obj State Op Ret} {k : Key} {p : PState} {ops : Nat → Option (OpSt Op Ret)}

theorem stepOK_sound {e : Proto.Ev} (h : stepOK k p ops e = true) : e ≠ .clear ∧
      ∀ t st r m, ops t = some st → st.locked = true → HoldsCur p k t r m → ¬ Releases t k r e := by
  simp only [stepOK, Bool.and_eq_true, bne_iff_ne, ne_eq] at h
  refine ⟨h.1, fun t st r m h1 h2 h3 h4 => ?_⟩
  have hrel := h.2
  rw [releases_evTx h4] at hrel
  simp only [h1, h2, Bool.not_true, Bool.false_or] at hrel
  exact relOK_sound hrel h3 h4

theorem acqChk_sound {t : Nat} (h : acqChk O k p ops t = true) {st : OpSt Op Ret} (h1 : ops t = some st) :
    ∃ r m, HoldsCur p k t r m ∧ (O.readOnly st.op = false → m = .w) := by
  simp only [acqChk, h1] at h
  exact acqOK_sound h

variable [DecidableEq Ret]

def placedB (O : Obj State Op Ret) (k : Key) :
    PState → Lin.Cfg State Op Ret → List (Proto.Ev ⊕ Lin.Ev Op Ret) → Bool
  | _, _, [] => true
  | p, c, .inl e :: ms =>
    match Proto.step p e with
    | none => false
    | some p' => stepOK k p c.ops e && placedB O k p' c ms
  | p, c, .inr x :: ms =>
    match Lin.step O false c x with
    | none => false
    | some c' => (match x with | .acq t => acqChk O k p c.ops t | _ => true) && placedB O k p c' ms

theorem placed_of_check {c : Lin.Cfg State Op Ret} {ms : List (Proto.Ev ⊕ Lin.Ev Op Ret)}
    (h : placedB O k p c ms = true) : Placed O k p c ms := by
  induction ms generalizing p c with
  | nil => trivial
  | cons x ms ih =>
    cases x with
    | inl e =>
      simp only [placedB] at h
      cases hs : Proto.step p e with
      | none => rw [hs] at h; cases h
      | some p' =>
        rw [hs, Bool.and_eq_true] at h
        exact ⟨p', hs, (stepOK_sound h.1).1, (stepOK_sound h.1).2, ih h.2⟩
    | inr x =>
      simp only [placedB] at h
      cases hs : Lin.step O false c x with
      | none => rw [hs] at h; cases h
      | some c' =>
        rw [hs, Bool.and_eq_true] at h
        exact ⟨c', hs, fun t st hx h1 => by subst hx; exact acqChk_sound h.1 h1, ih h.2⟩

def placedSplitB (O : Obj State Op Ret) (k : Key) :
    PState → Split.Cfg State Op Ret → List (Proto.Ev ⊕ Split.Ev Op Ret) → Bool
  | _, _, [] => true
  | p, c, .inl e :: ms =>
    match Proto.step p e with
    | none => false
    | some p' => stepOK k p c.core.ops e && placedSplitB O k p' c ms
  | p, c, .inr x :: ms =>
    match Split.step O false c x with
    | none => false
    | some c' => (match x with | .acq t => acqChk O k p c.core.ops t | _ => true) && placedSplitB O k p c' ms

theorem placedSplit_of_check {c : Split.Cfg State Op Ret} {ms : List (Proto.Ev ⊕ Split.Ev Op Ret)}
    (h : placedSplitB O k p c ms = true) : PlacedSplit O k p c ms := by
  induction ms generalizing p c with
  | nil => trivial
  | cons x ms ih =>
    cases x with
    | inl e =>
      simp only [placedSplitB] at h
      cases hs : Proto.step p e with
      | none => rw [hs] at h; cases h
      | some p' =>
        rw [hs, Bool.and_eq_true] at h
        exact ⟨p', hs, (stepOK_sound h.1).1, (stepOK_sound h.1).2, ih h.2⟩
    | inr x =>
      simp only [placedSplitB] at h
      cases hs : Split.step O false c x with
      | none => rw [hs] at h; cases h
      | some c' =>
        rw [hs, Bool.and_eq_true] at h
        exact ⟨c', hs, fun t st hx h1 => by subst hx; exact acqChk_sound h.1 h1, ih h.2⟩

end

/-- Key "k" is created (transaction 9). Commands 1 and 2 increment the counter stored under "k",
    command 3 reads it. All three are invoked before any of them replies; 2 and 3 block on the record
    lock while 1 works; the reader gets the lock before writer 2. -/
def exTrace : List (Proto.Ev ⊕ Lin.Ev Bool Int) :=
  [.inl (.begin 9), .inl (.claim 9 "k" 10 .w), .inl (.publish 9 "k" 10), .inl (.commit 9),
   .inl (.unlock 9 10), .inl (.fin 9),
   .inr (.inv 1 false), .inr (.inv 2 false), .inr (.inv 3 true),
   .inl (.begin 1), .inl (.begin 2), .inl (.begin 3),
   .inl (.look 1 "k" (some 10)), .inl (.wait 1 "k" 10 .w), .inl (.lock 1 "k" 10 .w),
   .inl (.valid 1 "k" 10 true),
   .inl (.look 2 "k" (some 10)), .inl (.wait 2 "k" 10 .w),
   .inr (.acq 1), .inr (.eff 1),
   .inl (.look 3 "k" (some 10)), .inl (.wait 3 "k" 10 .r),
   .inr (.rel 1), .inl (.commit 1), .inl (.unlock 1 10), .inl (.fin 1), .inr (.res 1 0),
   .inl (.lock 3 "k" 10 .r), .inl (.valid 3 "k" 10 true), .inr (.acq 3), .inr (.eff 3), .inr (.rel 3),
   .inl (.commit 3), .inl (.unlock 3 10), .inl (.fin 3),
   .inl (.lock 2 "k" 10 .w), .inl (.valid 2 "k" 10 true), .inr (.acq 2), .inr (.eff 2), .inr (.res 3 1),
   .inr (.rel 2), .inl (.commit 2), .inl (.unlock 2 10), .inl (.fin 2), .inr (.res 2 1)]

theorem exTrace_placed : Placed counter "k" {} { σ := 0 } exTrace := placed_of_check (by decide +kernel)

/-- the body of a command outside the interval is rejected by `Placed`: here command 1 takes the
    abstract lock before its transaction has validated the record … -/
example : placedB counter "k" {} { σ := 0 }
    [.inl (.begin 9), .inl (.claim 9 "k" 10 .w), .inl (.publish 9 "k" 10), .inl (.commit 9),
     .inl (.unlock 9 10), .inl (.fin 9), .inr (.inv 1 false), .inl (.begin 1),
     .inl (.wait 1 "k" 10 .w), .inl (.lock 1 "k" 10 .w), .inr (.acq 1)] = false := by decide +kernel

/-- … and here an increment runs under a read lock -/
example : placedB counter "k" {} { σ := 0 }
    [.inl (.begin 9), .inl (.claim 9 "k" 10 .w), .inl (.publish 9 "k" 10), .inl (.commit 9),
     .inl (.unlock 9 10), .inl (.fin 9), .inr (.inv 1 false), .inl (.begin 1),
     .inl (.wait 1 "k" 10 .r), .inl (.lock 1 "k" 10 .r), .inl (.valid 1 "k" 10 true), .inr (.acq 1)] = false := by
  decide +kernel

/-- the same commands with bodies in two steps; the `rd` and `wr` of command 1 are separated by steps
    of the other transactions -/
def exTraceSplit : List (Proto.Ev ⊕ Split.Ev Bool Int) :=
  [.inl (.begin 9), .inl (.claim 9 "k" 10 .w), .inl (.publish 9 "k" 10), .inl (.commit 9),
   .inl (.unlock 9 10), .inl (.fin 9),
   .inr (.inv 1 false), .inr (.inv 2 false), .inr (.inv 3 true),
   .inl (.begin 1), .inl (.begin 2), .inl (.begin 3),
   .inl (.look 1 "k" (some 10)), .inl (.wait 1 "k" 10 .w), .inl (.lock 1 "k" 10 .w),
   .inl (.valid 1 "k" 10 true),
   .inr (.acq 1), .inr (.rd 1),
   .inl (.look 2 "k" (some 10)), .inl (.wait 2 "k" 10 .w),
   .inl (.look 3 "k" (some 10)), .inl (.wait 3 "k" 10 .r),
   .inr (.wr 1),
   .inr (.rel 1), .inl (.commit 1), .inl (.unlock 1 10), .inl (.fin 1), .inr (.res 1 0),
   .inl (.lock 3 "k" 10 .r), .inl (.valid 3 "k" 10 true), .inr (.acq 3), .inr (.rd 3), .inr (.wr 3), .inr (.rel 3),
   .inl (.commit 3), .inl (.unlock 3 10), .inl (.fin 3),
   .inl (.lock 2 "k" 10 .w), .inl (.valid 2 "k" 10 true), .inr (.acq 2), .inr (.rd 2), .inr (.res 3 1),
   .inr (.wr 2), .inr (.rel 2), .inl (.commit 2), .inl (.unlock 2 10), .inl (.fin 2), .inr (.res 2 1)]

theorem exTraceSplit_placed : PlacedSplit counter "k" {} { core := { σ := 0 } } exTraceSplit :=
  placedSplit_of_check (by decide +kernel)

end NodisVerif.LinProto

import NodisVerif.Proofs.C02
import NodisVerif.Proofs.ZSetLemmas
/-
  C14: the key codec and the entry codecs of the five value types undo each other.  The collection
  round trips ask that every length-prefixed chunk is shorter than 2^63 bytes: a Go slice length is
  an int, `List` lengths in the model are unbounded, and a chunk of ≥ 2^63 bytes gets a length
  prefix that `binary.Uvarint` rejects as a 64-bit overflow.  Without that bound the statements are
  false (`Proofs/C14Counterexamples.lean`).
-/
namespace NodisVerif.Proofs.C14
open Varint Codec CodecLemmas AListLemmas

theorem decodeKey_encodeKey (name : Bytes) (exp : Int) (h : inInt64 exp = true) :
    decodeKey (encodeKey name exp) = some (name, exp) := by
  unfold decodeKey encodeKey
  rw [VarintLemmas.varint_putVarint exp h name]
  have hp := VarintLemmas.putVarint_length_pos exp
  have : ¬ ((putVarint exp).length : Int) ≤ 0 := by omega
  simp only [this, if_false, Int.toNat_natCast, List.drop_left]

theorem str_roundtrip (v : Bytes) : decodeEntry (encodeEntry (.str v)) = some (.str v) := by
  simp [decodeEntry, encodeEntry, Val.typeCode, encodeVal]

theorem list_roundtrip (l : LList) (h : l.WF)
    (hlen : ∀ v ∈ l.items, v.length < 2 ^ 63) :
    decodeEntry (encodeEntry (.list l)) = some (.list l) := by
  rw [decodeEntry_list]
  unfold encodeList
  rw [forEach_all, decodeList_flatMap l.items _ _ hlen (by omega), C02.rpush_eq]
  unfold LList.WF at h
  cases l with
  | mk items length =>
    simp only [DsList.empty, List.nil_append, Option.map_some, Option.some.injEq, Val.list.injEq,
      LList.mk.injEq, true_and] at h ⊢
    omega

theorem set_roundtrip (m : AList Unit) (h : AList.Sorted m)
    (hlen : ∀ p ∈ m, p.1.length < 2 ^ 63) :
    decodeEntry (encodeEntry (.set m)) = some (.set m) := by
  rw [decodeEntry_set, decodeSet_all m [] _ hlen (by simpa using sorted_pairwise m h) (by omega)]
  simp

/-- exact bound: the item `varint(len field) ++ field ++ value` is shorter than 2^63 bytes -/
theorem hash_roundtrip (m : AList Bytes) (h : AList.Sorted m)
    (hlen : ∀ p ∈ m, (lenPrefixed p.1 ++ p.2).length < 2 ^ 63) :
    decodeEntry (encodeEntry (.hash m)) = some (.hash m) := by
  have hlen' : ∀ p ∈ m, p.1.length < 2 ^ 63 ∧ (lenPrefixed p.1 ++ p.2).length < 2 ^ 63 := by
    intro p hp
    have h1 := hlen p hp
    refine ⟨?_, h1⟩
    rw [List.length_append, lenPrefixed_length] at h1
    omega
  rw [decodeEntry_hash, decodeHash_all m [] _ hlen' (by simpa using sorted_pairwise m h) (by omega)]
  simp

/-- simple sufficient bound: field and value together leave room for the 10-byte varint -/
theorem hash_roundtrip_of_sizes (m : AList Bytes) (h : AList.Sorted m)
    (hlen : ∀ p ∈ m, p.1.length + p.2.length + 10 < 2 ^ 63) :
    decodeEntry (encodeEntry (.hash m)) = some (.hash m) := by
  apply hash_roundtrip m h
  intro p hp
  have h1 := hlen p hp
  have h2 := VarintLemmas.putVarint_length_le (p.1.length : Int) (inInt64_len _ (by omega))
  rw [List.length_append, lenPrefixed_length]
  omega

theorem zset_roundtrip (z : ZSet) (h : z.WF)
    (hlen : ∀ p ∈ z.dict, p.1.length + 8 < 2 ^ 63) :
    decodeEntry (encodeEntry (.zset z)) = some (.zset z) := by
  have hlen' : ∀ p ∈ z.dict, (u64le p.2 ++ p.1).length < 2 ^ 63 := by
    intro p hp
    have := hlen p hp
    rw [List.length_append, u64le_length]
    omega
  have e : decodeEntry (encodeEntry (.zset z))
      = (decodeZSet (encodeZSet ⟨z.dict, []⟩) ⟨[], []⟩
          ((encodeZSet ⟨z.dict, []⟩).length + 1)).map .zset := rfl
  rw [e, decodeZSet_all z.dict [] [] _ hlen'
    (by simpa using sorted_pairwise z.dict h.dictSorted) (by omega),
    ZSetLemmas.insAll_eq_chain z h]
  simp

end NodisVerif.Proofs.C14

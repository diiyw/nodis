import NodisVerif.Proofs.ProtoWireField

/-
  C20 / wire encoding (names in `NodisVerif.Proofs.ProtoWire`): Unmarshal ∘ Marshal on whole messages and
  DecodeOp ∘ Encode on records, both halves.
  1. The accepted half: a well-formed message is read back (`dec_field`, `dec_marshal`, `unmarshal_marshal`, for any
     schema with distinct field numbers), the table's schemas are such (`table_schemaOk`, `schemaOf_ok`), hence
     `decodeOp_encodeOp`: the round trip of the wire encoding.
  2. The rejected half (known finding A-200 in general form): a record that a Go program can build but that is not
     well-formed — some `string` field, or an element of a repeated string, is not valid UTF-8 — makes Marshal fail;
     `Op.Encode` ships what Marshal had appended up to and including the offending string, and Unmarshal ALWAYS rejects
     that: such a record never arrives as another record (`dec_marshal_bad`, `unmarshal_marshal_bad`).
-/
namespace NodisVerif.Proofs.ProtoWire
open NodisVerif Varint Codec NodisVerif.ProtoWire

theorem dec_field {S pre post : Schema} {no : Nat} {k : Kind} (hat : At S pre no k post)
    {pv tl : List PVal} (hpv : pv.length = pre.length) (v : PVal) (hok : v.ok k = true)
    (hsm : v.small = true) (u rest : Bytes) :
    (encField no k v).2 = false ∧
    dec S ((encField no k v).1 ++ rest) ⟨pv ++ k.default :: tl, u⟩ = dec S rest ⟨pv ++ v :: tl, u⟩ := by
  cases k <;> cases v <;> simp only [PVal.ok, Bool.false_eq_true] at hok
  · -- str
    rename_i s
    simp only [PVal.small, decide_eq_true_eq] at hsm
    simp only [encField]
    split
    · rename_i h; subst h; exact ⟨rfl, rfl⟩
    · exact ⟨by simp [hok], dec_str u rest hat hpv _ s hok hsm⟩
  · -- bytes
    rename_i s
    simp only [PVal.small, decide_eq_true_eq] at hsm
    simp only [encField]
    split
    · rename_i h; subst h; exact ⟨rfl, rfl⟩
    · exact ⟨rfl, dec_bytes u rest hat hpv _ s hsm⟩
  · -- int64
    rename_i i
    simp only [encField]
    split
    · rename_i h; subst h; exact ⟨rfl, rfl⟩
    · exact ⟨rfl, dec_int u rest hat hpv _ i hok⟩
  · -- bool
    rename_i b
    cases b
    · exact ⟨rfl, rfl⟩
    · exact ⟨rfl, dec_bool u rest hat hpv _⟩
  · -- double
    rename_i x
    simp only [encField]
    split
    · rename_i h; subst h; exact ⟨rfl, rfl⟩
    · exact ⟨rfl, dec_double u rest hat hpv _ x⟩
  · -- repeated string
    rename_i l
    simp only [PVal.small, List.all_eq_true, decide_eq_true_eq] at hsm
    simp only [List.all_eq_true] at hok
    simp only [encField, encStrs_valid no l hok]
    refine ⟨trivial, ?_⟩
    have := dec_rep (tl := tl) u rest l [] fun s h acc rest => dec_repStr_one u rest hat hpv acc s (hsm s h) (hok s h)
    rw [List.nil_append] at this
    exact this
  · -- repeated bytes
    rename_i l
    simp only [PVal.small, List.all_eq_true, decide_eq_true_eq] at hsm
    simp only [encField]
    refine ⟨trivial, ?_⟩
    have := dec_rep (tl := tl) u rest l [] fun s h acc rest => dec_repBytes_one u rest hat hpv acc s (hsm s h)
    rw [List.nil_append] at this
    exact this
  · -- packed doubles
    rename_i l
    simp only [PVal.small, decide_eq_true_eq] at hsm
    simp only [encField]
    split
    · rename_i h; subst h; exact ⟨rfl, rfl⟩
    · exact ⟨rfl, dec_repDouble u rest hat hpv l hsm⟩

theorem schemaOk_at {S pre sch : Schema} {no : Nat} {k : Kind} (h : schemaOk S = true)
    (hS : S = pre ++ (no, k) :: sch) : At S pre no k sch := by
  subst hS
  simp only [schemaOk, Bool.and_eq_true, decide_eq_true_eq, List.all_eq_true] at h
  obtain ⟨hnd, hall⟩ := h
  have hb := hall (no, k) (by simp)
  refine ⟨rfl, ?_, hb.1, hb.2⟩
  intro e he heq
  rw [List.map_append, List.Nodup, List.pairwise_append] at hnd
  exact hnd.2.2 e.1 (List.mem_map_of_mem he) no (by simp) heq

theorem dec_marshal (S : Schema) (hS : schemaOk S = true) : ∀ (sch pre : Schema) (vs pv : List PVal),
    S = pre ++ sch → pv.length = pre.length → wfVals sch vs = true → ∀ (u rest : Bytes),
    (marshal sch vs).2 = false ∧
    dec S ((marshal sch vs).1 ++ rest) ⟨pv ++ defaults sch, u⟩ = dec S rest ⟨pv ++ vs, u⟩ := by
  intro sch
  induction sch with
  | nil =>
    intro pre vs pv _ _ hwf u rest
    cases vs with
    | nil => exact ⟨rfl, rfl⟩
    | cons _ _ => simp [wfVals] at hwf
  | cons e sch ih =>
    intro pre vs pv hSeq hpv hwf u rest
    obtain ⟨no, k⟩ := e
    cases vs with
    | nil => simp [wfVals] at hwf
    | cons v vs =>
      simp only [wfVals, Bool.and_eq_true] at hwf
      obtain ⟨⟨hok, hsm⟩, hwf'⟩ := hwf
      have hat := schemaOk_at hS hSeq
      have hf := dec_field hat (tl := defaults sch) hpv v hok hsm u
      have hS' : S = (pre ++ [(no, k)]) ++ sch := by rw [hSeq]; simp
      have ih' := ih (pre ++ [(no, k)]) vs (pv ++ [v]) hS' (by simp [hpv]) hwf' u rest
      simp only [marshal, (hf rest).1, Bool.false_eq_true, if_false]
      refine ⟨ih'.1, ?_⟩
      have hd : defaults ((no, k) :: sch) = k.default :: defaults sch := rfl
      rw [hd, List.append_assoc, (hf _).2]
      have e1 : pv ++ v :: defaults sch = (pv ++ [v]) ++ defaults sch := by simp
      have e2 : pv ++ v :: vs = (pv ++ [v]) ++ vs := by simp
      rw [e1, e2]
      exact ih'.2

theorem unmarshal_eq_dec (sch : Schema) (b : Bytes) : unmarshal sch b = dec sch b ⟨defaults sch, []⟩ := rfl

theorem marshal_ok {sch : Schema} (hS : schemaOk sch = true) {vs : List PVal} (hwf : wfVals sch vs = true) :
    (marshal sch vs).2 = false :=
  (dec_marshal sch hS sch [] vs [] rfl rfl hwf [] []).1

theorem unmarshal_marshal {sch : Schema} (hS : schemaOk sch = true) {vs : List PVal}
    (hwf : wfVals sch vs = true) : unmarshal sch (marshal sch vs).1 = some ⟨vs, []⟩ := by
  have := (dec_marshal sch hS sch [] vs [] rfl rfl hwf [] []).2
  simp only [List.append_nil, List.nil_append] at this
  rw [unmarshal_eq_dec, this]
  rfl

theorem table_schemaOk : (opTable.all fun e => schemaOk e.2.2) = true := by decide +kernel

theorem schemaOf_ok {t : Nat} {sch : Schema} (h : schemaOf t = some sch) : schemaOk sch = true := by
  unfold schemaOf at h
  cases hf : opTable.find? (·.1 == t) with
  | none => simp [hf] at h
  | some e =>
    simp only [hf, Option.map_some, Option.some.injEq] at h
    have hm := List.mem_of_find?_eq_some hf
    have := List.all_eq_true.mp table_schemaOk e hm
    rw [← h]; exact this

theorem decodeOp_encodeOp {op : Op} (h : op.wf = true) : decodeOp (encodeOp op) = .ok op := by
  unfold Op.wf at h
  cases hs : schemaOf op.typ.toNat with
  | none => simp [hs] at h
  | some sch =>
    simp only [hs, Bool.and_eq_true, beq_iff_eq] at h
    obtain ⟨hwf, hu⟩ := h
    have hS := schemaOf_ok hs
    have hm := marshal_ok hS hwf
    simp only [encodeOp, hs, marshalMsg, hm, Bool.false_eq_true, if_false, hu, List.append_nil, decodeOp,
      unmarshal_marshal hS hwf]
    obtain ⟨typ, ⟨vals, unk⟩⟩ := op
    simp only at hu
    subst hu
    rfl

theorem encodeFails_wf {op : Op} (h : op.wf = true) : encodeFails op = false := by
  unfold Op.wf at h
  cases hs : schemaOf op.typ.toNat with
  | none => simp [hs] at h
  | some sch =>
    simp only [hs, Bool.and_eq_true, beq_iff_eq] at h
    simp only [encodeFails, hs, marshalMsg, marshal_ok (schemaOf_ok hs) h.1, Bool.false_eq_true, if_false]

theorem dec_known_err {S pre post : Schema} {no : Nat} {k : Kind} (hat : At S pre no k post)
    {pv tl : List PVal} (hpv : pv.length = pre.length) {wt : Nat} (hwt : wt < 8) (hwt4 : wt ≠ 4)
    {v : PVal} {x : Bytes} (u : Bytes) (hc : consumeField k v wt x = .err) :
    dec S (tag no wt ++ x) ⟨pv ++ v :: tl, u⟩ = none :=
  dec_fail S (tag_ne_nil no wt x) ((step_known hat hpv hwt hwt4 v x u).2 hc)

theorem ok_of_typed_not_str {k : Kind} {v : PVal} (ht : v.typed k = true) (hs : k ≠ .str) (hr : k ≠ .repStr) :
    v.ok k = true := by
  cases k <;> first | exact absurd rfl hs | exact absurd rfl hr | (cases v <;> first | exact ht | rfl | cases ht)

section
variable {S pre post : Schema} {no : Nat} {pv tl : List PVal} (u : Bytes)

theorem dec_str_bad (hat : At S pre no .str post) (hpv : pv.length = pre.length) (cur : PVal) (s : Bytes)
    (hv : validUTF8 s = false) (hs : s.length < 2 ^ 63) :
    dec S (chunk no s) ⟨pv ++ cur :: tl, u⟩ = none := by
  unfold chunk
  apply dec_known_err hat hpv (by omega) (by omega)
  simp only [consumeField, ne_eq, not_true_eq_false, if_false]
  have := consumeBytes_lenDelim s (by omega) []
  rw [List.append_nil] at this
  rw [this]
  simp only [hv, Bool.false_eq_true, if_false]

theorem dec_repStr_bad (hat : At S pre no .repStr post) (hpv : pv.length = pre.length) :
    ∀ (l acc : List Bytes), (∀ s ∈ l, s.length < 2 ^ 63) → l.all validUTF8 = false →
    (encStrs no l).2 = true ∧ dec S (encStrs no l).1 ⟨pv ++ .list acc :: tl, u⟩ = none := by
  intro l
  induction l with
  | nil => intro acc _ h; simp at h
  | cons s l ih =>
    intro acc hs hbad
    have h1 := hs s (List.mem_cons_self ..)
    cases hv : validUTF8 s with
    | true =>
      have hbad' : l.all validUTF8 = false := by
        simp only [List.all_cons, hv, Bool.true_and] at hbad; exact hbad
      have ih' := ih (acc ++ [s]) (fun t ht => hs t (List.mem_cons_of_mem _ ht)) hbad'
      simp only [encStrs, hv, if_true]
      refine ⟨ih'.1, ?_⟩
      rw [dec_repStr_one u _ hat hpv acc s h1 hv]
      exact ih'.2
    | false =>
      simp only [encStrs, hv, Bool.false_eq_true, if_false]
      refine ⟨trivial, ?_⟩
      unfold chunk
      apply dec_known_err hat hpv (by omega) (by omega)
      simp only [consumeField, ne_eq, not_true_eq_false, if_false]
      have := consumeBytes_lenDelim s (by omega) []
      rw [List.append_nil] at this
      rw [this]
      simp only [hv, Bool.false_eq_true, if_false]

end

theorem dec_field_bad {S pre post : Schema} {no : Nat} {k : Kind} (hat : At S pre no k post)
    {pv tl : List PVal} (hpv : pv.length = pre.length) (v : PVal) (ht : v.typed k = true)
    (hsm : v.small = true) (hbad : v.ok k = false) (u : Bytes) :
    (encField no k v).2 = true ∧ dec S (encField no k v).1 ⟨pv ++ k.default :: tl, u⟩ = none := by
  by_cases hs : k = .str
  · subst hs
    cases v <;> simp only [PVal.typed, Bool.false_eq_true] at ht
    rename_i s
    simp only [PVal.ok] at hbad
    simp only [PVal.small, decide_eq_true_eq] at hsm
    have hne : s ≠ [] := by
      intro h; subst h
      have : validUTF8 [] = true := rfl
      rw [this] at hbad; cases hbad
    simp only [encField, hne, if_false, hbad, Bool.not_false]
    exact ⟨trivial, dec_str_bad u hat hpv _ s hbad hsm⟩
  · by_cases hr : k = .repStr
    · subst hr
      cases v <;> simp only [PVal.typed, Bool.false_eq_true] at ht
      rename_i l
      simp only [PVal.ok] at hbad
      simp only [PVal.small, List.all_eq_true, decide_eq_true_eq] at hsm
      simp only [encField]
      exact dec_repStr_bad (tl := tl) u hat hpv l [] hsm hbad
    · have := ok_of_typed_not_str ht hs hr
      rw [this] at hbad; cases hbad

theorem dec_marshal_bad (S : Schema) (hS : schemaOk S = true) : ∀ (sch pre : Schema) (vs pv : List PVal),
    S = pre ++ sch → pv.length = pre.length → typedVals sch vs = true → wfVals sch vs = false → ∀ (u : Bytes),
    (marshal sch vs).2 = true ∧ dec S (marshal sch vs).1 ⟨pv ++ defaults sch, u⟩ = none := by
  intro sch
  induction sch with
  | nil =>
    intro pre vs pv _ _ ht hwf u
    cases vs with
    | nil => simp [wfVals] at hwf
    | cons _ _ => simp [typedVals] at ht
  | cons e sch ih =>
    intro pre vs pv hSeq hpv ht hwf u
    obtain ⟨no, k⟩ := e
    cases vs with
    | nil => simp [typedVals] at ht
    | cons v vs =>
      simp only [typedVals, Bool.and_eq_true] at ht
      obtain ⟨⟨htv, hsm⟩, ht'⟩ := ht
      have hat := schemaOk_at hS hSeq
      have hd : defaults ((no, k) :: sch) = k.default :: defaults sch := rfl
      cases hok : v.ok k with
      | true =>
        have hwf' : wfVals sch vs = false := by
          simp only [wfVals, hok, hsm, Bool.true_and] at hwf; exact hwf
        have hf := dec_field hat (tl := defaults sch) hpv v hok hsm u
        have hS' : S = (pre ++ [(no, k)]) ++ sch := by rw [hSeq]; simp
        have ih' := ih (pre ++ [(no, k)]) vs (pv ++ [v]) hS' (by simp [hpv]) ht' hwf' u
        simp only [marshal, (hf []).1, Bool.false_eq_true, if_false]
        refine ⟨ih'.1, ?_⟩
        rw [hd, (hf _).2]
        have e1 : pv ++ v :: defaults sch = (pv ++ [v]) ++ defaults sch := by simp
        rw [e1]
        exact ih'.2
      | false =>
        have hb := dec_field_bad hat (tl := defaults sch) hpv v htv hsm hok u
        simp only [marshal, hb.1, if_true]
        rw [hd]
        exact ⟨trivial, hb.2⟩

theorem unmarshal_marshal_bad {sch : Schema} (hS : schemaOk sch = true) {vs : List PVal}
    (ht : typedVals sch vs = true) (hwf : wfVals sch vs = false) :
    (marshal sch vs).2 = true ∧ unmarshal sch (marshal sch vs).1 = none := by
  have := dec_marshal_bad sch hS sch [] vs [] rfl rfl ht hwf []
  simp only [List.nil_append] at this
  exact ⟨this.1, by rw [unmarshal_eq_dec]; exact this.2⟩

theorem typed_of_ok {k : Kind} {v : PVal} (h : v.ok k = true) : v.typed k = true := by
  cases k <;> cases v <;> first | rfl | exact h | cases h

theorem wf_typed : ∀ (sch : Schema) (vs : List PVal), wfVals sch vs = true → typedVals sch vs = true := by
  intro sch
  induction sch with
  | nil => intro vs h; cases vs <;> simp_all [wfVals, typedVals]
  | cons e sch ih =>
    intro vs h
    obtain ⟨no, k⟩ := e
    cases vs with
    | nil => simp [wfVals] at h
    | cons v vs =>
      simp only [wfVals, Bool.and_eq_true] at h
      simp only [typedVals, Bool.and_eq_true]
      exact ⟨⟨typed_of_ok h.1.1, h.1.2⟩, ih vs h.2⟩

end NodisVerif.Proofs.ProtoWire

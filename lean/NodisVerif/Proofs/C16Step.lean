import NodisVerif.Proofs.C08Queues
import NodisVerif.Proofs.C16Wire
/-
  C16 — one reply per command, made of tokens a strict reader reads back, at the level of `step` /
  `run`, for an arbitrary handler table that satisfies `TableOneReply` resp. `TableWire`; the EXEC
  array on the wire.
-/
namespace NodisVerif.Proofs.C08Step
open Resp Server
open NodisVerif.Proofs.C16Handlers (OneReply oneValue_scalar oneValue_arr_nonpos oneValue_arr_flatten isScalar)
open NodisVerif.Proofs.C16Parse
open NodisVerif.Spec.RespReply

/-- the `replyOf` of this namespace (C08Ops.lean) and the one `OneReply` / `WfOut` are written with
    (C16Handlers.lean) are one function, defined twice -/
theorem replyOf_eq (o : BodyOut) : replyOf o = NodisVerif.Proofs.C16Handlers.replyOf o := rfl

/-- well-formedness of a handler table for C16: whatever a handler does — reply by itself, or hand
    a closure to `execCommand` which then runs on ANY store, clock and choice, possibly panicking —
    exactly one RESP value is written -/
def TableOneReply (H : Table) : Prop := ∀ name args r, H name args = some r → OneReply r

/-- the closure writes exactly one RESP value (the recovery error token of a panic included) -/
def OneBody (b : Body) : Prop := ∀ st now ch, oneValue (replyOf (b st now ch)) = true

/-- the connection layer's own replies have the property, and so has the EXEC array made of replies
    that have it (`*0`, EXEC's reply on an empty queue, is the array of none) -/
structure ReplyProp (P : List Tok → Prop) : Prop where
  err : ∀ k, P [Tok.err k]
  ok : P [okTok]
  queued : P [queuedTok]
  nullBulk : P [Tok.nullBulk]
  arr : ∀ rs : List (List Tok), (∀ r ∈ rs, P r) → P (Tok.arr rs.length :: rs.flatten)

def BodyAll (P : List Tok → Prop) (b : Body) : Prop := ∀ st now ch, P (replyOf (b st now ch))

theorem execOuts_all {P : List Tok → Prop} (now : Int) : ∀ (bs : List Body) (st : MState), (∀ b ∈ bs, BodyAll P b) →
    ∀ v ∈ (execOuts st now bs).map replyOf, P v := by
  intro bs
  induction bs with
  | nil => intro st _ v hv; simp [execOuts] at hv
  | cons b rest ih =>
    intro st hb v hv
    simp only [execOuts, List.map_cons, List.mem_cons] at hv
    rcases hv with hv | hv
    · rw [hv]; exact hb b (by simp) _ _ _
    · exact ih _ (fun b' hb' => hb b' (by simp [hb'])) v hv

section
variable {P : List Tok → Prop} (hP : ReplyProp P)
include hP

theorem okBody_all : BodyAll P okBody := fun _ _ _ => hP.ok

theorem execCommand_all (sv : Server) (id : String) (now : Int) (ch : Choice) (b : Body) (hb : BodyAll P b) :
    P (execCommand sv id now ch b).2 := by
  rw [execCommand_eq]; split
  · rw [runBody_toks]; exact hb _ _ _
  · exact hP.queued

omit hP in
/-- the reply of a conditional step, from both branches (the second knows that the test failed) -/
theorem snd_ite {c : Prop} [Decidable c] {x y : Server × List Tok} (hx : P x.2) (hy : ¬ c → P y.2) :
    P (if c then x else y).2 := by
  split
  · exact hx
  · exact hy ‹_›

/-- a command that goes through the handler table, whatever the queues hold -/
theorem table_all {H : Table} (hd : ∀ name args ts, H name args = some (.direct ts) → P ts)
    (he : ∀ name args b, H name args = some (.exec b) → BodyAll P b)
    (sv : Server) (c : Cmd) (hsp : ¬ special c.name) : P (step H sv c).2 := by
  show P (dispatch H sv c).2
  rw [dispatch_table H sv c hsp]
  cases hH' : H c.name c.args with
  | none => exact hP.err 0
  | some r =>
    cases r with
    | direct ts => exact hd _ _ _ hH'
    | crash => exact hP.err 0
    | exec b => exact execCommand_all hP _ _ _ _ _ (he _ _ b hH')

/-- EVERY command — known or unknown, any arguments, inside or outside MULTI, EXEC included — is
    answered by a reply that has the property, if the replies of the table's handlers have it -/
theorem step_all {H : Table} (hd : ∀ name args ts, H name args = some (.direct ts) → P ts)
    (he : ∀ name args b, H name args = some (.exec b) → BodyAll P b)
    {sv : Server} (hq : QueuesSat (BodyAll P) sv) (c : Cmd) : P (step H sv c).2 := by
  show P (dispatch H sv c).2
  by_cases h2 : c.name = "EXEC"
  · rw [dispatch_exec H sv c h2]
    by_cases hr : execRuns (sv.conn c.id)
    · rw [(exec_runs sv c.id c.now hr.1 hr.2.1 hr.2.2.1 hr.2.2.2).2, List.flatMap_def]
      have hl : ((execOuts sv.store c.now (sv.conn c.id).queue).map replyOf).length = (sv.conn c.id).queue.length := by
        simp [execOuts_length]
      rw [← hl]
      exact hP.arr _ (execOuts_all c.now _ sv.store (hq c.id))
    · rw [exec_eq]
      refine snd_ite (hP.err 0) fun h1 => snd_ite (hP.err 2) fun h2' => snd_ite hP.nullBulk fun h3 =>
        snd_ite (hP.arr [] nofun) fun h4 => ?_
      exact absurd ⟨by simpa using h1, h2', by simpa using h4, by simpa using h3⟩ hr
  by_cases h1 : c.name = "MULTI"
  · rw [dispatch_multi H sv c h1, multi_eq]
    exact snd_ite (hP.err 0) fun _ => hP.ok
  by_cases h3 : c.name = "DISCARD"
  · rw [dispatch_discard H sv c h3, discard_eq]; exact hP.ok
  by_cases h4 : c.name = "WATCH"
  · rw [dispatch_watch H sv c h4, watch_eq]
    exact snd_ite (hP.err 0) fun _ => snd_ite (hP.err 0) fun _ => hP.ok
  by_cases h5 : c.name = "UNWATCH"
  · rw [dispatch_unwatch H sv c h5]; exact execCommand_all hP _ _ _ _ _ (okBody_all hP)
  exact table_all hP hd he sv c (by unfold special; rintro (e | e | e | e | e) <;> contradiction)

theorem run_all {H : Table} (hd : ∀ name args ts, H name args = some (.direct ts) → P ts)
    (he : ∀ name args b, H name args = some (.exec b) → BodyAll P b) :
    ∀ (cs : List Cmd) {sv : Server}, QueuesSat (BodyAll P) sv → ∀ r ∈ (run H sv cs).2, P r := by
  intro cs; induction cs with
  | nil => intro sv _ r hr; simp [run] at hr
  | cons c rest ih =>
    intro sv hq r hr
    simp only [run, List.mem_cons] at hr
    rcases hr with hr | hr
    · rw [hr]; exact step_all hP hd he hq c
    · exact ih (hq.step (okBody_all hP) he c) r hr

end

theorem oneValue_replyProp : ReplyProp fun ts => oneValue ts = true :=
  ⟨fun _ => oneValue_scalar _ rfl, oneValue_scalar _ rfl, oneValue_scalar _ rfl, oneValue_scalar _ rfl,
   oneValue_arr_flatten⟩

theorem okBody_one : OneBody okBody := okBody_all oneValue_replyProp

theorem oneValue_queued : oneValue [queuedTok] = true := oneValue_replyProp.queued
theorem oneValue_err (k : Nat) : oneValue [Tok.err k] = true := oneValue_replyProp.err k
theorem TableOneReply.exec {H : Table} (h : TableOneReply H) (name : String) (args : List Bytes) (b : Body)
    (hb : H name args = some (.exec b)) : OneBody b := by
  intro st now ch
  rw [replyOf_eq]
  exact h name args _ hb st now ch

theorem execOuts_one (now : Int) (bs : List Body) (st : MState) (h : ∀ b ∈ bs, OneBody b) :
    ∀ v ∈ (execOuts st now bs).map replyOf, oneValue v = true :=
  execOuts_all now bs st h

theorem step_one_reply {H : Table} (hH : TableOneReply H) {sv : Server} (hq : QueuesSat OneBody sv) (c : Cmd) :
    oneValue (step H sv c).2 = true :=
  step_all oneValue_replyProp (fun n a _ h => hH n a _ h) hH.exec hq c

theorem run_one_reply {H : Table} (hH : TableOneReply H) (cs : List Cmd) {sv : Server} (hq : QueuesSat OneBody sv) :
    ∀ r ∈ (run H sv cs).2, oneValue r = true :=
  run_all oneValue_replyProp (fun n a _ h => hH n a _ h) hH.exec cs hq

theorem wireOK_replyProp : ReplyProp WireOK :=
  ⟨wireOK_err, wireOK_ok, wireOK_queued, wireOK_nullBulk,
   fun rs h => (wireOK_cons _ _).2 ⟨tokOK_arr _ (by omega), wireOK_flatten rs h⟩⟩

theorem TableWire.exec {H : Table} (h : TableWire H) (name : String) (args : List Bytes) (b : Body)
    (hb : H name args = some (.exec b)) : WireBody b := h name args _ hb

theorem run_wire {H : Table} (hH : TableWire H) (cs : List Cmd) {sv : Server} (hq : QueuesSat WireBody sv) :
    ∀ r ∈ (run H sv cs).2, WireOK r :=
  run_all wireOK_replyProp (fun n a _ h => hH n a _ h) hH.exec cs hq

theorem seqN_parseFuel_renderAll (F : Nat) : ∀ (rs : List (List Tok)) (vs : List Value) (rest : Bytes),
    (∀ r ∈ rs, oneValue r = true ∧ ArrOK r ∧ LinesOK r) → rs.map toValue = vs.map some →
    (rs.flatMap renderAll ++ rest).length + 1 ≤ F →
    seqN (parseFuel F) rs.length (rs.flatMap renderAll ++ rest) = some (vs, rest) :=
  seqN_flatMap (parseFuel F) renderAll toValue (fun r => oneValue r = true ∧ ArrOK r ∧ LinesOK r)
    (fun bs => bs.length + 1 ≤ F) (fun a b h => by rw [List.length_append] at h; omega)
    (fun r v rest hr hv hF => parseFuel_le _ F hF _ _ (render_parse_roundtrip r rest hr.2.1 hr.2.2 v hv))

theorem parse_array_of_values (rs : List (List Tok)) (vs : List Value) (rest : Bytes)
    (hok : ∀ r ∈ rs, oneValue r = true ∧ ArrOK r ∧ LinesOK r) (hvs : rs.map toValue = vs.map some) :
    parseReply (renderAll (Tok.arr rs.length :: rs.flatten) ++ rest) = some (.array vs, rest) := by
  rw [renderAll_cons, renderAll_flatten rs]
  unfold parseReply
  simp only [render, crlf, List.cons_append, List.append_assoc, List.nil_append, List.length_cons]
  rw [parseFuel_succ_cons, body_array _ _ (by omega), Int.toNat_natCast]
  rw [seqN_parseFuel_renderAll _ rs vs rest hok hvs (by simp only [List.length_append, List.length_cons]; omega)]

end NodisVerif.Proofs.C08Step

import NodisVerif.Proofs.GoLibLemmas
import NodisVerif.Proofs.C04Cursor
import NodisVerif.Proofs.C04Rem
/-
  ZRANGE / ZREVRANGE (`forEachByRank`): the model's window in closed form; ZCOUNT, which walks the
  whole chain through it.
-/
namespace NodisVerif.Proofs.C04
open AListLemmas ZSetLemmas DsZSet

/-- `forEachByRank` after the normalisation of `start` / `stop` -/
def ferCore (z : ZSet) (s e : Int) (desc : Bool) : Option (List Item) :=
  let node : Option Cursor :=
    if desc then
      if s > 1 then getByRank z.sl (zCard z - s)
      else (if z.sl.isEmpty then none else cursorAt z.sl (z.sl.length - 1))
    else
      if s > 1 then getByRank z.sl s
      else cursorAt z.sl 0
  if wrap64 (e - s) < 0 then some [] else walk desc node ((wrap64 (e - s)).toNat + 1) []

/-- `stop` with a negative value replaced by the 1-based rank it denotes -/
def stop1 (size stop : Int) : Int := if stop < 0 then size + stop + 1 else stop
def start1 (start : Int) : Int := if start = 0 then 1 else start

theorem start1_of_ne {start : Int} (h : start ≠ 0) : start1 start = start := if_neg h

theorem start1_of_nonneg {start : Int} (h : 0 ≤ start) :
    1 ≤ start1 start ∧ (start1 start = start ∨ (start = 0 ∧ start1 start = 1)) := by
  unfold start1
  split <;> omega

theorem stop1_of_neg {stop : Int} (size : Int) (h : stop < 0) : stop1 size stop = size + stop + 1 := if_pos h

theorem stop1_of_nonneg {stop : Int} (size : Int) (h : 0 ≤ stop) : stop1 size stop = stop :=
  if_neg (Int.not_lt.mpr h)

theorem forEachByRank_core (z : ZSet) (start stop : Int) (desc : Bool) :
    forEachByRank z start stop desc =
      if start > zCard z then some [] else
      if stop1 (zCard z) stop < start1 start then some [] else
      ferCore z (if start1 start < 0 then zCard z + start1 start else start1 start)
        (if stop1 (zCard z) stop > zCard z then zCard z else stop1 (zCard z) stop) desc := rfl

/-- what the walk of `forEachByRank` sees from its start node -/
def nodeStream (sl : List Item) (s : Int) (desc : Bool) : List Item :=
  if desc then
    if s > 1 then
      (if (sl.length : Int) - s < 0 then []
       else if (sl.length : Int) - s = 0 then [headerItem]
       else (sl.take ((sl.length : Int) - s).toNat).reverse)
    else sl.reverse
  else sl.drop (s.toNat - 1)

theorem ferCore_eq (z : ZSet) (hlen : z.sl.length = z.dict.length) (s e : Int) (desc : Bool) :
    ferCore z s e desc =
      if wrap64 (e - s) < 0 then some [] else
      if (wrap64 (e - s)).toNat + 1 ≤ (nodeStream z.sl s desc).length
      then some ((nodeStream z.sl s desc).take ((wrap64 (e - s)).toNat + 1)) else none := by
  have hc := zCard_eq hlen
  unfold ferCore
  simp only
  by_cases hw : wrap64 (e - s) < 0
  · rw [if_pos hw, if_pos hw]
  · rw [if_neg hw, if_neg hw, walk_eq]
    simp only [List.reverse_nil, List.nil_append]
    have hS : ostream desc (if desc = true then
          if s > 1 then getByRank z.sl (zCard z - s)
          else (if z.sl.isEmpty = true then none else cursorAt z.sl (z.sl.length - 1))
        else if s > 1 then getByRank z.sl s else cursorAt z.sl 0) = nodeStream z.sl s desc := by
      unfold nodeStream
      rw [hc]
      cases desc with
      | false =>
        simp only [Bool.false_eq_true, if_false]
        by_cases hs : s > 1
        · rw [if_pos hs]
          unfold getByRank
          have h1 : ¬ s < 0 := by omega
          have h2 : ¬ s = 0 := by omega
          rw [if_neg h1, if_neg h2, ostream_cursorAt_asc]
        · rw [if_neg hs, ostream_cursorAt_asc]
          have : s.toNat - 1 = 0 := by omega
          rw [this]
      | true =>
        simp only [if_true]
        by_cases hs : s > 1
        · rw [if_pos hs, if_pos hs]
          unfold getByRank
          by_cases h1 : (z.sl.length : Int) - s < 0
          · rw [if_pos h1, if_pos h1]; rfl
          · rw [if_neg h1, if_neg h1]
            by_cases h2 : (z.sl.length : Int) - s = 0
            · rw [if_pos h2, if_pos h2]; rfl
            · rw [if_neg h2, if_neg h2, ostream_cursorAt_desc]
              have h3 : ((z.sl.length : Int) - s).toNat - 1 < z.sl.length := by omega
              have h4 : ((z.sl.length : Int) - s).toNat - 1 + 1 = ((z.sl.length : Int) - s).toNat := by
                omega
              rw [if_pos h3, h4]
        · rw [if_neg hs, if_neg hs]
          by_cases he : z.sl = []
          · simp [he, ostream]
          · have hne : z.sl.isEmpty = false := by simpa using he
            have hpos : 0 < z.sl.length := List.length_pos_iff.mpr he
            simp only [hne, Bool.false_eq_true, if_false]
            rw [ostream_cursorAt_desc]
            have h3 : z.sl.length - 1 < z.sl.length := by omega
            have h4 : z.sl.length - 1 + 1 = z.sl.length := by omega
            rw [if_pos h3, h4, List.take_length]
    rw [hS]

/-! The closed forms below all go the same way: `forEachByRank_core` leaves `ferCore` on a window
  `s .. e` whose width fits an int64, `ferCore_window` reads it as a prefix of `nodeStream`,
  and `slice_window` reads the reference slice as a `drop`/`take` of the same shape. The integer
  side conditions are kept in lemmas over few variables: `omega` is fast there and slow in the
  context of a whole case analysis. -/

theorem clamp_eq_min (e n : Int) : (if e > n then n else e) = min e n := by
  rw [Int.min_def]
  split <;> split <;> omega

theorem ferCore_window (z : ZSet) (hlen : z.sl.length = z.dict.length) (s e : Int) (desc : Bool)
    (h1 : -(2 ^ 63) ≤ e - s) (h2 : e - s < 2 ^ 63) :
    ferCore z s e desc =
      if e < s then some [] else
      if (e - s).toNat + 1 ≤ (nodeStream z.sl s desc).length
      then some ((nodeStream z.sl s desc).take ((e - s).toNat + 1)) else none := by
  rw [ferCore_eq z hlen, wrap64_id (x := e - s) ⟨by omega, by omega⟩]
  by_cases h : e < s
  · rw [if_pos h, if_pos (by omega)]
  · rw [if_neg h, if_neg (by omega)]

theorem nodeStream_desc_top (sl : List Item) (s : Int) (h : s ≤ 1) : nodeStream sl s true = sl.reverse := by
  unfold nodeStream
  rw [if_pos rfl, if_neg (by omega)]

theorem nodeStream_desc_mid (sl : List Item) (s : Int) (h1 : 1 < s) (h2 : s < sl.length) :
    nodeStream sl s true = sl.reverse.drop s.toNat := by
  unfold nodeStream
  rw [if_pos rfl, if_pos h1, if_neg (by omega), if_neg (by omega), List.reverse_take]
  congr 1
  omega

theorem nodeStream_desc_header (sl : List Item) (s : Int) (h1 : 1 < s) (h2 : s = sl.length) :
    nodeStream sl s true = [headerItem] := by
  unfold nodeStream
  rw [if_pos rfl, if_pos h1, if_neg (by omega), if_pos (by omega)]

/-- ascending windows with `start ≥ 0`: the model reads `start`/`stop` as 1-based ranks, 0 is an
    alias of 1, a negative `stop` is converted to the 1-based rank it denotes -/
theorem zrange_closed {z : ZSet} (hlen : z.sl.length = z.dict.length) (hsize : z.dict.length < 2 ^ 63)
    (start stop : Int) (h0 : 0 ≤ start) :
    forEachByRank z start stop false =
      some (if stop1 z.sl.length stop < start1 start then []
            else Spec.ZSet.slice z.sl (start1 start - 1) (stop1 z.sl.length stop - 1)) := by
  have hc := zCard_eq hlen
  have hn : (z.sl.length : Int) < 2 ^ 63 := by rw [hlen]; exact_mod_cast hsize
  rw [forEachByRank_core, hc, clamp_eq_min]
  obtain ⟨ha1, ha2⟩ := start1_of_nonneg h0
  generalize start1 start = a at ha1 ha2 ⊢
  generalize stop1 (z.sl.length) stop = e
  clear hc hsize
  by_cases hgt : start > (z.sl.length : Int)
  · rw [if_pos hgt]
    congr 1
    split
    · rfl
    · rw [slice_start_ge _ _ _ (by omega)]
  · rw [if_neg hgt]
    by_cases hea : e < a
    · rw [if_pos hea, if_pos hea]
    · rw [if_neg hea, if_neg hea, if_neg (show ¬ a < 0 by omega),
        ferCore_window z hlen _ _ _ (by omega) (by omega)]
      by_cases han : a ≤ (z.sl.length : Int)
      · rw [if_neg (by omega), slice_window _ _ _ (by omega) (by omega) (by omega)]
        unfold nodeStream
        simp only [Bool.false_eq_true, if_false, List.length_drop]
        rw [if_pos (by omega)]
        congr 3 <;> omega
      · -- only the empty set with `start = 0`
        rw [if_pos (by omega), slice_start_ge _ _ _ (by omega)]

/-- descending windows with `start ≥ 0` (`a` = start with 0 aliased to 1, `e` = stop with a
    negative value converted to a 1-based rank):
    * `a = 1`: the first `e` items from the top (0-based positions 0 .. e−1);
    * `a = card`: the *header node* of the skiplist — score 0, empty member — is returned;
    * `1 < a < card`, `e ≥ card`: the walk runs off the low end of the chain — nil dereference;
    * `1 < a < card`, `e < card`: 0-based positions a .. e of the descending list. -/
theorem zrevrange_closed {z : ZSet} (hlen : z.sl.length = z.dict.length)
    (hsize : z.dict.length < 2 ^ 63) (start stop : Int) (h0 : 0 ≤ start) :
    forEachByRank z start stop true =
      if start > (z.sl.length : Int) ∨ stop1 z.sl.length stop < start1 start then some []
      else if start1 start = 1 then some (Spec.ZSet.slice z.sl.reverse 0 (stop1 z.sl.length stop - 1))
      else if start1 start = (z.sl.length : Int) then some [headerItem]
      else if stop1 z.sl.length stop ≥ (z.sl.length : Int) then none
      else some (Spec.ZSet.slice z.sl.reverse (start1 start) (stop1 z.sl.length stop)) := by
  have hc := zCard_eq hlen
  have hn : (z.sl.length : Int) < 2 ^ 63 := by rw [hlen]; exact_mod_cast hsize
  rw [forEachByRank_core, hc, clamp_eq_min]
  obtain ⟨ha1, ha2⟩ := start1_of_nonneg h0
  generalize start1 start = a at ha1 ha2 ⊢
  generalize stop1 (z.sl.length) stop = e
  clear hc hsize
  by_cases hgt : start > (z.sl.length : Int)
  · rw [if_pos hgt, if_pos (Or.inl hgt)]
  · rw [if_neg hgt]
    by_cases hea : e < a
    · rw [if_pos hea, if_pos (Or.inr hea)]
    · rw [if_neg hea, if_neg (show ¬ (start > (z.sl.length : Int) ∨ e < a) by omega),
        if_neg (show ¬ a < 0 by omega), ferCore_window z hlen _ _ _ (by omega) (by omega)]
      by_cases ha : a = 1
      · subst ha
        clear ha2 hgt h0 hn
        rw [if_pos rfl, nodeStream_desc_top _ _ (Int.le_refl 1), List.length_reverse]
        by_cases hz : (z.sl.length : Int) = 0
        · rw [if_pos (by omega), slice_start_ge _ _ _ (by rw [List.length_reverse]; omega)]
        · rw [if_neg (by omega), if_pos (by omega),
            slice_window _ _ _ (Int.le_refl 0) (by omega) (by rw [List.length_reverse]; omega),
            List.length_reverse]
          simp only [Int.toNat_zero, List.drop_zero]
          congr 2
          omega
      · have hale : a ≤ (z.sl.length : Int) := by omega
        clear ha2 hgt h0 hn
        rw [if_neg ha, if_neg (by omega)]
        by_cases han : a = (z.sl.length : Int)
        · rw [if_pos han, nodeStream_desc_header _ _ (by omega) han,
            if_pos (by simp only [List.length_singleton]; omega)]
          have : (min e (z.sl.length : Int) - a).toNat + 1 = 1 := by omega
          rw [this]
          rfl
        · rw [if_neg han, nodeStream_desc_mid _ _ (by omega) (by omega)]
          simp only [List.length_drop, List.length_reverse]
          by_cases hen : e ≥ (z.sl.length : Int)
          · rw [if_pos hen, if_neg (by omega)]
          · rw [if_neg hen, if_pos (by omega),
              slice_window _ _ _ (by omega) (by omega) (by rw [List.length_reverse]; omega),
              List.length_reverse]
            congr 2
            omega

/-- ascending windows with a negative `start` (|start| < 2^62): `card + start` is taken as a
    1-based rank — one item more than Redis at the front — and when `card + start ≤ 1` the walk
    starts at the head but still runs `k = min stop' card − (card + start) + 1` steps (`stop'` = `stop1 card stop`):
    beyond `card` steps it dereferences nil -/
theorem zrange_closed_neg {z : ZSet} (hlen : z.sl.length = z.dict.length)
    (hsize : z.dict.length < 2 ^ 63) (start stop : Int) (h0 : start < 0) (hb : -(2 ^ 62) ≤ start) :
    forEachByRank z start stop false =
      if stop1 z.sl.length stop < start then some [] else
      let s : Int := z.sl.length + start
      let k : Int := min (stop1 z.sl.length stop) z.sl.length - s + 1
      if k ≤ 0 then some []
      else if k ≤ (z.sl.length : Int) - ((s.toNat - 1 : Nat) : Int)
        then some ((z.sl.drop (s.toNat - 1)).take k.toNat)
      else none := by
  have hc := zCard_eq hlen
  have hn : (z.sl.length : Int) < 2 ^ 63 := by rw [hlen]; exact_mod_cast hsize
  have ha : start1 start = start := by unfold start1; rw [if_neg (by omega)]
  rw [forEachByRank_core, hc, clamp_eq_min, ha, if_neg (show ¬ start > (z.sl.length : Int) by omega)]
  generalize stop1 (z.sl.length) stop = e
  by_cases hea : e < start
  · rw [if_pos hea, if_pos hea]
  · rw [if_neg hea, if_neg hea, if_pos h0, ferCore_window z hlen _ _ _ (by omega) (by omega)]
    unfold nodeStream
    simp only [Bool.false_eq_true, if_false, List.length_drop]
    -- what is left compares two ways of writing the same window of width `m - s + 1`
    generalize (z.sl.length : Int) + start = s
    generalize min e (z.sl.length : Int) = m
    clear hea hn hc ha hb h0
    by_cases h1 : m < s
    · rw [if_pos h1, if_pos (show m - s + 1 ≤ 0 by omega)]
    · have e1 : (m - s).toNat + 1 = (m - s + 1).toNat := by omega
      have e2 : (m - s + 1).toNat ≤ z.sl.length - (s.toNat - 1)
          ↔ m - s + 1 ≤ (z.sl.length : Int) - ((s.toNat - 1 : Nat) : Int) := by omega
      rw [if_neg h1, if_neg (show ¬ m - s + 1 ≤ 0 by omega), e1]
      simp only [e2]

/-- "the last k members" with k ≥ card: ZRANGE key -k -1 dereferences nil (Redis: all members) -/
theorem zrange_last_k_panics {z : ZSet} (hlen : z.sl.length = z.dict.length)
    (hsize : z.dict.length < 2 ^ 63) (start : Int) (hpos : 0 < z.sl.length)
    (h1 : start ≤ -(z.sl.length : Int)) (hb : -(2 ^ 62) ≤ start) :
    forEachByRank z start (-1) false = none := by
  rw [zrange_closed_neg hlen hsize start (-1) (by omega) hb, stop1_of_neg _ (by omega),
    if_neg (show ¬ (z.sl.length : Int) + -1 + 1 < start by omega)]
  simp only
  rw [show (z.sl.length : Int) + -1 + 1 = z.sl.length by omega, if_neg (by omega), if_neg (by omega)]

/-- the (start, stop, card) region on which the model's 1-based window coincides with Redis'
    0-based inclusive range -/
def RankRegion (start stop n : Int) : Prop :=
  (start = 0 ∧ (stop < 0 ∨ stop ≥ n)) ∨ start > n ∨ (1 ≤ start ∧ 0 ≤ stop ∧ stop < start) ∨
  (1 ≤ start ∧ stop < 0 ∧ n + stop + 1 < start)

instance (start stop n : Int) : Decidable (RankRegion start stop n) := by
  unfold RankRegion; infer_instance

/-- model window = reference slice, for any list standing for the walk order (used for both
    directions) -/
theorem window_region (l : List Item) (start stop : Int) (h : RankRegion start stop l.length) :
    (if stop1 l.length stop < start1 start then []
      else Spec.ZSet.slice l (start1 start - 1) (stop1 l.length stop - 1))
      = Spec.ZSet.slice l start stop := by
  rcases h with ⟨h0, hstop⟩ | hgt | ⟨h1, h2, h3⟩ | ⟨h1, h2, h3⟩
  · -- `start = 0`: both sides start at the head; the stops normalise alike
    subst h0
    rw [show start1 0 = 1 from rfl]
    rcases hstop with hneg | hge
    · rw [stop1_of_neg _ hneg]
      by_cases he : (l.length : Int) + stop + 1 < 1
      · rw [if_pos he]
        symm
        apply slice_empty
        left
        rw [normStart_of_nonneg _ _ (Int.le_refl 0), normStop_of_neg _ _ hneg]
        omega
      · rw [if_neg he]
        apply slice_congr _ _ _ _ _ rfl
        rw [normStop_of_nonneg _ _ (by omega), normStop_of_neg _ _ hneg]
        omega
    · rw [stop1_of_nonneg _ (by omega)]
      by_cases he : stop < 1
      · rw [if_pos he, slice_start_ge _ _ _ (by omega)]
      · rw [if_neg he]
        apply slice_congr _ _ _ _ _ rfl
        rw [normStop_of_nonneg _ _ (by omega), normStop_of_nonneg _ _ (by omega)]
        omega
  · rw [start1_of_ne (by omega), slice_start_ge l start stop (by omega)]
    split
    · rfl
    · exact slice_start_ge _ _ _ (by omega)
  · rw [start1_of_ne (by omega), stop1_of_nonneg _ h2, if_pos h3]
    symm
    apply slice_empty
    left
    rw [normStart_of_nonneg _ _ (by omega), normStop_of_nonneg _ _ h2]
    omega
  · rw [start1_of_ne (by omega), stop1_of_neg _ h2, if_pos h3]
    symm
    apply slice_empty
    left
    rw [normStart_of_nonneg _ _ (by omega), normStop_of_neg _ _ h2]
    omega

theorem zrange_region {z : ZSet} (hlen : z.sl.length = z.dict.length) (hsize : z.dict.length < 2 ^ 63)
    (start stop : Int) (h : RankRegion start stop z.sl.length) :
    forEachByRank z start stop false = some (Spec.ZSet.slice z.sl start stop) := by
  have h0 : 0 ≤ start := by
    rcases h with ⟨h0, _⟩ | hgt | ⟨h1, _⟩ | ⟨h1, _⟩ <;> omega
  rw [zrange_closed hlen hsize start stop h0, window_region z.sl start stop h]

/-- the model's own semantics, stated positively: for `1 ≤ start ≤ stop` ZRANGE returns the items
    of 1-based ranks start..stop, i.e. Redis' `ZRANGE (start−1) (stop−1)` -/
theorem zrange_one_based {z : ZSet} (hlen : z.sl.length = z.dict.length)
    (hsize : z.dict.length < 2 ^ 63) (start stop : Int) (h1 : 1 ≤ start) (h2 : start ≤ stop) :
    forEachByRank z start stop false = some (Spec.ZSet.slice z.sl (start - 1) (stop - 1)) := by
  rw [zrange_closed hlen hsize start stop (by omega), start1_of_ne (by omega),
    stop1_of_nonneg _ (by omega), if_neg (by omega)]

/-- region for ZREVRANGE: as for ZRANGE, plus the windows `1 < start ≤ stop < card` where the
    descending walk happens to be 0-based -/
def RevRankRegion (start stop n : Int) : Prop :=
  RankRegion start stop n ∨ (1 < start ∧ start ≤ stop ∧ stop < n)

instance (start stop n : Int) : Decidable (RevRankRegion start stop n) := by
  unfold RevRankRegion; infer_instance

theorem zrevrange_region {z : ZSet} (hlen : z.sl.length = z.dict.length)
    (hsize : z.dict.length < 2 ^ 63) (start stop : Int) (h : RevRankRegion start stop z.sl.length) :
    forEachByRank z start stop true = some (Spec.ZSet.slice z.sl.reverse start stop) := by
  have h0 : 0 ≤ start := by
    rcases h with (⟨h0, _⟩ | hgt | ⟨h1, _⟩ | ⟨h1, _⟩) | ⟨h1, _⟩ <;> omega
  rw [zrevrange_closed hlen hsize start stop h0]
  rcases h with h | ⟨h1, h2, h3⟩
  · have hw := window_region z.sl.reverse start stop (by rw [List.length_reverse]; exact h)
    rw [List.length_reverse] at hw
    rw [← hw]
    by_cases hc1 : start > (z.sl.length : Int) ∨ stop1 z.sl.length stop < start1 start
    · rw [if_pos hc1]
      rcases hc1 with hgt | hlt
      · rw [start1_of_ne (by omega)]
        split
        · rfl
        · rw [slice_start_ge _ _ _ (by rw [List.length_reverse]; omega)]
      · rw [if_pos hlt]
    · rw [if_neg hc1]
      -- inside RankRegion a non-empty model window forces start = 0
      have hs0 : start = 0 := by
        rcases h with ⟨h0, _⟩ | hgt | ⟨h1, h2, h3⟩ | ⟨h1, h2, h3⟩
        · exact h0
        · omega
        · rw [start1_of_ne (by omega), stop1_of_nonneg _ h2] at hc1; omega
        · rw [start1_of_ne (by omega), stop1_of_neg _ h2] at hc1; omega
      subst hs0
      rw [show start1 0 = 1 from rfl] at hc1 ⊢
      rw [if_pos rfl, if_neg (by omega)]
      rfl
  · rw [start1_of_ne (by omega), stop1_of_nonneg _ (by omega), if_neg (by omega), if_neg (by omega),
      if_neg (by omega), if_neg (by omega)]

theorem forEachByRank_all (z : ZSet) (hlen : z.sl.length = z.dict.length)
    (hsize : z.dict.length < 2 ^ 63) : forEachByRank z 0 (zCard z) false = some z.sl := by
  have hc := zCard_eq hlen
  rw [hc, zrange_closed hlen hsize 0 _ (Int.le_refl 0), show start1 0 = 1 from rfl,
    stop1_of_nonneg _ (by omega)]
  by_cases hn : (z.sl.length : Int) < 1
  · have : z.sl = [] := List.eq_nil_of_length_eq_zero (by omega)
    rw [if_pos hn, this]
  · rw [if_neg hn, slice_window _ _ _ (by omega) (by omega) (by omega), show (1 : Int) - 1 = 0 from rfl,
      Int.toNat_zero, List.drop_zero, List.take_of_length_le (by omega)]

theorem zCount_spec {z : ZSet} (h : Inv z) (hsize : z.dict.length < 2 ^ 63) (min max : F64) (mode : Nat) :
    zCount z min max mode = some (Spec.ZSet.count z min max (minOpen mode) (maxOpen mode) : Int) := by
  unfold zCount
  rw [forEachByRank_all z h.sameLen hsize]
  unfold Spec.ZSet.count Spec.ZSet.rangeByScore
  rw [← sl_eq_sorted h]
  simp only [Option.map_some, Option.some.injEq, Int.natCast_inj]
  congr 1
  apply List.filter_congr
  intro a _
  unfold inMin inMax Spec.ZSet.inRange Spec.ZSet.aboveMin Spec.ZSet.belowMax minOpen maxOpen F64.gt F64.ge
  by_cases h1 : mode % 2 = 1 <;> by_cases h2 : mode / 2 % 2 = 1 <;> simp [h1, h2]

end NodisVerif.Proofs.C04

import NodisVerif.Proofs.HandlerShape
/-
  The sorted-set and scan handlers (`Handler3.table3`) in normal form, and the two handlers of `Handler3.fixtures`: a
  SADD and an HSET which the model keeps beside `table3` to fill sets and hashes for the scans.  No dispatch table
  contains `fixtures` (`Main.tables`, `C08Step.allTables`): the SADD and HSET that are served are `Handler2.table2`'s.
-/
namespace NodisVerif.Proofs.HandlerShape
open NodisVerif NodisVerif.Resp NodisVerif.Handler NodisVerif.Handler3

/-- the results of the sorted-set and scan handlers and of the HSET fixture that are not one call and a rendering: the
    range bodies the model names, the closures of ZADD and Z(REV)RANK, and the closures that make two calls.  Where the
    model has no name for a closure it is written out here as in Model/Handler3.lean: `.special (.zStore ..)` etc.
    unify with the handler only while the two texts agree. -/
inductive Special3 : HRes → Prop
  | byScore (key : Bytes) (desc ws : Bool) (min max : F64) (o c mode : Int) : Special3 (byScoreBody key desc ws min max o c mode)
  | byRank (key : Bytes) (desc ws : Bool) (a b : Int) : Special3 (byRankBody key desc ws a b)
  | rank (desc : Bool) (args : List Bytes) : Special3 (.exec (rankBody desc args))
  | zAdd (args : List Bytes) (key : Bytes) (i : Int) : Special3 (.exec (zAddBody args key i))
  | zStore (union : Bool) (dst : Bytes) (keys : List Bytes) (weights : List F64) (agg : Bytes) :
      Special3 (.exec fun s now _ =>
        call (Api.zstore union s now dst keys weights agg) fun s o =>
          match o with
          | .unsupported => done s [unsupported]
          | .hang => done s []
          | _ => call (Api.zcard (Api.commit s) now dst) fun s o => done s [.int (intOf o)])
  | sScan (key : Bytes) (cursor : Int) (pat : Bytes) (count : Int) :
      Special3 (.exec fun s now _ =>
        call (Api.sscan s now key cursor pat count) fun s o =>
          match o with
          | .many [.int next, .slist ks] =>
            nextCursor Api.scard s now key next fun s next => done s ([.arr 2, .bulk (formatInt next)] ++ bulkList ks)
          | _ => done s [])
  | hScan (key : Bytes) (cursor : Int) (pat : Bytes) (count : Int) :
      Special3 (.exec fun s now _ =>
        call (Api.hscan s now key cursor pat count) fun s o =>
          match o with
          | .many [.int next, .bmap kvs] =>
            nextCursor Api.hlen s now key next fun s next =>
              done s ([.arr 2, .bulk (formatInt next), .arr (2 * kvs.length)] ++
                      kvs.flatMap fun (k, v) => [.bulk k, .bulk (v.getD [])])
          | _ => done s [])
  | zScan (key : Bytes) (cursor : Int) (pat : Bytes) (count : Int) :
      Special3 (.exec fun s now _ =>
        call (Api.zscan s now key cursor pat count) fun s o =>
          match o with
          | .many [.int next, .ilist items] =>
            nextCursor Api.zcard s now key next fun s next =>
              let out := writeItems s (.ilist items)
              { out with toks := [.arr 2, .bulk (formatInt next)] ++ out.toks }
          | _ => done s [])
  | hSetFix (key f v : Bytes) (more : List Bytes) :
      Special3 (.exec fun s now _ =>
        call (Api.hset s now key f v) fun s o =>
          if more.isEmpty then done s [.int (intOf o)] else
          let fields : AList Bytes := (pairsOf more).foldl (fun m (k, w) => AList.set m k w) []
          call (Api.hmset (Api.commit s) now key fields) fun s o2 => done s [.int (intOf o + intOf o2)])

theorem shape_zAdd (args : List Bytes) : Shape Special3 (zAdd args) := by
  unfold zAdd
  split
  · exact .err
  · dsimp only
    split
    · exact .err
    · split
      · exact .err
      · exact .special (.zAdd ..)

theorem shape_zCard (args : List Bytes) : Shape Special3 (zCard args) := by
  unfold zCard
  split
  · exact .err
  · exact .call (.zread ..) .int

theorem shape_zRank (args : List Bytes) : Shape Special3 (zRank args) := .ite .err (.special (.rank ..))
theorem shape_zRevRank (args : List Bytes) : Shape Special3 (zRevRank args) := .ite .err (.special (.rank ..))

theorem shape_zScore (args : List Bytes) : Shape Special3 (zScore args) := by
  unfold zScore
  split
  · exact .call (.zread ..) .zscore
  · exact .err

theorem shape_zIncrBy (args : List Bytes) : Shape Special3 (zIncrBy args) := by
  unfold zIncrBy
  split
  · exact .bind fun _ => .call (.zincrby ..) .score
  · exact .err

theorem shape_zRange (args : List Bytes) : Shape Special3 (zRange args) := by
  unfold zRange
  split
  · exact .ite (.bind fun _ => .bind fun _ => .bind fun _ => .bind fun _ => .bind fun _ => .special (.byScore ..))
      (.bind fun _ => .bind fun _ => .special (.byRank ..))
  · exact .err

theorem shape_zRevRange (args : List Bytes) : Shape Special3 (zRevRange args) := by
  unfold zRevRange
  split
  · exact .bind fun _ => .bind fun _ => .special (.byRank ..)
  · exact .err

theorem shape_zRangeByScore (args : List Bytes) : Shape Special3 (zRangeByScore args) := by
  unfold zRangeByScore
  split
  · exact .bind fun _ => .bind fun _ => .bind fun _ => .bind fun _ => .bind fun _ => .special (.byScore ..)
  · exact .err

theorem shape_zRevRangeByScore (args : List Bytes) : Shape Special3 (zRevRangeByScore args) := by
  unfold zRevRangeByScore
  split
  · exact .bind fun _ => .bind fun _ => .bind fun _ => .bind fun _ => .bind fun _ => .special (.byScore ..)
  · exact .err

theorem shape_zCount (args : List Bytes) : Shape Special3 (zCount args) := by
  unfold zCount
  split
  · exact .bind fun _ => .bind fun _ => .bind fun _ => .bind fun _ => .call (.zread ..) .int
  · exact .err

/-- the closures of ZREM / ZREMRANGEBYRANK / ZREMRANGEBYSCORE, on the key that heads the arguments; kept apart from
    `ApiCall` because C09 holds for these three calls only relative to the store -/
inductive ZRemCall : List Bytes → HRes → Prop
  | rem (key : Bytes) (ms : List Bytes) :
      ZRemCall (key :: ms) (.exec fun s now _ => call (Api.zrem s now key ms) fun s o => done s [.int (intOf o)])
  | byRank (key : Bytes) (rest : List Bytes) (a b : Int) :
      ZRemCall (key :: rest) (.exec fun s now _ =>
        call (Api.zremRangeByRank s now key a b) fun s o => done s [.int (intOf o)])
  | byScore (key : Bytes) (rest : List Bytes) (min max : F64) (mode : Int) :
      ZRemCall (key :: rest) (.exec fun s now _ =>
        call (Api.zremRangeByScore s now key min max mode) fun s o => done s [.int (intOf o)])

theorem argP_cons_zero (key : Bytes) (rest : List Bytes) : argP (key :: rest) 0 = .ok key := by
  simp [argP, argAt]

theorem argP_nil (i : Int) : argP [] i = .crash := by
  simp [argP, argAt]

theorem pre_ok_bind {α β : Type} (a : α) (f : α → Pre β) : (Pre.ok a >>= f) = f a := rfl

/-- ZREM: `cmd.Args[0]` is read inside the closure, so without arguments the closure panics (`.panic`); the two range
    forms read it by `argP args 0` before `execCommand`, where the dispatch-level recover catches it (`.crash`) -/
theorem shape_zRem : ∀ args : List Bytes, Shape (ZRemCall args) (zRem args)
  | [] => by unfold zRem; exact .ite .err .panic
  | key :: ms => by unfold zRem; exact .ite .err (.special (.rem key ms))

theorem shape_zRemRangeByRank : ∀ args : List Bytes, Shape (ZRemCall args) (zRemRangeByRank args)
  | [] => by
    unfold zRemRangeByRank
    rw [argP_nil]
    exact .ite .err .crash
  | key :: rest => by
    unfold zRemRangeByRank
    rw [argP_cons_zero, pre_ok_bind]
    exact .ite .err (.bind fun _ => .bind fun _ => .bind fun _ => .bind fun _ => .special (.byRank ..))

theorem shape_zRemRangeByScore : ∀ args : List Bytes, Shape (ZRemCall args) (zRemRangeByScore args)
  | [] => by
    unfold zRemRangeByScore
    rw [argP_nil]
    exact .ite .err .crash
  | key :: rest => by
    unfold zRemRangeByScore
    rw [argP_cons_zero, pre_ok_bind]
    exact .ite .err (.bind fun _ => .bind fun _ => .bind fun _ => .bind fun _ => .bind fun _ => .bind fun _ =>
      .special (.byScore ..))

theorem shape_zStore (union : Bool) (args : List Bytes) : Shape Special3 (zStore union args) := by
  unfold zStore
  refine .ite .err (.bind fun dst => .bind fun a1 => .bind fun numKeys => ?_)
  -- the `do` block hands its continuation to both branches of each conditional: WEIGHTS (two tests), then AGGREGATE
  refine .run_ite .crash (.run_ite (.run_ite ?_ ?_) ?_) <;>
    exact .bind fun weights => .run_ite (.bind fun agg => .special (.zStore ..)) (.bind fun agg => .special (.zStore ..))

/-- ZCLEAR: `cmd.Args[0]` is read inside the closure -/
theorem shape_zClear (args : List Bytes) : Shape Special3 (zClear args) := by
  unfold zClear
  dsimp only
  split
  · exact .err
  · cases args with
    | nil => exact .panic
    | cons key _ => exact .call (.del _) .ok

theorem shape_zExists (args : List Bytes) : Shape Special3 (zExists args) := by
  unfold zExists
  dsimp only
  split
  · exact .err
  · match args with
    | [] => exact .panic
    | [_] => exact .panic
    | key :: member :: _ => exact .call (.zread ..) .isTrue

theorem shape_sScan (args : List Bytes) : Shape Special3 (sScan args) := by
  unfold sScan
  split
  · exact .err
  · exact .bind fun _ => .bind fun _ => .bind fun _ => .bind fun _ => .special (.sScan ..)

theorem shape_hScan (args : List Bytes) : Shape Special3 (hScan args) := by
  unfold hScan
  split
  · exact .err
  · exact .bind fun _ => .bind fun _ => .bind fun _ => .special (.hScan ..)

theorem shape_zScan (args : List Bytes) : Shape Special3 (zScan args) := by
  unfold zScan
  split
  · exact .err
  · exact .bind fun _ => .bind fun _ => .bind fun _ => .bind fun _ => .special (.zScan ..)

theorem shape_sAddFixture (args : List Bytes) : Shape Special3 (sAddFixture args) := by
  unfold sAddFixture
  split
  · exact .call (.sadd ..) .int
  · exact .err

theorem shape_hSetFixture (args : List Bytes) : Shape Special3 (hSetFixture args) := by
  unfold hSetFixture
  split
  · exact .special (.hSetFix ..)
  · exact .err

/-- `Handler3.table3`, walked once; ZREM / ZREMRANGEBYRANK / ZREMRANGEBYSCORE by name (C09 leaves them out) -/
theorem table3_elim {P : String → List Bytes → HRes → Prop}
    (shape : ∀ {name args r}, Shape Special3 r → P name args r)
    (zRem : ∀ args, P "ZREM" args (zRem args))
    (zRemRangeByRank : ∀ args, P "ZREMRANGEBYRANK" args (zRemRangeByRank args))
    (zRemRangeByScore : ∀ args, P "ZREMRANGEBYSCORE" args (zRemRangeByScore args))
    (name : String) (args : List Bytes) (r : HRes) (h : table3 name args = some r) : P name args r := by
  unfold table3 at h
  split at h
  all_goals cases h
  · exact shape (shape_zAdd _)
  · exact shape (shape_zCard _)
  · exact shape (shape_zRank _)
  · exact shape (shape_zRevRank _)
  · exact shape (shape_zScore _)
  · exact shape (shape_zIncrBy _)
  · exact shape (shape_zRange _)
  · exact shape (shape_zRevRange _)
  · exact shape (shape_zRangeByScore _)
  · exact shape (shape_zRevRangeByScore _)
  · exact shape (shape_zCount _)
  · exact zRem _
  · exact zRemRangeByRank _
  · exact zRemRangeByScore _
  · exact shape (shape_zStore _ _)
  · exact shape (shape_zStore _ _)
  · exact shape (shape_zClear _)
  · exact shape (shape_zExists _)
  · exact shape (shape_sScan _)
  · exact shape (shape_hScan _)
  · exact shape (shape_zScan _)

theorem fixtures_shape (name : String) (args : List Bytes) (r : HRes) (h : fixtures name args = some r) : Shape Special3 r := by
  unfold fixtures at h
  split at h
  all_goals cases h
  · exact shape_sAddFixture _
  · exact shape_hSetFixture _

end NodisVerif.Proofs.HandlerShape

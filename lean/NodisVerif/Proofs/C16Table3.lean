import NodisVerif.Proofs.HandlerShape3
import NodisVerif.Proofs.C16Shape
import NodisVerif.Proofs.C16Step
/-
  C16 "exactly one well-formed RESP reply per command", handler level, for the sorted-set / scan
  table `Handler3.table3` and for `Handler3.fixtures`: shape of the API results the handlers match on
  (the dead `| _ =>` branches), the closures of ZADD and Z(REV)RANK, then `table3_wf` / `fixtures_wf` over the
  normal form of the handlers (HandlerShape3.lean): `HandlerShape.Render.wf` and `Special3.wf`.
  The only simple strings are "OK" and "UNSUPPORTED"; scores are written as bulk strings.
  What the table contributes to the server's C16 is at the end of the file, after the examples: `table3_tableOneReply`,
  `table3_wire`.  `Handler3.fixtures` (a SADD and an HSET the model keeps to fill sets and hashes for the scans) is in no
  dispatch table: `fixtures_wf`, `fixtures_tableOneReply`, `fixtures_wire` say the same of it and nothing builds on them.
-/
namespace NodisVerif.Proofs.C16Table3
open NodisVerif NodisVerif.Resp NodisVerif.Handler NodisVerif.Handler3
open NodisVerif.Proofs.C16Handlers
open NodisVerif.Proofs.C08Step hiding replyOf

theorem zread_out (f : ZSet → Out) (dflt : Out) (s : MState) (now : Int) (key : Bytes) :
    (Api.zread f dflt s now key).2 = Out.panic ∨ (Api.zread f dflt s now key).2 = dflt ∨
      ∃ z, (Api.zread f dflt s now key).2 = f z := by
  unfold Api.zread
  generalize Store.readKey s now key = r
  obtain ⟨s', okk⟩ := r
  dsimp only
  split
  · exact Or.inr (Or.inl rfl)
  · split
    · exact Or.inl rfl
    · exact Or.inr (Or.inr ⟨_, rfl⟩)

theorem sread_out (f : AList Unit → Out) (dflt : Out) (s : MState) (now : Int) (key : Bytes) :
    (Api.sread f dflt s now key).2 = Out.panic ∨ (Api.sread f dflt s now key).2 = dflt ∨
      ∃ z, (Api.sread f dflt s now key).2 = f z := by
  unfold Api.sread
  generalize Store.readKey s now key = r
  obtain ⟨s', okk⟩ := r
  dsimp only
  split
  · exact Or.inr (Or.inl rfl)
  · split
    · exact Or.inl rfl
    · exact Or.inr (Or.inr ⟨_, rfl⟩)

theorem hread_out (f : AList Bytes → Out) (dflt : Out) (s : MState) (now : Int) (key : Bytes) :
    (Api.hread f dflt s now key).2 = Out.panic ∨ (Api.hread f dflt s now key).2 = dflt ∨
      ∃ z, (Api.hread f dflt s now key).2 = f z := by
  unfold Api.hread
  generalize Store.readKey s now key = r
  obtain ⟨s', okk⟩ := r
  dsimp only
  split
  · exact Or.inr (Or.inl rfl)
  · split
    · exact Or.inl rfl
    · exact Or.inr (Or.inr ⟨_, rfl⟩)

/-- an API result whose item list (if it is one) has no nil element: the `none :: _` alternative of
    `writeItems.go` (nil dereference after the header) is not reached -/
def ItemsOK (o : Out) : Prop := ∀ xs, o = Out.ilist xs → ∃ items : List Item, xs = items.map some

theorem itemsOK_itemsOf (r : Option (List Item)) : ItemsOK (Api.itemsOf r) := by
  intro xs h
  unfold Api.itemsOf at h
  split at h
  · cases h
  · cases h; exact ⟨_, rfl⟩

theorem itemsOK_membersOf (r : Option (List Item)) : ItemsOK (Api.membersOf r) := by
  intro xs h
  unfold Api.membersOf at h
  split at h <;> cases h

theorem itemsOK_panic : ItemsOK Out.panic := by intro xs h; cases h
theorem itemsOK_slist (l : List Bytes) : ItemsOK (Out.slist l) := by intro xs h; cases h
theorem itemsOK_ilist_nil : ItemsOK (Out.ilist []) := by
  intro xs h; cases h; exact ⟨[], rfl⟩

theorem itemsOK_zread (f : ZSet → Out) (dflt : Out) (s : MState) (now : Int) (key : Bytes)
    (hd : ItemsOK dflt) (hf : ∀ z, ItemsOK (f z)) : ItemsOK (Api.zread f dflt s now key).2 := by
  rcases zread_out f dflt s now key with h | h | ⟨z, h⟩
  · rw [h]; exact itemsOK_panic
  · rw [h]; exact hd
  · rw [h]; exact hf z

theorem itemsOK_listing (ws : Bool) (r : Option (List Item)) :
    ItemsOK (if ws then Api.itemsOf r else Api.membersOf r) := by
  split
  · exact itemsOK_itemsOf _
  · exact itemsOK_membersOf _

theorem itemsOK_empty (ws : Bool) : ItemsOK (if ws then Out.ilist [] else Out.slist []) := by
  split
  · exact itemsOK_ilist_nil
  · exact itemsOK_slist _

theorem zrange_out (desc ws : Bool) (s : MState) (now : Int) (key : Bytes) (start stop : Int) :
    ItemsOK (Api.zrange desc ws s now key start stop).2 :=
  itemsOK_zread _ _ s now key (itemsOK_empty ws) fun _ => itemsOK_listing ws _

theorem zrangeByScore_out (desc ws : Bool) (s : MState) (now : Int) (key : Bytes) (min max : F64)
    (offset count mode : Int) :
    ItemsOK (Api.zrangeByScore desc ws s now key min max offset count mode).2 :=
  itemsOK_zread _ _ s now key (itemsOK_empty ws) fun _ => itemsOK_listing ws _

/-- `Api.zscan` returns `.panic` or `.many [.int next, .ilist (items.map some)]`: the `| _ => done s []`
    alternative of `Handler3.zScan` and the nil dereference of `writeItems` are dead -/
theorem zscan_out (s : MState) (now : Int) (key : Bytes) (cursor : Int) (pat : Bytes) (count : Int) :
    (Api.zscan s now key cursor pat count).2 = Out.panic ∨
      ∃ (next : Int) (items : List Item),
        (Api.zscan s now key cursor pat count).2 = Out.many [Out.int next, Out.ilist (items.map some)] := by
  unfold Api.zscan
  rcases zread_out (fun z => let (c, items) := DsZSet.zScan z cursor pat count
      Out.many [Out.int c, Out.ilist (items.map some)]) (Out.many [Out.int 0, Out.ilist []]) s now key
    with h | h | ⟨z, h⟩
  · exact Or.inl h
  · exact Or.inr ⟨0, [], h⟩
  · right
    rw [h]
    generalize DsZSet.zScan z cursor pat count = r
    obtain ⟨c, items⟩ := r
    exact ⟨c, items, rfl⟩

theorem sscan_out (s : MState) (now : Int) (key : Bytes) (cursor : Int) (pat : Bytes) (count : Int) :
    (Api.sscan s now key cursor pat count).2 = Out.panic ∨
      ∃ next ks, (Api.sscan s now key cursor pat count).2 = Out.many [Out.int next, Out.slist ks] := by
  unfold Api.sscan
  rcases sread_out (fun st => let (c, ks) := DsSet.sscan st cursor pat count
      Out.many [Out.int c, Out.slist ks]) (Out.many [Out.int 0, Out.slist []]) s now key
    with h | h | ⟨z, h⟩
  · exact Or.inl h
  · exact Or.inr ⟨0, [], h⟩
  · right
    rw [h]
    generalize DsSet.sscan z cursor pat count = r
    obtain ⟨c, ks⟩ := r
    exact ⟨c, ks, rfl⟩

theorem hscan_out (s : MState) (now : Int) (key : Bytes) (cursor : Int) (pat : Bytes) (count : Int) :
    (Api.hscan s now key cursor pat count).2 = Out.panic ∨
      ∃ next kvs, (Api.hscan s now key cursor pat count).2 = Out.many [Out.int next, Out.bmap kvs] := by
  unfold Api.hscan
  rcases hread_out (fun h => let (c, kv) := DsHash.hscan h cursor pat count
      Out.many [Out.int c, Out.bmap (kv.map fun (k, v) => (k, some v))]) (Out.many [Out.int 0, Out.bmap []]) s now key
    with h | h | ⟨z, h⟩
  · exact Or.inl h
  · exact Or.inr ⟨0, [], h⟩
  · right
    rw [h]
    generalize DsHash.hscan z cursor pat count = r
    obtain ⟨c, kv⟩ := r
    exact ⟨c, _, rfl⟩

/-- `Api.zstore` never returns `.hang`: the `| .hang => done s []` alternative of `Handler3.zStore`
    (a command that never replies) is dead in the model -/
theorem zstore_out (union : Bool) (s : MState) (now : Int) (dst : Bytes) (keys : List Bytes)
    (weights : List F64) (agg : Bytes) :
    (Api.zstore union s now dst keys weights agg).2 = Out.panic ∨
    (Api.zstore union s now dst keys weights agg).2 = Out.unsupported ∨
    ∃ n, (Api.zstore union s now dst keys weights agg).2 = Out.int n := by
  unfold Api.zstore
  dsimp only
  generalize (if union = true then Api.zunionCore else Api.zinterCore) s now keys weights agg = r
  obtain ⟨s', o⟩ := r
  cases o with
  | none => exact Or.inl rfl
  | some o =>
    cases o with
    | none => exact Or.inr (Or.inl rfl)
    | some items =>
      right; right
      dsimp only
      generalize Store.writeKey (Api.commit s') now dst (some (Val.zset DsZSet.empty)) = w
      obtain ⟨s2, okk⟩ := w
      dsimp only
      split
      · exact ⟨_, rfl⟩
      · generalize Store.fresh s2 = fr
        obtain ⟨oid, s3⟩ := fr
        exact ⟨_, rfl⟩

theorem wf_writeMembers (s : MState) (o : Out) : WfOut (writeMembers s o) := by
  unfold writeMembers
  split
  · exact wf_done _ _ (wf_bulkList _)
  · exact wf_done_tok _ _ tokWf_unsupported
  · exact wf_done _ _ wf_arr0

theorem writeItems_go (s : MState) : ∀ (items : List Item) (acc : List Tok),
    writeItems.go s (items.map some) acc = done s (acc ++ items.flatMap fun it => [Tok.bulk it.2, fmtScore it.1]) := by
  intro items
  induction items with
  | nil => intro acc; simp [writeItems.go]
  | cons it rest ih =>
    intro acc
    obtain ⟨sc, m⟩ := it
    rw [List.map_cons, writeItems.go, ih]
    simp

theorem writeItems_somes (s : MState) (items : List Item) :
    writeItems s (Out.ilist (items.map some)) =
      done s (Tok.arr (2 * items.length) :: items.flatMap fun it => [Tok.bulk it.2, fmtScore it.1]) := by
  unfold writeItems
  dsimp only
  rw [writeItems_go, List.length_map]
  rfl

theorem wf_itemsReply (items : List Item) :
    WfToks (Tok.arr (2 * items.length) :: items.flatMap fun it => [Tok.bulk it.2, fmtScore it.1]) :=
  wf_arr_pairs items _ _ (fun _ => rfl) (fun _ => tokWf_fmtScore _)

theorem wf_writeItems (s : MState) (o : Out) (h : ItemsOK o) : WfOut (writeItems s o) := by
  cases o with
  | ilist xs =>
    obtain ⟨items, rfl⟩ := h xs rfl
    rw [writeItems_somes]
    exact wf_done _ _ (wf_itemsReply items)
  | unsupported => exact wf_done_tok _ _ tokWf_unsupported
  | _ => exact wf_done _ _ wf_arr0

theorem wf_writeRange (ws : Bool) (s : MState) (o : Out) (h : ItemsOK o) : WfOut (writeRange ws s o) := by
  unfold writeRange
  split
  · exact wf_writeItems s o h
  · exact wf_writeMembers s o

theorem parseScores_error : ∀ (ps : List (Bytes × Bytes)) (t : Tok), parseScores ps = .error t → t = unsupported ∨ t = e
  | [], t, h => by rw [parseScores] at h; cases h
  | (sc, member) :: more, t, h => by
    rw [parseScores] at h
    split at h
    · cases h; exact Or.inl rfl
    · cases h; exact Or.inr rfl
    · split at h
      · cases h; exact Or.inr rfl
      · split at h
        · next t' heq => cases h; exact parseScores_error more _ heq
        · cases h

theorem wf_zAddBody (args : List Bytes) (key : Bytes) (itemStart : Int) (s : MState) (now : Int) (ch : Choice) :
    WfOut (zAddBody args key itemStart s now ch) := by
  unfold zAddBody
  dsimp only
  -- the four refusals of the option words and the pair count, then the scores
  refine wfOut_ite _ (wf_done_tok _ _ rfl) (wfOut_ite _ (wf_done_tok _ _ rfl) (wfOut_ite _ (wf_done_tok _ _ rfl)
    (wfOut_ite _ (wf_done_tok _ _ rfl) ?_)))
  split
  · next t heq =>
    rcases parseScores_error _ _ heq with rfl | rfl
    · exact wf_done_tok _ _ tokWf_unsupported
    · exact wf_done_tok _ _ rfl
  · refine wfOut_ite _ ?_ (wf_call_all _ _ fun s o => wf_done_tok _ _ rfl)
    split
    · exact wf_panic_nil _
    · apply wf_call_all; intro s o
      split
      · exact wf_done_tok _ _ (tokWf_fmtScore _)
      · exact wf_done_tok _ _ tokWf_unsupported

theorem wf_rankReply (r : Int) (m : Bytes) : WfToks [Tok.arr 2, Tok.int r, Tok.bulk m] := by
  have := wf_arr_scalars [Tok.int r, Tok.bulk m] (by
    intro t ht
    simp only [List.mem_cons, List.mem_nil_iff, or_false] at ht
    rcases ht with rfl | rfl <;> rfl)
  exact this

theorem wf_rankBody (desc : Bool) (args : List Bytes) (s : MState) (now : Int) (ch : Choice) :
    WfOut (rankBody desc args s now ch) := by
  unfold rankBody
  split
  · split
    · apply wf_call_all; intro s o
      split
      · exact wf_done _ _ (wf_rankReply _ _)
      · exact wf_done_tok _ _ rfl
    · apply wf_call_all; intro s o
      split
      · exact wf_done_tok _ _ rfl
      · exact wf_done_tok _ _ rfl
  · exact wf_panic_nil _

theorem oneReply_limitP (args : List Bytes) (f : Int × Int → Pre HRes)
    (h : ∀ a, OneReply (Pre.run (f a))) : OneReply (Pre.run (limitP args >>= f)) := by
  cases limitP args with
  | ok a => exact h a
  | err => exact wf_errReply.one
  | crash => trivial
  | unsup => exact fun s now ch => (wf_single _ tokWf_unsupported).1

theorem wf_nextCursor (card : MState → Int → Bytes → Api.R) (s : MState) (now : Int) (key : Bytes)
    (next : Int) (k : MState → Int → BodyOut) (hk : ∀ s n, WfOut (k s n)) :
    WfOut (nextCursor card s now key next k) := by
  unfold nextCursor
  apply wf_call_all; intro s o
  exact hk _ _

section
open NodisVerif.Proofs.HandlerShape

/-- the special results of the table: the dead alternatives (`.hang` of Z*STORE, the `| _ => done s []` of the scans,
    the nil element of `writeItems`) are never taken, by what the calls can return -/
theorem Special3.wf {r : HRes} (h : Special3 r) : WfRes r := by
  cases h with
  | byScore key desc ws min max o c mode =>
    exact fun s now ch => wf_call _ _ fun _ => wf_writeRange _ _ _ (zrangeByScore_out _ _ _ _ _ _ _ _ _ _)
  | byRank key desc ws a b =>
    exact fun s now ch => wf_call _ _ fun _ => wf_writeRange _ _ _ (zrange_out _ _ _ _ _ _ _)
  | rank desc args => exact fun s now ch => wf_rankBody desc args s now ch
  | zAdd args key i => exact fun s now ch => wf_zAddBody args key i s now ch
  | zStore union dst keys weights agg =>
    intro s now ch
    apply wf_call
    intro hne
    rcases zstore_out union s now dst keys weights agg with h | h | ⟨n, h⟩
    · exact absurd h hne
    · rw [h]; exact wf_done_tok _ _ tokWf_unsupported
    · rw [h]
      exact wf_call_all _ _ fun _ _ => wf_done_tok _ _ rfl
  | sScan key cursor pat count =>
    intro s now ch
    apply wf_call
    intro hne
    rcases sscan_out s now key cursor pat count with h | ⟨next, ks, h⟩
    · exact absurd h hne
    · rw [h]
      exact wf_nextCursor _ _ _ _ _ _ fun s n => wf_done _ _ (wf_cursorReply _ _ (wf_bulkList ks))
  | hScan key cursor pat count =>
    intro s now ch
    apply wf_call
    intro hne
    rcases hscan_out s now key cursor pat count with h | ⟨next, kvs, h⟩
    · exact absurd h hne
    · rw [h]
      exact wf_nextCursor _ _ _ _ _ _ fun s n =>
        wf_done _ _ (wf_cursorReply _ _ (wf_arr_pairs kvs (fun kv => Tok.bulk kv.1) _ (fun _ => rfl) (fun _ => rfl)))
  | zScan key cursor pat count =>
    intro s now ch
    apply wf_call
    intro hne
    rcases zscan_out s now key cursor pat count with h | ⟨next, items, h⟩
    · exact absurd h hne
    · rw [h]
      apply wf_nextCursor
      intro s n
      dsimp only
      rw [writeItems_somes]
      exact wf_done _ _ (wf_cursorReply _ _ (wf_itemsReply items))
  | hSetFix key f v more =>
    intro s now ch
    apply wf_call_all; intro s o
    split
    · exact wf_done_tok _ _ rfl
    · apply wf_call_all; intro s o2; exact wf_done_tok _ _ rfl

theorem ZRemCall.wf {args : List Bytes} {r : HRes} (h : ZRemCall args r) : WfRes r := by
  cases h <;> exact fun _ _ _ => wf_call_all _ _ Render.int.wf

theorem wf_zRem (args : List Bytes) : WfRes (Handler3.zRem args) := (shape_zRem args).wf fun _ => ZRemCall.wf
theorem wf_zRemRangeByRank (args : List Bytes) : WfRes (Handler3.zRemRangeByRank args) :=
  (shape_zRemRangeByRank args).wf fun _ => ZRemCall.wf
theorem wf_zRemRangeByScore (args : List Bytes) : WfRes (Handler3.zRemRangeByScore args) :=
  (shape_zRemRangeByScore args).wf fun _ => ZRemCall.wf

theorem table3_wf (name : String) (args : List Bytes) (r : HRes)
    (h : Handler3.table3 name args = some r) : WfRes r :=
  table3_elim (P := fun _ _ r => WfRes r) (Shape.wf fun _ => Special3.wf)
    wf_zRem wf_zRemRangeByRank wf_zRemRangeByScore name args r h

theorem fixtures_wf (name : String) (args : List Bytes) (r : HRes)
    (h : Handler3.fixtures name args = some r) : WfRes r :=
  (fixtures_shape name args r h).wf fun _ => Special3.wf

end

/-- the tokens one command produces: the direct reply, or the closure's reply on a store -/
def tokensOf (r : HRes) (s : MState) (now : Int) (ch : Choice) : Option (List Tok) :=
  match r with
  | .direct ts => some ts
  | .exec b => some (replyOf (b s now ch))
  | .crash => none

/-- the store after `ZADD k 1 a` on the empty store -/
def zStore1 : MState := (Api.zadd {} 0 [107] [97] (0x3ff0000000000000 : F64)).1
/-- the store after `SADD s x` / `HSET h f v` on the empty store -/
def sStore1 : MState := (Api.sadd {} 0 [115] [[120]]).1
def hStore1 : MState := (Api.hset {} 0 [104] [102] [118]).1

/-- `ZRANGE k 0 -1 WITHSCORES` → `*2 $a $1` -/
example : tokensOf (Handler3.zRange [[107], [48], [45,49], [87,73,84,72,83,67,79,82,69,83]]) zStore1 0 none
    = some [Tok.arr 2, Tok.bulk [97], Tok.bulk [49]] := by decide +kernel
/-- `ZSCAN k 0` → `*2 $0 *2 $a $1` -/
example : tokensOf (Handler3.zScan [[107], [48]]) zStore1 0 none
    = some [Tok.arr 2, Tok.bulk [48], Tok.arr 2, Tok.bulk [97], Tok.bulk [49]] := by decide +kernel
/-- `SSCAN s 0` → `*2 $0 *1 $x` -/
example : tokensOf (Handler3.sScan [[115], [48]]) sStore1 0 none
    = some [Tok.arr 2, Tok.bulk [48], Tok.arr 1, Tok.bulk [120]] := by decide +kernel
/-- `HSCAN h 0` → `*2 $0 *2 $f $v` -/
example : tokensOf (Handler3.hScan [[104], [48]]) hStore1 0 none
    = some [Tok.arr 2, Tok.bulk [48], Tok.arr 2, Tok.bulk [102], Tok.bulk [118]] := by decide +kernel
/-- `ZREVRANK k` (one argument): the closure indexes `cmd.Args[1]`, panics before writing anything,
    and the recovered panic is the single reply -/
example : tokensOf (Handler3.zRevRank [[107]]) zStore1 0 none = some [Tok.err 1] := by decide +kernel
/-- `ZUNIONSTORE d 1 k` → `:1` -/
example : tokensOf (Handler3.zStore true [[100], [49], [107]]) zStore1 0 none = some [Tok.int 1] := by
  decide +kernel
/-- a wrong-typed key: `ZRANGE s 0 -1 WITHSCORES` on a set panics
    inside `Api.zrange` BEFORE the array header is written: one error, not an incomplete array -/
example : tokensOf (Handler3.zRange [[115], [48], [45,49], [87,73,84,72,83,67,79,82,69,83]]) sStore1 0 none
    = some [Tok.err 1] := by decide +kernel

theorem table3_tableOneReply : TableOneReply Handler3.table3 := fun name args r h => (table3_wf name args r h).one
theorem fixtures_tableOneReply : TableOneReply Handler3.fixtures := fun name args r h => (fixtures_wf name args r h).one

theorem table3_wire : TableWire Handler3.table3 := fun name args r h => (table3_wf name args r h).wire

theorem fixtures_wire : TableWire Handler3.fixtures := fun name args r h => (fixtures_wf name args r h).wire

end NodisVerif.Proofs.C16Table3

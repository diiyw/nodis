import NodisVerif.Proofs.StorePass
/-
  C13: the persistence steps of the store as sequences of atomic backend calls (namespace `NodisVerif.C13`).

  Every `storage.Set` / `storage.Delete` of the Pebble backend is one synchronous (`pebble.Sync`),
  atomic call; a kill of the process keeps exactly the calls that have returned (plus possibly the
  one in flight).  `persistCalls`, `unpersistCalls`, `flushCalls`, `gcCalls` list the calls that
  `metadata.persist`, `metadata.unpersist`, `store.flush`, `store.gc` issue, in order, and the
  `*_eq_calls` theorems tie them to the model functions (no failing write).  A crash during a step
  is then: the backend after an arbitrary prefix (`List.take n`) of its call list.
-/
namespace NodisVerif.C13
open NodisVerif NodisVerif.Store

inductive DiskCall
  | set (name : Bytes) (deadline : Int) (ent : DiskEntry)   -- storage.Set(key{name,deadline}, value)
  | del (name : Bytes) (deadline : Int)                     -- storage.Delete(key{name,deadline})
deriving Repr, Inhabited

namespace DiskCall
def name : DiskCall → Bytes
  | .set n _ _ => n
  | .del n _ => n
def deadline : DiskCall → Int
  | .set _ d _ => d
  | .del _ d => d
def entry? : DiskCall → Option DiskEntry
  | .set _ _ e => some e
  | .del _ _ => none
/-- the call carries the entry exactly as the backend will hold it: addressed by its own name and
    deadline, and (Pebble stores bytes, not pointers) without object identities -/
def Exact (pebble : Bool) : DiskCall → Prop
  | .set n d e => e.name = n ∧ e.exp = d ∧ (pebble = true → e.kid = 0 ∧ e.oid = 0)
  | .del _ _ => True
end DiskCall

/-- the record handed to `storage.Set` by a `set` call -/
def metaOf (dl : Int) (ent : DiskEntry) : Meta :=
  { exp := dl, value := some ent.val, kid := ent.kid, oid := ent.oid }

def applyCall (s : MState) : DiskCall → MState
  | .set name dl ent => { s with disk := (diskSet { s with failSet := 0 } name (metaOf dl ent)).1.disk }
  | .del name dl => diskDelete s name dl

def applyCalls (s : MState) (cs : List DiskCall) : MState := cs.foldl applyCall s

/-- the entry `diskSet` builds -/
def written (pebble : Bool) (name : Bytes) (dl : Int) (ent : DiskEntry) : DiskEntry :=
  { name := name, exp := dl, val := ent.val,
    kid := if pebble then 0 else ent.kid, oid := if pebble then 0 else ent.oid }

def diskAfterP (pebble : Bool) (d : AList DiskEntry) : DiskCall → AList DiskEntry
  | .set name dl ent => AList.set d (Codec.encodeKey name dl) (written pebble name dl ent)
  | .del name dl => AList.erase d (Codec.encodeKey name dl)

/-- effect of a call that carries its entry exactly -/
def diskAfter (d : AList DiskEntry) : DiskCall → AList DiskEntry
  | .set name dl ent => AList.set d (Codec.encodeKey name dl) ent
  | .del name dl => AList.erase d (Codec.encodeKey name dl)

def runCalls (d : AList DiskEntry) (cs : List DiskCall) : AList DiskEntry := cs.foldl diskAfter d

theorem applyCall_disk (s : MState) (c : DiskCall) : (applyCall s c).disk = diskAfterP s.pebble s.disk c := by
  cases c with
  | set n dl e => simp [applyCall, diskSet, metaOf, diskAfterP, written]
  | del n dl => rfl

theorem applyCall_pebble (s : MState) (c : DiskCall) : (applyCall s c).pebble = s.pebble := by
  cases c <;> rfl

theorem applyCall_failSet (s : MState) (c : DiskCall) : (applyCall s c).failSet = s.failSet := by
  cases c <;> rfl

theorem applyCall_index (s : MState) (c : DiskCall) : (applyCall s c).index = s.index := by
  cases c <;> rfl

theorem written_of_exact {pebble : Bool} {n : Bytes} {dl : Int} {e : DiskEntry}
    (h : (DiskCall.set n dl e).Exact pebble) : written pebble n dl e = e := by
  obtain ⟨h1, h2, h3⟩ := h
  obtain ⟨en, ee, ev, ek, eo⟩ := e
  simp only at h1 h2 h3
  subst h1 h2
  cases pebble with
  | false => simp [written]
  | true =>
    obtain ⟨a, b⟩ := h3 rfl
    subst a b
    simp [written]

theorem diskAfterP_of_exact {pebble : Bool} (d : AList DiskEntry) {c : DiskCall} (h : c.Exact pebble) :
    diskAfterP pebble d c = diskAfter d c := by
  cases c with
  | set n dl e => simp only [diskAfterP, diskAfter, written_of_exact h]
  | del n dl => rfl

theorem applyCalls_nil (s : MState) : applyCalls s [] = s := rfl
theorem applyCalls_cons (s : MState) (c : DiskCall) (cs : List DiskCall) :
    applyCalls s (c :: cs) = applyCalls (applyCall s c) cs := rfl
theorem applyCalls_append (s : MState) (a b : List DiskCall) :
    applyCalls s (a ++ b) = applyCalls (applyCalls s a) b := by
  simp [applyCalls, List.foldl_append]

theorem runCalls_nil (d : AList DiskEntry) : runCalls d [] = d := rfl
theorem runCalls_cons (d : AList DiskEntry) (c : DiskCall) (cs : List DiskCall) :
    runCalls d (c :: cs) = runCalls (diskAfter d c) cs := rfl
theorem runCalls_append (d : AList DiskEntry) (a b : List DiskCall) :
    runCalls d (a ++ b) = runCalls (runCalls d a) b := by
  simp [runCalls, List.foldl_append]

theorem applyCalls_pebble (s : MState) (cs : List DiskCall) : (applyCalls s cs).pebble = s.pebble := by
  induction cs generalizing s with
  | nil => rfl
  | cons c cs ih => rw [applyCalls_cons, ih, applyCall_pebble]

theorem applyCalls_failSet (s : MState) (cs : List DiskCall) : (applyCalls s cs).failSet = s.failSet := by
  induction cs generalizing s with
  | nil => rfl
  | cons c cs ih => rw [applyCalls_cons, ih, applyCall_failSet]

theorem applyCalls_disk (s : MState) (cs : List DiskCall) (h : ∀ c ∈ cs, c.Exact s.pebble) :
    (applyCalls s cs).disk = runCalls s.disk cs := by
  induction cs generalizing s with
  | nil => rfl
  | cons c cs ih =>
    rw [applyCalls_cons, runCalls_cons, ih]
    · rw [applyCall_disk, diskAfterP_of_exact _ (h c List.mem_cons_self)]
    · intro c' hc'
      rw [applyCall_pebble]
      exact h c' (List.mem_cons_of_mem _ hc')

theorem applyCalls_disk_congr (s t : MState) (cs : List DiskCall) (hd : s.disk = t.disk)
    (hp : s.pebble = t.pebble) : (applyCalls s cs).disk = (applyCalls t cs).disk := by
  induction cs generalizing s t with
  | nil => exact hd
  | cons c cs ih =>
    rw [applyCalls_cons, applyCalls_cons]
    apply ih
    · rw [applyCall_disk, applyCall_disk, hd, hp]
    · rw [applyCall_pebble, applyCall_pebble, hp]

/-- the entry `persist` writes for the record `m` of `name` holding `v` -/
def mkEntry (pebble : Bool) (name : Bytes) (m : Meta) (v : Val) : DiskEntry :=
  { name := name, exp := m.exp, val := v,
    kid := if pebble then 0 else m.kid, oid := if pebble then 0 else m.oid }

/-- `storage.Set(m.key, m.value)`: one call (none for a record without value: the model's
    `diskSet` does nothing then) -/
def setCalls (pebble : Bool) (name : Bytes) (m : Meta) : List DiskCall :=
  match m.value with
  | some v => [.set name m.exp (mkEntry pebble name m v)]
  | none => []

def delOldCalls (name : Bytes) (m : Meta) : List DiskCall :=
  match m.stored with
  | some e => if e ≠ m.exp then [.del name e] else []
  | none => []

/-- `metadata.persist`: SET under the current deadline, THEN DELETE of the earlier entry -/
def persistCalls (s : MState) (name : Bytes) (m : Meta) : List DiskCall :=
  setCalls s.pebble name m ++ delOldCalls name m

/-- the order before the repair: DELETE of the earlier entry, then SET -/
def persistCallsOld (s : MState) (name : Bytes) (m : Meta) : List DiskCall :=
  delOldCalls name m ++ setCalls s.pebble name m

/-- `metadata.unpersist` -/
def unpersistCalls (name : Bytes) (m : Meta) : List DiskCall :=
  match m.stored with
  | some e => [.del name e]
  | none => []

/-- what a flush / gc pass does to the backend for one index record -/
def recordCalls (s : MState) (now : Int) (ent : Bytes × Meta) : List DiskCall :=
  if ent.2.expired now || !ent.2.isOk then unpersistCalls ent.1 ent.2
  else if !ent.2.isModified then []
  else persistCalls s ent.1 ent.2

/-- `store.flush()`: the records of the index in order -/
def flushCalls (s : MState) (now : Int) : List DiskCall := s.index.flatMap (recordCalls s now)

/-- one pass of `store.gc()` -/
def gcCalls (s : MState) (now : Int) : List DiskCall :=
  if s.closed then [] else s.index.flatMap (recordCalls s now)

theorem setCalls_for (pebble : Bool) (name : Bytes) (m : Meta) :
    ∀ c ∈ setCalls pebble name m, c.Exact pebble ∧ c.name = name := by
  intro c hc
  unfold setCalls at hc
  cases hv : m.value with
  | none => rw [hv] at hc; cases hc
  | some v =>
    rw [hv, List.mem_singleton] at hc
    subst hc
    exact ⟨⟨rfl, rfl, fun hp => by simp [mkEntry, hp]⟩, rfl⟩

theorem del_for (pebble : Bool) (name : Bytes) (e : Int) : ∀ c ∈ [DiskCall.del name e], c.Exact pebble ∧ c.name = name := by
  intro c hc
  rw [List.mem_singleton] at hc
  subst hc
  exact ⟨trivial, rfl⟩

theorem delOldCalls_for (pebble : Bool) (name : Bytes) (m : Meta) :
    ∀ c ∈ delOldCalls name m, c.Exact pebble ∧ c.name = name := by
  unfold delOldCalls
  cases m.stored with
  | none => intro c hc; cases hc
  | some e =>
    show ∀ c ∈ (if e ≠ m.exp then [DiskCall.del name e] else []), _
    split
    · exact del_for pebble name e
    · intro c hc; cases hc

theorem unpersistCalls_for (pebble : Bool) (name : Bytes) (m : Meta) :
    ∀ c ∈ unpersistCalls name m, c.Exact pebble ∧ c.name = name := by
  unfold unpersistCalls
  cases m.stored with
  | none => intro c hc; cases hc
  | some e => exact del_for pebble name e

theorem persistCalls_for (s : MState) (name : Bytes) (m : Meta) :
    ∀ c ∈ persistCalls s name m, c.Exact s.pebble ∧ c.name = name := fun c hc =>
  (List.mem_append.mp hc).elim (setCalls_for _ _ _ c) (delOldCalls_for _ _ _ c)

theorem persistCallsOld_exact (s : MState) (name : Bytes) (m : Meta) : ∀ c ∈ persistCallsOld s name m, c.Exact s.pebble :=
  fun c hc => (List.mem_append.mp hc).elim (fun h => (delOldCalls_for _ _ _ c h).1) (fun h => (setCalls_for _ _ _ c h).1)

theorem recordCalls_for (s : MState) (now : Int) (ent : Bytes × Meta) :
    ∀ c ∈ recordCalls s now ent, c.Exact s.pebble ∧ c.name = ent.1 := by
  unfold recordCalls
  split
  · exact unpersistCalls_for _ _ _
  · split
    · intro c hc; cases hc
    · exact persistCalls_for _ _ _

theorem persistCalls_exact (s : MState) (name : Bytes) (m : Meta) : ∀ c ∈ persistCalls s name m, c.Exact s.pebble :=
  fun c hc => (persistCalls_for s name m c hc).1

theorem unpersistCalls_exact (pebble : Bool) (name : Bytes) (m : Meta) : ∀ c ∈ unpersistCalls name m, c.Exact pebble :=
  fun c hc => (unpersistCalls_for pebble name m c hc).1

theorem recordCalls_exact (s : MState) (now : Int) (ent : Bytes × Meta) : ∀ c ∈ recordCalls s now ent, c.Exact s.pebble :=
  fun c hc => (recordCalls_for s now ent c hc).1

theorem passCalls_exact (s : MState) (now : Int) (l : List (Bytes × Meta)) :
    ∀ c ∈ l.flatMap (recordCalls s now), c.Exact s.pebble := by
  intro c hc
  obtain ⟨ent, _, h⟩ := List.mem_flatMap.mp hc
  exact recordCalls_exact s now ent c h

theorem flushCalls_exact (s : MState) (now : Int) : ∀ c ∈ flushCalls s now, c.Exact s.pebble :=
  passCalls_exact s now s.index

theorem gcCalls_exact (s : MState) (now : Int) : ∀ c ∈ gcCalls s now, c.Exact s.pebble := by
  unfold gcCalls
  split
  · intro c hc; cases hc
  · exact flushCalls_exact s now

theorem diskSet_eq_calls (s : MState) (name : Bytes) (m : Meta) (hf : s.failSet = 0) :
    diskSet s name m = ({ s with disk := (applyCalls s (setCalls s.pebble name m)).disk }, true) := by
  unfold diskSet setCalls
  rw [if_neg (by omega)]
  cases m.value with
  | none => rfl
  | some v =>
    -- the entry `applyCall` builds from the call is the entry `diskSet` builds from the record
    cases hp : s.pebble <;> simp [applyCalls, applyCall, diskSet, metaOf, mkEntry, hp]

theorem persist_state (s : MState) (name : Bytes) (m : Meta) (hf : s.failSet = 0) :
    persist s name m
      = ({ s with disk := (applyCalls s (persistCalls s name m)).disk }, { m with stored := some m.exp }, true) := by
  unfold persist persistCalls delOldCalls
  rw [diskSet_eq_calls s name m hf, applyCalls_append]
  simp only [Bool.not_true, Bool.false_eq_true, if_false]
  -- the delete of the entry under an earlier deadline is the DELETE call, if there is one
  cases m.stored with
  | none => rfl
  | some e =>
    simp only
    by_cases he : e ≠ m.exp
    · rw [if_pos he, if_pos he]; rfl
    · rw [if_neg he, if_neg he]; rfl

theorem persist_eq_calls (s : MState) (name : Bytes) (m : Meta) (hf : s.failSet = 0) :
    (persist s name m).1.disk = (applyCalls s (persistCalls s name m)).disk := by
  rw [persist_state s name m hf]

theorem unpersist_state (s : MState) (name : Bytes) (m : Meta) :
    unpersist s name m = { s with disk := (applyCalls s (unpersistCalls name m)).disk } := by
  unfold unpersist unpersistCalls
  cases m.stored with
  | none => rfl
  | some e => rfl

theorem unpersist_eq_calls (s : MState) (name : Bytes) (m : Meta) :
    (unpersist s name m).disk = (applyCalls s (unpersistCalls name m)).disk := by
  rw [unpersist_state s name m]

-- the step functions of the passes are StorePass.lean's, in namespace `Proofs.C11`
open NodisVerif.Proofs.C11 (gcStep flushStep gc_eq flush_eq)

/-- one step of `flush`, no write failing: its backend is the backend after the calls of its record; the failure
    counter stays 0 and the backend kind stays, so that the next step can be described the same way -/
theorem flushStep_eq_calls (now : Int) (s : MState) (ent : Bytes × Meta) (hf : s.failSet = 0) :
    (flushStep now s ent).disk = (applyCalls s (recordCalls s now ent)).disk
      ∧ (flushStep now s ent).failSet = 0 ∧ (flushStep now s ent).pebble = s.pebble := by
  obtain ⟨key, m⟩ := ent
  unfold flushStep recordCalls
  simp only
  by_cases hd : (m.expired now || !m.isOk) = true
  · rw [if_pos hd, if_pos hd, unpersist_state]
    exact ⟨rfl, hf, rfl⟩
  · rw [if_neg hd, if_neg hd]
    by_cases hm : (!m.isModified) = true
    · rw [if_pos hm, if_pos hm]; exact ⟨rfl, hf, rfl⟩
    · rw [if_neg hm, if_neg hm, persist_state s key m hf]
      exact ⟨rfl, hf, rfl⟩

theorem gcStep_eq_calls (now : Int) (s : MState) (ent : Bytes × Meta) (hf : s.failSet = 0) :
    (gcStep now s ent).disk = (applyCalls s (recordCalls s now ent)).disk
      ∧ (gcStep now s ent).failSet = 0 ∧ (gcStep now s ent).pebble = s.pebble := by
  obtain ⟨key, m⟩ := ent
  unfold gcStep recordCalls
  simp only
  by_cases hd : (m.expired now || !m.isOk) = true
  · rw [if_pos hd, if_pos hd, unpersist_state]
    exact ⟨rfl, hf, rfl⟩
  · rw [if_neg hd, if_neg hd]
    cases hm : m.isModified with
    | true =>
      rw [if_pos rfl, persist_state s key m hf]
      exact ⟨rfl, hf, rfl⟩
    | false => exact ⟨rfl, hf, rfl⟩

/-- a pass whose every step is the calls of its record is the concatenated calls.  The induction carries `failSet = 0`
    and the backend kind along with the backend, because a step's call list reads `pebble` of the state it runs on -/
theorem pass_eq_calls (now : Int) (step : MState → Bytes × Meta → MState)
    (hstep : ∀ (s : MState) (ent : Bytes × Meta), s.failSet = 0 →
      (step s ent).disk = (applyCalls s (recordCalls s now ent)).disk
        ∧ (step s ent).failSet = 0 ∧ (step s ent).pebble = s.pebble) :
    ∀ (l : List (Bytes × Meta)) (t : MState), t.failSet = 0 →
      (l.foldl step t).disk = (applyCalls t (l.flatMap (recordCalls t now))).disk
        ∧ (l.foldl step t).failSet = 0 ∧ (l.foldl step t).pebble = t.pebble := by
  intro l
  induction l with
  | nil => intro t hf; exact ⟨rfl, hf, rfl⟩
  | cons ent rest ih =>
    intro t hf
    obtain ⟨h1, h2, h3⟩ := hstep t ent hf
    obtain ⟨i1, i2, i3⟩ := ih (step t ent) h2
    simp only [List.foldl_cons, List.flatMap_cons]
    refine ⟨?_, i2, i3.trans h3⟩
    rw [i1, applyCalls_append]
    have e : recordCalls (step t ent) now = recordCalls t now := by
      funext x; simp only [recordCalls, persistCalls, h3]
    rw [e]
    apply applyCalls_disk_congr
    · exact h1
    · rw [h3, applyCalls_pebble]

theorem flush_eq_calls (s : MState) (now : Int) (hf : s.failSet = 0) (hp : s.pebble = true) :
    (flush s now).disk = (applyCalls s (flushCalls s now)).disk := by
  obtain ⟨h1, _, h3⟩ := pass_eq_calls now (flushStep now) (flushStep_eq_calls now) s.index s hf
  rw [flush_eq, syncShared, if_pos (h3.trans hp), h1]
  rfl

theorem gc_eq_calls (s : MState) (now : Int) (hf : s.failSet = 0) (hp : s.pebble = true) :
    (gc s now).disk = (applyCalls s (gcCalls s now)).disk := by
  rw [gc_eq, gcCalls]
  by_cases hc : s.closed = true
  · simp [hc, applyCalls]
  · simp only [hc, if_false, Bool.false_eq_true]
    obtain ⟨h1, _, h3⟩ := pass_eq_calls now (gcStep now) (gcStep_eq_calls now) s.index s hf
    rw [syncShared, if_pos (h3.trans hp), h1]

end NodisVerif.C13

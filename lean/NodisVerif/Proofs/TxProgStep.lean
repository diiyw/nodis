import NodisVerif.Model.TxProg
/-
  Program model of tx.go: the transitions of `tstep` as a relation `TStep`, one constructor per branch of the code, so
  that a fact about single transitions is one case analysis on `tstep_inv` (the branch conditions are the hypotheses of
  the constructor, in the order of the code; users name them by position: `case a8_w hpc hwr hcan`).  `TStep` mirrors `tstep` by hand.  Only `tstep … = some … → TStep …` is proved: that is what invariants
  need; that a transition is enabled is proved from `tstep` itself (TxProgReach, TxProgProgress).
-/
namespace NodisVerif.Proofs.TxProg
open NodisVerif.Proto (Key Rec Mode Ev Hold assoc erase put)
open NodisVerif.TxProg

inductive TStep (s : Shared) (t : Tid) (l : Loc) (ch : Choice) : Shared → Loc → Option Ev → Prop
  | begin {plan} : l.pc = .init → ch.call = .begin plan → sortedPlan plan = true →
      TStep s t l ch s (nextPlan { l with todo := plan, held := [], panicked := false }) (some (.begin t))
  | mini {r k} : l.pc = .init → ch.call = .mini r → assoc s.names r = some k →
      TStep s t l ch s { l with pc := .g1, m := r, key := k, held := [], okcur := false } (some (.begin t))
  | reacq {k w ph} : l.pc = .idle → ch.call = .reacq k w ph → holdsName l k = true →
      TStep s t l ch s { l with pc := .a1, key := k, write := w, ph := ph, ret := .body } none
  | newKey {k} : l.pc = .idle → ch.call = .newKey k → holdsName l k = true →
      TStep s t l ch s { l with pc := .a1, key := k, write := true, ph := true, ret := .newKey } none
  | delKey {k} : l.pc = .idle → ch.call = .delKey k → holdsNameW l k = true →
      TStep s t l ch s { l with pc := .d1, key := k } none
  | commit : l.pc = .idle → ch.call = .commit → TStep s t l ch s { l with pc := .c0 } none
  | a1 : l.pc = .a1 → s.smu.canRLock = true →
      TStep s t l ch { s with smu := s.smu.rlock t } { l with pc := .a2 } none
  | a2 : l.pc = .a2 →
      TStep s t l ch s { l with pc := .a3, m := (s.lookup l.key).getD 0, okcur := (s.lookup l.key).isSome }
        (some (.look t l.key (s.lookup l.key)))
  | a3_miss : l.pc = .a3 → l.okcur = false → l.ph = false →
      TStep s t l ch { s with smu := s.smu.runlock t } (retTo l) none
  | a3_create : l.pc = .a3 → l.okcur = false → l.ph = true →
      TStep s t l ch { s with smu := s.smu.runlock t } { l with pc := .a4 } none
  | a3_panic {h} : l.pc = .a3 → l.okcur = true → holdOf l l.m = some h → (l.write && h.mode == .r) = true →
      TStep s t l ch { s with smu := s.smu.runlock t } { l with pc := .c0, panicked := true } none
  | a3_held {h} : l.pc = .a3 → l.okcur = true → holdOf l l.m = some h → (l.write && h.mode == .r) = false →
      TStep s t l ch { s with smu := s.smu.runlock t } (retTo l) none
  | a3_wait : l.pc = .a3 → l.okcur = true → holdOf l l.m = none →
      TStep s t l ch { s with smu := s.smu.runlock t } { l with pc := .a7 } none
  | a4 : l.pc = .a4 → s.smu.canLock = true → TStep s t l ch { s with smu := s.smu.lock t } { l with pc := .a5 } none
  | a5_found {r} : l.pc = .a5 → s.lookup l.key = some r → TStep s t l ch s { l with pc := .a6r } none
  | a5_claim : l.pc = .a5 → s.lookup l.key = none → assoc s.names ch.fresh = none →
      TStep s t l ch
        (({ s with names := (ch.fresh, l.key) :: s.names, pending := put s.pending l.key ch.fresh }).setMu ch.fresh
          (if l.write then ({} : Mu).lock t else ({} : Mu).rlock t))
        { l with pc := .a6c, m := ch.fresh, held := ⟨ch.fresh, l.key, modeOf l.write, true⟩ :: l.held }
        (some (.claim t l.key ch.fresh (modeOf l.write)))
  | a6r : l.pc = .a6r → TStep s t l ch { s with smu := s.smu.unlock } { l with pc := .a1 } none
  | a6c : l.pc = .a6c → TStep s t l ch { s with smu := s.smu.unlock } (retTo l) none
  | a7 : l.pc = .a7 → TStep s t l ch s { l with pc := .a8 } (some (.wait t l.key l.m (modeOf l.write)))
  | a8_w : l.pc = .a8 → l.write = true → (s.mu l.m).canLock = true →
      TStep s t l ch (s.setMu l.m ((s.mu l.m).lock t)) { l with pc := .a9 } none
  | a8_r : l.pc = .a8 → l.write = false → (s.mu l.m).canRLock = true →
      TStep s t l ch (s.setMu l.m ((s.mu l.m).rlock t)) { l with pc := .a9 } none
  | a9 : l.pc = .a9 → TStep s t l ch s { l with pc := .a10 } (some (.lock t l.key l.m (modeOf l.write)))
  | a10 : l.pc = .a10 → s.smu.canRLock = true →
      TStep s t l ch { s with smu := s.smu.rlock t } { l with pc := .a11 } none
  | a11 : l.pc = .a11 →
      TStep s t l ch s { l with pc := .a12, okcur := s.lookup l.key == some l.m, hv := (s.flag l.m).hasValue }
        (some (.valid t l.key l.m ((s.lookup l.key == some l.m) && (l.write || (s.flag l.m).hasValue))))
  | a12_fail : l.pc = .a12 → (l.okcur && (l.write || l.hv)) = false →
      TStep s t l ch { s with smu := s.smu.runlock t } { l with pc := .a13 } none
  | a12_ok : l.pc = .a12 → (l.okcur && (l.write || l.hv)) = true →
      TStep s t l ch { s with smu := s.smu.runlock t }
        (retTo { l with held := ⟨l.m, l.key, modeOf l.write, true⟩ :: l.held }) none
  | a13 : l.pc = .a13 → TStep s t l ch s { l with pc := .a14 } (some (.unlock t l.m))
  | a14 : l.pc = .a14 →
      TStep s t l ch (s.setMu l.m (if l.write then (s.mu l.m).unlock else (s.mu l.m).runlock t))
        { l with pc := .a1, write := l.write || l.okcur } none
  | n1 : l.pc = .n1 →
      TStep s t l ch { s with flags := setD s.flags l.m { ok := true, hasValue := true } } { l with pc := .n2 } none
  | n2 : l.pc = .n2 → s.smu.canLock = true → TStep s t l ch { s with smu := s.smu.lock t } { l with pc := .n3 } none
  | n3_publish : l.pc = .n3 → assoc s.pending l.key = some l.m →
      TStep s t l ch { s with pending := erase s.pending l.key, index := put s.index l.key l.m } { l with pc := .n4 }
        (some (.publish t l.key l.m))
  | n3_skip : l.pc = .n3 → assoc s.pending l.key ≠ some l.m → TStep s t l ch s { l with pc := .n4 } none
  | n4 : l.pc = .n4 → TStep s t l ch { s with smu := s.smu.unlock } { l with pc := .idle } none
  | d1 : l.pc = .d1 → s.smu.canLock = true → TStep s t l ch { s with smu := s.smu.lock t } { l with pc := .d2 } none
  | d2_none : l.pc = .d2 → assoc s.index l.key = none → TStep s t l ch s { l with pc := .d4 } none
  | d2_unlink {r h} : l.pc = .d2 → assoc s.index l.key = some r → holdOf l r = some h →
      TStep s t l ch { s with index := erase s.index l.key } { l with pc := .d3, m := r } (some (.unlink t l.key r))
  | d3 : l.pc = .d3 → assoc s.names ch.fresh = none →
      TStep s t l ch
        (({ s with names := (ch.fresh, l.key) :: s.names, pending := put s.pending l.key ch.fresh }).setMu ch.fresh
          (({} : Mu).lock t))
        { l with pc := .d4, held := ⟨ch.fresh, l.key, .w, true⟩ :: l.held } (some (.claim t l.key ch.fresh .w))
  | d4 : l.pc = .d4 → TStep s t l ch { s with smu := s.smu.unlock } { l with pc := .idle } none
  | c0 : l.pc = .c0 → TStep s t l ch s (commitNext s { l with rest := l.held }) (some (.commit t))
  | c2 : l.pc = .c2 → TStep s t l ch s { l with pc := .c3 } (some (.unlock t l.cur.rid))
  | c3 : l.pc = .c3 →
      TStep s t l ch
        (s.setMu l.cur.rid (if l.cur.mode == .w then (s.mu l.cur.rid).unlock else (s.mu l.cur.rid).runlock t))
        (commitNext
          (s.setMu l.cur.rid (if l.cur.mode == .w then (s.mu l.cur.rid).unlock else (s.mu l.cur.rid).runlock t)) l)
        none
  | c4 : l.pc = .c4 → TStep s t l ch s { l with pc := .c5 } (some (.unlock t l.cur.rid))
  | c5 : l.pc = .c5 → TStep s t l ch (s.setMu l.cur.rid ((s.mu l.cur.rid).runlock t)) { l with pc := .c6 } none
  | c6_ok : l.pc = .c6 → ch.tryOk = true → (s.mu l.cur.rid).canLock = true →
      TStep s t l ch (s.setMu l.cur.rid ((s.mu l.cur.rid).lock t)) { l with pc := .c7 } none
  | c6_fail : l.pc = .c6 → (ch.tryOk && (s.mu l.cur.rid).canLock) = false → TStep s t l ch s (commitNext s l) none
  | c7 : l.pc = .c7 →
      TStep s t l ch s
        { l with pc := .c8, cur := ⟨l.cur.rid, (assoc s.names l.cur.rid).getD "", .w,
            s.lookup ((assoc s.names l.cur.rid).getD "") == some l.cur.rid⟩ }
        (some (.trylock t ((assoc s.names l.cur.rid).getD "") l.cur.rid))
  | c8 : l.pc = .c8 → s.smu.canLock = true → TStep s t l ch { s with smu := s.smu.lock t } { l with pc := .c9 } none
  | c9_drop : l.pc = .c9 → assoc s.pending ((assoc s.names l.cur.rid).getD "") = some l.cur.rid →
      TStep s t l ch { s with pending := erase s.pending ((assoc s.names l.cur.rid).getD "") } { l with pc := .c10 }
        (some (.drop t ((assoc s.names l.cur.rid).getD "") l.cur.rid))
  | c9_skip : l.pc = .c9 → assoc s.pending ((assoc s.names l.cur.rid).getD "") ≠ some l.cur.rid →
      TStep s t l ch s { l with pc := .c10 } none
  | c10 : l.pc = .c10 → TStep s t l ch { s with smu := s.smu.unlock } { l with pc := .c11 } none
  | c11 : l.pc = .c11 → TStep s t l ch s { l with pc := .c12 } (some (.unlock t l.cur.rid))
  | c12 : l.pc = .c12 →
      TStep s t l ch (s.setMu l.cur.rid (s.mu l.cur.rid).unlock)
        (commitNext (s.setMu l.cur.rid (s.mu l.cur.rid).unlock) l) none
  | cend : l.pc = .cend → TStep s t l ch s {} (some (.fin t))
  | g1 : l.pc = .g1 → TStep s t l ch s { l with pc := .g2 } (some (.wait t l.key l.m .w))
  | g2 : l.pc = .g2 → (s.mu l.m).canLock = true →
      TStep s t l ch (s.setMu l.m ((s.mu l.m).lock t)) { l with pc := .g3 } none
  | g3 : l.pc = .g3 → TStep s t l ch s { l with pc := .g4 } (some (.lock t l.key l.m .w))
  | g4 : l.pc = .g4 → s.smu.canRLock = true → TStep s t l ch { s with smu := s.smu.rlock t } { l with pc := .g5 } none
  | g5 : l.pc = .g5 →
      TStep s t l ch s { l with pc := .g6, okcur := assoc s.index l.key == some l.m }
        (some (.valid t l.key l.m (assoc s.index l.key == some l.m)))
  | g6_stale : l.pc = .g6 → l.okcur = false →
      TStep s t l ch { s with smu := s.smu.runlock t } { l with pc := .g11 } none
  | g6_dead : l.pc = .g6 → l.okcur = true → (ch.dead || !(s.flag l.m).ok) = true →
      TStep s t l ch { s with smu := s.smu.runlock t } { l with pc := .g7 } none
  | g6_live : l.pc = .g6 → l.okcur = true → (ch.dead || !(s.flag l.m).ok) = false →
      TStep s t l ch { s with smu := s.smu.runlock t } { l with pc := .g10 } none
  | g7 : l.pc = .g7 → s.smu.canLock = true → TStep s t l ch { s with smu := s.smu.lock t } { l with pc := .g8 } none
  | g8 : l.pc = .g8 →
      TStep s t l ch { s with index := erase s.index l.key } { l with pc := .g9 } (some (.unlink t l.key l.m))
  | g9 : l.pc = .g9 → TStep s t l ch { s with smu := s.smu.unlock } { l with pc := .g10 } none
  | g10 : l.pc = .g10 →
      TStep s t l ch { s with flags := setD s.flags l.m { s.flag l.m with hasValue := ch.hvNew } } { l with pc := .g11 }
        (some (.commit t))
  | g11 : l.pc = .g11 → TStep s t l ch s { l with pc := .g12 } (some (.unlock t l.m))
  | g12 : l.pc = .g12 → TStep s t l ch (s.setMu l.m (s.mu l.m).unlock) { l with pc := .g13 } none
  | g13 : l.pc = .g13 → TStep s t l ch s {} (some (.fin t))

/-- the local state with its program counter put in: at a literal `p` what is defined by cases on the pc computes -/
theorem Loc.pc_eq {l : Loc} {p : Pc} (h : l.pc = p) : l = { l with pc := p } := by cases l; cases h; rfl

/-- `out_some` puts the result of an enabled branch of `tstep` in for `s'`, `l'`, `e`; `out_none` closes a disabled one -/
theorem out_some {P : Shared → Loc → Option Ev → Prop} {a : Shared} {b : Loc} {c : Option Ev} (h : P a b c) :
    ∀ {s' l' e}, (some (a, b, c) : Out) = some (s', l', e) → P s' l' e := by
  rintro _ _ _ ⟨⟩; exact h

theorem out_none {P : Shared → Loc → Option Ev → Prop} : ∀ {s' l' e}, (none : Out) = some (s', l', e) → P s' l' e := by
  intro _ _ _ h; cases h

theorem tstep_inv {s s' : Shared} {t : Tid} {l l' : Loc} {ch : Choice} {e : Option Ev}
    (h : tstep s t l ch = some (s', l', e)) : TStep s t l ch s' l' e := by
  -- `fun_cases` gives one goal per branch of `tstep`, in its order, with the conditions of the branch as hypotheses;
  -- the disabled branches go first, the others are the constructors of `TStep` in their order
  revert s' l' e
  fun_cases tstep s t l ch
  all_goals try exact @out_none _
  · exact out_some (.begin ‹_› ‹_› ‹_›)
  · exact out_some (.mini ‹_› ‹_› ‹_›)
  · exact out_some (.reacq ‹_› ‹_› ‹_›)
  · exact out_some (.newKey ‹_› ‹_› ‹_›)
  · exact out_some (.delKey ‹_› ‹_› ‹_›)
  · exact out_some (.commit ‹_› ‹_›)
  · exact out_some (.a1 ‹_› ‹_›)
  · exact out_some (.a2 ‹_›)
  · exact out_some (.a3_miss ‹_› (by simpa using ‹(!l.okcur) = true›) (by simpa using ‹(!l.ph) = true›))
  · exact out_some (.a3_create ‹_› (by simpa using ‹(!l.okcur) = true›) (by simpa using ‹¬(!l.ph) = true›))
  · exact out_some (.a3_panic ‹_› (by simpa using ‹¬(!l.okcur) = true›) ‹_› ‹_›)
  · exact out_some (.a3_held ‹_› (by simpa using ‹¬(!l.okcur) = true›) ‹_› (Bool.eq_false_iff.2 ‹_›))
  · exact out_some (.a3_wait ‹_› (by simpa using ‹¬(!l.okcur) = true›) ‹_›)
  · exact out_some (.a4 ‹_› ‹_›)
  · exact out_some (.a5_found ‹_› ‹_›)
  · exact out_some (.a5_claim ‹_› ‹_› (Option.not_isSome_iff_eq_none.1 ‹_›))
  · exact out_some (.a6r ‹_›)
  · exact out_some (.a6c ‹_›)
  · exact out_some (.a7 ‹_›)
  · exact out_some (.a8_w ‹_› ‹_› ‹_›)
  · exact out_some (.a8_r ‹_› (Bool.eq_false_iff.2 ‹_›) ‹_›)
  · exact out_some (.a9 ‹_›)
  · exact out_some (.a10 ‹_› ‹_›)
  · exact out_some (.a11 ‹_›)
  · refine out_some (.a12_fail ‹_› ?_)
    revert ‹(!l.okcur || !l.write && !l.hv) = true›
    cases l.okcur <;> cases l.write <;> cases l.hv <;> simp
  · refine out_some (.a12_ok ‹_› ?_)
    revert ‹¬(!l.okcur || !l.write && !l.hv) = true›
    cases l.okcur <;> cases l.write <;> cases l.hv <;> simp
  · exact out_some (.a13 ‹_›)
  · exact out_some (.a14 ‹_›)
  · exact out_some (.n1 ‹_›)
  · exact out_some (.n2 ‹_› ‹_›)
  · exact out_some (.n3_publish ‹_› (by simpa using ‹(assoc s.pending l.key == some l.m) = true›))
  · exact out_some (.n3_skip ‹_› (by simpa using ‹¬(assoc s.pending l.key == some l.m) = true›))
  · exact out_some (.n4 ‹_›)
  · exact out_some (.d1 ‹_› ‹_›)
  · exact out_some (.d2_none ‹_› ‹_›)
  · exact out_some (.d2_unlink ‹_› ‹_› ‹_›)
  · exact out_some (.d3 ‹_› (Option.not_isSome_iff_eq_none.1 ‹_›))
  · exact out_some (.d4 ‹_›)
  · exact out_some (.c0 ‹_›)
  · exact out_some (.c2 ‹_›)
  · exact out_some (.c3 ‹_›)
  · exact out_some (.c4 ‹_›)
  · exact out_some (.c5 ‹_›)
  · exact out_some (.c6_ok ‹_› (Bool.and_eq_true_iff.1 ‹_›).1 (Bool.and_eq_true_iff.1 ‹_›).2)
  · exact out_some (.c6_fail ‹_› (Bool.eq_false_iff.2 ‹_›))
  · exact out_some (.c7 ‹_›)
  · exact out_some (.c8 ‹_› ‹_›)
  · exact out_some (.c9_drop ‹_› (by simpa using ‹(assoc s.pending _ == some l.cur.rid) = true›))
  · exact out_some (.c9_skip ‹_› (by simpa using ‹¬(assoc s.pending _ == some l.cur.rid) = true›))
  · exact out_some (.c10 ‹_›)
  · exact out_some (.c11 ‹_›)
  · exact out_some (.c12 ‹_›)
  · exact out_some (.cend ‹_›)
  · exact out_some (.g1 ‹_›)
  · exact out_some (.g2 ‹_› ‹_›)
  · exact out_some (.g3 ‹_›)
  · exact out_some (.g4 ‹_› ‹_›)
  · exact out_some (.g5 ‹_›)
  · exact out_some (.g6_stale ‹_› (by simpa using ‹(!l.okcur) = true›))
  · exact out_some (.g6_dead ‹_› (by simpa using ‹¬(!l.okcur) = true›) ‹_›)
  · exact out_some (.g6_live ‹_› (by simpa using ‹¬(!l.okcur) = true›) (Bool.eq_false_iff.2 ‹_›))
  · exact out_some (.g7 ‹_› ‹_›)
  · exact out_some (.g8 ‹_›)
  · exact out_some (.g9 ‹_›)
  · exact out_some (.g10 ‹_›)
  · exact out_some (.g11 ‹_›)
  · exact out_some (.g12 ‹_›)
  · exact out_some (.g13 ‹_›)

theorem step_inv {c c' : Cfg} {t : Tid} {ch : Choice} {e : Option Ev} (h : TxProg.step c t ch = some (c', e)) :
    ∃ s' l', tstep c.sh t (c.loc t) ch = some (s', l', e) ∧ c' = ⟨s', setD c.thr t l'⟩ := by
  unfold TxProg.step at h
  split at h
  · cases h
  · rename_i s l ev hts
    cases h
    exact ⟨s, l, hts, rfl⟩

end NodisVerif.Proofs.TxProg

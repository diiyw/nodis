import NodisVerif.Proofs.C10Resp
/-
  `Resp` for further commands: SPOP, SRANDMEMBER, HMSET, INCRBYFLOAT, HINCRBYFLOAT, S*STORE, LPOPRPUSH / RPOPLPUSH,
  SMOVE, ZUNION, ZINTER, ZUNIONSTORE / ZINTERSTORE.
-/
namespace NodisVerif.Proofs.C10
open NodisVerif Store
open NodisVerif.Proofs.AListLemmas NodisVerif.Proofs.AListLemmas2

theorem resp_spop (now : Int) (k : Bytes) (count : Int) (choice : List Bytes) :
    Resp now (fun s => Api.spop s now k count choice) := resp_keyTx (fun s => C20.spop_eq s now k count choice) nofun

theorem resp_srandmember (now : Int) (k : Bytes) (count : Int) (choice : List Bytes) :
    Resp now (fun s => Api.srandmember s now k count choice) :=
  resp_keyTx (fun s => C11.srandmember_eq s now k count choice) (fun _ => rfl)

theorem resp_hmset (now : Int) (k : Bytes) (pairs : List (Bytes × Bytes)) :
    Resp now (fun s => Api.hmset s now k pairs) := resp_keyTx (fun s => C20.hmset_eq s now k pairs) nofun

/-! ### S*STORE = compute, DEL destination, SADD destination -/

theorem resp_sstore (now : Int) (op : MState → Int → List Bytes → Api.R) (dst : Bytes) (keys : List Bytes)
    (hop : Resp now (fun s => op s now keys)) : Resp now (fun s => Api.sstore op s now dst keys) := by
  intro s s' g
  show RSim now (Api.sstore op s now dst keys) (Api.sstore op s' now dst keys)
  unfold Api.sstore
  split
  · exact ⟨rfl, g⟩
  · have h1 : RSim now (op s now keys) (op s' now keys) := hop s s' g
    obtain ⟨o, s1, s1', hw, hw', g1⟩ := RSim.pair (h1)
    rw [hw, hw']
    cases o with
    | slist ms =>
      simp only
      have h2 : RSim now (Api.del (Api.commit s1) now [dst]) (Api.del (Api.commit s1') now [dst]) :=
        resp_del now [dst] _ _ (commit_good g1)
      obtain ⟨_, g2⟩ := h2
      cases hd : Api.del (Api.commit s1) now [dst] with
      | mk s2 o2 =>
        cases hd' : Api.del (Api.commit s1') now [dst] with
        | mk s2' o2' =>
          rw [hd, hd'] at g2
          simp only at g2 ⊢
          split
          · exact ⟨rfl, g2⟩
          · exact resp_sadd now dst ms _ _ (commit_good g2)
    | _ => exact ⟨rfl, g1⟩

variable {now : Int} {s s' : MState}

theorem asList_good (g : Good now s s') {k : Bytes}
    (h : (vis now s k).isSome = true) : Api.asList s k = Api.asList s' k := by
  unfold Api.asList; rw [(valOf_good_vis g h).1]

theorem dstLookup_pair {α : Type} {now : Int} {as : MState → Bytes → Option α}
    (has : ∀ {s s' : MState}, Good now s s' → ∀ {k : Bytes}, (vis now s k).isSome = true → as s k = as s' k)
    {s s' : MState} (g : Good now s s') {src : Bytes} (hv : (vis now s src).isSome = true) (dst : Bytes) :
    ∃ dok s0 s0', writeKey s now dst none = (s0, dok) ∧ writeKey s' now dst none = (s0', dok) ∧ Good now s0 s0' ∧
      (vis now s0 src).isSome = true ∧ (dok && (as s0 dst).isNone) = (dok && (as s0' dst).isNone) := by
  obtain ⟨dok, s0, s0', hw0, hw0', g0, hot0⟩ := writeKey_pair g dst none
  have hv0 := writeKey_visible (now := now) dst src none hv
  rw [hw0] at hv0
  refine ⟨dok, s0, s0', hw0, hw0', g0, hv0, ?_⟩
  cases dok with
  | false => rfl
  | true => rw [has g0 (hot0 rfl).visible]

theorem resp_rotate (now : Int) (left : Bool) (src dst : Bytes) :
    Resp now (fun s => Api.rotate left s now src dst) := by
  intro s s' g
  show RSim now (Api.rotate left s now src dst) (Api.rotate left s' now src dst)
  rw [C20.rotate_eq, C20.rotate_eq]
  obtain ⟨ok, s1, s1', hw, hw', g1, hot⟩ := writeKey_pair g src none
  rw [hw, hw']
  cases ok with
  | false => exact ⟨rfl, g1⟩
  | true =>
    simp only [Bool.not_true, Bool.false_eq_true, if_false]
    have hv := (hot rfl).visible
    rw [asList_good g1 hv]
    cases Api.asList s1' src with
    | none => exact ⟨rfl, g1⟩
    | some l =>
      simp only
      obtain ⟨dok, s0, s0', hw0, hw0', g0, hv0, hc⟩ := dstLookup_pair asList_good g1 hv dst
      rw [hw0, hw0']
      simp only
      rw [hc]
      cases (dok && (Api.asList s0' dst).isNone)
      case true => exact ⟨rfl, g0⟩
      simp only [Bool.false_eq_true, if_false]
      cases (C20.rotPop left l).2 with
      | none => exact ⟨rfl, g0⟩
      | some vs =>
        -- the addition to the destination is a key transaction; left is the silent removal from the source
        refine keyTx_good ?_ true _ _ _ _ dst nofun
        have g2 := setVal_good g0 src (.list (C20.rotPop left l).1) hv0
        unfold C20.rotRemAct
        split
        · exact signal_good (delKey_good g2 src) src
        · exact signal_good g2 src

theorem resp_smove (now : Int) (src dst member : Bytes) :
    Resp now (fun s => Api.smove s now src dst member) := by
  intro s s' g
  show RSim now (Api.smove s now src dst member) (Api.smove s' now src dst member)
  rw [C20.smove_eq, C20.smove_eq]
  obtain ⟨ok, s1, s1', hw, hw', g1, hot⟩ := writeKey_pair g src none
  rw [hw, hw']
  cases ok with
  | false => exact ⟨rfl, g1⟩
  | true =>
    simp only [Bool.not_true, Bool.false_eq_true, if_false]
    have hv := (hot rfl).visible
    rw [asSet_good g1 hv]
    cases Api.asSet s1' src with
    | none => exact ⟨rfl, g1⟩
    | some st =>
      simp only
      obtain ⟨dok, s0, s0', hw0, hw0', g0, hv0, hc⟩ := dstLookup_pair asSet_good g1 hv dst
      rw [hw0, hw0']
      simp only
      rw [hc]
      cases (dok && (Api.asSet s0' dst).isNone)
      -- the reply by name: from `rfl` the kernel would compare the two runs behind `else` before it reduces the `if`
      case true => exact ⟨Eq.refl Out.panic, g0⟩
      simp only [Bool.false_eq_true, if_false]
      have g2 := setVal_good g0 src (.set (DsSet.srem st [member]).1) hv0
      by_cases hm : (DsSet.srem st [member]).2 = 0
      · rw [if_pos hm, if_pos hm]
        exact ⟨rfl, g2⟩
      · rw [if_neg hm, if_neg hm]
        -- the addition to the destination is a key transaction; left is the silent removal from the source
        refine keyTx_good ?_ true _ _ _ _ dst nofun
        unfold C20.smoveRemAct
        split
        · exact signal_good (delKey_good g2 src) src
        · exact signal_good g2 src

theorem asZSet_good (g : Good now s s') {k : Bytes}
    (h : (vis now s k).isSome = true) : Api.asZSet s k = Api.asZSet s' k := by
  unfold Api.asZSet; rw [(valOf_good_vis g h).1]

theorem zunion_go_good {now : Int} (weights : List F64) (agg : Bytes) (ks : List (Bytes × Nat)) :
    ∀ {s s' : MState} (acc : Option (AList F64)), Good now s s' →
    RSim now (Api.zunionCore.go now weights agg ks s acc) (Api.zunionCore.go now weights agg ks s' acc) := by
  induction ks with
  | nil => intro s s' acc g; exact ⟨rfl, g⟩
  | cons e rest ih =>
    obtain ⟨k, i⟩ := e
    intro s s' acc g
    obtain ⟨ok, s1, s1', hw, hw', g1, hot⟩ := readKey_pair g k
    unfold Api.zunionCore.go
    rw [hw, hw']
    simp only
    cases ok with
    | false => exact ih acc g1
    | true =>
      simp only [Bool.not_true, Bool.false_eq_true, if_false]
      rw [asZSet_good g1 (hot rfl).visible]
      cases Api.asZSet s1' k with
      | none => exact ⟨rfl, g1⟩
      | some z =>
        simp only
        cases DsZSet.forEachByRank z 0 (-1) false with
        | none => exact ⟨rfl, g1⟩
        | some items => exact ih _ g1

theorem zunionCore_good {now : Int} (keys : List Bytes) (weights : List F64) (agg : Bytes)
    {s s' : MState} (g : Good now s s') :
    RSim now (Api.zunionCore s now keys weights agg) (Api.zunionCore s' now keys weights agg) := by
  unfold Api.zunionCore
  obtain ⟨r, s1, s1', hw, hw', g1⟩ := RSim.pair (zunion_go_good weights agg keys.zipIdx (some []) g)
  rw [hw, hw']
  simp only
  exact ⟨rfl, g1⟩

theorem resp_zunion (now : Int) (keys : List Bytes) (weights : List F64) (agg : Bytes) :
    Resp now (fun s => Api.zunion s now keys weights agg) := by
  intro s s' g
  show RSim now (Api.zunion s now keys weights agg) (Api.zunion s' now keys weights agg)
  unfold Api.zunion
  obtain ⟨r, s1, s1', hw, hw', g1⟩ := RSim.pair (zunionCore_good keys weights agg g)
  rw [hw, hw']
  cases r with
  | none => exact ⟨rfl, g1⟩
  | some o => cases o <;> exact ⟨rfl, g1⟩

theorem zinter_inner_good {now : Int} (i : Nat) (m : Bytes) (js : List (Bytes × Nat)) :
    ∀ {s s' : MState}, Good now s s' →
    RSim now (Api.zinterCore.go.inner now i js s m) (Api.zinterCore.go.inner now i js s' m) := by
  induction js with
  | nil => intro s s' g; exact ⟨rfl, g⟩
  | cons e rest ih =>
    obtain ⟨o, j⟩ := e
    intro s s' g
    obtain ⟨ok, s1, s1', hw, hw', g1, hot⟩ := readKey_pair g o
    unfold Api.zinterCore.go.inner
    rw [hw, hw']
    simp only
    by_cases hj : j = i
    · rw [if_pos hj, if_pos hj]
      exact ih g1
    · rw [if_neg hj, if_neg hj]
      cases ok with
      | false => exact ⟨rfl, g1⟩
      | true =>
        simp only [Bool.not_true, Bool.false_eq_true, if_false]
        rw [asZSet_good g1 (hot rfl).visible]
        cases Api.asZSet s1' o with
        | none => exact ⟨rfl, g1⟩
        | some oz =>
          simp only
          split
          · exact ih g1
          · exact ⟨rfl, g1⟩

theorem zinter_outer_good {now : Int} (keys : List Bytes) (weights : List F64) (agg : Bytes) (i : Nat)
    (its : List Item) :
    ∀ {s s' : MState} (acc : Option (AList F64)), Good now s s' →
    RSim now (Api.zinterCore.go.outer now keys weights agg i its s acc)
      (Api.zinterCore.go.outer now keys weights agg i its s' acc) := by
  induction its with
  | nil => intro s s' acc g; exact ⟨rfl, g⟩
  | cons it more ih =>
    intro s s' acc g
    obtain ⟨r, s1, s1', hw, hw', g1⟩ := RSim.pair (zinter_inner_good i it.2 keys.zipIdx g)
    unfold Api.zinterCore.go.outer
    rw [hw, hw']
    cases r with
    | none => exact ⟨rfl, g1⟩
    | some found => exact ih _ g1

theorem zinter_go_good {now : Int} (keys : List Bytes) (weights : List F64) (agg : Bytes)
    (ks : List (Bytes × Nat)) :
    ∀ {s s' : MState} (acc : Option (AList F64)), Good now s s' →
    RSim now (Api.zinterCore.go now keys weights agg ks s acc) (Api.zinterCore.go now keys weights agg ks s' acc) := by
  induction ks with
  | nil => intro s s' acc g; exact ⟨rfl, g⟩
  | cons e rest ih =>
    obtain ⟨k, i⟩ := e
    intro s s' acc g
    obtain ⟨ok, s1, s1', hw, hw', g1, hot⟩ := readKey_pair g k
    unfold Api.zinterCore.go
    rw [hw, hw']
    simp only
    cases ok with
    | false => exact ⟨rfl, g1⟩
    | true =>
      simp only [Bool.not_true, Bool.false_eq_true, if_false]
      rw [asZSet_good g1 (hot rfl).visible]
      cases Api.asZSet s1' k with
      | none => exact ⟨rfl, g1⟩
      | some z =>
        simp only
        cases DsZSet.forEachByRank z 0 (-1) false with
        | none => exact ⟨rfl, g1⟩
        | some items =>
          simp only
          obtain ⟨r, s2, s2', ho, ho', g2⟩ := RSim.pair (zinter_outer_good keys weights agg i items acc g1)
          rw [ho, ho']
          cases r with
          | none => exact ⟨rfl, g2⟩
          | some a => exact ih a g2

theorem zinterCore_good {now : Int} (keys : List Bytes) (weights : List F64) (agg : Bytes)
    {s s' : MState} (g : Good now s s') :
    RSim now (Api.zinterCore s now keys weights agg) (Api.zinterCore s' now keys weights agg) := by
  unfold Api.zinterCore
  obtain ⟨r, s1, s1', hw, hw', g1⟩ := RSim.pair (zinter_go_good keys weights agg keys.zipIdx (some []) g)
  rw [hw, hw']
  simp only
  exact ⟨rfl, g1⟩

theorem resp_zinter (now : Int) (keys : List Bytes) (weights : List F64) (agg : Bytes) :
    Resp now (fun s => Api.zinter s now keys weights agg) := by
  intro s s' g
  show RSim now (Api.zinter s now keys weights agg) (Api.zinter s' now keys weights agg)
  unfold Api.zinter
  obtain ⟨r, s1, s1', hw, hw', g1⟩ := RSim.pair (zinterCore_good keys weights agg g)
  rw [hw, hw']
  cases r with
  | none => exact ⟨rfl, g1⟩
  | some o => cases o <;> exact ⟨rfl, g1⟩

theorem resp_incrByFloat (now : Int) (k : Bytes) (delta : F64) :
    Resp now (fun s => Api.incrByFloat s now k delta) := resp_keyTx (fun s => C20.incrByFloat_eq s now k delta) nofun

theorem resp_hincrbyfloat (now : Int) (k field : Bytes) (delta : F64) :
    Resp now (fun s => Api.hincrbyfloat s now k field delta) :=
  resp_keyTx (fun s => C20.hincrbyfloat_eq s now k field delta) nofun

/-! ### ZUNIONSTORE / ZINTERSTORE: compute, then look the destination up, then store -/

theorem resp_zstore (now : Int) (union : Bool) (dst : Bytes) (keys : List Bytes) (weights : List F64)
    (agg : Bytes) : Resp now (fun s => Api.zstore union s now dst keys weights agg) := by
  intro s s' g
  show RSim now (Api.zstore union s now dst keys weights agg) (Api.zstore union s' now dst keys weights agg)
  unfold Api.zstore
  simp only
  have hcore : RSim now ((if union = true then Api.zunionCore else Api.zinterCore) s now keys weights agg)
      ((if union = true then Api.zunionCore else Api.zinterCore) s' now keys weights agg) := by
    cases union
    · exact zinterCore_good keys weights agg g
    · exact zunionCore_good keys weights agg g
  obtain ⟨r, s1, s1', hw, hw', g1⟩ := RSim.pair (hcore)
  rw [hw, hw']
  cases r with
  | none => exact ⟨rfl, g1⟩
  | some o =>
    cases o with
    | none => exact ⟨rfl, g1⟩
    | some items =>
      simp only
      obtain ⟨s2, s2', hd, hd', g2, _⟩ := writeKey_create_pair (commit_good g1) dst (.zset DsZSet.empty)
      rw [hd, hd']
      simp only
      by_cases he : items.isEmpty = true
      · rw [if_pos he, if_pos he]
        refine ⟨rfl, ?_⟩
        apply emit_good
        exact setSignalled_good (delKey_good g2 dst) _ _ (by rw [g2.signalled])
      · rw [if_neg he, if_neg he]
        refine ⟨rfl, ?_⟩
        apply emit_good
        apply signal_good
        simp only [fresh]
        rw [g2.nextId]
        exact modMeta_good (setNextId_good g2 (s2'.nextId + 1)) dst _
          (adoptRec s2'.nextId (.zset _)) (fun _ => rfl) (fun t d => recOf_adopt t dst s2'.nextId _ d)

end NodisVerif.Proofs.C10

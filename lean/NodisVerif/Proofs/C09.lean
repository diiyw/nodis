import NodisVerif.Proofs.C08Others
/-
  C09 — step-level lemmas about watch flags: who gets flagged by a step, what persists.
-/
namespace NodisVerif.Proofs.C08Step
open Resp Server
open NodisVerif.Proofs.AListLemmas2

theorem hits_iff {reg : AList (List String)} (hs : AList.Sorted reg) (st : MState) (i : String) (x : Bytes) :
    hits reg st i x ↔ (x ∈ st.signalled ∨ st.flushed = true) ∧ ∃ ids, AList.get? reg x = some ids ∧ i ∈ ids := by
  unfold hits
  constructor
  · rintro (⟨a, b⟩ | ⟨a, ids, b, c⟩)
    · exact ⟨Or.inl a, b⟩
    · exact ⟨Or.inr a, ids, get?_of_mem _ hs _ _ b, c⟩
  · rintro ⟨a | a, ids, b, c⟩
    · exact Or.inl ⟨a, ids, b, c⟩
    · exact Or.inr ⟨a, ids, mem_of_get? _ _ _ b, c⟩

/-- key `x` was passed to `signalModifiedKey` by one of the store effects `outs`, or one of them cleared the store -/
def touched (outs : List BodyOut) (x : Bytes) : Prop :=
  ∃ o ∈ outs, x ∈ o.store.signalled ∨ o.store.flushed = true

theorem stepTouches_eq (H : Table) (sv : Server) (c : Cmd) : stepTouches H sv c = touched (stepOuts H sv c) := rfl

/-- `FlaggedC` for connections other than `id`, phrased with `registered` -/
structure OthersS (S : String → Bytes → Prop) (id : String) (sv sv' : Server) : Prop where
  state : ∀ i, i ≠ id → (sv'.conn i).state = (sv.conn i).state
  queue : ∀ i, i ≠ id → (sv'.conn i).queue = (sv.conn i).queue
  reg : ∀ i, i ≠ id → ∀ x, registered sv' i x ↔ registered sv i x
  hit : ∀ i, i ≠ id → ∀ x, S i x → AList.get? (sv'.conn i).watch x = some true
  miss : ∀ i, i ≠ id → ∀ x, ¬ S i x → AList.get? (sv'.conn i).watch x = AList.get? (sv.conn i).watch x
  same : ∀ i, i ≠ id → (∀ x, ¬ S i x) → sv'.conn i = sv.conn i

theorem OthersS.of_same {id : String} {a b : Server} (hc : ∀ i, i ≠ id → b.conn i = a.conn i)
    (hr : ∀ i, i ≠ id → ∀ x, registered b i x ↔ registered a i x) : OthersS (fun _ _ => False) id a b :=
  ⟨fun i hi => by rw [hc i hi], fun i hi => by rw [hc i hi], hr, fun _ _ _ h => h.elim,
   fun i hi x _ => by rw [hc i hi], fun i hi _ => hc i hi⟩

theorem OthersS.trans {S₁ S₂ : String → Bytes → Prop} {id : String} {a b c : Server}
    (h₁ : OthersS S₁ id a b) (h₂ : OthersS S₂ id b c) : OthersS (fun i x => S₁ i x ∨ S₂ i x) id a c := by
  refine ⟨fun i hi => (h₂.state i hi).trans (h₁.state i hi), fun i hi => (h₂.queue i hi).trans (h₁.queue i hi),
    fun i hi x => (h₂.reg i hi x).trans (h₁.reg i hi x), ?_, ?_, ?_⟩
  · intro i hi x hs
    by_cases h2 : S₂ i x
    · exact h₂.hit i hi x h2
    · rw [h₂.miss i hi x h2]; exact h₁.hit i hi x (hs.resolve_right h2)
  · intro i hi x hs
    rw [h₂.miss i hi x (fun h => hs (Or.inr h)), h₁.miss i hi x (fun h => hs (Or.inl h))]
  · intro i hi hs
    rw [h₂.same i hi (fun x h => hs x (Or.inr h)), h₁.same i hi (fun x h => hs x (Or.inl h))]

theorem OthersS.congr {S S' : String → Bytes → Prop} {id : String} {a b : Server} (h : OthersS S id a b)
    (e : ∀ i, i ≠ id → ∀ x, S i x ↔ S' i x) : OthersS S' id a b :=
  ⟨h.state, h.queue, h.reg, fun i hi x hs => h.hit i hi x ((e i hi x).mpr hs),
   fun i hi x hs => h.miss i hi x (fun h' => hs ((e i hi x).mp h')),
   fun i hi hs => h.same i hi (fun x h' => hs x ((e i hi x).mp h'))⟩

theorem OthersS.of_flaggedC {S : String → Bytes → Prop} {sv sv' : Server} (f : FlaggedC S sv sv') (id : String) :
    OthersS S id sv sv' :=
  ⟨fun i _ => f.state i, fun i _ => f.queue i, fun i _ x => registered_congr f.registry i x,
   fun i _ => f.hit i, fun i _ => f.miss i, fun i _ => f.same i⟩

theorem OthersS.setConn (id : String) (sv : Server) (c : ConnState) : OthersS (fun _ _ => False) id sv (sv.setConn id c) :=
  OthersS.of_same (fun _ hi => conn_setConn_other _ _ _ _ hi) (fun _ _ _ => Iff.rfl)
theorem OthersS.refl (id : String) (sv : Server) : OthersS (fun _ _ => False) id sv sv :=
  OthersS.of_same (fun _ _ => rfl) (fun _ _ _ => Iff.rfl)
theorem OthersS.resetConn (id : String) (sv : Server) : OthersS (fun _ _ => False) id sv (resetConn sv id) :=
  OthersS.of_same (fun _ hi => resetConn_conn_other _ _ _ hi) (Others.resetConn id sv).reg
theorem OthersS.unwatchAll (id : String) (sv : Server) : OthersS (fun _ _ => False) id sv (unwatchAll sv id) :=
  OthersS.of_same (fun _ hi => unwatchAll_conn_other _ _ _ hi) (Others.unwatchAll id sv).reg
theorem OthersS.watchLoop (id : String) (keys : List Bytes) (sv : Server) :
    OthersS (fun _ _ => False) id sv (watchLoop id keys sv) :=
  OthersS.of_same (fun i hi => watchLoop_conn_other id i hi keys sv) (Others.watchLoop id keys sv).reg
theorem OthersS.afterHandler (id : String) (sv : Server) (toks : List Tok) :
    OthersS (fun _ _ => False) id sv (afterHandler sv id toks) :=
  OthersS.of_same (fun _ hi => afterHandler_conn_other _ _ _ _ hi) (Others.afterHandler id sv toks).reg

theorem OthersS.of_false {S : String → Bytes → Prop} {id : String} {a b : Server}
    (h : OthersS (fun _ _ => False) id a b) (hS : ∀ i, i ≠ id → ∀ x, ¬ S i x) : OthersS S id a b :=
  h.congr (fun i hi x => ⟨False.elim, hS i hi x⟩)

theorem runBody_othersS {sv : Server} (hs : AList.Sorted sv.registry) (id : String) (now : Int) (ch : Choice) (b : Body) :
    OthersS (fun i x => touched [outOf sv.store now ch b] x ∧ registered sv i x) id sv (runBody sv now ch b).1 :=
  (OthersS.of_flaggedC (runBody_flagged sv now ch b) id).congr (fun i _ x => by
    rw [hits_iff hs]; simp [touched, registered])

theorem runBody_flaggedR {sv : Server} (hs : AList.Sorted sv.registry) (now : Int) (ch : Choice) (b : Body) :
    FlaggedC (fun i x => touched [outOf sv.store now ch b] x ∧ registered sv i x) sv (runBody sv now ch b).1 :=
  (runBody_flagged sv now ch b).congr (fun i x => by rw [hits_iff hs]; simp [touched, registered])

theorem execLoop_flaggedR {sv : Server} (hs : AList.Sorted sv.registry) (now : Int) (bs : List Body) (ts : List Tok) :
    FlaggedC (fun i x => touched (execOuts sv.store now bs) x ∧ registered sv i x) sv (execLoop now bs (sv, ts)).1 :=
  (execLoop_spec now bs sv ts).2.2.congr (fun i x => by
    simp only [execHits, hits_iff hs, touched, registered]
    constructor
    · rintro ⟨o, ho, h1, h2⟩; exact ⟨⟨o, ho, h1⟩, h2⟩
    · rintro ⟨⟨o, ho, h1⟩, h2⟩; exact ⟨o, ho, h1, h2⟩)

theorem execCommand_othersS {sv : Server} (hs : AList.Sorted sv.registry) (id : String) (now : Int) (ch : Choice) (b : Body) :
    OthersS (fun i x => touched (if runsNow (sv.conn id).state then [outOf sv.store now ch b] else []) x ∧ registered sv i x)
      id sv (execCommand sv id now ch b).1 := by
  rw [execCommand_eq]; split
  · exact runBody_othersS hs id now ch b
  · exact (OthersS.setConn id sv _).of_false (by simp [touched])

theorem step_othersS (H : Table) {sv : Server} (hwf : RegWF sv) (c : Cmd) :
    OthersS (fun i x => stepTouches H sv c x ∧ registered sv i x) c.id sv (step H sv c).1 := by
  have hs := hwf.sorted
  have fin : ∀ {S : String → Bytes → Prop} {d : Server × List Tok}, OthersS S c.id sv d.1 →
      OthersS S c.id sv (afterHandler d.1 c.id d.2) := by
    intro S d h
    exact (h.trans (OthersS.afterHandler c.id d.1 d.2)).congr (by simp)
  unfold step
  apply fin
  have quiet : ∀ {d : Server}, stepOuts H sv c = [] → OthersS (fun _ _ => False) c.id sv d →
      OthersS (fun i x => stepTouches H sv c x ∧ registered sv i x) c.id sv d :=
    fun e h => h.of_false (by simp [stepTouches, e])
  refine dispatch_cases (P := fun d => OthersS (fun i x => stepTouches H sv c x ∧ registered sv i x) c.id sv d.1) H sv c
    ?_ ?_ ?_ ?_ ?_ ?_ ?_
  · intro h1  -- multi
    rw [multi_eq]; split
    · exact quiet (stepOuts_multi H sv c h1) (OthersS.refl c.id sv)
    · exact quiet (stepOuts_multi H sv c h1) (OthersS.setConn c.id sv _)
  · intro h2  -- exec
    by_cases hr : execRuns (sv.conn c.id)
    · simp only [stepTouches_eq, stepOuts_exec H sv c h2, if_pos hr]
      obtain ⟨c', _, e⟩ := exec_of_runs sv c.id c.now hr
      rw [e]
      have f := execLoop_flaggedR (sv := sv.setConn c.id c') hs c.now (sv.conn c.id).queue
          [Tok.arr (sv.conn c.id).queue.length]
      refine (((OthersS.setConn c.id sv _).trans (OthersS.of_flaggedC f c.id)).trans (OthersS.resetConn c.id _)).congr ?_
      intro i _ x
      simp [registered]
    · rw [exec_not_runs sv c.id c.now hr]
      exact quiet (by rw [stepOuts_exec H sv c h2, if_neg hr]) (OthersS.resetConn c.id sv)
  · intro h3; exact quiet (stepOuts_discard H sv c h3) (OthersS.resetConn c.id sv)  -- discard
  · intro h4  -- watch
    rw [watch_eq]; split
    · exact quiet (stepOuts_watch H sv c h4) (OthersS.refl c.id sv)
    · split
      · exact quiet (stepOuts_watch H sv c h4) (OthersS.refl c.id sv)
      · exact quiet (stepOuts_watch H sv c h4) (OthersS.watchLoop c.id _ sv)
  · intro h5  -- unwatch
    simp only [stepTouches_eq, stepOuts_unwatch H sv c h5]
    by_cases hr : runsNow (sv.conn c.id).state
    · rw [if_pos hr, if_pos hr]
      have h' := execCommand_othersS (sv := unwatchAll sv c.id) (unwatchAll_sorted sv c.id hs) c.id c.now c.ch okBody
      rw [unwatchAll_conn_same, if_pos hr, unwatchAll_store] at h'
      refine ((OthersS.unwatchAll c.id sv).trans h').congr ?_
      intro i hi x
      simp [(Others.unwatchAll c.id sv).reg i hi x]
    · rw [if_neg hr, if_neg hr]
      have h' := execCommand_othersS hs c.id c.now c.ch okBody
      rw [if_neg hr] at h'
      exact h'
  · intro hsp hH ts  -- reply
    exact quiet (stepOuts_reply H sv c hsp hH) (OthersS.refl c.id sv)
  · intro hsp b hH  -- call
    simp only [stepTouches_eq, stepOuts_call H sv c hsp hH]
    exact execCommand_othersS hs c.id c.now c.ch b

end NodisVerif.Proofs.C08Step

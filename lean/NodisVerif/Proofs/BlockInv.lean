import NodisVerif.Proofs.BlockStep
/-
  The state invariant of the BLPOP/BRPOP wake-up protocol (per waiter), and what follows from it:
  no missed push, token conservation, `step ⊆ stepLoose`.
-/
namespace NodisVerif.Proofs.Block
open NodisVerif.Block

structure WInv (st : WSt) : Prop where
  tok_le : st.woken ≤ st.notified
  tok_buf : st.buf = true → st.woken < st.notified
  /-- in a round: every key already passed has been seen empty after its last push, or a wake-up waits -/
  scanSeen : ∀ i, st.phase = .scan i → st.buf = true ∨ ∀ k ∈ st.keys.take i, k ∈ st.seen
  /-- asleep: every key has been seen empty after its last push, or a wake-up waits -/
  blockedSeen : st.phase = .blocked → st.buf = true ∨ ∀ k ∈ st.keys, k ∈ st.seen
  scanLe : ∀ i, st.phase = .scan i → i ≤ st.keys.length
  /-- until it returns, the waiter is registered for all its keys -/
  regKeys : (pos st.phase ≠ none ∨ st.phase = .blocked) → st.reg = st.keys
  keysNe : st.keys ≠ []

/-- once the call has returned (or is unwinding) only the token part and `keysNe` bind: the other fields speak of
    phases inside a round or of the wait -/
theorem WInv.of_returned {st st' : WSt} (hi : WInv st) (hr : Returned st'.phase) (hw : st'.woken = st.woken)
    (hn : st'.notified = st.notified) (hb : st'.buf = st.buf) (hk : st'.keys = st.keys) : WInv st' := by
  obtain ⟨hp1, hp2⟩ := returned_pos hr
  have hns : ∀ i, st'.phase ≠ .scan i := fun i h => by rw [h] at hp1; cases hp1
  exact {
    tok_le := by rw [hw, hn]; exact hi.tok_le
    tok_buf := fun h => by rw [hw, hn]; exact hi.tok_buf (hb ▸ h)
    scanSeen := fun i h => (hns i h).elim
    blockedSeen := fun h => (hp2 h).elim
    scanLe := fun i h => (hns i h).elim
    regKeys := fun h => h.elim (fun h => (h hp1).elim) (fun h => (hp2 h).elim)
    keysNe := hk ▸ hi.keysNe }

theorem winv_step (o : Option WSt) (e : Ev) (st' : WSt) (ho : ∀ st, o = some st → WInv st)
    (h : lstep o e = some (some st')) : WInv st' := by
  cases e with
  | reg w k =>
    obtain ⟨hp, hr⟩ := lstep_reg.1 h
    cases hr
    cases o with
    | none =>
      exact { tok_le := Nat.le_refl _, tok_buf := nofun, scanSeen := nofun, blockedSeen := nofun, scanLe := nofun,
              regKeys := fun _ => rfl, keysNe := nofun }
    | some st =>
      have hi := ho st rfl
      simp only [Option.getD_some] at hp ⊢
      have hx : ∀ {p : Phase}, st.phase = p → p = .registering := fun h => h.symm.trans hp
      exact {
        tok_le := hi.tok_le
        tok_buf := hi.tok_buf
        scanSeen := fun i h => nomatch hx h
        blockedSeen := fun h => nomatch hx h
        scanLe := fun i h => nomatch hx h
        regKeys := fun _ => congrArg (· ++ [k]) (hi.regKeys (Or.inl (by rw [hp]; exact nofun)))
        keysNe := List.append_ne_nil_of_right_ne_nil _ (List.cons_ne_nil _ _) }
  | try_ w k got =>
    obtain ⟨st, i, rfl, hp, hk, hr⟩ := lstep_try.1 h
    have hi := ho st rfl
    have hreg := hi.regKeys (Or.inl (by rw [hp]; exact nofun))
    cases got with
    | true =>
      simp only [if_true, Option.some.injEq] at hr; subst hr
      exact hi.of_returned trivial rfl rfl rfl rfl
    | false =>
      simp only [Bool.false_eq_true, if_false, Option.some.injEq] at hr; subst hr
      have hlt : i < st.keys.length := (List.getElem?_eq_some_iff.1 hk).1
      -- the keys before position i: from the invariant of the round so far (none at its start)
      have hprev : st.buf = true ∨ ∀ k ∈ st.keys.take i, k ∈ st.seen := by
        cases hph : st.phase with
        | scan j => rw [hph] at hp; cases hp; exact hi.scanSeen _ hph
        | registering => rw [hph] at hp; cases hp; exact Or.inr nofun
        | _ => rw [hph] at hp; cases hp
      refine { tok_le := hi.tok_le, tok_buf := hi.tok_buf, scanSeen := ?_, blockedSeen := nofun, scanLe := ?_,
               regKeys := fun _ => hreg, keysNe := hi.keysNe }
      · intro j hj
        cases hj
        refine hprev.imp id fun hs k' hk' => ?_
        rw [List.take_add_one, hk, List.mem_append] at hk'
        rcases hk' with h1 | h1
        · exact List.mem_cons_of_mem _ (hs k' h1)
        · cases List.mem_singleton.1 h1; exact List.mem_cons_self
      · intro j hj
        cases hj
        exact hlt
  | block w t =>
    obtain ⟨st, rfl, hp, hr⟩ := lstep_block.1 h
    have hi := ho st rfl
    cases hr
    refine { tok_le := hi.tok_le, tok_buf := hi.tok_buf, scanSeen := nofun, blockedSeen := fun _ => ?_, scanLe := nofun,
             regKeys := fun _ => hi.regKeys (Or.inl (by rw [hp]; exact nofun)), keysNe := hi.keysNe }
    -- all keys have been passed: `take keys.length` is everything
    simpa using hi.scanSeen _ hp
  | wake w =>
    obtain ⟨st, rfl, hp, hb, hr⟩ := lstep_wake.1 h
    have hi := ho st rfl
    cases hr
    have := hi.tok_buf hb
    exact {
      tok_le := by show st.woken + 1 ≤ st.notified; omega
      tok_buf := nofun
      scanSeen := fun i hi' => by cases hi'; exact Or.inr nofun
      blockedSeen := nofun
      scanLe := fun i hi' => by cases hi'; exact Nat.zero_le _
      regKeys := fun _ => hi.regKeys (Or.inr hp)
      keysNe := hi.keysNe }
  | timeout w =>
    obtain ⟨st, rfl, hp, hb, hr⟩ := lstep_timeout.1 h
    have hi := ho st rfl
    cases hr
    exact hi.of_returned trivial rfl rfl rfl rfl
  | notify w k =>
    obtain ⟨st, rfl, hk, hr⟩ := lstep_notify.1 h
    have hi := ho st rfl
    cases hr
    have := hi.tok_le
    exact {
      tok_le := by show st.woken ≤ st.notified + 1; omega
      tok_buf := fun _ => by show st.woken < st.notified + 1; omega
      scanSeen := fun _ _ => Or.inl rfl
      blockedSeen := fun _ => Or.inl rfl
      scanLe := hi.scanLe
      regKeys := hi.regKeys
      keysNe := hi.keysNe }
  | abort w =>
    obtain ⟨st, rfl, hp, hr⟩ := lstep_abort.1 h
    have hi := ho st rfl
    cases hr
    exact hi.of_returned trivial rfl rfl rfl rfl
  | unreg w k =>
    obtain ⟨st, rfl, hp, hr⟩ := lstep_unreg.1 h
    have hi := ho st rfl
    cases hr
    exact hi.of_returned hp rfl rfl rfl rfl
  | fin w =>
    obtain ⟨st, _, _, hr⟩ := lstep_fin.1 h
    cases hr

theorem Reachable.winv {s : BState} (h : Reachable s) {w : W} {st : WSt} (hg : get s w = some st) :
    WInv st :=
  local_invariant (P := WInv) winv_step h hg

theorem stepLoose_of_not_wake {hb : BState} {ev : Ev} (hw : ∀ w, ev ≠ .wake w) : stepLoose hb ev = step hb ev := by
  cases ev <;> first | rfl | exact absurd rfl (hw _)

theorem step_le_stepLoose {s s' : BState} {e : Ev} (hr : Reachable s) (h : step s e = some s') :
    stepLoose s e = some s' := by
  cases e with
  | wake w =>
    simp only [step] at h
    simp only [stepLoose]
    cases hg : get s w with
    | none => simp [hg] at h
    | some st =>
      simp only [hg] at h ⊢
      split at h
      · simp at h
      · rename_i hc
        simp only [Bool.or_eq_true, bne_iff_ne, ne_eq, Bool.not_eq_true', not_or, Decidable.not_not,
          Bool.not_eq_false] at hc
        have := (hr.winv hg).tok_buf hc.2
        simp [hc.1, this, ← h]
  | _ => rw [stepLoose_of_not_wake (fun _ => Ev.noConfusion)]; exact h

/-- the fold of `stepLoose` over a trace: what the replay of a recorded trace computes, line by line
    (Driver/ProtoOps.lean, `blockOp`) -/
def runAllLoose (s : BState) : List Ev → Option BState
  | [] => some s
  | e :: es => (stepLoose s e).bind (fun s' => runAllLoose s' es)

theorem runAllLoose_snoc (s : BState) (es : List Ev) (e : Ev) :
    runAllLoose s (es ++ [e]) = (runAllLoose s es).bind (fun s' => stepLoose s' e) := by
  induction es generalizing s with
  | nil => simp [runAllLoose]
  | cons x xs ih =>
    simp only [List.cons_append, runAllLoose]
    cases stepLoose s x <;> simp [ih]

theorem runAll_le_runAllLoose {s0 s : BState} {es : List Ev} (hr : Reachable s0)
    (h : runAll s0 es = some s) : runAllLoose s0 es = some s := by
  induction es generalizing s0 with
  | nil => exact h
  | cons e es ih =>
    simp only [runAll] at h
    cases hse : step s0 e with
    | none => simp [hse] at h
    | some s1 =>
      simp only [hse, Option.bind_some] at h
      simp only [runAllLoose, step_le_stepLoose hr hse, Option.bind_some]
      exact ih (hr.step hse) h

end NodisVerif.Proofs.Block

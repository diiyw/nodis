import NodisVerif.Proofs.C19Quiescent
/-
  SCAN returns only unexpired names (its cursor arithmetic, however,
  counts expired records that are still indexed): a consequence of what C19 says of every name a call reports
  (`C19Quiescent.scan_sound`: it is the name of an indexed record that the filter of the call accepts).
-/
namespace NodisVerif.Proofs.C10
open NodisVerif Store

theorem scan_sound (s : MState) (now cursor : Int) (pat : Bytes) (count : Int) (typ : Nat) (n : Int)
    (ks : List Bytes) (h : (Api.scan s now cursor pat count typ).2 = .many [.int n, .slist ks]) :
    ∀ k ∈ ks, ∃ m, (k, m) ∈ s.index ∧ m.expired now = false ∧ Glob.matched pat k = true := by
  intro k hk
  have hx : k ∈ (C19Scan.scanStep now pat count typ s cursor).2.2 := by
    simp only [C19Scan.scanStep, h, C19Scan.scanOut]; exact hk
  obtain ⟨m, hm, he⟩ := C19Quiescent.scan_sound s now cursor pat count typ k hx
  simp only [C19Quiescent.Eligible, Bool.and_eq_true, Bool.not_eq_true'] at he
  exact ⟨m, hm, he.1.2, he.1.1⟩

end NodisVerif.Proofs.C10

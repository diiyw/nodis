import NodisVerif.Proofs.CodecLemmas
/-
  The four collection round-trip statements of C14 are FALSE without a bound on the length of
  the byte strings: a chunk of 2^63 bytes gets the length prefix PutVarint(2^63), i.e. the
  uvarint of 2^64, which `binary.Uvarint` rejects as an overflow (n = -10).
  A 2^63-byte list cannot be `#eval`uated, so the refutations are proved instead
  (for an arbitrary byte string of that length, instantiated with 2^63 zero bytes).
-/
namespace NodisVerif.Proofs.C14Counterexamples
open Varint Codec CodecLemmas AListLemmas

theorem putUvarint_two_pow_64 :
    putUvarint (2 ^ 64) = [128, 128, 128, 128, 128, 128, 128, 128, 128, 2] := by
  iterate 9 (rw [putUvarint, dif_neg (by decide)]; simp only [Nat.reducePow, Nat.reduceDiv, Nat.reduceMod, Nat.reduceAdd])
  rw [putUvarint, dif_pos (by decide)]
  rfl

theorem varint_overflow (rest : Bytes) :
    varint (putVarint (2 ^ 63) ++ rest) = (0, -10) := by
  have : zigzag (2 ^ 63) = 2 ^ 64 := by decide
  unfold putVarint
  rw [this, putUvarint_two_pow_64]
  simp [varint, uvarint, uvarintAux, unzigzag]

theorem varint_lenPrefixed_overflow (v rest : Bytes) (h : v.length = 2 ^ 63) :
    varint (lenPrefixed v ++ rest) = (0, -10) := by
  unfold lenPrefixed
  rw [h, List.append_assoc]
  exact varint_overflow _

theorem exists_bytes (n : Nat) : ∃ v : Bytes, v.length = n :=
  ⟨List.replicate n 0, List.length_replicate ..⟩

/-! ### list: the decoder fails (Go: slice bounds out of range) -/

theorem list_fail (v : Bytes) (hv : v.length = 2 ^ 63) :
    decodeEntry (encodeEntry (.list ⟨[v], 1⟩)) = none := by
  have e2 : encodeList ⟨[v], 1⟩ = lenPrefixed v ++ [] := by
    unfold encodeList
    rw [forEach_all]
    simp
  rw [decodeEntry_list, e2, decodeList.eq_3 _ _ _ (lenPrefixed_ne_nil _ _),
    varint_lenPrefixed_overflow _ _ hv]
  simp [slice?]

theorem list_roundtrip_false :
    ¬ ∀ l : LList, l.WF → decodeEntry (encodeEntry (.list l)) = some (.list l) := by
  intro H
  obtain ⟨v, hv⟩ := exists_bytes (2 ^ 63)
  have h := H ⟨[v], 1⟩ (by simp [LList.WF])
  rw [list_fail v hv] at h
  cases h

theorem set_fail (v : Bytes) (hv : v.length = 2 ^ 63) :
    decodeEntry (encodeEntry (.set [(v, ())])) = none := by
  have e2 : encodeSet [(v, ())] = lenPrefixed v ++ [] := rfl
  rw [decodeEntry_set, e2, decodeSet.eq_3 _ _ _ (lenPrefixed_ne_nil _ _),
    varint_lenPrefixed_overflow _ _ hv]
  simp [from?, slice?]

theorem set_roundtrip_false :
    ¬ ∀ m : AList Unit, AList.Sorted m → decodeEntry (encodeEntry (.set m)) = some (.set m) := by
  intro H
  obtain ⟨v, hv⟩ := exists_bytes (2 ^ 63)
  have h := H [(v, ())] trivial
  rw [set_fail v hv] at h
  cases h

/-! ### hash: the decoder stops silently (n ≤ 0) and returns the empty hash -/

theorem putVarint_zero : putVarint 0 = [0] := by
  unfold putVarint
  have : zigzag 0 = 0 := by decide
  rw [this, putUvarint, dif_pos (by decide)]
  rfl

theorem hash_truncated (v : Bytes) (hv : v.length = 2 ^ 63 - 1) :
    decodeEntry (encodeEntry (.hash [([], v)])) = some (.hash []) := by
  have e2 : encodeHash [([], v)] = lenPrefixed (lenPrefixed [] ++ v) ++ [] := rfl
  have hl : (lenPrefixed [] ++ v).length = 2 ^ 63 := by
    rw [List.length_append, hv, lenPrefixed_length]
    simp [putVarint_zero]
  rw [decodeEntry_hash, e2, decodeHash.eq_3 _ _ _ (lenPrefixed_ne_nil _ _),
    varint_lenPrefixed_overflow _ _ hl]
  simp

theorem hash_roundtrip_false :
    ¬ ∀ m : AList Bytes, AList.Sorted m → decodeEntry (encodeEntry (.hash m)) = some (.hash m) := by
  intro H
  obtain ⟨v, hv⟩ := exists_bytes (2 ^ 63 - 1)
  have h := H [([], v)] trivial
  rw [hash_truncated v hv] at h
  simp at h

theorem zset_truncated (v : Bytes) (hv : v.length = 2 ^ 63 - 8) :
    decodeEntry (encodeEntry (.zset ⟨[(v, 0)], [(0, v)]⟩)) = some (.zset DsZSet.empty) := by
  have e2 : encodeZSet ⟨[(v, 0)], [(0, v)]⟩ = lenPrefixed (u64le 0 ++ v) ++ [] := rfl
  have hl : (u64le 0 ++ v).length = 2 ^ 63 := by
    rw [List.length_append, hv, u64le_length]
  rw [decodeEntry_zset, e2, decodeZSet.eq_3 _ _ _ (lenPrefixed_ne_nil _ _),
    varint_lenPrefixed_overflow _ _ hl]
  simp

theorem zset_wf (v : Bytes) : ZSet.WF ⟨[(v, 0)], [(0, v)]⟩ := by
  refine ⟨trivial, ?_, trivial, rfl, ?_⟩
  · intro m s hm
    simp only [List.mem_singleton, Prod.mk.injEq] at hm
    rw [hm.2]
    decide
  · intro m s hm
    simp only [List.mem_singleton, Prod.mk.injEq] at hm
    rw [hm.1, hm.2]
    simp [AList.get?]

theorem zset_roundtrip_false :
    ¬ ∀ z : ZSet, z.WF → decodeEntry (encodeEntry (.zset z)) = some (.zset z) := by
  intro H
  obtain ⟨v, hv⟩ := exists_bytes (2 ^ 63 - 8)
  have h := H _ (zset_wf v)
  rw [zset_truncated v hv] at h
  simp [DsZSet.empty] at h

end NodisVerif.Proofs.C14Counterexamples

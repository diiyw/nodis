import NodisVerif.Proofs.C11Pass
/-
  C11 / C12: concrete states (non-vacuity of the invariant) and the witness of the nil-string finding.
-/
namespace NodisVerif.Proofs.C11
open NodisVerif.Store NodisVerif.Codec NodisVerif.Spec.Persist
open NodisVerif.Proofs.AListLemmas NodisVerif.Proofs.AListLemmas2 NodisVerif.Proofs.C11AList

/-- a store with one hot modified key "a" (never persisted), one cold key "b" with deadline 1000
    and the backend entry of "b" -/
def exState (pebble : Bool) : MState :=
  { pebble := pebble, nextId := 10,
    index := [([97], { exp := 0, value := some (.str [1]), state := 3, kid := 1, oid := 2, vtype := 1 }),
              ([98], { exp := 1000, value := none, state := 1, kid := 3, oid := 4, vtype := 1, stored := some 1000 })],
    disk := [(encodeKey [98] 1000,
              { name := [98], exp := 1000, val := .str [2], kid := if pebble then 0 else 3, oid := if pebble then 0 else 4 })] }

theorem exState_inv (pebble : Bool) (t : Int) : StoreInv (exState pebble) t := by
  have hidx : ∀ k m, AList.get? (exState pebble).index k = some m →
      (k = [97] ∧ m = { exp := 0, value := some (.str [1]), state := 3, kid := 1, oid := 2, vtype := 1 }) ∨
      (k = [98] ∧ m = { exp := 1000, value := none, state := 1, kid := 3, oid := 4, vtype := 1, stored := some 1000 }) := by
    intro k m hm
    simp only [exState, AList.get?] at hm
    split at hm
    · left; rename_i h; exact ⟨h.symm, by simpa using hm.symm⟩
    · split at hm
      · right; rename_i h; exact ⟨h.symm, by simpa using hm.symm⟩
      · cases hm
  have hdisk : ∀ dk e, AList.get? (exState pebble).disk dk = some e →
      dk = encodeKey [98] 1000 ∧
      e = { name := [98], exp := 1000, val := .str [2], kid := if pebble then 0 else 3, oid := if pebble then 0 else 4 } := by
    intro dk e he
    simp only [exState, AList.get?] at he
    split at he
    · rename_i h; exact ⟨h.symm, by simpa using he.symm⟩
    · cases he
  have hgetB : AList.get? (exState pebble).index [98] =
      some { exp := 1000, value := none, state := 1, kid := 3, oid := 4, vtype := 1, stored := some 1000 } := by
    simp [exState, AList.get?]
  have hgetD : AList.get? (exState pebble).disk (encodeKey [98] 1000) =
      some { name := [98], exp := 1000, val := .str [2], kid := if pebble then 0 else 3, oid := if pebble then 0 else 4 } := by
    simp [exState, AList.get?]
  refine ⟨by simp [exState, AList.Sorted, Bytes.lt], by simp [exState, AList.Sorted], ?_, ?_, ?_, by simp [exState]⟩
  · intro k m hm
    rcases hidx k m hm with ⟨rfl, rfl⟩ | ⟨rfl, rfl⟩
    · exact RecInv.hot (v := .str [1]) rfl (by decide) (by decide) ⟨trivial, trivial⟩
        (by intro e he; cases he) (Or.inl (by decide))
    · refine ⟨by decide, by decide, (by intro v hv; cases hv), ?_, fun _ _ => rfl, (by intro _ _ _ v hv; cases hv)⟩
      intro e he
      simp only [Option.some.injEq] at he
      subst he
      exact ⟨_, hgetD, rfl, rfl⟩
  · intro dk e he
    obtain ⟨rfl, rfl⟩ := hdisk dk e he
    exact ⟨rfl, (by show inInt64 (1000 : Int) = true; decide), ⟨trivial, trivial⟩, _, hgetB, rfl⟩
  · intro hp
    have hp' : pebble = false := hp
    subst hp'
    refine ⟨?_, ?_, ?_, ?_, ?_⟩
    · intro k m hm
      rcases hidx k m hm with ⟨rfl, rfl⟩ | ⟨rfl, rfl⟩ <;> simp [exState]
    · intro k1 m1 k2 m2 h1 h2 ho
      rcases hidx k1 m1 h1 with ⟨rfl, rfl⟩ | ⟨rfl, rfl⟩ <;>
        rcases hidx k2 m2 h2 with ⟨rfl, rfl⟩ | ⟨rfl, rfl⟩ <;> simp at ho ⊢
    · intro dk e he
      obtain ⟨rfl, rfl⟩ := hdisk dk e he
      simp [exState]
    · intro dk e k m he hm ho
      obtain ⟨rfl, rfl⟩ := hdisk dk e he
      rcases hidx k m hm with ⟨rfl, rfl⟩ | ⟨rfl, rfl⟩ <;> simp at ho ⊢
    · intro dk1 e1 dk2 e2 h1 h2 _
      obtain ⟨rfl, rfl⟩ := hdisk dk1 e1 h1
      obtain ⟨rfl, rfl⟩ := hdisk dk2 e2 h2
      rfl

theorem exState_nilfree (pebble : Bool) : NilFree (exState pebble) := by
  intro k m hm _ hv
  simp only [exState, AList.get?] at hm
  split at hm
  · simp only [Option.some.injEq] at hm; subst hm; cases hv
  · split at hm
    · simp only [Option.some.injEq] at hm; subst hm; cases hv
    · cases hm

/-- a Pebble store whose key holds Go's nil slice.  Not reachable through the API (a fresh string key starts
    with the empty non-nil value); it satisfies the storage invariant. -/
def nilState : MState :=
  { pebble := true, nextId := 3,
    index := [([107], { exp := 0, value := some .strNil, state := 3, kid := 1, oid := 2, vtype := 1 })] }

theorem nilState_logical : logical nilState 0 = [([107], .strNil, 0)] := rfl

theorem nilState_gc : logical (gc nilState 0) 0 = [([107], .str [], 0)] := by decide +kernel

theorem nilState_cycle : logical (reopen (close nilState 0)) 0 = [([107], .str [], 0)] := by decide +kernel

theorem nilState_get_hot : (Api.get nilState 0 [107]).2 = .bytes none := rfl

theorem nilState_inv (t : Int) : StoreInv nilState t := by
  have hidx : ∀ k m, AList.get? nilState.index k = some m →
      k = [107] ∧ m = { exp := 0, value := some .strNil, state := 3, kid := 1, oid := 2, vtype := 1 } := by
    intro k m hm
    simp only [nilState, AList.get?] at hm
    split at hm
    · rename_i h; exact ⟨h.symm, by simpa using hm.symm⟩
    · cases hm
  refine ⟨trivial, trivial, ?_, (by intro dk e he; cases he), (by intro hp; cases hp), by simp [nilState]⟩
  intro k m hm
  obtain ⟨rfl, rfl⟩ := hidx k m hm
  exact RecInv.hot (v := .strNil) rfl (by decide) (by decide) ⟨trivial, trivial⟩
    (by intro e he; cases he) (Or.inl (by decide))

end NodisVerif.Proofs.C11

import NodisVerif.Proofs.C12Good
import NodisVerif.Proofs.C11Gc
import NodisVerif.Proofs.C12Cmd
import NodisVerif.Proofs.GoLibLemmas
import NodisVerif.Proofs.KeyTxApi
/-
  C12: the listed commands, one by one.  `TxForm.spec` / `OK` / `NilSafe`: what a key transaction replies and leaves, as
  a function of the logical content of its key; that what it writes is representable; that it keeps `LNil` (C11Gc.lean).
  `Cmd`: the commands covered, with `run` (the API call) and `form` (the key transaction it is: `run_eq`).  GETSET on a
  missing key is not a key transaction and is specified apart (`getSet_spec`); DEL is a fold of lookups and unlinks
  (`delStep`, `del_sim`); KEYS lists the logical keyspace (`keys_reply`).
-/
namespace NodisVerif.Proofs.C11
open NodisVerif.Store NodisVerif.Codec NodisVerif.Spec.Persist
open NodisVerif.Proofs.AListLemmas NodisVerif.Proofs.AListLemmas2 NodisVerif.Proofs.C11AList

namespace TxForm
def spec (f : TxForm) (L : Option (Val × Int)) := txSpec f.ctor f.miss f.dec L

structure OK (f : TxForm) : Prop where
  rd : f.write = false → f.ctor = none
  mkGood : ∀ v, f.ctor = some v → Good v
  decGood : ∀ v e, Good v → inInt64 e = true → (f.dec v e).GoodA

/-- the command never leaves a nil string behind (given that it found none) -/
def NilSafe (f : TxForm) : Prop :=
  ∀ L, (∀ v e, L = some (v, e) → v ≠ .strNil) → ∀ c, (f.spec L).2 = some (some c) → c.1 ≠ .strNil

theorem spec_some (f : TxForm) (v : Val) (e : Int) :
    f.spec (some (v, e)) = ((f.dec v e).reply, (f.dec v e).eff v e) := rfl

theorem spec_none_ctor {f : TxForm} {v0 : Val} (h : f.ctor = some v0) :
    f.spec none = ((f.dec v0 0).reply, some (((f.dec v0 0).eff v0 0).getD (some (v0, 0)))) := by
  rw [spec, h]; rfl

theorem spec_none {f : TxForm} (h : f.ctor = none) : f.spec none = (f.miss, none) := by
  rw [spec, h]; rfl

theorem txspec {f : TxForm} (hf : f.OK) {s : MState} {t now : Int} (h : StoreInvX s none t) (ht : t ≤ now) :
    TxSpec s t now f.key (f.spec (lookup s now f.key)) (f.run s now) :=
  keyTx_spec h ht f.write f.ctor f.miss f.nov f.dec f.key hf.rd hf.mkGood hf.decGood
end TxForm

theorem filt_some {c c' : Val × Int} {t' : Int} (h : filt c t' = some c') : c' = c := by
  unfold filt at h; split at h
  · cases h
  · exact (Option.some.inj h).symm

theorem lnil_tx {f : TxForm} (hn : f.NilSafe) {s : MState} {t now : Int} {r : Api.R} (ht : t ≤ now)
    (sp : TxSpec s t now f.key (f.spec (lookup s now f.key)) r) (hl : LNil s t) : LNil r.1 t := by
  intro hp t' ht' k v e hlk
  rw [sp.peb] at hp
  rw [sp.look t' ht' k] at hlk
  unfold applyEff at hlk
  cases he : (f.spec (lookup s now f.key)).2 with
  | none => rw [he] at hlk; exact hl hp t' ht' k v e hlk
  | some c =>
    rw [he] at hlk
    simp only at hlk
    by_cases hk : k = f.key
    · simp only [hk, if_true] at hlk
      cases c with
      | none => cases hlk
      | some c =>
        simp only [Option.bind_some] at hlk
        have := filt_some hlk
        subst this
        exact hn _ (fun v' e' hL => hl hp now ht f.key v' e' hL) _ he
    · simp only [hk, if_false] at hlk
      exact hl hp t' ht' k v e hlk

theorem Sim.lnil {t : Int} {s1 s2 : MState} (h : Sim t s1 s2) (hp : s1.pebble = s2.pebble) (hl : LNil s2 t) :
    LNil s1 t := by
  intro hp1 t' ht' k v e hlk
  rw [h.look t' ht' k] at hlk
  exact hl (by rw [← hp]; exact hp1) t' ht' k v e hlk

inductive Cmd
  | get (k : Bytes) | set (k v : Bytes) (keep : Bool) | setXX (k v : Bytes) (keep : Bool)
  | getSet (k v : Bytes) | append (k v : Bytes) | strLen (k : Bytes) | getRange (k : Bytes) (a b : Int)
  | getBit (k : Bytes) (off : Int) | incrBy (k : Bytes) (delta : Int) (neg : Bool)
  | expireAt (k : Bytes) (ts : Int) | expireAtNX (k : Bytes) (ts : Int) | expireAtXX (k : Bytes) (ts : Int)
  | expire (k : Bytes) (secs : Int) | pexpire (k : Bytes) (ms : Int) | persist (k : Bytes)
  | ttl (k : Bytes) | pttl (k : Bytes) | type (k : Bytes) | exists (k : Bytes)
  | push (left : Bool) (k : Bytes) (vs : List Bytes) | pop (left : Bool) (k : Bytes) (count : Int)
  | llen (k : Bytes) | lindex (k : Bytes) (i : Int) | lrange (k : Bytes) (a b : Int)
  | hset (k f v : Bytes) | hdel (k : Bytes) (fs : List Bytes)
  | hread (f : AList Bytes → Out) (dflt : Out) (k : Bytes)
  | sadd (k : Bytes) (ms : List Bytes) | srem (k : Bytes) (ms : List Bytes)
  | sread (f : AList Unit → Out) (dflt : Out) (k : Bytes)
  | zadd (k m : Bytes) (sc : F64) | zread (f : ZSet → Out) (dflt : Out) (k : Bytes)
  /-- any other command, given as a key transaction (see `Proofs/C12More.lean`) -/
  | raw (f : TxForm)

namespace Cmd

def run : Cmd → MState → Int → Api.R
  | get k, s, now => Api.get s now k
  | set k v keep, s, now => Api.set s now k v keep
  | setXX k v keep, s, now => Api.setXX s now k v keep
  | getSet k v, s, now => Api.getSet s now k v
  | append k v, s, now => Api.append s now k v
  | strLen k, s, now => Api.strLen s now k
  | getRange k a b, s, now => Api.getRange s now k a b
  | getBit k off, s, now => Api.getBit s now k off
  | incrBy k d neg, s, now => Api.addInt s now k d neg
  | expireAt k ts, s, now => Api.expireAt s now k ts
  | expireAtNX k ts, s, now => Api.expireAtNX s now k ts
  | expireAtXX k ts, s, now => Api.expireAtXX s now k ts
  | expire k secs, s, now => Api.expire s now k secs
  | pexpire k ms, s, now => Api.expirePX s now k ms
  | persist k, s, now => Api.persist s now k
  | ttl k, s, now => Api.ttl s now k
  | pttl k, s, now => Api.pttl s now k
  | type k, s, now => Api.type_ s now k
  | «exists» k, s, now => Api.exists_ s now [k]
  | push left k vs, s, now => Api.push left s now k vs
  | pop left k c, s, now => Api.pop left s now k c
  | llen k, s, now => Api.llen s now k
  | lindex k i, s, now => Api.lindex s now k i
  | lrange k a b, s, now => Api.lrange s now k a b
  | hset k f v, s, now => Api.hset s now k f v
  | hdel k fs, s, now => Api.hdel s now k fs
  | hread f d k, s, now => Api.hread f d s now k
  | sadd k ms, s, now => Api.sadd s now k ms
  | srem k ms, s, now => Api.srem s now k ms
  | sread f d k, s, now => Api.sread f d s now k
  | zadd k m sc, s, now => Api.zadd s now k m sc
  | zread f d k, s, now => Api.zread f d s now k
  | raw f, s, now => f.run s now

/-- The slots are write, ctor, miss, nov, dec, key (`TxForm`).  `nov` is the branch of `keyTx` that is never reached;
    it is copied from the right-hand sides of KeyTxApi, written-out lambdas and beta-redexes included, so that each
    case of `run_eq` is `exact …_eq`. -/
def form (now : Int) : Cmd → TxForm
  | get k => ⟨false, none, .bytes none, pan, decGet, k⟩
  | set k v keep => ⟨true, some (.str []), .unit, pan, decSet k v keep, k⟩
  | setXX k v keep => ⟨true, none, .bool false, pan, decSetXX k v keep, k⟩
  -- GETSET is not literally a `keyTx` (see `getSet_spec`); this form has the same `spec`: on a missing
  -- key the reply is nil and the key is created with the new value
  | getSet k v => ⟨true, some .strNil, .unit, pan, decGetSet k v, k⟩
  | append k v => ⟨true, some (.str []), .unit, pan, decAppend k v, k⟩
  | strLen k => ⟨false, none, .int 0, pan, decStrRead fun v => .int (DsStr.len v), k⟩
  | getRange k a b => ⟨false, none, .bytes none, pan, decStrRead fun v => .bytes (DsStr.getRange v a b), k⟩
  | getBit k off => ⟨false, none, .int 0, pan, decStrRead fun v => .int (DsStr.getBit v off), k⟩
  | incrBy k d neg => ⟨true, some (.str []), .unit, pan, decAddInt k d neg, k⟩
  | expireAt k ts => ⟨true, none, .int 0, fun s1 => (Api.applyExp s1 k ts, .int 1), decExpire k ts fun _ => true, k⟩
  | expireAtNX k ts => ⟨true, none, .int 0,
      fun s1 => if (fun e => decide (e = 0)) (Api.expOf s1 k) then (Api.applyExp s1 k ts, .int 1) else (s1, .int 0),
      decExpire k ts fun e => decide (e = 0), k⟩
  | expireAtXX k ts => ⟨true, none, .int 0,
      fun s1 => if (fun e => decide (e ≠ 0)) (Api.expOf s1 k) then (Api.applyExp s1 k ts, .int 1) else (s1, .int 0),
      decExpire k ts fun e => decide (e ≠ 0), k⟩
  | expire k secs => ⟨true, none, .int 0,
      fun s1 => (Api.applyExp s1 k (wrap64 (now + wrap64 (secs * 1000))), .int 1),
      decExpire k (wrap64 (now + wrap64 (secs * 1000))) fun _ => true, k⟩
  | pexpire k ms => ⟨true, none, .int 0, fun s1 => (Api.applyExp s1 k (wrap64 (now + ms)), .int 1),
      decExpire k (wrap64 (now + ms)) fun _ => true, k⟩
  | persist k => ⟨true, none, .int 0,
      fun s1 => if Api.expOf s1 k = 0 then (s1, .int 0) else
        (emit (signal (Api.setExp s1 k 0) k) { typ := 33, key := k }, .int 1), decPersist k, k⟩
  | ttl k => ⟨false, none, .int (-2), fun s1 => (s1, ttlOut now (Api.expOf s1 k)), fun _ e => .keep (ttlOut now e), k⟩
  | pttl k => ⟨false, none, .int (-2),
      fun s1 => (s1, if Api.expOf s1 k = 0 then .int (-1) else .int (Api.expOf s1 k - now)),
      fun _ e => .keep (if e = 0 then .int (-1) else .int (e - now)), k⟩
  | type k => ⟨false, none, .str (Bytes.ofString "none"), pan,
      fun v _ => .keep (.str (Bytes.ofString (typeName v.typeCode))), k⟩
  | «exists» k => ⟨false, none, .int 0, fun s1 => (s1, .int 1), fun _ _ => .keep (.int 1), k⟩
  | push left k vs => ⟨true, some (.list DsList.empty), .unit, pan, decPush left k vs, k⟩
  | pop left k c => ⟨true, none, .blist [], pan, decListMut (popF left k c), k⟩
  | llen k => ⟨false, none, .int 0, fun s1 => (s1, .int (-1)), decListRead (fun l => .int (DsList.llen l)) (.int (-1)), k⟩
  | lindex k i => ⟨false, none, .bytes none, pan, decListRead (fun l => .bytes (DsList.lindex l i)) .panic, k⟩
  | lrange k a b => ⟨false, none, .blist [], pan,
      decListRead (fun l => .blist ((DsList.lrange l a b).map some)) .panic, k⟩
  | hset k f v => ⟨true, some (.hash []), .unit, pan, decHset k f v, k⟩
  | hdel k fs => ⟨true, none, .int 0, pan, decHdel k fs, k⟩
  | hread f d k => ⟨false, none, d, pan, decHashRead f, k⟩
  | sadd k ms => ⟨true, some (.set []), .unit, pan, decSadd k ms, k⟩
  | srem k ms => ⟨true, none, .int 0, pan, decSrem k ms, k⟩
  | sread f d k => ⟨false, none, d, pan, decSetRead f, k⟩
  | zadd k m sc => ⟨true, some (.zset DsZSet.empty), .unit, pan, decZaddWith DsZSet.zAdd k m sc, k⟩
  | zread f d k => ⟨false, none, d, pan, decZsetRead f, k⟩
  | raw f => f

/-- argument side conditions (what Go's types guarantee: int64 deadlines, lengths below 2^63;
    a zero EXPIRE duration is `DEL`, NaN scores are rejected by the handler) -/
def WF : Cmd → Prop
  | expireAt _ ts => inInt64 ts = true
  | expireAtNX _ ts => inInt64 ts = true
  | expireAtXX _ ts => inInt64 ts = true
  | expire _ secs => secs ≠ 0
  | pexpire _ ms => ms ≠ 0
  | push _ _ vs => ∀ v ∈ vs, v.length < 2 ^ 63
  | hset _ f v => f.length + v.length + 10 < 2 ^ 63
  | sadd _ ms => ∀ m ∈ ms, m.length < 2 ^ 63
  | zadd _ m sc => F64.isNaN sc = false ∧ m.length + 8 < 2 ^ 63
  | raw f => f.OK
  | _ => True

theorem run_eq (c : Cmd) (now : Int) (hc : c.WF) (hg : ∀ k v, c ≠ getSet k v) (s : MState) :
    c.run s now = (c.form now).run s now := by
  cases c with
  | get k => exact get_eq s now k
  | set k v keep => exact set_eq s now k v keep
  | setXX k v keep => exact setXX_eq s now k v keep
  | getSet k v => exact absurd rfl (hg k v)
  | append k v => exact append_eq s now k v
  | strLen k => exact strLen_eq s now k
  | getRange k a b => exact getRange_eq s now k a b
  | getBit k off => exact getBit_eq s now k off
  | incrBy k d neg => exact addInt_eq s now k d neg false
  | expireAt k ts => exact expireAt_eq s now k ts
  | expireAtNX k ts => exact expireAtNX_eq s now k ts
  | expireAtXX k ts => exact expireAtXX_eq s now k ts
  | expire k secs => exact expire_eq s now k secs hc
  | pexpire k ms => exact expirePX_eq s now k ms hc
  | persist k => exact apiPersist_eq s now k
  | ttl k => exact ttl_eq s now k
  | pttl k => exact pttl_eq s now k
  | type k => exact type_eq s now k
  | «exists» k => exact exists1_eq s now k
  | push left k vs => exact push_eq left s now k vs
  | pop left k c => exact pop_eq left s now k c
  | llen k => exact llen_eq s now k
  | lindex k i => exact lindex_eq s now k i
  | lrange k a b => exact lrange_eq s now k a b
  | hset k f v => exact hset_eq s now k f v
  | hdel k fs => exact hdel_eq s now k fs
  | hread f d k => exact hread_eq f d s now k
  | sadd k ms => exact sadd_eq s now k ms
  | srem k ms => exact srem_eq s now k ms
  | sread f d k => exact sread_eq f d s now k
  | zadd k m sc => exact zadd_eq s now k m sc
  | zread f d k => exact zread_eq f d s now k
  | raw f => rfl

theorem goodA_strWrite (f : DsStr.S → Option (Option Val × Option Int × List FeedOp × Out))
    (fail : DsStr.S → Out)
    (hf : ∀ x v' e' ops r, f x = some (v', e', ops, r) →
      (∀ w, v' = some w → Good w) ∧ (∀ e, e' = some e → inInt64 e = true))
    (v : Val) (e : Int) : (decStrWrite f fail v e).GoodA := by
  have go : ∀ x : DsStr.S, (match f x with
      | some (v', e', ops, r) => Act.put v' e' ops r
      | none => Act.keep (fail x)).GoodA := by
    intro x
    cases hfx : f x with
    | none => trivial
    | some q =>
      obtain ⟨v', e', ops, r⟩ := q
      exact hf x v' e' ops r hfx
  cases v with
  | str b => exact go (some b)
  | strNil => exact go none
  | _ => trivial

theorem goodA_expire (k : Bytes) (ts : Int) (cond : Int → Bool) (hts : inInt64 ts = true) (v : Val) (e : Int) :
    (decExpire k ts cond v e).GoodA := by
  unfold decExpire
  split
  · exact ⟨(fun _ hc => nomatch hc), (fun e' he' => by cases he'; exact hts)⟩
  · trivial

theorem goodA_putVal {w : Val} (hw : Good w) (ops : List FeedOp) (r : Out) : (Act.put (some w) none ops r).GoodA :=
  ⟨fun _ h => by cases h; exact hw, nofun⟩

theorem goodA_ite (c : Prop) [Decidable c] {a b : Act} (ha : a.GoodA) (hb : b.GoodA) :
    (if c then a else b).GoodA := by
  split
  · exact ha
  · exact hb

theorem form_goodA (c : Cmd) (now : Int) (hc : c.WF) {v : Val} (hg : Good v) {e : Int} (he : inInt64 e = true) :
    ((c.form now).dec v e).GoodA := by
  cases c with
  | raw f => exact hc.decGood v e hg he
  | set k w keep | setXX k w keep =>
    dsimp only [form]
    refine goodA_strWrite _ _ (fun _ _ _ _ _ hx => ?_) v e
    cases hx
    exact ⟨fun _ h => by cases h; exact good_str _, fun _ h => by cases keep <;> cases h; decide⟩
  | getSet k w =>
    dsimp only [form]
    refine goodA_strWrite _ _ (fun _ _ _ _ _ hx => ?_) v e
    cases hx
    exact ⟨fun _ h => by cases h; exact good_str _, fun _ h => by cases h; decide⟩
  | append k w =>
    dsimp only [form]
    refine goodA_strWrite _ _ (fun _ _ _ _ _ hx => ?_) v e
    cases hx
    exact ⟨fun _ h => by cases h; exact good_strVal _, nofun⟩
  | incrBy k d neg =>
    dsimp only [form]
    refine goodA_strWrite _ _ (fun _ _ _ _ _ hx => ?_) v e
    split at hx
    · cases hx
    · cases hx
      exact ⟨fun _ h => by cases h; exact good_strVal _, nofun⟩
  | expireAt k ts | expireAtNX k ts | expireAtXX k ts =>
    dsimp only [form]
    exact goodA_expire _ _ _ hc v e
  | expire k secs | pexpire k ms =>
    dsimp only [form]
    exact goodA_expire _ _ _ (inInt64_wrap64 _) v e
  | persist k =>
    dsimp only [form]
    exact goodA_ite _ trivial ⟨nofun, fun _ h => by cases h; decide⟩
  | push left k vs =>
    cases v with
    | list l => exact goodA_putVal (good_push left l vs hg hc) _ _
    | _ => exact trivial
  | pop left k n =>
    cases v with
    | list l => exact goodA_ite _ (good_pop left l n hg) (goodA_putVal (good_pop left l n hg) _ _)
    | _ => exact trivial
  | hset k f w =>
    cases v with
    | hash h => exact goodA_putVal (good_hset h f w hg hc) _ _
    | _ => exact trivial
  | hdel k fs =>
    cases v with
    | hash h => exact goodA_ite _ (good_hdel fs h 0 hg) (goodA_putVal (good_hdel fs h 0 hg) _ _)
    | _ => exact trivial
  | sadd k ms =>
    cases v with
    | set st => exact goodA_putVal (good_sadd ms hc st 0 hg) _ _
    | _ => exact trivial
  | srem k ms =>
    cases v with
    | set st => exact goodA_ite _ (good_srem ms st 0 hg) (goodA_putVal (good_srem ms st 0 hg) _ _)
    | _ => exact trivial
  | zadd k m sc =>
    cases v with
    | zset z => exact goodA_putVal (good_zadd z m sc hg hc.1 hc.2) _ _
    | _ => exact trivial
  -- the remaining commands only read
  | _ => cases v <;> exact trivial

theorem ok (c : Cmd) (now : Int) (hc : c.WF) : (c.form now).OK := by
  refine ⟨fun h => ?_, fun v0 h0 => ?_, fun v e hg he => form_goodA c now hc hg he⟩
  · -- the commands with a constructor are write commands
    cases c with
    | raw f => exact hc.rd h
    | set k w keep | getSet k w | append k w | incrBy k d neg | push left k vs | hset k f w | sadd k ms
    | zadd k m sc => cases h
    | _ => rfl
  · cases c with
    | raw f => exact hc.mkGood v0 h0
    | set k w keep | append k w | incrBy k d neg => cases h0; exact good_str []
    | getSet k w => cases h0; exact good_strNil
    | push left k vs => cases h0; exact good_emptyList
    | hset k f w => cases h0; exact good_emptyHash
    | sadd k ms => cases h0; exact good_emptySet
    | zadd k m sc => cases h0; exact good_emptyZSet
    | _ => cases h0

theorem txSpec_some (mk : Option Val) (miss : Out) (dec : Val → Int → Act) (v : Val) (e : Int) :
    txSpec mk miss dec (some (v, e)) = ((dec v e).reply, (dec v e).eff v e) := rfl

theorem runAct_put1 (s : MState) (k : Bytes) (v' : Val) (e' : Int) (op : FeedOp) (r : Out) :
    runAct s k (.put (some v') (some e') [op] r) =
      (emit (signal (Api.setExp (Api.setVal s k v') k e') k) op, r) := rfl

theorem getSet_spec_none (now : Int) (k v : Bytes) :
    (form now (getSet k v)).spec none = (.bytes none, some (some (.str v, 0))) := rfl

theorem getSet_spec {s : MState} {t now : Int} (h : StoreInvX s none t) (ht : t ≤ now) (k v : Bytes) :
    TxSpec s t now k ((form now (getSet k v)).spec (lookup s now k)) (Api.getSet s now k v) := by
  rw [getSet_eq]
  have ks := writeKey_spec h ht k none (fun _ hc => nomatch hc)
  generalize writeKey s now k none = r at ks ⊢
  obtain ⟨s1, okk⟩ := r
  cases hL : lookup s now k with
  | some c =>
    -- the key exists: a key transaction without constructor
    obtain ⟨w, e⟩ := c
    have hok := (ks.hit w e hL).1
    simp only at hok
    subst hok
    simp only [Bool.not_true, Bool.false_eq_true, if_false]
    have hxx := keyTx_spec h ht true none (.bytes none) Cmd.pan (decGetSet k v) k
      nofun nofun (fun _ _ hg he => form_goodA (getSet k v) now trivial hg he)
    rw [hL] at hxx
    exact hxx
  | none =>
    -- the key is missing: published as a fresh empty string, then rewritten like any hot record
    obtain ⟨hok, -⟩ := ks.miss hL rfl
    simp only at hok
    subst hok
    simp only [Bool.not_false, if_true]
    rw [getSet_spec_none, ← runAct_put1]
    have i2 := inv_newKeyWith ks.inv k none (fun _ hc => nomatch hc) (good_str [])
    obtain ⟨a1, a2, a3, -, a5⟩ := runAct_spec i2 (m := newRec s1 none (.str []))
      (by rw [get?_newKeyWith, if_pos rfl]) (newRec_facts s1 none (.str [])).1
      (.put (some (.str v)) (some 0) [Api.opSet k v false] (.bytes none))
      ⟨fun _ hw => by cases hw; exact good_str _, fun _ he => by cases he; decide⟩
    have fl := newKeyWith_fields s1 k none (.str [])
    refine ⟨a1, a2.trans (fl.1.trans ks.peb), a3.trans (fl.2.trans ks.fail), rfl,
      fun t' ht' k' => (a5 t' ht' k').trans ?_⟩
    show (if k' = k then _ else _) = (if k' = k then _ else _)
    by_cases hk : k' = k
    · rw [if_pos hk, if_pos hk]; rfl
    · rw [if_neg hk, if_neg hk, StoreView.plookup_newKeyWith, if_neg hk]
      exact ks.other t' ht' k' hk

theorem spec_run (c : Cmd) {s : MState} {t now : Int} (hc : c.WF) (h : StoreInvX s none t) (ht : t ≤ now) :
    TxSpec s t now (c.form now).key ((c.form now).spec (lookup s now (c.form now).key)) (c.run s now) := by
  by_cases hg : ∃ k v, c = getSet k v
  · obtain ⟨k, v, rfl⟩ := hg
    exact getSet_spec h ht k v
  · rw [run_eq c now hc (fun k v e => hg ⟨k, v, e⟩) s]
    exact (c.form now).txspec (c.ok now hc) h ht

theorem inv (c : Cmd) {s : MState} {t now : Int} (hc : c.WF) (h : StoreInvX s none t) (ht : t ≤ now) :
    StoreInvX (c.run s now).1 none t := (c.spec_run hc h ht).inv

theorem sim (c : Cmd) {s1 s2 : MState} {t now : Int} (hc : c.WF) (h : Sim t s1 s2) (ht : t ≤ now) :
    (c.run s1 now).2 = (c.run s2 now).2 ∧ Sim t (c.run s1 now).1 (c.run s2 now).1 :=
  sim_of_txSpec h ht (c.form now).spec (c.spec_run hc h.inv1 ht) (c.spec_run hc h.inv2 ht)

end Cmd

def delStep (now : Int) (acc : MState × Int) (key : Bytes) : MState × Int :=
  if !(writeKey acc.1 now key none).2 then ((writeKey acc.1 now key none).1, acc.2) else
  (emit { delKey (writeKey acc.1 now key none).1 key with
      signalled := key :: (writeKey acc.1 now key none).1.signalled } { typ := 2, key := key }, acc.2 + 1)

theorem del_eq (s : MState) (now : Int) (keys : List Bytes) :
    Api.del s now keys = ((keys.foldl (delStep now) (s, 0)).1, .int (keys.foldl (delStep now) (s, 0)).2) := by
  unfold Api.del
  have : (fun (acc : MState × Int) key =>
      match writeKey acc.1 now key none with
      | (s, ok) => if !ok then (s, acc.2) else
        (emit { delKey s key with signalled := key :: s.signalled } { typ := 2, key := key }, acc.2 + 1))
      = delStep now := by
    funext acc key
    unfold delStep
    generalize writeKey acc.1 now key none = r
    obtain ⟨s1, ok⟩ := r
    cases ok <;> rfl
  simp only [this]

theorem delStep_spec {acc : MState × Int} {t now : Int} (h : StoreInvX acc.1 none t) (ht : t ≤ now) (key : Bytes) :
    StoreInvX (delStep now acc key).1 none t ∧ (delStep now acc key).1.pebble = acc.1.pebble ∧
    (delStep now acc key).2 = acc.2 + (if (lookup acc.1 now key).isSome then 1 else 0) ∧
    ∀ t', t ≤ t' → ∀ k', lookup (delStep now acc key).1 t' k' =
      applyEff (if (lookup acc.1 now key).isSome then some none else none) key (lookup acc.1) t' k' := by
  have ks := writeKey_spec h ht key none (fun _ hc => nomatch hc)
  unfold delStep
  generalize writeKey acc.1 now key none = r at ks
  obtain ⟨s1, ok⟩ := r
  cases hL : lookup acc.1 now key with
  | none =>
    obtain ⟨hok, hl⟩ := ks.miss hL rfl
    simp only at hok
    simp only [hok, Bool.not_false, if_true, Option.isSome_none, Bool.false_eq_true, if_false, Int.add_zero]
    refine ⟨ks.inv, ks.peb, trivial, ?_⟩
    intro t' ht' k'
    simp only [applyEff]
    by_cases hk : k' = key
    · subst hk; exact hl t' ht'
    · exact ks.other t' ht' k' hk
  | some c =>
    obtain ⟨v, e⟩ := c
    obtain ⟨hok, hl, _⟩ := ks.hit v e hL
    simp only at hok
    simp only [hok, Bool.not_true, Bool.false_eq_true, if_false, Option.isSome_some, if_true]
    have i1 : StoreInvX (delKey s1 key) none t := inv_delKey ks.inv key (fun _ _ => by simp)
    refine ⟨?_, ?_, trivial, ?_⟩
    · exact (inv_emits (ops := [{ typ := 2, key := key }])
        (i1.congr (s' := { delKey s1 key with signalled := key :: s1.signalled }) rfl rfl rfl rfl))
    · rw [(emit_fields _ _).2.2.1]
      show (delKey s1 key).pebble = _
      rw [(delKey_fields _ _).1]; exact ks.peb
    · intro t' ht' k'
      have e1 : lookup (emit { delKey s1 key with signalled := key :: s1.signalled } { typ := 2, key := key }) t' k'
          = lookup (delKey s1 key) t' k' := by
        obtain ⟨a, b, c, _, _⟩ := emit_fields { delKey s1 key with signalled := key :: s1.signalled } { typ := 2, key := key }
        rw [lookup_congr a b c]
        exact lookup_congr rfl rfl rfl _ _
      rw [e1, StoreView.plookup_delKey _ ks.inv.idxSorted]
      simp only [applyEff]
      by_cases hk : k' = key
      · simp [hk]
      · simp only [hk, if_false]; exact ks.other t' ht' k' hk

/-- `LNil` is carried for the second run only: the first has it through `Sim.lnil`, given the equal backend kinds the
    last two clauses keep -/
theorem del_sim {t now : Int} (ht : t ≤ now) : ∀ (keys : List Bytes) (a1 a2 : MState × Int), Sim t a1.1 a2.1 →
    a1.2 = a2.2 → (keys.foldl (delStep now) a1).2 = (keys.foldl (delStep now) a2).2 ∧
      Sim t (keys.foldl (delStep now) a1).1 (keys.foldl (delStep now) a2).1 ∧
      (LNil a2.1 t → LNil (keys.foldl (delStep now) a2).1 t) ∧
      (keys.foldl (delStep now) a1).1.pebble = a1.1.pebble ∧ (keys.foldl (delStep now) a2).1.pebble = a2.1.pebble := by
  intro keys
  induction keys with
  | nil => intro a1 a2 h hc; exact ⟨hc, h, id, rfl, rfl⟩
  | cons k rest ih =>
    intro a1 a2 h hc
    simp only [List.foldl_cons]
    obtain ⟨i1, p1, c1, l1⟩ := delStep_spec h.inv1 ht k
    obtain ⟨i2, p2, c2, l2⟩ := delStep_spec h.inv2 ht k
    have hL : lookup a1.1 now k = lookup a2.1 now k := h.look now ht k
    -- what either state shows after the step: the key gone if it was there, the rest as before
    have shows : ∀ (a : MState × Int) (t' : Int) (k' : Bytes),
        applyEff (if (lookup a.1 now k).isSome then some none else none) k (lookup a.1) t' k' =
          if (lookup a.1 now k).isSome = true ∧ k' = k then none else lookup a.1 t' k' := by
      intro a t' k'
      by_cases hs : (lookup a.1 now k).isSome = true
      · by_cases hk : k' = k <;> simp [hs, hk, applyEff]
      · simp [hs, applyEff]
    obtain ⟨r1, r2, r3, r4, r5⟩ := ih (delStep now a1 k) (delStep now a2 k)
      ⟨i1, i2, fun t' ht' k' => by rw [l1 t' ht', l2 t' ht', shows, shows, hL, h.look t' ht' k']⟩
      (by rw [c1, c2, hL, hc])
    refine ⟨r1, r2, fun hl => r3 ?_, r4.trans p1, r5.trans p2⟩
    intro hp t' ht' k' v e hlk
    rw [l2 t' ht', shows] at hlk
    split at hlk
    · cases hlk
    · exact hl (p2 ▸ hp) t' ht' k' v e hlk

theorem view_isSome {s : MState} {t now : Int} (h : StoreInvX s none t) (ht : t ≤ now) {k : Bytes} {m : Meta}
    (hm : AList.get? s.index k = some m) : (view s now k m).isSome = !m.expired now := by
  have r := h.recs k m hm
  cases hexp : m.expired now with
  | true => rw [view_dead hexp]; rfl
  | false =>
    cases hv : m.value with
    | some v => rw [view_hot hv r.ok hexp]; rfl
    | none =>
      obtain ⟨ent, v, _, _, _, l4, _⟩ := load_some h hm hv (Meta.alive_anti m ht hexp)
      simp [view, r.ok, hexp, hv, l4]

theorem keys_reply {s : MState} {t now : Int} (h : StoreInvX s none t) (ht : t ≤ now) (pat : Bytes) :
    Api.keys s now pat = (s, .slist (((logical s now).filter fun p => Glob.matched pat p.1).map (·.1))) := by
  unfold Api.keys
  congr 2
  rw [logical_eq]
  have hmem : ∀ p ∈ s.index, AList.get? s.index p.1 = some p.2 :=
    fun p hp => get?_of_mem _ h.idxSorted p.1 p.2 hp
  -- under the invariant `view` is `some` iff the record is not expired (`view_isSome`), so the filter on
  -- `!expired` is the `filterMap` on `view`
  have key : ∀ l : List (Bytes × Meta), (∀ p ∈ l, AList.get? s.index p.1 = some p.2) →
      (l.filter fun p => Glob.matched pat p.1 && !p.2.expired now).map (·.1) =
      ((l.filterMap fun p => (view s now p.1 p.2).map fun w => (p.1, w)).filter
        fun p => Glob.matched pat p.1).map (·.1) := by
    intro l
    induction l with
    | nil => intro _; rfl
    | cons a rest ih =>
      intro hmem
      obtain ⟨k, m⟩ := a
      have hv := view_isSome h ht (hmem (k, m) (by simp))
      have ih' := ih (fun p hp => hmem p (by simp [hp]))
      simp only [List.filter_cons, List.filterMap_cons]
      cases hview : view s now k m with
      | none =>
        rw [hview] at hv
        have hexp : m.expired now = true := by simpa using hv
        simp only [hexp, Bool.not_true, Bool.and_false, Bool.false_eq_true, if_false, Option.map_none]
        exact ih'
      | some w =>
        rw [hview] at hv
        have hexp : m.expired now = false := by simpa using hv
        simp only [hexp, Bool.not_false, Bool.and_true, Option.map_some, List.filter_cons]
        by_cases hmt : Glob.matched pat k = true
        · simp only [hmt, if_true, List.map_cons]; rw [ih']
        · simp only [hmt, Bool.false_eq_true, if_false]; exact ih'
  exact key s.index hmem

end NodisVerif.Proofs.C11

import NodisVerif.Spec.Expire
import NodisVerif.Proofs.StoreView

/-
  C10: the observational equivalence `Sim` of Spec/Expire.lean and what respects it. The lookup (`C01.accessKey` over
  any lock operation) is read through the observable view (`lookupKey_spec`); `Good` is `Sim` with both indexes
  key-sorted, `RSim` relates results, `Hot` is visible and in memory; every store primitive respects `Good`.
-/
namespace NodisVerif.Proofs.C10
open NodisVerif Store
open NodisVerif.Proofs.AListLemmas NodisVerif.Proofs.AListLemmas2

theorem lookupKey_live {lock : MState → Bytes → MState} (hL : C01.LockOp lock) (s : MState) (now : Int) (k : Bytes) (m : Meta)
    (v : Val) (mk : Option Val)
    (hm : getMeta s k = some m) (hok : m.isOk = true) (hd : now < m.exp ∨ m.exp = 0) (hv : m.value = some v) :
    (C01.accessKey lock s now k mk).2 = true ∧
    getMeta (C01.accessKey lock s now k mk).1 k = some { m with count := m.count + 1 } := by
  have hne : m.expired now = false := by
    simp only [Meta.expired]
    rcases hd with hd | hd
    · have : ¬ m.exp ≤ now := by omega
      simp [this]
    · simp [hd]
  rw [C01.accessKey_hot hL s now k mk m hm hok hne (by rw [hv]; rfl)]
  exact ⟨rfl, getMeta_putMeta_same _ _ _⟩

theorem lookupKey_spec {lock : MState → Bytes → MState} (hL : C01.LockOp lock)
    (s : MState) (now : Int) (k : Bytes) (mk : Option Val) (hs : AList.Sorted s.index) :
    (C01.accessKey lock s now k mk).2 = (rkOk (vis now s k) || mk.isSome) ∧
    (∀ k', vis now (C01.accessKey lock s now k mk).1 k' =
      if k = k' then
        (if rkOk (vis now s k) then (vis now s k).map touch
         else match mk with | some v => some (freshRec s.nextId v) | none => vis now s k)
      else vis now s k') ∧
    frame (C01.accessKey lock s now k mk).1 =
      (if rkOk (vis now s k) then frame s
       else match mk with | some _ => { frame s with nextId := s.nextId + 2 } | none => frame s) ∧
    AList.Sorted (C01.accessKey lock s now k mk).1.index := by
  obtain ⟨a, b, c⟩ := StoreView.accessKey_view hL s now k mk
  exact ⟨a, b now, c, accessKey_sorted hL s now k mk hs⟩

theorem writeKey_spec (s : MState) (now : Int) (k : Bytes) (mk : Option Val) (hs : AList.Sorted s.index) :
    (writeKey s now k mk).2 = (rkOk (vis now s k) || mk.isSome) ∧
    (∀ k', vis now (writeKey s now k mk).1 k' =
      if k = k' then
        (if rkOk (vis now s k) then (vis now s k).map touch
         else match mk with | some v => some (freshRec s.nextId v) | none => vis now s k)
      else vis now s k') ∧
    frame (writeKey s now k mk).1 =
      (if rkOk (vis now s k) then frame s
       else match mk with | some _ => { frame s with nextId := s.nextId + 2 } | none => frame s) ∧
    AList.Sorted (writeKey s now k mk).1.index :=
  lookupKey_spec C01.lockW_op s now k mk hs

theorem readKey_spec (s : MState) (now : Int) (k : Bytes) (hs : AList.Sorted s.index) :
    (readKey s now k).2 = rkOk (vis now s k) ∧
    (∀ k', vis now (readKey s now k).1 k' =
      if k = k' then (if rkOk (vis now s k) then (vis now s k).map touch else vis now s k)
      else vis now s k') ∧
    frame (readKey s now k).1 = frame s ∧
    AList.Sorted (readKey s now k).1.index := by
  have h := lookupKey_spec C01.lockR_op s now k none hs
  simp only [Option.isSome_none, Bool.or_false, ite_self] at h
  exact h

theorem touch_isSome (r : View.Rec) (h : rkOk (some r) = true) : (touch r).value.isSome = true := by
  simp only [rkOk, Bool.and_eq_true, Bool.or_eq_true] at h
  unfold touch
  cases hv : r.value with
  | some v => simp [hv]
  | none =>
    cases hl : r.load with
    | none => simp [hv, hl] at h
    | some p => simp

theorem lookupKey_found {lock : MState → Bytes → MState} (hL : C01.LockOp lock) (s : MState) (now : Int) (k : Bytes)
    (mk : Option Val) (hok : (C01.accessKey lock s now k mk).2 = true) :
    ∃ r, vis now (C01.accessKey lock s now k mk).1 k = some r ∧ r.ok = true ∧ r.value.isSome = true := by
  obtain ⟨a1, a2, _⟩ := StoreView.accessKey_view hL s now k mk
  rw [a1] at hok
  rw [a2 now k, if_pos rfl]
  by_cases hr : rkOk (vis now s k) = true
  · rw [if_pos hr]
    cases hv : vis now s k with
    | none => rw [hv] at hr; cases hr
    | some r =>
      rw [hv] at hr
      have hk := hr
      simp only [rkOk, Bool.and_eq_true] at hk
      exact ⟨touch r, rfl, (StoreView.touch_ok r hr).trans hk.1, touch_isSome r hr⟩
  · rw [if_neg hr]
    simp only [hr, Bool.false_or] at hok
    obtain ⟨v, rfl⟩ := Option.isSome_iff_exists.mp hok
    exact ⟨freshRec s.nextId v, rfl, rfl, rfl⟩

/-- `Sim` together with the btree invariant of both indexes -/
def Good (now : Int) (s s' : MState) : Prop :=
  AList.Sorted s.index ∧ AList.Sorted s'.index ∧ Sim now s s'

def RSim {α : Type} (now : Int) (r r' : MState × α) : Prop := r.2 = r'.2 ∧ Good now r.1 r'.1

variable {now : Int} {s s' : MState}

theorem sim_refl (now : Int) (s : MState) : Sim now s s := ⟨fun _ => rfl, rfl⟩
theorem sim_symm (h : Sim now s s') : Sim now s' s :=
  ⟨fun k => (h.recs k).symm, h.frame.symm⟩
theorem sim_trans {now : Int} {a b c : MState} (h : Sim now a b) (g : Sim now b c) : Sim now a c :=
  ⟨fun k => (h.recs k).trans (g.recs k), h.frame.trans g.frame⟩

theorem Good.refl {now : Int} {s : MState} (hs : AList.Sorted s.index) : Good now s s :=
  ⟨hs, hs, sim_refl now s⟩
theorem Good.symm {now : Int} {s s' : MState} (h : Good now s s') : Good now s' s :=
  ⟨h.2.1, h.1, sim_symm h.2.2⟩
theorem Good.trans {now : Int} {a b c : MState} (h : Good now a b) (g : Good now b c) : Good now a c :=
  ⟨h.1, g.2.1, sim_trans h.2.2 g.2.2⟩

theorem Good.sorted₁ (h : Good now s s') : AList.Sorted s.index := h.1
theorem Good.sorted₂ (h : Good now s s') : AList.Sorted s'.index := h.2.1
theorem Good.sim (h : Good now s s') : Sim now s s' := h.2.2
theorem RSim.reply {α : Type} {r r' : MState × α} (h : RSim now r r') : r.2 = r'.2 := h.1
theorem RSim.good {α : Type} {r r' : MState × α} (h : RSim now r r') : Good now r.1 r'.1 := h.2

theorem Good.nextId (h : Good now s s') : s.nextId = s'.nextId :=
  congrArg View.Frame.nextId h.2.2.frame
theorem Good.pebble (h : Good now s s') : s.pebble = s'.pebble :=
  congrArg View.Frame.pebble h.2.2.frame
theorem Good.listeners (h : Good now s s') : s.listeners = s'.listeners :=
  congrArg View.Frame.listeners h.2.2.frame
theorem Good.feed (h : Good now s s') : s.feed = s'.feed :=
  congrArg View.Frame.feed h.2.2.frame
theorem Good.signalled {now : Int} {s s' : MState} (h : Good now s s') : s.signalled = s'.signalled :=
  congrArg View.Frame.signalled h.2.2.frame
theorem Good.vis (h : Good now s s') (k : Bytes) : vis now s k = vis now s' k :=
  h.2.2.recs k

theorem sorted_purge (now : Int) (s : MState) (hs : AList.Sorted s.index) :
    AList.Sorted (purge now s).index := sorted_filter _ _ hs

theorem getMeta_purge (now : Int) (s : MState) (hs : AList.Sorted s.index) (k : Bytes) :
    getMeta (purge now s) k = (getMeta s k).filter fun m => !m.expired now := by
  unfold getMeta purge
  exact get?_filter _ s.index hs k

theorem vis_purge (now : Int) (s : MState) (hs : AList.Sorted s.index) (k : Bytes) :
    vis now (purge now s) k = vis now s k := by
  unfold vis
  rw [getMeta_purge now s hs k, recOf_congr (s := purge now s) (s' := s) rfl rfl]
  cases getMeta s k with
  | none => rfl
  | some m =>
    simp only [Option.filter]
    by_cases h : m.expired now = true <;> simp [h]

theorem good_purge (now : Int) (s : MState) (hs : AList.Sorted s.index) : Good now s (purge now s) :=
  ⟨hs, sorted_purge now s hs, ⟨fun k => (vis_purge now s hs k).symm, rfl⟩⟩

theorem valOf_of_vis {now : Int} {s : MState} {k : Bytes} {r : View.Rec} (h : vis now s k = some r) :
    valOf s k = r.value := by
  obtain ⟨m, hm, _, hr⟩ := vis_some_getMeta h
  rw [valOf_of_getMeta hm, hr]; rfl

theorem expOf_of_vis {now : Int} {s : MState} {k : Bytes} {r : View.Rec} (h : vis now s k = some r) :
    Api.expOf s k = r.exp := by
  obtain ⟨m, hm, _, hr⟩ := vis_some_getMeta h
  rw [expOf_of_getMeta hm, hr]; rfl

/-- visible and in memory -/
def Hot (now : Int) (s : MState) (k : Bytes) : Prop := ∃ r, vis now s k = some r ∧ r.value.isSome = true

theorem Hot.transfer {now : Int} {s s' : MState} {k : Bytes} (g : Good now s s') (h : Hot now s k) :
    Hot now s' k := by
  obtain ⟨r, hr, hh⟩ := h
  exact ⟨r, by rw [← g.vis k]; exact hr, hh⟩

theorem lookupKey_good {lock : MState → Bytes → MState} (hl : C01.LockOp lock)
    {now : Int} {s s' : MState} (g : Good now s s')
    (k : Bytes) (mk : Option Val) :
    RSim now (C01.accessKey lock s now k mk) (C01.accessKey lock s' now k mk) ∧
    ((C01.accessKey lock s now k mk).2 = true → Hot now (C01.accessKey lock s now k mk).1 k) := by
  obtain ⟨a1, a2, a3, a4⟩ := lookupKey_spec hl s now k mk g.sorted₁
  obtain ⟨b1, b2, b3, b4⟩ := lookupKey_spec hl s' now k mk g.sorted₂
  refine ⟨⟨by rw [a1, b1, g.vis k], a4, b4, ⟨fun k' => ?_, ?_⟩⟩, ?_⟩
  · rw [a2, b2, g.vis k, g.vis k', g.nextId]
  · rw [a3, b3, g.vis k, g.nextId, g.sim.frame]
  · intro hok
    obtain ⟨r, hr, _, hv⟩ := lookupKey_found hl s now k mk hok
    exact ⟨r, hr, hv⟩

theorem writeKey_good (g : Good now s s') (k : Bytes) (mk : Option Val) :
    RSim now (writeKey s now k mk) (writeKey s' now k mk) ∧
    ((writeKey s now k mk).2 = true → Hot now (writeKey s now k mk).1 k) :=
  lookupKey_good C01.lockW_op g k mk

theorem readKey_good (g : Good now s s') (k : Bytes) :
    RSim now (readKey s now k) (readKey s' now k) ∧
    ((readKey s now k).2 = true → Hot now (readKey s now k).1 k) :=
  lookupKey_good C01.lockR_op g k none

theorem RSim.pair {α : Type} {now : Int} {r r' : MState × α} (h : RSim now r r') :
    ∃ a s1 s1', r = (s1, a) ∧ r' = (s1', a) ∧ Good now s1 s1' := by
  obtain ⟨s1, a⟩ := r
  obtain ⟨s1', a'⟩ := r'
  obtain ⟨e, g⟩ := h
  cases e
  exact ⟨a, s1, s1', rfl, rfl, g⟩

theorem writeKey_pair (g : Good now s s') (k : Bytes) (mk : Option Val) :
    ∃ ok s1 s1', writeKey s now k mk = (s1, ok) ∧ writeKey s' now k mk = (s1', ok) ∧ Good now s1 s1' ∧
      (ok = true → Hot now s1 k) := by
  obtain ⟨h, hot⟩ := writeKey_good g k mk
  obtain ⟨ok, s1, s1', hw, hw', g1⟩ := h.pair
  rw [hw] at hot
  exact ⟨ok, s1, s1', hw, hw', g1, hot⟩

theorem readKey_pair (g : Good now s s') (k : Bytes) :
    ∃ ok s1 s1', readKey s now k = (s1, ok) ∧ readKey s' now k = (s1', ok) ∧ Good now s1 s1' ∧
      (ok = true → Hot now s1 k) := by
  obtain ⟨h, hot⟩ := readKey_good g k
  obtain ⟨ok, s1, s1', hw, hw', g1⟩ := h.pair
  rw [hw] at hot
  exact ⟨ok, s1, s1', hw, hw', g1, hot⟩

theorem writeKey_create_pair (g : Good now s s') (k : Bytes) (c : Val) :
    ∃ s1 s1', writeKey s now k (some c) = (s1, true) ∧ writeKey s' now k (some c) = (s1', true) ∧ Good now s1 s1' ∧
      (vis now s1 k).isSome = true := by
  obtain ⟨ok, s1, s1', hw, hw', g1, hot⟩ := writeKey_pair g k (some c)
  have hok : (writeKey s now k (some c)).2 = true := by rw [(writeKey_spec s now k (some c) g.sorted₁).1]; simp
  rw [hw] at hok
  cases hok
  obtain ⟨r, hr, _⟩ := hot rfl
  exact ⟨s1, s1', hw, hw', g1, by rw [hr]; rfl⟩

theorem setVal_good (g : Good now s s') (k : Bytes) (v : Val)
    (hv : (vis now s k).isSome = true) :
    Good now (Api.setVal s k v) (Api.setVal s' k v) := by
  obtain ⟨r, hr⟩ := Option.isSome_iff_exists.mp hv
  have hr' : vis now s' k = some r := by rw [← g.vis k]; exact hr
  obtain ⟨m, hm, _, e⟩ := vis_some_getMeta hr
  obtain ⟨m', hm', _, e'⟩ := vis_some_getMeta hr'
  have ho : m.oid = m'.oid := by
    have : (recOf s k m).oid = (recOf s' k m').oid := by rw [← e, ← e']
    exact this
  refine ⟨setVal_sorted s k v g.sorted₁, setVal_sorted s' k v g.sorted₂, ⟨fun k' => ?_, ?_⟩⟩
  · rw [vis_setVal now s k k' v m hm, vis_setVal now s' k k' v m' hm', g.vis k', g.pebble, ho]
  · rw [setVal_frame, setVal_frame]; exact g.sim.frame

theorem vis_setVal_self {now : Int} {s : MState} {k : Bytes} {r : View.Rec} (v : Val) (hr : vis now s k = some r) :
    ∃ r1, vis now (Api.setVal s k v) k = some r1 ∧ r1.ok = r.ok ∧ r1.exp = r.exp ∧ r1.value = some v := by
  obtain ⟨m, hm, _, _⟩ := vis_some_getMeta hr
  refine ⟨setValRec s.pebble m.oid v (k = k) r, by rw [vis_setVal now s k k v m hm, hr]; rfl, ?_, ?_, ?_⟩
  · simp only [setValRec, decide_true, if_true]; split <;> rfl
  · simp only [setValRec, decide_true, if_true]; split <;> rfl
  · simp only [setValRec, decide_true, if_true]
    split
    · rfl
    · simp only [sharedRec]; split <;> rfl

theorem setVal_hot {now : Int} {s : MState} (k : Bytes) (v : Val) (hv : (vis now s k).isSome = true) :
    Hot now (Api.setVal s k v) k := by
  obtain ⟨r, hr⟩ := Option.isSome_iff_exists.mp hv
  obtain ⟨r1, h1, _, _, hv1⟩ := vis_setVal_self v hr
  exact ⟨r1, h1, by rw [hv1]; rfl⟩

theorem setExp_good (g : Good now s s') (k : Bytes) (e : Int)
    (h : Hot now s k) : Good now (Api.setExp s k e) (Api.setExp s' k e) := by
  obtain ⟨r, hr, hot⟩ := h
  have hr' : vis now s' k = some r := by rw [← g.vis k]; exact hr
  refine ⟨setExp_sorted s k e g.sorted₁, setExp_sorted s' k e g.sorted₂, ⟨fun k' => ?_, ?_⟩⟩
  · rw [vis_setExp now s k k' e r hr hot, vis_setExp now s' k k' e r hr' hot, g.vis k']
  · rw [setExp_frame, setExp_frame]; exact g.sim.frame

theorem delKey_good (g : Good now s s') (k : Bytes) :
    Good now (delKey s k) (delKey s' k) := by
  refine ⟨delKey_sorted s k g.sorted₁, delKey_sorted s' k g.sorted₂, ⟨fun k' => ?_, ?_⟩⟩
  · rw [vis_delKey now s k k' g.sorted₁, vis_delKey now s' k k' g.sorted₂, g.vis k']
  · rw [delKey_frame, delKey_frame]; exact g.sim.frame

theorem signal_good (g : Good now s s') (k : Bytes) :
    Good now (signal s k) (signal s' k) := by
  refine ⟨signal_sorted s k g.sorted₁, signal_sorted s' k g.sorted₂, ⟨fun k' => ?_, ?_⟩⟩
  · rw [vis_signal, vis_signal, g.vis k', g.vis k]
  · rw [signal_frame, signal_frame, g.sim.frame, g.signalled]

theorem emit_good (g : Good now s s') (op : FeedOp) :
    Good now (emit s op) (emit s' op) := by
  refine ⟨by rw [emit_index]; exact g.sorted₁, by rw [emit_index]; exact g.sorted₂, ⟨fun k' => ?_, ?_⟩⟩
  · rw [vis_emit, vis_emit, g.vis k']
  · rw [emit_frame, emit_frame, g.sim.frame, g.listeners, g.feed]

theorem commit_good (g : Good now s s') :
    Good now (Api.commit s) (Api.commit s') :=
  ⟨g.sorted₁, g.sorted₂, ⟨fun k' => by rw [vis_commit, vis_commit, g.vis k'], g.sim.frame⟩⟩

theorem newKeyWith_good (g : Good now s s') (k : Bytes) (old old' : Option Meta)
    (v : Val) : Good now (newKeyWith s k old v) (newKeyWith s' k old' v) := by
  refine ⟨newKeyWith_sorted s k old v g.sorted₁, newKeyWith_sorted s' k old' v g.sorted₂, ⟨fun k' => ?_, ?_⟩⟩
  · rw [vis_newKeyWith, vis_newKeyWith, g.vis k', g.nextId]
  · rw [newKeyWith_frame, newKeyWith_frame, g.sim.frame, g.nextId]

theorem Good.frameStep {now : Int} {s s' : MState} (g : Good now s s') (f : View.Frame → View.Frame) {t t' : MState}
    (h : t.index = s.index ∧ t.disk = s.disk ∧ t.pebble = s.pebble ∧ frame t = f (frame s))
    (h' : t'.index = s'.index ∧ t'.disk = s'.disk ∧ t'.pebble = s'.pebble ∧ frame t' = f (frame s')) :
    Good now t t' :=
  ⟨h.1 ▸ g.sorted₁, h'.1 ▸ g.sorted₂,
    ⟨fun k => by rw [vis_congr now h.1 h.2.1 h.2.2.1, vis_congr now h'.1 h'.2.1 h'.2.2.1, g.vis k],
      by rw [h.2.2.2, h'.2.2.2, g.sim.frame]⟩⟩

theorem signalled_good {now : Int} {s s' : MState} (g : Good now s s') (ks : List Bytes) :
    Good now { s with signalled := ks ++ s.signalled } { s' with signalled := ks ++ s'.signalled } :=
  g.frameStep (fun fr => { fr with signalled := ks ++ fr.signalled }) ⟨rfl, rfl, rfl, rfl⟩ ⟨rfl, rfl, rfl, rfl⟩

end NodisVerif.Proofs.C10

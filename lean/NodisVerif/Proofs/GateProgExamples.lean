import NodisVerif.Model.GateProg
/-
  Concrete schedules of the program model of the EXEC gate (non-vacuity of the theorems in Props/C08, Props/C09).
-/
namespace NodisVerif.GateProg.Ex
open NodisVerif.Gate (G T GMode Ev GState)
open NodisVerif.GateProg

deriving instance DecidableEq for NodisVerif.Gate.Ev

def n : Choice := {}
def cmd (c : Cmd) : Choice := { call := .cmd c }
def steps (t : Tid) (k : Nat) : List (Tid × Choice) := List.replicate k (t, n)

/-- one command of connection `t` whose handler needs no further choices (MULTI, DISCARD, WATCH, a queued command …);
    surplus steps are disabled at `idle` and skipped -/
def simple (t : Tid) (c : Cmd) : List (Tid × Choice) := (t, cmd c) :: steps t 12

/-- SET k v served directly: one transaction that signals the watchers of k -/
def setK (t : Tid) (tx : T) : List (Tid × Choice) :=
  [(t, cmd (.plain 1)), (t, n), (t, n), (t, n), (t, n), (t, { body := .beginTx }), (t, { fresh := tx }),
   (t, { body := .signal "k" }), (t, n), (t, n), (t, n), (t, { body := .endTx }), (t, n), (t, n)] ++ steps t 6

/-- connection 1: MULTI, SET (queued), EXEC up to the report of the watch check (pc e4) -/
def schedToCheck : List (Tid × Choice) :=
  simple 1 .multi ++ simple 1 (.plain 7) ++ [(1, cmd .exec)] ++ steps 1 5

/-- … and the rest of that EXEC: the queued SET runs one transaction; deferred commit, reset, unwatchAll, epilogue -/
def schedRest : List (Tid × Choice) :=
  [(1, n), (1, n), (1, n), (1, { body := .beginTx }), (1, { fresh := 3 }), (1, { body := .endTx }), (1, n), (1, n), (1, n),
   (1, n), (1, { fresh := 4 })] ++ steps 1 12

/-- connection 2 tries to be served in the middle of that EXEC (disabled: skipped), connection 1 goes on -/
def schedSeg : List (Tid × Choice) :=
  [(2, cmd (.plain 9)), (2, n), (2, n), (1, n), (1, n), (1, n), (2, n), (1, { body := .beginTx }), (1, { fresh := 3 }), (2, n)]

/-- WATCH k on connection 1, SET k on connection 2, then MULTI / SET / EXEC on connection 1: the null reply -/
def schedWatch : List (Tid × Choice) :=
  simple 1 (.watch ["k"]) ++ setK 2 5 ++ simple 1 .multi ++ simple 1 (.plain 7) ++ [(1, cmd .exec)] ++ steps 1 20

/-- MULTI, a nested MULTI (error: the transaction is marked), a queued SET, EXEC: EXECABORT -/
def schedAbort : List (Tid × Choice) :=
  simple 1 .multi ++ simple 1 .multi ++ simple 1 (.plain 7) ++ [(1, cmd .exec)] ++ steps 1 20

/-- MULTI, SET, DISCARD -/
def schedDiscard : List (Tid × Choice) :=
  simple 1 (.watch ["k"]) ++ simple 1 .multi ++ simple 1 (.plain 7) ++ simple 1 .discard

/-- BLPOP on connection 3: one look with one pop that finds nothing, then the timeout -/
def schedBpop : List (Tid × Choice) :=
  [(3, cmd (.bpop 1)), (3, n), (3, n), (3, n), (3, n), (3, n), (3, n), (3, { body := .beginTx }), (3, { fresh := 8 }),
   (3, { body := .endTx }), (3, n), (3, n), (3, n), (3, n), (3, n), (3, n)] ++ steps 3 6

/-- an embedded caller (goroutine 9) works while connection 1 is inside EXEC -/
def schedEmbedded : List (Tid × Choice) :=
  schedToCheck ++ [(9, { call := .embed }), (9, { body := .beginTx }), (9, { fresh := 30 }), (9, { body := .signal "k" }),
    (9, n), (9, n), (9, n), (9, { body := .endTx }), (9, n), (9, n), (9, n)]

theorem trace_exec : (run {} (schedToCheck ++ schedRest)).2 =
    [.serve 1, .gin 1 .s, .gout 1, .serve 1, .gin 1 .s, .gout 1, .serve 1, .gin 1 .x, .chk 1, .run 1, .txb 1 3, .txe 1 3,
     .txb 1 4, .txe 1 4, .gout 1] := by decide +kernel

/-- WATCH on 1, a signalling SET on 2, EXEC on 1: the check, no body -/
theorem trace_watch : (run {} schedWatch).2 =
    [.serve 1, .gin 1 .s, .gout 1, .serve 2, .gin 2 .s, .txb 2 5, .sig 2, .txe 2 5, .gout 2, .serve 1, .gin 1 .s, .gout 1,
     .serve 1, .gin 1 .s, .gout 1, .serve 1, .gin 1 .x, .chk 1, .txb 1 0, .txe 1 0, .gout 1] := by decide +kernel

/-- EXECABORT: neither check nor body -/
theorem trace_abort : (run {} schedAbort).2 =
    [.serve 1, .gin 1 .s, .gout 1, .serve 1, .gin 1 .s, .gout 1, .serve 1, .gin 1 .s, .gout 1, .serve 1, .gin 1 .x, .gout 1] := by
  decide +kernel

/-- a blocking pop: served without the gate, its look under the shared side -/
theorem trace_bpop : (run {} schedBpop).2 = [.serve 3, .gin 3 .s, .txb 3 8, .txe 3 8, .gout 3] := by decide +kernel

end NodisVerif.GateProg.Ex

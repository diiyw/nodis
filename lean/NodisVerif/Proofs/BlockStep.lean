import NodisVerif.Proofs.BlockBasic
/-
  Inversion of the local step `lstep` of the BLPOP/BRPOP wake-up protocol: for each event, exactly
  when it is allowed and what it does to the waiter; `Returned`, the phases of a call that is over.
-/
namespace NodisVerif.Proofs.Block
open NodisVerif.Block

theorem ite_none_some {α : Type} {c : Prop} [Decidable c] {x r : α} :
    (if c then none else some x) = some r ↔ ¬ c ∧ r = x := by
  by_cases h : c <;> simp [h, eq_comm]

theorem lstep_reg {o : Option WSt} {w : W} {k : Key} {r : Option WSt} :
    lstep o (.reg w k) = some r ↔
      (o.getD {}).phase = .registering ∧
      r = some { (o.getD {}) with keys := (o.getD {}).keys ++ [k], reg := (o.getD {}).reg ++ [k] } := by
  simp [lstep, @eq_comm _ r]

theorem lstep_none {e : Ev} {r : Option WSt} (h : lstep none e = some r) : ∃ w k, e = .reg w k := by
  cases e with
  | reg w k => exact ⟨w, k, rfl⟩
  | _ => simp [lstep] at h

theorem lstep_try {o : Option WSt} {w : W} {k : Key} {got : Bool} {r : Option WSt} :
    lstep o (.try_ w k got) = some r ↔
      ∃ st i, o = some st ∧ pos st.phase = some i ∧ st.keys[i]? = some k ∧
        r = some (if got then { st with phase := .gotElem k }
                  else { st with phase := .scan (i + 1), seen := k :: st.seen }) := by
  cases o with
  | none => simp [lstep]
  | some st =>
    simp only [lstep]
    cases hp : pos st.phase with
    | none => simp [hp]
    | some i =>
      simp only
      by_cases hk : st.keys[i]? = some k
      · cases got <;> simp [hk, hp, eq_comm]
      · simp [hk, hp]

theorem lstep_block {o : Option WSt} {w : W} {t : Bool} {r : Option WSt} :
    lstep o (.block w t) = some r ↔
      ∃ st, o = some st ∧ st.phase = .scan st.keys.length ∧
        r = some { st with phase := .blocked, timed := t } := by
  cases o with
  | none => simp [lstep]
  | some st =>
    simp [lstep, @eq_comm _ r]

theorem lstep_wake {o : Option WSt} {w : W} {r : Option WSt} :
    lstep o (.wake w) = some r ↔
      ∃ st, o = some st ∧ st.phase = .blocked ∧ st.buf = true ∧
        r = some { st with phase := .scan 0, buf := false, woken := st.woken + 1 } := by
  cases o with
  | none => simp [lstep]
  | some st =>
    simp [lstep, @eq_comm _ r, and_assoc]

theorem lstep_timeout {o : Option WSt} {w : W} {r : Option WSt} :
    lstep o (.timeout w) = some r ↔
      ∃ st, o = some st ∧ st.phase = .blocked ∧ st.timed = true ∧
        r = some { st with phase := .gotNull } := by
  cases o with
  | none => simp [lstep]
  | some st =>
    simp [lstep, @eq_comm _ r, and_assoc]

theorem lstep_notify {o : Option WSt} {w : W} {k : Key} {r : Option WSt} :
    lstep o (.notify w k) = some r ↔
      ∃ st, o = some st ∧ k ∈ st.reg ∧
        r = some { st with buf := true, seen := st.seen.filter (· != k), notified := st.notified + 1 } := by
  cases o with
  | none => simp [lstep]
  | some st =>
    simp [lstep, @eq_comm _ r]

/-- the call has produced its result, or is unwinding without one: `aborted` is a pop attempt that panicked and, in the
    program model, also the non-waiting form (timeout < 0, BLPOP inside EXEC) returning null after a failed round -/
def Returned : Phase → Prop
  | .gotElem _ | .gotNull | .aborted => True
  | _ => False

theorem returned_pos {p : Phase} (h : Returned p) : pos p = none ∧ p ≠ .blocked := by
  cases p <;> simp_all [Returned, pos]

theorem lstep_abort {o : Option WSt} {w : W} {r : Option WSt} :
    lstep o (.abort w) = some r ↔
      ∃ st, o = some st ∧ pos st.phase ≠ none ∧ r = some { st with phase := .aborted } := by
  cases o with
  | none => simp [lstep]
  | some st =>
    -- the waiter of the right side is `st`; then both sides compute from its phase
    simp only [lstep, Option.some.injEq, exists_eq_left', @eq_comm _ r]
    cases st.phase <;> simp [pos]

theorem lstep_unreg {o : Option WSt} {w : W} {k : Key} {r : Option WSt} :
    lstep o (.unreg w k) = some r ↔
      ∃ st, o = some st ∧ Returned st.phase ∧
        r = some { st with reg := st.reg.filter (· != k) } := by
  cases o with
  | none => simp [lstep]
  | some st =>
    simp only [lstep, Option.some.injEq, exists_eq_left', @eq_comm _ r]
    cases st.phase <;> simp [Returned]

theorem lstep_fin {o : Option WSt} {w : W} {r : Option WSt} :
    lstep o (.fin w) = some r ↔ ∃ st, o = some st ∧ st.reg = [] ∧ r = none := by
  cases o with
  | none => simp [lstep]
  | some st =>
    simp [lstep, @eq_comm _ r]

theorem lstep_seen {o : Option WSt} {e : Ev} {st' : WSt} (h : lstep o e = some (some st')) :
    (∃ k, e = .try_ (evW e) k false ∧ ∃ st, o = some st ∧ st'.seen = k :: st.seen) ∨
    (∃ k, e = .notify (evW e) k ∧ ∃ st, o = some st ∧ st'.seen = st.seen.filter (· != k)) ∨
    ((∀ k, e ≠ .notify (evW e) k) ∧ st'.seen = (o.getD {}).seen) := by
  cases e with
  | reg w k => obtain ⟨_, hr⟩ := lstep_reg.1 h; cases hr; exact .inr (.inr ⟨nofun, rfl⟩)
  | try_ w k got =>
    obtain ⟨st, i, rfl, _, _, hr⟩ := lstep_try.1 h
    cases got with
    | true => cases hr; exact .inr (.inr ⟨nofun, rfl⟩)
    | false => cases hr; exact .inl ⟨k, rfl, st, rfl, rfl⟩
  | block w t => obtain ⟨st, rfl, _, hr⟩ := lstep_block.1 h; cases hr; exact .inr (.inr ⟨nofun, rfl⟩)
  | wake w => obtain ⟨st, rfl, _, _, hr⟩ := lstep_wake.1 h; cases hr; exact .inr (.inr ⟨nofun, rfl⟩)
  | timeout w => obtain ⟨st, rfl, _, _, hr⟩ := lstep_timeout.1 h; cases hr; exact .inr (.inr ⟨nofun, rfl⟩)
  | notify w k => obtain ⟨st, rfl, _, hr⟩ := lstep_notify.1 h; cases hr; exact .inr (.inl ⟨k, rfl, st, rfl, rfl⟩)
  | abort w => obtain ⟨st, rfl, _, hr⟩ := lstep_abort.1 h; cases hr; exact .inr (.inr ⟨nofun, rfl⟩)
  | unreg w k => obtain ⟨st, rfl, _, hr⟩ := lstep_unreg.1 h; cases hr; exact .inr (.inr ⟨nofun, rfl⟩)
  | fin w => obtain ⟨st, _, _, hr⟩ := lstep_fin.1 h; cases hr

end NodisVerif.Proofs.Block

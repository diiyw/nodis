import NodisVerif.Proofs.C19Quiescent
/-
  C19 helpers: SCAN iterations while other commands change the keyspace between the calls.

  A history is the list of stores in which the 2nd, 3rd, ... call is made (whatever ran between two
  calls took the store from the result of one call to the next element of the list; once the list
  is used up nobody interferes any more).
-/
namespace NodisVerif.Proofs.C19History
open NodisVerif.Spec.Scan NodisVerif.Proofs.C19Iter NodisVerif.Proofs.C19Scan NodisVerif.Proofs.C19ScanIter
open NodisVerif.Proofs.C19Quiescent
open NodisVerif.Proofs.AListLemmas NodisVerif.Proofs.AListLemmas2

/-- the SCAN server with interference: after each call the store is replaced by the next element
    of the history (if any) -/
def nextStore (hist : List MState) (own : MState) : MState :=
  match hist with
  | [] => own
  | t :: _ => t

def histStep (now : Int) (pat : Bytes) (count : Int) (typ : Nat) :
    MState × List MState → Int → (MState × List MState) × Int × List Bytes :=
  fun sh c =>
    let r := scanStep now pat count typ sh.1 c
    ((nextStore sh.2 r.1, sh.2.tail), r.2)

/-- position of the (first) record named `x` -/
def posV (x : Bytes) (v : List VEnt) : Nat := v.findIdx (fun e => e.1 == x)
def pos (x : Bytes) (s : MState) : Nat := s.index.findIdx (fun e => e.1 == x)

/-- on the view: `x` is indexed and eligible -/
def StableV (now : Int) (pat : Bytes) (typ : Nat) (x : Bytes) (v : List VEnt) : Prop :=
  ∃ e, v[posV x v]? = some e ∧ keep now pat typ e = true

/-- `x` is there to be found in store `s` -/
def Stable (now : Int) (pat : Bytes) (typ : Nat) (x : Bytes) (s : MState) : Prop :=
  AList.Sorted s.index ∧ (s.index.length : Int) < I63 ∧ StableV now pat typ x (view s typ)

/-- the position of `x` never decreases along the history -/
def Mono (x : Bytes) : List MState → Prop
  | [] => True
  | [_] => True
  | a :: b :: rest => pos x a ≤ pos x b ∧ Mono x (b :: rest)

theorem posV_name (x : Bytes) (v : List VEnt) (e : VEnt) (h : v[posV x v]? = some e) : e.1 = x := by
  obtain ⟨hlt, _⟩ := List.getElem?_eq_some_iff.mp h
  have := @List.findIdx_getElem _ (fun (e : VEnt) => e.1 == x) v hlt
  rw [List.getElem?_eq_getElem hlt] at h
  unfold posV at h
  cases h
  simpa using this

theorem mem_kept_window (now : Int) (pat : Bytes) (typ : Nat) (v : List VEnt) (i p k : Nat) (e : VEnt)
    (he : v[i]? = some e) (hk : keep now pat typ e = true) (h1 : p ≤ i) (h2 : i < p + k) :
    e.1 ∈ kept now pat typ ((v.drop p).take k) := by
  unfold kept
  apply List.mem_map.2
  refine ⟨e, ?_, rfl⟩
  apply List.mem_filter.2
  refine ⟨?_, hk⟩
  apply List.mem_iff_getElem?.2
  refine ⟨i - p, ?_⟩
  rw [List.getElem?_take, if_pos (by omega), List.getElem?_drop]
  have : p + (i - p) = i := by omega
  rw [this, he]

theorem posV_view (x : Bytes) (s : MState) (typ : Nat) : posV x (view s typ) = pos x s := by
  unfold posV pos view viewOf
  rw [List.findIdx_map]
  rfl

theorem stable_of_frame {now : Int} {pat : Bytes} {typ : Nat} {x : Bytes} {s s' : MState}
    (h : ScanFrame typ s s') (hs : Stable now pat typ x s) : Stable now pat typ x s' := by
  obtain ⟨h1, h2, h3⟩ := hs
  refine ⟨h.sorted h1, ?_, ?_⟩
  · rw [h.length]; exact h2
  · rw [h.view_eq]; exact h3

theorem pos_of_frame {typ : Nat} {x : Bytes} {s s' : MState} (h : ScanFrame typ s s') : pos x s' = pos x s := by
  rw [← posV_view x s' typ, ← posV_view x s typ, h.view_eq]

/-- the core of `scan_stable_partial`: as long as the call about to be made starts at or before the
    position of `x`, `x` will be reported before the iteration ends -/
theorem visited_of_start_le (now : Int) (pat : Bytes) (typ : Nat) (x : Bytes) (k : Nat) (hk0 : 0 < k) (hk : (k : Int) < I63) :
    ∀ (fuel : Nat) (s : MState) (hist : List MState) (c : Int), 0 ≤ c →
      (∀ t ∈ s :: hist, Stable now pat typ x t) → Mono x (s :: hist) → startOf c ≤ pos x s →
      (iterateFrom (histStep now pat (k : Int) typ) fuel (s, hist) c).2 = true →
      x ∈ visited (iterateFrom (histStep now pat (k : Int) typ) fuel (s, hist) c) := by
  intro fuel
  induction fuel with
  | zero => intro s hist c _ _ _ _ ht; simp [iterateFrom_zero] at ht
  | succ f ih =>
    intro s hist c h0 hst hmono hstart hterm
    obtain ⟨hsorted, hlen, e, he, hkeep⟩ := hst s List.mem_cons_self
    have hvl := view_length s typ
    have hpv := posV_view x s typ
    rw [hpv] at he
    obtain ⟨hplt, _⟩ := List.getElem?_eq_some_iff.mp he
    have hcn : c ≤ (view s typ).length := by
      unfold startOf at hstart; omega
    have hstep : histStep now pat (k : Int) typ (s, hist) c =
        ((nextStore hist (scanStep now pat (k : Int) typ s c).1, hist.tail),
          (if (view s typ).length - startOf c ≤ k then 0 else ((startOf c + k + 1 : Nat) : Int)),
          kept now pat typ (((view s typ).drop (startOf c)).take k)) := by
      simp only [histStep]
      rw [scanStep_out, scanPure_lim (view s typ) now pat typ (by rw [hvl]; exact hlen) c k hk h0 hcn (by omega)]
    by_cases hwin : pos x s < startOf c + k
    · -- `x` is inside the window of this call
      have hin : x ∈ kept now pat typ (((view s typ).drop (startOf c)).take k) := by
        have := mem_kept_window now pat typ (view s typ) (pos x s) (startOf c) k e he hkeep hstart hwin
        rwa [posV_name x (view s typ) e (by rw [hpv]; exact he)] at this
      apply mem_visited_first
      rw [hstep]; exact hin
    · -- the window ends before `x`: the next call starts at the end of the window
      have hbig : ¬ ((view s typ).length - startOf c ≤ k) := by omega
      have hne : ((startOf c + k + 1 : Nat) : Int) ≠ 0 := by omega
      rw [if_neg hbig] at hstep
      rw [iterateFrom_next _ f (s, hist) c _ _ _ hstep hne] at hterm ⊢
      simp only [visited, List.flatten_cons, List.mem_append]
      right
      have hso : startOf ((startOf c + k + 1 : Nat) : Int) = startOf c + k := by unfold startOf; omega
      cases hist with
      | nil =>
        simp only [nextStore, List.tail_nil] at hterm ⊢
        have hframe : ScanFrame typ s (scanStep now pat (k : Int) typ s c).1 := scan_frame s hsorted now c pat (k : Int) typ
        have hst' : Stable now pat typ x (scanStep now pat (k : Int) typ s c).1 :=
          stable_of_frame hframe (hst s List.mem_cons_self)
        apply ih _ [] _ (by omega) (by intro t ht; simp at ht; subst ht; exact hst') trivial
        · rw [hso, pos_of_frame hframe]; omega
        · exact hterm
      | cons t ts =>
        simp only [nextStore, List.tail_cons] at hterm ⊢
        apply ih t ts _ (by omega) (by intro u hu; exact hst u (List.mem_cons_of_mem _ hu)) hmono.2
        · rw [hso]; have := hmono.1; omega
        · exact hterm

/-! ## sufficient conditions: what keeps the position of `x` from decreasing -/

theorem pos_set_ge (x key : Bytes) (m : Meta) (hne : key ≠ x) : ∀ (idx : AList Meta),
    idx.findIdx (fun e => e.1 == x) ≤ (AList.set idx key m).findIdx (fun e => e.1 == x) := by
  have hb : (key == x) = false := beq_eq_false_iff_ne.2 hne
  intro idx
  induction idx with
  | nil => simp [AList.set]
  | cons a rest ih =>
    obtain ⟨k, w⟩ := a
    simp only [AList.set]
    by_cases hk : k = key
    · subst hk; simp [List.findIdx_cons]
    · simp only [hk, if_false]
      by_cases hlt : Bytes.lt key k = true
      · simp only [hlt, if_true]
        rw [List.findIdx_cons (b := (key, m))]
        simp only [hb, cond_false]
        omega
      · simp only [hlt, Bool.false_eq_true, if_false]
        rw [List.findIdx_cons, List.findIdx_cons]
        by_cases hx : k = x
        · have : (k == x) = true := by simpa using hx
          simp only [this, cond_true]; omega
        · have : (k == x) = false := beq_eq_false_iff_ne.2 hx
          simp only [this, cond_false]; omega

theorem pos_erase_after (x key : Bytes) (hlt : Bytes.lt x key = true) : ∀ (idx : AList Meta), AList.Sorted idx →
    (AList.erase idx key).findIdx (fun e => e.1 == x) = idx.findIdx (fun e => e.1 == x) ∨
    idx.findIdx (fun e => e.1 == x) = idx.length := by
  intro idx
  induction idx with
  | nil => intro _; simp [AList.erase]
  | cons a rest ih =>
    intro hs
    obtain ⟨k, w⟩ := a
    obtain ⟨hrest, hall⟩ := sorted_cons (k, w) rest hs
    simp only [AList.erase]
    by_cases hk : k = key
    · -- the removed key is the head; `x` sorts before it, so `x` is not in the list at all
      right
      subst hk
      rw [List.findIdx_cons]
      have hkx : (k == x) = false := by
        apply beq_eq_false_iff_ne.2
        intro h; subst h; simp [lt_irrefl] at hlt
      have : rest.findIdx (fun e => e.1 == x) = rest.length := by
        apply List.findIdx_eq_length.2
        intro e he
        have hke : Bytes.lt k e.1 = true := hall e he
        have : e.1 ≠ x := by
          intro h; subst h
          have := lt_asymm _ _ hke
          rw [hlt] at this; cases this
        simpa using this
      simp only [hkx, cond_false, this, List.length_cons]
    · simp only [hk, if_false]
      rw [List.findIdx_cons, List.findIdx_cons]
      by_cases hx : k = x
      · left
        have : (k == x) = true := by simpa using hx
        simp only [this, cond_true]
      · have : (k == x) = false := beq_eq_false_iff_ne.2 hx
        simp only [this, cond_false]
        rcases ih hrest with h | h
        · left; rw [h]
        · right; simp [h]

end NodisVerif.Proofs.C19History

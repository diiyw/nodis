import NodisVerif.Proofs.C13Reopen
/-
  C13: concrete states (non-vacuity, the two-entry window made explicit, the old call order).
  `s0`: key "k" had no deadline when it was last written (`stored = some 0`), now has deadline 5 and a new
  value; key "z" is clean and cold.  `s1`: the mirror case, the deadline of "k" is removed (5 → 0), so that in the
  window the entry scanned last is the old one.  `m1c`: a cold record for "k", for which `persist` only deletes.
-/
namespace NodisVerif.C13.Ex
open NodisVerif NodisVerif.Store NodisVerif.C13
open NodisVerif.Proofs.AListLemmas NodisVerif.Proofs.AListLemmas2

def k1 : Bytes := [107]
def k2 : Bytes := [122]
def old1 : DiskEntry := { name := k1, exp := 0, val := .str [1] }
def new1 : DiskEntry := { name := k1, exp := 5, val := .str [2] }
def ent2 : DiskEntry := { name := k2, exp := 0, val := .str [9] }
/-- ok + modified, hot, deadline 5, stored under deadline 0 -/
def m1 : Meta := { exp := 5, value := some (.str [2]), state := 3, stored := some 0 }
/-- ok, clean, cold -/
def m2 : Meta := { exp := 0, value := none, state := 1, stored := some 0 }
def disk0 : AList DiskEntry := [([0, 107], old1), ([0, 122], ent2)]
def s0 : MState := { index := [(k1, m1), (k2, m2)], disk := disk0, pebble := true }

theorem enc_k1_0 : Codec.encodeKey k1 0 = [0, 107] := by
  simp [Codec.encodeKey, Varint.putVarint, Varint.zigzag, Varint.putUvarint, k1]
theorem enc_k1_5 : Codec.encodeKey k1 5 = [10, 107] := by
  simp [Codec.encodeKey, Varint.putVarint, Varint.zigzag, Varint.putUvarint, k1]
theorem enc_k2_0 : Codec.encodeKey k2 0 = [0, 122] := by
  simp [Codec.encodeKey, Varint.putVarint, Varint.zigzag, Varint.putUvarint, k2]

theorem disk0_eq : disk0 = runCalls [] [.set k1 0 old1, .set k2 0 ent2] := by
  simp [disk0, runCalls, diskAfter, enc_k1_0, enc_k2_0, AList.set, Bytes.lt]

theorem disk0_wf : DiskWF disk0 := by
  rw [disk0_eq]
  apply diskWF_run diskWF_nil (pebble := true)
  simp [DiskCall.Exact, old1, ent2]

theorem s0_agrees : StoreAgrees s0 := by
  refine ⟨disk0_wf, by simp [s0, AList.Sorted, Bytes.lt, k1, k2], ?_⟩
  intro p hp
  simp only [s0, List.mem_cons, List.not_mem_nil, or_false] at hp
  rcases hp with rfl | rfl
  · refine ⟨⟨old1, by rw [enc_k1_0]; simp [s0, disk0]⟩, ?_⟩
    intro k e hm hn
    simp only [s0, disk0, List.mem_cons, List.not_mem_nil, or_false, Prod.mk.injEq] at hm
    rcases hm with ⟨_, rfl⟩ | ⟨_, rfl⟩
    · rfl
    · rfl
  · refine ⟨⟨ent2, by rw [enc_k2_0]; simp [s0, disk0]⟩, ?_⟩
    intro k e hm hn
    simp only [s0, disk0, List.mem_cons, List.not_mem_nil, or_false, Prod.mk.injEq] at hm
    rcases hm with ⟨_, rfl⟩ | ⟨_, rfl⟩
    · rfl
    · rfl

theorem s0_k1_agrees : DiskAgrees s0 k1 m1 := s0_agrees.agrees (k1, m1) (by simp [s0])

theorem persistCalls_s0 : persistCalls s0 k1 m1 = [.set k1 5 new1, .del k1 0] := rfl
theorem persistCallsOld_s0 : persistCallsOld s0 k1 m1 = [.del k1 0, .set k1 5 new1] := rfl
theorem flushCalls_s0 : flushCalls s0 1 = [.set k1 5 new1, .del k1 0] := by
  simp [flushCalls, s0, recordCalls, Meta.expired, Meta.isOk, Meta.isModified, m1, m2, persistCalls,
    setCalls, delOldCalls, mkEntry, new1]

/-- the window: a kill between the two calls leaves BOTH entries of "k" on disk -/
theorem window_disk : (applyCalls s0 ((persistCalls s0 k1 m1).take 1)).disk
    = [([0, 107], old1), ([0, 122], ent2), ([10, 107], new1)] := by
  rw [applyCalls_disk _ _ (take_subset_exact (persistCalls_exact s0 k1 m1) 1), persistCalls_s0]
  simp [runCalls, diskAfter, enc_k1_5, s0, disk0, AList.set, Bytes.lt]

theorem window_wf : DiskWF [([0, 107], old1), ([0, 122], ent2), ([10, 107], new1)] := by
  have : [([0, 107], old1), ([0, 122], ent2), ([10, 107], new1)] = runCalls disk0 [.set k1 5 new1] := by
    simp [runCalls, diskAfter, enc_k1_5, disk0, AList.set, Bytes.lt]
  rw [this]
  apply diskWF_run disk0_wf (pebble := true)
  simp [DiskCall.Exact, new1]

theorem recovered_before : recovered s0.disk k1 = some (0, .str [1]) := by
  show recovered disk0 k1 = _
  rw [recovered_eq disk0_wf]
  rfl

/-- in the window the entry scanned last is the new one (deadline 5 sorts after deadline 0) -/
theorem recovered_window : recovered (applyCalls s0 ((persistCalls s0 k1 m1).take 1)).disk k1 = some (5, .str [2]) := by
  rw [window_disk, recovered_eq window_wf]
  rfl

theorem done_disk : (applyCalls s0 (persistCalls s0 k1 m1)).disk = [([0, 122], ent2), ([10, 107], new1)] := by
  rw [applyCalls_disk _ _ (persistCalls_exact s0 k1 m1), persistCalls_s0]
  simp [runCalls, diskAfter, enc_k1_5, enc_k1_0, s0, disk0, AList.set, AList.erase, Bytes.lt]

def old5 : DiskEntry := { name := k1, exp := 5, val := .str [1] }
def new0 : DiskEntry := { name := k1, exp := 0, val := .str [2] }
def m1' : Meta := { exp := 0, value := some (.str [2]), state := 3, stored := some 5 }
def disk1 : AList DiskEntry := [([0, 122], ent2), ([10, 107], old5)]
def s1 : MState := { index := [(k1, m1'), (k2, m2)], disk := disk1, pebble := true }

theorem disk1_wf : DiskWF disk1 := by
  have : disk1 = runCalls [] [.set k1 5 old5, .set k2 0 ent2] := by
    simp [disk1, runCalls, diskAfter, enc_k1_5, enc_k2_0, AList.set, Bytes.lt]
  rw [this]
  apply diskWF_run diskWF_nil (pebble := true)
  simp [DiskCall.Exact, old5, ent2]

theorem window_disk' : (applyCalls s1 ((persistCalls s1 k1 m1').take 1)).disk
    = [([0, 107], new0), ([0, 122], ent2), ([10, 107], old5)] := by
  rw [applyCalls_disk _ _ (take_subset_exact (persistCalls_exact s1 k1 m1') 1)]
  have : persistCalls s1 k1 m1' = [.set k1 0 new0, .del k1 5] := rfl
  rw [this]
  simp [runCalls, diskAfter, enc_k1_0, s1, disk1, AList.set, Bytes.lt]

theorem recovered_window' :
    recovered (applyCalls s1 ((persistCalls s1 k1 m1').take 1)).disk k1 = some (5, .str [1])
      ∧ recovered s1.disk k1 = some (5, .str [1]) := by
  have hwf : DiskWF (applyCalls s1 ((persistCalls s1 k1 m1').take 1)).disk := by
    rw [applyCalls_disk _ _ (take_subset_exact (persistCalls_exact s1 k1 m1') 1)]
    exact diskWF_run disk1_wf _ (take_subset_exact (persistCalls_exact s1 k1 m1') 1)
  constructor
  · rw [recovered_eq hwf, window_disk']
    rfl
  · show recovered disk1 k1 = _
    rw [recovered_eq disk1_wf]
    rfl

theorem old_order_disk : (applyCalls s0 ((persistCallsOld s0 k1 m1).take 1)).disk = [([0, 122], ent2)] := by
  rw [applyCalls_disk _ _ (take_subset_exact (persistCallsOld_exact s0 k1 m1) 1), persistCallsOld_s0]
  simp [runCalls, diskAfter, enc_k1_0, s0, disk0, AList.erase]

theorem old_order_loses_key : recovered (applyCalls s0 ((persistCallsOld s0 k1 m1).take 1)).disk k1 = none := by
  have hwf : DiskWF [([0, 122], ent2)] := by
    have : [([0, 122], ent2)] = runCalls [] [.set k2 0 ent2] := by
      simp [runCalls, diskAfter, enc_k2_0, AList.set]
    rw [this]
    apply diskWF_run diskWF_nil (pebble := true)
    simp [DiskCall.Exact, ent2]
  rw [old_order_disk, recovered_eq hwf]
  rfl

/-! why `persist_crash_safe` asks for a loaded value: the model's `diskSet` writes nothing for a record
    without value, the DELETE of the earlier entry still runs (`flush` / `gc` only persist modified,
    hence loaded, records) -/

def m1c : Meta := { exp := 5, value := none, state := 1, stored := some 0 }

theorem persist_cold_loses_key : persistCalls s0 k1 m1c = [.del k1 0]
    ∧ recovered (applyCalls s0 (persistCalls s0 k1 m1c)).disk k1 = none := by
  refine ⟨rfl, ?_⟩
  have h : (applyCalls s0 (persistCalls s0 k1 m1c)).disk
      = (applyCalls s0 ((persistCallsOld s0 k1 m1).take 1)).disk := rfl
  rw [h]
  exact old_order_loses_key

end NodisVerif.C13.Ex

import NodisVerif.Proofs.C09
/-
  C09 — the stepping connection's own watch map, and the combined per-step facts
  (what persists, what gets flagged, what stays clean).
-/
namespace NodisVerif.Proofs.C08Step
open Resp Server
open NodisVerif.Proofs.AListLemmas2

/-- the step ends every watch of its connection: EXEC, DISCARD, or an UNWATCH that runs at once -/
def clearsWatch (sv : Server) (c : Cmd) : Prop :=
  c.name = "EXEC" ∨ c.name = "DISCARD" ∨ (c.name = "UNWATCH" ∧ runsNow (sv.conn c.id).state)

instance (sv : Server) (c : Cmd) : Decidable (clearsWatch sv c) := by unfold clearsWatch; exact inferInstance

/-- a watch map without a true flag (`C08Step.Clean`; not the `Clean` of C01) -/
def Clean (w : AList Bool) : Prop := ∀ p ∈ w, p.2 = false

theorem clean_iff_any (w : AList Bool) : Clean w ↔ w.any (·.2) = false := by
  simp [Clean, List.any_eq_false]

theorem Clean.nil : Clean [] := by simp [Clean]

theorem Clean.set_false {w : AList Bool} (h : Clean w) (k : Bytes) : Clean (AList.set w k false) := by
  intro p hp
  rcases mem_set w k false p hp with e | e
  · rw [e]
  · exact h p e

theorem not_clean_of_flag {w : AList Bool} {x : Bytes} (h : AList.get? w x = some true) : w.any (·.2) = true := by
  rw [List.any_eq_true]
  exact ⟨(x, true), mem_of_get? _ _ _ h, rfl⟩

theorem watchOne_clean (id : String) (sv : Server) (key : Bytes) (h : Clean (sv.conn id).watch) :
    Clean ((watchOne id sv key).conn id).watch := by
  rw [watchOne_conn, if_pos rfl]
  split
  · exact h
  · exact h.set_false key

theorem watchLoop_clean (id : String) : ∀ (keys : List Bytes) (sv : Server), Clean (sv.conn id).watch →
    Clean ((watchLoop id keys sv).conn id).watch := by
  intro keys; induction keys with
  | nil => intro sv h; exact h
  | cons k rest ih => intro sv h; exact ih _ (watchOne_clean id sv k h)

/-- of connection `id` (the stepping one or another: `step_keeps`): its registrations persist, its true flags persist, and a
    registered key among the touched ones `T` gets its flag; these survive `afterHandler` -/
structure OwnKeeps (T : Bytes → Prop) (id : String) (sv sv' : Server) : Prop where
  reg : ∀ x, registered sv id x → registered sv' id x
  mono : ∀ x, AList.get? (sv.conn id).watch x = some true → AList.get? (sv'.conn id).watch x = some true
  hit : ∀ x, T x → registered sv id x → AList.get? (sv'.conn id).watch x = some true

theorem OwnKeeps.of_same {T : Bytes → Prop} {id : String} {sv sv' : Server} (hT : ∀ x, ¬ T x)
    (hr : sv'.registry = sv.registry) (hw : (sv'.conn id).watch = (sv.conn id).watch) : OwnKeeps T id sv sv' :=
  ⟨fun x h => (registered_congr hr id x).mpr h, fun x h => by rw [hw]; exact h, fun x h => (hT x h).elim⟩

theorem OwnKeeps.afterHandler {T : Bytes → Prop} {id : String} {sv sv' : Server} (toks : List Tok)
    (h : OwnKeeps T id sv sv') : OwnKeeps T id sv (afterHandler sv' id toks) :=
  ⟨fun x hx => (registered_congr (afterHandler_registry _ _ _) id x).mpr (h.reg x hx),
   fun x hx => by rw [afterHandler_watch]; exact h.mono x hx,
   fun x a b => by rw [afterHandler_watch]; exact h.hit x a b⟩

theorem OwnKeeps.execCommand {sv : Server} (hs : AList.Sorted sv.registry) (id : String) (now : Int) (ch : Choice) (b : Body) :
    OwnKeeps (touched (if runsNow (sv.conn id).state then [outOf sv.store now ch b] else [])) id sv
      (execCommand sv id now ch b).1 := by
  rw [execCommand_eq]; split
  · have f := runBody_flaggedR hs now ch b
    exact ⟨fun x h => (registered_congr f.registry id x).mpr h, fun x h => f.flag_mono id x h,
      fun x a b' => f.hit id x ⟨a, b'⟩⟩
  · refine OwnKeeps.of_same (by simp [touched]) rfl ?_
    rw [conn_setConn_same]; split <;> rfl

theorem step_own_keeps (H : Table) {sv : Server} (hwf : RegWF sv) (c : Cmd) (hc : ¬ clearsWatch sv c) :
    OwnKeeps (stepTouches H sv c) c.id sv (step H sv c).1 := by
  have hs := hwf.sorted
  have h2 : c.name ≠ "EXEC" := fun e => hc (Or.inl e)
  have h3 : c.name ≠ "DISCARD" := fun e => hc (Or.inr (Or.inl e))
  unfold step
  apply OwnKeeps.afterHandler
  -- flags are set only inside `execCommand` (`OwnKeeps.execCommand`); the other cases run no closure and keep registry
  -- and own map (`quiet`), except WATCH, which adds to both
  have quiet : ∀ {d : Server}, stepOuts H sv c = [] → d.registry = sv.registry → (d.conn c.id).watch = (sv.conn c.id).watch →
      OwnKeeps (stepTouches H sv c) c.id sv d :=
    fun e hr hw => OwnKeeps.of_same (by simp [stepTouches, e]) hr hw
  refine dispatch_cases (P := fun d => OwnKeeps (stepTouches H sv c) c.id sv d.1) H sv c ?_ ?_ ?_ ?_ ?_ ?_ ?_
  · intro h1  -- multi
    rw [multi_eq]; split
    · exact quiet (stepOuts_multi H sv c h1) rfl rfl
    · exact quiet (stepOuts_multi H sv c h1) rfl (by rw [conn_setConn_same])
  · intro e; exact absurd e h2  -- exec
  · intro e; exact absurd e h3  -- discard
  · intro h4  -- watch
    have e := stepOuts_watch H sv c h4
    rw [watch_eq]; split
    · exact quiet e rfl rfl
    · split
      · exact quiet e rfl rfl
      · refine ⟨fun x h => (watchLoop_registered _ _ _ _ _).mpr (Or.inl h), ?_, by simp [stepTouches, e]⟩
        intro x h
        simp only
        rw [watchLoop_watch]; simp [h]
  · intro h5  -- unwatch
    have hr : ¬ runsNow (sv.conn c.id).state := fun h => hc (Or.inr (Or.inr ⟨h5, h⟩))
    rw [if_neg hr]
    have h' := OwnKeeps.execCommand hs c.id c.now c.ch okBody
    rw [if_neg hr] at h'
    rw [stepTouches_eq, stepOuts_unwatch H sv c h5, if_neg hr]; exact h'
  · intro hsp hH ts; exact quiet (stepOuts_reply H sv c hsp hH) rfl rfl  -- reply
  · intro hsp b hH  -- call
    rw [stepTouches_eq, stepOuts_call H sv c hsp hH]
    exact OwnKeeps.execCommand hs c.id c.now c.ch b

theorem step_own_clears (H : Table) {sv : Server} (hwf : RegWF sv) (c : Cmd) (hc : clearsWatch sv c) :
    ((step H sv c).1.conn c.id).watch = [] := by
  rcases hc with h | h | ⟨h, hr⟩
  · rw [step_exec H sv c h, exec_conn_reset]
  · rw [step_discard H sv c h, resetConn_conn_same]
  · simp only [step, afterHandler_watch]
    rw [dispatch_unwatch H sv c h, if_pos hr, execCommand_eq, unwatchAll_conn_same, if_pos hr]
    have f := runBody_flaggedR (sv := unwatchAll sv c.id) (unwatchAll_sorted sv c.id hwf.sorted) c.now c.ch okBody
    rw [f.same c.id (fun x hx => unwatchAll_unregistered hwf c.id x hx.2), unwatchAll_conn_same]

theorem step_own_watch_same (H : Table) {sv : Server} (hwf : RegWF sv) (c : Cmd) (hc : ¬ clearsWatch sv c)
    (h4 : c.name ≠ "WATCH")
    (hq : ∀ x, AList.contains (sv.conn c.id).watch x = true → ¬ stepTouches H sv c x) :
    ((step H sv c).1.conn c.id).watch = (sv.conn c.id).watch := by
  have hs := hwf.sorted
  have h2 : c.name ≠ "EXEC" := fun e => hc (Or.inl e)
  have h3 : c.name ≠ "DISCARD" := fun e => hc (Or.inr (Or.inl e))
  simp only [step, afterHandler_watch]
  have exe : ∀ (b : Body), (stepOuts H sv c = if runsNow (sv.conn c.id).state then [outOf sv.store c.now c.ch b] else []) →
      ((execCommand sv c.id c.now c.ch b).1.conn c.id).watch = (sv.conn c.id).watch := by
    intro b e
    rw [execCommand_eq]; split
    · next hr =>
      -- the own map changes only inside `runBody`, and not there if no touched key is registered (`hq` with `RegWF.has`)
      have f := runBody_flaggedR hs c.now c.ch b
      rw [f.same c.id]
      rintro x ⟨hx, hreg⟩
      apply hq x (hwf.has c.id x hreg)
      rw [stepTouches_eq, e, if_pos hr]; exact hx
    · rw [conn_setConn_same]; split <;> rfl
  refine dispatch_cases (P := fun d => (d.1.conn c.id).watch = (sv.conn c.id).watch) H sv c ?_ ?_ ?_ ?_ ?_ ?_ ?_
  · intro _  -- multi
    rw [multi_eq]; split
    · rfl
    · rw [conn_setConn_same]
  · intro e; exact absurd e h2  -- exec
  · intro e; exact absurd e h3  -- discard
  · intro e; exact absurd e h4  -- watch
  · intro h5  -- unwatch
    have hr : ¬ runsNow (sv.conn c.id).state := fun h => hc (Or.inr (Or.inr ⟨h5, h⟩))
    rw [if_neg hr]
    exact exe okBody (stepOuts_unwatch H sv c h5)
  · intro _ _ _; rfl  -- reply
  · intro hsp b hH; exact exe b (stepOuts_call H sv c hsp hH)  -- call

theorem step_own_watch_clean (H : Table) (sv : Server) (c : Cmd) (h4 : c.name = "WATCH")
    (hcl : Clean (sv.conn c.id).watch) : Clean ((step H sv c).1.conn c.id).watch := by
  simp only [step, afterHandler_watch]
  rw [dispatch_watch H sv c h4, watch_eq]
  split
  · exact hcl
  · split
    · exact hcl
    · exact watchLoop_clean c.id c.args sv hcl

theorem step_keeps (H : Table) {sv : Server} (hwf : RegWF sv) (c : Cmd) (i : String)
    (hc : ¬ (c.id = i ∧ clearsWatch sv c)) : OwnKeeps (stepTouches H sv c) i sv (step H sv c).1 := by
  by_cases hi : c.id = i
  · subst hi
    exact step_own_keeps H hwf c (fun h => hc ⟨rfl, h⟩)
  · have hi' : i ≠ c.id := fun e => hi e.symm
    have o := step_othersS H hwf c
    refine ⟨fun x h => (o.reg i hi' x).mpr h, ?_, fun x a b => o.hit i hi' x ⟨a, b⟩⟩
    intro x h
    by_cases hx : stepTouches H sv c x ∧ registered sv i x
    · exact o.hit i hi' x hx
    · rw [o.miss i hi' x hx]; exact h

theorem step_keeps_clean (H : Table) {sv : Server} (hwf : RegWF sv) (c : Cmd) (i : String)
    (hcl : Clean (sv.conn i).watch)
    (hq : ∀ x, AList.contains (sv.conn i).watch x = true → ¬ stepTouches H sv c x) :
    Clean ((step H sv c).1.conn i).watch := by
  by_cases hi : c.id = i
  · subst hi
    by_cases hc : clearsWatch sv c
    · rw [step_own_clears H hwf c hc]; exact Clean.nil
    · by_cases h4 : c.name = "WATCH"
      · exact step_own_watch_clean H sv c h4 hcl
      · rw [step_own_watch_same H hwf c hc h4 hq]; exact hcl
  · have hi' : i ≠ c.id := fun e => hi e.symm
    have o := step_othersS H hwf c
    rw [o.same i hi' (fun x hx => hq x (hwf.has i x hx.2) hx.1)]
    exact hcl

theorem step_keeps_unwatched (H : Table) {sv : Server} (hwf : RegWF sv) (c : Cmd) (i : String)
    (hw : (sv.conn i).watch = []) (hc : ¬ (c.id = i ∧ c.name = "WATCH")) :
    ((step H sv c).1.conn i).watch = [] := by
  have hq : ∀ x, AList.contains (sv.conn i).watch x = true → ¬ stepTouches H sv c x := by
    intro x hx; rw [hw] at hx; simp [AList.contains, AList.get?] at hx
  by_cases hi : c.id = i
  · subst hi
    by_cases hcl : clearsWatch sv c
    · exact step_own_clears H hwf c hcl
    · rw [step_own_watch_same H hwf c hcl (fun e => hc ⟨rfl, e⟩) hq]; exact hw
  · have hi' : i ≠ c.id := fun e => hi e.symm
    have o := step_othersS H hwf c
    rw [o.same i hi' (fun x hx => hq x (hwf.has i x hx.2) hx.1)]
    exact hw

end NodisVerif.Proofs.C08Step

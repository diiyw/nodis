import NodisVerif.Proofs.SnapStrSetBit
/-
  ds/str/str.go SetRange: normal form and its relation to the model DsStr.setRange (which has two `none` outcomes:
  a growth beyond 1 GiB that the model does not follow, and the slice-bounds panic after an int64 overflow of offset+len).
-/
namespace NodisVerif.StrNF
open NodisVerif NodisVerif.GoLib

def SetRange {σ : Type} (mk : Bytes → σ) (v : Bytes) (offset : Int) (data : Bytes) : GoLib.M (σ × Int) := do
  let mut sv := v
  if (decide (offset < 0)) then
    return (mk sv, 0)
  let mut dLen : Int := (GoLib.len data)
  let mut vLen : Int := (GoLib.len sv)
  if (decide ((GoLib.wrap .i64 (offset + dLen)) > vLen)) then
    sv := (sv ++ (← GoLib.makeBytes (GoLib.wrap .i64 ((GoLib.wrap .i64 (offset + dLen)) - vLen))))
  sv := (← GoLib.copyAt sv offset data)
  return (mk sv, (GoLib.len sv))

theorem copyAt_out (dst : Bytes) (lo : Int) (src : Bytes) (h : lo > dst.length) : copyAt dst lo src = .error .slice := by
  have h0 : ¬ (0 ≤ lo ∧ lo ≤ (dst.length : Int)) := by omega
  simp only [copyAt, h0, if_false]; rfl

/-- `SetRange` against the model: where the model yields a value (no int64 overflow of offset+len, growth ≤ 1 GiB — the
    model does not follow the allocator beyond), the translated function yields the same; where the model says "panic"
    because the offset lies beyond the value that is not grown (only after an overflow), the translated function panics too -/
theorem SetRange_eq_model {σ : Type} (mk : Bytes → σ) (v : Bytes) (o : Int) (d : Bytes)
    (hv : v.length < 2 ^ 58) (hd : d.length < 2 ^ 58) (ho : inInt64 o) :
    match DsStr.setRange (some v) o d with
    | some (s', n) => SetRange mk v o d = .ok (mk (s'.getD []), n)
    | none => wrap64 (o + d.length) - v.length > 1073741824 ∨ SetRange mk v o d = .error .slice := by
  have ho' := inInt64_iff.mp ho
  unfold SetRange DsStr.setRange
  simp only [DsStr.bytes, Option.getD_some, len_eq, wrap_i64, DsStr.len]
  by_cases hneg : o < 0
  · simp [hneg, pure, Except.pure]
  simp only [hneg, decide_false, Bool.false_eq_true, if_false]
  -- `offset + dLen` is below 2^63 + 2^58: if it wraps, the result is negative
  have hsum' : (o + (d.length : Int) ≤ 9223372036854775807 ∨ 0 ≤ wrap64 (o + (d.length : Int))) →
      wrap64 (o + (d.length : Int)) = o + d.length := by
    unfold wrap64 int64Max; simp only []; split <;> omega
  generalize wrap64 (o + (d.length : Int)) = sum at hsum'
  by_cases hg : sum > (v.length : Int)
  · by_cases hbig : sum - (v.length : Int) > 1073741824
    · simp [hg, hbig]
    · have hw : wrap64 (sum - (v.length : Int)) = sum - v.length := wrap64_id (by omega)
      have hmk := makeBytes_ok (n := sum - (v.length : Int)) (by omega)
      have hfit := copyAt_fits (v ++ List.replicate (sum - (v.length : Int)).toNat 0) o d (by
        simp only [List.length_append, List.length_replicate]; omega)
      simp only [hg, hbig, decide_true, if_true, hw, hmk, bind, Except.bind, hfit, and_false, if_false, Bool.not_true,
        Bool.false_eq_true, false_and, pure, Except.pure, DsStr.zeros]
      rfl
  · by_cases hout : o > (v.length : Int)
    · simp only [hg, hout, decide_false, Bool.false_eq_true, if_false, false_and, Bool.not_false, true_and, if_true]
      right
      rw [copyAt_out v o d hout]; rfl
    · have hfit := copyAt_fits v o d (by omega)
      simp only [hg, hout, decide_false, Bool.false_eq_true, if_false, false_and, Bool.not_false, true_and, hfit, bind, Except.bind,
        pure, Except.pure]
      rfl

end NodisVerif.StrNF

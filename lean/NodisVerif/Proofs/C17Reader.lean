import NodisVerif.Proofs.C15Flat
/-
  C17, reader side: no byte stream, however fragmented, makes the RESP reader panic, and every
  successfully read command consumes at least one byte of the stream; hence the connection loop ends by itself
  within as many iterations as there are bytes (`readAll_ends`), and more fuel changes nothing (`readAll_stable`).

  `Post Q r W`: the outcome `r` is not a panic, its final state satisfies `Q` and, where `r` is an `ok`,
  also `W` (omitted: nothing more). `W` carries what C15 needs of a complete command: the window is
  empty again (everything read has been consumed by `malloc()`), so nothing of one command's bytes leaks
  into the next. The two facts come from the same walk over the exits of each function.
  `Le st st'`: `st'` has at most as many bytes ahead as `st`, and `before` (the byte in front of the
  window, i.e. "the window does not start at buffer offset 0") stays set once it is set.
  `Safe st`: `before` is set or the window is not empty — the invariant under which `readUtil`
  never evaluates `indexByte(-2)` on buf[-1].
-/
namespace NodisVerif.Proofs.C17
open Resp RespReader
open NodisVerif.Proofs.C15 (srcRead_some readByte_nil readByte_cons)

def Post {α : Type} (Q : RState → Prop) (r : Res α) (W : RState → Prop := fun _ => True) : Prop :=
  match r with
  | .ok _ s => Q s ∧ W s
  | .err _ s => Q s
  | .panic => False

theorem Post.ne_panic {α : Type} {Q W : RState → Prop} {r : Res α} (h : Post Q r W) : r ≠ .panic := by
  intro e; subst e; exact h

/-- case analysis on an outcome that is not a panic, for a goal in which it occurs -/
@[elab_as_elim]
theorem Post.elimOn {α : Type} {Q W : RState → Prop} {motive : Res α → Prop} {r : Res α} (h : Post Q r W)
    (ok : ∀ a s, Q s → W s → motive (.ok a s)) (err : ∀ e s, Q s → motive (.err e s)) : motive r := by
  cases r with
  | ok a s => exact ok a s h.1 h.2
  | err e s => exact err e s h
  | panic => exact h.elim

theorem Post.mono {α : Type} {Q Q' W W' : RState → Prop} {r : Res α} (h : Post Q r W) (hq : ∀ s, Q s → Q' s)
    (hw : ∀ s, W s → W' s) : Post Q' r W' :=
  h.elimOn (fun _ s q w => ⟨hq s q, hw s w⟩) (fun _ s q => hq s q)

def Le (st st' : RState) : Prop :=
  (srcFlat st'.src).length ≤ (srcFlat st.src).length ∧ (st.before.isSome → st'.before.isSome)

theorem Le.refl (st : RState) : Le st st := ⟨Nat.le_refl _, id⟩
theorem Le.trans {a b c : RState} (h : Le a b) (g : Le b c) : Le a c :=
  ⟨Nat.le_trans g.1 h.1, fun x => g.2 (h.2 x)⟩

theorem malloc_before_of_before {st : RState} (h : st.before.isSome) : (malloc st).before.isSome := by
  simp only [malloc]
  cases st.win.getLast? <;> simp [h]

theorem malloc_before_of_win {st : RState} (h : st.win ≠ []) : (malloc st).before.isSome := by
  simp only [malloc]
  cases hw : st.win.getLast? with
  | none => exact absurd (List.getLast?_eq_none_iff.mp hw) h
  | some x => simp

theorem Le.malloc (st : RState) : Le st (malloc st) :=
  ⟨Nat.le_refl _, malloc_before_of_before⟩

def Safe (st : RState) : Prop := st.before.isSome ∨ st.win ≠ []

theorem Safe.malloc {st : RState} (h : Safe st) : (malloc st).before.isSome :=
  h.elim malloc_before_of_before malloc_before_of_win

theorem readByte_cases (st : RState) :
    (readByte st = .err .eof st ∧ srcFlat st.src = []) ∨
    (∃ b src', readByte st = .ok () ⟨src', st.before, st.win ++ [b]⟩ ∧
      (srcFlat st.src).length = (srcFlat src').length + 1) := by
  cases hf : srcFlat st.src with
  | nil => exact .inl ⟨readByte_nil hf, rfl⟩
  | cons b t =>
    obtain ⟨src', e1, e2⟩ := readByte_cons hf
    exact .inr ⟨b, src', e2, by simp [e1]⟩

/-! ### the RESP (array / bulk) side: no `indexByte(-2)` at all -/

theorem readByteN_post (n : Nat) : ∀ (fuel : Nat) (st : RState), Post (Le st) (readByteN st n fuel) := by
  intro fuel
  induction fuel with
  | zero => intro st; exact Le.refl st
  | succ fuel ih =>
    intro st
    unfold readByteN
    by_cases hw : st.win.length ≥ n
    · simp only [hw, if_true]; exact ⟨Le.refl st, trivial⟩
    · simp only [hw, if_false]
      cases hr : srcRead st.src (n - st.win.length) with
      | none => exact Le.refl st
      | some p =>
        obtain ⟨bs, src'⟩ := p
        obtain ⟨_, _, h3⟩ := srcRead_some (by omega) hr
        simp only
        refine (ih _).mono (fun s hs => Le.trans ?_ hs) (fun _ w => w)
        exact ⟨by simp [h3], id⟩

theorem readLine_post : ∀ (fuel : Nat) (st : RState), Post (Le st) (readLine st fuel) := by
  intro fuel
  induction fuel with
  | zero => intro st; exact Le.refl st
  | succ fuel ih =>
    intro st
    unfold readLine
    rcases readByte_cases st with ⟨e, _⟩ | ⟨b, src', e, hl⟩
    · simp only [e]; exact Le.refl st
    · simp only [e]
      have hle : Le st ⟨src', st.before, st.win ++ [b]⟩ := ⟨by simp only [hl]; omega, id⟩
      split
      · exact ⟨⟨hle.1, hle.2⟩, trivial⟩
      · exact (ih _).mono (fun s hs => Le.trans hle hs) (fun _ w => w)

theorem readInteger_post (st : RState) : Post (Le st) (readInteger st) fun s => s.win = [] := by
  unfold readInteger
  refine (readLine_post (remaining st + 1) st).elimOn (fun _ s h _ => ?_) (fun _ _ h => h)
  dsimp only
  cases parseInt64 s.win with
  | none => exact Le.trans h (Le.malloc s)
  | some v => exact ⟨Le.trans h (Le.malloc s), rfl⟩

theorem readBulk_post (st : RState) : Post (Le st) (readBulk st) fun s => s.win = [] := by
  unfold readBulk
  rcases readByte_cases st with ⟨e, _⟩ | ⟨b, src', e, hl⟩
  · simp only [e]; exact Le.refl st
  · simp only [e]
    have hle : Le st ⟨src', st.before, st.win ++ [b]⟩ := ⟨by simp only [hl]; omega, id⟩
    split
    -- the first byte is not `$`: `expectedBulk`
    · exact hle
    · have hle2 := Le.trans hle (Le.malloc _)
      refine (readInteger_post (malloc ⟨src', st.before, st.win ++ [b]⟩)).elimOn (fun l s2 h2 _ => ?_)
        (fun _ _ h2 => Le.trans hle2 h2)
      have hle3 := Le.trans hle2 h2
      dsimp only
      split
      -- a negative length or one beyond `maxBulk`: `tooLarge`
      · exact hle3
      · refine (readByteN_post l.toNat (remaining s2 + 1) s2).elimOn (fun _ s4 h4 _ => ?_) (fun _ _ h4 => Le.trans hle3 h4)
        have hle5 := Le.trans (Le.trans hle3 h4) (Le.malloc s4)
        dsimp only
        exact (readLine_post (remaining (malloc s4) + 1) (malloc s4)).elimOn
          (fun _ s6 h6 _ => ⟨Le.trans (Le.trans hle5 h6) (Le.malloc s6), rfl⟩) (fun _ _ h6 => Le.trans hle5 h6)

-- the loops return their entry state when the count (resp. the fuel) is zero, so for them the window is empty
-- at the end only if it was at the start
theorem readBulks_post : ∀ (k : Nat) (acc : List Bytes) (st : RState),
    Post (Le st) (readBulks st k acc) fun s => st.win = [] → s.win = [] := by
  intro k
  induction k with
  | zero => intro acc st; exact ⟨Le.refl st, id⟩
  | succ k ih =>
    intro acc st
    rw [readBulks]
    exact (readBulk_post st).elimOn
      (fun _ s h hw => (ih _ s).mono (fun _ q => Le.trans h q) (fun _ w _ => w hw)) (fun _ _ h => h)

/-! ### the inline side: `readUtil` looks at `indexByte(-2)` -/

theorem prevByte_safe {st : RState} (h : st.before.isSome ∨ st.win.length ≥ 2) : prevByte st ≠ none := by
  unfold prevByte
  split
  · simp
  · rcases h with h | h
    · cases hb : st.before with
      | none => rw [hb] at h; cases h
      | some b => simp
    · omega

theorem readUtil_post (endB : UInt8) : ∀ (fuel : Nat) (st : RState), Safe st →
    Post (fun s => Le st s ∧ Safe s) (readUtil endB st fuel) := by
  intro fuel
  induction fuel with
  | zero => intro st hs; exact ⟨Le.refl st, hs⟩
  | succ fuel ih =>
    intro st hs
    unfold readUtil
    rcases readByte_cases st with ⟨e, _⟩ | ⟨b, src', e, hl⟩
    · simp only [e]; exact ⟨Le.refl st, hs⟩
    · simp only [e]
      have hle : Le st ⟨src', st.before, st.win ++ [b]⟩ := ⟨by simp only [hl]; omega, id⟩
      have hdrop : ((st.win ++ [b]).take ((st.win ++ [b]).length - 1)) = st.win := by simp
      have hleD : Le st ⟨src', st.before, st.win⟩ := ⟨hle.1, id⟩
      have hsD : Safe ⟨src', st.before, st.win⟩ := hs
      have hs1 : Safe ⟨src', st.before, st.win ++ [b]⟩ := .inr (by simp)
      -- a byte that is neither CR, LF nor an unescaped terminator stays in the window
      have hstay := (ih _ hs1).mono (fun s h => And.intro (Le.trans hle h.1) h.2) (fun _ w => w)
      simp only [lastByte, List.getLast?_append, List.getLast?_singleton, Option.some_or, Option.some.injEq, hdrop]
      by_cases h13 : b = 13
      -- '\r': the byte is dropped, the window is as before
      · rw [if_pos h13]
        exact (ih _ hsD).mono (fun s h => ⟨Le.trans hleD h.1, h.2⟩) (fun _ w => w)
      rw [if_neg h13]
      by_cases h10 : b = 10
      -- '\n': end of line
      · rw [if_pos h10]
        exact ⟨⟨hleD, hsD⟩, trivial⟩
      rw [if_neg h10]
      by_cases hE : b = endB
      -- the terminator: the only branch that looks at the byte before (`prevByte`), which `Safe` says is there
      · rw [if_pos hE]
        have hp : prevByte ⟨src', st.before, st.win ++ [b]⟩ ≠ none := prevByte_safe <| hs.imp id fun h => by
          have : 0 < st.win.length := List.length_pos_iff.mpr h
          simp; omega
        obtain ⟨p, hpb⟩ := Option.ne_none_iff_exists'.mp hp
        simp only [hpb]
        split
        · exact ⟨⟨hleD, hsD⟩, trivial⟩
        · exact hstay
      · rw [if_neg hE]
        exact hstay

theorem inlineArgs_post : ∀ (fuel : Nat) (acc : List Bytes) (st : RState), st.before.isSome →
    Post (Le st) (inlineArgs st fuel acc) fun s => st.win = [] → s.win = [] := by
  intro fuel
  induction fuel with
  | zero => intro acc st _; exact ⟨Le.refl st, id⟩
  | succ fuel ih =>
    intro acc st hb
    rw [inlineArgs]
    rcases readByte_cases st with ⟨e, _⟩ | ⟨b, src', e, hl⟩
    · simp only [e]; exact ⟨Le.refl st, id⟩
    · simp only [e]
      have hle : Le st ⟨src', st.before, st.win ++ [b]⟩ := ⟨by simp only [hl]; omega, id⟩
      have hb1 : (RState.mk src' st.before (st.win ++ [b])).before.isSome := hb
      split
      -- a separator (space or tab): skipped
      · exact (ih _ _ (malloc_before_of_before hb1)).mono (fun s h => Le.trans (Le.trans hle (Le.malloc _)) h)
          (fun _ w _ => w rfl)
      -- the first byte of an argument; an opening quote is consumed and becomes the terminator
      · have hst' : Le st (if (st.win ++ [b]).head? = some 39 ∨ (st.win ++ [b]).head? = some 34 then
              malloc ⟨src', st.before, st.win ++ [b]⟩ else ⟨src', st.before, st.win ++ [b]⟩) ∧
            (if (st.win ++ [b]).head? = some 39 ∨ (st.win ++ [b]).head? = some 34 then
              malloc ⟨src', st.before, st.win ++ [b]⟩ else (⟨src', st.before, st.win ++ [b]⟩ : RState)).before.isSome := by
          split
          · exact ⟨Le.trans hle (Le.malloc _), malloc_before_of_before hb1⟩
          · exact ⟨hle, hb1⟩
        generalize (if (st.win ++ [b]).head? = some 39 ∨ (st.win ++ [b]).head? = some 34 then
              malloc ⟨src', st.before, st.win ++ [b]⟩ else (⟨src', st.before, st.win ++ [b]⟩ : RState)) = st' at hst' ⊢
        generalize (if (st.win ++ [b]).head? = some 39 ∨ (st.win ++ [b]).head? = some 34 then
              (st.win ++ [b]).head?.getD 32 else 32) = endB
        obtain ⟨hle', hb'⟩ := hst'
        refine (readUtil_post endB (remaining st' + 1) st' (.inl hb')).elimOn (fun lineEnd s h _ => ?_)
          (fun _ _ h => Le.trans hle' h.1)
        have hle2 := Le.trans (Le.trans hle' h.1) (Le.malloc s)
        dsimp only
        split
        -- the argument ended the line: the command is complete
        · exact ⟨hle2, fun _ => rfl⟩
        · exact (ih _ _ (h.2.malloc)).mono (fun s' hs' => Le.trans hle2 hs') (fun _ w _ => w rfl)

theorem readInline_post (st : RState) (hs : Safe st) : Post (Le st) (readInline st) fun s => s.win = [] := by
  unfold readInline
  refine (readUtil_post 32 (remaining st + 1) st hs).elimOn (fun lineEnd s h _ => ?_) (fun _ _ h => h.1)
  have hle := Le.trans h.1 (Le.malloc s)
  dsimp only
  split
  · exact ⟨hle, rfl⟩
  · exact (inlineArgs_post (remaining (malloc s) + 1) [] (malloc s) h.2.malloc).elimOn
      (fun _ _ h2 w => ⟨Le.trans hle h2, w rfl⟩) (fun _ _ h2 => Le.trans hle h2)

/-- what `readCommand` guarantees on a stream of `n` bytes: never a panic; a command consumes at
    least one byte and leaves the window empty; an error never "un-reads" anything -/
def CmdPost (n : Nat) : Res Cmd → Prop
  | .ok _ s => (srcFlat s.src).length < n ∧ s.win = []
  | .err _ s => (srcFlat s.src).length ≤ n
  | .panic => False

theorem readCommand_post (src : Source) : CmdPost (srcFlat src).length (readCommand src) := by
  unfold readCommand
  simp only
  rcases readByte_cases { src := src } with ⟨e, _⟩ | ⟨b, src', e, hl⟩
  · simp only [e]; exact Nat.le_refl _
  · simp only [e]
    have hl' : (srcFlat src).length = (srcFlat src').length + 1 := hl
    split
    · refine (readInline_post ⟨src', none, [] ++ [b]⟩ (.inr (by simp))).elimOn (fun c s h hw => ?_) (fun e s h => ?_)
      · have := h.1; simp only [CmdPost] at this ⊢; exact ⟨by omega, hw⟩
      · have := h.1; simp only [CmdPost] at this ⊢; omega
    · refine (readInteger_post (malloc ⟨src', none, [] ++ [b]⟩)).elimOn (fun l s h hw => ?_) (fun e s h => ?_)
      · have h1 := h.1
        simp only [malloc] at h1
        dsimp only
        refine (readBulks_post l.toNat [] s).elimOn (fun v s2 h2 w2 => ?_) (fun e s2 h2 => ?_)
        · have := h2.1
          cases v with
          | nil => simp only [CmdPost]; exact ⟨by omega, w2 hw⟩
          | cons n args => simp only [CmdPost]; exact ⟨by omega, w2 hw⟩
        · have := h2.1; simp only [CmdPost]; omega
      · have := h.1; simp only [CmdPost, malloc] at this ⊢; omega

theorem readCommand_ne_panic (src : Source) : readCommand src ≠ .panic := by
  intro e
  have := readCommand_post src
  rw [e] at this
  exact this

theorem readCommand_ok_consumes {src : Source} {c : Cmd} {st : RState} (h : readCommand src = .ok c st) :
    (srcFlat st.src).length < (srcFlat src).length := by
  have := readCommand_post src
  rw [h] at this
  exact this.1

theorem readCommand_ok_win {src : Source} {c : Cmd} {st : RState} (h : readCommand src = .ok c st) : st.win = [] := by
  have := readCommand_post src
  rw [h] at this
  exact this.2

theorem readAll_no_panic : ∀ (fuel : Nat) (src : Source) (acc : List Cmd), (readAll src fuel acc).2.2 = false := by
  intro fuel
  induction fuel with
  | zero => intro src acc; rfl
  | succ fuel ih =>
    intro src acc
    rw [readAll]
    cases hr : readCommand src with
    | ok c st => exact ih _ _
    | err e st => rfl
    | panic => exact absurd hr (readCommand_ne_panic src)

theorem readAll_ends : ∀ (fuel : Nat) (src : Source) (acc : List Cmd), (srcFlat src).length < fuel →
    ∃ cmds e, readAll src fuel acc = (acc.reverse ++ cmds, some e, false) ∧
      cmds.length ≤ (srcFlat src).length := by
  intro fuel
  induction fuel with
  | zero => intro src acc h; omega
  | succ fuel ih =>
    intro src acc hf
    rw [readAll]
    cases hr : readCommand src with
    | ok c st =>
      have hc := readCommand_ok_consumes hr
      obtain ⟨cmds, e, h1, h2⟩ := ih st.src (c :: acc) (by omega)
      refine ⟨c :: cmds, e, ?_, ?_⟩
      · simp only [h1]; simp
      · simp only [List.length_cons]; omega
    | err e st => exact ⟨[], e, by simp, by simp⟩
    | panic => exact absurd hr (readCommand_ne_panic src)

theorem readAll_stable_succ : ∀ (fuel : Nat) (src : Source) (acc : List Cmd),
    (readAll src fuel acc).2.1 ≠ none → readAll src (fuel + 1) acc = readAll src fuel acc := by
  intro fuel
  induction fuel with
  | zero => intro src acc h; exact absurd rfl h
  | succ fuel ih =>
    intro src acc h
    rw [readAll] at h
    rw [readAll.eq_2 src acc (fuel + 1), readAll.eq_2 src acc fuel]
    cases hr : readCommand src with
    | ok c st => rw [hr] at h; exact ih _ _ h
    | err e st => rfl
    | panic => rfl

theorem readAll_stable (k : Nat) : ∀ (fuel : Nat) (src : Source) (acc : List Cmd),
    (readAll src fuel acc).2.1 ≠ none → readAll src (fuel + k) acc = readAll src fuel acc := by
  induction k with
  | zero => intro fuel src acc _; rfl
  | succ k ih =>
    intro fuel src acc h
    have h1 := ih fuel src acc h
    rw [← Nat.add_assoc, readAll_stable_succ (fuel + k) src acc (by rw [h1]; exact h), h1]

end NodisVerif.Proofs.C17

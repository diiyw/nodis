import NodisVerif.Proofs.KeyTx
/-
  Every single-key command of Model/Api.lean is a key transaction: for each the decision `dec… : Val → Int → Act`
  (what it does with the value and the deadline it finds), where needed the packaged form (`…Form` / `…F : TxForm`), and the
  equation `Api.f … = keyTx …`, proved once, by unfolding alone.  Whatever is proved about `keyTx` (Proofs/KeyTx.lean)
  then holds of the command through its equation.

  Not of this shape: the commands on several keys (DEL, MSET, the …STORE commands), SETNX, GETSET on a missing key
  (`getSet_eq` has that branch apart), EXPIRE with a zero duration (= DEL).  ZREM / ZREMRANGEBYRANK / ZREMRANGEBYSCORE
  have a shape of their own (`C20.remTx`): with nothing removed they still rewrite the value and may unlink the key
  without `signalModifiedKey`.  The commands on two names have their normal form at the end of the file: two key
  transactions, the second run by the reply of the first (`C20.rotate_eq`, `C20.smove_eq`), or two lookups and a tail
  (`rename_eq`, `C20.renameNX_eq`).

  The names are in `Proofs.C11` (the shapes, the first two runs of commands, whose packaged forms are named `…Form`,
  RENAME) and in `Proofs.C20` (the third run, with packaged forms `…F`, and the other two-name forms).
  First, in `Proofs.C03Api` and `Proofs.C03Seq`, the accepted-choice tests of SPOP and SRANDMEMBER and HMSET's fold, with
  which C03 states its theorems and `decSpop` / `srandOut` / `decHmset` below are written.
-/
namespace NodisVerif.Proofs.C03Api
open NodisVerif.Api

/-- the accepted-choice test of `Api.spop` -/
def spopValid (st : AList Unit) (count : Int) (choice : List Bytes) : Bool :=
  let count := if count = 0 then 1 else count
  let want : Nat := if count ≤ 0 then 0 else min count.toNat st.length
  choice.all (DsSet.mem st) && distinct choice && choice.length = want

def invalidChoice : Out := .str (Bytes.ofString "INVALID-CHOICE")

/-- the accepted-choice test of `Api.srandmember` -/
def srandValid (st : AList Unit) (count : Int) (choice : List Bytes) : Bool :=
  if count = 0 then choice.isEmpty
  else if count > 0 then choice.all (DsSet.mem st) && distinct choice && choice.length = min count.toNat st.length
  else choice.all (DsSet.mem st) && choice.length = (-count).toNat

end NodisVerif.Proofs.C03Api

namespace NodisVerif.Proofs.C03Seq

/-- the data-structure part of `Api.hmset`: HSET pair by pair, counting the new fields -/
def hmsetDs (h : AList Bytes) (pairs : List (Bytes × Bytes)) : AList Bytes × Int :=
  pairs.foldl (fun (acc : AList Bytes × Int) (k, v) =>
    let (h2, r) := DsHash.hset acc.1 k v
    (h2, acc.2 + r)) (h, 0)

end NodisVerif.Proofs.C03Seq

namespace NodisVerif.Proofs.C11
open NodisVerif.Store

/-! ### the shapes, once

  A command of Model/Api.lean is written `let (s, ok) := lookup …; if !ok then (s, miss) else tail s`.  `read_tx`,
  `write_tx`, `create_tx` say what that is as a `keyTx` once the tail is a decision on the hot value
  (`match valOf s key with | some v => runAct s key (dec v (Api.expOf s key)) | none => nov s`); they are stated on
  the state the lookup returns, so that `unfold Api.f; exact write_tx …` finds the tail by unification.  The tail
  itself is a typed access `match Api.asT s key with | none => (s, .panic) | some x => t x`: `onStrW` … `onZSet` say
  what that is as a decision on `valOf s key` (a value of another type panics).  `read_shape`, `write_shape`,
  `create_shape`, stated first, are the same three with the tail as a function of the state the lookup returns, for a
  proof that has the tail at hand (`refine write_shape s now key _ _ _ (fun s1 => …) ?_`). -/

theorem read_shape (s : MState) (now : Int) (key : Bytes) (miss : Out) (nov : MState → Api.R) (dec : Val → Int → Act)
    (body : MState → Api.R)
    (hbody : ∀ s1, body s1 = match valOf s1 key with
      | some v => runAct s1 key (dec v (Api.expOf s1 key))
      | none => nov s1) :
    (let r := readKey s now key; if !r.2 then (r.1, miss) else body r.1) =
      keyTx false none miss nov dec s now key := by
  unfold keyTx
  simp only [Bool.false_eq_true, if_false, Option.isNone_none, Bool.and_true]
  generalize readKey s now key = r
  obtain ⟨s1, ok⟩ := r
  cases ok with
  | false => rfl
  | true => simp only [Bool.not_true, Bool.false_eq_true, if_false]; exact hbody s1

theorem write_shape (s : MState) (now : Int) (key : Bytes) (miss : Out) (nov : MState → Api.R) (dec : Val → Int → Act)
    (body : MState → Api.R)
    (hbody : ∀ s1, body s1 = match valOf s1 key with
      | some v => runAct s1 key (dec v (Api.expOf s1 key))
      | none => nov s1) :
    (let r := writeKey s now key none; if !r.2 then (r.1, miss) else body r.1) =
      keyTx true none miss nov dec s now key := by
  unfold keyTx
  simp only [if_true, Option.isNone_none, Bool.and_true]
  generalize writeKey s now key none = r
  obtain ⟨s1, ok⟩ := r
  cases ok with
  | false => rfl
  | true => simp only [Bool.not_true, Bool.false_eq_true, if_false]; exact hbody s1

theorem create_shape (s : MState) (now : Int) (key : Bytes) (mk : Val) (miss : Out) (nov : MState → Api.R) (dec : Val → Int → Act)
    (body : MState → Api.R)
    (hbody : ∀ s1, body s1 = match valOf s1 key with
      | some v => runAct s1 key (dec v (Api.expOf s1 key))
      | none => nov s1) :
    (let r := writeKey s now key (some mk); body r.1) =
      keyTx true (some mk) miss nov dec s now key := by
  unfold keyTx
  simp only [if_true, Option.isNone_some, Bool.and_false, Bool.false_eq_true, if_false]
  exact hbody _

theorem read_tx {s : MState} {now : Int} {key : Bytes} {miss : Out} {nov : MState → Api.R} {dec : Val → Int → Act}
    {tail : Api.R}
    (h : tail = match valOf (readKey s now key).1 key with
      | some v => runAct (readKey s now key).1 key (dec v (Api.expOf (readKey s now key).1 key))
      | none => nov (readKey s now key).1) :
    (if !(readKey s now key).2 then ((readKey s now key).1, miss) else tail) =
      keyTx false none miss nov dec s now key := by
  rw [h]
  exact read_shape s now key miss nov dec (fun s1 => match valOf s1 key with
    | some v => runAct s1 key (dec v (Api.expOf s1 key))
    | none => nov s1) (fun _ => rfl)

theorem write_tx {s : MState} {now : Int} {key : Bytes} {miss : Out} {nov : MState → Api.R} {dec : Val → Int → Act}
    {tail : Api.R}
    (h : tail = match valOf (writeKey s now key none).1 key with
      | some v => runAct (writeKey s now key none).1 key (dec v (Api.expOf (writeKey s now key none).1 key))
      | none => nov (writeKey s now key none).1) :
    (if !(writeKey s now key none).2 then ((writeKey s now key none).1, miss) else tail) =
      keyTx true none miss nov dec s now key := by
  rw [h]
  exact write_shape s now key miss nov dec (fun s1 => match valOf s1 key with
    | some v => runAct s1 key (dec v (Api.expOf s1 key))
    | none => nov s1) (fun _ => rfl)

theorem create_tx {s : MState} {now : Int} {key : Bytes} {mk : Val} {miss : Out} {nov : MState → Api.R}
    {dec : Val → Int → Act} {tail : Api.R}
    (h : tail = match valOf (writeKey s now key (some mk)).1 key with
      | some v =>
        runAct (writeKey s now key (some mk)).1 key (dec v (Api.expOf (writeKey s now key (some mk)).1 key))
      | none => nov (writeKey s now key (some mk)).1) :
    tail = keyTx true (some mk) miss nov dec s now key :=
  h.trans (create_shape s now key mk miss nov dec (fun s1 => match valOf s1 key with
    | some v => runAct s1 key (dec v (Api.expOf s1 key))
    | none => nov s1) (fun _ => rfl))

section typed
variable {s1 : MState} {key : Bytes}

theorem onList {t : LList → Api.R} {f : LList → Act} (ht : ∀ x, t x = runAct s1 key (f x)) :
    (match Api.asList s1 key with | none => (s1, Out.panic) | some x => t x) =
      match valOf s1 key with
      | some v => runAct s1 key (match v with | .list x => f x | _ => .keep .panic)
      | none => (s1, .panic) := by
  simp only [Api.asList]
  cases valOf s1 key with
  | none => rfl
  | some v => cases v <;> first | rfl | exact ht _

theorem onHash {t : AList Bytes → Api.R} {f : AList Bytes → Act} (ht : ∀ x, t x = runAct s1 key (f x)) :
    (match Api.asHash s1 key with | none => (s1, Out.panic) | some x => t x) =
      match valOf s1 key with
      | some v => runAct s1 key (match v with | .hash x => f x | _ => .keep .panic)
      | none => (s1, .panic) := by
  simp only [Api.asHash]
  cases valOf s1 key with
  | none => rfl
  | some v => cases v <;> first | rfl | exact ht _

theorem onSet {t : AList Unit → Api.R} {f : AList Unit → Act} (ht : ∀ x, t x = runAct s1 key (f x)) :
    (match Api.asSet s1 key with | none => (s1, Out.panic) | some x => t x) =
      match valOf s1 key with
      | some v => runAct s1 key (match v with | .set x => f x | _ => .keep .panic)
      | none => (s1, .panic) := by
  simp only [Api.asSet]
  cases valOf s1 key with
  | none => rfl
  | some v => cases v <;> first | rfl | exact ht _

theorem onZSet {t : ZSet → Api.R} {f : ZSet → Act} (ht : ∀ x, t x = runAct s1 key (f x)) :
    (match Api.asZSet s1 key with | none => (s1, Out.panic) | some x => t x) =
      match valOf s1 key with
      | some v => runAct s1 key (match v with | .zset x => f x | _ => .keep .panic)
      | none => (s1, .panic) := by
  simp only [Api.asZSet]
  cases valOf s1 key with
  | none => rfl
  | some v => cases v <;> first | rfl | exact ht _

/-- a string (Go's nil string and a byte string are both strings) -/
theorem onStr {t : DsStr.S → Api.R} {f : DsStr.S → Act} (ht : ∀ x, t x = runAct s1 key (f x)) :
    (match Api.asStr s1 key with | none => (s1, Out.panic) | some x => t x) =
      match valOf s1 key with
      | some v => runAct s1 key (match v with | .str b => f (some b) | .strNil => f none | _ => .keep .panic)
      | none => (s1, .panic) := by
  simp only [Api.asStr]
  cases valOf s1 key with
  | none => rfl
  | some v => cases v <;> first | rfl | exact ht _

theorem runAct_shrink (v : Val) (c : Prop) [Decidable c] (op : FeedOp) (r : Out) :
    runAct s1 key (if c then .drop v [op] r else .put (some v) none [op] r) =
      (emit (signal (if c then delKey (Api.setVal s1 key v) key else Api.setVal s1 key v) key) op, r) := by
  split <;> rfl

end typed

def decGet (v : Val) (_ : Int) : Act :=
  match v with
  | .str b => .keep (.bytes (some b))
  | .strNil => .keep (.bytes none)
  | _ => .keep .panic

theorem get_eq (s : MState) (now : Int) (key : Bytes) :
    Api.get s now key = keyTx false none (.bytes none) Cmd.pan decGet s now key := by
  unfold Api.get
  exact read_tx (onStr (f := fun x => .keep (.bytes x)) fun _ => rfl)

/-- the string commands that only look: STRLEN, GETRANGE, GETBIT, BITCOUNT -/
def decStrRead (f : DsStr.S → Out) (v : Val) (_ : Int) : Act :=
  match v with
  | .str b => .keep (f (some b))
  | .strNil => .keep (f none)
  | _ => .keep .panic

theorem strRead_eq (f : DsStr.S → Out) (miss : Out) (s : MState) (now : Int) (key : Bytes) :
    (let r := readKey s now key
     if !r.2 then (r.1, miss) else
     match Api.asStr r.1 key with
     | none => (r.1, .panic)
     | some v => (r.1, f v)) = keyTx false none miss Cmd.pan (decStrRead f) s now key :=
  read_tx (onStr (f := fun x => .keep (f x)) fun _ => rfl)

theorem strLen_eq (s : MState) (now : Int) (key : Bytes) :
    Api.strLen s now key = keyTx false none (.int 0) Cmd.pan (decStrRead fun v => .int (DsStr.len v)) s now key :=
  strRead_eq _ _ s now key

theorem getRange_eq (s : MState) (now : Int) (key : Bytes) (a b : Int) :
    Api.getRange s now key a b =
      keyTx false none (.bytes none) Cmd.pan (decStrRead fun v => .bytes (DsStr.getRange v a b)) s now key :=
  strRead_eq _ _ s now key

theorem getBit_eq (s : MState) (now : Int) (key : Bytes) (off : Int) :
    Api.getBit s now key off =
      keyTx false none (.int 0) Cmd.pan (decStrRead fun v => .int (DsStr.getBit v off)) s now key :=
  strRead_eq _ _ s now key

/-- a string command: `f` gives the new value, deadline, records and reply, or `none` when it only replies `fail`; a
  value of another type panics -/
def decStrWrite (f : DsStr.S → Option (Option Val × Option Int × List FeedOp × Out)) (fail : DsStr.S → Out)
    (v : Val) (_ : Int) : Act :=
  let go (x : DsStr.S) : Act := match f x with
    | some (v', e', ops, r) => .put v' e' ops r
    | none => .keep (fail x)
  match v with
  | .str b => go (some b)
  | .strNil => go none
  | _ => .keep .panic

theorem onStrW {s1 : MState} {key : Bytes} {e : Int} {t : DsStr.S → Api.R}
    {f : DsStr.S → Option (Option Val × Option Int × List FeedOp × Out)} {fail : DsStr.S → Out}
    (ht : ∀ x, t x = runAct s1 key (match f x with
      | some (v', e', ops, r) => .put v' e' ops r
      | none => .keep (fail x))) :
    (match Api.asStr s1 key with | none => (s1, Out.panic) | some x => t x) =
      match valOf s1 key with
      | some v => runAct s1 key (decStrWrite f fail v e)
      | none => (s1, .panic) :=
  onStr ht

def decSet (key value : Bytes) (keepTTL : Bool) : Val → Int → Act :=
  decStrWrite (fun _ => some (some (.str value), if keepTTL then none else some 0,
    [Api.opSet key value keepTTL], .unit)) (fun _ => .panic)

theorem set_eq (s : MState) (now : Int) (key value : Bytes) (keepTTL : Bool) :
    Api.set s now key value keepTTL =
      keyTx true (some (.str [])) .unit Cmd.pan (decSet key value keepTTL) s now key := by
  unfold Api.set
  exact create_tx (onStrW fun _ => by cases keepTTL <;> rfl)

def decGetSet (key value : Bytes) : Val → Int → Act :=
  decStrWrite (fun old => some (some (.str value), some 0, [Api.opSet key value false], .bytes old))
    (fun _ => .panic)

/-- GETSET: an existing key is rewritten in place (a key transaction without constructor); a missing
    one is published as a brand-new record (as SETNX does) and there is no old value to report -/
theorem getSet_eq (s : MState) (now : Int) (key value : Bytes) :
    Api.getSet s now key value =
      if !(writeKey s now key none).2 then
        (emit (signal (Api.setExp (Api.setVal (newKeyWith (writeKey s now key none).1 key none (.str []))
            key (.str value)) key 0) key) (Api.opSet key value false), .bytes none)
      else keyTx true none (.bytes none) Cmd.pan (decGetSet key value) s now key := by
  unfold Api.getSet keyTx
  simp only [if_true, Option.isNone_none, Bool.and_true]
  generalize writeKey s now key none = r
  obtain ⟨s1, ok⟩ := r
  cases ok with
  | false => rfl
  | true =>
    simp only [Bool.not_true, Bool.false_eq_true, if_false, Api.asStr]
    cases valOf s1 key with
    | none => rfl
    | some v => cases v <;> rfl

def decAppend (key value : Bytes) : Val → Int → Act :=
  decStrWrite (fun v => some (some (Api.strVal (DsStr.append v value).1), none,
    [Api.opSet key (DsStr.bytes (DsStr.append v value).1) false], .int (DsStr.append v value).2))
    (fun _ => .panic)

theorem append_eq (s : MState) (now : Int) (key value : Bytes) :
    Api.append s now key value = keyTx true (some (.str [])) .unit Cmd.pan (decAppend key value) s now key := by
  unfold Api.append
  exact create_tx (onStrW fun _ => rfl)

def decSetXX (key value : Bytes) (keepTTL : Bool) : Val → Int → Act :=
  decStrWrite (fun _ => some (some (.str value), if keepTTL then none else some 0,
    [Api.opSet key value keepTTL], .bool true)) (fun _ => .panic)

theorem setXX_eq (s : MState) (now : Int) (key value : Bytes) (keepTTL : Bool) :
    Api.setXX s now key value keepTTL =
      keyTx true none (.bool false) Cmd.pan (decSetXX key value keepTTL) s now key := by
  unfold Api.setXX
  exact write_tx (onStrW fun _ => by cases keepTTL <;> rfl)

def decAddInt (key : Bytes) (delta : Int) (neg : Bool) : Val → Int → Act :=
  decStrWrite (fun v => match (if neg then DsStr.decr v delta else DsStr.incr v delta) with
      | none => none
      | some (v', n) => some (some (Api.strVal v'), none, [Api.opSet key (formatInt n) false],
          .many [.int n, .err false]))
    (fun _ => .many [.int 0, .err true])

theorem addInt_eq (s : MState) (now : Int) (key : Bytes) (delta : Int) (neg sw : Bool) :
    Api.addInt s now key delta neg sw =
      keyTx true (some (.str [])) .unit Cmd.pan (decAddInt key delta neg) s now key := by
  unfold Api.addInt
  exact create_tx (onStrW fun x => by cases (if neg then DsStr.decr x delta else DsStr.incr x delta) <;> rfl)

/-- EXPIREAT and its conditional forms: `cond` decides from the current deadline -/
def decExpire (key : Bytes) (ts : Int) (cond : Int → Bool) (_ : Val) (e : Int) : Act :=
  if cond e then .put none (some ts) [Api.opExpire key ts] (.int 1) else .keep (.int 0)

theorem expireAt_eq (s : MState) (now : Int) (key : Bytes) (ts : Int) :
    Api.expireAt s now key ts =
      keyTx true none (.int 0) (fun s1 => (Api.applyExp s1 key ts, .int 1))
        (decExpire key ts fun _ => true) s now key := by
  refine Eq.trans ?_ (write_shape s now key _ _ _ (fun s1 => (Api.applyExp s1 key ts, .int 1)) ?_)
  · rfl
  · intro s1
    cases valOf s1 key <;> rfl

/-- the conditional deadline commands: `body` is the test on the current deadline the way the model
    spells it, `cond` the same test as a function of the deadline -/
theorem expireAt_guard (s : MState) (now : Int) (key : Bytes) (ts : Int) (cond : Int → Bool) (body : MState → Api.R)
    (hb : ∀ s1, body s1 =
      if cond (Api.expOf s1 key) then (Api.applyExp s1 key ts, .int 1) else (s1, .int 0)) :
    (let r := writeKey s now key none
     if !r.2 then (r.1, Out.int 0) else body r.1) =
      keyTx true none (.int 0)
        (fun s1 => if cond (Api.expOf s1 key) then (Api.applyExp s1 key ts, .int 1) else (s1, .int 0))
        (decExpire key ts cond) s now key := by
  refine write_shape s now key _ _ _ body ?_
  intro s1
  rw [hb]
  cases valOf s1 key with
  | none => rfl
  | some v =>
    simp only [decExpire]
    cases cond (Api.expOf s1 key) <;> rfl

theorem expireAtNX_eq (s : MState) (now : Int) (key : Bytes) (ts : Int) :
    Api.expireAtNX s now key ts = keyTx true none (.int 0)
      (fun s1 => if (fun e => decide (e = 0)) (Api.expOf s1 key) then (Api.applyExp s1 key ts, .int 1) else (s1, .int 0))
      (decExpire key ts fun e => decide (e = 0)) s now key :=
  expireAt_guard s now key ts (fun e => decide (e = 0))
    (fun s1 => if Api.expOf s1 key ≠ 0 then (s1, .int 0) else (Api.applyExp s1 key ts, .int 1))
    (fun s1 => by by_cases h : Api.expOf s1 key = 0 <;> simp [h])

theorem expireAtXX_eq (s : MState) (now : Int) (key : Bytes) (ts : Int) :
    Api.expireAtXX s now key ts = keyTx true none (.int 0)
      (fun s1 => if (fun e => decide (e ≠ 0)) (Api.expOf s1 key) then (Api.applyExp s1 key ts, .int 1) else (s1, .int 0))
      (decExpire key ts fun e => decide (e ≠ 0)) s now key :=
  expireAt_guard s now key ts (fun e => decide (e ≠ 0))
    (fun s1 => if Api.expOf s1 key = 0 then (s1, .int 0) else (Api.applyExp s1 key ts, .int 1))
    (fun s1 => by by_cases h : Api.expOf s1 key = 0 <;> simp [h])

theorem expire_eq (s : MState) (now : Int) (key : Bytes) (seconds : Int) (h0 : seconds ≠ 0) :
    Api.expire s now key seconds = keyTx true none (.int 0)
      (fun s1 => (Api.applyExp s1 key (wrap64 (now + wrap64 (seconds * 1000))), .int 1))
      (decExpire key (wrap64 (now + wrap64 (seconds * 1000))) fun _ => true) s now key := by
  rw [← expireAt_eq]
  simp [Api.expire, h0, Api.expireAt]

theorem expirePX_eq (s : MState) (now : Int) (key : Bytes) (ms : Int) (h0 : ms ≠ 0) :
    Api.expirePX s now key ms = keyTx true none (.int 0)
      (fun s1 => (Api.applyExp s1 key (wrap64 (now + ms)), .int 1))
      (decExpire key (wrap64 (now + ms)) fun _ => true) s now key := by
  rw [← expireAt_eq]
  simp [Api.expirePX, h0, Api.expireAt]

def decPersist (key : Bytes) (_ : Val) (e : Int) : Act :=
  if e = 0 then .keep (.int 0) else .put none (some 0) [{ typ := 33, key := key }] (.int 1)

theorem apiPersist_eq (s : MState) (now : Int) (key : Bytes) :
    Api.persist s now key = keyTx true none (.int 0)
      (fun s1 => if Api.expOf s1 key = 0 then (s1, .int 0) else
        (emit (signal (Api.setExp s1 key 0) key) { typ := 33, key := key }, .int 1))
      (decPersist key) s now key := by
  refine Eq.trans ?_ (write_shape s now key _ _ _ (fun s1 =>
    if Api.expOf s1 key = 0 then (s1, .int 0) else
      (emit (signal (Api.setExp s1 key 0) key) { typ := 33, key := key }, .int 1)) ?_)
  · rfl
  · intro s1
    cases valOf s1 key with
    | none => rfl
    | some v =>
      simp only [decPersist]
      by_cases h : Api.expOf s1 key = 0 <;> simp only [h, if_true, if_false] <;> rfl

/-- the reply of TTL: `time.Until` saturated at int64, `Round(time.Second)` half up (Model/Api.lean) -/
def ttlOut (now e : Int) : Out :=
  if e = 0 then .int (-1) else
  let dns := e * 1000000 - now * 1000000
  let d := if dns > int64Max then int64Max else dns
  let r := d % 1000000000
  if r + r < 1000000000 then .int (d - r)
  else if d + 1000000000 - r > int64Max then .int int64Max
  else .int (d + 1000000000 - r)

theorem ttl_eq (s : MState) (now : Int) (key : Bytes) :
    Api.ttl s now key = keyTx false none (.int (-2)) (fun s1 => (s1, ttlOut now (Api.expOf s1 key)))
      (fun _ e => .keep (ttlOut now e)) s now key := by
  refine Eq.trans ?_ (read_shape s now key _ _ _ (fun s1 => (s1, ttlOut now (Api.expOf s1 key))) ?_)
  · unfold Api.ttl
    generalize readKey s now key = r
    obtain ⟨s1, ok⟩ := r
    cases ok <;> simp only [Bool.not_false, Bool.not_true, if_true, Bool.false_eq_true, if_false]
    simp only [ttlOut]
    by_cases h : Api.expOf s1 key = 0
    · simp [h]
    · simp only [h, if_false]
      generalize (if Api.expOf s1 key * 1000000 - now * 1000000 > int64Max then int64Max
        else Api.expOf s1 key * 1000000 - now * 1000000) = d
      by_cases h1 : d % 1000000000 + d % 1000000000 < 1000000000
      · simp only [h1, if_true]
      · simp only [h1, if_false]
        by_cases h2 : d + 1000000000 - d % 1000000000 > int64Max
        · simp only [h2, if_true]
        · simp only [h2, if_false]
  · intro s1; cases valOf s1 key <;> rfl

theorem pttl_eq (s : MState) (now : Int) (key : Bytes) :
    Api.pttl s now key = keyTx false none (.int (-2))
      (fun s1 => (s1, if Api.expOf s1 key = 0 then .int (-1) else .int (Api.expOf s1 key - now)))
      (fun _ e => .keep (if e = 0 then .int (-1) else .int (e - now))) s now key := by
  refine Eq.trans ?_ (read_shape s now key _ _ _
    (fun s1 => (s1, if Api.expOf s1 key = 0 then .int (-1) else .int (Api.expOf s1 key - now))) ?_)
  · unfold Api.pttl
    generalize readKey s now key = r
    obtain ⟨s1, ok⟩ := r
    cases ok <;> simp only [Bool.not_false, Bool.not_true, if_true, Bool.false_eq_true, if_false]
    by_cases h : Api.expOf s1 key = 0 <;> simp [h]
  · intro s1; cases valOf s1 key <;> rfl

theorem type_eq (s : MState) (now : Int) (key : Bytes) :
    Api.type_ s now key = keyTx false none (.str (Bytes.ofString "none")) Cmd.pan
      (fun v _ => .keep (.str (Bytes.ofString (typeName v.typeCode)))) s now key := by
  refine Eq.trans ?_ (read_shape s now key _ _ _ (fun s1 => match valOf s1 key with
    | some v => (s1, .str (Bytes.ofString (typeName v.typeCode))) | none => (s1, .panic)) ?_)
  · rfl
  · intro s1; cases valOf s1 key <;> rfl

theorem exists1_eq (s : MState) (now : Int) (key : Bytes) :
    Api.exists_ s now [key] = keyTx false none (.int 0) (fun s1 => (s1, .int 1))
      (fun _ _ => .keep (.int 1)) s now key := by
  refine Eq.trans ?_ (read_shape s now key _ _ _ (fun s1 => (s1, .int 1)) ?_)
  · unfold Api.exists_
    simp only [List.foldl_cons, List.foldl_nil]
    generalize readKey s now key = r
    obtain ⟨s1, ok⟩ := r
    cases ok <;> rfl
  · intro s1; cases valOf s1 key <;> rfl

def decPush (left : Bool) (key : Bytes) (values : List Bytes) (v : Val) (_ : Int) : Act :=
  match v with
  | .list l =>
    .put (some (.list (if left then DsList.lpush l values else DsList.rpush l values))) none
      [Api.opList (if left then 14 else 21) key (values.map Bytes.toHex)]
      (.int (DsList.llen (if left then DsList.lpush l values else DsList.rpush l values)))
  | _ => .keep .panic

theorem push_eq (left : Bool) (s : MState) (now : Int) (key : Bytes) (values : List Bytes) :
    Api.push left s now key values =
      keyTx true (some (.list DsList.empty)) .unit Cmd.pan (decPush left key values) s now key := by
  unfold Api.push
  exact create_tx (onList fun _ => rfl)

/-- a list command on an existing key that rewrites the list and unlinks the key when it became empty -/
def decListMut (f : LList → LList × List FeedOp × Out) (v : Val) (_ : Int) : Act :=
  match v with
  | .list l =>
    if DsList.llen (f l).1 = 0 then .drop (.list (f l).1) (f l).2.1 (f l).2.2
    else .put (some (.list (f l).1)) none (f l).2.1 (f l).2.2
  | _ => .keep .panic

theorem listMut_shape (f : LList → LList × List FeedOp × Out) (op : LList → FeedOp) (miss : Out)
    (hop : ∀ l, (f l).2.1 = [op l]) (s : MState) (now : Int) (key : Bytes) :
    (let r := writeKey s now key none
     if !r.2 then (r.1, miss) else
     match Api.asList r.1 key with
     | none => (r.1, .panic)
     | some l =>
       let s1 := Api.setVal r.1 key (.list (f l).1)
       let s2 := if DsList.llen (f l).1 = 0 then delKey s1 key else s1
       (emit (signal s2 key) (op l), (f l).2.2)) =
      keyTx true none miss Cmd.pan (decListMut f) s now key :=
  write_tx (onList fun l => by rw [hop l]; exact (runAct_shrink ..).symm)

def popF (left : Bool) (key : Bytes) (count : Int) (l : LList) : LList × List FeedOp × Out :=
  ((if left then DsList.lpop l count else DsList.rpop l count).1,
   [Api.opList (if left then 12 else 19) key [toString count]],
   .blist (((if left then DsList.lpop l count else DsList.rpop l count).2.getD []).map some))

theorem pop_eq (left : Bool) (s : MState) (now : Int) (key : Bytes) (count : Int) :
    Api.pop left s now key count =
      keyTx true none (.blist []) Cmd.pan (decListMut (popF left key count)) s now key := by
  refine Eq.trans ?_ (listMut_shape (popF left key count)
    (fun _ => Api.opList (if left then 12 else 19) key [toString count]) _ (fun _ => rfl) s now key)
  rfl

def lremF (key data : Bytes) (count : Int) (l : LList) : LList × List FeedOp × Out :=
  ((DsList.lrem l count data).1, [Api.opList 16 key [Bytes.toHex data, toString count]],
   .int (DsList.lrem l count data).2)

theorem lrem_eq (s : MState) (now : Int) (key data : Bytes) (count : Int) :
    Api.lrem s now key data count =
      keyTx true none (.int 0) Cmd.pan (decListMut (lremF key data count)) s now key := by
  refine Eq.trans ?_ (listMut_shape (lremF key data count)
    (fun _ => Api.opList 16 key [Bytes.toHex data, toString count]) _ (fun _ => rfl) s now key)
  rfl

def ltrimF (key : Bytes) (start stop : Int) (l : LList) : LList × List FeedOp × Out :=
  (DsList.ltrim l start stop, [Api.opList 18 key [toString start, toString stop]], .unit)

theorem ltrim_eq (s : MState) (now : Int) (key : Bytes) (start stop : Int) :
    Api.ltrim s now key start stop =
      keyTx true none .unit Cmd.pan (decListMut (ltrimF key start stop)) s now key := by
  refine Eq.trans ?_ (listMut_shape (ltrimF key start stop)
    (fun _ => Api.opList 18 key [toString start, toString stop]) _ (fun _ => rfl) s now key)
  rfl

def decListRead (f : LList → Out) (other : Out) (v : Val) (_ : Int) : Act :=
  match v with
  | .list l => .keep (f l)
  | _ => .keep other

theorem listRead_shape (f : LList → Out) (miss other : Out) (s : MState) (now : Int) (key : Bytes) :
    (let r := readKey s now key
     if !r.2 then (r.1, miss) else
     match Api.asList r.1 key with
     | none => (r.1, other)
     | some l => (r.1, f l)) = keyTx false none miss (fun s1 => (s1, other)) (decListRead f other) s now key := by
  refine read_shape s now key _ _ _ (fun s1 => match Api.asList s1 key with
     | none => (s1, other) | some l => (s1, f l)) ?_
  intro s1; simp only [Api.asList]
  cases valOf s1 key with
  | none => rfl
  | some v => cases v <;> rfl

theorem llen_eq (s : MState) (now : Int) (key : Bytes) :
    Api.llen s now key = keyTx false none (.int 0) (fun s1 => (s1, .int (-1)))
      (decListRead (fun l => .int (DsList.llen l)) (.int (-1))) s now key :=
  listRead_shape _ _ _ s now key

theorem lindex_eq (s : MState) (now : Int) (key : Bytes) (i : Int) :
    Api.lindex s now key i = keyTx false none (.bytes none) Cmd.pan
      (decListRead (fun l => .bytes (DsList.lindex l i)) .panic) s now key :=
  listRead_shape _ _ _ s now key

theorem lrange_eq (s : MState) (now : Int) (key : Bytes) (a b : Int) :
    Api.lrange s now key a b = keyTx false none (.blist []) Cmd.pan
      (decListRead (fun l => .blist ((DsList.lrange l a b).map some)) .panic) s now key :=
  listRead_shape _ _ _ s now key

def decHset (key field value : Bytes) (v : Val) (_ : Int) : Act :=
  match v with
  | .hash h =>
    .put (some (.hash (DsHash.hset h field value).1)) none
      [{ typ := 10, key := key, args := [Bytes.toHex field, Bytes.toHex value] }]
      (.int (DsHash.hset h field value).2)
  | _ => .keep .panic

theorem hset_eq (s : MState) (now : Int) (key field value : Bytes) :
    Api.hset s now key field value =
      keyTx true (some (.hash [])) .unit Cmd.pan (decHset key field value) s now key := by
  unfold Api.hset
  exact create_tx (onHash fun _ => rfl)

def decHashRead (f : AList Bytes → Out) (v : Val) (_ : Int) : Act :=
  match v with
  | .hash h => .keep (f h)
  | _ => .keep .panic

theorem hread_eq (f : AList Bytes → Out) (dflt : Out) (s : MState) (now : Int) (key : Bytes) :
    Api.hread f dflt s now key = keyTx false none dflt Cmd.pan (decHashRead f) s now key := by
  unfold Api.hread
  exact read_tx (onHash fun _ => rfl)

def decHdel (key : Bytes) (fields : List Bytes) (v : Val) (_ : Int) : Act :=
  match v with
  | .hash h =>
    if DsHash.hlen (DsHash.hdel h fields).1 = 0 then
      .drop (.hash (DsHash.hdel h fields).1) [{ typ := 6, key := key, args := fields.map Bytes.toHex }]
        (.int (DsHash.hdel h fields).2)
    else .put (some (.hash (DsHash.hdel h fields).1)) none
        [{ typ := 6, key := key, args := fields.map Bytes.toHex }] (.int (DsHash.hdel h fields).2)
  | _ => .keep .panic

theorem hdel_eq (s : MState) (now : Int) (key : Bytes) (fields : List Bytes) :
    Api.hdel s now key fields =
      keyTx true none (.int 0) Cmd.pan (decHdel key fields) s now key := by
  unfold Api.hdel
  exact write_tx (onHash fun _ => (runAct_shrink ..).symm)

def decSadd (key : Bytes) (members : List Bytes) (v : Val) (_ : Int) : Act :=
  match v with
  | .set st =>
    .put (some (.set (DsSet.sadd st members).1)) none
      [{ typ := 23, key := key, args := members.map Bytes.toHex }] (.int (DsSet.sadd st members).2)
  | _ => .keep .panic

theorem sadd_eq (s : MState) (now : Int) (key : Bytes) (members : List Bytes) :
    Api.sadd s now key members =
      keyTx true (some (.set [])) .unit Cmd.pan (decSadd key members) s now key := by
  unfold Api.sadd
  exact create_tx (onSet fun _ => rfl)

def decSetRead (f : AList Unit → Out) (v : Val) (_ : Int) : Act :=
  match v with
  | .set st => .keep (f st)
  | _ => .keep .panic

theorem sread_eq (f : AList Unit → Out) (dflt : Out) (s : MState) (now : Int) (key : Bytes) :
    Api.sread f dflt s now key = keyTx false none dflt Cmd.pan (decSetRead f) s now key := by
  unfold Api.sread
  exact read_tx (onSet fun _ => rfl)

def decSrem (key : Bytes) (members : List Bytes) (v : Val) (_ : Int) : Act :=
  match v with
  | .set st =>
    if DsSet.scard (DsSet.srem st members).1 = 0 then
      .drop (.set (DsSet.srem st members).1) [{ typ := 24, key := key, args := members.map Bytes.toHex }]
        (.int (DsSet.srem st members).2)
    else .put (some (.set (DsSet.srem st members).1)) none
        [{ typ := 24, key := key, args := members.map Bytes.toHex }] (.int (DsSet.srem st members).2)
  | _ => .keep .panic

theorem srem_eq (s : MState) (now : Int) (key : Bytes) (members : List Bytes) :
    Api.srem s now key members =
      keyTx true none (.int 0) Cmd.pan (decSrem key members) s now key := by
  unfold Api.srem
  exact write_tx (onSet fun _ => (runAct_shrink ..).symm)

def decZaddWith (f : ZSet → Bytes → F64 → ZSet × Int) (key m : Bytes) (sc : F64) (v : Val) (_ : Int) : Act :=
  match v with
  | .zset z => .put (some (.zset (f z m sc).1)) none [Api.opZAdd key m sc] (.int (f z m sc).2)
  | _ => .keep .panic

theorem zaddWith_eq (f : ZSet → Bytes → F64 → ZSet × Int) (s : MState) (now : Int) (key m : Bytes) (sc : F64) :
    Api.zaddWith f s now key m sc =
      keyTx true (some (.zset DsZSet.empty)) .unit Cmd.pan (decZaddWith f key m sc) s now key := by
  unfold Api.zaddWith
  exact create_tx (onZSet fun _ => rfl)

theorem zadd_eq (s : MState) (now : Int) (key m : Bytes) (sc : F64) :
    Api.zadd s now key m sc =
      keyTx true (some (.zset DsZSet.empty)) .unit Cmd.pan
        (decZaddWith DsZSet.zAdd key m sc) s now key := zaddWith_eq _ s now key m sc

def decZsetRead (f : ZSet → Out) (v : Val) (_ : Int) : Act :=
  match v with
  | .zset z => .keep (f z)
  | _ => .keep .panic

theorem zread_eq (f : ZSet → Out) (dflt : Out) (s : MState) (now : Int) (key : Bytes) :
    Api.zread f dflt s now key = keyTx false none dflt Cmd.pan (decZsetRead f) s now key := by
  unfold Api.zread
  exact read_tx (onZSet fun _ => rfl)

theorem expOf_setExp_setVal {s : MState} {k : Bytes} {w : Val} (hv : valOf s k = some w) (v : Val) (e : Int) :
    Api.expOf (Api.setExp (Api.setVal s k v) k e) k = e := by
  cases hm : getMeta s k with
  | none => simp only [valOf, hm, Option.bind_none] at hv; cases hv
  | some m =>
    exact expOf_of_getMeta (getMeta_setExp_same _ k e _ (getMeta_setVal_same s k v m hm))

def decSetEx (key value : Bytes) (e : Int) : Val → Int → Act :=
  decStrWrite (fun _ => some (some (.str value), some e, [Api.opSet key value false e], .unit)) (fun _ => .panic)

def setExForm (key value : Bytes) (e : Int) : TxForm :=
  ⟨true, some (.str []), .unit, Cmd.pan, decSetEx key value e, key⟩

theorem setEx_body (key value : Bytes) (e : Int) (s1 : MState) :
    (match Api.asStr s1 key with
     | none => (s1, Out.panic)
     | some _ =>
       (emit (signal (Api.setExp (Api.setVal s1 key (.str value)) key e) key)
          (Api.opSet key value false (Api.expOf (Api.setExp (Api.setVal s1 key (.str value)) key e) key)), .unit)) =
      match valOf s1 key with
      | some v => runAct s1 key (decSetEx key value e v (Api.expOf s1 key))
      | none => Cmd.pan s1 := by
  simp only [Api.asStr]
  cases hv : valOf s1 key with
  | none => rfl
  | some v =>
    -- `rfl` closes the constructors that are no strings (both sides panic); on the two string ones the point is
    -- `expOf_setExp_setVal hv`
    cases v <;> try rfl
    all_goals
      simp only [decSetEx, decStrWrite, runAct, optSetVal, optSetExp, emits, List.foldl_cons, List.foldl_nil,
        expOf_setExp_setVal hv]

theorem setEX_eq (s : MState) (now : Int) (key value : Bytes) (seconds : Int) :
    Api.setEX s now key value seconds = keyTx true (some (.str [])) .unit Cmd.pan
      (decSetEx key value (wrap64 (now + wrap64 (seconds * 1000)))) s now key :=
  create_shape s now key _ _ _ _ _ (setEx_body key value _)

theorem setPX_eq (s : MState) (now : Int) (key value : Bytes) (ms : Int) :
    Api.setPX s now key value ms =
      keyTx true (some (.str [])) .unit Cmd.pan (decSetEx key value (wrap64 (now + ms))) s now key :=
  create_shape s now key _ _ _ _ _ (setEx_body key value _)

def bitCountForm (key : Bytes) (start stop : Int) (bit : Bool) : TxForm :=
  ⟨false, none, .int 0, Cmd.pan,
    decStrRead fun v => .int (if bit then DsStr.bitCountByBit v start stop else DsStr.bitCount v start stop), key⟩

theorem bitCount_eq (s : MState) (now : Int) (key : Bytes) (start stop : Int) (bit : Bool) :
    Api.bitCount s now key start stop bit = (bitCountForm key start stop bit).run s now :=
  strRead_eq _ _ s now key

def expireCondForm (key : Bytes) (ts : Int) (cond : Int → Bool) : TxForm :=
  ⟨true, none, .int 0,
    fun s1 => if cond (Api.expOf s1 key) then (Api.applyExp s1 key ts, .int 1) else (s1, .int 0),
    decExpire key ts cond, key⟩

theorem expireAtLT_eq (s : MState) (now : Int) (key : Bytes) (ts : Int) :
    Api.expireAtLT s now key ts =
      (expireCondForm key ts fun e => decide (e ≠ 0) && decide (ts < e)).run s now :=
  expireAt_guard s now key ts (fun e => decide (e ≠ 0) && decide (ts < e))
    (fun s1 => if Api.expOf s1 key = 0 then (s1, .int 0) else
      if ts < Api.expOf s1 key then (Api.applyExp s1 key ts, .int 1) else (s1, .int 0))
    (fun s1 => by
      by_cases h : Api.expOf s1 key = 0
      · simp [h]
      · by_cases h2 : ts < Api.expOf s1 key <;> simp [h, h2])

theorem expireAtGT_eq (s : MState) (now : Int) (key : Bytes) (ts : Int) :
    Api.expireAtGT s now key ts = (expireCondForm key ts fun e => decide (e < ts)).run s now :=
  expireAt_guard s now key ts (fun e => decide (e < ts))
    (fun s1 => if Api.expOf s1 key < ts then (Api.applyExp s1 key ts, .int 1) else (s1, .int 0))
    (fun s1 => by by_cases h2 : Api.expOf s1 key < ts <;> simp [h2])

/-! EXPIRE NX|XX|LT|GT are the EXPIREAT forms at the deadline computed from the duration. -/
theorem expireNX_eq (s : MState) (now : Int) (key : Bytes) (seconds : Int) :
    Api.expireNX s now key seconds =
      (expireCondForm key (wrap64 (now + wrap64 (seconds * 1000))) fun e => decide (e = 0)).run s now :=
  expireAtNX_eq s now key _

theorem expireXX_eq (s : MState) (now : Int) (key : Bytes) (seconds : Int) :
    Api.expireXX s now key seconds =
      (expireCondForm key (wrap64 (now + wrap64 (seconds * 1000))) fun e => decide (e ≠ 0)).run s now :=
  expireAtXX_eq s now key _

theorem expireLT_eq (s : MState) (now : Int) (key : Bytes) (seconds : Int) :
    Api.expireLT s now key seconds =
      (expireCondForm key (wrap64 (now + wrap64 (seconds * 1000)))
        fun e => decide (e ≠ 0) && decide (wrap64 (now + wrap64 (seconds * 1000)) < e)).run s now :=
  expireAtLT_eq s now key _

theorem expireGT_eq (s : MState) (now : Int) (key : Bytes) (seconds : Int) :
    Api.expireGT s now key seconds =
      (expireCondForm key (wrap64 (now + wrap64 (seconds * 1000)))
        fun e => decide (e < wrap64 (now + wrap64 (seconds * 1000)))).run s now :=
  expireAtGT_eq s now key _

def decHsetnx (key field value : Bytes) (v : Val) (_ : Int) : Act :=
  match v with
  | .hash h =>
    if DsHash.hexists h field then .keep (.int 0) else
    .put (some (.hash (DsHash.hset h field value).1)) none
      [{ typ := 10, key := key, args := [Bytes.toHex field, Bytes.toHex value] }]
      (.int (DsHash.hset h field value).2)
  | _ => .keep .panic

def hsetnxForm (key field value : Bytes) : TxForm :=
  ⟨true, some (.hash []), .unit, Cmd.pan, decHsetnx key field value, key⟩

theorem hsetnx_eq (s : MState) (now : Int) (key field value : Bytes) :
    Api.hsetnx s now key field value = (hsetnxForm key field value).run s now := by
  show _ = keyTx true (some (.hash [])) .unit Cmd.pan (decHsetnx key field value) s now key
  unfold Api.hsetnx
  exact create_tx (onHash fun h => by cases DsHash.hexists h field <;> rfl)

def zaddNXForm (key m : Bytes) (sc : F64) : TxForm :=
  ⟨true, some (.zset DsZSet.empty), .unit, Cmd.pan, decZaddWith DsZSet.zAddNX key m sc, key⟩

theorem zaddNX_eq (s : MState) (now : Int) (key m : Bytes) (sc : F64) :
    Api.zaddNX s now key m sc = (zaddNXForm key m sc).run s now := zaddWith_eq _ s now key m sc

theorem hget_eq (s : MState) (now : Int) (key field : Bytes) :
    Api.hget s now key field =
      keyTx false none (.bytes none) Cmd.pan (decHashRead fun h => .bytes (DsHash.hget h field)) s now key :=
  hread_eq _ _ s now key

def decSetOpt (key : Bytes) (value : DsStr.S) (keepTTL : Bool) : Val → Int → Act :=
  decStrWrite (fun _ => some (some (Api.strVal value), if keepTTL then none else some 0,
    [Api.opSet key (DsStr.bytes value) keepTTL], .unit)) (fun _ => .panic)

theorem setOpt_eq (s : MState) (now : Int) (key : Bytes) (value : DsStr.S) (keepTTL : Bool) :
    Api.setOpt s now key value keepTTL =
      keyTx true (some (.str [])) .unit Cmd.pan (decSetOpt key value keepTTL) s now key := by
  unfold Api.setOpt
  exact create_tx (onStrW fun _ => by cases keepTTL <;> rfl)

/-- SRANDMEMBER's reply from the set; `choice` stands for the random draw (negative count on an existing empty set:
    `rand.Intn(0)` panics) -/
def srandOut (count : Int) (choice : List Bytes) (st : AList Unit) : Out :=
  if count < 0 ∧ st.isEmpty then .panic else
  if C03Api.srandValid st count choice then .slist choice else C03Api.invalidChoice

theorem srandmember_eq (s : MState) (now : Int) (key : Bytes) (count : Int) (choice : List Bytes) :
    Api.srandmember s now key count choice =
      keyTx false none (.slist []) Cmd.pan (decSetRead (srandOut count choice)) s now key := by
  refine Eq.trans ?_ (read_shape s now key _ _ _ (fun s1 => match Api.asSet s1 key with
     | none => (s1, .panic) | some st => (s1, srandOut count choice st)) ?_)
  · unfold Api.srandmember
    generalize readKey s now key = r
    obtain ⟨s1, ok⟩ := r
    cases ok
    · rfl
    · simp only [Bool.not_true, Bool.false_eq_true, if_false]
      cases Api.asSet s1 key with
      | none => rfl
      | some st => simp only [srandOut, apply_ite (Prod.mk s1)]; rfl
  · intro s1; simp only [Api.asSet]
    cases valOf s1 key with
    | none => rfl
    | some v => cases v <;> rfl

end NodisVerif.Proofs.C11

namespace NodisVerif.Proofs.C20
open NodisVerif NodisVerif.Store NodisVerif.Proofs.C11

def decSetBit (key : Bytes) (offset : Int) (value : Bool) : Val → Int → Act :=
  decStrWrite (fun v => some (some (Api.strVal (DsStr.setBit v offset value).1), none,
    [Api.opSet key (DsStr.bytes (DsStr.setBit v offset value).1) false], .int (DsStr.setBit v offset value).2))
    (fun _ => .panic)

def setBitF (key : Bytes) (offset : Int) (value : Bool) : TxForm :=
  ⟨true, some (.str []), .unit, Cmd.pan, decSetBit key offset value, key⟩

theorem setBit_eq (s : MState) (now : Int) (key : Bytes) (offset : Int) (value : Bool) :
    Api.setBit s now key offset value =
      keyTx true (some (.str [])) .unit Cmd.pan (decSetBit key offset value) s now key := by
  unfold Api.setBit
  exact create_tx (onStrW fun _ => rfl)

def decSetRange (key : Bytes) (offset : Int) (value : Bytes) : Val → Int → Act :=
  decStrWrite (fun v => match DsStr.setRange v offset value with
      | none => none
      | some (v', n) => some (some (Api.strVal v'), none, [Api.opSet key (DsStr.bytes v') false], .int n))
    (fun _ => .panic)

def setRangeF (key : Bytes) (offset : Int) (value : Bytes) : TxForm :=
  ⟨true, some (.str []), .unit, Cmd.pan, decSetRange key offset value, key⟩

theorem setRange_eq (s : MState) (now : Int) (key : Bytes) (offset : Int) (value : Bytes) :
    Api.setRange s now key offset value =
      keyTx true (some (.str [])) .unit Cmd.pan (decSetRange key offset value) s now key := by
  unfold Api.setRange
  exact create_tx (onStrW fun x => by cases DsStr.setRange x offset value <;> rfl)

/-- INCRBYFLOAT: the new text and the sum, or the reply of a call that changes nothing -/
def ibfCalc (v : DsStr.S) (delta : F64) : Sum (Bytes × F64) Out :=
  match Api.parseFloatText (if (DsStr.bytes v).isEmpty then [48] else DsStr.bytes v) with
  | none => .inr .unsupported
  | some none => .inr (.many [.f64 0, .err true])
  | some (some old) =>
    match F64.add? old delta with
    | none => .inr .unsupported
    | some sum =>
      match Api.formatFloat sum with
      | none => .inr .unsupported
      | some t => .inl (t, sum)

def decIncrByFloat (key : Bytes) (delta : F64) : Val → Int → Act :=
  decStrWrite (fun v => match ibfCalc v delta with
      | .inl (t, sum) => some (some (.str t), none, [Api.opSet key t false], .many [.f64 sum, .err false])
      | .inr _ => none)
    (fun v => match ibfCalc v delta with | .inr o => o | .inl _ => .unit)

def incrByFloatF (key : Bytes) (delta : F64) : TxForm :=
  ⟨true, some (.str []), .unit, Cmd.pan, decIncrByFloat key delta, key⟩

theorem incrByFloat_eq (s : MState) (now : Int) (key : Bytes) (delta : F64) :
    Api.incrByFloat s now key delta =
      keyTx true (some (.str [])) .unit Cmd.pan (decIncrByFloat key delta) s now key := by
  unfold Api.incrByFloat
  exact create_tx (onStrW fun x => by
    simp only [ibfCalc]
    generalize Api.parseFloatText _ = pf
    cases pf with
    | none => rfl
    | some o =>
      cases o with
      | none => rfl
      | some old =>
        simp only
        cases F64.add? old delta with
        | none => rfl
        | some sum =>
          simp only
          cases Api.formatFloat sum <;> rfl)

def decLinsert (key pivot data : Bytes) (before : Bool) (v : Val) (_ : Int) : Act :=
  match v with
  | .list l =>
    .put (some (.list (DsList.linsert l pivot data before).1)) none
      [Api.opList 11 key [Bytes.toHex pivot, Bytes.toHex data, toString before]]
      (.int (DsList.linsert l pivot data before).2)
  | _ => .keep .panic

def linsertF (key pivot data : Bytes) (before : Bool) : TxForm :=
  ⟨true, none, .int 0, Cmd.pan, decLinsert key pivot data before, key⟩

theorem linsert_eq (s : MState) (now : Int) (key pivot data : Bytes) (before : Bool) :
    Api.linsert s now key pivot data before = (linsertF key pivot data before).run s now := by
  unfold Api.linsert
  exact write_tx (onList fun _ => rfl)

def decPushX (left : Bool) (key data : Bytes) (v : Val) (_ : Int) : Act :=
  match v with
  | .list l =>
    .put (some (.list (if left then DsList.lpush l [data] else DsList.rpush l [data]))) none
      [Api.opList (if left then 15 else 22) key [Bytes.toHex data]]
      (.int (DsList.llen (if left then DsList.lpush l [data] else DsList.rpush l [data])))
  | _ => .keep .panic

def pushXF (left : Bool) (key data : Bytes) : TxForm :=
  ⟨true, none, .int 0, Cmd.pan, decPushX left key data, key⟩

theorem pushX_eq (left : Bool) (s : MState) (now : Int) (key data : Bytes) :
    Api.pushX left s now key data = (pushXF left key data).run s now := by
  unfold Api.pushX
  exact write_tx (onList fun _ => rfl)

def decLset (key : Bytes) (index : Int) (data : Bytes) (v : Val) (_ : Int) : Act :=
  match v with
  | .list l =>
    if !(DsList.lset l index data).2 then .keep (.bool false) else
    .put (some (.list (DsList.lset l index data).1)) none
      [Api.opList 17 key [toString index, Bytes.toHex data]] (.bool true)
  | _ => .keep .panic

def lsetF (key : Bytes) (index : Int) (data : Bytes) : TxForm :=
  ⟨true, none, .bool false, Cmd.pan, decLset key index data, key⟩

theorem lset_eq (s : MState) (now : Int) (key : Bytes) (index : Int) (data : Bytes) :
    Api.lset s now key index data = (lsetF key index data).run s now := by
  show _ = keyTx true none (.bool false) Cmd.pan (decLset key index data) s now key
  unfold Api.lset
  exact write_tx (onList fun l => by rcases DsList.lset l index data with ⟨_, r⟩; cases r <;> rfl)

def opHSet (k f v : Bytes) : FeedOp := { typ := 10, key := k, args := [Bytes.toHex f, Bytes.toHex v] }

def opHIncrBy (k f : Bytes) (delta : Int) : FeedOp :=
  { typ := 7, key := k, args := [Bytes.toHex f, toString delta] }

def decHincrby (key field : Bytes) (delta : Int) (v : Val) (_ : Int) : Act :=
  match v with
  | .hash h =>
    match DsHash.hincrby h field delta with
    | none => .put none none [opHIncrBy key field delta] (.many [.int 0, .err true])
    | some (h', n) => .put (some (.hash h')) none [opHIncrBy key field delta] (.many [.int n, .err false])
  | _ => .keep .panic

def hincrbyF (key field : Bytes) (delta : Int) : TxForm :=
  ⟨true, some (.hash []), .unit, Cmd.pan, decHincrby key field delta, key⟩

theorem hincrby_eq (s : MState) (now : Int) (key field : Bytes) (delta : Int) :
    Api.hincrby s now key field delta = (hincrbyF key field delta).run s now := by
  show _ = keyTx true (some (.hash [])) .unit Cmd.pan (decHincrby key field delta) s now key
  unfold Api.hincrby
  exact create_tx (onHash fun h => by cases DsHash.hincrby h field delta <;> rfl)

def decHmset (key : Bytes) (pairs : List (Bytes × Bytes)) (v : Val) (_ : Int) : Act :=
  match v with
  | .hash h =>
    .put (some (.hash (C03Seq.hmsetDs h pairs).1)) none (pairs.map fun q => opHSet key q.1 q.2) (.int (C03Seq.hmsetDs h pairs).2)
  | _ => .keep .panic

def hmsetF (key : Bytes) (pairs : List (Bytes × Bytes)) : TxForm :=
  ⟨true, some (.hash []), .unit, Cmd.pan, decHmset key pairs, key⟩

theorem hmset_eq (s : MState) (now : Int) (key : Bytes) (pairs : List (Bytes × Bytes)) :
    Api.hmset s now key pairs = (hmsetF key pairs).run s now := by
  unfold Api.hmset
  exact create_tx (onHash fun _ => by simp only [runAct, optSetVal, optSetExp, emits, List.foldl_map]; rfl)

/-- a conditional ZADD on an existing sorted set: `cond z` decides, the new content is that of ZADD -/
def decZaddIf (cond : ZSet → Bool) (out : ZSet → Out) (no : Out) (key m : Bytes) (sc : F64) (v : Val) (_ : Int) : Act :=
  match v with
  | .zset z =>
    if cond z then .put (some (.zset (DsZSet.zAdd z m sc).1)) none [Api.opZAdd key m sc] (out z)
    else .keep no
  | _ => .keep .panic

def zaddIfF (cond : ZSet → Bool) (out : ZSet → Out) (no : Out) (key m : Bytes) (sc : F64) : TxForm :=
  ⟨true, none, .int 0, Cmd.pan, decZaddIf cond out no key m sc, key⟩

theorem zaddXX_eq (s : MState) (now : Int) (key m : Bytes) (sc : F64) :
    Api.zaddXX s now key m sc =
      (zaddIfF (fun z => AList.contains z.dict m) (fun z => .int (DsZSet.zAddXX z m sc).2) (.int 0) key m sc).run s now := by
  refine Eq.trans ?_ (write_shape s now key _ _ _ (fun s0 => match Api.asZSet s0 key with
     | none => (s0, .panic)
     | some z =>
       if !AList.contains z.dict m then (s0, .int 0) else
       (emit (signal (Api.setVal s0 key (.zset (DsZSet.zAddXX z m sc).1)) key) (Api.opZAdd key m sc),
        .int (DsZSet.zAddXX z m sc).2)) ?_)
  · rfl
  · intro s1; simp only [Api.asZSet]
    cases valOf s1 key with
    | none => rfl
    | some v =>
      cases v <;> try rfl
      rename_i z
      simp only [zaddIfF, decZaddIf]
      cases hc : AList.contains z.dict m
      · rfl
      · simp only [Bool.not_true, Bool.false_eq_true, if_false, if_true, DsZSet.zAddXX, hc]
        rfl

/-- ZADD LT|GT for any comparison update `f`: what `f` returns is written when it reports a change -/
def decZaddCmp (f : ZSet → Bytes → F64 → ZSet × Bool) (key m : Bytes) (sc : F64) (v : Val) (_ : Int) : Act :=
  match v with
  | .zset z =>
    if (f z m sc).2 then .put (some (.zset (f z m sc).1)) none [Api.opZAdd key m sc] (.int 1) else .keep (.int 0)
  | _ => .keep .panic

theorem zaddCmp_eqU (f : ZSet → Bytes → F64 → ZSet × Bool) (s : MState) (now : Int) (key m : Bytes) (sc : F64) :
    Api.zaddCmp f s now key m sc = keyTx true none (.int 0) Cmd.pan (decZaddCmp f key m sc) s now key := by
  unfold Api.zaddCmp
  exact write_tx (onZSet fun z => by rcases f z m sc with ⟨_, c⟩; cases c <;> rfl)

theorem zaddCmp_eq (f : ZSet → Bytes → F64 → ZSet × Bool)
    (hf : ∀ z m sc, (f z m sc).2 = true → (f z m sc).1 = (DsZSet.zAdd z m sc).1)
    (s : MState) (now : Int) (key m : Bytes) (sc : F64) :
    Api.zaddCmp f s now key m sc =
      (zaddIfF (fun z => (f z m sc).2) (fun _ => .int 1) (.int 0) key m sc).run s now := by
  rw [zaddCmp_eqU]
  show keyTx true none (.int 0) Cmd.pan _ s now key = keyTx true none (.int 0) Cmd.pan _ s now key
  congr 1
  funext v _
  cases v <;> try rfl
  rename_i z
  simp only [decZaddCmp, zaddIfF, decZaddIf]
  cases hc : (f z m sc).2
  · rfl
  · simp only [if_true, hf z m sc hc]

theorem zAddLT_fst (z : ZSet) (m : Bytes) (sc : F64) (h : (DsZSet.zAddLT z m sc).2 = true) :
    (DsZSet.zAddLT z m sc).1 = (DsZSet.zAdd z m sc).1 := by
  unfold DsZSet.zAddLT at h ⊢
  split
  · split
    · rfl
    · rename_i h1 h2; simp [h1, h2] at h
  · rename_i h1; simp [h1] at h

theorem zAddGT_fst (z : ZSet) (m : Bytes) (sc : F64) (h : (DsZSet.zAddGT z m sc).2 = true) :
    (DsZSet.zAddGT z m sc).1 = (DsZSet.zAdd z m sc).1 := by
  unfold DsZSet.zAddGT at h ⊢
  split
  · split
    · rfl
    · rename_i h1 h2; simp [h1, h2] at h
  · rename_i h1; simp [h1] at h

def zincrSum (z : ZSet) (m : Bytes) (delta : F64) : F64 :=
  match AList.get? z.dict m with
  | some old => F64.add delta old
  | none => delta

def opZIncrBy (k m : Bytes) (delta : F64) : FeedOp := { typ := 28, key := k, args := [Bytes.toHex m, toString delta] }

/-- what the model does (`U`: unguarded; `C20.decZincrG`, Proofs/C20ZIncr.lean, refuses NaN sums) -/
def decZincrU (key m : Bytes) (delta : F64) (v : Val) (_ : Int) : Act :=
  match v with
  | .zset z =>
    .put (some (.zset (DsZSet.zAdd z m (zincrSum z m delta)).1)) none [opZIncrBy key m delta] (.f64 (zincrSum z m delta))
  | _ => .keep .panic

theorem zincrby_eqU (s : MState) (now : Int) (key m : Bytes) (delta : F64) :
    Api.zincrby s now key m delta =
      keyTx true (some (.zset DsZSet.empty)) .unit Cmd.pan (decZincrU key m delta) s now key := by
  unfold Api.zincrby
  exact create_tx (onZSet fun z => by
    simp only [zincrSum, F64.add?]
    cases AList.get? z.dict m <;> rfl)

def opSAdd (k : Bytes) (ms : List Bytes) : FeedOp := { typ := 23, key := k, args := ms.map Bytes.toHex }
def opSRem (k : Bytes) (ms : List Bytes) : FeedOp := { typ := 24, key := k, args := ms.map Bytes.toHex }

def decSpop (key : Bytes) (count : Int) (choice : List Bytes) (v : Val) (_ : Int) : Act :=
  match v with
  | .set st =>
    if !C03Api.spopValid st count choice then .keep (.str (Bytes.ofString "INVALID-CHOICE")) else
    if DsSet.scard (DsSet.srem st choice).1 = 0 then
      .drop (.set (DsSet.srem st choice).1) [opSRem key choice] (.slist choice)
    else .put (some (.set (DsSet.srem st choice).1)) none [opSRem key choice] (.slist choice)
  | _ => .keep .panic

def spopF (key : Bytes) (count : Int) (choice : List Bytes) : TxForm :=
  ⟨true, none, .slist [], Cmd.pan, decSpop key count choice, key⟩

theorem spop_eq (s : MState) (now : Int) (key : Bytes) (count : Int) (choice : List Bytes) :
    Api.spop s now key count choice = (spopF key count choice).run s now := by
  show _ = keyTx true none (.slist []) Cmd.pan (decSpop key count choice) s now key
  unfold Api.spop
  exact write_tx (onSet fun st => by
    show (if !C03Api.spopValid st count choice then _ else _) = _
    cases C03Api.spopValid st count choice
    · rfl
    · exact (runAct_shrink ..).symm)

def opHIncrByFloat (k f : Bytes) (delta : F64) : FeedOp :=
  { typ := 8, key := k, args := [Bytes.toHex f, toString delta] }

/-- new text and sum / `inr true` = "not a float" (notified, nothing changes) / `inr false` = outside the model -/
def hibfCalc (h : AList Bytes) (field : Bytes) (delta : F64) : Sum (Bytes × F64) Bool :=
  match DsHash.hget h field with
  | none => (match Api.formatFloat delta with | none => .inr false | some t => .inl (t, delta))
  | some old =>
    match Api.parseFloatText old with
    | none => .inr false
    | some none => .inr true
    | some (some o) =>
      match F64.add? o delta with
      | none => .inr false
      | some sum => (match Api.formatFloat sum with | none => .inr false | some t => .inl (t, sum))

def decHibf (key field : Bytes) (delta : F64) (v : Val) (_ : Int) : Act :=
  match v with
  | .hash h =>
    match hibfCalc h field delta with
    | .inl (t, x) => .put (some (.hash (DsHash.hset h field t).1)) none [opHIncrByFloat key field delta]
        (.many [.f64 x, .err false])
    | .inr true => .put none none [opHIncrByFloat key field delta] (.many [.f64 0, .err true])
    | .inr false => .keep .unsupported
  | _ => .keep .panic

def hibfF (key field : Bytes) (delta : F64) : TxForm :=
  ⟨true, some (.hash []), .unit, Cmd.pan, decHibf key field delta, key⟩

theorem hincrbyfloat_eq (s : MState) (now : Int) (key field : Bytes) (delta : F64) :
    Api.hincrbyfloat s now key field delta = (hibfF key field delta).run s now := by
  show _ = keyTx true (some (.hash [])) .unit Cmd.pan (decHibf key field delta) s now key
  unfold Api.hincrbyfloat
  exact create_tx (onHash fun h => by
    simp only [hibfCalc]
    cases DsHash.hget h field with
    | none =>
      simp only
      cases Api.formatFloat delta <;> rfl
    | some old =>
      simp only
      cases Api.parseFloatText old with
      | none => rfl
      | some o =>
        cases o with
        | none => rfl
        | some o =>
          simp only
          cases F64.add? o delta with
          | none => rfl
          | some sum =>
            simp only
            cases Api.formatFloat sum <;> rfl)

def remTx (f : ZSet → ZSet × Int) (op : FeedOp) (s : MState) (now : Int) (key : Bytes) : Api.R :=
  let r := writeKey s now key none
  if !r.2 then (r.1, .int 0) else
  match Api.asZSet r.1 key with
  | none => (r.1, .panic)
  | some z =>
    let s1 := Api.setVal r.1 key (.zset (f z).1)
    let s2 := if DsZSet.zCard (f z).1 = 0 then delKey s1 key else s1
    if (f z).2 > 0 then (emit (signal s2 key) op, .int (f z).2) else (s2, .int (f z).2)

def opZRem (k : Bytes) (ms : List Bytes) : FeedOp := { typ := 29, key := k, args := ms.map Bytes.toHex }

def opZRemRank (k : Bytes) (a b : Int) : FeedOp := { typ := 30, key := k, args := [toString a, toString b] }

def opZRemScore (k : Bytes) (a b : F64) (mode : Int) : FeedOp :=
  { typ := 31, key := k, args := [toString a, toString b, toString mode] }

theorem zrem_eq (s : MState) (now : Int) (k : Bytes) (ms : List Bytes) :
    Api.zrem s now k ms = remTx (fun z => DsZSet.zRem z ms) (opZRem k ms) s now k := rfl

theorem zremRangeByRank_eq (s : MState) (now : Int) (k : Bytes) (a b : Int) :
    Api.zremRangeByRank s now k a b = remTx (fun z => DsZSet.zRemRangeByRank z a b) (opZRemRank k a b) s now k := rfl

theorem zremRangeByScore_eq (s : MState) (now : Int) (k : Bytes) (a b : F64) (mode : Int) :
    Api.zremRangeByScore s now k a b mode =
      remTx (fun z => DsZSet.zRemRangeByScore z a b (mode % 4).toNat) (opZRemScore k a b mode) s now k := rfl

/-! the ZADD command's transaction: all pairs of one command, one ZADD record per member written -/

open NodisVerif.Api (ZAcc zaddStep)

/-- the loop of `zAddPairs` -/
def zpFold (nx xx gt lt : Bool) (z : ZSet) (pairs : List (Bytes × F64)) : ZAcc :=
  pairs.foldl (zaddStep nx xx gt lt) { z := z, added := 0, changed := 0, ops := [] }

def zpReply (ch : Bool) (a : ZAcc) : Int := if ch then a.added + a.changed else a.added

def decZaddPairs (key : Bytes) (nx xx gt lt ch : Bool) (pairs : List (Bytes × F64)) (v : Val) (_ : Int) : Act :=
  match v with
  | .zset z =>
    if (zpFold nx xx gt lt z pairs).ops.isEmpty then .keep (.int (zpReply ch (zpFold nx xx gt lt z pairs)))
    else .put (some (.zset (zpFold nx xx gt lt z pairs).z)) none
      ((zpFold nx xx gt lt z pairs).ops.map fun q => Api.opZAdd key q.1 q.2) (.int (zpReply ch (zpFold nx xx gt lt z pairs)))
  | _ => .keep .panic

def zaddPairsF (key : Bytes) (nx xx gt lt ch : Bool) (pairs : List (Bytes × F64)) : TxForm :=
  ⟨true, if xx then none else some (.zset DsZSet.empty), .int 0, Cmd.pan, decZaddPairs key nx xx gt lt ch pairs, key⟩

theorem zaddPairs_eq (s : MState) (now : Int) (key : Bytes) (nx xx gt lt ch : Bool) (pairs : List (Bytes × F64))
    (hne : pairs ≠ []) :
    Api.zaddPairs s now key nx xx gt lt ch pairs = (zaddPairsF key nx xx gt lt ch pairs).run s now := by
  have hne' : pairs.isEmpty = false := by cases pairs <;> simp_all
  show _ = keyTx true (if xx then none else some (.zset DsZSet.empty)) (.int 0) Cmd.pan
    (decZaddPairs key nx xx gt lt ch pairs) s now key
  unfold Api.zaddPairs
  cases xx with
  | false =>
    simp only [hne', Bool.false_eq_true, if_false, Bool.false_and]
    exact create_tx (onZSet fun z => by
      show (if (zpFold nx false gt lt z pairs).ops.isEmpty then _ else _) = _
      split
      · rfl
      · simp only [runAct, optSetVal, optSetExp, emits, List.foldl_map]; rfl)
  | true =>
    simp only [hne', Bool.false_eq_true, if_false, if_true, Bool.true_and]
    exact write_tx (onZSet fun z => by
      show (if (zpFold nx true gt lt z pairs).ops.isEmpty then _ else _) = _
      split
      · rfl
      · simp only [runAct, optSetVal, optSetExp, emits, List.foldl_map]; rfl)

/-! ### LPopRPush / RPopLPush (`rotate`): two keys; a silent removal from the source, then an addition to the destination -/

def rotPop (left : Bool) (l : LList) : LList × Option (List Bytes) :=
  if left then DsList.lpop l 1 else DsList.rpop l 1

def rotRemAct (l' : LList) : Act :=
  if DsList.llen l' = 0 then .drop (.list l') [] .unit else .put (some (.list l')) none [] .unit

def opRotate (left : Bool) (src dst : Bytes) : FeedOp :=
  Api.opList (if left then 13 else 20) src [Bytes.toHex dst]

def decRotAdd (left : Bool) (src dst : Bytes) (vs : List Bytes) (v : Val) (_ : Int) : Act :=
  match v with
  | .list d =>
    .put (some (.list (if left then DsList.rpush d vs else DsList.lpush d vs))) none [opRotate left src dst]
      (.bytes vs.head?)
  | _ => .keep .panic

def rotAddF (left : Bool) (src dst : Bytes) (vs : List Bytes) : TxForm :=
  ⟨true, some (.list DsList.empty), .unit, Cmd.pan, decRotAdd left src dst vs, dst⟩

theorem rotate_eq (left : Bool) (s : MState) (now : Int) (src dst : Bytes) :
    Api.rotate left s now src dst =
      (if !(writeKey s now src none).2 then ((writeKey s now src none).1, .bytes none) else
       match Api.asList (writeKey s now src none).1 src with
       | none => ((writeKey s now src none).1, .panic)
       | some l =>
         if (writeKey (writeKey s now src none).1 now dst none).2 &&
             (Api.asList (writeKey (writeKey s now src none).1 now dst none).1 dst).isNone then
           ((writeKey (writeKey s now src none).1 now dst none).1, .panic) else
         match (rotPop left l).2 with
         | none => ((writeKey (writeKey s now src none).1 now dst none).1, .bytes none)
         | some vs =>
           (rotAddF left src dst vs).run
             (runAct (writeKey (writeKey s now src none).1 now dst none).1 src (rotRemAct (rotPop left l).1)).1 now) := by
  unfold Api.rotate
  generalize writeKey s now src none = r1
  obtain ⟨s1, ok⟩ := r1
  simp only
  cases ok with
  | false => exact (if_pos rfl).symm
  | true =>
    simp only [Bool.not_true, Bool.false_eq_true, if_false]
    cases Api.asList s1 src with
    | none => rfl
    | some l =>
      simp only
      generalize writeKey s1 now dst none = r2
      obtain ⟨s2, dok⟩ := r2
      simp only
      refine ite_congr rfl (fun _ => rfl) fun _ => ?_
      · have hp : (if left = true then DsList.lpop l 1 else DsList.rpop l 1) = rotPop left l := rfl
        rw [hp]
        generalize rotPop left l = pr
        obtain ⟨l', rr⟩ := pr
        cases rr with
        | none => rfl
        | some vs =>
          simp only
          have hs3 : (runAct s2 src (rotRemAct l')).1 =
              signal (if DsList.llen l' = 0 then delKey (Api.setVal s2 src (.list l')) src
                else Api.setVal s2 src (.list l')) src := by
            unfold rotRemAct
            split <;> rfl
          rw [hs3]
          generalize (signal (if DsList.llen l' = 0 then delKey (Api.setVal s2 src (.list l')) src
                else Api.setVal s2 src (.list l')) src) = s3
          refine Eq.trans ?_ (create_shape s3 now dst _ _ _ _ (fun s4 => match Api.asList s4 dst with
            | none => (s4, .panic)
            | some d =>
              (emit (signal (Api.setVal s4 dst (.list (if left then DsList.rpush d vs else DsList.lpush d vs))) dst)
                (opRotate left src dst), .bytes vs.head?)) ?_)
          · rfl
          · intro s4; simp only [Api.asList]
            cases valOf s4 dst with
            | none => rfl
            | some v => cases v <;> rfl

/-! ### SMOVE: two keys; a silent removal from the source, then an addition to the destination -/

def smoveRemAct (st : AList Unit) (member : Bytes) : Act :=
  if DsSet.scard (DsSet.srem st [member]).1 = 0 then .drop (.set (DsSet.srem st [member]).1) [] (.bool true)
  else .put (some (.set (DsSet.srem st [member]).1)) none [] (.bool true)

def decSmoveAdd (dst member : Bytes) (v : Val) (_ : Int) : Act :=
  match v with
  | .set d => .put (some (.set (DsSet.sadd d [member]).1)) none [opSAdd dst [member]] (.bool true)
  | _ => .keep .panic

def smoveAddF (dst member : Bytes) : TxForm :=
  ⟨true, some (.set []), .unit, Cmd.pan, decSmoveAdd dst member, dst⟩

theorem smove_eq (s : MState) (now : Int) (src dst member : Bytes) :
    Api.smove s now src dst member =
      (if !(writeKey s now src none).2 then ((writeKey s now src none).1, .bool false) else
       match Api.asSet (writeKey s now src none).1 src with
       | none => ((writeKey s now src none).1, .panic)
       | some st =>
         if (writeKey (writeKey s now src none).1 now dst none).2 &&
             (Api.asSet (writeKey (writeKey s now src none).1 now dst none).1 dst).isNone then
           ((writeKey (writeKey s now src none).1 now dst none).1, .panic) else
         if (DsSet.srem st [member]).2 = 0 then
           (Api.setVal (writeKey (writeKey s now src none).1 now dst none).1 src (.set (DsSet.srem st [member]).1),
            .bool false) else
         (smoveAddF dst member).run
           (runAct (writeKey (writeKey s now src none).1 now dst none).1 src (smoveRemAct st member)).1 now) := by
  unfold Api.smove
  generalize writeKey s now src none = r1
  obtain ⟨s1, ok⟩ := r1
  simp only
  cases ok with
  | false => exact (if_pos rfl).symm
  | true =>
    simp only [Bool.not_true, Bool.false_eq_true, if_false]
    cases Api.asSet s1 src with
    | none => rfl
    | some st =>
      simp only
      generalize writeKey s1 now dst none = r2
      obtain ⟨s2, dok⟩ := r2
      simp only
      refine ite_congr rfl (fun _ => rfl) fun _ => ite_congr rfl (fun _ => rfl) fun _ => ?_
      have hs3 : (runAct s2 src (smoveRemAct st member)).1 =
          signal (if DsSet.scard (DsSet.srem st [member]).1 = 0 then
            delKey (Api.setVal s2 src (.set (DsSet.srem st [member]).1)) src
            else Api.setVal s2 src (.set (DsSet.srem st [member]).1)) src := by
        unfold smoveRemAct
        split <;> rfl
      rw [hs3]
      generalize (signal (if DsSet.scard (DsSet.srem st [member]).1 = 0 then
            delKey (Api.setVal s2 src (.set (DsSet.srem st [member]).1)) src
            else Api.setVal s2 src (.set (DsSet.srem st [member]).1)) src) = s3
      refine Eq.trans ?_ (create_shape s3 now dst _ _ _ _ (fun s4 => match Api.asSet s4 dst with
        | none => (s4, .panic)
        | some d =>
          (emit (signal (Api.setVal s4 dst (.set (DsSet.sadd d [member]).1)) dst) (opSAdd dst [member]),
           .bool true)) ?_)
      · rfl
      · intro s4; simp only [Api.asSet]
        cases valOf s4 dst with
        | none => rfl
        | some v => cases v <;> rfl

end NodisVerif.Proofs.C20

/-! ### RENAME

  Not a key transaction: two lookups, then `renameTail`.  With a value in the source record the tail is a `putMeta` of
  `renameRec`, over the record found (`renameTail_dok`) or a fresh one (`renameTail_miss`). -/
namespace NodisVerif.Proofs.C11
open NodisVerif.Store NodisVerif.Proofs.AListLemmas NodisVerif.Proofs.AListLemmas2

theorem putMeta_putMeta (s : MState) (k : Bytes) (a b : Meta) :
    putMeta (putMeta s k a) k b = putMeta s k b := by
  simp only [putMeta, set_set]

theorem modMeta_putMeta (s : MState) (k : Bytes) (a : Meta) (f : Meta → Meta) :
    modMeta (putMeta s k a) k f = putMeta s k (f a) := by
  simp only [modMeta, getMeta, putMeta, get?_set_same, set_set]

theorem setExp_putMeta (s : MState) (k : Bytes) (a : Meta) (e : Int) :
    Api.setExp (putMeta s k a) k e = putMeta s k { a with exp := e } := by
  simp only [Api.setExp, getMeta, putMeta, get?_set_same, set_set]

theorem modMeta_of_get {s : MState} {k : Bytes} {d : Meta} (h : AList.get? s.index k = some d) (f : Meta → Meta) :
    modMeta s k f = putMeta s k (f d) := by
  simp only [modMeta, getMeta, h]

/-- everything `rename` does after the two lookups -/
def renameTail (s2 : MState) (dok : Bool) (m : Meta) (key dst : Bytes) : MState :=
  let s := delKey s2 key
  let s :=
    if !dok then
      let s' := (fresh s).2
      let s' := match getMeta s' dst with | some dead => unpersist s' dst dead | none => s'
      putMeta s' dst { exp := m.exp, value := none, kid := (fresh s).1 }
    else s
  let s := match m.value with
    | some v => modMeta s dst fun d => ({ d with oid := m.oid }.setValue v)
    | none => s
  let s := Api.setExp s dst m.exp
  { modMeta s dst Meta.markModified with signalled := dst :: key :: s.signalled }

theorem rename_eq (s : MState) (now : Int) (key dst : Bytes) :
    Api.rename s now key dst =
      (if !(writeKey s now key none).2 then ((writeKey s now key none).1, .err true) else
       match getMeta (writeKey s now key none).1 key with
       | none => ((writeKey s now key none).1, .err true)
       | some m =>
         if key = dst then ((writeKey s now key none).1, .err false) else
         (emit (renameTail (writeKey (writeKey s now key none).1 now dst none).1
                 (writeKey (writeKey s now key none).1 now dst none).2 m key dst)
               { typ := 32, key := key, args := [Bytes.toHex dst] }, .err false)) := by
  unfold Api.rename
  generalize writeKey s now key none = r1
  obtain ⟨s1, ok⟩ := r1
  simp only
  cases ok with
  | false => rfl
  | true =>
    simp only [Bool.not_true, Bool.false_eq_true, if_false]
    cases getMeta s1 key with
    | none => rfl
    | some m =>
      simp only
      by_cases hkd : key = dst
      · rw [if_pos hkd, if_pos hkd]
      · rw [if_neg hkd, if_neg hkd]
        generalize writeKey s1 now dst none = r2
        obtain ⟨s2, dok⟩ := r2
        rfl

/-- the record that ends up under the destination name -/
def renameRec (base : Meta) (m : Meta) (v : Val) : Meta :=
  Meta.markModified { ({ base with oid := m.oid }.setValue v) with exp := m.exp }

theorem renameTail_dok {s2 : MState} {m d : Meta} {v : Val} {key dst : Bytes} (hv : m.value = some v)
    (hd : AList.get? (delKey s2 key).index dst = some d) :
    renameTail s2 true m key dst =
      { putMeta (delKey s2 key) dst (renameRec d m v) with
        signalled := dst :: key :: (putMeta (delKey s2 key) dst (renameRec d m v)).signalled } := by
  unfold renameTail
  simp only [Bool.not_true, Bool.false_eq_true, if_false, hv]
  rw [modMeta_of_get hd, setExp_putMeta, modMeta_putMeta]
  rfl

theorem renameTail_miss {s2 : MState} {m : Meta} {v : Val} {key dst : Bytes} (hv : m.value = some v) :
    renameTail s2 false m key dst =
      { putMeta (dropEntries { delKey s2 key with nextId := (delKey s2 key).nextId + 1 } dst) dst
          (renameRec { exp := m.exp, value := none, kid := (delKey s2 key).nextId } m v) with
        signalled := dst :: key :: (delKey s2 key).signalled } := by
  unfold renameTail
  simp only [Bool.not_false, if_true, hv, fresh]
  rw [modMeta_putMeta, setExp_putMeta, modMeta_putMeta]
  unfold dropEntries
  cases getMeta { delKey s2 key with nextId := (delKey s2 key).nextId + 1 } dst with
  | none => rfl
  | some dead =>
    simp only [unpersist]
    cases dead.stored <;> rfl

end NodisVerif.Proofs.C11

/-! RENAMENX: the destination is looked up first, and the tail runs only when it is missing (`nxTail_eq` and
    `renameTail_miss` have the same right-hand side). -/
namespace NodisVerif.Proofs.C20
open NodisVerif NodisVerif.Store NodisVerif.Proofs.C11

def nxTail (s2 : MState) (m : Meta) (key dst : Bytes) : MState :=
  let s := delKey s2 key
  let kid := (fresh s).1
  let s := (fresh s).2
  let d : Meta := { exp := m.exp, value := none, kid := kid, oid := m.oid }
  let d := match m.value with | some v => d.setValue v | none => d
  let s := match getMeta s dst with | some dead => unpersist s dst dead | none => s
  let s := putMeta s dst d.markModified
  { s with signalled := dst :: key :: s.signalled }

def opRename (key dst : Bytes) : FeedOp := { typ := 32, key := key, args := [Bytes.toHex dst] }

theorem renameNX_eq (s : MState) (now : Int) (key dst : Bytes) :
    Api.renameNX s now key dst =
      (if (writeKey s now dst none).2 then ((writeKey s now dst none).1, .err true) else
       if !(writeKey (writeKey s now dst none).1 now key none).2 then
         ((writeKey (writeKey s now dst none).1 now key none).1, .err true) else
       match getMeta (writeKey (writeKey s now dst none).1 now key none).1 key with
       | none => ((writeKey (writeKey s now dst none).1 now key none).1, .err true)
       | some m => (emit (nxTail (writeKey (writeKey s now dst none).1 now key none).1 m key dst)
           (opRename key dst), .err false)) := by
  unfold Api.renameNX
  generalize writeKey s now dst none = r1
  obtain ⟨s1, dok⟩ := r1
  simp only
  cases dok with
  | true => rfl
  | false =>
    simp only [Bool.false_eq_true, if_false]
    generalize writeKey s1 now key none = r2
    obtain ⟨s2, ok⟩ := r2
    simp only
    cases ok with
    | false => rfl
    | true =>
      simp only [Bool.not_true, Bool.false_eq_true, if_false]
      cases getMeta s2 key with
      | none => rfl
      | some m => rfl

theorem nxTail_eq {s2 : MState} {m : Meta} {v : Val} {key dst : Bytes} (hv : m.value = some v) :
    nxTail s2 m key dst =
      { putMeta (dropEntries { delKey s2 key with nextId := (delKey s2 key).nextId + 1 } dst) dst
          (renameRec { exp := m.exp, value := none, kid := (delKey s2 key).nextId } m v) with
        signalled := dst :: key :: (delKey s2 key).signalled } := by
  unfold nxTail
  simp only [hv, fresh]
  unfold dropEntries
  cases getMeta { delKey s2 key with nextId := (delKey s2 key).nextId + 1 } dst with
  | none => rfl
  | some dead =>
    simp only [unpersist]
    cases dead.stored <;> rfl

end NodisVerif.Proofs.C20

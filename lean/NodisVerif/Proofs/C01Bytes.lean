import NodisVerif.Model.DsStr
import NodisVerif.Spec.Str
import NodisVerif.Proofs.GoLibLemmas
/-
  C01 helper lemmas, data-structure level: `DsStr` (ds/str/str.go) against `Spec.Str`.
  Of the window functions `m…`, `bc…`, `mbc…` and `srGrowth` are the model of the Go code, `s…` the Redis reference
  (Spec/Str.lean); `getRange_win` is about the model, `getrange_win` about the reference.
-/
namespace NodisVerif.Proofs.C01
open NodisVerif

/-- the positions `lo ≤ i < hi` of `v`: Go's `v[lo:hi]`, and the inclusive Redis range `lo .. hi - 1` -/
def win {α} (v : List α) (lo hi : Int) : List α := (v.drop lo.toNat).take (hi - lo).toNat

theorem win_nil {α} (v : List α) (lo hi : Int) (h : hi ≤ lo ∨ (v.length : Int) ≤ lo) : win v lo hi = [] := by
  unfold win
  rcases h with h | h
  · have : (hi - lo).toNat = 0 := by omega
    rw [this]; rfl
  · rw [List.drop_eq_nil_of_le (by omega), List.take_nil]

theorem win_to_end {α} (v : List α) (lo hi : Int) (h : (v.length : Int) ≤ hi) : win v lo hi = v.drop lo.toNat := by
  unfold win
  apply List.take_of_length_le
  rw [List.length_drop]; omega

/-- first byte of a GETRANGE window (Go `GetRange` and Redis alike): a negative `start` counts from the end, clamped at 0 -/
def clampStart (n start : Int) : Int := if start < 0 then (if n + start < 0 then 0 else n + start) else start
/-- exclusive end of the window Go's `GetRange` takes, from `stop1 = end + 1`: `≤ 0` counts from the end, then clipped to
    the length -/
def mStop (n stop1 : Int) : Int :=
  if (if stop1 ≤ 0 then stop1 + n else stop1) > n then n else (if stop1 ≤ 0 then stop1 + n else stop1)
/-- inclusive end of Redis' GETRANGE window: a negative `stop` counts from the end (clamped at 0), then clipped to `n - 1` -/
def sStop (n stop : Int) : Int :=
  if (if stop < 0 then (if n + stop < 0 then 0 else n + stop) else stop) ≥ n then n - 1
  else (if stop < 0 then (if n + stop < 0 then 0 else n + stop) else stop)

theorem clampStart_nonneg (n start : Int) : 0 ≤ clampStart n start := by
  unfold clampStart; omega

theorem mStop_succ (n stop : Int) (h : -n ≤ stop) : mStop n (stop + 1) = sStop n stop + 1 := by
  unfold mStop sStop; omega

theorem mStop_low (n stop : Int) (h : stop < -n) : mStop n (stop + 1) ≤ 0 := by
  unfold mStop; omega

theorem getRange_unfold (s : DsStr.S) (start stop : Int) :
    DsStr.getRange s start stop =
      if clampStart (DsStr.bytes s).length start ≥ (DsStr.bytes s).length then none
      else if clampStart (DsStr.bytes s).length start > mStop (DsStr.bytes s).length (wrap64 (stop + 1)) then none
      else some (((DsStr.bytes s).drop (clampStart (DsStr.bytes s).length start).toNat).take
        (mStop (DsStr.bytes s).length (wrap64 (stop + 1)) - clampStart (DsStr.bytes s).length start).toNat) := rfl

theorem normRange_unfold (n : Nat) (start stop : Int) :
    Spec.Str.normRange n start stop =
      if start < 0 ∧ stop < 0 ∧ start > stop then (0, 0)
      else if n = 0 ∨ clampStart n start > sStop n stop then (0, 0)
      else ((clampStart n start).toNat, (sStop n stop - clampStart n start + 1).toNat) := rfl

theorem getRange_win (s : DsStr.S) (start stop : Int) :
    (DsStr.getRange s start stop).getD [] =
      win (DsStr.bytes s) (clampStart (DsStr.bytes s).length start) (mStop (DsStr.bytes s).length (wrap64 (stop + 1))) := by
  rw [getRange_unfold]
  split
  · next h => exact (win_nil _ _ _ (Or.inr h)).symm
  · split
    · next h => exact (win_nil _ _ _ (Or.inl (Int.le_of_lt h))).symm
    · rfl

/-- Redis' range as a window, but for its rule that two negative bounds in the wrong order select nothing even
    when clamping would make them meet at 0 -/
theorem getrange_win (v : Bytes) (start stop : Int) :
    Spec.Str.getrange v start stop =
      if start < 0 ∧ stop < 0 ∧ start > stop then [] else win v (clampStart v.length start) (sStop v.length stop + 1) := by
  unfold Spec.Str.getrange
  rw [normRange_unfold]
  have hst := clampStart_nonneg v.length start
  split
  · rfl
  · split
    · exact (win_nil _ _ _ (by omega)).symm
    · unfold win
      congr 2
      omega

/-- `hr` is the complement of the region of `getRange_differ` below -/
theorem getRange_agree (s : DsStr.S) (start stop : Int)
    (hw : wrap64 (stop + 1) = stop + 1)
    (hr : -(DsStr.len s) ≤ stop ∨ DsStr.len s = 0 ∨ (0 < start ∧ -(DsStr.len s) < start) ∨ (start < 0 ∧ stop < start)) :
    (DsStr.getRange s start stop).getD [] = Spec.Str.getrange (DsStr.bytes s) start stop := by
  rw [getRange_win, hw, getrange_win]
  unfold DsStr.len at hr
  generalize DsStr.bytes s = v at *
  have hst := clampStart_nonneg v.length start
  by_cases hA : -(v.length : Int) ≤ stop
  · rw [mStop_succ _ _ hA]
    split
    · next h =>
      -- the rule's case: `start > stop` survives the clamping, the window is empty anyway
      apply win_nil; left
      unfold sStop clampStart; omega
    · rfl
  · have hm := mStop_low v.length stop (by omega)
    rw [win_nil v _ (mStop _ _) (Or.inl (by omega))]
    split
    · rfl
    · next hrule =>
      have hs : sStop v.length stop ≤ 0 := by unfold sStop; omega
      have hc : 0 < start → clampStart v.length start = start := fun h => by unfold clampStart; omega
      -- Redis' end is clamped to 0: a positive start lies beyond it, an empty string has nothing to select, and the
      -- last case of `hr` is the one the negative-bounds rule has taken
      symm; apply win_nil
      omega

/-- the exact disagreement region of GETRANGE for `stop < -len`: the model answers "", Redis the first byte -/
theorem getRange_differ (s : DsStr.S) (start stop : Int)
    (hw : wrap64 (stop + 1) = stop + 1)
    (h1 : stop < -(DsStr.len s)) (h2 : DsStr.len s ≠ 0) (h3 : start = 0 ∨ start ≤ stop) :
    (DsStr.getRange s start stop).getD [] = [] ∧
    Spec.Str.getrange (DsStr.bytes s) start stop = (DsStr.bytes s).take 1 := by
  rw [getRange_win, hw, getrange_win]
  unfold DsStr.len at h1 h2
  generalize DsStr.bytes s = v at *
  have hst : clampStart v.length start = 0 := by unfold clampStart; omega
  have hs : sStop v.length stop = 0 := by unfold sStop; omega
  have hm := mStop_low v.length stop h1
  constructor
  · exact win_nil _ _ _ (Or.inl (by omega))
  · rw [if_neg (by omega), hst, hs]; rfl

theorem zeros_eq (n : Nat) : DsStr.zeros n = List.replicate n 0 := rfl

theorem grow_eq_pad (v : Bytes) (c : Prop) [Decidable c] (m m' : Nat) (hc : c → m = m') (hn : ¬c → m' = 0) :
    (if c then v ++ DsStr.zeros m else v) = v ++ List.replicate m' 0 := by
  split
  · next h => rw [hc h, zeros_eq]
  · next h => rw [hn h, List.replicate_zero, List.append_nil]

theorem setRange_neg (s : DsStr.S) (offset : Int) (data : Bytes) (h : offset < 0) :
    DsStr.setRange s offset data = some (s, 0) := by
  unfold DsStr.setRange; rw [if_pos h]

/-- the growth `SetRange` asks the allocator for -/
def srGrowth (s : DsStr.S) (offset : Int) (data : Bytes) : Int :=
  offset + (data.length : Int) - ((DsStr.bytes s).length : Int)

theorem setRange_bytes (s : DsStr.S) (offset : Int) (data : Bytes) (h : 0 ≤ offset)
    (hw : inInt64 (offset + (data.length : Int)) = true) (hg : srGrowth s offset data ≤ 1073741824) :
    ∃ r, DsStr.setRange s offset data = some r ∧
    DsStr.bytes r.1 =
      (let v := DsStr.bytes s
       let v1 := v ++ List.replicate (offset.toNat + data.length - v.length) 0
       v1.take offset.toNat ++ data ++ v1.drop (offset.toNat + data.length)) ∧
    r.2 = (DsStr.bytes r.1).length := by
  unfold DsStr.setRange
  unfold srGrowth at hg
  rw [if_neg (by omega)]
  simp only [wrap64_id (inInt64_iff.mp hw)]
  rw [if_neg (by omega), if_neg (by
    intro hc
    simp only [Bool.not_eq_true', decide_eq_false_iff_not] at hc
    omega)]
  rw [grow_eq_pad _ _ _ (offset.toNat + data.length - (DsStr.bytes s).length) (fun _ => by omega) (fun _ => by omega)]
  cases s with
  | some v => exact ⟨_, rfl, rfl, rfl⟩
  | none =>
    simp only [DsStr.bytes, Option.getD_none, List.length_nil, List.nil_append]
    by_cases hgr : offset + (data.length : Int) > ((0 : Nat) : Int)
    · simp only [hgr, if_true]
      exact ⟨_, rfl, rfl, rfl⟩
    · simp only [hgr, if_false]
      have h0 : offset.toNat = 0 := by omega
      have h1 : data = [] := List.eq_nil_of_length_eq_zero (by omega)
      subst h1
      rw [h0]
      exact ⟨_, rfl, rfl, rfl⟩

theorem setRange_agree (s : DsStr.S) (offset : Int) (data : Bytes) (h : 0 ≤ offset)
    (hw : inInt64 (offset + (data.length : Int)) = true) (hg : srGrowth s offset data ≤ 1073741824)
    (hr : data ≠ [] ∨ offset ≤ DsStr.len s) :
    ∃ r, DsStr.setRange s offset data = some r ∧
      DsStr.bytes r.1 = Spec.Str.setrange (DsStr.bytes s) offset.toNat data ∧
      r.2 = ((Spec.Str.setrange (DsStr.bytes s) offset.toNat data).length : Nat) := by
  obtain ⟨r, e, hb, hl⟩ := setRange_bytes s offset data h hw hg
  have key : DsStr.bytes r.1 = Spec.Str.setrange (DsStr.bytes s) offset.toNat data := by
    rw [hb]
    unfold Spec.Str.setrange
    by_cases hd : data = []
    · subst hd
      rcases hr with hr | hr
      · exact absurd rfl hr
      · unfold DsStr.len at hr
        have : offset.toNat - (DsStr.bytes s).length = 0 := by omega
        simp only [List.length_nil, Nat.add_zero, this, List.replicate_zero, List.append_nil, if_true,
          List.take_append_drop]
    · rw [if_neg hd]
  exact ⟨r, e, key, by rw [hl, key]⟩

theorem append_agree (s : DsStr.S) (data : Bytes) :
    DsStr.bytes (DsStr.append s data).1 = Spec.Str.append (DsStr.bytes s) data ∧
    (DsStr.append s data).2 = ((Spec.Str.append (DsStr.bytes s) data).length : Int) := by
  cases s with
  | some v => exact ⟨rfl, rfl⟩
  | none =>
    cases data with
    | nil => exact ⟨rfl, rfl⟩
    | cons a r => exact ⟨rfl, rfl⟩


theorem spec_setrange_length (v : Bytes) (off : Nat) (data : Bytes) (hd : data ≠ []) :
    (Spec.Str.setrange v off data).length = max v.length (off + data.length) := by
  unfold Spec.Str.setrange
  rw [if_neg hd]
  simp only [List.length_append, List.length_take, List.length_drop, List.length_replicate]
  omega

theorem getD_pad (v : Bytes) (m i : Nat) : (v ++ List.replicate m 0).getD i 0 = v.getD i 0 := by
  simp only [List.getD_eq_getElem?_getD, List.getElem?_append, List.getElem?_replicate]
  by_cases h : i < v.length
  · simp only [h, if_true]
  · simp only [h, if_false]
    rw [List.getElem?_eq_none (by omega)]
    split <;> rfl

theorem pad_getElem? (v : Bytes) (m i : Nat) (h : i < v.length + m) :
    (v ++ List.replicate m 0)[i]? = some (v.getD i 0) := by
  rw [← getD_pad v m i, List.getD_eq_getElem?_getD,
    List.getElem?_eq_getElem (by simp only [List.length_append, List.length_replicate]; omega)]
  rfl

theorem spec_setrange_getElem? (v : Bytes) (off : Nat) (data : Bytes) (hd : data ≠ []) (i : Nat) :
    (Spec.Str.setrange v off data)[i]? =
      if i < off then some (v.getD i 0)
      else if i < off + data.length then data[i - off]?
      else v[i]? := by
  unfold Spec.Str.setrange
  rw [if_neg hd]
  simp only []
  generalize hm : off + data.length - v.length = m
  have ht : ((v ++ List.replicate m 0).take off).length = off := by
    simp only [List.length_take, List.length_append, List.length_replicate]; omega
  rw [List.append_assoc, List.getElem?_append, ht]
  by_cases h1 : i < off
  · rw [if_pos h1, if_pos h1, List.getElem?_take, if_pos h1, pad_getElem? _ _ _ (by omega)]
  · rw [if_neg h1, if_neg h1, List.getElem?_append]
    by_cases h2 : i < off + data.length
    · rw [if_pos (by omega), if_pos h2]
    · rw [if_neg (by omega), if_neg h2, List.getElem?_drop]
      have e : off + data.length + (i - off - data.length) = i := by omega
      rw [e, List.getElem?_append]
      by_cases h3 : i < v.length
      · rw [if_pos h3]
      · rw [if_neg h3, List.getElem?_replicate, if_neg (by omega), List.getElem?_eq_none (by omega)]

theorem mask_toNat : ∀ j : Fin 8, ((1 : UInt8) <<< UInt8.ofNat (7 - j.val)).toNat = 2 ^ (7 - j.val) := by decide

theorem mask_bit (b : UInt8) (j : Nat) (hj : j < 8) :
    ((b &&& ((1 : UInt8) <<< UInt8.ofNat (7 - j))) != 0) = Spec.Str.bitOf b j := by
  have hm : ((1 : UInt8) <<< UInt8.ofNat (7 - j)).toNat = 2 ^ (7 - j) := mask_toNat ⟨j, hj⟩
  have hc : ∀ i, (b &&& ((1 : UInt8) <<< UInt8.ofNat (7 - j))).toNat.testBit i = (b.toNat.testBit i && decide (7 - j = i)) :=
    fun i => by rw [UInt8.toNat_and, hm, Nat.testBit_and, Nat.testBit_two_pow]
  unfold Spec.Str.bitOf
  generalize b &&& ((1 : UInt8) <<< UInt8.ofNat (7 - j)) = c at hc
  cases ht : b.toNat.testBit (7 - j)
  · have : c = 0 := UInt8.toNat_inj.mp (Nat.eq_of_testBit_eq fun i => by
      rw [hc]
      by_cases h : 7 - j = i
      · subst h; simp [ht]
      · simp [h])
    rw [this]; rfl
  · have h1 := hc (7 - j)
    rw [ht] at h1
    exact bne_iff_ne.mpr fun e => by rw [e] at h1; simp at h1

theorem or_mask (b : UInt8) (j : Nat) (hj : j < 8) :
    (b ||| ((1 : UInt8) <<< UInt8.ofNat (7 - j))) = Spec.Str.withBit b j true := by
  have hm : ((1 : UInt8) <<< UInt8.ofNat (7 - j)).toNat = 2 ^ (7 - j) := mask_toNat ⟨j, hj⟩
  apply UInt8.toNat_inj.mp
  show _ = (UInt8.ofNat (b.toNat ||| 2 ^ (7 - j))).toNat
  rw [UInt8.toNat_or, hm, UInt8.toNat_ofNat']
  exact (Nat.mod_eq_of_lt (Nat.or_lt_two_pow b.toNat_lt (Nat.pow_lt_pow_right (by decide) (by omega)))).symm

theorem testBit_sub_two_pow : ∀ (k : Nat) {n : Nat}, n.testBit k = true → ∀ i,
    (n - 2 ^ k).testBit i = (n.testBit i && !decide (k = i))
  | 0, n, h, i => by
    have h1 : n % 2 = 1 := Nat.mod_two_eq_one_iff_testBit_zero.mpr h
    cases i with
    | zero => rw [Nat.testBit_zero, Nat.testBit_zero]; simp; omega
    | succ i => rw [Nat.testBit_succ, Nat.testBit_succ, show (n - 2 ^ 0) / 2 = n / 2 by omega]; simp
  | k + 1, n, h, i => by
    rw [Nat.testBit_succ] at h
    have hle : 2 * 2 ^ k ≤ n := by have := Nat.ge_two_pow_of_testBit h; omega
    cases i with
    | zero => rw [Nat.testBit_zero, Nat.testBit_zero, Nat.pow_succ', Nat.sub_mul_mod hle]; simp
    | succ i => rw [Nat.testBit_succ, Nat.testBit_succ, Nat.pow_succ', Nat.sub_mul_div, testBit_sub_two_pow k h i]; simp

theorem andnot_mask (b : UInt8) (j : Nat) (hj : j < 8) :
    (b &&& ~~~((1 : UInt8) <<< UInt8.ofNat (7 - j))) = Spec.Str.withBit b j false := by
  -- the code masks the bit out, the spec subtracts its weight if it is set: bit by bit the same
  have hn : UInt8.size - 1 - 2 ^ (7 - j) = 2 ^ 8 - (2 ^ (7 - j) + 1) := by simp only [UInt8.size]; omega
  have h8 : ∀ i, (b.toNat.testBit i && decide (i < 8)) = b.toNat.testBit i := fun i => by
    rw [← Nat.testBit_two_pow_sub_one, ← Nat.testBit_and, Nat.and_two_pow_sub_one_of_lt_two_pow b.toNat_lt]
  refine UInt8.toNat_inj.mp (Nat.eq_of_testBit_eq fun i => ?_)
  rw [UInt8.toNat_and, UInt8.toNat_not, mask_toNat ⟨j, hj⟩, Nat.testBit_and, hn,
    Nat.testBit_two_pow_sub_succ (Nat.pow_lt_pow_right (by decide) (by omega)), Nat.testBit_two_pow, ← Bool.and_assoc, h8]
  unfold Spec.Str.withBit
  rw [if_neg Bool.false_ne_true]
  split
  · next ht =>
    rw [UInt8.toNat_ofNat', Nat.mod_eq_of_lt (Nat.lt_of_le_of_lt (Nat.sub_le _ _) b.toNat_lt), testBit_sub_two_pow _ ht]
  · next ht =>
    by_cases e : 7 - j = i
    · subst e; simp [ht]
    · simp [e]

theorem bitOf_withBit (b : UInt8) (j j' : Nat) (hj : j < 8) (hj' : j' < 8) (x : Bool) :
    Spec.Str.bitOf (Spec.Str.withBit b j x) j' = if j' = j then x else Spec.Str.bitOf b j' := by
  have hm : ((1 : UInt8) <<< UInt8.ofNat (7 - j)).toNat = 2 ^ (7 - j) := mask_toNat ⟨j, hj⟩
  have hk : decide (7 - j = 7 - j') = decide (j' = j) := decide_eq_decide.mpr (by omega)
  cases x
  · -- bit j' of b with bit j cleared: by a subtraction where it is set, as it stands where it is not
    unfold Spec.Str.withBit Spec.Str.bitOf
    rw [if_neg Bool.false_ne_true]
    by_cases ht : b.toNat.testBit (7 - j) = true
    · rw [if_pos ht, UInt8.toNat_ofNat', Nat.mod_eq_of_lt (Nat.lt_of_le_of_lt (Nat.sub_le _ _) b.toNat_lt),
        testBit_sub_two_pow _ ht, hk]
      by_cases h : j' = j <;> simp [h]
    · rw [if_neg ht]
      by_cases h : j' = j
      · subst h; simpa using ht
      · simp [h]
  · rw [← or_mask b j hj]
    unfold Spec.Str.bitOf
    rw [UInt8.toNat_or, hm, Nat.testBit_or, Nat.testBit_two_pow, hk]
    by_cases h : j' = j <;> simp [h]

/-- the model tests bit `i` by the mask `1 <<< i`, the spec reads bit `7 - j` of `toNat`: both count the same eight bits,
    in opposite order -/
theorem popcount8_eq (b : UInt8) : DsStr.popcount8 b = Spec.Str.popcount b := by
  have hm : ∀ i ∈ List.range 8, ((b &&& ((1 : UInt8) <<< UInt8.ofNat i)) != 0) = Spec.Str.bitOf b (7 - i) := by
    intro i hi
    have hi' : i < 8 := List.mem_range.1 hi
    have := mask_bit b (7 - i) (by omega)
    rwa [show 7 - (7 - i) = i by omega] at this
  unfold DsStr.popcount8 Spec.Str.popcount
  rw [foldl_count (fun i => (b &&& ((1 : UInt8) <<< UInt8.ofNat i)) != 0), Nat.zero_add,
    List.filter_congr hm, ← List.length_reverse, ← List.filter_reverse,
    show (List.range 8).reverse = (List.range 8).map (7 - ·) from by decide, List.filter_map, List.length_map]
  rfl

theorem bitOf_zero (j : Nat) : Spec.Str.bitOf 0 j = false := by
  unfold Spec.Str.bitOf; simp

theorem bitMask_eq (n : Nat) : DsStr.bitMask n = (1 : UInt8) <<< UInt8.ofNat (7 - n % 8) := rfl

theorem getBit_agree (s : DsStr.S) (offset : Int) (h : 0 ≤ offset) :
    DsStr.getBit s offset = if Spec.Str.getbit (DsStr.bytes s) offset.toNat then 1 else 0 := by
  -- a nonnegative offset is a natural number `n`: byte index and bit position are `n / 8` and `n % 8` as they stand
  obtain ⟨n, rfl⟩ := Int.eq_ofNat_of_zero_le h
  unfold DsStr.getBit Spec.Str.getbit
  simp only [Int.toNat_natCast]
  rw [bitMask_eq n, mask_bit _ _ (Nat.mod_lt _ (by decide)), show ((n : Int) / 8).toNat = n / 8 from rfl]
  split
  · next hc =>
    have : (DsStr.bytes s).getD (n / 8) 0 = 0 := by
      rw [List.getD_eq_getElem?_getD, List.getElem?_eq_none (by omega)]; rfl
    simp only [this, bitOf_zero]; rfl
  · rfl

theorem setBit_neg (s : DsStr.S) (offset : Int) (x : Bool) (h : offset < 0) : DsStr.setBit s offset x = (s, 0) := by
  unfold DsStr.setBit; rw [if_pos h]

theorem setBit_agree (s : DsStr.S) (offset : Int) (x : Bool) (h : 0 ≤ offset) :
    DsStr.setBit s offset x =
      (some (Spec.Str.setbit (DsStr.bytes s) offset.toNat x),
       if Spec.Str.getbit (DsStr.bytes s) offset.toNat then 1 else 0) := by
  obtain ⟨n, rfl⟩ := Int.eq_ofNat_of_zero_le h
  unfold DsStr.setBit Spec.Str.setbit Spec.Str.getbit
  rw [if_neg (by omega), bitMask_eq n, Int.toNat_natCast, show ((n : Int) / 8).toNat = n / 8 from rfl]
  generalize n / 8 = i
  have hj : n % 8 < 8 := Nat.mod_lt _ (by decide)
  generalize n % 8 = j at hj
  generalize hv : DsStr.bytes s = v
  have hv1 := grow_eq_pad v ((i : Int) > (v.length : Int) - 1) (i + 1 - v.length) _ (fun _ => rfl) (fun _ => by omega)
  simp only [hv1]
  simp only [getD_pad, mask_bit _ _ hj, or_mask _ _ hj, andnot_mask _ _ hj]
  have hnb : (if x = true then Spec.Str.withBit (v.getD i 0) j true else Spec.Str.withBit (v.getD i 0) j false) =
      Spec.Str.withBit (v.getD i 0) j x := by cases x <;> rfl
  rw [hnb]
  congr 1
  cases s with
  | some w => split <;> rfl
  | none =>
    simp only [DsStr.bytes, Option.getD_none] at hv
    subst hv
    have : (i : Int) > (([] : Bytes).length : Int) - 1 := by simp only [List.length_nil]; omega
    rw [if_pos this]; rfl

theorem spec_setbit_length (v : Bytes) (off : Nat) (x : Bool) :
    (Spec.Str.setbit v off x).length = max v.length (off / 8 + 1) := by
  unfold Spec.Str.setbit
  simp only [List.length_set, List.length_append, List.length_replicate]
  omega

theorem getD_set_pad (v : Bytes) (i i' : Nat) (w : UInt8) :
    ((v ++ List.replicate (i + 1 - v.length) 0).set i w).getD i' 0 = if i' = i then w else v.getD i' 0 := by
  rw [List.getD_eq_getElem?_getD, List.getElem?_set]
  by_cases h : i = i'
  · subst h
    have : i < (v ++ List.replicate (i + 1 - v.length) 0).length := by
      simp only [List.length_append, List.length_replicate]; omega
    simp only [this, if_true]; rfl
  · rw [if_neg h, if_neg (Ne.symm h), ← List.getD_eq_getElem?_getD, getD_pad]

theorem spec_getbit_setbit (v : Bytes) (off off' : Nat) (x : Bool) :
    Spec.Str.getbit (Spec.Str.setbit v off x) off' = if off' = off then x else Spec.Str.getbit v off' := by
  unfold Spec.Str.getbit Spec.Str.setbit
  simp only []
  rw [getD_pad, getD_set_pad]
  by_cases hb : off' / 8 = off / 8
  · rw [if_pos hb, hb, bitOf_withBit _ _ _ (Nat.mod_lt _ (by decide)) (Nat.mod_lt _ (by decide))]
    have e : (off' = off) ↔ (off' % 8 = off % 8) := by omega
    simp only [e]
  · rw [if_neg hb, if_neg (fun e => hb (by rw [e]))]


theorem foldl_popcount (l : Bytes) (acc : Nat) :
    l.foldl (fun acc b => acc + DsStr.popcount8 b) acc = acc + Spec.Str.popcountBytes l := by
  induction l generalizing acc with
  | nil => simp [Spec.Str.popcountBytes]
  | cons a r ih =>
    rw [List.foldl_cons, ih]
    simp only [Spec.Str.popcountBytes, List.map_cons, List.sum_cons, popcount8_eq]
    omega

/-- the normalisations of Go's `BitCount(start, end)`: a negative start is 0; `end ≤ 0` means `end + len + 1`, clipped to
    `len`; a window with `start = end` is widened by one byte -/
def bcStart (start : Int) : Int := if start < 0 then 0 else start
def bcStop (n stop : Int) : Int :=
  if (if stop ≤ 0 then stop + n + 1 else stop) > n then n else (if stop ≤ 0 then stop + n + 1 else stop)
def bcStop2 (n start stop : Int) : Int :=
  if bcStart start = bcStop n stop then bcStop n stop + 1 else bcStop n stop

/-- the window `BitCount` of the Go code actually counts, as (first byte, number of bytes) -/
def mbcRange (n : Nat) (start stop : Int) : Nat × Nat :=
  if bcStart start ≥ (n : Int) then (0, 0)
  else if bcStart start > bcStop n stop then (0, 0)
  else ((bcStart start).toNat, (bcStop2 n start stop - bcStart start).toNat)

theorem bitCount_unfold (s : DsStr.S) (start stop : Int) :
    DsStr.bitCount s start stop =
      if bcStart start ≥ ((DsStr.bytes s).length : Int) then (0 : Int)
      else if bcStart start > bcStop (DsStr.bytes s).length stop then (0 : Int)
      else (((((DsStr.bytes s).drop (bcStart start).toNat).take
        (bcStop2 (DsStr.bytes s).length start stop - bcStart start).toNat).foldl
          (fun acc b => acc + DsStr.popcount8 b) 0 : Nat) : Int) := rfl

theorem bitCount_closed (s : DsStr.S) (start stop : Int) :
    DsStr.bitCount s start stop =
      (Spec.Str.popcountBytes (((DsStr.bytes s).drop (mbcRange (DsStr.bytes s).length start stop).1).take
        (mbcRange (DsStr.bytes s).length start stop).2) : Nat) := by
  rw [bitCount_unfold]
  unfold mbcRange
  split
  · simp [Spec.Str.popcountBytes]
  · split
    · simp [Spec.Str.popcountBytes]
    · simp only [foldl_popcount, Nat.zero_add]

theorem mbcRange_win {α} (v : List α) (start stop : Int) :
    (v.drop (mbcRange v.length start stop).1).take (mbcRange v.length start stop).2 =
      win v (bcStart start) (bcStop2 v.length start stop) := by
  unfold mbcRange
  split
  · next h => exact (win_nil _ _ _ (Or.inr h)).symm
  · split
    · next h =>
      symm; apply win_nil; left
      unfold bcStop2; rw [if_neg (by omega)]; omega
    · rfl

/-- what `hs` and `hr` leave out is where the windows differ: a `start` in `(-len, 0)` is 0 for the Go code and
    `len + start` for Redis; a `stop` in `[0, len)` is exclusive for the Go code and inclusive for Redis; at
    `start = len + stop + 1` the Go code widens the empty window by one byte; `stop < -len` is not followed here -/
theorem bitCount_agree (s : DsStr.S) (start stop : Int)
    (hs : 0 ≤ start ∨ start ≤ -(DsStr.len s))
    (hr : (-(DsStr.len s) ≤ stop ∧ stop < 0 ∧ start ≠ DsStr.len s + stop + 1) ∨ DsStr.len s ≤ stop) :
    DsStr.bitCount s start stop = (Spec.Str.bitcount (DsStr.bytes s) start stop : Nat) := by
  rw [bitCount_closed, mbcRange_win]
  show _ = ((Spec.Str.popcountBytes (Spec.Str.getrange (DsStr.bytes s) start stop) : Nat) : Int)
  rw [getrange_win]
  unfold DsStr.len at hs hr
  generalize DsStr.bytes s = v at *
  rw [if_neg (by omega)]
  have hlo : clampStart v.length start = bcStart start := by unfold bcStart clampStart; omega
  rw [hlo]
  congr 2
  rcases hr with h | h
  · -- an end inside the string, counted from its end: `len + stop + 1` on both sides, and `start ≠ end` keeps
    -- the Go code from moving it
    have hb : bcStop v.length stop = v.length + stop + 1 := by unfold bcStop; omega
    have he : sStop v.length stop = v.length + stop := by unfold sStop; omega
    have hl : bcStart start ≠ v.length + stop + 1 := by unfold bcStart; omega
    unfold bcStop2
    rw [hb, if_neg hl, he]
  · -- an end beyond the string: both windows run to the end of the string
    have hb : bcStop v.length stop = v.length := by unfold bcStop; omega
    have he : sStop v.length stop = v.length - 1 := by unfold sStop; omega
    rw [win_to_end v _ (sStop _ _ + 1) (by omega)]
    apply win_to_end
    unfold bcStop2
    rw [hb]; omega

theorem bitCount_whole (s : DsStr.S) (stop : Int) (h : stop = 0 ∨ stop = -1) :
    DsStr.bitCount s 0 stop = (Spec.Str.popcountBytes (DsStr.bytes s) : Nat) := by
  rw [bitCount_closed, mbcRange_win]
  generalize DsStr.bytes s = v
  have hb : bcStop v.length stop = v.length := by unfold bcStop; omega
  congr 2
  apply win_to_end v 0
  unfold bcStop2
  rw [hb]; omega

/-- spec sanity: the number of 1 bits of a string is the number of bit offsets at which GETBIT reads 1 -/
theorem popcountBytes_eq_bits (v : Bytes) :
    Spec.Str.popcountBytes v = ((List.range (8 * v.length)).filter fun o => Spec.Str.getbit v o).length := by
  induction v with
  | nil => rfl
  | cons a r ih =>
    have e : 8 * (a :: r).length = 8 + 8 * r.length := by simp only [List.length_cons]; omega
    rw [e, List.range_add, List.filter_append, List.length_append, List.filter_map, List.length_map]
    unfold Spec.Str.popcountBytes at ih ⊢
    rw [List.map_cons, List.sum_cons, ih]
    have hfirst : Spec.Str.popcount a =
        ((List.range 8).filter fun o => Spec.Str.getbit (a :: r) o).length := by
      unfold Spec.Str.popcount
      apply congrArg List.length
      apply List.filter_congr
      intro j hj
      have hj' : j < 8 := List.mem_range.mp hj
      unfold Spec.Str.getbit
      have h1 : j / 8 = 0 := by omega
      have h2 : j % 8 = j := by omega
      rw [h1, h2]; rfl
    have hsecond : ((List.range (8 * r.length)).filter fun o => Spec.Str.getbit r o) =
        ((List.range (8 * r.length)).filter ((fun o => Spec.Str.getbit (a :: r) o) ∘ fun x => 8 + x)) := by
      apply List.filter_congr
      intro j _
      simp only [Function.comp]
      unfold Spec.Str.getbit
      have h1 : (8 + j) / 8 = j / 8 + 1 := by omega
      have h2 : (8 + j) % 8 = j % 8 := by omega
      rw [h1, h2]
      rfl
    rw [hfirst, hsecond]

theorem addInt_agree (s : DsStr.S) (d : Int) :
    DsStr.addInt s d = (Spec.Str.incrby (DsStr.bytes s) d).map fun r => (some r.1, r.2) := by
  unfold DsStr.addInt Spec.Str.incrby
  have : (if (DsStr.bytes s).isEmpty = true then ([48] : Bytes) else DsStr.bytes s) =
      (if DsStr.bytes s = [] then [48] else DsStr.bytes s) := by
    cases DsStr.bytes s <;> rfl
  simp only [this]
  cases parseInt64 (if DsStr.bytes s = [] then [48] else DsStr.bytes s) with
  | none => rfl
  | some n =>
    simp only
    split <;> rfl

end NodisVerif.Proofs.C01

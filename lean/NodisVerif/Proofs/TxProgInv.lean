import NodisVerif.Proofs.TxProgGuard

/-
  Program model of tx.go: the stronger invariant `Strong` is inductive, and with it trace inclusion holds without side
  conditions (`strong_step`, `strong_refines`: what `C05.prog_refines_proto` rests on).  Its shared part `SF` is kept by
  the thread's own step (`sf_at_self`, `sf_reg_self`) and by the steps of the others (`sf_other`).
-/
namespace NodisVerif.Proofs.TxProg
open NodisVerif.Proto (Key Rec Mode Ev Hold TxSt PState assoc erase put Tx)
open NodisVerif.TxProg
open NodisVerif.Proofs.Proto

/-- `Shared.lookup` on the two maps alone, so that it can be rewritten under `{ s with index := …, pending := … }` -/
def lk (idx pnd : List (Key × Rec)) (k : Key) : Option Rec :=
  match assoc idx k with
  | some r => some r
  | none => assoc pnd k

theorem lookup_lk (s : Shared) (k : Key) : s.lookup k = lk s.index s.pending k := by
  unfold Shared.lookup lk; cases assoc s.index k <;> rfl

theorem lk_none {idx pnd : List (Key × Rec)} {k : Key} (h : lk idx pnd k = none) :
    assoc idx k = none ∧ assoc pnd k = none := by
  unfold lk at h; cases hi : assoc idx k <;> simp_all

theorem lk_claim {idx pnd : List (Key × Rec)} {k : Key} (r : Rec) (h : lk idx pnd k = none) (k' : Key) :
    lk idx (put pnd k r) k' = if k' = k then some r else lk idx pnd k' := by
  obtain ⟨hi, _⟩ := lk_none h
  unfold lk
  rw [assoc_put]
  by_cases e : k' = k
  · subst e; simp [hi]
  · simp [e]

theorem lk_publish {idx pnd : List (Key × Rec)} {k : Key} {m : Rec} (hp : assoc pnd k = some m)
    (hi : assoc idx k = none) (k' : Key) : lk (put idx k m) (erase pnd k) k' = lk idx pnd k' := by
  unfold lk
  rw [assoc_put, assoc_erase]
  by_cases e : k' = k
  · subst e; simp [hi, hp]
  · simp [e]

theorem lk_unlink_ne {idx pnd : List (Key × Rec)} {k k' : Key} (e : k' ≠ k) :
    lk (erase idx k) pnd k' = lk idx pnd k' := by
  unfold lk; rw [assoc_erase]; simp [e]

theorem lk_unlink_self {idx pnd : List (Key × Rec)} {k : Key} : lk (erase idx k) pnd k = assoc pnd k := by
  unfold lk; rw [assoc_erase]; simp

theorem lookup_congr {s s' : Shared} (hi : s'.index = s.index) (hp : s'.pending = s.pending) (k : Key) :
    s'.lookup k = s.lookup k := by rw [lookup_lk, lookup_lk, hi, hp]

theorem grow_commitNext (s : Shared) (l : Loc) : grow (commitNext s l).pc = false := by
  rcases pc_commitNext s l with h | h | h | h <;> rw [h] <;> rfl
@[simp] theorem held_nextPlan (l : Loc) : (nextPlan l).held = l.held := by unfold nextPlan; split <;> rfl
@[simp] theorem held_retTo (l : Loc) : (retTo l).held = l.held := by
  unfold retTo; split; exact held_nextPlan l; rfl; rfl
def sfAt : Pc → Bool
  | .d3 | .a12 | .g6 | .g7 | .g8 => true
  | _ => false

theorem sfAt_nextPlan (l : Loc) : sfAt (nextPlan l).pc = false := by
  rcases pc_nextPlan l with h | h <;> rw [h] <;> rfl
theorem sfAt_retTo (l : Loc) : sfAt (retTo l).pc = false := by
  rcases pc_retTo l with h | h | h <;> rw [h] <;> rfl
theorem sfAt_commitNext (s : Shared) (l : Loc) : sfAt (commitNext s l).pc = false := by
  rcases pc_commitNext s l with h | h | h | h <;> rw [h] <;> rfl

def SFAt (s : Shared) (l : Loc) : Prop :=
  (l.pc = .d3 → s.lookup l.key = none) ∧
  (l.pc = .a12 → l.okcur = true → s.lookup l.key = some l.m) ∧
  ((l.pc = .g6 ∨ l.pc = .g7 ∨ l.pc = .g8) → l.okcur = true → assoc s.index l.key = some l.m)

theorem sfAt_false {s : Shared} {l : Loc} (h : sfAt l.pc = false) : SFAt s l := by
  refine ⟨fun hx => ?_, fun hx => ?_, fun hx => ?_⟩
  · rw [hx] at h; cases h
  · rw [hx] at h; cases h
  · rcases hx with hx | hx | hx <;> rw [hx] at h <;> cases h

section AtPc
variable {c : Cfg} {p : PState} {t : Tid} {ch : Choice} {s' : Shared} {l' : Loc} {e : Option Ev}

/-- only five transitions arrive at a program counter of `sfAt`: the unlink of delKey (the key is in neither map
    afterwards), the two validations (which set `okcur`), and gcRecord's way from its validation to its unlink
    (which leaves the index alone) -/
theorem sf_at_self (hs : Sim c p) (hold : SFAt c.sh (c.loc t)) (h : tstep c.sh t (c.loc t) ch = some (s', l', e)) :
    SFAt s' l' := by
  replace h := tstep_inv h
  cases h
  case d2_unlink r _ hpc hidx _ =>
    refine ⟨fun _ => ?_, nofun, fun hx => by rcases hx with hx | hx | hx <;> cases hx⟩
    have hd := hs.inv.disjoint (c.loc t).key r (by rw [hs.idx]; exact hidx)
    rw [hs.pend] at hd
    rw [lookup_lk]
    show lk (erase c.sh.index (c.loc t).key) c.sh.pending (c.loc t).key = none
    rw [lk_unlink_self]; exact hd
  case a11 => exact ⟨nofun, fun _ hok => by simpa using hok, fun hx => by rcases hx with hx | hx | hx <;> cases hx⟩
  case g5 => exact ⟨nofun, nofun, fun _ hok => by simpa using hok⟩
  case g6_dead hpc hok _ => exact ⟨nofun, nofun, fun _ _ => hold.2.2 (Or.inl hpc) hok⟩
  case g7 hpc _ => exact ⟨nofun, nofun, fun _ hok => hold.2.2 (Or.inr (Or.inl hpc)) hok⟩
  case begin => exact sfAt_false (sfAt_nextPlan _)
  case a3_miss | a3_held | a6c | a12_ok => exact sfAt_false (sfAt_retTo _)
  case c0 | c3 | c6_fail | c12 => exact sfAt_false (sfAt_commitNext _ _)
  all_goals exact sfAt_false rfl

end AtPc

/-- the field `reg` of `SF` (Proofs/TxProgGuard.lean) as a predicate of shared and local state; not at d3 for the key
    being deleted: between delKey's unlink and its placeholder nothing is registered under it (`SF.d3`) -/
def Reg (s : Shared) (l : Loc) : Prop :=
  grow l.pc = true → ∀ g ∈ l.held, (l.pc = .d3 → g.key ≠ l.key) → ∃ g' ∈ l.held, s.lookup g.key = some g'.rid

theorem reg_plain {s s' : Shared} {l l' : Loc} (hreg : Reg s l) (hi : s'.index = s.index)
    (hp : s'.pending = s.pending) (hh : l'.held = l.held) (hd : l.pc ≠ .d3)
    (hg : grow l'.pc = true → grow l.pc = true) : Reg s' l' := by
  intro hg' g hgm _
  rw [hh] at hgm ⊢
  obtain ⟨g', a, b⟩ := hreg (hg hg') g hgm (fun x => absurd x hd)
  exact ⟨g', a, by rw [lookup_congr hi hp]; exact b⟩

theorem reg_commit {s : Shared} {l : Loc} (h : grow l.pc = false) : Reg s l := by
  intro hg; rw [h] at hg; cases hg

macro "reg_p" hreg:ident hpc:ident : tactic =>
  `(tactic| exact reg_plain $hreg rfl rfl (by simp) (by simp [$hpc:ident]) (fun _ => by simp [$hpc:ident, grow]))

/-- `reg_plain` / `reg_commit` with the two program counters given, so that the condition on them is a computation:
    the transition leaves the maps alone, and if it ends in the growing phase it started there, not at d3, and
    left `lockedMetas` alone -/
theorem reg_frame {s s' : Shared} {l l' : Loc} (hreg : Reg s l) (hi : s'.index = s.index)
    (hp : s'.pending = s.pending) {pc pc' : Pc} (hpc : l.pc = pc) (hpc' : l'.pc = pc')
    (hh : grow pc' = true → l'.held = l.held) (hg : (!grow pc' || (grow pc && !(pc == .d3))) = true) : Reg s' l' := by
  cases hgr : grow pc'
  · exact reg_commit (hpc' ▸ hgr)
  · simp only [hgr, Bool.not_true, Bool.false_or, Bool.and_eq_true, Bool.not_eq_true', beq_eq_false_iff_ne] at hg
    exact reg_plain hreg hi hp (hh hgr) (hpc ▸ hg.2) (fun _ => hpc ▸ hg.1)

section Registration
variable {c : Cfg} {p : PState} {t : Tid} {ch : Choice} {s' : Shared} {l' : Loc} {e : Option Ev}

theorem sf_reg_self (hst : Strong c p) (h : tstep c.sh t (c.loc t) ch = some (s', l', e)) : Reg s' l' := by
  have hs := hst.sim
  have hreg : Reg c.sh (c.loc t) := (hst.sf t).reg
  replace h := tstep_inv h
  cases h
  case begin => intro _ g hg; simp at hg
  case a5_claim hpc hlk _ =>
    rw [lookup_lk] at hlk
    intro _ g hg _
    simp only [List.mem_cons] at hg
    rcases hg with rfl | hg
    · refine ⟨_, List.mem_cons_self .., ?_⟩
      rw [lookup_lk]
      show lk c.sh.index (put c.sh.pending (c.loc t).key ch.fresh) (c.loc t).key = _
      rw [lk_claim _ hlk]; simp
    · obtain ⟨g', a, b⟩ := hreg (by rw [hpc]; rfl) g hg (by rw [hpc]; nofun)
      have hne : g.key ≠ (c.loc t).key := by
        intro x; rw [x, lookup_lk, hlk] at b; cases b
      refine ⟨g', List.mem_cons_of_mem _ a, ?_⟩
      rw [lookup_lk] at b ⊢
      show lk c.sh.index (put c.sh.pending (c.loc t).key ch.fresh) g.key = _
      rw [lk_claim _ hlk]; simp [hne, b]
  case a12_ok hpc hcond =>
    have hok : (c.loc t).okcur = true := by
      revert hcond; cases (c.loc t).okcur <;> simp
    have hv := (hst.sf t).vreg hpc hok
    intro _ g hg _
    simp only [held_retTo, List.mem_cons] at hg ⊢
    rcases hg with rfl | hg
    · exact ⟨_, Or.inl rfl, hv⟩
    · obtain ⟨g', a, b⟩ := hreg (by rw [hpc]; rfl) g hg (by rw [hpc]; nofun)
      exact ⟨g', Or.inr a, b⟩
  case n3_publish hpc hp =>
    have hidx : assoc c.sh.index (c.loc t).key = none := by
      cases hx : assoc c.sh.index (c.loc t).key with
      | none => rfl
      | some r' =>
        have := hs.inv.disjoint (c.loc t).key r' (by rw [hs.idx]; exact hx)
        rw [hs.pend, hp] at this; cases this
    intro _ g hg _
    obtain ⟨g', a, b⟩ := hreg (by rw [hpc]; rfl) g hg (by rw [hpc]; nofun)
    refine ⟨g', a, ?_⟩
    rw [lookup_lk] at b ⊢
    show lk (put c.sh.index (c.loc t).key (c.loc t).m) (erase c.sh.pending (c.loc t).key) g.key = _
    rw [lk_publish hp hidx]; exact b
  case d2_unlink hpc _ _ =>
    intro _ g hg hne
    obtain ⟨g', a, b⟩ := hreg (by rw [hpc]; rfl) g hg (by rw [hpc]; nofun)
    refine ⟨g', a, ?_⟩
    rw [lookup_lk] at b ⊢
    show lk (erase c.sh.index (c.loc t).key) c.sh.pending g.key = _
    rw [lk_unlink_ne (hne rfl)]; exact b
  case d3 hpc _ =>
    have hlk := (hst.sf t).d3 hpc
    rw [lookup_lk] at hlk
    intro _ g hg _
    simp only [List.mem_cons] at hg
    by_cases hk : g.key = (c.loc t).key
    · refine ⟨_, List.mem_cons_self .., ?_⟩
      rw [lookup_lk]
      show lk c.sh.index (put c.sh.pending (c.loc t).key ch.fresh) g.key = _
      rw [lk_claim _ hlk]; simp [hk]
    · rcases hg with rfl | hg
      · exact absurd rfl hk
      · obtain ⟨g', a, b⟩ := hreg (by rw [hpc]; rfl) g hg (fun _ => hk)
        refine ⟨g', List.mem_cons_of_mem _ a, ?_⟩
        rw [lookup_lk] at b ⊢
        show lk c.sh.index (put c.sh.pending (c.loc t).key ch.fresh) g.key = _
        rw [lk_claim _ hlk]; simp [hk, b]
  -- into `commit`, inside it, or out of the transaction: `Reg` says nothing there
  case c0 | c3 | c6_fail | c12 => exact reg_commit (grow_commitNext _ _)
  case mini | c9_drop | cend | g8 | g13 => exact reg_commit rfl
  -- the other transitions leave the maps alone; those that end in the growing phase started there and keep `lockedMetas`
  case a3_miss | a3_held | a6c =>
    exact reg_frame hreg rfl rfl ‹_› rfl (fun _ => held_retTo _) (Bool.or_true _)
  all_goals exact reg_frame hreg rfl rfl ‹_› rfl (fun _ => rfl) rfl

end Registration

theorem held_sub_holdsOf {l : Loc} (hg : grow l.pc = true) : ∀ g ∈ l.held, g ∈ holdsOf l := by
  intro g hgm
  cases hpc : l.pc <;> simp [hpc, grow] at hg <;> simp [holdsOf, hpc, hgm]

theorem grow_ne_init {l : Loc} (hg : grow l.pc = true) : l.pc ≠ .init := by
  intro h; rw [h] at hg; cases hg

theorem held_frame {c c' : Cfg} {p p' : PState} {t u : Tid} {e : Option Ev} (hs : Sim c p) (hs' : Sim c' p')
    (hst : optStep p e = some p') (hev : ∀ ev, e = some ev → evTx ev = some t) (hu : u ≠ t)
    (hpcu : (c.loc u).pc ≠ .init) {g : Hold} (hg : g ∈ holdsOf (c.loc u)) (k : Key) :
    (c.sh.lookup k = some g.rid → c'.sh.lookup k = some g.rid) ∧
    (assoc c.sh.index k = some g.rid → assoc c'.sh.index k = some g.rid) := by
  rw [← hs.lookup, ← hs'.lookup, ← hs.idx, ← hs'.idx]
  cases e with
  | none => cases hst; exact ⟨id, id⟩
  | some ev =>
    have htx := hs.tx_some u hpcu
    exact ⟨fun hl => held_stays_registered hs.inv htx hg hl (hev ev rfl) (Ne.symm hu) hst,
      fun hl => index_stable hs.inv htx hg hl (hev ev rfl) (Ne.symm hu) hst⟩

theorem sf_other {c : Cfg} {p p' : PState} {t u : Tid} {ch : Choice} {s' : Shared} {l' : Loc} {e : Option Ev}
    (hst : Strong c p) (hu : u ≠ t) (h : tstep c.sh t (c.loc t) ch = some (s', l', e))
    (hs' : Sim ⟨s', setD c.thr t l'⟩ p') (hstep : optStep p e = some p') : SF s' u (c.loc u) := by
  have hsmu := tstep_smu h hst.swf (hst.sf t).w (hst.sf t).r
  have hev : ∀ ev, e = some ev → evTx ev = some t := by
    intro ev he; subst he; exact tstep_evTx h
  have hsu := hst.sf u
  have hfr := fun hne {g} hg k => held_frame (c' := ⟨s', setD c.thr t l'⟩) (u := u) (g := g) hst.sim hs' hstep hev hu hne hg k
  refine ⟨fun x => (hsmu.2.2.2 u hu).1 (hsu.w x), fun x => (hsmu.2.2.2 u hu).2 (hsu.r x), ?_, ?_, ?_, ?_⟩
  · intro hpc
    have hwu := hsu.w (by simp [hpc, inW])
    have hnw : inW (c.loc t).pc = false := by
      cases hx : inW (c.loc t).pc with
      | false => rfl
      | true =>
        have := (hst.sf t).w hx
        rw [hwu] at this
        exact absurd (Option.some.inj this) hu
    obtain ⟨a, b⟩ := tstep_maps h hnw
    rw [lookup_congr a b]; exact hsu.d3 hpc
  · intro hg g hgm hne
    obtain ⟨g', a, b⟩ := hsu.reg hg g hgm hne
    exact ⟨g', a, (hfr (grow_ne_init hg) (held_sub_holdsOf hg g' a) _).1 b⟩
  · intro hpc hok
    have hl := hsu.vreg hpc hok
    exact (hfr (g := ⟨(c.loc u).m, (c.loc u).key, modeOf (c.loc u).write,
      (c.loc u).okcur && ((c.loc u).write || (c.loc u).hv)⟩) (by simp [hpc]) (by simp [holdsOf, hpc]) _).1 hl
  · intro hpc hok
    have hl := hsu.gidx hpc hok
    have hne : (c.loc u).pc ≠ .init := by rcases hpc with h | h | h <;> simp [h]
    have hmem : (⟨(c.loc u).m, (c.loc u).key, .w, (c.loc u).okcur⟩ : Hold) ∈ holdsOf (c.loc u) := by
      rcases hpc with h | h | h <;> simp [holdsOf, h]
    exact (hfr hne hmem _).2 hl

theorem strong_step {c c' : Cfg} {p : PState} {t : Tid} {ch : Choice} {e : Option Ev} (hst : Strong c p)
    (h : TxProg.step c t ch = some (c', e)) : ∃ p', optStep p e = some p' ∧ Strong c' p' := by
  obtain ⟨p', hstep, hs'⟩ := sim_step hst.sim (guarded_of_strong hst t) h
  refine ⟨p', hstep, ?_⟩
  obtain ⟨s, l, hts, rfl⟩ := step_inv h
  have hsmu := tstep_smu hts hst.swf (hst.sf t).w (hst.sf t).r
  have hconv := tstep_smu_conv hts hst.rnd (hst.conv t).1 (hst.conv t).2
  obtain ⟨hd3, hvreg, hgidx⟩ := sf_at_self hst.sim ⟨(hst.sf t).d3, (hst.sf t).vreg, (hst.sf t).gidx⟩ hts
  exact {
    sim := hs'
    swf := hsmu.1
    lf := loc_set_forall (lf_self hst hts) fun u _ => hst.lf u
    sf := loc_set_forall ⟨hsmu.2.1, hsmu.2.2.1, hd3, sf_reg_self hst hts, hvreg, hgidx⟩
      fun u hu => sf_other hst hu hts hs' hstep
    rnd := hconv.1
    conv := loc_set_forall
      (P := fun u l => (s.smu.writer = some u → inW l.pc = true) ∧ (u ∈ s.smu.readers → inR l.pc = true))
      ⟨hconv.2.1, hconv.2.2.1⟩ fun u hu =>
      ⟨fun x => (hst.conv u).1 ((hconv.2.2.2 u hu).1 x), fun x => (hst.conv u).2 ((hconv.2.2.2 u hu).2 x)⟩ }

theorem strong_refines {c : Cfg} {p : PState} (hst : Strong c p) (sch : List (Tid × Choice)) :
    ∃ p', runAll p (TxProg.run c sch).2 = some p' ∧ Strong (TxProg.run c sch).1 p' :=
  run_simulates strong_step hst sch

end NodisVerif.Proofs.TxProg

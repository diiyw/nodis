import NodisVerif.Proofs.LinCore
/-
  What the lock discipline buys. In `LinCore` the body of an operation is ONE event `eff`. Here it is
  two: `rd i` copies the shared state into a private snapshot, `wr i` later writes back
  `(apply snapshot o).1` and keeps the result `(apply snapshot o).2` — any number of events of other
  operations may come in between, as long as both lie inside one `acq … rel` interval of `i`.

  `split_refines_atomic`: under the lock discipline the snapshot is still the shared state when `wr i`
  comes, so the execution with `rd` erased and `wr` read as `eff` is a well-formed execution of
  `LinCore`, with the same history: it is linearizable (`split_bodies_linearizable`).
  This is where the lock checks are needed: with them off, two such bodies lose an update
  (`Examples.lost_update_without_lock`, Proofs/LinExamples.lean).
-/
namespace NodisVerif.Lin.Split
open NodisVerif.Lin

inductive Ev (Op Ret : Type)
  | inv (i : Nat) (o : Op)
  | acq (i : Nat)
  | rd (i : Nat)
  | wr (i : Nat)
  | rel (i : Nat)
  | res (i : Nat) (r : Ret)
deriving DecidableEq, Repr

structure Cfg (State Op Ret : Type) where
  core : Lin.Cfg State Op Ret
  snap : Nat → Option State := fun _ => none

section
variable {State Op Ret : Type} [DecidableEq Ret]

def step (O : Obj State Op Ret) (chk : Bool) (c : Cfg State Op Ret) : Ev Op Ret → Option (Cfg State Op Ret)
  | .inv i o => (Lin.step O chk c.core (.inv i o)).map fun k => { c with core := k }
  | .acq i => (Lin.step O chk c.core (.acq i)).map fun k => { c with core := k }
  | .res i r => (Lin.step O chk c.core (.res i r)).map fun k => { c with core := k }
  | .rel i => (Lin.step O chk c.core (.rel i)).map fun k => { core := k, snap := fun j => if j = i then none else c.snap j }
  | .rd i =>
    match c.core.ops i with
    | none => none
    | some st =>
      if !st.locked || st.result.isSome || (c.snap i).isSome then none else
      some { c with snap := fun j => if j = i then some c.core.σ else c.snap j }
  | .wr i =>
    match c.snap i with
    | none => none
    | some v =>
      -- the body computes on its snapshot `v`, not on the shared state
      (Lin.step O chk { c.core with σ := v } (.eff i)).map fun k =>
        { core := k, snap := fun j => if j = i then none else c.snap j }

def run (O : Obj State Op Ret) (chk : Bool) (c : Cfg State Op Ret) : List (Ev Op Ret) → Option (Cfg State Op Ret)
  | [] => some c
  | e :: es => (step O chk c e).bind fun c' => run O chk c' es

def WF (O : Obj State Op Ret) (σ0 : State) (es : List (Ev Op Ret)) : Prop :=
  (run O true { core := { σ := σ0 } } es).isSome = true

instance (O : Obj State Op Ret) (σ0 : State) (es : List (Ev Op Ret)) : Decidable (WF O σ0 es) := by
  unfold WF; infer_instance

end

/-- erase `rd`, read `wr` as the atomic `eff` -/
def atomize {Op Ret : Type} : List (Ev Op Ret) → List (Lin.Ev Op Ret)
  | [] => []
  | .inv i o :: es => .inv i o :: atomize es
  | .acq i :: es => .acq i :: atomize es
  | .rd _ :: es => atomize es
  | .wr i :: es => .eff i :: atomize es
  | .rel i :: es => .rel i :: atomize es
  | .res i r :: es => .res i r :: atomize es

theorem atomize_append {Op Ret : Type} (a b : List (Ev Op Ret)) : atomize (a ++ b) = atomize a ++ atomize b := by
  induction a with
  | nil => rfl
  | cons e a ih => cases e <;> simp [atomize, ih]

def hist {Op Ret : Type} (es : List (Ev Op Ret)) : List (Lin.Ev Op Ret) := Lin.hist (atomize es)

section
variable {State Op Ret : Type} [DecidableEq Ret] {O : Obj State Op Ret}

theorem step_rd {chk : Bool} {c c' : Cfg State Op Ret} {i : Nat} : step O chk c (.rd i) = some c' ↔
    ∃ st, c.core.ops i = some st ∧ st.locked = true ∧ st.result = none ∧ c.snap i = none ∧
      c' = { c with snap := fun j => if j = i then some c.core.σ else c.snap j } := by
  simp only [step]
  cases c.core.ops i with
  | none => simp
  | some st => simp [eq_comm (a := c'), and_assoc]

theorem step_wr {chk : Bool} {c c' : Cfg State Op Ret} {i : Nat} : step O chk c (.wr i) = some c' ↔
    ∃ v k, c.snap i = some v ∧ Lin.step O chk { c.core with σ := v } (.eff i) = some k ∧
      c' = { core := k, snap := fun j => if j = i then none else c.snap j } := by
  simp only [step]
  cases c.snap i with
  | none => simp
  | some v => simp [eq_comm (a := c')]

/-- a snapshot belongs to an operation that holds the lock, and is still the shared state -/
def SnapInv (c : Cfg State Op Ret) : Prop :=
  ∀ i v, c.snap i = some v → v = c.core.σ ∧ ∃ st, c.core.ops i = some st ∧ st.locked = true

/-- one step: the core moves by the atomized event(s), the snapshots stay accurate -/
theorem step_sim {c c' : Cfg State Op Ret} {e : Ev Op Ret} (hl : LockInv O c.core) (hsn : SnapInv c)
    (hs : step O true c e = some c') :
    Lin.run O true c.core (atomize [e]) = some c'.core ∧ SnapInv c' := by
  -- an event that rewrites the entry of `i` and leaves σ alone keeps every snapshot whose owner stays locked
  have keep : ∀ (i : Nat) (st' : OpSt Op Ret) (j : Nat) (v : State), c.snap j = some v →
      (∀ st, j = i → c.core.ops i = some st → st.locked = true → st'.locked = true) →
      v = c.core.σ ∧ ∃ st, upd c.core.ops i st' j = some st ∧ st.locked = true := by
    intro i st' j v hj hi
    obtain ⟨h1, st, h2, h3⟩ := hsn j v hj
    refine ⟨h1, ?_⟩
    by_cases e : j = i
    · subst e; exact ⟨st', upd_same _ _ _, hi st rfl h2 h3⟩
    · exact ⟨st, by rw [upd_ne _ _ e]; exact h2, h3⟩
  cases e with
  | inv i o =>
    obtain ⟨k, hk, rfl⟩ := Option.map_eq_some_iff.1 hs
    refine ⟨by simp [atomize, Lin.run, hk], ?_⟩
    obtain ⟨hn, rfl⟩ := step_inv.1 hk
    exact fun j v hj => keep i _ j v hj (fun st _ h => by rw [hn] at h; cases h)
  | acq i =>
    obtain ⟨k, hk, rfl⟩ := Option.map_eq_some_iff.1 hs
    refine ⟨by simp [atomize, Lin.run, hk], ?_⟩
    obtain ⟨st0, _, _, _, _, rfl⟩ := step_acq.1 hk
    exact fun j v hj => keep i _ j v hj (fun _ _ _ _ => rfl)
  | res i r =>
    obtain ⟨k, hk, rfl⟩ := Option.map_eq_some_iff.1 hs
    refine ⟨by simp [atomize, Lin.run, hk], ?_⟩
    obtain ⟨st0, hst, hl0, _, _, rfl⟩ := step_res.1 hk
    exact fun j v hj => keep i _ j v hj (fun st _ h h' => by rw [hst] at h; cases h; rw [hl0] at h'; cases h')
  | rel i =>
    obtain ⟨k, hk, rfl⟩ := Option.map_eq_some_iff.1 hs
    refine ⟨by simp [atomize, Lin.run, hk], ?_⟩
    obtain ⟨st0, _, _, rfl⟩ := step_rel.1 hk
    intro j v hj
    change (if j = i then none else c.snap j) = some v at hj
    by_cases e : j = i
    · rw [if_pos e] at hj; cases hj
    · rw [if_neg e] at hj
      exact keep i _ j v hj (fun _ h => absurd h e)
  | rd i =>
    obtain ⟨st0, hst, hl0, _, _, rfl⟩ := step_rd.1 hs
    refine ⟨by simp [atomize, Lin.run], ?_⟩
    intro j v hj
    change (if j = i then some c.core.σ else c.snap j) = some v at hj
    by_cases e : j = i
    · rw [if_pos e] at hj; cases hj; subst e
      exact ⟨rfl, st0, hst, hl0⟩
    · rw [if_neg e] at hj; exact hsn j v hj
  | wr i =>
    obtain ⟨v, k, hv, hk, rfl⟩ := step_wr.1 hs
    obtain ⟨hvσ, sti, hsti, hli⟩ := hsn i v hv
    subst hvσ
    have hk' : Lin.step O true c.core (.eff i) = some k := hk
    refine ⟨by simp [atomize, Lin.run, hk'], ?_⟩
    obtain ⟨st0, hst, _, _, rfl⟩ := step_eff.1 hk'
    intro j w hj
    change (if j = i then none else c.snap j) = some w at hj
    by_cases e : j = i
    · rw [if_pos e] at hj; cases hj
    · rw [if_neg e] at hj
      obtain ⟨h1, st, h2, h3⟩ := hsn j w hj
      rw [hsti] at hst; cases hst
      -- `j` is inside its interval too, so both are readers: the body of `i` does not change σ
      have hro := (hl.both_readers hsti h2 hli h3 (fun x => e x.symm)).1
      refine ⟨?_, st, by show upd _ _ _ j = _; rw [upd_ne _ _ e]; exact h2, h3⟩
      show w = (O.apply c.core.σ sti.op).1
      rw [O.ro _ _ hro]; exact h1

theorem run_sim {es : List (Ev Op Ret)} {c c' : Cfg State Op Ret} (hl : LockInv O c.core) (hsn : SnapInv c)
    (h : run O true c es = some c') :
    Lin.run O true c.core (atomize es) = some c'.core ∧ LockInv O c'.core ∧ SnapInv c' := by
  induction es generalizing c with
  | nil => cases h; exact ⟨rfl, hl, hsn⟩
  | cons e es ih =>
    obtain ⟨c1, h1, h2⟩ := Option.bind_eq_some_iff.1 h
    obtain ⟨ha, hsn1⟩ := step_sim hl hsn h1
    obtain ⟨hb, hrest⟩ := ih (hl.run ha) hsn1 h2
    exact ⟨by rw [← List.singleton_append, atomize_append, Lin.run_append, ha]; exact hb, hrest⟩

theorem split_refines_atomic {σ0 : State} (es : List (Ev Op Ret)) (c : Cfg State Op Ret)
    (h : run O true { core := { σ := σ0 } } es = some c) :
    Lin.run O true { σ := σ0 } (atomize es) = some c.core ∧ SnapInv c :=
  have ⟨a, _, b⟩ := run_sim (LockInv.init σ0) (by intro i v h; cases h) h
  ⟨a, b⟩

theorem split_bodies_linearizable (O : Obj State Op Ret) (σ0 : State) (es : List (Ev Op Ret))
    (h : WF O σ0 es) : Linearizable O σ0 (hist es) := by
  obtain ⟨c, hr⟩ := Option.isSome_iff_exists.1 h
  exact ⟨_, (run_linearizable (split_refines_atomic es c hr).1).1⟩

end

end NodisVerif.Lin.Split

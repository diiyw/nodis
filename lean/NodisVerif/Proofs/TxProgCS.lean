import NodisVerif.Proofs.TxProgGuard
/-
  Program model of tx.go, what `Strong` gives directly on program states: every protocol event is emitted while the
  thread holds the lock that makes the reported step atomic (`events_in_cs`; DESIGN.md §3 reads the trace under this
  assumption); mutual exclusion, lock order and the placement of the command body on program states.
-/
namespace NodisVerif.Proofs.TxProg
open NodisVerif.Proto (Key Rec Mode Ev Hold TxSt PState assoc erase put Tx)
open NodisVerif.TxProg
open NodisVerif.Proofs.Proto

/-- the lock under which an event is reported: `store.mu` shared for the two lookups, `store.mu` exclusive for
    the four updates of index / pending, the record's own mutex for lock / unlock / trylock; begin, wait, commit
    and fin are steps of the thread alone -/
def InCS (s : Shared) (t : Tid) : Ev → Prop
  | .look _ _ _ | .valid _ _ _ _ => t ∈ s.smu.readers
  | .claim _ _ _ _ | .publish _ _ _ | .unlink _ _ _ | .drop _ _ _ => s.smu.writer = some t
  | .lock _ _ r m => owns (s.mu r) t m
  | .unlock _ r => ∃ m, owns (s.mu r) t m
  | .trylock _ _ r => owns (s.mu r) t .w
  | _ => True

theorem events_in_cs {c c' : Cfg} {p : PState} {t : Tid} {ch : Choice} {ev : Ev} (hst : Strong c p)
    (h : TxProg.step c t ch = some (c', some ev)) : InCS c.sh t ev := by
  obtain ⟨s, l, hts, rfl⟩ := step_inv h
  have hsf := hst.sf t
  have hi := hst.sim.thr t
  replace hts := tstep_inv hts
  cases hts
  case a2 | a11 | g5 => exact hsf.r (by rw [‹(c.loc t).pc = _›]; rfl)
  case a5_claim | n3_publish | d2_unlink | d3 | c9_drop | g8 => exact hsf.w (by rw [‹(c.loc t).pc = _›]; rfl)
  case a9 hpc => exact (hi.ext ((c.loc t).m, modeOf (c.loc t).write) (by simp [extra, hpc])).1
  case c7 hpc => exact (hi.ext ((c.loc t).cur.rid, .w) (by simp [extra, hpc])).1
  case g3 hpc => exact (hi.ext ((c.loc t).m, .w) (by simp [extra, hpc])).1
  case a13 hpc =>
    exact ⟨_, hi.own ⟨(c.loc t).m, (c.loc t).key, modeOf (c.loc t).write, false⟩ (by simp [holdsOf, hpc])⟩
  case c2 | c4 | c11 => exact ⟨_, hi.own (c.loc t).cur (by simp [holdsOf, ‹(c.loc t).pc = _›])⟩
  case g11 hpc =>
    exact ⟨_, hi.own ⟨(c.loc t).m, (c.loc t).key, .w, (c.loc t).okcur⟩ (by simp [holdsOf, hpc])⟩
  all_goals trivial

theorem smu_exclusive {c : Cfg} {p : PState} (hst : Strong c p) {t u : Tid} (ht : inW (c.loc t).pc = true) :
    (inW (c.loc u).pc = true → u = t) ∧ (inR (c.loc u).pc = false) := by
  have hw := (hst.sf t).w ht
  constructor
  · intro hu
    have := (hst.sf u).w hu
    rw [hw] at this; exact (Option.some.inj this).symm
  · cases hx : inR (c.loc u).pc with
    | false => rfl
    | true =>
      have := (hst.sf u).r hx
      rw [hst.swf (by simp [hw])] at this; cases this

theorem prog_mutex {c : Cfg} {p : PState} (hs : Sim c p) {t u : Tid} {g g' : Hold} (hne : u ≠ t)
    (hg : g ∈ holdsOf (c.loc t)) (hw : g.mode = .w) (hg' : g' ∈ holdsOf (c.loc u)) : g'.rid ≠ g.rid := by
  intro e
  have a := (hs.thr t).own g hg
  have b := (hs.thr u).own g' hg'
  rw [e] at b
  exact hne (owners_compat (hs.wf g.rid) a b (Or.inl hw)).symm

theorem prog_shared_read {c : Cfg} {p : PState} (hs : Sim c p) {t u : Tid} {g g' : Hold} (hne : u ≠ t)
    (hg : g ∈ holdsOf (c.loc t)) (hg' : g' ∈ holdsOf (c.loc u)) (e : g'.rid = g.rid) : g.mode = .r ∧ g'.mode = .r := by
  constructor
  · cases hm : g.mode with
    | r => rfl
    | w => exact absurd e (prog_mutex hs hne hg hm hg')
  · cases hm : g'.mode with
    | r => rfl
    | w => exact absurd e.symm (prog_mutex hs (Ne.symm hne) hg' hm hg)

/-- pc `idle` is the command body, pc `n1` `newKey`'s write to the record: both run between acquire's return and
    the commit -/
theorem body_is_placed {c : Cfg} {p : PState} (hst : Strong c p) {t : Tid}
    (hpc : (c.loc t).pc = .idle ∨ (c.loc t).pc = .n1) :
    p.tx t = some { holds := (c.loc t).held, waiting := none, committing := false } ∧
    ∀ g ∈ (c.loc t).held, g.valid = true ∧ owns (c.sh.mu g.rid) t g.mode ∧
      ∃ g' ∈ (c.loc t).held, c.sh.lookup g.key = some g'.rid := by
  have hs := hst.sim
  have hi := hs.thr t
  rcases hpc with hpc | hpc
  all_goals
    have htx := hs.tx_some t (by simp [hpc])
    simp only [holdsOf, waitingOf, committingOf, hpc] at htx
    refine ⟨htx, fun g hg => ⟨hi.val g hg, hi.own g (by simpa [holdsOf, hpc] using hg), ?_⟩⟩
    exact (hst.sf t).reg (by simp [hpc, grow]) g hg (by simp [hpc])

theorem newKey_writes_locked {c : Cfg} {p : PState} (hst : Strong c p) {t : Tid} (hpc : (c.loc t).pc = .n1) :
    owns (c.sh.mu (c.loc t).m) t .w ∧ ∀ u, u ≠ t → ∀ g' ∈ holdsOf (c.loc u), g'.rid ≠ (c.loc t).m := by
  have hmem := (hst.lf t).nk (Or.inl hpc)
  have hh : (⟨(c.loc t).m, (c.loc t).key, .w, true⟩ : Hold) ∈ holdsOf (c.loc t) := by simpa [holdsOf, hpc] using hmem
  exact ⟨(hst.sim.thr t).own _ hh, fun u hu g' hg' => prog_mutex hst.sim hu hh rfl hg'⟩

theorem blocked_holds_smaller {c : Cfg} {p : PState} (hst : Strong c p) {t : Tid} (hpc : (c.loc t).pc = .a8) :
    (∀ g ∈ (c.loc t).held, g.key < (c.loc t).key) ∧ extra (c.loc t) = none ∧ (c.loc t).ret = .plan ∧
    inW (c.loc t).pc = false ∧ inR (c.loc t).pc = false := by
  have hr := (hst.lf t).aw (by simp [hpc, afterWait])
  obtain ⟨a, _⟩ := ((hst.lf t).acq (by simp [hpc, acqPc])).1 hr
  refine ⟨fun g hg => ?_, by simp [extra, hpc], hr, by simp [hpc, inW], by simp [hpc, inR]⟩
  rcases a g hg with x | x
  · exact x
  · rw [hpc] at x; cases x.1

/-- delKey never meets the `unlink-unheld` branch (the transition the model has no event for): the record it
    finds in the index is write-held by the transaction -/
theorem delKey_finds_held {c : Cfg} {p : PState} (hst : Strong c p) {t : Tid} (hpc : (c.loc t).pc = .d2) {r : Rec}
    (hidx : assoc c.sh.index (c.loc t).key = some r) : ∃ g, holdOf (c.loc t) r = some g ∧ g.mode = .w := by
  have hl : c.sh.lookup (c.loc t).key = some r := by simp [Shared.lookup, hidx]
  obtain ⟨hall, hname⟩ := (hst.lf t).dk (Or.inr hpc)
  simp only [holdsName, List.any_eq_true, beq_iff_eq] at hname
  obtain ⟨g0, hg0, hk0⟩ := hname
  obtain ⟨g', hg', hl'⟩ := (hst.sf t).reg (by simp [hpc, grow]) g0 hg0 (by simp [hpc])
  rw [hk0, hl] at hl'
  have hr : g'.rid = r := (Option.some.inj hl').symm
  have hsome : (holdOf (c.loc t) r).isSome = true := by
    simp only [holdOf, List.find?_isSome]
    exact ⟨g', hg', by simp [hr]⟩
  cases hgo : holdOf (c.loc t) r with
  | none => rw [hgo] at hsome; cases hsome
  | some g =>
    refine ⟨g, rfl, ?_⟩
    obtain ⟨-, -, hDelW, -⟩ := guarded_of_strong hst t
    exact hDelW hpc r g hidx hgo

theorem delKey_not_stuck {c : Cfg} {p : PState} (hst : Strong c p) {t : Tid} (hpc : (c.loc t).pc = .d2)
    (ch : Choice) : (TxProg.step c t ch).isSome = true := by
  unfold TxProg.step
  simp only [tstep, hpc]
  cases hidx : assoc c.sh.index (c.loc t).key with
  | none => simp
  | some r =>
    obtain ⟨g, hg, _⟩ := delKey_finds_held hst hpc hidx
    simp [hg]

end NodisVerif.Proofs.TxProg

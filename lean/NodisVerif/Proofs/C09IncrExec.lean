import NodisVerif.Proofs.C09IncrSys
import NodisVerif.Proofs.C09Run

/-
  C09 — the invariant of the optimistic-increment system (C09IncrSys.lean) is preserved by every move; then the EXEC
  move, and the invariant along any schedule.
-/
namespace NodisVerif.Proofs.C09Incr
open NodisVerif.Proofs.C08Step NodisVerif.Proofs.AListLemmas2 Store Resp Server

variable (k : Bytes)

theorem script_get (x : Bytes) : scriptTable "GET" [x] = some (.exec (getBody x)) := rfl
theorem script_set (x v : Bytes) : scriptTable "SET" [x, v] = some (.exec (setBody x v)) := rfl

theorem update_same (ph : String → Phase) (i : String) (p : Phase) : (fun j => if j = i then p else ph j) i = p := by
  simp
theorem update_other (ph : String → Phase) (i j : String) (p : Phase) (h : j ≠ i) :
    (fun j => if j = i then p else ph j) j = ph j := by
  simp [h]

/-- idle → WATCH k -/
theorem inv_idle (v0 : Nat) (s : Sys) (h : Inv k v0 s) (i : String) (now : Int) (hp : s.ph i = .idle) :
    Inv k v0 (sysStep k s (i, now)) := by
  obtain ⟨hst, hq⟩ : ConnInv k s.sv (v0 + s.wins) i .idle := hp ▸ h.conns i
  simp only [sysStep, hp, nextPhase]
  refine Inv.of_quiet_step k v0 s h (cmdOf k i now .idle) .watched (stepOuts_watch _ _ _ rfl) ?_
  rw [step_watch scriptTable s.sv _ rfl (by show (s.sv.conn i).state % 2 ≠ 1; rw [hst]; decide) (by simp [cmdOf])]
  exact ⟨by rw [(watchLoop_state_queue _ _ _).1]; exact hst, by rw [(watchLoop_state_queue _ _ _).2]; exact hq,
    (watchLoop_registered i i k [k] s.sv).mpr (Or.inr ⟨rfl, by simp⟩)⟩

/-- watched → GET k -/
theorem inv_watched (v0 : Nat) (s : Sys) (h : Inv k v0 s) (i : String) (now : Int) (hp : s.ph i = .watched)
    (hb : ((v0 + s.wins : Nat) : Int) ≤ int64Max) :
    Inv k v0 (sysStep k s (i, now)) := by
  obtain ⟨hst, hq, hreg⟩ : ConnInv k s.sv (v0 + s.wins) i .watched := hp ▸ h.conns i
  let c : Cmd := cmdOf k i now .watched
  have hr : runsNow (s.sv.conn c.id).state := Or.inl hst
  obtain ⟨g1, g3, g4, g5⟩ := getBody_out k s.sv.store now none (v0 + s.wins) h.cnt hb
  have f := runBody_flagged s.sv now none (getBody k)
  have e : step scriptTable s.sv c =
      ((runBody s.sv now none (getBody k)).1, replyOf (outOf s.sv.store now none (getBody k))) := by
    rw [step_runs scriptTable s.sv c (show ¬ special "GET" by decide) (getBody k) (script_get k) hr]
    exact congrArg (·, _) (afterHandler_noerr _ _ _ (Or.inr ((f.state i).trans hst)))
  have hstore : (step scriptTable s.sv c).1.store = storeAfter (outOf s.sv.store now none (getBody k)) := by
    rw [e]; exact runBody_store _ _ _ _
  simp only [sysStep, hp, nextPhase]
  refine Inv.of_step k v0 s h c (.read (counterOf (step scriptTable s.sv c).2)) false (by rw [hstore]; rfl)
    (by rw [hstore]; exact g3) ?_ ?_
  · rw [e]
    show ConnInv k _ _ i (.read (counterOf (replyOf _)))
    rw [g1]
    exact ⟨(f.state i).trans hst, (f.queue i).trans hq, (registered_congr f.registry i k).mpr hreg, fun _ => rfl⟩
  · simp only [Bool.false_eq_true, if_false]
    rintro x ⟨o, ho, hx⟩
    rw [stepOuts_call scriptTable s.sv c (show ¬ special "GET" by decide) (script_get k), if_pos hr] at ho
    obtain rfl := List.mem_singleton.mp ho
    rw [show (outOf s.sv.store c.now c.ch (getBody k)).store.signalled = [] from g4,
      show (outOf s.sv.store c.now c.ch (getBody k)).store.flushed = _ from g5, h.nofl] at hx
    rcases hx with hx | hx <;> cases hx

/-- read v → MULTI -/
theorem inv_read (v0 : Nat) (s : Sys) (h : Inv k v0 s) (i : String) (now : Int) (v : Nat) (hp : s.ph i = .read v) :
    Inv k v0 (sysStep k s (i, now)) := by
  obtain ⟨hst, hq, hreg, hcl⟩ : ConnInv k s.sv (v0 + s.wins) i (.read v) := hp ▸ h.conns i
  let c : Cmd := cmdOf k i now (.read v)
  have e : (step scriptTable s.sv c).1 = s.sv.setConn i { (s.sv.conn i) with state := (s.sv.conn i).state + 1 } := by
    simp only [step, dispatch_multi scriptTable s.sv c rfl, multi_eq]
    rw [show c.id = i from rfl, if_neg (by rw [hst]; decide)]
    rw [afterHandler_noerr _ _ _ (Or.inl (by simp [okTok, isErr]))]
  simp only [sysStep, hp, nextPhase]
  refine Inv.of_quiet_step k v0 s h c (.inMulti v) (stepOuts_multi _ _ _ rfl) ?_
  rw [e]
  show ConnInv k (s.sv.setConn i _) _ i _
  refine ⟨?_, ?_, hreg, ?_⟩ <;> rw [conn_setConn_same]
  · simp [hst, multiPrepare]
  · exact hq
  · exact hcl

/-- inMulti v → SET k (v+1), queued -/
theorem inv_inMulti (v0 : Nat) (s : Sys) (h : Inv k v0 s) (i : String) (now : Int) (v : Nat) (hp : s.ph i = .inMulti v) :
    Inv k v0 (sysStep k s (i, now)) := by
  obtain ⟨hst, hq, hreg, hcl⟩ : ConnInv k s.sv (v0 + s.wins) i (.inMulti v) := hp ▸ h.conns i
  let c : Cmd := cmdOf k i now (.inMulti v)
  have houts : stepOuts scriptTable s.sv c = [] := by
    rw [stepOuts_call scriptTable s.sv c (show ¬ special "SET" by decide) (script_set k _)]
    exact if_neg (by show ¬ runsNow (s.sv.conn i).state; rw [hst]; decide)
  simp only [sysStep, hp, nextPhase]
  refine Inv.of_quiet_step k v0 s h c (.queued v) houts ?_
  rw [step_queued scriptTable s.sv c (show ¬ special "SET" by decide) _ (script_set k _)
    (by show (s.sv.conn i).state % 2 = 1; rw [hst]; rfl)]
  show ConnInv k (s.sv.setConn i _) _ i _
  refine ⟨?_, ?_, hreg, ?_⟩ <;> rw [conn_setConn_same]
  · exact hst
  · show (s.sv.conn i).queue ++ _ = _; rw [hq]; rfl
  · exact hcl

theorem exec_move (v0 : Nat) (s : Sys) (h : Inv k v0 s) (i : String) (now : Int) (v : Nat) (hp : s.ph i = .queued v) :
    let c := cmdOf k i now (.queued v)
    ((s.sv.conn i).watch.any (·.2) = true →
        (step scriptTable s.sv c).2 = [Tok.nullBulk] ∧ (step scriptTable s.sv c).1.store = s.sv.store) ∧
    ((s.sv.conn i).watch.any (·.2) = false →
        v = v0 + s.wins ∧ CounterIs k s.sv.store v ∧
        (step scriptTable s.sv c).2 = [Tok.arr 1, Handler.ok] ∧
        CounterIs k (step scriptTable s.sv c).1.store (v + 1) ∧
        (step scriptTable s.sv c).1.store.flushed = false ∧
        stepTouches scriptTable s.sv c k) := by
  intro c
  have hi := h.conns i
  rw [hp] at hi
  obtain ⟨hst, hq, hreg, hcl⟩ := hi
  refine ⟨fun hw => ?_, fun hw => ?_⟩
  · rw [step_exec scriptTable s.sv c rfl]
    exact ⟨congrArg Prod.snd (exec_watch_abort s.sv i now (by rw [hst]; rfl) (by rw [hst]; decide) hw),
      exec_flag_no_effect s.sv i now hw⟩
  · have hv : v = v0 + s.wins := hcl ((clean_iff_any _).mpr hw)
    have hcnt : CounterIs k s.sv.store v := by rw [hv]; exact h.cnt
    obtain ⟨a, b, d⟩ := step_exec_runs scriptTable s.sv c rfl hst (by rw [show c.id = i from rfl, hq]; simp) hw
    rw [show (s.sv.conn c.id).queue = _ from hq] at a b d
    obtain ⟨o1, o2, o3⟩ := setBody_out k s.sv.store now none (formatInt ((v + 1 : Nat) : Int))
      (hcnt.elim (fun x => Or.inl x.1) (fun x => Or.inr ⟨_, x⟩))
    refine ⟨hv, hcnt, ?_, ?_, ?_, ⟨_, by rw [d]; exact List.mem_singleton.mpr rfl, Or.inl o3⟩⟩
    · rw [b]
      simp only [execOuts, List.flatMap_cons, List.flatMap_nil, List.append_nil, List.length_singleton]
      exact congrArg (Tok.arr 1 :: ·) o1
    · rw [a]; exact Or.inr o2
    · rw [a]; rfl

/-- queued v → EXEC -/
theorem inv_queued (v0 : Nat) (s : Sys) (h : Inv k v0 s) (i : String) (now : Int) (v : Nat) (hp : s.ph i = .queued v) :
    Inv k v0 (sysStep k s (i, now)) := by
  let c : Cmd := cmdOf k i now (.queued v)
  obtain ⟨hA, hB⟩ := exec_move k v0 s h i now v hp
  have hown : ∀ t, ConnInv k (step scriptTable s.sv c).1 t c.id .idle := by
    intro t
    have hconn : (step scriptTable s.sv c).1.conn i = {} := by
      rw [step_exec scriptTable s.sv c rfl]; exact exec_conn_reset s.sv i now
    show ConnInv k _ t i .idle
    refine ⟨?_, ?_⟩ <;> rw [hconn]
  simp only [sysStep, hp]
  show Inv k v0 { sv := (step scriptTable s.sv c).1,
                  ph := fun j => if j = i then (nextPhase (.queued v) (step scriptTable s.sv c).2).1 else s.ph j,
                  wins := if (nextPhase (.queued v) (step scriptTable s.sv c).2).2 then s.wins + 1 else s.wins }
  by_cases hw : (s.sv.conn i).watch.any (·.2) = true
  · have houts : stepOuts scriptTable s.sv c = [] := by
      rw [stepOuts_exec scriptTable s.sv c rfl]
      exact if_neg (fun hr => by
        have : (s.sv.conn i).watch.any (·.2) = false := hr.2.2.2
        rw [this] at hw; cases hw)
    rw [(hA hw).1]
    exact Inv.of_quiet_step k v0 s h c .idle houts (hown _)
  · obtain ⟨hv, _, r1, r2, r3, r4⟩ := hB (by simpa using hw)
    rw [r1]
    exact Inv.of_step k v0 s h c .idle true r3 (by simp only [if_true]; rw [← Nat.add_assoc, ← hv]; exact r2) (hown _)
      (by simp only [if_true]; exact r4)

theorem Inv.sysStep (v0 : Nat) (s : Sys) (h : Inv k v0 s) (mv : String × Int)
    (hb : ((v0 + s.wins : Nat) : Int) ≤ int64Max) : Inv k v0 (sysStep k s mv) := by
  obtain ⟨i, now⟩ := mv
  cases hp : s.ph i with
  | idle => exact inv_idle k v0 s h i now hp
  | watched => exact inv_watched k v0 s h i now hp hb
  | read v => exact inv_read k v0 s h i now v hp
  | inMulti v => exact inv_inMulti k v0 s h i now v hp
  | queued v => exact inv_queued k v0 s h i now v hp

theorem wins_step (s : Sys) (mv : String × Int) : (sysStep k s mv).wins ≤ s.wins + 1 := by
  simp only [C09Incr.sysStep]
  split <;> omega

theorem Inv.sysRun (v0 : Nat) : ∀ (sched : List (String × Int)) (s : Sys), Inv k v0 s →
    ((v0 + s.wins + sched.length : Nat) : Int) ≤ int64Max → Inv k v0 (sysRun k s sched) := by
  intro sched
  induction sched with
  | nil => intro s h _; exact h
  | cons mv rest ih =>
    intro s h hb
    simp only [List.length_cons] at hb
    have h' := h.sysStep k v0 s mv (by
      have : ((v0 + s.wins : Nat) : Int) ≤ ((v0 + s.wins + (rest.length + 1) : Nat) : Int) := by
        exact Int.ofNat_le.mpr (by omega)
      omega)
    have hw := wins_step k s mv
    show Inv k v0 (C09Incr.sysRun k (C09Incr.sysStep k s mv) rest)
    apply ih _ h'
    have : ((v0 + (C09Incr.sysStep k s mv).wins + rest.length : Nat) : Int) ≤ ((v0 + s.wins + (rest.length + 1) : Nat) : Int) :=
      Int.ofNat_le.mpr (by omega)
    omega

theorem Inv.init (v0 : Nat) (st : MState) (h0 : CounterIs k st v0) (hfl : st.flushed = false) :
    Inv k v0 { sv := { store := st }, ph := fun _ => .idle, wins := 0 } := by
  refine ⟨RegWF.init st, hfl, h0, ?_⟩
  intro i
  exact ⟨rfl, rfl⟩

end NodisVerif.Proofs.C09Incr

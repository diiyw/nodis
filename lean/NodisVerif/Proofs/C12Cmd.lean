import NodisVerif.Proofs.C11Ops
import NodisVerif.Proofs.KeyTx
import NodisVerif.Proofs.C11Gc
/-
  C11 / C12: key transactions (`keyTx`, Proofs/KeyTx.lean) and the storage invariant.

  `keyTx_spec` says once and for all that a command of that shape preserves the invariant and that its reply and
  its effect on the logical keyspace are functions of the logical content of the key alone (`txSpec`) — whether the
  value was hot or cold.  The equations `Api.f = keyTx …` are in Proofs/KeyTxApi.lean.
-/
namespace NodisVerif.Proofs.C11
open NodisVerif.Store NodisVerif.Codec NodisVerif.Spec.Persist
open NodisVerif.Proofs.AListLemmas NodisVerif.Proofs.AListLemmas2 NodisVerif.Proofs.C11AList

namespace Act
-- what the action writes is representable: a `Good` value, an int64 deadline
def GoodA : Act → Prop
  | keep _ => True
  | put v' e' _ _ => (∀ v, v' = some v → Good v) ∧ (∀ e, e' = some e → inInt64 e = true)
  | drop v' _ _ => Good v'
end Act

/-- a (value, deadline) pair as seen at time `t'` -/
def filt (c : Val × Int) (t' : Int) : Option (Val × Int) :=
  if (c.2 != 0 && decide (c.2 ≤ t')) = true then none else some c

theorem emit_fields (s : MState) (op : FeedOp) :
    (emit s op).index = s.index ∧ (emit s op).disk = s.disk ∧ (emit s op).pebble = s.pebble ∧
    (emit s op).nextId = s.nextId ∧ (emit s op).failSet = s.failSet := by
  unfold emit; split <;> exact ⟨rfl, rfl, rfl, rfl, rfl⟩

theorem emits_fields (ops : List FeedOp) : ∀ (s : MState),
    (emits s ops).index = s.index ∧ (emits s ops).disk = s.disk ∧ (emits s ops).pebble = s.pebble ∧
    (emits s ops).nextId = s.nextId ∧ (emits s ops).failSet = s.failSet := by
  intro s
  rw [emits_eq]
  split <;> exact ⟨rfl, rfl, rfl, rfl, rfl⟩

theorem inv_emits {s : MState} {x : Option Bytes} {t : Int} (h : StoreInvX s x t) (ops : List FeedOp) :
    StoreInvX (emits s ops) x t := by
  obtain ⟨a, b, c, d, _⟩ := emits_fields ops s
  exact h.congr a b c d

theorem lookup_emits (s : MState) (ops : List FeedOp) (t' : Int) (k : Bytes) :
    lookup (emits s ops) t' k = lookup s t' k := by
  obtain ⟨a, b, c, _, _⟩ := emits_fields ops s
  exact lookup_congr a b c _ _

theorem view_put {s : MState} {t' : Int} {k : Bytes} {m : Meta} {v : Val} (hv : m.value = some v)
    (hok : m.isOk = true) : view s t' k m = filt (v, m.exp) t' := by
  rw [view_hot' s t' k hv, hok]
  simp only [filt, Meta.expired, Bool.true_and]
  by_cases hc : (m.exp != 0 && decide (m.exp ≤ t')) = true <;> simp [hc]

theorem signal_fields (s : MState) (k : Bytes) :
    (signal s k).disk = s.disk ∧ (signal s k).pebble = s.pebble ∧ (signal s k).failSet = s.failSet := by
  simp only [signal, modMeta]
  cases getMeta s k <;> exact ⟨rfl, rfl, rfl⟩

theorem delKey_fields (s : MState) (k : Bytes) :
    (delKey s k).pebble = s.pebble ∧ (delKey s k).failSet = s.failSet :=
  StoreView.frame_kind (C10.delKey_frame s k)

theorem setExp_fields (s : MState) (k : Bytes) (e : Int) :
    (Api.setExp s k e).pebble = s.pebble ∧ (Api.setExp s k e).failSet = s.failSet :=
  StoreView.frame_kind (C10.setExp_frame s k e)

/-- the logical keyspace after a transaction on `key` with effect `eff` -/
def applyEff (eff : Option (Option (Val × Int))) (key : Bytes) (before : Int → Bytes → Option (Val × Int))
    (t' : Int) (k' : Bytes) : Option (Val × Int) :=
  match eff with
  | none => before t' k'
  | some c => if k' = key then c.bind (filt · t') else before t' k'

/-- No induction: `put` is
    setVal, setExp, `signalModifiedKey` in a row, the first two under the invariant with `key` exempted
    (`StoreInvX … (some key)`: the record is rewritten but not yet marked modified), which `inv_signal` ends;
    `drop` is setVal, delKey, signal. -/
theorem runAct_spec {s : MState} {t : Int} (h : StoreInvX s none t) {key : Bytes} {m : Meta} {v : Val}
    (hm : AList.get? s.index key = some m) (hv : m.value = some v) (a : Act) (ha : a.GoodA) :
    StoreInvX (runAct s key a).1 none t ∧ (runAct s key a).1.pebble = s.pebble ∧
    (runAct s key a).1.failSet = s.failSet ∧ (runAct s key a).2 = a.reply ∧
    ∀ t', t ≤ t' → ∀ k', lookup (runAct s key a).1 t' k' = applyEff (a.eff v m.exp) key (lookup s) t' k' := by
  have r := h.recs key m hm
  have hsome : m.value.isSome = true := by simp [hv]
  have hxk : ∀ k', k' ≠ key → (none : Option Bytes) ≠ some k' := fun _ _ => by simp
  have hxk' : ∀ k', k' ≠ key → (some key : Option Bytes) ≠ some k' := by
    intro k' hk c; exact hk (Option.some.inj c).symm
  cases a with
  | keep rr =>
    exact ⟨h, rfl, rfl, rfl, fun _ _ _ => rfl⟩
  | put v' e' ops rr =>
    obtain ⟨gv, ge⟩ := ha
    have st1 : ∃ s1, optSetVal s key v' = s1 ∧
        StoreInvX s1 (some key) t ∧ s1.pebble = s.pebble ∧ s1.failSet = s.failSet ∧
        AList.get? s1.index key = some { m with value := some (v'.getD v) } ∧
        (∀ t', t ≤ t' → ∀ k', k' ≠ key → lookup s1 t' k' = lookup s t' k') := by
      cases v' with
      | none =>
        refine ⟨s, rfl, h.exempt_irrelevant hxk, rfl, rfl, ?_, fun _ _ _ _ => rfl⟩
        cases m; cases hv; exact hm
      | some v1 =>
        show ∃ s1, Api.setVal s key v1 = s1 ∧ _
        refine ⟨_, rfl, inv_setVal h hxk hm (gv v1 rfl), (setVal_fields key v1).1,
          (setVal_fields key v1).2.2, ?_, ?_⟩
        · rw [get?_setVal_index h hm]; simp
        · intro t' ht' k' hk; rw [lookup_setVal h ht' hm]; simp [hk]
    obtain ⟨s1, e1, i1, p1, f1, g1, l1⟩ := st1
    have st2 : ∃ s2, optSetExp s1 key e' = s2 ∧
        StoreInvX s2 (some key) t ∧ s2.pebble = s.pebble ∧ s2.failSet = s.failSet ∧
        AList.get? s2.index key = some { m with value := some (v'.getD v), exp := e'.getD m.exp } ∧
        (∀ t', t ≤ t' → ∀ k', k' ≠ key → lookup s2 t' k' = lookup s t' k') := by
      cases e' with
      | none => exact ⟨s1, rfl, i1, p1, f1, g1, l1⟩
      | some e2 =>
        show ∃ s2, Api.setExp s1 key e2 = s2 ∧ _
        refine ⟨_, rfl, inv_setExp i1 hxk' g1 rfl (ge e2 rfl), by rw [(setExp_fields _ _ _).1, p1],
          by rw [(setExp_fields _ _ _).2, f1], ?_, ?_⟩
        · simp [Api.setExp, getMeta, g1, putMeta, get?_set]
        · intro t' ht' k' hk; rw [lookup_setExp g1]; simp [hk, l1 t' ht' k' hk]
    obtain ⟨s2, e2, i2, p2, f2, g2, l2⟩ := st2
    simp only [runAct, e1, e2]
    have i3 := inv_signal i2 key hxk'
    refine ⟨inv_emits i3 ops, by rw [(emits_fields ops _).2.2.1, (signal_fields _ _).2.1, p2],
      by rw [(emits_fields ops _).2.2.2.2, (signal_fields _ _).2.2, f2], rfl, ?_⟩
    intro t' ht' k'
    rw [lookup_emits, StoreView.plookup_signal]
    simp only [Act.eff, applyEff]
    by_cases hk : k' = key
    · subst hk
      simp only [if_true, Option.bind_some, lookup, getMeta, g2]
      exact view_put (m := { m with value := some (v'.getD v), exp := e'.getD m.exp }) rfl r.ok
    · simp only [hk, if_false]; exact l2 t' ht' k' hk
  | drop v1 ops rr =>
    have i1 := inv_setVal h hxk hm (ha : Good v1)
    have i2 := inv_delKey i1 key hxk'
    have i3 := inv_signal i2 key hxk
    simp only [runAct]
    refine ⟨inv_emits i3 ops,
      by rw [(emits_fields ops _).2.2.1, (signal_fields _ _).2.1, (delKey_fields _ _).1, (setVal_fields key v1).1],
      by rw [(emits_fields ops _).2.2.2.2, (signal_fields _ _).2.2, (delKey_fields _ _).2, (setVal_fields key v1).2.2],
      rfl, ?_⟩
    intro t' ht' k'
    rw [lookup_emits, StoreView.plookup_signal, StoreView.plookup_delKey _ i1.idxSorted]
    simp only [Act.eff, applyEff]
    by_cases hk : k' = key
    · simp [hk]
    · simp only [hk, if_false]; rw [lookup_setVal h ht' hm]; simp [hk]

/-- reply and effect of a key transaction as a function of the logical content of the key -/
def txSpec (mk : Option Val) (miss : Out) (dec : Val → Int → Act) (L : Option (Val × Int)) :
    Out × Option (Option (Val × Int)) :=
  match L, mk with
  | some (v, e), _ => ((dec v e).reply, (dec v e).eff v e)
  | none, some v0 => ((dec v0 0).reply, some (((dec v0 0).eff v0 0).getD (some (v0, 0))))
  | none, none => (miss, none)

structure TxSpec (s : MState) (t now : Int) (key : Bytes) (sp : Out × Option (Option (Val × Int)))
    (r : Api.R) : Prop where
  inv : StoreInvX r.1 none t
  peb : r.1.pebble = s.pebble
  fail : r.1.failSet = s.failSet
  reply : r.2 = sp.1
  look : ∀ t', t ≤ t' → ∀ k', lookup r.1 t' k' = applyEff sp.2 key (lookup s) t' k'

theorem filt_zero (v : Val) (t' : Int) : filt (v, 0) t' = some (v, 0) := by simp [filt]

theorem keyTx_spec {s : MState} {t now : Int} (h : StoreInvX s none t) (ht : t ≤ now) (write : Bool)
    (mk : Option Val) (miss : Out) (nov : MState → Api.R) (dec : Val → Int → Act) (key : Bytes)
    (hw : write = false → mk = none) (hmk : ∀ v, mk = some v → Good v)
    (hdec : ∀ v e, Good v → inInt64 e = true → (dec v e).GoodA) :
    TxSpec s t now key (txSpec mk miss dec (lookup s now key)) (keyTx write mk miss nov dec s now key) := by
  have ks : KeySpec s t now key mk (access write mk s now key) := by
    cases write with
    | true => exact writeKey_spec h ht key mk hmk
    | false => rw [hw rfl]; exact readKey_spec h ht key
  have kc := keyTx_cases write mk miss nov dec s now key hw
  generalize access write mk s now key = r at ks kc
  obtain ⟨s1, ok⟩ := r
  simp only at kc
  -- a hit: the decision is taken on the value and deadline of the hot record after the lookup
  have run : ∀ (m : Meta) (v : Val), ok = true → AList.get? s1.index key = some m → m.value = some v →
      keyTx write mk miss nov dec s now key = runAct s1 key (dec v m.exp) := by
    intro m v hok hm hv
    rcases kc with ⟨h1, _, _⟩ | ⟨_, v', hv', e1⟩
    · rw [hok] at h1; cases h1
    · have hv'' : valOf s1 key = some v := (valOf_of_getMeta hm).trans hv
      cases hv'.symm.trans hv''
      rw [e1, expOf_of_getMeta hm]
  have nohit : ok = false → keyTx write mk miss nov dec s now key = (s1, miss) := by
    intro hok
    rcases kc with ⟨_, _, e1⟩ | ⟨h1, _⟩
    · exact e1
    · rw [hok] at h1; cases h1
  cases hL : lookup s now key with
  | some c =>
    obtain ⟨v, e⟩ := c
    obtain ⟨hok, hl, m, hm, hv, he, _⟩ := ks.hit v e hL
    simp only at hok hm
    rw [run m v hok hm hv, he]
    have hr := ks.inv.recs key m hm
    obtain ⟨a1, a2, a3, a4, a5⟩ := runAct_spec ks.inv hm hv (dec v e)
      (hdec v e (hr.good v hv) (by rw [← he]; exact hr.expR))
    refine ⟨a1, by rw [a2]; exact ks.peb, by rw [a3]; exact ks.fail, a4, ?_⟩
    intro t' ht' k'
    rw [a5 t' ht' k', he]
    have hsame : lookup s1 t' k' = lookup s t' k' := by
      by_cases hk : k' = key
      · subst hk; exact hl t' ht'
      · exact ks.other t' ht' k' hk
    simp only [txSpec, applyEff, hsame]
  | none =>
    cases hmk0 : mk with
    | none =>
      obtain ⟨hok, hl⟩ := ks.miss hL hmk0
      simp only at hok
      rw [hmk0] at nohit
      rw [nohit hok]
      refine ⟨ks.inv, ks.peb, ks.fail, rfl, ?_⟩
      intro t' ht' k'
      simp only [txSpec, applyEff]
      by_cases hk : k' = key
      · subst hk; exact hl t' ht'
      · exact ks.other t' ht' k' hk
    | some v0 =>
      obtain ⟨hok, hl, m, hm, hv, he, _⟩ := ks.make v0 hL hmk0
      simp only at hok hm
      rw [hmk0] at run
      rw [run m v0 hok hm hv, he]
      have hr := ks.inv.recs key m hm
      obtain ⟨a1, a2, a3, a4, a5⟩ := runAct_spec ks.inv hm hv (dec v0 0)
        (hdec v0 0 (hr.good v0 hv) (by decide))
      refine ⟨a1, by rw [a2]; exact ks.peb, by rw [a3]; exact ks.fail, a4, ?_⟩
      intro t' ht' k'
      rw [a5 t' ht' k', he]
      simp only [txSpec, applyEff]
      cases (dec v0 0).eff v0 0 with
      | none =>
        simp only [Option.getD_none]
        by_cases hk : k' = key
        · subst hk; simp only [if_true, Option.bind_some, filt_zero]; exact hl t' ht'
        · simp only [hk, if_false]; exact ks.other t' ht' k' hk
      | some c =>
        simp only [Option.getD_some]
        by_cases hk : k' = key
        · simp [hk]
        · simp only [hk, if_false]; exact ks.other t' ht' k' hk

/-- two states (both satisfying the invariant) that show the same logical keyspace at all times
    from `t` on.  (Not C10's `NodisVerif.Sim` of Spec/Expire.lean, which relates states that differ in
    expired records.) -/
structure Sim (t : Int) (s1 s2 : MState) : Prop where
  inv1 : StoreInvX s1 none t
  inv2 : StoreInvX s2 none t
  look : ∀ t', t ≤ t' → ∀ k, lookup s1 t' k = lookup s2 t' k

theorem Sim.mono {t t' : Int} {s1 s2 : MState} (h : Sim t s1 s2) (ht : t ≤ t') : Sim t' s1 s2 :=
  ⟨h.inv1.mono ht, h.inv2.mono ht, fun t'' ht'' k => h.look t'' (Int.le_trans ht ht'') k⟩

theorem Sim.logical {t t' : Int} {s1 s2 : MState} (h : Sim t s1 s2) (ht : t ≤ t') :
    logical s1 t' = logical s2 t' :=
  logical_ext h.inv2.idxSorted h.inv1.idxSorted (fun k => h.look t' ht k)

theorem sim_of_txSpec {t now : Int} {s1 s2 : MState} (h : Sim t s1 s2) (ht : t ≤ now) {key : Bytes}
    (F : Option (Val × Int) → Out × Option (Option (Val × Int))) {r1 r2 : Api.R}
    (h1 : TxSpec s1 t now key (F (lookup s1 now key)) r1)
    (h2 : TxSpec s2 t now key (F (lookup s2 now key)) r2) :
    r1.2 = r2.2 ∧ Sim t r1.1 r2.1 := by
  have hL : lookup s1 now key = lookup s2 now key := h.look now ht key
  rw [hL] at h1
  refine ⟨by rw [h1.reply, h2.reply], h1.inv, h2.inv, ?_⟩
  intro t' ht' k
  rw [h1.look t' ht', h2.look t' ht']
  simp only [applyEff]
  cases (F (lookup s2 now key)).2 with
  | none => exact h.look t' ht' k
  | some c =>
    simp only
    by_cases hk : k = key
    · simp [hk]
    · simp only [hk, if_false]; exact h.look t' ht' k

end NodisVerif.Proofs.C11

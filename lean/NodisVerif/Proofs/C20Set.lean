import NodisVerif.Proofs.C12Sched
import NodisVerif.Proofs.C20Ops
/-
  C20, sets: SAdd, SRem, SPop (the record is an SREM of the popped members).
-/
namespace NodisVerif.Proofs.C20
open NodisVerif NodisVerif.Store NodisVerif.Spec.Persist NodisVerif.Proofs.C11

variable {now : Int} {p r : MState}

def saddF (now : Int) (k : Bytes) (ms : List Bytes) : TxForm := (Cmd.sadd k ms).form now
def sremF (now : Int) (k : Bytes) (ms : List Bytes) : TxForm := (Cmd.srem k ms).form now

theorem applyOp_sadd (r0 : MState) (now : Int) (k : Bytes) (ms : List Bytes) :
    Feed.applyOp r0 now (opSAdd k ms) = some ((saddF now k ms).run r0 now).1 := by
  rw [opSAdd, replica_sadd, sadd_eq]; rfl

theorem applyOp_srem (r0 : MState) (now : Int) (k : Bytes) (ms : List Bytes) :
    Feed.applyOp r0 now (opSRem k ms) = some ((sremF now k ms).run r0 now).1 := by
  rw [opSRem, replica_srem, srem_eq]; rfl

theorem spopF_ok (key : Bytes) (count : Int) (choice : List Bytes) : (spopF key count choice).OK := by
  refine ⟨(fun h => nomatch h), (fun _ h => nomatch h), fun w e hg _ => ?_⟩
  cases w with
  | set st =>
    show (decSpop key count choice (.set st) e).GoodA
    unfold decSpop
    simp only
    split
    · trivial
    · split
      · exact good_srem choice st 0 hg
      · exact ⟨(fun w hw => by cases hw; exact good_srem choice st 0 hg), (fun e he => by cases he)⟩
  | _ => trivial

theorem spopF_nilSafe (key : Bytes) (count : Int) (choice : List Bytes) : (spopF key count choice).NilSafe := by
  apply nilSafe_of
  · intro v e hv
    cases v <;> simp_all [spopF, decSpop]
  · intro v0 h0; cases h0


theorem saddF_self (k : Bytes) (ms : List Bytes) : SelfRec now (saddF now k ms) (opSAdd k ms) := by
  refine ⟨rfl, fun r0 => applyOp_sadd r0 now k ms, fun w e => ?_, fun v0 h0 => by cases h0; rfl⟩
  cases w with
  | set st => exact Or.inr rfl
  | _ => exact Or.inl ⟨_, rfl⟩

theorem sremF_self (k : Bytes) (ms : List Bytes) : SelfRec now (sremF now k ms) (opSRem k ms) := by
  refine ⟨rfl, fun r0 => applyOp_srem r0 now k ms, fun w e => ?_, fun _ h0 => nomatch h0⟩
  cases w with
  | set st => exact Or.inr (by simp only [sremF, Cmd.form, decSrem]; split <;> rfl)
  | _ => exact Or.inl ⟨_, rfl⟩

theorem spop_echo {em : Out → List FeedOp → List FeedOp} (hem : ∀ o l, em o l = l) (k : Bytes) (count : Int)
    (choice : List Bytes) (L : Option (Val × Int)) : Echo now em (spopF k count choice) L := by
  refine echo_dec (hem _ _) fun w e hsee => ?_
  rw [hem]
  obtain rfl : L = some (w, e) := (TxForm.sees_cases hsee).resolve_right fun h => by cases h.2.1
  cases w with
  | set st =>
    by_cases hv : C03Api.spopValid st count choice = true
    · refine Or.inr ⟨opSRem k choice, sremF now k choice, ?_, rfl, Cmd.ok (.srem k choice) now trivial, rfl, rfl,
        fun r0 => applyOp_srem r0 now k choice, ?_⟩
      · simp only [spopF, decSpop, hv, Bool.not_true, Bool.false_eq_true, if_false]
        split <;> rfl
      · simp only [spopF, decSpop, sremF, Cmd.form, decSrem, hv, Bool.not_true, Bool.false_eq_true, if_false]
        by_cases hz : DsSet.scard (DsSet.srem st choice).1 = 0 <;> simp [hz, Act.post, Act.eff]
    · left
      simp [spopF, decSpop, hv, Act.ops, Act.post, Act.eff]
  | _ =>
    left
    simp [spopF, decSpop, Act.ops, Act.post, Act.eff]

end NodisVerif.Proofs.C20

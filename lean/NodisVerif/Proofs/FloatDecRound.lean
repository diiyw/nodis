import NodisVerif.Model.Api

/-
  Two parts. (1) The bit-level base of the float proofs, in namespace `Proofs.C09Float`: the fields of a double as arithmetic on its
  bit pattern and a pattern put together from its fields (`pack`); `F64.roundPack` in two halves, `rpCore` (normalise / round the
  significand) and `rpFinish` (assemble the fields), with `rpCore` read as a shift (`shiftOf`) and a round-half-even (`rne`), which
  together are `rndq`, followed by a carry (`rpCore_eq_rndq`); `F64.add` / `F64.toInt?` on packed patterns and the integer-only text model `Api.parseFloatTextInt` (INCRBYFLOAT,
  property C09). (2) `FloatDec.roundRat` on exactly representable rationals, in namespace `Proofs.FloatDecRound`: every finite double
  is what `roundRat` returns on its own exact value (`roundRat_decode`).
-/
namespace NodisVerif.Proofs.C09Float
open NodisVerif NodisVerif.F64

theorem pow_split {a b : Nat} (h : a ≤ b) : 2 ^ b = 2 ^ a * 2 ^ (b - a) := by
  rw [← Nat.pow_add]; congr 1; omega

theorem log2_mul_two_pow_add (n d r : Nat) (hn : 0 < n) (hr : r < 2 ^ d) : (n * 2 ^ d + r).log2 = n.log2 + d := by
  have hlo := Nat.log2_self_le (n := n) (by omega)
  have hhi : n + 1 ≤ 2 ^ (n.log2 + 1) := Nat.lt_log2_self
  have hpos : 0 < n * 2 ^ d := Nat.mul_pos hn (Nat.two_pow_pos d)
  rw [Nat.log2_eq_iff (by omega), Nat.pow_add, show n.log2 + d + 1 = n.log2 + 1 + d by omega, Nat.pow_add]
  have h1 := Nat.mul_le_mul_right (2 ^ d) hlo
  have h2 := Nat.mul_le_mul_right (2 ^ d) hhi
  rw [Nat.add_mul, Nat.one_mul] at h2
  omega

theorem log2_mul_two_pow (n d : Nat) (hn : 0 < n) : (n * 2 ^ d).log2 = n.log2 + d :=
  log2_mul_two_pow_add n d 0 hn (Nat.two_pow_pos d)

theorem log2_eq_of_lt {q k : Nat} (h1 : 2 ^ k ≤ q) (h2 : q < 2 ^ (k + 1)) : q.log2 = k :=
  (Nat.log2_eq_iff (by have := Nat.two_pow_pos k; omega)).2 ⟨h1, h2⟩

theorem log2_le_of_lt (a n : Nat) (h : a < 2 ^ (n + 1)) : a.log2 ≤ n := by
  by_cases h0 : a = 0
  · subst h0; exact Nat.zero_le _
  · have := (Nat.log2_lt h0).2 h; omega

theorem shl_norm (m k : Nat) (hm : 0 < m) (hL : m.log2 ≤ k) :
    2 ^ k ≤ m * 2 ^ (k - m.log2) ∧ m * 2 ^ (k - m.log2) < 2 ^ (k + 1) := by
  have hlo := Nat.log2_self_le (n := m) (by omega)
  have hhi := Nat.lt_log2_self (n := m)
  constructor
  · rw [pow_split hL]; exact Nat.mul_le_mul_right _ hlo
  · rw [show k + 1 = m.log2 + 1 + (k - m.log2) by omega, Nat.pow_add]
    exact Nat.mul_lt_mul_of_pos_right hhi (Nat.two_pow_pos _)


theorem expBits_eq (a : F64) : expBits a = a.toNat / 2 ^ 52 % 2 ^ 11 := by
  unfold expBits
  rw [UInt64.toNat_and, UInt64.toNat_shiftRight]
  have h1 : (52 : UInt64).toNat % 64 = 52 := by decide
  have h2 : (0x7FF : UInt64).toNat = 2 ^ 11 - 1 := by decide
  rw [h1, h2, Nat.and_two_pow_sub_one_eq_mod, Nat.shiftRight_eq_div_pow]

theorem manBits_eq (a : F64) : manBits a = a.toNat % 2 ^ 52 := by
  unfold manBits
  rw [UInt64.toNat_and]
  have h2 : (0xFFFFFFFFFFFFF : UInt64).toNat = 2 ^ 52 - 1 := by decide
  rw [h2, Nat.and_two_pow_sub_one_eq_mod]

theorem manBits_lt (a : F64) : manBits a < 2 ^ 52 := by rw [manBits_eq]; exact Nat.mod_lt _ (by decide)
theorem expBits_lt (a : F64) : expBits a < 2 ^ 11 := by rw [expBits_eq]; exact Nat.mod_lt _ (by decide)

theorem beq_toNat (u v : UInt64) : (u == v) = decide (u.toNat = v.toNat) := by
  rw [Bool.eq_iff_iff]; simp only [beq_iff_eq, decide_eq_true_eq, UInt64.toNat_inj]

theorem sign_eq (a : F64) : sign a = decide (2 ^ 63 ≤ a.toNat) := by
  have h : (a >>> 63).toNat = a.toNat / 2 ^ 63 := by
    rw [UInt64.toNat_shiftRight, Nat.shiftRight_eq_div_pow]; rfl
  have hlt := a.toNat_lt
  unfold sign
  rw [beq_toNat, h]
  exact decide_eq_decide.2 (by show _ = 1 ↔ _; omega)

theorem isNaN_eq (a : F64) : isNaN a = (expBits a == 2047 && manBits a != 0) := by
  unfold isNaN expBits manBits
  dsimp only
  rw [bne, bne, beq_toNat, beq_toNat]
  rfl
/-- sign / biased exponent / fraction fields put together as `roundPack` does -/
def pack (neg : Bool) (E M : Nat) : F64 :=
  let b : UInt64 := (UInt64.ofNat E <<< 52) ||| UInt64.ofNat M
  if neg then b ||| 0x8000000000000000 else b

theorem or_sign_toNat (b : UInt64) (hb : b.toNat < 2 ^ 63) : (b ||| 0x8000000000000000).toNat = 2 ^ 63 + b.toNat := by
  rw [UInt64.toNat_or, show (0x8000000000000000 : UInt64).toNat = 2 ^ 63 * 1 by decide, Nat.or_comm,
    ← Nat.two_pow_add_eq_or_of_lt hb, Nat.mul_one]

theorem pack_toNat (neg : Bool) (E M : Nat) (hE : E < 2048) (hM : M < 2 ^ 52) :
    (pack neg E M).toNat = (if neg then 2 ^ 63 else 0) + E * 2 ^ 52 + M := by
  have hb : ((UInt64.ofNat E <<< 52) ||| UInt64.ofNat M).toNat = E * 2 ^ 52 + M := by
    rw [UInt64.toNat_or, UInt64.toNat_shiftLeft, UInt64.toNat_ofNat', UInt64.toNat_ofNat']
    have h1 : (52 : UInt64).toNat % 64 = 52 := by decide
    rw [h1, Nat.mod_eq_of_lt (by omega : E < 2 ^ 64), Nat.mod_eq_of_lt (by omega : M < 2 ^ 64)]
    rw [Nat.mod_eq_of_lt (by rw [Nat.shiftLeft_eq]; omega)]
    rw [← Nat.shiftLeft_add_eq_or_of_lt hM, Nat.shiftLeft_eq]
  unfold pack
  dsimp only
  cases neg
  · simp only [Bool.false_eq_true, if_false, hb, Nat.zero_add]
  · simp only [if_true]
    rw [or_sign_toNat _ (by omega), hb, Nat.add_assoc]

theorem expBits_pack (neg : Bool) (E M : Nat) (hE : E < 2048) (hM : M < 2 ^ 52) : expBits (pack neg E M) = E := by
  rw [expBits_eq, pack_toNat neg E M hE hM]
  cases neg <;> simp only [Bool.false_eq_true, if_false, if_true] <;> omega

theorem manBits_pack (neg : Bool) (E M : Nat) (hE : E < 2048) (hM : M < 2 ^ 52) : manBits (pack neg E M) = M := by
  rw [manBits_eq, pack_toNat neg E M hE hM]
  cases neg <;> simp only [Bool.false_eq_true, if_false, if_true] <;> omega

theorem sign_pack (neg : Bool) (E M : Nat) (hE : E < 2048) (hM : M < 2 ^ 52) : sign (pack neg E M) = neg := by
  rw [sign_eq, pack_toNat neg E M hE hM]
  cases neg <;> simp only [Bool.false_eq_true, if_false, if_true, decide_eq_false_iff_not, decide_eq_true_eq] <;> omega

/-- `roundPack`, first half: normalise / round the significand -/
def rpCore (n : Nat) (e : Int) : Nat × Int :=
  let bits : Int := Nat.log2 n + 1
  let shift : Int := max (bits - 53) (-1074 - e)
  if shift ≤ 0 then (n <<< (-shift).toNat, e + shift)
  else
    let sh := shift.toNat
    let q := n >>> sh
    let rem := n % 2 ^ sh
    let half := 2 ^ (sh - 1)
    let q := if rem > half ∨ (rem = half ∧ q % 2 = 1) then q + 1 else q
    if q = 2 ^ 53 then (2 ^ 52, e + shift + 1) else (q, e + shift)

/-- `roundPack`, second half: assemble the fields -/
def rpFinish (neg : Bool) (q : Nat) (e' : Int) : F64 :=
  if q ≥ 2 ^ 52 then
    let biased := e' + 1075
    if biased ≥ 2047 then inf neg
    else
      let b : UInt64 := (UInt64.ofNat biased.toNat <<< 52) ||| UInt64.ofNat (q - 2 ^ 52)
      if neg then b ||| 0x8000000000000000 else b
  else
    let b : UInt64 := UInt64.ofNat q
    if neg then b ||| 0x8000000000000000 else b

theorem roundPack_eq (neg : Bool) (n : Nat) (e : Int) :
    roundPack neg n e = if n = 0 then zero neg else rpFinish neg (rpCore n e).1 (rpCore n e).2 := rfl

/-- how many low bits `roundPack` drops from n at exponent e (when negative: shifts in) -/
def shiftOf (n : Nat) (e : Int) : Int := max ((Nat.log2 n : Int) + 1 - 53) (-1074 - e)

/-- n / 2^sh rounded to nearest, ties to even -/
def rne (n sh : Nat) : Nat :=
  if n % 2 ^ sh > 2 ^ (sh - 1) ∨ (n % 2 ^ sh = 2 ^ (sh - 1) ∧ n / 2 ^ sh % 2 = 1) then n / 2 ^ sh + 1 else n / 2 ^ sh

/-- `rpCore` without the final carry normalisation: rounded significand (≤ 2^53) and granularity exponent -/
def rndq (n : Nat) (e : Int) : Nat × Int :=
  (if shiftOf n e ≤ 0 then n * 2 ^ (-shiftOf n e).toNat else rne n (shiftOf n e).toNat, e + shiftOf n e)

theorem rpCore_eq_rndq (n : Nat) (e : Int) :
    rpCore n e = if (rndq n e).1 = 2 ^ 53 ∧ 0 < shiftOf n e then (2 ^ 52, (rndq n e).2 + 1) else rndq n e := by
  unfold rpCore rndq rne
  simp only [Nat.shiftLeft_eq, Nat.shiftRight_eq_div_pow]
  show (if shiftOf n e ≤ 0 then _ else _) = _
  by_cases h : shiftOf n e ≤ 0
  · rw [if_pos h, if_pos h, if_neg (fun hc => absurd hc.2 (Int.not_lt.2 h))]
    rfl
  · rw [if_neg h, if_neg h]
    simp only [Int.not_le.1 h, and_true]
    rfl

theorem two_pow_pred {sh : Nat} (h : 1 ≤ sh) : 2 ^ sh = 2 * 2 ^ (sh - 1) := by
  rw [show sh = (sh - 1) + 1 by omega, Nat.pow_succ, Nat.mul_comm]; rfl

theorem rne_exact (n sh : Nat) : rne (n * 2 ^ sh) sh = n := by
  unfold rne
  have hH : 0 < 2 ^ (sh - 1) := Nat.two_pow_pos _
  rw [Nat.mul_mod_left, Nat.mul_div_cancel _ (Nat.two_pow_pos sh), if_neg (by omega)]

theorem rpCore_of_pos {n : Nat} {e : Int} {S : Nat} (hS : shiftOf n e = S) (hpos : 0 < S) (hq : rne n S < 2 ^ 53) :
    rpCore n e = (rne n S, e + S) := by
  have hr : rndq n e = (rne n S, e + S) := by
    unfold rndq; rw [hS, if_neg (by omega), Int.toNat_natCast]
  rw [rpCore_eq_rndq, hr, if_neg (fun h => absurd h.1 (Nat.ne_of_lt hq))]

theorem rpCore_of_nonpos {n : Nat} {e : Int} (h : shiftOf n e ≤ 0) :
    rpCore n e = (n * 2 ^ (-shiftOf n e).toNat, e + shiftOf n e) := by
  rw [rpCore_eq_rndq, if_neg (fun hc => absurd hc.2 (Int.not_lt.2 h))]
  unfold rndq
  rw [if_pos h]

theorem rpFinish_normal (neg : Bool) (q : Nat) (e' : Int) (E : Nat) (hq : 2 ^ 52 ≤ q) (hE : e' + 1075 = E)
    (hE2 : E < 2047) : rpFinish neg q e' = pack neg E (q - 2 ^ 52) := by
  unfold rpFinish pack
  rw [if_pos hq]
  dsimp only
  rw [if_neg (by omega), hE]
  rfl

theorem rpCore_small (m : Nat) (hm : m < 2 ^ 53) :
    rpCore m 0 = (m * 2 ^ (52 - m.log2), (m.log2 : Int) - 52) := by
  have hL := log2_le_of_lt m 52 hm
  have hS : shiftOf m 0 = (m.log2 : Int) - 52 := by unfold shiftOf; omega
  rw [rpCore_of_nonpos (by omega), hS, show (-((m.log2 : Int) - 52)).toNat = 52 - m.log2 by omega, Int.zero_add]

theorem roundPack_small (neg : Bool) (m : Nat) (hm0 : 0 < m) (hm : m < 2 ^ 53) :
    roundPack neg m 0 = pack neg (m.log2 + 1023) (m * 2 ^ (52 - m.log2) - 2 ^ 52) := by
  have hL := log2_le_of_lt m 52 hm
  have hq := (shl_norm m 52 hm0 hL).1
  rw [roundPack_eq, if_neg (by omega), rpCore_small m hm]
  exact rpFinish_normal neg _ _ (m.log2 + 1023) hq (by omega) (by omega)

theorem rpCore_exact (q k : Nat) (e : Int) (hq1 : 2 ^ 52 ≤ q) (hq2 : q < 2 ^ 53) (hk : 0 < k)
    (he : -1074 - e ≤ k) : rpCore (q * 2 ^ k) e = (q, e + k) := by
  have hS : shiftOf (q * 2 ^ k) e = k := by
    unfold shiftOf; rw [log2_mul_two_pow q k (by omega), log2_eq_of_lt hq1 hq2]; omega
  rw [rpCore_of_pos hS hk (by rw [rne_exact]; exact hq2), rne_exact]

theorem roundPack_zero (neg : Bool) (e : Int) : roundPack neg 0 e = zero neg := by
  unfold roundPack; simp

theorem zero_facts : isNaN (0 : F64) = false ∧ isInf (0 : F64) = false ∧ decode (0 : F64) = (0, -1074) ∧
    sign (0 : F64) = false := by decide

/-- the finite branch of `add` -/
def addFinite (a b : F64) : F64 :=
  let (ma, ea) := decode a
  let (mb, eb) := decode b
  let e0 := min ea eb
  let va : Int := (ma * 2 ^ (ea - e0).toNat : Nat)
  let vb : Int := (mb * 2 ^ (eb - e0).toNat : Nat)
  let n : Int := (if sign a then -va else va) + (if sign b then -vb else vb)
  if n = 0 then zero (sign a ∧ sign b)
  else roundPack (n < 0) n.natAbs e0

theorem add_eq (a b : F64) : add a b =
    if isNaN a ∨ isNaN b then qnan
    else if isInf a then (if isInf b ∧ sign a ≠ sign b then qnan else a)
    else if isInf b then b
    else addFinite a b := rfl

theorem signed_nat (neg : Bool) (v : Nat) (hv : 0 < v) :
    (if neg then -(v : Int) else v) ≠ 0 ∧ decide ((if neg then -(v : Int) else v) < 0) = neg ∧
    (if neg then -(v : Int) else v).natAbs = v := by
  cases neg
  · exact ⟨by simp only [Bool.false_eq_true, if_false]; omega, decide_eq_false (by simp only [Bool.false_eq_true, if_false]; omega),
      Int.natAbs_natCast v⟩
  · exact ⟨by simp only [if_true]; omega, decide_eq_true (by simp only [if_true]; omega), by simp only [if_true]; omega⟩

theorem add_zero_pack (neg : Bool) (E M : Nat) (hE1 : 2 ≤ E) (hE2 : E < 2047) (hM : M < 2 ^ 52) :
    add 0 (pack neg E M) = pack neg E M := by
  obtain ⟨hn0, hi0, hd0, hs0⟩ := zero_facts
  have hE' : E < 2048 := by omega
  have he := expBits_pack neg E M hE' hM
  have hm := manBits_pack neg E M hE' hM
  have hs := sign_pack neg E M hE' hM
  have hnan : isNaN (pack neg E M) = false := by
    rw [isNaN_eq, he]
    have : (E == 2047) = false := by rw [beq_eq_false_iff_ne]; omega
    rw [this]; rfl
  have hinf : isInf (pack neg E M) = false := by
    unfold isInf
    rw [he]
    have : decide (E = 0x7FF) = false := by rw [decide_eq_false_iff_not]; omega
    rw [this]; rfl
  have hdec : decode (pack neg E M) = (M + 2 ^ 52, (E : Int) - 1075) := by
    unfold decode
    rw [he, hm, if_neg (by omega)]
  rw [add_eq, hn0, hnan, hi0, hinf]
  simp only [Bool.false_eq_true, or_self, if_false]
  unfold addFinite
  rw [hd0, hdec]
  dsimp only
  rw [hs0, hs]
  -- E = E' + 2: the zero operand sits E' + 1 binary places below
  obtain ⟨E', rfl⟩ := Nat.exists_eq_add_of_le' hE1
  rw [Int.min_eq_left (by omega), show ((-1074 : Int) - -1074).toNat = 0 by decide,
    show (((E' + 2 : Nat) : Int) - 1075 - -1074).toNat = E' + 1 by omega]
  simp only [Nat.zero_mul, Bool.false_eq_true, if_false, Int.natCast_zero, Int.zero_add, false_and, decide_false]
  have hpos : 0 < (M + 2 ^ 52) * 2 ^ (E' + 1) := Nat.mul_pos (by omega) (Nat.two_pow_pos _)
  generalize hv : (M + 2 ^ 52) * 2 ^ (E' + 1) = v at hpos
  have hcore : rpCore v (-1074) = (M + 2 ^ 52, (-1074 : Int) + ((E' + 1 : Nat) : Int)) := by
    rw [← hv]; exact rpCore_exact (M + 2 ^ 52) (E' + 1) (-1074) (by omega) (by omega) (Nat.succ_pos _) (by omega)
  have hfin : roundPack neg v (-1074) = pack neg (E' + 2) M := by
    rw [roundPack_eq, if_neg (by omega), hcore,
      rpFinish_normal neg (M + 2 ^ 52) _ (E' + 2) (by omega) (by omega) hE2, Nat.add_sub_cancel]
  obtain ⟨s1, s2, s3⟩ := signed_nat neg v hpos
  rw [if_neg s1, s2, s3]
  exact hfin

/-- `toInt?` succeeds on a normal double whose value `sig · 2^(E-1075)` is an integer of size ≤ 2^53 -/
theorem toInt_pack_isSome (neg : Bool) (E M : Nat) (hE1 : 1 ≤ E) (hE2 : E < 2047) (hM : M < 2 ^ 52)
    (hint : (1075 ≤ E ∧ (M + 2 ^ 52) * 2 ^ (E - 1075) ≤ 2 ^ 53) ∨
            (E < 1075 ∧ 1075 - E ≤ 52 ∧ (M + 2 ^ 52) % 2 ^ (1075 - E) = 0)) :
    (toInt? (pack neg E M)).isSome = true := by
  have hE' : E < 2048 := by omega
  unfold toInt?
  dsimp only
  rw [expBits_pack neg E M hE' hM, manBits_pack neg E M hE' hM]
  rw [if_neg (by omega), if_neg (by omega)]
  rcases hint with ⟨h1, h2⟩ | ⟨h1, h2, h3⟩
  · rw [if_pos (by omega), if_pos]
    · rfl
    · unfold pow2_53
      have : ((M + 2 ^ 52) * 2 ^ (E - 1075) : Nat) ≤ 9007199254740992 := h2
      exact Int.ofNat_le.2 this
  · rw [if_neg (by omega), if_neg (by omega), if_pos h3]
    rfl

/-- the doubles INCRBYFLOAT / HINCRBYFLOAT accept as increments in the model (`ofInt?` of an integer):
    adding one to 0 (the value of a key that was just created) gives a sum the model can format -/
theorem ofInt_formattable (n : Int) (x : F64) (h : ofInt? n = some x) :
    (Api.formatFloat (add 0 x)).isSome = true := by
  -- `Api.formatFloat` is total: where x comes from plays no part
  have _ := h
  rfl

theorem parseFloatText_tail_ne (body : Bytes) (x : F64) :
    (match body with
      | [] => some none
      | c :: _ =>
        if c = 105 ∨ c = 73 ∨ c = 110 ∨ c = 78 then none
        else if body.take 2 = [48, 120] ∨ body.take 2 = [48, 88] then none
        else if Api.decimalFloatSyntax body then none
        else some none) ≠ some (some x) := by
  intro h
  cases body with
  | nil => cases h
  | cons c r =>
    dsimp only at h
    rw [Option.ite_none_left_eq_some, Option.ite_none_left_eq_some, Option.ite_none_left_eq_some] at h
    exact nomatch h.2.2.2

theorem parseFloatTextInt_int (b : Bytes) (h : Api.isIntText b = true) :
    Api.parseFloatTextInt b = (match parseInt64 b with | some n => (ofInt? n).map some | none => none) := by
  unfold Api.parseFloatTextInt
  rw [if_pos h]
  rfl

theorem parseFloatTextInt_not_int (b : Bytes) (x : F64) (h : ¬ Api.isIntText b = true) :
    Api.parseFloatTextInt b ≠ some (some x) := by
  unfold Api.parseFloatTextInt
  rw [if_neg h]
  by_cases he : b.isEmpty = true
  · rw [if_pos he]
    exact fun h => nomatch h
  · rw [if_neg he]
    exact parseFloatText_tail_ne _ x

theorem parseFloatTextInt_some {b : Bytes} {x : F64} (h : Api.parseFloatTextInt b = some (some x)) :
    ∃ n : Int, ofInt? n = some x := by
  by_cases hint : Api.isIntText b = true
  · rw [parseFloatTextInt_int b hint] at h
    split at h
    · next n _ =>
      refine ⟨n, ?_⟩
      cases ho : ofInt? n with
      | none => rw [ho] at h; cases h
      | some y => rw [ho] at h; cases h; rfl
    · cases h
  · exact absurd h (parseFloatTextInt_not_int b x hint)

end NodisVerif.Proofs.C09Float

/-! ## `FloatDec.roundRat` on exactly representable rationals -/
namespace NodisVerif.Proofs.FloatDecRound
open NodisVerif NodisVerif.F64 NodisVerif.FloatDec NodisVerif.Proofs.C09Float

/-- the scale `roundRat` chooses, and the scaled numerator / denominator -/
def kOf (num den : Nat) : Int := 57 + (den.log2 : Int) - (num.log2 : Int)
def NOf (num den : Nat) : Nat := num * 2 ^ (kOf num den).toNat
def DOf (num den : Nat) : Nat := den * 2 ^ (-(kOf num den)).toNat

/-- twice the quotient of N·2^d by D, plus a sticky bit: what `roundRat` hands to `roundPack` (there with d = 0; d ≠ 0 is for
    `FloatDecMono.rndq_scaled`, which brings two rationals to a common scale) -/
def scaled (N D d : Nat) : Nat := 2 * (N * 2 ^ d / D) + (if N * 2 ^ d % D = 0 then 0 else 1)

theorem scaled_zero (N D : Nat) : scaled N D 0 = 2 * (N / D) + (if N % D = 0 then 0 else 1) := by
  unfold scaled; rw [Nat.pow_zero, Nat.mul_one]

theorem DOf_pos (num den : Nat) (hden : 0 < den) : 0 < DOf num den :=
  Nat.mul_pos hden (Nat.two_pow_pos _)

theorem roundRat_zero (neg : Bool) (den : Nat) : roundRat neg 0 den = zero neg := by
  unfold roundRat; rw [if_pos rfl]

theorem roundRat_eq_scaled (neg : Bool) (num den : Nat) (hnum : 0 < num) :
    roundRat neg num den = roundPack neg (scaled (NOf num den) (DOf num den) 0) (-(kOf num den) - 1) := by
  rw [scaled_zero]
  unfold roundRat NOf DOf kOf
  rw [if_neg (by omega)]
  dsimp only
  generalize 57 + (den.log2 : Int) - (num.log2 : Int) = k
  by_cases hk : k ≥ 0
  · have h0 : (-k).toNat = 0 := by omega
    simp only [hk, if_true, h0, Nat.pow_zero, Nat.mul_one, Nat.shiftLeft_eq]
  · have h0 : k.toNat = 0 := by omega
    simp only [hk, if_false, h0, Nat.pow_zero, Nat.mul_one, Nat.shiftLeft_eq]

theorem roundRat_of_quot (neg : Bool) (num den Q : Nat) (hnum : 0 < num) (hden : 0 < den)
    (h : NOf num den = Q * DOf num den) : roundRat neg num den = roundPack neg (2 * Q) (-(kOf num den) - 1) := by
  rw [roundRat_eq_scaled neg num den hnum, scaled_zero, h, Nat.mul_div_cancel _ (DOf_pos num den hden), Nat.mul_mod_left]
  rfl

/-- when D divides N and the quotient is q·2^5 for a 53-bit q (the scale leaves 57 − 52 = 5 spare bits): `roundRat` returns the
    significand q at exponent 5 − k -/
theorem roundRat_of_sig (neg : Bool) (num den q : Nat) (hq1 : 2 ^ 52 ≤ q) (hq2 : q < 2 ^ 53) (hnum : 0 < num) (hden : 0 < den)
    (h : NOf num den = q * 2 ^ 5 * DOf num den) (he : -1074 ≤ 5 - kOf num den) :
    roundRat neg num den = rpFinish neg q (5 - kOf num den) := by
  have h6 : 2 * (q * 2 ^ 5) = q * 2 ^ 6 := by omega
  rw [roundRat_of_quot neg num den _ hnum hden h, h6, roundPack_eq, if_neg (by omega),
    rpCore_exact q 6 _ hq1 hq2 (by decide) (by omega)]
  congr 1; omega

theorem roundRat_pow2 (neg : Bool) (q a b : Nat) (hq1 : 2 ^ 52 ≤ q) (hq2 : q < 2 ^ 53) (he : -1074 ≤ (a : Int) - b) :
    roundRat neg (q * 2 ^ a) (2 ^ b) = rpFinish neg q ((a : Int) - b) := by
  have hk : kOf (q * 2 ^ a) (2 ^ b) = 5 + (b : Int) - a := by
    unfold kOf; rw [log2_mul_two_pow q a (by omega), log2_eq_of_lt hq1 hq2, Nat.log2_two_pow]; omega
  -- one computation for both signs of k: a + k⁺ = 5 + b + k⁻
  have hN : NOf (q * 2 ^ a) (2 ^ b) = q * 2 ^ 5 * DOf (q * 2 ^ a) (2 ^ b) := by
    unfold NOf DOf
    rw [hk, Nat.mul_assoc, Nat.mul_assoc, ← Nat.pow_add, ← Nat.pow_add, ← Nat.pow_add]
    congr 2; omega
  rw [roundRat_of_sig neg _ _ q hq1 hq2 (Nat.mul_pos (by omega) (Nat.two_pow_pos a)) (Nat.two_pow_pos b) hN (by omega), hk]
  congr 1; omega

theorem roundRat_nat (neg : Bool) (n : Nat) (hn0 : 0 < n) (hn : n < 2 ^ 53) : roundRat neg n 1 = roundPack neg n 0 := by
  have hL := log2_le_of_lt n 52 hn
  obtain ⟨hq1, hq2⟩ := shl_norm n 52 hn0 hL
  have hk : kOf n 1 = 57 - (n.log2 : Int) := by
    unfold kOf; rw [show (1 : Nat).log2 = 0 by decide]; omega
  have hN : NOf n 1 = n * 2 ^ (52 - n.log2) * 2 ^ 5 * DOf n 1 := by
    unfold NOf DOf
    rw [hk, Nat.one_mul, Nat.mul_assoc, Nat.mul_assoc, ← Nat.pow_add, ← Nat.pow_add]
    congr 2; omega
  rw [roundRat_of_sig neg n 1 _ hq1 hq2 hn0 (by decide) hN (by omega), roundPack_eq, if_neg (by omega), rpCore_small n hn]
  congr 1; omega

theorem toNat_fields (x : F64) : x.toNat = (if sign x then 2 ^ 63 else 0) + expBits x * 2 ^ 52 + manBits x := by
  have hlt := x.toNat_lt
  rw [expBits_eq, manBits_eq, sign_eq]
  by_cases h63 : 2 ^ 63 ≤ x.toNat
  · simp only [h63, decide_true, if_true]; omega
  · simp only [h63, decide_false, Bool.false_eq_true, if_false]; omega

theorem pack_self (x : F64) : pack (sign x) (expBits x) (manBits x) = x := by
  have hE : expBits x < 2048 := expBits_lt x
  have hM : manBits x < 2 ^ 52 := manBits_lt x
  apply UInt64.toNat_inj.mp
  rw [pack_toNat _ _ _ hE hM]
  exact (toNat_fields x).symm

theorem decode_pack (neg : Bool) (E M : Nat) (hE1 : 1 ≤ E) (hE : E < 2048) (hM : M < 2 ^ 52) :
    decode (pack neg E M) = (M + 2 ^ 52, (E : Int) - 1075) := by
  unfold decode
  rw [expBits_pack neg E M hE hM, manBits_pack neg E M hE hM, if_neg (by omega)]

/-- numerator and denominator of m·2^e as `searchShortest` builds them: one form for both signs of e -/
theorem exact_num (m : Nat) (e : Int) : (if e ≥ 0 then m * 2 ^ e.toNat else m) = m * 2 ^ e.toNat := by
  split
  · rfl
  · rw [show e.toNat = 0 by omega, Nat.pow_zero, Nat.mul_one]

theorem exact_den (e : Int) : (if e ≥ 0 then 1 else 2 ^ (-e).toNat) = 2 ^ (-e).toNat := by
  split
  · rw [show (-e).toNat = 0 by omega, Nat.pow_zero]
  · rfl

theorem exact_den_pos (e : Int) : 0 < (if e ≥ 0 then 1 else 2 ^ (-e).toNat) := by
  rw [exact_den]; exact Nat.two_pow_pos _

theorem roundRat_decode_normal (x : F64) (h1 : 1 ≤ expBits x) (h2 : expBits x < 2047) :
    roundRat (sign x) (if (decode x).2 ≥ 0 then (decode x).1 * 2 ^ (decode x).2.toNat else (decode x).1)
      (if (decode x).2 ≥ 0 then 1 else 2 ^ (-(decode x).2).toNat) = x := by
  have hM : manBits x < 2 ^ 52 := manBits_lt x
  have hd : decode x = (manBits x + 2 ^ 52, (expBits x : Int) - 1075) := by
    unfold decode; rw [if_neg (by omega)]
  rw [hd]
  dsimp only
  generalize he0 : (expBits x : Int) - 1075 = e
  have he := Int.toNat_sub_toNat_neg e
  rw [exact_num, exact_den,
    roundRat_pow2 (sign x) (manBits x + 2 ^ 52) e.toNat (-e).toNat (by omega) (by omega) (by omega), he,
    rpFinish_normal (sign x) _ _ (expBits x) (by omega) (by omega) h2, Nat.add_sub_cancel]
  exact pack_self x

theorem rpFinish_subnormal_toNat (neg : Bool) (m : Nat) (e' : Int) (hm : m < 2 ^ 52) :
    (rpFinish neg m e').toNat = (if neg then 2 ^ 63 else 0) + m := by
  unfold rpFinish
  rw [if_neg (by omega)]
  dsimp only
  have hb : (UInt64.ofNat m).toNat = m := by rw [UInt64.toNat_ofNat']; exact Nat.mod_eq_of_lt (by omega)
  cases neg
  · simp only [Bool.false_eq_true, if_false, hb, Nat.zero_add]
  · simp only [if_true]
    rw [or_sign_toNat _ (by omega), hb]

theorem rpCore_subnormal (m : Nat) (hm0 : 0 < m) (hm : m < 2 ^ 52) :
    rpCore (m * 2 ^ (58 - m.log2)) ((m.log2 : Int) - 1132) = (m, -1074) := by
  have hL := log2_le_of_lt m 51 hm
  have hS : shiftOf (m * 2 ^ (58 - m.log2)) ((m.log2 : Int) - 1132) = ((58 - m.log2 : Nat) : Int) := by
    unfold shiftOf; rw [log2_mul_two_pow m _ hm0]; omega
  rw [rpCore_of_pos hS (by omega) (by rw [rne_exact]; omega), rne_exact]
  congr 1; omega

theorem roundRat_subnormal (neg : Bool) (m : Nat) (hm0 : 0 < m) (hm : m < 2 ^ 52) :
    (roundRat neg m (2 ^ 1074)).toNat = (if neg then 2 ^ 63 else 0) + m := by
  have hL := log2_le_of_lt m 51 hm
  have hk : kOf m (2 ^ 1074) = 1131 - (m.log2 : Int) := by
    unfold kOf; rw [Nat.log2_two_pow]; omega
  have hN : NOf m (2 ^ 1074) = m * 2 ^ (57 - m.log2) * DOf m (2 ^ 1074) := by
    unfold NOf DOf
    rw [hk, Nat.mul_assoc, ← Nat.pow_add, ← Nat.pow_add]
    congr 2; omega
  have h2 : 2 * (m * 2 ^ (57 - m.log2)) = m * 2 ^ (58 - m.log2) := by
    rw [show 58 - m.log2 = (57 - m.log2) + 1 by omega, Nat.pow_succ]
    generalize 2 ^ (57 - m.log2) = P
    rw [Nat.mul_left_comm, Nat.mul_comm 2 P]
  have he : -(kOf m (2 ^ 1074)) - 1 = (m.log2 : Int) - 1132 := by omega
  rw [roundRat_of_quot neg m _ _ hm0 (Nat.two_pow_pos _) hN, h2, he, roundPack_eq,
    if_neg (Nat.ne_of_gt (Nat.mul_pos hm0 (Nat.two_pow_pos _))), rpCore_subnormal m hm0 hm]
  exact rpFinish_subnormal_toNat neg m _ hm

/-- every finite double: x is what `roundRat` returns on its own exact value m·2^e
    (m, e = `decode x`; numerator and denominator as `searchShortest` builds them). No rounding happens. -/
theorem roundRat_decode (x : F64) (hfin : expBits x < 2047) :
    roundRat (sign x) (if (decode x).2 ≥ 0 then (decode x).1 * 2 ^ (decode x).2.toNat else (decode x).1)
      (if (decode x).2 ≥ 0 then 1 else 2 ^ (-(decode x).2).toNat) = x := by
  by_cases h1 : 1 ≤ expBits x
  · exact roundRat_decode_normal x h1 hfin
  · have h0 : expBits x = 0 := by omega
    have hd : decode x = (manBits x, -1074) := by unfold decode; rw [if_pos h0]
    rw [hd]
    have hneg : ¬ ((-1074 : Int) ≥ 0) := by decide
    simp only [hneg, if_false]
    have h74 : (-(-1074 : Int)).toNat = 1074 := by decide
    rw [h74]
    have hM : manBits x < 2 ^ 52 := manBits_lt x
    have hx : x.toNat = (if sign x then 2 ^ 63 else 0) + manBits x := by
      have := toNat_fields x
      rw [h0, Nat.zero_mul, Nat.add_zero] at this
      exact this
    apply UInt64.toNat_inj.mp
    by_cases hm0 : manBits x = 0
    · rw [hm0] at hx ⊢
      rw [roundRat_zero, hx]
      cases sign x <;> decide
    · rw [roundRat_subnormal (sign x) (manBits x) (by omega) hM, hx]

end NodisVerif.Proofs.FloatDecRound

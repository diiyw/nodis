import NodisVerif.Proofs.C09Changed
import NodisVerif.Proofs.C09Run
/-
  C09 — "some step CHANGED k" implies "some step SIGNALLED k" along a schedule, for tables whose
  closures signal what they change.
-/
namespace NodisVerif.Proofs.C08Step
open Resp Server
open NodisVerif.Proofs.C09Writers

theorem SomeStep.imp_inv (H : Table) {P Q : Server → Cmd → Prop} (I : Server → Prop)
    (hI : ∀ s m, I s → I (step H s m).1) (hpq : ∀ s m, I s → P s m → Q s m) :
    ∀ (ms : List Cmd) (s : Server), I s → SomeStep H P s ms → SomeStep H Q s ms := by
  intro ms
  induction ms with
  | nil => intro _ _ h; exact h
  | cons m rest ih =>
    intro s hs h
    rcases h with h | h
    · exact Or.inl (hpq s m hs h)
    · exact Or.inr (ih _ (hI s m hs) h)

def SigInv (s : Server) : Prop := QueuesSignal s ∧ s.store.pebble = true

theorem SigInv.step {H : Table} (hH : TableSignals H) {s : Server} (h : SigInv s) (m : Cmd) : SigInv (step H s m).1 :=
  ⟨h.1.step hH m, (step_changed_touches hH h.1 h.2 m).1⟩

theorem SigInv.run {H : Table} (hH : TableSignals H) : ∀ (ms : List Cmd) {s : Server}, SigInv s → SigInv (run H s ms).1 := by
  intro ms; induction ms with
  | nil => intro s h; exact h
  | cons m rest ih => intro s h; exact ih (h.step hH m)

theorem someStep_changed_touches {H : Table} (hH : TableSignals H) (k : Bytes) (ms : List Cmd) (s : Server) (hs : SigInv s)
    (h : SomeStep H (fun s m => changed s.store (step H s m).1.store k) s ms) :
    SomeStep H (fun s m => stepTouches H s m k) s ms :=
  SomeStep.imp_inv H SigInv (fun _ m hs => hs.step hH m)
    (fun _ m hs hc => (step_changed_touches hH hs.1 hs.2 m).2 k hc) ms s hs h

end NodisVerif.Proofs.C08Step

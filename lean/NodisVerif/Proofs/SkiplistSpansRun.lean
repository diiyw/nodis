import NodisVerif.Proofs.SkiplistRun
/-
  The span discipline of links that end in nil:
  below `skiplist.level`, a link whose forward is nil carries span = length − position of its node (the number of
  nodes behind it), as in Redis. Levels of the header at or above `skiplist.level` are not constrained: `removeNode`
  leaves stale spans there when the level shrinks and `insert` overwrites them (`update[i].level[i].span =
  skiplist.length`) when the level grows again. Level by level the discipline is the clause `ns = some length` of `LevelNs`
  (Proofs/SkiplistLevel.lean).
-/
namespace NodisVerif.Skiplist
open NodisVerif.DsZSet (Item nodeLt)
open NodisVerif.Proofs.C04 (ILt)
open NodisVerif.Proofs.ZSetLemmas (Good)

/-- every nil link below `sl.level` spans the rest of the list -/
def NilSpans (sl : SL) (c : List Nat) : Prop :=
  ∀ (A : List Nat) (u : Nat) (B : List Nat), 0 :: c = A ++ u :: B →
    ∀ (i : Nat) (l : Level), i < sl.level → getLevel sl.heap u i = .ok l → l.forward = none →
      l.span = sl.length - (A.length : Int)

/-- the full invariant: structure (`IsChain`) and the span discipline of nil links -/
def InvSpans (sl : SL) : Prop := ∃ c, IsChain sl c ∧ NilSpans sl c

theorem InvSpans.inv {sl : SL} (h : InvSpans sl) : Inv sl := by
  obtain ⟨c, hc, _⟩ := h
  exact ⟨c, hc⟩

theorem levels_of_nilSpans {sl : SL} {c : List Nat} (hl : Linked sl.heap (0 :: c)) (hn : NilSpans sl c) (j : Nat)
    (hj : j < sl.level) : LevelNs (some sl.length) (above sl.heap j) (lv sl.heap · j) (0 :: c) := fun A n B l hs hlv =>
  ⟨((linked_iff_split _ _).1 hl A n B hs j l hlv).1, ((linked_iff_split _ _).1 hl A n B hs j l hlv).2,
    fun _ hlen hf => by cases hlen; exact hn A n B hs j l hj ((getLevel_eq_lv _ _ _ _).2 hlv) hf⟩

theorem nilSpans_of_levels {sl : SL} {c : List Nat}
    (h : ∀ j, j < sl.level → LevelNs (some sl.length) (above sl.heap j) (lv sl.heap · j) (0 :: c)) : NilSpans sl c :=
  fun A u B hs i l hi hgl hf => (h i hi A u B l hs ((getLevel_eq_lv _ _ _ _).1 hgl)).2.2 _ rfl hf

section
open Unlink

theorem removeNode_nilSpans {sl : SL} {c : List Nat} (hc : IsChain sl c) (hn : NilSpans sl c) (A : List Nat) (n : Nat)
    (B : List Nat) (hsplit : c = A ++ n :: B) (update : List (Option Nat))
    (hupd : UpdateFor sl.heap sl.level (0 :: A) update) (sl' : SL) (hr : removeNode sl n update = .ok sl') :
    NilSpans sl' (A ++ B) := by
  subst hsplit
  obtain ⟨sl'', hr'', _, hfr, hlevel, hlen, hlv, _⟩ := removeNode_desc hc update hupd
  rw [hr] at hr''
  cases hr''
  apply nilSpans_of_levels
  intro j hj
  rw [hlen]
  exact level_remove hc.nodup hc.hle hupd hfr.ht hlv (some sl.length) j (Or.inr (by omega))
    (levels_of_nilSpans hc.linked hn j (by omega))

end

theorem makeSkiplist_invSpans : InvSpans makeSkiplist := by
  refine ⟨[], makeSkiplist_isChain, ?_⟩
  intro A u B hsp i l _ hl _
  have hA : A = [] ∧ u = 0 := by
    cases A with
    | nil => simp at hsp; exact ⟨rfl, hsp.1.symm⟩
    | cons a A => simp at hsp
  obtain ⟨rfl, rfl⟩ := hA
  obtain ⟨nd, hn, hli⟩ := (getLevel_ok_iff _ _ _ _).1 hl
  simp [makeSkiplist] at hn
  subst hn
  simp [newNode, List.getElem?_replicate] at hli
  obtain ⟨_, rfl⟩ := hli
  simp [makeSkiplist]

/-- a single removal keeps the full invariant (the chain of `InvSpans` is the one being cut: `chain_eq`) -/
theorem stepInv_invSpans : StepInv InvSpans := by
  intro sl sl' A n B update hc hupd hr h
  obtain ⟨c, hc0, hn⟩ := h
  have hcc : c = A ++ n :: B := by rw [← chain_eq hc0, chain_eq hc]
  subst hcc
  obtain ⟨sl'', hr', hc', _⟩ := removeNode_spec hc A n B rfl update hupd
  rw [hr] at hr'
  cases hr'
  exact ⟨_, hc', removeNode_nilSpans hc hn A n B rfl update hupd sl' hr⟩

theorem removeRangeByRank_invSpans {sl : SL} (h : InvSpans sl) (start stop : Int) :
    ∃ sl' removed, removeRangeByRank sl start stop = .ok (sl', removed) ∧ InvSpans sl' ∧
      (abs sl', removed) = DsZSet.slRemoveRangeByRank (abs sl) start stop := by
  obtain ⟨sl', removed, h1, _, h2, h3⟩ := removeRangeByRank_spec h.inv start stop stepInv_invSpans h
  exact ⟨sl', removed, h1, h2, h3⟩

theorem removeRange_invSpans {sl : SL} (h : InvSpans sl) (min max : F64) (limit : Int) (mode : Nat) :
    ∃ sl' removed, removeRange sl min max limit mode = .ok (sl', removed) ∧ InvSpans sl' ∧
      (if limit ≤ 0 then (abs sl', removed) = DsZSet.slRemoveRange (abs sl) min max mode
       else
        let pre := (abs sl).takeWhile fun n => !(if mode % 2 = 1 then F64.lt min n.1 else F64.le min n.1)
        let rest := (abs sl).drop pre.length
        let rem := rest.takeWhile fun n => !(if mode / 2 % 2 = 1 then F64.le max n.1 else F64.lt max n.1)
        removed = rem.take limit.toNat ∧ abs sl' = pre ++ rem.drop limit.toNat ++ rest.drop rem.length) := by
  obtain ⟨sl', removed, h1, _, h2, h3⟩ := removeRange_spec h.inv min max limit mode stepInv_invSpans h
  exact ⟨sl', removed, h1, h2, h3⟩

theorem remove_invSpans {sl : SL} (h : InvSpans sl) (m : Bytes) (s : F64) :
    ∃ sl' b, remove sl m s = .ok (sl', b) ∧ InvSpans sl' ∧ abs sl' = DsZSet.slRemove (abs sl) m s := by
  obtain ⟨sl', b, h1, _, h2, h3, _⟩ := remove_spec h.inv m s stepInv_invSpans h
  exact ⟨sl', b, h1, h2, h3⟩

/-- after the level extension, every level below the NEW level keeps the discipline -/
theorem nilSpans_extend {sl : SL} {c : List Nat} (hc : IsChain sl c) (hn : NilSpans sl c) (h1 : List Node) (lvl : Nat)
    (hs : skel h1 = skel sl.heap) (hlv : ∀ x j, lv h1 x j = extLv sl lvl x j) (j : Nat) (hj : j < max sl.level lvl) :
    LevelNs (some sl.length) (above h1 j) (lv h1 · j) (0 :: c) := by
  by_cases hjl : j < sl.level
  · simpa [show ¬ sl.level ≤ j by omega] using
      level_extend hc h1 lvl hs hlv j _ (levels_of_nilSpans hc.linked hn j hjl)
  · simpa [show sl.level ≤ j ∧ j < lvl by omega] using
      level_extend hc h1 lvl hs hlv j none ((linked_iff_levels _ _).1 hc.linked j)

theorem insert_nilSpans_aux {sl : SL} {c : List Nat} (hc : IsChain sl c) (hn : NilSpans sl c) (m : Bytes) (s : F64)
    (lvl : Nat) (hl1 : 1 ≤ lvl) (hl2 : lvl ≤ maxLevel)
    (pre post : List Nat) (hcp : c = pre ++ post) (hcond : CondUpTo sl c (lessCond m s) pre.length)
    (sl' : SL) (hr : insert sl m s lvl = .ok sl') :
    NilSpans sl' (pre ++ sl.heap.length :: post) := by
  subst hcp
  obtain ⟨sl'', h1, U, R, l0, ⟨hins, hs1, hlv1, C, hlen', hlev', _⟩⟩ := insert_desc hc m s lvl hl1 hl2 hcond
  rw [hr] at hins
  cases hins
  apply nilSpans_of_levels
  intro j hj
  rw [hlev'] at hj
  rw [hlen']
  exact C.level (some sl.length) j (Or.inr hj) (nilSpans_extend hc hn h1 lvl hs1 hlv1 j hj)

theorem insert_invSpans {sl : SL} (h : InvSpans sl) (m : Bytes) (s : F64) (lvl : Nat) (hl1 : 1 ≤ lvl)
    (hl2 : lvl ≤ maxLevel) (hs : F64.isNaN s = false) (hm : ∀ x ∈ abs sl, x.2 ≠ m) :
    ∃ sl', insert sl m s lvl = .ok sl' ∧ InvSpans sl' ∧ abs sl' = DsZSet.slInsert (abs sl) m s := by
  obtain ⟨c, hc, hn⟩ := h
  obtain ⟨sl', e, _, habs⟩ := insert_refines ⟨c, hc⟩ m s lvl hl1 hl2 hs hm
  rw [abs_eq hc] at hm
  have hm' : ∀ n ∈ c, (itemAt sl.heap n).2 ≠ m := fun n hn => hm _ (List.mem_map.2 ⟨n, hn, rfl⟩)
  obtain ⟨sl'', e', hc', _⟩ := insert_isChain hc m s lvl hl1 hl2 hs hm'
  rw [e] at e'
  cases e'
  exact ⟨sl', e, ⟨_, hc', insert_nilSpans_aux hc hn m s lvl hl1 hl2 _ _ List.takeWhile_append_dropWhile.symm
    (condUpTo_less hc m s) sl' e⟩, habs⟩

theorem insertInv_invSpans : InsertInv InvSpans := by
  intro sl sl' m s lvl _ h hok hr
  obtain ⟨sl'', hr', h', _⟩ := insert_invSpans h m s lvl hok.1 hok.2.1 hok.2.2.1 hok.2.2.2
  rw [hr] at hr'
  cases hr'
  exact h'

theorem run_invSpans (ops : List SlOp) {sl : SL} (h : InvSpans sl) (hok : OpsOk (abs sl) ops) :
    ∃ sl', runM sl ops = .ok sl' ∧ InvSpans sl' ∧ abs sl' = runL (abs sl) ops := by
  obtain ⟨sl', he, _, hp, ha⟩ := run_spec insertInv_invSpans stepInv_invSpans ops h.inv h hok
  exact ⟨sl', he, hp, ha⟩

theorem run_invSpans_from_empty (ops : List SlOp) (hok : OpsOk [] ops) :
    ∃ sl, runM makeSkiplist ops = .ok sl ∧ InvSpans sl ∧ abs sl = runL [] ops := by
  have := run_invSpans ops makeSkiplist_invSpans (by rw [abs_makeSkiplist]; exact hok)
  rw [abs_makeSkiplist] at this
  exact this

end NodisVerif.Skiplist

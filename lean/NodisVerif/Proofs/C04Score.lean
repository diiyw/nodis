import NodisVerif.Proofs.C04Cursor
import NodisVerif.Proofs.C04Rem
/-
  ZRANGEBYSCORE / ZREVRANGEBYSCORE, the two ingredients: the model's offset/limit loop in closed form on the list of items
  a walk meets (`loopS_closed`), and where a walk starts and what it then sees (`first_stream`, `last_stream`, from
  `first_decomp` / `last_decomp`: the closed range is a block of the sorted chain).
-/
namespace NodisVerif.Proofs.C04
open AListLemmas ZSetLemmas DsZSet

/-- the `zRange` consumer keeps the item (it is not an excluded bound) -/
def keepB (min max : F64) (mode : Nat) (c : Item) : Bool :=
  !decide ((mode % 2 = 1 ∧ F64.eq c.1 min = true) ∨ (mode / 2 % 2 = 1 ∧ F64.eq c.1 max = true))

/-- inside the closed interval (the loop's continuation test) -/
def inC (min max : F64) (c : Item) : Bool := F64.le min c.1 && F64.ge max c.1

/-- LIMIT count: a positive `limit` stops the collection at `limit` items (of which `n` are already
    collected); zero is handled by the caller; negative = no limit -/
def lim (limit : Int) (n : Nat) (l : List Item) : List Item :=
  if limit > 0 then l.take (limit.toNat - n) else l

theorem inC_unfold (min max : F64) (c : Item) :
    (F64.le min c.1 && F64.le c.1 max) = inC min max c := rfl

/-- the loop in closed form: take the leading items inside the closed interval, drop the excluded
    bounds, then drop `offset`, then keep `limit` -/
theorem loopS_closed (min max : F64) (mode : Nat) (limit : Int) :
    ∀ (S : List Item) (offset : Int) (fuel : Nat) (acc : List Item), S.length < fuel →
      (limit > 0 → (acc.length : Int) < limit) →
      loopS min max mode limit S offset fuel acc
        = acc.reverse ++ lim limit acc.length
            (((S.takeWhile (inC min max)).filter (keepB min max mode)).drop offset.toNat) := by
  intro S
  induction S with
  | nil =>
    intro offset fuel acc _ _
    simp [loopS, lim]
  | cons c rest ih =>
    intro offset fuel acc hf hacc
    obtain ⟨f, rfl⟩ : ∃ f, fuel = f + 1 := ⟨fuel - 1, by omega⟩
    have hf' : rest.length < f := by simp only [List.length_cons] at hf; omega
    simp only [loopS, inC_unfold]
    by_cases hin : inC min max c = true
    · simp only [hin, Bool.not_true, Bool.false_eq_true, if_false, List.takeWhile_cons, if_true]
      by_cases hex : (mode % 2 = 1 ∧ F64.eq c.1 min = true) ∨ (mode / 2 % 2 = 1 ∧ F64.eq c.1 max = true)
      · have hk : keepB min max mode c = false := by simp only [keepB, hex, decide_true, Bool.not_true]
        rw [if_pos hex, ih offset f acc hf' hacc, List.filter_cons, hk]
        simp
      · have hk : keepB min max mode c = true := by simp only [keepB, hex, decide_false, Bool.not_false]
        rw [if_neg hex, List.filter_cons, hk, if_pos rfl]
        by_cases hoff : offset > 0
        · rw [if_pos hoff, ih (offset - 1) f acc hf' hacc]
          have : offset.toNat = (offset - 1).toNat + 1 := by omega
          rw [this, List.drop_succ_cons]
        · rw [if_neg hoff]
          have h0 : offset.toNat = 0 := by omega
          rw [h0, List.drop_zero]
          by_cases hstop : limit > 0 ∧ (((c :: acc).length : Nat) : Int) = limit
          · rw [if_pos hstop]
            have h1 : limit.toNat - acc.length = 1 := by
              have := hstop.2
              simp only [List.length_cons] at this
              omega
            simp [lim, hstop.1, h1]
          · rw [if_neg hstop, ih offset f (c :: acc) hf' (by
              intro hl
              have := hacc hl
              simp only [List.length_cons] at hstop ⊢
              omega)]
            rw [h0, List.drop_zero]
            unfold lim
            by_cases hl : limit > 0
            · have := hacc hl
              have h2 : limit.toNat - acc.length = (limit.toNat - (c :: acc).length) + 1 := by
                simp only [List.length_cons] at hstop ⊢
                omega
              simp only [hl, if_true, h2, List.take_succ_cons, List.reverse_cons, List.append_assoc,
                List.singleton_append]
            · simp only [hl, if_false, List.reverse_cons, List.append_assoc, List.singleton_append]
    · have hin' : inC min max c = false := by simpa using hin
      simp [hin', lim]

theorem takeWhile_inC_stream (min max : F64) (R B : List Item)
    (hR : ∀ a ∈ R, inC min max a = true) (hB : ∀ b ∈ B, inC min max b = false) :
    (R ++ B).takeWhile (inC min max) = R := by
  rw [List.takeWhile_append_of_pos hR]
  cases B with
  | nil => simp
  | cons b B => simp [hB b (by simp)]
theorem le_eq_not_gt (x a : F64) (hx : F64.isNaN x = false) (ha : F64.isNaN a = false) :
    F64.le x a = !F64.gt x a := by
  simp only [F64.le, F64.gt, F64.lt, hx, ha, Bool.not_false, Bool.true_and]
  rw [Bool.eq_iff_iff]
  simp only [decide_eq_true_eq, Bool.not_eq_true', decide_eq_false_iff_not]
  omega

theorem lt_eq_not_ge (x a : F64) (hx : F64.isNaN x = false) (ha : F64.isNaN a = false) :
    F64.lt x a = !F64.ge x a := by
  simp only [F64.le, F64.ge, F64.lt, hx, ha, Bool.not_false, Bool.true_and]
  rw [Bool.eq_iff_iff]
  simp only [decide_eq_true_eq, Bool.not_eq_true', decide_eq_false_iff_not]
  omega

theorem inC_eq (min max : F64) (hmin : F64.isNaN min = false) (a : Item) (ha : Good a) :
    inC min max a = (!F64.gt min a.1 && F64.ge max a.1) := by
  unfold inC
  rw [le_eq_not_gt min a.1 hmin ha]

theorem head_le (l : List Item) (hpw : l.Pairwise ILt) (hg : ∀ a ∈ l, Good a) (h : Item)
    (hh : l.head? = some h) : ∀ a ∈ l, F64.key h.1 ≤ F64.key a.1 := by
  cases l with
  | nil => simp at hh
  | cons x rest =>
    simp only [List.head?_cons, Option.some.injEq] at hh
    subst hh
    intro a ha
    rcases List.mem_cons.mp ha with rfl | ha'
    · exact Int.le_refl _
    · exact key_le_of_ilt x a (hg x (by simp)) (hg a ha) ((List.pairwise_cons.mp hpw).1 a ha')

theorem le_last (l : List Item) (hpw : l.Pairwise ILt) (hg : ∀ a ∈ l, Good a) (t : Item)
    (ht : l.getLast? = some t) : ∀ a ∈ l, F64.key a.1 ≤ F64.key t.1 := by
  obtain ⟨ys, rfl⟩ := List.getLast?_eq_some_iff.mp ht
  intro a ha
  rcases List.mem_append.mp ha with ha' | ha'
  · exact key_le_of_ilt a t (hg a ha) (hg t (by simp))
      ((List.pairwise_append.mp hpw).2.2 a ha' t (by simp))
  · simp only [List.mem_singleton] at ha'
    subst ha'
    exact Int.le_refl _

theorem hasInRange_of_mem (l : List Item) (hpw : l.Pairwise ILt) (hg : ∀ a ∈ l, Good a)
    (min max : F64) (hmin : F64.isNaN min = false) (hmax : F64.isNaN max = false)
    (r : Item) (hr : r ∈ l) (hin : inC min max r = true) : hasInRange l min max = true := by
  have hrn : F64.isNaN r.1 = false := hg r hr
  simp only [inC, F64.le, F64.ge, hmin, hmax, hrn, Bool.not_false, Bool.true_and, Bool.and_eq_true,
    decide_eq_true_eq] at hin
  unfold hasInRange
  have hne : l ≠ [] := List.ne_nil_of_mem hr
  obtain ⟨t, ht⟩ : ∃ t, l.getLast? = some t := by
    cases h : l.getLast? with
    | none => exact absurd (List.getLast?_eq_none_iff.mp h) hne
    | some t => exact ⟨t, rfl⟩
  obtain ⟨h, hh⟩ : ∃ h, l.head? = some h := by
    cases l with
    | nil => exact absurd rfl hne
    | cons x _ => exact ⟨x, rfl⟩
  have h1 := head_le l hpw hg h hh r hr
  have h2 := le_last l hpw hg t ht r hr
  have htn : F64.isNaN t.1 = false := hg t (List.mem_of_getLast? ht)
  have hhn : F64.isNaN h.1 = false := hg h (List.mem_of_head? hh)
  rw [ht, hh]
  simp only [F64.gt, F64.lt, hmin, hmax, htn, hhn, Bool.not_false, Bool.true_and,
    decide_eq_true_eq]
  have e1 : ¬ F64.key max < F64.key min := by omega
  have e2 : ¬ F64.key t.1 < F64.key min := by omega
  have e3 : ¬ F64.key max < F64.key h.1 := by omega
  simp [e1, e2, e3]

theorem filter_inC_nil_of_not_has (l : List Item) (hpw : l.Pairwise ILt) (hg : ∀ a ∈ l, Good a)
    (min max : F64) (hmin : F64.isNaN min = false) (hmax : F64.isNaN max = false)
    (hhas : ¬ hasInRange l min max = true) : l.filter (inC min max) = [] := by
  rw [List.filter_eq_nil_iff]
  intro r hr hin
  exact hhas (hasInRange_of_mem l hpw hg min max hmin hmax r hr hin)

/-- along the chain order the tests `min > score` and `max >= score` pass from an item to the items before it
    (whatever `min` / `max`: a NaN bound fails on both) -/
theorem gt_downclosed (min : F64) (a b : Item) (ha : Good a) (hb : Good b) (hab : ILt a b)
    (h : F64.gt min b.1 = true) : F64.gt min a.1 = true := by
  have hk := key_le_of_ilt a b ha hb hab
  unfold Good at ha hb
  simp [F64.gt, F64.lt, ha, hb] at h ⊢
  refine ⟨h.1, ?_⟩
  omega

theorem ge_downclosed (max : F64) (a b : Item) (ha : Good a) (hb : Good b) (hab : ILt a b)
    (h : F64.ge max b.1 = true) : F64.ge max a.1 = true := by
  have hk := key_le_of_ilt a b ha hb hab
  unfold Good at ha hb
  simp [F64.ge, F64.le, ha, hb] at h ⊢
  refine ⟨h.1, ?_⟩
  omega

theorem gtMin_down (l : List Item) (hg : ∀ a ∈ l, Good a) (min : F64) :
    ∀ a ∈ l, ∀ b ∈ l, ILt a b → F64.gt min b.1 = true → F64.gt min a.1 = true :=
  fun a ha b hb => gt_downclosed min a b (hg a ha) (hg b hb)

theorem geMax_down (l : List Item) (hg : ∀ a ∈ l, Good a) (max : F64) :
    ∀ a ∈ l, ∀ b ∈ l, ILt a b → F64.ge max b.1 = true → F64.ge max a.1 = true :=
  fun a ha b hb => ge_downclosed max a b (hg a ha) (hg b hb)

theorem filter_inC_eq (l : List Item) (hg : ∀ a ∈ l, Good a) (min max : F64)
    (hmin : F64.isNaN min = false) :
    l.filter (inC min max) = l.filter (fun a => !F64.gt min a.1 && F64.ge max a.1) := by
  apply List.filter_congr
  intro a ha
  exact inC_eq min max hmin a (hg a ha)

/-- items above the closed range (met by an ascending walk after the range) -/
def aboveRange (l : List Item) (min max : F64) : List Item :=
  (l.dropWhile fun n => F64.gt min n.1).dropWhile fun n => F64.ge max n.1

/-- items below the closed range among those not above `max` (met by a descending walk) -/
def belowRange (l : List Item) (min max : F64) : List Item :=
  (l.takeWhile fun n => F64.ge max n.1).takeWhile fun n => F64.gt min n.1

theorem first_decomp (l : List Item) (hpw : l.Pairwise ILt) (hg : ∀ a ∈ l, Good a)
    (min max : F64) (hmin : F64.isNaN min = false) :
    (l.dropWhile fun n => F64.gt min n.1) = l.filter (inC min max) ++ aboveRange l min max ∧
    l.filter (inC min max) = ((l.dropWhile fun n => F64.gt min n.1).takeWhile fun n => F64.ge max n.1) ∧
    ∀ b ∈ aboveRange l min max, F64.ge max b.1 = false := by
  obtain ⟨_, hA2⟩ := filter_downclosed ILt (fun n => F64.gt min n.1) l hpw (gtMin_down l hg min)
  have hsub : (l.dropWhile fun n => F64.gt min n.1).Sublist l := List.dropWhile_sublist _
  obtain ⟨hB1, hB2⟩ := filter_downclosed ILt (fun n => F64.ge max n.1) _ (hpw.sublist hsub)
    (fun a ha b hb => geMax_down l hg max a (hsub.subset ha) b (hsub.subset hb))
  have hR : l.filter (inC min max)
      = (l.dropWhile fun n => F64.gt min n.1).takeWhile fun n => F64.ge max n.1 := by
    rw [filter_inC_eq l hg min max hmin, ← hB1, ← hA2, List.filter_filter]
    apply List.filter_congr
    intro a _
    exact Bool.and_comm _ _
  refine ⟨?_, hR, ?_⟩
  · rw [hR]
    unfold aboveRange
    exact (List.takeWhile_append_dropWhile).symm
  · intro b hb
    unfold aboveRange at hb
    rw [← hB2] at hb
    simpa using (List.mem_filter.mp hb).2

theorem last_decomp (l : List Item) (hpw : l.Pairwise ILt) (hg : ∀ a ∈ l, Good a)
    (min max : F64) (hmin : F64.isNaN min = false) :
    (l.takeWhile fun n => F64.ge max n.1) = belowRange l min max ++ l.filter (inC min max) ∧
    l.filter (inC min max) = ((l.takeWhile fun n => F64.ge max n.1).dropWhile fun n => F64.gt min n.1) ∧
    ∀ b ∈ belowRange l min max, F64.gt min b.1 = true := by
  obtain ⟨hA1, _⟩ := filter_downclosed ILt (fun n => F64.ge max n.1) l hpw (geMax_down l hg max)
  have hsub : (l.takeWhile fun n => F64.ge max n.1).Sublist l := List.takeWhile_sublist _
  obtain ⟨hB1, hB2⟩ := filter_downclosed ILt (fun n => F64.gt min n.1) _ (hpw.sublist hsub)
    (fun a ha b hb => gtMin_down l hg min a (hsub.subset ha) b (hsub.subset hb))
  have hR : l.filter (inC min max)
      = (l.takeWhile fun n => F64.ge max n.1).dropWhile fun n => F64.gt min n.1 := by
    rw [filter_inC_eq l hg min max hmin, ← hB2, ← hA1, List.filter_filter]
  refine ⟨?_, hR, ?_⟩
  · rw [hR]
    unfold belowRange
    exact (List.takeWhile_append_dropWhile).symm
  · intro b hb
    unfold belowRange at hb
    rw [← hB1] at hb
    exact (List.mem_filter.mp hb).2

theorem first_stream (l : List Item) (hpw : l.Pairwise ILt) (hg : ∀ a ∈ l, Good a)
    (min max : F64) (hmin : F64.isNaN min = false) (hmax : F64.isNaN max = false) :
    ostream false (getFirstInRange l min max) =
      if l.filter (inC min max) = [] then [] else l.filter (inC min max) ++ aboveRange l min max := by
  obtain ⟨hD, hR, _⟩ := first_decomp l hpw hg min max hmin
  have hstream := ostream_cursorAt_asc l (l.takeWhile fun n => F64.gt min n.1).length
  rw [drop_takeWhile_length] at hstream
  unfold getFirstInRange
  by_cases hhas : hasInRange l min max = true
  · simp only [hhas, Bool.not_true, Bool.false_eq_true, if_false]
    cases hc : cursorAt l (l.takeWhile fun n => F64.gt min n.1).length with
    | none =>
      -- nothing at or above `min`
      rw [hc, hD] at hstream
      rw [if_pos (List.append_eq_nil_iff.mp hstream.symm).1]
      rfl
    | some c =>
      -- the node found heads the items at or above `min`; it is in the range iff it is not above `max`
      rw [hc] at hstream
      have hhead : c.cur :: c.fwd = l.dropWhile fun n => F64.gt min n.1 := hstream
      have hcg : Good c.cur :=
        hg c.cur ((List.dropWhile_sublist _).subset (by rw [← hhead]; exact List.mem_cons_self))
      rw [← hhead, List.takeWhile_cons] at hR
      simp only
      rw [lt_eq_not_ge max c.cur.1 hmax hcg]
      by_cases hge : F64.ge max c.cur.1 = true
      · rw [if_pos hge] at hR
        have hRne : l.filter (inC min max) ≠ [] := by rw [hR]; exact List.cons_ne_nil _ _
        rw [hge, if_neg hRne]
        exact hstream.trans hD
      · rw [if_neg hge] at hR
        rw [if_pos hR, (Bool.not_eq_true _).mp hge]
        rfl
  · rw [if_pos (filter_inC_nil_of_not_has l hpw hg min max hmin hmax hhas)]
    simp [hhas, ostream]

theorem all_of_dropWhile_nil {α : Type} (p : α → Bool) : ∀ (l : List α),
    l.dropWhile p = [] → ∀ x ∈ l, p x = true := by
  intro l
  induction l with
  | nil => intro _ x hx; simp at hx
  | cons a l ih =>
    intro h x hx
    by_cases ha : p a = true
    · simp only [List.dropWhile_cons, ha, if_true] at h
      rcases List.mem_cons.mp hx with rfl | hx
      · exact ha
      · exact ih h x hx
    · simp [ha] at h

theorem last_stream (l : List Item) (hpw : l.Pairwise ILt) (hg : ∀ a ∈ l, Good a)
    (min max : F64) (hmin : F64.isNaN min = false) (hmax : F64.isNaN max = false) :
    ostream true (getLastInRange l min max) =
      if l.filter (inC min max) = [] then []
      else (l.filter (inC min max)).reverse ++ (belowRange l min max).reverse := by
  obtain ⟨hT, hR, _⟩ := last_decomp l hpw hg min max hmin
  unfold getLastInRange
  by_cases hhas : hasInRange l min max = true
  · simp only [hhas, Bool.not_true, Bool.false_eq_true, if_false]
    by_cases hk : (l.takeWhile fun n => F64.ge max n.1).length = 0
    · -- nothing at or below `max`
      rw [List.eq_nil_of_length_eq_zero hk] at hT
      rw [if_pos hk, if_pos (List.append_eq_nil_iff.mp hT.symm).2]
      rfl
    · have hstream : ostream true (cursorAt l ((l.takeWhile fun n => F64.ge max n.1).length - 1))
          = (l.takeWhile fun n => F64.ge max n.1).reverse := by
        have hle := (List.takeWhile_sublist (fun n : Item => F64.ge max n.1) (l := l)).length_le
        rw [ostream_cursorAt_desc, if_pos (by omega),
          show (l.takeWhile fun n => F64.ge max n.1).length - 1 + 1
            = (l.takeWhile fun n => F64.ge max n.1).length by omega, take_takeWhile_length]
      rw [if_neg hk]
      cases hc : cursorAt l ((l.takeWhile fun n => F64.ge max n.1).length - 1) with
      | none =>
        rw [hc] at hstream
        rw [List.reverse_eq_nil_iff.mp hstream.symm] at hk
        exact absurd rfl hk
      | some c =>
        -- the node found is the last item at or below `max`: the last of the range if there is one
        rw [hc] at hstream
        have hhead : (l.takeWhile fun n => F64.ge max n.1).reverse.head? = some c.cur := by
          rw [← hstream]; rfl
        simp only
        by_cases hRe : l.filter (inC min max) = []
        · have hall := all_of_dropWhile_nil _ _ (hR ▸ hRe)
          rw [if_pos hRe, hall c.cur (List.mem_reverse.mp (List.mem_of_head? hhead))]
          rfl
        · rw [hT, List.reverse_append] at hhead hstream
          have hcR : c.cur ∈ l.filter (inC min max) := by
            cases hf : (l.filter (inC min max)).reverse with
            | nil => exact absurd (List.reverse_eq_nil_iff.mp hf) hRe
            | cons x rest =>
              rw [hf, List.cons_append, List.head?_cons, Option.some.injEq] at hhead
              exact List.mem_reverse.mp (by rw [hf, hhead]; exact List.mem_cons_self)
          have hcin := (List.mem_filter.mp hcR).2
          rw [inC_eq min max hmin c.cur (hg c.cur (List.mem_filter.mp hcR).1)] at hcin
          simp only [Bool.and_eq_true, Bool.not_eq_true'] at hcin
          rw [if_neg hRe, hcin.1]
          exact hstream
  · rw [if_pos (filter_inC_nil_of_not_has l hpw hg min max hmin hmax hhas)]
    simp [hhas, ostream]

end NodisVerif.Proofs.C04

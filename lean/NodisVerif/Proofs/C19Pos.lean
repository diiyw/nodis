import NodisVerif.Model.DsHashSet
import NodisVerif.Proofs.C19Iter
/-
  C19 helpers: the positional scan of hashes / sets / sorted sets (`DsHash.posScan`)
  composed with the handler's cursor reply (`Spec.Scan.scanReply`).
-/
namespace NodisVerif.Proofs.C19Pos
open NodisVerif.Spec.Scan NodisVerif.Proofs.C19Iter

variable {α : Type}

/-- what one SSCAN / HSCAN / ZSCAN command replies: (cursor, batch) -/
def hstep (name : α → Bytes) (xs : List α) (pat : Bytes) (count : Int) (c : Int) : Int × List α :=
  let r := DsHash.posScan name xs c pat count
  (scanReply r.1 xs.length, r.2)

/-- number of calls of a full iteration over `n` elements with COUNT `count` -/
def callsNeeded (n : Nat) (count : Int) : Nat :=
  if count > 0 ∧ n > 0 then (n + count.toNat - 1) / count.toNat else 1

theorem posScan_nat (name : α → Bytes) (xs : List α) (p : Nat) (pat : Bytes) (count : Int) (hp : p ≤ xs.length) :
    DsHash.posScan name xs (p : Int) pat count =
      (((p + (if count > 0 then (xs.drop p).take count.toNat else xs.drop p).length : Nat) : Int),
       (if count > 0 then (xs.drop p).take count.toNat else xs.drop p).filter fun x => Glob.matched pat (name x)) := by
  unfold DsHash.posScan
  have h1 : ¬ ((p : Int) < 0) := by omega
  simp only [h1, if_false, Int.toNat_natCast]
  rw [Nat.min_eq_left hp]

theorem hstep_all (name : α → Bytes) (xs : List α) (pat : Bytes) (count : Int) (h : count ≤ 0 ∨ xs = []) :
    hstep name xs pat count 0 = (0, xs.filter fun x => Glob.matched pat (name x)) := by
  unfold hstep
  have := posScan_nat name xs 0 pat count (Nat.zero_le _)
  simp only [Int.natCast_zero] at this
  rw [this]
  rcases h with h | h
  · have : ¬ count > 0 := by omega
    simp [this, scanReply]
  · subst h; simp [scanReply]

theorem hstep_pos (name : α → Bytes) (xs : List α) (pat : Bytes) (count : Int) (hc : count > 0)
    (p : Nat) (hp : p ≤ xs.length) :
    hstep name xs pat count (p : Int) =
      ((if xs.length - p ≤ count.toNat then 0 else ((p + count.toNat : Nat) : Int)),
       ((xs.drop p).take count.toNat).filter fun x => Glob.matched pat (name x)) := by
  unfold hstep
  rw [posScan_nat name xs p pat count hp]
  simp only [hc, if_true, List.length_take, List.length_drop]
  congr 1
  unfold scanReply
  by_cases hlast : xs.length - p ≤ count.toNat
  · rw [if_pos hlast, if_pos]; omega
  · rw [if_neg hlast, if_neg (by omega)]
    congr 1; omega

theorem posScan_full (name : α → Bytes) (xs : List α) (pat : Bytes) (count : Int) :
    FullIteration (iterate (hstep name xs pat count)) (callsNeeded xs.length count)
      (xs.filter fun x => Glob.matched pat (name x)) := by
  intro fuel hfuel
  unfold iterate iterateS terminated calls visited
  by_cases h : count > 0 ∧ xs.length > 0
  · have hcn : callsNeeded xs.length count = (xs.length - 0 + count.toNat - 1) / count.toNat := by
      unfold callsNeeded; rw [if_pos h]; rfl
    rw [hcn] at hfuel ⊢
    -- the cursor of position `p` is `p` itself
    exact iterateFrom_chunks (hstep name xs pat count) xs (List.filter _) (fun a b => List.filter_append ..)
      (fun p => (p : Int)) (fun p hp => by omega) count.toNat (by omega)
      (fun p c hc hp => by
        have e : c = (p : Int) := by omega
        rw [e]; exact hstep_pos name xs pat count h.1 p (by omega))
      fuel 0 0 (Or.inl rfl) h.2 hfuel
  · have h' : count ≤ 0 ∨ xs = [] := by
      by_cases hc : count > 0
      · right; have : ¬ xs.length > 0 := fun hn => h ⟨hc, hn⟩
        exact List.eq_nil_of_length_eq_zero (by omega)
      · left; omega
    have hcn : callsNeeded xs.length count = 1 := by unfold callsNeeded; rw [if_neg h]
    rw [hcn] at hfuel ⊢
    obtain ⟨g, rfl⟩ : ∃ g, fuel = g + 1 := ⟨fuel - 1, by omega⟩
    rw [iterateFrom_succ]
    simp only [hstep_all name xs pat count h']
    simp

end NodisVerif.Proofs.C19Pos

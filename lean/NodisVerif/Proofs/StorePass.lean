import NodisVerif.Model.Store
import NodisVerif.Proofs.AListLemmas2
/-
  A pass of `store.gc()` / `store.flush()` over the index, and every other fold whose step is local to one name.

  The model writes the per-record step of `gc` and `flush` as a local function; `gcStep` / `flushStep` name it
  (`gc_eq`, `flush_eq`).  A step touches the index under its own name only, so what a pass leaves in the index is
  said record by record (`gcSlot` / `flushSlot`; `gc_index` / `flush_index`).  The induction behind them, `fold_pass`,
  is stated for any fold over items with distinct keys whose step keeps what is said of every other key.
  The names of the steps are in `Proofs.C11`, what is proved of a pass in `Proofs.Pass`.
-/
namespace NodisVerif.Proofs.C11
open NodisVerif.Store

/-- `metadata.reset()` followed by the eviction test -/
def resetRec (m : Meta) : Meta :=
  let m' := { m with state := 1, count := m.count - 1 }
  if m'.count < 0 then { m' with value := none } else m'

theorem resetRec_facts (m : Meta) :
    (resetRec m).isOk = true ∧ (resetRec m).isModified = false ∧ (resetRec m).exp = m.exp ∧
    (resetRec m).stored = m.stored ∧ (resetRec m).oid = m.oid ∧ (resetRec m).vtype = m.vtype ∧
    ((resetRec m).value = m.value ∨ (resetRec m).value = none) := by
  unfold resetRec
  simp only []
  split
  · refine ⟨by simp [Meta.isOk], by simp [Meta.isModified], rfl, rfl, rfl, rfl, Or.inr rfl⟩
  · refine ⟨by simp [Meta.isOk], by simp [Meta.isModified], rfl, rfl, rfl, rfl, Or.inl rfl⟩

/-- the step function of `Store.gc` (a local `let` there; `gc_eq`) -/
def gcStep (now : Int) (s : MState) (ent : Bytes × Meta) : MState :=
  if ent.2.expired now || !ent.2.isOk then
    { unpersist s ent.1 ent.2 with index := AList.erase (unpersist s ent.1 ent.2).index ent.1 }
  else
    let r := if ent.2.isModified then persist s ent.1 ent.2 else (s, ent.2, true)
    if !r.2.2 then putMeta r.1 ent.1 r.2.1 else putMeta r.1 ent.1 (resetRec r.2.1)

theorem gc_eq (s : MState) (now : Int) :
    gc s now = if s.closed then s else syncShared (s.index.foldl (gcStep now) s) := by
  rfl

def flushStep (now : Int) (s : MState) (ent : Bytes × Meta) : MState :=
  if ent.2.expired now || !ent.2.isOk then
    putMeta (unpersist s ent.1 ent.2) ent.1 { ent.2 with stored := none }
  else if !ent.2.isModified then s
  else putMeta (persist s ent.1 ent.2).1 ent.1 (persist s ent.1 ent.2).2.1

theorem flush_eq (s : MState) (now : Int) :
    flush s now = syncShared (s.index.foldl (flushStep now) s) := by
  rfl

theorem persist_fail (s : MState) (k : Bytes) (m : Meta) (hf : s.failSet > 0) :
    persist s k m = ({ s with failSet := s.failSet - 1 }, m, false) := by
  unfold persist diskSet
  rw [if_pos hf]
  rfl

end NodisVerif.Proofs.C11

namespace NodisVerif.Proofs.Pass
open NodisVerif NodisVerif.Store
open NodisVerif.Proofs.AListLemmas NodisVerif.Proofs.AListLemmas2
open NodisVerif.Proofs.C11 (gcStep flushStep resetRec gc_eq flush_eq persist_fail)

/-- the induction over a pass: `step` handles the records `l` (distinct names) one after the other.
    `P` holds of the running state throughout; `Pre s p` is what a record not yet handled satisfies,
    `Post s p` what a handled one does, `Keep s k` what is said of a name without record. A step establishes
    `Post` for its own record and keeps what is said of every other name. -/
theorem fold_pass {σ ι κ : Type} (key : ι → κ) (step : σ → ι → σ) (P : σ → Prop) (Pre Post : σ → ι → Prop)
    (Keep : σ → κ → Prop)
    (hstep : ∀ s p, P s → Pre s p → P (step s p) ∧ Post (step s p) p ∧
      (∀ q, key q ≠ key p → (Pre s q → Pre (step s p) q) ∧ (Post s q → Post (step s p) q)) ∧
      ∀ k, k ≠ key p → Keep s k → Keep (step s p) k) :
    ∀ l : List ι, (l.map key).Nodup → ∀ s, P s → (∀ p ∈ l, Pre s p) →
      P (l.foldl step s) ∧ (∀ p ∈ l, Post (l.foldl step s) p) ∧
      (∀ k, k ∉ l.map key → Keep s k → Keep (l.foldl step s) k) ∧
      ∀ q, key q ∉ l.map key → Post s q → Post (l.foldl step s) q := by
  intro l
  induction l with
  | nil => intro _ s hP _; exact ⟨hP, fun _ h => (List.not_mem_nil h).elim, fun _ _ => id, fun _ _ => id⟩
  | cons a rest ih =>
    intro hnd s hP hpre
    rw [List.map_cons, List.nodup_cons] at hnd
    obtain ⟨p1, q1, fr, kp⟩ := hstep s a hP (hpre a List.mem_cons_self)
    have hne : ∀ p ∈ rest, key p ≠ key a := fun p hp e => hnd.1 (e ▸ List.mem_map.mpr ⟨p, hp, rfl⟩)
    obtain ⟨p2, q2, k2, fr2⟩ := ih hnd.2 (step s a) p1
      fun p hp => (fr p (hne p hp)).1 (hpre p (List.mem_cons_of_mem _ hp))
    rw [List.foldl_cons]
    refine ⟨p2, fun p hp => ?_, fun k hk h => ?_, fun q hq h => ?_⟩
    · rcases List.mem_cons.mp hp with rfl | hp
      · exact fr2 p hnd.1 q1
      · exact q2 p hp
    · rw [List.map_cons, List.mem_cons, not_or] at hk
      exact k2 k hk.2 (kp k hk.1 h)
    · rw [List.map_cons, List.mem_cons, not_or] at hq
      exact fr2 q hq.2 ((fr q hq.1).2 h)

theorem unpersist_cases (s : MState) (k : Bytes) (m : Meta) : ∃ d, unpersist s k m = { s with disk := d } := by
  unfold unpersist
  cases m.stored <;> exact ⟨_, rfl⟩

theorem persist_cases (s : MState) (k : Bytes) (m : Meta) :
    (0 < s.failSet ∧ persist s k m = ({ s with failSet := s.failSet - 1 }, m, false)) ∨
    (s.failSet = 0 ∧ ∃ d, persist s k m = ({ s with disk := d }, { m with stored := some m.exp }, true)) := by
  by_cases hf : s.failSet > 0
  · exact Or.inl ⟨hf, persist_fail s k m hf⟩
  · right
    unfold persist diskSet
    refine ⟨by omega, ?_⟩
    simp only [hf, if_false]
    cases m.stored with
    | none => cases m.value <;> exact ⟨_, rfl⟩
    | some e =>
      by_cases he : e ≠ m.exp
      · cases m.value <;> simp only [if_pos he] <;> exact ⟨_, rfl⟩
      · cases m.value <;> simp only [if_neg he] <;> exact ⟨_, rfl⟩

/-! ### what one step leaves in the index under its name (`ok` = the backend write went through) -/

/-- `none` = unlinked -/
def gcSlot (now : Int) (m : Meta) (ok : Bool) : Option Meta :=
  if m.expired now || !m.isOk then none
  else if m.isModified then (if ok then some (resetRec { m with stored := some m.exp }) else some m)
  else some (resetRec m)

/-- `none` = the index keeps what it has -/
def flushSlot (now : Int) (m : Meta) (ok : Bool) : Option Meta :=
  if m.expired now || !m.isOk then some { m with stored := none }
  else if !m.isModified then none
  else if ok then some { m with stored := some m.exp } else some m

theorem gcSlot_live {now : Int} {m : Meta} (ok : Bool) (hd : (m.expired now || !m.isOk) = false) :
    ∃ m', gcSlot now m ok = some m' ∧ m'.exp = m.exp ∧ m'.kid = m.kid ∧ m'.oid = m.oid ∧ m'.vtype = m.vtype ∧
      m'.isOk = true ∧ (m'.value = m.value ∨ m'.value = none) := by
  have hok : m.isOk = true := by
    simp only [Bool.or_eq_false_iff, Bool.not_eq_eq_eq_not, Bool.not_false] at hd; exact hd.2
  have hr : ∀ st, (resetRec { m with stored := st }).exp = m.exp ∧ (resetRec { m with stored := st }).kid = m.kid ∧
      (resetRec { m with stored := st }).oid = m.oid ∧ (resetRec { m with stored := st }).vtype = m.vtype ∧
      (resetRec { m with stored := st }).isOk = true ∧
      ((resetRec { m with stored := st }).value = m.value ∨ (resetRec { m with stored := st }).value = none) := by
    intro st
    unfold resetRec
    simp only
    split
    · exact ⟨rfl, rfl, rfl, rfl, rfl, Or.inr rfl⟩
    · exact ⟨rfl, rfl, rfl, rfl, rfl, Or.inl rfl⟩
  unfold gcSlot
  rw [hd]
  simp only [Bool.false_eq_true, if_false]
  split
  · cases ok
    · exact ⟨m, rfl, rfl, rfl, rfl, rfl, hok, Or.inl rfl⟩
    · exact ⟨_, rfl, hr _⟩
  · exact ⟨_, rfl, hr m.stored⟩

/-- a step acts on the index under its own name only, uses up injected failures only, and keeps the backend kind -/
structure StepIdx (s s' : MState) (k : Bytes) (r : Option Meta) : Prop where
  sorted : AList.Sorted s.index → AList.Sorted s'.index
  get : AList.Sorted s.index → ∀ x, AList.get? s'.index x = if x = k then r else AList.get? s.index x
  fail : s'.failSet ≤ s.failSet
  peb : s'.pebble = s.pebble

theorem gcStep_idx (now : Int) (s : MState) (k : Bytes) (m : Meta) :
    ∃ ok, (s.failSet = 0 → ok = true) ∧ StepIdx s (gcStep now s (k, m)) k (gcSlot now m ok) := by
  unfold gcStep gcSlot
  simp only
  by_cases hd : (m.expired now || !m.isOk) = true
  · simp only [hd, if_true]
    obtain ⟨d, e⟩ := unpersist_cases s k m
    rw [e]
    exact ⟨true, fun _ => rfl, fun hs => erase_preserves_sorted _ hs _, fun hs x => get?_erase _ hs k x,
      Nat.le_refl _, rfl⟩
  · simp only [hd]
    by_cases hm : m.isModified = true
    · simp only [hm, if_true]
      rcases persist_cases s k m with ⟨hf, e⟩ | ⟨hf, d, e⟩
      · rw [e]
        exact ⟨false, fun h => by omega, fun hs => set_preserves_sorted _ hs _ _, fun _ x => get?_set _ _ _ x,
          Nat.sub_le _ _, rfl⟩
      · rw [e]
        exact ⟨true, fun _ => rfl, fun hs => set_preserves_sorted _ hs _ _, fun _ x => get?_set _ _ _ x,
          Nat.le_refl _, rfl⟩
    · simp only [hm, Bool.false_eq_true, if_false, Bool.not_true]
      exact ⟨true, fun _ => rfl, fun hs => set_preserves_sorted _ hs _ _, fun _ x => get?_set _ _ _ x,
        Nat.le_refl _, rfl⟩

theorem flushStep_idx (now : Int) (s : MState) (k : Bytes) (m : Meta) :
    ∃ ok, (s.failSet = 0 → ok = true) ∧
      StepIdx s (flushStep now s (k, m)) k ((flushSlot now m ok).or (AList.get? s.index k)) := by
  unfold flushStep flushSlot
  simp only
  by_cases hd : (m.expired now || !m.isOk) = true
  · simp only [hd, if_true]
    obtain ⟨d, e⟩ := unpersist_cases s k m
    rw [e]
    exact ⟨true, fun _ => rfl, fun hs => set_preserves_sorted _ hs _ _, fun _ x => get?_set _ _ _ x,
      Nat.le_refl _, rfl⟩
  · simp only [hd, Bool.false_eq_true, if_false]
    by_cases hm : m.isModified = true
    · simp only [hm, Bool.not_true, Bool.false_eq_true, if_false]
      rcases persist_cases s k m with ⟨hf, e⟩ | ⟨hf, d, e⟩
      · rw [e]
        exact ⟨false, fun h => by omega, fun hs => set_preserves_sorted _ hs _ _,
          fun _ x => by simp only [Bool.false_eq_true, if_false]; exact get?_set _ _ _ x,
          Nat.sub_le _ _, rfl⟩
      · rw [e]
        exact ⟨true, fun _ => rfl, fun hs => set_preserves_sorted _ hs _ _,
          fun _ x => by simp only [if_true]; exact get?_set _ _ _ x, Nat.le_refl _, rfl⟩
    · simp only [hm, Bool.not_false, if_true, Option.none_or]
      refine ⟨true, fun _ => rfl, id, fun _ x => ?_, Nat.le_refl _, rfl⟩
      by_cases hx : x = k
      · rw [if_pos hx, hx]
      · rw [if_neg hx]

/-- **the index after a pass**: every step acts on the slot of its own record; `slot m ok` says how.
    With no injected failure every write goes through. -/
theorem pass_index (step : MState → Bytes × Meta → MState) (slot : Meta → Bool → Option Meta → Option Meta)
    (hstep : ∀ s k m, ∃ ok, (s.failSet = 0 → ok = true) ∧
      StepIdx s (step s (k, m)) k (slot m ok (AList.get? s.index k)))
    (s : MState) (hs : AList.Sorted s.index) :
    AList.Sorted (s.index.foldl step s).index ∧
    (s.index.foldl step s).failSet ≤ s.failSet ∧ (s.index.foldl step s).pebble = s.pebble ∧
    ∀ x, ∃ ok, (s.failSet = 0 → ok = true) ∧
      AList.get? (s.index.foldl step s).index x = (AList.get? s.index x).bind fun m => slot m ok (some m) := by
  have key := fold_pass Prod.fst step
    (fun t => AList.Sorted t.index ∧ t.failSet ≤ s.failSet ∧ t.pebble = s.pebble)
    (fun t p => AList.get? t.index p.1 = AList.get? s.index p.1)
    (fun t p => ∃ ok, (s.failSet = 0 → ok = true) ∧ AList.get? t.index p.1 = slot p.2 ok (AList.get? s.index p.1))
    (fun t k => AList.get? t.index k = AList.get? s.index k)
    (by
      rintro t ⟨k, m⟩ ⟨t1, t2, t3⟩ hpre
      obtain ⟨ok, hok, st⟩ := hstep t k m
      refine ⟨⟨st.sorted t1, Nat.le_trans st.fail t2, st.peb.trans t3⟩,
        ⟨ok, fun h => hok (by omega), by rw [st.get t1, if_pos rfl, hpre]⟩, fun q hq => ?_, fun k' hk' => ?_⟩
      · simp only [st.get t1, if_neg hq]
        exact ⟨id, id⟩
      · simp only [st.get t1, if_neg hk']
        exact id)
    s.index (keys_nodup s.index hs) s ⟨hs, Nat.le_refl _, rfl⟩ (fun _ _ => rfl)
  obtain ⟨⟨k1, k2, k3⟩, k4, k5, _⟩ := key
  refine ⟨k1, k2, k3, fun x => ?_⟩
  cases hx : AList.get? s.index x with
  | none =>
    have hnot : x ∉ s.index.map (·.1) := fun hmem => by
      obtain ⟨p, hp, e⟩ := List.mem_map.mp hmem
      obtain ⟨k, m⟩ := p
      subst e
      rw [get?_of_mem _ hs k m hp] at hx; cases hx
    exact ⟨true, fun _ => rfl, (k5 x hnot rfl).trans hx⟩
  | some m =>
    obtain ⟨ok, hok, e⟩ := k4 (x, m) (mem_of_get? _ _ _ hx)
    exact ⟨ok, hok, by rw [e, hx]; rfl⟩

theorem gc_index (s : MState) (now : Int) (hs : AList.Sorted s.index) (hc : s.closed = false) :
    AList.Sorted (gc s now).index ∧
    ∀ x, ∃ ok, (s.failSet = 0 → ok = true) ∧
      AList.get? (gc s now).index x = (AList.get? s.index x).bind fun m => gcSlot now m ok := by
  have e : (gc s now).index = (s.index.foldl (gcStep now) s).index := by
    rw [gc_eq, hc, if_neg (by simp)]; unfold syncShared; split <;> rfl
  rw [e]
  have h := pass_index (gcStep now) (fun m ok _ => gcSlot now m ok) (gcStep_idx now) s hs
  exact ⟨h.1, h.2.2.2⟩

theorem flush_index (s : MState) (now : Int) (hs : AList.Sorted s.index) :
    AList.Sorted (flush s now).index ∧
    ∀ x, ∃ ok, (s.failSet = 0 → ok = true) ∧
      AList.get? (flush s now).index x = (AList.get? s.index x).bind fun m => (flushSlot now m ok).or (some m) := by
  have e : (flush s now).index = (s.index.foldl (flushStep now) s).index := by
    rw [flush_eq]; unfold syncShared; split <;> rfl
  rw [e]
  have h := pass_index (flushStep now) (fun m ok old => (flushSlot now m ok).or old) (flushStep_idx now) s hs
  exact ⟨h.1, h.2.2.2⟩

end NodisVerif.Proofs.Pass

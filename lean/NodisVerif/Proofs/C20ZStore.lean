import NodisVerif.Proofs.C20ZStoreCore
/-
  C20, ZUnionStore / ZInterStore: the record carries destination, operands, weights and aggregate;
  the replica re-executes the command on its own copies of the operands.  Since the result is a
  function of what the operand names show (`zcoreSpec`), and the destination afterwards a function
  of the result and of what the destination showed (`zstorePost`), a replica with the same logical
  keyspace ends with the same logical keyspace.  An empty result gives a DEL record for the destination; a call
  that fails emits nothing and changes nothing; the destination may be one of the operands, and may hold anything.
  Region: an aggregated score of the result is NaN (the sorted-set invariant does not cover NaN).
-/
namespace NodisVerif.Proofs.C20
open NodisVerif NodisVerif.Store NodisVerif.Spec.Persist NodisVerif.Proofs.C11

variable {now : Int} {p r : MState}


section
open NodisVerif.Proofs.AListLemmas2

/-- the second half of `Api.zstore`: an empty result unlinks the destination, otherwise the destination — created
    if it was missing, whatever it held — gets a new value object holding the result and keeps its deadline -/
def zstoreTail (union : Bool) (s : MState) (now : Int) (dst : Bytes) (items : List DsZSet.Item) : Api.R :=
  let (s, _) := writeKey (Api.commit s) now dst (some (.zset DsZSet.empty))
  if items.isEmpty then (emit { delKey s dst with signalled := dst :: s.signalled } { typ := 2, key := dst }, .int 0) else
  let (oid, s) := fresh s
  let s := modMeta s dst fun m => ({ m with oid := oid }.setValue (.zset (buildZ items)))
  (emit (signal s dst) { typ := if union then 34 else 35, key := dst }, .int items.length)

theorem zstore_eq (union : Bool) (s : MState) (now : Int) (dst : Bytes) (keys : List Bytes) (weights : List F64)
    (agg : Bytes) :
    Api.zstore union s now dst keys weights agg =
      match (if union then Api.zunionCore else Api.zinterCore) s now keys weights agg with
      | (s, none) => (s, .panic)
      | (s, some none) => (s, .unsupported)
      | (s, some (some items)) => zstoreTail union s now dst items := rfl

/-- the record the tail emits -/
def zstoreOp (union : Bool) (dst : Bytes) (items : List DsZSet.Item) : FeedOp :=
  if items.isEmpty then { typ := 2, key := dst } else { typ := if union then 34 else 35, key := dst }

/-- the content of the destination afterwards -/
def zstorePost (items : List DsZSet.Item) (L : Option (Val × Int)) : Option (Val × Int) :=
  if items.isEmpty then none else
  some (.zset (buildZ items), match L with | some (_, e) => e | none => 0)

theorem zstoreTail_spec (union : Bool) {s : MState} (h : StoreInv s now) (dst : Bytes) (items : List DsZSet.Item) :
    ((items.isEmpty = false → Good (.zset (buildZ items))) → StoreInv (zstoreTail union s now dst items).1 now) ∧
    (∀ k', lookup (zstoreTail union s now dst items).1 now k' =
      upd (lookup s now) dst (zstorePost items (lookup s now dst)) k') ∧
    (s.listeners = true → fl (zstoreTail union s now dst items).1 = (zstoreOp union dst items :: s.feed, true)) := by
  have hc : StoreInv (Api.commit s) now := held_irrelevant s [] none now h
  have lc : ∀ t' k', lookup (Api.commit s) t' k' = lookup s t' k' := fun t' k' => lookup_congr rfl rfl rfl _ _
  have ks := writeKey_spec hc (Int.le_refl now) dst (some (.zset DsZSet.empty))
    (fun v hv => by cases hv; exact good_emptyZSet)
  have hfl : fl (writeKey (Api.commit s) now dst (some (.zset DsZSet.empty))).1 = fl s := by
    rw [fl_writeKey, fl_commit]
  unfold zstoreTail
  generalize writeKey (Api.commit s) now dst (some (.zset DsZSet.empty)) = q at ks hfl
  obtain ⟨s2, ok⟩ := q
  simp only at hfl ⊢
  -- the record handed back: hot, live, with the deadline the destination showed (0 if created)
  have hrec : ∃ m v0, AList.get? s2.index dst = some m ∧ m.value = some v0 ∧
      m.exp = (match lookup s now dst with | some (_, e) => e | none => 0) ∧ m.expired now = false := by
    cases hL : lookup s now dst with
    | none =>
      obtain ⟨_, _, m, hm, hv, he, hx⟩ := ks.make _ (by rw [lc]; exact hL) rfl
      exact ⟨m, _, hm, hv, he, hx⟩
    | some c =>
      obtain ⟨v, e⟩ := c
      obtain ⟨_, _, m, hm, hv, he, hx⟩ := ks.hit v e (by rw [lc]; exact hL)
      exact ⟨m, _, hm, hv, he, hx⟩
  have hoth : ∀ k', k' ≠ dst → lookup s2 now k' = lookup s now k' := by
    intro k' hk; rw [ks.other now (Int.le_refl _) k' hk, lc]
  cases hemp : items.isEmpty with
  | true =>
    simp only [if_true, zstorePost, zstoreOp, hemp]
    have i1 : StoreInvX (delKey s2 dst) none now := inv_delKey ks.inv dst (fun _ _ => by simp)
    refine ⟨fun _ => ?_, ?_, ?_⟩
    · exact (inv_emits (ops := [{ typ := 2, key := dst }])
        (i1.congr (s' := { delKey s2 dst with signalled := dst :: s2.signalled }) rfl rfl rfl rfl))
    · intro k'
      have e1 : lookup (emit { delKey s2 dst with signalled := dst :: s2.signalled } { typ := 2, key := dst }) now k'
          = lookup (delKey s2 dst) now k' := by
        obtain ⟨a, b, c, _, _⟩ := emit_fields { delKey s2 dst with signalled := dst :: s2.signalled } { typ := 2, key := dst }
        rw [lookup_congr a b c]
        exact lookup_congr rfl rfl rfl _ _
      rw [e1, StoreView.plookup_delKey _ ks.inv.idxSorted]
      by_cases hk : k' = dst
      · simp [hk, upd]
      · simp only [hk, if_false, upd]; exact hoth k' hk
    · intro hl
      have h0 : fl ({ delKey s2 dst with signalled := dst :: s2.signalled } : MState) = fl s := by
        show fl (delKey s2 dst) = fl s
        rw [fl_delKey]; exact hfl
      have hl0 : ({ delKey s2 dst with signalled := dst :: s2.signalled } : MState).listeners = true :=
        (congrArg Prod.snd h0).trans hl
      rw [fl_emit _ _ hl0]
      have : ({ delKey s2 dst with signalled := dst :: s2.signalled } : MState).feed = s.feed := congrArg Prod.fst h0
      rw [this]
  | false =>
    simp only [Bool.false_eq_true, if_false, zstorePost, zstoreOp, hemp, fresh]
    obtain ⟨m, v0, hm, hv, he, hx⟩ := hrec
    have i3 : StoreInvX ({ s2 with nextId := s2.nextId + 1 } : MState) none now :=
      inv_bump ks.inv (s2.nextId + 1) (Nat.le_succ _)
    have hm3 : AList.get? ({ s2 with nextId := s2.nextId + 1 } : MState).index dst = some m := hm
    have hmod : modMeta ({ s2 with nextId := s2.nextId + 1 } : MState) dst
          (fun m => ({ m with oid := s2.nextId } : Meta).setValue (.zset (buildZ items))) =
        putMeta ({ s2 with nextId := s2.nextId + 1 } : MState) dst
          (({ m with oid := s2.nextId } : Meta).setValue (.zset (buildZ items))) := by
      unfold modMeta getMeta
      rw [hm3]
    rw [hmod]
    have r := ks.inv.recs dst m hm
    refine ⟨fun hg => ?_, ?_, ?_⟩
    · have hgood := hg (by trivial)
      have i4 : StoreInvX (putMeta ({ s2 with nextId := s2.nextId + 1 } : MState) dst
            (({ m with oid := s2.nextId } : Meta).setValue (.zset (buildZ items)))) (some dst) now := by
        -- in turn: `hx` (no other name exempt), `hrec` (the new record: hot, good), `hown` (its stored deadline is its
        -- entry's), `hoid` (the fresh identity)
        apply inv_putMeta i3
        · intro k' _ _ hc; cases hc
        · exact RecInv.hot (v := .zset (buildZ items)) rfl (by simp) r.expR hgood r.stored (Or.inr rfl)
        · intro dk e hent hn
          subst hn
          exact (i3.ent_of_name hent hm3).1
        · intro hpb
          exact ⟨ks.inv.idPos, Nat.lt_succ_self _, ((ks.inv.oids hpb).new_fresh dst (Nat.le_refl _)).congr rfl rfl⟩
      have i5 := inv_signal i4 dst (fun k' hk => by simp; exact fun e => hk e.symm)
      exact inv_emits (ops := [{ typ := if union = true then 34 else 35, key := dst }]) i5
    · intro k'
      have e1 := lookup_emits (signal (putMeta ({ s2 with nextId := s2.nextId + 1 } : MState) dst
          (({ m with oid := s2.nextId } : Meta).setValue (.zset (buildZ items)))) dst)
          [{ typ := if union = true then 34 else 35, key := dst }] now k'
      simp only [emits, List.foldl_cons, List.foldl_nil] at e1
      rw [e1, StoreView.plookup_signal]
      by_cases hk : k' = dst
      · subst hk
        rw [lookup_putMeta_same, upd_same]
        rw [view_hot (v := .zset (buildZ items)) rfl (by simp) (by exact hx)]
        simp only [setValue_exp, he]
      · rw [lookup_putMeta_other _ _ hk, upd_other _ _ _ hk]
        have : lookup ({ s2 with nextId := s2.nextId + 1 } : MState) now k' = lookup s2 now k' :=
          lookup_congr rfl rfl rfl _ _
        rw [this]; exact hoth k' hk
    · intro hl
      have h0 : fl (signal (putMeta ({ s2 with nextId := s2.nextId + 1 } : MState) dst
          (({ m with oid := s2.nextId } : Meta).setValue (.zset (buildZ items)))) dst) = fl s := by
        rw [fl_signal, fl_putMeta]; exact hfl
      rw [fl_emit _ _ ((congrArg Prod.snd h0).trans hl)]
      have := congrArg Prod.fst h0
      simp only [fl] at this
      rw [this]

end

/-- some aggregated score of the result is NaN (∞·0, ∞ + -∞, a NaN weight through the embedded API) -/
def zstoreNaN (K : Bytes → Option (Val × Int)) (union : Bool) (keys : List Bytes) (weights : List F64) (agg : Bytes) : Bool :=
  match zcoreSpec union K keys weights agg with
  | some (some items) => items.any fun it => F64.isNaN it.1
  | _ => false

def ZStoreNaN (K : Bytes → Option (Val × Int)) (union : Bool) (keys : List Bytes) (weights : List F64) (agg : Bytes) : Prop :=
  zstoreNaN K union keys weights agg = true

instance (K : Bytes → Option (Val × Int)) (union : Bool) (keys : List Bytes) (weights : List F64) (agg : Bytes) :
    Decidable (ZStoreNaN K union keys weights agg) :=
  inferInstanceAs (Decidable (zstoreNaN K union keys weights agg = true))

theorem noNaN_of_not_region {K : Bytes → Option (Val × Int)} {union : Bool} {keys : List Bytes} {weights : List F64}
    {agg : Bytes} (hreg : ¬ ZStoreNaN K union keys weights agg) {items : List DsZSet.Item}
    (he : zcoreSpec union K keys weights agg = some (some items)) : ∀ it ∈ items, F64.isNaN it.1 = false := by
  intro it hit
  cases hn : F64.isNaN it.1 with
  | false => rfl
  | true =>
    exfalso; apply hreg
    unfold ZStoreNaN zstoreNaN
    rw [he]
    exact List.any_eq_true.mpr ⟨it, hit, hn⟩

theorem zstore_fails (union : Bool) {s : MState} (h : StoreInv s now) (dst : Bytes) (keys : List Bytes)
    (weights : List F64) (agg : Bytes)
    (he : zcoreSpec union (lookup s now) keys weights agg = none ∨ zcoreSpec union (lookup s now) keys weights agg = some none) :
    Kept now s (Api.zstore union s now dst keys weights agg).1 := by
  rw [zstore_eq]
  obtain ⟨kept, e⟩ := zcore_spec union h keys weights agg
  generalize (if union = true then Api.zunionCore else Api.zinterCore) s now keys weights agg = q at kept e
  obtain ⟨s1, res⟩ := q
  simp only at kept e
  subst e
  rcases he with he | he <;> rw [he] <;> exact kept

/-- lookup and feed after a call that succeeds; the invariant only if no item is NaN, so that both can be used inside
    the NaN region (as the first conjunct of `zstoreTail_spec`) -/
theorem zstore_look' (union : Bool) {s : MState} (h : StoreInv s now) (dst : Bytes) (keys : List Bytes)
    (weights : List F64) (agg : Bytes) (items : List DsZSet.Item)
    (he : zcoreSpec union (lookup s now) keys weights agg = some (some items)) :
    ((∀ it ∈ items, F64.isNaN it.1 = false) → StoreInv (Api.zstore union s now dst keys weights agg).1 now) ∧
    (∀ k', lookup (Api.zstore union s now dst keys weights agg).1 now k' =
      upd (lookup s now) dst (zstorePost items (lookup s now dst)) k') ∧
    (s.listeners = true →
      fl (Api.zstore union s now dst keys weights agg).1 = (zstoreOp union dst items :: s.feed, true)) := by
  rw [zstore_eq]
  obtain ⟨kept, e⟩ := zcore_spec union h keys weights agg
  generalize (if union = true then Api.zunionCore else Api.zinterCore) s now keys weights agg = q at kept e
  obtain ⟨s1, res⟩ := q
  simp only at kept e
  rw [he] at e
  subst e
  simp only
  have hsm := zcoreSpec_small union (kgood_lookup h) keys weights agg he
  obtain ⟨a, b, c⟩ := zstoreTail_spec union kept.inv dst items
  refine ⟨fun hn => a (fun _ => good_buildZ hsm hn), ?_, ?_⟩
  · intro k'
    rw [b k', lookup_fun kept]
  · intro hl
    have hl1 : s1.listeners = true := (congrArg Prod.snd kept.fl).trans hl
    rw [c hl1]
    have : s1.feed = s.feed := congrArg Prod.fst kept.fl
    rw [this]

/-- `zstore_look'` outside the NaN region, the invariant unconditional -/
theorem zstore_look (union : Bool) {s : MState} (h : StoreInv s now) (dst : Bytes) (keys : List Bytes)
    (weights : List F64) (agg : Bytes) (items : List DsZSet.Item)
    (he : zcoreSpec union (lookup s now) keys weights agg = some (some items))
    (hn : ∀ it ∈ items, F64.isNaN it.1 = false) :
    StoreInv (Api.zstore union s now dst keys weights agg).1 now ∧
    (∀ k', lookup (Api.zstore union s now dst keys weights agg).1 now k' =
      upd (lookup s now) dst (zstorePost items (lookup s now dst)) k') ∧
    (s.listeners = true →
      fl (Api.zstore union s now dst keys weights agg).1 = (zstoreOp union dst items :: s.feed, true)) := by
  obtain ⟨a, b, c⟩ := zstore_look' union h dst keys weights agg items he
  exact ⟨a hn, b, c⟩

theorem zstore_feed (union : Bool) {s : MState} (h : StoreInv s now) (hl : s.listeners = true) (hfd : s.feed = [])
    (dst : Bytes) (keys : List Bytes) (weights : List F64) (agg : Bytes) (items : List DsZSet.Item)
    (he : zcoreSpec union (lookup s now) keys weights agg = some (some items)) :
    (Api.zstore union s now dst keys weights agg).1.feed.reverse = [zstoreOp union dst items] := by
  rw [(fl_eq ((zstore_look' union h dst keys weights agg items he).2.2 hl)).1, hfd]
  rfl

theorem toHex_ne_bar (b : Bytes) : Bytes.toHex b ≠ "|" := by
  unfold Bytes.toHex
  cases b with
  | nil => decide
  | cons x rest =>
    simp only [List.isEmpty_cons, Bool.false_eq_true, if_false, List.flatMap_cons]
    intro hc
    have := congrArg String.toList hc
    simp only [String.toList_ofList] at this
    have h2 : ("|" : String).toList = ['|'] := by decide
    rw [h2] at this
    simp at this

/-- the fields `Feed.emission` adds to a Z*STORE record -/
def zstoreArgs (keys : List Bytes) (weights : List F64) (agg : Bytes) : List String :=
  [Bytes.toHex agg] ++ keys.map Bytes.toHex ++ ["|"] ++ weights.map toString

theorem zstoreArgs_parse (keys : List Bytes) (weights : List F64) :
    ((keys.map Bytes.toHex ++ "|" :: weights.map toString).takeWhile (· ≠ "|")).mapM Feed.pB = some keys ∧
    (((keys.map Bytes.toHex ++ "|" :: weights.map toString).dropWhile (· ≠ "|")).drop 1).mapM Feed.pF = some weights := by
  have hpos : ∀ a ∈ keys.map Bytes.toHex, (decide (a ≠ "|")) = true := by
    intro a ha
    obtain ⟨b, _, rfl⟩ := List.mem_map.mp ha
    simpa using toHex_ne_bar b
  constructor
  · rw [List.takeWhile_append_of_pos hpos]
    simp only [ne_eq, not_true_eq_false, decide_false, Bool.false_eq_true, not_false_eq_true, List.takeWhile_cons_of_neg,
      List.append_nil]
    exact mapM_pB_toHex keys
  · rw [List.dropWhile_append_of_pos hpos]
    simp only [ne_eq, not_true_eq_false, decide_false, Bool.false_eq_true, not_false_eq_true, List.dropWhile_cons_of_neg,
      List.drop_succ_cons, List.drop_zero]
    exact mapM_pF_toString weights

theorem applyOp_zstore (union : Bool) (r : MState) (now : Int) (dst : Bytes) (keys : List Bytes) (weights : List F64)
    (agg : Bytes) :
    Feed.applyOp r now { typ := if union then 34 else 35, key := dst, args := zstoreArgs keys weights agg } =
      some (Api.zstore union r now dst keys weights agg).1 := by
  obtain ⟨h1, h2⟩ := zstoreArgs_parse keys weights
  -- the branch of `Feed.applyOp` for the two types, by evaluation (unfolding the whole dispatch is slow)
  have e : ∀ (a : String) (rest : List String),
      Feed.applyOp r now { typ := if union then 34 else 35, key := dst, args := a :: rest } =
        ((rest.takeWhile (· ≠ "|")).mapM Feed.pB).bind fun ks =>
          (((rest.dropWhile (· ≠ "|")).drop 1).mapM Feed.pF).bind fun ws =>
            (Feed.pB a).bind fun ag => some (Api.zstore union r now dst ks ws ag).1 := by
    intro a rest
    cases union <;> rfl
  have hargs : zstoreArgs keys weights agg = Bytes.toHex agg :: (keys.map Bytes.toHex ++ "|" :: weights.map toString) := by
    simp only [zstoreArgs, List.cons_append, List.nil_append, List.append_assoc]
  rw [hargs, e, h1, h2, pB_toHex]
  rfl

theorem emission_zstore {c : Feed.CallInfo} (hc : c.method = "ZUnionStore" ∨ c.method = "ZInterStore") (out : Out)
    (raw : List FeedOp) :
    Feed.emission c out raw = raw.map fun op =>
      if op.typ == 34 || op.typ == 35 then { op with args := zstoreArgs c.keys c.weights c.aggregate } else op := by
  unfold Feed.emission zstoreArgs
  rcases hc with hc | hc
  · rw [if_neg (by rw [hc]; decide)]
    simp [hc]
  · rw [if_neg (by rw [hc]; decide)]
    simp [hc]

theorem emission_zstoreOp {c : Feed.CallInfo} (hc : c.method = "ZUnionStore" ∨ c.method = "ZInterStore") (out : Out)
    (union : Bool) (dst : Bytes) (items : List DsZSet.Item) :
    Feed.emission c out [zstoreOp union dst items] =
      [if items.isEmpty then { typ := 2, key := dst }
       else { typ := if union then 34 else 35, key := dst, args := zstoreArgs c.keys c.weights c.aggregate }] := by
  rw [emission_zstore hc]
  unfold zstoreOp
  cases items.isEmpty with
  | true => rfl
  | false => cases union <;> rfl

theorem zstore_main (union : Bool) (hs : Same now p r) (hl : p.listeners = true) (hfd : p.feed = [])
    (c : Feed.CallInfo) (hc : c.method = "ZUnionStore" ∨ c.method = "ZInterStore") (dst : Bytes) (keys : List Bytes)
    (weights : List F64) (agg : Bytes) (hk : c.keys = keys) (hw : c.weights = weights) (ha : c.aggregate = agg)
    (hreg : ¬ ZStoreNaN (lookup p now) union keys weights agg) :
    Replay now r c (Api.zstore union p now dst keys weights agg) ∧
    (Api.zstore union p now dst keys weights agg).1.listeners = true ∧
    ∀ o ∈ (Api.zstore union p now dst keys weights agg).1.feed.reverse, o.key = dst := by
  have hfun : lookup r now = lookup p now := funext hs.look
  unfold Replay
  cases he : zcoreSpec union (lookup p now) keys weights agg with
  | none =>
    have kept := zstore_fails union hs.invP dst keys weights agg (Or.inl he)
    have hf1 : (Api.zstore union p now dst keys weights agg).1.feed = [] := (congrArg Prod.fst kept.fl).trans hfd
    refine ⟨⟨r, by rw [hf1, emission_zstore hc]; rfl, hs.kept kept⟩, (congrArg Prod.snd kept.fl).trans hl, ?_⟩
    rw [hf1]; intro o ho; cases ho
  | some res =>
    cases res with
    | none =>
      have kept := zstore_fails union hs.invP dst keys weights agg (Or.inr he)
      have hf1 : (Api.zstore union p now dst keys weights agg).1.feed = [] := (congrArg Prod.fst kept.fl).trans hfd
      refine ⟨⟨r, by rw [hf1, emission_zstore hc]; rfl, hs.kept kept⟩, (congrArg Prod.snd kept.fl).trans hl, ?_⟩
      rw [hf1]; intro o ho; cases ho
    | some items =>
      have hn := noNaN_of_not_region hreg he
      obtain ⟨ip, lp, fp⟩ := zstore_look union hs.invP dst keys weights agg items he hn
      have hfeed := zstore_feed union hs.invP hl hfd dst keys weights agg items he
      refine ⟨?_, (fl_eq (fp hl)).2, ?_⟩
      · rw [hfeed, emission_zstoreOp hc, hk, hw, ha]
        refine main_of ip lp ?_ ?_
        · intro k e
          by_cases hkd : k = dst
          · subst hkd
            rw [upd_same]
            unfold zstorePost
            split
            · intro hc'; cases hc'
            · intro hc'; cases hc'
          · rw [upd_other _ _ _ hkd]; exact hs.nonil k e
        · rw [← hfun]
          cases hemp : items.isEmpty with
          | true =>
            simp only [if_true]
            have : zstorePost items (lookup r now dst) = none := by simp [zstorePost, hemp]
            rw [this]
            exact replays_del hs.invR dst
          | false =>
            simp only [Bool.false_eq_true, if_false]
            have her : zcoreSpec union (lookup r now) keys weights agg = some (some items) := by rw [hfun]; exact he
            obtain ⟨ir, lr, _⟩ := zstore_look union hs.invR dst keys weights agg items her hn
            exact ⟨_, by simp [Feed.applyAll, applyOp_zstore], ir, lr⟩
      · intro o ho
        rw [hfeed] at ho
        simp only [List.mem_cons, List.not_mem_nil, or_false] at ho
        subst ho
        unfold zstoreOp
        split <;> rfl

/-- a call that hands nothing to the watchers changed nothing (a result, even an empty one, always emits; the
    region hypothesis is not used) -/
theorem zstore_silent (union : Bool) {s : MState} (h : StoreInv s now) (hl : s.listeners = true) (hfd : s.feed = [])
    (c : Feed.CallInfo) (hc : c.method = "ZUnionStore" ∨ c.method = "ZInterStore") (dst : Bytes) (keys : List Bytes)
    (weights : List F64) (agg : Bytes) (hreg : ¬ ZStoreNaN (lookup s now) union keys weights agg)
    (hsil : Feed.emission c (Api.zstore union s now dst keys weights agg).2
      (Api.zstore union s now dst keys weights agg).1.feed.reverse = []) :
    ∀ k, lookup (Api.zstore union s now dst keys weights agg).1 now k = lookup s now k := by
  cases he : zcoreSpec union (lookup s now) keys weights agg with
  | none => exact (zstore_fails union h dst keys weights agg (Or.inl he)).look
  | some res =>
    cases res with
    | none => exact (zstore_fails union h dst keys weights agg (Or.inr he)).look
    | some items =>
      rw [zstore_feed union h hl hfd dst keys weights agg items he, emission_zstore hc] at hsil
      cases hsil

end NodisVerif.Proofs.C20

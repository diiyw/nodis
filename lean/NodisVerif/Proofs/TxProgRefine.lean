import NodisVerif.Proofs.TxProgSim
import NodisVerif.Proofs.TxProgStep
/-
  Program model of tx.go: every step is simulated by the protocol model (`sim_step`), under the callers' conditions
  `Guarded` (discharged in Proofs/TxProgGuard.lean); `refines_from`: trace inclusion for the schedules along which
  `Guarded` holds (`strong_refines` in Proofs/TxProgInv.lean has no such condition).
-/
namespace NodisVerif.Proofs.TxProg
open NodisVerif.Proto (Key Rec Mode Ev Hold TxSt PState assoc erase put Tx)
open NodisVerif.TxProg
open NodisVerif.Proofs.Proto

theorem Sim.init : Sim {} {} where
  reach := Reachable.init
  idx := rfl
  pend := rfl
  names := rfl
  wf := fun _ => wfMu_default
  tx := fun _ => rfl
  thr := fun _ => ⟨by simp [loc_default, holdsOf], by simp [loc_default, extra], by simp [loc_default, Facts],
    by simp [loc_default]⟩

theorem sim_step {c c' : Cfg} {p : PState} {t : Tid} {ch : Choice} {e : Option Ev} (hs : Sim c p)
    (hg : Guarded c t) (h : TxProg.step c t ch = some (c', e)) : ∃ p', optStep p e = some p' ∧ Sim c' p' := by
  obtain ⟨s', l', hts, rfl⟩ := step_inv h
  -- the callers' conditions: lock order at a7, the published record is held, delKey's record is write-held, nobody
  -- registered the key between unlink and claim, gc's record is the indexed one
  obtain ⟨hgOrder, hgPubHeld, hgDelW, hgD3Free, hgGcIdx⟩ := hg
  have hi := hs.thr t
  have hown := hi.own
  have hf := hi.facts
  have hnd := hs.nodup t
  -- what the protocol knows of the thread, once the pc is known
  have htx : ∀ {pc}, (c.loc t).pc = pc → pc ≠ .init → p.tx t = some
      { holds := holdsOf (c.loc t), waiting := waitingOf (c.loc t), committing := committingOf (c.loc t) } :=
    fun hpc hne => hs.tx_some t (hpc ▸ hne)
  have hbegin : (c.loc t).pc = .init → Proto.step p (.begin t) = some (p.setTx t {}) := by
    intro hpc
    have htx0 := hs.tx t
    simp only [absTx, hpc, if_true] at htx0
    simp [Proto.step, htx0]
  have hT := tstep_inv hts
  -- `‹(c.loc t).pc = _›` below is found by `assumption`, which would otherwise try to unfold `step` and `tstep` in these two
  clear h hts
  -- In every case the new local state has a literal pc, at which `holdsOf`, `waitingOf`, `committingOf`, `extra`, `Facts`
  -- compute: there `rfl`, `nofun`, `trivial` stand, and `hown`, `hf` (read at the old pc) are what is asked at the new one.
  cases hT
  case begin hpc _ _ =>
    exact hs.event (hbegin hpc) rfl rfl rfl rfl (absTx_nextPlan _) (inv_nextPlan (by simp) (by simp))
  case mini hpc _ hk =>
    exact hs.event (hbegin hpc) rfl rfl rfl rfl rfl
      ⟨by simp [holdsOf], nofun, by simp [Facts, hk], by simp⟩
  -- only the pc, `store.mu`, the flags and locals outside the abstraction change
  case reacq | newKey | delKey | commit | a1 | a3_create | a3_panic | a4 | a5_found | a6r | n1 | n2 | n3_skip | n4 |
      d1 | d2_none | d4 =>
    have hpc := ‹(c.loc t).pc = _›
    exact hs.local hpc rfl rfl rfl rfl rfl ⟨rfl, rfl, rfl, rfl, rfl⟩ (fun _ => trivial) hi.val
  case a10 | c8 | c10 | g4 | g7 | g9 =>
    have hpc := ‹(c.loc t).pc = _›
    exact hs.local hpc rfl rfl rfl rfl rfl ⟨rfl, rfl, rfl, rfl, rfl⟩ id hi.val
  case a12_fail hpc hv =>
    exact hs.local hpc rfl rfl rfl rfl rfl ⟨by simp [holdsOf, hv], rfl, rfl, rfl, rfl⟩ id hi.val
  case a2 hpc =>
    have htx := htx hpc (by decide)
    simp only [holdsOf, waitingOf, committingOf, hpc] at htx
    refine hs.local hpc (e := some _) (by simp [optStep, Proto.step, htx, Proto.guard, hs.lookup]) rfl rfl rfl rfl
      ⟨rfl, rfl, rfl, rfl, rfl⟩ (fun _ => ?_) hi.val
    simp only [Facts]
    intro hok
    cases hr : c.sh.lookup (c.loc t).key with
    | none => simp [hr] at hok
    | some r => simpa using hs.named hr
  case a3_miss | a3_held | a6c =>
    simp only [holdsOf, ‹(c.loc t).pc = _›] at hown
    exact ⟨p, rfl, hs.silent t _ _ rfl rfl rfl rfl
      (by rw [absTx_retTo]; simp [absTx, ‹(c.loc t).pc = _›, holdsOf, waitingOf, committingOf]) (inv_retTo hown hi.val)⟩
  case a3_wait hpc hok hnone =>
    simp only [Facts, hpc] at hf
    refine hs.local hpc rfl rfl rfl rfl rfl ⟨rfl, rfl, rfl, rfl, rfl⟩ (fun _ => ?_) hi.val
    simp only [Facts]
    refine ⟨hf hok, fun g hg => ?_⟩
    have := List.find?_eq_none.1 hnone g hg
    simpa using this
  case a5_claim hpc hlk hfresh =>
    exact sim_claim (w := (c.loc t).write) hs (by simp [hpc]) (by simp [holdsOf, hpc]) (by simp [waitingOf, hpc])
      (by simp [committingOf, hpc]) hlk hfresh _
      (by cases (c.loc t).write <;> simp [modeOf, owns, Mu.lock, Mu.rlock])
      (by cases (c.loc t).write; exact wf_fresh_rlock t; exact wf_fresh_lock t)
      rfl rfl rfl (by simp [Facts]) rfl
  case a7 hpc =>
    have htx := htx hpc (by decide)
    simp only [holdsOf, waitingOf, committingOf, Facts, hpc] at hown hf htx
    have hord := hgOrder hpc
    have h1 : (TxSt.mk (c.loc t).held none false).holdOf (c.loc t).m = none :=
      holdOf_none.2 (fun g hg => hf.2 g hg)
    have h2 : (TxSt.mk (c.loc t).held none false).mayWait (c.loc t).key = true := by
      simp only [TxSt.mayWait, List.all_eq_true]
      intro g hg; simpa using hord g hg
    exact hs.event (by simp [Proto.step, htx, hs.names, hf.1, h1, h2, holdsOf, waitingOf, committingOf])
      rfl rfl rfl rfl rfl
      (inv_plain hown hi.val rfl rfl hf)
  case a8_w hpc hwr hcan =>
    simp only [holdsOf, Facts, hpc] at hown hf
    refine hs.setMu _ _ (wf_lock hcan t) (fun u _ m ho => absurd ho (not_owns_canLock hcan u m))
      (by simp [absTx, hpc, holdsOf, waitingOf, committingOf])
      ⟨own_setMu hown hf.2, ?_, hf, hi.val⟩
    simp only [extra, holdsOf]
    intro x hx; cases hx
    exact ⟨by simp [mu_setMu, hwr, modeOf, owns, Mu.lock], by simp [hf.1], hf.2⟩
  case a8_r hpc hwr hcan =>
    simp only [holdsOf, Facts, hpc] at hown hf
    refine hs.setMu _ _ (wf_rlock hcan t) (fun u _ m ho => owns_rlock hcan t ho)
      (by simp [absTx, hpc, holdsOf, waitingOf, committingOf])
      ⟨own_setMu hown hf.2, ?_, hf, hi.val⟩
    simp only [extra, holdsOf]
    intro x hx; cases hx
    exact ⟨by simp [mu_setMu, hwr, modeOf, owns, Mu.rlock], by simp [hf.1], hf.2⟩
  case a9 hpc =>
    have htx := htx hpc (by decide)
    simp only [holdsOf, waitingOf, committingOf, Facts, hpc] at hown hf htx
    have hx := hi.ext ((c.loc t).m, modeOf (c.loc t).write) (by simp [extra, hpc])
    have hfree := hs.free_of_extra (t := t) (r := (c.loc t).m) (m := modeOf (c.loc t).write) (by simp [extra, hpc])
    refine hs.event (by simp [Proto.step, htx, hfree, TxSt.setHold, filter_rid_ne hf.2, holdsOf, waitingOf, committingOf])
      rfl rfl rfl rfl rfl ⟨?_, nofun, hf, hi.val⟩
    simp only [holdsOf]
    intro g hg
    rcases List.mem_cons.1 hg with rfl | hg
    · exact hx.1
    · exact hown g hg
  case a11 hpc =>
    have htx := htx hpc (by decide)
    simp only [holdsOf, waitingOf, committingOf, Facts, hpc] at hown hf htx
    have hho := holdOf_head ⟨(c.loc t).m, (c.loc t).key, modeOf (c.loc t).write, false⟩ (c.loc t).held none false
    simp only at hho
    generalize hok : (c.sh.lookup (c.loc t).key == some (c.loc t).m &&
      ((c.loc t).write || (c.sh.flag (c.loc t).m).hasValue)) = ok
    cases ok with
    | false =>
      exact hs.local hpc (e := some _) (by simp [optStep, Proto.step, htx, hho]) rfl rfl rfl rfl
        ⟨by simp [holdsOf, hok], rfl, rfl, rfl, rfl⟩ id hi.val
    | true =>
      have hlk : c.sh.lookup (c.loc t).key = some (c.loc t).m := by
        simp only [Bool.and_eq_true, beq_iff_eq] at hok; exact hok.1
      have hstep : Proto.step p (.valid t (c.loc t).key (c.loc t).m true) = some
          (p.setTx t { holds := ⟨(c.loc t).m, (c.loc t).key, modeOf (c.loc t).write, true⟩ :: (c.loc t).held }) := by
        simp [Proto.step, htx, hho, hs.lookup, hlk, TxSt.setHold, filter_rid_ne hf.2]
      exact hs.event hstep rfl rfl rfl rfl (by simp [absTx, holdsOf, waitingOf, committingOf, hok])
        ⟨by simpa [holdsOf, hok] using hown, nofun, hf, hi.val⟩
  case a12_ok hpc hv =>
    simp only [holdsOf, hpc, hv] at hown
    refine ⟨p, rfl, hs.silent t _ _ rfl rfl rfl rfl ?_ (inv_retTo hown ?_)⟩
    · rw [absTx_retTo]; simp [absTx, hpc, holdsOf, waitingOf, committingOf, hv]
    · intro g hg
      rcases List.mem_cons.1 hg with rfl | hg
      · rfl
      · exact hi.val g hg
  case a13 hpc =>
    have htx := htx hpc (by decide)
    simp only [holdsOf, waitingOf, committingOf, Facts, hpc] at hown hf htx
    have hho := holdOf_head ⟨(c.loc t).m, (c.loc t).key, modeOf (c.loc t).write, false⟩ (c.loc t).held none false
    simp only at hho
    refine hs.event (by simp [Proto.step, htx, hho, TxSt.delHold, filter_rid_ne hf.2, holdsOf, waitingOf, committingOf])
      rfl rfl rfl rfl rfl
      ⟨?_, ?_, hf, hi.val⟩
    · simp only [holdsOf]; intro g hg; exact hown g (List.mem_cons_of_mem _ hg)
    · simp only [extra, holdsOf]
      intro x hx; cases hx
      -- `( … :)`: the hold is read off the membership proof before the goal is looked at
      exact ⟨(hown _ (List.mem_cons_self ..) :), by simp [hf.1], hf.2⟩
  case a14 hpc =>
    simp only [holdsOf, Facts, hpc] at hown hf
    have hx := hi.ext ((c.loc t).m, modeOf (c.loc t).write) (by simp [extra, hpc])
    refine hs.setMu _ _ ?_ (fun u hu m ho => ?_) (by simp [absTx, hpc, holdsOf, waitingOf, committingOf])
      (inv_plain (own_setMu hown hf.2) hi.val rfl rfl trivial)
    · split
      · exact wf_unlock _
      · exact wf_runlock (hs.wf _) t
    · split
      · exact owns_unlock (hs.wf _) hu hx.1 ho
      · exact owns_runlock hu ho
  case n3_publish hpc hp =>
    simp only [holdsOf, hpc] at hown
    have hmem := hgPubHeld hpc hp
    have htx := htx hpc (by decide)
    simp only [holdsOf, waitingOf, committingOf, hpc] at htx
    have hnd := hnd (by simp [hpc])
    simp only [holdsOf, hpc] at hnd
    have hho := holdOf_of_mem (st := ⟨(c.loc t).held, none, false⟩) hnd hmem
    simp only at hho
    have hidx : assoc p.index (c.loc t).key = none := by
      cases hx : assoc p.index (c.loc t).key with
      | none => rfl
      | some r' =>
        have := hs.inv.disjoint _ _ hx
        rw [hs.pend, hp] at this; cases this
    rw [hs.idx] at hidx
    exact sim_maps hs (by simp [Proto.step, htx, hho, hs.pend, hp, hidx, hs.idx]) rfl rfl
      (by simp [absTx, hpc, holdsOf, waitingOf, committingOf])
      (inv_plain hown hi.val rfl rfl trivial)
  case d2_unlink r g hpc hidx hgo =>
    simp only [holdsOf, hpc] at hown
    have hmode := hgDelW hpc r g hidx hgo
    obtain ⟨hmem, -, hkey⟩ := hs.held_of_named (k := (c.loc t).key) hgo (by simp [holdsOf, hpc])
      (hs.named (by simp [Shared.lookup, hidx]))
    have htx := htx hpc (by decide)
    simp only [holdsOf, waitingOf, committingOf, hpc] at htx
    have hho : (TxSt.mk (c.loc t).held none false).holdOf r = some g := hgo
    exact sim_maps hs (by simp [Proto.step, htx, hho, hi.val g hmem, hmode, hkey, hs.idx, hidx, hs.pend]) rfl rfl
      (by simp [absTx, hpc, holdsOf, waitingOf, committingOf])
      (inv_plain hown hi.val rfl rfl trivial)
  case d3 hpc hfresh =>
    exact sim_claim (w := true) hs (by simp [hpc]) (by simp [holdsOf, hpc]) (by simp [waitingOf, hpc])
      (by simp [committingOf, hpc]) (hgD3Free hpc) hfresh _ (by simp [modeOf, owns, Mu.lock]) (wf_fresh_lock t)
      rfl rfl rfl (by simp [Facts]) rfl
  case c0 hpc =>
    simp only [holdsOf, hpc] at hown
    have htx := htx hpc (by decide)
    simp only [holdsOf, waitingOf, committingOf, hpc] at htx
    have hnd := hnd (by simp [hpc])
    simp only [holdsOf, hpc] at hnd
    have : (c.loc t).held.all (·.valid) = true := List.all_eq_true.2 (fun g hg => hi.val g hg)
    exact hs.event (by simp [Proto.step, htx, this]) rfl rfl rfl rfl (absTx_commitNext _ _) (inv_commitNext hown hnd
      (fun g hg => hs.holdNamed t g (by simpa [holdsOf, hpc] using hg)) hi.val)
  case c2 | c4 | c11 =>
    have hpc := ‹(c.loc t).pc = _›
    have htx := htx hpc (by decide)
    simp only [holdsOf, waitingOf, committingOf, Facts, hpc] at hown hf htx
    have hho := holdOf_head (c.loc t).cur (c.loc t).rest none true
    refine hs.event (by simp [Proto.step, htx, hho, TxSt.delHold, filter_rid_ne hf.2, holdsOf, waitingOf, committingOf])
      rfl rfl rfl rfl rfl
      ⟨?_, ?_, hf, hi.val⟩
    · simp only [holdsOf]; intro g hg; exact hown g (List.mem_cons_of_mem _ hg)
    · simp only [extra, holdsOf]
      intro x hx; cases hx
      exact ⟨(hown _ (List.mem_cons_self ..) :), by simp [hf.1], hf.2⟩
  case c3 hpc =>
    have hx := hi.ext ((c.loc t).cur.rid, (c.loc t).cur.mode) (by simp [extra, hpc])
    refine sim_release_cur hs (by simp [hpc]) (by simp [holdsOf, hpc]) (by simp [waitingOf, hpc])
      (by simp [committingOf, hpc]) (by simp [extra, hpc]) _ ?_ ?_
    · split
      · exact wf_unlock _
      · exact wf_runlock (hs.wf _) t
    · intro u hu m ho
      split
      · exact owns_unlock (hs.wf _) hu hx.1 ho
      · exact owns_runlock hu ho
  case c12 hpc =>
    have hx := hi.ext ((c.loc t).cur.rid, (c.loc t).cur.mode) (by simp [extra, hpc])
    exact sim_release_cur hs (by simp [hpc]) (by simp [holdsOf, hpc]) (by simp [waitingOf, hpc])
      (by simp [committingOf, hpc]) (by simp [extra, hpc]) _ (wf_unlock _)
      (fun u hu m ho => owns_unlock (hs.wf _) hu hx.1 ho)
  case c5 hpc =>
    simp only [holdsOf, Facts, hpc] at hown hf
    exact hs.setMu _ _ (wf_runlock (hs.wf _) t) (fun u hu m ho => owns_runlock hu ho)
      (by simp [absTx, hpc, holdsOf, waitingOf, committingOf])
      ⟨own_setMu hown hf.2, nofun, hf, hi.val⟩
  case c6_ok hpc _ hcan =>
    simp only [holdsOf, Facts, hpc] at hown hf
    refine hs.setMu _ _ (wf_lock hcan t) (fun u _ m ho => absurd ho (not_owns_canLock hcan u m))
      (by simp [absTx, hpc, holdsOf, waitingOf, committingOf])
      ⟨own_setMu hown hf.2, ?_, hf, hi.val⟩
    simp only [extra, holdsOf]
    intro x hx; cases hx
    exact ⟨by simp [mu_setMu, owns, Mu.lock], by simp [hf.1], hf.2⟩
  case c6_fail hpc _ =>
    simp only [holdsOf, hpc] at hown
    have hnd := hnd (by simp [hpc])
    simp only [holdsOf, hpc] at hnd
    refine ⟨p, rfl, hs.silent t _ _ rfl rfl rfl rfl ?_
      (inv_commitNext hown hnd (fun g hg => hs.holdNamed t g (by simpa [holdsOf, hpc] using hg)) hi.val)⟩
    rw [absTx_commitNext]; simp [absTx, hpc, holdsOf, waitingOf, committingOf]
  case c7 hpc =>
    have htx := htx hpc (by decide)
    simp only [holdsOf, waitingOf, committingOf, Facts, hpc] at hown hf htx
    have hx := hi.ext ((c.loc t).cur.rid, .w) (by simp [extra, hpc])
    have hfree := hs.free_of_extra (t := t) (r := (c.loc t).cur.rid) (m := .w) (by simp [extra, hpc])
    simp only [hf.1, Option.getD_some]
    refine hs.event (by simp [Proto.step, htx, hs.names, hf.1, hfree, TxSt.setHold, filter_rid_ne hf.2, hs.lookup, holdsOf, waitingOf, committingOf])
      rfl rfl rfl rfl rfl
      ⟨?_, nofun, by simpa [Facts] using hf, hi.val⟩
    simp only [holdsOf]
    intro g hg
    rcases List.mem_cons.1 hg with rfl | hg
    · exact hx.1
    · exact hown g hg
  case c9_drop hpc hp =>
    simp only [holdsOf, Facts, hpc] at hown hf
    simp only [hf.1.1, Option.getD_some] at hp ⊢
    have htx := htx hpc (by decide)
    simp only [holdsOf, waitingOf, committingOf, hpc] at htx
    have hho := holdOf_head (c.loc t).cur (c.loc t).rest none true
    exact sim_maps hs (by simp [Proto.step, htx, hho, hf.2, hs.pend, hp, hs.idx]) rfl rfl
      (by simp [absTx, hpc, holdsOf, waitingOf, committingOf])
      ⟨hown, nofun, hf.1, hi.val⟩
  case c9_skip hpc _ =>
    simp only [Facts, hpc] at hf
    exact hs.local hpc rfl rfl rfl rfl rfl ⟨rfl, rfl, rfl, rfl, rfl⟩ (fun hf => hf.1) hi.val
  case cend | g13 =>
    have hpc := ‹(c.loc t).pc = _›
    have htx := htx hpc (by decide)
    simp only [holdsOf, waitingOf, committingOf, hpc] at htx
    have hstep : Proto.step p (.fin t) = some { p with txs := erase p.txs t } := by
      simp [Proto.step, htx]
    refine ⟨_, hstep, ?_⟩
    refine hs.update t _ _ _ (hs.reach.next hstep) hs.idx hs.pend hs.names hs.wf ?_ ?_ ?_ (fun u _ => hs.thr u)
    · simp [PState.tx, assoc_erase, absTx]
    · exact ⟨by simp [holdsOf], nofun, trivial, by simp⟩
    · intro u hu; simp [PState.tx, assoc_erase, hu]
  case g1 hpc =>
    simp only [Facts, hpc] at hf
    have htx := htx hpc (by decide)
    simp only [holdsOf, waitingOf, committingOf, hpc] at htx
    exact hs.event (by simp [Proto.step, htx, hs.names, hf.1, TxSt.holdOf, TxSt.mayWait, holdsOf, waitingOf, committingOf])
      rfl rfl rfl rfl rfl
      ⟨by simp [holdsOf], nofun, hf, hi.val⟩
  case g2 hpc hcan =>
    simp only [Facts, hpc] at hf
    refine hs.setMu _ _ (wf_lock hcan t) (fun u _ m ho => absurd ho (not_owns_canLock hcan u m))
      (by simp [absTx, hpc, holdsOf, waitingOf, committingOf])
      ⟨by simp [holdsOf], ?_, hf, hi.val⟩
    simp only [extra, holdsOf]
    intro x hx; cases hx
    exact ⟨by simp [mu_setMu, owns, Mu.lock], by simp [hf.1], by simp⟩
  case g3 hpc =>
    simp only [Facts, hpc] at hf
    have hx := hi.ext ((c.loc t).m, .w) (by simp [extra, hpc])
    have htx := htx hpc (by decide)
    simp only [holdsOf, waitingOf, committingOf, hpc] at htx
    have hfree := hs.free_of_extra (t := t) (r := (c.loc t).m) (m := .w) (by simp [extra, hpc])
    refine hs.event (by simp [Proto.step, htx, hfree, TxSt.setHold, holdsOf, waitingOf, committingOf])
      rfl rfl rfl rfl rfl
      ⟨?_, nofun, hf, hi.val⟩
    simp only [holdsOf]
    intro g hg
    simp only [List.mem_singleton] at hg; subst hg
    exact hx.1
  case g5 hpc =>
    have htx := htx hpc (by decide)
    simp only [holdsOf, waitingOf, committingOf, Facts, hpc] at hown hf htx
    have hho := holdOf_head ⟨(c.loc t).m, (c.loc t).key, .w, false⟩ [] none false
    simp only at hho
    generalize hok : (assoc c.sh.index (c.loc t).key == some (c.loc t).m) = ok
    cases ok with
    | false =>
      exact hs.local hpc (e := some _) (by simp [optStep, Proto.step, htx, hho]) rfl rfl rfl rfl
        ⟨rfl, rfl, rfl, rfl, rfl⟩ id hi.val
    | true =>
      have hidx : assoc c.sh.index (c.loc t).key = some (c.loc t).m := by simpa using hok
      have hlk : c.sh.lookup (c.loc t).key = some (c.loc t).m := by simp [Shared.lookup, hidx]
      exact hs.event (by simp [Proto.step, htx, hho, hs.lookup, hlk, TxSt.setHold, holdsOf, waitingOf, committingOf])
        rfl rfl rfl rfl rfl
        ⟨by simpa [holdsOf] using hown, nofun, hf, hi.val⟩
  case g6_stale hpc hok =>
    exact hs.local hpc rfl rfl rfl rfl rfl ⟨by simp [holdsOf, hok], rfl, by simp [committingOf, hok], rfl, rfl⟩ id hi.val
  case g6_dead hpc hok _ | g6_live hpc hok _ =>
    exact hs.local hpc rfl rfl rfl rfl rfl ⟨rfl, rfl, rfl, rfl, rfl⟩ (fun hf => ⟨hf, hok⟩) hi.val
  case g8 hpc =>
    simp only [holdsOf, Facts, hpc] at hown hf
    have hidx := hgGcIdx hpc
    have htx := htx hpc (by decide)
    simp only [holdsOf, waitingOf, committingOf, hpc] at htx
    have hho := holdOf_head ⟨(c.loc t).m, (c.loc t).key, .w, (c.loc t).okcur⟩ [] none false
    simp only at hho
    rw [hf.2] at htx hho
    exact sim_maps hs (by simp [Proto.step, htx, hho, hs.idx, hidx, hs.pend]) rfl rfl
      (by simp [absTx, hpc, holdsOf, waitingOf, committingOf])
      ⟨hown, nofun, hf, hi.val⟩
  case g10 hpc =>
    have htx := htx hpc (by decide)
    simp only [holdsOf, waitingOf, committingOf, Facts, hpc] at hown hf htx
    exact hs.event (by simp [Proto.step, htx, hf.2, holdsOf, waitingOf, committingOf])
      rfl rfl rfl rfl rfl
      ⟨hown, nofun, hf.1, hi.val⟩
  case g11 hpc =>
    have htx := htx hpc (by decide)
    simp only [holdsOf, waitingOf, committingOf, Facts, hpc] at hown hf htx
    have hho := holdOf_head ⟨(c.loc t).m, (c.loc t).key, .w, (c.loc t).okcur⟩ [] none (c.loc t).okcur
    simp only at hho
    refine hs.event (st' := { holds := [], committing := (c.loc t).okcur })
      (by cases hok : (c.loc t).okcur <;> rw [hok] at htx hho <;> simp [Proto.step, htx, hho, TxSt.delHold])
      rfl rfl rfl rfl rfl
      ⟨by simp [holdsOf], ?_, hf, hi.val⟩
    simp only [extra, holdsOf]
    intro x hx; cases hx
    exact ⟨(hown _ (List.mem_singleton.2 rfl) :), by simp [hf.1], by simp⟩
  case g12 hpc =>
    simp only [Facts, hpc] at hf
    have hx := hi.ext ((c.loc t).m, .w) (by simp [extra, hpc])
    exact hs.setMu _ _ (wf_unlock _) (fun u hu m ho => owns_unlock (hs.wf _) hu hx.1 ho)
      (by simp [absTx, hpc, holdsOf, waitingOf, committingOf])
      ⟨by simp [holdsOf], nofun, hf, hi.val⟩

def GuardedRun (c : Cfg) : List (Tid × Choice) → Prop
  | [] => True
  | (t, ch) :: sch =>
    match TxProg.step c t ch with
    | none => GuardedRun c sch
    | some (c', _) => Guarded c t ∧ GuardedRun c' sch

theorem run_cons_none {c : Cfg} {t : Tid} {ch : Choice} {sch : List (Tid × Choice)} (h : TxProg.step c t ch = none) :
    TxProg.run c ((t, ch) :: sch) = TxProg.run c sch := by simp [TxProg.run, h]

theorem run_cons_some {c c' : Cfg} {t : Tid} {ch : Choice} {e : Option Ev} {sch : List (Tid × Choice)}
    (h : TxProg.step c t ch = some (c', e)) :
    TxProg.run c ((t, ch) :: sch) = ((TxProg.run c' sch).1, e.toList ++ (TxProg.run c' sch).2) := by
  simp [TxProg.run, h]

theorem runAll_optStep {p p1 p2 : PState} {e : Option Ev} {es : List Ev} (h1 : optStep p e = some p1)
    (h2 : runAll p1 es = some p2) : runAll p (e.toList ++ es) = some p2 := by
  cases e with
  | none => cases h1; exact h2
  | some ev =>
    simp only [optStep] at h1
    simp only [Option.toList, List.cons_append, List.nil_append, runAll_cons, h1, Option.bind_some]
    exact h2

theorem run_simulates {I : Cfg → PState → Prop}
    (hstep : ∀ {c c' p t ch e}, I c p → TxProg.step c t ch = some (c', e) → ∃ p', optStep p e = some p' ∧ I c' p')
    {c : Cfg} {p : PState} (hi : I c p) (sch : List (Tid × Choice)) :
    ∃ p', runAll p (TxProg.run c sch).2 = some p' ∧ I (TxProg.run c sch).1 p' := by
  induction sch generalizing c p with
  | nil => exact ⟨p, rfl, hi⟩
  | cons a sch ih =>
    obtain ⟨t, ch⟩ := a
    cases hs : TxProg.step c t ch with
    | none => rw [run_cons_none hs]; exact ih hi
    | some r =>
      obtain ⟨c', e⟩ := r
      rw [run_cons_some hs]
      obtain ⟨p1, h1, hi1⟩ := hstep hi hs
      obtain ⟨p2, h2, hi2⟩ := ih hi1
      exact ⟨p2, runAll_optStep h1 h2, hi2⟩

theorem refines_from {c : Cfg} {p : PState} (hs : Sim c p) (sch : List (Tid × Choice)) (hg : GuardedRun c sch) :
    ∃ p', runAll p (TxProg.run c sch).2 = some p' ∧ Sim (TxProg.run c sch).1 p' := by
  induction sch generalizing c p with
  | nil => exact ⟨p, rfl, hs⟩
  | cons a sch ih =>
    obtain ⟨t, ch⟩ := a
    cases hst : TxProg.step c t ch with
    | none =>
      rw [run_cons_none hst]
      simp only [GuardedRun, hst] at hg
      exact ih hs hg
    | some r =>
      obtain ⟨c', e⟩ := r
      rw [run_cons_some hst]
      simp only [GuardedRun, hst] at hg
      obtain ⟨p1, h1, hs1⟩ := sim_step hs hg.1 hst
      obtain ⟨p2, h2, hs2⟩ := ih hs1 hg.2
      exact ⟨p2, runAll_optStep h1 h2, hs2⟩

end NodisVerif.Proofs.TxProg

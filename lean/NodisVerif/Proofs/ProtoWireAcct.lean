import NodisVerif.Proofs.ProtoWireField

/-
  C20 / wire encoding (names in `NodisVerif.Proofs.ProtoWire`): two facts about everything Unmarshal returns, each an
  invariant of its loop (`decodeLoop_inv`).
  1. Every value it stores is one Marshal accepts (`okVals`): `string` fields (and the elements of repeated strings)
     are valid UTF-8, int64 values are in range. Hence a record that came out of DecodeOp never makes Encode fail (a
     replica can ship it on): `decodeOp_encodable`.
  2. Byte accounting (`weight`): the bytes held by the decoded values never exceed the bytes consumed, so everything
     decoded from an input shorter than 2^63 bytes satisfies the length bounds of `wfVals`; with `okVals` a decoded
     record without unknown fields is well-formed (`decodeOp_wf`), hence Encode ∘ DecodeOp yields the canonical
     encoding that decodes to the same record.
-/
namespace NodisVerif.Proofs.ProtoWire
open NodisVerif Varint Codec NodisVerif.ProtoWire

def okVals : Schema → List PVal → Bool
  | [], [] => true
  | (_, k) :: sch, v :: vs => v.ok k && okVals sch vs
  | _, _ => false

theorem shift_lt (b s : Nat) (n : Nat) (hb : b < 2 ^ n) : b <<< s < 2 ^ (s + n) := by
  rw [Nat.shiftLeft_eq, Nat.pow_add, Nat.mul_comm]
  exact Nat.mul_lt_mul_of_pos_left hb (Nat.two_pow_pos s)

theorem uvarintAux_val_lt (b : Bytes) : ∀ (i x : Nat), i ≤ 10 → x < 2 ^ (7 * i) →
    (uvarintAux b i (7 * i) x).1 < 2 ^ 64 := by
  induction b with
  | nil => intro i x _ _; exact Nat.two_pow_pos 64
  | cons a rest ih =>
    intro i x hi hx
    rcases VarintLemmas.uvarintAux_cons a rest i (7 * i) x with h | ⟨h10, ha, h9, h⟩ | ⟨h10, h⟩
    · rw [h]; exact Nat.two_pow_pos 64
    · rw [h]
      show x ||| a.toNat <<< (7 * i) < 2 ^ 64
      have hat : a.toNat < 2 ^ 7 := UInt8.lt_iff_toNat_lt.mp ha
      -- the tenth byte carries one bit, the others seven
      by_cases hi9 : i = 9
      · subst hi9
        have ha1 : a.toNat < 2 ^ 1 := Nat.lt_succ_of_le (UInt8.le_iff_toNat_le.mp (h9 rfl))
        exact Nat.or_lt_two_pow (Nat.lt_trans hx (by decide)) (shift_lt _ _ 1 ha1)
      · have hle : 2 ^ (7 * i + 7) ≤ 2 ^ 64 := Nat.pow_le_pow_right (by decide) (by omega)
        exact Nat.or_lt_two_pow (Nat.lt_of_lt_of_le hx (Nat.pow_le_pow_right (by decide) (by omega)))
          (Nat.lt_of_lt_of_le (shift_lt _ _ 7 hat) hle)
    · rw [h]
      apply ih (i + 1) _ (by omega)
      rw [Nat.mul_add]
      exact Nat.or_lt_two_pow (Nat.lt_of_lt_of_le hx (Nat.pow_le_pow_right (by decide) (by omega)))
        (shift_lt _ _ 7 (Nat.mod_lt _ (by decide)))

theorem consumeVarint_val_lt {b rest : Bytes} {v : Nat} (h : consumeVarint b = some (v, rest)) :
    v < 2 ^ 64 := by
  unfold consumeVarint at h
  split at h
  · cases h
  · simp only [Option.some.injEq, Prod.mk.injEq] at h
    rw [← h.1]
    have := uvarintAux_val_lt b 0 0 (by omega) (by simp)
    simpa [uvarint] using this

theorem ofU64_inInt64 (u : Nat) (h : u < 2 ^ 64) : inInt64 (ofU64 u) = true := by
  unfold inInt64 int64Min int64Max ofU64 two64
  split <;> (apply decide_eq_true; omega)

theorem consumeField_ok {k : Kind} {cur v : PVal} {wt : Nat} {b rest : Bytes}
    (hc : cur.ok k = true) (h : consumeField k cur wt b = .ok v rest) : v.ok k = true := by
  cases consumeField_inv h with
  | str s _ hv => exact hv
  | int u hb => exact ofU64_inInt64 _ (consumeVarint_val_lt hb)
  | repStr s _ hv =>
    -- the slot held valid strings, one more valid string is appended
    cases cur <;> simp only [PVal.ok, Bool.false_eq_true] at hc
    simp only [PVal.ok, PVal.asList, List.all_append, hc, List.all_cons, List.all_nil, hv, Bool.and_self]
  | bytes | bool | double | repBytes | packed | unpacked => rfl

theorem stepField_ok (sch : Schema) (vals : List PVal) {num wt : Nat} {b rest : Bytes} {vals' : List PVal}
    (hok : okVals sch vals = true) (h : stepField sch vals num wt b = .ok vals' rest) : okVals sch vals' = true :=
  stepField_lift (fun sch vs vs' => okVals sch vs = true → okVals sch vs' = true)
    (fun no k sch cur v vs hc hok => by
      simp only [okVals, Bool.and_eq_true] at hok ⊢
      exact ⟨consumeField_ok hok.1 hc, hok.2⟩)
    (fun e sch v vs vs' ih hok => by
      simp only [okVals, Bool.and_eq_true] at hok ⊢
      exact ⟨hok.1, ih hok.2⟩)
    sch vals h hok

theorem step_ok {sch : Schema} {b rest : Bytes} {m m' : Msg} (hok : okVals sch m.vals = true)
    (h : step sch b m = some (m', rest)) : okVals sch m'.vals = true := by
  obtain ⟨t, r, _, hr⟩ := step_inv h
  rcases hr with ⟨vals, hs, e⟩ | ⟨_, e⟩
  · rw [e]; exact stepField_ok _ _ hok hs
  · rw [e]; exact hok

theorem defaults_ok : ∀ (sch : Schema), okVals sch (defaults sch) = true := by
  intro sch
  induction sch with
  | nil => rfl
  | cons e sch ih =>
    obtain ⟨no, k⟩ := e
    show ((k.default).ok k && okVals sch (defaults sch)) = true
    rw [ih]
    cases k <;> rfl

theorem unmarshal_ok {sch : Schema} {b : Bytes} {m : Msg} (h : unmarshal sch b = some m) :
    okVals sch m.vals = true :=
  decodeLoop_inv sch (fun m _ => okVals sch m.vals = true) (fun _ _ _ _ hI hs => step_ok hI hs) _ b _ m (defaults_ok sch) h

theorem encField_noerr {no : Nat} {k : Kind} {v : PVal} (h : v.ok k = true) : (encField no k v).2 = false := by
  cases k <;> cases v <;> simp only [PVal.ok, Bool.false_eq_true] at h <;> simp only [encField]
  · split
    · rfl
    · simp [h]
  · split <;> rfl
  · split <;> rfl
  · split <;> rfl
  · split <;> rfl
  · rw [encStrs_valid _ _ (by simpa using h)]
  · split <;> rfl

theorem marshal_noerr : ∀ (sch : Schema) (vs : List PVal), okVals sch vs = true → (marshal sch vs).2 = false := by
  intro sch
  induction sch with
  | nil => intro vs _; cases vs <;> rfl
  | cons e sch ih =>
    intro vs h
    obtain ⟨no, k⟩ := e
    cases vs with
    | nil => rfl
    | cons v vs =>
      simp only [okVals, Bool.and_eq_true] at h
      simp only [marshal, encField_noerr h.1, Bool.false_eq_true, if_false]
      exact ih vs h.2

theorem decodeOp_inv {b : Bytes} {op : Op} (h : decodeOp b = .ok op) :
    ∃ sch body, b = op.typ :: body ∧ schemaOf op.typ.toNat = some sch ∧ unmarshal sch body = some op.msg := by
  unfold decodeOp at h
  split at h
  · cases h
  · rename_i t body
    split at h
    · cases h
    · rename_i sch hs
      split at h
      · cases h
      · rename_i m hm
        cases h
        exact ⟨sch, body, rfl, hs, hm⟩

theorem decodeOp_encodable {b : Bytes} {op : Op} (h : decodeOp b = .ok op) : encodeFails op = false := by
  obtain ⟨sch, body, _, hs, hm⟩ := decodeOp_inv h
  simp only [encodeFails, hs, marshalMsg, marshal_noerr sch _ (unmarshal_ok hm), Bool.false_eq_true, if_false]

theorem decodeOp_okVals {b : Bytes} {op : Op} (h : decodeOp b = .ok op) :
    ∃ sch, schemaOf op.typ.toNat = some sch ∧ okVals sch op.msg.vals = true := by
  obtain ⟨sch, body, _, hs, hm⟩ := decodeOp_inv h
  exact ⟨sch, hs, unmarshal_ok hm⟩

def sumLen : List Bytes → Nat
  | [] => 0
  | s :: l => s.length + sumLen l

def weight : PVal → Nat
  | .bytes s => s.length
  | .list l => sumLen l
  | .f64s l => 8 * l.length
  | _ => 0

def weightVals : List PVal → Nat
  | [] => 0
  | v :: vs => weight v + weightVals vs

theorem weight_bytes (s : Bytes) : weight (.bytes s) = s.length := rfl
theorem weight_list (l : List Bytes) : weight (.list l) = sumLen l := rfl
theorem weight_f64s (l : List UInt64) : weight (.f64s l) = 8 * l.length := rfl
theorem weight_int (i : Int) : weight (.int i) = 0 := rfl
theorem weight_bool (b : Bool) : weight (.bool b) = 0 := rfl
theorem weight_f64 (x : UInt64) : weight (.f64 x) = 0 := rfl

theorem sumLen_append (a b : List Bytes) : sumLen (a ++ b) = sumLen a + sumLen b := by
  induction a with
  | nil => simp [sumLen]
  | cons s l ih => simp only [List.cons_append, sumLen, ih]; omega

theorem sumLen_mem {l : List Bytes} {s : Bytes} (h : s ∈ l) : s.length ≤ sumLen l := by
  induction l with
  | nil => cases h
  | cons t l ih =>
    cases h with
    | head => simp only [sumLen]; omega
    | tail _ h' => have := ih h'; simp only [sumLen]; omega

theorem unpackN_length : ∀ (n : Nat) (b : Bytes), (unpackN n b).length = n := by
  intro n
  induction n with
  | zero => intro b; rfl
  | succ n ih => intro b; simp only [unpackN, List.length_cons, ih]

theorem unpack64_acct {p : Bytes} {xs : List UInt64} (h : unpack64 p = some xs) : 8 * xs.length = p.length := by
  unfold unpack64 at h
  split at h
  · cases h
  · simp only [Option.some.injEq] at h
    rw [← h, unpackN_length]
    omega

theorem asList_weight (cur : PVal) : sumLen cur.asList ≤ weight cur := by
  cases cur <;> simp [PVal.asList, weight, sumLen]

theorem asF64s_weight (cur : PVal) : 8 * cur.asF64s.length ≤ weight cur := by
  cases cur <;> simp [PVal.asF64s, weight]

theorem consumeField_acct {k : Kind} {cur v : PVal} {wt : Nat} {b rest : Bytes}
    (h : consumeField k cur wt b = .ok v rest) : weight v + rest.length ≤ weight cur + b.length := by
  have hl := asList_weight cur
  have hf := asF64s_weight cur
  cases consumeField_inv h with
  | str s hb _ | bytes s hb => have := consumeBytes_acct hb; rw [weight_bytes]; omega
  | int u hb | bool u hb => have := consumeVarint_lt hb; simp only [weight_int, weight_bool]; omega
  | double x hb => have := consumeFixed64_le hb; rw [weight_f64]; omega
  | repStr s hb _ | repBytes s hb =>
    have := consumeBytes_acct hb
    simp only [weight_list, sumLen_append, sumLen]; omega
  | packed p xs hb hu =>
    have := consumeBytes_acct hb
    have := unpack64_acct hu
    simp only [weight_f64s, List.length_append]; omega
  | unpacked x hb =>
    have := consumeFixed64_acct hb
    simp only [weight_f64s, List.length_append, List.length_singleton]; omega

theorem stepField_acct (sch : Schema) (vals : List PVal) {num wt : Nat} {b rest : Bytes} {vals' : List PVal}
    (h : stepField sch vals num wt b = .ok vals' rest) : weightVals vals' + rest.length ≤ weightVals vals + b.length :=
  stepField_lift (fun _ vs vs' => weightVals vs' + rest.length ≤ weightVals vs + b.length)
    (fun _ _ _ cur v vs hc => by have := consumeField_acct hc; simp only [weightVals]; omega)
    (fun _ _ v vs vs' ih => by simp only [weightVals]; omega)
    sch vals h

theorem step_acct {sch : Schema} {b rest : Bytes} {m m' : Msg} (h : step sch b m = some (m', rest)) :
    weightVals m'.vals + rest.length ≤ weightVals m.vals + b.length := by
  obtain ⟨t, r, hc, hr⟩ := step_inv h
  have hlt := consumeVarint_lt hc
  rcases hr with ⟨vals, hs, e⟩ | ⟨hs, e⟩
  · have := stepField_acct _ _ hs; rw [e]; omega
  · have := skipValue_le hs; rw [e]; omega

theorem defaults_weight : ∀ (sch : Schema), weightVals (defaults sch) = 0 := by
  intro sch
  induction sch with
  | nil => rfl
  | cons e sch ih =>
    obtain ⟨no, k⟩ := e
    show weight k.default + weightVals (defaults sch) = 0
    rw [ih]
    cases k <;> rfl

theorem unmarshal_acct {sch : Schema} {b : Bytes} {m : Msg} (h : unmarshal sch b = some m) :
    weightVals m.vals ≤ b.length := by
  have := decodeLoop_inv sch (fun m1 b1 => weightVals m1.vals + b1.length ≤ b.length)
    (fun _ _ _ _ hI hs => Nat.le_trans (step_acct hs) hI) _ b _ m
    (by rw [defaults_weight, Nat.zero_add]; exact Nat.le_refl _) h
  exact this

theorem small_of_weight {v : PVal} (h : weight v < 2 ^ 63) : v.small = true := by
  cases v <;> simp only [PVal.small, weight] at *
  · exact decide_eq_true h
  · rw [List.all_eq_true]
    intro s hs
    have := sumLen_mem hs
    exact decide_eq_true (by omega)
  · exact decide_eq_true h

theorem wf_of_ok_weight : ∀ (sch : Schema) (vs : List PVal), okVals sch vs = true → weightVals vs < 2 ^ 63 →
    wfVals sch vs = true := by
  intro sch
  induction sch with
  | nil => intro vs h _; cases vs <;> simp_all [okVals, wfVals]
  | cons e sch ih =>
    intro vs h hw
    obtain ⟨no, k⟩ := e
    cases vs with
    | nil => simp [okVals] at h
    | cons v vs =>
      simp only [okVals, Bool.and_eq_true] at h
      simp only [weightVals] at hw
      simp only [wfVals, Bool.and_eq_true]
      exact ⟨⟨h.1, small_of_weight (by omega)⟩, ih vs h.2 (by omega)⟩

theorem decodeOp_wf {b : Bytes} {op : Op} (h : decodeOp b = .ok op) (hb : b.length < 2 ^ 63)
    (hu : op.msg.unknown = []) : op.wf = true := by
  obtain ⟨sch, body, rfl, hs, hm⟩ := decodeOp_inv h
  have h2 := unmarshal_acct hm
  rw [List.length_cons] at hb
  simp only [Op.wf, hs, Bool.and_eq_true, beq_iff_eq]
  exact ⟨wf_of_ok_weight sch _ (unmarshal_ok hm) (by omega), hu⟩

end NodisVerif.Proofs.ProtoWire

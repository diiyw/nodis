import NodisVerif.Proofs.SkiplistLevel

/-
  `removeNode` (Model/Skiplist.lean) unlinks a node of the chain. Helpers in `NodisVerif.Skiplist.Unlink` (`Frame`: what no step of
  `removeNode` changes; `newLv`: the effect of `unlinkLevels` on the level slots); the interface in `NodisVerif.Skiplist`:
  `removeNode_desc` describes the heap `removeNode` leaves, `removeNode_spec` is what the operations built on it need.
-/
namespace NodisVerif.Skiplist.Unlink
open NodisVerif.DsZSet (Item nodeLt)
open NodisVerif.Proofs.C04 (ILt)
open NodisVerif.Proofs.ZSetLemmas (Good)

/-- the part of the heap no operation of `removeNode` changes -/
structure Frame (h h' : List Node) : Prop where
  len : h'.length = h.length
  ht : ∀ x, height h' x = height h x
  item : ∀ x, itemAt h' x = itemAt h x

theorem Frame.refl (h : List Node) : Frame h h := ⟨rfl, fun _ => rfl, fun _ => rfl⟩

theorem Frame.trans {h h' h'' : List Node} (a : Frame h h') (b : Frame h' h'') : Frame h h'' :=
  ⟨by rw [b.len, a.len], fun x => by rw [b.ht, a.ht], fun x => by rw [b.item, a.item]⟩

theorem Frame.above {h h' : List Node} (a : Frame h h') (i x : Nat) : above h' i x = above h i x := by
  simp [Skiplist.above, a.ht]

theorem Frame.of_skel {h h' : List Node} (hs : skel h' = skel h) : Frame h h' :=
  ⟨length_congr hs, height_congr hs, itemAt_congr hs⟩

theorem lv_above {h : List Node} {n i : Nat} {l : Level} (hl : lv h n i = some l) : above h i n = true := by
  simp [Skiplist.above, (lv_isSome_iff h n i).1 ⟨l, hl⟩]

/-- the new value of `x.level[j]` when `x = update[j]` -/
def newLv (h : List Node) (n x j : Nat) : Option Level :=
  match lv h x j with
  | none => none
  | some l =>
    if l.forward = some n then
      match lv h n j with
      | some ln => some { forward := ln.forward, span := l.span + (ln.span - 1) }
      | none => none
    else some { l with span := l.span - 1 }

theorem unlinkLevels_spec (n : Nat) (update : List (Option Nat)) : ∀ (k i : Nat) (h : List Node),
    (∀ j, i ≤ j → j < i + k → ∃ u l, update[j]? = some (some u) ∧ u ≠ n ∧ lv h u j = some l ∧
        (l.forward = some n → j < height h n)) →
    ∃ h', unlinkLevels n update k i h = .ok h' ∧ Frame h h' ∧ (∀ x, bk h' x = bk h x) ∧
      ∀ x j, lv h' x j =
        if i ≤ j ∧ j < i + k ∧ update[j]? = some (some x) then newLv h n x j else lv h x j := by
  intro k
  induction k with
  | zero =>
    intro i h _
    refine ⟨h, by simp [unlinkLevels, pure, Except.pure], Frame.refl h, fun _ => rfl, ?_⟩
    intro x j
    have : ¬ (i ≤ j ∧ j < i + 0 ∧ update[j]? = some (some x)) := by omega
    rw [if_neg this]
  | succ k ih =>
    intro i h hyp
    obtain ⟨u, l, hu, hun, hl, hfn⟩ := hyp i (Nat.le_refl _) (by omega)
    -- one iteration is `modLevel h u i f` for an `f` with `newLv h n u i = some (f l)`
    obtain ⟨f, hnew, hstep⟩ : ∃ f : Level → Level, newLv h n u i = some (f l) ∧ ∀ h1, modLevel h u i f = .ok h1 →
        unlinkLevels n update (k + 1) i h = unlinkLevels n update k (i + 1) h1 := by
      have hgl := (getLevel_eq_lv h u i l).2 hl
      by_cases hf : l.forward = some n
      · obtain ⟨ln, hln⟩ := (lv_isSome_iff h n i).2 (hfn hf)
        refine ⟨fun l => { forward := ln.forward, span := l.span + (ln.span - 1) }, by simp [newLv, hl, hf, hln],
          fun h1 hm => ?_⟩
        simp [unlinkLevels, getUpd_ok _ _ _ hu, hgl, (getLevel_eq_lv h n i ln).2 hln, hf, hm, bind, Except.bind]
      · refine ⟨fun l => { l with span := l.span - 1 }, by simp [newLv, hl, hf], fun h1 hm => ?_⟩
        simp [unlinkLevels, getUpd_ok _ _ _ hu, hgl, hf, hm, bind, Except.bind]
    obtain ⟨h1, hm, hs1, hback, hlv⟩ := modLevel_spec h u i f ((lv_isSome_iff h u i).1 ⟨l, hl⟩)
    simp only [hl, Option.map_some] at hlv
    have hfr := Frame.of_skel hs1
    have hlv' : ∀ x j, j ≠ i → lv h1 x j = lv h x j := by
      intro x j hj; rw [hlv]; simp [hj]
    obtain ⟨h', hrun, hfr', hback', hlv2⟩ := ih (i + 1) h1 (by
      intro j hj1 hj2
      obtain ⟨u', l', hu', hun', hl', hfn'⟩ := hyp j (by omega) (by omega)
      exact ⟨u', l', hu', hun', by rw [hlv' _ _ (by omega)]; exact hl', by rw [hfr.ht]; exact hfn'⟩)
    refine ⟨h', by rw [hstep h1 hm]; exact hrun, hfr.trans hfr', fun x => by rw [hback', hback], ?_⟩
    intro x j
    rw [hlv2]
    by_cases hji : j = i
    · subst hji
      have c1 : ¬ (j + 1 ≤ j ∧ j < j + 1 + k ∧ update[j]? = some (some x)) := by omega
      rw [if_neg c1, hlv]
      by_cases hx : x = u
      · subst hx; simp [hu, hnew]
      · have : ¬ some (some u) = some (some x) := by simp [Ne.symm hx]
        simp [hx, hu, this]
    · have hnl : newLv h1 n x j = newLv h n x j := by
        simp only [newLv, hlv' _ _ hji]
      rw [hnl, hlv' _ _ hji]
      by_cases c : i + 1 ≤ j ∧ j < i + 1 + k ∧ update[j]? = some (some x)
      · have c' : i ≤ j ∧ j < i + (k + 1) ∧ update[j]? = some (some x) := ⟨by omega, by omega, c.2.2⟩
        rw [if_pos c, if_pos c']
      · have c' : ¬ (i ≤ j ∧ j < i + (k + 1) ∧ update[j]? = some (some x)) := by
          intro c'; exact c ⟨by omega, by omega, c'.2.2⟩
        rw [if_neg c, if_neg c']

theorem updateFor_mem {h : List Node} {level : Nat} {Z : List Nat} {update : List (Option Nat)}
    (hupd : UpdateFor h level Z update) {j x : Nat} (hj : j < level) (hx : update[j]? = some (some x)) : x ∈ Z := by
  obtain ⟨A', u, B', hs, _, _, hu⟩ := hupd j hj
  rw [hx] at hu; cases hu
  rw [hs]; simp

/-- one level of the chain without `n`: below `level` the slot of `update[j]` is the one `unlinkLevels` wrote (`newLv`):
    it takes over the link of `n` if `n` takes part in the level, else its link shrinks by one; at or above `level` only
    the first node has slots, and their links are nil. `ns = some len` carries the span discipline of nil links along. -/
theorem level_remove {h h' : List Node} {level z : Nat} {A B : List Nat} {n : Nat} {update : List (Option Nat)}
    (hnd : (z :: A ++ n :: B).Nodup)
    (hle : ∀ y ∈ A ++ n :: B, height h y ≤ level)
    (hupd : UpdateFor h level (z :: A) update)
    (hht : ∀ x, height h' x = height h x)
    (hlv : ∀ x j, lv h' x j =
      if j < level ∧ update[j]? = some (some x) then newLv h n x j else lv h x j)
    (ns : Option Int) (j : Nat) (hns : ns = none ∨ j < level)
    (hold : LevelNs ns (above h j) (lv h · j) (z :: A ++ n :: B)) :
    LevelNs (ns.map (· - 1)) (above h' j) (lv h' · j) (z :: A ++ B) := by
  have hab : above h' = above h := by funext i y; simp [above, hht]
  rw [hab]
  have hsp : ∀ x l, lv h x j = some l → above h j x = true := fun x l hl => lv_above hl
  by_cases hj : j < level
  · obtain ⟨A1, u, B1, hs, hua, hB1, hu⟩ := hupd j hj
    refine LevelNs.remove hnd hold hsp hs hua hB1 (fun x hx => ?_) ?_
    · show lv h' x j = _
      rw [hlv, if_neg (fun c => hx (by rw [hu] at c; simpa using c.2.symm))]
    · obtain ⟨l, hl⟩ := (lv_isSome_iff h u j).2 (by simpa [above] using hua)
      have hf := (hold A1 u (B1 ++ n :: B) l (by rw [hs]; simp) hl).1
      rw [(find_append_none hB1).1] at hf
      have hlu : lv h' u j = newLv h n u j := by rw [hlv, if_pos ⟨hj, hu⟩]
      unfold newLv at hlu
      cases hn : above h j n with
      | true =>
        obtain ⟨ln, hln⟩ := (lv_isSome_iff h n j).2 (by simpa [above] using hn)
        refine .unsplice l ln hn hl hln ?_
        show lv h' u j = _
        rw [hlu]; simp [hl, hf, hn, hln]
      | false =>
        have hfn : ¬ l.forward = some n := fun e => by
          rw [hf] at e; have := List.find?_some e; rw [hn] at this; cases this
        refine .unbump l hn hl ?_
        show lv h' u j = _
        rw [hlu]; simp [hl, hfn]
  · obtain rfl : ns = none := hns.resolve_right hj
    have hlvj : ∀ x, lv h' x j = lv h x j := fun x => by rw [hlv, if_neg (fun c => hj c.1)]
    have hno : ∀ y ∈ A ++ n :: B, above h j y = false := fun y hy => by
      have := hle y hy; simp [above]; omega
    refine LevelNs.single (z := z) (fun x l hl => hsp x l ((hlvj x).symm.trans hl))
      (fun y hy => hno y (by simp at hy ⊢; rcases hy with h | h <;> simp [h]))
      (fun l hl => ⟨?_, fun _ e => by cases e⟩)
    rw [(hold [] z (A ++ n :: B) l rfl ((hlvj z).symm.trans hl)).1, find_all_false hno]

theorem linked_remove {h h' : List Node} {level z : Nat} {A B : List Nat} {n : Nat} {update : List (Option Nat)}
    (hnd : (z :: A ++ n :: B).Nodup)
    (hlk : Linked h (z :: A ++ n :: B))
    (hle : ∀ y ∈ A ++ n :: B, height h y ≤ level)
    (hupd : UpdateFor h level (z :: A) update)
    (hht : ∀ x, height h' x = height h x)
    (hlv : ∀ x j, lv h' x j =
      if j < level ∧ update[j]? = some (some x) then newLv h n x j else lv h x j) :
    Linked h' (z :: A ++ B) := by
  rw [linked_iff_levels]
  exact fun j => level_remove hnd hle hupd hht hlv none j (Or.inl rfl) ((linked_iff_levels _ _).1 hlk j)

theorem shrinkLevel_spec (h : List Node) (hh : ∀ j, j < maxLevel → ∃ l, lv h 0 j = some l) :
    ∀ lvl, 1 ≤ lvl → lvl ≤ maxLevel →
    ∃ L', shrinkLevel h lvl = .ok L' ∧ 1 ≤ L' ∧ L' ≤ lvl ∧
      (L' = 1 ∨ ∃ l, lv h 0 (L' - 1) = some l ∧ l.forward ≠ none) ∧
      ∀ j l, L' ≤ j → j < lvl → lv h 0 j = some l → l.forward = none := by
  intro lvl
  induction lvl with
  | zero => intro h0; omega
  | succ m ih =>
    intro _ hm
    cases m with
    | zero =>
      refine ⟨1, by simp [shrinkLevel, pure, Except.pure], by omega, by omega, Or.inl rfl, ?_⟩
      intro j l h1 h2; omega
    | succ m =>
      obtain ⟨l, hl⟩ := hh (m + 1) (by omega)
      cases hf : l.forward with
      | none =>
        obtain ⟨L', hrun, h1, h2, h3, h4⟩ := ih (by omega) (by omega)
        refine ⟨L', by simp [shrinkLevel, (getLevel_eq_lv _ _ _ _).2 hl, hf, bind, Except.bind, hrun], h1, by omega, h3, ?_⟩
        intro j l' hj1 hj2 hl'
        by_cases hj : j = m + 1
        · subst hj; rw [hl] at hl'; cases hl'; exact hf
        · exact h4 j l' hj1 (by omega) hl'
      | some f =>
        refine ⟨m + 2, by simp [shrinkLevel, (getLevel_eq_lv _ _ _ _).2 hl, hf, bind, Except.bind, pure, Except.pure],
          by omega, by omega, Or.inr ⟨l, hl, by simp [hf]⟩, ?_⟩
        intro j l' hj1 hj2; omega


/-- the last part of `removeNode`: `shrinkLevel` on the final heap, and the invariant of the result -/
theorem removeNode_finish {sl : SL} {A B : List Nat} {n : Nat} {update : List (Option Nat)}
    (hc : IsChain sl (A ++ n :: B)) (hupd : UpdateFor sl.heap sl.level (0 :: A) update)
    {hF : List Node} (hfr : Frame sl.heap hF)
    (hlv : ∀ x j, lv hF x j =
      if j < sl.level ∧ update[j]? = some (some x) then newLv sl.heap n x j else lv sl.heap x j)
    (hback : BackLinked hF none (A ++ B)) (t : Option Nat) (ht : t = (A ++ B).getLast?) :
    ∃ lvl, shrinkLevel hF sl.level = .ok lvl ∧ lvl ≤ sl.level ∧
      IsChain { heap := hF, tail := t, length := sl.length - 1, level := lvl } (A ++ B) := by
  have hsub : (A ++ B).Sublist (A ++ n :: B) :=
    List.Sublist.append (List.Sublist.refl A) (List.sublist_cons_self n B)
  have hmem : ∀ y ∈ A ++ B, y ∈ A ++ n :: B := fun y hy => hsub.subset hy
  have hlk : Linked hF (0 :: A ++ B) :=
    linked_remove (h := sl.heap) (level := sl.level) (n := n) (update := update)
      hc.nodup hc.linked hc.hle hupd hfr.ht hlv
  have hhead : ∀ j l, lv hF 0 j = some l → l.forward = (A ++ B).find? (above hF j) := by
    intro j l hl
    exact ((linked_iff_split hF _).1 hlk [] 0 (A ++ B) rfl j l hl).1
  have hh : ∀ j, j < maxLevel → ∃ l, lv hF 0 j = some l := by
    intro j hj
    exact (lv_isSome_iff hF 0 j).2 (by rw [hfr.ht, hc.header]; exact hj)
  obtain ⟨lvl, hrun, h1, h2, h3, h4⟩ := shrinkLevel_spec hF hh sl.level hc.levelLo hc.levelHi
  refine ⟨lvl, hrun, h2, ?_⟩
  have hle' : ∀ y ∈ A ++ B, height hF y ≤ lvl := by
    intro y hy
    have hyl : height hF y ≤ sl.level := by rw [hfr.ht]; exact hc.hle y (hmem y hy)
    by_cases hgt : height hF y ≤ lvl
    · exact hgt
    · exfalso
      obtain ⟨l, hl⟩ := hh (height hF y - 1) (by have := hc.levelHi; omega)
      have hnone := h4 (height hF y - 1) l (by omega) (by omega) hl
      rw [hhead _ l hl, List.find?_eq_none] at hnone
      exact hnone y hy (by simp [above]; omega)
  constructor
  · exact hc.nodup.sublist (List.Sublist.cons_cons 0 hsub)
  · intro y hy; show y < hF.length; rw [hfr.len]; exact hc.bound y (hmem y hy)
  · show (A ++ B).length + 1 ≤ hF.length
    rw [hfr.len]; have := hc.size; simp at this ⊢; omega
  · show height hF 0 = maxLevel; rw [hfr.ht]; exact hc.header
  · intro y hy; show 1 ≤ height hF y; rw [hfr.ht]; exact hc.hpos y (hmem y hy)
  · exact hle'
  · exact h1
  · exact Nat.le_trans h2 hc.levelHi
  · show lvl = 1 ∨ ∃ y ∈ A ++ B, height hF y = lvl
    rcases h3 with h3 | ⟨l, hl, hne⟩
    · exact Or.inl h3
    · right
      rw [hhead _ l hl] at hne
      cases hfd : (A ++ B).find? (above hF (lvl - 1)) with
      | none => exact absurd hfd hne
      | some y =>
        have hy := List.mem_of_find?_eq_some hfd
        have ha := List.find?_some hfd
        have := hle' y hy
        refine ⟨y, hy, ?_⟩
        simp [above] at ha; omega
  · exact hlk
  · exact hback
  · exact ht
  · show sl.length - 1 = ((A ++ B).length : Int)
    have := hc.length; simp at this ⊢; omega
  · show ((A ++ B).map (itemAt hF)).Pairwise ILt
    have : itemAt hF = itemAt sl.heap := funext hfr.item
    rw [this]
    exact hc.sorted.sublist (hsub.map _)
  · intro y hy; show Good (itemAt hF y); rw [hfr.item]; exact hc.good y (hmem y hy)

end NodisVerif.Skiplist.Unlink

-- the interface lemmas live in `NodisVerif.Skiplist`, with the helpers open
namespace NodisVerif.Skiplist
open NodisVerif.DsZSet (Item nodeLt)
open NodisVerif.Proofs.C04 (ILt)
open NodisVerif.Proofs.ZSetLemmas (Good)
open Unlink

/-- `removeNode(n, update)` for a node `n` of the chain with a fitting `update[]`: nothing panics, the node is unlinked,
    and the new heap is the old one except for the level slots of the `update[j]` (`newLv`) and the backward pointer of
    the node behind `n` -/
theorem removeNode_desc {sl : SL} {A : List Nat} {n : Nat} {B : List Nat} (hc : IsChain sl (A ++ n :: B))
    (update : List (Option Nat)) (hupd : UpdateFor sl.heap sl.level (0 :: A) update) :
    ∃ sl', removeNode sl n update = .ok sl' ∧ IsChain sl' (A ++ B) ∧ Frame sl.heap sl'.heap ∧
      sl'.level ≤ sl.level ∧ sl'.length = sl.length - 1 ∧
      (∀ x j, lv sl'.heap x j =
        if j < sl.level ∧ update[j]? = some (some x) then newLv sl.heap n x j else lv sl.heap x j) ∧
      (∀ x, bk sl'.heap x = if some x = B.head? then some (lastOr none A) else bk sl.heap x) := by
  have hnd : (0 :: A ++ n :: B).Nodup := hc.nodup
  have hdisj := (List.nodup_append.1 hnd).2.2
  have hnZ : n ∉ 0 :: A := fun hx => hdisj n hx n (by simp) rfl
  have hlk : Linked sl.heap (0 :: A ++ n :: B) := hc.linked
  have hloop : ∀ j, 0 ≤ j → j < 0 + sl.level → ∃ u l, update[j]? = some (some u) ∧ u ≠ n ∧
      lv sl.heap u j = some l ∧ (l.forward = some n → j < height sl.heap n) := by
    intro j _ hj
    obtain ⟨A', u, B', hs, hua, hB', hu⟩ := hupd j (by omega)
    obtain ⟨l, hl⟩ := (lv_isSome_iff sl.heap u j).2 (by simpa [above] using hua)
    refine ⟨u, l, hu, ?_, hl, ?_⟩
    · intro e; subst e; exact hnZ (by rw [hs]; simp)
    · intro hf
      have := ((linked_iff_split sl.heap _).1 hlk A' u (B' ++ n :: B) (by rw [hs]; simp) j l hl).1
      rw [hf] at this
      have := List.find?_some this.symm
      simpa [above] using this
  obtain ⟨h1, hrun1, hfr1, hback1, hlv1⟩ := unlinkLevels_spec n update sl.level 0 sl.heap hloop
  have hlv1' : ∀ x j, lv h1 x j =
      if j < sl.level ∧ update[j]? = some (some x) then newLv sl.heap n x j else lv sl.heap x j := by
    intro x j
    rw [hlv1]
    simp only [Nat.zero_le, true_and, Nat.zero_add]
  have hbk := (backLinked_append sl.heap A (n :: B) none).1 hc.back
  rw [backLinked_cons] at hbk
  obtain ⟨hbA, hbn, hbB⟩ := hbk
  obtain ⟨nd, hnd1, hndb⟩ : ∃ nd, h1[n]? = some nd ∧ nd.backward = lastOr none A := by
    have : bk h1 n = some (lastOr none A) := by rw [hback1]; exact hbn
    unfold bk at this
    cases hn : h1[n]? with
    | none => simp [hn] at this
    | some nd => exact ⟨nd, rfl, by simpa [hn] using this⟩
  have hn1 : 1 ≤ height sl.heap n := hc.hpos n (by simp)
  obtain ⟨l0, hl0⟩ := (lv_isSome_iff sl.heap n 0).2 (by omega)
  have hl0' : lv h1 n 0 = some l0 := by
    rw [hlv1', if_neg (fun c => hnZ (updateFor_mem hupd c.1 c.2))]; exact hl0
  have hl0f : l0.forward = B.find? (above sl.heap 0) :=
    ((linked_iff_split sl.heap _).1 hlk (0 :: A) n B rfl 0 l0 hl0).1
  cases B with
  | nil =>
    simp only [List.find?_nil] at hl0f
    obtain ⟨lvl, hrun, hle, hchain⟩ := removeNode_finish hc hupd hfr1 hlv1'
      (by
        rw [List.append_nil]
        exact backLinked_congr _ none (fun x _ => hback1 x) hbA)
      nd.backward (by rw [hndb, lastOr_none, List.append_nil])
    refine ⟨_, ?_, hchain, hfr1, hle, rfl, hlv1', fun x => by simpa using hback1 x⟩
    simp [removeNode, hrun1, (getNode_ok_iff h1 n nd).2 hnd1, (getLevel_eq_lv _ _ _ _).2 hl0', hl0f, hrun, bind,
      Except.bind, pure, Except.pure]
  | cons f B2 =>
    have hfa : above sl.heap 0 f = true := by
      have := hc.hpos f (by simp)
      simp [above]; omega
    simp only [List.find?_cons, hfa] at hl0f
    have hflt : f < h1.length := by rw [hfr1.len]; exact hc.bound f (by simp)
    obtain ⟨h2, hrun2, hs2, hlv2, hback2⟩ := setBackward_spec h1 f nd.backward hflt
    have hfr2 := hfr1.trans (Frame.of_skel hs2)
    have hfA : f ∉ A := fun hx => hdisj f (by simp [hx]) f (by simp) rfl
    have hfB2 : f ∉ B2 := by
      have := (List.nodup_append.1 hnd).2.1
      simp at this
      exact this.2.1
    have hbk2 : ∀ x, bk h2 x = if some x = (f :: B2).head? then some (lastOr none A) else bk sl.heap x := by
      intro x
      rw [hback2, hback1, hndb]
      simp
    rw [backLinked_cons] at hbB
    obtain ⟨lvl, hrun, hle, hchain⟩ := removeNode_finish hc hupd hfr2
      (by intro x j; rw [hlv2, hlv1'])
      (by
        rw [backLinked_append, backLinked_cons]
        refine ⟨?_, ?_, ?_⟩
        · refine backLinked_congr _ none (fun x hx => ?_) hbA
          rw [hback2, if_neg (fun (e : x = f) => hfA (e ▸ hx)), hback1]
        · rw [hback2, if_pos rfl, hndb]
        · refine backLinked_congr _ _ (fun x hx => ?_) hbB.2
          rw [hback2, if_neg (fun (e : x = f) => hfB2 (e ▸ hx)), hback1])
      sl.tail (by rw [hc.tail]; simp [List.getLast?_append, List.getLast?_cons])
    refine ⟨_, ?_, hchain, hfr2, hle, rfl, fun x j => by rw [← hlv1', ← hlv2], hbk2⟩
    simp [removeNode, hrun1, (getNode_ok_iff h1 n nd).2 hnd1, (getLevel_eq_lv _ _ _ _).2 hl0', hl0f, hrun2, hrun, bind,
      Except.bind, pure, Except.pure]

theorem removeNode_spec {sl : SL} {c : List Nat} (hc : IsChain sl c) (A : List Nat) (n : Nat) (B : List Nat)
    (hsplit : c = A ++ n :: B) (update : List (Option Nat))
    (hupd : UpdateFor sl.heap sl.level (0 :: A) update) :
    ∃ sl', removeNode sl n update = .ok sl' ∧ IsChain sl' (A ++ B) ∧
      sl'.heap.length = sl.heap.length ∧ sl'.level ≤ sl.level ∧
      itemAt sl'.heap = itemAt sl.heap ∧
      (∀ x, height sl'.heap x = height sl.heap x) := by
  subst hsplit
  obtain ⟨sl', hr, hc', hfr, hle, _⟩ := removeNode_desc hc update hupd
  exact ⟨sl', hr, hc', hfr.len, hle, funext hfr.item, hfr.ht⟩

end NodisVerif.Skiplist

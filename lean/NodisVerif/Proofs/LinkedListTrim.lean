import NodisVerif.Proofs.LinkedListUnlink
/-
  Pointer-level list (Model/LinkedList.lean): the read-only walks (size, forEach / LRange, GetValue) and the
  mutating walk of LTrim refine the sequence-level functions of Model/DsList.lean.
-/
namespace NodisVerif.LinkedList

/-- `xs` filtered by position: element number `j` of `xs` is kept iff `q (k + j)` -/
def keepIdx {α : Type} (q : Nat → Bool) : Nat → List α → List α
  | _, [] => []
  | k, x :: xs => if q k then x :: keepIdx q (k + 1) xs else keepIdx q (k + 1) xs

@[simp] theorem keepIdx_nil {α : Type} (q : Nat → Bool) (k : Nat) : keepIdx q k ([] : List α) = [] := rfl

theorem keepIdx_cons {α : Type} (q : Nat → Bool) (k : Nat) (x : α) (xs : List α) :
    keepIdx q k (x :: xs) = if q k then x :: keepIdx q (k + 1) xs else keepIdx q (k + 1) xs := rfl

/-- the `zipIdx` / `filter` / `map fst` pipeline of DsList.forEach and DsList.ltrim is `keepIdx` -/
theorem zipIdx_filter_keep {α : Type} (q : Nat → Bool) (xs : List α) (k : Nat) (p : α × Nat → Bool)
    (hp : ∀ a i, p (a, i) = q i) : ((xs.zipIdx k).filter p).map (·.1) = keepIdx q k xs := by
  induction xs generalizing k with
  | nil => rfl
  | cons x xs ih =>
    rw [List.zipIdx_cons, List.filter_cons, hp, keepIdx_cons]
    cases q k
    · simpa using ih (k + 1)
    · simpa using ih (k + 1)

theorem keepIdx_map {α β : Type} (q : Nat → Bool) (f : α → β) (xs : List α) (k : Nat) :
    keepIdx q k (xs.map f) = (keepIdx q k xs).map f := by
  induction xs generalizing k with
  | nil => rfl
  | cons x xs ih =>
    rw [List.map_cons, keepIdx_cons, keepIdx_cons, ih]
    cases q k <;> rfl

theorem keepIdx_length_le {α : Type} (q : Nat → Bool) (xs : List α) (k : Nat) :
    (keepIdx q k xs).length ≤ xs.length := by
  induction xs generalizing k with
  | nil => exact Nat.le_refl _
  | cons x xs ih =>
    rw [keepIdx_cons]
    have := ih (k + 1)
    cases q k
    · simp only [Bool.false_eq_true, if_false, List.length_cons]; omega
    · simp only [if_true, List.length_cons]; omega

/-- the `break` of forEach: once every later position fails the test, nothing more is kept -/
theorem keepIdx_none {α : Type} (q : Nat → Bool) (xs : List α) (k : Nat) (hq : ∀ i, k ≤ i → q i = false) :
    keepIdx q k xs = [] := by
  induction xs generalizing k with
  | nil => rfl
  | cons x xs ih =>
    rw [keepIdx_cons, hq k (Nat.le_refl _)]
    simp only [Bool.false_eq_true, if_false]
    exact ih (k + 1) (fun i hi => hq i (by omega))

theorem sizeLoop_seg (h : Heap) (suf : List Nat) (p : Option Nat) (fuel : Nat) (len : Int)
    (hs : Seg h p suf none) (hf : suf.length ≤ fuel) :
    sizeLoop fuel h (hd suf none) len = .ok (len + suf.length) := by
  induction suf generalizing p fuel len with
  | nil => cases fuel <;> simp [sizeLoop]
  | cons x rest ih =>
    obtain ⟨n, h1, _, h3, h4⟩ := hs
    cases fuel with
    | zero => simp at hf
    | succ fuel =>
      simp only [hd_cons, sizeLoop, rd_ok h1, Res.bind_ok, h3]
      rw [ih _ fuel _ h4 (by simpa using hf)]
      simp only [List.length_cons]
      congr 1
      omega

theorem absL_size {l : PList} {c : List Nat} (hi : InvC l c) : DsList.size (absL l) = (c.length : Int) := by
  simp [DsList.size, absL, abs_eq hi]

theorem size_eq {l : PList} {c : List Nat} (hi : InvC l c) : size l = .ok (c.length : Int) := by
  unfold size
  rw [hi.head, ← hd_none, sizeLoop_seg _ c none _ 0 hi.seg (by have := hi.length_le; omega)]
  simp

theorem size_refines (l : PList) (hi : Inv l) : size l = .ok (DsList.size (absL l)) := by
  obtain ⟨c, hi⟩ := hi
  rw [size_eq hi, absL_size hi]

theorem forEachLoop_seg (h : Heap) (start stop : Int) (suf : List Nat) (p : Option Nat) (fuel : Nat) (k : Nat)
    (acc : List Bytes) (hs : Seg h p suf none) (hf : suf.length ≤ fuel) :
    forEachLoop fuel h (hd suf none) (k : Int) start stop acc =
      .ok (acc ++ keepIdx (fun i => decide (start ≤ (i : Int) ∧ (i : Int) ≤ stop)) k (suf.map (dataAt h))) := by
  induction suf generalizing p fuel k acc with
  | nil => cases fuel <;> simp [forEachLoop]
  | cons x rest ih =>
    obtain ⟨n, h1, _, h3, h4⟩ := hs
    cases fuel with
    | zero => simp at hf
    | succ fuel =>
      simp only [hd_cons, forEachLoop, rd_ok h1, Res.bind_ok, h3, List.map_cons, dataAt_of h1]
      by_cases hgt : (k : Int) > stop
      · have hno : ¬ ((k : Int) ≥ start ∧ (k : Int) ≤ stop) := by omega
        rw [keepIdx_none _ _ k (by intro i hi; simp only [decide_eq_false_iff_not]; omega)]
        simp only [if_pos hgt, if_neg hno, List.append_nil]
      · have hk : (k : Int) + 1 = ((k + 1 : Nat) : Int) := by omega
        simp only [if_neg hgt]
        rw [hk, ih _ fuel (k + 1) _ h4 (by simpa using hf), keepIdx_cons]
        by_cases hc : (k : Int) ≥ start ∧ (k : Int) ≤ stop
        · have hd : decide (start ≤ (k : Int) ∧ (k : Int) ≤ stop) = true := decide_eq_true hc
          simp only [if_pos hc, hd, if_true, List.append_assoc, List.singleton_append]
        · have hd : decide (start ≤ (k : Int) ∧ (k : Int) ≤ stop) = false := decide_eq_false hc
          simp only [if_neg hc, hd, Bool.false_eq_true, if_false]

theorem forEach_tail {l : PList} {c : List Nat} (hi : InvC l c) (s e : Int) :
    (if s > e then Res.ok [] else forEachLoop (l.heap.size + 1) l.heap l.head 0 s e []) =
      .ok (if s > e then []
        else ((absL l).items.zipIdx.filter fun (_, i) => s ≤ (i : Int) ∧ (i : Int) ≤ e).map (·.1)) := by
  by_cases h : s > e
  · simp only [if_pos h]
  · have := forEachLoop_seg l.heap s e c none (l.heap.size + 1) 0 [] hi.seg (by have := hi.length_le; omega)
    simp only [if_neg h]
    show _ = Res.ok (((abs l).zipIdx.filter _).map _)
    rw [hi.head, ← hd_none,
      zipIdx_filter_keep (fun i => decide (s ≤ (i : Int) ∧ (i : Int) ≤ e)) _ 0 _ (by intro a i; rfl),
      abs_eq hi]
    simpa using this

theorem forEach_refines (l : PList) (hi : Inv l) (start stop : Int) :
    forEach l start stop = .ok (DsList.forEach (absL l) start stop) := by
  obtain ⟨c, hi⟩ := hi
  unfold forEach DsList.forEach
  simp only [size_eq hi, absL_size hi, Res.bind_ok, Res.pure_eq]
  by_cases h1 : start < 0 <;> by_cases h2 : stop < 0 <;>
    simp only [h1, h2, if_true, if_false, Int.add_comm start, Int.add_comm stop] <;>
    exact forEach_tail hi _ _

theorem lrange_refines (l : PList) (hi : Inv l) (start stop : Int) :
    lrange l start stop = .ok (DsList.lrange (absL l) start stop) :=
  forEach_refines l hi start stop

theorem getValue_refines (l : PList) (hi : Inv l) :
    getValue l = .ok (Codec.encodeList (absL l)) := by
  simp only [getValue, forEach_refines l hi, Res.bind_ok, Res.pure_eq, Codec.encodeList]

/-- the test of LTrim as a predicate on positions -/
def keptP (start stop : Int) (i : Nat) : Bool := decide (¬ ((i : Int) < start ∨ (i : Int) > stop))

/-- the loop of LTrim.  `pre` = the nodes already visited and kept, `suf` = the nodes still to visit, `k` =
    the number of nodes already visited (kept or not). -/
theorem ltrimLoop_spec (start stop : Int) (suf : List Nat) (pre : List Nat) (l : PList) (fuel : Nat) (k : Nat)
    (hi : InvC l (pre ++ suf)) (hf : suf.length ≤ fuel) :
    ∃ l', ltrimLoop fuel l (hd suf none) (k : Int) start stop = .ok l' ∧
      InvC l' (pre ++ keepIdx (keptP start stop) k suf) ∧ SameData l l' := by
  induction suf generalizing pre l fuel k with
  | nil =>
    refine ⟨l, ?_, by simpa using hi, SameData.refl l⟩
    cases fuel <;> simp [ltrimLoop]
  | cons x rest ih =>
    obtain ⟨n, hx, _, hnx⟩ := seg_mid _ pre rest x none none hi.seg
    cases fuel with
    | zero => simp at hf
    | succ fuel =>
      have hk : (k : Int) + 1 = ((k + 1 : Nat) : Int) := by omega
      have hf' : rest.length ≤ fuel := by simpa using hf
      simp only [hd_cons, ltrimLoop]
      rw [keepIdx_cons]
      by_cases hc : (k : Int) < start ∨ (k : Int) > stop
      · have hq : keptP start stop k = false := by
          unfold keptP; exact decide_eq_false (fun h => h hc)
        obtain ⟨l1, e1, hi1, hx1, sd1⟩ := unlink_spec l pre rest x hi
        obtain ⟨l', e', hi', sd'⟩ := ih pre l1 fuel (k + 1) hi1 hf'
        refine ⟨l', ?_, ?_, sd1.trans sd'⟩
        · simp only [if_pos hc, e1, Res.bind_ok, rd_ok (hx1.trans hx), hnx, hk, e']
        · simpa only [hq, Bool.false_eq_true, if_false] using hi'
      · have hq : keptP start stop k = true := by
          unfold keptP; exact decide_eq_true hc
        have hi0 : InvC l ((pre ++ [x]) ++ rest) := by
          simpa only [List.append_assoc, List.singleton_append] using hi
        obtain ⟨l', e', hi', sd'⟩ := ih (pre ++ [x]) l fuel (k + 1) hi0 hf'
        refine ⟨l', ?_, ?_, sd'⟩
        · simp only [if_neg hc, Res.bind_ok, rd_ok hx, hnx, hk, e']
        · simpa only [hq, if_true, List.append_assoc, List.singleton_append] using hi'

theorem ltrim_refines (l : PList) (hi : Inv l) (start stop : Int) :
    ∃ l', ltrim l start stop = .ok l' ∧ Inv l' ∧ absL l' = DsList.ltrim (absL l) start stop := by
  obtain ⟨c, hi⟩ := hi
  have key : ∀ s e : Int, ∃ l', ltrimLoop (l.heap.size + 1) l l.head 0 s e = .ok l' ∧ Inv l' ∧
      absL l' = { items := ((abs l).zipIdx.filter fun (_, i) => ¬ ((i : Int) < s ∨ (i : Int) > e)).map (·.1),
                  length := l.length - ((abs l).length -
                    (((abs l).zipIdx.filter fun (_, i) => ¬ ((i : Int) < s ∨ (i : Int) > e)).map (·.1)).length : Nat) } := by
    intro s e
    obtain ⟨l', e', hi', sd'⟩ := ltrimLoop_spec s e c [] l (l.heap.size + 1) 0 (by simpa using hi)
      (by have := hi.length_le; omega)
    rw [hd_none, ← hi.head] at e'
    have ha : abs l' =
        ((abs l).zipIdx.filter fun (_, i) => ¬ ((i : Int) < s ∨ (i : Int) > e)).map (·.1) := by
      rw [zipIdx_filter_keep (keptP s e) _ 0 _ (by intro a i; rfl), abs_eq hi, abs_eq hi', keepIdx_map]
      exact List.map_congr_left (fun i _ => sd'.data i)
    generalize [] ++ keepIdx (keptP s e) 0 c = c' at hi'
    refine ⟨l', e', ⟨c', hi'⟩, ?_⟩
    have hlen : (abs l').length = c'.length := by rw [abs_eq hi', List.length_map]
    have hlen0 : (abs l).length = c.length := by rw [abs_eq hi, List.length_map]
    have hle : c'.length ≤ c.length := by
      rw [← hlen, ← hlen0, ha, zipIdx_filter_keep (keptP s e) _ 0 _ (by intro a i; rfl)]
      exact keepIdx_length_le _ _ _
    unfold absL
    rw [← ha, hlen, hlen0, hi'.length, hi.length]
    congr 1
    omega
  unfold ltrim DsList.ltrim
  simp only [size_eq hi, absL_size hi]
  by_cases h1 : start < 0 <;> by_cases h2 : stop < 0 <;>
    simp only [h1, h2, if_true, if_false, Res.bind_ok, Res.pure_eq] <;>
    exact key _ _

end NodisVerif.LinkedList

import NodisVerif.Proofs.ZAddPairs
import NodisVerif.Proofs.C09Writers
/-
  C09 "writers signal" table, part 3: the sorted-set family (see C09Writers.lean for the definitions, the Frame calculus
  and `frame_keyTx`).  Then what is known about the region `holdsEmptyZSet` of ZREM & co (data-structure lemmas: every
  writer of a sorted set writes a non-empty one; the early exits of Z*STORE; the hand-written store of the witness), the
  example showing that the Pebble hypothesis is necessary, and one `example` per region hypothesis.
-/

namespace NodisVerif.Proofs.C09Writers
open NodisVerif NodisVerif.Store NodisVerif.Api NodisVerif.Proofs.AListLemmas2

theorem asZSet_of_valOf {s : MState} {key : Bytes} {z : ZSet} (hv : valOf s key = some (.zset z)) :
    asZSet s key = some z := by simp [asZSet, hv]
theorem valOf_of_asZSet {s : MState} {key : Bytes} {z : ZSet} (h : asZSet s key = some z) :
    valOf s key = some (.zset z) := by
  unfold asZSet at h
  split at h
  · next v hv => cases h; exact hv
  · cases h

theorem fold_count {α β : Type} (f : α × Int → β → α × Int)
    (hf : ∀ acc x, f acc x = acc ∨ (f acc x).2 = acc.2 + 1) : ∀ (xs : List β) (acc : α × Int),
    acc.2 ≤ (xs.foldl f acc).2 ∧ ((xs.foldl f acc).2 ≤ acc.2 → (xs.foldl f acc).1 = acc.1) := by
  intro xs
  induction xs with
  | nil => intro acc; exact ⟨Int.le_refl _, fun _ => rfl⟩
  | cons x xs ih =>
    intro acc
    rw [List.foldl_cons]
    rcases hf acc x with e | e
    · rw [e]; exact ih acc
    · have := ih (f acc x)
      refine ⟨by omega, fun hle => ?_⟩
      omega

theorem zRem_noop (z : ZSet) (ms : List Bytes) (h : ¬ (DsZSet.zRem z ms).2 > 0) : (DsZSet.zRem z ms).1 = z := by
  unfold DsZSet.zRem at h ⊢
  refine (fold_count _ (fun acc x => ?_) ms (z, 0)).2 (by dsimp only; omega)
  split
  · exact Or.inr rfl
  · exact Or.inl rfl

theorem take_nil_drop {α : Type} : ∀ (n : Nat) (l : List α), l.take n = [] → l.drop n = l
  | 0, _, _ => rfl
  | _ + 1, [], _ => rfl
  | _ + 1, _ :: _, h => by simp at h

/-- `DsZSet.zRemRangeByRank` from its test `start > stop ∨ start ≥ size` on, `a` and `b` being the normalised bounds
    (the unfolding in `zRemRangeByRank_noop` supplies them) -/
def rankAux (z : ZSet) (a b : Int) : ZSet × Int :=
  if a > b ∨ a ≥ DsZSet.zCard z then (z, 0) else
  let (sl, rem) := DsZSet.slRemoveRangeByRank z.sl (a + 1) (b + 1)
  ({ dict := rem.foldl (fun d it => AList.erase d it.2) z.dict, sl := sl }, rem.length)

theorem rankAux_noop (z : ZSet) (a b : Int) (h : ¬ (rankAux z a b).2 > 0) : (rankAux z a b).1 = z := by
  unfold rankAux at h ⊢
  split
  · rfl
  · next hc =>
    rw [if_neg hc] at h
    simp only [DsZSet.slRemoveRangeByRank] at h ⊢
    generalize (if a + 1 ≤ 1 then 0 else _ : Nat) = i0 at h ⊢
    generalize (if b + 1 < (i0 : Int) + 1 then 0 else _ : Nat) = cnt at h ⊢
    have hnil : (List.drop i0 z.sl).take cnt = [] := by
      cases hx : (List.drop i0 z.sl).take cnt with
      | nil => rfl
      | cons x l => rw [hx] at h; simp at h
    rw [hnil, take_nil_drop _ _ hnil, List.take_append_drop]
    rfl

theorem zRemRangeByRank_noop (z : ZSet) (start stop : Int) (h : ¬ (DsZSet.zRemRangeByRank z start stop).2 > 0) :
    (DsZSet.zRemRangeByRank z start stop).1 = z :=
  rankAux_noop z _ _ h

theorem takeWhile_append_drop {α : Type} (p : α → Bool) : ∀ (l : List α),
    l.takeWhile p ++ l.drop (l.takeWhile p).length = l
  | [] => rfl
  | a :: l => by
    cases hp : p a
    · simp [List.takeWhile, hp]
    · simp [List.takeWhile, hp, takeWhile_append_drop p l]

theorem zRemRangeByScore_noop (z : ZSet) (min max : F64) (mode : Nat)
    (h : ¬ (DsZSet.zRemRangeByScore z min max mode).2 > 0) : (DsZSet.zRemRangeByScore z min max mode).1 = z := by
  unfold DsZSet.zRemRangeByScore DsZSet.slRemoveRange at h ⊢
  dsimp only at h ⊢
  generalize (List.takeWhile _ (List.drop _ z.sl)) = rem at h ⊢
  have hnil : rem = [] := by
    cases rem with
    | nil => rfl
    | cons a l => simp at h
  subst hnil
  simp only [List.length_nil, List.drop_zero, List.foldl_nil, takeWhile_append_drop]

/-- the key currently holds an existing but EMPTY sorted set (the record is live and its value has no
    member). NOT KNOWN TO BE REACHABLE through the API; see the section "is the region reachable?" below. -/
def holdsEmptyZSet (s : MState) (now : Int) (key : Bytes) : Bool :=
  match asZSet (Store.writeKey s now key none).1 key with
  | some z => DsZSet.zCard z = 0
  | none => false

section zset
variable (s : MState) (hp : s.pebble = true) (now : Int)
include hp

theorem frame_zaddWith (f : ZSet → Bytes → F64 → ZSet × Int) (key m : Bytes) (sc : F64) :
    Frame [] s (Api.zaddWith f s now key m sc).1 := by
  rw [C11.zaddWith_eq]
  exact frame_keyTx s hp _ _ _ _ _ now key nofun (fun _ h _ => by cases h; rfl)

theorem frame_zaddXX (key m : Bytes) (sc : F64) : Frame [] s (Api.zaddXX s now key m sc).1 := by
  rw [C20.zaddXX_eq]
  exact frame_form _ s hp now nofun nofun

theorem frame_zaddCmp (f : ZSet → Bytes → F64 → ZSet × Bool) (key m : Bytes) (sc : F64) :
    Frame [] s (Api.zaddCmp f s now key m sc).1 := by
  rw [C20.zaddCmp_eqU]
  exact frame_keyTx s hp _ _ _ _ _ now key nofun nofun

/-- zAddPairs (the ZADD command): ONE transaction for all pairs. The key is signalled whenever a member was written;
    a key created by the command (no XX) always has its first pair written, so it is signalled too -/
theorem frame_zaddPairs (key : Bytes) (nx xx gt lt ch : Bool) (pairs : List (Bytes × F64)) :
    Frame [] s (Api.zaddPairs s now key nx xx gt lt ch pairs).1 := by
  by_cases hne : pairs = []
  · subst hne; exact Frame.refl _ _
  · rw [C20.zaddPairs_eq s now key nx xx gt lt ch pairs hne]
    refine frame_form _ s hp now nofun (fun v0 h _ => ?_)
    cases xx with
    | true => cases h
    | false =>
      cases h
      have hops := Proofs.ZAddPairs.zaddFold_empty_ops_ne nx gt lt pairs hne
        { z := DsZSet.empty, added := 0, changed := 0, ops := [] } rfl
      show (C20.decZaddPairs key nx false gt lt ch pairs (.zset DsZSet.empty) 0).isKeep = false
      simp only [C20.decZaddPairs, C20.zpFold, List.isEmpty_iff, hops, if_false, C11.Act.isKeep]

theorem frame_zincrby (key m : Bytes) (delta : F64) : Frame [] s (Api.zincrby s now key m delta).1 := by
  rw [C20.zincrby_eqU]
  exact frame_keyTx s hp _ _ _ _ _ now key nofun (fun _ h _ => by cases h; rfl)

/-
  FULL STATEMENTS (false), for f ∈ {zrem, zremRangeByRank, zremRangeByScore}:
    theorem writers_signal_zrem (s) (hp : s.pebble = true) (now key members) (k) :
      changed s (Api.zrem s now key members).1 k → k ∈ (Api.zrem s now key members).1.signalled
  Region: the key holds an existing EMPTY sorted set (`holdsEmptyZSet`): nothing is removed
  (r = 0), yet `zCard z' = 0` makes the call unlink the record (`delKey`), and the signal is only sent
  when r > 0. The region is NOT KNOWN TO BE REACHABLE through the API (see "is the region reachable?"
  below), so these are `_partial` theorems with a `_region_witness` on a hand-written store, not findings.
-/
theorem frame_remTx (f : ZSet → ZSet × Int) (op : FeedOp) (key : Bytes) (hnoop : ∀ z, ¬ (f z).2 > 0 → (f z).1 = z)
    (hreg : holdsEmptyZSet s now key = false) : Frame [] s (C20.remTx f op s now key).1 := by
  unfold C20.remTx
  unfold holdsEmptyZSet at hreg
  have h := frame_writeKey_none s now key
  generalize Store.writeKey s now key none = w at h hreg ⊢
  obtain ⟨s1, ok⟩ := w
  dsimp only at h hreg ⊢
  refine frame_ite h ?_
  split
  · exact h
  · next z hz =>
    have hne : ¬ DsZSet.zCard z = 0 := by simpa [hz] using hreg
    split
    · exact ((h.setVal hp _ _).delKeyIf _ _).finish _ _
    · next hr =>
      rw [hnoop z hr, if_neg hne]
      exact h.trans0 (frame_setVal_same s1 (h.pebble hp) key _ (valOf_of_asZSet hz))

theorem frame_zrem (key : Bytes) (members : List Bytes) (hreg : holdsEmptyZSet s now key = false) :
    Frame [] s (Api.zrem s now key members).1 := by
  rw [C20.zrem_eq]
  exact frame_remTx s hp now _ _ key (fun z => zRem_noop z members) hreg

theorem frame_zremRangeByRank (key : Bytes) (start stop : Int) (hreg : holdsEmptyZSet s now key = false) :
    Frame [] s (Api.zremRangeByRank s now key start stop).1 := by
  rw [C20.zremRangeByRank_eq]
  exact frame_remTx s hp now _ _ key (fun z => zRemRangeByRank_noop z start stop) hreg

theorem frame_zremRangeByScore (key : Bytes) (min max : F64) (mode : Int) (hreg : holdsEmptyZSet s now key = false) :
    Frame [] s (Api.zremRangeByScore s now key min max mode).1 := by
  rw [C20.zremRangeByScore_eq]
  exact frame_remTx s hp now _ _ key (fun z => zRemRangeByScore_noop z min max _) hreg

end zset

theorem frame_zunionCore_go (now : Int) (weights : List F64) (agg : Bytes) :
    ∀ (ks : List (Bytes × Nat)) (s : MState) (acc : Option (AList F64)),
    Frame [] s (Api.zunionCore.go now weights agg ks s acc).1
  | [], s, acc => by unfold Api.zunionCore.go; exact Frame.refl _ _
  | (k, i) :: rest, s, acc => by
    unfold Api.zunionCore.go
    rk s now k with s1 ok h
    refine frame_ite (h.trans0 (frame_zunionCore_go now weights agg rest s1 acc)) ?_
    split
    · exact h
    · split
      · exact h
      · exact h.trans0 (frame_zunionCore_go now weights agg rest s1 _)

theorem frame_zunionCore (s : MState) (now : Int) (keys : List Bytes) (weights : List F64) (agg : Bytes) :
    Frame [] s (Api.zunionCore s now keys weights agg).1 := by
  unfold Api.zunionCore
  exact frame_zunionCore_go now weights agg _ s _

theorem frame_zinter_inner (now : Int) (i : Nat) :
    ∀ (js : List (Bytes × Nat)) (s : MState) (m : Bytes), Frame [] s (Api.zinterCore.go.inner now i js s m).1
  | [], s, m => by unfold Api.zinterCore.go.inner; exact Frame.refl _ _
  | (o, j) :: more, s, m => by
    unfold Api.zinterCore.go.inner
    rk s now o with s1 ok h
    have ih := h.trans0 (frame_zinter_inner now i more s1 m)
    refine frame_ite ih (frame_ite h ?_)
    split
    · exact h
    · exact frame_ite ih h

theorem frame_zinter_outer (now : Int) (keys : List Bytes) (weights : List F64) (agg : Bytes) (i : Nat) :
    ∀ (its : List Item) (s : MState) (acc : Option (AList F64)),
    Frame [] s (Api.zinterCore.go.outer now keys weights agg i its s acc).1
  | [], s, acc => by unfold Api.zinterCore.go.outer; exact Frame.refl _ _
  | it :: more, s, acc => by
    unfold Api.zinterCore.go.outer
    have h := frame_zinter_inner now i keys.zipIdx s it.2
    generalize Api.zinterCore.go.inner now i keys.zipIdx s it.2 = r at h ⊢
    obtain ⟨s1, o⟩ := r
    cases o with
    | none => exact h
    | some found => exact h.trans0 (frame_zinter_outer now keys weights agg i more s1 _)

theorem frame_zinterCore_go (now : Int) (keys : List Bytes) (weights : List F64) (agg : Bytes) :
    ∀ (ks : List (Bytes × Nat)) (s : MState) (acc : Option (AList F64)),
    Frame [] s (Api.zinterCore.go now keys weights agg ks s acc).1
  | [], s, acc => by unfold Api.zinterCore.go; exact Frame.refl _ _
  | (k, i) :: rest, s, acc => by
    unfold Api.zinterCore.go
    rk s now k with s1 ok h
    refine frame_ite h ?_
    split
    · exact h
    · split
      · exact h
      · next items _ =>
        have h2 := h.trans0 (frame_zinter_outer now keys weights agg i items s1 acc)
        generalize Api.zinterCore.go.outer now keys weights agg i items s1 acc = r at h2 ⊢
        obtain ⟨s2, o⟩ := r
        cases o with
        | none => exact h2
        | some acc' => exact h2.trans0 (frame_zinterCore_go now keys weights agg rest s2 acc')

theorem frame_zinterCore (s : MState) (now : Int) (keys : List Bytes) (weights : List F64) (agg : Bytes) :
    Frame [] s (Api.zinterCore s now keys weights agg).1 := by
  unfold Api.zinterCore
  exact frame_zinterCore_go now keys weights agg _ s _

/-- the tail of Z*STORE (`step`): unlink-and-signal on an empty result, else replace the value and signal -/
theorem frame_zstore_step {D : List Bytes} {s s1 : MState} (h : Frame D s s1) (dst : Bytes) (items : List Item)
    (typ : Nat) (hD : ∀ k ∈ D, k = dst) :
    Frame [] s
      (if items.isEmpty then
        (emit { delKey s1 dst with signalled := dst :: s1.signalled } { typ := 2, key := dst }, Out.int 0)
       else
        (emit (signal (modMeta (fresh s1).2 dst fun m =>
            ({ m with oid := (fresh s1).1 }.setValue
              (.zset (items.foldl (fun (z : ZSet) (it : Item) => (DsZSet.zAdd z it.2 it.1).1) DsZSet.empty)))) dst)
          { typ := typ, key := dst }, Out.int items.length)).1 := by
  split
  · exact h.delSignal dst _ hD
  · exact (h.fresh.modMeta dst _).finish dst _ (by simpa using hD)

/-- ZUNIONSTORE / ZINTERSTORE: the operands are read first (the nested computation, read-only); a panic or
    an `.unsupported` exit happens BEFORE the destination is looked up or created; only on success is the
    destination (created and) replaced — or unlinked on an empty result — and signalled -/
theorem frame_zstore (union : Bool) (s : MState) (now : Int) (dst : Bytes) (keys : List Bytes)
    (weights : List F64) (agg : Bytes) : Frame [] s (Api.zstore union s now dst keys weights agg).1 := by
  unfold Api.zstore
  dsimp only
  have h1 : Frame [] s ((if union = true then Api.zunionCore else Api.zinterCore) s now keys weights agg).1 := by
    cases union
    · exact frame_zinterCore s now keys weights agg
    · exact frame_zunionCore s now keys weights agg
  generalize (if union = true then Api.zunionCore else Api.zinterCore) s now keys weights agg = r at h1 ⊢
  obtain ⟨s1, o⟩ := r
  rcases o with _ | _ | items
  · exact h1
  · exact h1
  · dsimp only
    have h2 := h1.commit.seq (frame_writeKey_some (commit s1) now dst (.zset DsZSet.empty))
    generalize writeKey (commit s1) now dst (some (.zset DsZSet.empty)) = w at h2 ⊢
    obtain ⟨s2, ok⟩ := w
    exact frame_zstore_step h2 dst items _ (by simp)

/-- `ZADD k LT 0 m` on a missing key leaves the store logically untouched: LT / GT never create a key -/
theorem zaddLT_missing_unchanged :
    let s : MState := { pebble := true }
    let r := Api.zaddLT s 0 [107] [109] 0
    r.2 = .int 0 ∧ ¬ changed s r.1 [107] := by
  dsimp only
  exact ⟨rfl, by decide⟩

theorem zaddGT_missing_unchanged :
    let s : MState := { pebble := true }
    let r := Api.zaddGT s 0 [107] [109] 0
    r.2 = .int 0 ∧ ¬ changed s r.1 [107] := by
  dsimp only
  exact ⟨rfl, by decide⟩

/-! ### is the region `holdsEmptyZSet` reachable?

  NOT KNOWN TO BE. No API path is known that leaves an existing empty sorted set behind:
  `ZADD LT|GT` does not create the key (`zaddLT_missing_unchanged`), and Z*STORE creates the destination only
  after the nested computation succeeded and then either fills it with a non-empty result or unlinks it.
  Every writer of a sorted-set value writes a NON-EMPTY one (lemmas below): `zadd` / `zaddNX`
  / `zincrby` always end with the member present; `zaddXX` / `zaddLT` / `zaddGT` only act on an existing
  set and never shrink it; Z*STORE writes the fold of `zAdd` over a non-empty item list; ZREM & co unlink
  the record as soon as the set is empty; the codec rebuilds a stored set with `zAdd` (`decodeZSet`, Model/Codec.lean). The exits between
  `writeKey … (some empty)` and the write-back (`.panic` on a wrong type, `.unsupported` in `zincrby`) need an
  EXISTING record (of another type / with the member already present), so they do not follow a creation
  (the side condition of `frame_keyTx`, which `frame_zaddWith`, `frame_zincrby` above discharge by `rfl`).
  No invariant over whole API runs is proved here; the statement "no reachable store satisfies
  `holdsEmptyZSet`" is left open, which is why the three `_partial` theorems keep their hypothesis. -/

theorem dict_ne_nil_of_get {z : ZSet} {m : Bytes} {x : F64} (h : AList.get? z.dict m = some x) : z.dict ≠ [] := by
  intro e; rw [e] at h; cases h

theorem set_ne_nil {α : Type} (d : AList α) (m : Bytes) (x : α) : AList.set d m x ≠ [] := by
  cases d with
  | nil => simp [AList.set]
  | cons a l =>
    obtain ⟨k, v⟩ := a
    simp only [AList.set]
    (repeat' split) <;> simp

theorem zAdd_nonempty (z : ZSet) (m : Bytes) (sc : F64) : (DsZSet.zAdd z m sc).1.dict ≠ [] := by
  unfold DsZSet.zAdd
  split
  · next old h =>
    split
    · exact dict_ne_nil_of_get h
    · exact set_ne_nil _ _ _
  · exact set_ne_nil _ _ _

theorem contains_ne_nil {z : ZSet} {m : Bytes} (h : AList.contains z.dict m = true) : z.dict ≠ [] := by
  intro e; rw [e] at h; cases h

theorem zAddNX_nonempty (z : ZSet) (m : Bytes) (sc : F64) : (DsZSet.zAddNX z m sc).1.dict ≠ [] := by
  unfold DsZSet.zAddNX
  split
  · exact zAdd_nonempty z m sc
  · next h => exact contains_ne_nil (by simpa using h)

theorem zAddXX_nonempty (z : ZSet) (m : Bytes) (sc : F64) (hz : z.dict ≠ []) : (DsZSet.zAddXX z m sc).1.dict ≠ [] := by
  unfold DsZSet.zAddXX
  split
  · exact zAdd_nonempty z m sc
  · exact hz

theorem zAddLT_nonempty (z : ZSet) (m : Bytes) (sc : F64) (hz : z.dict ≠ []) : (DsZSet.zAddLT z m sc).1.dict ≠ [] := by
  unfold DsZSet.zAddLT
  split
  · split
    · exact zAdd_nonempty z m sc
    · exact hz
  · exact hz

theorem zAddGT_nonempty (z : ZSet) (m : Bytes) (sc : F64) (hz : z.dict ≠ []) : (DsZSet.zAddGT z m sc).1.dict ≠ [] := by
  unfold DsZSet.zAddGT
  split
  · split
    · exact zAdd_nonempty z m sc
    · exact hz
  · exact hz

theorem zIncrByWith_nonempty (z : ZSet) (m : Bytes) (x : F64) : (DsZSet.zIncrByWith z m x).dict ≠ [] :=
  zAdd_nonempty z m x

theorem zstore_fold_nonempty (items : List Item) (z : ZSet) (h : items ≠ [] ∨ z.dict ≠ []) :
    (items.foldl (fun (z : ZSet) (it : Item) => (DsZSet.zAdd z it.2 it.1).1) z).dict ≠ [] := by
  induction items generalizing z with
  | nil =>
    rcases h with h | h
    · exact absurd rfl h
    · exact h
  | cons it rest ih => exact ih _ (Or.inr (zAdd_nonempty z it.2 it.1))

/-- a hand-written store in which `k` holds an existing empty sorted set — POSSIBLY UNREACHABLE STATE (no
    sequence of API calls producing it from the empty store is known, see above) -/
def emptyZSetStore : MState :=
  { pebble := true, index := [([107], { exp := 0, value := some (.zset DsZSet.empty), state := 1 })] }

theorem emptyZSetStore_spec : emptyZSetStore.pebble = true ∧ emptyZSetStore.signalled = [] ∧
    holdsEmptyZSet emptyZSetStore 0 [107] = true := by decide

/-- `ZUNIONSTORE d 1 k` where `k` holds a string panics before the destination is created: nothing changes -/
theorem zstore_panic_unchanged :
    let s : MState := { pebble := true, index := [([107], { exp := 0, value := some (.str [120]), state := 1 })] }
    let r := Api.zstore true s 0 [100] [[107]] [] []
    r.2 = .panic ∧ ¬ changed s r.1 [100] := by
  dsimp only
  exact ⟨rfl, by decide⟩

theorem zstore_exit_before_create (union : Bool) (s : MState) (now : Int) (dst : Bytes) (keys : List Bytes)
    (weights : List F64) (agg : Bytes)
    (h : (Api.zstore union s now dst keys weights agg).2 = .panic ∨
         (Api.zstore union s now dst keys weights agg).2 = .unsupported) :
    (Api.zstore union s now dst keys weights agg).1 =
      ((if union = true then Api.zunionCore else Api.zinterCore) s now keys weights agg).1 := by
  revert h
  unfold Api.zstore
  dsimp only
  generalize (if union = true then Api.zunionCore else Api.zinterCore) s now keys weights agg = r
  obtain ⟨s1, o⟩ := r
  rcases o with _ | _ | items
  · intro _; rfl
  · intro _; rfl
  · dsimp only
    generalize writeKey (commit s1) now dst (some (.zset DsZSet.empty)) = w
    obtain ⟨s2, ok⟩ := w
    dsimp only
    intro h
    split at h <;> rcases h with h | h <;> cases h

/-! ## the Pebble hypothesis is necessary

  NOT a finding: with the in-memory backend `Api.setVal` mutates the value OBJECT, which every index record
  with the same `oid` shares. On a (possibly unreachable) state where two hot records alias one object, SET on
  one name changes the content seen under the other name, which is not signalled. The theorems above
  therefore assume `s.pebble = true`; whether aliased states are reachable with the in-memory backend (after
  RENAME + reopen the model says they can be) is a separate question. -/
theorem hypothesis_pebble_is_necessary :
    let s : MState := { pebble := false, index :=
      [([1], { exp := 0, value := some (.str []), state := 1, oid := 7 }),
       ([2], { exp := 0, value := some (.str []), state := 1, oid := 7 })] }
    let s' := (Api.set s 0 [1] [120] false).1
    changed s s' [2] ∧ [2] ∉ s'.signalled := by decide

/-! ## non-vacuity of the region hypotheses (each is satisfied by a concrete, non-trivial input) -/

/-- a store with one live string key -/
def oneKeyStore : MState := { pebble := true, index := [([107], { exp := 0, value := some (.str [49]), state := 1 })] }

/-- the store reached from the empty store by `ZADD k 0 m`: `k` holds a one-member sorted set -/
def oneZSetStore : MState := (Api.zadd { pebble := true } 0 [107] [109] 0).1

example : oneKeyStore.pebble = true ∧ live oneKeyStore 0 [107] = true := by decide
example : live ({ pebble := true } : MState) 0 [107] = false := by decide
-- addInt: fresh key, DECRBY 5
example : inInt64 (if true then -(5 : Int) else 5) = true := by decide
-- setRange: fresh key, offset 0
example : (DsStr.setRange none 0 [120]).isSome = true := by decide
-- zrem & co: a missing key, a key holding a string, and a key holding a NON-EMPTY sorted set (reached through the
-- API) are outside the region
example : holdsEmptyZSet ({ pebble := true } : MState) 0 [107] = false := by decide
example : holdsEmptyZSet oneKeyStore 0 [107] = false := by decide
example : oneZSetStore.pebble = true ∧ holdsEmptyZSet oneZSetStore 0 [107] = false := by decide
-- … and there ZREM does remove, unlink and signal
example : let s' := (Api.zrem oneZSetStore 0 [107] [[109]]).1
    changed oneZSetStore s' [107] ∧ [107] ∈ s'.signalled := by decide
-- zaddLT / zaddGT: an existing member with a higher score is lowered and signalled
example : let s' := (Api.zaddLT (Api.zadd { pebble := true } 0 [107] [109] 0x3ff0000000000000).1 0 [107] [109] 0).1
    [107] ∈ s'.signalled := by decide
-- zstore: no operands on the empty store: integer reply 0
example : ∃ n, (Api.zstore true ({ pebble := true } : MState) 0 [100] [] [] []).2 = .int n := ⟨_, rfl⟩

end NodisVerif.Proofs.C09Writers

import NodisVerif.Proofs.HandlerShape1
import NodisVerif.Proofs.C16Shape
/-
  C16, handler level: every handler of `Handler.table1` (connection / keyspace / string families),
  on every argument vector, store, clock and choice, writes exactly one RESP value that a strict
  reader reads back (`table1_wf`).  The handlers that make one call and render its result are in normal form
  (HandlerShape1.lean: `HandlerShape.Render.wf`); walked here are those `HandlerShape.table1_elim` hands over by name:
  those that make no call or several, those whose rendering is well-formed only by what the call can return (KEYS, TYPE,
  SCAN), and INCRBY / DECRBY (one call and `Render.incr`; by name because C09 leaves out DECRBY).  The names live in
  `Proofs.C16Handlers` (`table1_wire` in `Proofs.C08Step`); the files of tables 2 to 4 use `Proofs.C16Table2` …
  `Proofs.C16Table4`.
-/
namespace NodisVerif.Proofs.C16Handlers
open NodisVerif NodisVerif.Resp NodisVerif.Handler
open NodisVerif.Proofs.C08Step hiding replyOf
open NodisVerif.Spec.RespReply (cleanLine)

theorem wf_ping (args : List Bytes) : WfRes (Handler.ping args) := by
  unfold Handler.ping
  intro s now ch
  apply wf_done_tok
  cases args <;> rfl

theorem wf_echo (args : List Bytes) : WfRes (Handler.echo args) := by
  unfold Handler.echo
  intro s now ch
  apply wf_done_tok
  cases args <;> rfl

theorem wf_dbSize : WfRes Handler.dbSize := by
  unfold Handler.dbSize
  intro s now ch
  exact wf_done_tok _ _ rfl

theorem wf_flushDB : WfRes Handler.flushDB := by
  unfold Handler.flushDB
  intro s now ch
  exact wf_done_tok _ _ tokWf_ok

theorem type_out (s : MState) (now : Int) (key : Bytes) :
    (Api.type_ s now key).2 = Out.panic ∨
      ∃ t, (Api.type_ s now key).2 = Out.str t ∧ cleanLine t = true := by
  unfold Api.type_
  generalize Store.readKey s now key = r
  obtain ⟨s', okk⟩ := r
  dsimp only
  split
  · exact Or.inr ⟨_, rfl, clean_none⟩
  · split
    · exact Or.inr ⟨_, rfl, clean_typeName _⟩
    · exact Or.inl rfl

/-- TYPE is the one handler that writes a simple string computed from the store: it is always one of
    "string", "set", "list", "zset", "hash", "none" -/
theorem wf_typ (args : List Bytes) : WfRes (Handler.typ args) := by
  unfold Handler.typ
  split
  · rename_i key rest
    intro s now ch
    apply wf_call
    intro hne
    rcases type_out s now key with h | ⟨t, h, hc⟩
    · exact absurd h hne
    · rw [h]
      exact wf_done_tok _ _ (tokWf_simple t hc)
  · exact wf_errReply

theorem wf_incrDecrBy (neg : Bool) (args : List Bytes) : WfRes (Handler.incrDecrBy neg args) := by
  unfold Handler.incrDecrBy
  split
  · split
    · exact wf_errReply
    · exact fun s now ch => wf_call_all _ _ HandlerShape.Render.incr.wf
  · exact wf_errReply

/-- `Api.get` returns only `.bytes _` or `.panic`: the third alternative of the `match` in
    `setString` (GET option) and in `mGet.go` is dead -/
theorem get_out (s : MState) (now : Int) (k : Bytes) :
    (∃ b, (Api.get s now k).2 = Out.bytes b) ∨ (Api.get s now k).2 = Out.panic := by
  unfold Api.get
  generalize Store.readKey s now k = r
  obtain ⟨s', okk⟩ := r
  dsimp only
  split
  · exact Or.inl ⟨_, rfl⟩
  · split
    · exact Or.inr rfl
    · exact Or.inl ⟨_, rfl⟩

/-- `Api.keys` always returns `.slist`: the `| _ => []` alternative of `Handler.keys` is dead -/
theorem keys_out (s : MState) (now : Int) (pat : Bytes) : ∃ ks, (Api.keys s now pat).2 = Out.slist ks :=
  ⟨_, rfl⟩

/-- `Api.scan` always returns `.many [.int next, .slist ks]`: the `| _ => done s []` alternative of
    `Handler.scan` is dead -/
theorem scan_out (s : MState) (now cursor : Int) (pat : Bytes) (count : Int) (typ : Nat) :
    ∃ next ks, (Api.scan s now cursor pat count typ).2 = Out.many [Out.int next, Out.slist ks] := by
  unfold Api.scan
  dsimp only
  split
  · exact ⟨_, _, rfl⟩
  · split
    · exact ⟨_, _, rfl⟩
    · generalize Api.scan.go now pat typ _ _ _ _ _ _ = r
      obtain ⟨a, b, c⟩ := r
      exact ⟨_, _, rfl⟩

/-- an option whose argument is missing (`cmd.Args[i+1]` out of range): the closure panics before
    writing anything -/
theorem wf_argOr (x : Option Int) (s : MState) (k : Int → BodyOut) (hk : ∀ n, WfOut (k n)) :
    WfOut (match x with
           | none => { store := s, toks := [], panicked := true }
           | some n => k n) := by
  cases x with
  | none => exact wf_panic_nil s
  | some n => exact hk n

theorem wf_setString (args : List Bytes) : WfRes (Handler.setString args) := by
  unfold Handler.setString
  split
  · rename_i key value rest
    intro s now ch
    show WfOut _
    dsimp only
    generalize (ite (opt (key :: value :: rest) "GET" > 1) _ _ : MState × Option Bytes × Bool) = X
    obtain ⟨s1, getR, gp⟩ := X
    dsimp only
    -- of the GET read and (below) of the NX / XX / plain write only the flags count for the reply's shape: `gp` (the read
    -- panicked) and `w` (the write panicked, its condition failed, or it went through); the stores and `getR` are arbitrary
    -- the body is large: its conditionals are taken apart by `wfOut_ite`, which names both branches, not by `split`
    refine wfOut_ite _ (wf_panic_nil _) ?_
    generalize (ite (opt (key :: value :: rest) "NX" > 1) _ _ : MState × Option Bool) = wr
    obtain ⟨s2, w⟩ := wr
    cases w with
    | none => exact wf_panic_nil _
    | some b =>
      cases b with
      | false => exact wf_done_tok _ _ rfl
      | true =>
        dsimp only
        have nullOrOk : ∀ o : Out, tokWf (if intOf o = 0 then Tok.nullBulk else ok) = true := by
          intro o; split
          · rfl
          · exact tokWf_ok
        -- EX, PX, EXAT, PXAT in the order of the handler, then no expiry option
        refine wfOut_ite _ (wf_argOr _ _ _ fun n => wf_call_all _ _ fun s o => wf_done_tok _ _ tokWf_ok) ?_
        refine wfOut_ite _ (wf_argOr _ _ _ fun n => wf_call_all _ _ fun s o => wf_done_tok _ _ (nullOrOk o)) ?_
        refine wfOut_ite _ (wf_argOr _ _ _ fun n => wf_call_all _ _ fun s o => wf_done_tok _ _ (nullOrOk o)) ?_
        refine wfOut_ite _ (wf_argOr _ _ _ fun n => wf_call_all _ _ fun s o => wf_done_tok _ _ tokWf_ok) ?_
        split
        · exact wf_done_tok _ _ rfl
        · exact wf_done_tok _ _ tokWf_ok
  · exact wf_errReply

theorem wf_mSet_go (now : Int) : ∀ (ps : List (Bytes × Bytes)) (s : MState), WfOut (mSet.go now ps s) := by
  intro ps
  induction ps with
  | nil => intro s; rw [mSet.go]; exact wf_done_tok _ _ tokWf_ok
  | cons p ps ih =>
    intro s
    obtain ⟨k, v⟩ := p
    rw [mSet.go]
    split
    · exact wf_panic_nil _
    · exact ih _

theorem wf_mSet (args : List Bytes) : WfRes (Handler.mSet args) := by
  unfold Handler.mSet
  split
  · exact wf_errReply
  · intro s now ch
    exact wf_mSet_go now _ _

theorem wf_keys (args : List Bytes) : WfRes (Handler.keys args) := by
  unfold Handler.keys
  split
  · intro s now ch
    apply wf_call
    intro _
    -- `Api.keys` is by definition a pair with `.slist _` (`keys_out`): the handler's `match` reduces to `bulkList _`
    exact wf_done _ _ (wf_bulkList _)
  · exact wf_errReply

theorem wf_scan (args : List Bytes) : WfRes (Handler.scan args) :=
  (HandlerShape.shape_scan args).wf fun _ h => by
    cases h with
    | scan cursor pat count t =>
      intro s now ch
      apply wf_call
      intro _
      obtain ⟨next, ks, h⟩ := scan_out s now cursor pat count (if opt args "TYPE" > 0 then typeCodeOf (upper t) else 0)
      rw [h]
      exact wf_done _ _ (wf_cursorReply _ _ (wf_bulkList ks))

/-! ## MGET

  MGET reads every key first and writes the array only at the end: a key of the wrong type panics in
  `Api.get` before anything has been written, and the recovered panic writes the single error. -/

/-- the loop invariant: `acc` holds one scalar token per key processed so far (the third alternative
    of the `match` is dead by `get_out`, so the count is never off) -/
theorem wf_mGet_go (args : List Bytes) (now : Int) : ∀ (ks : List Bytes) (s : MState) (acc : List Tok),
    (∀ t ∈ acc, tokWf t = true) → acc.length + ks.length = args.length →
    WfOut (mGet.go args now ks s acc) := by
  intro ks
  induction ks with
  | nil =>
    intro s acc hs hl
    rw [mGet.go]
    apply wf_done
    have hlen : args.length = acc.length := by simpa using hl.symm
    rw [hlen]
    exact wf_arr_scalars acc hs
  | cons k rest ih =>
    intro s acc hs hl
    rw [mGet.go]
    have hg := get_out s now k
    generalize Api.get s now k = r at hg
    obtain ⟨s', o⟩ := r
    rcases hg with ⟨b, hb⟩ | hp
    · dsimp only at hb
      subst hb
      dsimp only
      apply ih
      · intro t ht
        rw [List.mem_append] at ht
        rcases ht with h' | h'
        · exact hs t h'
        · simp only [List.mem_cons, List.mem_nil_iff, or_false] at h'
          subst h'
          exact tokWf_optBulk b
      · simp only [List.length_append, List.length_cons, List.length_nil] at hl ⊢
        omega
    · dsimp only at hp
      subst hp
      dsimp only
      exact wf_panic_nil _

theorem wf_mGet (args : List Bytes) : WfRes (Handler.mGet args) := by
  unfold Handler.mGet
  split
  · exact wf_errReply
  · intro s now ch
    exact wf_mGet_go args now args s [] (by simp) (by simp)

/-- the store of the MGET examples below and of `MGET_wrong_type_is_one_error` (Props/C16.lean): the reachable store
    after `LPUSH a x` on the empty store -/
def findingStore : MState := (Api.push true {} 0 [97] [[120]]).1

/-- `MGET a b` where `a` holds a list: nothing is written before the panic, the reply is the single
    recovered error -/
example : ∃ b, Handler.mGet [[97], [98]] = HRes.exec b ∧
    replyOf (b findingStore 0 none) = [Tok.err 1] :=
  ⟨_, rfl, by decide⟩

/-- `MGET b c` on the empty store: `*2, $-1, $-1` -/
example : ∃ b, Handler.mGet [[98], [99]] = HRes.exec b ∧
    replyOf (b {} 0 none) = [Tok.arr 2, Tok.nullBulk, Tok.nullBulk] :=
  ⟨_, rfl, by decide⟩

theorem table1_wf (name : String) (args : List Bytes) (r : HRes)
    (h : Handler.table1 name args = some r) : WfRes r :=
  HandlerShape.table1_elim (P := fun _ _ r => WfRes r) (HandlerShape.Shape.wf fun _ h => h.elim)
    wf_ping wf_echo (fun _ => wf_dbSize) (fun _ _ => wf_flushDB) wf_keys wf_typ wf_scan wf_setString wf_mSet wf_mGet
    (wf_incrDecrBy false) (wf_incrDecrBy true) name args r h

theorem table1_one_reply (name : String) (args : List Bytes) (r : HRes)
    (h : Handler.table1 name args = some r) : OneReply r := (table1_wf name args r h).one

end NodisVerif.Proofs.C16Handlers

namespace NodisVerif.Proofs.C08Step

theorem table1_wire : TableWire Handler.table1 :=
  fun name args r h => (C16Handlers.table1_wf name args r h).wire

end NodisVerif.Proofs.C08Step

import NodisVerif.Proofs.C03
import NodisVerif.Proofs.KeyTxLive
import NodisVerif.Proofs.KeyTxApi
/-
  C03, store / API level. The words in which Props/C03.lean states the API theorems are defined here:
  `IndexSorted`, `Hot`, `Absent` (how one key is classified), `Pres` (a step keeps every key's classification),
  `classify` / `Classified` / `den` (operands of SINTER / SUNION / SDIFF; a missing key denotes the empty set),
  `spopValid` / `srandValid` / `invalidChoice` (the accepted-choice tests of the relational SPOP / SRANDMEMBER: defined at
  the head of Proofs/KeyTxApi.lean, where `decSpop` and `srandOut` are written with them; their lemmas are here).
  `Hot` and `IndexSorted` are definitions of this namespace with the bodies of `C01.Hot` / `C01.IndexSorted`
  (Proofs/StoreLive.lean), so that a C01 lemma takes a `C03Api.Hot` hypothesis by unfolding (`C01.live_of_hot h`);
  `Absent` is a function of C01's `lookup` (`absent_iff`).
-/
namespace NodisVerif.Proofs.C03Api
open NodisVerif.Proofs.AListLemmas NodisVerif.Proofs.AListLemmas2 NodisVerif.Proofs.C03
open Store Api

/-- the keyspace index is well formed (sorted, hence no duplicate keys) -/
def IndexSorted (s : MState) : Prop := AList.Sorted s.index

def Hot (s : MState) (k : Bytes) (v : Val) (now : Int) : Prop :=
  ∃ m, getMeta s k = some m ∧ m.isOk = true ∧ m.expired now = false ∧ m.value = some v

/-- `k` is missing at `now`: not indexed, or its record is a deleted marker, or it is expired -/
def Absent (s : MState) (k : Bytes) (now : Int) : Prop :=
  ∀ m, getMeta s k = some m → m.isOk = false ∨ m.expired now = true

theorem hot_of_getMeta {s s' : MState} {k : Bytes} (e : getMeta s' k = getMeta s k) {v : Val} {now : Int}
    (h : Hot s k v now) : Hot s' k v now := by
  obtain ⟨m, hm, rest⟩ := h
  exact ⟨m, by rw [e]; exact hm, rest⟩

theorem absent_of_getMeta {s s' : MState} {k : Bytes} (e : getMeta s' k = getMeta s k) {now : Int}
    (h : Absent s k now) : Absent s' k now := by
  intro m hm
  rw [e] at hm
  exact h m hm


theorem absent_iff (s : MState) (k : Bytes) (now : Int) :
    Absent s k now ↔ ∀ x, C01.lookup s now k = some x → x.2.2 = false := by
  unfold Absent C01.lookup
  cases getMeta s k with
  | none => simp
  | some m => cases h1 : m.expired now <;> simp [C01.entryView, h1]

theorem live_none_of_absent {s : MState} {k : Bytes} {now : Int} (h : Absent s k now) : C01.live s now k = none := by
  rw [C01.live_eq_of_lookup]
  cases hl : C01.lookup s now k with
  | none => rfl
  | some x =>
    obtain ⟨v, e, ok⟩ := x
    have := (absent_iff s k now).mp h _ hl
    simp only at this
    subst this
    rfl

theorem hot_writeKey_ctor (s : MState) (now : Int) (k : Bytes) (v e : Val)
    (hd : (Absent s k now ∧ v = e) ∨ Hot s k v now) : Hot (writeKey s now k (some e)).1 k v now := by
  rcases hd with ⟨ha, rfl⟩ | hh
  · obtain ⟨s', old, eq⟩ := C01.writeKey_absent s now k (some v) (live_none_of_absent ha)
    rw [eq]
    exact (C01.hot_newKeyWith s' k old v now).1
  · exact (C01.writeKey_live s now k _ v (C01.live_of_hot hh)).2.1

theorem getMeta_setVal_none (s : MState) (key k : Bytes) (v : Val) (hk : getMeta s k = none) (hne : k ≠ key) :
    getMeta (setVal s key v) k = none := by
  cases hm : getMeta s key with
  | none => unfold setVal; rw [hm]; exact hk
  | some m =>
    unfold getMeta at hk ⊢
    rw [setVal_index s key v m hm]
    split
    · rw [get?_set_other _ _ _ _ hne]; exact hk
    · rw [get?_map, get?_set_other _ _ _ _ hne, hk]; rfl

theorem markModified_value (m : Meta) : m.markModified.value = m.value := rfl

theorem hot_after_writeKey (s : MState) (now : Int) (k : Bytes) (mk : Option Val) (v : Val) (h : Hot s k v now) :
    (writeKey s now k mk).2 = true ∧ Hot (writeKey s now k mk).1 k v now :=
  have w := C01.writeKey_live s now k mk v (C01.live_of_hot h)
  ⟨w.1, w.2.1⟩

theorem hot_after_readKey (s : MState) (now : Int) (k : Bytes) (v : Val) (h : Hot s k v now) :
    (readKey s now k).2 = true ∧ Hot (readKey s now k).1 k v now :=
  have r := C01.readKey_live s now k
  ⟨by rw [r.1, C01.live_of_hot h]; rfl, r.2 v (C01.live_of_hot h)⟩

theorem valOf_hot {s : MState} {k : Bytes} {v : Val} {now : Int} (h : Hot s k v now) : valOf s k = some v := by
  obtain ⟨m, hm, _, _, hv⟩ := h
  exact (valOf_of_getMeta hm).trans hv

theorem asSet_hot {s : MState} {k : Bytes} {st : AList Unit} {now : Int} (h : Hot s k (.set st) now) : asSet s k = some st := by
  simp [asSet, valOf_hot h]

theorem distinct_iff_nodup : ∀ (l : List Bytes), distinct l = true ↔ l.Nodup := by
  intro l
  induction l with
  | nil => simp [distinct]
  | cons x xs ih =>
    simp only [distinct, Bool.and_eq_true, Bool.not_eq_true', List.nodup_cons, ih]
    simp

theorem eq_nil_of_get?_none {V : Type} (m : AList V) (h : ∀ x, AList.get? m x = none) : m = [] := by
  cases m with
  | nil => rfl
  | cons a rest =>
    obtain ⟨k, v⟩ := a
    have := h k
    simp [AList.get?] at this

theorem delAll_eq_nil_iff {V : Type} (m : AList V) (hs : AList.Sorted m) (ks : List Bytes) :
    (ks.foldl delStep (m, 0)).1 = [] ↔ ∀ x, AList.contains m x = true → x ∈ ks := by
  obtain ⟨_, h2, _⟩ := foldl_delStep ks m 0 hs
  constructor
  · intro hnil x hx
    have := h2 x
    rw [hnil] at this
    by_cases hk : x ∈ ks
    · exact hk
    · rw [if_neg hk] at this
      rw [AList.contains, ← this] at hx
      cases hx
  · intro hall
    apply eq_nil_of_get?_none
    intro x
    rw [h2 x]
    split
    · rfl
    · next hx =>
      cases hc : AList.contains m x with
      | true => exact absurd (hall x hc) hx
      | false => exact (contains_eq_false_iff m x).mp hc

theorem hot_setVal (s : MState) (k : Bytes) (v v' : Val) (now : Int) (h : Hot s k v now) :
    Hot (setVal s k v') k v' now := by
  obtain ⟨m, hm, hok, hexp, _⟩ := h
  exact ⟨{ m with value := some v' }, getMeta_setVal_same s k v' m hm, hok, hexp, rfl⟩

theorem ne_nil_of_contains {V : Type} (m : AList V) (k : Bytes) (h : AList.contains m k = true) : m ≠ [] := by
  intro e; subst e; simp [AList.contains, AList.get?] at h

theorem ne_nil_of_grows {V W : Type} (m : AList V) (r : AList W) (ks : List Bytes)
    (hc : ∀ x, AList.contains r x = true ↔ AList.contains m x = true ∨ x ∈ ks) (h : ks ≠ [] ∨ m ≠ []) : r ≠ [] := by
  rcases h with h | h
  · cases ks with
    | nil => exact absurd rfl h
    | cons k ks => exact ne_nil_of_contains r k ((hc k).mpr (Or.inr (List.mem_cons_self ..)))
  · cases m with
    | nil => exact absurd rfl h
    | cons a rest =>
      refine ne_nil_of_contains r a.1 ((hc a.1).mpr (Or.inl ?_))
      simp [AList.contains, AList.get?]

/-- the decision of SREM / HDEL on a hot key (`decSrem`, `decHdel`) -/
theorem collDel_hot {V : Type} (mkv : AList V → Val) (c : AList V) (ks : List Bytes) (ops : List FeedOp) (r : Out)
    {s1 : MState} {k : Bytes} {v : Val} {now e : Int} (hot : Hot s1 k v now) (he : C01.HotExp s1 k e)
    (hs : IndexSorted s1) (hc : AList.Sorted c) :
    let c' := (ks.foldl delStep (c, 0)).1
    let a : C11.Act := if (c'.length : Int) = 0 then .drop (mkv c') ops r else .put (some (mkv c')) none ops r
    (C11.runAct s1 k a).2 = r ∧
    ((∀ x, AList.contains c x = true → x ∈ ks) → getMeta (C11.runAct s1 k a).1 k = none) ∧
    ((∃ x, AList.contains c x = true ∧ x ∉ ks) → Hot (C11.runAct s1 k a).1 k (mkv c') now) := by
  intro c' a
  obtain ⟨a1, _, a3, a4⟩ := KeyTx.runAct_emptied hot he hs ((c'.length : Int) = 0) (mkv c') ops r
  have hz : (c'.length : Int) = 0 ↔ c' = [] :=
    ⟨fun h0 => List.length_eq_zero_iff.mp (Int.natCast_eq_zero.mp h0), fun e => by rw [e]; rfl⟩
  exact ⟨a1, fun hall => a3 (hz.mpr ((delAll_eq_nil_iff c hc ks).mpr hall)),
    fun ⟨x, hx, hnot⟩ => (a4 fun h0 => hnot ((delAll_eq_nil_iff c hc ks).mp (hz.mp h0) x hx)).1⟩

theorem readKey_absent (s : MState) (now : Int) (k : Bytes) (h : Absent s k now) :
    (readKey s now k).2 = false ∧ Absent (readKey s now k).1 k now :=
  ⟨by rw [(C01.readKey_live s now k).1, live_none_of_absent h]; rfl,
    (absent_iff _ k now).mpr (by rw [C01.lookup_readKey]; exact (absent_iff s k now).mp h)⟩

/-- `s'` still classifies every key the way `s` did -/
def Pres (s s' : MState) (now : Int) : Prop :=
  (∀ k, Absent s k now → Absent s' k now) ∧ (∀ k v, Hot s k v now → Hot s' k v now)

theorem Pres.refl (s : MState) (now : Int) : Pres s s now := ⟨fun _ h => h, fun _ _ h => h⟩
theorem Pres.trans {s1 s2 s3 : MState} {now : Int} (a : Pres s1 s2 now) (b : Pres s2 s3 now) : Pres s1 s3 now :=
  ⟨fun k h => b.1 k (a.1 k h), fun k v h => b.2 k v (a.2 k v h)⟩

theorem pres_of_access {s x : MState} {now : Int} {k' : Bytes} (hoth : ∀ k, k ≠ k' → getMeta x k = getMeta s k)
    (ha : Absent s k' now → Absent x k' now) (hh : ∀ v, Hot s k' v now → Hot x k' v now) : Pres s x now := by
  constructor
  · intro k h
    by_cases e : k = k'
    · subst e; exact ha h
    · exact absent_of_getMeta (hoth k e) h
  · intro k v h
    by_cases e : k = k'
    · subst e; exact hh v h
    · exact hot_of_getMeta (hoth k e) h

theorem pres_readKey (s : MState) (now : Int) (k' : Bytes) : Pres s (readKey s now k').1 now :=
  pres_of_access (getMeta_readKey_other s now k') (fun h => (readKey_absent s now k' h).2)
    (fun v h => (hot_after_readKey s now k' v h).2)

/-- operand classification: `none` = the key is missing (not indexed, deleted, or expired),
    `some st` = the key holds the set `st` in memory -/
def classify (s : MState) (now : Int) (k : Bytes) (v : Option (AList Unit)) : Prop :=
  match v with
  | none => Absent s k now
  | some st => Hot s k (.set st) now

def Classified (s : MState) (now : Int) : List Bytes → List (Option (AList Unit)) → Prop
  | [], [] => True
  | k :: ks, v :: vs => classify s now k v ∧ Classified s now ks vs
  | _, _ => False

theorem classify_pres {s s' : MState} {now : Int} (p : Pres s s' now) {k : Bytes} {v : Option (AList Unit)}
    (h : classify s now k v) : classify s' now k v := by
  cases v with
  | none => exact p.1 k h
  | some st => exact p.2 k _ h

theorem classified_pres {s s' : MState} {now : Int} (p : Pres s s' now) : ∀ (ks : List Bytes) (vs : List (Option (AList Unit))),
    Classified s now ks vs → Classified s' now ks vs := by
  intro ks
  induction ks with
  | nil => intro vs h; cases vs <;> exact h
  | cons k ks ih =>
    intro vs h
    cases vs with
    | nil => exact h
    | cons v vs => exact ⟨classify_pres p h.1, ih vs h.2⟩

theorem readKey_classified (s : MState) (now : Int) (k : Bytes) (v : Option (AList Unit)) (h : classify s now k v) :
    (readKey s now k).2 = v.isSome ∧ (∀ st, v = some st → asSet (readKey s now k).1 k = some st) := by
  cases v with
  | none => exact ⟨(readKey_absent s now k h).1, fun _ e => by cases e⟩
  | some st =>
    refine ⟨(hot_after_readKey s now k _ h).1, ?_⟩
    intro st' e
    cases e
    exact asSet_hot (hot_after_readKey s now k _ h).2

/-- the step of the loop of `Api.readMany`, which the model writes inline (`readMany_eq`) -/
def readStep (now : Int) (acc : MState × List (Option (Option (AList Unit)))) (k : Bytes) :
    MState × List (Option (Option (AList Unit))) :=
  let (s, ok) := readKey acc.1 now k
  (s, acc.2 ++ [if ok then some (asSet s k) else none])

theorem readMany_eq (s : MState) (now : Int) (keys : List Bytes) : readMany s now keys = keys.foldl (readStep now) (s, []) := rfl

theorem foldl_readStep (now : Int) : ∀ (ks : List Bytes) (vs : List (Option (AList Unit))) (s : MState)
    (acc : List (Option (Option (AList Unit)))), Classified s now ks vs →
    (ks.foldl (readStep now) (s, acc)).2 = acc ++ vs.map (Option.map some) ∧
    Pres s (ks.foldl (readStep now) (s, acc)).1 now := by
  intro ks
  induction ks with
  | nil =>
    intro vs s acc h
    cases vs with
    | nil => exact ⟨by simp, Pres.refl s now⟩
    | cons v vs => exact absurd h (by simp [Classified])
  | cons k ks ih =>
    intro vs s acc h
    cases vs with
    | nil => exact absurd h (by simp [Classified])
    | cons v vs =>
      obtain ⟨hk, hrest⟩ := h
      obtain ⟨r1, r2⟩ := readKey_classified s now k v hk
      have hstep : readStep now (s, acc) k = ((readKey s now k).1, acc ++ [v.map some]) := by
        unfold readStep
        show ((readKey s now k).1, acc ++ [if (readKey s now k).2 = true then some (asSet (readKey s now k).1 k) else none]) = _
        rw [r1]
        cases v with
        | none => rfl
        | some st => simp [r2 st rfl]
      simp only [List.foldl_cons]
      rw [hstep]
      have p1 := pres_readKey s now k
      obtain ⟨i1, i2⟩ := ih vs (readKey s now k).1 (acc ++ [v.map some]) (classified_pres p1 ks vs hrest)
      refine ⟨?_, p1.trans i2⟩
      rw [i1]
      simp

theorem readMany_classified (s : MState) (now : Int) (ks : List Bytes) (vs : List (Option (AList Unit)))
    (h : Classified s now ks vs) :
    (readMany s now ks).2 = vs.map (Option.map some) ∧ Pres s (readMany s now ks).1 now := by
  rw [readMany_eq]
  have := foldl_readStep now ks vs s [] h
  simpa using this

theorem no_wrong_type (f : Option (Option (AList Unit)) → Bool) (hf1 : ∀ x, f (some (some x)) = false)
    (hf2 : f none = false) (vs : List (Option (AList Unit))) :
    (vs.map (Option.map some)).any f = false := by
  induction vs with
  | nil => rfl
  | cons v vs ih =>
    cases v <;> simp [ih, hf1, hf2]

theorem present_sets (g : Option (Option (AList Unit)) → Option (AList Unit)) (hg1 : ∀ x, g (some (some x)) = some x)
    (hg2 : g none = none) (vs : List (Option (AList Unit))) :
    (vs.map (Option.map some)).filterMap g = vs.filterMap id := by
  induction vs with
  | nil => rfl
  | cons v vs ih =>
    cases v <;> simp [ih, hg1, hg2]

theorem sinter_go_classified (now : Int) : ∀ (ks : List Bytes) (vs : List (Option (AList Unit))) (s : MState)
    (acc : List (AList Unit)), Classified s now ks vs →
    (sinter.go now ks s acc).2 =
      (if vs.all Option.isSome then some (some (acc ++ vs.filterMap id)) else some none) ∧
    Pres s (sinter.go now ks s acc).1 now := by
  intro ks
  induction ks with
  | nil =>
    intro vs s acc h
    cases vs with
    | nil => exact ⟨by simp [sinter.go], by rw [sinter.go]; exact Pres.refl s now⟩
    | cons v vs => exact absurd h (by simp [Classified])
  | cons k ks ih =>
    intro vs s acc h
    cases vs with
    | nil => exact absurd h (by simp [Classified])
    | cons v vs =>
      obtain ⟨hk, hrest⟩ := h
      obtain ⟨r1, r2⟩ := readKey_classified s now k v hk
      have hp : readKey s now k = ((readKey s now k).1, v.isSome) := Prod.ext rfl r1
      have p1 := pres_readKey s now k
      rw [sinter.go, hp]
      cases v with
      | none => exact ⟨by simp, p1⟩
      | some st =>
        simp only [Option.isSome_some, Bool.not_true, Bool.false_eq_true, if_false]
        rw [r2 st rfl]
        simp only
        obtain ⟨i1, i2⟩ := ih vs _ (acc ++ [st]) (classified_pres p1 ks vs hrest)
        refine ⟨?_, p1.trans i2⟩
        rw [i1]
        simp

/-- SINTER of classified operands: empty as soon as one operand is missing -/
def interOf (vs : List (Option (AList Unit))) : List Bytes :=
  if vs.all Option.isSome then
    match vs.filterMap id with
    | [] => []
    | st :: rest => DsSet.sinter st rest
  else []

theorem sinter_nil_others (st : AList Unit) : DsSet.sinter st [] = DsSet.members st := by
  simp [DsSet.sinter]

theorem smembers_classified (s : MState) (now : Int) (k : Bytes) (v : Option (AList Unit)) (h : classify s now k v) :
    (smembers s now k).2 = .slist (match v with | none => [] | some st => DsSet.members st) := by
  obtain ⟨r1, r2⟩ := readKey_classified s now k v h
  have hp : readKey s now k = ((readKey s now k).1, v.isSome) := Prod.ext rfl r1
  unfold smembers sread
  rw [hp]
  cases v with
  | none => simp
  | some st =>
    simp only [Option.isSome_some, Bool.not_true, Bool.false_eq_true, if_false]
    rw [r2 st rfl]

theorem sinter_classified (s : MState) (now : Int) (keys : List Bytes) (vals : List (Option (AList Unit)))
    (h : Classified s now keys vals) : (sinter s now keys).2 = .slist (interOf vals) := by
  match keys, vals, h with
  | [], [], _ => rfl
  | [k], [v], h =>
    rw [sinter, smembers_classified s now k v h.1]
    cases v with
    | none => rfl
    | some st => exact congrArg Out.slist (sinter_nil_others st).symm
  | k0 :: k1 :: rest, v0 :: v1 :: vs, h =>
    obtain ⟨h0, hrest⟩ := h
    obtain ⟨r1, r2⟩ := readKey_classified s now k0 v0 h0
    have hp : readKey s now k0 = ((readKey s now k0).1, v0.isSome) := Prod.ext rfl r1
    have p1 := pres_readKey s now k0
    rw [sinter]
    -- side condition of `sinter`'s third clause (the list is no singleton), named by the equation lemma
    case x => intro hh; cases hh
    rw [hp]
    cases v0 with
    | none => rfl
    | some st0 =>
      simp only [Option.isSome_some, Bool.not_true, Bool.false_eq_true, if_false]
      obtain ⟨g1, g2⟩ := sinter_go_classified now (k1 :: rest) (v1 :: vs) _ [] (classified_pres p1 _ _ hrest)
      have hgp : sinter.go now (k1 :: rest) (readKey s now k0).1 [] =
          ((sinter.go now (k1 :: rest) (readKey s now k0).1 []).1,
           if (v1 :: vs).all Option.isSome then some (some ([] ++ (v1 :: vs).filterMap id)) else some none) :=
        Prod.ext rfl g1
      rw [hgp]
      by_cases hall : (v1 :: vs).all Option.isSome = true
      · rw [if_pos hall]
        simp only
        have hot0 : Hot (sinter.go now (k1 :: rest) (readKey s now k0).1 []).1 k0 (.set st0) now :=
          g2.2 k0 _ (p1.2 k0 _ h0)
        rw [asSet_hot hot0]
        have hall' : (some st0 :: v1 :: vs).all Option.isSome = true := hall
        simp only [interOf]
        rw [if_pos hall']
        rfl
      · rw [if_neg hall]
        have hall' : ¬ (some st0 :: v1 :: vs).all Option.isSome = true := hall
        simp only [interOf]
        rw [if_neg hall']


/-- SUNION of classified operands: missing operands are skipped -/
def unionOf (vs : List (Option (AList Unit))) : List Bytes :=
  match vs.filterMap id with
  | [] => []
  | st :: rest => DsSet.sunion st rest

theorem sunion_nil_others (st : AList Unit) : DsSet.sunion st [] = DsSet.members st := by
  simp [DsSet.sunion]

theorem sunion_classified (s : MState) (now : Int) (keys : List Bytes) (vals : List (Option (AList Unit)))
    (h : Classified s now keys vals) : (sunion s now keys).2 = .slist (unionOf vals) := by
  match keys, vals, h with
  | [], [], _ => rfl
  | [k], [v], h =>
    rw [sunion, smembers_classified s now k v h.1]
    cases v with
    | none => rfl
    | some st => exact congrArg Out.slist (sunion_nil_others st).symm
  | k0 :: k1 :: rest, v0 :: v1 :: vs, h =>
    obtain ⟨m1, m2⟩ := readMany_classified s now _ _ h
    have hp : readMany s now (k0 :: k1 :: rest) =
        ((readMany s now (k0 :: k1 :: rest)).1, (v0 :: v1 :: vs).map (Option.map some)) := Prod.ext rfl m1
    rw [sunion]
    -- side conditions of `sunion`'s third clause (the list is neither empty nor a singleton), named by the equation lemma
    case x_1 => intro hh; cases hh
    case x_2 => intro k hh; cases hh
    rw [hp]
    simp only
    rw [no_wrong_type _ (fun _ => rfl) rfl, present_sets _ (fun _ => rfl) rfl]
    simp only [Bool.false_eq_true, if_false, unionOf]
    cases List.filterMap id (v0 :: v1 :: vs) with
    | nil => rfl
    | cons st more => rfl

/-- SDIFF of classified operands: a missing first operand is the empty set, missing later operands are skipped -/
def diffOf : List (Option (AList Unit)) → List Bytes
  | [] => []
  | none :: _ => []
  | some st :: rest => DsSet.sdiff st (rest.filterMap id)

theorem sdiff_classified (s : MState) (now : Int) (keys : List Bytes) (vals : List (Option (AList Unit)))
    (h : Classified s now keys vals) : (sdiff s now keys).2 = .slist (diffOf vals) := by
  match keys, vals, h with
  | [], [], _ => rfl
  | k0 :: rest, v0 :: vs, h =>
    obtain ⟨h0, hrest⟩ := h
    obtain ⟨r1, r2⟩ := readKey_classified s now k0 v0 h0
    have hp : readKey s now k0 = ((readKey s now k0).1, v0.isSome) := Prod.ext rfl r1
    have p1 := pres_readKey s now k0
    rw [sdiff, hp]
    cases v0 with
    | none => rfl
    | some st0 =>
      simp only [Option.isSome_some, Bool.not_true, Bool.false_eq_true, if_false]
      obtain ⟨m1, m2⟩ := readMany_classified (readKey s now k0).1 now rest vs (classified_pres p1 _ _ hrest)
      have hp2 : readMany (readKey s now k0).1 now rest =
          ((readMany (readKey s now k0).1 now rest).1, vs.map (Option.map some)) := Prod.ext rfl m1
      rw [hp2]
      simp only
      rw [asSet_hot (m2.2 k0 _ (p1.2 k0 _ h0))]
      simp only
      rw [no_wrong_type _ (fun _ => rfl) rfl, present_sets _ (fun _ => rfl) rfl]
      simp [diffOf]

def den : Option (AList Unit) → Spec.BSet
  | none => Spec.BSet.empty
  | some st => DsSet.mem st

theorem den_none : den none = Spec.BSet.empty := rfl
theorem den_some (st : AList Unit) : den (some st) = DsSet.mem st := rfl
theorem fm_none (vs : List (Option (AList Unit))) : (none :: vs).filterMap id = vs.filterMap id := rfl
theorem fm_some (st : AList Unit) (vs : List (Option (AList Unit))) : (some st :: vs).filterMap id = st :: vs.filterMap id := rfl

theorem all_den_iff (x : Bytes) : ∀ (vs : List (Option (AList Unit))),
    (∀ v ∈ vs, den v x = true) ↔ vs.all Option.isSome = true ∧ ∀ o ∈ vs.filterMap id, DsSet.mem o x = true := by
  intro vs
  induction vs with
  | nil => simp
  | cons v vs ih =>
    cases v with
    | none => simp [den_none, Spec.BSet.empty]
    | some st =>
      simp only [List.mem_cons, forall_eq_or_imp, ih, den_some, List.all_cons, Option.isSome_some, Bool.true_and,
        fm_some]
      constructor
      · rintro ⟨a, b, c⟩; exact ⟨b, a, c⟩
      · rintro ⟨b, a, c⟩; exact ⟨a, b, c⟩

theorem any_den_iff (x : Bytes) : ∀ (vs : List (Option (AList Unit))),
    (∃ v ∈ vs, den v x = true) ↔ ∃ o ∈ vs.filterMap id, DsSet.mem o x = true := by
  intro vs
  induction vs with
  | nil => simp
  | cons v vs ih =>
    cases v with
    | none =>
      simp only [List.mem_cons, exists_eq_or_imp, den_none, Spec.BSet.empty, Bool.false_eq_true, false_or, ih,
        fm_none]
    | some st =>
      simp only [List.mem_cons, exists_eq_or_imp, den_some, ih, fm_some]

theorem mem_interOf (v0 : Option (AList Unit)) (vs : List (Option (AList Unit))) (x : Bytes) :
    x ∈ interOf (v0 :: vs) ↔ Spec.BSet.interAll (den v0) (vs.map den) x = true := by
  simp only [Spec.BSet.interAll, Bool.and_eq_true, List.all_eq_true, List.mem_map, forall_exists_index, and_imp,
    forall_apply_eq_imp_iff₂]
  rw [all_den_iff x vs]
  cases v0 with
  | none => simp [interOf, den_none, Spec.BSet.empty]
  | some st0 =>
    simp only [interOf, List.all_cons, Option.isSome_some, Bool.true_and, fm_some, den_some]
    by_cases hall : vs.all Option.isSome = true
    · rw [if_pos hall, mem_sinter]
      simp [hall]
    · rw [if_neg hall]
      simp [hall]

theorem mem_unionOf (v0 : Option (AList Unit)) (vs : List (Option (AList Unit))) (x : Bytes) :
    x ∈ unionOf (v0 :: vs) ↔ Spec.BSet.unionAll (den v0) (vs.map den) x = true := by
  have key : x ∈ unionOf (v0 :: vs) ↔ ∃ o ∈ (v0 :: vs).filterMap id, DsSet.mem o x = true := by
    unfold unionOf
    cases (v0 :: vs).filterMap id with
    | nil => simp
    | cons st rest => simp only [mem_sunion, List.mem_cons, exists_eq_or_imp]
  rw [key, ← any_den_iff x (v0 :: vs)]
  simp only [Spec.BSet.unionAll, Bool.or_eq_true, List.any_eq_true, List.mem_map, List.mem_cons, exists_eq_or_imp]
  constructor
  · rintro (h | ⟨v, hv, h⟩)
    · exact Or.inl h
    · exact Or.inr ⟨den v, ⟨v, hv, rfl⟩, h⟩
  · rintro (h | ⟨_, ⟨v, hv, rfl⟩, h⟩)
    · exact Or.inl h
    · exact Or.inr ⟨v, hv, h⟩

theorem mem_diffOf (v0 : Option (AList Unit)) (vs : List (Option (AList Unit))) (x : Bytes) :
    x ∈ diffOf (v0 :: vs) ↔ Spec.BSet.diffAll (den v0) (vs.map den) x = true := by
  have hany : (∃ f ∈ vs.map den, f x = true) ↔ ∃ o ∈ vs.filterMap id, DsSet.mem o x = true := by
    rw [← any_den_iff x vs]
    constructor
    · rintro ⟨_, hf, h⟩
      obtain ⟨v, hv, rfl⟩ := List.mem_map.mp hf
      exact ⟨v, hv, h⟩
    · rintro ⟨v, hv, h⟩
      exact ⟨den v, List.mem_map.mpr ⟨v, hv, rfl⟩, h⟩
  cases v0 with
  | none => simp [diffOf, Spec.BSet.diffAll, den_none, Spec.BSet.empty]
  | some st0 =>
    simp only [diffOf, mem_sdiff, Spec.BSet.diffAll, den_some, Bool.and_eq_true, Bool.not_eq_true']
    constructor
    · rintro ⟨h1, h2⟩
      refine ⟨h1, ?_⟩
      cases hb : (List.map den vs).any (fun o => o x) with
      | false => rfl
      | true =>
        obtain ⟨o, ho, hx⟩ := hany.mp (List.any_eq_true.mp hb)
        rw [h2 o ho] at hx
        cases hx
    · rintro ⟨h1, h2⟩
      refine ⟨h1, ?_⟩
      intro o ho
      cases hm : DsSet.mem o x with
      | false => rfl
      | true =>
        have := List.any_eq_true.mpr (hany.mpr ⟨o, ho, hm⟩)
        rw [h2] at this
        cases this

theorem interOf_nodup (vs : List (Option (AList Unit))) (hs : ∀ st, some st ∈ vs → AList.Sorted st) : (interOf vs).Nodup := by
  unfold interOf
  split
  · cases hf : vs.filterMap id with
    | nil => exact List.nodup_nil
    | cons st rest =>
      apply sinter_nodup
      apply hs
      have : st ∈ vs.filterMap id := by rw [hf]; simp
      simpa using this
  · exact List.nodup_nil

theorem unionOf_nodup (vs : List (Option (AList Unit))) (hs : ∀ st, some st ∈ vs → AList.Sorted st) : (unionOf vs).Nodup := by
  unfold unionOf
  cases hf : vs.filterMap id with
  | nil => exact List.nodup_nil
  | cons st rest =>
    apply sunion_nodup
    apply hs
    have : st ∈ vs.filterMap id := by rw [hf]; simp
    simpa using this

theorem diffOf_nodup (vs : List (Option (AList Unit))) (hs : ∀ st, some st ∈ vs → AList.Sorted st) : (diffOf vs).Nodup := by
  match vs with
  | [] => exact List.nodup_nil
  | none :: _ => exact List.nodup_nil
  | some st :: rest => exact sdiff_nodup st (hs st (by simp)) _


theorem spopValid_iff (st : AList Unit) (count : Int) (choice : List Bytes) :
    spopValid st count choice = true ↔
      Spec.AdmissibleDistinct (DsSet.mem st) st.length (if count = 0 then 1 else count.toNat) choice := by
  unfold spopValid Spec.AdmissibleDistinct
  simp only [Bool.and_eq_true, List.all_eq_true, distinct_iff_nodup, decide_eq_true_eq]
  have hw : (if (if count = 0 then 1 else count) ≤ 0 then 0 else min (if count = 0 then 1 else count).toNat st.length)
      = min (if count = 0 then 1 else count.toNat) st.length := by
    by_cases h0 : count = 0
    · simp [h0]
    · simp only [h0, if_false]
      by_cases h1 : count ≤ 0
      · have : count.toNat = 0 := by omega
        simp [h1, this]
      · simp [h1]
  rw [hw]
  exact and_assoc

theorem srandValid_nonneg_iff (st : AList Unit) (count : Int) (hc : 0 ≤ count) (choice : List Bytes) :
    srandValid st count choice = true ↔ Spec.AdmissibleDistinct (DsSet.mem st) st.length count.toNat choice := by
  unfold srandValid Spec.AdmissibleDistinct
  by_cases h0 : count = 0
  · subst h0
    simp only [if_true, Int.toNat_zero, Nat.zero_min, List.isEmpty_iff]
    constructor
    · rintro rfl; simp
    · rintro ⟨_, _, h⟩; exact List.length_eq_zero_iff.mp h
  · have hpos : count > 0 := by omega
    simp only [h0, if_false, hpos, if_true, Bool.and_eq_true, List.all_eq_true, distinct_iff_nodup, decide_eq_true_eq]
    exact and_assoc

theorem srandValid_neg_iff (st : AList Unit) (count : Int) (hc : count < 0) (choice : List Bytes) :
    srandValid st count choice = true ↔ Spec.AdmissibleRepeated (DsSet.mem st) (-count).toNat choice := by
  unfold srandValid Spec.AdmissibleRepeated
  have h0 : ¬ count = 0 := by omega
  have h1 : ¬ count > 0 := by omega
  simp only [h0, if_false, h1, Bool.and_eq_true, List.all_eq_true, decide_eq_true_eq]

theorem choice_enumerates (st : AList Unit) (choice : List Bytes) (hn : choice.Nodup)
    (hall : ∀ x ∈ choice, DsSet.mem st x = true) : Spec.Enumerates choice (Spec.listed choice (DsSet.mem st)) := by
  refine ⟨hn, fun x => ?_⟩
  simp only [Spec.listed, Bool.and_eq_true, decide_eq_true_eq]
  exact ⟨fun h => ⟨h, hall x h⟩, fun h => h.1⟩

theorem writeKey_absent_none (s : MState) (now : Int) (k : Bytes) (h : Absent s k now) :
    (writeKey s now k none).2 = false ∧ Absent (writeKey s now k none).1 k now :=
  ⟨by rw [C01.writeKey_none_flag, live_none_of_absent h]; rfl,
    (absent_iff _ k now).mpr (by rw [C01.lookup_writeKey_none]; exact (absent_iff s k now).mp h)⟩

theorem pres_writeKey_none (s : MState) (now : Int) (k' : Bytes) : Pres s (writeKey s now k' none).1 now :=
  pres_of_access (getMeta_writeKey_other s now k' none) (fun h => (writeKey_absent_none s now k' h).2)
    (fun v h => (hot_after_writeKey s now k' none v h).2)

/-- the destination of SMOVE is acceptable: it is missing, or it holds a set -/
def DstOk (s : MState) (dst : Bytes) (now : Int) : Prop :=
  Absent s dst now ∨ ∃ d, Hot s dst (.set d) now

/-- the destination of SMOVE exists and holds a value of another type -/
def DstWrong (s : MState) (dst : Bytes) (now : Int) : Prop :=
  ∃ v, Hot s dst v now ∧ ∀ d, v ≠ .set d

theorem dstOk_pres {s s' : MState} {now : Int} (p : Pres s s' now) {dst : Bytes} (h : DstOk s dst now) :
    DstOk s' dst now := by
  rcases h with ha | ⟨d, hd⟩
  · exact Or.inl (p.1 dst ha)
  · exact Or.inr ⟨d, p.2 dst _ hd⟩

theorem dstWrong_pres {s s' : MState} {now : Int} (p : Pres s s' now) {dst : Bytes} (h : DstWrong s dst now) :
    DstWrong s' dst now := by
  obtain ⟨v, hv, hne⟩ := h
  exact ⟨v, p.2 dst v hv, hne⟩

/-- the test `dok && asSet(dst) = nil` of `Api.smove` -/
theorem smove_check_ok (s : MState) (now : Int) (dst : Bytes) (h : DstOk s dst now) :
    ((writeKey s now dst none).2 && (asSet (writeKey s now dst none).1 dst).isNone) = false := by
  rcases h with ha | ⟨d, hd⟩
  · rw [(writeKey_absent_none s now dst ha).1]; rfl
  · rw [asSet_hot (hot_after_writeKey s now dst none _ hd).2]; simp

theorem smove_check_wrong (s : MState) (now : Int) (dst : Bytes) (h : DstWrong s dst now) :
    ((writeKey s now dst none).2 && (asSet (writeKey s now dst none).1 dst).isNone) = true := by
  obtain ⟨v, hv, hne⟩ := h
  obtain ⟨a, b⟩ := hot_after_writeKey s now dst none v hv
  rw [a]
  simp only [asSet, valOf_hot b]
  cases v with
  | set d => exact absurd rfl (hne d)
  | _ => rfl

/-! ### every command is a composition of the store primitives

  What the primitives keep (`KeyTx.KeyClosed`), the commands keep: each single-key writer is a key transaction. -/

end NodisVerif.Proofs.C03Api

-- the single-key writers are stated in the namespace of the structure (Proofs/KeyTxLive.lean), so that they are used
-- as projections of a closed predicate: `(inv_closed key).sadd now members h`
namespace NodisVerif.Proofs.KeyTx.KeyClosed
open NodisVerif Store Api
variable {P : MState → Prop} {key : Bytes} (c : KeyClosed P key)
include c

theorem emptied {s : MState} (v : Val) (b : Prop) [Decidable b] (h : P s) :
    P (Store.signal (if b then Store.delKey (Api.setVal s key v) key else Api.setVal s key v) key) := by
  refine c.signal ?_
  split
  · exact c.delKey (c.setVal _ h)
  · exact c.setVal _ h

theorem sadd {s : MState} (now : Int) (ms : List Bytes) (h : P s) : P (Api.sadd s now key ms).1 := by
  rw [C11.sadd_eq]; exact c.keyTx _ _ _ _ _ now h nofun

theorem srem {s : MState} (now : Int) (ms : List Bytes) (h : P s) : P (Api.srem s now key ms).1 := by
  rw [C11.srem_eq]; exact c.keyTx _ _ _ _ _ now h nofun

theorem spop {s : MState} (now : Int) (count : Int) (choice : List Bytes) (h : P s) :
    P (Api.spop s now key count choice).1 := by
  rw [C20.spop_eq]; exact c.keyTx _ _ _ _ _ now h nofun

theorem hset {s : MState} (now : Int) (f v : Bytes) (h : P s) : P (Api.hset s now key f v).1 := by
  rw [C11.hset_eq]; exact c.keyTx _ _ _ _ _ now h nofun

theorem hsetnx {s : MState} (now : Int) (f v : Bytes) (h : P s) : P (Api.hsetnx s now key f v).1 := by
  rw [C11.hsetnx_eq]; exact c.keyTx _ _ _ _ _ now h nofun

theorem hdel {s : MState} (now : Int) (fs : List Bytes) (h : P s) : P (Api.hdel s now key fs).1 := by
  rw [C11.hdel_eq]; exact c.keyTx _ _ _ _ _ now h nofun

theorem hincrby {s : MState} (now : Int) (f : Bytes) (delta : Int) (h : P s) :
    P (Api.hincrby s now key f delta).1 := by
  rw [C20.hincrby_eq]; exact c.keyTx _ _ _ _ _ now h nofun

theorem hmset {s : MState} (now : Int) (pairs : List (Bytes × Bytes)) (h : P s) :
    P (Api.hmset s now key pairs).1 := by
  rw [C20.hmset_eq]; exact c.keyTx _ _ _ _ _ now h nofun

end NodisVerif.Proofs.KeyTx.KeyClosed

namespace NodisVerif.Proofs.C03Api
open NodisVerif.Proofs.AListLemmas NodisVerif.Proofs.AListLemmas2 NodisVerif.Proofs.C03
open Store Api
open NodisVerif.Proofs.KeyTx (KeyClosed)

theorem smove_keeps {P : MState → Prop} {src dst : Bytes} (cs : KeyClosed P src) (cd : KeyClosed P dst) {s : MState}
    (now : Int) (member : Bytes) (h : P s) : P (Api.smove s now src dst member).1 := by
  have h1 := cs.writeKey now none h
  rw [C20.smove_eq]
  refine ite_fst _ h1 ?_
  cases asSet (Store.writeKey s now src none).1 src with
  | none => exact h1
  | some st =>
    have h2 := cd.writeKey now none h1
    refine ite_fst _ h2 (ite_fst _ (cs.setVal _ h2) ?_)
    exact cd.keyTx true (some (.set [])) .unit C11.Cmd.pan (C20.decSmoveAdd dst member) now (cs.runAct _ h2) nofun

section reads
variable {P : MState → Prop} {now : Int} (hr : ∀ s k, P s → P (readKey s now k).1)
include hr

theorem sinter_go_keeps : ∀ (ks : List Bytes) (s : MState) (acc : List (AList Unit)),
    P s → P (sinter.go now ks s acc).1 := by
  intro ks
  induction ks with
  | nil => intro s acc h; rw [sinter.go]; exact h
  | cons k ks ih =>
    intro s acc h
    have h1 := hr s k h
    rw [sinter.go]
    generalize readKey s now k = r at h1 ⊢
    obtain ⟨s1, ok⟩ := r
    dsimp only at h1 ⊢
    refine ite_fst _ h1 ?_
    generalize asSet s1 k = o
    cases o with
    | none => exact h1
    | some x => exact ih _ _ h1

theorem sread_keeps (f : AList Unit → Out) (dflt : Out) (s : MState) (key : Bytes) (h : P s) :
    P (sread f dflt s now key).1 := by
  have h1 := hr s key h
  unfold sread
  generalize readKey s now key = r at h1 ⊢
  obtain ⟨s1, ok⟩ := r
  dsimp only at h1 ⊢
  refine ite_fst _ h1 ?_
  generalize asSet s1 key = o
  cases o with
  | none => exact h1
  | some x => exact h1

theorem sunion_keeps (s : MState) (keys : List Bytes) (h : P s) : P (sunion s now keys).1 := by
  unfold sunion
  split
  · exact h
  · exact sread_keeps hr _ _ s _ h
  · have g := foldl_keeps (fun acc => P acc.1) (readStep now) (fun acc k hx => hr acc.1 k hx) keys (s, []) h
    rw [← readMany_eq] at g
    generalize readMany s now keys = r at g ⊢
    obtain ⟨s1, all⟩ := r
    dsimp only at g ⊢
    split
    · exact g
    · split <;> exact g

theorem sdiff_keeps (s : MState) (keys : List Bytes) (h : P s) : P (sdiff s now keys).1 := by
  unfold sdiff
  split
  · exact h
  · next k0 rest =>
    have h1 := hr s k0 h
    generalize readKey s now k0 = r at h1 ⊢
    obtain ⟨s1, ok⟩ := r
    dsimp only at h1 ⊢
    split
    · exact h1
    · have g := foldl_keeps (fun acc => P acc.1) (readStep now) (fun acc k hx => hr acc.1 k hx) rest (s1, []) h1
      rw [← readMany_eq] at g
      generalize readMany s1 now rest = r2 at g ⊢
      obtain ⟨s2, others⟩ := r2
      dsimp only at g ⊢
      split
      · exact g
      · split <;> exact g

theorem sinter_keeps (s : MState) (keys : List Bytes) (h : P s) : P (sinter s now keys).1 := by
  unfold sinter
  split
  · exact h
  · exact sread_keeps hr _ _ s _ h
  · next k0 rest _ =>
    have h1 := hr s k0 h
    generalize readKey s now k0 = r at h1 ⊢
    obtain ⟨s1, ok⟩ := r
    dsimp only at h1 ⊢
    split
    · exact h1
    · have g := sinter_go_keeps hr rest s1 [] h1
      generalize sinter.go now rest s1 [] = r2 at g ⊢
      obtain ⟨s2, res⟩ := r2
      cases res with
      | none => exact g
      | some o =>
        cases o with
        | none => exact g
        | some os =>
          dsimp only
          split <;> exact g

end reads
end NodisVerif.Proofs.C03Api

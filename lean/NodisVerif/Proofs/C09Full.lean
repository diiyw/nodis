import NodisVerif.Proofs.C08Lookup
import NodisVerif.Proofs.C09Table1b
import NodisVerif.Proofs.C09Table4
import NodisVerif.Proofs.HandlerShape2

/-
  C09 (WATCH soundness).  Two parts.  The handler table of Model/Handler2.lean (`table2_signals`, `table2Safe`): all
  handlers but two are in normal form (HandlerShape2.lean), so this is `HandlerShape.ApiCall.frame`; SPOP and
  SRANDMEMBER are walked by name.  Then the server's complete dispatch: `fullSafe`, the lookup over the four `table#Safe`,
  with `fullSafe_signals`, and what it leaves out of `fullTable` (`excluded`, `fullSafe_eq`).
-/

namespace NodisVerif.Proofs.C08Step
open Resp Server
open NodisVerif NodisVerif.Store NodisVerif.Api
open NodisVerif.Proofs.C09Writers

theorem signals_sPopH (args : List Bytes) : ExecSignals (Handler2.sPopH args) := by
  unfold Handler2.sPopH
  split
  · exact execSignals_err
  · exact execSignals_ite execSignals_err (execSignals_call
      (fun _ o => by
        split
        · rfl
        · split <;> rfl
        · rfl)
      fun st now _ hp => frame_spop st hp now _ _ _)

theorem signals_sRandMemberH (args : List Bytes) : ExecSignals (Handler2.sRandMemberH args) := by
  unfold Handler2.sRandMemberH
  split
  · exact execSignals_err
  · exact execSignals_ite execSignals_err (execSignals_call
      (fun _ o => by
        split
        · rfl
        · split <;> rfl
        · rfl)
      fun st now _ _ => frame_srandmember st now _ _ _)

/-- the commands of `Handler2.table2` for which `SignalsChanges` is false or unproved: none -/
def table2Excluded : List String := []

def table2Safe : Table := fun name args =>
  if name ∈ table2Excluded then none else Handler2.table2 name args

theorem table2_signals : TableSignals Handler2.table2 := fun name args b h =>
  HandlerShape.table2_elim (P := fun _ _ r => ExecSignals r) (HandlerShape.Shape.signals fun _ h => h.elim)
    signals_sPopH signals_sRandMemberH name args _ h b rfl

theorem table2Safe_eq : table2Safe = Handler2.table2 := by
  funext name args
  simp [table2Safe, table2Excluded]

theorem table2Safe_signals : TableSignals table2Safe := by
  rw [table2Safe_eq]; exact table2_signals

/-- non-vacuity: closures exist (`RPOPLPUSH a b`, `HINCRBYFLOAT k f 3`, `SINTERSTORE d a b`) -/
example : ∃ b, Handler2.table2 "RPOPLPUSH" [[97], [98]] = some (.exec b) := ⟨_, rfl⟩
example : ∃ b, Handler2.table2 "SINTERSTORE" [[100], [97], [98]] = some (.exec b) := ⟨_, rfl⟩
example : ∃ b, Handler2.table2 "HINCRBYFLOAT" [[107], [102], [51]] = some (.exec b) := by
  -- the increment text goes through the decimal parser (Model/FloatDec.lean): evaluated by the kernel
  have h : (match Handler2.table2 "HINCRBYFLOAT" [[107], [102], [51]] with | some (.exec _) => true | _ => false) = true := by
    decide +kernel
  split at h
  · next b heq => exact ⟨b, heq⟩
  · cases h

/-
  NO FINDING in this table. The cases checked on purpose:
  * HINCRBY / HINCRBYFLOAT on a fresh key with a failing increment: `Api.hincrby` runs
    `signalModifiedKey` on both exits (`frame_hincrby`), so the hash that was created (and stays empty)
    is reported. `Api.hincrbyfloat` on a fresh hash finds the field absent and stores the increment itself;
    the only unsignalled exit after a creation would be the model's `.unsupported` (increment not formattable),
    which is never taken (`Api.formatFloat` is total).
  * LINSERT / LSET / LREM / LPUSHX / LTRIM / HDEL / SREM / SPOP on a missing key: `writeKey` with a nil
    constructor creates nothing (`frame_writeKey_none`).
  * SMOVE with the member absent: `setVal` writes back the same value (`frame_setVal_same`).
  * RPOPLPUSH / SMOVE with a wrong-typed destination: the source was already signalled before the
    destination is looked up; a live destination of another type is not altered by `writeKey`, the call
    panics with the store unchanged beyond the signalled source.
  * S*STORE with an empty result: the destination is deleted by `Api.del`, which signals it.
-/

end NodisVerif.Proofs.C08Step

/-! ## the server's complete dispatch: `fullSafe = Driver.lookup [table1Safe, table2Safe, table3Safe, table4Safe]`
  is `fullTable` minus DECRBY (finding), SCAN … TYPE (not proved), ZREM / ZREMRANGEBYRANK /
  ZREMRANGEBYSCORE (false on stores holding an existing empty sorted set) and SAVE (not proved) -/

namespace NodisVerif.Proofs.C08Step
open Resp T3 T4

def safeTables : List Table := [table1Safe, table2Safe, table3Safe, table4Safe]

/-- the complete dispatch restricted to the commands whose closures signal what they change -/
def fullSafe : Table := Driver.lookup safeTables

theorem fullSafe_signals : TableSignals fullSafe := by
  intro name args b h
  have := lookup_all (P := fun r => match r with | .exec b => SignalsChanges b | _ => True) safeTables
    (by
      intro t ht n a r hr
      simp only [safeTables, List.mem_cons, List.not_mem_nil, or_false] at ht
      cases r with
      | direct ts => trivial
      | crash => trivial
      | exec b' =>
        rcases ht with rfl | rfl | rfl | rfl
        · exact table1Safe_signals n a b' hr
        · exact table2Safe_signals n a b' hr
        · exact table3Safe_signals n a b' hr
        · exact table4Safe_signals n a b' hr) name args (.exec b) h
  exact this

/-- what `fullSafe` leaves out of `fullTable` -/
def excluded (name : String) (args : List Bytes) : Prop :=
  name = "DECRBY" ∨ scanTyped name args ∨ name ∈ zRemNames ∨ name = "SAVE"

instance (name : String) (args : List Bytes) : Decidable (excluded name args) := by unfold excluded; exact inferInstance

theorem fullSafe_eq (name : String) (args : List Bytes) (h : ¬ excluded name args) :
    fullSafe name args = fullTable name args := by
  have h1 : name ∉ ["DECRBY"] := by intro hm; exact h (Or.inl (by simpa using hm))
  have h2 : ¬ scanTyped name args := fun hm => h (Or.inr (Or.inl hm))
  have h3 : name ∉ zRemNames := fun hm => h (Or.inr (Or.inr (Or.inl hm)))
  have h4 : ¬ name = "SAVE" := fun hm => h (Or.inr (Or.inr (Or.inr hm)))
  simp only [fullSafe, fullTable, Driver.lookup, safeTables, allTables, List.findSome?_cons, List.findSome?_nil]
  have e1 : table1Safe name args = Handler.table1 name args := by simp [table1Safe, h1, h2]
  have e2 : table2Safe name args = Handler2.table2 name args := by rw [table2Safe_eq]
  have e3 : table3Safe name args = Handler3.table3 name args := by simp [table3Safe, h3]
  have e4 : table4Safe name args = Handler4.table4 name args := by simp [table4Safe, h4]
  rw [e1, e2, e3, e4]

end NodisVerif.Proofs.C08Step

import NodisVerif.Spec.Scan
/-
  C19 helpers: generic facts about the client loop `Spec.Scan.iterateFrom`.
-/
namespace NodisVerif.Proofs.C19Iter
open NodisVerif.Spec.Scan

variable {α σ τ : Type}

theorem iterateFrom_zero (step : σ → Int → σ × Int × List α) (s : σ) (c : Int) :
    iterateFrom step 0 s c = ([], false) := rfl

theorem iterateFrom_succ (step : σ → Int → σ × Int × List α) (fuel : Nat) (s : σ) (c : Int) :
    iterateFrom step (fuel + 1) s c =
      if (step s c).2.1 = 0 then ([(step s c).2.2], true)
      else ((step s c).2.2 :: (iterateFrom step fuel (step s c).1 (step s c).2.1).1,
            (iterateFrom step fuel (step s c).1 (step s c).2.1).2) := rfl

theorem iterateFrom_last (step : σ → Int → σ × Int × List α) (f : Nat) (s : σ) (c : Int) (s' : σ) (b : List α)
    (h : step s c = (s', 0, b)) : iterateFrom step (f + 1) s c = ([b], true) := by
  rw [iterateFrom_succ, h]; simp

theorem iterateFrom_next (step : σ → Int → σ × Int × List α) (f : Nat) (s : σ) (c : Int) (s' : σ) (n : Int) (b : List α)
    (h : step s c = (s', n, b)) (hn : n ≠ 0) :
    iterateFrom step (f + 1) s c = (b :: (iterateFrom step f s' n).1, (iterateFrom step f s' n).2) := by
  rw [iterateFrom_succ, h]; simp [hn]

theorem mem_visited_first (step : σ → Int → σ × Int × List α) (f : Nat) (s : σ) (c : Int) (x : α)
    (h : x ∈ (step s c).2.2) : x ∈ visited (iterateFrom step (f + 1) s c) := by
  rw [iterateFrom_succ]
  unfold visited
  split <;> simp [h]

theorem iterateFrom_mono (step : σ → Int → σ × Int × List α) :
    ∀ (fuel : Nat) (s : σ) (c : Int), (iterateFrom step fuel s c).2 = true →
      ∀ fuel', fuel ≤ fuel' → iterateFrom step fuel' s c = iterateFrom step fuel s c := by
  intro fuel
  induction fuel with
  | zero => intro s c h; simp [iterateFrom_zero] at h
  | succ f ih =>
    intro s c h fuel' hle
    obtain ⟨g, rfl⟩ : ∃ g, fuel' = g + 1 := ⟨fuel' - 1, by omega⟩
    rw [iterateFrom_succ] at h ⊢
    rw [iterateFrom_succ step f]
    by_cases h0 : (step s c).2.1 = 0
    · simp [h0]
    · simp only [h0, if_false] at h ⊢
      rw [ih _ _ h g (by omega)]

theorem calls_le_fuel (step : σ → Int → σ × Int × List α) :
    ∀ (fuel : Nat) (s : σ) (c : Int), (iterateFrom step fuel s c).1.length ≤ fuel := by
  intro fuel
  induction fuel with
  | zero => intro s c; simp [iterateFrom_zero]
  | succ f ih =>
    intro s c
    rw [iterateFrom_succ]
    by_cases h0 : (step s c).2.1 = 0
    · simp [h0]
    · simp only [h0, if_false, List.length_cons]
      have := ih (step s c).1 (step s c).2.1
      omega

/-- two servers that step in lock-step (related states stay related and give equal replies)
    produce the same iteration -/
theorem iterateFrom_rel {σ₁ σ₂ : Type} (step₁ : σ₁ → Int → σ₁ × Int × List α) (step₂ : σ₂ → Int → σ₂ × Int × List α)
    (R : σ₁ → σ₂ → Prop)
    (hstep : ∀ s t c, R s t → R (step₁ s c).1 (step₂ t c).1 ∧ (step₁ s c).2 = (step₂ t c).2) :
    ∀ (fuel : Nat) (s : σ₁) (t : σ₂) (c : Int), R s t →
      iterateFrom step₁ fuel s c = iterateFrom step₂ fuel t c := by
  intro fuel
  induction fuel with
  | zero => intro s t c _; rfl
  | succ f ih =>
    intro s t c hR
    obtain ⟨hR', ho⟩ := hstep s t c hR
    rw [iterateFrom_succ, iterateFrom_succ, ho]
    by_cases h0 : (step₂ t c).2.1 = 0
    · simp [h0]
    · simp only [h0, if_false]
      rw [ih _ _ _ hR']

/-- a server whose replies depend on its state only through a `view` that its own calls do not
    change (on states satisfying `Inv`) behaves, for a whole iteration, like the stateless server
    `g (view s)`: the two step in lock-step -/
theorem iterateFrom_view_inv (step : σ → Int → σ × Int × List α) (view : σ → τ) (g : τ → Int → Int × List α)
    (Inv : σ → Prop) (hinv : ∀ s c, Inv s → Inv (step s c).1)
    (hview : ∀ s c, Inv s → view (step s c).1 = view s)
    (hout : ∀ s c, (step s c).2 = g (view s) c) (fuel : Nat) (s : σ) (c : Int) (hs : Inv s) :
    iterateFrom step fuel s c = iterateFrom (fun (_ : Unit) c => ((), g (view s) c)) fuel () c :=
  iterateFrom_rel step (fun _ c => ((), g (view s) c)) (fun t _ => Inv t ∧ view t = view s)
    (fun t _ c ht => ⟨⟨hinv t c ht.1, (hview t c ht.1).trans ht.2⟩, by rw [hout, ht.2]⟩) fuel s () c ⟨hs, rfl⟩

theorem iterateFrom_view (step : σ → Int → σ × Int × List α) (view : σ → τ) (g : τ → Int → Int × List α)
    (hview : ∀ s c, view (step s c).1 = view s)
    (hout : ∀ s c, (step s c).2 = g (view s) c) :
    ∀ (fuel : Nat) (s : σ) (c : Int),
      iterateFrom step fuel s c = iterateFrom (fun (_ : Unit) c => ((), g (view s) c)) fuel () c :=
  fun fuel s c => iterateFrom_view_inv step view g (fun _ => True) (fun _ _ _ => trivial)
    (fun s c _ => hview s c) hout fuel s c trivial

theorem mem_visited (step : σ → Int → σ × Int × List α) (P : α → Prop) (Inv : σ → Prop)
    (hinv : ∀ s c, Inv s → Inv (step s c).1)
    (hP : ∀ s c, Inv s → ∀ x ∈ (step s c).2.2, P x) :
    ∀ (fuel : Nat) (s : σ) (c : Int), Inv s → ∀ x ∈ visited (iterateFrom step fuel s c), P x := by
  intro fuel
  induction fuel with
  | zero => intro s c _ x hx; simp [visited, iterateFrom_zero] at hx
  | succ f ih =>
    intro s c hs x hx
    rw [iterateFrom_succ] at hx
    by_cases h0 : (step s c).2.1 = 0
    · simp only [h0, if_true, visited, List.flatten_cons, List.flatten_nil, List.append_nil] at hx
      exact hP s c hs x hx
    · simp only [h0, if_false, visited, List.flatten_cons, List.mem_append] at hx
      rcases hx with hx | hx
      · exact hP s c hs x hx
      · exact ih _ _ (hinv s c hs) x hx


theorem ceilDiv_eq (n k : Nat) (hk : 0 < k) (hn : 0 < n) : (n + k - 1) / k = (n - 1) / k + 1 := by
  have : n + k - 1 = n - 1 + k := by omega
  rw [this, Nat.add_div_right _ hk]

theorem ceilDiv_spec (n k : Nat) (hk : 0 < k) (hn : 0 < n) :
    n ≤ (n + k - 1) / k * k ∧ ((n + k - 1) / k - 1) * k < n := by
  rw [ceilDiv_eq n k hk hn, Nat.add_sub_cancel, Nat.mul_comm]
  have h1 := Nat.lt_mul_div_succ (n - 1) hk
  have h2 := Nat.div_mul_le_self (n - 1) k
  omega

theorem ceilDiv_le (n k : Nat) (hk : 0 < k) (hn : 0 < n) : (n + k - 1) / k ≤ n := by
  have := Nat.div_le_self (n - 1) k
  rw [ceilDiv_eq n k hk hn]
  omega

/-- A stateless server over a list `xs` that answers, at position `p`, with the image `out` of the
    next `k` elements and with the cursor `cur (p + k)` of the position after them, or with 0 once
    the end is reached (a first call may name position 0 by cursor 0).  From position `p` the
    iteration ends after ⌈(n − p) / k⌉ calls and has seen the image of everything from `p` on. -/
theorem iterateFrom_chunks {β : Type} (g : Int → Int × List α) (xs : List β) (out : List β → List α)
    (hout : ∀ a b, out (a ++ b) = out a ++ out b) (cur : Nat → Int) (hcur : ∀ p, 0 < p → cur p ≠ 0)
    (k : Nat) (hk : 0 < k)
    (hg : ∀ p c, c = cur p ∨ p = 0 ∧ c = 0 → p < xs.length →
      g c = (if xs.length - p ≤ k then 0 else cur (p + k), out ((xs.drop p).take k))) :
    ∀ (fuel p : Nat) (c : Int), c = cur p ∨ p = 0 ∧ c = 0 → p < xs.length →
      (xs.length - p + k - 1) / k ≤ fuel →
      (iterateFrom (fun (_ : Unit) c => ((), g c)) fuel () c).2 = true ∧
      (iterateFrom (fun (_ : Unit) c => ((), g c)) fuel () c).1.length = (xs.length - p + k - 1) / k ∧
      (iterateFrom (fun (_ : Unit) c => ((), g c)) fuel () c).1.flatten = out (xs.drop p) := by
  intro fuel
  induction fuel with
  | zero =>
    intro p c _ hp hf
    rw [ceilDiv_eq _ k hk (by omega)] at hf
    exact absurd hf (Nat.not_succ_le_zero _)
  | succ f ih =>
    intro p c hc hp hf
    have hstep := hg p c hc hp
    rw [ceilDiv_eq _ k hk (by omega)] at hf ⊢
    by_cases hA : xs.length - p ≤ k
    · -- the call reaches the end of the list and answers 0
      rw [if_pos hA] at hstep
      rw [iterateFrom_last _ f () c () _ (congrArg (Prod.mk ()) hstep),
        List.take_of_length_le (by rw [List.length_drop]; exact hA),
        Nat.div_eq_of_lt (by omega)]
      exact ⟨rfl, rfl, List.append_nil _⟩
    · rw [if_neg hA] at hstep
      rw [iterateFrom_next _ f () c () _ _ (congrArg (Prod.mk ()) hstep) (hcur _ (by omega))]
      have hdiv : (xs.length - p - 1) / k = (xs.length - (p + k) - 1) / k + 1 := by
        have : xs.length - p - 1 = xs.length - (p + k) - 1 + k := by omega
        rw [this, Nat.add_div_right _ hk]
      rw [hdiv] at hf ⊢
      obtain ⟨h1, h2, h3⟩ := ih (p + k) (cur (p + k)) (Or.inl rfl) (by omega)
        (by rw [ceilDiv_eq _ k hk (by omega)]; omega)
      rw [ceilDiv_eq _ k hk (by omega)] at h2
      refine ⟨h1, by rw [List.length_cons, h2], ?_⟩
      rw [List.flatten_cons, h3, ← hout, ← List.drop_drop, List.take_append_drop]

end NodisVerif.Proofs.C19Iter

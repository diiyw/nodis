import NodisVerif.Proofs.ProtoBasic
import NodisVerif.Proofs.ProtoStep
/-
  Locking protocol: the phases of a transaction (inactive → growing → committing → inactive) along a
  trace, and list positions versus decompositions of a trace.
-/
namespace NodisVerif.Proofs.Proto
open NodisVerif.Proto

/-- `none`: not active; `some false`: growing (may still acquire); `some true`: its commit has begun -/
def phase (s : PState) (t : Tx) : Option Bool := (s.tx t).map (·.committing)

theorem phase_of_tx {s : PState} {t : Tx} {st : TxSt} (h : s.tx t = some st) : phase s t = some st.committing := by
  simp [phase, h]

theorem phase_init (t : Tx) : phase {} t = none := by simp [phase, PState.tx, assoc]

theorem phase_eq_some {s : PState} {t : Tx} {b : Bool} : phase s t = some b ↔
    ∃ st, s.tx t = some st ∧ st.committing = b := by
  unfold phase; cases s.tx t <;> simp

theorem phase_eq_none {s : PState} {t : Tx} : phase s t = none ↔ s.tx t = none := by
  unfold phase; cases s.tx t <;> simp

theorem phase_setTx {s : PState} {u : Tx} {st st' : TxSt} (h : s.tx u = some st)
    (hc : st'.committing = st.committing) (t : Tx) : phase (s.setTx u st') t = phase s t := by
  unfold phase
  rw [tx_setTx]
  split
  · subst_vars; rw [h]; simp [hc]
  · rfl

theorem phase_commit {s s' : PState} {t : Tx} (hs : step s (.commit t) = some s') :
    phase s t = some false ∧ phase s' t = some true := by
  obtain ⟨st, h1, hc, _, _, rfl⟩ := step_commit.1 hs
  exact ⟨by rw [phase_of_tx h1, hc], phase_of_tx (tx_setTx_same _ _ _)⟩

theorem phase_fin {s s' : PState} {t : Tx} (hs : step s (.fin t) = some s') :
    phase s t ≠ none ∧ phase s' t = none := by
  obtain ⟨st, h1, _, _, rfl⟩ := step_fin.1 hs
  exact ⟨by rw [phase_of_tx h1]; nofun, by simp [phase, PState.tx, assoc_erase]⟩

/-- the phase automaton: only `begin t`, `commit t`, `fin t` change the phase of `t` -/
theorem phase_step {s s' : PState} {e : Ev} (hs : step s e = some s') (t : Tx) :
    (e = .begin t ∧ phase s t = none ∧ phase s' t = some false) ∨
    (e = .fin t ∧ phase s t ≠ none ∧ phase s' t = none) ∨
    (e = .commit t ∧ phase s t = some false ∧ phase s' t = some true) ∨
    phase s' t = phase s t := by
  cases e with
  | begin u =>
    by_cases hu : u = t
    · obtain ⟨h1, rfl⟩ := step_begin.1 hs
      subst hu; exact .inl ⟨rfl, phase_eq_none.2 h1, phase_of_tx (tx_setTx_same _ _ _)⟩
    · obtain ⟨_, rfl⟩ := step_begin.1 hs
      exact .inr (.inr (.inr (by unfold phase; rw [tx_setTx_ne _ _ (Ne.symm hu)])))
  | fin u =>
    by_cases hu : u = t
    · subst hu; exact .inr (.inl ⟨rfl, phase_fin hs⟩)
    · obtain ⟨_, _, _, _, rfl⟩ := step_fin.1 hs
      exact .inr (.inr (.inr (by simp [phase, PState.tx, assoc_erase, Ne.symm hu])))
  | commit u =>
    by_cases hu : u = t
    · subst hu; exact .inr (.inr (.inl ⟨rfl, phase_commit hs⟩))
    · obtain ⟨_, _, _, _, _, rfl⟩ := step_commit.1 hs
      exact .inr (.inr (.inr (by unfold phase; rw [tx_setTx_ne _ _ (Ne.symm hu)])))
  -- the other events leave the transactions alone, or rewrite one of them with its `committing` flag kept
  -- (`by rfl`: elaborated after the goal has fixed the new state of the transaction)
  | look u k r =>
    obtain ⟨_, _, _, _, _, rfl⟩ := step_look.1 hs
    exact .inr (.inr (.inr rfl))
  | publish u k r =>
    obtain ⟨_, _, _, _, _, _, _, _, _, _, rfl⟩ := step_publish.1 hs
    exact .inr (.inr (.inr rfl))
  | unlink u k r =>
    obtain ⟨_, _, _, _, _, _, _, _, _, rfl⟩ := step_unlink.1 hs
    exact .inr (.inr (.inr rfl))
  | drop u k r =>
    obtain ⟨_, _, _, _, _, _, _, _, rfl⟩ := step_drop.1 hs
    exact .inr (.inr (.inr rfl))
  | clear =>
    cases step_clear.1 hs
    exact .inr (.inr (.inr rfl))
  | claim u k r m =>
    obtain ⟨st, h1, _, _, _, _, rfl⟩ := step_claim.1 hs
    exact .inr (.inr (.inr (phase_setTx (s := { s with pending := _, names := _ }) h1 (by rfl) t)))
  | wait u k r m =>
    obtain ⟨st, h1, _, _, _, _, _, rfl⟩ := step_wait.1 hs
    exact .inr (.inr (.inr (phase_setTx h1 (by rfl) t)))
  | lock u k r m =>
    obtain ⟨st, h1, _, _, rfl⟩ := step_lock.1 hs
    exact .inr (.inr (.inr (phase_setTx h1 (by rfl) t)))
  | valid u k r ok =>
    obtain ⟨st, _, h1, _, _, _, ⟨_, rfl⟩ | ⟨_, _, rfl⟩⟩ := step_valid.1 hs
    · exact .inr (.inr (.inr rfl))
    · exact .inr (.inr (.inr (phase_setTx h1 (by rfl) t)))
  | trylock u k r =>
    obtain ⟨st, h1, _, _, _, rfl⟩ := step_trylock.1 hs
    exact .inr (.inr (.inr (phase_setTx h1 (by rfl) t)))
  | unlock u r =>
    obtain ⟨st, _, h1, _, _, rfl⟩ := step_unlock.1 hs
    exact .inr (.inr (.inr (phase_setTx h1 (by rfl) t)))

theorem phase_true_run {s s' : PState} {es : List Ev} {t : Tx} (hs : runAll s es = some s')
    (hp : phase s t = some true) (hnf : ∀ e ∈ es, e ≠ .fin t) : phase s' t = some true := by
  induction es generalizing s with
  | nil => cases hs; exact hp
  | cons e es ih =>
    obtain ⟨s1, h1, h2⟩ := runAll_cons_some hs
    refine ih h2 ?_ (fun x hx => hnf x (List.mem_cons_of_mem _ hx))
    rcases phase_step h1 t with ⟨_, a, _⟩ | ⟨a, _, _⟩ | ⟨_, a, _⟩ | a
    · rw [hp] at a; cases a
    · exact absurd a (hnf e List.mem_cons_self)
    · rw [hp] at a; cases a
    · rw [a]; exact hp

theorem phase_done_run {s s' : PState} {es : List Ev} {t : Tx} (hs : runAll s es = some s')
    (hp : phase s t ≠ some false) (hnb : ∀ e ∈ es, e ≠ .begin t) : phase s' t ≠ some false := by
  induction es generalizing s with
  | nil => cases hs; exact hp
  | cons e es ih =>
    obtain ⟨s1, h1, h2⟩ := runAll_cons_some hs
    refine ih h2 ?_ (fun x hx => hnb x (List.mem_cons_of_mem _ hx))
    rcases phase_step h1 t with ⟨a, _, _⟩ | ⟨_, _, a⟩ | ⟨_, _, a⟩ | a
    · exact absurd a (hnb e List.mem_cons_self)
    · rw [a]; nofun
    · rw [a]; nofun
    · rw [a]; exact hp

theorem active_has_begin {s s' : PState} {es : List Ev} {t : Tx} (hs : runAll s es = some s')
    (hp : phase s t = none) (hp' : phase s' t ≠ none) : .begin t ∈ es := by
  induction es generalizing s with
  | nil => cases hs; exact absurd hp hp'
  | cons e es ih =>
    obtain ⟨s1, h1, h2⟩ := runAll_cons_some hs
    rcases phase_step h1 t with ⟨a, _, _⟩ | ⟨_, _, a⟩ | ⟨_, a, _⟩ | a
    · rw [a]; exact List.mem_cons_self
    · exact List.mem_cons_of_mem _ (ih h2 a)
    · rw [hp] at a; cases a
    · exact List.mem_cons_of_mem _ (ih h2 (a.trans hp))

theorem committing_has_commit {s0 : PState} {t : Tx} (h0 : phase s0 t ≠ some true) :
    ∀ es s, runAll s0 es = some s → phase s t = some true →
      ∃ pre post, es = pre ++ .commit t :: post ∧ ∀ e ∈ post, e ≠ .fin t := by
  refine trace_induct (P := fun es s => phase s t = some true →
      ∃ pre post, es = pre ++ .commit t :: post ∧ ∀ e ∈ post, e ≠ .fin t) s0 (fun h => absurd h h0) ?_
  intro es s e s' _ ih hs hp
  rcases phase_step hs t with ⟨_, _, a⟩ | ⟨_, _, a⟩ | ⟨a, _, _⟩ | a
  · rw [hp] at a; cases a
  · rw [hp] at a; cases a
  · exact ⟨es, [], by rw [a], by intro x hx; cases hx⟩
  · obtain ⟨pre, post, rfl, hnf⟩ := ih (a.symm.trans hp)
    refine ⟨pre, post ++ [e], by simp, ?_⟩
    intro x hx
    rcases List.mem_append.1 hx with hx | hx
    · exact hnf x hx
    · -- `e` itself is no `fin t`: `t` is still committing after it
      simp at hx; subst hx
      intro c; subst c
      rw [(phase_fin hs).2] at hp; cases hp

theorem split_at {α : Type} {l : List α} {i : Nat} {a : α} (h : l[i]? = some a) :
    ∃ pre post, l = pre ++ a :: post ∧ pre.length = i := by
  obtain ⟨hi, rfl⟩ := List.getElem?_eq_some_iff.1 h
  exact ⟨l.take i, l.drop (i + 1), by rw [← List.drop_eq_getElem_cons hi, List.take_append_drop],
    List.length_take_of_le (Nat.le_of_lt hi)⟩

theorem getElem?_mid {α : Type} (pre post : List α) (a : α) : (pre ++ a :: post)[pre.length]? = some a := by
  simp

theorem mem_getElem?_lt {α : Type} {pre post : List α} {x : α} (h : x ∈ pre) :
    ∃ j, j < pre.length ∧ (pre ++ post)[j]? = some x := by
  obtain ⟨j, hj, e⟩ := List.mem_iff_getElem.1 h
  exact ⟨j, hj, by rw [List.getElem?_append_left hj, List.getElem?_eq_getElem hj, e]⟩

theorem getElem?_past {α : Type} (pre : List α) (a : α) (rest : List α) (d : Nat) :
    (pre ++ a :: rest)[pre.length + 1 + d]? = rest[d]? := by
  rw [List.getElem?_append_right (by omega), show pre.length + 1 + d - pre.length = d + 1 by omega,
    List.getElem?_cons_succ]

theorem split_two {α : Type} {l : List α} {i c : Nat} {a b : α} (hi : l[i]? = some a) (hc : l[c]? = some b)
    (hic : i < c) : ∃ pre mid post, l = pre ++ a :: (mid ++ b :: post) ∧ pre.length = i ∧
      pre.length + 1 + mid.length = c ∧
      (∀ x ∈ mid, ∃ j, i < j ∧ j < c ∧ l[j]? = some x) ∧
      (∀ x ∈ pre, ∃ j, j < i ∧ l[j]? = some x) ∧
      (∀ j x, i < j → j < c → l[j]? = some x → x ∈ mid) := by
  obtain ⟨pre, rest, rfl, rfl⟩ := split_at hi
  -- positions behind `a` are written `pre.length + 1 + d`, so that no subtraction comes up
  obtain ⟨d, rfl⟩ : ∃ d, c = pre.length + 1 + d := ⟨c - pre.length - 1, by omega⟩
  rw [getElem?_past] at hc
  obtain ⟨mid, post, rfl, rfl⟩ := split_at hc
  refine ⟨pre, mid, post, rfl, rfl, rfl, ?_, ?_, ?_⟩
  · intro x hx
    obtain ⟨n, hn, e⟩ := List.mem_iff_getElem.1 hx
    refine ⟨pre.length + 1 + n, by omega, by omega, ?_⟩
    rw [getElem?_past, List.getElem?_append_left hn, List.getElem?_eq_getElem hn, e]
  · intro x hx
    exact mem_getElem?_lt hx
  · intro j x h1 h2 hx
    obtain ⟨n, rfl⟩ : ∃ n, j = pre.length + 1 + n := ⟨j - pre.length - 1, by omega⟩
    rw [getElem?_past, List.getElem?_append_left (by omega)] at hx
    exact List.mem_of_getElem? hx

theorem not_in_mid {α : Type} {l mid : List α} {i c : Nat}
    (hmid : ∀ x ∈ mid, ∃ j, i < j ∧ j < c ∧ l[j]? = some x) {a : α}
    (hnf : ∀ p, i < p → p < c → l[p]? ≠ some a) : ∀ x ∈ mid, x ≠ a := by
  intro x hx e
  obtain ⟨p, h1, h2, h3⟩ := hmid x hx
  exact hnf p h1 h2 (e ▸ h3)

end NodisVerif.Proofs.Proto

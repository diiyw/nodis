/-
  Linearizability of operations whose bodies run under a readers/writer lock — generic development.

  An abstract object is a sequential specification `apply : State → Op → State × Ret` with a set of
  read-only operations. A concurrent execution is a list of events over operation ids

      inv i o   operation i is invoked with operation o
      acq i     i takes the lock (exclusive if `¬ readOnly o`, shared otherwise)
      eff i     the body of i runs: shared state σ ↦ (apply σ o).1, the result (apply σ o).2 is kept
      rel i     i releases the lock
      res i r   i replies r

  Well-formedness is the acceptance by a small executable transition system (`step`, `run`):
  per operation the events come in the order  inv (acq rel)* acq eff rel (acq rel)* res  (an operation
  may take and give back the lock several times — a retry loop — but its body runs exactly once, under
  the lock; the plain order inv acq eff rel res is the special case); `acq` of a writer needs the lock
  free, `acq` of a reader needs it free of writers; `res i r` returns the result computed at `eff i`.

  Main theorem `locked_bodies_linearizable`: the history (inv / res events) of a well-formed execution
  is linearizable, the order of the `eff` events being the linearization.
  The lock checks play no part in it: the body is ONE event `eff`, so every execution `step` accepts,
  with `chk = false` as well, is linearizable (`run_linearizable`, `run_inv`), and the corollaries of
  Proofs/LinCorollaries.lean hold for either value of `chk`. What the lock discipline buys is that a
  body made of several events behaves like one: Proofs/LinSplit.lean.
-/
namespace NodisVerif.Lin

structure Obj (State Op Ret : Type) where
  apply : State → Op → State × Ret
  readOnly : Op → Bool
  ro : ∀ s o, readOnly o = true → (apply s o).1 = s

inductive Ev (Op Ret : Type)
  | inv (i : Nat) (o : Op)
  | acq (i : Nat)
  | eff (i : Nat)
  | rel (i : Nat)
  | res (i : Nat) (r : Ret)
deriving DecidableEq, Repr

structure OpSt (Op Ret : Type) where
  op : Op
  locked : Bool := false
  result : Option Ret := none      -- set by `eff`
  replied : Bool := false

/-- a sequential history: (id, operation, result) in execution order -/
abbrev SeqHist (Op Ret : Type) := List (Nat × Op × Ret)

structure Cfg (State Op Ret : Type) where
  σ : State
  ops : Nat → Option (OpSt Op Ret) := fun _ => none
  /-- who holds the lock now, with `true` = exclusively -/
  holders : List (Nat × Bool) := []
  /-- ghost: the operations in the order of their `eff` events -/
  lin : SeqHist Op Ret := []

def upd {α : Type} (f : Nat → Option α) (i : Nat) (a : α) : Nat → Option α :=
  fun j => if j = i then some a else f j

/-- may the lock be taken (exclusively if `x`) while `holders` have it? -/
def lockFree (holders : List (Nat × Bool)) (x : Bool) : Bool :=
  if x then holders.isEmpty else holders.all (fun p => !p.2)

section
variable {State Op Ret : Type} [DecidableEq Ret]

/-- one event; `chk = false` switches the lock discipline off (used to state what it buys) -/
def step (O : Obj State Op Ret) (chk : Bool) (c : Cfg State Op Ret) : Ev Op Ret → Option (Cfg State Op Ret)
  | .inv i o =>
    match c.ops i with
    | some _ => none
    | none => some { c with ops := upd c.ops i { op := o } }
  | .acq i =>
    match c.ops i with
    | none => none
    | some st =>
      if st.locked || st.replied then none else
      if chk && !lockFree c.holders (!O.readOnly st.op) then none else
      some { c with ops := upd c.ops i { st with locked := true },
                    holders := (i, !O.readOnly st.op) :: c.holders }
  | .eff i =>
    match c.ops i with
    | none => none
    | some st =>
      if !st.locked || st.result.isSome then none else
      some { c with σ := (O.apply c.σ st.op).1,
                    ops := upd c.ops i { st with result := some (O.apply c.σ st.op).2 },
                    lin := c.lin ++ [(i, st.op, (O.apply c.σ st.op).2)] }
  | .rel i =>
    match c.ops i with
    | none => none
    | some st =>
      if !st.locked then none else
      some { c with ops := upd c.ops i { st with locked := false },
                    holders := c.holders.filter (fun p => p.1 != i) }
  | .res i r =>
    match c.ops i with
    | none => none
    | some st =>
      if st.locked || st.replied then none else
      if st.result = some r then some { c with ops := upd c.ops i { st with replied := true } } else none

def run (O : Obj State Op Ret) (chk : Bool) (c : Cfg State Op Ret) : List (Ev Op Ret) → Option (Cfg State Op Ret)
  | [] => some c
  | e :: es => (step O chk c e).bind fun c' => run O chk c' es

def WF (O : Obj State Op Ret) (σ0 : State) (es : List (Ev Op Ret)) : Prop :=
  (run O true { σ := σ0 } es).isSome = true

instance (O : Obj State Op Ret) (σ0 : State) (es : List (Ev Op Ret)) : Decidable (WF O σ0 es) := by
  unfold WF; infer_instance

end

section
variable {State Op Ret : Type}

def Ev.isHist : Ev Op Ret → Bool
  | .inv _ _ | .res _ _ => true
  | _ => false

def hist (es : List (Ev Op Ret)) : List (Ev Op Ret) := es.filter Ev.isHist

def effOrder (es : List (Ev Op Ret)) : List Nat :=
  es.filterMap fun e => match e with | .eff i => some i | _ => none

/-- real-time precedence: the reply of `i` comes before the invocation of `j` -/
def Prec (h : List (Ev Op Ret)) (i j : Nat) : Prop := ∃ r o, [Ev.res i r, Ev.inv j o].Sublist h

def Before (l : List Nat) (i j : Nat) : Prop := [i, j].Sublist l

/-- `lin` is a legal sequential execution from `s`: every result is the one `apply` computes -/
def Legal (O : Obj State Op Ret) : State → SeqHist Op Ret → Prop
  | _, [] => True
  | s, x :: l => (O.apply s x.2.1).2 = x.2.2 ∧ Legal O (O.apply s x.2.1).1 l

def final (O : Obj State Op Ret) : State → SeqHist Op Ret → State
  | s, [] => s
  | s, x :: l => final O (O.apply s x.2.1).1 l

def ids (lin : SeqHist Op Ret) : List Nat := lin.map (·.1)

structure IsLin (O : Obj State Op Ret) (s0 : State) (h : List (Ev Op Ret)) (lin : SeqHist Op Ret) : Prop where
  /-- a total order: every operation at most once -/
  nodup : (ids lin).Nodup
  /-- only operations that were invoked, with the operation they were invoked with -/
  invoked : ∀ x ∈ lin, Ev.inv x.1 x.2.1 ∈ h
  /-- every completed operation is there, with the result it returned (pending ones may be there) -/
  complete : ∀ i r, Ev.res i r ∈ h → ∃ o, (i, o, r) ∈ lin
  /-- real-time precedence is respected -/
  realtime : ∀ i j, Prec h i j → j ∈ ids lin → Before (ids lin) i j
  /-- it is a legal sequential execution of `apply` producing exactly the recorded results -/
  legal : Legal O s0 lin

def Linearizable (O : Obj State Op Ret) (s0 : State) (h : List (Ev Op Ret)) : Prop :=
  ∃ lin, IsLin O s0 h lin

end

theorem pair_sublist_snoc {α : Type} {a b e : α} {l : List α} (h : [a, b].Sublist (l ++ [e])) :
    [a, b].Sublist l ∨ (a ∈ l ∧ b = e) := by
  rw [List.sublist_append_iff] at h
  obtain ⟨l1, l2, e12, h1, h2⟩ := h
  match l2, h2, e12 with
  | [], _, e12 => simp at e12; subst e12; exact Or.inl h1
  | [x], h2, e12 =>
    have : x = e := by simpa using h2
    subst this
    match l1, e12, h1 with
    | [a'], e12, h1 => simp at e12; obtain ⟨rfl, rfl⟩ := e12; exact Or.inr ⟨by simpa using h1, rfl⟩
    | [], e12, _ => simp at e12
    | _ :: _ :: _, e12, _ => simp at e12
  | x :: y :: l2', h2, _ => have := h2.length_le; simp at this

theorem upd_same {α : Type} (f : Nat → Option α) (i : Nat) (a : α) : upd f i a i = some a := by simp [upd]
theorem upd_ne {α : Type} (f : Nat → Option α) {i j : Nat} (a : α) (h : j ≠ i) : upd f i a j = f j := by
  simp [upd, h]

section
variable {State Op Ret : Type}

theorem prec_snoc {es : List (Ev Op Ret)} {e : Ev Op Ret} {i j : Nat} (h : Prec (es ++ [e]) i j) :
    Prec es i j ∨ ((∃ r, Ev.res i r ∈ es) ∧ ∃ o, e = Ev.inv j o) := by
  obtain ⟨r, o, h⟩ := h
  rcases pair_sublist_snoc h with h | ⟨h1, h2⟩
  · exact Or.inl ⟨r, o, h⟩
  · exact Or.inr ⟨⟨r, h1⟩, o, h2.symm⟩

theorem prec_res_mem {es : List (Ev Op Ret)} {i j : Nat} (h : Prec es i j) : ∃ r, Ev.res i r ∈ es := by
  obtain ⟨r, o, h⟩ := h
  exact ⟨r, h.subset (by simp)⟩

theorem before_snoc_new {l : List Nat} {i j : Nat} (h : i ∈ l) : Before (l ++ [j]) i j := by
  have h1 : [i].Sublist l := List.singleton_sublist.2 h
  exact h1.append (List.Sublist.refl [j])

variable {O : Obj State Op Ret}

theorem legal_snoc (s : State) (l : SeqHist Op Ret) (x : Nat × Op × Ret) :
    Legal O s (l ++ [x]) ↔ Legal O s l ∧ (O.apply (final O s l) x.2.1).2 = x.2.2 := by
  induction l generalizing s with
  | nil => simp [Legal, final]
  | cons y l ih => simp only [List.cons_append, Legal, final, ih, and_assoc]

theorem final_snoc (s : State) (l : SeqHist Op Ret) (x : Nat × Op × Ret) :
    final O s (l ++ [x]) = (O.apply (final O s l) x.2.1).1 := by
  induction l generalizing s with
  | nil => simp [final]
  | cons y l ih => simp only [List.cons_append, final, ih]

theorem ids_snoc (l : SeqHist Op Ret) (x : Nat × Op × Ret) : ids (l ++ [x]) = ids l ++ [x.1] := by
  simp [ids]

theorem mem_ids {l : SeqHist Op Ret} {i : Nat} : i ∈ ids l ↔ ∃ o r, (i, o, r) ∈ l := by
  simp [ids]

theorem effOrder_snoc (es : List (Ev Op Ret)) (e : Ev Op Ret) :
    effOrder (es ++ [e]) = effOrder es ++ (match e with | .eff i => [i] | _ => []) := by
  unfold effOrder
  rw [List.filterMap_append]
  cases e <;> rfl

/-- what every execution (lock discipline on or off) keeps true: `es` is the execution so far -/
structure Inv (O : Obj State Op Ret) (σ0 : State) (es : List (Ev Op Ret)) (c : Cfg State Op Ret) : Prop where
  legal : Legal O σ0 c.lin
  fin : final O σ0 c.lin = c.σ
  nodup : (ids c.lin).Nodup
  linOps : ∀ i o r, (i, o, r) ∈ c.lin ↔ ∃ st, c.ops i = some st ∧ st.op = o ∧ st.result = some r
  opsInv : ∀ i st, c.ops i = some st → Ev.inv i st.op ∈ es
  invOps : ∀ i o, Ev.inv i o ∈ es → ∃ st, c.ops i = some st ∧ st.op = o
  resOps : ∀ i r, Ev.res i r ∈ es → ∃ st, c.ops i = some st ∧ st.result = some r ∧ st.replied = true
  rt : ∀ i j, Prec es i j → j ∈ ids c.lin → Before (ids c.lin) i j
  order : ids c.lin = effOrder es

theorem Inv.init (σ0 : State) : Inv O σ0 [] { σ := σ0 } where
  legal := trivial
  fin := rfl
  nodup := List.nodup_nil
  linOps := by intro i o r; simp
  opsInv := nofun
  invOps := nofun
  resOps := nofun
  rt := by intro i j h; obtain ⟨r, h⟩ := prec_res_mem h; cases h
  order := rfl

/-- an event that leaves σ and the log alone: it creates the entry of operation `i` (`old = none`, the event
    is its `inv`) or only touches the flags of that entry -/
theorem Inv.frame {σ0 : State} {es : List (Ev Op Ret)} {c c' : Cfg State Op Ret} {e : Ev Op Ret}
    (hi : Inv O σ0 es c) {i : Nat} {old : Option (OpSt Op Ret)} {st' : OpSt Op Ret} (hst : c.ops i = old)
    (hold : ∀ st, old = some st →
      st'.op = st.op ∧ st'.result = st.result ∧ (st.replied = true → st'.replied = true))
    (hnew : old = none → st'.result = none ∧ e = .inv i st'.op)
    (hσ : c'.σ = c.σ) (hlin : c'.lin = c.lin) (hops : c'.ops = upd c.ops i st')
    (he1 : ∀ j o, e = .inv j o → j = i ∧ o = st'.op ∧ old = none) (he2 : ∀ j, e ≠ .eff j)
    (he3 : ∀ j r, e = .res j r → j = i ∧ st'.result = some r ∧ st'.replied = true) :
    Inv O σ0 (es ++ [e]) c' where
  legal := by rw [hlin]; exact hi.legal
  fin := by rw [hlin, hσ]; exact hi.fin
  nodup := by rw [hlin]; exact hi.nodup
  linOps := by
    intro j o r
    rw [hlin, hi.linOps, hops]
    by_cases hj : j = i
    · subst hj; rw [upd_same, hst]
      cases old with
      | none =>
        constructor
        · rintro ⟨_, h, _⟩; cases h
        · rintro ⟨s1, h1, _, h3⟩; cases h1; rw [(hnew rfl).1] at h3; cases h3
      | some st =>
        obtain ⟨hop, hres, _⟩ := hold st rfl
        constructor
        · rintro ⟨s1, h1, h2, h3⟩; cases h1; exact ⟨st', rfl, hop.trans h2, hres.trans h3⟩
        · rintro ⟨s1, h1, h2, h3⟩; cases h1; exact ⟨st, rfl, hop.symm.trans h2, hres.symm.trans h3⟩
    · rw [upd_ne _ _ hj]
  opsInv := by
    intro j sj h
    rw [hops] at h
    by_cases hj : j = i
    · subst hj; rw [upd_same] at h; cases h
      cases old with
      | none => rw [(hnew rfl).2]; exact List.mem_append_right _ List.mem_cons_self
      | some st => rw [(hold st rfl).1]; exact List.mem_append_left _ (hi.opsInv j st hst)
    · rw [upd_ne _ _ hj] at h; exact List.mem_append_left _ (hi.opsInv j sj h)
  invOps := by
    intro j o h
    rw [hops]
    rcases List.mem_append.1 h with h | h
    · obtain ⟨sj, h1, h2⟩ := hi.invOps j o h
      by_cases hj : j = i
      · subst hj; rw [hst] at h1; exact ⟨st', upd_same _ _ _, (hold sj h1).1.trans h2⟩
      · exact ⟨sj, by rw [upd_ne _ _ hj]; exact h1, h2⟩
    · obtain ⟨rfl, rfl, _⟩ := he1 j o (List.mem_singleton.1 h).symm
      exact ⟨st', upd_same _ _ _, rfl⟩
  resOps := by
    intro j r h
    rw [hops]
    rcases List.mem_append.1 h with h | h
    · obtain ⟨sj, h1, h2, h3⟩ := hi.resOps j r h
      by_cases hj : j = i
      · subst hj; rw [hst] at h1
        obtain ⟨_, hres, hrep⟩ := hold sj h1
        exact ⟨st', upd_same _ _ _, hres.trans h2, hrep h3⟩
      · exact ⟨sj, by rw [upd_ne _ _ hj]; exact h1, h2, h3⟩
    · obtain ⟨rfl, h2, h3⟩ := he3 j r (List.mem_singleton.1 h).symm
      exact ⟨st', upd_same _ _ _, h2, h3⟩
  rt := by
    intro a b h hb
    rw [hlin] at hb ⊢
    rcases prec_snoc h with h | ⟨_, o, h⟩
    · exact hi.rt a b h hb
    · -- `b` is invoked only now: it has no entry yet, so it is not in the log
      obtain ⟨rfl, _, rfl⟩ := he1 b o h
      obtain ⟨o', r', h⟩ := mem_ids.1 hb
      obtain ⟨st, h1, _⟩ := (hi.linOps b o' r').1 h
      rw [hst] at h1; cases h1
  order := by
    rw [hlin, hi.order, effOrder_snoc]
    cases e with
    | eff j => exact absurd rfl (he2 j)
    | _ => simp

theorem Inv.isLin {σ0 : State} {es : List (Ev Op Ret)} {c : Cfg State Op Ret} (hi : Inv O σ0 es c) :
    IsLin O σ0 (hist es) c.lin where
  nodup := hi.nodup
  invoked := by
    intro x hx
    obtain ⟨st, h1, h2, _⟩ := (hi.linOps x.1 x.2.1 x.2.2).1 hx
    have := hi.opsInv x.1 st h1
    rw [h2] at this
    exact List.mem_filter.2 ⟨this, rfl⟩
  complete := by
    intro i r h
    obtain ⟨st, h1, h2, _⟩ := hi.resOps i r (List.mem_filter.1 h).1
    exact ⟨st.op, (hi.linOps i st.op r).2 ⟨st, h1, rfl, h2⟩⟩
  realtime := fun i j ⟨r, o, h⟩ hj => hi.rt i j ⟨r, o, h.trans List.filter_sublist⟩ hj
  legal := hi.legal

/-- the lock discipline: `holders` are exactly the operations between their `acq` and `rel`, and an
    exclusive holder is alone -/
structure LockInv (O : Obj State Op Ret) (c : Cfg State Op Ret) : Prop where
  mem : ∀ i x, (i, x) ∈ c.holders ↔ ∃ st, c.ops i = some st ∧ st.locked = true ∧ x = !O.readOnly st.op
  excl : ∀ p ∈ c.holders, p.2 = true → c.holders = [p]

theorem LockInv.init (σ0 : State) : LockInv O ({ σ := σ0 } : Cfg State Op Ret) where
  mem := by intro i x; simp
  excl := nofun

theorem LockInv.both_readers {c : Cfg State Op Ret} (hi : LockInv O c) {i j : Nat} {si sj : OpSt Op Ret}
    (h1 : c.ops i = some si) (h2 : c.ops j = some sj) (l1 : si.locked = true) (l2 : sj.locked = true)
    (hne : i ≠ j) : O.readOnly si.op = true ∧ O.readOnly sj.op = true := by
  have m1 := (hi.mem i _).2 ⟨si, h1, l1, rfl⟩
  have m2 := (hi.mem j _).2 ⟨sj, h2, l2, rfl⟩
  constructor
  · cases h : O.readOnly si.op with
    | true => rfl
    | false =>
      rw [h] at m1
      rw [hi.excl _ m1 rfl] at m2
      simp at m2; exact absurd m2.1.symm hne
  · cases h : O.readOnly sj.op with
    | true => rfl
    | false =>
      rw [h] at m2
      rw [hi.excl _ m2 rfl] at m1
      simp at m1; exact absurd m1.1 hne

def invs (es : List (Ev Op Ret)) : List (Nat × Op) :=
  es.filterMap fun e => match e with | .inv i o => some (i, o) | _ => none

theorem invs_snoc (es : List (Ev Op Ret)) (e : Ev Op Ret) :
    invs (es ++ [e]) = invs es ++ (match e with | .inv i o => [(i, o)] | _ => []) := by
  unfold invs
  rw [List.filterMap_append]
  cases e <;> rfl

theorem mem_invs {es : List (Ev Op Ret)} {i : Nat} {o : Op} : (i, o) ∈ invs es ↔ Ev.inv i o ∈ es := by
  unfold invs
  rw [List.mem_filterMap]
  constructor
  · rintro ⟨e, he, h⟩
    cases e <;> simp at h
    obtain ⟨rfl, rfl⟩ := h; exact he
  · intro h; exact ⟨_, h, rfl⟩

end

section
variable {State Op Ret : Type} [DecidableEq Ret] {O : Obj State Op Ret} {chk : Bool} {c c' : Cfg State Op Ret} {i : Nat}

theorem step_inv {o : Op} : step O chk c (.inv i o) = some c' ↔
    c.ops i = none ∧ c' = { c with ops := upd c.ops i { op := o } } := by
  simp only [Lin.step]
  cases c.ops i <;> simp [eq_comm (a := c')]

theorem step_acq : step O chk c (.acq i) = some c' ↔ ∃ st, c.ops i = some st ∧ st.locked = false ∧
    st.replied = false ∧ (chk = true → lockFree c.holders (!O.readOnly st.op) = true) ∧
    c' = { c with ops := upd c.ops i { st with locked := true },
                  holders := (i, !O.readOnly st.op) :: c.holders } := by
  simp only [Lin.step]
  cases c.ops i with
  | none => simp
  | some st => simp [Option.ite_none_left_eq_some, eq_comm (a := c'), and_assoc]

theorem step_eff : step O chk c (.eff i) = some c' ↔ ∃ st, c.ops i = some st ∧ st.locked = true ∧
    st.result = none ∧
    c' = { c with σ := (O.apply c.σ st.op).1,
                  ops := upd c.ops i { st with result := some (O.apply c.σ st.op).2 },
                  lin := c.lin ++ [(i, st.op, (O.apply c.σ st.op).2)] } := by
  simp only [Lin.step]
  cases c.ops i with
  | none => simp
  | some st => simp [Option.ite_none_left_eq_some, eq_comm (a := c'), and_assoc]

theorem step_rel : step O chk c (.rel i) = some c' ↔ ∃ st, c.ops i = some st ∧ st.locked = true ∧
    c' = { c with ops := upd c.ops i { st with locked := false },
                  holders := c.holders.filter (fun p => p.1 != i) } := by
  simp only [Lin.step]
  cases c.ops i with
  | none => simp
  | some st => simp [Option.ite_none_left_eq_some, eq_comm (a := c')]

theorem step_res {r : Ret} : step O chk c (.res i r) = some c' ↔ ∃ st, c.ops i = some st ∧ st.locked = false ∧
    st.replied = false ∧ st.result = some r ∧ c' = { c with ops := upd c.ops i { st with replied := true } } := by
  simp only [Lin.step]
  cases c.ops i with
  | none => simp
  | some st => simp [Option.ite_none_left_eq_some, eq_comm (a := c'), and_assoc]

variable {σ0 : State} {es : List (Ev Op Ret)}

theorem Inv.step {e : Ev Op Ret} (hi : Inv O σ0 es c) (hs : step O chk c e = some c') :
    Inv O σ0 (es ++ [e]) c' := by
  cases e with
  | inv i o =>
    obtain ⟨hnone, rfl⟩ := step_inv.1 hs
    exact hi.frame (st' := { op := o }) hnone nofun (fun _ => ⟨rfl, rfl⟩) rfl rfl rfl
      (fun j o' h => by cases h; exact ⟨rfl, rfl, rfl⟩) nofun nofun
  | acq i =>
    obtain ⟨st, hst, _, _, _, rfl⟩ := step_acq.1 hs
    exact hi.frame (st' := { st with locked := true }) hst (fun _ h => by cases h; exact ⟨rfl, rfl, id⟩) nofun
      rfl rfl rfl nofun nofun nofun
  | rel i =>
    obtain ⟨st, hst, _, rfl⟩ := step_rel.1 hs
    exact hi.frame (st' := { st with locked := false }) hst (fun _ h => by cases h; exact ⟨rfl, rfl, id⟩) nofun
      rfl rfl rfl nofun nofun nofun
  | res i r =>
    obtain ⟨st, hst, _, _, hr, rfl⟩ := step_res.1 hs
    exact hi.frame (st' := { st with replied := true }) hst (fun _ h => by cases h; exact ⟨rfl, rfl, fun _ => rfl⟩)
      nofun rfl rfl rfl nofun nofun (fun j r' h => by cases h; exact ⟨rfl, hr, rfl⟩)
  | eff i =>
    obtain ⟨st, hst, _, hnone, rfl⟩ := step_eff.1 hs
    have hfresh : i ∉ ids c.lin := by
      intro h
      obtain ⟨o', r', h⟩ := mem_ids.1 h
      obtain ⟨s1, h1, _, h3⟩ := (hi.linOps i o' r').1 h
      rw [hst] at h1; cases h1; rw [hnone] at h3; cases h3
    exact {
      legal := (legal_snoc _ _ _).2 ⟨hi.legal, by rw [hi.fin]⟩
      fin := by
        show final O σ0 (c.lin ++ [_]) = _
        rw [final_snoc, hi.fin]
      nodup := by
        show (ids (c.lin ++ [_])).Nodup
        rw [ids_snoc, List.nodup_append]
        refine ⟨hi.nodup, by simp, ?_⟩
        intro a ha b hb e
        simp at hb; subst hb; subst e; exact hfresh ha
      linOps := by
        intro j o' r
        show (j, o', r) ∈ c.lin ++ [_] ↔ ∃ s1, upd c.ops i _ j = some s1 ∧ _
        rw [List.mem_append]
        by_cases hj : j = i
        · subst hj; rw [upd_same]
          constructor
          · rintro (h | h)
            · exact absurd (mem_ids.2 ⟨o', r, h⟩) hfresh
            · simp at h; exact ⟨_, rfl, h.1.symm, by rw [h.2]⟩
          · rintro ⟨s1, h1, h2, h3⟩
            cases h1
            simp only [Option.some.injEq] at h3
            right; simp [← h2, ← h3]
        · rw [upd_ne _ _ hj, ← hi.linOps]
          constructor
          · rintro (h | h)
            · exact h
            · simp at h; exact absurd h.1 hj
          · intro h; exact Or.inl h
      opsInv := by
        intro j sj h
        change upd c.ops i _ j = some sj at h
        refine List.mem_append_left _ ?_
        by_cases hj : j = i
        · subst hj; rw [upd_same] at h; cases h; exact hi.opsInv j st hst
        · rw [upd_ne _ _ hj] at h; exact hi.opsInv j sj h
      invOps := by
        intro j o' h
        show ∃ s1, upd c.ops i _ j = some s1 ∧ _
        rcases List.mem_append.1 h with h | h
        · obtain ⟨sj, h1, h2⟩ := hi.invOps j o' h
          by_cases hj : j = i
          · subst hj; rw [hst] at h1; cases h1; exact ⟨_, upd_same _ _ _, h2⟩
          · exact ⟨sj, by rw [upd_ne _ _ hj]; exact h1, h2⟩
        · simp at h
      resOps := by
        intro j r h
        show ∃ s1, upd c.ops i _ j = some s1 ∧ _
        rcases List.mem_append.1 h with h | h
        · obtain ⟨sj, h1, h2, h3⟩ := hi.resOps j r h
          have hj : j ≠ i := by
            intro e; subst e; rw [hst] at h1; cases h1; rw [hnone] at h2; cases h2
          exact ⟨sj, by rw [upd_ne _ _ hj]; exact h1, h2, h3⟩
        · simp at h
      rt := by
        intro a b h hb
        change b ∈ ids (c.lin ++ [_]) at hb
        show Before (ids (c.lin ++ [_])) a b
        rw [ids_snoc] at hb ⊢
        have hp : Prec es a b := by
          rcases prec_snoc h with h | ⟨_, o', h⟩
          · exact h
          · cases h
        rcases List.mem_append.1 hb with hb | hb
        · exact List.sublist_append_of_sublist_left (hi.rt a b hp hb)
        · simp at hb; subst hb
          obtain ⟨r, hr⟩ := prec_res_mem hp
          obtain ⟨sa, h1, h2, _⟩ := hi.resOps a r hr
          exact before_snoc_new (mem_ids.2 ⟨sa.op, r, (hi.linOps a sa.op r).2 ⟨sa, h1, rfl, h2⟩⟩)
      order := by
        show ids (c.lin ++ [_]) = _
        rw [ids_snoc, hi.order, effOrder_snoc] }

theorem run_cons_some {e : Ev Op Ret} (h : run O chk c (e :: es) = some c') :
    ∃ c1, step O chk c e = some c1 ∧ run O chk c1 es = some c' :=
  Option.bind_eq_some_iff.1 h

theorem run_append (chk : Bool) (c : Cfg State Op Ret) (a b : List (Ev Op Ret)) :
    run O chk c (a ++ b) = (run O chk c a).bind fun c' => run O chk c' b := by
  induction a generalizing c with
  | nil => rfl
  | cons e a ih =>
    simp only [List.cons_append, Lin.run]
    cases Lin.step O chk c e with
    | none => rfl
    | some c1 => exact ih c1

theorem run_prefix {chk : Bool} {c0 c : Cfg State Op Ret} {a b : List (Ev Op Ret)}
    (h : run O chk c0 (a ++ b) = some c) : ∃ c1, run O chk c0 a = some c1 ∧ run O chk c1 b = some c :=
  Option.bind_eq_some_iff.1 (run_append chk c0 a b ▸ h)

theorem run_induct {c0 : Cfg State Op Ret} {P : List (Ev Op Ret) → Cfg State Op Ret → Prop}
    (h0 : P [] c0)
    (hstep : ∀ es c e c', run O chk c0 es = some c → P es c → step O chk c e = some c' → P (es ++ [e]) c') :
    ∀ es c, run O chk c0 es = some c → P es c := by
  suffices ∀ es pre c c', run O chk c0 pre = some c → P pre c → run O chk c es = some c' → P (pre ++ es) c' from
    fun es c h => this es [] c0 c rfl h0 h
  intro es
  induction es with
  | nil => intro pre c c' _ hp h; cases h; rw [List.append_nil]; exact hp
  | cons e es ih =>
    intro pre c c' hpre hp h
    obtain ⟨c1, h1, h2⟩ := run_cons_some h
    have hpre1 : run O chk c0 (pre ++ [e]) = some c1 := by rw [run_append, hpre]; simp [Lin.run, h1]
    rw [List.append_cons]
    exact ih (pre ++ [e]) c1 c' hpre1 (hstep pre c e c1 hpre hp h1) h2

theorem run_inv : ∀ {es} {c : Cfg State Op Ret}, run O chk { σ := σ0 } es = some c → Inv O σ0 es c :=
  fun {es c} => run_induct (P := Inv O σ0) (Inv.init σ0) (fun _ _ _ _ _ ih hs => ih.step hs) es c

/-- the linearization point of a completed operation, its `eff`, lies between its invocation and
    its reply; and every `eff` comes after the invocation -/
theorem order_inv : ∀ (es : List (Ev Op Ret)) (c : Cfg State Op Ret), run O chk { σ := σ0 } es = some c →
    (∀ i st, c.ops i = some st → st.result.isSome = true → [Ev.inv i st.op, Ev.eff i].Sublist es) ∧
    (∀ i r, Ev.res i r ∈ es → ∃ o, [Ev.inv i o, Ev.eff i, Ev.res i r].Sublist es) := by
  refine run_induct (P := fun es c =>
      (∀ i st, c.ops i = some st → st.result.isSome = true → [Ev.inv i st.op, Ev.eff i].Sublist es) ∧
      (∀ i r, Ev.res i r ∈ es → ∃ o, [Ev.inv i o, Ev.eff i, Ev.res i r].Sublist es))
    ⟨(by intro i st h; cases h), (by intro i r h; cases h)⟩ ?_
  intro es c e c' hr ⟨ih1, ih2⟩ hs
  have old1 := fun i st h1 h2 => List.sublist_append_of_sublist_left (l₂ := [e]) (ih1 i st h1 h2)
  have old2 : ∀ i r, Ev.res i r ∈ es → ∃ o, [Ev.inv i o, Ev.eff i, Ev.res i r].Sublist (es ++ [e]) :=
    fun i r h => (ih2 i r h).imp fun _ h => List.sublist_append_of_sublist_left h
  -- every event rewrites the entry of one operation `i`: only that entry has to be looked at
  have keep1 : ∀ (i : Nat) (st' : OpSt Op Ret),
      (st'.result.isSome = true → [Ev.inv i st'.op, Ev.eff i].Sublist (es ++ [e])) →
      ∀ j st, upd c.ops i st' j = some st → st.result.isSome = true →
        [Ev.inv j st.op, Ev.eff j].Sublist (es ++ [e]) := by
    intro i st' hme j st h1 h2
    by_cases hj : j = i
    · subst hj; rw [upd_same] at h1; cases h1; exact hme h2
    · rw [upd_ne _ _ hj] at h1; exact old1 j st h1 h2
  have keep2 : (∀ i r, e ≠ .res i r) → ∀ i r, Ev.res i r ∈ es ++ [e] →
      ∃ o, [Ev.inv i o, Ev.eff i, Ev.res i r].Sublist (es ++ [e]) := by
    intro hne i r h
    rcases List.mem_append.1 h with h | h
    · exact old2 i r h
    · simp at h; exact absurd h.symm (hne i r)
  cases e with
  | inv i o =>
    obtain ⟨_, rfl⟩ := step_inv.1 hs
    exact ⟨keep1 i _ nofun, keep2 nofun⟩
  | acq i =>
    obtain ⟨st, hst, _, _, _, rfl⟩ := step_acq.1 hs
    exact ⟨keep1 i _ (old1 i st hst), keep2 nofun⟩
  | rel i =>
    obtain ⟨st, hst, _, rfl⟩ := step_rel.1 hs
    exact ⟨keep1 i _ (old1 i st hst), keep2 nofun⟩
  | eff i =>
    obtain ⟨st, hst, _, _, rfl⟩ := step_eff.1 hs
    have h1 : [Ev.inv i st.op].Sublist es := List.singleton_sublist.2 ((run_inv hr).opsInv i st hst)
    exact ⟨keep1 i _ (fun _ => h1.append (List.Sublist.refl [Ev.eff i])), keep2 nofun⟩
  | res i r =>
    obtain ⟨st, hst, _, _, hres, rfl⟩ := step_res.1 hs
    refine ⟨keep1 i _ (old1 i st hst), ?_⟩
    intro j r' h
    rcases List.mem_append.1 h with h | h
    · exact old2 j r' h
    · simp at h; obtain ⟨rfl, rfl⟩ := h
      exact ⟨st.op, (ih1 j st hst (by rw [hres]; rfl)).append (List.Sublist.refl [Ev.res j r'])⟩

theorem LockInv.step {e : Ev Op Ret} (hi : LockInv O c) (hs : step O true c e = some c') : LockInv O c' := by
  -- an event of `i` that does not touch its `locked` flag, nor `holders`
  have same : ∀ (i : Nat) (st st' : OpSt Op Ret), (c.ops i = some st ∨ (c.ops i = none ∧ st'.locked = false)) →
      (st'.locked = st.locked ∧ st'.op = st.op) →
      ∀ j x, (j, x) ∈ c.holders ↔ ∃ s1, upd c.ops i st' j = some s1 ∧ s1.locked = true ∧ x = !O.readOnly s1.op := by
    intro i st st' hst hsame j x
    rw [hi.mem]
    by_cases hj : j = i
    · subst hj; rw [upd_same]
      rcases hst with hst | ⟨hst, hl⟩
      · rw [hst]; simp [hsame.1, hsame.2]
      · rw [hst]; simp [hl]
    · rw [upd_ne _ _ hj]
  cases e with
  | inv i o =>
    obtain ⟨hn, rfl⟩ := step_inv.1 hs
    exact ⟨same i { op := o } _ (Or.inr ⟨hn, rfl⟩) ⟨rfl, rfl⟩, hi.excl⟩
  | eff i =>
    obtain ⟨st, hst, _, _, rfl⟩ := step_eff.1 hs
    exact ⟨same i st _ (Or.inl hst) ⟨rfl, rfl⟩, hi.excl⟩
  | res i r =>
    obtain ⟨st, hst, _, _, _, rfl⟩ := step_res.1 hs
    exact ⟨same i st _ (Or.inl hst) ⟨rfl, rfl⟩, hi.excl⟩
  | acq i =>
    obtain ⟨st, hst, hl, _, hf, rfl⟩ := step_acq.1 hs
    have hf := hf rfl
    constructor
    · intro j x
      show (j, x) ∈ (i, !O.readOnly st.op) :: c.holders ↔ ∃ s1, upd c.ops i _ j = some s1 ∧ _
      by_cases hj : j = i
      · subst hj; rw [upd_same, List.mem_cons, hi.mem, hst]
        constructor
        · rintro (h | ⟨s1, h1, h2, _⟩)
          · simp at h; exact ⟨_, rfl, rfl, h⟩
          · cases h1; rw [hl] at h2; cases h2
        · rintro ⟨s1, h1, _, h3⟩; cases h1; left; simp [h3]
      · rw [upd_ne _ _ hj, List.mem_cons, ← hi.mem]
        constructor
        · rintro (h | h)
          · simp at h; exact absurd h.1 hj
          · exact h
        · intro h; exact Or.inr h
    · intro p hp hx
      change p ∈ (i, !O.readOnly st.op) :: c.holders at hp
      show (i, !O.readOnly st.op) :: c.holders = [p]
      cases hro : O.readOnly st.op with
      | false =>
        -- a writer takes the lock only when nobody holds it
        rw [hro] at hf hp
        simp only [lockFree, Bool.not_false, if_true, List.isEmpty_iff] at hf
        rw [hf] at hp ⊢
        simp at hp; rw [hp]; rfl
      | true =>
        -- a reader takes it only when no holder is exclusive
        rw [hro] at hf hp
        simp only [lockFree, Bool.not_true, Bool.false_eq_true, if_false, List.all_eq_true] at hf
        rcases List.mem_cons.1 hp with h | h
        · subst h; simp at hx
        · have := hf p h; simp [hx] at this
  | rel i =>
    obtain ⟨st, hst, hl, rfl⟩ := step_rel.1 hs
    constructor
    · intro j x
      show (j, x) ∈ c.holders.filter _ ↔ ∃ s1, upd c.ops i _ j = some s1 ∧ _
      rw [List.mem_filter]
      by_cases hj : j = i
      · subst hj; rw [upd_same]; simp
      · rw [upd_ne _ _ hj, hi.mem]; simp [hj]
    · intro p hp hx
      change p ∈ c.holders.filter _ at hp
      show c.holders.filter _ = [p]
      obtain ⟨h1, h2⟩ := List.mem_filter.1 hp
      rw [hi.excl p h1 hx]
      simp [h2]

theorem LockInv.run (hi : LockInv O c) (h : run O true c es = some c') : LockInv O c' := by
  induction es generalizing c with
  | nil => cases h; exact hi
  | cons e es ih =>
    obtain ⟨c1, h1, h2⟩ := run_cons_some h
    exact ih (hi.step h1) h2

theorem run_linearizable (h : run O chk { σ := σ0 } es = some c) :
    IsLin O σ0 (hist es) c.lin ∧ ids c.lin = effOrder es ∧ final O σ0 c.lin = c.σ :=
  ⟨(run_inv h).isLin, (run_inv h).order, (run_inv h).fin⟩

end

section
variable {State Op Ret : Type} [DecidableEq Ret] {O : Obj State Op Ret}

theorem locked_bodies_linearizable (O : Obj State Op Ret) (σ0 : State) (es : List (Ev Op Ret))
    (h : WF O σ0 es) :
    ∃ lin, IsLin O σ0 (hist es) lin ∧ ids lin = effOrder es := by
  obtain ⟨c, hr⟩ := Option.isSome_iff_exists.1 h
  exact ⟨c.lin, (run_linearizable hr).1, (run_linearizable hr).2.1⟩

theorem wf_linearizable (O : Obj State Op Ret) (σ0 : State) (es : List (Ev Op Ret)) (h : WF O σ0 es) :
    Linearizable O σ0 (hist es) :=
  (locked_bodies_linearizable O σ0 es h).imp fun _ h => h.1

theorem invs_nodup {σ0 : State} {chk : Bool} : ∀ (es : List (Ev Op Ret)) (c : Cfg State Op Ret),
    run O chk { σ := σ0 } es = some c → ((invs es).map Prod.fst).Nodup := by
  refine run_induct (P := fun es _ => ((invs es).map Prod.fst).Nodup) (by simp [invs]) ?_
  intro es c e c' hr ih hs
  rw [invs_snoc]
  cases e with
  | inv i o =>
    -- a second invocation of `i` is rejected: `i` would already have an entry
    obtain ⟨hn, _⟩ := step_inv.1 hs
    rw [List.map_append, List.nodup_append]
    refine ⟨ih, by simp, ?_⟩
    intro a ha b hb e
    simp at hb; subst hb; subst e
    obtain ⟨p, hp, rfl⟩ := List.mem_map.1 ha
    obtain ⟨st, h1, _⟩ := (run_inv hr).invOps p.1 p.2 (mem_invs.1 hp)
    rw [hn] at h1; cases h1
  | _ => rw [List.append_nil]; exact ih

end
end NodisVerif.Lin

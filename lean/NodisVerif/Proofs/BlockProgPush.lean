import NodisVerif.Proofs.BlockProgSimC
/-
  No missed wake-up on PROGRAM STATES, from the push side: a waiter that has looked at key k in the current round and
  found it empty, and whose channel is empty, either still has an empty list at k or the push that filled it is still
  on its way to the waiter's channel (between its append and the send to this waiter).  `Seen` is an invariant of every
  schedule; at the `select` it covers all keys.
-/
namespace NodisVerif.Proofs.BlockProg
open NodisVerif.Block NodisVerif.BlockProg NodisVerif.Proofs.Block

/-- the keys the thread has popped from without success in the current round of `look` -/
def looked (l : Loc) : List Key :=
  match l.pc with
  | .l1 | .w0 | .w1 => l.keys.take l.i
  | .l2 => if l.found || l.panicking then [] else l.keys.take l.i
  | _ => []

/-- a push to k has appended its elements and has not yet sent to t's channel -/
def PendingAt (l : Loc) (t : Tid) (k : Key) : Prop :=
  l.key = k ∧ (l.pc = .p2 ∨ l.pc = .p3 ∨ (l.pc = .p4 ∧ t ∈ l.todo))

def Pending (σ : Sys) (t : Tid) (k : Key) : Prop := ∃ p, PendingAt (σ.thr p) t k

def Seen (σ : Sys) : Prop :=
  ∀ t k, k ∈ looked (σ.thr t) → σ.sh.full t = false → σ.sh.lists k = 0 ∨ Pending σ t k

variable {s s' : Shared} {t x : Tid} {l l' : Loc} {ch : Choice} {e : Option Ev}

theorem full_other (h : tstep s x l ch = some (s', l', e)) (hne : t ≠ x) (hf : s'.full t = false) :
    s.full t = false := by
  revert s' l' e
  fun_cases tstep s x l ch
  all_goals first | exact @out_none _ | refine @out_some _ _ _ _ ?_
  all_goals intro hf
  all_goals first | exact hf | skip
  -- the call and the receive empty x's own channel
  · have : l.pc = .idle := ‹_›
    exact (upd_ne _ _ hne).symm.trans hf
  · have : l.pc = .w1 := ‹_›
    exact (upd_ne _ _ hne).symm.trans hf
  -- the send fills a channel: not t's, which is empty afterwards
  · have : l.pc = .p4 := ‹_›
    simp only [upd_apply] at hf
    split at hf
    · cases hf
    · exact hf

theorem lists_step {k : Key} (h : tstep s x l ch = some (s', l', e)) (h0 : s.lists k = 0) :
    s'.lists k = 0 ∨ (l'.pc = .p2 ∧ l'.key = k) := by
  revert s' l' e
  fun_cases tstep s x l ch
  all_goals first | exact @out_none _ | refine @out_some _ _ _ _ ?_
  all_goals first | exact Or.inl h0 | skip
  -- another command on a key does not fill an empty list
  · next a _ _ _ _ =>
    have : l.pc = .idle := ‹_›
    by_cases hk : k = a
    · subst hk; exact Or.inl (by simp [h0])
    · exact Or.inl ((upd_ne _ _ hk).trans h0)
  -- a pop takes an element
  · next a _ _ _ _ =>
    have : l.pc = .l1 := ‹_›
    by_cases hk : k = a
    · subst hk; exact Or.inl (by simp [h0])
    · exact Or.inl ((upd_ne _ _ hk).trans h0)
  -- the append of a push: to another key, or this push is now at p2 with the key
  · have : l.pc = .p1 := ‹_›
    by_cases hk : k = l.key
    · exact Or.inr ⟨rfl, hk.symm⟩
    · exact Or.inl ((upd_ne _ _ hk).trans h0)

theorem pending_step {k : Key} (h : tstep s x l ch = some (s', l', e)) (hp : PendingAt l t k)
    (hreg : t ∈ s.regOf k) (hf : s'.full t = false) : PendingAt l' t k := by
  obtain ⟨hk, hp⟩ := hp
  rcases hp with hpc | hpc | ⟨hpc, hmem⟩
  · simp only [tstep, hpc] at h
    split at h
    · simp only [Option.some.injEq, Prod.mk.injEq] at h
      obtain ⟨_, rfl, _⟩ := h
      exact ⟨hk, Or.inr (Or.inl rfl)⟩
    · simp at h
  · simp only [tstep, hpc] at h
    cases hr : s.registry l.key with
    | none => rw [← hk] at hreg; simp [Shared.regOf, hr] at hreg
    | some cl =>
      simp only [hr, Option.some.injEq, Prod.mk.injEq] at h
      obtain ⟨_, rfl, _⟩ := h
      have hcl : t ∈ cl := by rw [← hk] at hreg; simpa [Shared.regOf, hr] using hreg
      have hne : cl.isEmpty = false := by cases cl <;> simp at hcl ⊢
      exact ⟨hk, Or.inr (Or.inr ⟨by simp [hne], hcl⟩)⟩
  · simp only [tstep, hpc] at h
    cases htd : l.todo with
    | nil => rw [htd] at hmem; simp at hmem
    | cons c rest =>
      simp only [htd, Option.some.injEq, Prod.mk.injEq] at h
      obtain ⟨rfl, rfl, _⟩ := h
      have hc : t ≠ c := by
        intro hc; subst hc; simp at hf
      rw [htd] at hmem
      have hr : t ∈ rest := by simpa [hc] using hmem
      have hne : rest.isEmpty = false := by cases rest <;> simp at hr ⊢
      exact ⟨hk, Or.inr (Or.inr ⟨by simp [hne], hr⟩)⟩

theorem looked_sub {l : Loc} {k : Key} (hk : k ∈ looked l) : k ∈ l.keys ∧ isBody l.pc = true ∧
    (l.pc = .l1 ∨ l.pc = .l2 ∨ l.pc = .w0 ∨ l.pc = .w1) := by
  obtain ⟨pc, keys, tmo, i, found, panicking, key, n, todo⟩ := l
  cases pc
  case l1 | w0 | w1 => exact ⟨List.mem_of_mem_take hk, rfl, by simp⟩
  case l2 =>
    dsimp only [looked] at hk
    split at hk
    · cases hk
    · exact ⟨List.mem_of_mem_take hk, rfl, by simp⟩
  all_goals cases hk

theorem looked_step {k : Key} (h : tstep s t l ch = some (s', l', e)) (hk : k ∈ looked l') :
    s'.full t = s.full t ∧ s'.lists = s.lists ∧ (k ∈ looked l ∨ s.lists k = 0) := by
  obtain ⟨pc, keys, tmo, i, found, panicking, key, n, todo⟩ := l
  revert hk
  revert s' l' e
  fun_cases tstep s t _ ch
  all_goals first | exact @out_none _ | refine @out_some _ _ _ _ ?_
  all_goals intro hk
  -- with the pc of the branch put in, `looked` of the new local state computes; in most branches nothing has been looked at there
  all_goals cases ‹(_ : Loc).pc = _›
  -- (among them l1 with an element: `found` is set, and `looked` is empty then)
  all_goals try cases hk
  -- r2: the end of a loop
  · unfold loopPc at hk
    split at hk <;> cases hk
  -- l1: past the last key
  · refine ⟨rfl, rfl, Or.inl ?_⟩
    dsimp only [looked] at hk ⊢
    split at hk
    · cases hk
    · exact hk
  -- l1: the pop panics
  · simp [looked] at hk
  -- l1: nothing there: the key just found empty is new
  · next k0 _ _ hz hg =>
    have hk' : k ∈ keys.take (i + 1) := by
      unfold loopPc at hk
      split at hk
      · exact hk
      · dsimp only [looked] at hk
        split at hk
        · cases hk
        · exact hk
    rw [take_succ_of_get hg, List.mem_append] at hk'
    refine ⟨rfl, rfl, hk'.imp id fun hk' => ?_⟩
    cases List.mem_singleton.1 hk'
    exact Nat.eq_zero_of_not_pos hz
  -- l2: on to the wait
  · next hfp _ =>
    refine ⟨rfl, rfl, Or.inl ?_⟩
    dsimp only [looked]
    rw [if_neg hfp]
    exact hk
  -- w0: the wait begins
  · exact ⟨rfl, rfl, Or.inl hk⟩
  -- u2 (three branches), then the tests of the cList at p3 and p4: one of two pcs outside `look`
  iterate 3 (dsimp +zetaDelta only [loopPc] at hk; split at hk <;> cases hk)
  · split at hk <;> cases hk
  · split at hk <;> cases hk

theorem registered_of_looked {σ : Sys} {bs : BState} (hI : Inv σ bs) {t : Tid} {k : Key}
    (hk : k ∈ looked (σ.thr t)) : t ∈ σ.sh.regOf k := by
  obtain ⟨hm, hb, _⟩ := looked_sub hk
  exact hI.registered hb hm

theorem seen_step {σ σ' : Sys} {bs : BState} (hI : Inv σ bs) (hS : Seen σ) (h : σ.step x ch = some (σ', e)) :
    Seen σ' := by
  obtain ⟨s', l', hs, rfl⟩ := step_inv h
  intro t k hk hf
  by_cases htx : t = x
  · subst htx
    simp only [upd_self] at hk
    obtain ⟨hfull, hlists, hor⟩ := looked_step hs hk
    simp only at hf
    rcases hor with hold | h0
    · rcases hS t k hold (by rw [← hfull]; exact hf) with h0 | ⟨p, hp⟩
      · left; simp only [hlists]; exact h0
      · right
        have hpt : p ≠ t := by
          intro hpt; subst hpt
          obtain ⟨_, _, hpcs⟩ := looked_sub hold
          obtain ⟨_, hq⟩ := hp
          rcases hq with hq | hq | ⟨hq, _⟩ <;> rcases hpcs with h1 | h1 | h1 | h1 <;> simp [hq] at h1
        exact ⟨p, by simpa [upd_ne _ _ hpt] using hp⟩
    · left; simp only [hlists]; exact h0
  · simp only [upd_ne _ _ htx] at hk
    have hf0 := full_other hs htx hf
    rcases hS t k hk hf0 with h0 | ⟨p, hp⟩
    · rcases lists_step hs h0 with h1 | ⟨h1, h2⟩
      · exact Or.inl h1
      · exact Or.inr ⟨x, by simpa [PendingAt] using ⟨h2, Or.inl h1⟩⟩
    · right
      by_cases hpx : p = x
      · subst hpx
        exact ⟨p, by simpa using pending_step hs hp (registered_of_looked hI hk) hf⟩
      · exact ⟨p, by simpa [upd_ne _ _ hpx] using hp⟩

theorem reach_seen {σ : Sys} {es : List Ev} (h : Reach σ es) : Seen σ := by
  induction h with
  | init => exact fun t k hk => by simp [looked] at hk
  | step hr hs ih => exact seen_step (reach_sim hr).choose_spec.2.1 ih hs

end NodisVerif.Proofs.BlockProg

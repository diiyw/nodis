import NodisVerif.Model.Conn
import NodisVerif.Proofs.AListLemmas2
/-
  C08 / C09 / C16 — the dispatch step of one command of one connection, parameterised by an
  arbitrary handler table, and `run` over a command-granularity schedule of any number of
  connections.  `step` has the structure of `Driver.respStep` (MULTI / EXEC / DISCARD / WATCH /
  UNWATCH are intercepted, everything else goes through the table, then `afterHandler`).
  The statements of Props/C08, C09 and C16 are written with definitions of this namespace.
-/
namespace NodisVerif.Proofs.C08Step
open Resp Server
open NodisVerif.Proofs.AListLemmas2

/-- a handler table: command name (upper case) and arguments ↦ what the handler does -/
abbrev Table := String → List Bytes → Option HRes

/-- one complete command sent by one connection, with the clock reading and the relational
    choice that the server happens to have when it serves it -/
structure Cmd where
  id   : String
  name : String
  args : List Bytes := []
  now  : Int := 0
  ch   : Choice := none

def okTok : Tok := Tok.simple (Bytes.ofString "OK")
def queuedTok : Tok := Tok.simple (Bytes.ofString "QUEUED")

/-- the closure UNWATCH hands to `execCommand` (the registry side is `unwatchBody`) -/
def okBody : Body := fun s _ _ => { store := s, toks := [okTok] }

/-- the connection is in a state in which `execCommand` runs closures at once -/
def runsNow (st : Nat) : Prop := st = 0 ∨ st = multiCommit

instance (st : Nat) : Decidable (runsNow st) := by unfold runsNow; exact inferInstance

/-- dispatch of one command (before the error-flag bookkeeping of `Nodis.Serve`) -/
def dispatch (H : Table) (sv : Server) (c : Cmd) : Server × List Tok :=
  if c.name = "MULTI" then Server.multi sv c.id
  else if c.name = "EXEC" then Server.exec sv c.id c.now
  else if c.name = "DISCARD" then Server.discard sv c.id
  else if c.name = "WATCH" then Server.watch sv c.id c.args
  else if c.name = "UNWATCH" then
    let sv := if runsNow (sv.conn c.id).state then Server.unwatchBody c.id sv else sv
    Server.execCommand sv c.id c.now c.ch okBody
  else
    match H c.name c.args with
    | none => (sv, [Tok.err 0])
    | some (.direct ts) => (sv, ts)
    | some .crash => (sv, [Tok.err 0])
    | some (.exec b) => Server.execCommand sv c.id c.now c.ch b

/-- one step = one complete command of one connection -/
def step (H : Table) (sv : Server) (c : Cmd) : Server × List Tok :=
  let r := dispatch H sv c
  (Server.afterHandler r.1 c.id r.2, r.2)

/-- a schedule is any interleaving, at command granularity, of the commands of any number of
    connections; `run` serves them one after the other and collects the replies -/
def run (H : Table) : Server → List Cmd → Server × List (List Tok)
  | sv, [] => (sv, [])
  | sv, c :: rest =>
    let r := step H sv c
    let q := run H r.1 rest
    (q.1, r.2 :: q.2)

def special (name : String) : Prop :=
  name = "MULTI" ∨ name = "EXEC" ∨ name = "DISCARD" ∨ name = "WATCH" ∨ name = "UNWATCH"

instance (n : String) : Decidable (special n) := by unfold special; exact inferInstance

@[simp] theorem conn_setConn_same (sv : Server) (id : String) (c : ConnState) :
    (sv.setConn id c).conn id = c := by
  simp [Server.conn, Server.setConn]

theorem conn_setConn_other (sv : Server) (id id' : String) (c : ConnState) (h : id' ≠ id) :
    (sv.setConn id c).conn id' = sv.conn id' := by
  have h1 : (id == id') = false := by simpa using (Ne.symm h)
  simp only [Server.conn, Server.setConn, List.find?_cons, h1, List.find?_filter]
  have : (fun (a : String × ConnState) => decide ((a.fst != id) = true ∧ (a.fst == id') = true))
      = (fun x => x.fst == id') := by
    funext a
    by_cases ha : a.1 = id'
    · subst ha; simp [h]
    · simp [ha]
  rw [this]

theorem conn_setConn (sv : Server) (id id' : String) (c : ConnState) :
    (sv.setConn id c).conn id' = if id' = id then c else sv.conn id' := by
  by_cases h : id' = id
  · subst h; simp
  · simp [h, conn_setConn_other _ _ _ _ h]

@[simp] theorem store_setConn (sv : Server) (id : String) (c : ConnState) :
    (sv.setConn id c).store = sv.store := rfl
@[simp] theorem registry_setConn (sv : Server) (id : String) (c : ConnState) :
    (sv.setConn id c).registry = sv.registry := rfl

end NodisVerif.Proofs.C08Step

import NodisVerif.Proofs.HandlerShape
import NodisVerif.Proofs.C09Writers3
import NodisVerif.Proofs.C09Table1

/-
  C09 over the normal form of handler results (HandlerShape.lean): that a closure tells the watchers what it changes is
  a fact about the API call it makes.  Every call of the catalogue `ApiCall` leaves a closed frame of the store it
  started from (`ApiCall.frame`: the `frame_*` lemmas, one per API function); the continuations of `Render` leave the
  store alone; hence every result in normal form signals its changes, given that the table's special results do
  (`Shape.tells` on one store, `Shape.signals` on all).
-/
namespace NodisVerif.Proofs.HandlerShape
open NodisVerif NodisVerif.Resp NodisVerif.Handler
open NodisVerif.Proofs.C08Step NodisVerif.Proofs.C09Writers

theorem ApiCall.frame {api : ApiFn} (h : ApiCall api) :
    ∀ (st : MState) (now : Int) (ch : Choice), st.pebble = true → Frame [] st (api st now ch).1 := by
  induction h with
  | ite _ _ iha ihb => exact fun st now ch hp => frame_ite (iha st now ch hp) (ihb st now ch hp)
  | del => exact fun st now _ hp => frame_del st hp now ..
  | exists_ => exact fun st now _ hp => frame_exists st hp now ..
  | expire => exact fun st now _ hp => frame_expire st hp now ..
  | expireNX => exact fun st now _ hp => frame_expireNX st hp now ..
  | expireXX => exact fun st now _ hp => frame_expireXX st hp now ..
  | expireLT => exact fun st now _ hp => frame_expireLT st hp now ..
  | expireGT => exact fun st now _ hp => frame_expireGT st hp now ..
  | expireAt => exact fun st now _ hp => frame_expireAt st hp now ..
  | expireAtNX => exact fun st now _ hp => frame_expireAtNX st hp now ..
  | expireAtXX => exact fun st now _ hp => frame_expireAtXX st hp now ..
  | expireAtLT => exact fun st now _ hp => frame_expireAtLT st hp now ..
  | expireAtGT => exact fun st now _ hp => frame_expireAtGT st hp now ..
  | ttl => exact fun st now _ _ => frame_ttl st now ..
  | pttl => exact fun st now _ _ => frame_pttl st now ..
  | persist => exact fun st now _ hp => frame_persist st hp now ..
  | randomKey => exact fun st now _ _ => frame_randomKey st now _
  | rename => exact fun st now _ _ => frame_rename st now ..
  | renameNX => exact fun st now _ _ => frame_renameNX st now ..
  | append => exact fun st now _ hp => frame_append st hp now ..
  | setEX => exact fun st now _ hp => frame_setEX st hp now ..
  | setNX => exact fun st now _ hp => frame_setNX st hp now ..
  | addInt k d neg h => exact fun st now _ hp => frame_addInt st hp now k d neg false (Or.inr h)
  | incrByFloat => exact fun st now _ hp => frame_incrByFloat st hp now ..
  | get => exact fun st now _ _ => frame_get st now ..
  | getSet => exact fun st now _ hp => frame_getSet st hp now ..
  | setRange k o v h => exact fun st now _ hp => frame_setRange st hp now k o v (Or.inr h)
  | getRange => exact fun st now _ _ => frame_getRange st now ..
  | strLen => exact fun st now _ _ => frame_strLen st now ..
  | setBit => exact fun st now _ hp => frame_setBit st hp now ..
  | getBit => exact fun st now _ _ => frame_getBit st now ..
  | bitCount => exact fun st now _ _ => frame_bitCount st now ..
  | push => exact fun st now _ hp => frame_push st hp now ..
  | pop => exact fun st now _ hp => frame_pop st hp now ..
  | pushX => exact fun st now _ hp => frame_pushX st hp now ..
  | llen => exact fun st now _ _ => frame_llen st now ..
  | lindex => exact fun st now _ _ => frame_lindex st now ..
  | linsert => exact fun st now _ hp => frame_linsert st hp now ..
  | lrem => exact fun st now _ hp => frame_lrem st hp now ..
  | ltrim => exact fun st now _ hp => frame_ltrim st hp now ..
  | lrange => exact fun st now _ _ => frame_lrange st now ..
  | lset => exact fun st now _ hp => frame_lset st hp now ..
  | rotate => exact fun st now _ hp => frame_rotate st hp now ..
  | hmset => exact fun st now _ hp => frame_hmset st hp now ..
  | hdel => exact fun st now _ hp => frame_hdel st hp now ..
  | hincrby => exact fun st now _ hp => frame_hincrby st hp now ..
  | hincrbyfloat => exact fun st now _ hp => frame_hincrbyfloat st hp now ..
  | hsetnx => exact fun st now _ hp => frame_hsetnx st hp now ..
  | hread f d k => exact fun st now _ _ => frame_hread f d st now k
  | sadd => exact fun st now _ hp => frame_sadd st hp now ..
  | srem => exact fun st now _ hp => frame_srem st hp now ..
  | smove => exact fun st now _ hp => frame_smove st hp now ..
  | sread f d k => exact fun st now _ _ => frame_sread f d st now k
  | sdiff ks => exact fun st now _ hp => readOnly_sdiff st now ks hp
  | sinter ks => exact fun st now _ hp => readOnly_sinter st now ks hp
  | sunion ks => exact fun st now _ hp => readOnly_sunion st now ks hp
  | sstore _ dst ks ih => exact fun st now _ hp => frame_sstore _ (fun s now ks hp => ih ks s now none hp) st hp now dst ks
  | zread f d k => exact fun st now _ _ => frame_zread f d st now k
  | zincrby => exact fun st now _ hp => frame_zincrby st hp now ..

theorem Shape.tells {Sp : HRes → Prop} {st : MState} {now : Int} {ch : Choice} (hp : st.pebble = true)
    (hSp : ∀ r, Sp r → ∀ b, r = .exec b → TellsChanges st (b st now ch)) {r : HRes} (h : Shape Sp r) :
    ∀ b, r = .exec b → TellsChanges st (b st now ch) := by
  cases h with
  | err | crash => exact fun _ h => nomatch h
  | unsup | panic => exact fun _ h => by cases h; exact tells_of_frame hp (Frame.refl _ st)
  | call ha hk => exact fun _ h => by cases h; exact tells_of_frame hp (frame_call _ _ hk.store (ha.frame st now ch hp))
  | special h => exact hSp _ h

theorem Shape.signals {Sp : HRes → Prop} (hSp : ∀ r, Sp r → ExecSignals r) {r : HRes} (h : Shape Sp r) :
    ExecSignals r :=
  fun b hb st now ch hp hsig => Shape.tells hp (fun r hr b hb => hSp r hr b hb st now ch hp hsig) h b hb

end NodisVerif.Proofs.HandlerShape

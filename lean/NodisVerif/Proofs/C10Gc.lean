import NodisVerif.Proofs.C10Deadline
import NodisVerif.Proofs.StorePass
/-
  A gc pass unlinks only records that are expired or not ok; every live
  record keeps its name, deadline and identities (its value may be evicted from memory).
-/
namespace NodisVerif.Proofs.C10
open NodisVerif Store
open NodisVerif.Proofs.AListLemmas NodisVerif.Proofs.AListLemmas2

/-- what gc may change in a record it keeps -/
def GcKeeps (m m' : Meta) : Prop :=
  m'.exp = m.exp ∧ m'.kid = m.kid ∧ m'.oid = m.oid ∧ m'.vtype = m.vtype ∧ m'.isOk = true ∧
  (m'.value = m.value ∨ m'.value = none)

theorem diskDelete_index (s : MState) (k : Bytes) (e : Int) : (diskDelete s k e).index = s.index := rfl

theorem gc_getMeta (s : MState) (now : Int) (k : Bytes) (hs : AList.Sorted s.index) (hc : s.closed = false) :
    match getMeta s k with
    | none => getMeta (gc s now) k = none
    | some m =>
      if (m.expired now || !m.isOk) = true then getMeta (gc s now) k = none
      else ∃ m', getMeta (gc s now) k = some m' ∧ GcKeeps m m' := by
  obtain ⟨ok, _, e⟩ := (Pass.gc_index s now hs hc).2 k
  unfold getMeta
  cases hg : AList.get? s.index k with
  | none => rw [hg] at e; exact e
  | some m =>
    rw [hg, Option.bind_some] at e
    simp only
    split
    · rename_i hd; rw [e, Pass.gcSlot, if_pos hd]
    · rename_i hd
      obtain ⟨m', a, b⟩ := Pass.gcSlot_live ok (show (m.expired now || !m.isOk) = false by simpa using hd)
      exact ⟨m', by rw [e]; exact a, b⟩

theorem gc_live (s : MState) (now : Int) (k : Bytes) (hs : AList.Sorted s.index) (hc : s.closed = false) :
    match live s now k with
    | none => live (gc s now) now k = none
    | some m => ∃ m', live (gc s now) now k = some m' ∧ GcKeeps m m' := by
  have key := gc_getMeta s now k hs hc
  cases hg : getMeta s k with
  | none =>
    rw [hg] at key
    simp only [live, hg, key, Option.filter_none]
  | some m =>
    rw [hg] at key
    simp only at key
    cases hd : (m.expired now || !m.isOk) with
    | true =>
      rw [if_pos hd] at key
      have hl : live s now k = none := by
        simp only [live, hg, Option.filter_some]
        cases hx : m.expired now <;> cases hy : m.isOk <;> simp_all
      rw [hl]
      simp only [live, key, Option.filter_none]
    | false =>
      rw [if_neg (by simp [hd])] at key
      obtain ⟨m', hm', hk⟩ := key
      simp only [Bool.or_eq_false_iff, Bool.not_eq_false'] at hd
      have hexp : m'.expired now = false := by
        have := hd.1
        simp only [Meta.expired] at this ⊢
        rw [hk.1]; exact this
      rw [live_iff.mpr ⟨hg, hd.2, hd.1⟩]
      exact ⟨m', live_iff.mpr ⟨hm', hk.2.2.2.2.1, hexp⟩, hk⟩

end NodisVerif.Proofs.C10

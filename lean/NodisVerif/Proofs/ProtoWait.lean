import NodisVerif.Proofs.ProtoInv
/-
  Locking protocol: the waits-for relation has no cycle, and some active transaction can always move (C06).
-/
namespace NodisVerif.Proofs.Proto
open NodisVerif.Proto

def wants (s : PState) (t : Tx) : Option Key := (s.tx t).bind fun st => st.waiting.map (·.1)

theorem wants_eq_some {s : PState} {t : Tx} {k : Key} : wants s t = some k ↔
    ∃ st r m, s.tx t = some st ∧ st.waiting = some (k, r, m) := by
  simp only [wants, Option.bind_eq_some_iff, Option.map_eq_some_iff]
  constructor
  · rintro ⟨st, h, ⟨k', r, m⟩, hw, rfl⟩; exact ⟨st, r, m, h, hw⟩
  · rintro ⟨st, r, m, h, hw⟩; exact ⟨st, h, _, hw, rfl⟩

theorem waitsFor_iff {s : PState} (hi : Inv s) {t u : Tx} : waitsFor s t u = true ↔
    ∃ st k r m su g, s.tx t = some st ∧ st.waiting = some (k, r, m) ∧ s.tx u = some su ∧ g ∈ su.holds ∧
      g.rid = r ∧ u ≠ t ∧ (m = .w ∨ g.mode = .w) := by
  constructor
  · intro h
    cases htx : s.tx t with
    | none => simp only [waitsFor, htx] at h; cases h
    | some st =>
      cases hw : st.waiting with
      | none => simp only [waitsFor, htx, hw] at h; cases h
      | some p =>
        obtain ⟨k, r, m⟩ := p
        simp only [waitsFor, htx, hw] at h
        obtain ⟨⟨v, g⟩, hm, hc⟩ := List.any_eq_true.1 h
        obtain ⟨h1, h2⟩ := mem_heldBy.1 hm
        obtain ⟨su, h3, h4⟩ := holds_of_mem_allHolds hi.txNodup h1
        simp only [Bool.and_eq_true, beq_iff_eq, bne_iff_ne, ne_eq, Bool.or_eq_true] at hc
        obtain ⟨⟨rfl, hne⟩, hmode⟩ := hc
        exact ⟨st, k, r, m, su, g, rfl, hw, h3, h4, h2, hne, hmode⟩
  · rintro ⟨st, k, r, m, su, g, htx, hw, h3, h4, h5, hne, hmode⟩
    simp only [waitsFor, htx, hw]
    refine List.any_eq_true.2 ⟨(u, g), mem_heldBy.2 ⟨mem_allHolds_of_holds ⟨su, h3, h4⟩, h5⟩, ?_⟩
    simp only [Bool.and_eq_true, beq_iff_eq, bne_iff_ne, ne_eq, Bool.or_eq_true, true_and]
    exact ⟨hne, hmode⟩
/-- C06.1: a blocked transaction only holds keys below the one it waits for -/
theorem waits_increase {s : PState} (hi : Inv s) {t : Tx} {st : TxSt} {k : Key} {r : Rec} {m : Mode}
    (htx : s.tx t = some st) (hw : st.waiting = some (k, r, m)) : ∀ h ∈ st.holds, h.key < k :=
  mayWait_iff.1 (hi.waitOk t st k r m htx hw).1

theorem holder_key {s : PState} (hi : Inv s) {t u : Tx} {st su : TxSt} {k : Key} {r : Rec} {m : Mode} {g : Hold}
    (htx : s.tx t = some st) (hw : st.waiting = some (k, r, m)) (hu : s.tx u = some su) (hg : g ∈ su.holds)
    (e : g.rid = r) : g.key = k := by
  have a := (hi.waitOk t st k r m htx hw).2.2.1
  have b := hi.holdName u su g hu hg
  rw [e, a] at b
  exact (Option.some.inj b).symm

theorem edge_lt {s : PState} (hi : Inv s) {t u : Tx} (h : waitsFor s t u = true) {k' : Key}
    (hu : wants s u = some k') : ∃ k, wants s t = some k ∧ k < k' := by
  obtain ⟨st, k, r, m, su, g, htx, hw, hsu, hg, e, _, _⟩ := (waitsFor_iff hi).1 h
  obtain ⟨su', r', m', hsu', hw'⟩ := wants_eq_some.1 hu
  rw [hsu] at hsu'; cases hsu'
  refine ⟨k, wants_eq_some.2 ⟨st, r, m, htx, hw⟩, ?_⟩
  have := waits_increase hi hsu hw' g hg
  rwa [holder_key hi htx hw hsu hg e] at this

theorem waitsFor_wants {s : PState} (hi : Inv s) {t u : Tx} (h : waitsFor s t u = true) :
    ∃ k, wants s t = some k := by
  obtain ⟨st, k, r, m, _, _, htx, hw, _⟩ := (waitsFor_iff hi).1 h
  exact ⟨k, wants_eq_some.2 ⟨st, r, m, htx, hw⟩⟩

def WaitsFor (s : PState) (t u : Tx) : Prop := waitsFor s t u = true

theorem chain_lt {s : PState} (hi : Inv s) {a z : Tx} (h : Relation.TransGen (WaitsFor s) a z) :
    ∀ c, WaitsFor s z c → ∃ ka kz, wants s a = some ka ∧ wants s z = some kz ∧ ka < kz := by
  induction h with
  | single h1 =>
    intro c hc
    obtain ⟨kz, hz⟩ := waitsFor_wants hi hc
    obtain ⟨ka, ha, hlt⟩ := edge_lt hi h1 hz
    exact ⟨ka, kz, ha, hz, hlt⟩
  | tail _ h2 ih =>
    intro c hc
    obtain ⟨kz, hz⟩ := waitsFor_wants hi hc
    obtain ⟨kb, hb, hlt⟩ := edge_lt hi h2 hz
    obtain ⟨ka, kb', ha, hb', hlt'⟩ := ih _ h2
    rw [hb] at hb'; cases hb'
    exact ⟨ka, kz, ha, hz, String.lt_trans hlt' hlt⟩

theorem transGen_first {α : Type} {R : α → α → Prop} {a b : α} (h : Relation.TransGen R a b) : ∃ c, R a c := by
  induction h with
  | single h1 => exact ⟨_, h1⟩
  | tail _ _ ih => exact ih

/-- C06.3: no cycle of transactions waiting for each other -/
theorem no_cycle {s : PState} (hi : Inv s) (t : Tx) : ¬ Relation.TransGen (WaitsFor s) t t := by
  intro h
  obtain ⟨c, hc⟩ := transGen_first h
  obtain ⟨ka, kz, ha, hz, hlt⟩ := chain_lt hi h c hc
  rw [ha] at hz; cases hz
  exact String.lt_irrefl _ hlt

/-- a walk a → l₀ → l₁ → … → z in the waits-for graph -/
def Walk (s : PState) : Tx → List Tx → Tx → Prop
  | a, [], z => WaitsFor s a z
  | a, b :: l, z => WaitsFor s a b ∧ Walk s b l z

theorem Walk.transGen {s : PState} {a z : Tx} {l : List Tx} (h : Walk s a l z) :
    Relation.TransGen (WaitsFor s) a z := by
  induction l generalizing a with
  | nil => exact .single h
  | cons b l ih => exact Relation.TransGen.trans (.single h.1) (ih h.2)

theorem exists_maximal {α : Type} (key : α → String) (l : List α) (hne : l ≠ []) :
    ∃ a ∈ l, ∀ b ∈ l, ¬ key a < key b := by
  induction l with
  | nil => exact absurd rfl hne
  | cons x l ih =>
    cases l with
    | nil => exact ⟨x, List.mem_cons_self, by intro b hb; simp at hb; subst hb; exact String.lt_irrefl _⟩
    | cons y l =>
      obtain ⟨a, ha, hmax⟩ := ih (by simp)
      by_cases hx : key a < key x
      · refine ⟨x, List.mem_cons_self, ?_⟩
        intro b hb
        rcases List.mem_cons.1 hb with rfl | hb
        · exact String.lt_irrefl _
        · intro c; exact hmax b hb (String.lt_trans hx c)
      · refine ⟨a, List.mem_cons_of_mem _ ha, ?_⟩
        intro b hb
        rcases List.mem_cons.1 hb with rfl | hb
        · exact hx
        · exact hmax b hb

/-- `t` is blocked: it waits for a record lock that cannot be granted now -/
def Blocked (s : PState) (t : Tx) : Prop :=
  ∃ st k r m, s.tx t = some st ∧ st.waiting = some (k, r, m) ∧ s.free r m = false

/-- C06.4: some active transaction is not blocked -/
theorem someone_not_blocked {s : PState} (hi : Inv s) (hne : s.txs ≠ []) :
    ∃ t st, s.tx t = some st ∧ ¬ Blocked s t := by
  apply Classical.byContradiction
  intro hnone
  have hall : ∀ t st, s.tx t = some st → Blocked s t := by
    intro t st htx
    apply Classical.byContradiction
    intro c
    exact hnone ⟨t, st, htx, c⟩
  let key : Tx × TxSt → String := fun p => (p.2.waiting.map (·.1)).getD ""
  obtain ⟨⟨t, st⟩, hm, hmax⟩ := exists_maximal key s.txs hne
  have htx : s.tx t = some st := assoc_of_mem hi.txNodup hm
  obtain ⟨st', k, r, m, htx', hw, hf⟩ := hall t st htx
  rw [htx] at htx'; cases htx'
  obtain ⟨u, g, ⟨su, hu, hg⟩, e, _⟩ := not_free_holder hi.txNodup hf
  have hgk : g.key = k := holder_key hi htx hw hu hg e
  obtain ⟨su', k', r', m', hu', hw', _⟩ := hall u su hu
  rw [hu] at hu'; cases hu'
  have hlt : k < k' := by
    have := waits_increase hi hu hw' g hg
    rwa [hgk] at this
  apply hmax (u, su) (mem_of_assoc hu)
  simp only [key, hw, hw', Option.map_some, Option.getD_some]
  exact hlt

end NodisVerif.Proofs.Proto

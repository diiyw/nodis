import NodisVerif.Proofs.AListLemmas
/-
  Generic lemmas on key-sorted association lists as finite maps: lookup after `set` / `erase`,
  sortedness kept, lengths, extensionality.
-/
namespace NodisVerif.Proofs.AListLemmas2
open NodisVerif.Proofs.AListLemmas

variable {V : Type}

theorem sorted_of_pairwise : ∀ (m : AList V), m.Pairwise KeyLt → AList.Sorted m := by
  intro m
  induction m with
  | nil => intro _; trivial
  | cons a rest ih =>
    intro h
    obtain ⟨h1, h2⟩ := List.pairwise_cons.mp h
    cases rest with
    | nil => trivial
    | cons b rest' =>
      obtain ⟨ka, va⟩ := a
      obtain ⟨kb, vb⟩ := b
      exact ⟨h1 (kb, vb) (by simp), ih h2⟩

theorem sorted_iff_pairwise (m : AList V) : AList.Sorted m ↔ m.Pairwise KeyLt :=
  ⟨sorted_pairwise m, sorted_of_pairwise m⟩

theorem sorted_cons_iff (a : Bytes × V) (rest : AList V) :
    AList.Sorted (a :: rest) ↔ (∀ b ∈ rest, Bytes.lt a.1 b.1 = true) ∧ AList.Sorted rest := by
  rw [sorted_iff_pairwise, sorted_iff_pairwise, List.pairwise_cons]
  rfl

theorem sorted_tail {a : Bytes × V} {rest : AList V} (h : AList.Sorted (a :: rest)) : AList.Sorted rest :=
  ((sorted_cons_iff a rest).mp h).2

theorem contains_eq_true_iff (m : AList V) (k : Bytes) : AList.contains m k = true ↔ ∃ v, AList.get? m k = some v := by
  simp [AList.contains, Option.isSome_iff_exists]

theorem contains_eq_false_iff (m : AList V) (k : Bytes) : AList.contains m k = false ↔ AList.get? m k = none := by
  simp [AList.contains]

theorem mem_of_get? : ∀ (m : AList V) (k : Bytes) (v : V), AList.get? m k = some v → (k, v) ∈ m := by
  intro m
  induction m with
  | nil => intro k v h; simp [AList.get?] at h
  | cons a rest ih =>
    intro k v h
    obtain ⟨k', w⟩ := a
    simp only [AList.get?] at h
    split at h
    · next e => simp at h; subst e; subst h; simp
    · exact List.mem_cons_of_mem _ (ih k v h)

theorem get?_none_of_lt (m : AList V) (k : Bytes)
    (h : ∀ b ∈ m, Bytes.lt k b.1 = true) : AList.get? m k = none :=
  (get?_none_iff k m).2 fun p hp e => lt_ne _ _ (h p hp) e.symm

theorem get?_of_mem : ∀ (m : AList V), AList.Sorted m → ∀ (k : Bytes) (v : V), (k, v) ∈ m → AList.get? m k = some v := by
  intro m
  induction m with
  | nil => intro _ k v h; simp at h
  | cons a rest ih =>
    intro hs k v h
    obtain ⟨k', w⟩ := a
    obtain ⟨hlt, hrest⟩ := (sorted_cons_iff _ _).mp hs
    rcases List.mem_cons.mp h with e | h'
    · cases e; simp [AList.get?]
    · have h1 : Bytes.lt k' k = true := hlt (k, v) h'
      have h2 : ¬ k' = k := lt_ne _ _ h1
      simp only [AList.get?, h2, if_false]
      exact ih hrest k v h'

theorem get?_eq_some_iff_mem (m : AList V) (hs : AList.Sorted m) (k : Bytes) (v : V) :
    AList.get? m k = some v ↔ (k, v) ∈ m :=
  ⟨mem_of_get? m k v, get?_of_mem m hs k v⟩

theorem mem_keys_iff_contains : ∀ (m : AList V) (k : Bytes), k ∈ AList.keys m ↔ AList.contains m k = true := by
  intro m
  induction m with
  | nil => intro k; simp [AList.keys, AList.contains, AList.get?]
  | cons a rest ih =>
    intro k
    obtain ⟨k', w⟩ := a
    have ih' := ih k
    simp only [AList.keys, AList.contains] at ih' ⊢
    simp only [List.map_cons, List.mem_cons, AList.get?]
    by_cases e : k' = k
    · simp [e]
    · have e' : ¬ k = k' := fun h => e h.symm
      simp [e, e', ih']

theorem get?_set_same : ∀ (m : AList V) (k : Bytes) (v : V), AList.get? (AList.set m k v) k = some v := by
  intro m
  induction m with
  | nil => intro k v; simp [AList.set, AList.get?]
  | cons a rest ih =>
    intro k v
    obtain ⟨k', w⟩ := a
    simp only [AList.set]
    split
    · next e => simp [AList.get?, e]
    · next e =>
      split
      · simp [AList.get?]
      · simp [AList.get?, e, ih]

theorem get?_set_other : ∀ (m : AList V) (k : Bytes) (v : V) (x : Bytes), x ≠ k →
    AList.get? (AList.set m k v) x = AList.get? m x := by
  intro m
  induction m with
  | nil =>
    intro k v x hx
    have : ¬ k = x := fun e => hx e.symm
    simp [AList.set, AList.get?, this]
  | cons a rest ih =>
    intro k v x hx
    obtain ⟨k', w⟩ := a
    have hx' : ¬ k = x := fun e => hx e.symm
    simp only [AList.set]
    split
    · next e =>
      have : ¬ k' = x := by rw [e]; exact hx'
      simp [AList.get?, this]
    · next e =>
      split
      · simp [AList.get?, hx']
      · simp only [AList.get?]
        split
        · rfl
        · exact ih k v x hx

theorem get?_set (m : AList V) (k : Bytes) (v : V) (x : Bytes) :
    AList.get? (AList.set m k v) x = if x = k then some v else AList.get? m x := by
  by_cases h : x = k
  · subst h; simp [get?_set_same]
  · simp [h, get?_set_other m k v x h]

theorem contains_set (m : AList V) (k : Bytes) (v : V) (x : Bytes) :
    AList.contains (AList.set m k v) x = (decide (x = k) || AList.contains m x) := by
  simp only [AList.contains, get?_set]
  by_cases h : x = k <;> simp [h]

theorem mem_set : ∀ (m : AList V) (k : Bytes) (v : V) (b : Bytes × V),
    b ∈ AList.set m k v → b = (k, v) ∨ b ∈ m := by
  intro m
  induction m with
  | nil => intro k v b h; simp [AList.set] at h; exact Or.inl h
  | cons a rest ih =>
    intro k v b h
    obtain ⟨k', w⟩ := a
    simp only [AList.set] at h
    split at h
    · next e =>
      rcases List.mem_cons.mp h with h | h
      · left; rw [h, e]
      · right; exact List.mem_cons_of_mem _ h
    · split at h
      · rcases List.mem_cons.mp h with h | h
        · left; exact h
        · right; exact h
      · rcases List.mem_cons.mp h with h | h
        · right; rw [h]; simp
        · rcases ih k v b h with h | h
          · left; exact h
          · right; exact List.mem_cons_of_mem _ h

theorem set_preserves_sorted : ∀ (m : AList V), AList.Sorted m → ∀ (k : Bytes) (v : V),
    AList.Sorted (AList.set m k v) := by
  intro m
  induction m with
  | nil => intro _ k v; trivial
  | cons a rest ih =>
    intro hs k v
    obtain ⟨k', w⟩ := a
    obtain ⟨hlt, hrest⟩ := (sorted_cons_iff _ _).mp hs
    simp only [AList.set]
    split
    · exact (sorted_cons_iff _ _).mpr ⟨hlt, hrest⟩
    · next e =>
      split
      · next hk =>
        refine (sorted_cons_iff _ _).mpr ⟨?_, hs⟩
        intro b hb
        rcases List.mem_cons.mp hb with rfl | hb
        · exact hk
        · exact lt_trans _ _ _ hk (hlt b hb)
      · next hk =>
        have hk' : Bytes.lt k' k = true := by
          cases h : Bytes.lt k' k with
          | true => rfl
          | false => exact absurd (lt_total k' k h (by simpa using hk)) e
        refine (sorted_cons_iff _ _).mpr ⟨?_, ih hrest k v⟩
        intro b hb
        rcases mem_set rest k v b hb with rfl | hb
        · exact hk'
        · exact hlt b hb

theorem length_set : ∀ (m : AList V), AList.Sorted m → ∀ (k : Bytes) (v : V),
    (AList.set m k v).length = if AList.contains m k then m.length else m.length + 1 := by
  intro m
  induction m with
  | nil => intro _ k v; simp [AList.set, AList.contains, AList.get?]
  | cons a rest ih =>
    intro hs k v
    obtain ⟨k', w⟩ := a
    obtain ⟨hlt, hrest⟩ := (sorted_cons_iff _ _).mp hs
    simp only [AList.set]
    split
    · next e => simp [AList.contains, AList.get?, e]
    · next e =>
      split
      · next hk =>
        have : AList.get? ((k', w) :: rest) k = none := by
          apply get?_none_of_lt
          intro b hb
          rcases List.mem_cons.mp hb with rfl | hb
          · exact hk
          · exact lt_trans _ _ _ hk (hlt b hb)
        simp [AList.contains, this]
      · have := ih hrest k v
        simp only [AList.contains, AList.get?, e, if_false, List.length_cons] at this ⊢
        rw [this]
        split <;> simp [*]

theorem get?_erase_other : ∀ (m : AList V) (k x : Bytes), x ≠ k →
    AList.get? (AList.erase m k) x = AList.get? m x := by
  intro m
  induction m with
  | nil => intro k x _; rfl
  | cons a rest ih =>
    intro k x hx
    obtain ⟨k', w⟩ := a
    simp only [AList.erase]
    split
    · next e =>
      have : ¬ k' = x := by rw [e]; exact fun h => hx h.symm
      simp [AList.get?, this]
    · simp only [AList.get?]
      split
      · rfl
      · exact ih k x hx

theorem get?_erase_same : ∀ (m : AList V), AList.Sorted m → ∀ (k : Bytes), AList.get? (AList.erase m k) k = none := by
  intro m
  induction m with
  | nil => intro _ k; rfl
  | cons a rest ih =>
    intro hs k
    obtain ⟨k', w⟩ := a
    obtain ⟨hlt, hrest⟩ := (sorted_cons_iff _ _).mp hs
    simp only [AList.erase]
    split
    · next e => subst e; exact get?_none_of_lt rest k' hlt
    · next e => simp only [AList.get?, e, if_false]; exact ih hrest k

theorem get?_erase (m : AList V) (hs : AList.Sorted m) (k x : Bytes) :
    AList.get? (AList.erase m k) x = if x = k then none else AList.get? m x := by
  by_cases h : x = k
  · subst h; simp [get?_erase_same m hs]
  · simp [h, get?_erase_other m k x h]

theorem contains_erase (m : AList V) (hs : AList.Sorted m) (k x : Bytes) :
    AList.contains (AList.erase m k) x = (!decide (x = k) && AList.contains m x) := by
  simp only [AList.contains, get?_erase m hs]
  by_cases h : x = k <;> simp [h]

theorem erase_sublist : ∀ (m : AList V) (k : Bytes), (AList.erase m k).Sublist m := by
  intro m
  induction m with
  | nil => intro k; exact List.Sublist.refl _
  | cons a rest ih =>
    intro k
    obtain ⟨k', w⟩ := a
    simp only [AList.erase]
    split
    · exact List.sublist_cons_self _ _
    · exact (ih k).cons_cons _

theorem erase_preserves_sorted (m : AList V) (hs : AList.Sorted m) (k : Bytes) : AList.Sorted (AList.erase m k) := by
  rw [sorted_iff_pairwise] at hs ⊢
  exact hs.sublist (erase_sublist m k)

theorem length_erase : ∀ (m : AList V) (k : Bytes),
    (AList.erase m k).length = if AList.contains m k then m.length - 1 else m.length := by
  intro m
  induction m with
  | nil => intro k; simp [AList.erase, AList.contains, AList.get?]
  | cons a rest ih =>
    intro k
    obtain ⟨k', w⟩ := a
    simp only [AList.erase]
    split
    · next e => simp [AList.contains, AList.get?, e]
    · next e =>
      have := ih k
      simp only [AList.contains, AList.get?, e, if_false, List.length_cons] at this ⊢
      rw [this]
      split
      · next hc =>
        have : rest.length ≠ 0 := by
          intro h0
          have : rest = [] := List.length_eq_zero_iff.mp h0
          subst this
          simp [AList.get?] at hc
        simp only [hc, if_true]
        omega
      · next hc => simp [hc]

theorem erase_of_not_contains : ∀ (m : AList V) (k : Bytes), AList.contains m k = false → AList.erase m k = m := by
  intro m
  induction m with
  | nil => intro k _; rfl
  | cons a rest ih =>
    intro k h
    obtain ⟨k', w⟩ := a
    simp only [AList.contains, AList.get?] at h
    split at h
    · simp at h
    · next e =>
      simp only [AList.erase, e, if_false]
      rw [ih k (by simpa [AList.contains] using h)]

theorem keys_nodup (m : AList V) (hs : AList.Sorted m) : (AList.keys m).Nodup := by
  rw [sorted_iff_pairwise] at hs
  unfold AList.keys List.Nodup
  rw [List.pairwise_map]
  exact hs.imp (fun {a b} h => lt_ne _ _ h)

theorem length_keys (m : AList V) : (AList.keys m).length = m.length := by simp [AList.keys]

theorem ext_of_sorted : ∀ (m₁ m₂ : AList V), AList.Sorted m₁ → AList.Sorted m₂ →
    (∀ x, AList.get? m₁ x = AList.get? m₂ x) → m₁ = m₂ := by
  intro m₁
  induction m₁ with
  | nil =>
    intro m₂ _ _ h
    cases m₂ with
    | nil => rfl
    | cons b r =>
      obtain ⟨kb, vb⟩ := b
      have := h kb
      simp [AList.get?] at this
  | cons a rest ih =>
    intro m₂ hs1 hs2 h
    obtain ⟨ka, va⟩ := a
    cases m₂ with
    | nil =>
      have := h ka
      simp [AList.get?] at this
    | cons b r =>
      obtain ⟨kb, vb⟩ := b
      obtain ⟨hlt1, hr1⟩ := (sorted_cons_iff _ _).mp hs1
      obtain ⟨hlt2, hr2⟩ := (sorted_cons_iff _ _).mp hs2
      have hk : ka = kb := by
        by_cases e : ka = kb
        · exact e
        · exfalso
          have e' : ¬ kb = ka := fun x => e x.symm
          have h1 := h ka
          have h2 := h kb
          simp only [AList.get?, if_true, e, e', if_false] at h1 h2
          have m1 : (ka, va) ∈ r := mem_of_get? r ka va h1.symm
          have m2 : (kb, vb) ∈ rest := mem_of_get? rest kb vb h2
          have l1 := hlt2 _ m1
          have l2 := hlt1 _ m2
          simp only at l1 l2
          have := lt_asymm _ _ l1
          rw [l2] at this
          cases this
      subst hk
      have hv : va = vb := by
        have := h ka
        simpa [AList.get?] using this
      subst hv
      have : rest = r := by
        apply ih r hr1 hr2
        intro x
        by_cases e : ka = x
        · subst e
          rw [get?_none_of_lt rest ka hlt1, get?_none_of_lt r ka hlt2]
        · have := h x
          simpa [AList.get?, e] using this
      rw [this]

variable {W : Type}

theorem get?_map (f : Bytes → V → W) : ∀ (l : AList V) (x : Bytes),
    AList.get? (l.map fun p => (p.1, f p.1 p.2)) x = (AList.get? l x).map (f x) := by
  intro l x
  induction l with
  | nil => rfl
  | cons a rest ih =>
    obtain ⟨k, v⟩ := a
    simp only [List.map_cons, AList.get?]
    by_cases h : k = x
    · subst h; simp
    · simp [h, ih]

theorem sorted_map (f : Bytes → V → W) (l : AList V) (h : AList.Sorted l) :
    AList.Sorted (l.map fun p => (p.1, f p.1 p.2)) := by
  rw [sorted_iff_pairwise] at h ⊢
  rw [List.pairwise_map]
  exact h

theorem sorted_of_keys (a : AList V) (b : AList W) (h : a.map (·.1) = b.map (·.1)) (hs : AList.Sorted a) :
    AList.Sorted b := by
  rw [sorted_iff_pairwise] at hs ⊢
  have h1 : (a.map (·.1)).Pairwise (fun x y => Bytes.lt x y = true) := by
    rw [List.pairwise_map]; exact hs
  rw [h, List.pairwise_map] at h1
  exact h1

theorem sorted_filter (p : Bytes × V → Bool) (m : AList V) (hs : AList.Sorted m) :
    AList.Sorted (m.filter p) := by
  rw [sorted_iff_pairwise] at hs ⊢
  exact hs.sublist List.filter_sublist

theorem get?_filter (p : Bytes × V → Bool) : ∀ (m : AList V), AList.Sorted m → ∀ k,
    AList.get? (m.filter p) k = (AList.get? m k).filter fun v => p (k, v) := by
  intro m
  induction m with
  | nil => intro _ k; rfl
  | cons a rest ih =>
    intro hs k
    obtain ⟨ka, va⟩ := a
    obtain ⟨h1, h2⟩ := sorted_cons (ka, va) rest hs
    by_cases hk : ka = k
    · subst hk
      simp only [AList.get?, if_true, List.filter_cons]
      cases hp : p (ka, va) with
      | true => simp [AList.get?, Option.filter, hp]
      | false =>
        -- the head is dropped, and no later entry has its key
        simp only [Bool.false_eq_true, if_false, Option.filter, hp]
        apply get?_none_of_lt
        intro q hq
        exact h2 q (List.mem_filter.mp hq).1
    · simp only [AList.get?, hk, if_false, List.filter_cons]
      cases hp : p (ka, va) with
      | true => simp only [if_true, AList.get?, hk, if_false]; exact ih h1 k
      | false => simp only [Bool.false_eq_true, if_false]; exact ih h1 k

theorem set_set (l : AList V) (k : Bytes) (a b : V) : AList.set (AList.set l k a) k b = AList.set l k b := by
  induction l with
  | nil => simp [AList.set]
  | cons p rest ih =>
    obtain ⟨k', w⟩ := p
    simp only [AList.set]
    by_cases h : k' = k
    · subst h; simp [AList.set]
    · by_cases h2 : Bytes.lt k k' = true
      · simp [h, h2, AList.set]
      · simp [h, h2, AList.set, ih]

theorem mem_set_self (m : AList V) (k : Bytes) (v : V) : (k, v) ∈ AList.set m k v :=
  mem_of_get? _ _ _ (get?_set_same m k v)

theorem mem_of_mem_erase (m : AList V) (k : Bytes) (b : Bytes × V) (h : b ∈ AList.erase m k) : b ∈ m :=
  (erase_sublist m k).subset h

theorem mem_set_iff (m : AList V) (hs : AList.Sorted m) (k : Bytes) (v : V) (q : Bytes × V) :
    q ∈ AList.set m k v ↔ q = (k, v) ∨ (q ∈ m ∧ q.1 ≠ k) := by
  obtain ⟨kq, w⟩ := q
  rw [← get?_eq_some_iff_mem _ (set_preserves_sorted m hs k v), get?_set, ← get?_eq_some_iff_mem m hs]
  by_cases hk : kq = k
  · simp [hk, eq_comm]
  · simp [hk]

theorem mem_erase_iff (m : AList V) (hs : AList.Sorted m) (k : Bytes) (q : Bytes × V) :
    q ∈ AList.erase m k ↔ q ∈ m ∧ q.1 ≠ k := by
  obtain ⟨kq, w⟩ := q
  rw [← get?_eq_some_iff_mem _ (erase_preserves_sorted m hs k), get?_erase m hs, ← get?_eq_some_iff_mem m hs]
  by_cases hk : kq = k
  · simp [hk]
  · simp [hk]

theorem val_unique (m : AList V) (hs : AList.Sorted m) {k : Bytes} {v w : V}
    (h1 : (k, v) ∈ m) (h2 : (k, w) ∈ m) : v = w := by
  have a := get?_of_mem m hs k v h1
  have b := get?_of_mem m hs k w h2
  rw [a] at b
  exact Option.some.inj b

end NodisVerif.Proofs.AListLemmas2

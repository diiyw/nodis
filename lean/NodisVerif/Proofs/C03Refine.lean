import NodisVerif.Proofs.C03Seq
/-
  C03: the API model refines the command-level reference semantics of Spec/HashSet.lean, one command at a time
  (`hash_step_refines`, `set_step_refines`; at every time at once: `*_step_all_times`). Defined here, for the
  statements of section F of Props/C03.lean: `toReply`, `execHash` / `execSet`, `dsHash` / `dsSet`, the finding
  regions `hashFinding` / `setFinding` / `noHashFinding` / `noSetFinding`, the runs `runHash` / `runSet` /
  `runHashT` / `runSetT`. The sequence theorems there are inductions over the one-command lemmas of this file.
-/
namespace NodisVerif.Proofs.C03Refine
open NodisVerif.Proofs.AListLemmas NodisVerif.Proofs.AListLemmas2 NodisVerif.Proofs.C03 NodisVerif.Proofs.C03Api
open NodisVerif.Proofs.C03Seq
open Store Api Spec

/-- how an API result is read as a reply of the reference semantics; `none` = panic / hang /
    INVALID-CHOICE marker / anything that is not a hash or set reply -/
def toReply : Out → Option Reply
  | .int n => some (.int n)
  | .bool b => some (.bool b)
  | .bytes b => some (.bulk b)
  | .blist l => some (.bulks l)
  | .slist l => some (.strs l)
  | .bmap l => some (.pairs (l.filterMap fun p => p.2.map fun v => (p.1, v)))
  | .many [.int v, .err false] => some (.int v)
  | .many [.int _, .err true] => some .err
  | _ => none

def execHash (s : MState) (now : Int) (key : Bytes) : HashCmd → Api.R
  | .hset f v => Api.hset s now key f v
  | .hsetnx f v => Api.hsetnx s now key f v
  | .hmset pairs => Api.hmset s now key pairs
  | .hget f => Api.hget s now key f
  | .hmget fs => Api.hmget s now key fs
  | .hgetall => Api.hgetall s now key
  | .hkeys => Api.hkeys s now key
  | .hvals => Api.hvals s now key
  | .hdel fs => Api.hdel s now key fs
  | .hlen => Api.hlen s now key
  | .hexists f => Api.hexists s now key f
  | .hstrlen f => Api.hstrlen s now key f
  | .hincrby f d => Api.hincrby s now key f d

/-- the data-structure value after the command (the model's own functions) -/
def dsHash (h : AList Bytes) : HashCmd → AList Bytes
  | .hset f v => (DsHash.hset h f v).1
  | .hsetnx f v => (DsHash.hsetnx h f v).1
  | .hmset pairs => (hmsetDs h pairs).1
  | .hdel fs => (DsHash.hdel h fs).1
  | .hincrby f d => match DsHash.hincrby h f d with | none => h | some (h', _) => h'
  | _ => h

/-- finding region of the hash commands (decidable), `h` = the hash before the command:
    * HMGET of at least one field on a missing key (API answers the empty list, not one nil per field);
    * HINCRBY whose sum leaves int64 (the code wraps), or whose increment is not an int64;
    * HMSET of no pair on a missing key (leaves an existing-but-empty hash). -/
def hashFinding (h : AList Bytes) : HashCmd → Bool
  | .hmget fs => h.isEmpty && !fs.isEmpty
  | .hincrby f d => hincrOverflow h f d || !inInt64 d
  | .hmset pairs => pairs.isEmpty && h.isEmpty
  | _ => false

theorem bmap_roundtrip (h : AList Bytes) :
    (h.map fun (p : Bytes × Bytes) => (p.1, some p.2)).filterMap (fun p => p.2.map fun v => (p.1, v)) = h := by
  induction h with
  | nil => rfl
  | cons a rest ih => simp [ih]

theorem has_eq_contains (h : AList Bytes) (f : Bytes) : Map.has (DsHash.hget h) f = AList.contains h f := rfl

theorem dom_eq_contains (h : AList Bytes) : Map.dom (DsHash.hget h) = AList.contains h := rfl

/-- a command that is a read (`hread f dflt`) whose missing-key default is what `f` answers on the empty hash:
    the state is represented as before, and the reply `r` that `f` gives on `h` is all that has to be matched
    against the reference step -/
theorem hread_refines (c : HashCmd) (f : AList Bytes → Out) (dflt : Out) (hd : dflt = f []) (s : MState) (now : Int)
    (key : Bytes) (h : AList Bytes) (he : execHash s now key c = hread f dflt s now key) (hds : dsHash h c = h)
    (r : Reply) (hr : HashRel s key now h) (hi : IndexSorted s)
    (ho : toReply (f h) = some r) (hstep : hashStep (DsHash.hget h) c r (DsHash.hget h)) :
    ∃ r, HashRel (execHash s now key c).1 key now (dsHash h c) ∧ IndexSorted (execHash s now key c).1 ∧
      toReply (execHash s now key c).2 = some r ∧ hashStep (DsHash.hget h) c r (DsHash.hget (dsHash h c)) := by
  obtain ⟨a, b, o⟩ := hread_rel' f dflt hd s now key h hr hi
  rw [he, hds, o]
  exact ⟨r, a, b, ho, hstep⟩

/-- a command whose reply `out` and state are known from a `_rel` lemma: only the reading of `out` as `r` and the
    reference step remain -/
theorem hwrite_refines (c : HashCmd) (s : MState) (now : Int) (key : Bytes) (h : AList Bytes) (out : Out) (r : Reply)
    (hx : (execHash s now key c).2 = out ∧ HashRel (execHash s now key c).1 key now (dsHash h c) ∧
      IndexSorted (execHash s now key c).1)
    (ho : toReply out = some r) (hstep : hashStep (DsHash.hget h) c r (DsHash.hget (dsHash h c))) :
    ∃ r, HashRel (execHash s now key c).1 key now (dsHash h c) ∧ IndexSorted (execHash s now key c).1 ∧
      toReply (execHash s now key c).2 = some r ∧ hashStep (DsHash.hget h) c r (DsHash.hget (dsHash h c)) :=
  ⟨r, hx.2.1, hx.2.2, by rw [hx.1]; exact ho, hstep⟩

theorem hash_step_refines (s : MState) (now : Int) (key : Bytes) (h : AList Bytes) (c : HashCmd)
    (hr : HashRel s key now h) (hi : IndexSorted s) (hreg : hashFinding h c = false) :
    ∃ r, HashRel (execHash s now key c).1 key now (dsHash h c) ∧ IndexSorted (execHash s now key c).1 ∧
      toReply (execHash s now key c).2 = some r ∧ hashStep (DsHash.hget h) c r (DsHash.hget (dsHash h c)) := by
  have hs := hr.1
  cases c with
  | hset f v =>
    exact hwrite_refines (.hset f v) s now key h _ _ (hset_rel s now key f v h hr hi) rfl
      ⟨rfl, funext fun x => get?_set h f v x⟩
  | hsetnx f v =>
    refine hwrite_refines (.hsetnx f v) s now key h _ _ (hsetnx_rel s now key f v h hr hi) rfl ?_
    show if AList.contains h f = true then _ else _
    cases hc : AList.contains h f with
    | true =>
      simp only [dsHash, DsHash.hsetnx, hc, if_true]
      exact ⟨rfl, trivial⟩
    | false =>
      simp only [dsHash, DsHash.hsetnx, hc, Bool.false_eq_true, if_false]
      exact ⟨rfl, funext fun x => get?_set h f v x⟩
  | hmset pairs =>
    have hne : pairs ≠ [] ∨ h ≠ [] := by
      simp only [hashFinding, Bool.and_eq_false_iff, List.isEmpty_eq_false_iff] at hreg
      exact hreg
    obtain ⟨_, q2, q3⟩ := hmsetDs_spec h hs pairs
    obtain ⟨d, hd⟩ := exists_enum_listed (pairs.map (·.1)) (fun x => !Map.has (DsHash.hget h) x)
    exact hwrite_refines (.hmset pairs) s now key h _ (.int d.length) (hmset_rel s now key pairs h hr hi hne)
      (by rw [q3 d hd]; rfl) ⟨q2, d, hd, rfl⟩
  | hget f =>
    exact hread_refines (.hget f) (fun h => .bytes (DsHash.hget h f)) (.bytes none) rfl s now key h rfl rfl
      (.bulk (DsHash.hget h f)) hr hi rfl ⟨rfl, rfl⟩
  | hmget fs =>
    obtain ⟨r, i, o⟩ := hread_rel (fun h => .blist (DsHash.hmget h fs)) (.blist []) s now key h hr hi
    refine ⟨.bulks (fs.map (DsHash.hget h)), r, i, ?_, rfl, rfl⟩
    show toReply (hread (fun h => .blist (DsHash.hmget h fs)) (.blist []) s now key).2 = _
    rcases o with ⟨rfl, _, o⟩ | ⟨_, o⟩
    · have hfs : fs = [] := by
        simpa [hashFinding] using hreg
      subst hfs
      rw [o]; rfl
    · rw [o]; rfl
  | hgetall =>
    exact hread_refines .hgetall (fun h => .bmap (h.map fun (k, v) => (k, some v))) (.bmap []) rfl s now key h rfl rfl
      (.pairs h) hr hi
      (congrArg (fun l => some (Reply.pairs l)) (bmap_roundtrip h)) ⟨rfl, h, hgetall_enumerates h hs, rfl⟩
  | hkeys =>
    exact hread_refines .hkeys (fun h => .slist (DsHash.hkeys h)) (.slist []) rfl s now key h rfl rfl
      (.strs (AList.keys h)) hr hi
      rfl ⟨rfl, _, keys_enumerates h hs, rfl⟩
  | hvals =>
    exact hread_refines .hvals (fun h => .blist ((DsHash.hvals h).map some)) (.blist []) rfl s now key h rfl rfl
      (.bulks (h.map fun p => some p.2)) hr hi (by simp [toReply, DsHash.hvals, AList.values])
      ⟨rfl, h, hgetall_enumerates h hs, rfl⟩
  | hdel fs =>
    obtain ⟨_, q2, q3, _⟩ := hdel_spec h hs fs
    obtain ⟨d, hd⟩ := exists_enum_listed fs (Map.has (DsHash.hget h))
    exact hwrite_refines (.hdel fs) s now key h _ (.int d.length) (hdel_rel s now key fs h hr hi)
      (by rw [q3 d hd]; rfl) ⟨q2, d, hd, rfl⟩
  | hlen =>
    exact hread_refines .hlen (fun h => .int (DsHash.hlen h)) (.int 0) rfl s now key h rfl rfl (.int h.length) hr hi rfl
      ⟨rfl, h.length, ⟨AList.keys h, keys_enumerates h hs, length_keys h⟩, rfl⟩
  | hexists f =>
    exact hread_refines (.hexists f) (fun h => .bool (DsHash.hexists h f)) (.bool false) rfl s now key h rfl rfl
      (.bool (DsHash.hexists h f)) hr hi rfl ⟨rfl, rfl⟩
  | hstrlen f =>
    refine hread_refines (.hstrlen f) (fun h => .int (DsHash.hstrlen h f)) (.int 0) rfl s now key h rfl rfl
      (.int (DsHash.hstrlen h f)) hr hi rfl ⟨?_, rfl⟩
    simp only [DsHash.hstrlen, DsHash.hget]
    cases AList.get? h f <;> rfl
  | hincrby f d =>
    obtain ⟨o, r, i⟩ := hincrby_rel s now key f d h hr hi
    have hreg' : hincrOverflow h f d = false ∧ inInt64 d = true := by
      simpa [hashFinding] using hreg
    obtain ⟨p1, p2⟩ := hincrby_redis_partial h f d hreg'.2 hreg'.1
    cases hd : DsHash.hincrby h f d with
    | none =>
      rw [hd] at o p1 r
      simp only [Option.map_none] at p1
      have r' : HashRel (execHash s now key (.hincrby f d)).1 key now (dsHash h (.hincrby f d)) := by
        simp only [dsHash, hd]; exact r
      refine ⟨.err, r', i, ?_, ?_⟩
      · show toReply (Api.hincrby s now key f d).2 = _
        rw [o]; rfl
      · simp only [hashStep, ← p1, dsHash, hd]
        exact ⟨trivial, trivial⟩
    | some pr =>
      obtain ⟨h', v⟩ := pr
      rw [hd] at o p1 r
      simp only [Option.map_some] at p1
      have r' : HashRel (execHash s now key (.hincrby f d)).1 key now (dsHash h (.hincrby f d)) := by
        simp only [dsHash, hd]; exact r
      refine ⟨.int v, r', i, ?_, ?_⟩
      · show toReply (Api.hincrby s now key f d).2 = _
        rw [o]; rfl
      · simp only [hashStep, ← p1, dsHash, hd]
        exact ⟨trivial, p2 h' v hd⟩


def runHash (now : Int) (key : Bytes) : MState → List HashCmd → MState × List Out
  | s, [] => (s, [])
  | s, c :: cs =>
    let r := execHash s now key c
    let rest := runHash now key r.1 cs
    (rest.1, r.2 :: rest.2)

/-- no command of the sequence falls into the finding region (evaluated along the model's own
    data-structure values) -/
def noHashFinding : AList Bytes → List HashCmd → Bool
  | _, [] => true
  | h, c :: cs => !hashFinding h c && noHashFinding (dsHash h c) cs

/-- a set command together with the implementation's random choice (ignored by the other commands) -/
def execSet (s : MState) (now : Int) (key : Bytes) : SetCmd × List Bytes → Api.R
  | (.sadd ms, _) => Api.sadd s now key ms
  | (.srem ms, _) => Api.srem s now key ms
  | (.sismember m, _) => Api.sismember s now key m
  | (.scard, _) => Api.scard s now key
  | (.smembers, _) => Api.smembers s now key
  | (.spop count, choice) => Api.spop s now key count choice
  | (.srandmember count, choice) => Api.srandmember s now key count choice

def dsSet (st : AList Unit) : SetCmd × List Bytes → AList Unit
  | (.sadd ms, _) => (DsSet.sadd st ms).1
  | (.srem ms, _) => (DsSet.srem st ms).1
  | (.spop count, choice) => if spopValid st count choice then (DsSet.srem st choice).1 else st
  | _ => st

/-- finding region of the set commands, `st` = the set before the command:
    * SADD of no member on a missing key (leaves an existing-but-empty set);
    * SPOP with a negative count (Redis: error; the code answers the empty list). -/
def setFinding (st : AList Unit) : SetCmd → Bool
  | .sadd ms => ms.isEmpty && st.isEmpty
  | .spop count => decide (count < 0)
  | _ => false

theorem set_hasCard (st : AList Unit) (hs : AList.Sorted st) : HasCard (DsSet.mem st) st.length :=
  ⟨DsSet.members st, members_enumerates st hs, length_keys st⟩

theorem admissible_nil (s : BSet) (k : Nat) : AdmissibleDistinct s 0 k [] := by
  unfold AdmissibleDistinct
  exact ⟨fun x h => by simp at h, List.nodup_nil, by simp⟩

theorem sread_refines (c : SetCmd) (choice : List Bytes) (f : AList Unit → Out) (dflt : Out) (hd : dflt = f [])
    (s : MState) (now : Int) (key : Bytes) (st : AList Unit)
    (he : execSet s now key (c, choice) = sread f dflt s now key) (hds : dsSet st (c, choice) = st)
    (r : Reply) (hr : SetRel s key now st) (hi : IndexSorted s)
    (ho : toReply (f st) = some r) (hstep : setStep (DsSet.mem st) c r (DsSet.mem st)) :
    SetRel (execSet s now key (c, choice)).1 key now (dsSet st (c, choice)) ∧
    IndexSorted (execSet s now key (c, choice)).1 ∧
    ((execSet s now key (c, choice)).2 ≠ invalidChoice →
      ∃ r, toReply (execSet s now key (c, choice)).2 = some r ∧
        setStep (DsSet.mem st) c r (DsSet.mem (dsSet st (c, choice)))) := by
  obtain ⟨a, b, o⟩ := sread_rel f dflt hd s now key st hr hi
  rw [he, hds, o]
  exact ⟨a, b, fun _ => ⟨r, ho, hstep⟩⟩

theorem set_step_refines (s : MState) (now : Int) (key : Bytes) (st : AList Unit) (c : SetCmd) (choice : List Bytes)
    (hr : SetRel s key now st) (hi : IndexSorted s) (hreg : setFinding st c = false) :
    SetRel (execSet s now key (c, choice)).1 key now (dsSet st (c, choice)) ∧
    IndexSorted (execSet s now key (c, choice)).1 ∧
    ((execSet s now key (c, choice)).2 ≠ invalidChoice →
      ∃ r, toReply (execSet s now key (c, choice)).2 = some r ∧
        setStep (DsSet.mem st) c r (DsSet.mem (dsSet st (c, choice)))) := by
  have hs := hr.1
  cases c with
  | sadd ms =>
    obtain ⟨o, hot, i⟩ := sadd_hot s now key ms st (hr.2.imp (fun ⟨e, a⟩ => ⟨a, e⟩) (·.2)) hi
    obtain ⟨hsorted, q2, q3, _⟩ := sadd_spec st hs ms
    have hne : (DsSet.sadd st ms).1 ≠ [] := by
      refine ne_nil_of_grows st _ ms (fun x => ?_) ?_
      · show DsSet.mem (DsSet.sadd st ms).1 x = true ↔ _
        rw [q2]
        simp [BSet.insertAll, DsSet.mem]
      · simpa only [setFinding, Bool.and_eq_false_iff, List.isEmpty_eq_false_iff] using hreg
    refine ⟨⟨hsorted, Or.inr ⟨hne, hot⟩⟩, i, fun _ => ?_⟩
    obtain ⟨d, hd⟩ := exists_enum_listed ms (fun x => !DsSet.mem st x)
    refine ⟨.int d.length, ?_, q2, d, hd, rfl⟩
    show toReply (Api.sadd s now key ms).2 = _
    rw [o, q3 d hd]; rfl
  | srem ms =>
    obtain ⟨o, r, i⟩ := srem_rel s now key ms st hr hi
    obtain ⟨_, q2, q3, _⟩ := srem_spec st hs ms
    refine ⟨r, i, fun _ => ?_⟩
    obtain ⟨d, hd⟩ := exists_enum_listed ms (DsSet.mem st)
    refine ⟨.int d.length, ?_, q2, d, hd, rfl⟩
    show toReply (Api.srem s now key ms).2 = _
    rw [o, q3 d hd]; rfl
  | sismember m =>
    exact sread_refines (.sismember m) choice (fun st => .bool (DsSet.mem st m)) (.bool false) rfl s now key st rfl rfl
      (.bool (DsSet.mem st m)) hr hi rfl ⟨rfl, rfl⟩
  | scard =>
    exact sread_refines .scard choice (fun st => .int (DsSet.scard st)) (.int 0) rfl s now key st rfl rfl
      (.int st.length) hr hi rfl ⟨rfl, st.length, set_hasCard st hs, rfl⟩
  | smembers =>
    exact sread_refines .smembers choice (fun st => .slist (DsSet.members st)) (.slist []) rfl s now key st rfl rfl
      (.strs (DsSet.members st)) hr hi rfl ⟨rfl, _, members_enumerates st hs, rfl⟩
  | spop count =>
    have hcount : ¬ count < 0 := by simpa [setFinding] using hreg
    obtain ⟨i, cases3⟩ := spop_rel s now key count choice st hr hi
    show SetRel (Api.spop s now key count choice).1 key now
        (if spopValid st count choice then (DsSet.srem st choice).1 else st) ∧ _ ∧
      ((Api.spop s now key count choice).2 ≠ invalidChoice → ∃ r, toReply (Api.spop s now key count choice).2 = some r ∧
        setStep (DsSet.mem st) (.spop count) r
          (DsSet.mem (if spopValid st count choice then (DsSet.srem st choice).1 else st)))
    rcases cases3 with ⟨_, rfl, o, r⟩ | ⟨_, hadm, o, r⟩ | ⟨_, hadm, o, r⟩
    · have hds : (if spopValid [] count choice then (DsSet.srem [] choice).1 else ([] : AList Unit)) = [] := by
        split
        · rw [srem_nil]
        · rfl
      rw [hds]
      refine ⟨r, i, fun _ => ⟨.strs [], by rw [o]; rfl, ?_⟩⟩
      simp only [setStep, hcount, if_false]
      refine ⟨[], 0, set_hasCard [] trivial, admissible_nil _ _, rfl, ?_⟩
      funext x; simp [BSet.removeAll]
    · have hv := (spopValid_iff st count choice).mpr hadm
      rw [hv]
      simp only [if_true]
      refine ⟨r, i, fun _ => ⟨.strs choice, by rw [o]; rfl, ?_⟩⟩
      simp only [setStep, hcount, if_false]
      exact ⟨choice, st.length, set_hasCard st hs, hadm, rfl, (srem_spec st hs choice).2.1⟩
    · have hv : spopValid st count choice = false :=
        Bool.eq_false_iff.mpr fun hb => hadm ((spopValid_iff st count choice).mp hb)
      rw [hv]
      simp only [Bool.false_eq_true, if_false]
      exact ⟨r, i, fun hne => absurd o hne⟩
  | srandmember count =>
    obtain ⟨r, i, o1, o2⟩ := srandmember_rel s now key count choice st hr hi
    refine ⟨r, i, fun hne => ?_⟩
    show ∃ r, toReply (Api.srandmember s now key count choice).2 = some r ∧
        setStep (DsSet.mem st) (.srandmember count) r (DsSet.mem st)
    by_cases hst : st = []
    · subst hst
      refine ⟨.strs [], by rw [o1 rfl]; rfl, rfl, [], 0, set_hasCard [] trivial, rfl, ?_⟩
      by_cases hc : 0 ≤ count
      · rw [if_pos hc]; exact admissible_nil _ _
      · rw [if_neg hc, if_pos rfl]
    · have o := o2 hst
      have hv : srandValid st count choice = true := by
        cases hb : srandValid st count choice with
        | true => rfl
        | false =>
          rw [hb] at o
          exact absurd o hne
      rw [hv] at o
      refine ⟨.strs choice, by rw [o]; rfl, rfl, choice, st.length, set_hasCard st hs, rfl, ?_⟩
      have hlen : st.length ≠ 0 := fun h0 => hst (List.length_eq_zero_iff.mp h0)
      by_cases hc : 0 ≤ count
      · rw [if_pos hc]; exact (srandValid_nonneg_iff st count hc choice).mp hv
      · rw [if_neg hc, if_neg hlen]
        exact (srandValid_neg_iff st count (by omega) choice).mp hv

def runSet (now : Int) (key : Bytes) : MState → List (SetCmd × List Bytes) → MState × List Out
  | s, [] => (s, [])
  | s, c :: cs =>
    let r := execSet s now key c
    let rest := runSet now key r.1 cs
    (rest.1, r.2 :: rest.2)

def noSetFinding : AList Unit → List (SetCmd × List Bytes) → Bool
  | _, [] => true
  | st, c :: cs => !setFinding st c.1 && noSetFinding (dsSet st c) cs

/-- the record of `key`, if it is a live one, carries no deadline -/
def TimeFree (s : MState) (key : Bytes) : Prop :=
  ∀ m, getMeta s key = some m → m.isOk = true → m.exp = 0

theorem expired_of_exp_zero (m : Meta) (h : m.exp = 0) (t : Int) : m.expired t = false := by
  simp [Meta.expired, h]

/-- the test with which `readKey` / `writeKey` look at a record, on one that carries no deadline if it is live -/
theorem live_test_time_indep {α : Type} (m : Meta) (hm : m.isOk = true → m.exp = 0) (t t' : Int) (a b c : α) :
    (if m.isOk = true then (if m.expired t = true then a else b) else c) =
      (if m.isOk = true then (if m.expired t' = true then a else b) else c) := by
  cases hok : m.isOk with
  | false => rfl
  | true => rw [expired_of_exp_zero m (hm hok) t, expired_of_exp_zero m (hm hok) t']

theorem readKey_time_indep (s : MState) (key : Bytes) (h : TimeFree s key) (t t' : Int) :
    readKey s t key = readKey s t' key := by
  unfold readKey
  cases hm : getMeta s key with
  | none => rfl
  | some m0 => exact live_test_time_indep { m0 with count := m0.count + 1 } (h m0 hm) t t' _ _ _

theorem writeKey_time_indep (s : MState) (key : Bytes) (mk : Option Val) (h : TimeFree s key) (t t' : Int) :
    writeKey s t key mk = writeKey s t' key mk := by
  unfold writeKey
  cases hm : getMeta s key with
  | none => rfl
  | some m0 => exact live_test_time_indep { m0 with count := m0.count + 1 } (h m0 hm) t t' _ _ _

/-- a command looks at the time only in its first access to the key -/
theorem execHash_time_indep (s : MState) (key : Bytes) (c : HashCmd) (h : TimeFree s key) (t t' : Int) :
    execHash s t key c = execHash s t' key c := by
  cases c
  all_goals simp only [execHash, Api.hset, Api.hsetnx, Api.hmset, Api.hget, Api.hmget, Api.hgetall, Api.hkeys,
    Api.hvals, Api.hdel, Api.hlen, Api.hexists, Api.hstrlen, Api.hincrby, hread,
    writeKey_time_indep s key _ h t t', readKey_time_indep s key h t t']

theorem execSet_time_indep (s : MState) (key : Bytes) (c : SetCmd × List Bytes) (h : TimeFree s key) (t t' : Int) :
    execSet s t key c = execSet s t' key c := by
  obtain ⟨c, choice⟩ := c
  cases c
  all_goals simp only [execSet, Api.sadd, Api.srem, Api.sismember, Api.scard, Api.smembers, Api.spop, Api.srandmember,
    sread, writeKey_time_indep s key _ h t t', readKey_time_indep s key h t t']

theorem timeFree_of_hot (s : MState) (key : Bytes) (v : Val) (h : ∀ t, Hot s key v t) : TimeFree s key := by
  intro m hm _
  obtain ⟨m', hm', _, hexp, _⟩ := h m.exp
  rw [hm] at hm'; cases hm'
  simp only [Meta.expired] at hexp
  simp at hexp
  exact hexp

theorem timeFree_of_absent (s : MState) (key : Bytes) (h : ∀ t, Absent s key t) : TimeFree s key := by
  intro m hm hok
  rcases h (m.exp - 1) m hm with h1 | h1
  · rw [hok] at h1; cases h1
  · simp only [Meta.expired, Bool.and_eq_true, bne_iff_ne, ne_eq, decide_eq_true_eq] at h1
    omega

theorem timeFree_of_rel {V : Type} (mk : AList V → Val) (s : MState) (key : Bytes) (c : AList V)
    (hr : ∀ t, Rel mk s key t c) : TimeFree s key := by
  by_cases hn : c = []
  · apply timeFree_of_absent
    intro t
    rcases (hr t).2 with ⟨_, ha⟩ | ⟨hne, _⟩
    · exact ha
    · exact absurd hn hne
  · apply timeFree_of_hot s key (mk c)
    intro t
    rcases (hr t).2 with ⟨he, _⟩ | ⟨_, hh⟩
    · exact absurd he hn
    · exact hh

/-- on a key that is represented at every time (missing, or without deadline), one command at time `t0` leaves a
    state that is again represented at every time: the command does not look at the time (`execHash_time_indep`) -/
theorem hash_step_all_times (s : MState) (key : Bytes) (h : AList Bytes) (c : HashCmd) (t0 : Int)
    (hr : ∀ t, HashRel s key t h) (hi : IndexSorted s) (hreg : hashFinding h c = false) :
    ∀ t, HashRel (execHash s t0 key c).1 key t (dsHash h c) := by
  intro t
  obtain ⟨_, q, _⟩ := hash_step_refines s t key h c (hr t) hi hreg
  rw [execHash_time_indep s key c (timeFree_of_rel Val.hash s key h hr) t t0] at q
  exact q

theorem set_step_all_times (s : MState) (key : Bytes) (st : AList Unit) (c : SetCmd) (choice : List Bytes) (t0 : Int)
    (hr : ∀ t, SetRel s key t st) (hi : IndexSorted s) (hreg : setFinding st c = false) :
    ∀ t, SetRel (execSet s t0 key (c, choice)).1 key t (dsSet st (c, choice)) := by
  intro t
  obtain ⟨q, _, _⟩ := set_step_refines s t key st c choice (hr t) hi hreg
  rw [execSet_time_indep s key (c, choice) (timeFree_of_rel Val.set s key st hr) t t0] at q
  exact q

def runHashT (key : Bytes) : MState → List (Int × HashCmd) → MState × List Out
  | s, [] => (s, [])
  | s, tc :: cs =>
    let r := execHash s tc.1 key tc.2
    let rest := runHashT key r.1 cs
    (rest.1, r.2 :: rest.2)

def runSetT (key : Bytes) : MState → List (Int × SetCmd × List Bytes) → MState × List Out
  | s, [] => (s, [])
  | s, tc :: cs =>
    let r := execSet s tc.1 key tc.2
    let rest := runSetT key r.1 cs
    (rest.1, r.2 :: rest.2)

end NodisVerif.Proofs.C03Refine

import NodisVerif.Proofs.CodecLemmas
import NodisVerif.Proofs.AListLemmas2
/-
  The (score, member) order of the sorted-set chain: `itemLt` is a strict total order on NaN-free
  items (`Good`), `slInsert` keeps a chain sorted, two sorted lists with the same elements are equal
  (`sorted_ext`), what `ZSet.WF` says about the chain (`wf_chain`). Last, the fact the codec needs
  (C14): the chain that `zset.SetValue` rebuilds by inserting the dictionary entries in member order
  is the original chain (`insAll_eq_chain`).
-/
namespace NodisVerif.Proofs.ZSetLemmas
open Codec CodecLemmas AListLemmas DsZSet

def Good (a : Item) : Prop := F64.isNaN a.1 = false

theorem itemLt_iff (a b : Item) (ha : Good a) (hb : Good b) :
    itemLt a b = true ↔
      F64.key a.1 < F64.key b.1 ∨ (F64.key a.1 = F64.key b.1 ∧ Bytes.lt a.2 b.2 = true) := by
  unfold Good at ha hb
  simp [itemLt, nodeLt, F64.lt, F64.eq, ha, hb]

theorem itemLt_trans (a b c : Item) (ha : Good a) (hb : Good b) (hc : Good c)
    (h1 : itemLt a b = true) (h2 : itemLt b c = true) : itemLt a c = true := by
  rw [itemLt_iff _ _ ha hb] at h1
  rw [itemLt_iff _ _ hb hc] at h2
  rw [itemLt_iff _ _ ha hc]
  rcases h1 with h1 | ⟨h1, h1'⟩ <;> rcases h2 with h2 | ⟨h2, h2'⟩
  · left; omega
  · left; omega
  · left; omega
  · right; exact ⟨by omega, lt_trans _ _ _ h1' h2'⟩

theorem itemLt_asymm (a b : Item) (ha : Good a) (hb : Good b)
    (h1 : itemLt a b = true) (h2 : itemLt b a = true) : False := by
  rw [itemLt_iff _ _ ha hb] at h1
  rw [itemLt_iff _ _ hb ha] at h2
  rcases h1 with h1 | ⟨h1, h1'⟩ <;> rcases h2 with h2 | ⟨h2, h2'⟩
  · omega
  · omega
  · omega
  · have := lt_asymm _ _ h1'
    rw [this] at h2'
    cases h2'

theorem itemLt_irrefl (a : Item) (ha : Good a) : itemLt a a = true → False :=
  fun h => itemLt_asymm a a ha ha h h

theorem itemLt_total (a b : Item) (ha : Good a) (hb : Good b)
    (h1 : itemLt a b = false) (hne : a.2 ≠ b.2) : itemLt b a = true := by
  rw [itemLt_iff _ _ hb ha]
  have h1' : ¬ (F64.key a.1 < F64.key b.1 ∨ (F64.key a.1 = F64.key b.1 ∧ Bytes.lt a.2 b.2 = true)) := by
    rw [← itemLt_iff _ _ ha hb, h1]
    simp
  by_cases hk : F64.key b.1 < F64.key a.1
  · left; exact hk
  · right
    have hk2 : ¬ F64.key a.1 < F64.key b.1 := fun h => h1' (Or.inl h)
    have heq : F64.key a.1 = F64.key b.1 := by omega
    refine ⟨heq.symm, ?_⟩
    have h3 : Bytes.lt a.2 b.2 = false := by
      cases h : Bytes.lt a.2 b.2 with
      | false => rfl
      | true => exact absurd (Or.inr ⟨heq, h⟩) h1'
    cases h4 : Bytes.lt b.2 a.2 with
    | true => rfl
    | false => exact absurd (lt_total _ _ h3 h4) hne

theorem mem_slInsert (x : Item) (m : Bytes) (s : F64) : ∀ (l : List Item),
    x ∈ slInsert l m s ↔ x = (s, m) ∨ x ∈ l := by
  intro l
  induction l with
  | nil => simp [slInsert]
  | cons n rest ih =>
    unfold slInsert
    split
    · simp only [List.mem_cons, ih]
      exact or_left_comm
    · simp only [List.mem_cons]

theorem slInsert_pairwise (m : Bytes) (s : F64) (hg : Good (s, m)) : ∀ (l : List Item),
    l.Pairwise (fun a b => itemLt a b = true) → (∀ a ∈ l, Good a) → (∀ a ∈ l, a.2 ≠ m) →
    (slInsert l m s).Pairwise (fun a b => itemLt a b = true) := by
  intro l
  induction l with
  | nil => intro _ _ _; simp [slInsert]
  | cons n rest ih =>
    intro hpw hgood hne
    have hn : Good n := hgood n (by simp)
    obtain ⟨hn_lt, hrest⟩ := List.pairwise_cons.mp hpw
    unfold slInsert
    by_cases hlt : nodeLt n s m = true
    · rw [if_pos hlt]
      apply List.Pairwise.cons
      · intro b hb
        rcases (mem_slInsert b m s rest).mp hb with rfl | hb
        · exact hlt
        · exact hn_lt b hb
      · exact ih hrest (fun a ha => hgood a (by simp [ha])) (fun a ha => hne a (by simp [ha]))
    · rw [if_neg hlt]
      have hlt' : itemLt n (s, m) = false := by
        simpa [itemLt] using hlt
      have hxn : itemLt (s, m) n = true :=
        itemLt_total n (s, m) hn hg hlt' (hne n (by simp))
      apply List.Pairwise.cons
      · intro b hb
        rcases List.mem_cons.mp hb with rfl | hb
        · exact hxn
        · exact itemLt_trans _ _ _ hg hn (hgood b (by simp [hb])) hxn (hn_lt b hb)
      · exact hpw

def swap (p : Bytes × F64) : Item := (p.2, p.1)

theorem foldr_slInsert : ∀ (xs : List (Bytes × F64)), (∀ p ∈ xs, F64.isNaN p.2 = false) →
    xs.Pairwise (fun a b => a.1 ≠ b.1) →
    (xs.foldr (fun p acc => slInsert acc p.1 p.2) []).Pairwise (fun a b => itemLt a b = true) ∧
    ∀ x, x ∈ xs.foldr (fun p acc => slInsert acc p.1 p.2) [] ↔ x ∈ xs.map swap := by
  intro xs
  induction xs with
  | nil => intro _ _; simp
  | cons p xs ih =>
    intro hn hd
    obtain ⟨h1, h2⟩ := List.pairwise_cons.mp hd
    obtain ⟨hpw, hmem⟩ := ih (fun q hq => hn q (by simp [hq])) h2
    have hin : ∀ a ∈ xs.foldr (fun p acc => slInsert acc p.1 p.2) [], ∃ q ∈ xs, swap q = a :=
      fun a ha => List.mem_map.mp ((hmem a).mp ha)
    refine ⟨slInsert_pairwise p.1 p.2 (hn p (by simp)) _ hpw ?_ ?_, fun x => ?_⟩
    · intro a ha
      obtain ⟨q, hq, rfl⟩ := hin a ha
      exact hn q (by simp [hq])
    · intro a ha
      obtain ⟨q, hq, rfl⟩ := hin a ha
      exact Ne.symm (h1 q hq)
    · rw [List.foldr_cons, mem_slInsert, hmem]
      simp [swap]

theorem sorted_ext {α : Type} (r : α → α → Prop) (l1 l2 : List α)
    (has : ∀ a ∈ l1, ∀ b ∈ l1, r a b → r b a → False)
    (h1 : l1.Pairwise r) (h2 : l2.Pairwise r) (hm : ∀ x, x ∈ l1 ↔ x ∈ l2) : l1 = l2 := by
  -- an asymmetric relation is irreflexive, so both lists are duplicate-free and `hm` makes them
  -- permutations of each other
  have nd : ∀ l : List α, (∀ x ∈ l, x ∈ l1) → l.Pairwise r → l.Nodup := by
    intro l hl hp
    refine List.Pairwise.imp_of_mem ?_ hp
    intro a b ha _ hab e
    subst e
    exact has a (hl a ha) a (hl a ha) hab hab
  exact List.Perm.eq_of_pairwise (fun a b ha hb hab hba => (has a ha b ((hm b).mpr hb) hab hba).elim) h1 h2
    ((List.perm_ext_iff_of_nodup (nd l1 (fun _ h => h) h1) (nd l2 (fun x h => (hm x).mpr h) h2)).mpr hm)

theorem pigeon {α : Type} [DecidableEq α] : ∀ (l1 l2 : List α),
    l1.Nodup → (∀ x ∈ l1, x ∈ l2) → l2.length ≤ l1.length → ∀ x ∈ l2, x ∈ l1 := by
  intro l1
  induction l1 with
  | nil =>
    intro l2 _ _ hlen x hx
    have : l2 = [] := List.eq_nil_of_length_eq_zero (by simpa using hlen)
    rw [this] at hx
    exact hx
  | cons a t ih =>
    intro l2 hnd hsub hlen x hx
    obtain ⟨hat, hnt⟩ := List.nodup_cons.mp hnd
    have ha2 : a ∈ l2 := hsub a (by simp)
    have hlen' : (l2.erase a).length ≤ t.length := by
      rw [List.length_erase_of_mem ha2]
      simp only [List.length_cons] at hlen
      omega
    have hsub' : ∀ y ∈ t, y ∈ l2.erase a := by
      intro y hy
      have hne : y ≠ a := fun e => hat (e ▸ hy)
      exact (List.mem_erase_of_ne hne).mpr (hsub y (by simp [hy]))
    by_cases hxa : x = a
    · simp [hxa]
    · have : x ∈ l2.erase a := (List.mem_erase_of_ne hxa).mpr hx
      exact List.mem_cons_of_mem _ (ih (l2.erase a) hnt hsub' hlen' x this)

theorem chain_pairwise : ∀ (l : List Item), chainSorted l → (∀ a ∈ l, Good a) →
    l.Pairwise (fun a b => itemLt a b = true) := by
  intro l
  induction l with
  | nil => intro _ _; exact List.Pairwise.nil
  | cons a rest ih =>
    intro h hg
    cases rest with
    | nil => simp
    | cons b rest =>
      simp only [chainSorted] at h
      obtain ⟨hab, hrest⟩ := h
      have hpw := ih hrest (fun x hx => hg x (by simp [hx]))
      apply List.Pairwise.cons _ hpw
      intro c hc
      rcases List.mem_cons.mp hc with rfl | hc
      · exact hab
      · exact itemLt_trans _ _ _ (hg a (by simp)) (hg b (by simp)) (hg c (by simp [hc])) hab
          ((List.pairwise_cons.mp hpw).1 c hc)

theorem mem_map_swap (d : AList F64) (s : F64) (m : Bytes) : (s, m) ∈ d.map swap ↔ (m, s) ∈ d := by
  rw [List.mem_map]
  constructor
  · rintro ⟨⟨m', s'⟩, hp, e⟩
    cases e
    exact hp
  · intro hp
    exact ⟨(m, s), hp, rfl⟩

/-- what `ZSet.WF` says about the chain: NaN-free, strictly sorted, and (by counting) exactly the
    dictionary's pairs -/
theorem wf_chain (z : ZSet) (h : z.WF) :
    (∀ a ∈ z.sl, Good a) ∧ z.sl.Pairwise (fun a b => itemLt a b = true) ∧
      ∀ a, a ∈ z.sl ↔ a ∈ z.dict.map swap := by
  have hslin : ∀ a ∈ z.sl, a ∈ z.dict.map swap := by
    rintro ⟨s, m⟩ ha
    exact (mem_map_swap z.dict s m).mpr (AListLemmas2.mem_of_get? z.dict m s (h.agree m s ha))
  have hslgood : ∀ a ∈ z.sl, Good a := by
    intro a ha
    obtain ⟨p, hp, rfl⟩ := List.mem_map.mp (hslin a ha)
    exact h.noNaN p.1 p.2 hp
  have hslpw := chain_pairwise z.sl h.chainSorted hslgood
  have hnd : z.sl.Nodup := by
    refine List.Pairwise.imp_of_mem ?_ hslpw
    intro a b ha _ hab e
    subst e
    exact itemLt_irrefl a (hslgood a ha) hab
  exact ⟨hslgood, hslpw, fun a =>
    ⟨hslin a, pigeon z.sl (z.dict.map swap) hnd hslin (by simp [h.sameLen]) a⟩⟩

theorem insAll_eq_chain (z : ZSet) (h : z.WF) : insAll [] z.dict = z.sl := by
  obtain ⟨hslgood, hslpw, hmemsl⟩ := wf_chain z h
  obtain ⟨hRpw, hRmem⟩ := foldr_slInsert z.dict.reverse
    (fun p hp => h.noNaN p.1 p.2 (List.mem_reverse.mp hp))
    (List.pairwise_reverse.mpr ((sorted_pairwise z.dict h.dictSorted).imp (fun hab => Ne.symm (lt_ne _ _ hab))))
  have hmem : ∀ x, x ∈ insAll [] z.dict ↔ x ∈ z.sl := by
    intro x
    rw [insAll, List.foldl_eq_foldr_reverse, hRmem, hmemsl]
    simp
  rw [insAll, List.foldl_eq_foldr_reverse] at hmem ⊢
  apply sorted_ext _ _ _ _ hRpw hslpw hmem
  intro a ha b hb hab hba
  exact itemLt_asymm a b (hslgood a ((hmem a).mp ha)) (hslgood b ((hmem b).mp hb)) hab hba

end NodisVerif.Proofs.ZSetLemmas

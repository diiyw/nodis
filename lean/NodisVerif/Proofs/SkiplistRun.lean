import NodisVerif.Proofs.SkiplistInsert
import NodisVerif.Proofs.SkiplistRemove
import NodisVerif.Proofs.SkiplistRange
import NodisVerif.Proofs.SkiplistRank
/-
  The empty skiplist satisfies the invariant; runs of mutating operations from it.
-/
namespace NodisVerif.Skiplist
open NodisVerif.DsZSet (Item nodeLt)
open NodisVerif.Proofs.C04 (ILt)
open NodisVerif.Proofs.ZSetLemmas (Good)

theorem makeSkiplist_isChain : IsChain makeSkiplist [] where
  nodup := by simp
  bound := by simp
  size := by simp [makeSkiplist]
  header := by simp [makeSkiplist, height, newNode, maxLevel]
  hpos := by simp
  hle := by simp
  levelLo := by simp [makeSkiplist]
  levelHi := by simp [makeSkiplist, maxLevel]
  levelMax := by simp [makeSkiplist]
  linked := by
    refine ⟨?_, trivial⟩
    intro i l hl
    obtain ⟨nd, hn, hli⟩ := (getLevel_ok_iff _ _ _ _).1 hl
    simp [makeSkiplist] at hn
    subst hn
    simp [newNode, List.getElem?_replicate] at hli
    obtain ⟨_, rfl⟩ := hli
    simp
  back := trivial
  tail := by simp [makeSkiplist]
  length := by simp [makeSkiplist]
  sorted := by simp
  good := by simp

theorem makeSkiplist_inv : Inv makeSkiplist := ⟨[], makeSkiplist_isChain⟩


theorem inv_sorted {sl : SL} (h : Inv sl) : (abs sl).Pairwise ILt ∧ ∀ a ∈ abs sl, Good a :=
  ⟨abs_sorted h, abs_good h⟩

theorem inv_length {sl : SL} (h : Inv sl) : sl.length = ((abs sl).length : Int) := by
  obtain ⟨c, hc⟩ := h
  rw [abs_eq hc, hc.length]; simp

/-- the mutating operations of the skiplist as the sorted set calls them (`removeRange` always with limit 0) -/
inductive SlOp
  | insert (m : Bytes) (s : F64) (lvl : Nat)
  | remove (m : Bytes) (s : F64)
  | removeRange (min max : F64) (mode : Nat)
  | removeRangeByRank (start stop : Int)

/-- one operation on the pointer structure -/
def stepM (sl : SL) : SlOp → M SL
  | .insert m s lvl => insert sl m s lvl
  | .remove m s => (remove sl m s).map (·.1)
  | .removeRange a b mode => (removeRange sl a b 0 mode).map (·.1)
  | .removeRangeByRank a b => (removeRangeByRank sl a b).map (·.1)

def runM : SL → List SlOp → M SL
  | sl, [] => pure sl
  | sl, op :: ops => do
    let sl' ← stepM sl op
    runM sl' ops

/-- the same operation on the list-level model of Model/DsZSet.lean -/
def stepL (l : List Item) : SlOp → List Item
  | .insert m s _ => DsZSet.slInsert l m s
  | .remove m s => DsZSet.slRemove l m s
  | .removeRange a b mode => (DsZSet.slRemoveRange l a b mode).1
  | .removeRangeByRank a b => (DsZSet.slRemoveRangeByRank l a b).1

def runL : List Item → List SlOp → List Item
  | l, [] => l
  | l, op :: ops => runL (stepL l op) ops

/-- the sorted set's preconditions: a level in 1..16 (what `randomLevel` returns), no NaN score, the member is new
    (`zAdd` removes an existing member before it inserts) -/
def OpOk (l : List Item) : SlOp → Prop
  | .insert m s lvl => 1 ≤ lvl ∧ lvl ≤ maxLevel ∧ F64.isNaN s = false ∧ ∀ x ∈ l, x.2 ≠ m
  | _ => True

def OpsOk : List Item → List SlOp → Prop
  | _, [] => True
  | l, op :: ops => OpOk l op ∧ OpsOk (stepL l op) ops

/-- `P` survives `insert` under the sorted set's preconditions -/
def InsertInv (P : SL → Prop) : Prop :=
  ∀ {sl sl' : SL} {m : Bytes} {s : F64} {lvl : Nat}, Inv sl → P sl → OpOk (abs sl) (.insert m s lvl) →
    insert sl m s lvl = .ok sl' → P sl'

theorem insertInv_true : InsertInv fun _ => True := fun _ _ _ _ => trivial

theorem step_spec {sl : SL} (h : Inv sl) (op : SlOp) (hok : OpOk (abs sl) op) {P : SL → Prop}
    (hI : InsertInv P) (hP : StepInv P) (h0 : P sl) :
    ∃ sl', stepM sl op = .ok sl' ∧ Inv sl' ∧ P sl' ∧ abs sl' = stepL (abs sl) op := by
  cases op with
  | insert m s lvl =>
    obtain ⟨sl', he, hi, ha⟩ := insert_refines h m s lvl hok.1 hok.2.1 hok.2.2.1 hok.2.2.2
    exact ⟨sl', he, hi, hI h h0 hok he, ha⟩
  | remove m s =>
    obtain ⟨sl', b, he, hi, hp, ha, _⟩ := remove_spec h m s hP h0
    exact ⟨sl', by simp [stepM, he, Except.map], hi, hp, ha⟩
  | removeRange a b mode =>
    obtain ⟨sl', rem, he, hi, hp, ha⟩ := removeRange_spec h a b 0 mode hP h0
    rw [if_pos (Int.le_refl 0)] at ha
    refine ⟨sl', by simp [stepM, he, Except.map], hi, hp, ?_⟩
    simp only [stepL, ← ha]
  | removeRangeByRank a b =>
    obtain ⟨sl', rem, he, hi, hp, ha⟩ := removeRangeByRank_spec h a b hP h0
    refine ⟨sl', by simp [stepM, he, Except.map], hi, hp, ?_⟩
    simp only [stepL, ← ha]

theorem step_refines {sl : SL} (h : Inv sl) (op : SlOp) (hok : OpOk (abs sl) op) :
    ∃ sl', stepM sl op = .ok sl' ∧ Inv sl' ∧ abs sl' = stepL (abs sl) op := by
  obtain ⟨sl', he, hi, _, ha⟩ := step_spec h op hok insertInv_true stepInv_true trivial
  exact ⟨sl', he, hi, ha⟩

/-- every state reachable from a state satisfying the invariant satisfies it (and any predicate that `insert` and single
    removals keep), no operation of the run panics or runs out of fuel, and the abstraction of the result is the run of
    the list-level model -/
theorem run_spec {P : SL → Prop} (hI : InsertInv P) (hP : StepInv P) : ∀ (ops : List SlOp) {sl : SL}, Inv sl → P sl →
    OpsOk (abs sl) ops → ∃ sl', runM sl ops = .ok sl' ∧ Inv sl' ∧ P sl' ∧ abs sl' = runL (abs sl) ops := by
  intro ops
  induction ops with
  | nil => intro sl h h0 _; exact ⟨sl, rfl, h, h0, rfl⟩
  | cons op ops ih =>
    intro sl h h0 hok
    obtain ⟨hop, hrest⟩ := hok
    obtain ⟨sl1, he, hi, hp, ha⟩ := step_spec h op hop hI hP h0
    rw [← ha] at hrest
    obtain ⟨sl2, he2, hi2, hp2, ha2⟩ := ih hi hp hrest
    refine ⟨sl2, ?_, hi2, hp2, ?_⟩
    · simp [runM, he, bind, Except.bind, he2]
    · simp [runL, ← ha, ha2]

theorem run_refines (ops : List SlOp) {sl : SL} (h : Inv sl) (hok : OpsOk (abs sl) ops) :
    ∃ sl', runM sl ops = .ok sl' ∧ Inv sl' ∧ abs sl' = runL (abs sl) ops := by
  obtain ⟨sl', he, hi, _, ha⟩ := run_spec insertInv_true stepInv_true ops h trivial hok
  exact ⟨sl', he, hi, ha⟩

theorem abs_makeSkiplist : abs makeSkiplist = [] := by
  rw [abs_eq makeSkiplist_isChain]; rfl

theorem run_inv_from_empty (ops : List SlOp) (hok : OpsOk [] ops) :
    ∃ sl, runM makeSkiplist ops = .ok sl ∧ Inv sl ∧ abs sl = runL [] ops := by
  have := run_refines ops makeSkiplist_inv (by rw [abs_makeSkiplist]; exact hok)
  rw [abs_makeSkiplist] at this
  exact this

end NodisVerif.Skiplist

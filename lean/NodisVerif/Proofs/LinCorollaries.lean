import NodisVerif.Proofs.LinCore
/-
  Consequences of `locked_bodies_linearizable` that the property names: a read sees the state after a
  prefix of the writes; concurrent increments are not lost; concurrent pops never return one element twice.
  All three rest on `run_inv` alone, which does not look at the lock checks.
-/
namespace NodisVerif.Lin

section
variable {State Op Ret : Type} {O : Obj State Op Ret}

def writes (O : Obj State Op Ret) (l : SeqHist Op Ret) : SeqHist Op Ret := l.filter fun x => !O.readOnly x.2.1

theorem final_writes (s : State) (l : SeqHist Op Ret) : final O s l = final O s (writes O l) := by
  induction l generalizing s with
  | nil => rfl
  | cons x l ih =>
    unfold writes
    rw [List.filter_cons]
    cases h : O.readOnly x.2.1 with
    | true => simp only [final, Bool.not_true, Bool.false_eq_true, if_false]; rw [O.ro s _ h]; exact ih s
    | false => simp only [final, Bool.not_false, if_true]; exact ih _

theorem legal_append {s : State} {p q : SeqHist Op Ret} (h : Legal O s (p ++ q)) : Legal O (final O s p) q := by
  induction p generalizing s with
  | nil => exact h
  | cons x p ih => exact ih h.2

variable [DecidableEq Ret]

/-- A completed operation (a read in particular) returns what `apply` computes on the state reached by
    a prefix of the writes, taken in linearization order: it never sees a torn or a half-applied state. -/
theorem readers_see_a_prefix_state {σ0 : State} {chk : Bool} {es : List (Ev Op Ret)} {c : Cfg State Op Ret}
    (h : run O chk { σ := σ0 } es = some c) {i : Nat} {r : Ret} (hr : Ev.res i r ∈ es) :
    ∃ o p q, c.lin = p ++ (i, o, r) :: q ∧ writes O p <+: writes O c.lin ∧
      r = (O.apply (final O σ0 (writes O p)) o).2 := by
  have hi := run_inv h
  obtain ⟨st, h1, h2, _⟩ := hi.resOps i r hr
  have hm := (hi.linOps i st.op r).2 ⟨st, h1, rfl, h2⟩
  obtain ⟨p, q, e⟩ := List.append_of_mem hm
  refine ⟨st.op, p, q, e, ?_, ?_⟩
  · rw [e]; unfold writes; rw [List.filter_append]; exact List.prefix_append _ _
  · have hleg : Legal O (final O σ0 p) ((i, st.op, r) :: q) := legal_append (e ▸ hi.legal)
    rw [← final_writes]; exact hleg.1.symm

end

/-- `true` reads the counter, `false` increments it and returns the old value -/
def counter : Obj Int Bool Int where
  apply s o := if o then (s, s) else (s + 1, s)
  readOnly o := o
  ro := by intro s o h; simp [h]

theorem counter_final (s : Int) (l : SeqHist Bool Int) :
    final counter s l = s + ((l.filter fun x => !x.2.1).length : Int) := by
  induction l generalizing s with
  | nil => simp [final]
  | cons x l ih =>
    rw [final, ih, List.filter_cons]
    cases h : x.2.1 <;> simp [counter] <;> omega

theorem nodup_of_map {α β : Type} (f : α → β) {l : List α} (h : (l.map f).Nodup) : l.Nodup := by
  unfold List.Nodup at h ⊢
  rw [List.pairwise_map] at h
  exact h.imp (fun hab e => hab (congrArg f e))

/-- If every invoked operation has completed, the counter ends at the initial value plus the number of
    increments invoked — however their lock intervals were interleaved: no update is lost. -/
theorem counter_total {chk : Bool} {σ0 : Int} {es : List (Ev Bool Int)} {c : Cfg Int Bool Int}
    (h : run counter chk { σ := σ0 } es = some c)
    (hall : ∀ i o, Ev.inv i o ∈ es → ∃ r, Ev.res i r ∈ es) :
    c.σ = σ0 + (((invs es).filter fun p => !p.2).length : Int) := by
  have hi := run_inv h
  rw [← hi.fin, counter_final]
  have hperm : (c.lin.map fun x => (x.1, x.2.1)).Perm (invs es) := by
    rw [List.perm_ext_iff_of_nodup]
    · intro a
      constructor
      · intro ha
        obtain ⟨x, hx, rfl⟩ := List.mem_map.1 ha
        obtain ⟨st, h1, h2, _⟩ := (hi.linOps x.1 x.2.1 x.2.2).1 hx
        have := hi.opsInv x.1 st h1
        rw [h2] at this
        exact mem_invs.2 this
      · intro ha
        obtain ⟨i, o⟩ := a
        have hinv := mem_invs.1 ha
        obtain ⟨r, hr⟩ := hall i o hinv
        obtain ⟨st, h1, h2, _⟩ := hi.resOps i r hr
        obtain ⟨st', h1', h2'⟩ := hi.invOps i o hinv
        rw [h1] at h1'; cases h1'
        exact List.mem_map.2 ⟨(i, o, r), (hi.linOps i o r).2 ⟨st, h1, h2', h2⟩, rfl⟩
    · apply nodup_of_map Prod.fst
      rw [List.map_map]
      exact hi.nodup
    · exact nodup_of_map Prod.fst (invs_nodup es c h)
  have := (hperm.filter fun p => !p.2).length_eq
  rw [List.filter_map, List.length_map] at this
  have e : (c.lin.filter ((fun p : Nat × Bool => !p.2) ∘ fun x => (x.1, x.2.1))) = c.lin.filter fun x => !x.2.1 := rfl
  rw [e] at this
  rw [this]

theorem no_lost_update {σ0 : Int} {es : List (Ev Bool Int)} {c : Cfg Int Bool Int}
    (h : run counter true { σ := σ0 } es = some c)
    (hall : ∀ i o, Ev.inv i o ∈ es → ∃ r, Ev.res i r ∈ es) :
    c.σ = σ0 + (((invs es).filter fun p => !p.2).length : Int) :=
  counter_total h hall

theorem no_lost_update_k {chk : Bool} {σ0 : Int} {es : List (Ev Bool Int)} {c : Cfg Int Bool Int}
    (h : run counter chk { σ := σ0 } es = some c)
    (hall : ∀ i o, Ev.inv i o ∈ es → ∃ r, Ev.res i r ∈ es) (hincr : ∀ i o, Ev.inv i o ∈ es → o = false) :
    c.σ = σ0 + ((invs es).length : Int) := by
  rw [counter_total h hall]
  have : ((invs es).filter fun p => !p.2) = invs es := by
    apply List.filter_eq_self.2
    intro p hp
    have := hincr p.1 p.2 (mem_invs.1 hp)
    simp [this]
  rw [this]

/-- the only operation takes the head of the list (`none` when it is empty) -/
def popper (α : Type) : Obj (List α) Unit (Option α) where
  apply s _ := (s.tail, s.head?)
  readOnly _ := false
  ro := by intro s o h; cases h

theorem popper_mem {α : Type} {s : List α} {l : SeqHist Unit (Option α)} (h : Legal (popper α) s l)
    {x : Nat × Unit × Option α} (hx : x ∈ l) {a : α} (ha : x.2.2 = some a) : a ∈ s := by
  induction l generalizing s with
  | nil => cases hx
  | cons y l ih =>
    obtain ⟨h1, h2⟩ := h
    rcases List.mem_cons.1 hx with rfl | hx
    · rw [ha] at h1
      exact List.mem_of_mem_head? (by simpa [popper] using h1)
    · exact List.mem_of_mem_tail (ih (s := s.tail) h2 hx)

theorem popper_pairwise {α : Type} {s : List α} (hs : s.Nodup) {l : SeqHist Unit (Option α)}
    (h : Legal (popper α) s l) : l.Pairwise fun x y => ∀ a, x.2.2 = some a → y.2.2 ≠ some a := by
  induction l generalizing s with
  | nil => exact List.Pairwise.nil
  | cons y l ih =>
    obtain ⟨h1, h2⟩ := h
    rw [List.pairwise_cons]
    refine ⟨?_, ih (s := s.tail) (hs.sublist (List.tail_sublist s)) h2⟩
    intro z hz a ha hza
    have hmem := popper_mem (s := s.tail) h2 hz hza
    rw [ha] at h1
    cases s with
    | nil => simp [popper] at h1
    | cons b s =>
      simp [popper] at h1; subst h1
      exact (List.nodup_cons.1 hs).1 hmem

theorem pairwise_mem {α : Type} {R : α → α → Prop} {l : List α} (h : l.Pairwise R) {x y : α}
    (hx : x ∈ l) (hy : y ∈ l) (hne : x ≠ y) : R x y ∨ R y x := by
  induction l with
  | nil => cases hx
  | cons z l ih =>
    rw [List.pairwise_cons] at h
    rcases List.mem_cons.1 hx with rfl | hx' <;> rcases List.mem_cons.1 hy with rfl | hy'
    · exact absurd rfl hne
    · exact Or.inl (h.1 _ hy')
    · exact Or.inr (h.1 _ hx')
    · exact ih h.2 hx' hy'

/-- Two different completed pops on a list of distinct elements never return the same element: no
    element is handed out twice, whatever the interleaving. -/
theorem pops_distinct {chk : Bool} {α : Type} [DecidableEq α] {s0 : List α} (hs : s0.Nodup)
    {es : List (Ev Unit (Option α))} {c : Cfg (List α) Unit (Option α)}
    (h : run (popper α) chk { σ := s0 } es = some c) {i j : Nat} {a b : α} (hne : i ≠ j)
    (hi : Ev.res i (some a) ∈ es) (hj : Ev.res j (some b) ∈ es) : a ≠ b := by
  have hinv := run_inv h
  obtain ⟨oi, h1⟩ := hinv.isLin.complete i (some a) (List.mem_filter.2 ⟨hi, rfl⟩)
  obtain ⟨oj, h2⟩ := hinv.isLin.complete j (some b) (List.mem_filter.2 ⟨hj, rfl⟩)
  have hp := popper_pairwise hs hinv.legal
  intro e; subst e
  rcases pairwise_mem hp h1 h2 (by intro e; cases e; exact hne rfl) with h | h
  · exact h a rfl rfl
  · exact h a rfl rfl

theorem no_double_pop {α : Type} [DecidableEq α] {s0 : List α} (hs : s0.Nodup)
    {es : List (Ev Unit (Option α))} {c : Cfg (List α) Unit (Option α)}
    (h : run (popper α) true { σ := s0 } es = some c) {i j : Nat} {a b : α} (hne : i ≠ j)
    (hi : Ev.res i (some a) ∈ es) (hj : Ev.res j (some b) ∈ es) : a ≠ b :=
  pops_distinct hs h hne hi hj

theorem pop_returns_element {chk : Bool} {α : Type} [DecidableEq α] {s0 : List α}
    {es : List (Ev Unit (Option α))} {c : Cfg (List α) Unit (Option α)}
    (h : run (popper α) chk { σ := s0 } es = some c) {i : Nat} {a : α}
    (hi : Ev.res i (some a) ∈ es) : a ∈ s0 := by
  have hinv := run_inv h
  obtain ⟨oi, h1⟩ := hinv.isLin.complete i (some a) (List.mem_filter.2 ⟨hi, rfl⟩)
  exact popper_mem hinv.legal h1 rfl

end NodisVerif.Lin

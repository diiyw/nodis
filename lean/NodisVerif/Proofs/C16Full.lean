import NodisVerif.Proofs.C08Lookup
import NodisVerif.Proofs.C16Table2
import NodisVerif.Proofs.C16Table4
/-
  C16 for the server's complete dispatch `fullTable = Driver.lookup [table1, table2, table3, table4]`.
-/
namespace NodisVerif.Proofs.C08Step
open Resp

theorem fullTable_oneReply : TableOneReply fullTable := by
  intro name args r h
  refine lookup_all (P := Proofs.C16Handlers.OneReply) allTables ?_ name args r h
  intro t ht n a r' hr
  simp only [allTables, List.mem_cons, List.not_mem_nil, or_false] at ht
  rcases ht with rfl | rfl | rfl | rfl
  · exact Proofs.C16Handlers.table1_one_reply n a r' hr
  · exact Proofs.C16Table2.table2_tableOneReply n a r' hr
  · exact Proofs.C16Table3.table3_tableOneReply n a r' hr
  · exact Proofs.C16Table4.table4_tableOneReply n a r' hr

theorem fullTable_wire : TableWire fullTable := by
  intro name args r h
  refine lookup_all (P := WireRes) allTables ?_ name args r h
  intro t ht n a r' hr
  simp only [allTables, List.mem_cons, List.not_mem_nil, or_false] at ht
  rcases ht with rfl | rfl | rfl | rfl
  · exact table1_wire n a r' hr
  · exact Proofs.C16Table2.table2_wire n a r' hr
  · exact Proofs.C16Table3.table3_wire n a r' hr
  · exact Proofs.C16Table4.table4_wire n a r' hr

end NodisVerif.Proofs.C08Step

import NodisVerif.Model.Handler
/-
  C16 "exactly one well-formed RESP reply per command": what "one RESP value" means for a token list.
  `valueSize` (bounds, fuel monotonicity, prefix stability), `oneValue` (a scalar token; an array header
  followed by exactly that many values, and conversely), and the predicate `OneReply` on handler results.
  `replyOf` is the same function as `C08Step.replyOf` (C08Ops.lean; `C08Step.replyOf_eq` in C16Step.lean), which is
  why the C16 files open `C08Step` hiding it.
-/
namespace NodisVerif.Proofs.C16Handlers
open NodisVerif NodisVerif.Resp NodisVerif.Handler

theorem valueSize_zero (ts : List Tok) : valueSize ts 0 = none := by
  rw [valueSize]

theorem valueSize_nil (f : Nat) : valueSize [] f = none := by
  cases f with
  | zero => rw [valueSize]
  | succ f => rw [valueSize]; omega

theorem valueSize_arr (n : Int) (rest : List Tok) (f : Nat) :
    valueSize (Tok.arr n :: rest) (f + 1) = if n < 0 then some 1 else valueSize.elems f n.toNat rest 1 := by
  rw [valueSize]

def isScalar : Tok → Bool
  | .arr _ => false
  | _ => true

theorem valueSize_scalar (t : Tok) (rest : List Tok) (f : Nat) (h : isScalar t = true) :
    valueSize (t :: rest) (f + 1) = some 1 := by
  rw [valueSize]
  intro n hn
  subst hn
  cases h

theorem elems_zero (f : Nat) (ts : List Tok) (acc : Nat) : valueSize.elems f 0 ts acc = some acc := by
  rw [valueSize.elems]

theorem elems_succ (f k : Nat) (ts : List Tok) (acc : Nat) :
    valueSize.elems f (k + 1) ts acc =
      match valueSize ts f with
      | none => none
      | some sz => valueSize.elems f k (ts.drop sz) (acc + sz) := by
  rw [valueSize.elems]
  cases valueSize ts f <;> rfl

theorem elems_succ_cases {f n : Nat} {ts : List Tok} {acc r : Nat} (h : valueSize.elems f (n + 1) ts acc = some r) :
    ∃ sz, valueSize ts f = some sz ∧ valueSize.elems f n (ts.drop sz) (acc + sz) = some r := by
  rw [elems_succ] at h
  cases hvs : valueSize ts f with
  | none => rw [hvs] at h; cases h
  | some sz => rw [hvs] at h; exact ⟨sz, rfl, h⟩

theorem valueSize_cases {ts : List Tok} {f k : Nat} (h : valueSize ts (f + 1) = some k) :
    ∃ t rest, ts = t :: rest ∧
      ((isScalar t = true ∧ k = 1) ∨
       ∃ n, t = .arr n ∧ ((n < 0 ∧ k = 1) ∨ (¬ n < 0 ∧ valueSize.elems f n.toNat rest 1 = some k))) := by
  cases ts with
  | nil => rw [valueSize_nil] at h; cases h
  | cons t rest =>
    refine ⟨t, rest, rfl, ?_⟩
    cases t with
    | arr n =>
      rw [valueSize_arr] at h
      refine .inr ⟨n, rfl, ?_⟩
      split at h
      · rename_i hn; cases h; exact .inl ⟨hn, rfl⟩
      · rename_i hn; exact .inr ⟨hn, h⟩
    | _ =>
      rw [valueSize_scalar _ rest f rfl] at h
      cases h; exact .inl ⟨rfl, rfl⟩

theorem elems_bound (f : Nat)
    (hv : ∀ ts k, valueSize ts f = some k → 1 ≤ k ∧ k ≤ ts.length) :
    ∀ (n : Nat) (ts : List Tok) (acc r : Nat), valueSize.elems f n ts acc = some r →
      acc + n ≤ r ∧ r ≤ acc + ts.length := by
  intro n
  induction n with
  | zero =>
    intro ts acc r h
    rw [elems_zero] at h
    cases h; omega
  | succ n ih =>
    intro ts acc r h
    obtain ⟨sz, hvs, h⟩ := elems_succ_cases h
    have hb := hv ts sz hvs
    have := ih (ts.drop sz) (acc + sz) r h
    rw [List.length_drop] at this
    omega

theorem valueSize_bound : ∀ (f : Nat) (ts : List Tok) (k : Nat), valueSize ts f = some k → 1 ≤ k ∧ k ≤ ts.length := by
  intro f
  induction f with
  | zero => intro ts k h; rw [valueSize_zero] at h; cases h
  | succ f ih =>
    intro ts k h
    obtain ⟨t, rest, rfl, ⟨_, rfl⟩ | ⟨n, rfl, ⟨_, rfl⟩ | ⟨_, he⟩⟩⟩ := valueSize_cases h
    · simp
    · simp
    · have := elems_bound f ih _ _ _ _ he
      simp only [List.length_cons]
      omega

theorem elems_mono1 (f : Nat)
    (hv : ∀ ts k, valueSize ts f = some k → valueSize ts (f + 1) = some k) :
    ∀ (n : Nat) (ts : List Tok) (acc r : Nat), valueSize.elems f n ts acc = some r →
      valueSize.elems (f + 1) n ts acc = some r := by
  intro n
  induction n with
  | zero => intro ts acc r h; rw [elems_zero] at h; rw [elems_zero]; exact h
  | succ n ih =>
    intro ts acc r h
    obtain ⟨sz, hvs, h⟩ := elems_succ_cases h
    rw [elems_succ, hv ts sz hvs]
    exact ih _ _ _ h

theorem valueSize_mono1 : ∀ (f : Nat) (ts : List Tok) (k : Nat),
    valueSize ts f = some k → valueSize ts (f + 1) = some k := by
  intro f
  induction f with
  | zero => intro ts k h; rw [valueSize_zero] at h; cases h
  | succ f ih =>
    intro ts k h
    obtain ⟨t, rest, rfl, ⟨hs, rfl⟩ | ⟨n, rfl, ⟨hn, rfl⟩ | ⟨hn, he⟩⟩⟩ := valueSize_cases h
    · exact valueSize_scalar t rest _ hs
    · rw [valueSize_arr, if_pos hn]
    · rw [valueSize_arr, if_neg hn]
      exact elems_mono1 f ih _ _ _ _ he

theorem valueSize_mono (ts : List Tok) (k f f' : Nat) (hle : f ≤ f')
    (h : valueSize ts f = some k) : valueSize ts f' = some k := by
  induction hle with
  | refl => exact h
  | step _ ih => exact valueSize_mono1 _ _ _ ih

theorem elems_prefix (f : Nat) (more : List Tok)
    (hv : ∀ ts k, valueSize ts f = some k → valueSize (ts ++ more) f = some k) :
    ∀ (n : Nat) (ts : List Tok) (acc r : Nat), valueSize.elems f n ts acc = some r →
      valueSize.elems f n (ts ++ more) acc = some r := by
  intro n
  induction n with
  | zero => intro ts acc r h; rw [elems_zero] at h; rw [elems_zero]; exact h
  | succ n ih =>
    intro ts acc r h
    obtain ⟨sz, hvs, h⟩ := elems_succ_cases h
    rw [elems_succ, hv ts sz hvs]
    have hb := (valueSize_bound f ts sz hvs).2
    show valueSize.elems f n (List.drop sz (ts ++ more)) (acc + sz) = some r
    rw [List.drop_append_of_le_length hb]
    exact ih _ _ _ h

theorem valueSize_append : ∀ (f : Nat) (ts more : List Tok) (k : Nat),
    valueSize ts f = some k → valueSize (ts ++ more) f = some k := by
  intro f
  induction f with
  | zero => intro ts more k h; rw [valueSize_zero] at h; cases h
  | succ f ih =>
    intro ts more k h
    obtain ⟨t, rest, rfl, ⟨hs, rfl⟩ | ⟨n, rfl, ⟨hn, rfl⟩ | ⟨hn, he⟩⟩⟩ := valueSize_cases h
    · exact valueSize_scalar t _ f hs
    · rw [List.cons_append, valueSize_arr, if_pos hn]
    · rw [List.cons_append, valueSize_arr, if_neg hn]
      exact elems_prefix f more (fun ts k => ih ts more k) _ _ _ _ he

theorem oneValue_iff (ts : List Tok) : oneValue ts = true ↔ valueSize ts (ts.length + 1) = some ts.length := by
  simp [oneValue]

theorem oneValue_nil : oneValue ([] : List Tok) = false := by
  simp [oneValue, valueSize_nil]

theorem oneValue_scalar (t : Tok) (h : isScalar t = true) : oneValue [t] = true := by
  rw [oneValue_iff]
  exact valueSize_scalar t [] _ h

theorem oneValue_arr_nonpos (n : Int) (h : n ≤ 0) : oneValue [Tok.arr n] = true := by
  rw [oneValue_iff]
  show valueSize [Tok.arr n] (0 + 1 + 1) = some 1
  rw [valueSize_arr]
  split
  · rfl
  · have : n = 0 := by omega
    subst this
    show valueSize.elems (0 + 1) 0 [] 1 = some 1
    rw [elems_zero]

theorem oneValue_length_pos (ts : List Tok) (h : oneValue ts = true) : 1 ≤ ts.length := by
  rw [oneValue_iff] at h
  exact (valueSize_bound _ _ _ h).1

theorem valueSize_of_oneValue (v more : List Tok) (f : Nat) (hf : v.length + 1 ≤ f)
    (h : oneValue v = true) : valueSize (v ++ more) f = some v.length := by
  rw [oneValue_iff] at h
  exact valueSize_append _ _ _ _ (valueSize_mono _ _ _ _ hf h)

theorem elems_flatten (f : Nat) :
    ∀ (vs : List (List Tok)) (more : List Tok) (acc : Nat),
      (∀ v ∈ vs, oneValue v = true ∧ v.length + 1 ≤ f) →
      valueSize.elems f vs.length (vs.flatten ++ more) acc = some (acc + vs.flatten.length) := by
  intro vs
  induction vs with
  | nil => intro more acc _; simp [elems_zero]
  | cons v vs ih =>
    intro more acc h
    have hv := h v (List.mem_cons_self)
    rw [List.length_cons, elems_succ, List.flatten_cons, List.append_assoc,
      valueSize_of_oneValue v _ f hv.2 hv.1]
    show valueSize.elems f vs.length (List.drop v.length (v ++ (vs.flatten ++ more))) (acc + v.length) = _
    rw [List.drop_left]
    rw [ih more (acc + v.length) (fun w hw => h w (List.mem_cons_of_mem _ hw))]
    simp only [List.length_append]
    congr 1; omega

theorem length_le_flatten (vs : List (List Tok)) (v : List Tok) (h : v ∈ vs) : v.length ≤ vs.flatten.length := by
  induction vs with
  | nil => cases h
  | cons w vs ih =>
    rw [List.flatten_cons, List.length_append]
    cases h with
    | head => omega
    | tail _ h' => have := ih h'; omega

theorem oneValue_arr_flatten (vs : List (List Tok)) (h : ∀ v ∈ vs, oneValue v = true) :
    oneValue (Tok.arr vs.length :: vs.flatten) = true := by
  rw [oneValue_iff, List.length_cons, valueSize_arr]
  have hn : ¬ ((vs.length : Int) < 0) := by omega
  rw [if_neg hn, Int.toNat_natCast]
  have := elems_flatten (vs.flatten.length + 1) vs [] 1
    (fun v hv => ⟨h v hv, by have := length_le_flatten vs v hv; omega⟩)
  rw [List.append_nil] at this
  rw [this]
  congr 1; omega

theorem oneValue_arr_flatten' (n : Int) (vs : List (List Tok)) (hn : n = vs.length)
    (h : ∀ v ∈ vs, oneValue v = true) : oneValue (Tok.arr n :: vs.flatten) = true := by
  subst hn; exact oneValue_arr_flatten vs h

theorem flatten_map_singleton (ts : List Tok) : (ts.map fun t => [t]).flatten = ts := by
  induction ts with
  | nil => rfl
  | cons t ts ih => simp [ih]

theorem elems_split (f : Nat)
    (hv : ∀ ts k, valueSize ts f = some k → oneValue (ts.take k) = true) :
    ∀ (n : Nat) (ts : List Tok) (acc r : Nat), valueSize.elems f n ts acc = some r →
      ∃ vs : List (List Tok), vs.length = n ∧ ts.take (r - acc) = vs.flatten ∧ ∀ v ∈ vs, oneValue v = true := by
  intro n
  induction n with
  | zero =>
    intro ts acc r h
    rw [elems_zero] at h
    cases h
    exact ⟨[], rfl, by simp, by simp⟩
  | succ n ih =>
    intro ts acc r h
    obtain ⟨sz, hvs, h⟩ := elems_succ_cases h
    have hb := elems_bound f (valueSize_bound f) _ _ _ _ h
    obtain ⟨vs, hlen, hfl, hall⟩ := ih _ _ _ h
    refine ⟨ts.take sz :: vs, by simp [hlen], ?_, ?_⟩
    · have : r - acc = sz + (r - (acc + sz)) := by omega
      rw [this, List.take_add, hfl, List.flatten_cons]
    · intro v hvm
      cases hvm with
      | head => exact hv ts sz hvs
      | tail _ h' => exact hall v h'

theorem valueSize_take : ∀ (f : Nat) (ts : List Tok) (k : Nat),
    valueSize ts f = some k → oneValue (ts.take k) = true := by
  intro f
  induction f with
  | zero => intro ts k h; rw [valueSize_zero] at h; cases h
  | succ f ih =>
    intro ts k h
    obtain ⟨t, rest, rfl, ⟨hs, rfl⟩ | ⟨n, rfl, ⟨hn, rfl⟩ | ⟨hn, he⟩⟩⟩ := valueSize_cases h
    · exact oneValue_scalar t hs
    · exact oneValue_arr_nonpos n (by omega)
    · have hb := elems_bound f (valueSize_bound f) _ _ _ _ he
      obtain ⟨vs, hlen, hfl, hall⟩ := elems_split f ih _ _ _ _ he
      have hk : k = (k - 1) + 1 := by omega
      rw [hk, List.take_succ_cons, hfl]
      exact oneValue_arr_flatten' n vs (by omega) hall

theorem oneValue_arr_split (n : Int) (ts : List Tok) (hn : 0 ≤ n) (h : oneValue (Tok.arr n :: ts) = true) :
    ∃ vs : List (List Tok), vs.length = n.toNat ∧ ts = vs.flatten ∧ ∀ v ∈ vs, oneValue v = true := by
  rw [oneValue_iff, List.length_cons, valueSize_arr, if_neg (by omega)] at h
  obtain ⟨vs, hlen, hfl, hall⟩ := elems_split _ (valueSize_take _) _ _ _ _ h
  refine ⟨vs, hlen, ?_, hall⟩
  rw [← hfl]
  simp

theorem oneValue_arr_iff (n : Int) (ts : List Tok) (hn : 0 ≤ n) :
    oneValue (Tok.arr n :: ts) = true ↔
      ∃ vs : List (List Tok), vs.length = n.toNat ∧ ts = vs.flatten ∧ ∀ v ∈ vs, oneValue v = true := by
  constructor
  · exact oneValue_arr_split n ts hn
  · rintro ⟨vs, hlen, rfl, hall⟩
    exact oneValue_arr_flatten' n vs (by omega) hall

theorem flatten_length_ge (vs : List (List Tok)) (h : ∀ v ∈ vs, oneValue v = true) :
    vs.length ≤ vs.flatten.length := by
  induction vs with
  | nil => simp
  | cons v vs ih =>
    have h1 := oneValue_length_pos v (h v List.mem_cons_self)
    have h2 := ih (fun w hw => h w (List.mem_cons_of_mem _ hw))
    simp only [List.length_cons, List.flatten_cons, List.length_append]
    omega

theorem oneValue_arr_short (n : Int) (ts : List Tok) (h : (ts.length : Int) < n) :
    oneValue (Tok.arr n :: ts) = false := by
  cases hc : oneValue (Tok.arr n :: ts) with
  | false => rfl
  | true =>
    obtain ⟨vs, hlen, rfl, hall⟩ := oneValue_arr_split n ts (by omega) hc
    have := flatten_length_ge vs hall
    omega

-- the same function as `C08Step.replyOf` (C08Ops.lean), defined here as well: `C08Step.replyOf_eq`
/-- what the connection receives from one closure run by execCommand outside MULTI -/
def replyOf (o : BodyOut) : List Tok := if o.panicked then o.toks ++ [Tok.err 1] else o.toks

/-- a handler result always produces exactly one RESP value -/
def OneReply : HRes → Prop
  | .direct ts => oneValue ts = true
  | .exec b => ∀ (s : MState) (now : Int) (ch : Choice), oneValue (replyOf (b s now ch)) = true
  | .crash => True     -- dispatch-level recover writes one error (handled by the caller)

theorem runBody_reply (sv : Server) (now : Int) (ch : Choice) (b : Body) :
    (Server.runBody sv now ch b).2 =
      replyOf (b { sv.store with signalled := [], held := [], hung := false } now ch) := rfl

/-- what the model says about `Out.hang`: `call` hands it to the continuation like any other result, so
    the model still writes the continuation's token(s) (the store flag `hung` is not consulted here) -/
theorem call_hang (s : MState) (k : MState → Out → BodyOut) : call (s, Out.hang) k = k s Out.hang := rfl

theorem scalar_ok : isScalar ok = true := rfl
theorem scalar_e : isScalar e = true := rfl

end NodisVerif.Proofs.C16Handlers

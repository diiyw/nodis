import NodisVerif.Proofs.C03Seq
import NodisVerif.Proofs.Oids
/-
  C03, store level: value-object identities.

  A command on one key leaves the other keys alone only in stores where no two live records share a value object:
  `OidsDistinct` (Proofs/Oids.lean), together with what is needed to keep it: identities are below the allocator's
  `nextId` (so that a freshly allocated one is new), and a backend entry's identity belongs to the key under whose
  name the entry is filed (so that a cold value loaded back by `writeKey` / `readKey` does not import a foreign
  identity).  It holds in the empty store and is preserved by every store primitive the set / hash commands are made
  of, hence by those commands (`inv_closed` with the per-command lemmas of `KeyTx.KeyClosed`, `inv_del`, `inv_sstore`,
  `inv_sinter` ...).  Under it a single-key writer leaves every other record untouched (`alone_closed`).

  REMARK (where it is NOT claimed — outside these theorems):
  * `Api.rename` / `Api.renameNX` hand the *source's* value object to the destination on purpose
    (`{ d with oid := m.oid }`). The index stays unshared (the source is unlinked), but a backend entry of the
    source that outlives the call keeps the identity under the source's name (`diskOwner` fails).
  * `Store.reopen` rebuilds the index from the backend entries and gives every record the identity kept in
    its entry (and does not advance `nextId`): with the in-memory backend the records share their objects
    with whatever the backend holds, so any violation of `diskOwner` / `diskDisk` becomes two index records
    sharing one object — the situation the doc comment of `Api.setVal` describes. In such a store the
    conclusion of `smove_between_keys` is false (Props/C03.lean, `smove_between_keys_needs_unshared_objects`).
  * `Store.gc` / `Store.flush` file new backend entries (`diskSet`); keeping `diskOwner` there needs the backend
    to be keyed by `Codec.encodeKey name deadline` injectively (Proofs/CodecLemmas.lean `encodeKey_inj`, and the
    backend invariants of C11 / C13). Not done here: not needed for the commands of C03.
-/
namespace NodisVerif.Proofs.C03Oids
open NodisVerif.Proofs.AListLemmas NodisVerif.Proofs.AListLemmas2 NodisVerif.Proofs.C03 NodisVerif.Proofs.C03Api
open NodisVerif.Proofs.C03Seq
open Store Api

theorem getMeta_setVal_other_oids (s : MState) (key : Bytes) (v : Val) (ho : OidsDistinct s) (k' : Bytes) (hne : k' ≠ key) :
    getMeta (setVal s key v) k' = getMeta s k' := by
  cases hm : getMeta s key with
  | none =>
    have : setVal s key v = s := by unfold setVal; rw [hm]
    rw [this]
  | some m =>
    refine getMeta_setVal_other s key v m hm k' hne ?_
    by_cases h0 : m.oid = 0
    · exact Or.inr (Or.inl h0)
    · exact Or.inr (Or.inr fun m' hm' e => hne (ho.idxDistinct k' key m' m hm' hm e (by rw [e]; exact h0)))

/-- publishing a record under `key` whose identity is none (0: Pebble hands out a copy), or fresh (at or above the
    old bound), or the one found in a backend entry filed under `key`'s own name (a cold value loaded back) -/
theorem oidsBelow_putMeta {n n' : Nat} {s : MState} (h : OidsBelow n s) (key : Bytes) (m : Meta) (hn : n ≤ n')
    (hf : m.oid ≠ 0 → n ≤ m.oid → m.oid < n')
    (hl : m.oid = 0 ∨ n ≤ m.oid ∨ ∃ e exp, (Codec.encodeKey key exp, e) ∈ s.disk ∧ e.oid = m.oid) :
    OidsBelow n' (putMeta s key m) := by
  -- no other record carries the identity, and backend entries that carry it are filed under `key`
  have A : ∀ k m2, getMeta s k = some m2 → m2.oid = m.oid → m.oid ≠ 0 → k = key := by
    intro k m2 h2 heq hne
    rcases hl with hl | hl | ⟨e0, x0, he0, ho0⟩
    · exact absurd hl hne
    · have := h.idxBound k m2 h2 (by rw [heq]; exact hne)
      omega
    · exact h.diskOwner _ e0 k m2 key x0 he0 h2 (by rw [ho0]; exact heq) (by rw [ho0]; exact hne) rfl
  have B : ∀ ek e name exp, (ek, e) ∈ s.disk → e.oid = m.oid → m.oid ≠ 0 → ek = Codec.encodeKey name exp →
      key = name := by
    intro ek e name exp he heq hne hek
    rcases hl with hl | hl | ⟨e0, x0, he0, ho0⟩
    · exact absurd hl hne
    · have := h.diskBound ek e he (by rw [heq]; exact hne)
      omega
    · exact h.diskDisk _ e0 ek e key x0 name exp he0 he (by rw [ho0, heq]) (by rw [ho0]; exact hne) rfl hek
  refine ⟨?_, ?_, ?_, ?_, h.diskDisk⟩
  · intro k m' hm' hne
    rw [getMeta_putMeta] at hm'
    by_cases e : k = key
    · rw [if_pos e] at hm'
      cases hm'
      rcases hl with hl | hl | ⟨e0, x0, he0, ho0⟩
      · exact absurd hl hne
      · exact hf hne hl
      · have := h.diskBound _ e0 he0 (by rw [ho0]; exact hne)
        omega
    · rw [if_neg e] at hm'
      have := h.idxBound k m' hm' hne
      omega
  · intro k k' m1 m2 h1 h2 heq hne
    rw [getMeta_putMeta] at h1 h2
    by_cases e1 : k = key <;> by_cases e2 : k' = key
    · rw [e1, e2]
    · rw [if_pos e1] at h1; rw [if_neg e2] at h2; cases h1
      rw [e1]
      exact (A k' m2 h2 heq.symm hne).symm
    · rw [if_neg e1] at h1; rw [if_pos e2] at h2; cases h2
      rw [e2]
      exact A k m1 h1 heq (by rw [← heq]; exact hne)
    · rw [if_neg e1] at h1; rw [if_neg e2] at h2
      exact h.idxDistinct k k' m1 m2 h1 h2 heq hne
  · intro ek e he hne
    have := h.diskBound ek e he hne
    omega
  · intro ek e k m' name exp he hm' heq hne hek
    rw [getMeta_putMeta] at hm'
    by_cases e1 : k = key
    · rw [if_pos e1] at hm'; cases hm'
      rw [e1]
      exact B ek e name exp he heq.symm (by rw [heq]; exact hne) hek
    · rw [if_neg e1] at hm'
      exact h.diskOwner ek e k m' name exp he hm' heq hne hek
theorem loadValue_oid (s : MState) (key : Bytes) (m : Meta) (v : Val) (oid : Nat)
    (h : loadValue s key m = some (v, oid)) :
    oid = 0 ∨ ∃ e exp, (Codec.encodeKey key exp, e) ∈ s.disk ∧ e.oid = oid := by
  unfold loadValue diskGet at h
  split at h
  · cases h
  · next e he =>
    split at h
    · cases hd : Codec.decodeEntry (Codec.encodeEntry e.val) with
      | none => rw [hd] at h; cases h
      | some v' => rw [hd] at h; simp only [Option.map_some] at h; cases h; exact Or.inl rfl
    · cases h
      exact Or.inr ⟨e, m.exp, mem_of_get? _ _ _ he, rfl⟩

theorem oids_putLoaded (s : MState) (key : Bytes) (m0 : Meta) (v : Val) (oid : Nat) (h : OidsDistinct s)
    (hl : loadValue s key m0 = some (v, oid)) (m : Meta) (ho : m.oid = oid) : OidsDistinct (putMeta s key m) := by
  refine oidsBelow_putMeta h key m (Nat.le_refl _) (fun hne hge => ?_) ?_
  · rcases loadValue_oid s key m0 v oid hl with h0 | ⟨e, x, he, ho'⟩
    · omega
    · have := h.diskBound _ e he (by omega)
      omega
  · rw [ho]
    exact (loadValue_oid s key m0 v oid hl).imp_right Or.inr

theorem nkBase_nextId (s : MState) (k : Bytes) (old : Option Meta) : (nkBase s k old).nextId = s.nextId + 1 + 1 := by
  unfold nkBase
  cases old <;> cases getMeta ({ s with nextId := s.nextId + 1 + 1 } : MState) k <;>
    first | rfl | exact unpersist_nextId _ _ _

theorem sub_nkBase (s : MState) (k : Bytes) (old : Option Meta) : OidSub s (nkBase s k old) := by
  have h0 : OidSub s ({ s with nextId := s.nextId + 1 + 1 } : MState) :=
    ⟨by show s.nextId ≤ s.nextId + 1 + 1; omega, fun _ m h => ⟨m, h, rfl⟩, fun _ e h => ⟨e, h, rfl⟩⟩
  unfold nkBase
  cases old <;> cases getMeta ({ s with nextId := s.nextId + 1 + 1 } : MState) k <;>
    first | exact h0 | exact h0.trans (sub_unpersist _ _ _)

theorem oids_newKeyWith (s : MState) (k : Bytes) (old : Option Meta) (v : Val) (h : OidsDistinct s) :
    OidsDistinct (newKeyWith s k old v) := by
  rw [newKeyWith_eq]
  generalize hm : (Meta.markModified (Meta.setValue _ v)) = mnew
  have hoid : mnew.oid = s.nextId + 1 := by rw [← hm]; rfl
  have hb : OidsBelow s.nextId (nkBase s k old) :=
    OidsBelow.mono h (Nat.le_refl _) (sub_nkBase s k old).idx (sub_nkBase s k old).disk
  have := oidsBelow_putMeta hb k mnew (n' := s.nextId + 1 + 1) (by omega) (fun _ _ => by omega)
    (Or.inr (Or.inl (by omega)))
  show OidsBelow (nkBase s k old).nextId _
  rw [nkBase_nextId]
  exact this

theorem oids_accessKey {lock : MState → Bytes → MState} (hl : C01.LockOp lock) (s : MState) (now : Int) (key : Bytes)
    (mk : Option Val) (h : OidsDistinct s) : OidsDistinct (C01.accessKey lock s now key mk).1 :=
  C01.accessKey_ind hl OidsDistinct s now key mk h
    (fun m0 hm0 => (h.mono (sub_lock hl s key)).mono
      (sub_putMeta_same _ key m0 _ (by rw [C01.getMeta_lock hl]; exact hm0) rfl))
    (fun _ _ _ _ hx => oids_newKeyWith _ _ _ _ hx) (fun _ _ _ _ hx hld => oids_putLoaded _ _ _ _ _ hx hld _ rfl)

theorem oids_writeKey (s : MState) (now : Int) (key : Bytes) (mk : Option Val) (h : OidsDistinct s) :
    OidsDistinct (writeKey s now key mk).1 :=
  oids_accessKey C01.lockW_op s now key mk h

theorem oids_readKey (s : MState) (now : Int) (key : Bytes) (h : OidsDistinct s) :
    OidsDistinct (readKey s now key).1 :=
  oids_accessKey C01.lockR_op s now key none h

def Inv (s : MState) : Prop := IndexSorted s ∧ OidsDistinct s

/-- the name under which Props/C03.lean uses it -/
abbrev StoreInv := Inv

theorem inv_empty : Inv ({} : MState) := ⟨trivial, oids_empty⟩

theorem inv_closed (key : Bytes) : KeyTx.KeyClosed Inv key where
  writeKey now mk h := ⟨writeKey_sorted _ now key mk h.1, oids_writeKey _ now key mk h.2⟩
  readKey now h := ⟨readKey_sorted _ now key h.1, oids_readKey _ now key h.2⟩
  setVal v h := ⟨setVal_sorted _ key v h.1, h.2.mono (sub_setVal _ key v)⟩
  setExp e h := ⟨setExp_sorted _ key e h.1, h.2.mono (sub_setExp _ key e)⟩
  delKey h := ⟨delKey_sorted _ key h.1, h.2.mono (sub_delKey _ key h.1)⟩
  signal h := ⟨signal_sorted _ key h.1, h.2.mono (sub_signal _ key)⟩
  emit op h := ⟨emit_sorted _ op h.1, h.2.mono (sub_emit _ op)⟩

theorem inv_readKey (s : MState) (now : Int) (key : Bytes) (h : Inv s) : Inv (readKey s now key).1 :=
  (inv_closed key).readKey now h
theorem inv_commit (s : MState) (h : Inv s) : Inv (commit s) :=
  ⟨h.1, h.2.mono (sub_commit s)⟩

theorem inv_sinter (s : MState) (now : Int) (keys : List Bytes) (h : Inv s) : Inv (sinter s now keys).1 :=
  sinter_keeps (fun s k h => inv_readKey s now k h) s keys h
theorem inv_sunion (s : MState) (now : Int) (keys : List Bytes) (h : Inv s) : Inv (sunion s now keys).1 :=
  sunion_keeps (fun s k h => inv_readKey s now k h) s keys h
theorem inv_sdiff (s : MState) (now : Int) (keys : List Bytes) (h : Inv s) : Inv (sdiff s now keys).1 :=
  sdiff_keeps (fun s k h => inv_readKey s now k h) s keys h

/-- the step of the loop of `Api.del`, which the model writes inline (`inv_del` unfolds it by `rfl`) -/
def delStepS (now : Int) (acc : MState × Int) (key : Bytes) : MState × Int :=
  let (s, ok) := writeKey acc.1 now key none
  if !ok then (s, acc.2) else
  (emit { delKey s key with signalled := key :: s.signalled } { typ := 2, key := key }, acc.2 + 1)

theorem inv_delStepS (now : Int) (acc : MState × Int) (key : Bytes) (h : Inv acc.1) : Inv (delStepS now acc key).1 := by
  have h1 := (inv_closed key).writeKey now none h
  unfold delStepS
  generalize writeKey acc.1 now key none = r at h1 ⊢
  obtain ⟨s1, ok⟩ := r
  have h2 := (inv_closed key).delKey h1
  have h3 : Inv { delKey s1 key with signalled := key :: s1.signalled } := ⟨h2.1, h2.2.mono (OidSub.of_eq rfl rfl rfl)⟩
  exact ite_fst _ h1 ((inv_closed key).emit _ h3)

theorem inv_del (s : MState) (now : Int) (keys : List Bytes) (h : Inv s) : Inv (del s now keys).1 := by
  have : del s now keys = ((keys.foldl (delStepS now) (s, 0)).1, .int (keys.foldl (delStepS now) (s, 0)).2) := rfl
  rw [this]
  exact foldl_keeps (fun acc => Inv acc.1) (delStepS now) (inv_delStepS now) keys (s, 0) h

theorem inv_sstore (op : MState → Int → List Bytes → Api.R) (hop : ∀ s now keys, Inv s → Inv (op s now keys).1)
    (s : MState) (now : Int) (dst : Bytes) (keys : List Bytes) (h : Inv s) : Inv (sstore op s now dst keys).1 := by
  unfold sstore
  split
  · exact h
  · have h1 := hop s now keys h
    split
    · next s1 ms heq =>
      rw [heq] at h1
      have h2 : Inv (del (commit s1) now [dst]).1 := inv_del _ now [dst] (inv_commit _ h1)
      rw [pair_eta (del (commit s1) now [dst])]
      simp only
      split
      · exact h2
      · exact (inv_closed dst).sadd now ms (inv_commit _ h2)
    · next s1 o _ heq =>
      rw [heq] at h1
      exact h1

/-- `x` satisfies the invariant and differs from `s` at most in the record of `key` -/
def Alone (key : Bytes) (s x : MState) : Prop :=
  Inv x ∧ ∀ k, k ≠ key → getMeta x k = getMeta s k

theorem alone_refl (key : Bytes) {s : MState} (h : Inv s) : Alone key s s := ⟨h, fun _ _ => rfl⟩

/-- `setVal` is the step that needs the invariant: without it other records could see the new value -/
theorem alone_closed (key : Bytes) (s : MState) : KeyTx.KeyClosed (Alone key s) key where
  writeKey now mk h :=
    ⟨(inv_closed key).writeKey now mk h.1, fun k hk => by rw [getMeta_writeKey_other _ now key mk k hk, h.2 k hk]⟩
  readKey now h := ⟨(inv_closed key).readKey now h.1, fun k hk => by rw [getMeta_readKey_other _ now key k hk, h.2 k hk]⟩
  setVal v h := ⟨(inv_closed key).setVal v h.1, fun k hk => by rw [getMeta_setVal_other_oids _ key v h.1.2 k hk, h.2 k hk]⟩
  setExp e h := ⟨(inv_closed key).setExp e h.1, fun k hk => by rw [getMeta_setExp_other _ key e k hk, h.2 k hk]⟩
  delKey h := ⟨(inv_closed key).delKey h.1, fun k hk => by rw [getMeta_delKey_other _ _ _ hk, h.2 k hk]⟩
  signal h := ⟨(inv_closed key).signal h.1, fun k hk => by rw [getMeta_signal_other _ _ _ hk, h.2 k hk]⟩
  emit op h := ⟨(inv_closed key).emit op h.1, fun k hk => by rw [getMeta_emit, h.2 k hk]⟩

theorem mem_erase_remove (st : AList Unit) (hs : AList.Sorted st) (member : Bytes) :
    DsSet.mem (AList.erase st member) = Spec.BSet.remove (DsSet.mem st) member := by
  funext x
  rw [mem_eq_contains, contains_erase st hs, mem_eq_contains]
  simp only [Spec.BSet.remove]
  exact Bool.and_comm _ _

theorem mem_sadd_insert (d : AList Unit) (hs : AList.Sorted d) (member : Bytes) :
    DsSet.mem (DsSet.sadd d [member]).1 = Spec.BSet.insert (DsSet.mem d) member := by
  rw [(sadd_spec d hs [member]).2.1]
  funext x
  simp [Spec.BSet.insertAll, Spec.BSet.insert]

theorem erase_card_zero_iff (st : AList Unit) (hs : AList.Sorted st) (member : Bytes) :
    DsSet.scard (AList.erase st member) = 0 ↔ ∀ x, DsSet.mem st x = true → x = member := by
  constructor
  · intro h0 x hx
    have hnil : AList.erase st member = [] := eq_nil_of_length_zero _ h0
    have := congrFun (mem_erase_remove st hs member) x
    rw [hnil] at this
    simp only [Spec.BSet.remove, hx, Bool.true_and] at this
    have h1 : DsSet.mem ([] : AList Unit) x = false := rfl
    rw [h1] at this
    simpa using this.symm
  · intro hall
    have hnil : AList.erase st member = [] := by
      apply eq_nil_of_get?_none
      intro x
      rw [get?_erase st hs]
      split
      · rfl
      · next hx =>
        cases hc : AList.contains st x with
        | true => exact absurd (hall x hc) hx
        | false => exact (contains_eq_false_iff st x).mp hc
    rw [hnil]; rfl

end NodisVerif.Proofs.C03Oids

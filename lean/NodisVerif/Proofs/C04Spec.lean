import NodisVerif.Spec.ZSet
import NodisVerif.Proofs.C04Inv
/-
  The chain of a well-formed sorted set is the reference sorted list `Spec.ZSet.sorted`;
  ZSCORE / ZCARD / ZRANK / ZREVRANK against the reference.
-/
namespace NodisVerif.Proofs.C04
open AListLemmas ZSetLemmas DsZSet

theorem spec_lt_eq (a b : Item) : Spec.ZSet.lt a b = itemLt a b := rfl

theorem mem_insert (x y : Item) : ∀ (l : List Item), y ∈ Spec.ZSet.insert x l ↔ y = x ∨ y ∈ l := by
  intro l
  induction l with
  | nil => simp [Spec.ZSet.insert]
  | cons a l ih =>
    unfold Spec.ZSet.insert
    split
    · simp
    · simp only [List.mem_cons, ih]
      exact or_left_comm

/-- the reference inserts before the first greater item, the skiplist after the last smaller one:
    the same place when the order is total on the items involved -/
theorem insert_eq_slInsert (x : Item) (hx : Good x) : ∀ (l : List Item), (∀ a ∈ l, Good a) →
    (∀ a ∈ l, a.2 ≠ x.2) → Spec.ZSet.insert x l = slInsert l x.2 x.1 := by
  intro l
  induction l with
  | nil => intro _ _; rfl
  | cons a l ih =>
    intro hg hne
    have ha : Good a := hg a (by simp)
    unfold Spec.ZSet.insert slInsert
    by_cases hlt : Spec.ZSet.lt x a = true
    · have hna : ¬ nodeLt a x.1 x.2 = true := fun h => itemLt_asymm x a hx ha hlt h
      rw [if_pos hlt, if_neg hna]
    · have hax : nodeLt a x.1 x.2 = true :=
        itemLt_total x a hx ha (by simpa [spec_lt_eq] using hlt) (Ne.symm (hne a (by simp)))
      rw [if_neg hlt, if_pos hax, ih (fun b hb => hg b (by simp [hb])) (fun b hb => hne b (by simp [hb]))]

theorem insert_pairwise (x : Item) (hx : Good x) (l : List Item) (hpw : l.Pairwise ILt)
    (hg : ∀ a ∈ l, Good a) (hne : ∀ a ∈ l, a.2 ≠ x.2) : (Spec.ZSet.insert x l).Pairwise ILt := by
  rw [insert_eq_slInsert x hx l hg hne]
  exact slInsert_pairwise x.2 x.1 hx l hpw hg hne
theorem mem_sort (y : Item) : ∀ (l : List Item), y ∈ Spec.ZSet.sort l ↔ y ∈ l := by
  intro l
  induction l with
  | nil => simp [Spec.ZSet.sort]
  | cons a l ih => simp [Spec.ZSet.sort, mem_insert, ih]

theorem sort_pairwise : ∀ (l : List Item), (∀ a ∈ l, Good a) → l.Pairwise (fun a b => a.2 ≠ b.2) →
    (Spec.ZSet.sort l).Pairwise ILt := by
  intro l
  induction l with
  | nil => intro _ _; simp [Spec.ZSet.sort]
  | cons a l ih =>
    intro hg hd
    obtain ⟨h1, h2⟩ := List.pairwise_cons.mp hd
    unfold Spec.ZSet.sort
    apply insert_pairwise a (hg a (by simp)) _ (ih (fun b hb => hg b (by simp [hb])) h2)
    · intro b hb; exact hg b (by simp [(mem_sort b l).mp hb])
    · intro b hb; exact Ne.symm (h1 b ((mem_sort b l).mp hb))

theorem mem_sorted (z : ZSet) (s : F64) (m : Bytes) : (s, m) ∈ Spec.ZSet.sorted z ↔ (m, s) ∈ z.dict := by
  unfold Spec.ZSet.sorted
  rw [mem_sort]
  exact mem_map_swap z.dict s m

theorem sorted_pairwise_of_dict (z : ZSet) (hd : z.dict.Pairwise KeyLt)
    (hn : ∀ p ∈ z.dict, F64.isNaN p.2 = false) : (Spec.ZSet.sorted z).Pairwise ILt := by
  unfold Spec.ZSet.sorted
  apply sort_pairwise
  · intro a ha
    obtain ⟨p, hp, rfl⟩ := List.mem_map.mp ha
    exact hn p hp
  · rw [List.pairwise_map]
    exact hd.imp (fun hab => lt_ne _ _ hab)

/-- the index never disagrees with the dictionary -/
theorem sl_eq_sorted {z : ZSet} (h : Inv z) : z.sl = Spec.ZSet.sorted z := by
  have hs := sorted_pairwise_of_dict z h.dictPW h.noNaN
  apply sorted_ext (fun a b => ILt a b) _ _ _ h.slPW hs
  · rintro ⟨s, m⟩
    rw [h.mem_iff, mem_sorted]
  · intro a ha b hb hab hba
    exact itemLt_asymm a b (h.good a ha) (h.good b hb) hab hba

theorem inv_sorted (z : ZSet) (hd : z.dict.Pairwise KeyLt) (hn : ∀ p ∈ z.dict, F64.isNaN p.2 = false) :
    Inv { dict := z.dict, sl := Spec.ZSet.sorted z } :=
  ⟨hd, hn, sorted_pairwise_of_dict z hd hn, fun s m => mem_sorted z s m⟩

/-- both references (`Spec.ZSet.score`, `Spec.ZAdd.find`) look a member up with `find?` -/
theorem find?_eq_get? (d : AList F64) (m : Bytes) :
    (d.find? fun p => p.1 = m).map (·.2) = AList.get? d m := by
  induction d with
  | nil => rfl
  | cons p rest ih =>
    obtain ⟨k, v⟩ := p
    simp only [List.find?_cons, AList.get?]
    by_cases hk : k = m
    · simp [hk]
    · simpa [hk] using ih

theorem score_eq_get? (z : ZSet) (m : Bytes) : Spec.ZSet.score z m = AList.get? z.dict m :=
  find?_eq_get? z.dict m

theorem members_nodup {z : ZSet} (h : Inv z) : (z.sl.map (·.2)).Nodup := by
  have hp := h.perm
  have : (z.sl.map (·.2)).Perm ((z.dict.map swap).map (·.2)) := hp.map _
  refine this.nodup_iff.mpr ?_
  rw [List.map_map]
  unfold List.Nodup
  rw [List.pairwise_map]
  exact h.dictPW.imp (fun hab => lt_ne _ _ hab)

theorem takeWhile_split {α : Type} (p : α → Bool) (x : α) (l1 l2 : List α)
    (h1 : ∀ a ∈ l1, p a = true) (hx : p x = true) (h2 : ∀ b, l2.head? = some b → p b = false) :
    (l1 ++ x :: l2).takeWhile p = l1 ++ [x] := by
  rw [List.takeWhile_append_of_pos h1, List.takeWhile_cons_of_pos hx]
  cases l2 with
  | nil => rfl
  | cons b l2 => rw [List.takeWhile_cons_of_neg (by rw [h2 b rfl]; exact Bool.false_ne_true)]

theorem findIdx?_split (p : Item → Bool) (x : Item) : ∀ (l1 l2 : List Item),
    (∀ a ∈ l1, p a = false) → p x = true → (l1 ++ x :: l2).findIdx? p = some l1.length := by
  intro l1
  induction l1 with
  | nil => intro l2 _ hx; simp [List.findIdx?_cons, hx]
  | cons a l1 ih =>
    intro l2 h1 hx
    simp only [List.cons_append, List.findIdx?_cons, h1 a (by simp), Bool.false_eq_true, if_false,
      List.length_cons]
    rw [ih l2 (fun b hb => h1 b (by simp [hb])) hx]
    rfl

theorem le_of_lt (a b : Bytes) (h : Bytes.lt a b = true) : Bytes.le a b = true := by
  unfold Bytes.le
  rw [lt_asymm a b h]
  rfl

theorem slGetRank_split (l1 l2 : List Item) (sc : F64) (m : Bytes)
    (hpw : (l1 ++ (sc, m) :: l2).Pairwise ILt) (hg : ∀ a ∈ l1 ++ (sc, m) :: l2, Good a) :
    slGetRank (l1 ++ (sc, m) :: l2) m sc = (l1.length : Int) + 1 := by
  have hgx : Good (sc, m) := hg _ (by simp)
  have hsc : F64.isNaN sc = false := hgx
  obtain ⟨_, hx2, hcross⟩ := List.pairwise_append.mp hpw
  obtain ⟨hx_lt, _⟩ := List.pairwise_cons.mp hx2
  unfold slGetRank
  simp only
  rw [takeWhile_split _ (sc, m) l1 l2]
  · simp
  · intro a ha
    have hlt : ILt a (sc, m) := hcross a ha (sc, m) (by simp)
    have hga : Good a := hg a (by simp [ha])
    rw [ILt, itemLt_iff a (sc, m) hga hgx] at hlt
    have han : F64.isNaN a.1 = false := hga
    simp only [F64.lt, F64.eq, han, hsc, Bool.not_false, Bool.true_and, Bool.or_eq_true,
      decide_eq_true_eq, Bool.and_eq_true, beq_iff_eq]
    rcases hlt with h | ⟨h1, h2⟩
    · exact Or.inl h
    · exact Or.inr ⟨h1, le_of_lt _ _ h2⟩
  · simp [F64.eq, hsc, Bytes.le, lt_irrefl]
  · intro b hb
    have hbm : b ∈ l2 := by
      cases l2 with
      | nil => simp at hb
      | cons c l2 => simp only [List.head?_cons, Option.some.injEq] at hb; simp [hb]
    have hlt : ILt (sc, m) b := hx_lt b hbm
    have hgb : Good b := hg b (by simp [hbm])
    rw [ILt, itemLt_iff (sc, m) b hgx hgb] at hlt
    have hbn : F64.isNaN b.1 = false := hgb
    simp only [F64.lt, F64.eq, hbn, hsc, Bool.not_false, Bool.true_and, Bool.or_eq_false_iff,
      decide_eq_false_iff_not, Bool.and_eq_false_iff, beq_eq_false_iff_ne, Bytes.le,
      Bool.not_eq_false']
    simp only at hlt
    rcases hlt with h | ⟨h1, h2⟩
    · exact ⟨by omega, Or.inl (by omega)⟩
    · exact ⟨by omega, Or.inr h2⟩

theorem rankOf_split (l1 l2 : List Item) (sc : F64) (m : Bytes)
    (hnd : ((l1 ++ (sc, m) :: l2).map (·.2)).Nodup) :
    Spec.ZSet.rankOf (l1 ++ (sc, m) :: l2) m = some l1.length := by
  unfold Spec.ZSet.rankOf
  apply findIdx?_split
  · intro a ha
    simp only [decide_eq_false_iff_not]
    intro e
    rw [List.map_append, List.map_cons] at hnd
    have := (List.nodup_append.mp hnd).2.2 a.2 (List.mem_map.mpr ⟨a, ha, rfl⟩) m (by simp)
    exact this e
  · simp

theorem rankOf_none (l : List Item) (m : Bytes) (h : ∀ a ∈ l, a.2 ≠ m) :
    Spec.ZSet.rankOf l m = none := by
  unfold Spec.ZSet.rankOf
  rw [List.findIdx?_eq_none_iff]
  intro a ha
  simpa using h a ha

/-- a member sits behind `k` nodes of the chain: the walk of `getRank` counts `k + 1`, the reference
    position is `k` -/
theorem rank_at {z : ZSet} (h : Inv z) (m : Bytes) (sc : F64) (hget : AList.get? z.dict m = some sc) :
    ∃ k : Nat, slGetRank z.sl m sc = (k : Int) + 1 ∧ Spec.ZSet.rankOf z.sl m = some k := by
  obtain ⟨l1, l2, hl⟩ := List.append_of_mem ((h.get_iff sc m).mp hget)
  have hpw := h.slPW
  have hg := h.good
  have hnd := members_nodup h
  rw [hl] at hpw hg hnd ⊢
  exact ⟨l1.length, slGetRank_split l1 l2 sc m hpw hg, rankOf_split l1 l2 sc m hnd⟩

/-- ZRANK (`desc := false`) and ZREVRANK (`desc := true`): the walk counts from 1, the reference position from 0, and
    the descending rank is `length − r`. The left side is what `zRank z m` / `zRevRank z m` unfold to, the right side at
    `desc = false` / `true` what `Spec.ZSet.rank z m` / `Spec.ZSet.revRank z m` unfold to. -/
theorem rankBy_spec {z : ZSet} (h : Inv z) (m : Bytes) (desc : Bool) :
    (if AList.contains z.dict m then some (getRank z m desc) else none) =
      (Spec.ZSet.rankOf (Spec.ZSet.sorted z) m).map fun (r : Nat) =>
        if desc then (Spec.ZSet.card z : Int) - 1 - (r : Int) else (r : Int) := by
  unfold Spec.ZSet.card AList.contains getRank
  rw [← sl_eq_sorted h]
  cases hget : AList.get? z.dict m with
  | none =>
    simp only [Option.isSome_none, Bool.false_eq_true, if_false]
    rw [rankOf_none z.sl m (h.not_mem_of_get?_none m hget)]
    rfl
  | some sc =>
    obtain ⟨k, h1, h2⟩ := rank_at h m sc hget
    simp only [Option.isSome_some, if_true, h1, h2, Option.map_some, Option.some.injEq]
    cases desc <;> simp only [Bool.false_eq_true, if_true, if_false] <;> omega

end NodisVerif.Proofs.C04

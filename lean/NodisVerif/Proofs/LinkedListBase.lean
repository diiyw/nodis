import NodisVerif.Model.LinkedList
/-
  Pointer-level list (Model/LinkedList.lean): the invariant, the chain predicate `Seg` (a doubly linked
  segment in the sense of separation logic, but over an explicit heap), frame lemmas, what the heap
  primitives do to a segment, the two walks along a chain; then the list read from the other end
  (`PList.mirror`), on which RPop, lRevRem and insert-after rest.
-/
namespace NodisVerif.LinkedList

def hd (rest : List Nat) (q : Option Nat) : Option Nat :=
  match rest with
  | [] => q
  | j :: _ => some j

def lst (c : List Nat) (p : Option Nat) : Option Nat :=
  match c.getLast? with
  | some x => some x
  | none => p

/-- `Seg h p c q`: the nodes `c` are linked in this order; the first one's `prev` is `p`, the last one's
    `next` is `q` -/
def Seg (h : Heap) : Option Nat → List Nat → Option Nat → Prop
  | _, [], _ => True
  | p, i :: rest, q => ∃ n, h[i]? = some n ∧ n.prev = p ∧ n.next = hd rest q ∧ Seg h (some i) rest q

/-- the invariant with its witness: `c` is the chain of live nodes from head to tail -/
structure InvC (l : PList) (c : List Nat) : Prop where
  nodup : c.Nodup
  seg : Seg l.heap none c none
  head : l.head = c.head?
  tail : l.tail = c.getLast?
  length : l.length = c.length

/-- the invariant of the doubly linked list: there is a chain of distinct heap indexes, head = first,
    tail = last (both nil iff the chain is empty), next of c[i] = c[i+1] (nil for the last), prev of
    c[i] = c[i-1] (nil for the first), length = |c| -/
def Inv (l : PList) : Prop := ∃ c, InvC l c

@[simp] theorem hd_nil (q) : hd [] q = q := rfl
@[simp] theorem hd_cons (j rest q) : hd (j :: rest) q = some j := rfl
@[simp] theorem lst_nil (p) : lst [] p = p := rfl
@[simp] theorem lst_concat (a : List Nat) (x p) : lst (a ++ [x]) p = some x := by simp [lst]
@[simp] theorem lst_singleton (x p) : lst [x] p = some x := by simp [lst]
theorem lst_cons (i : Nat) (a : List Nat) (p) : lst (i :: a) p = lst a (some i) := by
  cases a with
  | nil => simp [lst]
  | cons j a =>
    unfold lst
    rw [List.getLast?_cons_cons]
    cases hl : (j :: a).getLast? with
    | none => simp at hl
    | some x => rfl
theorem hd_none (c : List Nat) : hd c none = c.head? := by cases c <;> rfl
theorem lst_none (c : List Nat) : lst c none = c.getLast? := by
  unfold lst; cases c.getLast? <;> rfl
theorem hd_append (a b : List Nat) (q) : hd (a ++ b) q = hd a (hd b q) := by cases a <;> rfl
theorem lst_append (a b : List Nat) (p) : lst (a ++ b) p = lst b (lst a p) := by
  unfold lst
  rw [List.getLast?_append]
  cases b.getLast? <;> simp

@[simp] theorem seg_nil (h p q) : Seg h p [] q := trivial

theorem seg_cons (h : Heap) (p q) (i : Nat) (rest : List Nat) :
    Seg h p (i :: rest) q ↔ ∃ n, h[i]? = some n ∧ n.prev = p ∧ n.next = hd rest q ∧ Seg h (some i) rest q :=
  Iff.rfl

theorem seg_append (h : Heap) (a b : List Nat) (p q : Option Nat) :
    Seg h p (a ++ b) q ↔ Seg h p a (hd b q) ∧ Seg h (lst a p) b q := by
  induction a generalizing p with
  | nil => simp
  | cons i a ih =>
    simp only [List.cons_append, seg_cons, ih, hd_append, lst_cons]
    constructor
    · rintro ⟨n, h1, h2, h3, h4, h5⟩; exact ⟨⟨n, h1, h2, h3, h4⟩, h5⟩
    · rintro ⟨⟨n, h1, h2, h3, h4⟩, h5⟩; exact ⟨n, h1, h2, h3, h4, h5⟩

theorem seg_frame (h h' : Heap) (c : List Nat) (p q : Option Nat)
    (hf : ∀ i ∈ c, h'[i]? = h[i]?) (hs : Seg h p c q) : Seg h' p c q := by
  induction c generalizing p with
  | nil => trivial
  | cons i c ih =>
    obtain ⟨n, h1, h2, h3, h4⟩ := hs
    refine ⟨n, ?_, h2, h3, ih _ (fun j hj => hf j (List.mem_cons_of_mem _ hj)) h4⟩
    rw [hf i (List.mem_cons_self ..)]; exact h1

theorem get_lt_of_some {h : Heap} {i : Nat} {n : Node} (hn : h[i]? = some n) : i < h.size := by
  by_cases hlt : i < h.size
  · exact hlt
  · rw [Array.getElem?_eq_none (by omega)] at hn; cases hn

theorem seg_lt (h : Heap) (c : List Nat) (p q : Option Nat) (hs : Seg h p c q) : ∀ i ∈ c, i < h.size := by
  induction c generalizing p with
  | nil => intro i hi; cases hi
  | cons j c ih =>
    obtain ⟨n, h1, _, _, h4⟩ := hs
    intro i hi
    rcases List.mem_cons.mp hi with rfl | hi
    · exact get_lt_of_some h1
    · exact ih _ h4 i hi

theorem seg_mid (h : Heap) (a b : List Nat) (x : Nat) (p q : Option Nat) (hs : Seg h p (a ++ x :: b) q) :
    ∃ n, h[x]? = some n ∧ n.prev = lst a p ∧ n.next = hd b q := by
  rw [seg_append] at hs
  obtain ⟨_, n, h1, h2, h3, _⟩ := hs
  exact ⟨n, h1, h2, h3⟩

theorem nodup_length_le (c : List Nat) (n : Nat) (hn : c.Nodup) (hlt : ∀ i ∈ c, i < n) : c.length ≤ n := by
  have := List.Nodup.length_le_of_subset (l₂ := List.range n) hn (fun i hi => List.mem_range.mpr (hlt i hi))
  simpa using this

theorem InvC.length_le {l : PList} {c : List Nat} (hi : InvC l c) : c.length ≤ l.heap.size :=
  nodup_length_le c _ hi.nodup (seg_lt _ _ _ _ hi.seg)

theorem rd_ok {h : Heap} {i : Nat} {n : Node} (hn : h[i]? = some n) : rd h i = .ok n := by
  simp [rd, hn]
theorem setNext_ok {h : Heap} {i : Nat} {n : Node} (hn : h[i]? = some n) (v) :
    setNext h i v = .ok (h.setIfInBounds i { n with next := v }) := by simp [setNext, hn]
theorem setPrev_ok {h : Heap} {i : Nat} {n : Node} (hn : h[i]? = some n) (v) :
    setPrev h i v = .ok (h.setIfInBounds i { n with prev := v }) := by simp [setPrev, hn]
theorem setData_ok {h : Heap} {i : Nat} {n : Node} (hn : h[i]? = some n) (v) :
    setData h i v = .ok (h.setIfInBounds i { n with data := v }) := by simp [setData, hn]

theorem get_set_ne (h : Heap) (i j : Nat) (v : Node) (hne : i ≠ j) : (h.setIfInBounds i v)[j]? = h[j]? := by
  simp [hne]
theorem get_set_eq (h : Heap) (i : Nat) (n v : Node) (hn : h[i]? = some n) : (h.setIfInBounds i v)[i]? = some v := by
  simp [get_lt_of_some hn]
theorem get_push_lt (h : Heap) (i : Nat) (v : Node) (hlt : i < h.size) : (h.push v)[i]? = h[i]? := by
  simp [Array.getElem?_push]; omega

theorem seg_set_notin (h : Heap) (c : List Nat) (p q) (k : Nat) (v : Node) (hk : k ∉ c)
    (hs : Seg h p c q) : Seg (h.setIfInBounds k v) p c q :=
  seg_frame h _ c p q (fun i hi => get_set_ne h k i v (fun e => hk (e ▸ hi))) hs

theorem seg_push (h : Heap) (c : List Nat) (p q) (v : Node) (hs : Seg h p c q) : Seg (h.push v) p c q :=
  seg_frame h _ c p q (fun i hi => get_push_lt h i v (seg_lt h c p q hs i hi)) hs

/-- `last.next = v` -/
theorem seg_setNext_last (h : Heap) (a : List Nat) (y : Nat) (p q v) (n : Node) (hy : y ∉ a)
    (hn : h[y]? = some n) (hs : Seg h p (a ++ [y]) q) :
    Seg (h.setIfInBounds y { n with next := v }) p (a ++ [y]) v := by
  rw [seg_append] at hs ⊢
  obtain ⟨h1, m, hm, hp, _, _⟩ := hs
  have : m = n := by rw [hn] at hm; cases hm; rfl
  subst this
  refine ⟨seg_set_notin h a p _ y _ hy h1, _, get_set_eq h y m _ hn, hp, rfl, trivial⟩

/-- `first.prev = v` -/
theorem seg_setPrev_first (h : Heap) (b : List Nat) (y : Nat) (p q v) (n : Node) (hy : y ∉ b)
    (hn : h[y]? = some n) (hs : Seg h p (y :: b) q) :
    Seg (h.setIfInBounds y { n with prev := v }) v (y :: b) q := by
  obtain ⟨m, hm, _, hnx, h4⟩ := hs
  have : m = n := by rw [hn] at hm; cases hm; rfl
  subst this
  exact ⟨_, get_set_eq h y m _ hn, rfl, hnx, seg_set_notin h b _ q y _ hy h4⟩

theorem dataAt_of {h : Heap} {i : Nat} {n : Node} (hn : h[i]? = some n) : dataAt h i = n.data := by
  simp [dataAt, hn]

theorem dataAt_set_next (h : Heap) (k : Nat) (n : Node) (v) (hn : h[k]? = some n) (i : Nat) :
    dataAt (h.setIfInBounds k { n with next := v }) i = dataAt h i := by
  by_cases e : k = i
  · subst e; simp [dataAt, get_set_eq h k n _ hn, hn]
  · simp [dataAt, get_set_ne h k i _ e]
theorem dataAt_set_prev (h : Heap) (k : Nat) (n : Node) (v) (hn : h[k]? = some n) (i : Nat) :
    dataAt (h.setIfInBounds k { n with prev := v }) i = dataAt h i := by
  by_cases e : k = i
  · subst e; simp [dataAt, get_set_eq h k n _ hn, hn]
  · simp [dataAt, get_set_ne h k i _ e]
theorem dataAt_push (h : Heap) (v : Node) (i : Nat) (hlt : i < h.size) : dataAt (h.push v) i = dataAt h i := by
  simp [dataAt, get_push_lt h i v hlt]

theorem walkNext_seg (h : Heap) (c : List Nat) (p : Option Nat) (fuel : Nat) (hf : c.length ≤ fuel)
    (hs : Seg h p c none) : walkNext fuel h (hd c none) = c := by
  induction c generalizing p fuel with
  | nil => cases fuel <;> rfl
  | cons i c ih =>
    obtain ⟨n, h1, _, h3, h4⟩ := hs
    cases fuel with
    | zero => simp at hf
    | succ fuel =>
      simp only [hd_cons, walkNext, h1, h3]
      rw [ih _ fuel (by simpa using hf) h4]

theorem walkPrev_seg (h : Heap) (c : List Nat) (q : Option Nat) (fuel : Nat) (hf : c.length ≤ fuel)
    (hs : Seg h none c q) : walkPrev fuel h (lst c none) = c.reverse := by
  induction fuel generalizing c q with
  | zero =>
    have : c = [] := List.eq_nil_of_length_eq_zero (by omega)
    subst this; rfl
  | succ fuel ih =>
    rcases List.eq_nil_or_concat c with rfl | ⟨a, x, rfl⟩
    · rfl
    · rw [List.concat_eq_append] at hs hf ⊢
      obtain ⟨n, h1, h2, _⟩ := seg_mid h a [] x none q hs
      rw [seg_append] at hs
      simp only [lst_concat, walkPrev, h1, h2, List.reverse_append, List.reverse_cons, List.reverse_nil,
        List.nil_append, List.cons_append, List.cons.injEq, true_and]
      exact ih a _ (by simp at hf; omega) hs.1

theorem fwdIdx_eq {l : PList} {c : List Nat} (hi : InvC l c) : fwdIdx l = c := by
  unfold fwdIdx
  rw [hi.head, ← hd_none]
  exact walkNext_seg _ c none _ (by have := hi.length_le; omega) hi.seg

theorem bwdIdx_eq {l : PList} {c : List Nat} (hi : InvC l c) : bwdIdx l = c.reverse := by
  unfold bwdIdx
  rw [hi.tail, ← lst_none]
  exact walkPrev_seg _ c none _ (by have := hi.length_le; omega) hi.seg

theorem InvC.unique {l : PList} {c c' : List Nat} (h1 : InvC l c) (h2 : InvC l c') : c = c' := by
  rw [← fwdIdx_eq h1, ← fwdIdx_eq h2]

theorem abs_eq {l : PList} {c : List Nat} (hi : InvC l c) : abs l = c.map (dataAt l.heap) := by
  unfold abs fwd; rw [fwdIdx_eq hi]

theorem Inv.invC {l : PList} (h : Inv l) : InvC l (fwdIdx l) := by
  obtain ⟨c, hc⟩ := h
  rw [fwdIdx_eq hc]; exact hc

theorem map_dataAt_congr (h h' : Heap) (c : List Nat) (hf : ∀ i ∈ c, dataAt h' i = dataAt h i) :
    c.map (dataAt h') = c.map (dataAt h) :=
  List.map_congr_left hf

theorem absL_eq {l : PList} {c : List Nat} (hi : InvC l c) :
    absL l = { items := c.map (dataAt l.heap), length := c.length } := by
  unfold absL; rw [abs_eq hi, hi.length]

theorem empty_invC : InvC empty [] :=
  { nodup := List.nodup_nil, seg := trivial, head := rfl, tail := rfl, length := rfl }

/-! ### the list read from the other end

  linked_list.go writes RPop, lRevRem and insert-after as the mirror images of LPop, lRem and insert-before
  (`next` for `prev`, `tail` for `head`; RPush is not one: it tests `head` and stores in another order).
  `PList.mirror` exchanges the two pointers of every node and the two ends of the list; the heap primitives
  commute with it, so such a method is the head-side method on the mirrored list (`*_mirror` next to each
  pair), and its specification is the head-side one read backwards. -/

def Node.mirror (n : Node) : Node := { data := n.data, next := n.prev, prev := n.next }

def PList.mirror (l : PList) : PList :=
  { heap := l.heap.map Node.mirror, head := l.tail, tail := l.head, length := l.length }

def Res.map {α β : Type} (f : α → β) : Res α → Res β
  | .ok a => .ok (f a)
  | .panic => .panic
  | .fuel => .fuel

@[simp] theorem Res.map_ok {α β : Type} (a : α) (f : α → β) : (Res.ok a).map f = .ok (f a) := rfl
theorem Res.bind_map {α β γ : Type} (x : Res α) (f : α → β) (g : β → Res γ) :
    (x.map f >>= g) = x >>= fun a => g (f a) := by cases x <;> rfl
theorem Res.map_bind {α β γ : Type} (x : Res α) (g : α → Res β) (f : β → γ) :
    (x >>= g).map f = x >>= fun a => (g a).map f := by cases x <;> rfl

@[simp] theorem Node.mirror_mirror (n : Node) : n.mirror.mirror = n := rfl

theorem PList.mirror_heap (l : PList) : l.mirror.heap = l.heap.map Node.mirror := rfl

@[simp] theorem PList.mirror_mirror (l : PList) : l.mirror.mirror = l := by
  have : Node.mirror ∘ Node.mirror = id := funext Node.mirror_mirror
  cases l; simp only [PList.mirror, Array.map_map, this, Array.map_id]

theorem get_mirror {h : Heap} {i : Nat} {n : Node} (hn : h[i]? = some n) :
    (h.map Node.mirror)[i]? = some n.mirror := by
  rw [Array.getElem?_map, hn]; rfl

theorem rd_mirror (h : Heap) (i : Nat) : rd (h.map Node.mirror) i = (rd h i).map Node.mirror := by
  unfold rd; rw [Array.getElem?_map]; cases h[i]? <;> rfl

theorem setNext_mirror (h : Heap) (i : Nat) (v : Option Nat) :
    setNext (h.map Node.mirror) i v = (setPrev h i v).map (·.map Node.mirror) := by
  unfold setNext setPrev; rw [Array.getElem?_map]
  cases h[i]? with
  | none => rfl
  | some n => simp [Res.map, Node.mirror]

theorem setPrev_mirror (h : Heap) (i : Nat) (v : Option Nat) :
    setPrev (h.map Node.mirror) i v = (setNext h i v).map (·.map Node.mirror) := by
  unfold setNext setPrev; rw [Array.getElem?_map]
  cases h[i]? with
  | none => rfl
  | some n => simp [Res.map, Node.mirror]

theorem push_mirror (h : Heap) (d : Bytes) :
    (h.map Node.mirror).push { data := d } = (h.push { data := d }).map Node.mirror := by
  rw [Array.map_push]; rfl

theorem dataAt_mirror (h : Heap) : dataAt (h.map Node.mirror) = dataAt h := by
  funext i; unfold dataAt; rw [Array.getElem?_map]; cases h[i]? <;> rfl

theorem lst_reverse (c : List Nat) (q : Option Nat) : lst c.reverse q = hd c q := by
  cases c with
  | nil => rfl
  | cons j c => rw [List.reverse_cons, lst_concat]; rfl

theorem seg_mirror (h : Heap) (c : List Nat) (p q : Option Nat) (hs : Seg h p c q) :
    Seg (h.map Node.mirror) q c.reverse p := by
  induction c generalizing p with
  | nil => trivial
  | cons i c ih =>
    obtain ⟨n, h1, h2, h3, h4⟩ := hs
    rw [List.reverse_cons, seg_append]
    exact ⟨ih _ h4, n.mirror, get_mirror h1, by rw [lst_reverse]; exact h3, h2, trivial⟩

theorem nodup_reverse {c : List Nat} (h : c.Nodup) : c.reverse.Nodup := by
  unfold List.Nodup at *
  rw [List.pairwise_reverse]
  exact h.imp Ne.symm

theorem InvC.mirror {l : PList} {c : List Nat} (hi : InvC l c) : InvC l.mirror c.reverse :=
  ⟨nodup_reverse hi.nodup, seg_mirror _ _ _ _ hi.seg,
    by rw [List.head?_reverse]; exact hi.tail, by rw [List.getLast?_reverse]; exact hi.head,
    by rw [List.length_reverse]; exact hi.length⟩

theorem abs_mirror {l : PList} {c : List Nat} (hi : InvC l c) : abs l.mirror = (abs l).reverse := by
  rw [abs_eq hi.mirror, abs_eq hi, List.map_reverse]
  show (c.map (dataAt (l.heap.map Node.mirror))).reverse = _
  rw [dataAt_mirror]

theorem absL_mirror {l : PList} {c : List Nat} (hi : InvC l c) :
    absL l.mirror = { items := (absL l).items.reverse, length := (absL l).length } := by
  unfold absL; rw [abs_mirror hi]; rfl

end NodisVerif.LinkedList

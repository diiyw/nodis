import NodisVerif.Proofs.StoreView
/-
  The logical content of a key, for every store state: the third store layer (StoreLemmas: the index; StoreView: the
  observable record; here: what a client can read).

  `lookup s now k` is what a read at `now` would find under `k` (value, deadline, whether the record is hot), `live` /
  `liveExp` its value and deadline, `logical` the whole keyspace; `Hot` / `HotExp` say that the record in the index
  carries a value / a deadline.  They are readings of `Store.vis` (`lookup_eq_vis`), and the lookup is described by
  them (`accessKey_live`, `accessKey_absent`).  The names are in `Proofs.C01`.
-/
namespace NodisVerif.Proofs.C01
open NodisVerif
open NodisVerif.Proofs.AListLemmas NodisVerif.Proofs.AListLemmas2
open Store Api

/-- the index is key-sorted, as the btree guarantees -/
def IndexSorted (s : MState) : Prop := AList.Sorted s.index

/-- what the record `m` indexed under `k` resolves to when it is looked up: its hot value, or
    else what the backend hands back for it (`none` = cold and not loadable) -/
def resolve (s : MState) (k : Bytes) (m : Meta) : Option Val :=
  match m.value with
  | some v => some v
  | none => (loadValue s k m).map (·.1)

/-- the logical content of one record: resolved value, deadline, ok flag -/
def entryView (s : MState) (k : Bytes) (m : Meta) : Option Val × Int × Bool :=
  (resolve s k m, m.exp, m.isOk)

/-- the logical content of the record indexed under `k`, if it is not expired at `now` -/
def lookup (s : MState) (now : Int) (k : Bytes) : Option (Option Val × Int × Bool) :=
  match getMeta s k with
  | some m => if m.expired now then none else some (entryView s k m)
  | none => none

/-- name, resolved value, deadline and ok flag of every non-expired record, in index order.
    `count`, lock state, ids, `signalled`, `held`, `feed`, the modified bit are not part of it. -/
def logical (s : MState) (now : Int) : AList (Option Val × Int × Bool) :=
  (s.index.filter fun p => !p.2.expired now).map fun p => (p.1, entryView s p.1 p.2)

/-- the value a command finds under `k` (what `readKey`/`writeKey` deliver): the record exists, is
    ok, is not expired, and its value is hot or loadable -/
def live (s : MState) (now : Int) (k : Bytes) : Option Val :=
  match getMeta s k with
  | some m => if m.isOk && !m.expired now then resolve s k m else none
  | none => none

def liveExp (s : MState) (now : Int) (k : Bytes) : Option Int :=
  match getMeta s k with
  | some m => if m.isOk && !m.expired now && (resolve s k m).isSome then some m.exp else none
  | none => none

def Hot (s : MState) (k : Bytes) (v : Val) (now : Int) : Prop :=
  ∃ m, getMeta s k = some m ∧ m.isOk = true ∧ m.expired now = false ∧ m.value = some v

def HotExp (s : MState) (k : Bytes) (e : Int) : Prop := ∃ m, getMeta s k = some m ∧ m.exp = e

/-- `live` and `liveExp` are projections of `lookup` (the three are defined side by side from the record) -/
theorem live_eq_of_lookup (s : MState) (now : Int) (k : Bytes) :
    live s now k = match lookup s now k with
      | some (v, _, true) => v
      | _ => none := by
  unfold live lookup
  cases getMeta s k with
  | none => rfl
  | some m =>
    simp only [entryView]
    cases m.expired now <;> cases m.isOk <;> rfl

theorem liveExp_eq_of_lookup (s : MState) (now : Int) (k : Bytes) :
    liveExp s now k = match lookup s now k with
      | some (some _, e, true) => some e
      | _ => none := by
  unfold liveExp lookup
  cases getMeta s k with
  | none => rfl
  | some m =>
    simp only [entryView]
    cases m.expired now <;> cases m.isOk <;> cases resolve s k m <;> rfl

theorem live_congr {s s' : MState} {now : Int} {k : Bytes} (h : lookup s' now k = lookup s now k) :
    live s' now k = live s now k := by
  rw [live_eq_of_lookup, live_eq_of_lookup, h]

theorem liveExp_congr {s s' : MState} {now : Int} {k : Bytes} (h : lookup s' now k = lookup s now k) :
    liveExp s' now k = liveExp s now k := by
  rw [liveExp_eq_of_lookup, liveExp_eq_of_lookup, h]

theorem lookup_of_hot {s : MState} {k : Bytes} {v : Val} {now : Int} {e : Int} (h : Hot s k v now) (he : HotExp s k e) :
    lookup s now k = some (some v, e, true) := by
  obtain ⟨m, hm, hok, hex, hv⟩ := h
  obtain ⟨m', hm', he'⟩ := he
  rw [hm] at hm'; cases hm'
  unfold lookup entryView resolve
  rw [hm]
  simp only [hex, Bool.false_eq_true, if_false, hv, he', hok]

theorem live_of_hot {s : MState} {now : Int} {k : Bytes} {v : Val} (h : Hot s k v now) : live s now k = some v := by
  obtain ⟨m, hm, rest⟩ := h
  rw [live_eq_of_lookup, lookup_of_hot ⟨m, hm, rest⟩ ⟨m, hm, rfl⟩]

theorem liveExp_of_hot {s : MState} {k : Bytes} {v : Val} {now : Int} {e : Int} (h : Hot s k v now) (he : HotExp s k e) :
    liveExp s now k = some e := by
  rw [liveExp_eq_of_lookup, lookup_of_hot h he]

theorem liveExp_none_of_live {s : MState} {now : Int} {k : Bytes} (h : live s now k = none) :
    liveExp s now k = none := by
  rw [live_eq_of_lookup] at h
  rw [liveExp_eq_of_lookup]
  cases hl : lookup s now k with
  | none => rfl
  | some p =>
    obtain ⟨v, e, b⟩ := p
    rw [hl] at h
    cases b
    · cases v <;> rfl
    · simp only at h
      subst h; rfl

theorem nkBase_sameDisk (s : MState) (k : Bytes) (old : Option Meta) (h : old.isSome = true ∨ getMeta s k = none) :
    SameDisk s (nkBase s k old) := by
  unfold nkBase
  cases old with
  | some m => exact ⟨rfl, rfl⟩
  | none =>
    rcases h with h | h
    · cases h
    · rw [show getMeta ({ s with nextId := s.nextId + 1 + 1 } : MState) k = getMeta s k from rfl, h]
      exact ⟨rfl, rfl⟩

theorem sameDisk_newKeyWith (s : MState) (k : Bytes) (old : Option Meta) (v : Val)
    (h : old.isSome = true ∨ getMeta s k = none) : SameDisk s (newKeyWith s k old v) := by
  rw [newKeyWith_eq]
  exact (nkBase_sameDisk s k old h).trans ⟨rfl, rfl⟩

theorem resolve_congr {s s' : MState} (h : SameDisk s s') (k : Bytes) (m m' : Meta) (he : m'.exp = m.exp)
    (hv : m'.value = m.value) : resolve s' k m' = resolve s k m := by
  unfold resolve
  rw [hv, loadValue_congr h k m m' he]

theorem entryView_congr {s s' : MState} (h : SameDisk s s') (k : Bytes) (m m' : Meta) (he : m'.exp = m.exp)
    (hv : m'.value = m.value) (ho : m'.isOk = m.isOk) : entryView s' k m' = entryView s k m := by
  unfold entryView
  rw [resolve_congr h k m m' he hv, he, ho]

theorem lookup_congr {s s' : MState} (h : SameDisk s s') (now : Int) (k : Bytes)
    (hm : getMeta s' k = getMeta s k) : lookup s' now k = lookup s now k := by
  unfold lookup
  rw [hm]
  cases getMeta s k with
  | none => rfl
  | some m => simp only [entryView_congr h k m m rfl rfl rfl]

theorem resolveR_recOf (s : MState) (k : Bytes) (m : Meta) : StoreView.resolveR (recOf s k m) = resolve s k m := by
  unfold StoreView.resolveR recOf resolve
  cases m.value <;> rfl

theorem lookup_eq_vis (s : MState) (now : Int) (k : Bytes) :
    lookup s now k = (vis now s k).map StoreView.eview := by
  unfold lookup
  cases hm : getMeta s k with
  | none => rw [C10.vis_none_of_getMeta hm]; rfl
  | some m =>
    rw [C10.vis_eq_of_getMeta hm]
    simp only [entryView, ← resolveR_recOf]
    split <;> rfl

theorem rkOk_of_live {s : MState} {now : Int} {k : Bytes} {v : Val} (h : live s now k = some v) :
    ∃ r, vis now s k = some r ∧ C10.rkOk (some r) = true ∧ StoreView.resolveR r = some v := by
  rw [live_eq_of_lookup, lookup_eq_vis] at h
  cases hv : vis now s k with
  | none => rw [hv] at h; cases h
  | some r =>
    rw [hv] at h
    simp only [Option.map_some, StoreView.eview] at h
    cases hok : r.ok with
    | false => rw [hok] at h; cases h
    | true =>
      rw [hok] at h
      simp only at h
      refine ⟨r, rfl, ?_, h⟩
      simp only [C10.rkOk, hok, Bool.true_and]
      unfold StoreView.resolveR at h
      cases hval : r.value with
      | some _ => rfl
      | none => rw [hval] at h; cases hl : r.load with
        | none => rw [hl] at h; cases h
        | some _ => rfl

theorem live_some_iff (s : MState) (now : Int) (k : Bytes) (v : Val) :
    live s now k = some v ↔
      ∃ m0, getMeta s k = some m0 ∧ m0.isOk = true ∧ m0.expired now = false ∧ resolve s k m0 = some v := by
  unfold live
  cases getMeta s k with
  | none => simp
  | some m0 =>
    cases hok : m0.isOk <;> cases hex : m0.expired now <;> simp [hok, hex]

theorem valOf_hot {s : MState} {k : Bytes} {v : Val} {now : Int} (h : Hot s k v now) : valOf s k = some v := by
  obtain ⟨m, hm, _, _, hv⟩ := h
  exact (valOf_of_getMeta hm).trans hv

theorem sameDisk_orCreate (s : MState) (k : Bytes) (old : Option Meta) (mk : Option Val)
    (h : old.isSome = true ∨ getMeta s k = none) : SameDisk s (orCreate s k old mk).1 := by
  unfold orCreate
  cases mk with
  | none => exact SameDisk.refl s
  | some v => exact sameDisk_newKeyWith s k old v h

theorem getMeta_nkBase (s : MState) (k : Bytes) (old : Option Meta) (k' : Bytes) :
    getMeta (nkBase s k old) k' = getMeta s k' :=
  (nkBase_drops s k old).getMeta k'

theorem not_expired_of_future (m : Meta) (now : Int) (h : m.exp = 0 ∨ now < m.exp) : m.expired now = false := by
  unfold Meta.expired
  rcases h with h | h
  · rw [h]; rfl
  · simp only [Bool.and_eq_false_iff, decide_eq_false_iff_not, Int.not_le]
    exact Or.inr h

theorem hot_newKeyWith (s : MState) (k : Bytes) (old : Option Meta) (v : Val) (now : Int) :
    Hot (newKeyWith s k old v) k v now ∧ HotExp (newKeyWith s k old v) k 0 := by
  rw [newKeyWith_eq]
  refine ⟨⟨_, getMeta_putMeta_same _ _ _, ?_, rfl, rfl⟩, ⟨_, getMeta_putMeta_same _ _ _, rfl⟩⟩
  rw [markModified_isOk, setValue_isOk]

section
variable {lock : MState → Bytes → MState} (hl : LockOp lock)
include hl

theorem sameDisk_accessKey (s : MState) (now : Int) (k : Bytes) (mk : Option Val) :
    SameDisk s (accessKey lock s now k mk).1 := by
  have hL := hl.sameDisk s k
  rcases accessKey_shape hl s now k mk with ⟨hm, e⟩ | ⟨m0, _, ⟨e, _⟩ | ⟨e, _⟩ | ⟨v, oid, e, _⟩⟩ <;> rw [e]
  · exact sameDisk_orCreate _ _ _ _ (Or.inr hm)
  · exact hL.trans ((sameDisk_putMeta _ _ _).trans (sameDisk_orCreate _ _ _ _ (Or.inl rfl)))
  · exact hL.trans (sameDisk_putMeta _ _ _)
  · exact hL.trans ((sameDisk_putMeta _ _ _).trans (sameDisk_putMeta _ _ _))

theorem lookup_accessKey (s : MState) (now : Int) (k : Bytes) (mk : Option Val)
    (h : C10.rkOk (vis now s k) = true ∨ mk = none) (k' : Bytes) :
    lookup (accessKey lock s now k mk).1 now k' = lookup s now k' := by
  rw [lookup_eq_vis, lookup_eq_vis, (StoreView.accessKey_view hl s now k mk).2.1 now k']
  split
  · next hk =>
    subst hk
    split
    · next hr =>
      cases hv : vis now s k with
      | none => rfl
      | some r => rw [hv] at hr; simp only [Option.map_some, StoreView.eview_touch r hr]
    · next hr =>
      rcases h with h | h
      · exact absurd h hr
      · subst h; rfl
  · rfl

theorem lookup_accessKey_none (s : MState) (now : Int) (k k' : Bytes) :
    lookup (accessKey lock s now k none).1 now k' = lookup s now k' :=
  lookup_accessKey hl s now k none (Or.inr rfl) k'

theorem accessKey_live (s : MState) (now : Int) (k : Bytes) (mk : Option Val) (v : Val) (hlv : live s now k = some v) :
    (accessKey lock s now k mk).2 = true ∧ Hot (accessKey lock s now k mk).1 k v now ∧
    (∀ k', lookup (accessKey lock s now k mk).1 now k' = lookup s now k') := by
  obtain ⟨r, hr, hk, hres⟩ := rkOk_of_live hlv
  obtain ⟨a, b, _⟩ := StoreView.accessKey_view hl s now k mk
  rw [hr] at a b
  refine ⟨by rw [a, hk]; rfl, ?_, lookup_accessKey hl s now k mk (Or.inl (hr ▸ hk))⟩
  have hvis := b now k
  rw [if_pos rfl, if_pos hk, hr, Option.map_some] at hvis
  obtain ⟨m, hm, hex, hrec⟩ := C10.vis_some_getMeta hvis
  have h1 := (StoreView.touch_value r hk).trans hres
  have h2 := StoreView.touch_ok r hk
  simp only [C10.rkOk, Bool.and_eq_true] at hk
  rw [hrec] at h1 h2
  exact ⟨m, hm, h2.trans hk.1, hex, h1⟩

theorem accessKey_absent (s : MState) (now : Int) (k : Bytes) (mk : Option Val) (hlv : live s now k = none) :
    ∃ s' old, accessKey lock s now k mk = orCreate s' k old mk := by
  rcases accessKey_shape hl s now k mk with ⟨_, e⟩ | ⟨m0, hm, ⟨e, _⟩ | ⟨e, hok, hex, hv⟩ | ⟨v, oid, e, hok, hex, hv, hld⟩⟩
  · exact ⟨_, _, e⟩
  · exact ⟨_, _, e⟩
  · exfalso
    obtain ⟨x, hx⟩ := Option.isSome_iff_exists.mp hv
    have : live s now k = some x := by
      rw [live_some_iff]; exact ⟨m0, hm, hok, hex, by unfold resolve; rw [hx]⟩
    rw [hlv] at this; cases this
  · exfalso
    have : live s now k = some v := by
      rw [live_some_iff]; exact ⟨m0, hm, hok, hex, by unfold resolve; rw [hv]; simp [hld]⟩
    rw [hlv] at this; cases this

end

theorem sameDisk_writeKey (s : MState) (now : Int) (k : Bytes) (mk : Option Val) :
    SameDisk s (writeKey s now k mk).1 :=
  sameDisk_accessKey lockW_op s now k mk

theorem lookup_writeKey_other (s : MState) (now : Int) (k : Bytes) (mk : Option Val) (k' : Bytes) (h : k' ≠ k) :
    lookup (writeKey s now k mk).1 now k' = lookup s now k' :=
  lookup_congr (sameDisk_writeKey s now k mk) now k' (getMeta_writeKey_other s now k mk k' h)

theorem lookup_readKey (s : MState) (now : Int) (k k' : Bytes) :
    lookup (readKey s now k).1 now k' = lookup s now k' :=
  lookup_accessKey_none lockR_op s now k k'

theorem lookup_writeKey_none (s : MState) (now : Int) (k k' : Bytes) :
    lookup (writeKey s now k none).1 now k' = lookup s now k' :=
  lookup_accessKey_none lockW_op s now k k'

theorem writeKey_live (s : MState) (now : Int) (k : Bytes) (mk : Option Val) (v : Val) (hl : live s now k = some v) :
    (writeKey s now k mk).2 = true ∧ Hot (writeKey s now k mk).1 k v now ∧
    (∀ k', lookup (writeKey s now k mk).1 now k' = lookup s now k') :=
  accessKey_live lockW_op s now k mk v hl

theorem writeKey_absent (s : MState) (now : Int) (k : Bytes) (mk : Option Val) (hl : live s now k = none) :
    ∃ s' old, writeKey s now k mk = orCreate s' k old mk :=
  accessKey_absent lockW_op s now k mk hl

theorem readKey_live (s : MState) (now : Int) (k : Bytes) :
    (readKey s now k).2 = (live s now k).isSome ∧
    (∀ v, live s now k = some v → Hot (readKey s now k).1 k v now) := by
  refine ⟨?_, fun v h => (accessKey_live lockR_op s now k none v h).2.1⟩
  cases h : live s now k with
  | none =>
    obtain ⟨s', old, e⟩ := accessKey_absent lockR_op s now k none h
    rw [readKey_eq, e]; rfl
  | some v => exact (accessKey_live lockR_op s now k none v h).1


theorem hotExp_of_lookup {s s' : MState} {now : Int} {k : Bytes} {v : Val} (h : Hot s' k v now)
    (hlk : lookup s' now k = lookup s now k) : HotExp s' k ((liveExp s now k).getD 0) := by
  obtain ⟨m, hm, hok, hex, hv⟩ := h
  rw [← liveExp_congr hlk, liveExp_of_hot ⟨m, hm, hok, hex, hv⟩ ⟨m, hm, rfl⟩]
  exact ⟨m, hm, rfl⟩

theorem writeKey_none_flag (s : MState) (now : Int) (k : Bytes) :
    (writeKey s now k none).2 = (live s now k).isSome := by
  cases hl : live s now k with
  | none =>
    obtain ⟨s', old, e⟩ := writeKey_absent s now k none hl
    rw [e]; rfl
  | some v => rw [(writeKey_live s now k none v hl).1]; rfl

/-- a deadline a decision may set (the `e'` of an `Act.put`): none, "no deadline", or one in the future -/
def FutureExp (now : Int) (e : Option Int) : Prop := ∀ x, e = some x → x = 0 ∨ now < x

end NodisVerif.Proofs.C01

import NodisVerif.Proofs.C19Scan
import NodisVerif.Proofs.GoLibLemmas

/-
  C19 helpers: the keyspace SCAN in closed form, in two namespaces. `Proofs.C19ScanIter`: one SCAN call on a view, and the full
  iteration over a fixed view. All cursors / counts / lengths are int64 in Go; the model keeps the wrap-around of `cursor--` and
  `count--`, so the closed forms need "the index has fewer than 2^63 records" and "count is an int64" (`I63`).
  `Proofs.C19Quiescent`: the store against its view: what a complete iteration is expected to report (`Eligible`, `eligibleNames`),
  the full iteration against a store that nobody else touches (COUNT > 0, < 0, = 0), that a single call reports only kept entries
  (`goPure_sound`, `scanPure_sound`), congruence (`scan_congr`), and stores that differ only in which values are in memory
  (`HotColdVariant`, `Coherent`).
-/
namespace NodisVerif.Proofs.C19ScanIter
open NodisVerif.Spec.Scan NodisVerif.Proofs.C19Iter NodisVerif.Proofs.C19Scan

/-- 2^63, the bound within which the closed forms below hold -/
def I63 : Int := 9223372036854775808

theorem I63_eq : I63 = 2 ^ 63 := by decide

section
variable (now : Int) (pat : Bytes) (typ : Nat)

def kept (es : List VEnt) : List Bytes := (es.filter (keep now pat typ)).map (·.1)

theorem kept_append (a b : List VEnt) : kept now pat typ (a ++ b) = kept now pat typ a ++ kept now pat typ b := by
  simp [kept]

/-- skipping phase: `j < cursor` entries are passed over -/
theorem goPure_skip : ∀ (j : Nat) (ents : List VEnt) (c iter count : Int) (acc : List Bytes),
    j ≤ ents.length → (j : Int) < c → c < I63 →
    goPure now pat typ ents c iter count acc
      = goPure now pat typ (ents.drop j) (c - j) (iter + j) count acc := by
  intro j
  induction j with
  | zero => intro ents c iter count acc _ _ _; simp
  | succ j ih =>
    intro ents c iter count acc hj hc hc2
    match ents, hj with
    | e :: rest, hj =>
      rw [goPure]
      have hw : wrap64 (c - 1) = c - 1 := wrap64_id ⟨by unfold I63 at *; omega, by unfold I63 at *; omega⟩
      have hpos : c - 1 > 0 := by omega
      simp only [hw, hpos, if_true]
      rw [ih rest (c - 1) (iter + 1) count acc (by simpa using hj) (by omega) (by omega)]
      simp only [List.drop_succ_cons]
      have h1 : c - 1 - (j : Int) = c - ((j + 1 : Nat) : Int) := by omega
      have h2 : iter + 1 + (j : Int) = iter + ((j + 1 : Nat) : Int) := by omega
      rw [h1, h2]

theorem goPure_visit (e : VEnt) (rest : List VEnt) (cursor iter count : Int) (acc : List Bytes)
    (h1 : cursor ≤ 1) (h2 : -I63 < cursor - 1) :
    goPure now pat typ (e :: rest) cursor iter count acc
      = if count = 0 then (iter + 1, acc.reverse)
        else goPure now pat typ rest (cursor - 1) (iter + 1) (wrap64 (count - 1))
          (if keep now pat typ e = true then e.1 :: acc else acc) := by
  rw [goPure]
  have hw : wrap64 (cursor - 1) = cursor - 1 := wrap64_id ⟨by unfold I63 at *; omega, by unfold I63 at *; omega⟩
  have hn1 : ¬ (cursor - 1 > 0) := by omega
  simp only [hw, hn1, if_false]
  cases keep now pat typ e <;> rfl

theorem kept_visit (e : VEnt) (es : List VEnt) (acc : List Bytes) :
    (if keep now pat typ e = true then e.1 :: acc else acc).reverse ++ kept now pat typ es
      = acc.reverse ++ kept now pat typ (e :: es) := by
  cases hk : keep now pat typ e <;> simp [kept, hk]

/-- visiting phase with a budget of `k ≥ 0` entries: cursor 0 when the walk ran off the end,
    otherwise the 1-based position of the first entry not visited -/
theorem goPure_visit_lim : ∀ (ents : List VEnt) (cursor iter : Int) (k : Nat) (acc : List Bytes),
    cursor ≤ 1 → -I63 < cursor - ents.length → (k : Int) < I63 →
    goPure now pat typ ents cursor iter (k : Int) acc
      = ((if ents.length ≤ k then 0 else iter + (k : Int) + 1),
         acc.reverse ++ kept now pat typ (ents.take k)) := by
  intro ents
  induction ents with
  | nil => intro cursor iter k acc _ _ _; simp [goPure, kept]
  | cons e rest ih =>
    intro cursor iter k acc h1 h2 h4
    simp only [List.length_cons, Int.natCast_add, Int.natCast_one] at h2
    rw [goPure_visit now pat typ e rest cursor iter k acc h1 (by omega)]
    cases k with
    | zero => simp [kept]
    | succ k' =>
      have hw2 : wrap64 (((k' + 1 : Nat) : Int) - 1) = (k' : Int) := by
        rw [wrap64_id ⟨by unfold I63 at *; omega, by unfold I63 at *; omega⟩]; omega
      rw [if_neg (by omega), hw2, ih (cursor - 1) (iter + 1) k' _ (by omega) (by omega) (by omega),
        List.take_succ_cons, kept_visit]
      congr 1
      simp only [List.length_cons, Nat.add_le_add_iff_right]
      -- the walk ran off the end: `0 = 0`; else: the two spellings of the next cursor
      split <;> first | rfl | (push_cast; omega)

/-- visiting phase with a negative count: unlimited (even across the wrap at int64 min) -/
theorem goPure_visit_unl : ∀ (ents : List VEnt) (cursor iter count : Int) (acc : List Bytes),
    cursor ≤ 1 → -I63 < cursor - ents.length → (ents.length : Int) < I63 →
    -I63 ≤ count → count < 0 →
    goPure now pat typ ents cursor iter count acc
      = (0, acc.reverse ++ kept now pat typ ents) := by
  intro ents
  induction ents with
  | nil => intro cursor iter count acc _ _ _ _ _; simp [goPure, kept]
  | cons e rest ih =>
    intro cursor iter count acc h1 h2 h4 h5 h6
    simp only [List.length_cons, Int.natCast_add, Int.natCast_one] at h2 h4
    rw [goPure_visit now pat typ e rest cursor iter count acc h1 (by omega), if_neg (by omega), ← kept_visit]
    by_cases hmin : -I63 ≤ count - 1
    · rw [wrap64_id ⟨by unfold I63 at *; omega, by unfold I63 at *; omega⟩]
      exact ih (cursor - 1) (iter + 1) (count - 1) _ (by omega) (by omega) (by omega) hmin (by omega)
    · -- count = int64 min: the decrement wraps to int64 max, still more than the index holds
      have hc : count = -I63 := by omega
      have hw2 : wrap64 (count - 1) = ((9223372036854775807 : Nat) : Int) := by
        subst hc; unfold wrap64 int64Max I63; simp
      have hle : rest.length ≤ 9223372036854775807 := by unfold I63 at h4; omega
      rw [hw2, goPure_visit_lim now pat typ rest (cursor - 1) (iter + 1) 9223372036854775807 _ (by omega) (by omega)
        (by unfold I63; omega), if_pos hle, List.take_of_length_le hle]

end

section
variable (v : List VEnt) (now : Int) (pat : Bytes) (typ : Nat)

/-- 0-based position at which a call with cursor `c` starts visiting -/
def startOf (c : Int) : Nat := (c - 1).toNat

theorem scanPure_end (c count : Int) (hc : (v.length : Int) < c) :
    scanPure v now c pat count typ = (0, []) := by
  unfold scanPure
  simp only
  rw [if_pos hc]
  split <;> rfl

theorem scanPure_empty (c count : Int) (h : v.length = 0) : scanPure v now c pat count typ = (0, []) := by
  unfold scanPure
  simp only
  rw [if_pos (by omega)]

theorem scanPure_visit (hn : (v.length : Int) < I63) (c count : Int) (h0 : 0 ≤ c) (hc : c ≤ v.length)
    (hpos : 0 < v.length) :
    scanPure v now c pat count typ =
      goPure now pat typ (v.drop (startOf c)) (c - (startOf c : Nat)) (0 + (startOf c : Nat)) count [] := by
  unfold scanPure
  simp only
  rw [if_neg (by omega), if_neg (by omega)]
  by_cases hc0 : c = 0
  · subst hc0; simp [startOf]
  · exact goPure_skip now pat typ (startOf c) v c 0 count [] (by unfold startOf; omega) (by unfold startOf; omega) (by omega)

/-- a call with 0 ≤ COUNT = k: visits `k` records from the start position; replies 0 if that
    reached the end of the index, else the 1-based position of the first unvisited record -/
theorem scanPure_lim (hn : (v.length : Int) < I63) (c : Int) (k : Nat) (hk : (k : Int) < I63) (h0 : 0 ≤ c)
    (hc : c ≤ v.length) (hpos : 0 < v.length) :
    scanPure v now c pat (k : Int) typ =
      ((if v.length - startOf c ≤ k then 0 else ((startOf c + k + 1 : Nat) : Int)),
       kept now pat typ ((v.drop (startOf c)).take k)) := by
  rw [scanPure_visit v now pat typ hn c k h0 hc hpos]
  rw [goPure_visit_lim now pat typ _ _ _ k [] (by unfold startOf; omega)
    (by simp only [List.length_drop]; unfold startOf; unfold I63 at *; omega) hk]
  simp only [List.length_drop, List.reverse_nil, List.nil_append]
  congr 1
  split <;> omega

theorem scanPure_unl (hn : (v.length : Int) < I63) (c count : Int) (hk : -I63 ≤ count) (hneg : count < 0)
    (h0 : 0 ≤ c) (hc : c ≤ v.length) (hpos : 0 < v.length) :
    scanPure v now c pat count typ = (0, kept now pat typ (v.drop (startOf c))) := by
  rw [scanPure_visit v now pat typ hn c count h0 hc hpos]
  rw [goPure_visit_unl now pat typ _ _ _ count [] (by unfold startOf; omega)
    (by simp only [List.length_drop]; unfold startOf; unfold I63 at *; omega)
    (by simp only [List.length_drop]; omega) hk hneg]
  simp only [List.reverse_nil, List.nil_append]

end

section
variable (v : List VEnt) (now : Int) (pat : Bytes) (typ : Nat)

/-- the stateless server "SCAN over the fixed view v" -/
def pstep (count : Int) : Unit → Int → Unit × Int × List Bytes :=
  fun _ c => ((), scanPure v now c pat count typ)

/-- COUNT k > 0 from cursor 0: ⌈n / k⌉ calls report everything (position `p` has cursor `p + 1`) -/
theorem iter_scan (hn : (v.length : Int) < I63) (k : Nat) (hk0 : 0 < k) (hk : (k : Int) < I63) (hpos : 0 < v.length)
    (fuel : Nat) (hf : (v.length + k - 1) / k ≤ fuel) :
    (iterateFrom (pstep v now pat typ k) fuel () 0).2 = true ∧
    (iterateFrom (pstep v now pat typ k) fuel () 0).1.length = (v.length + k - 1) / k ∧
    (iterateFrom (pstep v now pat typ k) fuel () 0).1.flatten = kept now pat typ v :=
  iterateFrom_chunks (fun c => scanPure v now c pat k typ) v (kept now pat typ) (kept_append now pat typ)
    (fun p => ((p + 1 : Nat) : Int)) (fun p _ => by omega) k hk0
    (fun p c hc hp => by
      have hstart : startOf c = p := by unfold startOf; omega
      rw [scanPure_lim v now pat typ hn c k hk (by omega) (by omega) hpos, hstart])
    fuel 0 0 (Or.inr ⟨rfl, rfl⟩) hpos hf

end

end NodisVerif.Proofs.C19ScanIter

/-! ## The store against its view (namespace `Proofs.C19Quiescent` from here on) -/
namespace NodisVerif.Proofs.C19Quiescent
open NodisVerif.Spec.Scan NodisVerif.Proofs.C19Iter NodisVerif.Proofs.C19Scan NodisVerif.Proofs.C19ScanIter
open NodisVerif.Proofs.AListLemmas NodisVerif.Proofs.AListLemmas2

-- the `decide` examples on concrete stores in Props/C19.lean need `AList.Sorted` decidable
def decSorted {V : Type} : (l : AList V) → Decidable (AList.Sorted l)
  | [] => isTrue trivial
  | [_] => isTrue trivial
  | (a, _) :: (b, w) :: rest =>
    have : Decidable (AList.Sorted ((b, w) :: rest)) := decSorted ((b, w) :: rest)
    inferInstanceAs (Decidable (Bytes.lt a b = true ∧ AList.Sorted ((b, w) :: rest)))

instance {V : Type} (l : AList V) : Decidable (AList.Sorted l) := decSorted l

/-- what SCAN is expected to report about one index record of store `s`: the name matches, the
    record has not expired, and (TYPE given) its value has the requested type — the cached type,
    or for a record whose value was never loaded the type of the value in the backend (`etype`) -/
def Eligible (s : MState) (now : Int) (pat : Bytes) (typ : Nat) (e : Bytes × Meta) : Bool :=
  Glob.matched pat e.1 && !e.2.expired now && (typ == 0 || etype s typ e == typ)

/-- the names a complete SCAN iteration is expected to report, in index order -/
def eligibleNames (s : MState) (now : Int) (pat : Bytes) (typ : Nat) (idx : AList Meta) : List Bytes :=
  (idx.filter (Eligible s now pat typ)).map (·.1)

theorem keep_proj (s : MState) (now : Int) (pat : Bytes) (typ : Nat) (e : Bytes × Meta) :
    keep now pat typ (proj s typ e) = Eligible s now pat typ e := by
  simp only [keep, Eligible, proj]
  congr 1
  by_cases h1 : typ = 0
  · simp [h1]
  · by_cases h2 : etype s typ e = typ
    · simp [h2]
    · simp [h1, h2]

theorem kept_viewOf (s : MState) (now : Int) (pat : Bytes) (typ : Nat) (idx : AList Meta) :
    kept now pat typ (viewOf s typ idx) = eligibleNames s now pat typ idx := by
  unfold kept eligibleNames viewOf
  rw [List.filter_map, List.map_map]
  have : (keep now pat typ ∘ proj s typ) = Eligible s now pat typ := by
    funext e; exact keep_proj s now pat typ e
  rw [this]
  rfl

theorem view_length (s : MState) (typ : Nat) : (view s typ).length = s.index.length := by simp [view, viewOf]

theorem iterate_scan_eq (now : Int) (pat : Bytes) (count : Int) (typ : Nat) (s : MState) (hs : AList.Sorted s.index)
    (fuel : Nat) (c : Int) :
    iterateFrom (scanStep now pat count typ) fuel s c = iterateFrom (pstep (view s typ) now pat typ count) fuel () c :=
  iterateFrom_view_inv (scanStep now pat count typ) (fun s => view s typ) (fun v c => scanPure v now c pat count typ)
    (fun s => AList.Sorted s.index)
    (fun s c h => (scan_frame s h now c pat count typ).sorted h) (fun s c h => (scan_frame s h now c pat count typ).view_eq)
    (scanStep_out now pat count typ) fuel s c hs


/-- number of SCAN calls of a full iteration over `n` records with COUNT k > 0: ⌈n / k⌉, and one
    call on an empty index -/
def callsScan (n k : Nat) : Nat := if n = 0 then 1 else (n + k - 1) / k

theorem scan_full_pos (s : MState) (hs : AList.Sorted s.index) (hn : (s.index.length : Int) < I63)
    (now : Int) (pat : Bytes) (typ : Nat) (k : Nat) (hk0 : 0 < k) (hk : (k : Int) < I63) :
    FullIteration (fun fuel => iterateS (scanStep now pat (k : Int) typ) fuel s)
      (callsScan s.index.length k) (eligibleNames s now pat typ s.index) := by
  intro fuel hfuel
  unfold iterateS terminated calls visited
  simp only
  rw [iterate_scan_eq now pat k typ s hs]
  have hlen := view_length s typ
  by_cases hn0 : s.index.length = 0
  · have hnil : s.index = [] := List.eq_nil_of_length_eq_zero hn0
    simp only [callsScan, hn0, if_true] at hfuel ⊢
    obtain ⟨g, rfl⟩ : ∃ g, fuel = g + 1 := ⟨fuel - 1, by omega⟩
    rw [iterateFrom_last _ g () 0 () [] (by
      simp only [pstep]; rw [scanPure_empty _ _ _ _ _ _ (by rw [hlen]; exact hn0)])]
    simp [hnil, eligibleNames]
  · simp only [callsScan, hn0, if_false] at hfuel ⊢
    have h := iter_scan (view s typ) now pat typ (by rw [hlen]; exact hn) k hk0 hk (by rw [hlen]; omega) fuel
      (by rw [hlen]; exact hfuel)
    rw [hlen, view, kept_viewOf] at h
    exact h

theorem callsScan_le (n k : Nat) (hk0 : 0 < k) : callsScan n k ≤ max n 1 := by
  unfold callsScan
  split
  · omega
  · have := ceilDiv_le n k hk0 (by omega)
    omega

theorem callsScan_ceil (n k : Nat) (hk0 : 0 < k) (hn : 0 < n) :
    n ≤ callsScan n k * k ∧ (callsScan n k - 1) * k < n := by
  unfold callsScan
  rw [if_neg (by omega)]
  exact ceilDiv_spec n k hk0 hn


theorem scan_full_neg (s : MState) (hs : AList.Sorted s.index) (hn : (s.index.length : Int) < I63)
    (now : Int) (pat : Bytes) (typ : Nat) (count : Int) (hc : -I63 ≤ count) (hneg : count < 0) :
    FullIteration (fun fuel => iterateS (scanStep now pat count typ) fuel s) 1 (eligibleNames s now pat typ s.index) := by
  intro fuel hfuel
  unfold iterateS terminated calls visited
  simp only
  rw [iterate_scan_eq now pat count typ s hs]
  have hlen := view_length s typ
  obtain ⟨g, rfl⟩ : ∃ g, fuel = g + 1 := ⟨fuel - 1, by omega⟩
  by_cases hn0 : s.index.length = 0
  · have hnil : s.index = [] := List.eq_nil_of_length_eq_zero hn0
    rw [iterateFrom_last _ g () 0 () [] (by
      simp only [pstep]; rw [scanPure_empty _ _ _ _ _ _ (by rw [hlen]; exact hn0)])]
    simp [hnil, eligibleNames]
  · rw [iterateFrom_last _ g () 0 () _ (by
      simp only [pstep]
      rw [scanPure_unl (view s typ) now pat typ (by rw [hlen]; exact hn) 0 count hc hneg (by omega)
        (by rw [hlen]; omega) (by rw [hlen]; omega)])]
    simp [startOf, view, kept_viewOf]


theorem scan_zero_stuck (s : MState) (hs : AList.Sorted s.index) (hn : (s.index.length : Int) < I63)
    (h1 : 1 ≤ s.index.length) (now : Int) (pat : Bytes) (typ : Nat) :
    ∀ fuel, iterateS (scanStep now pat 0 typ) fuel s = (List.replicate fuel [], false) := by
  intro fuel
  unfold iterateS
  rw [iterate_scan_eq now pat 0 typ s hs]
  have hlen := view_length s typ
  have key : ∀ (fuel : Nat) (c : Int), (c = 0 ∨ c = 1) →
      iterateFrom (pstep (view s typ) now pat typ 0) fuel () c = (List.replicate fuel [], false) := by
    intro fuel
    induction fuel with
    | zero => intro c _; rfl
    | succ f ih =>
      intro c hc
      have hst : startOf c = 0 := by unfold startOf; omega
      have : scanPure (view s typ) now c pat ((0 : Nat) : Int) typ = (1, []) := by
        rw [scanPure_lim (view s typ) now pat typ (by rw [hlen]; exact hn) c 0 (by unfold I63; omega) (by omega)
          (by rw [hlen]; omega) (by rw [hlen]; omega), hst]
        simp only [kept, Nat.sub_zero, Nat.le_zero_eq, List.length_eq_zero_iff]
        have hne : ¬ (view s typ = []) := by
          intro h0; rw [h0] at hlen; simp at hlen; omega
        simp [hne]
      simp only [Int.natCast_zero] at this
      rw [iterateFrom_next _ f () c () 1 [] (by simp only [pstep, this]) (by omega)]
      rw [ih 1 (Or.inr rfl)]
      simp [List.replicate_succ]
  exact key fuel 0 (Or.inl rfl)


theorem goPure_sound (now : Int) (pat : Bytes) (typ : Nat) :
    ∀ (ents : List VEnt) (cursor iter count : Int) (acc : List Bytes) (x : Bytes),
      x ∈ (goPure now pat typ ents cursor iter count acc).2 →
      x ∈ acc ∨ ∃ e ∈ ents, e.1 = x ∧ keep now pat typ e = true := by
  intro ents
  induction ents with
  | nil => intro cursor iter count acc x hx; simp [goPure] at hx; exact Or.inl hx
  | cons e rest ih =>
    intro cursor iter count acc x hx
    rw [goPure] at hx
    simp only at hx
    have lift : (x ∈ acc ∨ ∃ e' ∈ rest, e'.1 = x ∧ keep now pat typ e' = true) →
        x ∈ acc ∨ ∃ e' ∈ e :: rest, e'.1 = x ∧ keep now pat typ e' = true := by
      rintro (h | ⟨e', he', h⟩)
      · exact Or.inl h
      · exact Or.inr ⟨e', List.mem_cons_of_mem _ he', h⟩
    split at hx
    · exact lift (ih _ _ _ _ _ hx)  -- the cursor is still skipping
    · split at hx
      · simp at hx; exact Or.inl hx  -- count = 0: the walk stops
      · split at hx
        · rename_i hk  -- `e` is kept
          rcases ih _ _ _ _ _ hx with h | h
          · rcases List.mem_cons.mp h with rfl | h
            · exact Or.inr ⟨e, List.mem_cons_self, rfl, hk⟩
            · exact Or.inl h
          · exact lift (Or.inr h)
        · exact lift (ih _ _ _ _ _ hx)  -- `e` is not kept

theorem scanPure_sound (v : List VEnt) (now cursor : Int) (pat : Bytes) (count : Int) (typ : Nat) (x : Bytes)
    (hx : x ∈ (scanPure v now cursor pat count typ).2) : ∃ e ∈ v, e.1 = x ∧ keep now pat typ e = true := by
  unfold scanPure at hx
  simp only at hx
  split at hx
  · simp at hx
  · split at hx
    · simp at hx
    · rcases goPure_sound now pat typ v cursor 0 count [] x hx with h | h
      · simp at h
      · exact h

theorem scan_sound (s : MState) (now cursor : Int) (pat : Bytes) (count : Int) (typ : Nat) (x : Bytes)
    (hx : x ∈ (scanStep now pat count typ s cursor).2.2) :
    ∃ m, (x, m) ∈ s.index ∧ Eligible s now pat typ (x, m) = true := by
  rw [scanStep_out] at hx
  obtain ⟨e, he, rfl, hk⟩ := scanPure_sound _ _ _ _ _ _ _ hx
  simp only [view, viewOf, List.mem_map] at he
  obtain ⟨⟨k, m⟩, hmem, rfl⟩ := he
  exact ⟨m, hmem, by rw [← keep_proj]; exact hk⟩


/-- the walk sees of its entries only the names and what the filter says of them -/
theorem goPure_map_congr {α : Type} (now : Int) (pat : Bytes) (typ : Nat) (a b : α → VEnt) :
    ∀ (l : List α), (∀ p ∈ l, (a p).1 = (b p).1 ∧ keep now pat typ (a p) = keep now pat typ (b p)) →
    ∀ (cursor iter count : Int) (acc : List Bytes),
      goPure now pat typ (l.map a) cursor iter count acc = goPure now pat typ (l.map b) cursor iter count acc := by
  intro l
  induction l with
  | nil => intro _ cursor iter count acc; rfl
  | cons p rest ih =>
    intro h cursor iter count acc
    obtain ⟨hn, hk⟩ := h p List.mem_cons_self
    have ih' := ih fun q hq => h q (List.mem_cons_of_mem _ hq)
    simp only [List.map_cons, goPure, hn, hk, ih']

/-- **SCAN cannot tell two stores apart** whose indexes hold the same names in the same order and whose records are
    eligible together -/
theorem scan_congr {s1 s2 : MState} {now : Int} {pat : Bytes} {typ : Nat} (f : Bytes × Meta → Bytes × Meta)
    (hmap : s2.index = s1.index.map f)
    (h : ∀ p ∈ s1.index, (f p).1 = p.1 ∧ Eligible s2 now pat typ (f p) = Eligible s1 now pat typ p)
    (cursor count : Int) :
    (Api.scan s1 now cursor pat count typ).2 = (Api.scan s2 now cursor pat count typ).2 := by
  have hv : ∀ (cursor iter count : Int) (acc : List Bytes),
      goPure now pat typ (view s2 typ) cursor iter count acc = goPure now pat typ (view s1 typ) cursor iter count acc := by
    unfold view viewOf
    rw [hmap, List.map_map]
    exact goPure_map_congr now pat typ _ _ s1.index fun p hp => by
      simp only [Function.comp, keep_proj]
      exact ⟨(h p hp).1, (h p hp).2⟩
  have hl : (view s2 typ).length = (view s1 typ).length := by rw [view_length, view_length, hmap, List.length_map]
  rw [scan_out, scan_out]
  unfold scanPure
  simp only [hl, hv]


theorem eligibleNames_nodup (s : MState) (now : Int) (pat : Bytes) (typ : Nat) (idx : AList Meta) (hs : AList.Sorted idx) :
    (eligibleNames s now pat typ idx).Nodup := by
  have hsub : (eligibleNames s now pat typ idx).Sublist (AList.keys idx) := by
    unfold eligibleNames AList.keys
    exact List.Sublist.map _ List.filter_sublist
  exact hsub.nodup (keys_nodup idx hs)

theorem mem_eligibleNames (s : MState) (hs : AList.Sorted s.index) (now : Int) (pat : Bytes) (typ : Nat) (x : Bytes) :
    x ∈ eligibleNames s now pat typ s.index ↔ ∃ m, AList.get? s.index x = some m ∧ Eligible s now pat typ (x, m) = true := by
  unfold eligibleNames
  simp only [List.mem_map, List.mem_filter]
  constructor
  · rintro ⟨⟨k, m⟩, ⟨hmem, hel⟩, rfl⟩
    exact ⟨m, get?_of_mem s.index hs k m hmem, hel⟩
  · rintro ⟨m, hget, hel⟩
    exact ⟨(x, m), ⟨mem_of_get? s.index x m hget, hel⟩, rfl⟩


def forgetValue (e : Bytes × Meta) : Bytes × Meta := (e.1, { e.2 with value := none })

/-- "differ only in hot/cold-ness": same index once every in-memory value is forgotten -/
def HotColdVariant (s t : MState) : Prop := s.index.map forgetValue = t.index.map forgetValue

/-- a record without cached type has no value in memory (`setValue` sets both) -/
def Coherent (s : MState) : Prop := ∀ e ∈ s.index, e.2.vtype = 0 → e.2.value = none

theorem map_congr_of_map_eq {α β γ : Type} (f : α → β) (g g' : α → γ) : ∀ (l1 l2 : List α),
    l1.map f = l2.map f → (∀ a ∈ l1, ∀ b ∈ l2, f a = f b → g a = g' b) → l1.map g = l2.map g' := by
  intro l1
  induction l1 with
  | nil => intro l2 h _; cases l2 with | nil => rfl | cons b r => simp at h
  | cons a r ih =>
    intro l2 h hp
    cases l2 with
    | nil => simp at h
    | cons b r2 =>
      simp only [List.map_cons, List.cons.injEq] at h ⊢
      exact ⟨hp a List.mem_cons_self b List.mem_cons_self h.1,
        ih r2 h.2 (fun a' ha b' hb => hp a' (List.mem_cons_of_mem _ ha) b' (List.mem_cons_of_mem _ hb))⟩

theorem view_eq_of_hotCold (s t : MState) (h : HotColdVariant s t) (hd : s.disk = t.disk) (hp : s.pebble = t.pebble)
    (cs : Coherent s) (ct : Coherent t) (typ : Nat) : view s typ = view t typ := by
  unfold view viewOf
  apply map_congr_of_map_eq forgetValue (proj s typ) (proj t typ) s.index t.index h
  intro a ha b hb hab
  have h1 : a.1 = b.1 := by have := congrArg (fun e => e.1) hab; exact this
  have hexp : a.2.exp = b.2.exp := by have := congrArg (fun e => e.2.exp) hab; exact this
  have hvt : a.2.vtype = b.2.vtype := by have := congrArg (fun e => e.2.vtype) hab; exact this
  have het : etype s typ a = etype t typ b := by
    unfold etype
    by_cases hc : typ ≠ 0 ∧ a.2.vtype = 0
    · have va : a.2.value = none := cs a ha hc.2
      have vb : b.2.value = none := ct b hb (by rw [← hvt]; exact hc.2)
      have hl : Store.loadValue s a.1 a.2 = Store.loadValue t b.1 b.2 := by
        simp only [Store.loadValue, Store.diskGet, hd, hp, h1, hexp]
      rw [if_pos ⟨hc.1, hc.2, by rw [va]; rfl⟩, if_pos ⟨hc.1, by rw [← hvt]; exact hc.2, by rw [vb]; rfl⟩, hl, hvt]
    · have hc' : ¬ (typ ≠ 0 ∧ a.2.vtype = 0 ∧ a.2.value.isNone = true) := fun x => hc ⟨x.1, x.2.1⟩
      have hc'' : ¬ (typ ≠ 0 ∧ b.2.vtype = 0 ∧ b.2.value.isNone = true) := fun x => hc ⟨x.1, by rw [hvt]; exact x.2.1⟩
      rw [if_neg hc', if_neg hc'', hvt]
  simp only [proj, h1, hexp, het]

theorem hotCold_sorted {s t : MState} (h : HotColdVariant s t) : AList.Sorted s.index ↔ AList.Sorted t.index :=
  sorted_iff_of_map forgetValue (fun _ => rfl) h

end NodisVerif.Proofs.C19Quiescent

import NodisVerif.Proofs.TxProgReach
/-
  Program model of tx.go: the converse ownership invariant for the record mutexes (whoever owns a record mutex has
  a protocol hold on the record or sits between a lock operation and its event): `MuStep`, `CM`, `Full`, `full_step`;
  it holds in every reachable state (`ProgReachable.full`).
-/
namespace NodisVerif.Proofs.TxProg
open NodisVerif.Proto (Key Rec Mode Ev Hold TxSt PState assoc erase put Tx)
open NodisVerif.TxProg
open NodisVerif.Proofs.Proto

/-- the record mutexes a thread owns according to its program counter and locals -/
def ownedList (l : Loc) : List (Rec × Mode) := (holdsOf l).map (fun g => (g.rid, g.mode)) ++ (extra l).toList

@[simp] theorem mu_struct (s : Shared) (smu : Mu) (r : Rec) : ({ s with smu := smu } : Shared).mu r = s.mu r := rfl

@[simp] theorem holdsOf_nextPlan (l : Loc) : holdsOf (nextPlan l) = l.held := by
  unfold nextPlan; split <;> simp [holdsOf]
@[simp] theorem extra_nextPlan (l : Loc) : extra (nextPlan l) = none := by
  unfold nextPlan; split <;> simp [extra]
@[simp] theorem holdsOf_retTo (l : Loc) : holdsOf (retTo l) = l.held := by
  unfold retTo; split
  · exact holdsOf_nextPlan l
  · simp [holdsOf]
  · simp [holdsOf]
@[simp] theorem extra_retTo (l : Loc) : extra (retTo l) = none := by
  unfold retTo; split
  · exact extra_nextPlan l
  · simp [extra]
  · simp [extra]
@[simp] theorem holdsOf_commitNext (s : Shared) (l : Loc) : holdsOf (commitNext s l) = l.rest := by
  unfold commitNext; split
  · rename_i h; simp [holdsOf, h]
  · rename_i h; split
    · simp [holdsOf, h]
    · split <;> simp [holdsOf, h]
@[simp] theorem extra_commitNext (s : Shared) (l : Loc) : extra (commitNext s l) = none := by
  unfold commitNext; split
  · simp [extra]
  · split
    · simp [extra]
    · split <;> simp [extra]

/-- thread-local: in commit, the record at the head of the loop is read-held on the RUnlock / TryLock path and
    write-held on the drop path -/
def CM (l : Loc) : Prop :=
  ((l.pc = .c4 ∨ l.pc = .c5) → l.cur.mode = .r) ∧
  ((l.pc = .c8 ∨ l.pc = .c9 ∨ l.pc = .c10 ∨ l.pc = .c11 ∨ l.pc = .c12) → l.cur.mode = .w)

theorem cm_commitNext (s : Shared) (l : Loc) : CM (commitNext s l) := by
  unfold commitNext; split
  · simp [CM]
  · split
    · simp [CM]
    · split
      · rename_i h; simp [CM]; simpa using h
      · rename_i h; simp [CM]; cases hm : (by assumption : Hold).mode <;> simp_all

def cmAt : Pc → Bool
  | .c4 | .c5 | .c8 | .c9 | .c10 | .c11 | .c12 => true
  | _ => false

theorem cm_outside {l : Loc} (h : cmAt l.pc = false) : CM l := by
  refine ⟨fun hx => ?_, fun hx => ?_⟩
  · rcases hx with hx | hx <;> rw [hx] at h <;> cases h
  · rcases hx with hx | hx | hx | hx | hx <;> rw [hx] at h <;> cases h

theorem cm_retTo (l : Loc) : CM (retTo l) := by
  rcases pc_retTo l with h | h | h <;> exact cm_outside (by rw [h]; rfl)
theorem cm_nextPlan (l : Loc) : CM (nextPlan l) := by
  rcases pc_nextPlan l with h | h <;> exact cm_outside (by rw [h]; rfl)

theorem cm_step {s s' : Shared} {t : Tid} {l l' : Loc} {ch : Choice} {e : Option Ev}
    (h : tstep s t l ch = some (s', l', e)) (hcm : CM l) : CM l' := by
  replace h := tstep_inv h
  cases h
  case c0 | c3 | c6_fail | c12 => exact cm_commitNext _ _
  case begin => exact cm_nextPlan _
  case a3_miss | a3_held | a6c | a12_ok => exact cm_retTo _
  -- on one path of the loop `cur` stays (and c7 has just made its hold a write hold)
  case c4 | c7 | c8 | c9_drop | c9_skip | c10 | c11 => simp_all [CM]
  all_goals exact cm_outside rfl

/-- what one transition of `t` does to the mutex of one record, with what the thread's program counter and locals
    say it owns of that record before (`P`) and after (`P'`) -/
inductive MuStep (t : Tid) (mu : Mu) (P : Mode → Prop) : Mu → (Mode → Prop) → Prop
  | keep {P'} : (∀ m, P m → P' m) → MuStep t mu P mu P'
  | lock {P'} : mu.canLock = true → P' .w → MuStep t mu P (mu.lock t) P'
  | rlock {P'} : mu.canRLock = true → ¬ P .r → P' .r → MuStep t mu P (mu.rlock t) P'
  | unlock {P'} : (P .r → P' .r) → MuStep t mu P mu.unlock P'
  | runlock {P'} : (P .w → P' .w) → MuStep t mu P (mu.runlock t) P'
  | newW {P'} : P' .w → MuStep t mu P (({} : Mu).lock t) P'
  | newR {P'} : P' .r → MuStep t mu P (({} : Mu).rlock t) P'

theorem MuStep.other {t u : Tid} {mu mu' : Mu} {P P' : Mode → Prop} (h : MuStep t mu P mu' P') (hu : u ≠ t) :
    (mu'.writer = some u → mu.writer = some u) ∧ (u ∈ mu'.readers → u ∈ mu.readers) := by
  have hw : some t = some u → mu.writer = some u := fun e => absurd (Option.some.inj e).symm hu
  cases h with
  | keep => exact ⟨id, id⟩
  | lock => exact ⟨hw, id⟩
  | rlock => exact ⟨id, fun hm => (List.mem_cons.1 hm).resolve_left hu⟩
  | unlock => exact ⟨nofun, id⟩
  | runlock => exact ⟨id, List.mem_of_mem_erase⟩
  | newW => exact ⟨hw, nofun⟩
  | newR => exact ⟨nofun, fun hm => absurd (List.mem_singleton.1 hm) hu⟩

theorem MuStep.self {t : Tid} {mu mu' : Mu} {P P' : Mode → Prop} (h : MuStep t mu P mu' P')
    (hnd : mu.readers.Nodup) (hW : mu.writer = some t → P .w) (hR : t ∈ mu.readers → P .r) :
    mu'.readers.Nodup ∧ (mu'.writer = some t → P' .w) ∧ (t ∈ mu'.readers → P' .r) := by
  cases h with
  | keep hk => exact ⟨hnd, fun x => hk _ (hW x), fun x => hk _ (hR x)⟩
  | lock hc hp =>
    simp only [Mu.canLock, Bool.and_eq_true, List.isEmpty_iff] at hc
    refine ⟨hnd, fun _ => hp, fun hm => ?_⟩
    rw [show (mu.lock t).readers = mu.readers from rfl, hc.2] at hm; cases hm
  | rlock hc hn hp =>
    simp only [Mu.canRLock, Option.isNone_iff_eq_none] at hc
    refine ⟨List.nodup_cons.2 ⟨fun hm => hn (hR hm), hnd⟩, fun x => ?_, fun _ => hp⟩
    rw [show (mu.rlock t).writer = mu.writer from rfl, hc] at x; cases x
  | unlock hk => exact ⟨hnd, nofun, fun x => hk (hR x)⟩
  | runlock hk =>
    exact ⟨hnd.erase t, fun x => hk (hW x), fun hm => absurd rfl ((List.Nodup.mem_erase_iff hnd).1 hm).1⟩
  | newW hp => exact ⟨List.nodup_nil, fun _ => hp, nofun⟩
  | newR hp => exact ⟨List.nodup_cons.2 ⟨List.not_mem_nil, List.nodup_nil⟩, nofun, fun _ => hp⟩

theorem MuStep.setMu {t : Tid} {s : Shared} {r0 r : Rec} {mu' : Mu} {P P' : Mode → Prop}
    (hne : r ≠ r0 → ∀ m, P m → P' m) (heq : r = r0 → MuStep t (s.mu r0) P mu' P') :
    MuStep t (s.mu r) P ((s.setMu r0 mu').mu r) P' := by
  rw [mu_setMu]
  by_cases hr : r = r0
  · rw [if_pos hr, hr]; exact heq hr
  · rw [if_neg hr]; exact .keep (hne hr)

theorem owned_gain {A : List (Rec × Mode)} {x y : Rec × Mode} (h : x ∈ A ++ (none : Option (Rec × Mode)).toList) :
    x ∈ A ++ (some y).toList := List.mem_append_left _ (by simpa using h)

theorem owned_gain_self {A : List (Rec × Mode)} {y : Rec × Mode} : y ∈ A ++ (some y).toList := by simp

theorem owned_cons {A : List (Rec × Mode)} {x y : Rec × Mode} (h : x ∈ A ++ (none : Option (Rec × Mode)).toList) :
    x ∈ y :: A ++ (none : Option (Rec × Mode)).toList := List.mem_cons_of_mem _ h

theorem owned_swap {A : List (Rec × Mode)} {x y : Rec × Mode} :
    x ∈ y :: A ++ (none : Option (Rec × Mode)).toList ↔ x ∈ A ++ (some y).toList := by
  simp [or_comm]

theorem owned_lose {A : List (Rec × Mode)} {x y : Rec × Mode} (hne : x ≠ y) (h : x ∈ A ++ (some y).toList) :
    x ∈ A ++ (none : Option (Rec × Mode)).toList := by
  simp only [Option.toList, List.mem_append, List.mem_singleton, List.append_nil] at h ⊢
  exact h.resolve_right hne

theorem tstep_muStep {s s' : Shared} {t : Tid} {l l' : Loc} {ch : Choice} {e : Option Ev}
    (h : tstep s t l ch = some (s', l', e)) (hf : Facts s l) (hcm : CM l) (r : Rec) :
    MuStep t (s.mu r) (fun m => (r, m) ∈ ownedList l) (s'.mu r) (fun m => (r, m) ∈ ownedList l') := by
  replace h := tstep_inv h
  cases h
  -- the continuations `nextPlan`, `retTo`, `commitNext`: what they hold is known (`holdsOf_retTo` …)
  case begin | a3_miss | a3_held | a6c | a12_ok | c0 | c6_fail =>
    simp only [ownedList, holdsOf_retTo, extra_retTo, holdsOf_nextPlan, extra_nextPlan, holdsOf_commitNext, extra_commitNext]
    exact .keep (by simp [holdsOf, extra, ‹l.pc = _›])
  -- a hold becomes the mutex held outside the holds, or the other way round (`owned_swap`)
  case a13 | c2 | c4 | c11 => exact .keep (by rw [Loc.pc_eq ‹l.pc = _›]; exact fun _ => owned_swap.1)
  case a9 | c7 => exact .keep (by rw [Loc.pc_eq ‹l.pc = _›]; exact fun _ => owned_swap.2)
  -- a lock operation on `r0`: the other records stay accounted for (`owned_gain`), `r0` is the new `extra`
  case a8_w hpc hw hc =>
    simp only [ownedList, holdsOf, extra, hpc, hw, modeOf, if_true]
    exact .setMu (fun _ _ => owned_gain) fun hr => .lock hc (hr ▸ owned_gain_self)
  case a8_r hpc hw hc =>
    simp only [Facts, hpc] at hf
    simp only [ownedList, holdsOf, extra, hpc, hw, modeOf]
    refine .setMu (fun _ _ => owned_gain) fun hr => .rlock hc ?_ (hr ▸ owned_gain_self)
    -- not read-locked before: no hold of `lockedMetas` is on `l.m` (`Facts`)
    simp only [Option.toList, List.append_nil, List.mem_map, Prod.mk.injEq, not_exists, not_and]
    exact fun g hg e => absurd (e.trans hr) (hf.2 g hg)
  case g2 hpc hc | c6_ok hpc _ hc =>
    simp only [ownedList, holdsOf, extra, hpc]
    exact .setMu (fun _ _ => owned_gain) fun hr => .lock hc (hr ▸ owned_gain_self)
  -- a fresh placeholder: the new hold is consed onto `lockedMetas` (`owned_cons`)
  case a5_claim hpc _ _ =>
    simp only [ownedList, holdsOf, extra, hpc, List.map_cons]
    refine .setMu (fun _ _ => owned_cons) fun hr => ?_
    cases hw : l.write
    · exact .newR (hr ▸ List.mem_cons_self)
    · exact .newW (hr ▸ List.mem_cons_self)
  case d3 hpc _ =>
    simp only [ownedList, holdsOf, extra, hpc, List.map_cons]
    exact .setMu (fun _ _ => owned_cons) fun hr => .newW (hr ▸ List.mem_cons_self)
  -- an unlock operation on `r0`, held outside the holds in mode `m0`: what is accounted for except `(r0, m0)` stays
  -- (`owned_lose`); in particular `r0` in the other mode
  case a14 hpc =>
    simp only [ownedList, holdsOf, extra, hpc]
    refine .setMu (fun hr _ => owned_lose fun e => hr (congrArg Prod.fst e)) fun hr => ?_
    cases hw : l.write
    · exact .runlock (owned_lose fun e => by cases congrArg Prod.snd e)
    · exact .unlock (owned_lose fun e => by cases congrArg Prod.snd e)
  case c3 hpc =>
    simp only [ownedList, holdsOf_commitNext, extra_commitNext]
    simp only [holdsOf, extra, hpc]
    refine .setMu (fun hr _ => owned_lose fun e => hr (congrArg Prod.fst e)) fun hr => ?_
    cases hm : l.cur.mode
    · exact .runlock (owned_lose fun e => by cases congrArg Prod.snd e)
    · exact .unlock (owned_lose fun e => by cases congrArg Prod.snd e)
  case c5 hpc =>
    -- on this path of commit the record at the head is read-held (`CM`)
    have hm := hcm.1 (Or.inr hpc)
    simp only [ownedList, holdsOf, extra, hpc]
    exact .setMu (fun hr _ => owned_lose fun e => hr (congrArg Prod.fst e)) fun _ =>
      .runlock (owned_lose fun e => by rw [hm] at e; cases congrArg Prod.snd e)
  case c12 hpc =>
    -- … and on this one write-held
    have hm := hcm.2 (Or.inr (Or.inr (Or.inr (Or.inr hpc))))
    simp only [ownedList, holdsOf_commitNext, extra_commitNext]
    simp only [holdsOf, extra, hpc]
    exact .setMu (fun hr _ => owned_lose fun e => hr (congrArg Prod.fst e)) fun _ =>
      .unlock (owned_lose fun e => by rw [hm] at e; cases congrArg Prod.snd e)
  case g12 hpc =>
    simp only [ownedList, holdsOf, extra, hpc]
    exact .setMu (fun hr _ => owned_lose fun e => hr (congrArg Prod.fst e)) fun _ =>
      .unlock (owned_lose fun e => nomatch congrArg Prod.snd e)
  -- everywhere else: no mutex operation, and the same records accounted for (up to the `valid` bit of the tentative hold
  -- at a11, a12, g5); with the pc put in, `ownedList` computes on both sides
  all_goals exact .keep (by rw [Loc.pc_eq ‹l.pc = _›]; exact fun _ h => h)

theorem tstep_mus_other {s s' : Shared} {t : Tid} {l l' : Loc} {ch : Choice} {e : Option Ev}
    (h : tstep s t l ch = some (s', l', e)) (hf : Facts s l) (hcm : CM l) (u : Tid) (hu : u ≠ t) (r : Rec) :
    ((s'.mu r).writer = some u → (s.mu r).writer = some u) ∧ (u ∈ (s'.mu r).readers → u ∈ (s.mu r).readers) :=
  (tstep_muStep h hf hcm r).other hu

theorem tstep_mus_self {s s' : Shared} {t : Tid} {l l' : Loc} {ch : Choice} {e : Option Ev}
    (h : tstep s t l ch = some (s', l', e)) (hnd : ∀ r, (s.mu r).readers.Nodup)
    (hconv : ∀ r, ((s.mu r).writer = some t → (r, Mode.w) ∈ ownedList l) ∧
      (t ∈ (s.mu r).readers → (r, Mode.r) ∈ ownedList l)) (hf : Facts s l) (hcm : CM l) (r : Rec) :
    (s'.mu r).readers.Nodup ∧ ((s'.mu r).writer = some t → (r, Mode.w) ∈ ownedList l') ∧
      (t ∈ (s'.mu r).readers → (r, Mode.r) ∈ ownedList l') :=
  (tstep_muStep h hf hcm r).self (hnd r) (hconv r).1 (hconv r).2

structure Full (c : Cfg) (p : PState) : Prop where
  strong : Strong c p
  cm   : ∀ t, CM (c.loc t)
  rnd  : ∀ r, (c.sh.mu r).readers.Nodup
  conv : ∀ u r, ((c.sh.mu r).writer = some u → (r, Mode.w) ∈ ownedList (c.loc u)) ∧
    (u ∈ (c.sh.mu r).readers → (r, Mode.r) ∈ ownedList (c.loc u))

theorem Full.init : Full {} {} where
  strong := Strong.init
  cm := fun _ => by rw [loc_default]; simp [CM]
  rnd := fun _ => List.nodup_nil
  conv := by intro u r; constructor <;> intro h <;> cases h

theorem full_step {c c' : Cfg} {p : PState} {t : Tid} {ch : Choice} {e : Option Ev} (hf : Full c p)
    (h : TxProg.step c t ch = some (c', e)) : ∃ p', optStep p e = some p' ∧ Full c' p' := by
  obtain ⟨p', hstep, hst'⟩ := strong_step hf.strong h
  refine ⟨p', hstep, ?_⟩
  obtain ⟨s, l, hts, rfl⟩ := step_inv h
  have hself := tstep_mus_self hts hf.rnd (fun r => hf.conv t r) (hf.strong.sim.thr t).facts (hf.cm t)
  refine ⟨hst', ?_, fun r => (hself r).1, ?_⟩
  · exact loc_set_forall (cm_step hts (hf.cm t)) fun u _ => hf.cm u
  · refine loc_set_forall (P := fun u l => ∀ r, ((s.mu r).writer = some u → (r, Mode.w) ∈ ownedList l) ∧
      (u ∈ (s.mu r).readers → (r, Mode.r) ∈ ownedList l)) (fun r => (hself r).2) fun u hu r => ?_
    have ho := tstep_mus_other hts (hf.strong.sim.thr t).facts (hf.cm t) u hu r
    exact ⟨fun x => (hf.conv u r).1 (ho.1 x), fun x => (hf.conv u r).2 (ho.2 x)⟩

theorem ProgReachable.full {c : Cfg} (h : ProgReachable c) : ∃ p, Reachable p ∧ Full c p := by
  obtain ⟨sch, rfl⟩ := h
  obtain ⟨p, _, hp⟩ := run_simulates full_step Full.init sch
  exact ⟨p, hp.strong.sim.reach, hp⟩

end NodisVerif.Proofs.TxProg

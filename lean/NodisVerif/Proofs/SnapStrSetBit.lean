import NodisVerif.Proofs.SnapStrBits
import NodisVerif.Proofs.SnapCodec
/-
  ds/str/str.go SetBit: normal form (the receiver's field threaded, `mk` rebuilds the receiver), its split into the growth
  of the buffer and the read-modify-write of one byte (Go's byte operations are UInt8's, GoLibLemmas), and the equality
  with the model DsStr.setBit.
-/
namespace NodisVerif.StrNF
open NodisVerif NodisVerif.GoLib

def SetBit {σ : Type} (mk : Bytes → σ) (v : Bytes) (offset : Int) (value : Bool) : GoLib.M (σ × Int) := do
  let mut sv := v
  if (decide (offset < 0)) then
    return (mk sv, 0)
  let mut i : Int := (Int.tdiv offset 8)
  if (decide (i > (GoLib.wrap .i64 ((GoLib.len sv) - 1)))) then
    let mut newV : Bytes := (← GoLib.makeBytes (GoLib.wrap .i64 (i + 1)))
    newV := (← GoLib.copyAt newV 0 sv)
    sv := newV
  let mut by_ : Int := (← GoLib.idx sv i)
  let mut bit : Int := (GoLib.shl .u8 1 (GoLib.wrap .u64 (7 - (GoLib.wrap .u64 (Int.tmod offset 8)))))
  let mut old : Int := (GoLib.band .u8 by_ bit)
  if value then
    sv := (← GoLib.setIdx sv i (GoLib.bor .u8 by_ bit))
  else
    sv := (← GoLib.setIdx sv i (GoLib.bandnot .u8 by_ bit))
  if (old != 0) then
    return (mk sv, 1)
  return (mk sv, 0)
/-- SetBit after the buffer has been grown: read, modify, write the byte -/
def setBitTail {σ : Type} (mk : Bytes → σ) (sv : Bytes) (offset : Int) (value : Bool) : GoLib.M (σ × Int) := do
  let mut sv := sv
  let mut i : Int := (Int.tdiv offset 8)
  let mut by_ : Int := (← GoLib.idx sv i)
  let mut bit : Int := (GoLib.shl .u8 1 (GoLib.wrap .u64 (7 - (GoLib.wrap .u64 (Int.tmod offset 8)))))
  let mut old : Int := (GoLib.band .u8 by_ bit)
  if value then
    sv := (← GoLib.setIdx sv i (GoLib.bor .u8 by_ bit))
  else
    sv := (← GoLib.setIdx sv i (GoLib.bandnot .u8 by_ bit))
  if (old != 0) then
    return (mk sv, 1)
  return (mk sv, 0)

theorem SetBit_struct {σ : Type} (mk : Bytes → σ) (v : Bytes) (o : Int) (b : Bool) : SetBit mk v o b =
    (if decide (o < 0) then pure (mk v, 0)
     else if decide (Int.tdiv o 8 > wrap .i64 (len v - 1)) then
       (makeBytes (wrap .i64 (Int.tdiv o 8 + 1)) >>= fun z => copyAt z 0 v >>= fun nv => setBitTail mk nv o b)
     else setBitTail mk v o b) := rfl

theorem setBitTail_eq {σ : Type} (mk : Bytes → σ) (w : Bytes) (o : Int) (b : Bool) (n : Nat) (ho : 0 ≤ o) (hn : o / 8 = n)
    (hi : n < w.length) :
    setBitTail mk w o b = .ok
      (mk (w.set n (if b then w.getD n 0 ||| DsStr.bitMask o else w.getD n 0 &&& ~~~ DsStr.bitMask o)),
       if (w.getD n 0 &&& DsStr.bitMask o) != 0 then 1 else 0) := by
  have hdiv : Int.tdiv o 8 = n := (Int.tdiv_eq_ediv_of_nonneg ho).trans hn
  have hmod : Int.tmod o 8 = o % 8 := Int.tmod_eq_emod_of_nonneg ho
  have hrange : 0 ≤ (n : Int) ∧ (n : Int) < (w.length : Int) := by omega
  have hidx := idx_ok w n hrange
  have hset := fun x => setIdx_ok w n x hrange
  rw [Int.toNat_natCast] at hidx hset
  generalize w.getD n 0 = c at *
  unfold setBitTail
  simp only [hdiv, hmod, hidx, bind, Except.bind, shl_bitMask o, band_u8, bor_u8, bandnot_u8, toNat_bne_zero,
    hset, byteOf_toNat]
  cases b
  all_goals
    simp only [Bool.false_eq_true, if_true, if_false]
    by_cases h : (c &&& DsStr.bitMask o != 0) = true
    · rw [if_pos h, if_pos h]; rfl
    · rw [if_neg h, if_neg h]; rfl

theorem SetBit_eq_model {σ : Type} (mk : Bytes → σ) (v : Bytes) (o : Int) (b : Bool) (hv : v.length < 2 ^ 58) (ho : inInt64 o) :
    SetBit mk v o b = .ok (mk ((DsStr.setBit (some v) o b).1.getD []), (DsStr.setBit (some v) o b).2) := by
  have ho' := inInt64_iff.mp ho
  rw [SetBit_struct]
  by_cases hneg : o < 0
  · simp [hneg, DsStr.setBit, pure, Except.pure]
  obtain ⟨n, hn⟩ : ∃ n : Nat, o / 8 = n := ⟨(o / 8).toNat, by omega⟩
  have hdiv : Int.tdiv o 8 = n := (Int.tdiv_eq_ediv_of_nonneg (by omega)).trans hn
  have hw1 : wrap .i64 (len v - 1) = (v.length : Int) - 1 := by rw [len_eq, wrap_i64_id]; omega
  have hw2 : wrap .i64 ((n : Int) + 1) = (n + 1 : Nat) := wrap_i64_id (by omega)
  simp only [hneg, if_false, hdiv, hn, hw1, hw2, DsStr.setBit, DsStr.bytes, Option.getD_some, Int.toNat_natCast]
  by_cases hg : (n : Int) > (v.length : Int) - 1
  · -- the value is grown with zero bytes up to the byte that holds the bit
    have hcp := copyAt_prefix [] (List.replicate (n + 1) 0) v (by rw [List.length_replicate]; omega)
    simp only [List.nil_append, List.length_nil, Int.natCast_zero, List.drop_replicate] at hcp
    simp only [hg, if_true, makeBytes_ok (Int.natCast_nonneg _), Int.toNat_natCast, bind, Except.bind, hcp]
    rw [setBitTail_eq mk _ o b n (by omega) hn (by rw [List.length_append, List.length_replicate]; omega)]
    rfl
  · simp only [hg, if_false]
    rw [setBitTail_eq mk v o b n (by omega) hn (by omega)]
    rfl

end NodisVerif.StrNF

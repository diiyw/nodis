import NodisVerif.Proofs.TxProgCS
import NodisVerif.Proofs.TxProgInv
/-
  Program model of tx.go: reachable program states; concrete schedules (non-vacuity examples of Props/C05-C07); which
  transitions can be disabled at all (`mayBlock`); `store.mu` is never part of a deadlock.
-/
namespace NodisVerif.Proofs.TxProg
open NodisVerif.Proto (Key Rec Mode Ev Hold TxSt PState assoc erase put Tx)
open NodisVerif.TxProg
open NodisVerif.Proofs.Proto

def ProgReachable (c : Cfg) : Prop := ∃ sch, (TxProg.run {} sch).1 = c

theorem ProgReachable.strong {c : Cfg} (h : ProgReachable c) : ∃ p, Reachable p ∧ Strong c p := by
  obtain ⟨sch, rfl⟩ := h
  obtain ⟨p, _, hp⟩ := strong_refines Strong.init sch
  exact ⟨p, hp.sim.reach, hp⟩

theorem run_append (c : Cfg) (a b : List (Tid × Choice)) :
    TxProg.run c (a ++ b) = ((TxProg.run (TxProg.run c a).1 b).1, (TxProg.run c a).2 ++ (TxProg.run (TxProg.run c a).1 b).2) := by
  induction a generalizing c with
  | nil => simp [TxProg.run]
  | cons x a ih =>
    obtain ⟨t, ch⟩ := x
    cases hs : TxProg.step c t ch with
    | none => simp only [List.cons_append, run_cons_none hs]; exact ih c
    | some r =>
      obtain ⟨c', e⟩ := r
      simp only [List.cons_append, run_cons_some hs, ih c', List.append_assoc]

theorem ProgReachable.step {c c' : Cfg} {t : Tid} {ch : Choice} {e : Option Ev} (h : ProgReachable c)
    (hs : TxProg.step c t ch = some (c', e)) : ProgReachable c' := by
  obtain ⟨sch, rfl⟩ := h
  refine ⟨sch ++ [(t, ch)], ?_⟩
  rw [run_append]
  simp [TxProg.run, hs]

def moves (t : Tid) (ch : Choice) (n : Nat) : List (Tid × Choice) := List.replicate n (t, ch)

/-- thread 1 creates key "k" (lockKey: placeholder 10, newKey publishes it) while thread 2 (readKey) finds the
    placeholder, waits for it in read mode, is granted the lock after thread 1's commit, validates, and commits -/
def schedCreate : List (Tid × Choice) :=
  moves 1 { call := .begin [("k", true, true)], fresh := 10 } 7 ++      -- begin … look - … claim
  moves 2 { call := .begin [("k", false, false)] } 5 ++                 -- begin, look 10, wait (then blocked)
  moves 1 { call := .newKey "k" } 8 ++                                  -- look 10 (held), publish
  moves 2 {} 1 ++                                                       -- still blocked: skipped
  moves 1 { call := .commit } 5 ++                                      -- commit, unlock, fin
  moves 2 { call := .commit } 12                                        -- lock, valid, return; commit, unlock, fin

/-- SMOVE-like command of thread 1 over keys "a" < "b" (lockKeys sorted), both missing: two placeholders, both
    dropped at the commit -/
def schedTwoKeys : List (Tid × Choice) :=
  moves 1 { call := .begin [("a", true, true), ("b", false, true)], fresh := 1 } 7 ++
  moves 1 { fresh := 2 } 6 ++
  moves 1 { call := .commit } 20

/-- thread 1 creates "k" and commits; the eviction pass (thread 3, `gcRecord` on record 10, which it finds dead)
    locks it, validates it against the index, unlinks it; a second mini transaction on the same record (thread 4, from
    an older `records()` snapshot) then fails its validation and gives up without a commit -/
def schedGc : List (Tid × Choice) :=
  moves 1 { call := .begin [("k", true, true)], fresh := 10 } 7 ++
  moves 1 { call := .newKey "k" } 8 ++
  moves 1 { call := .commit } 5 ++
  moves 3 { call := .mini 10, dead := true } 14 ++
  moves 4 { call := .mini 10 } 10

/-- the transitions that can be disabled at all: a mutex acquisition (`s.mu.RLock` a1 a10 g4, `s.mu.Lock` a4 n2 d1 c8 g7,
    the record lock a8 g2), the choice of the next call (init, idle), an allocation (a5, d3: the scheduler must offer
    a fresh id) and d2 (never disabled in a reachable state: `delKey_not_stuck`) -/
def mayBlock : Pc → Bool
  | .init | .idle | .a1 | .a10 | .a4 | .n2 | .d1 | .c8 | .a8 | .a5 | .d3 | .d2 | .g2 | .g4 | .g7 => true
  | _ => false

/-- every other transition is always enabled: in particular nothing inside an `s.mu` section (except the two
    allocations) and nothing in `commit` except `s.mu.Lock()` can block -/
theorem enabled_unless_mayBlock (c : Cfg) (t : Tid) (ch : Choice) (h : mayBlock (c.loc t).pc = false) :
    (TxProg.step c t ch).isSome = true := by
  have key : (tstep c.sh t (c.loc t) ch).isSome = true := by
    -- a branch of `tstep` is `some …`, or it is a branch of a pc inside `mayBlock`
    fun_cases tstep c.sh t (c.loc t) ch
    all_goals first | rfl | (rw [‹(c.loc t).pc = _›] at h; cases h)
  unfold TxProg.step
  cases hx : tstep c.sh t (c.loc t) ch with
  | none => rw [hx] at key; cases key
  | some r => rfl

def commitPc : Pc → Bool
  | .c2 | .c3 | .c4 | .c5 | .c6 | .c7 | .c8 | .c9 | .c10 | .c11 | .c12 | .cend => true
  | _ => false

theorem commitPc_commitNext (s : Shared) (l : Loc) : commitPc (commitNext s l).pc = true := by
  rcases pc_commitNext s l with h | h | h | h <;> rw [h] <;> rfl

theorem commit_phase_closed {s s' : Shared} {t : Tid} {l l' : Loc} {ch : Choice} {e : Option Ev}
    (h : tstep s t l ch = some (s', l', e)) (hc : commitPc l.pc = true) :
    commitPc l'.pc = true ∨ (l' = {} ∧ e = some (.fin t)) := by
  replace h := tstep_inv h
  cases h <;> rw [‹l.pc = _›] at hc <;> cases hc
  case cend => exact Or.inr ⟨rfl, rfl⟩
  case c3 | c6_fail | c12 => exact Or.inl (commitPc_commitNext _ _)
  all_goals exact Or.inl rfl

theorem commit_phase_events {s s' : Shared} {t : Tid} {l l' : Loc} {ch : Choice} {ev : Ev}
    (h : tstep s t l ch = some (s', l', some ev)) (hc : commitPc l.pc = true) :
    (∃ r, ev = .unlock t r) ∨ (∃ k r, ev = .trylock t k r) ∨ (∃ k r, ev = .drop t k r) ∨ ev = .fin t := by
  replace h := tstep_inv h
  cases h <;> rw [‹l.pc = _›] at hc <;> cases hc
  case c2 | c4 | c11 => exact Or.inl ⟨_, rfl⟩
  case c7 => exact Or.inr (Or.inl ⟨_, _, rfl⟩)
  case c9_drop => exact Or.inr (Or.inr (Or.inl ⟨_, _, rfl⟩))
  case cend => exact Or.inr (Or.inr (Or.inr rfl))

theorem fst_le_sum {β : Type} (l : List (Nat × β)) : ∀ q ∈ l, q.1 ≤ (l.map (·.1)).sum := by
  induction l with
  | nil => intro q hq; cases hq
  | cons x l ih =>
    intro q hq
    simp only [List.map_cons, List.sum_cons]
    rcases List.mem_cons.1 hq with rfl | hq
    · omega
    · have := ih q hq; omega

/-- `newMetadata()` can always return a new object -/
theorem exists_fresh (names : List (Rec × Key)) : ∃ r, assoc names r = none := by
  refine ⟨(names.map (·.1)).sum + 1, ?_⟩
  cases h : assoc names ((names.map (·.1)).sum + 1) with
  | none => rfl
  | some k =>
    have := fst_le_sum names _ (mem_of_assoc h)
    exact absurd this (Nat.not_succ_le_self _)

/-- the pcs at which a thread asks for `store.mu` -/
def smuAcquire : Pc → Bool
  | .a1 | .a10 | .g4 | .a4 | .n2 | .d1 | .c8 | .g7 => true
  | _ => false

/-- inside a `store.mu` section the code waits for nothing (but for a fresh object from the scheduler) -/
theorem smu_holder_can_move {c : Cfg} {p : PState} (hst : Strong c p) {u : Tid}
    (hown : c.sh.smu.writer = some u ∨ u ∈ c.sh.smu.readers) (ch : Choice)
    (hfresh : assoc c.sh.names ch.fresh = none) :
    (c.loc u).pc ≠ .init ∧ (TxProg.step c u ch).isSome = true := by
  have hsec : inW (c.loc u).pc = true ∨ inR (c.loc u).pc = true := by
    rcases hown with h | h
    · exact Or.inl ((hst.conv u).1 h)
    · exact Or.inr ((hst.conv u).2 h)
  have hne : (c.loc u).pc ≠ .init := by
    intro h; rw [h] at hsec; simp [inW, inR] at hsec
  refine ⟨hne, ?_⟩
  by_cases hmb : mayBlock (c.loc u).pc = false
  · exact enabled_unless_mayBlock c u ch hmb
  · have hmb : mayBlock (c.loc u).pc = true := by simpa using hmb
    cases hpc : (c.loc u).pc <;> simp [hpc, mayBlock] at hmb <;> simp [hpc, inW, inR] at hsec
    · -- a5
      unfold TxProg.step
      simp only [tstep, hpc]
      cases c.sh.lookup (c.loc u).key <;> simp [hfresh]
    · -- d2
      exact delKey_not_stuck hst hpc ch
    · -- d3
      unfold TxProg.step
      simp [tstep, hpc, hfresh]

theorem blocked_on_smu_by_a_mover {c : Cfg} {p : PState} (hst : Strong c p) {t : Tid} {ch : Choice}
    (hpc : smuAcquire (c.loc t).pc = true) (hblocked : TxProg.step c t ch = none) :
    ∃ u, u ≠ t ∧ (c.loc u).pc ≠ .init ∧
      ∀ ch', assoc c.sh.names ch'.fresh = none → (TxProg.step c u ch').isSome = true := by
  have hnot : inW (c.loc t).pc = false ∧ inR (c.loc t).pc = false := by
    cases hq : (c.loc t).pc <;> simp [hq, smuAcquire] at hpc <;> simp [inW, inR]
  have howner : ∃ u, c.sh.smu.writer = some u ∨ u ∈ c.sh.smu.readers := by
    cases hw : c.sh.smu.writer with
    | some u => exact ⟨u, Or.inl rfl⟩
    | none =>
      cases hr : c.sh.smu.readers with
      | cons u l => exact ⟨u, Or.inr (by simp)⟩
      | nil =>
        exfalso
        unfold TxProg.step at hblocked
        cases hq : (c.loc t).pc <;> simp [hq, smuAcquire] at hpc <;>
          simp [tstep, hq, Mu.canLock, Mu.canRLock, hw, hr] at hblocked
  obtain ⟨u, hu⟩ := howner
  obtain ⟨r, hr⟩ := exists_fresh c.sh.names
  refine ⟨u, ?_, (smu_holder_can_move hst hu { fresh := r } hr).1,
    fun ch' hf => (smu_holder_can_move hst hu ch' hf).2⟩
  intro e; subst e
  rcases hu with h | h
  · have := (hst.conv u).1 h; rw [hnot.1] at this; cases this
  · have := (hst.conv u).2 h; rw [hnot.2] at this; cases this

end NodisVerif.Proofs.TxProg

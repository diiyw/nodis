import NodisVerif.Proofs.GateProgEff
import NodisVerif.Proofs.GateInv
/-
  The program model of the EXEC gate refines the gate protocol: the global invariant `Inv`, the refinement relation
  `R` between a configuration of the program and a state of `Model/Gate.lean`, and how the two are
  re-established after a transition of a thread, part by part.
-/
namespace NodisVerif.GateProg
open NodisVerif.Gate (G T GMode Ev GState)

structure Inv (c : Cfg) : Prop where
  ok : ∀ g, ok (c.loc g) (c.sh.conn g).commit
  mu : ∀ g m, (g, m) ∈ c.sh.execMu ↔ (c.loc g).held = some m
  xalone : ∀ h ∈ c.sh.execMu, h.2 = .x → c.sh.execMu = [h]
  act : ∀ x g, (x, g) ∈ c.sh.active ↔ (c.loc g).tx = some x
  actu : ∀ x g g', (x, g) ∈ c.sh.active → (x, g') ∈ c.sh.active → g = g'
  emb : ∀ g, (c.loc g).emb = true → c.sh.clients.contains g = false

abbrev MuOk (c : Cfg) : Prop :=
  (∀ g m, (g, m) ∈ c.sh.execMu ↔ (c.loc g).held = some m) ∧ ∀ h ∈ c.sh.execMu, h.2 = .x → c.sh.execMu = [h]

abbrev ActOk (c : Cfg) : Prop :=
  (∀ x g, (x, g) ∈ c.sh.active ↔ (c.loc g).tx = some x) ∧ ∀ x g g', (x, g) ∈ c.sh.active → (x, g') ∈ c.sh.active → g = g'

/-- the gate state the tracer has been told about -/
def R (c : Cfg) (gs : GState) : Prop :=
  gs.clients = c.sh.clients ∧ gs.active = c.sh.active ∧
  ∀ g m, (g, m) ∈ gs.holders ↔ ((c.loc g).held = some m ∧ (c.loc g).rep = true)

theorem loc_put (c : Cfg) (s' : Shared) (t : Tid) (l' : Loc) (g : Tid) :
    (Cfg.mk s' (put c.thr t l')).loc g = if g = t then l' else c.loc g := by
  unfold Cfg.loc
  by_cases h : g = t
  · subst h; simp [assoc_put_same]
  · simp [h, assoc_put_other _ _ _ _ h]

theorem step_inv {c c' : Cfg} {t : Tid} {ch : Choice} {evs : List Ev} (hs : step c t ch = some (c', evs)) :
    ∃ s l, tstep c.sh t (c.loc t) ch = some (s, l, evs) ∧ c' = Cfg.mk s (put c.thr t l) := by
  unfold step at hs
  split at hs
  · cases hs
  · cases hs; exact ⟨_, _, ‹_›, rfl⟩

theorem run_preserves {P : Cfg → Prop} (hstep : ∀ {c c' t ch evs}, P c → step c t ch = some (c', evs) → P c') :
    ∀ (sch : List (Tid × Choice)) (c : Cfg), P c → P (run c sch).1
  | [], _, h => h
  | (t, ch) :: sch, c, h => by
    simp only [run]
    cases hst : step c t ch with
    | none => exact run_preserves hstep sch c h
    | some p => exact run_preserves hstep sch p.1 (hstep h hst)

theorem inv_init : Inv {} where
  ok := fun _ => ⟨rfl, rfl, rfl, rfl⟩
  mu := fun _ _ => ⟨nofun, nofun⟩
  xalone := nofun
  act := fun _ _ => ⟨nofun, nofun⟩
  actu := nofun
  emb := fun _ _ => rfl

theorem R_init : R {} {} := ⟨rfl, rfl, fun _ _ => ⟨nofun, fun h => nomatch h.1⟩⟩

section
variable {c : Cfg} {t : Tid} {ch : Choice} {s' : Shared} {l' : Loc} {evs : List Ev}

theorem ok_after (hi : Inv c) (hs : tstep c.sh t (c.loc t) ch = some (s', l', evs)) (g : Tid) :
    ok ((Cfg.mk s' (put c.thr t l')).loc g) (s'.conn g).commit := by
  rw [loc_put]
  by_cases hg : g = t
  · subst hg; simp only [if_true]; exact ok_step (hi.ok g) hs
  · simp only [hg, if_false]
    rw [(tstep_conn_other hs hg).2.1]; exact hi.ok g

theorem mu_keep (hi : Inv c) (h1 : s'.execMu = c.sh.execMu) (h4 : l'.held = (c.loc t).held) :
    MuOk (Cfg.mk s' (put c.thr t l')) := by
  dsimp only [MuOk]
  rw [h1]
  refine ⟨fun g m => ?_, hi.xalone⟩
  rw [loc_put, hi.mu]
  by_cases hg : g = t
  · subst hg; simp [h4]
  · simp [hg]

theorem act_keep (hi : Inv c) (h2 : s'.active = c.sh.active) (h6 : l'.tx = (c.loc t).tx) :
    ActOk (Cfg.mk s' (put c.thr t l')) := by
  dsimp only [ActOk]
  rw [h2]
  refine ⟨fun x g => ?_, hi.actu⟩
  rw [loc_put, hi.act]
  by_cases hg : g = t
  · subst hg; simp [h6]
  · simp [hg]

theorem emb_keep (hi : Inv c) (h3 : ∀ g, g ≠ t → s'.clients.contains g = c.sh.clients.contains g)
    (h7 : l'.emb = true → s'.clients.contains t = false) (g : Tid) :
    ((Cfg.mk s' (put c.thr t l')).loc g).emb = true → s'.clients.contains g = false := by
  rw [loc_put]
  by_cases hg : g = t
  · subst hg; simpa using h7
  · simp only [hg, if_false]; rw [h3 g hg]; exact hi.emb g

theorem emb_same (hi : Inv c) (h3 : s'.clients = c.sh.clients) (h7 : l'.emb = (c.loc t).emb) (g : Tid) :
    ((Cfg.mk s' (put c.thr t l')).loc g).emb = true → s'.clients.contains g = false :=
  emb_keep hi (fun _ _ => by rw [h3]) (fun he => by rw [h3]; exact hi.emb t (h7 ▸ he)) g

theorem inv_put {c' : Cfg} (hok : ∀ g, ok (c'.loc g) (c'.sh.conn g).commit) (hmu : MuOk c') (hact : ActOk c')
    (hemb : ∀ g, (c'.loc g).emb = true → c'.sh.clients.contains g = false) : Inv c' :=
  ⟨hok, hmu.1, hmu.2, hact.1, hact.2, hemb⟩

theorem inv_keep (hi : Inv c) (hs : tstep c.sh t (c.loc t) ch = some (s', l', evs))
    (h1 : s'.execMu = c.sh.execMu) (h2 : s'.active = c.sh.active)
    (h3 : ∀ g, g ≠ t → s'.clients.contains g = c.sh.clients.contains g)
    (h4 : l'.held = (c.loc t).held) (h6 : l'.tx = (c.loc t).tx)
    (h7 : l'.emb = true → s'.clients.contains t = false) : Inv (Cfg.mk s' (put c.thr t l')) :=
  inv_put (ok_after hi hs) (mu_keep hi h1 h4) (act_keep hi h2 h6) (emb_keep hi h3 h7)

theorem R_put {gs gs' : GState} (hr : R c gs) (hc : gs'.clients = s'.clients) (ha : gs'.active = s'.active)
    (hh : gs'.holders = gs.holders)
    (h : (l'.held = (c.loc t).held ∧ l'.rep = (c.loc t).rep) ∨ (l'.rep = false ∧ (c.loc t).rep = false)) :
    R (Cfg.mk s' (put c.thr t l')) gs' := by
  refine ⟨hc, ha, fun g m => ?_⟩
  rw [hh, loc_put, hr.2.2]
  by_cases hg : g = t
  · subst hg
    rcases h with ⟨h4, h5⟩ | ⟨h5, h5'⟩
    · simp [h4, h5]
    · simp [h5, h5']
  · simp [hg]

theorem R_keep {gs : GState} (hr : R c gs) (h2 : s'.active = c.sh.active) (h3 : s'.clients = c.sh.clients)
    (h4 : l'.held = (c.loc t).held) (h5 : l'.rep = (c.loc t).rep) : R (Cfg.mk s' (put c.thr t l')) gs :=
  R_put hr (hr.1.trans h3.symm) (hr.2.1.trans h2.symm) rfl (.inl ⟨h4, h5⟩)

end

/-- only the tracer's holders matter here, so `hh` is the last part of an `R` -/
theorem holds_R {c : Cfg} {gs : GState}
    (hh : ∀ g m, (g, m) ∈ gs.holders ↔ ((c.loc g).held = some m ∧ (c.loc g).rep = true)) (g : Tid) :
    gs.holds g = true ↔ ((c.loc g).held.isSome = true ∧ (c.loc g).rep = true) := by
  rw [Gate.holds_iff]
  constructor
  · rintro ⟨m, hm⟩
    have := (hh g m).1 hm
    simp [this.1, this.2]
  · rintro ⟨h1, h2⟩
    obtain ⟨m, hm⟩ := Option.isSome_iff_exists.1 h1
    exact ⟨m, (hh g m).2 ⟨hm, h2⟩⟩

theorem holdsX_R {c : Cfg} {gs : GState} (hr : R c gs) {g : Tid} (hx : (c.loc g).held = some .x ∧ (c.loc g).rep = true) :
    gs.holdsX g = true :=
  Gate.holdsX_iff.2 ((hr.2.2 g .x).2 hx)

theorem allowed_R {c : Cfg} {gs : GState} (hi : Inv c) (hr : R c gs) (g : Tid)
    (hc : (c.loc g).emb = true ∨ ((c.loc g).held.isSome = true ∧ (c.loc g).rep = true)) : gs.allowed g = true := by
  unfold GState.allowed GState.isClient
  rcases hc with hc | hc
  · rw [hr.1, hi.emb g hc]; rfl
  · rw [(holds_R hr.2.2 g).2 hc]; simp

theorem no_active_R {c : Cfg} {gs : GState} (hi : Inv c) (hr : R c gs) (g : Tid) (h : (c.loc g).tx = none) :
    gs.active.any (·.2 == g) = false := by
  rw [hr.2.1]
  cases hany : c.sh.active.any (·.2 == g) with
  | false => rfl
  | true =>
    simp only [List.any_eq_true, beq_iff_eq] at hany
    obtain ⟨⟨x, g'⟩, hm, rfl⟩ := hany
    have := (hi.act x g').1 hm
    rw [h] at this; cases this

/-- the `serve` the tracer derives from a report with a connection -/
theorem serve_step {c : Cfg} {gs : GState} (hi : Inv c) (hr : R c gs) (t : Tid) (h : (c.loc t).tx = none) :
    Gate.step gs (.serve t) = some { gs with clients := (c.sh.serve t).clients } := by
  simp only [Gate.step, GState.isClient, Shared.serve, hr.1]
  by_cases hc : c.sh.clients.contains t = true
  · simp only [hc, if_true]; rw [← hr.1]
  · have hc' : c.sh.clients.contains t = false := by simpa using hc
    have := no_active_R hi hr t h
    have hm : t ∉ c.sh.clients := by simpa using hc'
    simp [hm, this]

theorem serve_contains (s : Shared) (t g : Tid) (hg : g ≠ t) : (s.serve t).clients.contains g = s.clients.contains g := by
  unfold Shared.serve
  split
  · rfl
  · simp [hg]

end NodisVerif.GateProg

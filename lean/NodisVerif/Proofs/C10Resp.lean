import NodisVerif.Proofs.C10Cmd

/-
  C10: commands respect the observational equivalence (`Resp now f`: on `Good`-related states `f` gives the same reply
  and related states).  A single-key command is one line, `resp_keyTx` (ZREM and its siblings: `resp_remTx`) on its
  equation `Api.f = keyTx …` of Proofs/KeyTxApi.lean; most of these lines stand where they are used, in Props/C10.lean,
  and only the three that the multi-key proofs below call are lemmas here.  The multi-key commands (DEL, EXISTS, KEYS,
  RANDOMKEY, SETNX, GETSET, RENAME, RENAMENX, set algebra, MSET; more in C10More) go directly from the primitive lemmas
  of C10Sim.
-/
namespace NodisVerif.Proofs.C10
open NodisVerif Store
open NodisVerif.Proofs.AListLemmas NodisVerif.Proofs.AListLemmas2

section
variable {V : Type}

theorem filter_keys_eq (p q : Bytes × V → Bool) (m m' : AList V) (hs : AList.Sorted m) (hs' : AList.Sorted m')
    (h : ∀ k, ((AList.get? m k).filter fun v => p (k, v)).isSome
            = ((AList.get? m' k).filter fun v => q (k, v)).isSome) :
    (m.filter p).map (·.1) = (m'.filter q).map (·.1) := by
  have e : (m.filter p).map (fun x => (x.1, ())) = (m'.filter q).map (fun x => (x.1, ())) := by
    apply ext_of_sorted
    · exact sorted_of_keys _ _ (by simp [List.map_map]) (sorted_filter p m hs)
    · exact sorted_of_keys _ _ (by simp [List.map_map]) (sorted_filter q m' hs')
    · intro k
      rw [get?_map (fun _ (_ : V) => ()) _ k, get?_map (fun _ (_ : V) => ()) _ k,
        get?_filter p m hs, get?_filter q m' hs']
      have := h k
      revert this
      cases (AList.get? m k).filter fun v => p (k, v) <;>
        cases (AList.get? m' k).filter fun v => q (k, v) <;> simp
  have := congrArg (List.map (·.1)) e
  rw [List.map_map, List.map_map] at this
  exact this

end

def Resp {α : Type} (now : Int) (f : MState → MState × α) : Prop :=
  ∀ s s', Good now s s' → RSim now (f s) (f s')

variable {now : Int} {s s' : MState}

theorem resp_keyTx {k : Bytes} {f : MState → Api.R} {write : Bool} {mk : Option Val} {miss : Out}
    {nov : MState → Api.R} {dec : Val → Int → C11.Act}
    (h : ∀ s, f s = C11.keyTx write mk miss nov dec s now k) (hw : write = false → mk = none) : Resp now f := by
  intro s s' gd; rw [h s, h s']; exact keyTx_good gd write mk miss nov dec k hw

theorem resp_remTx {k : Bytes} {f : MState → Api.R} {g : ZSet → ZSet × Int} {op : FeedOp}
    (h : ∀ s, f s = C20.remTx g op s now k) : Resp now f := by
  intro s s' gd; rw [h s, h s']; exact remTx_good gd g op k

section single
variable (now : Int) (k : Bytes)

theorem resp_set (v : Bytes) (keep : Bool) : Resp now (fun s => Api.set s now k v keep) :=
  resp_keyTx (fun s => C11.set_eq s now k v keep) nofun
theorem resp_sadd (ms : List Bytes) : Resp now (fun s => Api.sadd s now k ms) :=
  resp_keyTx (fun s => C11.sadd_eq s now k ms) nofun
theorem resp_sread (f : AList Unit → Out) (d : Out) : Resp now (fun s => Api.sread f d s now k) :=
  resp_keyTx (fun s => C11.sread_eq f d s now k) (fun _ => rfl)

end single

theorem foldl_inv {β : Type} (I : MState → MState → Prop) (f : MState × β → Bytes → MState × β)
    (hf : ∀ a a' key, a.2 = a'.2 → I a.1 a'.1 → (f a key).2 = (f a' key).2 ∧ I (f a key).1 (f a' key).1) :
    ∀ (keys : List Bytes) (a a' : MState × β), a.2 = a'.2 → I a.1 a'.1 →
      (keys.foldl f a).2 = (keys.foldl f a').2 ∧ I (keys.foldl f a).1 (keys.foldl f a').1 := by
  intro keys
  induction keys with
  | nil => intro a a' h g; exact ⟨h, g⟩
  | cons key rest ih =>
    intro a a' h g
    obtain ⟨h1, g1⟩ := hf a a' key h g
    exact ih _ _ h1 g1

theorem setSignalled_good (g : Good now s s') (l l' : List Bytes) (h : l = l') :
    Good now { s with signalled := l } { s' with signalled := l' } := by
  subst h
  exact g.frameStep (fun fr => { fr with signalled := l }) ⟨rfl, rfl, rfl, rfl⟩ ⟨rfl, rfl, rfl, rfl⟩

theorem resp_del (now : Int) (keys : List Bytes) : Resp now (fun s => Api.del s now keys) := by
  intro s s' g
  unfold Api.del
  have key := foldl_inv (Good now) (β := Int)
    (fun (acc : MState × Int) key =>
      match writeKey acc.1 now key none with
      | (s, ok) =>
        if !ok then (s, acc.2) else
        (emit { delKey s key with signalled := key :: s.signalled } { typ := 2, key := key }, acc.2 + 1))
    (by
      intro a a' key h gd
      obtain ⟨ok, s1, s1', hw, hw', g1, _⟩ := writeKey_pair gd key none
      rw [hw, hw']
      cases ok with
      | false => exact ⟨h, g1⟩
      | true =>
        simp only [Bool.not_true, Bool.false_eq_true, if_false]
        refine ⟨by rw [h], ?_⟩
        apply emit_good
        exact setSignalled_good (delKey_good g1 key) _ _ (by rw [g1.signalled]))
    keys (s, 0) (s', 0) rfl g
  obtain ⟨h1, h2⟩ := key
  exact ⟨by simp only; rw [h1], h2⟩

theorem resp_exists (now : Int) (keys : List Bytes) : Resp now (fun s => Api.exists_ s now keys) := by
  intro s s' g
  unfold Api.exists_
  have key := foldl_inv (Good now) (β := Int)
    (fun (acc : MState × Int) key =>
      match readKey acc.1 now key with
      | (s, ok) => (s, if ok then acc.2 + 1 else acc.2))
    (by
      intro a a' key h gd
      obtain ⟨ok, s1, s1', hw, hw', g1, _⟩ := readKey_pair gd key
      rw [hw, hw']
      exact ⟨by simp only; rw [h], g1⟩)
    keys (s, 0) (s', 0) rfl g
  obtain ⟨h1, h2⟩ := key
  exact ⟨by simp only; rw [h1], h2⟩

theorem resp_expire (now : Int) (k : Bytes) (sec : Int) : Resp now (fun s => Api.expire s now k sec) := by
  intro s s' g
  by_cases h0 : sec = 0
  · simp only [Api.expire, h0, if_true]
    exact resp_del now [k] s s' g
  · simp only [C11.expire_eq _ now k sec h0]
    exact keyTx_good g _ _ _ _ _ k nofun

theorem resp_expirePX (now : Int) (k : Bytes) (ms : Int) : Resp now (fun s => Api.expirePX s now k ms) := by
  intro s s' g
  by_cases h0 : ms = 0
  · simp only [Api.expirePX, h0, if_true]
    exact resp_del now [k] s s' g
  · simp only [C11.expirePX_eq _ now k ms h0]
    exact keyTx_good g _ _ _ _ _ k nofun

theorem visible_iff (now : Int) (s : MState) (k : Bytes) :
    (vis now s k).isSome = ((AList.get? s.index k).filter fun m => !m.expired now).isSome := by
  unfold vis getMeta
  cases (AList.get? s.index k).filter fun m => !m.expired now <;> rfl

theorem keys_good (g : Good now s s') (pat : Bytes) :
    (s.index.filter fun (p : Bytes × Meta) => Glob.matched pat p.1 && !p.2.expired now).map (·.1) =
    (s'.index.filter fun (p : Bytes × Meta) => Glob.matched pat p.1 && !p.2.expired now).map (·.1) := by
  apply filter_keys_eq _ _ _ _ g.sorted₁ g.sorted₂
  intro k
  have h := congrArg Option.isSome (g.vis k)
  rw [visible_iff, visible_iff] at h
  cases hm : Glob.matched pat k with
  | false =>
    simp only [hm, Bool.false_and]
    cases AList.get? s.index k <;> cases AList.get? s'.index k <;> simp [Option.filter]
  | true =>
    simp only [hm, Bool.true_and]
    exact h

theorem resp_keys (now : Int) (pat : Bytes) : Resp now (fun s => Api.keys s now pat) := by
  intro s s' g
  unfold Api.keys
  have h := keys_good g pat
  exact ⟨by simp only; rw [h], g⟩

theorem liveKeys_good (g : Good now s s') :
    Api.liveKeys s now = Api.liveKeys s' now := by
  unfold Api.liveKeys
  apply filter_keys_eq _ _ _ _ g.sorted₁ g.sorted₂
  intro k
  have h := congrArg Option.isSome (g.vis k)
  rw [visible_iff, visible_iff] at h
  exact h

theorem resp_randomKey (now : Int) (choice : Option Bytes) : Resp now (fun s => Api.randomKey s now choice) := by
  intro s s' g
  unfold Api.randomKey
  simp only [liveKeys_good g]
  cases choice <;> exact ⟨rfl, g⟩

theorem hot_newKeyWith (now : Int) (s : MState) (k : Bytes) (old : Option Meta) (v : Val) :
    Hot now (newKeyWith s k old v) k :=
  ⟨freshRec s.nextId v, by rw [vis_newKeyWith, if_pos rfl], rfl⟩

theorem hot_setExp_zero {now : Int} {s : MState} {k : Bytes} (h : Hot now s k) : Hot now (Api.setExp s k 0) k := by
  obtain ⟨r, hr, hot⟩ := h
  refine ⟨{ r with exp := 0 }, ?_, hot⟩
  rw [vis_setExp now s k k 0 r hr hot, if_pos rfl, if_neg (by simp)]

theorem Hot.visible {now : Int} {s : MState} {k : Bytes} (h : Hot now s k) : (vis now s k).isSome = true := by
  obtain ⟨r, hr, _⟩ := h; rw [hr]; rfl

theorem resp_setNX (now : Int) (k value : Bytes) (keep : Bool) :
    Resp now (fun s => Api.setNX s now k value keep) := by
  intro s s' g
  show RSim now (Api.setNX s now k value keep) (Api.setNX s' now k value keep)
  unfold Api.setNX
  obtain ⟨ok, s1, s1', hw, hw', g1, _⟩ := writeKey_pair g k none
  rw [hw, hw']
  cases ok with
  | true => exact ⟨rfl, g1⟩
  | false =>
    simp only [Bool.false_eq_true, if_false]
    refine ⟨rfl, ?_⟩
    apply emit_good
    apply signal_good
    have g2 := newKeyWith_good g1 k none none (.str [])
    have h2 := hot_newKeyWith now s1 k none (.str [])
    cases keep with
    | true => exact setVal_good g2 k _ h2.visible
    | false => exact setVal_good (setExp_good g2 k 0 h2) k _ (hot_setExp_zero h2).visible

theorem resp_getSet (now : Int) (k v : Bytes) : Resp now (fun s => Api.getSet s now k v) := by
  intro s s' g
  show RSim now (Api.getSet s now k v) (Api.getSet s' now k v)
  rw [C11.getSet_eq, C11.getSet_eq]
  obtain ⟨⟨e, g1⟩, _⟩ := writeKey_good g k none
  rw [← e]
  cases hok : (writeKey s now k none).2 with
  | true =>
    simp only [Bool.not_true, Bool.false_eq_true, if_false]
    exact keyTx_good g _ _ _ _ _ k nofun
  | false =>
    simp only [Bool.not_false, if_true]
    refine ⟨rfl, ?_⟩
    dsimp only  -- the projection `( _, _).1` first: through it `apply` would unfold `emit` and `signal` field by field
    apply emit_good
    apply signal_good
    have g2 := newKeyWith_good g1 k none none (.str [])
    have h2 := hot_newKeyWith now (writeKey s now k none).1 k none (.str [])
    have g3 := setVal_good g2 k (.str v) h2.visible
    exact setExp_good g3 k 0 (setVal_hot k (.str v) h2.visible)

theorem hot_meta_agree {k : Bytes} {m m' : Meta} (g : Good now s s')
    (h : Hot now s k) (hm : getMeta s k = some m) (hm' : getMeta s' k = some m') :
    m.exp = m'.exp ∧ m.value = m'.value ∧ m.oid = m'.oid ∧ m.expired now = false ∧ m.value.isSome = true := by
  obtain ⟨r, hr, hot⟩ := h
  have hr' : vis now s' k = some r := by rw [← g.vis k]; exact hr
  obtain ⟨m1, h1, e1, r1⟩ := vis_some_getMeta hr
  obtain ⟨m2, h2, _, r2⟩ := vis_some_getMeta hr'
  rw [hm] at h1; cases h1
  rw [hm'] at h2; cases h2
  have e : recOf s k m = recOf s' k m' := by rw [← r1, ← r2]
  simp only [recOf, View.Rec.mk.injEq] at e
  refine ⟨e.1, e.2.1, e.2.2.2.2.2.2.2, e1, ?_⟩
  rw [r1] at hot; exact hot

theorem recOf_hot (s s' : MState) (k : Bytes) (m : Meta) (h : m.value.isSome = true) :
    recOf s k m = recOf s' k m := by
  simp only [recOf, h, if_true]

theorem replaceHot_good (g : Good now s s') (k : Bytes) (M : Meta)
    (h : M.value.isSome = true) :
    Good now (putMeta (match getMeta s k with | some dead => unpersist s k dead | none => s) k M)
      (putMeta (match getMeta s' k with | some dead => unpersist s' k dead | none => s') k M) := by
  have aux : ∀ (t : MState), AList.Sorted t.index →
      AList.Sorted (putMeta (match getMeta t k with | some dead => unpersist t k dead | none => t) k M).index ∧
      (∀ k', vis now (putMeta (match getMeta t k with | some dead => unpersist t k dead | none => t) k M) k' =
        if k = k' then (if M.expired now then none else some (recOf t k M)) else vis now t k') ∧
      frame (putMeta (match getMeta t k with | some dead => unpersist t k dead | none => t) k M) = frame t := by
    intro t ht
    cases hg : getMeta t k with
    | none =>
      simp only
      exact ⟨putMeta_sorted t k M ht, fun k' => vis_putMeta now t k k' M, rfl⟩
    | some dead =>
      simp only
      refine ⟨putMeta_sorted _ k M (by rw [unpersist_index]; exact ht), fun k' => ?_, unpersist_frame t k dead⟩
      rw [vis_putMeta]
      by_cases hk : k = k'
      · simp only [hk, if_true]; rw [recOf_hot _ t k' M h]
      · simp only [hk, if_false]; exact frameOn_vis (C01.frameOn_unpersist t k dead (K := [k]) List.mem_cons_self) now (by simpa using Ne.symm hk)
  obtain ⟨a1, a2, a3⟩ := aux s g.sorted₁
  obtain ⟨b1, b2, b3⟩ := aux s' g.sorted₂
  refine ⟨a1, b1, ⟨fun k' => ?_, by rw [a3, b3]; exact g.sim.frame⟩⟩
  rw [a2, b2, g.vis k', recOf_hot s s' k M h]

theorem setNextId_good (g : Good now s s') (n : Nat) :
    Good now { s with nextId := n } { s' with nextId := n } :=
  g.frameStep (fun fr => { fr with nextId := n }) ⟨rfl, rfl, rfl, rfl⟩ ⟨rfl, rfl, rfl, rfl⟩

theorem modMeta_good (g : Good now s s') (k : Bytes) (f : Meta → Meta)
    (gr : View.Rec → View.Rec) (hexp : ∀ m, (f m).expired now = m.expired now)
    (hrec : ∀ t m, recOf t k (f m) = gr (recOf t k m)) :
    Good now (modMeta s k f) (modMeta s' k f) := by
  refine ⟨modMeta_sorted s k f g.sorted₁, modMeta_sorted s' k f g.sorted₂, ⟨fun k' => ?_, ?_⟩⟩
  · rw [vis_modMeta now s k k' f gr hexp (hrec s), vis_modMeta now s' k k' f gr hexp (hrec s'), g.vis k, g.vis k']
  · rw [modMeta_frame, modMeta_frame]; exact g.sim.frame

/-- `dstMeta.setValue(meta.value)` with the source's value object -/
def adoptRec (oid : Nat) (v : Val) (r : View.Rec) : View.Rec :=
  { r with value := some v, load := none, oid := oid, vtype := v.typeCode, ok := true }

theorem recOf_adopt (t : MState) (k : Bytes) (oid : Nat) (v : Val) (d : Meta) :
    recOf t k (({ d with oid := oid } : Meta).setValue v) = adoptRec oid v (recOf t k d) := by
  simp only [recOf, adoptRec, Meta.setValue, Meta.isOk, Option.isSome_some, if_true, ok_set, ok_set_mod, decide_true]

theorem hot_of_vis {now : Int} {s : MState} {k : Bytes} {r : View.Rec} (h : vis now s k = some r)
    (hot : r.value.isSome = true) : Hot now s k := ⟨r, h, hot⟩

theorem hot_putMeta_hot (now : Int) (s : MState) (k : Bytes) (M : Meta) (hM : M.value.isSome = true)
    (he : M.expired now = false) : Hot now (putMeta s k M) k := by
  refine ⟨recOf s k M, ?_, by simp [recOf, hM]⟩
  rw [vis_putMeta, if_pos rfl, he]; rfl

theorem resp_rename (now : Int) (key dst : Bytes) : Resp now (fun s => Api.rename s now key dst) := by
  intro s s' g
  show RSim now (Api.rename s now key dst) (Api.rename s' now key dst)
  rw [C11.rename_eq, C11.rename_eq]
  obtain ⟨ok, s1, s1', hw, hw', g1, hot1⟩ := writeKey_pair g key none
  rw [hw, hw']
  cases ok with
  | false => exact ⟨rfl, g1⟩
  | true =>
    simp only [Bool.not_true, Bool.false_eq_true, if_false]
    have h1 : Hot now s1 key := hot1 rfl
    have h1' : Hot now s1' key := h1.transfer g1
    obtain ⟨r, hr, _⟩ := h1
    obtain ⟨m, hm, _, _⟩ := vis_some_getMeta hr
    obtain ⟨r', hr', _⟩ := h1'
    obtain ⟨m', hm', _, _⟩ := vis_some_getMeta hr'
    obtain ⟨ee, ev, eo, hne, hsome⟩ := hot_meta_agree g1 (hot1 rfl) hm hm'
    rw [hm, hm']
    simp only
    by_cases hk : key = dst
    · rw [if_pos hk, if_pos hk]; exact ⟨rfl, g1⟩
    · rw [if_neg hk, if_neg hk]
      obtain ⟨dok, s2, s2', hw2, hw2', g2, hot2⟩ := writeKey_pair g1 dst none
      rw [hw2, hw2']
      refine ⟨rfl, emit_good ?_ _⟩
      obtain ⟨v, hv⟩ := Option.isSome_iff_exists.mp hsome
      have hv' : m'.value = some v := by rw [← ev]; exact hv
      -- the tail, one `_good` lemma per step: `delKey` of the source; the destination record published afresh
      -- (`replaceHot_good`) or adopted (`modMeta_good` with `adoptRec`), which is `step5`; then `setExp`,
      -- `markModified`, `signalled`
      unfold C11.renameTail
      rw [hv, hv', ← ee, ← eo]
      simp only
      have g3 := delKey_good g2 key
      -- the destination record after `setValue`, in both worlds
      have step5 : ∃ t t', Good now t t' ∧ Hot now t dst ∧
          t = modMeta (if !dok then
                (match fresh (delKey s2 key) with
                 | (kid, s) => putMeta (match getMeta s dst with | some dead => unpersist s dst dead | none => s)
                     dst { exp := m.exp, value := none, kid := kid })
              else delKey s2 key) dst (fun d => ({ d with oid := m.oid } : Meta).setValue v) ∧
          t' = modMeta (if !dok then
                (match fresh (delKey s2' key) with
                 | (kid, s) => putMeta (match getMeta s dst with | some dead => unpersist s dst dead | none => s)
                     dst { exp := m.exp, value := none, kid := kid })
              else delKey s2' key) dst (fun d => ({ d with oid := m.oid } : Meta).setValue v) := by
        cases dok with
        | false =>
          refine ⟨_, _, ?_, ?_, rfl, rfl⟩
          · simp only [Bool.not_false, if_true, fresh, C11.modMeta_putMeta]
            rw [g3.nextId]
            exact replaceHot_good (setNextId_good g3 _) dst _ rfl
          · simp only [Bool.not_false, if_true, fresh, C11.modMeta_putMeta]
            exact hot_putMeta_hot now _ dst _ rfl hne
        | true =>
          refine ⟨_, _, ?_, ?_, rfl, rfl⟩
          · simp only [Bool.not_true, Bool.false_eq_true, if_false]
            exact modMeta_good g3 dst _ (adoptRec m.oid v) (fun _ => rfl) (fun t d => recOf_adopt t dst m.oid v d)
          · simp only [Bool.not_true, Bool.false_eq_true, if_false]
            obtain ⟨rd, hrd, _⟩ := hot2 rfl
            refine hot_of_vis (r := adoptRec m.oid v rd) ?_ rfl
            rw [vis_modMeta now (delKey s2 key) dst dst
              (fun d => ({ d with oid := m.oid } : Meta).setValue v) (adoptRec m.oid v) (fun _ => rfl)
              (fun d => recOf_adopt _ dst m.oid v d), if_pos rfl, vis_delKey now s2 key dst g2.sorted₁, if_neg hk, hrd]
            rfl
      obtain ⟨t, t', gt, ht, et, et'⟩ := step5
      have g6 := setExp_good gt dst m.exp ht
      have g7 := modMeta_good g6 dst Meta.markModified markModRec (fun _ => rfl)
        (fun t d => recOf_markModified t dst d)
      have g8 := setSignalled_good g7 (dst :: key :: (Api.setExp t dst m.exp).signalled)
        (dst :: key :: (Api.setExp t' dst m.exp).signalled) (by rw [g6.signalled])
      rw [et, et'] at g8
      exact g8

theorem resp_renameNX (now : Int) (key dst : Bytes) : Resp now (fun s => Api.renameNX s now key dst) := by
  intro s s' g
  show RSim now (Api.renameNX s now key dst) (Api.renameNX s' now key dst)
  rw [C20.renameNX_eq, C20.renameNX_eq]
  obtain ⟨dok, s0, s0', hw0, hw0', g0, _⟩ := writeKey_pair g dst none
  rw [hw0, hw0']
  cases dok with
  | true => exact ⟨rfl, g0⟩
  | false =>
    simp only [Bool.false_eq_true, if_false]
    obtain ⟨ok, s1, s1', hw, hw', g1, hot1⟩ := writeKey_pair g0 key none
    rw [hw, hw']
    cases ok with
    | false => exact ⟨rfl, g1⟩
    | true =>
      simp only [Bool.not_true, Bool.false_eq_true, if_false]
      have h1 : Hot now s1 key := hot1 rfl
      have h1' : Hot now s1' key := h1.transfer g1
      obtain ⟨r, hr, _⟩ := h1
      obtain ⟨m, hm, _, _⟩ := vis_some_getMeta hr
      obtain ⟨r', hr', _⟩ := h1'
      obtain ⟨m', hm', _, _⟩ := vis_some_getMeta hr'
      obtain ⟨ee, ev, eo, hne, hsome⟩ := hot_meta_agree g1 (hot1 rfl) hm hm'
      rw [hm, hm']
      obtain ⟨v, hv⟩ := Option.isSome_iff_exists.mp hsome
      have hv' : m'.value = some v := by rw [← ev]; exact hv
      refine ⟨rfl, emit_good ?_ _⟩
      rw [C20.nxTail_eq hv, C20.nxTail_eq hv']
      unfold C11.renameRec
      rw [← ee, ← eo]
      have g3 := delKey_good g1 key
      have g4 := replaceHot_good (setNextId_good g3 ((delKey s1 key).nextId + 1)) dst
        (C11.renameRec { exp := m.exp, value := none, kid := (delKey s1 key).nextId } m v) rfl
      rw [g3.nextId] at g4 ⊢
      exact setSignalled_good g4 _ _ (congrArg (fun l => dst :: key :: l) g3.signalled)

theorem asSet_good (g : Good now s s') {k : Bytes}
    (h : (vis now s k).isSome = true) : Api.asSet s k = Api.asSet s' k := by
  unfold Api.asSet; rw [(valOf_good_vis g h).1]

theorem lookupKey_visible {lock : MState → Bytes → MState} (hL : C01.LockOp lock) {now : Int} {s : MState}
    (k k' : Bytes) (mk : Option Val) (h : (vis now s k').isSome = true) :
    (vis now (C01.accessKey lock s now k mk).1 k').isSome = true := by
  rw [(StoreView.accessKey_view hL s now k mk).2.1 now k']
  split
  · rename_i hk; subst hk
    split
    · cases hv : vis now s k with
      | none => rw [hv] at h; cases h
      | some r => rfl
    · cases mk with
      | none => exact h
      | some v => rfl
  · exact h

theorem readKey_visible {now : Int} {s : MState} (k k' : Bytes)
    (h : (vis now s k').isSome = true) : (vis now (readKey s now k).1 k').isSome = true :=
  lookupKey_visible C01.lockR_op k k' none h

theorem writeKey_visible {now : Int} {s : MState} (k k' : Bytes) (mk : Option Val)
    (h : (vis now s k').isSome = true) : (vis now (writeKey s now k mk).1 k').isSome = true :=
  lookupKey_visible C01.lockW_op k k' mk h

/-- what a sequence of reads keeps: the two runs stay related, and the keys `ks` stay visible -/
def Carries (now : Int) (ks : List Bytes) (s s' : MState) : Prop :=
  Good now s s' ∧ ∀ k ∈ ks, (vis now s k).isSome = true

theorem readKey_carries {now : Int} {ks : List Bytes} {s s' : MState} (c : Carries now ks s s') (k : Bytes) :
    ∃ ok s1 s1', readKey s now k = (s1, ok) ∧ readKey s' now k = (s1', ok) ∧ Carries now ks s1 s1' ∧
      (ok = true → Api.asSet s1 k = Api.asSet s1' k) := by
  obtain ⟨ok, s1, s1', hw, hw', g1, hot⟩ := readKey_pair c.1 k
  have hv : ∀ k' ∈ ks, (vis now s1 k').isSome = true := by
    intro k' hk
    have := readKey_visible k k' (c.2 k' hk)
    rw [hw] at this
    exact this
  exact ⟨ok, s1, s1', hw, hw', ⟨g1, hv⟩, fun hok => asSet_good g1 (hot hok).visible⟩

theorem readMany_carries {now : Int} {ks : List Bytes} (keys : List Bytes) {s s' : MState}
    (c : Carries now ks s s') :
    ∃ o s2 s2', Api.readMany s now keys = (s2, o) ∧ Api.readMany s' now keys = (s2', o) ∧ Carries now ks s2 s2' := by
  have h : (Api.readMany s now keys).2 = (Api.readMany s' now keys).2 ∧
      Carries now ks (Api.readMany s now keys).1 (Api.readMany s' now keys).1 := by
    unfold Api.readMany
    apply foldl_inv (Carries now ks) _ ?_ keys (s, []) (s', []) rfl c
    intro a a' k h c
    obtain ⟨ok, s1, s1', hw, hw', c1, hs⟩ := readKey_carries c k
    rw [hw, hw']
    refine ⟨?_, c1⟩
    cases ok with
    | false => simp [h]
    | true => simp [h, hs rfl]
  exact ⟨_, _, _, rfl, Prod.ext rfl h.1.symm, h.2⟩

theorem resp_sdiff (now : Int) (keys : List Bytes) : Resp now (fun s => Api.sdiff s now keys) := by
  intro s s' g
  show RSim now (Api.sdiff s now keys) (Api.sdiff s' now keys)
  unfold Api.sdiff
  cases keys with
  | nil => exact ⟨rfl, g⟩
  | cons k0 rest =>
    simp only
    obtain ⟨ok, s1, s1', hw, hw', g1, hot⟩ := readKey_pair g k0
    rw [hw, hw']
    cases ok with
    | false => exact ⟨rfl, g1⟩
    | true =>
      simp only [Bool.not_true, Bool.false_eq_true, if_false]
      have c : Carries now [k0] s1 s1' := ⟨g1, fun _ hk => List.mem_singleton.mp hk ▸ (hot rfl).visible⟩
      obtain ⟨others, s2, s2', hr, hr', c2⟩ := readMany_carries rest c
      rw [hr, hr']
      simp only
      rw [asSet_good c2.1 (c2.2 k0 List.mem_cons_self)]
      cases Api.asSet s2' k0 with
      | none => exact ⟨rfl, c2.1⟩
      | some st =>
        simp only
        split <;> exact ⟨rfl, c2.1⟩

theorem resp_sunion (now : Int) (keys : List Bytes) : Resp now (fun s => Api.sunion s now keys) := by
  intro s s' g
  show RSim now (Api.sunion s now keys) (Api.sunion s' now keys)
  unfold Api.sunion
  split
  · exact ⟨rfl, g⟩
  · exact resp_sread now _ _ _ s s' g
  · obtain ⟨all, s2, s2', hr, hr', c2⟩ := readMany_carries (ks := []) keys ⟨g, fun _ hk => nomatch hk⟩
    rw [hr, hr']
    simp only
    split
    · exact ⟨rfl, c2.1⟩
    · split <;> exact ⟨rfl, c2.1⟩

theorem sinter_go_carries {now : Int} {ks : List Bytes} (keys : List Bytes) :
    ∀ {s s' : MState} (acc : List (AList Unit)), Carries now ks s s' →
    ∃ o s2 s2', Api.sinter.go now keys s acc = (s2, o) ∧ Api.sinter.go now keys s' acc = (s2', o) ∧
      Carries now ks s2 s2' := by
  induction keys with
  | nil => intro s s' acc c; exact ⟨_, _, _, rfl, rfl, c⟩
  | cons k more ih =>
    intro s s' acc c
    obtain ⟨ok, s1, s1', hw, hw', c1, hs⟩ := readKey_carries c k
    unfold Api.sinter.go
    rw [hw, hw']
    cases ok with
    | false => exact ⟨_, _, _, rfl, rfl, c1⟩
    | true =>
      simp only [Bool.not_true, Bool.false_eq_true, if_false]
      rw [hs rfl]
      cases Api.asSet s1' k with
      | none => exact ⟨_, _, _, rfl, rfl, c1⟩
      | some x => exact ih (acc ++ [x]) c1

theorem resp_sinter (now : Int) (keys : List Bytes) : Resp now (fun s => Api.sinter s now keys) := by
  intro s s' g
  show RSim now (Api.sinter s now keys) (Api.sinter s' now keys)
  unfold Api.sinter
  split
  · exact ⟨rfl, g⟩
  · exact resp_sread now _ _ _ s s' g
  · rename_i k0 rest _
    obtain ⟨ok, s1, s1', hw, hw', g1, hot⟩ := readKey_pair g k0
    rw [hw, hw']
    cases ok with
    | false => exact ⟨rfl, g1⟩
    | true =>
      simp only [Bool.not_true, Bool.false_eq_true, if_false]
      have c : Carries now [k0] s1 s1' := ⟨g1, fun _ hk => List.mem_singleton.mp hk ▸ (hot rfl).visible⟩
      obtain ⟨res, s2, s2', hr, hr', c2⟩ := sinter_go_carries rest [] c
      rw [hr, hr']
      cases res with
      | none => exact ⟨rfl, c2.1⟩
      | some o =>
        cases o with
        | none => exact ⟨rfl, c2.1⟩
        | some os =>
          simp only
          rw [asSet_good c2.1 (c2.2 k0 List.mem_cons_self)]
          cases Api.asSet s2' k0 <;> exact ⟨rfl, c2.1⟩

theorem mset_go_good {now : Int} : ∀ (n : Nat) (pairs : List Bytes), pairs.length ≤ n →
    ∀ {s s' : MState}, Good now s s' → RSim now (Api.mset.go now pairs s) (Api.mset.go now pairs s') := by
  -- `go` takes two elements at a time: induction on a bound of the length gives the hypothesis for `rest`
  intro n
  induction n with
  | zero =>
    intro pairs hl s s' g
    cases pairs with
    | nil => unfold Api.mset.go; exact ⟨rfl, g⟩
    | cons _ _ => simp at hl
  | succ n ih =>
    intro pairs hl s s' g
    match pairs, hl with
    | [], _ => unfold Api.mset.go; exact ⟨rfl, g⟩
    | [_], _ => unfold Api.mset.go; exact ⟨rfl, g⟩
    | k :: v :: rest, hl =>
      unfold Api.mset.go
      have hlen : rest.length ≤ n := by simp at hl; omega
      have h : RSim now (Api.set s now k v false) (Api.set s' now k v false) := resp_set now k v false s s' g
      obtain ⟨o, s1, s1', hw, hw', g1⟩ := h.pair
      rw [hw, hw']
      cases o with
      | panic => exact ⟨rfl, g1⟩
      | _ => exact ih rest hlen (commit_good g1)

theorem resp_mset (now : Int) (pairs : List Bytes) : Resp now (fun s => Api.mset s now pairs) := by
  intro s s' g
  show RSim now (Api.mset s now pairs) (Api.mset s' now pairs)
  unfold Api.mset
  split
  · exact ⟨rfl, g⟩
  · exact mset_go_good pairs.length pairs (Nat.le_refl _) g

end NodisVerif.Proofs.C10

/-! ## ZADD

  The ZADD command's transaction (`Api.zaddPairs`) is a key transaction (`Proofs.C20.zaddPairs_eq`): `writeKey` once,
  then it acts on that key only - hence an expired record that is still indexed is invisible to it. -/
namespace NodisVerif.Proofs.C10
open NodisVerif Store

theorem resp_zaddPairs (now : Int) (k : Bytes) (nx xx gt lt ch : Bool) (pairs : List (Bytes × F64)) (hne : pairs ≠ []) :
    Resp now (fun s => Api.zaddPairs s now k nx xx gt lt ch pairs) :=
  resp_keyTx (fun s => C20.zaddPairs_eq s now k nx xx gt lt ch pairs hne) nofun

end NodisVerif.Proofs.C10

import NodisVerif.Proofs.C15Parse
/-
  C17: frame headers announcing an impossible size.  `$<n>` with n negative or beyond 512 MiB (or not
  an int64 at all) is rejected right after the header line: `readByteN` is never reached, nothing is
  allocated or used as an index.  What the reader does after a header line with any text is
  `C15.readBulk_header` / `C15.readCommand_header` (C15Parse.lean); here the rejected texts are followed
  through the bulk loop and the command.
  Last, C15's `readCommand_too_large`: a bulk longer than 512 MiB is such a header.
-/
namespace NodisVerif.Proofs.C17
open Resp RespReader Spec.RespEnc
open NodisVerif.Proofs.C15

/-- a text `ParseInt` accepts contains no LF (only an optional sign and digits) -/
theorem parseInt64_no_lf {s : Bytes} {v : Int} (h : parseInt64 s = some v) : ∀ x ∈ s, x ≠ 10 := by
  intro x hx
  rcases (parseInt64_some h).2 x hx with rfl | rfl | hd
  · decide
  · decide
  · rintro rfl; exact absurd hd (by decide)

theorem parseInt64_formatInt (n : Int) (h : inInt64 n = true) : parseInt64 (formatInt n) = some n := by
  rw [parseInt64_formatInt_eq, if_pos h]

theorem parseInt64_formatInt_out (n : Int) (h : inInt64 n = false) : parseInt64 (formatInt n) = none := by
  rw [parseInt64_formatInt_eq, h]; rfl

theorem formatInt_no_lf (n : Int) : ∀ x ∈ formatInt n, x ≠ 10 := by
  intro x hx
  unfold formatInt at hx
  split at hx
  · rcases List.mem_cons.mp hx with rfl | hx
    · decide
    · exact natDigits_ne_lf _ x hx
  · exact natDigits_ne_lf _ x hx

/-- the header text announces a size the protocol forbids (or no int64 at all) -/
def BadSize (ds : Bytes) : Prop :=
  parseInt64 ds = none ∨ ∃ n, parseInt64 ds = some n ∧ (n < 0 ∨ n > maxBulk)

theorem readBulk_bad_header (ds t : Bytes) (st : RState) (hd : ∀ x ∈ ds, x ≠ 10) (hw : st.win = [])
    (hbad : BadSize ds) (hf : srcFlat st.src = 36 :: (ds ++ 13 :: 10 :: t)) :
    ∃ e st', readBulk st = .err e st' ∧ (e = .badInteger ∨ e = .tooLarge) ∧ srcFlat st'.src = t ∧ st'.win = [] := by
  obtain ⟨st', h1, h2, e⟩ := C15.readBulk_header ds t st hd hw hf
  rcases hbad with hp | ⟨n, hp, hn⟩
  · exact ⟨_, st', by rw [e, hp], .inl rfl, h1, h2⟩
  · exact ⟨_, st', by rw [e, hp]; exact if_pos hn, .inr rfl, h1, h2⟩

theorem readBulks_bad_header (pre : List Bytes) (ds t : Bytes) (k : Nat) (st : RState) (acc : List Bytes)
    (hpre : ∀ x ∈ pre, (x.length : Int) ≤ maxBulk) (hd : ∀ x ∈ ds, x ≠ 10) (hbad : BadSize ds) (hw : st.win = [])
    (hf : srcFlat st.src = pre.flatMap encodeBulk ++ 36 :: (ds ++ 13 :: 10 :: t)) :
    ∃ st', readBulks st (pre.length + (k + 1)) acc = .err .expectedArray st' ∧ srcFlat st'.src = t ∧ st'.win = [] := by
  obtain ⟨st1, e1, hs1, hw1⟩ := readBulks_prefix pre _ (k + 1) st acc hpre hw hf
  obtain ⟨e, st', h, _, h1, h2⟩ := readBulk_bad_header ds t st1 hd hw1 hbad hs1
  refine ⟨st', ?_, h1, h2⟩
  rw [e1, readBulks]
  simp only [h]

theorem readCommand_bad_bulk (cnt : Bytes) (c : Int) (pre : List Bytes) (ds t : Bytes) (src : Source)
    (hcnt : parseInt64 cnt = some c) (hc : pre.length < c.toNat)
    (hpre : ∀ x ∈ pre, (x.length : Int) ≤ maxBulk) (hd : ∀ x ∈ ds, x ≠ 10) (hbad : BadSize ds)
    (hf : srcFlat src = 42 :: (cnt ++ 13 :: 10 :: (pre.flatMap encodeBulk ++ 36 :: (ds ++ 13 :: 10 :: t)))) :
    ∃ st', readCommand src = .err .expectedArray st' ∧ srcFlat st'.src = t ∧ st'.win = [] := by
  obtain ⟨st2, hs2, hw2, e⟩ := C15.readCommand_header cnt _ src (parseInt64_no_lf hcnt) hf
  obtain ⟨k, hk⟩ : ∃ k, c.toNat = pre.length + (k + 1) := ⟨c.toNat - pre.length - 1, by omega⟩
  obtain ⟨st3, e3, h1, h2⟩ := readBulks_bad_header pre ds t k st2 [] hpre hd hbad hw2 hs2
  refine ⟨st3, ?_, h1, h2⟩
  rw [e, hcnt]
  simp only [hk, e3]

end NodisVerif.Proofs.C17

namespace NodisVerif.Proofs.C15
open Resp RespReader Spec.RespEnc

theorem readCommand_too_large (name : Bytes) (args : List Bytes) (rest : Bytes) (src : Source)
    (pre : List Bytes) (b : Bytes) (post : List Bytes) (hsplit : name :: args = pre ++ b :: post)
    (hpre : ∀ x ∈ pre, (x.length : Int) ≤ maxBulk) (hb : (b.length : Int) > maxBulk)
    (hcount : ((1 + args.length : Nat) : Int) ≤ int64Max)
    (hf : srcFlat src = encodeCommand name args ++ rest) :
    ∃ st, readCommand src = .err .expectedArray st := by
  have hbad : C17.BadSize (formatInt (b.length : Int)) := by
    by_cases hi : inInt64 (b.length : Int) = true
    · exact .inr ⟨_, C17.parseInt64_formatInt _ hi, .inr hb⟩
    · exact .inl (C17.parseInt64_formatInt_out _ (by simpa using hi))
  have hc : inInt64 ((1 + args.length : Nat) : Int) = true :=
    decide_eq_true ⟨by unfold int64Min; omega, hcount⟩
  have hlen : 1 + args.length = pre.length + (post.length + 1) := by
    have := congrArg List.length hsplit
    simp only [List.length_cons, List.length_append] at this
    omega
  obtain ⟨st, e, _⟩ := C17.readCommand_bad_bulk (formatInt ((1 + args.length : Nat) : Int)) _ pre
    (formatInt (b.length : Int)) (b ++ 13 :: 10 :: (post.flatMap encodeBulk ++ rest)) src
    (C17.parseInt64_formatInt _ hc) (by rw [Int.toNat_natCast]; omega) hpre (C17.formatInt_no_lf _) hbad
    (by
      have hs := congrArg (fun l => List.flatMap encodeBulk l ++ rest) hsplit
      rw [hf]
      simpa [encodeCommand, Spec.RespEnc.crlf, encodeBulk_eq] using hs)
  exact ⟨st, e⟩

end NodisVerif.Proofs.C15

import NodisVerif.Model.Handler4
/-
  GEOADD is a ZADD of the encoded score: `Handler4.geoAdd` against `Api.zadd` / `DsZSet.zAdd`, and the
  records it emits.
-/
namespace NodisVerif.Proofs.GeoAdd
open NodisVerif NodisVerif.Store NodisVerif.Api NodisVerif.Handler4

/-- the `ZAdd` loop of `GeoAdd` on the data structure: the new value and the sum of the replies -/
def zaddAll (z : ZSet) (items : List (Bytes × F64)) : ZSet × Int :=
  items.foldl (fun (acc : ZSet × Int) it => ((DsZSet.zAdd acc.1 it.1 it.2).1, acc.2 + (DsZSet.zAdd acc.1 it.1 it.2).2)) (z, 0)

/-- the records of `geoAdded` -/
def emitAll (key : Bytes) (items : List (Bytes × F64)) (s : MState) : MState :=
  items.foldl (fun s it => emit s (opZAdd key it.1 it.2)) s

/-- GEOADD with one item IS `ZAdd(key, member, float64(hash))`: same store (index, backend, watch
    signals, change records), same reply -/
theorem geoAdd_single (s : MState) (now : Int) (key m : Bytes) (sc : F64) :
    geoAdd s now key [(m, sc)] = Api.zadd s now key m sc := by
  unfold geoAdd Api.zadd Api.zaddWith
  generalize writeKey s now key (some (.zset DsZSet.empty)) = w
  obtain ⟨s1, ok⟩ := w
  dsimp only
  cases asZSet s1 key with
  | none => rfl
  | some z => simp [List.foldl]

/-- GEOADD with any non-empty item list: ONE `writeKey`, the `ZAdd` fold on the sorted set, ONE watch
    signal, one ZADD record per item in argument order; a value of another type panics before anything
    is changed -/
theorem geoAdd_eq (s : MState) (now : Int) (key : Bytes) (it : Bytes × F64) (items : List (Bytes × F64)) :
    geoAdd s now key (it :: items) =
      (match asZSet (writeKey s now key (some (.zset DsZSet.empty))).1 key with
       | none => ((writeKey s now key (some (.zset DsZSet.empty))).1, .panic)
       | some z =>
         (emitAll key (it :: items)
            (signal (setVal (writeKey s now key (some (.zset DsZSet.empty))).1 key (.zset (zaddAll z (it :: items)).1)) key),
          .int (zaddAll z (it :: items)).2)) := by
  unfold geoAdd
  generalize writeKey s now key (some (.zset DsZSet.empty)) = w
  obtain ⟨s1, ok⟩ := w
  dsimp only
  cases asZSet s1 key <;> rfl

theorem emit_feed (s : MState) (op : FeedOp) (h : s.listeners = true) : (emit s op).feed = op :: s.feed := by
  simp [emit, h]
theorem emit_listeners (s : MState) (op : FeedOp) : (emit s op).listeners = s.listeners := by
  unfold emit; split <;> rfl

/-- the records: with a watcher attached, exactly one ZADD record (type 26) per item, in argument
    order (the feed is kept newest first), each naming the key, the member and the stored score -/
theorem emitAll_feed (key : Bytes) : ∀ (items : List (Bytes × F64)) (s : MState), s.listeners = true →
    (emitAll key items s).feed = (items.map fun it => opZAdd key it.1 it.2).reverse ++ s.feed := by
  intro items
  induction items with
  | nil => intro s _; rfl
  | cons it rest ih =>
    intro s h
    show (emitAll key rest (emit s (opZAdd key it.1 it.2))).feed = _
    rw [ih _ (by rw [emit_listeners]; exact h), emit_feed _ _ h]
    simp

theorem emitAll_silent (key : Bytes) : ∀ (items : List (Bytes × F64)) (s : MState), s.listeners = false →
    emitAll key items s = s := by
  intro items
  induction items with
  | nil => intro s _; rfl
  | cons it rest ih =>
    intro s h
    show emitAll key rest (emit s (opZAdd key it.1 it.2)) = s
    have : emit s (opZAdd key it.1 it.2) = s := by simp [emit, h]
    rw [this]; exact ih s h

end NodisVerif.Proofs.GeoAdd

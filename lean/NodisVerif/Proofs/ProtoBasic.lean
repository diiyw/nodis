import NodisVerif.Model.Proto
/-
  Locking protocol (Model/Proto.lean): association-list lemmas, the trace fold `runAll`, reachable states,
  transactions and their holds.
-/
namespace NodisVerif.Proofs.Proto
open NodisVerif.Proto

deriving instance DecidableEq for Ev

section AssocLemmas
variable {α β : Type} [BEq α] [LawfulBEq α] [DecidableEq α]
set_option linter.unusedSectionVars false

theorem assoc_nil (a : α) : assoc ([] : List (α × β)) a = none := rfl

theorem assoc_cons (p : α × β) (l : List (α × β)) (a : α) :
    assoc (p :: l) a = if p.1 = a then some p.2 else assoc l a := by
  unfold assoc
  by_cases h : p.1 = a
  · simp [h]
  · simp [h]

theorem assoc_erase (l : List (α × β)) (a a' : α) :
    assoc (erase l a) a' = if a' = a then none else assoc l a' := by
  induction l with
  | nil => simp [erase, assoc]
  | cons p l ih =>
    have e : erase (p :: l) a = if p.1 = a then erase l a else p :: erase l a := by
      by_cases h : p.1 = a <;> simp [erase, h]
    rw [e]
    by_cases h : p.1 = a
    · rw [if_pos h, ih, assoc_cons]
      by_cases h' : a' = a
      · simp [h']
      · have : ¬ p.1 = a' := by intro c; exact h' (c ▸ h)
        simp [h', this]
    · rw [if_neg h, assoc_cons, assoc_cons, ih]
      by_cases h' : a' = a
      · subst h'; simp [h]
      · simp [h']

theorem assoc_erase_some {l : List (α × β)} {a a' : α} {b : β} (h : assoc (erase l a) a' = some b) :
    a' ≠ a ∧ assoc l a' = some b := by
  rw [assoc_erase] at h
  split at h
  · cases h
  · exact ⟨‹_›, h⟩

theorem assoc_put (l : List (α × β)) (a : α) (b : β) (a' : α) :
    assoc (put l a b) a' = if a' = a then some b else assoc l a' := by
  unfold put
  rw [assoc_cons, assoc_erase]
  by_cases h : a' = a
  · simp [h]
  · have : ¬ a = a' := fun c => h c.symm
    simp [h, this]

theorem mem_of_assoc {l : List (α × β)} {a : α} {b : β} (h : assoc l a = some b) : (a, b) ∈ l := by
  obtain ⟨p, hf, rfl⟩ := Option.map_eq_some_iff.1 h
  have e : p.1 = a := by simpa using List.find?_some hf
  subst e
  exact List.mem_of_find?_eq_some hf

def NodupKeys (l : List (α × β)) : Prop := (l.map Prod.fst).Nodup

theorem find?_of_nodup {γ : Type} (f : γ → α) {l : List γ} (hn : (l.map f).Nodup) {x : γ} (hx : x ∈ l) :
    l.find? (fun y => f y == f x) = some x := by
  induction l with
  | nil => cases hx
  | cons g l ih =>
    rw [List.map_cons, List.nodup_cons] at hn
    rw [List.find?_cons]
    cases List.mem_cons.1 hx with
    | inl e => subst e; simp
    | inr hm =>
      have : (f g == f x) = false := by
        rw [beq_eq_false_iff_ne]
        intro c; exact hn.1 (c ▸ List.mem_map.2 ⟨x, hm, rfl⟩)
      simp only [this]
      exact ih hn.2 hm

theorem assoc_of_mem {l : List (α × β)} (hn : NodupKeys l) {a : α} {b : β} (h : (a, b) ∈ l) :
    assoc l a = some b := by
  show (l.find? fun y => Prod.fst y == Prod.fst (a, b)).map (·.2) = some b
  rw [find?_of_nodup Prod.fst hn h]
  rfl

theorem mem_erase {l : List (α × β)} {a : α} {p : α × β} : p ∈ erase l a ↔ p ∈ l ∧ p.1 ≠ a := by
  simp [erase, List.mem_filter]

theorem nodupKeys_erase {l : List (α × β)} (hn : NodupKeys l) (a : α) : NodupKeys (erase l a) :=
  List.Nodup.sublist (List.filter_sublist.map _) hn

theorem nodupKeys_put {l : List (α × β)} (hn : NodupKeys l) (a : α) (b : β) : NodupKeys (put l a b) := by
  simp only [put, NodupKeys, List.map_cons, List.nodup_cons]
  refine ⟨?_, nodupKeys_erase hn a⟩
  intro hm
  obtain ⟨q, hq, e⟩ := List.mem_map.1 hm
  exact (mem_erase.1 hq).2 e

end AssocLemmas

/-- the names of the records there are stay when a fresh record is named -/
theorem assoc_names_cons {names : List (Rec × Key)} {r x : Rec} {k y : Key} (hf : assoc names r = none)
    (h : assoc names x = some y) : assoc ((r, k) :: names) x = some y := by
  rw [assoc_cons]
  have : ¬ r = x := by intro c; subst c; rw [hf] at h; cases h
  simp [this, h]

/-- run a trace from `s`: `some s'` iff every step is allowed -/
def runAll (s : PState) : List Ev → Option PState
  | [] => some s
  | e :: es => (step s e).bind fun s' => runAll s' es

theorem runAll_nil (s : PState) : runAll s [] = some s := rfl
theorem runAll_cons (s : PState) (e : Ev) (es : List Ev) :
    runAll s (e :: es) = (step s e).bind fun s' => runAll s' es := rfl

theorem runAll_append (s : PState) (a b : List Ev) :
    runAll s (a ++ b) = (runAll s a).bind fun s' => runAll s' b := by
  induction a generalizing s with
  | nil => simp [runAll]
  | cons e a ih =>
    simp only [List.cons_append, runAll_cons]
    cases step s e with
    | none => rfl
    | some s1 => simpa using ih s1

theorem runAll_append_some {s s' : PState} {a b : List Ev} (h : runAll s (a ++ b) = some s') :
    ∃ s1, runAll s a = some s1 ∧ runAll s1 b = some s' :=
  Option.bind_eq_some_iff.1 (runAll_append s a b ▸ h)

theorem runAll_cons_some {s s' : PState} {e : Ev} {es : List Ev} (h : runAll s (e :: es) = some s') :
    ∃ s1, step s e = some s1 ∧ runAll s1 es = some s' :=
  Option.bind_eq_some_iff.1 h

theorem runAll_single (s : PState) (e : Ev) : runAll s [e] = step s e := by
  simp [runAll]

def Reachable (s : PState) : Prop := ∃ es, runAll {} es = some s

theorem Reachable.init : Reachable {} := ⟨[], rfl⟩

theorem Reachable.next {s s' : PState} {e : Ev} (h : Reachable s) (hs : step s e = some s') :
    Reachable s' := by
  obtain ⟨es, he⟩ := h
  exact ⟨es ++ [e], by rw [runAll_append, he]; simpa [runAll] using hs⟩

theorem Reachable.trace {s s' : PState} {es : List Ev} (h : Reachable s) (hs : runAll s es = some s') :
    Reachable s' := by
  obtain ⟨es0, he⟩ := h
  exact ⟨es0 ++ es, by rw [runAll_append, he]; simpa using hs⟩

theorem trace_induct {P : List Ev → PState → Prop} (s0 : PState) (h0 : P [] s0)
    (hstep : ∀ es s e s', runAll s0 es = some s → P es s → step s e = some s' → P (es ++ [e]) s') :
    ∀ es s, runAll s0 es = some s → P es s := by
  suffices ∀ es pre s s', runAll s0 pre = some s → P pre s → runAll s es = some s' → P (pre ++ es) s' from
    fun es s h => this es [] s0 s rfl h0 h
  intro es
  induction es with
  | nil => intro pre s s' _ hp h; cases h; rw [List.append_nil]; exact hp
  | cons e es ih =>
    intro pre s s' hpre hp h
    obtain ⟨s1, h1, h2⟩ := runAll_cons_some h
    have hpre1 : runAll s0 (pre ++ [e]) = some s1 := by rw [runAll_append, hpre]; simpa [runAll] using h1
    rw [List.append_cons]
    exact ih (pre ++ [e]) s1 s' hpre1 (hstep pre s e s1 hpre hp h1) h2

theorem Reachable.induct {P : PState → Prop} (h0 : P {})
    (hstep : ∀ s e s', Reachable s → P s → step s e = some s' → P s') :
    ∀ s, Reachable s → P s :=
  fun s ⟨es, he⟩ => trace_induct (P := fun _ s => P s) {} h0 (fun es s e s' hr ih hs => hstep s e s' ⟨es, hr⟩ ih hs)
    es s he

theorem tx_setTx (s : PState) (t u : Tx) (st : TxSt) :
    (s.setTx t st).tx u = if u = t then some st else s.tx u := by
  simp [PState.setTx, PState.tx, assoc_put]

theorem tx_setTx_same (s : PState) (t : Tx) (st : TxSt) : (s.setTx t st).tx t = some st := by
  simp [tx_setTx]

theorem tx_setTx_ne (s : PState) {t u : Tx} (st : TxSt) (h : u ≠ t) : (s.setTx t st).tx u = s.tx u := by
  simp [tx_setTx, h]

@[simp] theorem setTx_index (s : PState) (t : Tx) (st : TxSt) : (s.setTx t st).index = s.index := rfl
@[simp] theorem setTx_pending (s : PState) (t : Tx) (st : TxSt) : (s.setTx t st).pending = s.pending := rfl
@[simp] theorem setTx_names (s : PState) (t : Tx) (st : TxSt) : (s.setTx t st).names = s.names := rfl
@[simp] theorem setTx_lookup (s : PState) (t : Tx) (st : TxSt) (k : Key) :
    (s.setTx t st).lookup k = s.lookup k := rfl

theorem mem_setHold {st : TxSt} {h g : Hold} :
    g ∈ (st.setHold h).holds ↔ g = h ∨ (g ∈ st.holds ∧ g.rid ≠ h.rid) := by
  simp [TxSt.setHold, List.mem_filter]

theorem mem_delHold {st : TxSt} {r : Rec} {g : Hold} :
    g ∈ (st.delHold r).holds ↔ g ∈ st.holds ∧ g.rid ≠ r := by
  simp [TxSt.delHold, List.mem_filter]

@[simp] theorem setHold_waiting (st : TxSt) (h : Hold) : (st.setHold h).waiting = st.waiting := rfl
@[simp] theorem setHold_committing (st : TxSt) (h : Hold) : (st.setHold h).committing = st.committing := rfl
@[simp] theorem delHold_waiting (st : TxSt) (r : Rec) : (st.delHold r).waiting = st.waiting := rfl
@[simp] theorem delHold_committing (st : TxSt) (r : Rec) : (st.delHold r).committing = st.committing := rfl

theorem holdOf_some {st : TxSt} {r : Rec} {h : Hold} (e : st.holdOf r = some h) :
    h ∈ st.holds ∧ h.rid = r := by
  unfold TxSt.holdOf at e
  have h1 := List.find?_some e
  exact ⟨List.mem_of_find?_eq_some e, by simpa using h1⟩

theorem holdOf_none {st : TxSt} {r : Rec} : st.holdOf r = none ↔ ∀ h ∈ st.holds, h.rid ≠ r := by
  simp [TxSt.holdOf, List.find?_eq_none]

def NodupRids (l : List Hold) : Prop := (l.map Hold.rid).Nodup

theorem holdOf_of_mem {st : TxSt} (hn : NodupRids st.holds) {h : Hold} (hm : h ∈ st.holds) :
    st.holdOf h.rid = some h :=
  find?_of_nodup Hold.rid hn hm

theorem nodupRids_filter {l : List Hold} (hn : NodupRids l) (p : Hold → Bool) : NodupRids (l.filter p) :=
  List.Nodup.sublist (List.filter_sublist.map _) hn

theorem nodupRids_setHold {st : TxSt} (hn : NodupRids st.holds) (h : Hold) :
    NodupRids (st.setHold h).holds := by
  simp only [TxSt.setHold, NodupRids, List.map_cons, List.nodup_cons]
  refine ⟨?_, nodupRids_filter hn _⟩
  intro hm
  obtain ⟨q, hq, e⟩ := List.mem_map.1 hm
  have := (List.mem_filter.1 hq).2
  simp [e] at this

def Holds (s : PState) (t : Tx) (h : Hold) : Prop := ∃ st, s.tx t = some st ∧ h ∈ st.holds

theorem mem_allHolds_of_holds {s : PState} {t : Tx} {h : Hold} (hh : Holds s t h) : (t, h) ∈ s.allHolds := by
  obtain ⟨st, h1, h2⟩ := hh
  unfold PState.allHolds
  rw [List.mem_flatMap]
  exact ⟨(t, st), mem_of_assoc h1, List.mem_map.2 ⟨h, h2, rfl⟩⟩

theorem holds_of_mem_allHolds {s : PState} (hn : NodupKeys s.txs) {t : Tx} {h : Hold}
    (hm : (t, h) ∈ s.allHolds) : Holds s t h := by
  unfold PState.allHolds at hm
  rw [List.mem_flatMap] at hm
  obtain ⟨⟨u, st⟩, h1, h2⟩ := hm
  obtain ⟨g, h3, h4⟩ := List.mem_map.1 h2
  simp at h4
  obtain ⟨rfl, rfl⟩ := h4
  exact ⟨st, assoc_of_mem hn h1, h3⟩

theorem mem_heldBy {s : PState} {r : Rec} {p : Tx × Hold} : p ∈ s.heldBy r ↔ p ∈ s.allHolds ∧ p.2.rid = r := by
  simp [PState.heldBy, List.mem_filter]

theorem free_w_holds {s : PState} {r : Rec} (hf : s.free r .w = true) {t : Tx} {h : Hold}
    (hh : Holds s t h) : h.rid ≠ r := by
  intro e
  have : (t, h) ∈ s.heldBy r := mem_heldBy.2 ⟨mem_allHolds_of_holds hh, e⟩
  simp only [PState.free, List.isEmpty_iff] at hf
  rw [hf] at this; cases this

theorem free_r_holds {s : PState} {r : Rec} (hf : s.free r .r = true) {t : Tx} {h : Hold}
    (hh : Holds s t h) (e : h.rid = r) : h.mode = .r := by
  have hm : (t, h) ∈ s.heldBy r := mem_heldBy.2 ⟨mem_allHolds_of_holds hh, e⟩
  simp only [PState.free, List.all_eq_true] at hf
  simpa using hf _ hm

theorem not_free_holder {s : PState} (hn : NodupKeys s.txs) {r : Rec} {m : Mode} (hf : s.free r m = false) :
    ∃ u h, Holds s u h ∧ h.rid = r ∧ (m = .w ∨ h.mode = .w) := by
  cases m with
  | w =>
    simp only [PState.free] at hf
    cases hl : s.heldBy r with
    | nil => simp [hl] at hf
    | cons p l =>
      have hm : p ∈ s.heldBy r := by rw [hl]; exact List.mem_cons_self
      obtain ⟨h1, h2⟩ := mem_heldBy.1 hm
      exact ⟨p.1, p.2, holds_of_mem_allHolds hn h1, h2, Or.inl rfl⟩
  | r =>
    simp only [PState.free] at hf
    obtain ⟨p, hp, hq⟩ := List.all_eq_false.1 hf
    obtain ⟨h1, h2⟩ := mem_heldBy.1 hp
    refine ⟨p.1, p.2, holds_of_mem_allHolds hn h1, h2, Or.inr ?_⟩
    cases hmode : p.2.mode with
    | r => simp [hmode] at hq
    | w => rfl

/-- the transaction an event belongs to (`clear` belongs to none) -/
def evTx : Ev → Option Tx
  | .begin t | .look t _ _ | .claim t _ _ _ | .wait t _ _ _ | .lock t _ _ _ | .valid t _ _ _
  | .publish t _ _ | .unlink t _ _ | .commit t | .trylock t _ _ | .drop t _ _ | .unlock t _ | .fin t => some t
  | .clear => none

end NodisVerif.Proofs.Proto

import NodisVerif.Proofs.C20ZSet
import NodisVerif.Proofs.ZAddPairs
import NodisVerif.Proofs.C20Str
/-
  C20, the ZADD command after the repair of A-48 / A-52: `Api.zaddPairs` (all pairs of one command in one
  transaction, one ZADD record per member actually written). The replica applies the records one after the other
  as plain ZADDs and arrives at the primary's sorted set.
-/
namespace NodisVerif.Proofs.C20
open NodisVerif NodisVerif.Store NodisVerif.Spec.Persist NodisVerif.Proofs.C11
open NodisVerif.Api (ZAcc zaddStep)

variable {now : Int} {p r : MState}

/-- what the replica does with the records: plain ZADDs in order -/
def zaddsAll (z : ZSet) (ops : List (Bytes × F64)) : ZSet := ops.foldl (fun z q => (DsZSet.zAdd z q.1 q.2).1) z


theorem zaddStep_all (nx xx gt lt : Bool) (z0 : ZSet) (a : ZAcc) (q : Bytes × F64) (h : a.z = zaddsAll z0 a.ops) :
    (zaddStep nx xx gt lt a q).z = zaddsAll z0 (zaddStep nx xx gt lt a q).ops := by
  unfold zaddStep
  split <;> split <;> first | exact h | (simp only [zaddsAll, List.foldl_append, List.foldl_cons, List.foldl_nil]; rw [← zaddsAll, ← h])

theorem zaddStep_sub (nx xx gt lt : Bool) (a : ZAcc) (q : Bytes × F64) (P : Bytes × F64 → Prop) (hq : P q)
    (h : ∀ x ∈ a.ops, P x) : ∀ x ∈ (zaddStep nx xx gt lt a q).ops, P x := by
  unfold zaddStep
  split <;> split <;> first | exact h | (intro x hx; rcases List.mem_append.1 hx with hx | hx; exact h x hx; simp at hx; rw [hx]; exact hq)

theorem zaddFold_all (nx xx gt lt : Bool) (z0 : ZSet) (P : Bytes × F64 → Prop) : ∀ (ps : List (Bytes × F64)) (a : ZAcc),
    a.z = zaddsAll z0 a.ops → (∀ x ∈ a.ops, P x) → (∀ x ∈ ps, P x) →
    (ps.foldl (zaddStep nx xx gt lt) a).z = zaddsAll z0 (ps.foldl (zaddStep nx xx gt lt) a).ops ∧
    ∀ x ∈ (ps.foldl (zaddStep nx xx gt lt) a).ops, P x
  | [], _, h1, h2, _ => ⟨h1, h2⟩
  | q :: ps, a, h1, h2, h3 => by
    rw [List.foldl_cons]
    exact zaddFold_all nx xx gt lt z0 P ps _ (zaddStep_all nx xx gt lt z0 a q h1)
      (zaddStep_sub nx xx gt lt a q P (h3 q List.mem_cons_self) h2) (fun x hx => h3 x (List.mem_cons_of_mem _ hx))

theorem zpFold_all (nx xx gt lt : Bool) (z : ZSet) (pairs : List (Bytes × F64)) (P : Bytes × F64 → Prop)
    (hP : ∀ x ∈ pairs, P x) :
    (zpFold nx xx gt lt z pairs).z = zaddsAll z (zpFold nx xx gt lt z pairs).ops ∧
    ∀ x ∈ (zpFold nx xx gt lt z pairs).ops, P x :=
  zaddFold_all nx xx gt lt z P pairs _ rfl (fun _ h => nomatch h) hP

/-- representable pairs: no NaN score, member of representable length -/
def PairOK (q : Bytes × F64) : Prop := F64.isNaN q.2 = false ∧ q.1.length + 8 < 2 ^ 63

theorem good_zaddAll : ∀ (ops : List (Bytes × F64)), (∀ q ∈ ops, PairOK q) → ∀ z, Good (.zset z) → Good (.zset (zaddsAll z ops))
  | [], _, _, hg => hg
  | q :: ops, hb, z, hg => by
    simp only [zaddsAll, List.foldl_cons]
    exact good_zaddAll ops (fun q' hq' => hb q' (List.mem_cons_of_mem _ hq')) _
      (good_zadd z q.1 q.2 hg (hb q List.mem_cons_self).1 (hb q List.mem_cons_self).2)

theorem zaddPairsF_ok (key : Bytes) (nx xx gt lt ch : Bool) (pairs : List (Bytes × F64)) (hb : ∀ q ∈ pairs, PairOK q) :
    (zaddPairsF key nx xx gt lt ch pairs).OK := by
  refine ⟨(fun h => nomatch h), (fun w h => ?_), fun w e hg _ => ?_⟩
  · cases xx with
    | true => simp [zaddPairsF] at h
    | false => simp only [zaddPairsF, Bool.false_eq_true, if_false, Option.some.injEq] at h; subst h; exact good_emptyZSet
  · cases w with
    | zset z =>
      show (decZaddPairs key nx xx gt lt ch pairs (.zset z) e).GoodA
      unfold decZaddPairs
      simp only
      split
      · trivial
      · refine ⟨(fun w hw => ?_), (fun _ he => nomatch he)⟩
        cases hw
        obtain ⟨h1, h2⟩ := zpFold_all nx xx gt lt z pairs PairOK hb
        rw [h1]
        exact good_zaddAll _ h2 z hg
    | _ => trivial

theorem zaddPairsF_nilSafe (key : Bytes) (nx xx gt lt ch : Bool) (pairs : List (Bytes × F64)) :
    (zaddPairsF key nx xx gt lt ch pairs).NilSafe := by
  apply nilSafe_of
  · intro v e hv
    cases v <;> simp_all [zaddPairsF, decZaddPairs] <;> split <;> simp_all
  · intro v0 h0
    cases xx with
    | true => simp [zaddPairsF] at h0
    | false =>
      simp only [zaddPairsF, Bool.false_eq_true, if_false, Option.some.injEq] at h0
      subst h0
      simp only [zaddPairsF, decZaddPairs]
      split <;> simp_all

/-- ZADDs folded over a sorted set; its deadline `e` stays, so every intermediate content is live -/
theorem zaddF_fold (k : Bytes) (ops : List (Bytes × F64)) (z : ZSet) {e : Int}
    (hlive : ∀ v', filt (v', e) now = some (v', e)) :
    ops.foldl (fun L q => (zaddF now k q.1 q.2).post now L) (some (.zset z, e)) =
      some (.zset (zaddsAll z ops), e) := by
  induction ops generalizing z with
  | nil => rfl
  | cons q rest ih =>
    rw [List.foldl_cons, zaddF_post k q.1 q.2 (fun _ _ heq v' => by cases heq; exact hlive v')]
    exact ih _

/-- the ZADD command's transaction: one ZADD record per member written, applied one after the other -/
theorem zaddPairs_echo {em : Out → List FeedOp → List FeedOp} (hem : ∀ o l, em o l = l) (k : Bytes)
    (nx xx gt lt ch : Bool) (pairs : List (Bytes × F64)) (hne : pairs ≠ []) (hb : ∀ q ∈ pairs, PairOK q)
    (L : Option (Val × Int)) (hlive : Live now L) : Echo now em (zaddPairsF k nx xx gt lt ch pairs) L := by
  have acts : ∀ ops : List (Bytes × F64), (∀ q ∈ ops, PairOK q) →
      ∀ q ∈ ops.map fun q => (Api.opZAdd k q.1 q.2, (zaddF now k q.1 q.2).post now),
        Acts now q.1 k q.2 := by
    intro ops h2 q hq
    obtain ⟨q0, hq0, rfl⟩ := List.mem_map.mp hq
    exact Acts.of_tx rfl (zaddF_ok now k q0.1 q0.2 (h2 q0 hq0).1 (h2 q0 hq0).2) fun r0 => applyOp_zadd r0 now k q0.1 q0.2
  unfold Echo
  rw [hem]
  cases L with
  | none =>
    cases xx with
    | true => exact ⟨[], rfl, nofun, rfl⟩
    | false =>
      have hne0 : (zpFold nx false gt lt DsZSet.empty pairs).ops ≠ [] :=
        Proofs.ZAddPairs.zaddFold_empty_ops_ne nx gt lt pairs hne _ rfl
      have hemp : (zpFold nx false gt lt DsZSet.empty pairs).ops.isEmpty = false := by
        cases h : (zpFold nx false gt lt DsZSet.empty pairs).ops with
        | nil => exact absurd h hne0
        | cons _ _ => rfl
      obtain ⟨h1, h2⟩ := zpFold_all nx false gt lt DsZSet.empty pairs PairOK hb
      have hops : (zaddPairsF k nx false gt lt ch pairs).ops none =
          (zpFold nx false gt lt DsZSet.empty pairs).ops.map fun q => Api.opZAdd k q.1 q.2 := by
        simp [TxForm.ops, zaddPairsF, decZaddPairs, Act.ops, hemp]
      have hpost : (zaddPairsF k nx false gt lt ch pairs).post now none =
          some (.zset (zpFold nx false gt lt DsZSet.empty pairs).z, 0) := by
        simp [TxForm.post, TxForm.spec, txSpec, zaddPairsF, decZaddPairs, Act.eff, filt_zero, hemp]
      refine ⟨_, ?_, acts _ h2, ?_⟩
      · rw [hops, List.map_map]; rfl
      · rw [List.foldl_map, hpost, h1]
        generalize (zpFold nx false gt lt DsZSet.empty pairs).ops = ops at hne0
        cases ops with
        | nil => exact absurd rfl hne0
        | cons q rest =>
          show List.foldl (fun L (q : Bytes × F64) => (zaddF now k q.1 q.2).post now L) _ _ = _
          rw [List.foldl_cons, zaddF_post k q.1 q.2 (live_none now)]
          exact zaddF_fold k rest _ (fun v' => filt_zero v' now)
  | some cc =>
    obtain ⟨w, e⟩ := cc
    have hl0 := hlive w e rfl
    cases w with
    | zset z =>
      obtain ⟨h1, h2⟩ := zpFold_all nx xx gt lt z pairs PairOK hb
      cases hemp : (zpFold nx xx gt lt z pairs).ops.isEmpty with
      | true =>
        have hops : (zaddPairsF k nx xx gt lt ch pairs).ops (some (.zset z, e)) = [] := by
          simp [TxForm.ops, zaddPairsF, decZaddPairs, Act.ops, hemp]
        have hpost : (zaddPairsF k nx xx gt lt ch pairs).post now (some (.zset z, e)) = some (.zset z, e) := by
          simp [TxForm.post, TxForm.spec, txSpec, zaddPairsF, decZaddPairs, Act.eff, hemp]
        exact ⟨[], hops, nofun, hpost.symm⟩
      | false =>
        have hops : (zaddPairsF k nx xx gt lt ch pairs).ops (some (.zset z, e)) =
            (zpFold nx xx gt lt z pairs).ops.map fun q => Api.opZAdd k q.1 q.2 := by
          simp [TxForm.ops, zaddPairsF, decZaddPairs, Act.ops, hemp]
        have hpost : (zaddPairsF k nx xx gt lt ch pairs).post now (some (.zset z, e)) =
            some (.zset (zpFold nx xx gt lt z pairs).z, e) := by
          simp [TxForm.post, TxForm.spec, txSpec, zaddPairsF, decZaddPairs, Act.eff, hemp, hl0]
        refine ⟨_, ?_, acts _ h2, ?_⟩
        · rw [hops, List.map_map]; rfl
        · rw [List.foldl_map, hpost, h1]
          exact zaddF_fold k _ z hl0
    | _ => all_goals exact ⟨[], rfl, nofun, rfl⟩

/-- REPLAY of the ZADD command's transaction: on a drained primary with a watcher, the records `zAddPairs` emits
    (one ZADD per member written, in order), applied by a replica that agrees with the primary, lead to a replica that
    agrees with the primary again - every option set, every non-empty list of representable pairs. The records are
    handed over unchanged (`plainMethod`: the emission is the identity, as for ZAdd). -/
theorem zaddPairs_replay (hs : Same now p r) (hl : p.listeners = true) (hfd : p.feed = [])
    (c : Feed.CallInfo) (hc : plainMethod c.method = true) (k : Bytes) (nx xx gt lt ch : Bool)
    (pairs : List (Bytes × F64)) (hne : pairs ≠ []) (hb : ∀ q ∈ pairs, PairOK q) :
    Replay now r c (Api.zaddPairs p now k nx xx gt lt ch pairs) := by
  rw [zaddPairs_eq p now k nx xx gt lt ch pairs hne]
  exact (echo_main hs hl hfd c (zaddPairsF k nx xx gt lt ch pairs) (zaddPairsF_ok k nx xx gt lt ch pairs hb)
    fun L hlive hnn _ => ⟨zaddPairs_echo (emission_plain hc) k nx xx gt lt ch pairs hne hb L hlive,
      post_nonil (zaddPairsF_nilSafe k nx xx gt lt ch pairs) now L hnn⟩).1

end NodisVerif.Proofs.C20

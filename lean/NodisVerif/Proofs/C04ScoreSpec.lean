import NodisVerif.Proofs.C04Score
/-
  ZRANGEBYSCORE / ZREVRANGEBYSCORE against the reference: `rangeByScore_stream` (the model as the loop of Proofs/C04Score.lean
  on the stream of its start node), `rangeByScore_spec` (all bounds including NaN, both directions, offset, limit).
-/
namespace NodisVerif.Proofs.C04
open AListLemmas ZSetLemmas DsZSet

theorem rangeByScore_stream (z : ZSet) (min max : F64) (offset limit : Int) (desc : Bool) (mode : Nat)
    (h : ¬ (limit = 0 ∨ offset < 0)) :
    rangeByScore z min max offset limit desc mode =
      loopS min max mode limit
        (ostream desc (if desc then getLastInRange z.sl min max else getFirstInRange z.sl min max))
        offset (z.sl.length + 1) [] := by
  unfold rangeByScore
  rw [if_neg h]
  simp only
  rw [scoreLoop_eq]

theorem aboveRange_sub (l : List Item) (min max : F64) : (aboveRange l min max).Sublist l :=
  (List.dropWhile_sublist _).trans (List.dropWhile_sublist _)

theorem belowRange_sub (l : List Item) (min max : F64) : (belowRange l min max).Sublist l :=
  (List.takeWhile_sublist _).trans (List.takeWhile_sublist _)

theorem inRange_eq (min max : F64) (hmin : F64.isNaN min = false) (hmax : F64.isNaN max = false)
    (mode : Nat) (a : Item) (ha : Good a) :
    Spec.ZSet.inRange min max (minOpen mode) (maxOpen mode) a
      = (inC min max a && keepB min max mode a) := by
  have han : F64.isNaN a.1 = false := ha
  unfold Spec.ZSet.inRange Spec.ZSet.aboveMin Spec.ZSet.belowMax inC keepB minOpen maxOpen
  by_cases h1 : mode % 2 = 1 <;> by_cases h2 : mode / 2 % 2 = 1 <;>
    simp only [h1, h2, decide_true, decide_false, if_true, if_false, Bool.false_eq_true, F64.lt,
      F64.le, F64.ge, F64.eq, hmin, hmax, han, Bool.not_false, Bool.true_and, true_and, false_and,
      or_false, false_or, beq_iff_eq] <;>
    rw [Bool.eq_iff_iff] <;>
    simp only [Bool.and_eq_true, decide_eq_true_eq, Bool.not_eq_true', decide_eq_false_iff_not,
      not_or, and_true] <;> omega

theorem filter_inRange {z : ZSet} (h : Inv z) (min max : F64)
    (hmin : F64.isNaN min = false) (hmax : F64.isNaN max = false) (mode : Nat) :
    Spec.ZSet.rangeByScore z min max (minOpen mode) (maxOpen mode)
      = (z.sl.filter (inC min max)).filter (keepB min max mode) := by
  unfold Spec.ZSet.rangeByScore
  rw [← sl_eq_sorted h, List.filter_filter]
  apply List.filter_congr
  intro a ha
  rw [inRange_eq min max hmin hmax mode a (h.good a ha), Bool.and_comm]

theorem walk_closed_range {z : ZSet} (h : Inv z) (min max : F64)
    (hmin : F64.isNaN min = false) (hmax : F64.isNaN max = false) (desc : Bool) :
    let S := ostream desc (if desc then getLastInRange z.sl min max else getFirstInRange z.sl min max)
    S.takeWhile (inC min max)
        = (if desc then (z.sl.filter (inC min max)).reverse else z.sl.filter (inC min max)) ∧
      S.length ≤ z.sl.length := by
  have hpw := h.slPW
  have hg := h.good
  have hRin : ∀ a ∈ z.sl.filter (inC min max), inC min max a = true :=
    fun a ha => (List.mem_filter.mp ha).2
  cases desc with
  | false =>
    simp only [Bool.false_eq_true, if_false]
    rw [first_stream z.sl hpw hg min max hmin hmax]
    by_cases hRe : z.sl.filter (inC min max) = []
    · simp [hRe]
    · rw [if_neg hRe]
      obtain ⟨hD, _, hBout⟩ := first_decomp z.sl hpw hg min max hmin
      have hBnot : ∀ b ∈ aboveRange z.sl min max, inC min max b = false := by
        intro b hb; simp [inC, hBout b hb]
      refine ⟨takeWhile_inC_stream min max _ _ hRin hBnot, ?_⟩
      rw [← hD]
      exact (List.dropWhile_sublist (fun n : Item => F64.gt min n.1) (l := z.sl)).length_le
  | true =>
    simp only [if_true]
    rw [last_stream z.sl hpw hg min max hmin hmax]
    by_cases hRe : z.sl.filter (inC min max) = []
    · simp [hRe]
    · rw [if_neg hRe]
      obtain ⟨hT, _, hBout⟩ := last_decomp z.sl hpw hg min max hmin
      have hBsub := belowRange_sub z.sl min max
      have hBnot : ∀ b ∈ (belowRange z.sl min max).reverse, inC min max b = false := by
        intro b hb
        have hb' := List.mem_reverse.mp hb
        have hbg : Good b := hg b (hBsub.subset hb')
        rw [inC_eq min max hmin b hbg, hBout b hb']
        rfl
      have hRin' : ∀ a ∈ (z.sl.filter (inC min max)).reverse, inC min max a = true :=
        fun a ha => hRin a (List.mem_reverse.mp ha)
      refine ⟨takeWhile_inC_stream min max _ _ hRin' hBnot, ?_⟩
      have := (List.takeWhile_sublist (fun n : Item => F64.ge max n.1) (l := z.sl)).length_le
      rw [hT] at this
      simp only [List.length_append, List.length_reverse] at this ⊢
      omega

theorem lim_eq_limitBy (l : List Item) (offset limit : Int) (h : ¬ (limit = 0 ∨ offset < 0)) :
    lim limit 0 (l.drop offset.toNat) = Spec.ZSet.limitBy l offset limit := by
  unfold lim Spec.ZSet.limitBy
  have h1 : ¬ offset < 0 := fun e => h (Or.inr e)
  rw [if_neg h1]
  simp only [Nat.sub_zero]
  by_cases hl : limit > 0
  · rw [if_pos hl, if_neg (by omega)]
  · rw [if_neg hl, if_pos (by omega)]

theorem rangeByScore_spec_nonNaN {z : ZSet} (h : Inv z) (min max : F64)
    (hmin : F64.isNaN min = false) (hmax : F64.isNaN max = false) (offset limit : Int) (desc : Bool)
    (mode : Nat) :
    rangeByScore z min max offset limit desc mode =
      if desc then Spec.ZSet.revRangeByScoreLimit z min max (minOpen mode) (maxOpen mode) offset limit
      else Spec.ZSet.rangeByScoreLimit z min max (minOpen mode) (maxOpen mode) offset limit := by
  unfold Spec.ZSet.revRangeByScoreLimit Spec.ZSet.rangeByScoreLimit Spec.ZSet.revRangeByScore
  rw [filter_inRange h min max hmin hmax mode]
  by_cases hlim : limit = 0 ∨ offset < 0
  · have hm : rangeByScore z min max offset limit desc mode = [] := by
      unfold rangeByScore; rw [if_pos hlim]
    rw [hm]
    unfold Spec.ZSet.limitBy
    rcases hlim with hl | ho
    · subst hl; cases desc <;> simp
    · cases desc <;> simp [ho]
  · rw [rangeByScore_stream z min max offset limit desc mode hlim]
    obtain ⟨htw, hlen⟩ := walk_closed_range h min max hmin hmax desc
    rw [loopS_closed min max mode limit _ offset _ [] (by omega) (by intro hl; simpa using hl), htw]
    simp only [List.reverse_nil, List.nil_append, List.length_nil]
    cases desc with
    | false =>
      simp only [Bool.false_eq_true, if_false]
      exact lim_eq_limitBy _ offset limit hlim
    | true =>
      simp only [if_true]
      rw [List.filter_reverse]
      exact lim_eq_limitBy _ offset limit hlim

theorem rangeByScore_nan (z : ZSet) (min max : F64) (hn : F64.isNaN min = true ∨ F64.isNaN max = true)
    (offset limit : Int) (desc : Bool) (mode : Nat) :
    rangeByScore z min max offset limit desc mode = [] := by
  have hout : ∀ c : Item, inC min max c = false := by
    intro c
    unfold inC F64.ge F64.le
    rcases hn with h | h <;> simp [h]
  by_cases hlim : limit = 0 ∨ offset < 0
  · unfold rangeByScore; rw [if_pos hlim]
  · rw [rangeByScore_stream z min max offset limit desc mode hlim]
    generalize ostream desc _ = S
    cases S with
    | nil => simp [loopS]
    | cons c rest => simp [loopS, inC_unfold, hout c]

theorem spec_rangeByScore_nan (z : ZSet) (min max : F64)
    (hn : F64.isNaN min = true ∨ F64.isNaN max = true) (mo xo : Bool) :
    Spec.ZSet.rangeByScore z min max mo xo = [] := by
  unfold Spec.ZSet.rangeByScore
  rw [List.filter_eq_nil_iff]
  intro a _
  unfold Spec.ZSet.inRange Spec.ZSet.aboveMin Spec.ZSet.belowMax F64.lt F64.le
  rcases hn with h | h <;> cases mo <;> cases xo <;> simp [h]

theorem rangeByScore_spec {z : ZSet} (h : Inv z) (min max : F64) (offset limit : Int) (desc : Bool)
    (mode : Nat) :
    rangeByScore z min max offset limit desc mode =
      if desc then Spec.ZSet.revRangeByScoreLimit z min max (minOpen mode) (maxOpen mode) offset limit
      else Spec.ZSet.rangeByScoreLimit z min max (minOpen mode) (maxOpen mode) offset limit := by
  by_cases hn : F64.isNaN min = true ∨ F64.isNaN max = true
  · rw [rangeByScore_nan z min max hn]
    unfold Spec.ZSet.revRangeByScoreLimit Spec.ZSet.rangeByScoreLimit Spec.ZSet.revRangeByScore
    rw [spec_rangeByScore_nan z min max hn]
    unfold Spec.ZSet.limitBy
    cases desc <;> simp
  · have h1 : F64.isNaN min = false := by
      cases hm : F64.isNaN min with
      | false => rfl
      | true => exact absurd (Or.inl hm) hn
    have h2 : F64.isNaN max = false := by
      cases hm : F64.isNaN max with
      | false => rfl
      | true => exact absurd (Or.inr hm) hn
    exact rangeByScore_spec_nonNaN h min max h1 h2 offset limit desc mode

end NodisVerif.Proofs.C04

import NodisVerif.Model.Feed
import NodisVerif.Proofs.C12Seq
/-
  C20: the change feed replays on a replica.  `Same now p r`: both states satisfy the storage invariant and show
  the same logical keyspace (and the primary shows no nil string).  A record is read as an action on the content of its key (`Acts`).  A command that is
  one key transaction is covered when what is handed over for it acts as the transaction did (`Echo`; proved from
  the decision by `echo_dec`, or `SelfRec` when the one record makes a replica run the command itself): `echo_tx`,
  `echo_main`.  The commands on several keys go through `Follows`, or `main_of` with their own specification.
  (`TxForm.ops/post/sees` and `Act.post` live in `NodisVerif.Proofs.C11`, beside `TxForm` and `Act`.)
-/
namespace NodisVerif.Proofs.C20
open NodisVerif NodisVerif.Store NodisVerif.Spec.Persist NodisVerif.Proofs.C11

/-- nothing the store shows at `now` is Go's nil string (no API command creates one) -/
def NoNil (s : MState) (now : Int) : Prop := ∀ k e, lookup s now k ≠ some (.strNil, e)

/-- primary and replica show the same logical keyspace at `now`: same live names, each with the
    same value (hence type) and deadline; both satisfy the storage invariant `StoreInv`; nothing the primary shows
    is Go's nil string (`nonil`; `Same.nonilR`: nor the replica) -/
structure Same (now : Int) (p r : MState) : Prop where
  invP : StoreInv p now
  invR : StoreInv r now
  eq : logical p now = logical r now
  nonil : NoNil p now

theorem Same.look {now : Int} {p r : MState} (h : Same now p r) (k : Bytes) :
    lookup r now k = lookup p now k :=
  lookup_of_logical h.invP.idxSorted h.invR.idxSorted h.eq.symm k

theorem Same.of_look {now : Int} {p r : MState} (hp : StoreInv p now) (hr : StoreInv r now)
    (hl : ∀ k, lookup r now k = lookup p now k) (hn : NoNil p now) : Same now p r :=
  ⟨hp, hr, (logical_ext hp.idxSorted hr.idxSorted hl).symm, hn⟩

theorem Same.nonilR {now : Int} {p r : MState} (h : Same now p r) : NoNil r now := by
  intro k e; rw [h.look k]; exact h.nonil k e

def upd (K : Bytes → Option (Val × Int)) (k : Bytes) (L : Option (Val × Int)) : Bytes → Option (Val × Int) :=
  fun k' => if k' = k then L else K k'

theorem upd_same (K : Bytes → Option (Val × Int)) (k : Bytes) (L : Option (Val × Int)) : upd K k L k = L := by
  simp [upd]

theorem upd_other (K : Bytes → Option (Val × Int)) (k : Bytes) (L : Option (Val × Int)) {k' : Bytes} (h : k' ≠ k) :
    upd K k L k' = K k' := by
  simp [upd, h]

theorem upd_self (K : Bytes → Option (Val × Int)) (k : Bytes) : upd K k (K k) = K := by
  funext k'; by_cases h : k' = k <;> simp [upd, h]

/-- what holds of both branches holds of the conditional (where `split` would be slow, or the condition
    is not looked at) -/
theorem ite_ind {α : Type} {P : α → Prop} {c : Prop} [Decidable c] {x y : α} (hx : P x) (hy : P y) :
    P (if c then x else y) := by
  split
  · exact hx
  · exact hy

/-- the fields only `emit` touches -/
def fl (s : MState) : List FeedOp × Bool := (s.feed, s.listeners)

/-- the two fields of `fl`; stated for variables so that no large state term is unfolded to read them off -/
theorem fl_eq {s : MState} {fd : List FeedOp} {b : Bool} (h : fl s = (fd, b)) : s.feed = fd ∧ s.listeners = b :=
  ⟨congrArg Prod.fst h, congrArg Prod.snd h⟩

theorem fl_putMeta (s : MState) (k : Bytes) (m : Meta) : fl (putMeta s k m) = fl s := rfl

theorem fl_unpersist (s : MState) (k : Bytes) (m : Meta) : fl (unpersist s k m) = fl s := by
  rw [unpersist_eq]
  rfl

theorem fl_modMeta (s : MState) (k : Bytes) (f : Meta → Meta) : fl (modMeta s k f) = fl s := by
  unfold modMeta; split <;> rfl

theorem fl_newKeyWith (s : MState) (k : Bytes) (old : Option Meta) (v : Val) : fl (newKeyWith s k old v) = fl s := by
  unfold newKeyWith
  simp only [fresh]
  split
  · rw [fl_putMeta]; rw [fl_unpersist]; rfl
  · rfl

theorem fl_accessKey {lock : MState → Bytes → MState} (hl : C01.LockOp lock)
    (s : MState) (now : Int) (k : Bytes) (mk : Option Val) : fl (C01.accessKey lock s now k mk).1 = fl s :=
  C01.accessKey_ind hl (fun x => fl x = fl s) s now k mk rfl
    (fun _ _ => by rw [fl_putMeta, hl s k]; rfl)
    (fun x old v _ hx => by rw [fl_newKeyWith, hx])
    (fun x m v oid hx _ => by rw [fl_putMeta, hx])

theorem fl_writeKey (s : MState) (now : Int) (k : Bytes) (mk : Option Val) : fl (writeKey s now k mk).1 = fl s :=
  fl_accessKey C01.lockW_op s now k mk

theorem fl_readKey (s : MState) (now : Int) (k : Bytes) : fl (readKey s now k).1 = fl s :=
  fl_accessKey C01.lockR_op s now k none

theorem fl_setVal (s : MState) (k : Bytes) (v : Val) : fl (Api.setVal s k v) = fl s := by
  rw [Store.setVal_rest]; rfl

theorem fl_setExp (s : MState) (k : Bytes) (e : Int) : fl (Api.setExp s k e) = fl s := by
  unfold Api.setExp; split <;> rfl

theorem fl_signal (s : MState) (k : Bytes) : fl (signal s k) = fl s := by
  unfold signal
  show fl (modMeta s k Meta.markModified) = fl s
  exact fl_modMeta s k _

theorem fl_delKey (s : MState) (k : Bytes) : fl (delKey s k) = fl s := by
  unfold delKey
  split
  · show fl (unpersist s k _) = fl s; exact fl_unpersist s k _
  · rfl

theorem fl_commit (s : MState) : fl (Api.commit s) = fl s := rfl

theorem fl_emit (s : MState) (op : FeedOp) (h : s.listeners = true) :
    fl (emit s op) = (op :: s.feed, true) := by
  simp [emit, h, fl]

theorem fl_emits (ops : List FeedOp) : ∀ (s : MState), s.listeners = true →
    fl (emits s ops) = (ops.reverse ++ s.feed, true) := by
  intro s h
  rw [emits_eq, if_pos h]
  simp only [fl, h]

/-- the records of an action (in namespace `C20`, unlike `Act.post`: written `Act.ops a`) -/
def Act.ops : Act → List FeedOp
  | .keep _ => []
  | .put _ _ ops _ => ops
  | .drop _ ops _ => ops

theorem fl_runAct (s : MState) (key : Bytes) (a : Act) (h : s.listeners = true) :
    fl (runAct s key a).1 = ((Act.ops a).reverse ++ s.feed, true) := by
  cases a with
  | keep r => simp [runAct, Act.ops, fl, h]
  | put v' e' ops r =>
    simp only [runAct, Act.ops]
    have h0 : fl (signal (optSetExp (optSetVal s key v') key e') key) = fl s := by
      rw [fl_signal]
      cases e' with
      | none =>
        cases v' with
        | none => rfl
        | some v => exact fl_setVal s key v
      | some e =>
        show fl (Api.setExp _ key e) = _
        rw [fl_setExp]
        cases v' with
        | none => rfl
        | some v => exact fl_setVal s key v
    have hl : (signal (optSetExp (optSetVal s key v') key e') key).listeners = true := by
      have := (fl_eq h0).2; exact this.trans h
    rw [fl_emits ops _ hl]
    have : (signal (optSetExp (optSetVal s key v') key e') key).feed = s.feed := (fl_eq h0).1
    rw [this]
  | drop v' ops r =>
    simp only [runAct, Act.ops]
    have h0 : fl (signal (delKey (Api.setVal s key v') key) key) = fl s := by
      rw [fl_signal, fl_delKey, fl_setVal]
    have hl : (signal (delKey (Api.setVal s key v') key) key).listeners = true := by
      have := (fl_eq h0).2; exact this.trans h
    rw [fl_emits ops _ hl]
    have : (signal (delKey (Api.setVal s key v') key) key).feed = s.feed := (fl_eq h0).1
    rw [this]

end NodisVerif.Proofs.C20

namespace NodisVerif.Proofs.C11.TxForm
open NodisVerif NodisVerif.Store NodisVerif.Spec.Persist NodisVerif.Proofs.C11 NodisVerif.Proofs.C20

/-- the records the transaction emits, as a function of the logical content of its key -/
def ops (f : TxForm) (L : Option (Val × Int)) : List FeedOp :=
  match L, f.ctor with
  | some (v, e), _ => Act.ops (f.dec v e)
  | none, some v0 => Act.ops (f.dec v0 0)
  | none, none => []

/-- the logical content of the key after the transaction, at time `now` -/
def post (f : TxForm) (now : Int) (L : Option (Val × Int)) : Option (Val × Int) :=
  match (f.spec L).2 with
  | none => L
  | some c => c.bind (filt · now)

end NodisVerif.Proofs.C11.TxForm

/-! A key transaction decides on what it *sees*: the content the key shows, or else the constructor's value
    without a deadline.  Records, reply and the content afterwards are then those of the decision, so a missing
    key with a constructor and a key that shows are one case, and two transactions are compared by comparing
    their decisions on one `(v, e)`. -/
namespace NodisVerif.Proofs.C11
open NodisVerif NodisVerif.Store NodisVerif.Spec.Persist NodisVerif.Proofs.C20

/-- content of the key, seen at `now`, after the decision `a` taken on `(v, e)` -/
def Act.post (now : Int) (a : Act) (v : Val) (e : Int) : Option (Val × Int) :=
  match a.eff v e with
  | none => some (v, e)
  | some c => c.bind (filt · now)

def TxForm.sees (f : TxForm) : Option (Val × Int) → Option (Val × Int)
  | some c => some c
  | none => f.ctor.map (·, 0)

theorem TxForm.sees_cases {f : TxForm} {L : Option (Val × Int)} {v : Val} {e : Int} (h : f.sees L = some (v, e)) :
    L = some (v, e) ∨ (L = none ∧ f.ctor = some v ∧ e = 0) := by
  cases L with
  | some c => exact Or.inl h
  | none =>
    cases hc : f.ctor with
    | none => simp [TxForm.sees, hc] at h
    | some v0 =>
      simp only [TxForm.sees, hc, Option.map_some, Option.some.injEq, Prod.mk.injEq] at h
      exact Or.inr ⟨rfl, by rw [h.1], h.2.symm⟩

theorem TxForm.sees_some (f : TxForm) (now : Int) {L : Option (Val × Int)} {v : Val} {e : Int}
    (h : f.sees L = some (v, e)) :
    f.ops L = Act.ops (f.dec v e) ∧ (f.spec L).1 = (f.dec v e).reply ∧ f.post now L = (f.dec v e).post now v e := by
  rcases TxForm.sees_cases h with rfl | ⟨rfl, hc, rfl⟩
  · refine ⟨rfl, rfl, ?_⟩
    show (match (f.dec v e).eff v e with | none => some (v, e) | some c => c.bind (filt · now)) = _
    unfold Act.post
    cases (f.dec v e).eff v e <;> rfl
  · refine ⟨by simp only [TxForm.ops, hc], by rw [TxForm.spec_none_ctor hc], ?_⟩
    unfold TxForm.post Act.post
    rw [TxForm.spec_none_ctor hc]
    cases (f.dec v 0).eff v 0 with
    | none => exact filt_zero v now
    | some c => rfl

theorem TxForm.sees_none (f : TxForm) (now : Int) {L : Option (Val × Int)} (h : f.sees L = none) :
    L = none ∧ f.ops L = [] ∧ (f.spec L).1 = f.miss ∧ f.post now L = none := by
  cases L with
  | some c => cases h
  | none =>
    cases hc : f.ctor with
    | some v0 => simp [TxForm.sees, hc] at h
    | none =>
      exact ⟨rfl, by simp only [TxForm.ops, hc], by rw [TxForm.spec_none hc], by
        unfold TxForm.post; rw [TxForm.spec_none hc]⟩

end NodisVerif.Proofs.C11

namespace NodisVerif.Proofs.C20
open NodisVerif NodisVerif.Store NodisVerif.Spec.Persist NodisVerif.Proofs.C11

theorem applyEff_now (eff : Option (Option (Val × Int))) (key : Bytes) (K : Int → Bytes → Option (Val × Int))
    (now : Int) (k' : Bytes) :
    applyEff eff key K now k' =
      upd (K now) key (match eff with | none => K now key | some c => c.bind (filt · now)) k' := by
  cases eff with
  | none =>
    simp only [applyEff, upd]
    by_cases hk : k' = key
    · simp [hk]
    · simp [hk]
  | some c => rfl

theorem form_step {f : TxForm} (hf : f.OK) {s : MState} {now : Int} (h : StoreInv s now) :
    StoreInv (f.run s now).1 now ∧
    ∀ k', lookup (f.run s now).1 now k' = upd (lookup s now) f.key (f.post now (lookup s now f.key)) k' := by
  have sp := f.txspec hf h (Int.le_refl now)
  refine ⟨sp.inv, fun k' => ?_⟩
  rw [sp.look now (Int.le_refl _) k', applyEff_now]
  rfl

theorem form_feed {f : TxForm} (hf : f.OK) {s : MState} {now : Int} (h : StoreInv s now)
    (hl : s.listeners = true) :
    fl (f.run s now).1 = ((f.ops (lookup s now f.key)).reverse ++ s.feed, true) := by
  have ks : KeySpec s now now f.key f.ctor
      (access f.write f.ctor s now f.key) := by
    cases hw : f.write with
    | true => exact writeKey_spec h (Int.le_refl _) f.key f.ctor hf.mkGood
    | false => rw [hf.rd hw]; exact readKey_spec h (Int.le_refl _) f.key
  have hfl : fl (access f.write f.ctor s now f.key).1 = fl s := by
    cases f.write with
    | true => exact fl_writeKey s now f.key f.ctor
    | false => exact fl_readKey s now f.key
  unfold TxForm.run
  rw [keyTx_access]
  generalize access f.write f.ctor s now f.key = r at ks hfl
  obtain ⟨s1, ok⟩ := r
  simp only at hfl ⊢
  have hl1 : s1.listeners = true := by have := (fl_eq hfl).2; exact this.trans hl
  have hf1 : s1.feed = s.feed := (fl_eq hfl).1
  have run : ∀ (m : Meta) (v : Val), AList.get? s1.index f.key = some m → m.value = some v →
      valOf s1 f.key = some v ∧ Api.expOf s1 f.key = m.exp := by
    intro m v hm hv
    exact ⟨(valOf_of_getMeta hm).trans hv, expOf_of_getMeta hm⟩
  -- the key shows: decision on `(v, e)`; missing without constructor: `run` stops at the guard, the feed is that of
  -- the lookup; missing with constructor `v0`: decision on `(v0, 0)`
  cases hL : lookup s now f.key with
  | some c =>
    obtain ⟨v, e⟩ := c
    obtain ⟨hok, _, m, hm, hv, he, _⟩ := ks.hit v e hL
    simp only at hok hm
    simp only [hok, Bool.not_true, Bool.false_and, Bool.false_eq_true, if_false]
    rw [(run m v hm hv).1, (run m v hm hv).2, he]
    simp only []
    rw [fl_runAct _ _ _ hl1, hf1]
    rfl
  | none =>
    cases hmk0 : f.ctor with
    | none =>
      obtain ⟨hok, _⟩ := ks.miss hL hmk0
      simp only at hok
      simp only [hok, Bool.not_false, Option.isNone_none, Bool.and_self, if_true]
      simp only [TxForm.ops, hmk0, List.reverse_nil, List.nil_append]
      rw [hfl]; simp [fl, hl]
    | some v0 =>
      obtain ⟨hok, _, m, hm, hv, he, _⟩ := ks.make v0 hL hmk0
      simp only at hok hm
      simp only [hok, Bool.not_true, Bool.false_and, Bool.false_eq_true, if_false]
      rw [(run m v0 hm hv).1, (run m v0 hm hv).2, he]
      simp only []
      rw [fl_runAct _ _ _ hl1, hf1]
      simp only [TxForm.ops, hmk0]

theorem form_raw {f : TxForm} (hf : f.OK) {s : MState} {now : Int} (h : StoreInv s now)
    (hl : s.listeners = true) (hfd : s.feed = []) :
    (f.run s now).1.feed.reverse = f.ops (lookup s now f.key) ∧ (f.run s now).1.listeners = true := by
  have := form_feed hf h hl
  have h1 : (f.run s now).1.feed = _ := (fl_eq this).1
  have h2 : (f.run s now).1.listeners = _ := (fl_eq this).2
  rw [hfd] at h1
  simp only [List.append_nil] at h1
  exact ⟨by rw [h1, List.reverse_reverse], h2⟩

/-- the replica applied `ops` and now shows `F` -/
def Replays (r : MState) (now : Int) (ops : List FeedOp) (F : Bytes → Option (Val × Int)) : Prop :=
  ∃ r', Feed.applyAll r now ops = some r' ∧ StoreInv r' now ∧ ∀ k, lookup r' now k = F k

/-- the statement of the main theorem for one call with result `res` on primary `p`: the replica
    `r` can apply what the call hands to a watcher, and then shows what the primary shows -/
def Replay (now : Int) (r : MState) (c : Feed.CallInfo) (res : Api.R) : Prop :=
  ∃ r', Feed.applyAll r now (Feed.emission c res.2 res.1.feed.reverse) = some r' ∧ Same now res.1 r'

theorem applyAll_one (r : MState) (now : Int) (op : FeedOp) : Feed.applyAll r now [op] = Feed.applyOp r now op := by
  show (Feed.applyOp r now op).bind some = _
  cases Feed.applyOp r now op <;> rfl

theorem applyAll_append (r : MState) (now : Int) (a b : List FeedOp) :
    Feed.applyAll r now (a ++ b) = (Feed.applyAll r now a).bind (Feed.applyAll · now b) := by
  induction a generalizing r with
  | nil => rfl
  | cons op rest ih =>
    simp only [List.cons_append, Feed.applyAll, Option.bind_eq_bind]
    cases Feed.applyOp r now op with
    | none => rfl
    | some r1 => simp only [Option.bind_some]; exact ih r1

theorem Replays.nil {r : MState} {now : Int} (h : StoreInv r now) : Replays r now [] (lookup r now) :=
  ⟨r, rfl, h, fun _ => rfl⟩

/-- on any replica the record `op` names `k`, acts on the content of `k` as the function `P`, and leaves every
    other name alone -/
def Acts (now : Int) (op : FeedOp) (k : Bytes) (P : Option (Val × Int) → Option (Val × Int)) : Prop :=
  op.key = k ∧ ∀ r, StoreInv r now → Replays r now [op] (upd (lookup r now) k (P (lookup r now k)))

theorem Acts.of_tx {now : Int} {op : FeedOp} {g : TxForm} (hk : op.key = g.key) (hg : g.OK)
    (hap : ∀ r0, Feed.applyOp r0 now op = some (g.run r0 now).1) : Acts now op g.key (g.post now) := by
  refine ⟨hk, fun r h => ?_⟩
  obtain ⟨i1, l1⟩ := form_step hg h
  exact ⟨_, (applyAll_one r now op).trans (hap r), i1, l1⟩

theorem Replays.step {r : MState} {now : Int} {op : FeedOp} {rest : List FeedOp} {F G : Bytes → Option (Val × Int)}
    (h1 : Replays r now [op] F)
    (h2 : ∀ r1, StoreInv r1 now → (∀ k, lookup r1 now k = F k) → Replays r1 now rest G) :
    Replays r now (op :: rest) G := by
  obtain ⟨r1, a, b, c⟩ := h1
  obtain ⟨r2, a2, b2, c2⟩ := h2 r1 b c
  rw [applyAll_one] at a
  exact ⟨r2, by simp [Feed.applyAll, a, a2], b2, c2⟩

theorem main_of {now : Int} {r : MState} {res : Api.R} {ops : List FeedOp}
    {F : Bytes → Option (Val × Int)} (hp' : StoreInv res.1 now) (hF : ∀ k, lookup res.1 now k = F k)
    (hn : ∀ k e, F k ≠ some (.strNil, e)) (hr : Replays r now ops F) :
    ∃ r', Feed.applyAll r now ops = some r' ∧ Same now res.1 r' := by
  obtain ⟨r', a, b, c⟩ := hr
  refine ⟨r', a, Same.of_look hp' b (fun k => by rw [c k, hF k]) ?_⟩
  intro k e; rw [hF k]; exact hn k e

theorem Replays.congr {r : MState} {now : Int} {ops : List FeedOp} {F G : Bytes → Option (Val × Int)}
    (h : Replays r now ops F) (e : F = G) : Replays r now ops G := e ▸ h

theorem upd_congr (K : Bytes → Option (Val × Int)) (k : Bytes) {A B : Option (Val × Int)} (h : A = B) :
    upd K k A = upd K k B := by rw [h]

theorem upd_upd (K : Bytes → Option (Val × Int)) (k : Bytes) (A B : Option (Val × Int)) :
    upd (upd K k A) k B = upd K k B := by
  funext k'; by_cases h : k' = k <;> simp [upd, h]

theorem Replays.acts {now : Int} (k : Bytes) :
    ∀ (l : List (FeedOp × (Option (Val × Int) → Option (Val × Int)))), (∀ q ∈ l, Acts now q.1 k q.2) →
    ∀ r : MState, StoreInv r now →
      Replays r now (l.map (·.1)) (upd (lookup r now) k (l.foldl (fun L q => q.2 L) (lookup r now k)))
  | [], _, r, hi => (Replays.nil hi).congr (upd_self _ _).symm
  | q :: rest, hq, r, hi => by
    refine Replays.step ((hq q (List.mem_cons_self ..)).2 r hi) fun r1 i1 l1 => ?_
    have := Replays.acts k rest (fun b hb => hq b (List.mem_cons_of_mem _ hb)) r1 i1
    rw [funext l1, upd_same, upd_upd] at this
    exact this

theorem view_later (s : MState) {now t' : Int} (ht : now ≤ t') (k : Bytes) (m : Meta) :
    view s t' k m = (view s now k m).bind (filt · t') := by
  unfold view
  by_cases hok : m.isOk = true
  · cases hnow : m.expired now with
    | true =>
      have := Meta.expired_mono m ht hnow
      simp [hok, this]
    | false =>
      simp only [hok, Bool.true_and, Bool.not_false, if_true]
      cases hv : m.value with
      | some v =>
        simp only [Option.bind_some, filt, Meta.expired]
        by_cases hc : (m.exp != 0 && decide (m.exp ≤ t')) = true <;> simp [hc]
      | none =>
        simp only
        cases loadValue s k m with
        | none => simp
        | some q =>
          simp only [Option.map_some, Option.bind_some, filt, Meta.expired]
          by_cases hc : (m.exp != 0 && decide (m.exp ≤ t')) = true <;> simp [hc]
  · simp [hok]

theorem lookup_later (s : MState) {now t' : Int} (ht : now ≤ t') (k : Bytes) :
    lookup s t' k = (lookup s now k).bind (filt · t') := by
  unfold lookup
  cases getMeta s k with
  | none => rfl
  | some m => simp only [Option.bind_some]; exact view_later s ht k m

theorem lookup_filt {s : MState} {now : Int} {k : Bytes} {v : Val} {e : Int}
    (h : lookup s now k = some (v, e)) (v' : Val) : filt (v', e) now = some (v', e) := by
  have := lookup_later s (Int.le_refl now) k
  rw [h, Option.bind_some] at this
  unfold filt at this ⊢
  split at this
  · cases this
  · rename_i hc; exact if_neg hc

/-- `main_of` for a call that meets the specification of the key transaction `f`; the replay of what is handed
    over (`hrep`) is given ready-made (`echo_tx` builds it from `Echo`) -/
theorem main_tx {now : Int} {p r : MState} (hs : Same now p r) (f : TxForm) (res : Api.R)
    (hsp : TxSpec p now now f.key (f.spec (lookup p now f.key)) res)
    (em : Out → List FeedOp → List FeedOp)
    (hn : NoNil p now → ∀ e, f.post now (lookup p now f.key) ≠ some (.strNil, e))
    (hrep : ∀ r, StoreInv r now → NoNil r now → (∀ k, lookup r now k = lookup p now k) →
      Replays r now (em (f.spec (lookup r now f.key)).1 (f.ops (lookup r now f.key)))
        (upd (lookup r now) f.key (f.post now (lookup r now f.key)))) :
    ∃ r', Feed.applyAll r now (em res.2 (f.ops (lookup p now f.key))) = some r' ∧ Same now res.1 r' := by
  have l1 : ∀ k', lookup res.1 now k' = upd (lookup p now) f.key (f.post now (lookup p now f.key)) k' := by
    intro k'
    rw [hsp.look now (Int.le_refl _) k', applyEff_now]
    rfl
  rw [hsp.reply]
  have hK : ∀ k, lookup r now k = lookup p now k := hs.look
  have hfun : lookup r now = lookup p now := funext hK
  have := hrep r hs.invR hs.nonilR hK
  rw [hK f.key, hfun] at this
  refine main_of hsp.inv l1 ?_ this
  intro k e
  by_cases hk : k = f.key
  · subst hk; rw [upd_same]; exact hn hs.nonil e
  · rw [upd_other _ _ _ hk]; exact hs.nonil k e

/-- `L` is what a lookup at `now` returned: not past its deadline -/
def Live (now : Int) (L : Option (Val × Int)) : Prop :=
  ∀ v e, L = some (v, e) → ∀ v', filt (v', e) now = some (v', e)

theorem live_lookup (s : MState) (now : Int) (k : Bytes) : Live now (lookup s now k) :=
  fun _ _ h v' => lookup_filt h v'

theorem live_none (now : Int) : Live now none := fun _ _ h => nomatch h
theorem live_zero (now : Int) (v : Val) : Live now (some (v, 0)) := by
  intro v1 e h v'; cases h; exact filt_zero _ _

theorem post_nonil {f : TxForm} (hns : f.NilSafe) (now : Int) (L : Option (Val × Int))
    (hL : ∀ e, L ≠ some (.strNil, e)) (e : Int) : f.post now L ≠ some (.strNil, e) := by
  unfold TxForm.post
  cases hsp : (f.spec L).2 with
  | none => exact hL e
  | some c =>
    cases c with
    | none => simp
    | some cc =>
      have := hns L (fun v e0 h hv => by subst hv; exact hL e0 h) cc hsp
      simp only [Option.bind_some]
      intro hc
      have h2 := filt_some hc
      subst h2
      exact this rfl

section
variable {now : Int} {p r : MState}

/-- what is delivered for the transaction `f` on content `L`: records acting on `f.key` whose actions, one after
    the other, make `L` into `f.post now L`.  `em` takes the reply and the raw records to what a watcher is handed:
    `Feed.emission c` for a call, the identity for a step inside a longer call. -/
def Echo (now : Int) (em : Out → List FeedOp → List FeedOp) (f : TxForm) (L : Option (Val × Int)) : Prop :=
  ∃ l : List (FeedOp × (Option (Val × Int) → Option (Val × Int))),
    em (f.spec L).1 (f.ops L) = l.map (·.1) ∧ (∀ q ∈ l, Acts now q.1 f.key q.2) ∧
    l.foldl (fun L q => q.2 L) L = f.post now L

theorem Echo.keys {em : Out → List FeedOp → List FeedOp} {f : TxForm} {L : Option (Val × Int)}
    (h : Echo now em f L) : ∀ op ∈ em (f.spec L).1 (f.ops L), op.key = f.key := by
  obtain ⟨l, a, b, _⟩ := h
  rw [a]
  intro op hop
  obtain ⟨q, hq, rfl⟩ := List.mem_map.mp hop
  exact (b q hq).1

/-- `hop` is asked for every content `L` that equals the primary's (it is used at the primary's lookup and at the
    replica's, which shows the same); the equation is there so that a region hypothesis (`Call.Region`, Proofs/C20Call.lean) about `lookup p now f.key`
    reaches the lemma about `L`. -/
theorem echo_tx (hs : Same now p r) (f : TxForm) (res : Api.R)
    (hsp : TxSpec p now now f.key (f.spec (lookup p now f.key)) res)
    (em : Out → List FeedOp → List FeedOp)
    (hop : ∀ L, Live now L → (∀ e, L ≠ some (.strNil, e)) → L = lookup p now f.key →
      Echo now em f L ∧ ∀ e, f.post now L ≠ some (.strNil, e)) :
    (∃ r', Feed.applyAll r now (em res.2 (f.ops (lookup p now f.key))) = some r' ∧ Same now res.1 r') ∧
    ∀ op ∈ em res.2 (f.ops (lookup p now f.key)), op.key = f.key := by
  have hE := hop _ (live_lookup p now f.key) (fun e => hs.nonil f.key e) rfl
  refine ⟨main_tx hs f res hsp em (fun _ => hE.2) fun r0 h hn0 hK => ?_, hsp.reply ▸ hE.1.keys⟩
  obtain ⟨l, h1, h2, h3⟩ := (hop _ (live_lookup r0 now f.key) (fun e => hn0 f.key e) (hK f.key)).1
  rw [h1, ← h3]
  exact Replays.acts f.key l h2 r0 h

/-- `Echo` read off the decision: on whatever content `(v, e)` the decision is taken, what is delivered is
    nothing (and the content stays `L`), or one record whose transaction `g` decides on the same content and
    leaves what `f`'s decision leaves.  (A decision that keeps a key it has just constructed fails the first
    alternative: the finding regions, `Call.Region`.) -/
theorem echo_dec {em : Out → List FeedOp → List FeedOp} {f : TxForm} {L : Option (Val × Int)}
    (hmiss : em f.miss [] = [])
    (h : ∀ v e, f.sees L = some (v, e) →
      (em (f.dec v e).reply (Act.ops (f.dec v e)) = [] ∧ (f.dec v e).post now v e = L) ∨
      ∃ op g, em (f.dec v e).reply (Act.ops (f.dec v e)) = [op] ∧ op.key = f.key ∧ TxForm.OK g ∧ g.key = f.key ∧
        g.sees L = some (v, e) ∧ (∀ r0, Feed.applyOp r0 now op = some (g.run r0 now).1) ∧
        (g.dec v e).post now v e = (f.dec v e).post now v e) :
    Echo now em f L := by
  unfold Echo
  cases hs : f.sees L with
  | none =>
    obtain ⟨rfl, h1, h2, h3⟩ := f.sees_none now hs
    rw [h1, h2, h3]
    exact ⟨[], hmiss, nofun, rfl⟩
  | some c =>
    obtain ⟨v, e⟩ := c
    obtain ⟨h1, h2, h3⟩ := f.sees_some now hs
    rw [h1, h2, h3]
    rcases h v e hs with ⟨a, b⟩ | ⟨op, g, a, hk, b, c, d, e', f'⟩
    · exact ⟨[], a, nofun, b.symm⟩
    · refine ⟨[(op, g.post now)], a, fun q hq => ?_, by rw [← f', ← (g.sees_some now d).2.2]; rfl⟩
      rw [List.mem_singleton.mp hq, ← c]
      exact Acts.of_tx (hk.trans c.symm) b e'

/-- `f` records every change by the one record `op`, which makes a replica run `f` itself -/
structure SelfRec (now : Int) (f : TxForm) (op : FeedOp) : Prop where
  key : op.key = f.key
  applies : ∀ r0, Feed.applyOp r0 now op = some (f.run r0 now).1
  dec : ∀ v e, (∃ o, f.dec v e = .keep o) ∨ Act.ops (f.dec v e) = [op]
  ctor : ∀ v0, f.ctor = some v0 → Act.ops (f.dec v0 0) = [op]

theorem SelfRec.echo {f : TxForm} {op : FeedOp} (h : SelfRec now f op) (hf : f.OK)
    {em : Out → List FeedOp → List FeedOp} (hem : ∀ o l, em o l = l) (L : Option (Val × Int)) : Echo now em f L := by
  refine echo_dec (hem _ _) fun v e hsee => ?_
  rw [hem]
  rcases TxForm.sees_cases hsee with rfl | ⟨rfl, hc, rfl⟩
  · rcases h.dec v e with ⟨o, hk⟩ | hk
    · left; rw [hk]; exact ⟨rfl, rfl⟩
    · exact Or.inr ⟨op, f, hk, h.key, hf, rfl, hsee, h.applies, rfl⟩
  · exact Or.inr ⟨op, f, h.ctor v hc, h.key, hf, rfl, hsee, h.applies, rfl⟩

end

section
variable {now : Int} {p r : MState}

theorem Same.commit (hs : Same now p r) : Same now (Api.commit p) r :=
  ⟨hs.invP.congr rfl rfl rfl rfl, hs.invR,
    by rw [← hs.eq]; exact logical_ext hs.invP.idxSorted hs.invP.idxSorted (fun k => lookup_congr rfl rfl rfl _ _),
    fun k e => by rw [lookup_congr (s := p) (s' := Api.commit p) rfl rfl rfl]; exact hs.nonil k e⟩

end

/-- the primary went from `p` to `s`, emitting records (each satisfying `P`) that take the replica `r` along; `s`
    still has its watcher (`fl s = (_, true)`); `Same now p r` is not part of it -/
def Follows (now : Int) (p r s : MState) (P : FeedOp → Prop) : Prop :=
  ∃ ops r', fl s = (ops.reverse ++ p.feed, true) ∧ Feed.applyAll r now ops = some r' ∧ Same now s r' ∧
    ∀ op ∈ ops, P op

theorem Follows.refl {now : Int} {p r : MState} (hs : Same now p r) (hl : p.listeners = true) (P : FeedOp → Prop) :
    Follows now p r p P :=
  ⟨[], r, by simp [fl, hl], rfl, hs, fun _ h => nomatch h⟩

theorem Follows.mono {now : Int} {p r s : MState} {P Q : FeedOp → Prop} (h : Follows now p r s P)
    (hPQ : ∀ op, P op → Q op) : Follows now p r s Q := by
  obtain ⟨ops, r', f, a, b, k⟩ := h
  exact ⟨ops, r', f, a, b, fun op hop => hPQ op (k op hop)⟩

theorem Follows.commit {now : Int} {p r s : MState} {P : FeedOp → Prop} (h : Follows now p r s P) :
    Follows now p r (Api.commit s) P := by
  obtain ⟨ops, r', f, a, b, k⟩ := h
  exact ⟨ops, r', f, a, b.commit, k⟩

theorem Follows.drained {now : Int} {p r s : MState} {P : FeedOp → Prop} (h : Follows now p r s P) (hfd : p.feed = []) :
    (∃ r', Feed.applyAll r now s.feed.reverse = some r' ∧ Same now s r') ∧ s.listeners = true ∧
    ∀ o ∈ s.feed.reverse, P o := by
  obtain ⟨ops, r', f, a, b, k⟩ := h
  rw [(fl_eq f).1, hfd, List.append_nil, List.reverse_reverse]
  exact ⟨⟨r', a, b⟩, (fl_eq f).2, k⟩

theorem Follows.trans {now : Int} {p r s t : MState} {P : FeedOp → Prop} (h1 : Follows now p r s P)
    (h2 : ∀ r1, Same now s r1 → s.listeners = true → Follows now s r1 t P) : Follows now p r t P := by
  obtain ⟨ops1, r1, f1, a1, s1, k1⟩ := h1
  obtain ⟨ops2, r2, f2, a2, s2, k2⟩ := h2 r1 s1 (fl_eq f1).2
  refine ⟨ops1 ++ ops2, r2, ?_, ?_, s2, fun op hop => ?_⟩
  · rw [f2, (fl_eq f1).1, List.reverse_append, List.append_assoc]
  · rw [applyAll_append, a1]; exact a2
  · rcases List.mem_append.mp hop with h | h
    · exact k1 op h
    · exact k2 op h

theorem Follows.of_echo {now : Int} {p r : MState} (hs : Same now p r) (hl : p.listeners = true) (f : TxForm)
    (hf : f.OK) {em : Out → List FeedOp → List FeedOp} (hem : ∀ o l, em o l = l)
    (hop : ∀ L, Live now L → (∀ e, L ≠ some (.strNil, e)) →
      Echo now em f L ∧ ∀ e, f.post now L ≠ some (.strNil, e)) :
    Follows now p r (f.run p now).1 (·.key = f.key) := by
  obtain ⟨⟨r', a, b⟩, hk⟩ := echo_tx hs f _ (f.txspec hf hs.invP (Int.le_refl now)) em fun L a b _ => hop L a b
  rw [hem] at a hk
  exact ⟨_, r', form_feed hf hs.invP hl, a, b, hk⟩

theorem lookup_nonil_cases {s : MState} {now : Int} (hn : NoNil s now) (k : Bytes) :
    lookup s now k = none ∨ ∃ v e, lookup s now k = some (v, e) ∧ v ≠ .strNil := by
  cases h : lookup s now k with
  | none => left; rfl
  | some c =>
    right
    obtain ⟨v, e⟩ := c
    refine ⟨v, e, rfl, ?_⟩
    intro hv; subst hv; exact hn k e h

/-- two write lookups in a row, `src` (which shows `v`) then `dst`: the keyspace shown and the feed are as
    before, the source's record is still hot, and the second lookup reports whether `dst` shows -/
theorem twoLookups {s : MState} {now : Int} (h : StoreInv s now) (src dst : Bytes) {v : Val} {es : Int}
    (hL : lookup s now src = some (v, es)) :
    (writeKey s now src none).2 = true ∧ valOf (writeKey s now src none).1 src = some v ∧
    StoreInv (writeKey s now src none).1 now ∧
    (∀ k', lookup (writeKey s now src none).1 now k' = lookup s now k') ∧
    StoreInv (writeKey (writeKey s now src none).1 now dst none).1 now ∧
    (∀ k', lookup (writeKey (writeKey s now src none).1 now dst none).1 now k' = lookup s now k') ∧
    fl (writeKey (writeKey s now src none).1 now dst none).1 = fl s ∧
    (∃ m2, AList.get? (writeKey (writeKey s now src none).1 now dst none).1.index src = some m2 ∧
      m2.value = some v ∧ m2.exp = es) ∧
    (writeKey (writeKey s now src none).1 now dst none).2 = (lookup s now dst).isSome ∧
    (∀ vd ed, lookup s now dst = some (vd, ed) →
      valOf (writeKey (writeKey s now src none).1 now dst none).1 dst = some vd) := by
  have ht : now ≤ now := Int.le_refl now
  have ks1 := writeKey_spec h ht src none (fun _ hc => nomatch hc)
  have hfl1 := fl_writeKey s now src none
  generalize writeKey s now src none = r1 at ks1 hfl1
  obtain ⟨s1, ok⟩ := r1
  obtain ⟨hok, hl, m, hm, hv, he, _⟩ := ks1.hit v es hL
  simp only at hok hm hfl1 ⊢
  have hsame1 : ∀ k', lookup s1 now k' = lookup s now k' := by
    intro k'
    by_cases hk : k' = src
    · subst hk; exact hl now ht
    · exact ks1.other now ht k' hk
  have ks2 := writeKey_spec ks1.inv ht dst none (fun _ hc => nomatch hc)
  have hfl2 := fl_writeKey s1 now dst none
  have oi2 := writeKey_otherIdx s1 now dst none src
  generalize writeKey s1 now dst none = r2 at ks2 hfl2 oi2
  obtain ⟨s2, dok⟩ := r2
  simp only at hfl2 oi2 ⊢
  refine ⟨hok, (valOf_of_getMeta hm).trans hv, ks1.inv, hsame1, ks2.inv, fun k' => ?_, hfl2.trans hfl1, ?_, ?_, ?_⟩
  · rw [← hsame1 k']
    by_cases hk : k' = dst
    · subst hk
      cases hL2 : lookup s1 now k' with
      | none => exact ((ks2.miss hL2 rfl).2 now ht).trans hL2
      | some c2 => exact ((ks2.hit c2.1 c2.2 hL2).2.1 now ht).trans hL2
    · exact ks2.other now ht k' hk
  · by_cases hk : src = dst
    · subst hk
      obtain ⟨_, _, m2, hm2, hv2, he2, _⟩ := ks2.hit _ _ ((hsame1 src).trans hL)
      exact ⟨m2, hm2, hv2, he2⟩
    · exact ⟨m, by rw [oi2 hk]; exact hm, hv, he⟩
  · rw [← hsame1 dst]
    cases hLd : lookup s1 now dst with
    | none => exact (ks2.miss hLd rfl).1
    | some cd => exact (ks2.hit cd.1 cd.2 hLd).1
  · intro vd ed hLd
    obtain ⟨_, _, md, hmd, hvd, _, _⟩ := ks2.hit vd ed ((hsame1 dst).trans hLd)
    simp only at hmd
    exact (valOf_of_getMeta hmd).trans hvd

theorem echo_main {now : Int} {p r : MState} (hs : Same now p r) (hl : p.listeners = true) (hfd : p.feed = [])
    (c : Feed.CallInfo) (f : TxForm) (hf : f.OK)
    (hop : ∀ L, Live now L → (∀ e, L ≠ some (.strNil, e)) → L = lookup p now f.key →
      Echo now (Feed.emission c) f L ∧ ∀ e, f.post now L ≠ some (.strNil, e)) :
    Replay now r c (f.run p now) ∧ (f.run p now).1.listeners = true ∧
    ∀ op ∈ Feed.emission c (f.run p now).2 (f.run p now).1.feed.reverse, op.key = f.key := by
  obtain ⟨hraw, hlis⟩ := form_raw hf hs.invP hl hfd
  unfold Replay
  rw [hraw]
  obtain ⟨a, b⟩ := echo_tx hs f _ (f.txspec hf hs.invP (Int.le_refl now)) (Feed.emission c) hop
  exact ⟨a, hlis, b⟩

end NodisVerif.Proofs.C20

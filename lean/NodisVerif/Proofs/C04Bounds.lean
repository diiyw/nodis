import NodisVerif.Proofs.C08Step
import NodisVerif.Model.Handler3
/-
  The command layer of the score ranges, end to end through the dispatch table on
  z = {a:1, b:2, c:3, d:4}: which bound an exclusive mark belongs to, forward and reversed.
-/
namespace NodisVerif.Proofs.C04
open NodisVerif.Proofs.C08Step Resp Server

/-- the reply to `name z args…` after `ZADD z 1 a 2 b 3 c 4 d` on an empty server -/
def boundReply (name : String) (args : List String) : List Tok :=
  (run Handler3.table3 { store := {} }
    [{ id := "c", name := "ZADD",
       args := [[122], Bytes.ofString "1", Bytes.ofString "a", Bytes.ofString "2", Bytes.ofString "b",
         Bytes.ofString "3", Bytes.ofString "c", Bytes.ofString "4", Bytes.ofString "d"] },
     { id := "c", name := name, args := [122] :: args.map Bytes.ofString }]).2.getD 1 []

def bulkNames (l : List String) : List Tok :=
  Tok.arr l.length :: l.map fun x => Tok.bulk (Bytes.ofString x)

structure BoundReplies : Prop where
  zrevrangebyscore_min : boundReply "ZREVRANGEBYSCORE" ["4", "(1"] = bulkNames ["d", "c", "b"]
  zrevrangebyscore_max : boundReply "ZREVRANGEBYSCORE" ["(4", "1"] = bulkNames ["c", "b", "a"]
  zrevrangebyscore_both : boundReply "ZREVRANGEBYSCORE" ["(4", "(1"] = bulkNames ["c", "b"]
  zrange_rev_min : boundReply "ZRANGE" ["4", "(1", "BYSCORE", "REV"] = bulkNames ["d", "c", "b"]
  zrange_rev_max : boundReply "ZRANGE" ["(4", "1", "BYSCORE", "REV"] = bulkNames ["c", "b", "a"]
  zrangebyscore_min : boundReply "ZRANGEBYSCORE" ["(1", "4"] = bulkNames ["b", "c", "d"]
  zrangebyscore_max : boundReply "ZRANGEBYSCORE" ["1", "(4"] = bulkNames ["a", "b", "c"]
  zrange_min : boundReply "ZRANGE" ["(1", "4", "BYSCORE"] = bulkNames ["b", "c", "d"]

/-- one evaluation for all eight: the kernel runs the ZADD that builds the set and reads the dispatch
    table once -/
theorem bound_replies : BoundReplies := by
  have h : boundReply "ZREVRANGEBYSCORE" ["4", "(1"] = bulkNames ["d", "c", "b"] ∧
      boundReply "ZREVRANGEBYSCORE" ["(4", "1"] = bulkNames ["c", "b", "a"] ∧
      boundReply "ZREVRANGEBYSCORE" ["(4", "(1"] = bulkNames ["c", "b"] ∧
      boundReply "ZRANGE" ["4", "(1", "BYSCORE", "REV"] = bulkNames ["d", "c", "b"] ∧
      boundReply "ZRANGE" ["(4", "1", "BYSCORE", "REV"] = bulkNames ["c", "b", "a"] ∧
      boundReply "ZRANGEBYSCORE" ["(1", "4"] = bulkNames ["b", "c", "d"] ∧
      boundReply "ZRANGEBYSCORE" ["1", "(4"] = bulkNames ["a", "b", "c"] ∧
      boundReply "ZRANGE" ["(1", "4", "BYSCORE"] = bulkNames ["b", "c", "d"] := by decide +kernel
  obtain ⟨h1, h2, h3, h4, h5, h6, h7, h8⟩ := h
  exact ⟨h1, h2, h3, h4, h5, h6, h7, h8⟩

end NodisVerif.Proofs.C04

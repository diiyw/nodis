import NodisVerif.Proofs.C20Call
import NodisVerif.Proofs.C11Examples

/-
  C20, on top of `call_covered`: sequences of calls with draining in between (`runCalls`, `applyBatches`,
  `replay_sequence`); the read-only methods of `Read` (no Scan, SDiff / SInter / SUnion, ZUnion / ZInter) leave the feed alone (`read_fl`); the example states of the concrete witnesses
  and of the Z*STORE examples, with the two findings `emits_although_unchanged_finding` and `late_apply_finding`;
  the two float regions of `Call.Region` are empty.
-/
namespace NodisVerif.Proofs.C20
open NodisVerif NodisVerif.Store NodisVerif.Spec.Persist NodisVerif.Proofs.C11


theorem Same.mono {now t' : Int} {p r : MState} (h : Same now p r) (ht : now ≤ t') : Same t' p r := by
  refine Same.of_look (StoreInvX.mono h.invP ht) (StoreInvX.mono h.invR ht) (fun k => ?_) ?_
  · rw [lookup_later r ht, lookup_later p ht, h.look k]
  · intro k e hc
    rw [lookup_later p ht] at hc
    cases hL : lookup p now k with
    | none => rw [hL] at hc; cases hc
    | some cc =>
      rw [hL] at hc
      simp only [Option.bind_some] at hc
      have := filt_some hc
      subst this
      exact h.nonil k e hL

/-- what the driver does to a store between two calls (Main.lean, `api`: `held` and `feed` cleared and
    `Store.syncShared` after the call, `signalled` and `hung` cleared before the next; `Server.applySignals` is left out) -/
def drain (s : MState) : MState :=
  Store.syncShared { s with held := [], feed := [], signalled := [], hung := false }

theorem drain_feed (s : MState) : (drain s).feed = [] ∧ (drain s).listeners = s.listeners := by
  unfold drain
  rw [syncShared_eq]
  split <;> exact ⟨rfl, rfl⟩

theorem drain_inv {s : MState} {t : Int} (h : StoreInv s t) : StoreInv (drain s) t :=
  inv_syncShared (h.congr (s' := { s with held := [], feed := [], signalled := [], hung := false }) rfl rfl rfl rfl)

theorem drain_lookup {s : MState} {t : Int} (h : StoreInv s t) (k : Bytes) : lookup (drain s) t k = lookup s t k := by
  unfold drain
  rw [lookup_syncShared
    (h.congr (s' := { s with held := [], feed := [], signalled := [], hung := false }) rfl rfl rfl rfl) (Int.le_refl t)]
  exact lookup_congr rfl rfl rfl _ _

theorem Same.drain {now : Int} {p r : MState} (h : Same now p r) : Same now (drain p) (drain r) := by
  refine Same.of_look (drain_inv h.invP) (drain_inv h.invR) (fun k => ?_) ?_
  · rw [drain_lookup h.invR, drain_lookup h.invP, h.look k]
  · intro k e; rw [drain_lookup h.invP]; exact h.nonil k e

/-- the primary runs the calls one after the other, each at its own time, drained in between;
    result: the final state and, per call, the records handed to the watchers with the call's time -/
def runCalls : List (Call × Int) → MState → MState × List (List FeedOp × Int)
  | [], s => (s, [])
  | (c, now) :: rest, s =>
    ((runCalls rest (drain (c.run s now).1)).1,
     (Feed.emission c.info (c.run s now).2 (c.run s now).1.feed.reverse, now) ::
       (runCalls rest (drain (c.run s now).1)).2)

/-- the replica applies the batches in order, each at the time of the call that produced it -/
def applyBatches (r : MState) : List (List FeedOp × Int) → Option MState
  | [] => some r
  | (ops, now) :: rest => (Feed.applyAll r now ops).bind fun r' => applyBatches (drain r') rest

/-- times do not run backwards; arguments are well-formed; no call falls into a finding region -/
def CallsOK : Int → List (Call × Int) → MState → Prop
  | _, [], _ => True
  | t, (c, now) :: rest, s =>
    t ≤ now ∧ c.WF ∧ ¬ c.Region (lookup s now) ∧ CallsOK now rest (drain (c.run s now).1)

def lastTime : Int → List (Call × Int) → Int
  | t, [] => t
  | _, (_, now) :: rest => lastTime now rest

theorem replay_sequence : ∀ (calls : List (Call × Int)) (t : Int) (p r : MState), Same t p r →
    p.listeners = true → p.feed = [] → CallsOK t calls p →
    ∃ r', applyBatches r (runCalls calls p).2 = some r' ∧ Same (lastTime t calls) (runCalls calls p).1 r' := by
  intro calls
  induction calls with
  | nil => intro t p r hs _ _ _; exact ⟨r, rfl, hs⟩
  | cons cn rest ih =>
    intro t p r hs hl hfd hok
    obtain ⟨c, now⟩ := cn
    obtain ⟨ht, hwf, hreg, hrest⟩ := hok
    obtain ⟨⟨r1, a1, s1⟩, hl1⟩ := call_main c hwf (hs.mono ht) hl hfd hreg
    have hd := drain_feed (c.run p now).1
    obtain ⟨r2, a2, s2⟩ := ih now (drain (c.run p now).1) (drain r1) s1.drain (hd.2.trans hl1) hd.1 hrest
    refine ⟨r2, ?_, s2⟩
    simp only [runCalls, applyBatches, a1, Option.bind_some]
    exact a2

def emptyWatched (pebble : Bool) : MState := { pebble := pebble, listeners := true }

theorem same_empty (pebble pebble' : Bool) (t : Int) : Same t (emptyWatched pebble) (empty pebble') := by
  refine Same.of_look ((empty_inv pebble t).congr rfl rfl rfl rfl) (empty_inv pebble' t) (fun k => ?_) ?_
  · simp [lookup, getMeta, emptyWatched, empty, AList.get?]
  · intro k e; simp [lookup, getMeta, emptyWatched, AList.get?]


/-- the single-key read-only methods (and EXISTS / KEYS / RANDOMKEY) with their arguments -/
inductive Read
  | exists_ (ks : List Bytes) | keys (pat : Bytes) | randomKey (choice : Option Bytes)
  | ttl (k : Bytes) | pttl (k : Bytes) | type (k : Bytes)
  | get (k : Bytes) | getBit (k : Bytes) (o : Int) | bitCount (k : Bytes) (a b : Int) (bit : Bool)
  | getRange (k : Bytes) (a b : Int) | strLen (k : Bytes)
  | llen (k : Bytes) | lindex (k : Bytes) (i : Int) | lrange (k : Bytes) (a b : Int)
  | hget (k f : Bytes)
  /-- HLen HKeys HVals HGetAll HExists HStrLen HMGet HScan -/
  | hread (f : AList Bytes → Out) (dflt : Out) (k : Bytes)
  /-- SCard SMembers SIsMember SScan -/
  | sread (f : AList Unit → Out) (dflt : Out) (k : Bytes)
  | srandmember (k : Bytes) (n : Int) (choice : List Bytes)
  /-- ZCard ZRank ZRevRank Z[Rev]RankWithScore ZScore Z[Rev]Range[WithScores] Z[Rev]RangeByScore[WithScores]
      ZExists ZCount ZMax ZMin ZScan -/
  | zread (f : ZSet → Out) (dflt : Out) (k : Bytes)

def Read.run : Read → MState → Int → Api.R
  | .exists_ ks, s, now => Api.exists_ s now ks
  | .keys pat, s, now => Api.keys s now pat
  | .randomKey ch, s, now => Api.randomKey s now ch
  | .ttl k, s, now => Api.ttl s now k
  | .pttl k, s, now => Api.pttl s now k
  | .type k, s, now => Api.type_ s now k
  | .get k, s, now => Api.get s now k
  | .getBit k o, s, now => Api.getBit s now k o
  | .bitCount k a b bit, s, now => Api.bitCount s now k a b bit
  | .getRange k a b, s, now => Api.getRange s now k a b
  | .strLen k, s, now => Api.strLen s now k
  | .llen k, s, now => Api.llen s now k
  | .lindex k i, s, now => Api.lindex s now k i
  | .lrange k a b, s, now => Api.lrange s now k a b
  | .hget k f, s, now => Api.hget s now k f
  | .hread f d k, s, now => Api.hread f d s now k
  | .sread f d k, s, now => Api.sread f d s now k
  | .srandmember k n ch, s, now => Api.srandmember s now k n ch
  | .zread f d k, s, now => Api.zread f d s now k

theorem fl_exists (now : Int) (ks : List Bytes) : ∀ (s : MState) (n : Int),
    fl (ks.foldl (fun (acc : MState × Int) key =>
      ((readKey acc.1 now key).1, if (readKey acc.1 now key).2 then acc.2 + 1 else acc.2)) (s, n)).1 = fl s := by
  induction ks with
  | nil => intro s n; rfl
  | cons k rest ih => intro s n; simp only [List.foldl_cons]; rw [ih]; exact fl_readKey s now k

theorem fst_ite {α β : Type} {c : Prop} [Decidable c] {a b : α × β} {x : α} (ha : a.1 = x) (hb : b.1 = x) :
    (if c then a else b).1 = x :=
  ite_ind (P := fun r : α × β => r.1 = x) ha hb

/-- the single-key reads hand back the state `readKey` hands back (EXISTS folds `readKey`; KEYS leaves the state alone) -/
theorem read_fl (q : Read) (s : MState) (now : Int) : fl (q.run s now).1 = fl s := by
  cases q with
  | exists_ ks =>
    show fl (Api.exists_ s now ks).1 = fl s
    unfold Api.exists_
    exact fl_exists now ks s 0
  | keys pat => rfl
  | randomKey ch =>
    simp only [Read.run, Api.randomKey]
    split <;> rfl
  | ttl k =>
    -- splitting the rounding arithmetic is slow; the branches are not looked into
    rw [← fl_readKey s now k]
    exact congrArg fl (fst_ite rfl (fst_ite rfl (fst_ite rfl (fst_ite rfl rfl))))
  | srandmember k n ch =>
    rw [← fl_readKey s now k]
    refine congrArg fl (fst_ite rfl ?_)
    show (match Api.asSet (readKey s now k).1 k with
      | none => ((readKey s now k).1, Out.panic)
      | some st => _).1 = (readKey s now k).1
    split
    · rfl
    · exact fst_ite rfl (fst_ite rfl rfl)
  | pttl k | type k | get k | getBit k _ | bitCount k _ _ _ | getRange k _ _ | strLen k | llen k
  | lindex k _ | lrange k _ _ | hget k _ | hread _ _ k | sread _ _ k | zread _ _ k =>
    have hrk := fl_readKey s now k
    simp only [Read.run, Api.pttl, Api.type_, Api.get, Api.getBit, Api.bitCount, Api.getRange, Api.strLen,
      Api.llen, Api.lindex, Api.lrange, Api.hget, Api.hread, Api.sread, Api.zread]
    generalize readKey s now k = q at hrk
    obtain ⟨s1, ok⟩ := q
    simp only at hrk ⊢
    repeat' split
    all_goals exact hrk

theorem Same.refl {now : Int} {p : MState} (h : StoreInv p now) (hn : NoNil p now) : Same now p p :=
  ⟨h, h, rfl, hn⟩

def w0 : MState := emptyWatched false
/-- ... after SADD k m / HSET k f v / RPUSH k a / ZADD k m 1.0 / SET k v (drained) -/
def wSet : MState := drain (Api.sadd w0 0 [107] [[109]]).1
def wHash : MState := drain (Api.hset w0 0 [107] [102] [118]).1
def wList : MState := drain (Api.push false w0 0 [107] [[97]]).1
def wZSet : MState := drain (Api.zadd w0 0 [107] [109] 0x3ff0000000000000).1
def wStr : MState := drain (Api.set w0 0 [107] [118] false).1

theorem not_replay_of_no_record {now : Int} (res : Api.R) {c : Feed.CallInfo} {r : MState}
    (hfeed : res.1.feed.length = 0) (hnil : Feed.emission c res.2 [] = [])
    (hne : logical res.1 now ≠ logical r now) : ¬ Replay now r c res := by
  rintro ⟨r', a, s⟩
  rw [List.eq_nil_of_length_eq_zero hfeed, List.reverse_nil, hnil] at a
  cases a
  exact hne s.eq

/-- "commands that change nothing emit nothing" fails: records are emitted although the logical
    keyspace is unchanged — SADD of a present member, SREM of an absent one, HDEL of an absent field,
    LINSERT with an absent pivot, LREM of an absent element, ZADD with the score the member already
    has, SETBIT with a negative offset, SET to the value the key already holds -/
theorem emits_although_unchanged_finding :
    ((Call.sadd [107] [[109]]).run wSet 0).1.feed.map (·.typ) = [23] ∧
      logical ((Call.sadd [107] [[109]]).run wSet 0).1 0 = logical wSet 0 ∧
    ((Call.srem [107] [[120]]).run wSet 0).1.feed.map (·.typ) = [24] ∧
      logical ((Call.srem [107] [[120]]).run wSet 0).1 0 = logical wSet 0 ∧
    ((Call.hdel [107] [[120]]).run wHash 0).1.feed.map (·.typ) = [6] ∧
      logical ((Call.hdel [107] [[120]]).run wHash 0).1 0 = logical wHash 0 ∧
    ((Call.linsert [107] [120] [121] true).run wList 0).1.feed.map (·.typ) = [11] ∧
      logical ((Call.linsert [107] [120] [121] true).run wList 0).1 0 = logical wList 0 ∧
    ((Call.lrem [107] [120] 0).run wList 0).1.feed.map (·.typ) = [16] ∧
      logical ((Call.lrem [107] [120] 0).run wList 0).1 0 = logical wList 0 ∧
    ((Call.zadd [107] [109] 0x3ff0000000000000).run wZSet 0).1.feed.map (·.typ) = [26] ∧
      logical ((Call.zadd [107] [109] 0x3ff0000000000000).run wZSet 0).1 0 = logical wZSet 0 ∧
    ((Call.setBit [107] (-1) true).run wStr 0).1.feed.map (·.typ) = [25] ∧
      logical ((Call.setBit [107] (-1) true).run wStr 0).1 0 = logical wStr 0 ∧
    ((Call.set [107] [118] true).run wStr 0).1.feed.map (·.typ) = [25] ∧
      logical ((Call.set [107] [118] true).run wStr 0).1 0 = logical wStr 0 := by
  refine ⟨by decide +kernel, by decide +kernel, by decide +kernel, by decide +kernel, by decide +kernel, by decide +kernel, by decide +kernel, by decide +kernel, by decide +kernel,
    by decide +kernel, by decide +kernel, by decide +kernel, by decide +kernel, by decide +kernel, by decide +kernel, by decide +kernel⟩

/-- a hash `k = {f: v}` with deadline 10 (watched primary, drained) -/
def wHashExp : MState :=
  drain (Api.expireAt (drain (Api.hset w0 0 [107] [102] [118]).1) 0 [107] 10).1

/-- records must be applied before the clock passes a deadline the record does not carry.  At time 5
    the primary runs `HSet k g w` on a hash that expires at 10 and hands over one HSET record.  A replica
    in the same state that applies the record at time 5 agrees with the primary at every later time
    (`Same.mono`); a replica that applies it at time 20 finds the key expired, creates a fresh hash without
    deadline, and from then on shows `k = {g: w}` while the primary shows nothing. -/
theorem late_apply_finding :
    logical wHashExp 5 = [([107], .hash [([102], [118])], 10)] ∧
    (Api.hset wHashExp 5 [107] [103] [119]).1.feed.map (·.typ) = [10] ∧
    logical (Api.hset wHashExp 5 [107] [103] [119]).1 5 = [([107], .hash [([102], [118]), ([103], [119])], 10)] ∧
    logical (Api.hset wHashExp 5 [107] [103] [119]).1 20 = [] ∧
    (∃ r', Feed.applyAll wHashExp 5 [opHSet [107] [103] [119]] = some r' ∧
      logical r' 5 = logical (Api.hset wHashExp 5 [107] [103] [119]).1 5 ∧ logical r' 20 = []) ∧
    (∃ r', Feed.applyAll wHashExp 20 [opHSet [107] [103] [119]] = some r' ∧
      logical r' 20 = [([107], .hash [([103], [119])], 0)]) := by
  have hap : ∀ t, Feed.applyAll wHashExp t [opHSet [107] [103] [119]] = some (Api.hset wHashExp t [107] [103] [119]).1 := by
    intro t
    simp only [Feed.applyAll, applyOp_hset, Option.bind_eq_bind, Option.bind_some]
    rw [show (hsetF t [107] [103] [119]).run wHashExp t = Api.hset wHashExp t [107] [103] [119] from
      (hset_eq wHashExp t [107] [103] [119]).symm]
  refine ⟨by decide +kernel, by decide +kernel, by decide +kernel, by decide +kernel, ⟨_, hap 5, rfl, by decide +kernel⟩, ⟨_, hap 20, by decide +kernel⟩⟩

/-! ## ZUnionStore / ZInterStore: example states (non-vacuity of the hypotheses of the Z*STORE theorems, the shapes of
    the records) -/

/-! ### running the aggregate (`Bytes.ofString` does not reduce in the kernel) -/

def aggregateL (agg : Bytes) (weight : F64) (acc : AList F64) (it : DsZSet.Item) : Option (AList F64) :=
  let (sc, m) := it
  let ws := F64.mul sc weight
  let isSum := agg = [83, 85, 77] ∨ agg.isEmpty
  let isMin := agg = [77, 73, 78]
  let isMax := agg = [77, 65, 88]
  match AList.get? acc m with
  | none => if isSum ∨ isMin ∨ isMax then some (AList.set acc m ws) else some acc
  | some cur =>
    if isSum then some (AList.set acc m (F64.add cur ws))
    else if isMin then some (if F64.lt ws cur then AList.set acc m ws else acc)
    else if isMax then some (if F64.gt ws cur then AList.set acc m ws else acc)
    else some acc

theorem aggregate_lit : Api.aggregate = aggregateL := by
  funext agg weight acc it
  unfold Api.aggregate aggregateL
  have h1 : Bytes.ofString "SUM" = [83, 85, 77] := by rw [NodisVerif.Proofs.C15.ofString_ascii _ (by decide +kernel)]; decide +kernel
  have h2 : Bytes.ofString "MIN" = [77, 73, 78] := by rw [NodisVerif.Proofs.C15.ofString_ascii _ (by decide +kernel)]; decide +kernel
  have h3 : Bytes.ofString "MAX" = [77, 65, 88] := by rw [NodisVerif.Proofs.C15.ofString_ascii _ (by decide +kernel)]; decide +kernel
  rw [h1, h2, h3]
  rfl


/-! ### the example states satisfy the hypotheses -/

theorem drained_ok (c : Call) (hwf : c.WF) {now : Int} {p : MState} (hs : Same now p p) (hl : p.listeners = true)
    (hfd : p.feed = []) (hreg : ¬ c.Region (lookup p now)) :
    Same now (drain (c.run p now).1) (drain (c.run p now).1) ∧ (drain (c.run p now).1).listeners = true ∧
    (drain (c.run p now).1).feed = [] := by
  obtain ⟨⟨r', _, s⟩, hl1⟩ := call_main c hwf hs hl hfd hreg
  have s1 := s.drain
  exact ⟨Same.refl s1.invP s1.nonil, (drain_feed _).2.trans hl1, (drain_feed _).1⟩

theorem w0_ok : Same 0 w0 w0 ∧ w0.listeners = true ∧ w0.feed = [] := by
  have h0 := same_empty false false 0
  exact ⟨Same.refl h0.invP h0.nonil, rfl, rfl⟩

theorem wZSet_ok : Same 0 wZSet wZSet ∧ wZSet.listeners = true ∧ wZSet.feed = [] :=
  drained_ok (.zadd [107] [109] 0x3ff0000000000000) ⟨by decide +kernel, by decide +kernel⟩ w0_ok.1 w0_ok.2.1 w0_ok.2.2 (fun h => h)

/-- k = {m: 1.0}, l = {m: 2.0} -/
def wZ2 : MState := drain (Api.zadd wZSet 0 [108] [109] 0x4000000000000000).1
/-- k = {m: 1.0}, l = {n: 2.0} -/
def wZ3 : MState := drain (Api.zadd wZSet 0 [108] [110] 0x4000000000000000).1
/-- k = {m: +inf} -/
def wInf : MState := drain (Api.zadd w0 0 [107] [109] 0x7FF0000000000000).1

theorem wZ2_ok : Same 0 wZ2 wZ2 ∧ wZ2.listeners = true ∧ wZ2.feed = [] :=
  drained_ok (.zadd [108] [109] 0x4000000000000000) ⟨by decide +kernel, by decide +kernel⟩ wZSet_ok.1 wZSet_ok.2.1 wZSet_ok.2.2
    (fun h => h)

theorem wZ3_ok : Same 0 wZ3 wZ3 ∧ wZ3.listeners = true ∧ wZ3.feed = [] :=
  drained_ok (.zadd [108] [110] 0x4000000000000000) ⟨by decide +kernel, by decide +kernel⟩ wZSet_ok.1 wZSet_ok.2.1 wZSet_ok.2.2
    (fun h => h)

theorem wInf_ok : Same 0 wInf wInf ∧ wInf.listeners = true ∧ wInf.feed = [] :=
  drained_ok (.zadd [107] [109] 0x7FF0000000000000) ⟨by decide +kernel, by decide +kernel⟩ w0_ok.1 w0_ok.2.1 w0_ok.2.2 (fun h => h)

theorem wStr_ok : Same 0 wStr wStr ∧ wStr.listeners = true ∧ wStr.feed = [] :=
  drained_ok (.set [107] [118] false) trivial w0_ok.1 w0_ok.2.1 w0_ok.2.2 (fun h => h)

/-! ### ZUNIONSTORE d 2 k l (SUM, default weights) -/

theorem core_wZ2 : zcoreSpec true (lookup wZ2 0) [[107], [108]] [] [] = some (some [(0x4008000000000000, [109])]) := by
  unfold zcoreSpec
  have hz : [[107], [108]].zipIdx = [(([107] : Bytes), 0), ([108], 1)] := by decide +kernel
  simp only [if_true, hz, unionGo, aggregate_lit]
  decide +kernel

/-! ### ZINTERSTORE k 2 k l with disjoint operands: the core's result is empty (that the destination, an operand,
    goes: `zinterStore_empty_example`, Props/C20.lean) -/

theorem core_wZ3 : zcoreSpec false (lookup wZ3 0) [[107], [108]] [] [] = some (some []) := by
  unfold zcoreSpec
  have hz : [[107], [108]].zipIdx = [(([107] : Bytes), 0), ([108], 1)] := by decide +kernel
  simp only [Bool.false_eq_true, if_false, hz, interGo]
  decide +kernel

/-! ### an operand of another type: the core fails (nothing emitted, nothing changed:
    `zunionStore_wrongtype_example`, Props/C20.lean) -/

theorem core_wStr : zcoreSpec true (lookup wStr 0) [[107]] [] [] = none := by
  unfold zcoreSpec
  have hz : [[107]].zipIdx = [(([107] : Bytes), 0)] := by decide +kernel
  simp only [if_true, hz, unionGo]
  decide +kernel

/-! ### the NaN region: +inf · 0 -/

theorem core_wInf : zcoreSpec true (lookup wInf 0) [[107]] [0] [] = some (some [(F64.qnan, [109])]) := by
  unfold zcoreSpec
  have hz : [[107]].zipIdx = [(([107] : Bytes), 0)] := by decide +kernel
  simp only [if_true, hz, unionGo, aggregate_lit]
  decide +kernel

end NodisVerif.Proofs.C20

/-! ## the float regions are empty

  `Api.formatFloat` is total and "0" parses, so the two regions of the C20 replay theorems in which the model's float
  fragment is left after a key has been created (`IncrByFloatCreatesAndFails`, `HIncrByFloatCreatesAndFails`) are
  empty: the region hypothesis of `call_main` holds for every increment (`call_region_incrByFloat`,
  `call_region_hincrByFloat`; the statements without it are `replay_incrByFloat_any`, `replay_hincrByFloat_any` in Props/C20.lean).
  (Other `open` lines from here on: `Api` is open.) -/
namespace NodisVerif.Proofs.C20
open NodisVerif NodisVerif.Store NodisVerif.Api

theorem hincrByFloat_region_empty (L : Option (Val × Int)) (delta : F64) : ¬ HIncrByFloatCreatesAndFails L delta := by
  rintro ⟨_, h⟩
  cases h

theorem incrByFloat_region_empty (L : Option (Val × Int)) (delta : F64) : ¬ IncrByFloatCreatesAndFails L delta := by
  rintro ⟨_, h⟩
  have hp0 : Api.parseFloatText [48] = some (some 0) := by decide +kernel
  refine h (FloatDec.formatShortest (F64.add 0 delta), F64.add 0 delta) ?_
  unfold ibfCalc
  simp only [DsStr.bytes, Option.getD_some, List.isEmpty_nil, if_true, hp0, F64.add?, Api.formatFloat]

theorem call_region_incrByFloat (K : Bytes → Option (Val × Int)) (k : Bytes) (d : F64) :
    ¬ (Call.incrByFloat k d).Region K := incrByFloat_region_empty _ _

theorem call_region_hincrByFloat (K : Bytes → Option (Val × Int)) (k f : Bytes) (d : F64) :
    ¬ (Call.hincrByFloat k f d).Region K := hincrByFloat_region_empty _ _

end NodisVerif.Proofs.C20

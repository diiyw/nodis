import NodisVerif.Proofs.C04Spec
import NodisVerif.Proofs.ZAddPairs
import NodisVerif.Spec.ZAdd
import NodisVerif.Proofs.StoreLemmas
/-
  C04, the ZADD command after the repair of A-48 / A-52 (`Api.zaddPairs`, one transaction for all pairs):
  the loop keeps the sorted-set invariant, and its result - member ↦ score map, counters, reply - is the
  reference semantics of Spec/ZAdd.lean (Redis' option rules on a plain association list).
-/
namespace NodisVerif.Proofs.C04
open AListLemmas ZSetLemmas DsZSet
open NodisVerif.Api

theorem inv_zaddStep (nx xx gt lt : Bool) {a : ZAcc} (h : Inv a.z) (p : Bytes × F64) (hs : F64.isNaN p.2 = false) :
    Inv (zaddStep nx xx gt lt a p).z := by
  rcases Proofs.ZAddPairs.zaddStep_cases nx xx gt lt a p with e | e
  · rw [e]
    exact h
  · rw [e.1]
    exact inv_zAdd h p.1 p.2 hs

theorem inv_zaddFold (nx xx gt lt : Bool) : ∀ (ps : List (Bytes × F64)) (a : ZAcc), Inv a.z →
    (∀ p ∈ ps, F64.isNaN p.2 = false) → Inv (ps.foldl (zaddStep nx xx gt lt) a).z
  | [], _, h, _ => h
  | p :: ps, a, h, hn => by
    rw [List.foldl_cons]
    exact inv_zaddFold nx xx gt lt ps _ (inv_zaddStep nx xx gt lt h p (hn p List.mem_cons_self))
      (fun q hq => hn q (List.mem_cons_of_mem _ hq))

/-- the model's loop state and the reference's result describe the same map and counters -/
structure Rel (a : ZAcc) (r : Spec.ZAdd.Res) : Prop where
  map : ∀ k, zScore a.z k = Spec.ZAdd.find r.map k
  added : a.added = r.added
  changed : a.changed = r.changed

theorem find_put (m : Spec.ZAdd.Map) (k : Bytes) (v : F64) (x : Bytes) :
    Spec.ZAdd.find (Spec.ZAdd.put m k v) x = if x = k then some v else Spec.ZAdd.find m x := by
  unfold Spec.ZAdd.find Spec.ZAdd.put
  by_cases h : x = k
  · subst h; simp [List.find?]
  · have : ¬ k = x := fun e => h e.symm
    simp [List.find?, h, this]

theorem zScore_zAdd_written (z : ZSet) (m : Bytes) (s : F64)
    (h : ∀ old, zScore z m = some old → F64.eq s old = false) (x : Bytes) :
    zScore (zAdd z m s).1 x = if x = m then some s else zScore z x := by
  unfold zScore at h ⊢
  unfold zAdd
  cases hget : AList.get? z.dict m with
  | none => exact AListLemmas2.get?_set z.dict m s x
  | some old =>
    dsimp only
    rw [if_neg (by rw [h old hget]; simp)]
    exact AListLemmas2.get?_set z.dict m s x

theorem rel_step (nx xx gt lt : Bool) {a : ZAcc} {r : Spec.ZAdd.Res} (h : Rel a r) (p : Bytes × F64) :
    Rel (zaddStep nx xx gt lt a p) (Spec.ZAdd.step nx xx gt lt r p) := by
  unfold zaddStep Spec.ZAdd.step
  rw [← h.map p.1]
  cases hsc : zScore a.z p.1 with
  | none =>
    dsimp only
    cases xx with
    | true => simpa using h
    | false =>
      simp only [Bool.false_eq_true, if_false]
      refine ⟨fun k => ?_, by simp [h.added], h.changed⟩
      dsimp only
      rw [zScore_zAdd_written a.z p.1 p.2 (by intro old ho; rw [hsc] at ho; cases ho) k, find_put, h.map k]
  | some old =>
    dsimp only
    -- the reference tests the same four conditions, one after the other
    have hcas : ∀ (n e g l : Bool) (r u : Spec.ZAdd.Res),
        (if n then r else if g then r else if l then r else if e then r else u)
          = if n || e || g || l then r else u := by
      intro n e g l r u
      cases n <;> cases e <;> cases g <;> cases l <;> rfl
    rw [hcas]
    by_cases hc : (nx || F64.eq p.2 old || (gt && !(F64.gt p.2 old)) || (lt && !(F64.lt p.2 old))) = true
    · rw [if_pos hc, if_pos hc]
      exact h
    · rw [if_neg hc, if_neg hc]
      have heq : F64.eq p.2 old = false := by
        cases he : F64.eq p.2 old with
        | false => rfl
        | true => simp [he] at hc
      refine ⟨fun k => ?_, h.added, by simp [h.changed]⟩
      dsimp only
      rw [zScore_zAdd_written a.z p.1 p.2
        (by intro o ho; rw [hsc] at ho; cases ho; exact heq) k, find_put, h.map k]

theorem rel_fold (nx xx gt lt : Bool) : ∀ (ps : List (Bytes × F64)) (a : ZAcc) (r : Spec.ZAdd.Res), Rel a r →
    Rel (ps.foldl (zaddStep nx xx gt lt) a) (ps.foldl (Spec.ZAdd.step nx xx gt lt) r)
  | [], _, _, h => h
  | p :: ps, a, r, h => by
    rw [List.foldl_cons, List.foldl_cons]
    exact rel_fold nx xx gt lt ps _ _ (rel_step nx xx gt lt h p)

theorem zaddFold_spec (nx xx gt lt : Bool) (z : ZSet) (pairs : List (Bytes × F64)) :
    Rel (pairs.foldl (zaddStep nx xx gt lt) { z := z, added := 0, changed := 0, ops := [] })
      (Spec.ZAdd.zadd nx xx gt lt z.dict pairs) :=
  rel_fold nx xx gt lt pairs _ _ ⟨fun k => (find?_eq_get? z.dict k).symm, rfl, rfl⟩

theorem getMeta_emitFold (key : Bytes) (k : Bytes) : ∀ (ops : List (Bytes × F64)) (s : MState),
    Store.getMeta (ops.foldl (fun s (p : Bytes × F64) => Store.emit s (opZAdd key p.1 p.2)) s) k = Store.getMeta s k
  | [], _ => rfl
  | p :: ops, s => by
    rw [List.foldl_cons, getMeta_emitFold key k ops, Store.getMeta_emit]

theorem asZSet_tail (s : MState) (key : Bytes) (z z' : ZSet) (ops : List (Bytes × F64)) (h : asZSet s key = some z) :
    asZSet (ops.foldl (fun s (p : Bytes × F64) => Store.emit s (opZAdd key p.1 p.2))
      (Store.signal (setVal s key (.zset z')) key)) key = some z' := by
  have hm : ∃ m, Store.getMeta s key = some m := by
    unfold asZSet Store.valOf at h
    cases hg : Store.getMeta s key with
    | none => rw [hg] at h; simp at h
    | some m => exact ⟨m, rfl⟩
  obtain ⟨m, hm⟩ := hm
  unfold asZSet Store.valOf
  rw [getMeta_emitFold, Store.getMeta_signal_same, Store.getMeta_setVal_same s key _ m hm]
  simp [Meta.markModified]

theorem zaddPairs_some (s : MState) (now : Int) (key : Bytes) (nx xx gt lt ch : Bool) (pairs : List (Bytes × F64))
    (hne : pairs ≠ []) (z : ZSet)
    (hz : asZSet (Store.writeKey s now key (if xx then none else some (.zset DsZSet.empty))).1 key = some z)
    (hok : xx = true → (Store.writeKey s now key none).2 = true) :
    (zaddPairs s now key nx xx gt lt ch pairs).2 =
      .int (if ch then (pairs.foldl (zaddStep nx xx gt lt) { z := z, added := 0, changed := 0, ops := [] }).added +
          (pairs.foldl (zaddStep nx xx gt lt) { z := z, added := 0, changed := 0, ops := [] }).changed
        else (pairs.foldl (zaddStep nx xx gt lt) { z := z, added := 0, changed := 0, ops := [] }).added) ∧
    asZSet (zaddPairs s now key nx xx gt lt ch pairs).1 key =
      some (pairs.foldl (zaddStep nx xx gt lt) { z := z, added := 0, changed := 0, ops := [] }).z := by
  unfold zaddPairs
  have hne' : pairs.isEmpty = false := by cases pairs <;> simp_all
  rw [if_neg (by simp [hne'])]
  have hxo : (xx && !(Store.writeKey s now key (if xx then none else some (.zset DsZSet.empty))).2) = false := by
    cases xx with
    | false => rfl
    | true => simp only [if_true] at hz ⊢; simp [hok rfl]
  generalize Store.writeKey s now key (if xx then none else some (.zset DsZSet.empty)) = w at hz hxo ⊢
  obtain ⟨s1, ok⟩ := w
  dsimp only at hz hxo ⊢
  rw [if_neg (by simp [hxo])]
  rw [hz]
  dsimp only
  split
  · next hemp =>
    refine ⟨rfl, ?_⟩
    rw [hz, Proofs.ZAddPairs.zaddFold_ops_nil nx xx gt lt pairs _ (by simpa using hemp)]
  · exact ⟨rfl, asZSet_tail s1 key z _ _ hz⟩

end NodisVerif.Proofs.C04

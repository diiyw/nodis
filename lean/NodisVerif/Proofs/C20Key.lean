import NodisVerif.Proofs.C20Str
import NodisVerif.Proofs.C12Sched
/-
  C20: the keyspace commands Expire* (every form is `expF` with its deadline and condition), Persist,
  Del / Unlink, Rename, Clear.
-/
namespace NodisVerif.Proofs.C20
open NodisVerif NodisVerif.Store NodisVerif.Spec.Persist NodisVerif.Proofs.C11

variable {now : Int} {p r : MState}

def expF (nov : MState → Api.R) (k : Bytes) (ts : Int) (cond : Int → Bool) : TxForm :=
  ⟨true, none, .int 0, nov, decExpire k ts cond, k⟩

theorem expF_ok (nov : MState → Api.R) (k : Bytes) (ts : Int) (cond : Int → Bool) (hts : inInt64 ts = true) :
    (expF nov k ts cond).OK :=
  ⟨(fun h => nomatch h), (fun _ h => nomatch h), fun v e _ _ => Cmd.goodA_expire k ts cond hts v e⟩

theorem expF_nilSafe (nov : MState → Api.R) (k : Bytes) (ts : Int) (cond : Int → Bool) : (expF nov k ts cond).NilSafe := by
  apply nilSafe_of
  · intro v e hv
    simp only [expF, decExpire]
    split <;> simp [hv]
  · intro v0 h0; cases h0

/-- every EXPIRE form: when the condition on the present deadline holds the record is an EXPIREAT -/
theorem expF_echo {em : Out → List FeedOp → List FeedOp} (hem : ∀ o l, em o l = l) (nov : MState → Api.R) (k : Bytes)
    (ts : Int) (cond : Int → Bool) (hts : inInt64 ts = true) (L : Option (Val × Int)) :
    Echo now em (expF nov k ts cond) L := by
  refine echo_dec (hem _ _) fun v e0 hsee => ?_
  rw [hem]
  obtain rfl : L = some (v, e0) := (TxForm.sees_cases hsee).resolve_right fun h => by cases h.2.1
  by_cases hcd : cond e0 = true
  · refine Or.inr ⟨Api.opExpire k ts, expireAtF now k ts, ?_, rfl, expireAtF_ok now k ts hts, rfl, rfl,
      fun r0 => applyOp_expireAt r0 now k ts, ?_⟩ <;>
      simp [expF, decExpire, hcd, Act.ops, Act.post, Act.eff, expireAtF, Cmd.form]
  · left
    simp [expF, decExpire, hcd, Act.ops, Act.post, Act.eff]

/-- PERSIST records itself when there is a deadline to remove -/
theorem persistF_echo {em : Out → List FeedOp → List FeedOp} (hem : ∀ o l, em o l = l) (k : Bytes)
    (L : Option (Val × Int)) : Echo now em (persistF now k) L := by
  refine echo_dec (hem _ _) fun v e0 hsee => ?_
  rw [hem]
  obtain rfl : L = some (v, e0) := (TxForm.sees_cases hsee).resolve_right fun h => by cases h.2.1
  by_cases h0 : e0 = 0
  · left
    simp [persistF, Cmd.form, decPersist, h0, Act.ops, Act.post, Act.eff]
  · refine Or.inr ⟨{ typ := 33, key := k }, persistF now k, ?_, rfl, persistF_ok now k, rfl, rfl,
      fun r0 => applyOp_persist r0 now k, rfl⟩
    simp [persistF, Cmd.form, decPersist, h0, Act.ops]

theorem delStep_fl {s : MState} {n : Int} (h : StoreInv s now) (hl : s.listeners = true) (k : Bytes) :
    fl (delStep now (s, n) k).1 =
      ((if (lookup s now k).isSome then [({ typ := 2, key := k } : FeedOp)] else []) ++ s.feed, true) := by
  have ks := writeKey_spec h (Int.le_refl now) k none (fun _ hc => nomatch hc)
  have hfl := fl_writeKey s now k none
  unfold delStep
  simp only
  generalize writeKey s now k none = r0 at ks hfl
  obtain ⟨s1, okk⟩ := r0
  simp only at hfl ⊢
  have hl1 : s1.listeners = true := ((fl_eq hfl).2).trans hl
  have hf1 : s1.feed = s.feed := (fl_eq hfl).1
  cases hL : lookup s now k with
  | none =>
    obtain ⟨hok, _⟩ := ks.miss hL rfl
    simp only at hok
    simp [hok, fl, hl1, hf1]
  | some cc =>
    obtain ⟨v, e⟩ := cc
    obtain ⟨hok, _⟩ := ks.hit v e hL
    simp only at hok
    simp only [hok, Bool.not_true, Bool.false_eq_true, if_false, Option.isSome_some, if_true]
    have hfd : fl (delKey s1 k) = fl s1 := fl_delKey s1 k
    have hl2 : (delKey s1 k).listeners = true := ((fl_eq hfd).2).trans hl1
    have hf2 : (delKey s1 k).feed = s1.feed := (fl_eq hfd).1
    simp [emit, fl, hl2, hf2, hf1]

theorem del_step (hs : Same now p r) (hl : p.listeners = true) (n : Int) (k : Bytes) :
    Follows now p r (delStep now (p, n) k).1 (·.key = k) := by
  obtain ⟨i1, hlook⟩ := delStep_look hs.invP n k
  have hfl := delStep_fl (n := n) hs.invP hl k
  have hnn : NoNil (delStep now (p, n) k).1 now := by
    intro k' e
    rw [hlook k']
    by_cases hk : k' = k
    · simp [upd, hk]
    · rw [upd_other _ _ _ hk]; exact hs.nonil k' e
  cases hL : lookup p now k with
  | none =>
    refine ⟨[], r, ?_, rfl, ?_, fun _ h => nomatch h⟩
    · rw [hfl, hL]; rfl
    · refine Same.of_look i1 hs.invR (fun k' => ?_) hnn
      rw [hlook k', hs.look k']
      by_cases hk : k' = k
      · subst hk; simp [upd, hL]
      · rw [upd_other _ _ _ hk]
  | some cc =>
    obtain ⟨r', a, b, cL⟩ := replays_del hs.invR k
    refine ⟨[{ typ := 2, key := k }], r', ?_, a, ?_, ?_⟩
    · rw [hfl, hL]; rfl
    · refine Same.of_look i1 b (fun k' => ?_) hnn
      rw [hlook k', cL k', funext hs.look]
    · intro op hop; simp at hop; subst hop; rfl

theorem del_fold (keys : List Bytes) : ∀ (p r : MState) (n : Int), Same now p r → p.listeners = true →
    Follows now p r (keys.foldl (delStep now) (p, n)).1 (·.key ∈ keys) := by
  induction keys with
  | nil => intro p r n hs hl; exact Follows.refl hs hl _
  | cons k rest ih =>
    intro p r n hs hl
    refine Follows.trans ((del_step hs hl n k).mono fun op h => h ▸ List.mem_cons_self ..) fun r1 s1 hl1 => ?_
    exact (ih _ r1 (delStep now (p, n) k).2 s1 hl1).mono fun op h => List.mem_cons_of_mem _ h

/-- the logical keyspace after RENAME key dst -/
def renameK (now : Int) (K : Bytes → Option (Val × Int)) (key dst : Bytes) : Bytes → Option (Val × Int) :=
  fun k' => match K key with
    | none => K k'
    | some c => if key = dst then K k' else
        if k' = dst then filt c now else if k' = key then none else K k'

theorem rename_look {s : MState} (h : StoreInv s now) (key dst : Bytes) :
    StoreInv (Api.rename s now key dst).1 now ∧
    ∀ k', lookup (Api.rename s now key dst).1 now k' = renameK now (lookup s now) key dst k' := by
  have sp := rename_spec h (Int.le_refl now) key dst
  refine ⟨sp.inv, fun k' => ?_⟩
  rw [sp.look now (Int.le_refl _) k']
  rfl

theorem fl_renameTail (s2 : MState) (dok : Bool) (m : Meta) (key dst : Bytes) :
    fl (renameTail s2 dok m key dst) = fl s2 := by
  unfold renameTail
  simp only
  show fl (modMeta _ dst Meta.markModified) = _
  rw [fl_modMeta, fl_setExp]
  have h1 : fl (if (!dok) = true then
        putMeta (match getMeta (fresh (delKey s2 key)).2 dst with
          | some dead => unpersist (fresh (delKey s2 key)).2 dst dead
          | none => (fresh (delKey s2 key)).2) dst
          { exp := m.exp, value := none, kid := (fresh (delKey s2 key)).1 }
      else delKey s2 key) = fl s2 := by
    split
    · rw [fl_putMeta]
      split
      · rw [fl_unpersist]; show fl (delKey s2 key) = _; exact fl_delKey s2 key
      · show fl (delKey s2 key) = _; exact fl_delKey s2 key
    · exact fl_delKey s2 key
  cases m.value with
  | none => exact h1
  | some v => simp only; rw [fl_modMeta]; exact h1

theorem rename_fl {s : MState} (h : StoreInv s now) (hl : s.listeners = true) (key dst : Bytes) :
    fl (Api.rename s now key dst).1 =
      ((if (lookup s now key).isSome ∧ key ≠ dst then
          [({ typ := 32, key := key, args := [Bytes.toHex dst] } : FeedOp)] else []) ++ s.feed, true) := by
  rw [rename_eq]
  have ks := writeKey_spec h (Int.le_refl now) key none (fun _ hc => nomatch hc)
  have hfl := fl_writeKey s now key none
  generalize writeKey s now key none = r1 at ks hfl
  obtain ⟨s1, ok⟩ := r1
  simp only at hfl ⊢
  have hl1 : s1.listeners = true := ((fl_eq hfl).2).trans hl
  have hf1 : s1.feed = s.feed := (fl_eq hfl).1
  cases hL : lookup s now key with
  | none =>
    obtain ⟨hok, _⟩ := ks.miss hL rfl
    simp only at hok
    simp [hok, fl, hl1, hf1]
  | some cc =>
    obtain ⟨v, e⟩ := cc
    obtain ⟨hok, _, m, hm, _⟩ := ks.hit v e hL
    simp only at hok hm
    have hgm : getMeta s1 key = some m := hm
    simp only [hok, Bool.not_true, Bool.false_eq_true, if_false, hgm, Option.isSome_some, true_and]
    by_cases hk : key = dst
    · simp [hk, fl, hl1, hf1]
    · simp only [hk, if_false, ne_eq, not_false_eq_true, if_true]
      have h2 := fl_writeKey s1 now dst none
      have h3 := fl_renameTail (writeKey s1 now dst none).1 (writeKey s1 now dst none).2 m key dst
      have hl3 : (renameTail (writeKey s1 now dst none).1 (writeKey s1 now dst none).2 m key dst).listeners = true :=
        ((fl_eq (h3.trans h2)).2).trans hl1
      have hf3 : (renameTail (writeKey s1 now dst none).1 (writeKey s1 now dst none).2 m key dst).feed = s.feed :=
        ((fl_eq (h3.trans h2)).1).trans hf1
      rw [fl_emit _ _ hl3, hf3]
      rfl

theorem renameK_nonil {K : Bytes → Option (Val × Int)} (hK : ∀ k e, K k ≠ some (.strNil, e)) (key dst : Bytes)
    (k : Bytes) (e : Int) : renameK now K key dst k ≠ some (.strNil, e) := by
  unfold renameK
  cases hL : K key with
  | none => exact hK k e
  | some c =>
    simp only
    split
    · exact hK k e
    · split
      · intro hc
        have := filt_some hc
        subst this
        exact hK key e hL
      · split
        · simp
        · exact hK k e

theorem rename_replay (hs : Same now p r) (hl : p.listeners = true) (hfd : p.feed = [])
    (c : Feed.CallInfo) (hc : plainMethod c.method = true) (key dst : Bytes) :
    Replay now r c (Api.rename p now key dst) := by
  unfold Replay
  rw [emission_plain hc]
  obtain ⟨i1, l1⟩ := rename_look hs.invP key dst
  have hfl := rename_fl hs.invP hl key dst
  have hfeed : (Api.rename p now key dst).1.feed = _ := (fl_eq hfl).1
  rw [hfeed, hfd]
  refine main_of i1 l1 (renameK_nonil hs.nonil key dst) ?_
  obtain ⟨i2, l2⟩ := rename_look hs.invR key dst
  rw [funext hs.look] at l2
  by_cases hcond : (lookup p now key).isSome ∧ key ≠ dst
  · rw [if_pos hcond]
    refine ⟨_, ?_, i2, l2⟩
    show Feed.applyAll r now [_] = _
    rw [applyAll_one, replica_rename]
  · rw [if_neg hcond]
    refine ⟨r, rfl, hs.invR, fun k' => ?_⟩
    rw [hs.look k']
    unfold renameK
    cases hL : lookup p now key with
    | none => rfl
    | some cc =>
      have : key = dst := by
        by_cases hk : key = dst
        · exact hk
        · exact absurd ⟨by simp [hL], hk⟩ hcond
      simp [this]

theorem rename_main (hs : Same now p r) (hl : p.listeners = true) (hfd : p.feed = [])
    (c : Feed.CallInfo) (hc : plainMethod c.method = true) (key dst : Bytes) :
    Replay now r c (Api.rename p now key dst) ∧ (Api.rename p now key dst).1.listeners = true ∧
    ∀ op ∈ (Api.rename p now key dst).1.feed.reverse, op.key = key := by
  have hfl := rename_fl hs.invP hl key dst
  refine ⟨rename_replay hs hl hfd c hc key dst, (fl_eq hfl).2, ?_⟩
  rw [(fl_eq hfl).1, hfd]
  intro op hop
  split at hop
  · rw [List.append_nil, List.reverse_singleton, List.mem_singleton] at hop
    subst hop
    rfl
  · cases hop

theorem clear_inv {s : MState} (h : StoreInv s now) : StoreInv (Store.clear s) now := by
  refine ⟨trivial, trivial, ?_, ?_, ?_, h.idPos⟩
  · intro k m hm; cases hm
  · intro dk e he; cases he
  · intro _
    exact ⟨(fun k m hm => by cases hm), (fun k1 m1 _ _ h1 => by cases h1), (fun dk e he => by cases he),
      (fun dk e _ _ he => by cases he), (fun dk e _ _ he => by cases he)⟩

theorem clear_look (s : MState) (k : Bytes) : lookup (Store.clear s) now k = none := by
  simp [lookup, getMeta, Store.clear, AList.get?]

theorem clear_replay (hs : Same now p r) (hfd : p.feed = [])
    (c : Feed.CallInfo) (hc : c.method = "Clear") :
    Replay now r c (Store.clear p, .unit) := by
  unfold Replay
  have hem : Feed.emission c Out.unit (Store.clear p).feed.reverse = [{ typ := 1, key := [] }] := by
    show Feed.emission c Out.unit p.feed.reverse = _
    rw [hfd]
    unfold Feed.emission
    simp [hc, Feed.keepTTLMethods]
  simp only [hem]
  refine main_of (res := (Store.clear p, .unit)) (F := fun _ => none) (clear_inv hs.invP) (fun k => clear_look p k) (fun _ _ h => nomatch h) ?_
  exact ⟨Store.clear r, (applyAll_one _ _ _).trans (replica_clear r now []), clear_inv hs.invR, fun k => clear_look r k⟩

end NodisVerif.Proofs.C20

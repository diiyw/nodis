import NodisVerif.Proofs.C04Inv
import NodisVerif.Model.Api
import NodisVerif.Proofs.C11Inv
/-
  C11 / C12: the values written by the covered commands are well-formed and representable.
-/
namespace NodisVerif.Proofs.C11
open NodisVerif.Store NodisVerif.Codec NodisVerif.Spec.Persist
open NodisVerif.Proofs.AListLemmas NodisVerif.Proofs.AListLemmas2 NodisVerif.Proofs.C11AList

theorem good_str (b : Bytes) : Good (.str b) := ⟨trivial, trivial⟩
theorem good_strNil : Good .strNil := ⟨trivial, trivial⟩
theorem good_strVal (x : DsStr.S) : Good (Api.strVal x) := by cases x <;> exact ⟨trivial, trivial⟩
theorem good_emptyList : Good (.list DsList.empty) := ⟨rfl, by intro v hv; cases hv⟩
theorem good_emptyHash : Good (.hash []) := ⟨trivial, by intro p hp; cases hp⟩
theorem good_emptySet : Good (.set []) := ⟨trivial, by intro p hp; cases hp⟩

theorem good_push (left : Bool) (l : LList) (values : List Bytes) (h : Good (.list l))
    (hb : ∀ v ∈ values, v.length < 2 ^ 63) :
    Good (.list (if left then DsList.lpush l values else DsList.rpush l values)) := by
  obtain ⟨hw, hbd⟩ := h
  cases left with
  | true =>
    refine ⟨C02.lpush_wf l hw values, ?_⟩
    simp only [if_true, Bounded, C02.lpush_eq]
    intro v hv
    rcases List.mem_append.mp hv with h1 | h1
    · exact hb v (List.mem_reverse.mp h1)
    · exact hbd v h1
  | false =>
    refine ⟨C02.rpush_wf l hw values, ?_⟩
    simp only [Bool.false_eq_true, if_false, Bounded, C02.rpush_eq]
    intro v hv
    rcases List.mem_append.mp hv with h1 | h1
    · exact hbd v h1
    · exact hb v h1

theorem lpop_items_sub (l : LList) (count : Int) : ∀ v ∈ (DsList.lpop l count).1.items, v ∈ l.items := by
  unfold DsList.lpop
  split
  · exact fun _ a => a
  · simp only
    split
    · exact fun _ a => a
    · intro v hv; exact List.mem_of_mem_drop hv

theorem rpop_items_sub (l : LList) (count : Int) : ∀ v ∈ (DsList.rpop l count).1.items, v ∈ l.items := by
  unfold DsList.rpop
  split
  · exact fun _ a => a
  · simp only
    split
    · exact fun _ a => a
    · intro v hv; exact List.mem_of_mem_take hv

theorem good_pop (left : Bool) (l : LList) (count : Int) (h : Good (.list l)) :
    Good (.list (if left then DsList.lpop l count else DsList.rpop l count).1) := by
  obtain ⟨hw, hbd⟩ := h
  cases left with
  | true => exact ⟨C02.lpop_wf l hw count, fun v hv => hbd v (lpop_items_sub l count v hv)⟩
  | false => exact ⟨C02.rpop_wf l hw count, fun v hv => hbd v (rpop_items_sub l count v hv)⟩

theorem good_hset (h : AList Bytes) (f v : Bytes) (hg : Good (.hash h))
    (hb : f.length + v.length + 10 < 2 ^ 63) : Good (.hash (DsHash.hset h f v).1) := by
  obtain ⟨hw, hbd⟩ := hg
  refine ⟨set_preserves_sorted h hw f v, ?_⟩
  intro p hp
  rcases mem_set h f v p hp with rfl | h1
  · exact hb
  · exact hbd p h1

theorem good_hdel (fields : List Bytes) (h : AList Bytes) (c : Int) (hg : Good (.hash h)) :
    Good (.hash (fields.foldl (fun (acc : DsHash.H × Int) k =>
      if AList.contains acc.1 k then (AList.erase acc.1 k, acc.2 + 1) else acc) (h, c)).1) :=
  List.foldlRecOn (motive := fun (a : DsHash.H × Int) => Good (.hash a.1)) fields _ hg fun acc ha k _ => by
    split
    · exact ⟨erase_preserves_sorted acc.1 ha.1 k, fun p hp => ha.2 p ((erase_sublist acc.1 k).subset hp)⟩
    · exact ha

theorem good_sadd (members : List Bytes) (hb : ∀ m ∈ members, m.length < 2 ^ 63)
    (st : AList Unit) (c : Int) (hg : Good (.set st)) :
    Good (.set (members.foldl (fun (acc : DsSet.S × Int) m =>
      if DsSet.mem acc.1 m then acc else (AList.set acc.1 m (), acc.2 + 1)) (st, c)).1) :=
  List.foldlRecOn (motive := fun (a : DsSet.S × Int) => Good (.set a.1)) members _ hg fun acc ha m hm => by
    split
    · exact ha
    · refine ⟨set_preserves_sorted acc.1 ha.1 m (), fun p hp => ?_⟩
      rcases mem_set acc.1 m () p hp with rfl | h1
      · exact hb m hm
      · exact ha.2 p h1

theorem good_srem (members : List Bytes) (st : AList Unit) (c : Int) (hg : Good (.set st)) :
    Good (.set (members.foldl (fun (acc : DsSet.S × Int) m =>
      if DsSet.mem acc.1 m then (AList.erase acc.1 m, acc.2 + 1) else acc) (st, c)).1) :=
  List.foldlRecOn (motive := fun (a : DsSet.S × Int) => Good (.set a.1)) members _ hg fun acc ha m _ => by
    split
    · exact ⟨erase_preserves_sorted acc.1 ha.1 m, fun p hp => ha.2 p ((erase_sublist acc.1 m).subset hp)⟩
    · exact ha

theorem good_emptyZSet : Good (.zset DsZSet.empty) := by
  refine ⟨?_, by intro p hp; cases hp⟩
  exact (C04.wf_iff_inv _).mpr ⟨List.Pairwise.nil, (by intro p hp; cases hp), List.Pairwise.nil,
    (by intro s m; constructor <;> intro h <;> cases h)⟩

theorem good_zadd (z : ZSet) (m : Bytes) (sc : F64) (hg : Good (.zset z)) (hn : F64.isNaN sc = false)
    (hb : m.length + 8 < 2 ^ 63) : Good (.zset (DsZSet.zAdd z m sc).1) := by
  obtain ⟨hw, hbd⟩ := hg
  refine ⟨(C04.wf_iff_inv _).mpr (C04.inv_zAdd ((C04.wf_iff_inv z).mp hw) m sc hn), ?_⟩
  intro p hp
  have hdict : (DsZSet.zAdd z m sc).1.dict = z.dict ∨ (DsZSet.zAdd z m sc).1.dict = AList.set z.dict m sc := by
    unfold DsZSet.zAdd
    split
    · split
      · left; rfl
      · right; rfl
    · right; rfl
  rcases hdict with h1 | h1
  · rw [h1] at hp; exact hbd p hp
  · rw [h1] at hp
    rcases mem_set z.dict m sc p hp with rfl | h2
    · exact hb
    · exact hbd p h2

end NodisVerif.Proofs.C11

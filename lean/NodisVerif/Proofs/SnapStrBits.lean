import NodisVerif.Proofs.SnapStr
/-
  ds/str/str.go BitCount: normal form of the translated function, its split into index normalisation + counting loops,
  the loop lemmas (inner loop = number of set bits = the model's popcount8), and the
  equality with the model DsStr.bitCount for all int64 arguments.
-/
namespace NodisVerif.StrNF
open NodisVerif NodisVerif.GoLib

def BitCount (v : Bytes) (start : Int) (end_ : Int) : GoLib.M Int := do
  let mut start := start
  let mut end_ := end_
  let mut count : Int := 0
  if (decide (start < 0)) then
    start := 0
  if (decide (start ≥ (GoLib.len v))) then
    return 0
  let mut bl : Int := (GoLib.len v)
  if (decide (end_ ≤ 0)) then
    end_ := (GoLib.wrap .i64 (end_ + (GoLib.wrap .i64 (bl + 1))))
  if (decide (end_ > bl)) then
    end_ := bl
  if (decide (start > end_)) then
    return 0
  if (start == end_) then
    end_ := (GoLib.wrap .i64 (end_ + 1))
  for (_, v) in GoLib.enum (← GoLib.slice v start end_) do
    for i in GoLib.irange 0 8 do
      if ((GoLib.band .u8 v (GoLib.shl .u8 1 (GoLib.wrap .u64 i))) != 0) then
        count := (GoLib.wrap .i64 (count + 1))
  return count

/-- the counting loops of BitCount alone -/
def countBits (bs : Bytes) : GoLib.M Int := do
  let mut count : Int := 0
  for (_, v) in GoLib.enum bs do
    for i in GoLib.irange 0 8 do
      if ((GoLib.band .u8 v (GoLib.shl .u8 1 (GoLib.wrap .u64 i))) != 0) then
        count := (GoLib.wrap .i64 (count + 1))
  return count

/-- the join points of `BitCount`, innermost first (as `grCut` … for `GetRange`) -/
def bcCount (v : Bytes) (s e : Int) : M Int := slice v s e >>= countBits

def bcBump (v : Bytes) (s e : Int) : M Int :=
  if decide (s > e) then pure 0
  else if s == e then bcCount v s (wrap .i64 (e + 1)) else bcCount v s e

def bcClip (v : Bytes) (s e : Int) : M Int := if decide (e > len v) then bcBump v s (len v) else bcBump v s e

def bcFrom (v : Bytes) (b s : Int) : M Int :=
  if decide (s ≥ len v) then pure 0
  else if decide (b ≤ 0) then bcClip v s (wrap .i64 (b + wrap .i64 (len v + 1))) else bcClip v s b

theorem BitCount_jp (v : Bytes) (a b : Int) :
    BitCount v a b = if decide (a < 0) then bcFrom v b 0 else bcFrom v b a := rfl

theorem BitCount_struct (v : Bytes) (a b : Int) : BitCount v a b =
    (let s := if a < 0 then 0 else a
     if s ≥ len v then pure 0 else
     let e0 := if b ≤ 0 then wrap .i64 (b + wrap .i64 (len v + 1)) else b
     let e1 := if e0 > len v then len v else e0
     if s > e1 then pure 0 else
     let e2 := if s = e1 then wrap .i64 (e1 + 1) else e1
     slice v s e2 >>= countBits) := by
  rw [BitCount_jp]
  simp only [↓ ← apply_ite, bcFrom, bcClip, bcBump, bcCount, decide_eq_true_eq, beq_iff_eq]

def bitAt (c : Int) (i : Int) : Bool := band .u8 c (shl .u8 1 (wrap .u64 i)) != 0

/-- the bodies of the two loops, as the translator emits them -/
def innerBody (c : Int) (i r : Int) : M (ForInStep Int) :=
  if (band IT.u8 c (shl IT.u8 1 (wrap IT.u64 i)) != 0) = true then pure (ForInStep.yield (wrap IT.i64 (r + 1)))
  else pure (ForInStep.yield r)

def outerBody (x : Int × Int) (r : Int) : M (ForInStep Int) := do
  let r' ← forIn (irange 0 8) r (innerBody x.snd)
  pure (ForInStep.yield r')

theorem count_loop (p : Int → Bool) (body : Int → Int → M (ForInStep Int)) :
    ∀ (l : List Int) (count : Int), 0 ≤ count → count + l.length < 2 ^ 62 →
    (∀ i ∈ l, ∀ r, body i r = .ok (ForInStep.yield (if p i then wrap .i64 (r + 1) else r))) →
    forIn (m := M) l count body = .ok (count + ((l.filter p).length : Int))
  | [], count, _, _, _ => by simp [pure, Except.pure]
  | i :: rest, count, h0, hb, hbody => by
    simp only [List.length_cons] at hb
    have ih := fun c h0 hb => count_loop p body rest c h0 hb fun j hj => hbody j (List.mem_cons_of_mem _ hj)
    rw [List.forIn_cons, hbody i List.mem_cons_self count]
    simp only [bind, Except.bind]
    cases hp : p i
    · rw [if_neg (by simp), ih count h0 (by omega), List.filter_cons_of_neg (by simp [hp])]
    · rw [if_pos rfl, wrap_i64_id (by omega), ih (count + 1) (by omega) (by omega), List.filter_cons_of_pos hp,
        List.length_cons]
      congr 1; omega

theorem bitAt_eq (c : UInt8) (k : Nat) (hk : k < 8) :
    bitAt (c.toNat : Int) (0 + (k : Int)) = (c &&& ((1 : UInt8) <<< UInt8.ofNat k) != 0) := by
  have hw : wrap .u64 (0 + (k : Int)) = (k : Int) := by rw [wrap_u64]; omega
  unfold bitAt
  rw [hw, shl_u8_one ⟨k, hk⟩, band_u8, toNat_bne_zero]

theorem popcount_filter (c : UInt8) :
    ((irange 0 8).filter (bitAt (c.toNat : Int))).length = DsStr.popcount8 c := by
  unfold DsStr.popcount8 irange
  rw [foldl_count, List.filter_map, List.length_map, Nat.zero_add]
  congr 1
  apply List.filter_congr
  intro k hk
  exact bitAt_eq c k (List.mem_range.mp hk)

theorem outer_loop : ∀ (bs : Bytes) (k n : Nat), n + 8 * bs.length < 2 ^ 61 →
    forIn (m := M) ((bs.zipIdx k).map fun (c, i) => ((i : Int), (c.toNat : Int))) (n : Int) outerBody
    = .ok ((bs.foldl (fun acc b => acc + DsStr.popcount8 b) n : Nat) : Int)
  | [], k, n, _ => by simp [pure, Except.pure]
  | c :: rest, k, n, hb => by
    simp only [List.length_cons] at hb
    simp only [List.zipIdx_cons, List.map_cons, List.forIn_cons, List.foldl_cons]
    have hin := count_loop (bitAt c.toNat) (innerBody c.toNat) (irange 0 8) n (by omega)
      (by have : (irange 0 8).length = 8 := by decide
          rw [this]; omega)
      fun _ _ _ => (apply_ite (fun x => (pure (ForInStep.yield x) : M (ForInStep Int))) _ _ _).symm
    have hp := popcount_filter c
    have hle : DsStr.popcount8 c ≤ 8 := hp ▸ List.length_filter_le _ (irange 0 8)
    rw [hp] at hin
    have hstep : outerBody ((k : Int), (c.toNat : Int)) (n : Int) = .ok (ForInStep.yield ((n + DsStr.popcount8 c : Nat) : Int)) := by
      unfold outerBody
      simp only [hin, bind, Except.bind, pure, Except.pure, Int.natCast_add]
    rw [hstep]
    simp only [bind, Except.bind]
    exact outer_loop rest (k + 1) (n + DsStr.popcount8 c) (by omega)

theorem countBits_eq (bs : Bytes) (h : bs.length < 2 ^ 58) :
    countBits bs = .ok ((bs.foldl (fun acc b => acc + DsStr.popcount8 b) 0 : Nat) : Int) := by
  have ho := outer_loop bs 0 0 (by omega)
  have key : countBits bs = (forIn (enum bs) 0 outerBody >>= fun s => pure s) := rfl
  rw [key]
  unfold enum
  simp only [Int.natCast_zero] at ho
  rw [ho]; rfl

theorem slice_count (v : Bytes) (lo hi : Int) (h : 0 ≤ lo ∧ lo ≤ hi ∧ hi ≤ v.length) (hv : v.length < 2 ^ 58) :
    (slice v lo hi >>= countBits) =
      .ok ((((v.drop lo.toNat).take (hi - lo).toNat).foldl (fun acc b => acc + DsStr.popcount8 b) 0 : Nat) : Int) := by
  rw [slice_ok v lo hi h]
  simp only [bind, Except.bind]
  apply countBits_eq
  have : ((v.drop lo.toNat).take (hi - lo).toNat).length ≤ v.length := by
    simp only [List.length_take, List.length_drop]; omega
  omega

theorem BitCount_eq_model (v : Bytes) (a b : Int) (hv : v.length < 2 ^ 58) (ha : inInt64 a) (hb : inInt64 b) :
    BitCount v a b = .ok (DsStr.bitCount (some v) a b) := by
  have ha' := inInt64_iff.mp ha
  have hb' := inInt64_iff.mp hb
  have hl1 : wrap .i64 ((v.length : Int) + 1) = (v.length : Int) + 1 := wrap_i64_id (by omega)
  rw [BitCount_struct]
  simp only [len_eq, hl1, DsStr.bitCount, DsStr.bytes, Option.getD_some]
  have he0 : (if b ≤ 0 then wrap .i64 (b + ((v.length : Int) + 1)) else b) = (if b ≤ 0 then b + (v.length : Int) + 1 else b) :=
    ite_congr rfl (fun h => by rw [wrap_i64_id (by omega)]; omega) (fun _ => rfl)
  rw [he0]
  have key : ∀ (s e1 : Int), 0 ≤ s → e1 ≤ (v.length : Int) →
      (if s ≥ (v.length : Int) then pure 0 else if s > e1 then pure 0
        else slice v s (if s = e1 then wrap .i64 (e1 + 1) else e1) >>= countBits) =
      (Except.ok (if s ≥ (v.length : Int) then 0 else if s > e1 then 0
        else ((((v.drop s.toNat).take ((if s = e1 then e1 + 1 else e1) - s).toNat).foldl
          (fun acc b => acc + DsStr.popcount8 b) 0 : Nat) : Int)) : M Int) := by
    intro s e1 hs he
    rw [apply_ite Except.ok, apply_ite Except.ok]
    refine ite_congr rfl (fun _ => rfl) fun c1 => ite_congr rfl (fun _ => rfl) fun c2 => ?_
    have hw : (if s = e1 then wrap .i64 (e1 + 1) else e1) = (if s = e1 then e1 + 1 else e1) :=
      ite_congr rfl (fun _ => wrap_i64_id (by omega)) fun _ => rfl
    rw [hw]
    exact slice_count v s _ (by omega) hv
  exact key _ _ (by omega) (by omega)

def BitCountByBit (v : Bytes) (start : Int) (end_ : Int) : GoLib.M Int := do
  let mut start := start
  let mut end_ := end_
  let mut count : Int := 0
  if (decide (start < 0)) then
    start := 0
  let mut bl : Int := (GoLib.wrap .i64 ((GoLib.len v) * 8))
  if (decide (end_ ≤ 0)) then
    end_ := bl
  if (decide (end_ > (GoLib.wrap .i64 ((GoLib.len v) * 8)))) then
    end_ := bl
  for i in GoLib.irange start end_ do
    if ((← getBit v i) == 1) then
      count := (GoLib.wrap .i64 (count + 1))
  return count

def bbBody (v : Bytes) (i r : Int) : M (ForInStep Int) := do
  let g ← getBit v i
  if (g == 1) = true then pure (ForInStep.yield (wrap IT.i64 (r + 1))) else pure (ForInStep.yield r)

/-- the counting loop of BitCountByBit alone -/
def countRange (v : Bytes) (s e : Int) : GoLib.M Int := do
  let mut count : Int := 0
  for i in GoLib.irange s e do
    if ((← getBit v i) == 1) then
      count := (GoLib.wrap .i64 (count + 1))
  return count

/-- the join points of `BitCountByBit` (as `bcFrom` … for `BitCount`) -/
def bbClip (v : Bytes) (s e : Int) : M Int :=
  if decide (e > wrap .i64 (len v * 8)) then countRange v s (wrap .i64 (len v * 8)) else countRange v s e

def bbFrom (v : Bytes) (b s : Int) : M Int :=
  if decide (b ≤ 0) then bbClip v s (wrap .i64 (len v * 8)) else bbClip v s b

theorem BitCountByBit_jp (v : Bytes) (a b : Int) :
    BitCountByBit v a b = if decide (a < 0) then bbFrom v b 0 else bbFrom v b a := rfl

theorem BitCountByBit_struct (v : Bytes) (a b : Int) : BitCountByBit v a b =
    (let s := if a < 0 then 0 else a
     let bl := wrap .i64 (len v * 8)
     let e0 := if b ≤ 0 then bl else b
     let e1 := if e0 > bl then bl else e0
     countRange v s e1) := by
  rw [BitCountByBit_jp]
  simp only [↓ ← apply_ite, bbFrom, bbClip, decide_eq_true_eq]

theorem countRange_eq (v : Bytes) (hv : v.length < 2 ^ 58) (s e : Int) (hs : 0 ≤ s) (he : e ≤ 8 * (v.length : Int)) :
    countRange v s e = .ok (if s ≥ e then 0 else
      ((((List.range (e - s).toNat).filter fun (k : Nat) => DsStr.getBit (some v) (s + (k : Int)) == 1).length : Nat) : Int)) := by
  have hl := count_loop (fun i => DsStr.getBit (some v) i == 1) (bbBody v) (irange s e) 0 (by omega)
    (by have : (irange s e).length = (e - s).toNat := by simp [irange]
        rw [this]; omega)
    fun i hi r => by
      have := mem_irange hi
      unfold bbBody
      rw [getBit_eq_model v i (by omega) (inInt64_iff.mpr (by omega))]
      exact (apply_ite (fun x => (pure (ForInStep.yield x) : M (ForInStep Int))) _ _ _).symm
  have key : countRange v s e = (forIn (irange s e) 0 (bbBody v) >>= fun r => pure r) := rfl
  rw [key, hl]
  simp only [bind, Except.bind, pure, Except.pure, irange, List.filter_map, List.length_map, Int.zero_add]
  -- an empty range: the model answers 0 before counting
  split
  · have : (e - s).toNat = 0 := by omega
    rw [this]; rfl
  · rfl

theorem BitCountByBit_eq_model (v : Bytes) (a b : Int) (hv : v.length < 2 ^ 58) :
    BitCountByBit v a b = .ok (DsStr.bitCountByBit (some v) a b) := by
  have hbl : wrap .i64 ((v.length : Int) * 8) = (v.length : Int) * 8 := wrap_i64_id (by omega)
  rw [BitCountByBit_struct]
  simp only [len_eq, hbl, DsStr.bitCountByBit, DsStr.bytes, Option.getD_some]
  exact countRange_eq v hv _ _ (by omega) (by omega)

end NodisVerif.StrNF

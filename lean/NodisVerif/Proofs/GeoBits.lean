import NodisVerif.Model.Geohash

/-
  internal/geohash on BitVec 64 / UInt64. `spread` moves bit i of a 32-bit value to position 2i by a ladder of steps
  `(x ||| x <<< p) &&& mask` with p = 16, 8, 4, 2, 1: before a step the bits sit in blocks of 2p separated by gaps of 2p, after it in
  blocks of p separated by gaps of p (`Blocks`). `squash` climbs the same ladder with right shifts. One lemma per direction covers
  every step (`blocks_halve`, `blocks_double`); of the masks only their bit pattern is used (a finite table, evaluated); no SAT
  procedure (`bv_decide`). Then interleaving (`deinterleave_interleave`, `interleave_lt`) and what `Encode` computes (`encode_eq`).
-/
namespace NodisVerif.Proofs.GeoBits
open NodisVerif NodisVerif.Geohash

def spreadBV (x : BitVec 64) : BitVec 64 :=
  let x := (x ||| x <<< 16) &&& 0x0000FFFF0000FFFF#64
  let x := (x ||| x <<< 8) &&& 0x00FF00FF00FF00FF#64
  let x := (x ||| x <<< 4) &&& 0x0F0F0F0F0F0F0F0F#64
  let x := (x ||| x <<< 2) &&& 0x3333333333333333#64
  (x ||| x <<< 1) &&& 0x5555555555555555#64

def squashBV (x : BitVec 64) : BitVec 64 :=
  let x := (x ||| x >>> 0) &&& 0x5555555555555555#64
  let x := (x ||| x >>> 1) &&& 0x3333333333333333#64
  let x := (x ||| x >>> 2) &&& 0x0F0F0F0F0F0F0F0F#64
  let x := (x ||| x >>> 4) &&& 0x00FF00FF00FF00FF#64
  let x := (x ||| x >>> 8) &&& 0x0000FFFF0000FFFF#64
  (x ||| x >>> 16) &&& 0x00000000FFFFFFFF#64

def m32 : BitVec 64 := 0x00000000FFFFFFFF#64

theorem spread_toBitVec (x : UInt64) : (spread x).toBitVec = spreadBV x.toBitVec := by
  simp [spread, spreadBV, b0, b1, b2, b3, b4]

theorem squash_toBitVec (x : UInt64) : (squash x).toBitVec = squashBV x.toBitVec := by
  simp [squash, squashBV, b0, b1, b2, b3, b4, b5]

/-- `y` holds the bits `f 0, f 1, …` in blocks of `p`, each followed by `p` zero bits: the block of the
    source bits `c … c + p - 1` (`c` a multiple of `p`) starts at position `2c` -/
def Blocks (p : Nat) (f : Nat → Bool) (y : BitVec 64) : Prop :=
  ∀ c r, p ∣ c → r < 2 * p → 2 * c + r < 64 → y.getLsbD (2 * c + r) = (decide (r < p) && f (c + r))

theorem dvd_two_mul_cases {p c : Nat} (h : p ∣ c) : 2 * p ∣ c ∨ ∃ d, c = d + p ∧ 2 * p ∣ d := by
  obtain ⟨q, rfl⟩ := h
  rw [Nat.mul_comm 2 p]
  rcases Nat.mod_two_eq_zero_or_one q with hq | hq
  · exact .inl (Nat.mul_dvd_mul_left p (by omega))
  · refine .inr ⟨p * (q - 1), ?_, Nat.mul_dvd_mul_left p (by omega)⟩
    rw [← Nat.mul_succ, Nat.succ_eq_add_one, Nat.sub_add_cancel (by omega)]

theorem mod_block {p c r : Nat} (hc : p ∣ c) (hr : r < 2 * p) : (2 * c + r) % (2 * p) = r := by
  obtain ⟨q, rfl⟩ := hc
  rw [← Nat.mul_assoc, Nat.mul_add_mod, Nat.mod_eq_of_lt hr]

/-! the masks: blocks of p ones separated by p zeros -/
theorem mask_1 : ∀ i < 64, (0x5555555555555555#64).getLsbD i = decide (i % (2 * 1) < 1) := by decide
theorem mask_2 : ∀ i < 64, (0x3333333333333333#64).getLsbD i = decide (i % (2 * 2) < 2) := by decide
theorem mask_4 : ∀ i < 64, (0x0F0F0F0F0F0F0F0F#64).getLsbD i = decide (i % (2 * 4) < 4) := by decide
theorem mask_8 : ∀ i < 64, (0x00FF00FF00FF00FF#64).getLsbD i = decide (i % (2 * 8) < 8) := by decide
theorem mask_16 : ∀ i < 64, (0x0000FFFF0000FFFF#64).getLsbD i = decide (i % (2 * 16) < 16) := by decide
theorem mask_32 : ∀ i < 64, (0x00000000FFFFFFFF#64).getLsbD i = decide (i % (2 * 32) < 32) := by decide

/-- a step of `spread`: the upper half of each block moves `p` places up, into the gap above it -/
theorem blocks_halve {p : Nat} {f : Nat → Bool} {y m : BitVec 64} (hy : Blocks (2 * p) f y)
    (hm : ∀ i < 64, m.getLsbD i = decide (i % (2 * p) < p)) : Blocks p f ((y ||| y <<< p) &&& m) := by
  intro c r hc hr hi
  rw [BitVec.getLsbD_and, BitVec.getLsbD_or, BitVec.getLsbD_shiftLeft, hm _ hi, mod_block hc hr]
  by_cases hrp : r < p
  case neg => simp [hrp]
  rcases dvd_two_mul_cases hc with h2 | ⟨d, rfl, h2⟩
  · -- a block of `y` starts here: the bit is there already, and `p` places below is a gap (or nothing)
    rw [hy c r h2 (by omega) hi]
    by_cases h0 : c = 0
    · have : 2 * c + r < p := by omega
      simp [this, hrp, hr]
    · -- c = d + 2p: `p` places below lies the upper half (offset 3p + r) of the block of `y` that starts at 2d
      obtain ⟨d, rfl⟩ := Nat.exists_eq_add_of_le' (Nat.le_of_dvd (by omega) h2)
      have e : 2 * (d + 2 * p) + r - p = 2 * d + (3 * p + r) := Nat.sub_eq_of_eq_add (by omega)
      have : ¬ (3 * p + r < 2 * p) := by omega
      rw [e, hy d (3 * p + r) ((Nat.dvd_add_left (Nat.dvd_refl _)).mp h2) (by omega) (by omega)]
      simp [this, hrp, hr]
  · -- c = d + p: the second half of a block of `y` lies `p` places below; here `y` has a gap
    have e1 : 2 * (d + p) + r = 2 * d + (2 * p + r) := by omega
    have e2 : 2 * (d + p) + r - p = 2 * d + (p + r) := Nat.sub_eq_of_eq_add (by omega)
    have h3 : ¬ (2 * p + r < 2 * p) := Nat.not_lt.mpr (Nat.le_add_right _ _)
    have h4 : p + r < 2 * p := by omega
    have h5 : ¬ (2 * (d + p) + r < p) := by omega
    simp only [hi, h5, decide_true, decide_false, Bool.not_false, Bool.true_and]
    rw [e2, hy d (p + r) h2 (by omega) (by omega), e1, hy d (2 * p + r) h2 (by omega) (by omega), Nat.add_assoc d p r]
    simp [h3, h4, hrp]

/-- a step of `squash`: the block `2p` places above moves `p` places down, next to its neighbour -/
theorem blocks_double {p : Nat} {f : Nat → Bool} {y m : BitVec 64} (hp : 4 * p ∣ 64) (hy : Blocks p f y)
    (hm : ∀ i < 64, m.getLsbD i = decide (i % (2 * (2 * p)) < 2 * p)) : Blocks (2 * p) f ((y ||| y >>> p) &&& m) := by
  intro c r hc hr hi
  rw [BitVec.getLsbD_and, BitVec.getLsbD_or, BitVec.getLsbD_ushiftRight, hm _ hi, mod_block hc hr]
  by_cases hrp : r < 2 * p
  case neg => simp [hrp]
  have hc' : p ∣ c := Nat.dvd_trans (Nat.dvd_mul_left p 2) hc
  -- the next block of `y` above position `2c` fits below 64
  have hb : 2 * c + 4 * p ≤ 64 := by
    have : 4 * p ∣ 64 - 2 * c := Nat.dvd_sub hp (by rw [show 4 * p = 2 * (2 * p) by omega]; exact Nat.mul_dvd_mul_left 2 hc)
    have := Nat.le_of_dvd (by omega) this
    omega
  by_cases h1 : r < p
  · have : ¬ (p + r < p) := Nat.not_lt.mpr (Nat.le_add_right _ _)
    rw [hy c r hc' (by omega) hi, Nat.add_left_comm, hy c (p + r) hc' (by omega) (by omega)]
    simp [this, h1, hrp]
  · -- r = s + p: `p` places up lies offset s of the next block of `y`
    obtain ⟨s, rfl⟩ := Nat.exists_eq_add_of_le' (Nat.le_of_not_lt h1)
    have e : p + (2 * c + (s + p)) = 2 * (c + p) + s := by omega
    have : s < p := by omega
    rw [hy c (s + p) hc' (by omega) hi, e, hy (c + p) s (Nat.dvd_add hc' (Nat.dvd_refl p)) (by omega) (by omega),
      Nat.add_right_comm c p s, Nat.add_assoc c s p]
    simp [this, h1, hrp]

theorem m32_bit (i : Nat) : m32.getLsbD i = decide (i < 32) := by
  by_cases h : i < 64
  · rw [show m32.getLsbD i = _ from mask_32 i h, Nat.mod_eq_of_lt h]
  · rw [BitVec.getLsbD_of_ge _ _ (by omega), eq_comm, decide_eq_false_iff_not]
    omega

theorem spread_bit (x : BitVec 64) (i : Nat) (hi : i < 64) :
    (spreadBV (x &&& m32)).getLsbD i = (decide (i % 2 = 0) && x.getLsbD (i / 2)) := by
  have h32 : Blocks 32 x.getLsbD (x &&& m32) := by
    intro c r hc hr hi
    have : c = 0 := by omega
    rw [this, Nat.mul_zero, Nat.zero_add, BitVec.getLsbD_and, m32_bit, Bool.and_comm]
  have h1 : Blocks 1 x.getLsbD (spreadBV (x &&& m32)) :=
    blocks_halve (blocks_halve (blocks_halve (blocks_halve (blocks_halve h32 mask_16) mask_8) mask_4) mask_2) mask_1
  have e : i = 2 * (i / 2) + i % 2 := by omega
  rw [e, h1 (i / 2) (i % 2) (Nat.one_dvd _) (by omega) (by omega), ← e]
  rcases Nat.mod_two_eq_zero_or_one i with h | h <;> simp [h]

theorem squash_bit (v : BitVec 64) (i : Nat) (hi : i < 64) :
    (squashBV v).getLsbD i = (decide (i < 32) && v.getLsbD (2 * i)) := by
  have h1 : Blocks 1 (fun j => v.getLsbD (2 * j)) ((v ||| v >>> 0) &&& 0x5555555555555555#64) := by
    intro c r _ hr hi
    rw [BitVec.ushiftRight_zero, BitVec.or_self, BitVec.getLsbD_and, mask_1 _ hi, mod_block (Nat.one_dvd c) hr, Bool.and_comm]
    by_cases h : r < 1
    · have : r = 0 := by omega
      rw [this]; rfl
    · simp [h]
  have h32 : Blocks 32 (fun j => v.getLsbD (2 * j)) (squashBV v) :=
    blocks_double (p := 16) (by decide) (blocks_double (p := 8) (by decide) (blocks_double (p := 4) (by decide)
      (blocks_double (p := 2) (by decide) (blocks_double (p := 1) (by decide) h1 mask_2) mask_4) mask_8) mask_16) mask_32
  have := h32 0 i (Nat.dvd_zero _) hi (by omega)
  simpa using this


def ilBV (x y : BitVec 64) : BitVec 64 := spreadBV (x &&& m32) ||| (spreadBV (y &&& m32) <<< 1)

theorem ilBV_bit (x y : BitVec 64) (i : Nat) (hi : i < 64) :
    (ilBV x y).getLsbD i = if i % 2 = 0 then x.getLsbD (i / 2) else y.getLsbD (i / 2) := by
  unfold ilBV
  rw [BitVec.getLsbD_or, BitVec.getLsbD_shiftLeft, spread_bit x i hi]
  by_cases h0 : i < 1
  · have : i = 0 := by omega
    simp [this]
  · rw [spread_bit y (i - 1) (by omega)]
    rcases Nat.mod_two_eq_zero_or_one i with h | h
    · have : (i - 1) % 2 = 1 := by omega
      simp [h, this]
    · have h1 : (i - 1) % 2 = 0 := by omega
      have h2 : (i - 1) / 2 = i / 2 := by omega
      simp [h, h0, hi, h1, h2]

theorem squash_il (x y : BitVec 64) : squashBV (ilBV x y) = x &&& m32 := by
  apply BitVec.eq_of_getLsbD_eq
  intro i hi
  rw [squash_bit _ i hi, BitVec.getLsbD_and, m32_bit]
  by_cases h : i < 32
  · rw [ilBV_bit x y (2 * i) (by omega), if_pos (by omega), show 2 * i / 2 = i by omega]; simp [h]
  · simp [h]

theorem squash_il_shift (x y : BitVec 64) : squashBV (ilBV x y >>> 1) = y &&& m32 := by
  apply BitVec.eq_of_getLsbD_eq
  intro i hi
  rw [squash_bit _ i hi, BitVec.getLsbD_and, m32_bit, BitVec.getLsbD_ushiftRight]
  by_cases h : i < 32
  · rw [ilBV_bit x y (1 + 2 * i) (by omega), if_neg (by omega), show (1 + 2 * i) / 2 = i by omega]; simp [h]
  · simp [h]

theorem bit_false_of_lt (x : UInt64) (k j : Nat) (hx : x.toNat < 2 ^ k) (hj : k ≤ j) : x.toBitVec.getLsbD j = false := by
  show x.toNat.testBit j = false
  apply Nat.testBit_lt_two_pow
  exact Nat.lt_of_lt_of_le hx (Nat.pow_le_pow_right (by omega) hj)

theorem and_m32_of_lt (x : UInt64) (hx : x.toNat < 2 ^ 32) : x.toBitVec &&& m32 = x.toBitVec := by
  apply BitVec.eq_of_getLsbD_eq
  intro i hi
  rw [BitVec.getLsbD_and, m32_bit]
  by_cases h : i < 32
  · simp [h]
  · simp [h, bit_false_of_lt x 32 i hx (by omega)]

theorem interleave_toBitVec (x y : UInt64) (hx : x.toNat < 2 ^ 32) (hy : y.toNat < 2 ^ 32) :
    (interleave64 x y).toBitVec = ilBV x.toBitVec y.toBitVec := by
  unfold interleave64 ilBV
  rw [and_m32_of_lt x hx, and_m32_of_lt y hy]
  simp [spread_toBitVec]

theorem interleave_lt (x y : UInt64) (k : Nat) (hk : k ≤ 32) (hx : x.toNat < 2 ^ k) (hy : y.toNat < 2 ^ k) :
    (interleave64 x y).toNat < 2 ^ (2 * k) := by
  have hx32 : x.toNat < 2 ^ 32 := Nat.lt_of_lt_of_le hx (Nat.pow_le_pow_right (by omega) hk)
  have hy32 : y.toNat < 2 ^ 32 := Nat.lt_of_lt_of_le hy (Nat.pow_le_pow_right (by omega) hk)
  apply Nat.lt_pow_two_of_testBit
  intro i hi
  by_cases h64 : i < 64
  · show (interleave64 x y).toBitVec.getLsbD i = false
    rw [interleave_toBitVec x y hx32 hy32]
    rw [ilBV_bit _ _ i h64]
    split
    · exact bit_false_of_lt x k (i / 2) hx (by omega)
    · exact bit_false_of_lt y k (i / 2) hy (by omega)
  · apply Nat.testBit_lt_two_pow
    have : (interleave64 x y).toNat < 2 ^ 64 := (interleave64 x y).toNat_lt
    exact Nat.lt_of_lt_of_le this (Nat.pow_le_pow_right (by omega) (by omega))

theorem deinterleave_fst (v : UInt64) :
    (deinterleave64 v).1.toBitVec = (squashBV v.toBitVec ||| (squashBV (v.toBitVec >>> 1) <<< 32)) &&& m32 := by
  simp [deinterleave64, squash_toBitVec, b5, m32]

theorem deinterleave_snd (v : UInt64) :
    (deinterleave64 v).2.toBitVec = ((squashBV v.toBitVec ||| (squashBV (v.toBitVec >>> 1) <<< 32)) >>> 32) &&& m32 := by
  simp [deinterleave64, squash_toBitVec, b5, m32]

theorem low_half (a b : BitVec 64) : (a &&& m32 ||| ((b &&& m32) <<< 32)) &&& m32 = a &&& m32 := by
  apply BitVec.eq_of_getLsbD_eq
  intro i hi
  simp only [BitVec.getLsbD_and, BitVec.getLsbD_or, BitVec.getLsbD_shiftLeft, m32_bit]
  by_cases h : i < 32
  · simp [h]
  · simp [h]

theorem high_half (a b : BitVec 64) : ((a &&& m32 ||| ((b &&& m32) <<< 32)) >>> 32) &&& m32 = b &&& m32 := by
  apply BitVec.eq_of_getLsbD_eq
  intro i hi
  simp only [BitVec.getLsbD_and, BitVec.getLsbD_or, BitVec.getLsbD_shiftLeft, BitVec.getLsbD_ushiftRight, m32_bit]
  by_cases h : i < 32
  · have h1 : ¬ (32 + i < 32) := by omega
    have h2 : 32 + i < 64 := by omega
    have h3 : 32 + i - 32 = i := by omega
    simp [h, h1, h2, h3]
  · simp [h]

theorem deinterleave_interleave (x y : UInt64) (hx : x.toNat < 2 ^ 32) (hy : y.toNat < 2 ^ 32) :
    deinterleave64 (interleave64 x y) = (x, y) := by
  have h1 : (deinterleave64 (interleave64 x y)).1 = x := by
    apply UInt64.eq_of_toBitVec_eq
    rw [deinterleave_fst, interleave_toBitVec x y hx hy, squash_il, squash_il_shift, low_half, and_m32_of_lt x hx]
  have h2 : (deinterleave64 (interleave64 x y)).2 = y := by
    apply UInt64.eq_of_toBitVec_eq
    rw [deinterleave_snd, interleave_toBitVec x y hx hy, squash_il, squash_il_shift, high_half, and_m32_of_lt y hy]
  exact Prod.ext h1 h2

/-! ## `Encode`: the hash is the interleaving of two 32-bit values (the 52-bit bound at step 26, and what happens ON the limits,
  offset = 2^26 exactly, are in Props/C04.lean: `encode_in_range_partial`, `encode_limit_finding`) -/

theorem encode_eq (lonR latR : Range) (lon lat : F64) (step : Nat) (h : UInt64)
    (he : encode lonR latR lon lat step = some h) :
    h = interleave64
      (UInt64.ofNat (F64.toUInt32 (F64.mul (F64.div (F64.sub lat latR.min) (F64.sub latR.max latR.min)) (F64.ofNat (2 ^ step)))))
      (UInt64.ofNat (F64.toUInt32 (F64.mul (F64.div (F64.sub lon lonR.min) (F64.sub lonR.max lonR.min)) (F64.ofNat (2 ^ step))))) := by
  unfold encode at he
  -- each of the three range tests answers `none`: all three fail
  rw [Option.ite_none_left_eq_some, Option.ite_none_left_eq_some, Option.ite_none_left_eq_some] at he
  exact (Option.some.inj he.2.2.2).symm

theorem toUInt32_lt (a : F64) : F64.toUInt32 a < 2 ^ 32 := by
  unfold F64.toUInt32
  exact Nat.mod_lt _ (by decide)

theorem ofNat_toUInt32_lt (a : F64) : (UInt64.ofNat (F64.toUInt32 a)).toNat < 2 ^ 32 := by
  rw [UInt64.toNat_ofNat_of_lt' (Nat.lt_of_lt_of_le (toUInt32_lt a) (by decide))]
  exact toUInt32_lt a

end NodisVerif.Proofs.GeoBits

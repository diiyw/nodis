import NodisVerif.Proofs.C15Flat
/-
  C15: congruence of every composite reader function w.r.t. `SEq`.  Each proof
  follows the function along its successful path: where the function sequences two reads, `REq.elimOn`
  leaves the continuation to compare and passes the error and the panic through.
-/
namespace NodisVerif.Proofs.C15
open Resp RespReader

theorem readLine_congr : ∀ (fuel : Nat) {s t : RState}, SEq s t → REq (readLine s fuel) (readLine t fuel) := by
  intro fuel
  induction fuel with
  | zero => intro s t h; exact REq.err h
  | succ fuel ih =>
    intro s t h
    unfold readLine
    refine (readByte_congr h).elimOn (fun _ p q hpq => ?_) (fun _ _ _ => REq.err) REq.panic
    obtain ⟨h1, h2, h3⟩ := hpq
    dsimp only
    rw [h3]
    by_cases hc : (q.win.length > 1 ∧ q.win.getLast? = some 10)
    · simp only [hc, and_self, if_true]; exact REq.ok ⟨h1, h2, rfl⟩
    · simp only [hc, if_false]; exact ih ⟨h1, h2, h3⟩

theorem readInteger_congr {s t : RState} (h : SEq s t) : REq (readInteger s) (readInteger t) := by
  unfold readInteger
  rw [h.remaining]
  refine (readLine_congr (remaining t + 1) h).elimOn (fun _ p q hpq => ?_) (fun _ _ _ => REq.err) REq.panic
  have hm := hpq.malloc
  dsimp only
  rw [hpq.2.2]
  cases parseInt64 q.win with
  | none => exact REq.err hm
  | some v => exact REq.ok hm

theorem readBulk_congr {s t : RState} (h : SEq s t) : REq (readBulk s) (readBulk t) := by
  unfold readBulk
  refine (readByte_congr h).elimOn (fun _ p q hpq => ?_) (fun _ _ _ => REq.err) REq.panic
  dsimp only
  rw [hpq.2.2]
  by_cases hc : q.win.head? ≠ some 36
  · rw [if_pos hc, if_pos hc]; exact REq.err hpq
  rw [if_neg hc, if_neg hc]
  refine (readInteger_congr hpq.malloc).elimOn (fun l p1 q1 h1 => ?_) (fun _ _ _ => REq.err) REq.panic
  dsimp only
  by_cases hl : l < 0 ∨ l > maxBulk
  · rw [if_pos hl, if_pos hl]; exact REq.err h1
  rw [if_neg hl, if_neg hl]
  refine (readByteN_congr h1 l.toNat (Nat.lt_succ_self (remaining p1)) (Nat.lt_succ_self (remaining q1))).elimOn
    (fun _ p2 q2 h2 => ?_) (fun _ _ _ => REq.err) REq.panic
  dsimp only
  rw [h2.malloc.remaining, h2.2.2]
  refine (readLine_congr (remaining (malloc q2) + 1) h2.malloc).elimOn (fun _ p3 q3 h3 => ?_) (fun _ _ _ => REq.err) REq.panic
  exact REq.ok h3.malloc

theorem readBulks_congr : ∀ (k : Nat) (acc : List Bytes) {s t : RState}, SEq s t →
    REq (readBulks s k acc) (readBulks t k acc) := by
  intro k
  induction k with
  | zero => intro acc s t h; exact REq.ok h
  | succ k ih =>
    intro acc s t h
    unfold readBulks
    exact (readBulk_congr h).elimOn (fun _ _ _ hpq => ih _ hpq) (fun _ _ _ => REq.err) REq.panic

theorem SEq.lastByte {s t : RState} (h : SEq s t) : lastByte s = lastByte t := by
  simp [RespReader.lastByte, h.2.2]
theorem SEq.prevByte {s t : RState} (h : SEq s t) : prevByte s = prevByte t := by
  simp [RespReader.prevByte, h.2.2, h.2.1]

theorem readUtil_congr (endB : UInt8) : ∀ (fuel : Nat) {s t : RState}, SEq s t →
    REq (readUtil endB s fuel) (readUtil endB t fuel) := by
  intro fuel
  induction fuel with
  | zero => intro s t h; exact REq.err h
  | succ fuel ih =>
    intro s t h
    unfold readUtil
    refine (readByte_congr h).elimOn (fun _ p q hpq => ?_) (fun _ _ _ => REq.err) REq.panic
    have hd : SEq { p with win := p.win.take (p.win.length - 1) } { q with win := q.win.take (q.win.length - 1) } :=
      ⟨hpq.1, hpq.2.1, by simp [hpq.2.2]⟩
    dsimp only
    rw [hpq.lastByte, hpq.prevByte]
    by_cases h13 : lastByte q = some 13
    · simp only [h13, if_true]; exact ih hd
    · simp only [h13, if_false]
      by_cases h10 : lastByte q = some 10
      · simp only [h10, if_true]; exact REq.ok hd
      · simp only [h10, if_false]
        by_cases he : lastByte q = some endB
        · simp only [he, if_true]
          cases prevByte q with
          | none => exact REq.panic
          | some pb =>
            simp only
            by_cases h92 : pb ≠ some 92
            · rw [if_pos h92, if_pos h92]; exact REq.ok hd
            · rw [if_neg h92, if_neg h92]; exact ih hpq
        · simp only [he, if_false]; exact ih hpq

theorem inlineArgs_congr : ∀ (fuel : Nat) (acc : List Bytes) {s t : RState}, SEq s t →
    REq (inlineArgs s fuel acc) (inlineArgs t fuel acc) := by
  intro fuel
  induction fuel with
  | zero => intro acc s t h; exact REq.ok h
  | succ fuel ih =>
    intro acc s t h
    unfold inlineArgs
    -- end of stream ends the argument list: the error leg of `readByte` is an `ok` here
    refine (readByte_congr h).elimOn (fun _ p q hpq => ?_) (fun e _ _ hpq => ?eof) REq.panic
    case eof =>
      cases e with
      | eof => exact REq.ok hpq
      | _ => exact REq.err hpq
    dsimp only
    rw [hpq.2.2]
    by_cases hsp : q.win.head? = some 32 ∨ q.win.head? = some 9
    · rw [if_pos hsp, if_pos hsp]; exact ih _ hpq.malloc
    · rw [if_neg hsp, if_neg hsp]
      have key : ∀ (endB : UInt8) {p' q' : RState}, SEq p' q' →
          REq (match readUtil endB p' (remaining p' + 1) with
              | .err e st => .err e st
              | .panic => .panic
              | .ok lineEnd st =>
                if lineEnd then .ok (st.win :: acc).reverse (malloc st) else inlineArgs (malloc st) fuel (st.win :: acc))
            (match readUtil endB q' (remaining q' + 1) with
              | .err e st => .err e st
              | .panic => .panic
              | .ok lineEnd st =>
                if lineEnd then .ok (st.win :: acc).reverse (malloc st) else inlineArgs (malloc st) fuel (st.win :: acc)) := by
        intro endB p' q' hst
        rw [hst.remaining]
        refine (readUtil_congr endB (remaining q' + 1) hst).elimOn (fun le p1 q1 h1 => ?_) (fun _ _ _ => REq.err) REq.panic
        dsimp only
        rw [h1.2.2]
        cases le with
        | true => simp only [if_true]; exact REq.ok h1.malloc
        | false => simp only [Bool.false_eq_true, if_false]; exact ih _ h1.malloc
      by_cases hq : q.win.head? = some 39 ∨ q.win.head? = some 34
      · simp only [hq, if_true]; exact key _ hpq.malloc
      · simp only [hq, if_false]; exact key _ hpq

theorem readInline_congr {s t : RState} (h : SEq s t) : REq (readInline s) (readInline t) := by
  unfold readInline
  rw [h.remaining]
  refine (readUtil_congr 32 (remaining t + 1) h).elimOn (fun le p q hpq => ?_) (fun _ _ _ => REq.err) REq.panic
  dsimp only
  rw [hpq.2.2]
  cases le with
  | true => simp only [if_true]; exact REq.ok hpq.malloc
  | false =>
    simp only [Bool.false_eq_true, if_false]
    rw [hpq.malloc.remaining]
    exact (inlineArgs_congr (remaining (malloc q) + 1) [] hpq.malloc).elimOn (fun _ _ _ => REq.ok) (fun _ _ _ => REq.err) REq.panic

theorem readCommand_congr {src₁ src₂ : Source} (h : srcFlat src₁ = srcFlat src₂) :
    REq (readCommand src₁) (readCommand src₂) := by
  unfold readCommand
  dsimp only
  have h0 : SEq { src := src₁ } { src := src₂ } := ⟨h, rfl, rfl⟩
  refine (readByte_congr h0).elimOn (fun _ p q hpq => ?_) (fun _ _ _ => REq.err) REq.panic
  dsimp only
  rw [hpq.2.2]
  by_cases hc : q.win.head? ≠ some 42
  · rw [if_pos hc, if_pos hc]; exact readInline_congr hpq
  rw [if_neg hc, if_neg hc]
  refine (readInteger_congr hpq.malloc).elimOn (fun l p1 q1 h1 => ?_) (fun _ _ _ => REq.err) REq.panic
  dsimp only
  refine (readBulks_congr l.toNat [] h1).elimOn (fun bs p2 q2 h2 => ?_) (fun _ _ _ => REq.err) REq.panic
  cases bs with
  | nil => exact REq.ok h2
  | cons n args => exact REq.ok h2

theorem readAll_congr : ∀ (fuel : Nat) (acc : List Cmd) {src₁ src₂ : Source}, srcFlat src₁ = srcFlat src₂ →
    readAll src₁ fuel acc = readAll src₂ fuel acc := by
  intro fuel
  induction fuel with
  | zero => intro acc _ _ _; rfl
  | succ fuel ih =>
    intro acc src₁ src₂ h
    unfold readAll
    exact (readCommand_congr h).elimOn (fun _ _ _ hpq => ih _ hpq.1) (fun _ _ _ _ => rfl) rfl

end NodisVerif.Proofs.C15

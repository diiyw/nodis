import NodisVerif.Proofs.C11Prim
import NodisVerif.Proofs.StoreView
/-
  C11 / C12: `Api.setVal`, `Api.setExp`, `newKeyWith` and the lookup under the storage invariant.  Each primitive gets
  an `inv_*` (the invariant is kept) and a `lookup_*` (what the store shows afterwards); `writeKey` / `readKey` get
  both in one `KeySpec` (`lookupKey_spec`, over the cases of `accessKey_inv`).
-/
namespace NodisVerif.Proofs.C11
open NodisVerif.Store NodisVerif.Codec NodisVerif.Spec.Persist
open NodisVerif.Proofs.AListLemmas NodisVerif.Proofs.AListLemmas2 NodisVerif.Proofs.C11AList

/-- the two branches of `Store.setVal_eq` (StoreLemmas): the in-memory backend shares the value object, so every hot
    record and every backend entry holding it sees the new value -/
theorem setVal_mem {s : MState} {k : Bytes} {v : Val} {m : Meta} (hm : AList.get? s.index k = some m)
    (hp : s.pebble = false) (ho : m.oid ≠ 0) :
    Api.setVal s k v = { s with
      index := (AList.set s.index k { m with value := some v }).map (fun p => (p.1, setValG m.oid v p.1 p.2)),
      disk := s.disk.map (fun p => (p.1, shareE m.oid v p.2)) } := by
  rw [Store.setVal_eq s k v m hm, if_neg (by simp [hp, ho])]
  rfl

theorem setVal_peb {s : MState} {k : Bytes} {v : Val} {m : Meta} (hm : AList.get? s.index k = some m)
    (hp : s.pebble = true ∨ m.oid = 0) :
    Api.setVal s k v = putMeta s k { m with value := some v } := by
  rw [Store.setVal_eq s k v m hm, if_pos hp]

theorem setVal_none {s : MState} {k : Bytes} {v : Val} (hm : AList.get? s.index k = none) :
    Api.setVal s k v = s := by
  simp only [Api.setVal, getMeta, hm]

theorem get?_setVal_index {s : MState} {x : Option Bytes} {t : Int} (h : StoreInvX s x t) {k : Bytes}
    {m : Meta} (hm : AList.get? s.index k = some m) (v : Val) (k' : Bytes) :
    AList.get? (Api.setVal s k v).index k' =
      if k' = k then some { m with value := some v } else AList.get? s.index k' := by
  by_cases hp : s.pebble = true ∨ m.oid = 0
  · rw [setVal_peb hm hp]; simp [putMeta, get?_set]
  · have hp' : s.pebble = false := by
      cases h1 : s.pebble with
      | true => exact absurd (Or.inl h1) hp
      | false => rfl
    have ho : m.oid ≠ 0 := fun e => hp (Or.inr e)
    rw [setVal_mem hm hp' ho]
    simp only []
    rw [get?_map (fun k m' => setValG m.oid v k m'), get?_set]
    by_cases hk : k' = k
    · simp [hk, setValG]
    · simp only [hk, if_false]
      cases hm' : AList.get? s.index k' with
      | none => rfl
      | some m' =>
        simp only [Option.map_some, setValG]
        have : m'.oid ≠ m.oid := fun e => hk ((h.oids hp').recInj k' m' k m hm' hm e)
        simp [this]

/-- what `setVal` does to a backend entry: the in-memory backend shares the value object -/
def svEnt (s : MState) (m : Meta) (v : Val) (e : DiskEntry) : DiskEntry :=
  if s.pebble = false ∧ m.oid ≠ 0 ∧ e.oid = m.oid then { e with val := v } else e

@[simp] theorem svEnt_name (s : MState) (m : Meta) (v : Val) (e : DiskEntry) : (svEnt s m v e).name = e.name := by
  unfold svEnt; split <;> rfl
@[simp] theorem svEnt_exp (s : MState) (m : Meta) (v : Val) (e : DiskEntry) : (svEnt s m v e).exp = e.exp := by
  unfold svEnt; split <;> rfl
@[simp] theorem svEnt_oid (s : MState) (m : Meta) (v : Val) (e : DiskEntry) : (svEnt s m v e).oid = e.oid := by
  unfold svEnt; split <;> rfl
theorem svEnt_val (s : MState) (m : Meta) (v : Val) (e : DiskEntry) :
    (svEnt s m v e).val = v ∨ (svEnt s m v e).val = e.val := by
  unfold svEnt; split
  · left; rfl
  · right; rfl
theorem svEnt_other {s : MState} {m : Meta} {v : Val} {e : DiskEntry}
    (h : ¬ (s.pebble = false ∧ m.oid ≠ 0 ∧ e.oid = m.oid)) : svEnt s m v e = e := by
  unfold svEnt; rw [if_neg h]

theorem get?_setVal_disk {s : MState} {k : Bytes} {m : Meta} (hm : AList.get? s.index k = some m)
    (v : Val) (dk : Bytes) :
    AList.get? (Api.setVal s k v).disk dk = (AList.get? s.disk dk).map (svEnt s m v) := by
  by_cases hp : s.pebble = true ∨ m.oid = 0
  · rw [setVal_peb hm hp]
    simp only [putMeta]
    cases AList.get? s.disk dk with
    | none => rfl
    | some e =>
      simp only [Option.map_some]
      rw [svEnt_other]
      rcases hp with hp | hp <;> simp [hp]
  · have hp' : s.pebble = false := by
      cases h1 : s.pebble with
      | true => exact absurd (Or.inl h1) hp
      | false => rfl
    have ho : m.oid ≠ 0 := fun e => hp (Or.inr e)
    rw [setVal_mem hm hp' ho]
    simp only []
    rw [get?_map (fun _ e => shareE m.oid v e)]
    cases AList.get? s.disk dk with
    | none => rfl
    | some e => simp [shareE, svEnt, hp', ho]

theorem setVal_fields {s : MState} (k : Bytes) (v : Val) :
    (Api.setVal s k v).pebble = s.pebble ∧ (Api.setVal s k v).nextId = s.nextId ∧
    (Api.setVal s k v).failSet = s.failSet :=
  have f := C10.setVal_frame s k v
  ⟨congrArg View.Frame.pebble f, congrArg View.Frame.nextId f, congrArg View.Frame.failSet f⟩

theorem setVal_sorted_both {s : MState} {x : Option Bytes} {t : Int} (h : StoreInvX s x t) (k : Bytes) (v : Val) :
    AList.Sorted (Api.setVal s k v).index ∧ AList.Sorted (Api.setVal s k v).disk := by
  cases hm : AList.get? s.index k with
  | none => rw [setVal_none hm]; exact ⟨h.idxSorted, h.diskSorted⟩
  | some m =>
    by_cases hp : s.pebble = true ∨ m.oid = 0
    · rw [setVal_peb hm hp]
      exact ⟨set_preserves_sorted _ h.idxSorted _ _, h.diskSorted⟩
    · have hp' : s.pebble = false := by
        cases h1 : s.pebble with
        | true => exact absurd (Or.inl h1) hp
        | false => rfl
      have ho : m.oid ≠ 0 := fun e => hp (Or.inr e)
      rw [setVal_mem hm hp' ho]
      exact ⟨sorted_map (fun k m' => setValG m.oid v k m') _ (set_preserves_sorted _ h.idxSorted _ _),
        sorted_map (fun _ e => shareE m.oid v e) _ h.diskSorted⟩

/-- `setVal` on an indexed record: the name becomes the exempted one until it is signalled -/
theorem inv_setVal {s : MState} {x : Option Bytes} {t : Int} (h : StoreInvX s x t) {k : Bytes}
    (hx : ∀ k', k' ≠ k → x ≠ some k') {m : Meta} (hm : AList.get? s.index k = some m)
    {v : Val} (hg : Good v) :
    StoreInvX (Api.setVal s k v) (some k) t := by
  have r := h.recs k m hm
  obtain ⟨f1, f2, _⟩ := setVal_fields (s := s) k v
  have hent : ∀ dk (e : DiskEntry), AList.get? s.disk dk = some e → e.name ≠ k → svEnt s m v e = e := by
    intro dk e he hn
    apply svEnt_other
    intro ⟨hp, _, ho⟩
    exact hn ((h.oids hp).entRec _ e k m he hm ho)
  have hback : ∀ dk e', AList.get? (Api.setVal s k v).disk dk = some e' →
      ∃ e, AList.get? s.disk dk = some e ∧ e' = svEnt s m v e := by
    intro dk e' he'
    rw [get?_setVal_disk hm] at he'
    cases he : AList.get? s.disk dk with
    | none => rw [he] at he'; cases he'
    | some e =>
      rw [he] at he'
      simp only [Option.map_some, Option.some.injEq] at he'
      exact ⟨e, rfl, he'.symm⟩
  apply frame (k := k) h (fun k' hk _ => hx k' hk) f1 (by rw [f2]; exact Nat.le_refl _)
    (setVal_sorted_both h k v).1 (setVal_sorted_both h k v).2
  case hIo => intro k' hk; rw [get?_setVal_index h hm]; simp [hk]
  case hDo =>
    intro dk e' hn
    refine ⟨fun he' => ?_, fun he => ?_⟩
    · obtain ⟨e, he, rfl⟩ := hback dk e' he'
      rw [svEnt_name] at hn
      rw [hent dk e he hn]; exact he
    · rw [get?_setVal_disk hm, he]
      simp only [Option.map_some, hent dk e' he hn]
  case hrec =>
    intro m' hm'
    rw [get?_setVal_index h hm] at hm'
    simp only [if_true, Option.some.injEq] at hm'
    subst hm'
    refine RecInv.hot (v := v) rfl r.ok r.expR hg ?_ (Or.inr rfl)
    intro e he
    obtain ⟨ent, h1, h2, h3⟩ := r.stored e he
    exact ⟨svEnt s m v ent, by rw [get?_setVal_disk hm, h1]; rfl, by simp [h2], by simp [h3]⟩
  case hent =>
    intro dk e' he' hn
    obtain ⟨e, he, rfl⟩ := hback dk e' he'
    rw [svEnt_name] at hn
    have q := h.ents dk e he
    have hown := (h.ent_of_name he (by rw [hn]; exact hm)).1
    refine ⟨by simpa using q.key, by simpa using q.expR, ?_, ?_⟩
    · rcases svEnt_val s m v e with h1 | h1 <;> rw [h1]
      · exact hg
      · exact q.good
    · refine ⟨{ m with value := some v }, ?_, by simpa using hown⟩
      rw [get?_setVal_index h hm]
      simp [hn]
  case hoid =>
    intro hpb
    have o := h.oids hpb
    refine ⟨?_, ?_⟩
    · intro m' hm'
      rw [get?_setVal_index h hm] at hm'
      simp only [if_true, Option.some.injEq] at hm'
      subst hm'
      have := o.recR k m hm
      exact ⟨this.1, by rw [f2]; exact this.2, o.rec_fresh (m := m) hm⟩
    · intro dk e' he' hn
      obtain ⟨e, he, rfl⟩ := hback dk e' he'
      rw [svEnt_name] at hn
      have := o.entR dk e he
      rw [svEnt_oid, f2]
      exact ⟨this.1, this.2, o.ent_fresh he hn⟩

theorem lookup_setVal {s : MState} {x : Option Bytes} {t t' : Int} (h : StoreInvX s x t) (ht : t ≤ t')
    {k : Bytes} {m : Meta} (hm : AList.get? s.index k = some m) (v : Val)
    (k' : Bytes) :
    lookup (Api.setVal s k v) t' k' =
      if k' = k then (if m.expired t' then none else some (v, m.exp)) else lookup s t' k' := by
  have r := h.recs k m hm
  by_cases hk : k' = k
  · subst hk
    simp only [lookup, getMeta, get?_setVal_index h hm, if_true, Option.bind_some]
    simp only [view, Meta.isOk, Meta.expired]
    have := r.ok
    simp only [Meta.isOk] at this
    simp only [this, Bool.true_and]
    by_cases hc : (m.exp != 0 && decide (m.exp ≤ t')) = true <;> simp [hc]
  · simp only [hk, if_false]
    refine lookup_frame (k := k) h ht (setVal_fields k v).1 ?_ k' hk ?_
    · intro dk e he hn
      rw [get?_setVal_disk hm, he]
      simp only [Option.map_some, Option.some.injEq]
      apply svEnt_other
      intro ⟨hp, _, ho⟩
      exact hn ((h.oids hp).entRec _ e k m he hm ho)
    · rw [get?_setVal_index h hm]; simp [hk]

theorem inv_setExp {s : MState} {x : Option Bytes} {t : Int} (h : StoreInvX s x t) {k : Bytes}
    (hx : ∀ k', k' ≠ k → x ≠ some k') {m : Meta} (hm : AList.get? s.index k = some m)
    (hv : m.value.isSome = true) {e : Int} (he : inInt64 e = true) :
    StoreInvX (Api.setExp s k e) (some k) t := by
  have r := h.recs k m hm
  simp only [Api.setExp, getMeta, hm]
  obtain ⟨v, hv'⟩ := Option.isSome_iff_exists.mp hv
  refine inv_putMeta_same (m' := { m with exp := e }) h (fun k' hk _ => hx k' hk) hm ?_ rfl rfl
  exact RecInv.hot (v := v) hv' r.ok he (r.good v hv') r.stored (Or.inr rfl)

theorem lookup_setExp {s : MState} {t' : Int}
    {k : Bytes} {m : Meta} (hm : AList.get? s.index k = some m) (e : Int) (k' : Bytes) :
    lookup (Api.setExp s k e) t' k' =
      if k' = k then view s t' k { m with exp := e } else lookup s t' k' := by
  simp only [Api.setExp, getMeta, hm]
  by_cases hk : k' = k
  · subst hk; simp only [if_true]; exact lookup_putMeta_same _
  · simp only [hk, if_false]; exact lookup_putMeta_other _ _ hk

theorem inv_bump {s : MState} {x : Option Bytes} {t : Int} (h : StoreInvX s x t) (n : Nat)
    (hn : s.nextId ≤ n) : StoreInvX { s with nextId := n } x t := by
  refine ⟨h.idxSorted, h.diskSorted, h.recs, h.ents, ?_, ?_⟩
  · intro hp
    have o := h.oids hp
    refine ⟨?_, o.recInj, ?_, o.entRec, o.entInj⟩
    · intro k m hk
      have := o.recR k m hk
      exact ⟨this.1, Nat.lt_of_lt_of_le this.2 hn⟩
    · intro dk e hk
      have := o.entR dk e hk
      exact ⟨this.1, Nat.lt_of_lt_of_le this.2 hn⟩
  · exact Nat.lt_of_lt_of_le h.idPos hn

theorem dropEntries_fields (s : MState) (k : Bytes) :
    (dropEntries s k).index = s.index ∧ (dropEntries s k).pebble = s.pebble ∧
    (dropEntries s k).failSet = s.failSet ∧ (dropEntries s k).nextId = s.nextId := by
  unfold dropEntries
  cases getMeta s k with
  | none => exact ⟨rfl, rfl, rfl, rfl⟩
  | some dead => simp only [unpersist]; cases dead.stored <;> exact ⟨rfl, rfl, rfl, rfl⟩

theorem dropEntries_disk {s : MState} {x : Option Bytes} {t : Int} (h : StoreInvX s x t) (k : Bytes) :
    AList.Sorted (dropEntries s k).disk ∧
    ∀ dk e, AList.get? (dropEntries s k).disk dk = some e ↔ (AList.get? s.disk dk = some e ∧ e.name ≠ k) := by
  unfold dropEntries getMeta
  cases hm : AList.get? s.index k with
  | none =>
    exact ⟨h.diskSorted, fun dk e => ⟨fun he => ⟨he, fun hn => h.no_entry he (hn ▸ hm)⟩, fun a => a.1⟩⟩
  | some dead =>
    obtain ⟨_, _, _, _, u5, u6⟩ := unpersist_spec h hm
    exact ⟨u5, u6⟩

theorem frameOn_dropEntries (s : MState) (k : Bytes) : C01.FrameOn [k] s (dropEntries s k) := by
  unfold dropEntries
  cases getMeta s k with
  | none => exact C01.FrameOn.refl _ _
  | some dead => exact C01.frameOn_unpersist s k dead List.mem_cons_self

theorem lookup_install_other (s : MState) (t' : Int) (k : Bytes) (mF : Meta) (k' : Bytes) (hk : k' ≠ k) :
    lookup (putMeta (dropEntries s k) k mF) t' k' = lookup s t' k' :=
  StoreView.frameOn_plookup ((frameOn_dropEntries s k).trans (C01.frameOn_putMeta _ k mF List.mem_cons_self)) t'
    (by simpa using hk)

theorem inv_install {s : MState} {t : Int} (h : StoreInvX s none t) (k : Bytes) {mF : Meta} {v : Val}
    (hv : mF.value = some v) (hok : mF.isOk = true) (hexp : inInt64 mF.exp = true) (hg : Good v)
    (hmod : mF.isModified = true) (hst : mF.stored = none)
    (hoid : s.pebble = false → 0 < mF.oid ∧ mF.oid < s.nextId ∧ OidFree s k mF.oid) :
    StoreInvX (putMeta (dropEntries s k) k mF) none t := by
  obtain ⟨f1, f2, _, f4⟩ := dropEntries_fields s k
  obtain ⟨d1, d2⟩ := dropEntries_disk h k
  apply frame (k := k) h (fun _ _ a => a)
  case hp => exact f2
  case hn => show s.nextId ≤ (dropEntries s k).nextId; rw [f4]; exact Nat.le_refl _
  case hI => simp only [putMeta, f1]; exact set_preserves_sorted _ h.idxSorted _ _
  case hD => exact d1
  case hIo => intro k' hk; simp only [putMeta, f1, get?_set, hk, if_false]
  case hDo => exact fun dk e hn => ⟨fun a => ((d2 dk e).mp a).1, fun a => (d2 dk e).mpr ⟨a, hn⟩⟩
  case hrec =>
    intro m'
    simp only [putMeta, get?_set, if_true, Option.some.injEq]
    intro e; subst e
    exact RecInv.hot (v := v) hv hok hexp hg (fun e he => by rw [hst] at he; cases he) (Or.inl hmod)
  case hent => intro dk e he hn; exact absurd hn ((d2 dk e).mp he).2
  case hoid =>
    intro hp
    refine ⟨?_, ?_⟩
    · intro m'
      simp only [putMeta, get?_set, if_true, Option.some.injEq]
      intro e; subst e
      have := hoid hp
      exact ⟨this.1, by show _ < (dropEntries s k).nextId; rw [f4]; exact this.2.1, this.2.2⟩
    · intro dk e he hn; exact absurd hn ((d2 dk e).mp he).2

/-- the record `newKeyWith` publishes -/
def newRec (s : MState) (old : Option Meta) (v : Val) : Meta :=
  ({ (match old with | some m => m | none => { exp := 0, value := none }) with
      exp := 0, kid := s.nextId, oid := s.nextId + 1 }.setValue v).markModified

theorem newRec_facts (s : MState) (old : Option Meta) (v : Val) :
    (newRec s old v).value = some v ∧ (newRec s old v).exp = 0 ∧ (newRec s old v).isOk = true ∧
    (newRec s old v).isModified = true ∧ (newRec s old v).oid = s.nextId + 1 ∧
    (newRec s old v).stored = (old.bind (·.stored)) := by
  refine ⟨rfl, rfl, by simp [newRec], by simp [newRec], rfl, ?_⟩
  cases old <;> rfl

theorem newKeyWith_eq (s : MState) (k : Bytes) (old : Option Meta) (v : Val) :
    newKeyWith s k old v =
      putMeta (match old with
        | some _ => { s with nextId := s.nextId + 1 + 1 }
        | none => dropEntries { s with nextId := s.nextId + 1 + 1 } k) k (newRec s old v) := by
  simp only [newKeyWith, fresh, getMeta, newRec, dropEntries]
  cases old <;> cases AList.get? s.index k <;> rfl

theorem inv_newKeyWith {s : MState} {t : Int} (h : StoreInvX s none t) (k : Bytes) (old : Option Meta)
    (hold : ∀ m0, old = some m0 → AList.get? s.index k = some m0) {v : Val} (hg : Good v) :
    StoreInvX (newKeyWith s k old v) none t := by
  rw [C11.newKeyWith_eq]
  obtain ⟨n1, n2, n3, n4, n5, n6⟩ := newRec_facts s old v
  have hb := inv_bump h (s.nextId + 1 + 1) (by omega)
  have hoid : s.pebble = false → 0 < (newRec s old v).oid ∧ (newRec s old v).oid < s.nextId + 1 + 1 ∧
      OidFree { s with nextId := s.nextId + 1 + 1 } k (newRec s old v).oid := by
    intro hp
    rw [n5]
    exact ⟨by omega, by omega, ((h.oids hp).new_fresh k (by omega)).congr rfl rfl⟩
  have hexp : inInt64 (newRec s old v).exp = true := by rw [n2]; decide
  cases old with
  | some m0 =>
    have hm0 := hold m0 rfl
    refine inv_putMeta hb (fun _ _ a => a) ?_ ?_ hoid
    · exact RecInv.hot (v := v) n1 n3 hexp hg (fun e he => (h.recs k m0 hm0).stored e (n6 ▸ he)) (Or.inl n4)
    · intro dk e he hn
      subst hn
      rw [n6]
      exact (h.ent_of_name he hm0).1
  | none => exact inv_install hb k n1 n3 hexp hg n4 n6 hoid

theorem get?_newKeyWith (s : MState) (k : Bytes) (old : Option Meta) (v : Val) (k' : Bytes) :
    AList.get? (newKeyWith s k old v).index k' =
      if k' = k then some (newRec s old v) else AList.get? s.index k' := by
  rw [C11.newKeyWith_eq]
  cases old with
  | some m0 => simp only [putMeta, get?_set]
  | none => simp only [putMeta, (dropEntries_fields _ k).1, get?_set]

theorem newKeyWith_fields (s : MState) (k : Bytes) (old : Option Meta) (v : Val) :
    (newKeyWith s k old v).pebble = s.pebble ∧ (newKeyWith s k old v).failSet = s.failSet :=
  have f := C10.newKeyWith_frame s k old v
  ⟨congrArg View.Frame.pebble f, congrArg View.Frame.failSet f⟩

theorem load_some {s : MState} {x : Option Bytes} {t : Int} (h : StoreInvX s x t) {k : Bytes} {m : Meta}
    (hm : AList.get? s.index k = some m) (hc : m.value = none) (hal : m.expired t = false) :
    ∃ ent v, AList.get? s.disk (encodeKey k m.exp) = some ent ∧ ent.name = k ∧ ent.exp = m.exp ∧
      loadValue s k m = some (v, if s.pebble then 0 else ent.oid) ∧ Good v ∧
      (s.pebble = true → decodeEntry (encodeEntry ent.val) = some v) ∧ (s.pebble = false → v = ent.val) := by
  have r := h.recs k m hm
  obtain ⟨ent, h1, h2, h3⟩ := r.stored _ (r.cold hal hc)
  have q := h.ents _ _ h1
  cases hp : s.pebble with
  | true =>
    obtain ⟨v, hd, hg⟩ := good_decodes ent.val q.good
    exact ⟨ent, v, h1, h2, h3, by simp [loadValue, diskGet, h1, hp, hd], hg, fun _ => hd, (fun c => by cases c)⟩
  | false =>
    exact ⟨ent, ent.val, h1, h2, h3, by simp [loadValue, diskGet, h1, hp], q.good, (fun c => by cases c), fun _ => rfl⟩

theorem inv_load {s : MState} {t : Int} (h : StoreInvX s none t) {k : Bytes} {m : Meta}
    (hm : AList.get? s.index k = some m) (hc : m.value = none) (hal : m.expired t = false)
    {v : Val} {oid : Nat} (hl : loadValue s k m = some (v, oid)) :
    StoreInvX (putMeta s k ({ m with oid := oid }.setValue v)) none t := by
  have r := h.recs k m hm
  obtain ⟨ent, v', h1, h2, h3, h4, h5, h6, h7⟩ := load_some h hm hc hal
  rw [hl] at h4
  simp only [Option.some.injEq, Prod.mk.injEq] at h4
  obtain ⟨hvv, hoo⟩ := h4
  subst hvv
  apply inv_putMeta h (fun _ _ a => a)
  · refine ⟨by simp, r.expR, ?_, r.stored, ?_, ?_⟩
    · intro v' hv'; simp only [setValue_value, Option.some.injEq] at hv'; subst hv'; exact h5
    · intro _ hn; simp at hn
    · intro _ _ _ v' hv'
      simp only [setValue_value, Option.some.injEq] at hv'; subst hv'
      refine ⟨ent, r.cold hal hc, h1, ?_, ?_⟩
      · intro hp; right; exact h6 hp
      · intro hp
        simp only [hp, Bool.false_eq_true, if_false] at hoo
        exact ⟨by simp [hoo], (h7 hp).symm⟩
  · intro dk e he hn
    subst hn
    exact (h.ent_of_name he hm).1
  · intro hp
    simp only [hp, Bool.false_eq_true, if_false] at hoo
    have o := h.oids hp
    have := o.entR _ ent h1
    simp only [setValue_oid, hoo]
    exact ⟨this.1, this.2, o.ent_fresh h1 h2⟩

/-- what `writeKey` / `readKey` guarantee, in terms of the logical content of `k` before the call -/
structure KeySpec (s : MState) (t now : Int) (k : Bytes) (mk : Option Val) (r : MState × Bool) : Prop where
  inv : StoreInvX r.1 none t
  peb : r.1.pebble = s.pebble
  fail : r.1.failSet = s.failSet
  other : ∀ t', t ≤ t' → ∀ k', k' ≠ k → lookup r.1 t' k' = lookup s t' k'
  hit : ∀ v e, lookup s now k = some (v, e) → r.2 = true ∧ (∀ t', t ≤ t' → lookup r.1 t' k = lookup s t' k) ∧
      ∃ m, AList.get? r.1.index k = some m ∧ m.value = some v ∧ m.exp = e ∧ m.expired now = false
  make : ∀ v, lookup s now k = none → mk = some v → r.2 = true ∧ (∀ t', t ≤ t' → lookup r.1 t' k = some (v, 0)) ∧
      ∃ m, AList.get? r.1.index k = some m ∧ m.value = some v ∧ m.exp = 0 ∧ m.expired now = false
  miss : lookup s now k = none → mk = none → r.2 = false ∧ ∀ t', t ≤ t' → lookup r.1 t' k = lookup s t' k

theorem inv_count {s s1 : MState} {t : Int} (h : StoreInvX s none t) {k : Bytes} {m0 : Meta}
    (hm : AList.get? s.index k = some m0) (hi : s1.index = s.index) (hd : s1.disk = s.disk)
    (hp : s1.pebble = s.pebble) (hn : s1.nextId = s.nextId) (c : Int) :
    StoreInvX (putMeta s1 k { m0 with count := c }) none t := by
  have h1 : StoreInvX s1 none t := h.congr hi hd hp hn
  have hm1 : AList.get? s1.index k = some m0 := by rw [hi]; exact hm
  exact inv_putMeta_same (m' := { m0 with count := c }) h1 (fun _ _ a => a) hm1
    ((h1.recs k m0 hm1).congr rfl rfl rfl rfl rfl) rfl rfl

/-- the lookup keeps the invariant: one case per outcome (`C01.accessKey_shape`) -/
theorem accessKey_inv {lock : MState → Bytes → MState} (hL : C01.LockOp lock) {s : MState} {t now : Int}
    (h : StoreInvX s none t) (ht : t ≤ now) (k : Bytes) (mk : Option Val) (hmk : ∀ v, mk = some v → Good v) :
    StoreInvX (C01.accessKey lock s now k mk).1 none t := by
  have create : ∀ (x : MState) (old : Option Meta), StoreInvX x none t →
      (∀ m0, old = some m0 → AList.get? x.index k = some m0) → StoreInvX (C01.orCreate x k old mk).1 none t := by
    intro x old hx hold
    cases mk with
    | none => exact hx
    | some v => exact inv_newKeyWith hx k old hold (hmk v rfl)
  have hb : ∀ m0, getMeta s k = some m0 → StoreInvX (putMeta (lock s k) k (C01.bump m0)) none t := fun m0 hm =>
    inv_count h hm (hL.index s k) (hL.sameDisk s k).1 (hL.sameDisk s k).2 (hL.nextId s k) (m0.count + 1)
  rcases C01.accessKey_shape hL s now k mk with
    ⟨_, e⟩ | ⟨m0, hm, ⟨e, _⟩ | ⟨e, _⟩ | ⟨v, oid, e, _, hex, hv, hld⟩⟩ <;> rw [e]
  · exact create s none h (fun _ hc => nomatch hc)
  · exact create _ _ (hb m0 hm) (fun _ hc => Option.some.inj hc ▸ getMeta_putMeta_same _ _ _)
  · exact hb m0 hm
  · refine inv_load (hb m0 hm) (getMeta_putMeta_same _ _ _) hv (Meta.alive_anti m0 ht hex) ?_
    rw [← hld]
    exact C01.loadValue_congr ((hL.sameDisk s k).trans (C01.sameDisk_putMeta _ _ _)) k m0 _ rfl

/-- `writeKey` and `readKey` are one lookup (`C01.accessKey`, StoreLemmas) and differ only in the lock they take.
    What the lookup shows afterwards holds of every store state (`StoreView.accessKey_lookup`, `StoreView.accessKey_found`);
    only `inv` needs the invariant, and the guards `t ≤ t'` of `KeySpec` are not used: its facts hold at every `t'`. -/
theorem lookupKey_spec {lock : MState → Bytes → MState} (hL : C01.LockOp lock)
    {s : MState} {t now : Int} (h : StoreInvX s none t) (ht : t ≤ now)
    (k : Bytes) (mk : Option Val) (hmk : ∀ v, mk = some v → Good v) :
    KeySpec s t now k mk (C01.accessKey lock s now k mk) := by
  obtain ⟨o, hi, ma, mi⟩ := StoreView.accessKey_lookup hL s now k mk
  obtain ⟨p, f⟩ := StoreView.accessKey_kind hL s now k mk
  exact ⟨accessKey_inv hL h ht k mk hmk, p, f, fun t' _ k' hk => o t' k' hk,
    fun v e hc => ⟨(hi _ hc).1, fun t' _ => (hi _ hc).2 t', StoreView.accessKey_found hL s now k mk (Or.inl hc)⟩,
    fun v hc hm => ⟨(ma v hc hm).1, fun t' _ => (ma v hc hm).2 t',
      StoreView.accessKey_found hL s now k mk (Or.inr ⟨hc, hm, rfl⟩)⟩,
    fun hc hm => ⟨(mi hc hm).1, fun t' _ => (mi hc hm).2 t'⟩⟩

theorem writeKey_spec {s : MState} {t now : Int} (h : StoreInvX s none t) (ht : t ≤ now) (k : Bytes)
    (mk : Option Val) (hmk : ∀ v, mk = some v → Good v) : KeySpec s t now k mk (writeKey s now k mk) :=
  lookupKey_spec C01.lockW_op h ht k mk hmk

theorem readKey_spec {s : MState} {t now : Int} (h : StoreInvX s none t) (ht : t ≤ now) (k : Bytes) :
    KeySpec s t now k none (readKey s now k) :=
  lookupKey_spec C01.lockR_op h ht k none nofun

theorem writeKey_otherIdx (s : MState) (now : Int) (k : Bytes) (mk : Option Val) (k' : Bytes) (hk : k' ≠ k) :
    AList.get? (writeKey s now k mk).1.index k' = AList.get? s.index k' :=
  Store.getMeta_writeKey_other s now k mk k' hk

theorem readKey_otherIdx (s : MState) (now : Int) (k : Bytes) (k' : Bytes) (hk : k' ≠ k) :
    AList.get? (readKey s now k).1.index k' = AList.get? s.index k' :=
  Store.getMeta_readKey_other s now k k' hk

end NodisVerif.Proofs.C11

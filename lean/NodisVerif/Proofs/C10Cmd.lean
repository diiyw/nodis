import NodisVerif.Proofs.C10Sim
import NodisVerif.Proofs.KeyTxApi
/-
  Single-key commands respect `Sim`: each is a key transaction (`Proofs.C11.keyTx`), a lookup, then `runAct` on the hot
  record found; `keyTx_good` puts the lookup (`writeKey_good` / `readKey_good`, C10Sim) and `runAct_good` together.
  ZREM and its two siblings have the shape `Proofs.C20.remTx` instead.
-/
namespace NodisVerif.Proofs.C10
open NodisVerif Store
open NodisVerif.Proofs.AListLemmas NodisVerif.Proofs.AListLemmas2

variable {now : Int} {s s' : MState}

theorem emits_good {now : Int} (ops : List FeedOp) : ∀ {s s' : MState}, Good now s s' →
    Good now (ops.foldl emit s) (ops.foldl emit s') := by
  induction ops with
  | nil => intro s s' g; exact g
  | cons op rest ih => intro s s' g; exact ih (emit_good g op)

theorem valOf_good_vis (g : Good now s s') {k : Bytes} (h : (vis now s k).isSome = true) :
    valOf s k = valOf s' k ∧ Api.expOf s k = Api.expOf s' k := by
  obtain ⟨r, hr⟩ := Option.isSome_iff_exists.mp h
  have hr' : vis now s' k = some r := by rw [← g.vis k]; exact hr
  rw [valOf_of_vis hr, valOf_of_vis hr', expOf_of_vis hr, expOf_of_vis hr']
  exact ⟨rfl, rfl⟩

theorem valOf_good (g : Good now s s') {k : Bytes} (h : Hot now s k) :
    valOf s k = valOf s' k ∧ Api.expOf s k = Api.expOf s' k := by
  obtain ⟨r, hr, _⟩ := h
  exact valOf_good_vis g (by rw [hr]; rfl)

theorem runAct_good (g : Good now s s') (k : Bytes) (a : C11.Act) (h : Hot now s k) :
    RSim now (C11.runAct s k a) (C11.runAct s' k a) := by
  have hvis : (vis now s k).isSome = true := by obtain ⟨r, hr, _⟩ := h; rw [hr]; rfl
  cases a with
  | keep r => exact ⟨rfl, g⟩
  | put v' e' ops r =>
    refine ⟨rfl, emits_good ops (signal_good ?_ k)⟩
    have g1 : Good now (C11.optSetVal s k v') (C11.optSetVal s' k v') ∧ Hot now (C11.optSetVal s k v') k := by
      cases v' with
      | none => exact ⟨g, h⟩
      | some v => exact ⟨setVal_good g k v hvis, setVal_hot k v hvis⟩
    cases e' with
    | none => exact g1.1
    | some e => exact setExp_good g1.1 k e g1.2
  | drop v' ops r =>
    exact ⟨rfl, emits_good ops (signal_good (delKey_good (setVal_good g k v' hvis) k) k)⟩

theorem keyTx_good (g : Good now s s') (write : Bool) (mk : Option Val) (miss : Out) (nov : MState → Api.R)
    (dec : Val → Int → C11.Act) (k : Bytes) (hw : write = false → mk = none) :
    RSim now (C11.keyTx write mk miss nov dec s now k) (C11.keyTx write mk miss nov dec s' now k) := by
  have lk : RSim now (C11.access write mk s now k)
        (C11.access write mk s' now k) ∧
      ((C11.access write mk s now k).2 = true →
        Hot now (C11.access write mk s now k).1 k) := by
    cases write with
    | true => exact writeKey_good g k mk
    | false => cases hw rfl; exact readKey_good g k
  obtain ⟨⟨e, g1⟩, hot⟩ := lk
  rcases C11.keyTx_cases write mk miss nov dec s now k hw with ⟨h1, _, e1⟩ | ⟨h1, v, hv, e1⟩ <;>
    rcases C11.keyTx_cases write mk miss nov dec s' now k hw with ⟨h2, _, e2⟩ | ⟨h2, v', hv', e2⟩ <;>
    rw [e1, e2]
  · exact ⟨rfl, g1⟩
  · rw [e, h2] at h1; cases h1
  · rw [e, h2] at h1; cases h1
  · obtain ⟨a, b⟩ := valOf_good g1 (hot h1)
    cases (hv.symm.trans (a.trans hv'))
    rw [← b]
    exact runAct_good g1 k _ (hot h1)

/-- ZREM, ZREMRANGEBYRANK, ZREMRANGEBYSCORE are not key transactions (with nothing removed they still rewrite the value
    and may unlink the key, without signal); their common shape `Proofs.C20.remTx` respects `Good` all the same -/
theorem remTx_good (g : Good now s s') (f : ZSet → ZSet × Int) (op : FeedOp) (k : Bytes) :
    RSim now (C20.remTx f op s now k) (C20.remTx f op s' now k) := by
  obtain ⟨⟨e, g1⟩, hot⟩ := writeKey_good g k none
  unfold C20.remTx
  simp only
  rw [← e]
  cases hok : (writeKey s now k none).2 with
  | false => exact ⟨rfl, g1⟩
  | true =>
    have hvis : (vis now (writeKey s now k none).1 k).isSome = true := by
      obtain ⟨r, hr, _⟩ := hot hok; rw [hr]; rfl
    have ha : Api.asZSet (writeKey s' now k none).1 k = Api.asZSet (writeKey s now k none).1 k := by
      unfold Api.asZSet; rw [(valOf_good g1 (hot hok)).1]
    simp only [Bool.not_true, Bool.false_eq_true, if_false]
    rw [ha]
    cases Api.asZSet (writeKey s now k none).1 k with
    | none => exact ⟨rfl, g1⟩
    | some z =>
      simp only
      have g2 := setVal_good g1 k (.zset (f z).1) hvis
      have g3 : Good now
          (if DsZSet.zCard (f z).1 = 0 then delKey (Api.setVal (writeKey s now k none).1 k (.zset (f z).1)) k
            else Api.setVal (writeKey s now k none).1 k (.zset (f z).1))
          (if DsZSet.zCard (f z).1 = 0 then delKey (Api.setVal (writeKey s' now k none).1 k (.zset (f z).1)) k
            else Api.setVal (writeKey s' now k none).1 k (.zset (f z).1)) := by
        split
        · exact delKey_good g2 k
        · exact g2
      by_cases hc : (f z).2 > 0
      · rw [if_pos hc, if_pos hc]
        exact ⟨rfl, emit_good (signal_good g3 k) op⟩
      · rw [if_neg hc, if_neg hc]
        exact ⟨rfl, g3⟩

/-! ### a write as a record of optional steps (setVal, setExp, delKey, signal, emits): used by no command -/

/-- what a write command does to its key once the lookup succeeded -/
structure Act where
  val : Option Val := none       -- setVal
  exp : Option Int := none       -- setExp
  del : Bool := false            -- delKey
  sig : Bool := false            -- signal
  ops : List FeedOp := []        -- emit
  out : Out

def applyAct (s : MState) (key : Bytes) (a : Act) : Api.R :=
  let s := match a.val with | some v => Api.setVal s key v | none => s
  let s := match a.exp with | some e => Api.setExp s key e | none => s
  let s := if a.del then delKey s key else s
  let s := if a.sig then signal s key else s
  (a.ops.foldl emit s, a.out)

theorem applyAct_out (s : MState) (k : Bytes) (o : Out) : applyAct s k { out := o } = (s, o) := rfl

def expA (key : Bytes) (e : Int) : Act :=
  { exp := some e, sig := true, ops := [Api.opExpire key e], out := .int 1 }

theorem applyAct_expA (s : MState) (k : Bytes) (e : Int) :
    applyAct s k (expA k e) = (Api.applyExp s k e, .int 1) := rfl

set_option hygiene false in
macro "fin_eq" proj:ident : tactic => `(tactic| (
  cases ($proj (valOf s1 k)) with
  | none => rfl
  | some x =>
    first
    | rfl
    | ((try simp only []); split <;> (try simp only [*, if_true, if_false, ne_eq, not_true_eq_false, not_false_eq_true,
          Bool.not_true, Bool.not_false, Bool.false_eq_true]) <;>
        first
        | rfl
        | (split <;> (try simp only [*, if_true, if_false, ne_eq, not_true_eq_false, not_false_eq_true,
            Bool.not_true, Bool.not_false, Bool.false_eq_true]) <;> rfl))))

end NodisVerif.Proofs.C10

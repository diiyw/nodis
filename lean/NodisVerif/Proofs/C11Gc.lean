import NodisVerif.Proofs.C11Prim
import NodisVerif.Proofs.StoreView
import NodisVerif.Proofs.StorePass
/-
  C11 / C12: `persist` and one step of `gc` / `flush` under the storage invariant
  (the step functions are in StorePass.lean, the whole passes and `syncShared` in C11Pass.lean).
  With them the levels of the nil-string condition (`NilOK`, `NilFree`, `NilFreeAt`, `LNil`).
-/
namespace NodisVerif.Proofs.C11
open NodisVerif.Store NodisVerif.Codec NodisVerif.Spec.Persist
open NodisVerif.Proofs.AListLemmas NodisVerif.Proofs.AListLemmas2 NodisVerif.Proofs.C11AList

/-- the entry `storage.Set` files for a hot record -/
def newEnt (s : MState) (k : Bytes) (m : Meta) (v : Val) : DiskEntry :=
  { name := k, exp := m.exp, val := v, kid := if s.pebble then 0 else m.kid, oid := if s.pebble then 0 else m.oid }

/-- what `persist s k m` returns (state, record, success flag) for a hot record holding `v`: it moves the backend
    entries named `k`, the record's `stored` and the fault counter, nothing else -/
structure PersistSpec (s : MState) (k : Bytes) (m : Meta) (v : Val) (r : MState × Meta × Bool) : Prop where
  idx : r.1.index = s.index
  peb : r.1.pebble = s.pebble
  nid : r.1.nextId = s.nextId
  sorted : AList.Sorted r.1.disk
  others : ∀ dk e, e.name ≠ k → (AList.get? r.1.disk dk = some e ↔ AList.get? s.disk dk = some e)
  recEq : r.2.1 = { m with stored := r.2.1.stored }
  ok : r.2.2 = true → s.failSet = 0 ∧ r.1.failSet = 0 ∧ r.2.1.stored = some m.exp ∧
    AList.get? r.1.disk (encodeKey k m.exp) = some (newEnt s k m v) ∧
    ∀ dk e, AList.get? r.1.disk dk = some e → e.name = k → dk = encodeKey k m.exp
  fail : r.2.2 = false → 0 < s.failSet ∧ r.1.failSet = s.failSet - 1 ∧ r.2.1 = m ∧ r.1.disk = s.disk

/-- second step of `persist` (after the successful write): drop the entry filed under another deadline -/
def phase2 (s : MState) (k : Bytes) (m : Meta) : MState :=
  match m.stored with
  | some e => if e ≠ m.exp then diskDelete s k e else s
  | none => s

theorem persist_ok (s : MState) (k : Bytes) (m : Meta) (v : Val) (hf : ¬ s.failSet > 0) (hv : m.value = some v) :
    persist s k m =
      (phase2 { s with disk := AList.set s.disk (encodeKey k m.exp) (newEnt s k m v) } k m,
       { m with stored := some m.exp }, true) := by
  unfold persist diskSet phase2 newEnt
  rw [if_neg hf, hv]
  rfl

theorem persist_false (s : MState) (k : Bytes) (m : Meta) (h : (persist s k m).2.2 = false) :
    persist s k m = ({ s with failSet := s.failSet - 1 }, m, false) := by
  by_cases hf : s.failSet > 0
  · exact persist_fail s k m hf
  · exfalso
    revert h
    unfold persist diskSet
    rw [if_neg hf]
    cases m.value <;> simp

theorem persist_spec {s : MState} {x : Option Bytes} {t : Int} (h : StoreInvX s x t) {k : Bytes} {m : Meta}
    (hm : AList.get? s.index k = some m) {v : Val} (hv : m.value = some v) :
    PersistSpec s k m v (persist s k m) := by
  by_cases hf : s.failSet > 0
  · rw [persist_fail s k m hf]
    exact ⟨rfl, rfl, rfl, h.diskSorted, fun _ _ _ => Iff.rfl, by cases m; rfl, (fun c => by cases c),
      fun _ => ⟨hf, rfl, rfl, rfl⟩⟩
  · rw [persist_ok s k m v hf hv]
    have hf0 : s.failSet = 0 := by omega
    have so1 : AList.Sorted (AList.set s.disk (encodeKey k m.exp) (newEnt s k m v)) :=
      set_preserves_sorted _ h.diskSorted _ _
    -- the final backend: the old one with the new entry, minus the entry under another deadline
    have ph2 : ∃ s2, phase2 { s with disk := AList.set s.disk (encodeKey k m.exp) (newEnt s k m v) } k m = s2 ∧
        s2.index = s.index ∧ s2.pebble = s.pebble ∧ s2.nextId = s.nextId ∧ s2.failSet = s.failSet ∧
        AList.Sorted s2.disk ∧
        (∀ dk, AList.get? s2.disk dk =
          if ∃ e0, m.stored = some e0 ∧ e0 ≠ m.exp ∧ dk = encodeKey k e0 then none
          else if dk = encodeKey k m.exp then some (newEnt s k m v) else AList.get? s.disk dk) := by
      cases hs : m.stored with
      | none =>
        refine ⟨{ s with disk := AList.set s.disk (encodeKey k m.exp) (newEnt s k m v) }, by simp [phase2, hs],
          rfl, rfl, rfl, rfl, so1, fun dk => ?_⟩
        simp [get?_set]
      | some e0 =>
        by_cases he : e0 = m.exp
        · subst he
          refine ⟨{ s with disk := AList.set s.disk (encodeKey k m.exp) (newEnt s k m v) }, by simp [phase2, hs],
            rfl, rfl, rfl, rfl, so1, fun dk => ?_⟩
          simp [get?_set]
        · refine ⟨diskDelete { s with disk := AList.set s.disk (encodeKey k m.exp) (newEnt s k m v) } k e0,
            by simp [phase2, hs, he], rfl, rfl, rfl, rfl, erase_preserves_sorted _ so1 _, fun dk => ?_⟩
          simp only [diskDelete]
          rw [get?_erase _ so1, get?_set]
          by_cases hd0 : dk = encodeKey k e0
          · subst hd0; simp [he]
          · have : ¬ ∃ e1, some e0 = some e1 ∧ e1 ≠ m.exp ∧ dk = encodeKey k e1 := by
              rintro ⟨e1, h1, _, h3⟩
              cases h1
              exact hd0 h3
            simp only [hd0, this, if_false]
    obtain ⟨s2, e2, i2, p2, n2, f2, so2, g2⟩ := ph2
    rw [e2]
    -- entries of the old backend named `k` sit under the deadline the record remembers
    have hold : ∀ dk e, AList.get? s.disk dk = some e → e.name = k →
        m.stored = some e.exp ∧ dk = encodeKey k e.exp := by
      intro dk e he hn
      have := h.ent_of_name he (by rw [hn]; exact hm)
      exact ⟨this.1, by rw [this.2, hn]⟩
    refine ⟨i2, p2, n2, so2, ?_, rfl, fun _ => ⟨hf0, by rw [f2, hf0], rfl, ?_, ?_⟩, (fun c => by cases c)⟩
    · intro dk e hn
      rw [g2]
      split
      · rename_i hex
        obtain ⟨e0, hs, _, hd0⟩ := hex
        exact ⟨(fun hc => by cases hc), fun hc => absurd (h.ent_at (hd0 ▸ hc)).1 hn⟩
      · split
        · rename_i hd
          subst hd
          exact ⟨(fun hc => by cases hc; exact absurd rfl hn), fun hc => absurd (h.ent_at hc).1 hn⟩
        · exact Iff.rfl
    · rw [g2, if_neg, if_pos rfl]
      rintro ⟨e0, hs, hne, hd0⟩
      exact hne (CodecLemmas.encodeKey_inj hd0).2.symm
    · intro dk e he hn
      rw [g2] at he
      split at he
      · cases he
      · rename_i hex
        split at he
        · assumption
        · rename_i hd
          obtain ⟨a, b⟩ := hold dk e he hn
          by_cases hee : e.exp = m.exp
          · exact absurd (by rw [b, hee]) hd
          · exact absurd ⟨e.exp, a, hee, b⟩ hex

theorem step_put {s s1 : MState} {t : Int} {k : Bytes} {m m'' : Meta} (h : StoreInvX s none t)
    (hm : AList.get? s.index k = some m)
    (i1 : s1.index = s.index) (p1 : s1.pebble = s.pebble) (n1 : s1.nextId = s.nextId)
    (so : AList.Sorted s1.disk)
    (others : ∀ dk e, e.name ≠ k → (AList.get? s1.disk dk = some e ↔ AList.get? s.disk dk = some e))
    (ho : m''.oid = m.oid)
    (hrec : RecInv s1.disk s1.pebble none t k m'')
    (hent : ∀ dk e, AList.get? s1.disk dk = some e → e.name = k →
      dk = encodeKey k e.exp ∧ inInt64 e.exp = true ∧ Good e.val ∧ m''.stored = some e.exp)
    (hentOid : s.pebble = false → ∀ dk e, AList.get? s1.disk dk = some e → e.name = k →
      e.oid = m.oid ∨ ∃ dk' e', AList.get? s.disk dk' = some e' ∧ e'.name = k ∧ e'.oid = e.oid) :
    StoreInvX (putMeta s1 k m'') none t := by
  apply frame (k := k) h (fun _ _ a => a)
  case hp => exact p1
  case hn => show s.nextId ≤ s1.nextId; omega
  case hI => simp only [putMeta, i1]; exact set_preserves_sorted _ h.idxSorted _ _
  case hD => exact so
  case hIo => intro k' hk; simp only [putMeta, i1, get?_set, hk, if_false]
  case hDo => exact others
  case hrec => intro m'; simp only [putMeta, get?_set, if_true, Option.some.injEq]; intro e; subst e; exact hrec
  case hent =>
    intro dk e he hn
    obtain ⟨a, b, c, d⟩ := hent dk e he hn
    refine ⟨by rw [a, hn], b, c, m'', ?_, d⟩
    simp [putMeta, get?_set, hn]
  case hoid =>
    intro hp
    have o := h.oids hp
    have fr := o.rec_fresh hm
    have rr := o.recR k m hm
    refine ⟨?_, ?_⟩
    · intro m'; simp only [putMeta, get?_set, if_true, Option.some.injEq]; intro e; subst e
      rw [ho]
      exact ⟨rr.1, by show _ < s1.nextId; omega, fr⟩
    · intro dk e he hn
      rcases hentOid hp dk e he hn with h1 | ⟨dk', e', h1, h2, h3⟩
      · rw [h1]
        exact ⟨rr.1, by show _ < s1.nextId; omega, fr⟩
      · have := o.entR dk' e' h1
        rw [← h3]
        exact ⟨this.1, by show _ < s1.nextId; omega, o.ent_fresh h1 h2⟩

theorem step_lookup_other {s s1 : MState} {t t' : Int} {k : Bytes} {m'' : Meta} (h : StoreInvX s none t)
    (ht : t ≤ t') (i1 : s1.index = s.index) (p1 : s1.pebble = s.pebble)
    (others : ∀ dk e, e.name ≠ k → (AList.get? s1.disk dk = some e ↔ AList.get? s.disk dk = some e))
    (k' : Bytes) (hk : k' ≠ k) : lookup (putMeta s1 k m'') t' k' = lookup s t' k' := by
  refine lookup_frame (k := k) h ht ?_ ?_ k' hk ?_
  · exact p1
  · intro dk e he hn; exact (others dk e hn).mpr he
  · simp only [putMeta, i1, get?_set, hk, if_false]

/-- the nil string does not survive Pebble: the finding region of the eviction theorems.
    The same condition appears at five more levels: `NilFreeAt s now` = `NilOK` of the records of `s`
    alive at `now` (what a pass at `now` needs); `NilFree s` = `NilOK` of all records (gives `NilFreeAt`
    for every `now`: `NilFree.at`); `LNil s t` = on Pebble nothing the store shows from `t` on,
    hot or cold, is nil (follows from `NilFree` by `nilfree_lookup`, gives `NilFreeAt` under the
    invariant by `LNil.at`; it is what commands preserve); and, for what commands write,
    `TxForm.NilSafe` (a transaction keeps `LNil`; C12Seq.lean) with `Cmd.NilOK` (C12Sched.lean: the
    listed commands are `NilSafe`, a `raw` one has to say so; unrelated to this `NilOK` but for the name) -/
def NilOK (pebble : Bool) (m : Meta) : Prop := pebble = true → m.value ≠ some .strNil

def NilFree (s : MState) : Prop := ∀ k m, AList.get? s.index k = some m → NilOK s.pebble m

def NilFreeAt (s : MState) (now : Int) : Prop :=
  ∀ k m, AList.get? s.index k = some m → m.expired now = false → NilOK s.pebble m

theorem NilFree.at {s : MState} (h : NilFree s) (now : Int) : NilFreeAt s now := fun k m hm _ => h k m hm

def LNil (s : MState) (t : Int) : Prop :=
  s.pebble = true → ∀ t', t ≤ t' → ∀ k v e, lookup s t' k = some (v, e) → v ≠ .strNil

theorem LNil.mono {s : MState} {t t' : Int} (h : LNil s t) (ht : t ≤ t') : LNil s t' :=
  fun hp t'' ht'' => h hp t'' (Int.le_trans ht ht'')

theorem LNil.at {s : MState} {t now : Int} (h : StoreInvX s none t) (ht : t ≤ now) (hl : LNil s t) :
    NilFreeAt s now := by
  intro k m hm hal hp hv
  have : lookup s now k = some (.strNil, m.exp) := by
    simp only [lookup, getMeta, hm, Option.bind_some]
    exact view_hot hv (h.recs k m hm).ok hal
  exact hl hp now ht k _ _ this rfl

theorem view_reset {s1 : MState} {t' : Int} {k : Bytes} {m m1 : Meta} {v : Val} {ent : DiskEntry}
    (hv : m.value = some v) (hok : m.isOk = true) (hg : Good v) (hnil : NilOK s1.pebble m)
    (he : m1.exp = m.exp) (hv1 : m1.value = some v)
    (hent : AList.get? s1.disk (encodeKey k m.exp) = some ent) (hh : Holds s1.pebble m v ent) :
    view s1 t' k (resetRec m1) = view s1 t' k m := by
  obtain ⟨f1, _, f3, _, _, _, f7⟩ := resetRec_facts m1
  unfold view
  rw [f1, hok]
  have e2 : (resetRec m1).expired t' = m.expired t' := by simp [Meta.expired, f3, he]
  rw [e2, f3, he]
  by_cases hc : (true && !m.expired t') = true
  · rw [if_pos hc, if_pos hc]
    rcases f7 with f7 | f7
    · rw [f7, hv1, hv]
    · rw [f7, hv]
      rw [hh.load hg (fun hp e => hnil hp (e ▸ hv)) (m' := resetRec m1) (by rw [f3, he]; exact hent)]
      rfl
  · rw [if_neg hc, if_neg hc]

theorem view_hot_congr (s s' : MState) (t' : Int) (k : Bytes) {m m' : Meta} {v : Val}
    (hv : m.value = some v) (hv' : m'.value = some v) (hs : m'.state = m.state) (he : m'.exp = m.exp) :
    view s' t' k m' = view s t' k m := by
  rw [view_hot' s t' k hv, view_hot' s' t' k hv']
  unfold Meta.isOk Meta.expired
  rw [hs, he]

/-- one step of a pass on the record of `k`: the invariant at horizon `t`, and what the store shows from `now` on
    (not from `t` on, as `KeySpec` / `TxSpec` say: a step may drop what is dead at `now`) is as before -/
structure StepSpec (s s' : MState) (t now : Int) (k : Bytes) : Prop where
  inv : StoreInvX s' none t
  peb : s'.pebble = s.pebble
  idx : ∀ k', k' ≠ k → AList.get? s'.index k' = AList.get? s.index k'
  look : ∀ t', now ≤ t' → ∀ k', lookup s' t' k' = lookup s t' k'
  disk : ∀ dk e, e.name ≠ k → (AList.get? s'.disk dk = some e ↔ AList.get? s.disk dk = some e)
  fs0 : s.failSet = 0 → s'.failSet = 0

/-- the record of `k` is flushed: a dead one has nothing in the backend, a live hot one has its
    current value there under its current deadline -/
def RecFlushed (s : MState) (now : Int) (k : Bytes) : Prop :=
  ∀ m, AList.get? s.index k = some m →
    (m.expired now = true → m.stored = none) ∧
    (m.expired now = false → ∀ v, m.value = some v →
      ∃ ent, m.stored = some m.exp ∧ AList.get? s.disk (encodeKey k m.exp) = some ent ∧ Holds s.pebble m v ent)

/-- the record after `persist` differs from `m` in `stored` only (`PersistSpec.recEq`), so it shows the same; after a
    failed write entries and `stored` are as before, after a successful one the one entry of `k` is `newEnt`, which
    `Holds` the value -/
theorem put_after_persist {s : MState} {t now : Int} (h : StoreInvX s none t) (ht : t ≤ now) {k : Bytes}
    {m : Meta} (hm : AList.get? s.index k = some m) {v : Val} (hv : m.value = some v)
    (hmod : m.isModified = true) :
    StepSpec s (putMeta (persist s k m).1 k (persist s k m).2.1) t now k ∧
    ((persist s k m).2.2 = true → m.expired now = false →
      RecFlushed (putMeta (persist s k m).1 k (persist s k m).2.1) now k) := by
  have r := h.recs k m hm
  have ps := persist_spec h hm hv
  generalize persist s k m = pr at ps
  obtain ⟨s1, m1, ok⟩ := pr
  obtain ⟨i1, p1, n1, so, others, rc, pok, pfail⟩ := ps
  simp only at i1 p1 n1 so others rc pok pfail ⊢
  have hm1v : m1.value = some v := by rw [rc]; exact hv
  have hm1e : m1.exp = m.exp := by rw [rc]
  have hm1o : m1.oid = m.oid := by rw [rc]
  have hm1s : m1.state = m.state := by rw [rc]
  have hmod1 : m1.isModified = true := by
    simp only [Meta.isModified, hm1v, hm1s, hv] at hmod ⊢; exact hmod
  have hok1 : m1.isOk = true := by
    have := r.ok; simp only [Meta.isOk, hm1s] at this ⊢; exact this
  have look : ∀ t', now ≤ t' → ∀ k', lookup (putMeta s1 k m1) t' k' = lookup s t' k' := by
    intro t' ht' k'
    by_cases hk : k' = k
    · subst hk
      rw [lookup_putMeta_same]
      simp only [lookup, getMeta, hm, Option.bind_some]
      exact view_hot_congr _ _ _ _ hv hm1v hm1s hm1e
    · exact step_lookup_other h (Int.le_trans ht ht') i1 p1 others k' hk
  have idx : ∀ k', k' ≠ k → AList.get? (putMeta s1 k m1).index k' = AList.get? s.index k' := by
    intro k' hk; simp only [putMeta, i1, get?_set, hk, if_false]
  cases ok with
  | false =>
    obtain ⟨pf0, _, pf⟩ := pfail rfl
    refine ⟨⟨?_, p1, idx, look, others, fun hf => by omega⟩, fun c => by cases c⟩
    apply step_put h hm i1 p1 n1 so others hm1o
    · refine RecInv.hot (v := v) hm1v hok1 (by rw [hm1e]; exact r.expR) (r.good v hv) ?_ (Or.inl hmod1)
      intro e he
      obtain ⟨a, b⟩ := pf
      rw [a] at he; rw [b]; exact r.stored e he
    · intro dk e he hn
      obtain ⟨a, b⟩ := pf
      rw [b] at he
      have q := h.ents dk e he
      have := h.ent_of_name he (by rw [hn]; exact hm)
      exact ⟨by rw [q.key, hn], q.expR, q.good, by rw [a]; exact this.1⟩
    · intro _ dk e he hn
      obtain ⟨_, b⟩ := pf
      rw [b] at he; exact Or.inr ⟨dk, e, he, hn, rfl⟩
  | true =>
    obtain ⟨_, k0, k1, k2, k3⟩ := pok rfl
    have hnew : ∀ dk e, AList.get? s1.disk dk = some e → e.name = k →
        dk = encodeKey k m.exp ∧ e = newEnt s k m v := by
      intro dk e he hn
      have := k3 dk e he hn
      subst this
      rw [k2] at he
      exact ⟨rfl, by simpa using he.symm⟩
    have hholds : Holds s1.pebble m1 v (newEnt s k m v) := by
      refine ⟨fun _ => Or.inl rfl, fun hp => ?_⟩
      rw [p1] at hp
      simp [newEnt, hp, hm1o]
    refine ⟨⟨?_, p1, idx, look, others, fun _ => k0⟩, fun _ hexp0 => ?_⟩
    · apply step_put h hm i1 p1 n1 so others hm1o
      · refine RecInv.hot (v := v) hm1v hok1 (by rw [hm1e]; exact r.expR) (r.good v hv) ?_ (Or.inl hmod1)
        intro e he
        rw [k1] at he; cases he
        exact ⟨_, k2, rfl, rfl⟩
      · intro dk e he hn
        obtain ⟨a, b⟩ := hnew dk e he hn
        subst b
        exact ⟨a, r.expR, r.good v hv, by rw [k1]; rfl⟩
      · intro hp dk e he hn
        obtain ⟨_, b⟩ := hnew dk e he hn
        subst b
        left; simp [newEnt, hp]
    · intro m' hm'
      simp only [putMeta, get?_set, if_true, Option.some.injEq] at hm'
      subst hm'
      refine ⟨fun hd => ?_, fun _ v' hv' => ?_⟩
      · have : m1.expired now = m.expired now := by simp [Meta.expired, hm1e]
        rw [this, hexp0] at hd; cases hd
      · rw [hm1v] at hv'; cases hv'
        exact ⟨_, by rw [k1, hm1e], by rw [hm1e]; exact k2, hholds⟩

theorem StepSpec.trans {s s1 s2 : MState} {t now : Int} {k : Bytes} (a : StepSpec s s1 t now k)
    (b : StepSpec s1 s2 t now k) : StepSpec s s2 t now k :=
  ⟨b.inv, b.peb.trans a.peb, fun k' hk => (b.idx k' hk).trans (a.idx k' hk),
    fun t' ht' k' => (b.look t' ht' k').trans (a.look t' ht' k'),
    fun dk e hn => (b.disk dk e hn).trans (a.disk dk e hn), fun hf => b.fs0 (a.fs0 hf)⟩

/-- `hnil` is needed only for the reload of the evicted value on Pebble (`view_reset`, through `Holds.load`) -/
theorem reset_step {s : MState} {t now : Int} (h : StoreInvX s none t) (ht : t ≤ now) {k : Bytes} {m : Meta}
    (hm : AList.get? s.index k = some m) (hexp0 : m.expired now = false) (hnil : NilOK s.pebble m)
    (hfl : ∀ v, m.value = some v → ∃ ent, m.stored = some m.exp ∧
      AList.get? s.disk (encodeKey k m.exp) = some ent ∧ Holds s.pebble m v ent) :
    StepSpec s (putMeta s k (resetRec m)) t now k := by
  have r := h.recs k m hm
  have hal : m.expired t = false := Meta.alive_anti m ht hexp0
  obtain ⟨f1, f2, f3, f4, f5, _, f7⟩ := resetRec_facts m
  refine ⟨?_, rfl, ?_, ?_, fun _ _ _ => Iff.rfl, fun hf => hf⟩
  · apply inv_putMeta_same h (fun _ _ a => a) hm _ f4 f5
    refine ⟨f1, by rw [f3]; exact r.expR, ?_, by rw [f4]; exact r.stored, ?_, ?_⟩
    · intro v' hv'
      rcases f7 with f7 | f7
      · rw [f7] at hv'; exact r.good v' hv'
      · rw [f7] at hv'; cases hv'
    · intro _ _
      rw [f4, f3]
      cases hv : m.value with
      | none => exact r.cold hal hv
      | some v =>
        obtain ⟨ent, a, _⟩ := hfl v hv
        exact a
    · intro _ _ _ v' hv'
      rcases f7 with f7 | f7
      · rw [f7] at hv'
        obtain ⟨ent, a, b, c⟩ := hfl v' hv'
        exact ⟨ent, by rw [f4, f3]; exact a, by rw [f3]; exact b, c.congr f5⟩
      · rw [f7] at hv'; cases hv'
  · intro k' hk; simp only [putMeta, get?_set, hk, if_false]
  · intro t' ht' k'
    by_cases hk : k' = k
    · subst hk
      rw [lookup_putMeta_same]
      simp only [lookup, getMeta, hm, Option.bind_some]
      cases hv : m.value with
      | none =>
        apply view_ok_congr _ _ _ _ (by rw [f1, r.ok]) f3
        rcases f7 with f7 | f7
        · exact f7
        · rw [f7, hv]
      | some v =>
        obtain ⟨ent, a, b, c⟩ := hfl v hv
        exact view_reset hv r.ok (r.good v hv) hnil rfl hv b c
    · exact lookup_putMeta_other _ _ hk

theorem gcStep_spec {s : MState} {t now : Int} (h : StoreInvX s none t) (ht : t ≤ now) {k : Bytes} {m : Meta}
    (hm : AList.get? s.index k = some m) (hnil : m.expired now = false → NilOK s.pebble m) :
    StepSpec s (gcStep now s (k, m)) t now k ∧
    s.failSet ≤ (gcStep now s (k, m)).failSet + 1 := by
  have r := h.recs k m hm
  unfold gcStep
  simp only [r.ok, Bool.not_true, Bool.or_false]
  by_cases hexp : m.expired now = true
  · -- dead: unlinked with its backend entry
    rw [if_pos hexp]
    have e1 : ({ unpersist s k m with index := AList.erase (unpersist s k m).index k } : MState).index
        = (delKey s k).index := by simp [delKey, hm]
    have e2 : ({ unpersist s k m with index := AList.erase (unpersist s k m).index k } : MState).disk
        = (delKey s k).disk := by simp [delKey, hm]
    have e3 : ({ unpersist s k m with index := AList.erase (unpersist s k m).index k } : MState).pebble
        = (delKey s k).pebble := by simp [delKey, hm]
    have e4 : ({ unpersist s k m with index := AList.erase (unpersist s k m).index k } : MState).nextId
        = (delKey s k).nextId := by simp [delKey, hm]
    have hp : (delKey s k).pebble = s.pebble := by
      simp only [delKey, hm, unpersist]; cases m.stored <;> rfl
    obtain ⟨u1, _, _, u4, _, u6⟩ := unpersist_spec h hm
    refine ⟨{ inv := (inv_delKey h k (fun _ _ => by simp)).congr e1 e2 e3 e4, peb := by rw [e3, hp],
              idx := ?idx, look := ?look, disk := ?disk, fs0 := ?fs0 }, ?budget⟩
    case idx =>
      intro k' hk
      rw [e1]; simp only [delKey, hm]
      simp only [u1, get?_erase _ h.idxSorted, hk, if_false]
    case look =>
      intro t' ht' k'
      rw [lookup_congr e1 e2 e3, StoreView.plookup_delKey _ h.idxSorted]
      by_cases hk : k' = k
      · subst hk
        simp only [if_true, lookup, getMeta, hm, Option.bind_some]
        exact (view_dead (Meta.expired_mono m ht' hexp)).symm
      · simp [hk]
    case disk =>
      intro dk e hn
      show AList.get? (unpersist s k m).disk dk = some e ↔ _
      rw [u6]; exact ⟨fun a => a.1, fun a => ⟨a, hn⟩⟩
    case fs0 => intro hf; show (unpersist s k m).failSet = 0; rw [u4]; exact hf
    case budget =>
      show s.failSet ≤ (unpersist s k m).failSet + 1
      rw [u4]; exact Nat.le_succ _
  · have hexp0 : m.expired now = false := by simpa using hexp
    have hal : m.expired t = false := Meta.alive_anti m ht hexp0
    rw [if_neg hexp]
    by_cases hmod : m.isModified = true
    · -- modified: written first
      rw [if_pos hmod]
      have hsome : m.value.isSome = true := by
        simp only [Meta.isModified, Bool.and_eq_true] at hmod; exact hmod.1
      obtain ⟨v, hv⟩ := Option.isSome_iff_exists.mp hsome
      have ps := persist_spec h hm hv
      have pap := put_after_persist h ht hm hv hmod
      generalize persist s k m = pr at ps pap
      obtain ⟨s1, m1, ok⟩ := pr
      obtain ⟨pap, pfl⟩ := pap
      simp only at pap pfl
      have rc : m1 = { m with stored := m1.stored } := ps.recEq
      have hm1v : m1.value = some v := by rw [rc]; exact hv
      have hm1e : m1.exp = m.exp := by rw [rc]
      cases ok with
      | false =>
        -- the write failed: stays hot, stays modified
        simp only [Bool.not_false, if_true]
        obtain ⟨pf0, pf1, _⟩ := ps.fail rfl
        exact ⟨pap, by show s.failSet ≤ s1.failSet + 1; rw [pf1, Nat.sub_add_cancel pf0]; exact Nat.le_refl _⟩
      | true =>
        -- written as by a flush step, then reset like a clean record
        simp only [Bool.not_true, Bool.false_eq_true, if_false]
        have hm1 : AList.get? (putMeta s1 k m1).index k = some m1 := by simp only [putMeta, get?_set, if_true]
        have hexp1 : m1.expired now = false := by rw [← hexp0]; simp only [Meta.expired, hm1e]
        have rs := reset_step pap.inv ht hm1 hexp1
          (fun hp => by rw [hm1v, ← hv]; exact hnil hexp0 (ps.peb ▸ hp))
          (fun v' hv' => (pfl rfl hexp0 m1 hm1).2 hexp1 v' hv')
        rw [show putMeta s1 k (resetRec m1) = putMeta (putMeta s1 k m1) k (resetRec m1) by
          simp only [putMeta, set_set]]
        exact ⟨pap.trans rs, by rw [(ps.ok rfl).1]; exact Nat.zero_le _⟩
    · -- not modified: reset, maybe evicted
      have hmod0 : m.isModified = false := by simpa using hmod
      rw [if_neg hmod]
      simp only [Bool.not_true, Bool.false_eq_true, if_false]
      exact ⟨reset_step h ht hm hexp0 (hnil hexp0) (fun v hv => r.clean hal (by simp) hmod0 v hv), Nat.le_succ _⟩

/-- The horizon moves to `now`, where `gcStep_spec` keeps `t`: flush keeps a record that is dead at `now` indexed, with
    `stored := none`, which breaks `RecInv.cold` at any horizon where the record is still alive; gc unlinks it. -/
theorem flushStep_spec {s : MState} {now : Int} (h : StoreInvX s none now) {k : Bytes} {m : Meta}
    (hm : AList.get? s.index k = some m) :
    StepSpec s (flushStep now s (k, m)) now now k ∧
    (s.failSet = 0 → RecFlushed (flushStep now s (k, m)) now k) := by
  have r := h.recs k m hm
  unfold flushStep
  simp only [r.ok, Bool.not_true, Bool.or_false]
  by_cases hexp : m.expired now = true
  · rw [if_pos hexp]
    obtain ⟨u1, u2, u3, u4, u5, u6⟩ := unpersist_spec h hm
    have others : ∀ dk e, e.name ≠ k →
        (AList.get? (unpersist s k m).disk dk = some e ↔ AList.get? s.disk dk = some e) := by
      intro dk e hn; rw [u6]; exact ⟨fun a => a.1, fun a => ⟨a, hn⟩⟩
    refine ⟨⟨?_, u2, ?_, ?_, others, fun hf => by show (unpersist s k m).failSet = 0; rw [u4]; exact hf⟩, fun _ => ?_⟩
    · apply step_put (m'' := { m with stored := none }) h hm u1 u2 u3 u5 others rfl
      · refine ⟨r.ok, r.expR, r.good, (fun e he => by cases he), ?_, ?_⟩
        · intro hc; rw [show ({ m with stored := none } : Meta).expired now = m.expired now from rfl, hexp] at hc
          cases hc
        · intro hc; rw [show ({ m with stored := none } : Meta).expired now = m.expired now from rfl, hexp] at hc
          cases hc
      · intro dk e he hn; exact absurd hn ((u6 dk e).mp he).2
      · intro _ dk e he hn; exact absurd hn ((u6 dk e).mp he).2
    · intro k' hk; simp only [putMeta, u1, get?_set, hk, if_false]
    · intro t' ht' k'
      by_cases hk : k' = k
      · subst hk
        rw [lookup_putMeta_same]
        simp only [lookup, getMeta, hm, Option.bind_some]
        rw [view_dead (Meta.expired_mono m ht' hexp)]
        exact view_dead (m := { m with stored := none }) (Meta.expired_mono m ht' hexp)
      · exact step_lookup_other h ht' u1 u2 others k' hk
    · intro m' hm'
      simp only [putMeta, get?_set, if_true, Option.some.injEq] at hm'
      subst hm'
      refine ⟨fun _ => rfl, fun hc => ?_⟩
      rw [show ({ m with stored := none } : Meta).expired now = m.expired now from rfl, hexp] at hc
      cases hc
  · have hexp0 : m.expired now = false := by simpa using hexp
    rw [if_neg hexp]
    by_cases hmod : m.isModified = true
    · simp only [hmod, Bool.not_true, Bool.false_eq_true, if_false]
      have hsome : m.value.isSome = true := by
        simp only [Meta.isModified, Bool.and_eq_true] at hmod; exact hmod.1
      obtain ⟨v, hv⟩ := Option.isSome_iff_exists.mp hsome
      obtain ⟨a, b⟩ := put_after_persist h (Int.le_refl now) hm hv hmod
      refine ⟨a, fun hf => b ?_ hexp0⟩
      have ps := persist_spec h hm hv
      cases hok : (persist s k m).2.2 with
      | true => rfl
      | false => have := (ps.fail hok).1; omega
    · have hmod0 : m.isModified = false := by simpa using hmod
      simp only [hmod0, Bool.not_false, if_true]
      refine ⟨⟨h, rfl, fun _ _ => rfl, fun _ _ _ => rfl, fun _ _ _ => Iff.rfl, fun hf => hf⟩, fun _ => ?_⟩
      intro m' hm'
      rw [hm] at hm'; cases hm'
      refine ⟨(fun hc => by rw [hexp0] at hc; cases hc), fun _ v hv => ?_⟩
      exact r.clean hexp0 (by simp) hmod0 v hv

end NodisVerif.Proofs.C11

import NodisVerif.Proofs.C09Own
/-
  C09 — schedule-level lemmas: invariants carried along `run` (with `OwnKeeps.refl` / `.trans`, which the induction
  needs); at the end `step_watch`, the step equation of an accepted WATCH.
-/
namespace NodisVerif.Proofs.C08Step
open Resp Server
open NodisVerif.Proofs.AListLemmas2

/-- `P s m` holds for every command `m` of the schedule, `s` being the server state that serves it -/
def AllSteps (H : Table) (P : Server → Cmd → Prop) : Server → List Cmd → Prop
  | _, [] => True
  | sv, m :: rest => P sv m ∧ AllSteps H P (step H sv m).1 rest

/-- `P s m` holds for some command `m` of the schedule, `s` being the server state that serves it -/
def SomeStep (H : Table) (P : Server → Cmd → Prop) : Server → List Cmd → Prop
  | _, [] => False
  | sv, m :: rest => P sv m ∨ SomeStep H P (step H sv m).1 rest

theorem AllSteps.of_forall (H : Table) {P : Server → Cmd → Prop} : ∀ (ms : List Cmd) (sv : Server),
    (∀ m ∈ ms, ∀ s, P s m) → AllSteps H P sv ms := by
  intro ms; induction ms with
  | nil => intro _ _; trivial
  | cons m rest ih => intro sv h; exact ⟨h m (by simp) sv, ih _ (fun m' hm' => h m' (List.mem_cons_of_mem _ hm'))⟩

theorem AllSteps.imp (H : Table) {P Q : Server → Cmd → Prop} (hpq : ∀ s m, P s m → Q s m) :
    ∀ (ms : List Cmd) (sv : Server), AllSteps H P sv ms → AllSteps H Q sv ms := by
  intro ms; induction ms with
  | nil => intro _ _; trivial
  | cons m rest ih => intro sv h; exact ⟨hpq _ _ h.1, ih _ h.2⟩

theorem SomeStep.of_split (H : Table) {P : Server → Cmd → Prop} : ∀ (m1 : List Cmd) (m : Cmd) (m2 : List Cmd) (sv : Server),
    P (run H sv m1).1 m → SomeStep H P sv (m1 ++ m :: m2) := by
  intro m1; induction m1 with
  | nil => intro m m2 sv h; exact Or.inl h
  | cons a rest ih => intro m m2 sv h; exact Or.inr (ih m m2 _ h)

theorem SomeStep.split (H : Table) {P : Server → Cmd → Prop} : ∀ (ms : List Cmd) (sv : Server),
    SomeStep H P sv ms → ∃ m1 m m2, ms = m1 ++ m :: m2 ∧ P (run H sv m1).1 m := by
  intro ms; induction ms with
  | nil => intro _ h; exact h.elim
  | cons a rest ih =>
    intro sv h
    rcases h with h | h
    · exact ⟨[], a, rest, rfl, h⟩
    · obtain ⟨m1, m, m2, e, hp⟩ := ih _ h
      exact ⟨a :: m1, m, m2, by rw [e]; rfl, hp⟩

def notClearedBy (i : String) (s : Server) (m : Cmd) : Prop := ¬ (m.id = i ∧ clearsWatch s m)

theorem OwnKeeps.refl (id : String) (sv : Server) : OwnKeeps (fun _ => False) id sv sv :=
  ⟨fun _ h => h, fun _ h => h, fun _ h => h.elim⟩

theorem OwnKeeps.trans {T₁ T₂ : Bytes → Prop} {id : String} {a b c : Server}
    (h₁ : OwnKeeps T₁ id a b) (h₂ : OwnKeeps T₂ id b c) : OwnKeeps (fun x => T₁ x ∨ T₂ x) id a c :=
  ⟨fun x h => h₂.reg x (h₁.reg x h), fun x h => h₂.mono x (h₁.mono x h), fun x ht hr => by
    rcases ht with ht | ht
    · exact h₂.mono x (h₁.hit x ht hr)
    · exact h₂.hit x ht (h₁.reg x hr)⟩

theorem run_keeps (H : Table) (i : String) : ∀ (ms : List Cmd) (sv : Server), RegWF sv →
    AllSteps H (notClearedBy i) sv ms →
    OwnKeeps (fun x => SomeStep H (fun s m => stepTouches H s m x) sv ms) i sv (run H sv ms).1 := by
  intro ms; induction ms with
  | nil => intro sv _ _; exact OwnKeeps.refl i sv
  | cons m rest ih =>
    intro sv hwf ha
    exact (step_keeps H hwf m i ha.1).trans (ih _ (hwf.step H m) ha.2)

theorem run_registered_sticky (H : Table) (i : String) (x : Bytes) : ∀ (ms : List Cmd) (sv : Server), RegWF sv →
    registered sv i x → AllSteps H (notClearedBy i) sv ms → registered (run H sv ms).1 i x :=
  fun ms sv hwf h ha => (run_keeps H i ms sv hwf ha).reg x h

theorem run_keeps_clean (H : Table) (i : String) : ∀ (ms : List Cmd) (sv : Server), RegWF sv →
    Clean (sv.conn i).watch →
    AllSteps H (fun s m => ∀ x, AList.contains (s.conn i).watch x = true → ¬ stepTouches H s m x) sv ms →
    Clean ((run H sv ms).1.conn i).watch := by
  intro ms; induction ms with
  | nil => intro sv _ h _; exact h
  | cons m rest ih =>
    intro sv hwf h ha
    exact ih _ (hwf.step H m) (step_keeps_clean H hwf m i h ha.1) ha.2

theorem run_keeps_unwatched (H : Table) (i : String) : ∀ (ms : List Cmd) (sv : Server), RegWF sv →
    (sv.conn i).watch = [] → (∀ m ∈ ms, ¬ (m.id = i ∧ m.name = "WATCH")) →
    ((run H sv ms).1.conn i).watch = [] := by
  intro ms; induction ms with
  | nil => intro sv _ h _; exact h
  | cons m rest ih =>
    intro sv hwf h ha
    exact ih _ (hwf.step H m) (step_keeps_unwatched H hwf m i h (ha m (by simp)))
      (fun m' hm' => ha m' (List.mem_cons_of_mem _ hm'))

theorem step_watch (H : Table) (sv : Server) (c : Cmd) (hn : c.name = "WATCH")
    (hacc : (sv.conn c.id).state % 2 ≠ 1) (hne : c.args ≠ []) :
    step H sv c = (watchLoop c.id c.args sv, [okTok]) := by
  simp only [step, dispatch_watch H sv c hn, watch_eq, if_neg hacc]
  rw [if_neg (by simpa using hne)]
  rw [afterHandler_noerr _ _ _ (Or.inl (by simp [okTok, isErr]))]

end NodisVerif.Proofs.C08Step

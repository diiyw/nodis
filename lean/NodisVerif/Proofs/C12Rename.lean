import NodisVerif.Proofs.C12Seq
/-
  C11 / C12: RENAME (two names, the value object moves).  The normal form (`renameTail`, `rename_eq`, and the tail as
  one `putMeta`: `renameTail_dok`, `renameTail_miss`) is at the end of Proofs/KeyTxApi.lean.
-/
namespace NodisVerif.Proofs.C11
open NodisVerif.Store NodisVerif.Codec NodisVerif.Spec.Persist
open NodisVerif.Proofs.AListLemmas NodisVerif.Proofs.AListLemmas2 NodisVerif.Proofs.C11AList

theorem renameRec_facts (base m : Meta) (v : Val) :
    (renameRec base m v).value = some v ∧ (renameRec base m v).exp = m.exp ∧
    (renameRec base m v).isOk = true ∧ (renameRec base m v).isModified = true ∧
    (renameRec base m v).oid = m.oid ∧ (renameRec base m v).stored = base.stored := by
  refine ⟨rfl, rfl, ?_, ?_, rfl, rfl⟩
  · unfold renameRec
    rw [markModified_isOk]
    show ({ base with oid := m.oid }.setValue v).isOk = true
    exact setValue_isOk _ _
  · unfold renameRec
    rw [markModified_isModified]; rfl

theorem delKey_sub {s : MState} {x : Option Bytes} {t : Int} (h : StoreInvX s x t) {k : Bytes} {m : Meta}
    (hm : AList.get? s.index k = some m) :
    (∀ k', AList.get? (delKey s k).index k' = if k' = k then none else AList.get? s.index k') ∧
    (∀ dk e, AList.get? (delKey s k).disk dk = some e → AList.get? s.disk dk = some e ∧ e.name ≠ k) ∧
    (delKey s k).nextId = s.nextId := by
  obtain ⟨u1, _, u3, _, _, u6⟩ := unpersist_spec h hm
  simp only [delKey, hm]
  refine ⟨?_, fun dk e he => (u6 dk e).mp he, u3⟩
  intro k'
  simp only [u1, get?_erase _ h.idxSorted]

structure RenameSpec (s : MState) (t now : Int) (key dst : Bytes) (r : Api.R) : Prop where
  inv : StoreInvX r.1 none t
  peb : r.1.pebble = s.pebble
  reply : r.2 = match lookup s now key with | none => .err true | some _ => .err false
  look : ∀ t', t ≤ t' → ∀ k', lookup r.1 t' k' =
    match lookup s now key with
    | none => lookup s t' k'
    | some c => if key = dst then lookup s t' k' else
        if k' = dst then filt c t' else if k' = key then none else lookup s t' k'

theorem rename_spec {s : MState} {t now : Int} (h : StoreInvX s none t) (ht : t ≤ now) (key dst : Bytes) :
    RenameSpec s t now key dst (Api.rename s now key dst) := by
  rw [rename_eq]
  have ks1 := writeKey_spec h ht key none (fun _ hc => nomatch hc)
  have oi1 := writeKey_otherIdx s now key none
  generalize writeKey s now key none = r1 at ks1 oi1
  obtain ⟨s1, ok⟩ := r1
  simp only at oi1 ⊢
  cases hL : lookup s now key with
  | none =>
    obtain ⟨hok, hl⟩ := ks1.miss hL rfl
    simp only at hok
    simp only [hok, Bool.not_false, if_true]
    refine ⟨ks1.inv, ks1.peb, by simp only [hL], ?_⟩
    intro t' ht' k'
    simp only [hL]
    by_cases hk : k' = key
    · subst hk; exact hl t' ht'
    · exact ks1.other t' ht' k' hk
  | some c =>
    obtain ⟨v, e⟩ := c
    obtain ⟨hok, hl, m, hm, hv, he, hal⟩ := ks1.hit v e hL
    simp only at hok hm
    simp only [hok, Bool.not_true, Bool.false_eq_true, if_false, getMeta, hm]
    have hsame1 : ∀ t', t ≤ t' → ∀ k', lookup s1 t' k' = lookup s t' k' := by
      intro t' ht' k'
      by_cases hk : k' = key
      · subst hk; exact hl t' ht'
      · exact ks1.other t' ht' k' hk
    by_cases hkd : key = dst
    · rw [if_pos hkd]
      refine ⟨ks1.inv, ks1.peb, by simp only [hL], ?_⟩
      intro t' ht' k'
      simp only [hL, if_pos hkd]
      exact hsame1 t' ht' k'
    · rw [if_neg hkd]
      have hdk : dst ≠ key := fun c => hkd c.symm
      have r1 := ks1.inv.recs key m hm
      have ks2 := writeKey_spec ks1.inv ht dst none (fun _ hc => nomatch hc)
      have oi2 := writeKey_otherIdx s1 now dst none key hkd
      generalize writeKey s1 now dst none = r2 at ks2 oi2
      obtain ⟨s2, dok⟩ := r2
      simp only at oi2 ⊢
      have hm2 : AList.get? s2.index key = some m := by rw [oi2]; exact hm
      have hsame2 : ∀ t', t ≤ t' → ∀ k', lookup s2 t' k' = lookup s1 t' k' := by
        intro t' ht' k'
        by_cases hk : k' = dst
        · subst hk
          cases hL2 : lookup s1 now k' with
          | none => exact (ks2.miss hL2 rfl).2 t' ht'
          | some c2 => exact (ks2.hit c2.1 c2.2 hL2).2.1 t' ht'
        · exact ks2.other t' ht' k' hk
      obtain ⟨d1, d2, d3⟩ := delKey_sub ks2.inv hm2
      have i3 : StoreInvX (delKey s2 key) none t := inv_delKey ks2.inv key (fun _ _ => by simp)
      have p3 : (delKey s2 key).pebble = s.pebble := by
        rw [(delKey_fields _ _).1, ks2.peb, ks1.peb]
      have look3 : ∀ t', t ≤ t' → ∀ k', lookup (delKey s2 key) t' k' =
          if k' = key then none else lookup s t' k' := by
        intro t' ht' k'
        rw [StoreView.plookup_delKey _ ks2.inv.idxSorted]
        by_cases hk : k' = key
        · simp [hk]
        · simp only [hk, if_false]; rw [hsame2 t' ht', hsame1 t' ht']
      -- the identity of the moved value object is free once the source is unlinked
      have hfree : s.pebble = false →
          0 < m.oid ∧ m.oid < (delKey s2 key).nextId ∧ OidFree (delKey s2 key) dst m.oid := by
        intro hp
        have o2 := ks2.inv.oids (by rw [ks2.peb, ks1.peb]; exact hp)
        have := o2.recR key m hm2
        refine ⟨this.1, by rw [d3]; exact this.2, ?_, ?_⟩
        · intro k' m' _ hk' ho
          rw [d1] at hk'
          by_cases hkk : k' = key
          · simp [hkk] at hk'
          · simp only [hkk, if_false] at hk'
            exact hkk (o2.recInj k' m' key m hk' hm2 ho)
        · intro dk e' he' _ ho
          obtain ⟨a, b⟩ := d2 dk e' he'
          exact b (o2.entRec dk e' key m a hm2 ho)
      -- publishing `mF` under `dst` on a state that otherwise shows what `delKey s2 key` shows
      have finish : ∀ (S : MState) (mF : Meta) (sg : List Bytes), StoreInvX (putMeta S dst mF) none t →
          S.pebble = s.pebble → mF.value = some v → mF.isOk = true → mF.exp = m.exp →
          (∀ t', t ≤ t' → ∀ k', k' ≠ dst → lookup (putMeta S dst mF) t' k' = lookup (delKey s2 key) t' k') →
          RenameSpec s t now key dst
            (emit { putMeta S dst mF with signalled := sg } { typ := 32, key := key, args := [Bytes.toHex dst] },
              .err false) := by
        intro S mF sg iF pF n1 n3 n2 lF
        obtain ⟨a, b, c, _, _⟩ := emit_fields { putMeta S dst mF with signalled := sg }
          { typ := 32, key := key, args := [Bytes.toHex dst] }
        refine ⟨inv_emits (ops := [_]) (iF.congr (s' := { putMeta S dst mF with signalled := sg }) rfl rfl rfl rfl),
          c.trans pF, by simp only [hL], ?_⟩
        intro t' ht' k'
        simp only [hL, if_neg hkd]
        rw [lookup_congr a b c, show lookup { putMeta S dst mF with signalled := sg } t' k' =
          lookup (putMeta S dst mF) t' k' from lookup_congr rfl rfl rfl _ _]
        by_cases hk : k' = dst
        · subst hk
          simp only [if_true]
          rw [lookup_putMeta_same, view_put n1 n3, n2, he]
        · simp only [hk, if_false]
          rw [lF t' ht' k' hk, look3 t' ht']
      cases dok with
      | true =>
        -- the destination exists: it is overwritten in place
        have hL2 : ∃ c2, lookup s1 now dst = some c2 := by
          cases hL2 : lookup s1 now dst with
          | none => have := (ks2.miss hL2 rfl).1; simp at this
          | some c2 => exact ⟨c2, rfl⟩
        obtain ⟨c2, hL2⟩ := hL2
        obtain ⟨_, _, d, hd, hdv, _, _⟩ := ks2.hit c2.1 c2.2 hL2
        simp only at hd
        have hd3 : AList.get? (delKey s2 key).index dst = some d := by rw [d1]; simp [hdk, hd]
        rw [renameTail_dok hv hd3]
        obtain ⟨n1, n2, n3, n4, n5, n6⟩ := renameRec_facts d m v
        have rd := i3.recs dst d hd3
        have iF : StoreInvX (putMeta (delKey s2 key) dst (renameRec d m v)) none t := by
          apply inv_putMeta i3 (fun _ _ a => a)
          · exact RecInv.hot (v := v) n1 n3 (by rw [n2]; exact r1.expR) (r1.good v hv)
              (by rw [n6]; exact rd.stored) (Or.inl n4)
          · intro dk e' he' hn
            subst hn
            rw [n6]; exact (i3.ent_of_name he' hd3).1
          · intro hp
            rw [p3] at hp
            rw [n5]
            exact hfree hp
        exact finish _ _ _ iF p3 n1 n3 n2 (fun t' _ k' hk => lookup_putMeta_other _ _ hk)
      | false =>
        rw [renameTail_miss hv]
        obtain ⟨n1, n2, n3, n4, n5, n6⟩ :=
          renameRec_facts { exp := m.exp, value := none, kid := (delKey s2 key).nextId } m v
        have ib := inv_bump i3 ((delKey s2 key).nextId + 1) (by omega)
        have iF := inv_install ib dst (mF := renameRec
            { exp := m.exp, value := none, kid := (delKey s2 key).nextId } m v) n1 n3
          (by rw [n2]; exact r1.expR) (r1.good v hv) n4 n6
          (by
            intro hp
            obtain ⟨a, b, c⟩ := hfree (by rw [← p3]; exact hp)
            rw [n5]
            exact ⟨a, by show m.oid < (delKey s2 key).nextId + 1; omega, c.congr rfl rfl⟩)
        exact finish _ _ _ iF ((dropEntries_fields _ dst).2.1.trans p3) n1 n3 n2
          (fun t' _ k' hk => (lookup_install_other _ t' dst _ k' hk).trans (lookup_congr rfl rfl rfl _ _))

theorem rename_sim {t now : Int} {s1 s2 : MState} (h : Sim t s1 s2) (ht : t ≤ now) (key dst : Bytes) :
    (Api.rename s1 now key dst).2 = (Api.rename s2 now key dst).2 ∧
    Sim t (Api.rename s1 now key dst).1 (Api.rename s2 now key dst).1 := by
  have r1 := rename_spec h.inv1 ht key dst
  have r2 := rename_spec h.inv2 ht key dst
  have hL : lookup s1 now key = lookup s2 now key := h.look now ht key
  refine ⟨by rw [r1.reply, r2.reply, hL], r1.inv, r2.inv, ?_⟩
  intro t' ht' k'
  rw [r1.look t' ht', r2.look t' ht', hL, h.look t' ht' k']

theorem rename_lnil {t now : Int} {s : MState} (h : StoreInvX s none t) (ht : t ≤ now) (key dst : Bytes)
    (hl : LNil s t) : LNil (Api.rename s now key dst).1 t := by
  have r := rename_spec h ht key dst
  intro hp t' ht' k' v e hlk
  rw [r.peb] at hp
  rw [r.look t' ht'] at hlk
  cases hL : lookup s now key with
  | none => rw [hL] at hlk; exact hl hp t' ht' k' v e hlk
  | some c =>
    rw [hL] at hlk
    simp only at hlk
    by_cases hkd : key = dst
    · rw [if_pos hkd] at hlk; exact hl hp t' ht' k' v e hlk
    rw [if_neg hkd] at hlk
    by_cases hk : k' = dst
    · -- the destination shows what the source showed
      rw [if_pos hk] at hlk
      have := filt_some hlk
      subst this
      exact hl hp now ht key _ _ hL
    rw [if_neg hk] at hlk
    by_cases hk2 : k' = key
    · rw [if_pos hk2] at hlk; cases hlk
    · rw [if_neg hk2] at hlk; exact hl hp t' ht' k' v e hlk

end NodisVerif.Proofs.C11

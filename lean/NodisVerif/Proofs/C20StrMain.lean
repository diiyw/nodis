import NodisVerif.Proofs.C20Str
/-
  C20, strings and counters: every string writer echoes (`strWrite_echo`), one theorem per form.
-/
namespace NodisVerif.Proofs.C20
open NodisVerif NodisVerif.Store NodisVerif.Spec.Persist NodisVerif.Proofs.C11

variable {now : Int} {p r : MState}

theorem setXX_echo (c : Feed.CallInfo) (hc : plainMethod c.method = true) (k v : Bytes) (keep : Bool) (L : Option (Val × Int))
    (hlive : Live now L) (hnn : ∀ e, L ≠ some (.strNil, e)) :
    Echo now (Feed.emission c) ((Cmd.setXX k v keep).form now) L ∧
      ∀ e, ((Cmd.setXX k v keep).form now).post now L ≠ some (.strNil, e) := by
  let g : DsStr.S → Option (Option Val × Option Int × List FeedOp × Out) :=
    fun _ => some (some (Val.str v), (if keep then none else some (0 : Int)), [Api.opSet k v keep], Out.bool true)
  have hrec : ∀ (s : DsStr.S) x, g s = some x → StrRec c k x := by
    intro _ x hx
    cases hx
    exact strRec_plain hc k v keep 0 (by decide) (fun _ => rfl) _
  exact strWrite_echo c (fun out => emission_plain hc out []) ((Cmd.setXX k v keep).form now)
    g (fun _ => .panic) rfl (some []) (Or.inr rfl) (fun b x hx => hrec (some b) x hx) (fun x hx => hrec (some []) x hx)
    L hlive hnn (fun h => nomatch h)

theorem setEx_echo (c : Feed.CallInfo) (hc : plainMethod c.method = true) (k v : Bytes) (e : Int)
    (he : inInt64 e = true) (L : Option (Val × Int))
    (hlive : Live now L) (hnn : ∀ e, L ≠ some (.strNil, e)) :
    Echo now (Feed.emission c) (setExForm k v e) L ∧
      ∀ e', (setExForm k v e).post now L ≠ some (.strNil, e') := by
  let g : DsStr.S → Option (Option Val × Option Int × List FeedOp × Out) :=
    fun _ => some (some (Val.str v), some e, [Api.opSet k v false e], Out.unit)
  have hrec : ∀ (s : DsStr.S) x, g s = some x → StrRec c k x := by
    intro _ x hx
    cases hx
    exact strRec_plain hc k v false e he (fun h => nomatch h) _
  exact strWrite_echo c (fun out => emission_plain hc out []) (setExForm k v e)
    g (fun _ => .panic) rfl (some []) (Or.inl rfl) (fun b x hx => hrec (some b) x hx) (fun x hx => hrec (some []) x hx)
    L hlive hnn (fun _ _ h => nomatch h)

theorem addInt_some' {x : DsStr.S} {d : Int} {v' : DsStr.S} {n : Int} (h : DsStr.addInt x d = some (v', n)) :
    v' = some (formatInt n) := by
  unfold DsStr.addInt at h
  simp only at h
  split at h
  · cases h
  · split at h
    · simp only [Option.some.injEq, Prod.mk.injEq] at h
      rw [← h.1, ← h.2]
    · cases h

/-- the counter fails on a key it has just created: finding region of Incr / IncrBy / Decr / DecrBy -/
def AddIntCreatesAndFails (L : Option (Val × Int)) (delta : Int) (neg : Bool) : Prop :=
  L = none ∧ (if neg then DsStr.decr (some []) delta else DsStr.incr (some []) delta) = none

instance (L : Option (Val × Int)) (delta : Int) (neg : Bool) : Decidable (AddIntCreatesAndFails L delta neg) := by
  unfold AddIntCreatesAndFails; exact inferInstance

theorem addInt_echo (c : Feed.CallInfo) (hc : Feed.keepTTLMethods.contains c.method = true) (k : Bytes) (delta : Int)
    (neg : Bool) (L : Option (Val × Int))
    (hlive : Live now L) (hnn : ∀ e, L ≠ some (.strNil, e)) (hcov : ¬ AddIntCreatesAndFails L delta neg) :
    Echo now (Feed.emission c) ((Cmd.incrBy k delta neg).form now) L ∧
      ∀ e, ((Cmd.incrBy k delta neg).form now).post now L ≠ some (.strNil, e) := by
  let g : DsStr.S → Option (Option Val × Option Int × List FeedOp × Out) :=
    fun v => match (if neg then DsStr.decr v delta else DsStr.incr v delta) with
      | none => none
      | some (v', n) => some (some (Api.strVal v'), (none : Option Int), [Api.opSet k (formatInt n) false],
          Out.many [.int n, .err false])
  have hrec : ∀ s x, g s = some x → StrRec c k x := by
    intro s x hx
    simp only [g] at hx
    split at hx
    · cases hx
    · rename_i v' n heq
      simp only [Option.some.injEq] at hx; subst hx
      have hv : v' = some (formatInt n) := by
        cases neg
        · exact addInt_some' (by simpa [DsStr.incr] using heq)
        · exact addInt_some' (by simpa [DsStr.decr] using heq)
      subst hv
      exact strRec_keep hc k _ _
  refine strWrite_echo c (emission_keep_nil hc) ((Cmd.incrBy k delta neg).form now)
    g (fun _ => .many [.int 0, .err true]) rfl (some []) (Or.inl rfl)
    (fun b x hx => hrec (some b) x hx) (fun x hx => hrec (some []) x hx) L hlive hnn ?_
  intro _ hL hg
  apply hcov
  refine ⟨hL, ?_⟩
  simp only [g] at hg
  split at hg
  · assumption
  · cases hg

theorem append_echo (c : Feed.CallInfo) (hc : Feed.keepTTLMethods.contains c.method = true) (k v : Bytes) (L : Option (Val × Int))
    (hlive : Live now L) (hnn : ∀ e, L ≠ some (.strNil, e)) :
    Echo now (Feed.emission c) ((Cmd.append k v).form now) L ∧
      ∀ e, ((Cmd.append k v).form now).post now L ≠ some (.strNil, e) := by
  let g : DsStr.S → Option (Option Val × Option Int × List FeedOp × Out) :=
    fun s => some (some (Api.strVal (DsStr.append s v).1), (none : Option Int),
      [Api.opSet k (DsStr.bytes (DsStr.append s v).1) false], Out.int (DsStr.append s v).2)
  have hrec : ∀ b x, g (some b) = some x → StrRec c k x := by
    intro b x hx
    cases hx
    exact strRec_keep hc k (b ++ v) _
  exact strWrite_echo c (emission_keep_nil hc) ((Cmd.append k v).form now)
    g (fun _ => .panic) rfl (some []) (Or.inl rfl) hrec (hrec []) L hlive hnn (fun _ _ h => nomatch h)

theorem setBit_fst_some (b : Bytes) (offset : Int) (value : Bool) :
    ∃ w, (DsStr.setBit (some b) offset value).1 = some w := by
  unfold DsStr.setBit
  by_cases ho : offset < 0
  · rw [if_pos ho]; exact ⟨b, rfl⟩
  · rw [if_neg ho]
    simp only
    split <;> exact ⟨_, rfl⟩

theorem setBit_echo (c : Feed.CallInfo) (hc : Feed.keepTTLMethods.contains c.method = true) (k : Bytes) (offset : Int)
    (value : Bool) (L : Option (Val × Int))
    (hlive : Live now L) (hnn : ∀ e, L ≠ some (.strNil, e)) :
    Echo now (Feed.emission c) (setBitF k offset value) L ∧
      ∀ e, (setBitF k offset value).post now L ≠ some (.strNil, e) := by
  let g : DsStr.S → Option (Option Val × Option Int × List FeedOp × Out) :=
    fun s => some (some (Api.strVal (DsStr.setBit s offset value).1), (none : Option Int),
      [Api.opSet k (DsStr.bytes (DsStr.setBit s offset value).1) false], Out.int (DsStr.setBit s offset value).2)
  have hrec : ∀ b x, g (some b) = some x → StrRec c k x := by
    intro b x hx
    simp only [g, Option.some.injEq] at hx; subst hx
    obtain ⟨w, hw⟩ := setBit_fst_some b offset value
    refine ⟨w, true, 0, by simp [hw, Api.strVal], by decide, ?_, rfl, fun _ => rfl⟩
    simp only [hw, DsStr.bytes, Option.getD_some]
    exact emission_keep hc _ _ _ _ _
  exact strWrite_echo c (emission_keep_nil hc) (setBitF k offset value)
    g (fun _ => .panic) rfl (some []) (Or.inl rfl) hrec (hrec []) L hlive hnn (fun _ _ h => nomatch h)

theorem setRange_snd_some {b : Bytes} {offset : Int} {value : Bytes} {v' : DsStr.S} {n : Int}
    (h : DsStr.setRange (some b) offset value = some (v', n)) : ∃ w, v' = some w := by
  unfold DsStr.setRange at h
  by_cases ho : offset < 0
  · rw [if_pos ho] at h
    simp only [Option.some.injEq, Prod.mk.injEq] at h; exact ⟨b, h.1.symm⟩
  · rw [if_neg ho] at h
    -- past the two guards the new value is `some v2`
    have h2 := (Option.ite_none_left_eq_some.mp (Option.ite_none_left_eq_some.mp h).2).2
    simp only [Option.some.injEq, Prod.mk.injEq] at h2; exact ⟨_, h2.1.symm⟩

/-- SETRANGE panics on a key it has just created: finding region -/
def SetRangeCreatesAndPanics (L : Option (Val × Int)) (offset : Int) (value : Bytes) : Prop :=
  L = none ∧ DsStr.setRange (some []) offset value = none

instance (L : Option (Val × Int)) (offset : Int) (value : Bytes) :
    Decidable (SetRangeCreatesAndPanics L offset value) := by
  unfold SetRangeCreatesAndPanics; exact inferInstance

theorem setRange_echo (c : Feed.CallInfo) (hc : Feed.keepTTLMethods.contains c.method = true) (k : Bytes) (offset : Int)
    (value : Bytes) (L : Option (Val × Int))
    (hlive : Live now L) (hnn : ∀ e, L ≠ some (.strNil, e)) (hcov : ¬ SetRangeCreatesAndPanics L offset value) :
    Echo now (Feed.emission c) (setRangeF k offset value) L ∧
      ∀ e, (setRangeF k offset value).post now L ≠ some (.strNil, e) := by
  let g : DsStr.S → Option (Option Val × Option Int × List FeedOp × Out) :=
    fun s => match DsStr.setRange s offset value with
      | none => none
      | some (v', n) => some (some (Api.strVal v'), (none : Option Int), [Api.opSet k (DsStr.bytes v') false],
          Out.int n)
  have hrec : ∀ b x, g (some b) = some x → StrRec c k x := by
    intro b x hx
    simp only [g] at hx
    split at hx
    · cases hx
    · rename_i v' n heq
      simp only [Option.some.injEq] at hx; subst hx
      obtain ⟨w, rfl⟩ := setRange_snd_some heq
      exact strRec_keep hc k w _
  refine strWrite_echo c (emission_keep_nil hc) (setRangeF k offset value)
    g (fun _ => .panic) rfl (some []) (Or.inl rfl) hrec (hrec []) L hlive hnn ?_
  intro _ hL hg
  apply hcov
  refine ⟨hL, ?_⟩
  simp only [g] at hg
  split at hg
  · assumption
  · cases hg

/-- INCRBYFLOAT leaves the model's arithmetic on a key it has just created: region excluded -/
def IncrByFloatCreatesAndFails (L : Option (Val × Int)) (delta : F64) : Prop :=
  L = none ∧ ∀ x, ibfCalc (some []) delta ≠ .inl x

theorem incrByFloat_echo (c : Feed.CallInfo) (hc : Feed.keepTTLMethods.contains c.method = true) (k : Bytes)
    (delta : F64) (L : Option (Val × Int))
    (hlive : Live now L) (hnn : ∀ e, L ≠ some (.strNil, e)) (hcov : ¬ IncrByFloatCreatesAndFails L delta) :
    Echo now (Feed.emission c) (incrByFloatF k delta) L ∧
      ∀ e, (incrByFloatF k delta).post now L ≠ some (.strNil, e) := by
  let g : DsStr.S → Option (Option Val × Option Int × List FeedOp × Out) :=
    fun v => match ibfCalc v delta with
      | .inl (t, sum) => some (some (Val.str t), (none : Option Int), [Api.opSet k t false],
          Out.many [.f64 sum, .err false])
      | .inr _ => none
  have hrec : ∀ b x, g (some b) = some x → StrRec c k x := by
    intro b x hx
    simp only [g] at hx
    split at hx
    · cases hx
      exact strRec_keep hc k _ _
    · cases hx
  refine strWrite_echo c (emission_keep_nil hc) (incrByFloatF k delta)
    g (fun v => match ibfCalc v delta with | .inr o => o | .inl _ => .unit) rfl
    (some []) (Or.inl rfl) hrec (hrec []) L hlive hnn ?_
  intro _ hL hg
  apply hcov
  refine ⟨hL, fun x hx => ?_⟩
  simp only [g, hx] at hg
  cases hg

end NodisVerif.Proofs.C20

import NodisVerif.Proofs.HandlerShape4
import NodisVerif.Proofs.C09Table3
import NodisVerif.Proofs.GeoAddOpt
/-
  C09 (WATCH soundness) for `Handler4.table4`: every closure a handler of CLIENT / CONFIG / INFO / QUIT /
  GEOADD / GEOHASH / GEOPOS / GEODIST / GEORADIUS / GEORADIUSBYMEMBER hands to `execCommand` tells the
  watchers about every key whose logical content it changes (`SignalsChanges`).  The reads never write
  (`Frame []` through `readKey` alone); GEOADD signals its key after the last `ZAdd`.  The table is walked once
  (`HandlerShape.table4_elim`); the two radius queries are in normal form (HandlerShape4.lean).

  Left out of the table-level theorem (`table4Safe`): SAVE — `Store.flush` rewrites every record's
  persistence bookkeeping (it puts back the record it read from the index at the start of the pass); that
  this leaves the logical content alone needs the index invariant "keys are distinct" and is not proved
  here (it is C11 / C12's subject).
  GEOADD with `NX` or `XX` as argument 1 would build a closure around `GeoAddNX` (which creates the key
  without signalling, docs/WP-D-findings.md D-8) or `GeoAddXX`; `GeoAddOpt.geoAddH_opt_not_exec` shows that the handler
  never gets that far (the option word is parsed as a longitude and rejected), so nothing is left out there.
-/

namespace NodisVerif.Proofs.C08Step.T4
open Resp Server
open NodisVerif NodisVerif.Store NodisVerif.Api
open NodisVerif.Proofs.C09Writers
open NodisVerif.Proofs.C08Step.T3
open NodisVerif.Handler3 (Pre)

theorem frame_emits {D : List Bytes} {s : MState} (key : Bytes) : ∀ (items : List (Bytes × F64)) (s1 : MState),
    Frame D s s1 → Frame D s (items.foldl (fun s it => emit s (opZAdd key it.1 it.2)) s1)
  | [], _, h => h
  | _ :: rest, _, h => frame_emits key rest _ (h.emit _)

theorem frame_geoAdd (s : MState) (hp : s.pebble = true) (now : Int) (key : Bytes) (items : List (Bytes × F64)) :
    Frame [] s (Handler4.geoAdd s now key items).1 := by
  unfold Handler4.geoAdd
  wk_some s now key (Val.zset DsZSet.empty) with s1 ok hl h hv
  · split
    · exact h.signal key
    · split
      · exact h
      · exact frame_emits key _ _ ((h.setVal hp _ _).signal key)
  · split
    · exact h.signal key
    · simp only [asZSet_of_valOf hv]
      exact frame_emits key _ _ ((h.setVal hp _ _).signal key)

theorem execSignals_geoAddH (args : List Bytes) (hreg : ¬ (opt args "NX" = 1 ∨ opt args "XX" = 1)) :
    ExecSignals (Handler4.geoAddH args) := by
  have hn : ¬ opt args "NX" = 1 := fun e => hreg (Or.inl e)
  have hx : ¬ opt args "XX" = 1 := fun e => hreg (Or.inr e)
  unfold Handler4.geoAddH
  refine execSignals_ite execSignals_err ?_
  split
  · exact execSignals_err
  · dsimp only
    refine execSignals_ite execSignals_err (execSignals_ite execSignals_err ?_)
    generalize Handler4.parseItems _ = p
    cases p with
    | ok items =>
      rw [if_neg hn, if_neg hx]
      exact execSignals_exec (signals_of_frame fun st now _ hp =>
        frame_call _ _ (fun _ _ => rfl) (frame_geoAdd st hp now _ _))
    | err => exact execSignals_err
    | crash => exact execSignals_crash
    | unsup => exact execSignals_exec (signals_of_frame fun st _ _ _ => Frame.refl _ st)

theorem signals_geoAddH (args : List Bytes) : ExecSignals (Handler4.geoAddH args) := fun b h => by
  by_cases hreg : opt args "NX" = 1 ∨ opt args "XX" = 1
  · exact absurd h (NodisVerif.Proofs.GeoAddOpt.geoAddH_opt_not_exec args hreg b)
  · exact execSignals_geoAddH args hreg b h

theorem signals_geoHashH (args : List Bytes) : ExecSignals (Handler4.geoHashH args) := by
  unfold Handler4.geoHashH
  split
  · next key m0 ms =>
    refine execSignals_exec (signals_of_frame fun st now _ hp => ?_)
    rk st now key with s1 ok h
    refine frame_ite_store h ?_
    split <;> exact h
  · exact execSignals_err

theorem signals_geoPosH (args : List Bytes) : ExecSignals (Handler4.geoPosH args) := by
  unfold Handler4.geoPosH
  split
  · next key m0 ms =>
    refine execSignals_exec (signals_of_frame fun st now _ hp => ?_)
    rk st now key with s1 ok h
    refine frame_ite_store h ?_
    split <;> exact h
  · exact execSignals_err

theorem signals_geoDistH (args : List Bytes) : ExecSignals (Handler4.geoDistH args) := by
  unfold Handler4.geoDistH
  split
  · next key m1 m2 _ =>
    refine execSignals_exec (signals_of_frame fun st now _ hp => ?_)
    rk st now key with s1 ok h
    refine frame_ite_store h ?_
    split
    · exact h
    · split
      · exact frame_ite_store h h
      · exact h
  · exact execSignals_err

theorem Special4.signals {r : HRes} (h : HandlerShape.Special4 r) : ExecSignals r := by
  cases h with
  | radius args key lon lat =>
    refine execSignals_exec (signals_of_frame fun st now _ hp => ?_)
    rk st now key with s1 ok h
    refine frame_ite_store h (frame_ite_store h ?_)
    split <;> exact h
  | radiusByMember args key member =>
    refine execSignals_exec (signals_of_frame fun st now _ hp => ?_)
    rk st now key with s1 ok h
    refine frame_ite_store h ?_
    split
    · exact h
    · split
      · exact h
      · exact frame_ite_store h h

theorem signals_client (args : List Bytes) : ExecSignals (Handler4.client args) := by
  unfold Handler4.client
  split
  · exact execSignals_err
  · exact execSignals_exec (signals_of_frame fun st _ _ _ =>
      frame_ite_store (Frame.refl _ _) (frame_ite_store (Frame.refl _ _) (Frame.refl _ _)))

theorem signals_config (args : List Bytes) : ExecSignals (Handler4.config args) := by
  unfold Handler4.config
  split
  · exact execSignals_exec (signals_of_frame fun st _ _ _ => frame_ite_store (Frame.refl _ _) (Frame.refl _ _))
  · exact execSignals_err

theorem signals_info : ExecSignals Handler4.info :=
  execSignals_exec (signals_of_frame fun st _ _ _ => Frame.refl _ st)

theorem signals_quit : ExecSignals Handler4.quit :=
  execSignals_exec (signals_of_frame fun st _ _ _ => Frame.refl _ st)

/-- `Handler4.table4` without SAVE (not proved) -/
def table4Safe : Table := fun name args => if name = "SAVE" then none else Handler4.table4 name args

theorem table4Safe_signals : TableSignals table4Safe := by
  intro name args b h
  unfold table4Safe at h
  split at h
  · cases h
  · next hsave =>
    exact HandlerShape.table4_elim (P := fun name _ r => ¬ name = "SAVE" → ExecSignals r)
      (fun s _ => s.signals fun _ => Special4.signals)
      (fun a _ => signals_client a) (fun a _ => signals_config a) (fun _ _ => signals_info) (fun _ _ => signals_quit)
      (fun _ hs => absurd rfl hs) (fun a _ => signals_geoAddH a) (fun a _ => signals_geoHashH a)
      (fun a _ => signals_geoPosH a) (fun a _ => signals_geoDistH a) name args _ h hsave b rfl

end NodisVerif.Proofs.C08Step.T4

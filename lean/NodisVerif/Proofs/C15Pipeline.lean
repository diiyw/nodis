import NodisVerif.Proofs.C15Parse
import NodisVerif.Proofs.C15Congr
/-
  C15 (§3 and §5 of Props/C15.lean): pipelines through the per-connection loop; independence of connections.
-/
namespace NodisVerif.Proofs.C15
open Resp RespReader Spec.RespEnc

/-- what a client can send as one command within the protocol limits: every bulk at most 512 MiB
    (`maxBulk`), element count an int64 -/
def Encodable (name : Bytes) (args : List Bytes) : Prop :=
  (name.length : Int) ≤ maxBulk ∧ (∀ a ∈ args, (a.length : Int) ≤ maxBulk) ∧
  ((1 + args.length : Nat) : Int) ≤ int64Max

/-- the command the server must act on -/
def expected (c : Bytes × List Bytes) : Cmd := { name := upper c.1, args := c.2 }

theorem readAll_eof (src : Source) (h : srcFlat src = []) (f : Nat) (acc : List Cmd) :
    readAll src (f + 1) acc = (acc.reverse, some .eof, false) := by
  have : readCommand src = .err .eof { src := src } := by
    simp only [readCommand, readByte_nil (st := { src := src }) h]
  simp only [readAll, this]

theorem readAll_pipeline_prefix : ∀ (cmds : List (Bytes × List Bytes)) (rest : Bytes) (src : Source)
    (f : Nat) (acc : List Cmd), (∀ c ∈ cmds, Encodable c.1 c.2) →
    srcFlat src = encodePipeline cmds ++ rest →
    readAll src (cmds.length + f) acc = readAll [rest] f ((cmds.map expected).reverse ++ acc) := by
  intro cmds
  induction cmds with
  | nil =>
    intro rest src f acc _ hf
    simp only [List.length_nil, Nat.zero_add, List.map_nil, List.reverse_nil, List.nil_append]
    exact readAll_congr f acc (by simpa [encodePipeline] using hf)
  | cons c cs ih =>
    intro rest src f acc hc hf
    have hf' : srcFlat src = encodeCommand c.1 c.2 ++ (encodePipeline cs ++ rest) := by
      simpa [encodePipeline] using hf
    obtain ⟨h1, h2, h3⟩ := hc c (by simp)
    obtain ⟨st, e, hs, _⟩ := readCommand_encode c.1 c.2 _ src h1 h2 h3 hf'
    have : (c :: cs).length + f = (cs.length + f) + 1 := by simp; omega
    rw [this]
    conv => lhs; rw [readAll]
    simp only [e]
    rw [ih rest st.src f _ (fun x hx => hc x (by simp [hx])) hs]
    simp only [List.map_cons, List.reverse_cons, List.append_assoc, List.cons_append, List.nil_append, expected]

/-! ### connections: each connection is read by its own goroutine with its own `Reader` -/

structure Conn where
  src  : Source
  cmds : List Cmd := []                       -- most recent first
  done : Option (Option RErr × Bool) := none   -- `some (e, panicked)` once the loop has ended

/-- one iteration of the `handleConn` loop -/
def Conn.step (c : Conn) : Conn :=
  match c.done with
  | some _ => c
  | none =>
    match readCommand c.src with
    | .ok cmd st => { c with src := st.src, cmds := cmd :: c.cmds }
    | .err e _ => { c with done := some (some e, false) }
    | .panic => { c with done := some (none, true) }

def Conn.steps : Nat → Conn → Conn
  | 0, c => c
  | k + 1, c => Conn.steps k c.step

/-- what `readAll` reports for a connection -/
def Conn.result (c : Conn) : List Cmd × Option RErr × Bool :=
  match c.done with
  | some (e, p) => (c.cmds.reverse, e, p)
  | none => (c.cmds.reverse, none, false)

/-- a scheduler run: at each tick the scheduler picks one connection (by number) which then performs
    one loop iteration -/
def runSched (conns : Nat → Conn) : List Nat → (Nat → Conn)
  | [] => conns
  | i :: rest => runSched (fun j => if j = i then (conns j).step else conns j) rest

theorem steps_done (k : Nat) (c : Conn) (x) (h : c.done = some x) : Conn.steps k c = c := by
  induction k with
  | zero => rfl
  | succ k ih => simp only [Conn.steps]; rw [show c.step = c by simp [Conn.step, h]]; exact ih

theorem steps_result : ∀ (k : Nat) (src : Source) (acc : List Cmd),
    (Conn.steps k { src := src, cmds := acc }).result = readAll src k acc := by
  intro k
  induction k with
  | zero => intro src acc; rfl
  | succ k ih =>
    intro src acc
    simp only [Conn.steps, Conn.step, readAll]
    cases readCommand src with
    | ok cmd st => exact ih st.src (cmd :: acc)
    | err e st => simp only; rw [steps_done k _ _ rfl]; rfl
    | panic => simp only; rw [steps_done k _ _ rfl]; rfl

theorem runSched_eq : ∀ (sched : List Nat) (conns : Nat → Conn) (i : Nat),
    runSched conns sched i = Conn.steps (sched.count i) (conns i) := by
  intro sched
  induction sched with
  | nil => intro conns i; rfl
  | cons j rest ih =>
    intro conns i
    simp only [runSched, ih, List.count_cons]
    by_cases h : i = j
    · subst h; simp [Conn.steps]
    · have : ¬ (j == i) = true := by simpa using fun e => h e.symm
      simp [h, this]

end NodisVerif.Proofs.C15

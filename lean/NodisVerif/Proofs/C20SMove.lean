import NodisVerif.Proofs.C20ZRem
import NodisVerif.Proofs.C20Set
/-
  C20, SMOVE: two keys.  The primary removes the member from the source (without a record), adds it
  to the destination (SADD record); `Feed.emission` prepends the SREM record; the replica applies
  SREM source, then SADD destination.  The normal form of the call (`smove_eq`: two write lookups, the silent action
  `smoveRemAct` on the source's hot record, the key transaction `smoveAddF` on the destination) is in Proofs/KeyTxApi.lean.
-/
namespace NodisVerif.Proofs.C20
open NodisVerif NodisVerif.Store NodisVerif.Spec.Persist NodisVerif.Proofs.C11

variable {now : Int} {p r : MState}

theorem smoveAddF_ok (dst member : Bytes) (hb : member.length < 2 ^ 63) : (smoveAddF dst member).OK := by
  refine ⟨(fun h => nomatch h), (fun w h => by cases h; exact good_emptySet), fun w e hg _ => ?_⟩
  cases w with
  | set st =>
    exact ⟨(fun w hw => by cases hw; exact good_sadd [member] (by simpa using hb) st 0 hg), (fun e he => by cases he)⟩
  | _ => trivial

theorem smoveAddF_post (dst member : Bytes) (L : Option (Val × Int)) :
    (smoveAddF dst member).post now L = (saddF now dst [member]).post now L := by
  cases L with
  | none => rfl
  | some c => obtain ⟨v, e⟩ := c; cases v <;> rfl

/-- does SMOVE move anything, given what the two names show -/
def smoveMoves (K : Bytes → Option (Val × Int)) (src dst member : Bytes) : Prop :=
  ∃ st es, K src = some (.set st, es) ∧ DsSet.mem st member = true ∧
    (K dst = none ∨ ∃ d ed, K dst = some (.set d, ed))

/-- the logical keyspace after SMOVE (`moves`: whether it moves anything, `smoveMoves`) -/
def smoveK (now : Int) (K : Bytes → Option (Val × Int)) (src dst member : Bytes) (moves : Bool) :
    Bytes → Option (Val × Int) :=
  if moves then
    upd (upd K src ((sremF now src [member]).post now (K src))) dst
      ((saddF now dst [member]).post now (upd K src ((sremF now src [member]).post now (K src)) dst))
  else K

theorem srem_one (st : AList Unit) (member : Bytes) :
    DsSet.srem st [member] = if DsSet.mem st member then (AList.erase st member, 1) else (st, 0) := by
  simp [DsSet.srem]

theorem asSet_isNone {s : MState} {k : Bytes} {v : Val} (h : valOf s k = some v) :
    (Api.asSet s k).isNone = true ↔ ∀ d, v ≠ .set d := by
  cases v <;> simp [Api.asSet, h]

theorem smove_spec {s : MState} (h : StoreInv s now) (src dst member : Bytes) (hb : member.length < 2 ^ 63) :
    ∃ moves : Bool, (moves = true ↔ smoveMoves (lookup s now) src dst member) ∧
    StoreInv (Api.smove s now src dst member).1 now ∧
    (∀ k', lookup (Api.smove s now src dst member).1 now k' = smoveK now (lookup s now) src dst member moves k') ∧
    (s.listeners = true → fl (Api.smove s now src dst member).1 =
      ((if moves then [opSAdd dst [member]] else []) ++ s.feed, true)) := by
  rw [smove_eq]
  have ht : now ≤ now := Int.le_refl now
  -- four exits leave everything as it was (`stay`): source missing, source not a set, destination of another type,
  -- member absent; the fifth is the move
  have stay : ∀ (sX : MState), StoreInv sX now → (∀ k', lookup sX now k' = lookup s now k') → fl sX = fl s →
      ¬ smoveMoves (lookup s now) src dst member →
      ∃ moves : Bool, (moves = true ↔ smoveMoves (lookup s now) src dst member) ∧ StoreInv sX now ∧
        (∀ k', lookup sX now k' = smoveK now (lookup s now) src dst member moves k') ∧
        (s.listeners = true → fl sX = ((if moves then [opSAdd dst [member]] else []) ++ s.feed, true)) := by
    intro sX hi hlk hf hno
    refine ⟨false, ⟨(fun hc => nomatch hc), fun hc => absurd hc hno⟩, hi, fun k' => by simp [smoveK, hlk k'], fun hl => ?_⟩
    rw [hf]; simp [fl, hl]
  have hfl1 := fl_writeKey s now src none
  cases hL : lookup s now src with
  | none =>
    have ks1 := writeKey_spec h ht src none (fun _ hc => nomatch hc)
    obtain ⟨hok, hl⟩ := ks1.miss hL rfl
    simp only [hok, Bool.not_false, if_true]
    refine stay _ ks1.inv (fun k' => ?_) hfl1 (by rintro ⟨st, es, h1, _⟩; rw [hL] at h1; cases h1)
    by_cases hk : k' = src
    · subst hk; exact hl now ht
    · exact ks1.other now ht k' hk
  | some c =>
    obtain ⟨v, es⟩ := c
    obtain ⟨hok, hvo, i1, hsame1, i2, hsame2, hfl2', ⟨m2, hm2, hv2, he2⟩, hdok, hvod⟩ := twoLookups h src dst hL
    generalize writeKey s now src none = r1 at hok hvo i1 hsame1 i2 hsame2 hfl2' hm2 hdok hvod hfl1
    obtain ⟨s1, ok⟩ := r1
    simp only at hok hvo i1 hsame1 i2 hsame2 hfl2' hm2 hdok hvod hfl1 ⊢
    subst hok
    simp only [Bool.not_true, Bool.false_eq_true, if_false]
    by_cases hnset : ¬ ∃ st, v = .set st
    · have hz : Api.asSet s1 src = none :=
        Option.isNone_iff_eq_none.mp ((asSet_isNone hvo).mpr fun d hd => hnset ⟨d, hd⟩)
      simp only [hz]
      refine stay s1 i1 hsame1 hfl1 ?_
      rintro ⟨st, es', h1, _⟩
      rw [hL] at h1
      simp only [Option.some.injEq, Prod.mk.injEq] at h1
      exact hnset ⟨st, h1.1⟩
    obtain ⟨st, rfl⟩ : ∃ st, v = .set st := Classical.not_not.mp hnset
    have hz : Api.asSet s1 src = some st := by simp [Api.asSet, hvo]
    simp only [hz]
    generalize writeKey s1 now dst none = r2 at i2 hsame2 hfl2' hm2 hdok hvod
    obtain ⟨s2, dok⟩ := r2
    simp only at i2 hsame2 hfl2' hm2 hdok hvod ⊢
    have hchk : (dok && (Api.asSet s2 dst).isNone) = true ↔
        ∃ vd ed, lookup s now dst = some (vd, ed) ∧ ∀ d, vd ≠ .set d := by
      rw [hdok]
      cases hLd : lookup s now dst with
      | none => simp
      | some cd =>
        rw [Option.isSome_some, Bool.true_and, asSet_isNone (hvod cd.1 cd.2 hLd)]
        exact ⟨fun h2 => ⟨cd.1, cd.2, rfl, h2⟩, fun ⟨_, _, h1, h2⟩ => by cases h1; exact h2⟩
    by_cases hbad : (dok && (Api.asSet s2 dst).isNone) = true
    · simp only [hbad, if_true]
      obtain ⟨vd, ed, h1, h2⟩ := hchk.mp hbad
      refine stay s2 i2 hsame2 hfl2' ?_
      rintro ⟨_, _, _, _, h3 | ⟨d, ed', h3⟩⟩
      · rw [h1] at h3; cases h3
      · rw [h1] at h3
        simp only [Option.some.injEq, Prod.mk.injEq] at h3
        exact h2 d h3.1
    · simp only [hbad, Bool.false_eq_true, if_false]
      have hdstok : lookup s now dst = none ∨ ∃ d ed, lookup s now dst = some (.set d, ed) := by
        cases hLd : lookup s now dst with
        | none => left; rfl
        | some cd =>
          obtain ⟨vd, ed⟩ := cd
          right
          cases vd with
          | set d => exact ⟨d, ed, rfl⟩
          | _ => exact absurd (hchk.mpr ⟨_, ed, hLd, fun d hc => by cases hc⟩) hbad
      rw [srem_one]
      by_cases hnmem : ¬ DsSet.mem st member = true
      · -- the member is not there: the value object is rewritten with the same content
        simp only [hnmem, Bool.false_eq_true, if_false, if_true]
        refine stay _ (inv_setVal_same i2 hm2 hv2) (fun k' => ?_) (by rw [fl_setVal]; exact hfl2') ?_
        · rw [lookup_setVal_same i2 hm2 hv2]; exact hsame2 k'
        · rintro ⟨st', es', h1, h2, _⟩
          rw [hL] at h1
          simp only [Option.some.injEq, Prod.mk.injEq, Val.set.injEq] at h1
          rw [← h1.1] at h2
          exact hnmem h2
      · have hmem : DsSet.mem st member = true := Classical.not_not.mp hnmem
        simp only [hmem, if_true]
        have h10 : ¬ ((1 : Int) = 0) := by decide
        simp only [h10, if_false]
        have hgst : Good (.set st) := (i2.recs src m2 hm2).good _ hv2
        have hgrem : Good (.set (DsSet.srem st [member]).1) := good_srem [member] st 0 hgst
        have hgA : (smoveRemAct st member).GoodA := by
          unfold smoveRemAct
          split
          · exact hgrem
          · exact ⟨(fun w hw => by cases hw; exact hgrem), (fun _ hx => nomatch hx)⟩
        obtain ⟨i3, _, _, _, l3⟩ := runAct_spec i2 hm2 hv2 (smoveRemAct st member) hgA
        have hl3 : ∀ k', lookup (runAct s2 src (smoveRemAct st member)).1 now k' =
            upd (lookup s now) src ((sremF now src [member]).post now (lookup s now src)) k' := by
          intro k'
          rw [l3 now ht k', he2, hL]
          unfold smoveRemAct
          by_cases hc : DsSet.scard (DsSet.srem st [member]).1 = 0
          · simp only [hc, if_true, Act.eff, applyEff, upd]
            by_cases hk : k' = src
            · simp [hk, sremF, TxForm.post, TxForm.spec, txSpec, Cmd.form, decSrem, hc, Act.eff]
            · simp only [hk, if_false]; exact hsame2 k'
          · simp only [hc, if_false, Act.eff, applyEff, upd, Option.getD_some, Option.getD_none]
            by_cases hk : k' = src
            · simp [hk, sremF, TxForm.post, TxForm.spec, txSpec, Cmd.form, decSrem, hc, Act.eff]
            · simp only [hk, if_false]; exact hsame2 k'
        obtain ⟨i4, l4⟩ := form_step (smoveAddF_ok dst member hb) i3
        refine ⟨true, ⟨fun _ => ⟨st, es, hL, hmem, hdstok⟩, fun _ => rfl⟩, i4, fun k' => ?_, fun hlis => ?_⟩
        · rw [l4 k']
          simp only [show (smoveAddF dst member).key = dst from rfl, smoveK, if_true]
          rw [smoveAddF_post, hl3 dst]
          by_cases hk : k' = dst
          · subst hk; simp [upd]
          · rw [upd_other _ _ _ hk, upd_other _ _ _ hk, hl3 k']
        · have hfl3 : fl (runAct s2 src (smoveRemAct st member)).1 = fl s := by
            have hl2 : s2.listeners = true := ((fl_eq hfl2').2).trans hlis
            rw [fl_runAct _ _ _ hl2]
            have : Act.ops (smoveRemAct st member) = [] := by unfold smoveRemAct; split <;> rfl
            rw [this]
            simp [fl, ← hlis, show s2.feed = s.feed from (fl_eq hfl2').1]
          have hl3' : (runAct s2 src (smoveRemAct st member)).1.listeners = true :=
            ((fl_eq hfl3).2).trans hlis
          rw [form_feed (smoveAddF_ok dst member hb) i3 hl3']
          rw [show (runAct s2 src (smoveRemAct st member)).1.feed = s.feed from (fl_eq hfl3).1]
          -- the record: the destination is a set or missing after the removal
          have hops : (smoveAddF dst member).ops (lookup (runAct s2 src (smoveRemAct st member)).1 now dst) =
              [opSAdd dst [member]] := by
            rw [hl3 dst]
            by_cases hk : dst = src
            · subst hk
              rw [upd_same, hL]
              have hlive := lookup_filt hL
              by_cases hc : DsSet.scard (DsSet.srem st [member]).1 = 0
              · simp [sremF, TxForm.post, TxForm.spec, txSpec, Cmd.form, decSrem, hc, Act.eff, TxForm.ops,
                  smoveAddF, decSmoveAdd, Act.ops]
              · simp [sremF, TxForm.post, TxForm.spec, txSpec, Cmd.form, decSrem, hc, Act.eff, TxForm.ops,
                  smoveAddF, decSmoveAdd, Act.ops, hlive]
            · rw [upd_other _ _ _ hk]
              rcases hdstok with h0 | ⟨d, ed, h0⟩ <;>
                simp [h0, TxForm.ops, smoveAddF, decSmoveAdd, Act.ops]
          simp only [show (smoveAddF dst member).key = dst from rfl] at hops ⊢
          rw [hops]
          rfl

theorem smoveK_nonil {K : Bytes → Option (Val × Int)} (hK : ∀ k e, K k ≠ some (.strNil, e)) (src dst member : Bytes)
    (moves : Bool) (k : Bytes) (e : Int) : smoveK now K src dst member moves k ≠ some (.strNil, e) := by
  unfold smoveK
  cases moves with
  | false => exact hK k e
  | true =>
    simp only [if_true]
    have h1 : ∀ k e, upd K src ((sremF now src [member]).post now (K src)) k ≠ some (.strNil, e) := by
      intro k e
      by_cases hk : k = src
      · subst hk; rw [upd_same]
        exact post_nonil (Cmd.nilSafe (.srem k [member]) now trivial) now _ (fun e0 => hK k e0) e
      · rw [upd_other _ _ _ hk]; exact hK k e
    by_cases hk : k = dst
    · subst hk; rw [upd_same]
      exact post_nonil (Cmd.nilSafe (.sadd k [member]) now trivial) now _ (fun e0 => h1 k e0) e
    · rw [upd_other _ _ _ hk]; exact h1 k e

theorem emission_smove {c : Feed.CallInfo} (hc : c.method = "SMove") (src dst member : Bytes)
    (hbs : c.bs = [src, dst, member]) (out : Out) :
    Feed.emission c out [opSAdd dst [member]] = [opSRem src [member], opSAdd dst [member]] ∧
    Feed.emission c out [] = [] := by
  unfold Feed.emission
  simp [hc, hbs, Feed.keepTTLMethods, opSRem]

theorem smove_main (hs : Same now p r) (hl : p.listeners = true) (hfd : p.feed = [])
    (c : Feed.CallInfo) (hc : c.method = "SMove") (src dst member : Bytes) (hbs : c.bs = [src, dst, member])
    (hb : member.length < 2 ^ 63) :
    Replay now r c (Api.smove p now src dst member) ∧ (Api.smove p now src dst member).1.listeners = true ∧
    ∀ op ∈ Feed.emission c (Api.smove p now src dst member).2 (Api.smove p now src dst member).1.feed.reverse,
      op.key ∈ [src, dst] := by
  obtain ⟨moves, _, i1, l1, f1⟩ := smove_spec hs.invP src dst member hb
  have f1' := f1 hl
  have hfeed : (Api.smove p now src dst member).1.feed = _ := (fl_eq f1').1
  obtain ⟨e1, e0⟩ := emission_smove hc src dst member hbs (Api.smove p now src dst member).2
  refine ⟨?_, (fl_eq f1').2, ?_⟩
  · unfold Replay
    rw [hfeed, hfd]
    refine main_of i1 l1 (smoveK_nonil hs.nonil src dst member moves) ?_
    have hK : lookup r now = lookup p now := funext hs.look
    cases moves with
    | false =>
      simp only [Bool.false_eq_true, if_false, List.append_nil, List.reverse_nil, e0, smoveK]
      rw [← hK]; exact Replays.nil hs.invR
    | true =>
      simp only [if_true, List.append_nil, List.reverse_cons, List.reverse_nil, List.nil_append, e1, smoveK]
      refine Replays.step ((Acts.of_tx (g := sremF now src [member]) rfl (Cmd.ok (.srem src [member]) now trivial)
        fun r0 => applyOp_srem r0 now src [member]).2 r hs.invR) ?_
      intro r1 i2 l2
      have hr1 : lookup r1 now = upd (lookup p now) src ((sremF now src [member]).post now (lookup p now src)) := by
        funext k; rw [l2 k, hK]; rfl
      have := (Acts.of_tx (g := saddF now dst [member]) rfl
        (Cmd.ok (.sadd dst [member]) now (by intro m hm; simp at hm; subst hm; exact hb))
        fun r0 => applyOp_sadd r0 now dst [member]).2 r1 i2
      rw [hr1] at this
      exact this
  · intro op hop
    rw [hfeed, hfd] at hop
    cases moves with
    | false =>
      simp only [Bool.false_eq_true, if_false, List.append_nil, List.reverse_nil, e0] at hop
      cases hop
    | true =>
      simp only [if_true, List.append_nil, List.reverse_cons, List.reverse_nil, List.nil_append, e1] at hop
      simp only [List.mem_cons, List.not_mem_nil, or_false] at hop
      rcases hop with rfl | rfl <;> simp [opSRem, opSAdd]

end NodisVerif.Proofs.C20

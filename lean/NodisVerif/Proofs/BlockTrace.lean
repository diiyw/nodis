import NodisVerif.Proofs.BlockStep
/-
  Trace invariants of the BLPOP/BRPOP wake-up protocol, each through `trace_local_invariant`: what the history of a
  waiter looks like, given the phase it is in (`NullInv`; `RoundInv`, on the waiter's own actions `proj w es`; `SeenInv`).
  Then `persists`: what the waiter's own steps keep, along a stretch of allowed events.
-/
namespace NodisVerif.Proofs.Block
open NodisVerif.Block

theorem own_of_ne {w : W} {e : Ev} (h : evW e ≠ w) : own w e = false := by
  cases e <;> simp_all [own, evW]

theorem own_notify (w w' : W) (k : Key) : own w (.notify w' k) = false := rfl

/-- the history of a sleeping waiter ends with its `block` (then only pushes and other waiters);
    the history of a waiter that got null: `block w true`, no action of `w`, `timeout w`, then of `w`
    only `unreg` -/
structure NullInv (es : List Ev) (w : W) (st : WSt) : Prop where
  blocked : st.phase = .blocked →
    ∃ pre mid, es = pre ++ .block w st.timed :: mid ∧ ∀ e ∈ mid, own w e = false
  gotNull : st.phase = .gotNull →
    ∃ pre mid post, es = pre ++ .block w true :: (mid ++ .timeout w :: post) ∧
      (∀ e ∈ mid, own w e = false) ∧ (∀ e ∈ post, own w e = true → ∃ k, e = .unreg w k)

theorem nullInv_other (es : List Ev) (w : W) (st : WSt) (e : Ev) (hi : NullInv es w st)
    (hw : evW e ≠ w) : NullInv (es ++ [e]) w st := by
  have ho := own_of_ne hw
  constructor
  · intro hp
    obtain ⟨pre, mid, rfl, hm⟩ := hi.blocked hp
    refine ⟨pre, mid ++ [e], by simp, ?_⟩
    intro e' he'
    rcases List.mem_append.1 he' with h | h
    · exact hm e' h
    · simp only [List.mem_singleton] at h; subst h; exact ho
  · intro hp
    obtain ⟨pre, mid, post, rfl, hm, hpost⟩ := hi.gotNull hp
    refine ⟨pre, mid, post ++ [e], by simp, hm, ?_⟩
    intro e' he' hown
    rcases List.mem_append.1 he' with h | h
    · exact hpost e' h hown
    · simp only [List.mem_singleton] at h; subst h; simp [ho] at hown

theorem nullInv_step (es : List Ev) (o : Option WSt) (e : Ev) (st' : WSt)
    (ho : ∀ st, o = some st → NullInv es (evW e) st)
    (h : lstep o e = some (some st')) : NullInv (es ++ [e]) (evW e) st' := by
  cases e with
  | reg w k =>
    obtain ⟨hp, hr⟩ := lstep_reg.1 h
    cases hr
    constructor
    · exact fun h => absurd (hp.symm.trans h) Phase.noConfusion
    · exact fun h => absurd (hp.symm.trans h) Phase.noConfusion
  | try_ w k got =>
    obtain ⟨st, i, rfl, hp, hk, hr⟩ := lstep_try.1 h
    cases got <;> cases hr <;> exact ⟨nofun, nofun⟩
  | block w t =>
    obtain ⟨st, rfl, hp, hr⟩ := lstep_block.1 h
    cases hr
    constructor
    · intro _; exact ⟨es, [], by simp [evW], by simp⟩
    · exact nofun
  | wake w =>
    obtain ⟨st, rfl, hp, hb, hr⟩ := lstep_wake.1 h
    cases hr
    exact ⟨nofun, nofun⟩
  | timeout w =>
    obtain ⟨st, rfl, hp, hb, hr⟩ := lstep_timeout.1 h
    cases hr
    constructor
    · exact nofun
    · intro _
      obtain ⟨pre, mid, he, hm⟩ := (ho st rfl).blocked hp
      rw [hb] at he
      exact ⟨pre, mid, [], by simp [he, evW], hm, by simp⟩
  | notify w k =>
    obtain ⟨st, rfl, hk, hr⟩ := lstep_notify.1 h
    cases hr
    have hi := ho st rfl
    simp only [evW] at hi ⊢
    constructor
    · intro hp
      obtain ⟨pre, mid, he, hm⟩ := hi.blocked hp
      refine ⟨pre, mid ++ [.notify w k], by simp [he], ?_⟩
      intro e' he'
      rcases List.mem_append.1 he' with h | h
      · exact hm e' h
      · simp only [List.mem_singleton] at h; subst h; rfl
    · intro hp
      obtain ⟨pre, mid, post, he, hm, hpost⟩ := hi.gotNull hp
      refine ⟨pre, mid, post ++ [.notify w k], by simp [he], hm, ?_⟩
      intro e' he' hown
      rcases List.mem_append.1 he' with h | h
      · exact hpost e' h hown
      · simp only [List.mem_singleton] at h; subst h; simp [own] at hown
  | abort w =>
    obtain ⟨st, rfl, hp, hr⟩ := lstep_abort.1 h
    cases hr
    exact ⟨nofun, nofun⟩
  | unreg w k =>
    obtain ⟨st, rfl, hp, hr⟩ := lstep_unreg.1 h
    cases hr
    have hi := ho st rfl
    simp only [evW] at hi ⊢
    constructor
    · intro h; exact absurd h (returned_pos hp).2
    · intro hp
      obtain ⟨pre, mid, post, he, hm, hpost⟩ := hi.gotNull hp
      refine ⟨pre, mid, post ++ [.unreg w k], by simp [he], hm, ?_⟩
      intro e' he' hown
      rcases List.mem_append.1 he' with h | h
      · exact hpost e' h hown
      · simp only [List.mem_singleton] at h; subst h; exact ⟨k, rfl⟩
  | fin w =>
    obtain ⟨st, _, _, hr⟩ := lstep_fin.1 h
    cases hr

theorem nullInv {es : List Ev} {s : BState} (h : runAll [] es = some s) {w : W} {st : WSt}
    (hg : get s w = some st) : NullInv es w st :=
  trace_local_invariant (P := NullInv) nullInv_other nullInv_step h hg

def proj (w : W) (es : List Ev) : List Ev := es.filter (own w)

theorem proj_snoc (w : W) (es : List Ev) (e : Ev) :
    proj w (es ++ [e]) = proj w es ++ (if own w e then [e] else []) := by
  simp only [proj, List.filter_append]
  congr 1
  cases h : own w e <;> simp [h]

theorem proj_snoc_own {w : W} {e : Ev} (es : List Ev) (h : own w e = true) : proj w (es ++ [e]) = proj w es ++ [e] := by
  rw [proj_snoc, if_pos h]

theorem proj_snoc_other {w : W} {e : Ev} (es : List Ev) (h : own w e = false) : proj w (es ++ [e]) = proj w es := by
  rw [proj_snoc, h]; exact List.append_nil _

theorem proj_last (w : W) (pre mid : List Ev) (a : Ev) (ha : own w a = true)
    (hm : ∀ e ∈ mid, own w e = false) : proj w (pre ++ a :: mid) = proj w pre ++ [a] := by
  have : mid.filter (own w) = [] := by
    rw [List.filter_eq_nil_iff]; intro e he; simp [hm e he]
  simp [proj, List.filter_append, ha, this]

theorem last_own_unique {w : W} {pre pre' mid mid' : List Ev} {a a' : Ev}
    (h : pre ++ a :: mid = pre' ++ a' :: mid') (ha : own w a = true) (ha' : own w a' = true)
    (hm : ∀ e ∈ mid, own w e = false) (hm' : ∀ e ∈ mid', own w e = false) : a = a' := by
  have h1 := congrArg (proj w) h
  rw [proj_last w pre mid a ha hm, proj_last w pre' mid' a' ha' hm'] at h1
  have := List.append_inj_right' h1 rfl
  simpa using this

/-- a round of `w` starts when it has registered (the last `reg`) or has been woken -/
def RoundStart (w : W) (e : Ev) : Prop := e = .wake w ∨ ∃ k, e = .reg w k

def failedTries (w : W) (ks : List Key) : List Ev := ks.map (fun k => .try_ w k false)

structure RoundInv (es : List Ev) (w : W) (st : WSt) : Prop where
  /-- at scan position i of a round: since the round started, exactly the first i keys have been
      tried, in order, all without success -/
  scanning : ∀ i, pos st.phase = some i →
    ∃ pre e0, proj w es = pre ++ e0 :: failedTries w (st.keys.take i) ∧ RoundStart w e0
  /-- asleep: the last round tried all keys, in order, without success, then blocked -/
  blocked : st.phase = .blocked →
    ∃ pre e0, proj w es = pre ++ e0 :: (failedTries w st.keys ++ [.block w st.timed]) ∧ RoundStart w e0
  /-- returned an element of k: k is the key at some position i, the round failed on the keys before
      position i and succeeded on k; afterwards the waiter only unregisters -/
  gotElem : ∀ k, st.phase = .gotElem k →
    ∃ pre e0 i post, proj w es = pre ++ e0 :: (failedTries w (st.keys.take i) ++ .try_ w k true :: post) ∧
      RoundStart w e0 ∧ st.keys[i]? = some k ∧ ∀ e ∈ post, ∃ k', e = .unreg w k'
  /-- the round unwound without a result (a pop attempt panicked, or the non-waiting form gave up: see `Returned`): it
      failed on the keys before some position i, then aborted;
      afterwards the waiter only unregisters -/
  aborted : st.phase = .aborted →
    ∃ pre e0 i post, proj w es = pre ++ e0 :: (failedTries w (st.keys.take i) ++ .abort w :: post) ∧
      RoundStart w e0 ∧ ∀ e ∈ post, ∃ k', e = .unreg w k'

theorem roundInv_other (es : List Ev) (w : W) (st : WSt) (e : Ev) (hi : RoundInv es w st)
    (hw : evW e ≠ w) : RoundInv (es ++ [e]) w st := by
  have ho := own_of_ne hw
  have hp := proj_snoc_other es ho
  constructor
  · rw [hp]; exact hi.scanning
  · rw [hp]; exact hi.blocked
  · rw [hp]; exact hi.gotElem
  · rw [hp]; exact hi.aborted

theorem roundInv_step (es : List Ev) (o : Option WSt) (e : Ev) (st' : WSt)
    (ho : ∀ st, o = some st → RoundInv es (evW e) st)
    (h : lstep o e = some (some st')) : RoundInv (es ++ [e]) (evW e) st' := by
  cases e with
  | reg w k =>
    obtain ⟨hp, hr⟩ := lstep_reg.1 h
    cases hr
    have hj := proj_snoc_own es (w := w) (e := .reg w k) (beq_self_eq_true w)
    simp only [evW]
    constructor
    · intro i hi
      simp only [hp, pos, Option.some.injEq] at hi; subst hi
      exact ⟨proj w es, .reg w k, by simp [hj, failedTries], Or.inr ⟨k, rfl⟩⟩
    · exact fun h => absurd (hp.symm.trans h) Phase.noConfusion
    · exact fun _ h => absurd (hp.symm.trans h) Phase.noConfusion
    · exact fun h => absurd (hp.symm.trans h) Phase.noConfusion
  | try_ w k got =>
    obtain ⟨st, i, rfl, hp, hk, hr⟩ := lstep_try.1 h
    have hj := proj_snoc_own es (w := w) (e := .try_ w k got) (beq_self_eq_true w)
    have hi := ho st rfl
    simp only [evW] at hi ⊢
    obtain ⟨pre, e0, he, hs⟩ := hi.scanning i hp
    cases got with
    | true =>
      simp only [if_true, Option.some.injEq] at hr; subst hr
      constructor
      · exact nofun
      · exact nofun
      · intro k' hk'
        simp only [Phase.gotElem.injEq] at hk'; subst hk'
        exact ⟨pre, e0, i, [], by simp [hj, he], hs, hk, by simp⟩
      · exact nofun
    | false =>
      simp only [Bool.false_eq_true, if_false, Option.some.injEq] at hr; subst hr
      have htake : st.keys.take (i + 1) = st.keys.take i ++ [k] := by
        rw [List.take_add_one, hk]; rfl
      constructor
      · intro j hj'
        simp only [pos, Option.some.injEq] at hj'; subst hj'
        exact ⟨pre, e0, by simp [hj, he, htake, failedTries], hs⟩
      · exact nofun
      · exact nofun
      · exact nofun
  | block w t =>
    obtain ⟨st, rfl, hp, hr⟩ := lstep_block.1 h
    cases hr
    have hj := proj_snoc_own es (w := w) (e := .block w t) (beq_self_eq_true w)
    have hi := ho st rfl
    simp only [evW] at hi ⊢
    obtain ⟨pre, e0, he, hs⟩ := hi.scanning _ (by rw [hp]; rfl)
    constructor
    · exact nofun
    · intro _
      exact ⟨pre, e0, by simp [hj, he], hs⟩
    · exact nofun
    · exact nofun
  | wake w =>
    obtain ⟨st, rfl, hp, hb, hr⟩ := lstep_wake.1 h
    cases hr
    have hj := proj_snoc_own es (w := w) (e := .wake w) (beq_self_eq_true w)
    simp only [evW]
    constructor
    · intro i hi
      simp only [pos, Option.some.injEq] at hi; subst hi
      exact ⟨proj w es, .wake w, by simp [hj, failedTries], Or.inl rfl⟩
    · exact nofun
    · exact nofun
    · exact nofun
  | timeout w =>
    obtain ⟨st, rfl, hp, hb, hr⟩ := lstep_timeout.1 h
    cases hr
    constructor
    · exact nofun
    · exact nofun
    · exact nofun
    · exact nofun
  | notify w k =>
    obtain ⟨st, rfl, hk, hr⟩ := lstep_notify.1 h
    cases hr
    have hj := proj_snoc_other es (own_notify w w k)
    have hi := ho st rfl
    simp only [evW] at hi ⊢
    constructor
    · rw [hj]; exact hi.scanning
    · rw [hj]; exact hi.blocked
    · rw [hj]; exact hi.gotElem
    · rw [hj]; exact hi.aborted
  | abort w =>
    obtain ⟨st, rfl, hp, hr⟩ := lstep_abort.1 h
    cases hr
    have hj := proj_snoc_own es (w := w) (e := .abort w) (beq_self_eq_true w)
    have hi := ho st rfl
    simp only [evW] at hi ⊢
    cases hpi : pos st.phase with
    | none => exact absurd hpi hp
    | some i =>
      obtain ⟨pre, e0, he, hs⟩ := hi.scanning i hpi
      constructor
      · exact nofun
      · exact nofun
      · exact nofun
      · intro _
        exact ⟨pre, e0, i, [], by simp [hj, he], hs, by simp⟩
  | unreg w k =>
    obtain ⟨st, rfl, hp, hr⟩ := lstep_unreg.1 h
    cases hr
    have hj := proj_snoc_own es (w := w) (e := .unreg w k) (beq_self_eq_true w)
    have hi := ho st rfl
    simp only [evW] at hi ⊢
    obtain ⟨hp1, hp2⟩ := returned_pos hp
    constructor
    · intro i h; simp only at h; rw [h] at hp1; cases hp1
    · intro h; exact absurd h hp2
    · intro k' hk'
      obtain ⟨pre, e0, i, post, he, hs, hk, hpost⟩ := hi.gotElem k' hk'
      refine ⟨pre, e0, i, post ++ [.unreg w k], by simp [hj, he], hs, hk, ?_⟩
      intro e' he'
      rcases List.mem_append.1 he' with h | h
      · exact hpost e' h
      · simp only [List.mem_singleton] at h; exact ⟨k, h⟩
    · intro hk'
      obtain ⟨pre, e0, i, post, he, hs, hpost⟩ := hi.aborted hk'
      refine ⟨pre, e0, i, post ++ [.unreg w k], by simp [hj, he], hs, ?_⟩
      intro e' he'
      rcases List.mem_append.1 he' with h | h
      · exact hpost e' h
      · simp only [List.mem_singleton] at h; exact ⟨k, h⟩
  | fin w =>
    obtain ⟨st, _, _, hr⟩ := lstep_fin.1 h
    cases hr

theorem roundInv {es : List Ev} {s : BState} (h : runAll [] es = some s) {w : W} {st : WSt}
    (hg : get s w = some st) : RoundInv es w st :=
  trace_local_invariant (P := RoundInv) roundInv_other roundInv_step h hg

/-- `k ∈ seen`: the waiter has made a failed pop attempt on k, and no push to k has been offered to it
    since -/
def SeenInv (es : List Ev) (w : W) (st : WSt) : Prop :=
  ∀ k ∈ st.seen, ∃ pre post, es = pre ++ .try_ w k false :: post ∧ Ev.notify w k ∉ post

theorem seenInv_extend {es : List Ev} {w : W} {st st' : WSt} (e : Ev) (hi : SeenInv es w st)
    (hsub : ∀ k ∈ st'.seen, k ∈ st.seen ∧ e ≠ .notify w k) : SeenInv (es ++ [e]) w st' := by
  intro k hk
  obtain ⟨h1, h2⟩ := hsub k hk
  obtain ⟨pre, post, rfl, hn⟩ := hi k h1
  refine ⟨pre, post ++ [e], by simp, ?_⟩
  intro hmem
  rcases List.mem_append.1 hmem with h | h
  · exact hn h
  · simp only [List.mem_singleton] at h; exact h2 h.symm

theorem seenInv_other (es : List Ev) (w : W) (st : WSt) (e : Ev) (hi : SeenInv es w st)
    (hw : evW e ≠ w) : SeenInv (es ++ [e]) w st :=
  seenInv_extend e hi (fun k hk => ⟨hk, fun he => hw (by rw [he]; rfl)⟩)

theorem seenInv_step (es : List Ev) (o : Option WSt) (e : Ev) (st' : WSt)
    (ho : ∀ st, o = some st → SeenInv es (evW e) st)
    (h : lstep o e = some (some st')) : SeenInv (es ++ [e]) (evW e) st' := by
  rcases lstep_seen h with ⟨k, he, st, rfl, hs⟩ | ⟨k, he, st, rfl, hs⟩ | ⟨hn, hs⟩
  · -- a failed try: the new key has this very event as its witness
    intro k' hk'
    rw [hs, List.mem_cons] at hk'
    rcases hk' with rfl | hk'
    · exact ⟨es, [], by rw [← he], by simp⟩
    · exact seenInv_extend (st' := st) _ (ho st rfl) (fun k hk => ⟨hk, by rw [he]; exact nofun⟩) k' hk'
  · -- a push: its key is no longer seen
    refine seenInv_extend _ (ho st rfl) (fun k' hk' => ?_)
    rw [hs, List.mem_filter, bne_iff_ne, ne_eq] at hk'
    exact ⟨hk'.1, by rw [he]; exact fun h => hk'.2 (Ev.notify.inj h).2.symm⟩
  · cases o with
    | none => intro k hk; rw [hs] at hk; cases hk
    | some st => exact seenInv_extend _ (ho st rfl) (fun k hk => ⟨hs ▸ hk, hn k⟩)

theorem seenInv {es : List Ev} {s : BState} (h : runAll [] es = some s) {w : W} {st : WSt}
    (hg : get s w = some st) : SeenInv es w st :=
  trace_local_invariant (P := SeenInv) seenInv_other seenInv_step h hg

theorem persists {Q : Option WSt → Prop} {ok : Ev → Prop} {w : W}
    (hl : ∀ o e o', evW e = w → ok e → Q o → lstep o e = some o' → Q o')
    {s0 s : BState} {es : List Ev} (h : runAll s0 es = some s) (h0 : Q (get s0 w)) (hok : ∀ e ∈ es, ok e) :
    Q (get s w) := by
  induction es generalizing s0 with
  | nil => cases h; exact h0
  | cons e es ih =>
    simp only [runAll] at h
    cases hse : step s0 e with
    | none => simp [hse] at h
    | some s1 =>
      simp only [hse, Option.bind_some] at h
      refine ih h ?_ (fun e' he' => hok e' (List.mem_cons_of_mem _ he'))
      by_cases hw : w = evW e
      · subst hw
        exact hl _ e _ rfl (hok e List.mem_cons_self) h0 (step_local hse)
      · rw [step_frame hse hw]; exact h0

theorem started_persists {s0 s : BState} {es : List Ev} {w : W} (h : runAll s0 es = some s)
    (h0 : ∃ st, get s0 w = some st ∧ st.phase ≠ .registering) (hfin : Ev.fin w ∉ es) :
    ∃ st, get s w = some st ∧ st.phase ≠ .registering := by
  refine persists (Q := fun o => ∃ st, o = some st ∧ st.phase ≠ .registering) (ok := (· ≠ .fin w)) ?_ h h0
    (fun e he h' => hfin (h' ▸ he))
  rintro _ e o' rfl hne ⟨st, rfl, hp⟩ hl
  cases e with
  | reg w k => obtain ⟨hp', _⟩ := lstep_reg.1 hl; exact absurd hp' hp
  | try_ w k got =>
    obtain ⟨st0, i, h1, _, _, hr⟩ := lstep_try.1 hl
    cases got <;> (simp at hr; exact ⟨_, hr, by simp⟩)
  | block w t => obtain ⟨st0, h1, _, hr⟩ := lstep_block.1 hl; exact ⟨_, hr, by simp⟩
  | wake w => obtain ⟨st0, h1, _, _, hr⟩ := lstep_wake.1 hl; exact ⟨_, hr, by simp⟩
  | timeout w => obtain ⟨st0, h1, _, _, hr⟩ := lstep_timeout.1 hl; exact ⟨_, hr, by simp⟩
  | notify w k => obtain ⟨st0, h1, _, hr⟩ := lstep_notify.1 hl; cases h1; exact ⟨_, hr, by simpa using hp⟩
  | abort w => obtain ⟨st0, h1, _, hr⟩ := lstep_abort.1 hl; exact ⟨_, hr, by simp⟩
  | unreg w k => obtain ⟨st0, h1, _, hr⟩ := lstep_unreg.1 hl; cases h1; exact ⟨_, hr, by simpa using hp⟩
  | fin w => exact absurd rfl hne

theorem gone_persists {s0 s : BState} {es : List Ev} {w : W} (h : runAll s0 es = some s)
    (h0 : get s0 w = none) (hreg : ∀ k, Ev.reg w k ∉ es) : get s w = none := by
  refine persists (Q := (· = none)) (ok := fun e => ∀ k, e ≠ .reg w k) ?_ h h0 (fun e he k h' => hreg k (h' ▸ he))
  rintro _ e o' rfl hne rfl hl
  obtain ⟨w, k, rfl⟩ := lstep_none hl
  exact absurd rfl (hne k)

end NodisVerif.Proofs.Block

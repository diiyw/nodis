import NodisVerif.Proofs.C09Writers
/-
  C09 "writers signal" table, part 2: list, hash and set families, the read-only set algebra and S*STORE (see
  C09Writers.lean for the definitions, the Frame calculus and `frame_keyTx`).
-/

namespace NodisVerif.Proofs.C09Writers
open NodisVerif NodisVerif.Store NodisVerif.Api NodisVerif.Proofs.AListLemmas2

theorem asList_of_valOf {s : MState} {key : Bytes} {l : LList} (hv : valOf s key = some (.list l)) :
    asList s key = some l := by simp [asList, hv]
theorem asHash_of_valOf {s : MState} {key : Bytes} {x : AList Bytes} (hv : valOf s key = some (.hash x)) :
    asHash s key = some x := by simp [asHash, hv]
theorem asSet_of_valOf {s : MState} {key : Bytes} {x : AList Unit} (hv : valOf s key = some (.set x)) :
    asSet s key = some x := by simp [asSet, hv]
theorem valOf_of_asSet {s : MState} {key : Bytes} {x : AList Unit} (h : asSet s key = some x) :
    valOf s key = some (.set x) := by
  unfold asSet at h
  split at h
  · next v hv => cases h; exact hv
  · cases h

section list
variable (s : MState) (hp : s.pebble = true) (now : Int)
include hp

theorem frame_push (left : Bool) (key : Bytes) (values : List Bytes) :
    Frame [] s (Api.push left s now key values).1 := by
  rw [C11.push_eq]
  exact frame_keyTx s hp _ _ _ _ _ now key nofun (fun _ h _ => by cases h; rfl)

theorem frame_pop (left : Bool) (key : Bytes) (count : Int) : Frame [] s (Api.pop left s now key count).1 := by
  rw [C11.pop_eq]
  exact frame_keyTx s hp _ _ _ _ _ now key nofun nofun

theorem frame_linsert (key pivot data : Bytes) (before : Bool) :
    Frame [] s (Api.linsert s now key pivot data before).1 := by
  rw [C20.linsert_eq]
  exact frame_form _ s hp now nofun nofun

theorem frame_pushX (left : Bool) (key data : Bytes) : Frame [] s (Api.pushX left s now key data).1 := by
  rw [C20.pushX_eq]
  exact frame_form _ s hp now nofun nofun

theorem frame_lrem (key data : Bytes) (count : Int) : Frame [] s (Api.lrem s now key data count).1 := by
  rw [C11.lrem_eq]
  exact frame_keyTx s hp _ _ _ _ _ now key nofun nofun

theorem frame_lset (key : Bytes) (index : Int) (data : Bytes) : Frame [] s (Api.lset s now key index data).1 := by
  rw [C20.lset_eq]
  exact frame_form _ s hp now nofun nofun

theorem frame_ltrim (key : Bytes) (start stop : Int) : Frame [] s (Api.ltrim s now key start stop).1 := by
  rw [C11.ltrim_eq]
  exact frame_keyTx s hp _ _ _ _ _ now key nofun nofun

theorem frame_rotate (left : Bool) (src dst : Bytes) : Frame [] s (Api.rotate left s now src dst).1 := by
  rw [C20.rotate_eq]
  have h := frame_writeKey_none s now src
  refine frame_ite h ?_
  split
  · exact h
  · next l _ =>
    have h := h.writeKeyNone now dst
    refine frame_ite h ?_
    split
    · exact h
    · have hr := h.runAct hp src (C20.rotRemAct (C20.rotPop left l).1) nofun fun _ => rfl
      exact hr.trans0 (frame_form _ _ (hr.pebble hp) now nofun fun _ e _ => by cases e; rfl)

end list

section hash
variable (s : MState) (hp : s.pebble = true) (now : Int)
include hp

theorem frame_hset (key field value : Bytes) : Frame [] s (Api.hset s now key field value).1 := by
  rw [C11.hset_eq]
  exact frame_keyTx s hp _ _ _ _ _ now key nofun (fun _ h _ => by cases h; rfl)

theorem frame_hdel (key : Bytes) (fields : List Bytes) : Frame [] s (Api.hdel s now key fields).1 := by
  rw [C11.hdel_eq]
  exact frame_keyTx s hp _ _ _ _ _ now key nofun nofun

theorem frame_hincrby (key field : Bytes) (delta : Int) : Frame [] s (Api.hincrby s now key field delta).1 := by
  rw [C20.hincrby_eq]
  exact frame_form _ s hp now nofun (fun _ h _ => by cases h; rfl)

theorem frame_hsetnx (key field value : Bytes) : Frame [] s (Api.hsetnx s now key field value).1 := by
  rw [C11.hsetnx_eq]
  -- a freshly created hash has no field: `rfl` computes that the "field exists" exit is not taken after a creation
  exact frame_form _ s hp now nofun (fun _ h _ => by cases h; rfl)

theorem frame_hmset (key : Bytes) (pairs : List (Bytes × Bytes)) : Frame [] s (Api.hmset s now key pairs).1 := by
  rw [C20.hmset_eq]
  exact frame_form _ s hp now nofun (fun _ h _ => by cases h; rfl)

end hash

theorem srem_single_zero {st st' : AList Unit} {member : Bytes} {m : Int}
    (h : DsSet.srem st [member] = (st', m)) (hm : m = 0) : st' = st := by
  simp only [DsSet.srem, List.foldl_cons, List.foldl_nil] at h
  split at h
  · cases h; omega
  · cases h; rfl

section set
variable (s : MState) (hp : s.pebble = true) (now : Int)
include hp

theorem frame_sadd (key : Bytes) (members : List Bytes) : Frame [] s (Api.sadd s now key members).1 := by
  rw [C11.sadd_eq]
  exact frame_keyTx s hp _ _ _ _ _ now key nofun (fun _ h _ => by cases h; rfl)

theorem frame_srem (key : Bytes) (members : List Bytes) : Frame [] s (Api.srem s now key members).1 := by
  rw [C11.srem_eq]
  exact frame_keyTx s hp _ _ _ _ _ now key nofun nofun

theorem frame_spop (key : Bytes) (count : Int) (choice : List Bytes) :
    Frame [] s (Api.spop s now key count choice).1 := by
  rw [C20.spop_eq]
  exact frame_form _ s hp now nofun nofun

theorem frame_smove (src dst member : Bytes) : Frame [] s (Api.smove s now src dst member).1 := by
  rw [C20.smove_eq]
  have h := frame_writeKey_none s now src
  refine frame_ite h ?_
  split
  · exact h
  · next st hst =>
    -- the destination probe `writeKey … dst none`: one more closed frame, the source value stays
    have hv2 := (quiet_writeKey_none _ now dst).valOf (valOf_of_asSet hst)
    have h := h.writeKeyNone now dst
    refine frame_ite h ?_
    by_cases hm : (DsSet.srem st [member]).2 = 0
    · -- nothing was removed: the value written back is the value that was there
      rw [if_pos hm, show (DsSet.srem st [member]).1 = st from srem_single_zero rfl hm]
      exact h.trans0 (frame_setVal_same _ (h.pebble hp) src _ hv2)
    · have hr := h.runAct hp src (C20.smoveRemAct st member) nofun fun _ => rfl
      rw [if_neg hm]
      exact hr.trans0 (frame_form _ _ (hr.pebble hp) now nofun fun _ e _ => by cases e; rfl)

end set

/-- an API function that only reads: whatever it returns, no record changes logically -/
def ReadOnly (op : MState → Int → List Bytes → R) : Prop :=
  ∀ (s : MState) (now : Int) (keys : List Bytes), s.pebble = true → Frame [] s (op s now keys).1

theorem frame_sread (f : AList Unit → Out) (d : Out) (s : MState) (now : Int) (key : Bytes) :
    Frame [] s (Api.sread f d s now key).1 := by
  unfold Api.sread
  rk s now key with s1 ok h
  refine frame_ite h ?_
  split <;> exact h

/-- the generic hash reader (HLEN, HKEYS, HVALS, HGETALL, HEXISTS, HSTRLEN, HMGET, HSCAN) -/
theorem frame_hread (f : AList Bytes → Out) (d : Out) (s : MState) (now : Int) (key : Bytes) :
    Frame [] s (Api.hread f d s now key).1 := by
  unfold Api.hread
  rk s now key with s1 ok h
  refine frame_ite h ?_
  split <;> exact h

theorem frame_zread (f : ZSet → Out) (d : Out) (s : MState) (now : Int) (key : Bytes) :
    Frame [] s (Api.zread f d s now key).1 := by
  unfold Api.zread
  rk s now key with s1 ok h
  refine frame_ite h ?_
  split <;> exact h

theorem frame_readMany (s : MState) (now : Int) (keys : List Bytes) : Frame [] s (Api.readMany s now keys).1 := by
  unfold Api.readMany
  have key : ∀ (ks : List Bytes) (acc : MState × List (Option (Option (AList Unit)))),
      Frame [] acc.1 (ks.foldl (fun (acc : MState × List (Option (Option (AList Unit)))) k =>
        let (s, ok) := readKey acc.1 now k
        (s, acc.2 ++ [if ok then some (asSet s k) else none])) acc).1 := by
    intro ks
    induction ks with
    | nil => intro acc; exact Frame.refl _ _
    | cons k ks ih =>
      intro acc
      rw [List.foldl_cons]
      refine Frame.trans0 ?_ (ih _)
      dsimp only
      rk acc.1 now k with s1 ok h
      exact h
  exact key keys (s, [])

theorem readOnly_sdiff : ReadOnly Api.sdiff := by
  intro s now keys _
  unfold Api.sdiff
  split
  · exact Frame.refl _ _
  · next k0 rest =>
    rk s now k0 with s1 ok h
    split
    · exact h
    · have h2 := h.trans0 (frame_readMany s1 now rest)
      generalize Api.readMany s1 now rest = r at h2 ⊢
      obtain ⟨s2, others⟩ := r
      dsimp only at h2 ⊢
      split
      · exact h2
      · split <;> exact h2

theorem frame_sinter_go (now : Int) : ∀ (ks : List Bytes) (s : MState) (acc : List (AList Unit)),
    Frame [] s (Api.sinter.go now ks s acc).1
  | [], s, acc => by unfold Api.sinter.go; exact Frame.refl _ _
  | k :: more, s, acc => by
    unfold Api.sinter.go
    rk s now k with s1 ok h
    split
    · exact h
    · split
      · exact h
      · exact h.trans0 (frame_sinter_go now more s1 _)

theorem readOnly_sinter : ReadOnly Api.sinter := by
  intro s now keys _
  unfold Api.sinter
  split
  · exact Frame.refl _ _
  · exact frame_sread _ _ s now _
  · next k0 rest _ =>
    rk s now k0 with s1 ok h
    split
    · exact h
    · have h2 := h.trans0 (frame_sinter_go now rest s1 [])
      generalize Api.sinter.go now rest s1 [] = r at h2 ⊢
      obtain ⟨s2, o⟩ := r
      dsimp only at h2 ⊢
      split
      · next heq => cases heq; exact h2
      · next heq => cases heq; exact h2
      · next heq =>
        cases heq
        split <;> exact h2

theorem readOnly_sunion : ReadOnly Api.sunion := by
  intro s now keys _
  unfold Api.sunion
  split
  · exact Frame.refl _ _
  · exact frame_sread _ _ s now _
  · have h2 := frame_readMany s now keys
    generalize Api.readMany s now keys = r at h2 ⊢
    obtain ⟨s2, all⟩ := r
    dsimp only at h2 ⊢
    split
    · exact h2
    · split <;> exact h2

/-- S*STORE for any read-only set operation: compute, `Del(dst)`, `SAdd(dst, …)` -/
theorem frame_sstore (op : MState → Int → List Bytes → R) (hop : ReadOnly op) (s : MState) (hp : s.pebble = true)
    (now : Int) (dst : Bytes) (keys : List Bytes) : Frame [] s (Api.sstore op s now dst keys).1 := by
  unfold Api.sstore
  split
  · exact Frame.refl _ _
  · have h1 := hop s now keys hp
    generalize op s now keys = r at h1 ⊢
    obtain ⟨s1, o⟩ := r
    dsimp only at h1 ⊢
    split
    · next heq =>
      cases heq
      have hc := h1.commit
      have h2 := hc.trans0 (frame_del (commit s1) (hc.pebble hp) now [dst])
      generalize Api.del (commit s1) now [dst] = r2 at h2 ⊢
      obtain ⟨s2, o2⟩ := r2
      dsimp only at h2 ⊢
      split
      · exact h2
      · exact h2.commit.trans0 (frame_sadd (commit s2) (h2.commit.pebble hp) now dst _)
    · next heq => cases heq; exact h1

end NodisVerif.Proofs.C09Writers

import NodisVerif.Proofs.C19Iter
import NodisVerif.Proofs.StoreLemmas
/-
  C19 helpers: the keyspace SCAN (`Api.scan`). The reply of a call is a pure function (`scanPure`: the two guards of `Api.scan` around `goPure`,
  the loop of `Api.scan.go` without the store) of the `view` of the store: per index record its name, deadline and type as the TYPE filter sees it (cached type; for a
  never-loaded record the type of the value in the backend, which the call loads). On a proper index a call changes nothing but access
  counters and the load state of records, and leaves the view unchanged (`ScanFrame`).
-/
namespace NodisVerif.Proofs.C19Scan
open NodisVerif.Spec.Scan NodisVerif.Proofs.C19Iter NodisVerif.Store
open NodisVerif.Proofs.AListLemmas NodisVerif.Proofs.AListLemmas2

/-- name, deadline, value type as the TYPE filter sees it -/
abbrev VEnt := Bytes × Int × Nat

/-- the type the TYPE filter of a `SCAN … TYPE typ` call uses for an index record: the cached
    type; for a record that never had its value loaded (cold, no cached type) and a non-zero
    `typ`, the type of the value the backend hands out (the call loads it) -/
def etype (s : MState) (typ : Nat) (e : Bytes × Meta) : Nat :=
  if typ ≠ 0 ∧ e.2.vtype = 0 ∧ e.2.value.isNone then
    match loadValue s e.1 e.2 with
    | some (v, _) => v.typeCode
    | none => e.2.vtype
  else e.2.vtype

theorem etype_cached (s : MState) (typ : Nat) (k : Bytes) (m : Meta) (h : typ = 0 ∨ m.vtype ≠ 0 ∨ m.value.isSome) :
    etype s typ (k, m) = m.vtype := by
  unfold etype
  rw [if_neg]
  rintro ⟨h1, h2, h3⟩
  rcases h with h | h | h
  · exact h1 h
  · exact h h2
  · simp only at h h3; rw [Option.isNone_iff_eq_none] at h3; rw [h3] at h; cases h

theorem etype_loaded (s : MState) (typ : Nat) (k : Bytes) (m : Meta) (h0 : typ ≠ 0) (h1 : m.vtype = 0)
    (h2 : m.value = none) :
    etype s typ (k, m) = match loadValue s k m with | some (v, _) => v.typeCode | none => 0 := by
  unfold etype
  rw [if_pos ⟨h0, h1, by rw [h2]; rfl⟩]
  cases loadValue s k m with
  | none => simp [h1]
  | some vo => rfl

def proj (s : MState) (typ : Nat) (e : Bytes × Meta) : VEnt := (e.1, e.2.exp, etype s typ e)
def viewOf (s : MState) (typ : Nat) (idx : AList Meta) : List VEnt := idx.map (proj s typ)
/-- what a `SCAN … TYPE typ` call looks at -/
def view (s : MState) (typ : Nat) : List VEnt := viewOf s typ s.index

/-- forget the access counter (`z` for zeroed: `zc` the counter, `zl` below also what a load sets) -/
def zc (e : Bytes × Meta) : Bytes × Meta := (e.1, { e.2 with count := 0 })

/-- forget everything a SCAN call may touch: the counter and what loading a value sets -/
def zl (e : Bytes × Meta) : Bytes × Meta :=
  (e.1, { e.2 with count := 0, value := none, vtype := 0, state := 0, oid := 0 })

/-- `metadata.expired(now)` on a view entry -/
def vexpired (e : VEnt) (now : Int) : Bool := e.2.1 != 0 && e.2.1 ≤ now

/-- the filter of SCAN: pattern, not expired, TYPE -/
def keep (now : Int) (pat : Bytes) (typ : Nat) (e : VEnt) : Bool :=
  (Glob.matched pat e.1 && !vexpired e now) && !(decide (typ ≠ 0 ∧ e.2.2 ≠ typ))

/-- `Api.scan.go` without the store -/
def goPure (now : Int) (pat : Bytes) (typ : Nat) :
    List VEnt → Int → Int → Int → List Bytes → Int × List Bytes
  | [], _, _, _, acc => (0, acc.reverse)
  | e :: rest, cursor, iter, count, acc =>
    let iter := iter + 1
    let cursor := wrap64 (cursor - 1)
    if cursor > 0 then goPure now pat typ rest cursor iter count acc else
    if count = 0 then (iter, acc.reverse) else
    let count := wrap64 (count - 1)
    if keep now pat typ e then goPure now pat typ rest cursor iter count (e.1 :: acc)
    else goPure now pat typ rest cursor iter count acc

/-- `Api.scan` without the store: (next cursor, keys) -/
def scanPure (v : List VEnt) (now : Int) (cursor : Int) (pat : Bytes) (count : Int) (typ : Nat) : Int × List Bytes :=
  let keyLen : Int := v.length
  if keyLen = 0 then (0, []) else
  if cursor > keyLen then (0, []) else
  goPure now pat typ v cursor 0 count []

def scanOut : Out → Int × List Bytes
  | .many [.int next, .slist ks] => (next, ks)
  | _ => (0, [])

/-- one SCAN command as a step of the client loop -/
def scanStep (now : Int) (pat : Bytes) (count : Int) (typ : Nat) (s : MState) (c : Int) : MState × Int × List Bytes :=
  let r := Api.scan s now c pat count typ
  (r.1, scanOut r.2)


/-- `s'` is `s` with another index -/
def RestEq (s s' : MState) : Prop := s' = { s with index := s'.index }

theorem RestEq.trans {a b c : MState} (h1 : RestEq a b) (h2 : RestEq b c) : RestEq a c := by
  unfold RestEq at *; rw [h2, h1]

/-- the effect of one SCAN call (with TYPE `typ`) on the store: only the index changes; the view
    of the call is unchanged; records change only in their counter and in what loading a value
    sets (value, cached type, state, oid); without a TYPE filter only the counters change -/
structure ScanFrame (typ : Nat) (s s' : MState) : Prop where
  rest : s' = { s with index := s'.index }
  sameView : s'.index.map (proj s typ) = s.index.map (proj s typ)
  other : s'.index.map zl = s.index.map zl
  untyped : typ = 0 → s'.index.map zc = s.index.map zc

theorem loadValue_congr {s s' : MState} (h : RestEq s s') (k : Bytes) (m : Meta) :
    loadValue s' k m = loadValue s k m := by
  rw [h]; rfl

theorem proj_congr {s s' : MState} (h : RestEq s s') (typ : Nat) :
    proj s' typ = proj s typ := by
  funext e
  simp only [proj, etype, loadValue_congr h]

theorem ScanFrame.refl (typ : Nat) (s : MState) : ScanFrame typ s s := ⟨rfl, rfl, rfl, fun _ => rfl⟩

theorem ScanFrame.trans {typ : Nat} {a b c : MState} (h1 : ScanFrame typ a b) (h2 : ScanFrame typ b c) :
    ScanFrame typ a c := by
  refine ⟨RestEq.trans h1.rest h2.rest, ?_, h2.other.trans h1.other, fun h => (h2.untyped h).trans (h1.untyped h)⟩
  · have := h2.sameView
    rw [proj_congr h1.rest] at this
    exact this.trans h1.sameView

theorem ScanFrame.view_eq {typ : Nat} {s s' : MState} (h : ScanFrame typ s s') :
    view s' typ = view s typ := by
  unfold view viewOf
  rw [proj_congr h.rest]; exact h.sameView

/-- sortedness is a matter of the names: lists with equal images under a map that keeps names are sorted together -/
theorem sorted_iff_of_map (g : Bytes × Meta → Bytes × Meta) (hg : ∀ e, (g e).1 = e.1) {i j : AList Meta}
    (h : i.map g = j.map g) : AList.Sorted i ↔ AList.Sorted j := by
  have key : ∀ (l : AList Meta), AList.Sorted l ↔ (l.map g).Pairwise KeyLt := by
    intro l
    rw [sorted_iff_pairwise, List.pairwise_map]
    unfold KeyLt
    simp only [hg]
  rw [key i, key j, h]

theorem ScanFrame.sorted {typ : Nat} {s s' : MState} (h : ScanFrame typ s s') (hs : AList.Sorted s.index) :
    AList.Sorted s'.index := (sorted_iff_of_map zl (fun _ => rfl) h.other).2 hs

theorem ScanFrame.length {typ : Nat} {s s' : MState} (h : ScanFrame typ s s') : s'.index.length = s.index.length := by
  have := congrArg List.length h.other
  simpa using this

theorem map_set_of_eq {β : Type} (g : Bytes × Meta → β) (idx : AList Meta) (hs : AList.Sorted idx) (key : Bytes) (m m' : Meta)
    (hget : AList.get? idx key = some m) (hm : g (key, m') = g (key, m)) :
    (AList.set idx key m').map g = idx.map g := by
  induction idx with
  | nil => simp [AList.get?] at hget
  | cons a rest ih =>
    obtain ⟨k, w⟩ := a
    simp only [AList.get?] at hget
    simp only [AList.set]
    by_cases hk : k = key
    · simp only [hk, if_true, Option.some.injEq] at hget
      subst hget
      simp only [hk, if_true, List.map_cons, hm]
    · simp only [hk, if_false] at hget
      simp only [hk, if_false]
      obtain ⟨hrest, hall⟩ := sorted_cons (k, w) rest hs
      have hlt : Bytes.lt k key = true := hall (key, m) (mem_of_get? rest key m hget)
      have hnlt : Bytes.lt key k = false := lt_asymm k key hlt
      simp only [hnlt, Bool.false_eq_true, if_false, List.map_cons, ih hrest hget]

theorem scanFrame_putMeta (typ : Nat) (s : MState) (hs : AList.Sorted s.index) (key : Bytes) (m m' : Meta)
    (hget : getMeta s key = some m)
    (h1 : proj s typ (key, m') = proj s typ (key, m)) (h2 : zl (key, m') = zl (key, m))
    (h3 : typ = 0 → zc (key, m') = zc (key, m)) : ScanFrame typ s (putMeta s key m') :=
  ⟨rfl, map_set_of_eq _ s.index hs key m m' hget h1, map_set_of_eq _ s.index hs key m m' hget h2,
    fun h => map_set_of_eq _ s.index hs key m m' hget (h3 h)⟩

/-- the load step of `go`, as a function -/
def loadFor (s : MState) (typ : Nat) (key : Bytes) (m : Meta) : MState × Nat :=
  if typ ≠ 0 ∧ m.vtype = 0 ∧ m.value.isNone then
    match loadValue s key m with
    | some (v, oid) => (modMeta s key fun m' => ({ m' with oid := oid }.setValue v), v.typeCode)
    | none => (s, m.vtype)
  else (s, m.vtype)

/-- the store after the walk has spent budget on the record `m` of `key` (`m` = the record as the
    walk sees it, a snapshot): `Nodis.Scan` locks the record and bumps its counter (`m.count++`: `C01.bump`, the
    step the lookup makes too); if name and deadline pass, a TYPE filter on a never-loaded record loads the value
    (the record is then `C01.loaded m oid v`) -/
def visit (now : Int) (pat : Bytes) (typ : Nat) (s : MState) (key : Bytes) (m : Meta) : MState :=
  if (Glob.matched pat key && !m.expired now) = true then
    (loadFor (modMeta s key C01.bump) typ key m).1
  else modMeta s key C01.bump

/-! only the index ever changes during a call -/

theorem restEq_modMeta (s : MState) (key : Bytes) (f : Meta → Meta) : RestEq s (modMeta s key f) := by
  unfold modMeta RestEq
  cases getMeta s key <;> rfl

theorem restEq_loadFor (s : MState) (typ : Nat) (key : Bytes) (m : Meta) : RestEq s (loadFor s typ key m).1 := by
  unfold loadFor
  split
  · split
    · exact restEq_modMeta s key _  -- the value is loaded
    · rfl  -- the backend has no value
  · rfl  -- nothing to load

theorem restEq_visit (now : Int) (pat : Bytes) (typ : Nat) (s : MState) (key : Bytes) (m : Meta) :
    RestEq s (visit now pat typ s key m) := by
  unfold visit
  split
  · exact (restEq_modMeta s key _).trans (restEq_loadFor _ typ key m)
  · exact restEq_modMeta s key _

theorem loadFor_snd (s s0 : MState) (h : RestEq s0 s) (typ : Nat) (key : Bytes) (m : Meta) :
    (loadFor s typ key m).2 = etype s0 typ (key, m) := by
  unfold loadFor etype
  rw [loadValue_congr h]
  split
  · cases loadValue s0 key m with
    | none => rfl
    | some vo => rfl
  · rfl

theorem getMeta_visit_other (now : Int) (pat : Bytes) (typ : Nat) (s : MState) (key : Bytes) (m : Meta)
    (k : Bytes) (hk : k ≠ key) : getMeta (visit now pat typ s key m) k = getMeta s k := by
  rw [← getMeta_modMeta_other s key C01.bump k hk]
  unfold visit loadFor
  split
  · split
    · split
      · exact getMeta_modMeta_other _ key _ k hk  -- the filter passes and the value is loaded
      · rfl  -- … the backend has no value
    · rfl  -- … nothing to load
  · rfl  -- name or deadline fail: the bump only

theorem visit_frame (now : Int) (pat : Bytes) (typ : Nat) (s : MState) (hs : AList.Sorted s.index) (key : Bytes)
    (m : Meta) (hget : getMeta s key = some m) : ScanFrame typ s (visit now pat typ s key m) := by
  -- the bump is one `putMeta` frame (`hF1`); a load is a second one on the bumped store, joined by `ScanFrame.trans`;
  -- every branch without a load ends `exact hF1`
  have hs1 : modMeta s key C01.bump = putMeta s key (C01.bump m) := by
    simp only [modMeta, hget]
  have hF1 : ScanFrame typ s (putMeta s key (C01.bump m)) :=
    scanFrame_putMeta typ s hs key m _ hget rfl rfl (fun _ => rfl)
  have hget1 : getMeta (putMeta s key (C01.bump m)) key = some (C01.bump m) :=
    get?_set_same s.index key _
  unfold visit loadFor
  rw [hs1, loadValue_congr hF1.rest]
  split
  · split
    · rename_i hc
      cases hl : loadValue s key m with
      | none => exact hF1
      | some vo =>
        obtain ⟨v, oid⟩ := vo
        refine hF1.trans ?_
        simp only [modMeta, hget1]
        apply scanFrame_putMeta typ _ (hF1.sorted hs) key _ _ hget1
        · -- the loaded record shows the type the view had already announced
          show proj _ typ (key, C01.loaded m oid v) = proj _ typ (key, C01.bump m)
          have hl1 : loadValue (putMeta s key (C01.bump m)) key (C01.bump m) = some (v, oid) := by
            rw [← hl, ← loadValue_congr hF1.rest key m]; rfl
          have e1 : etype (putMeta s key (C01.bump m)) typ (key, C01.bump m) = v.typeCode := by
            rw [etype, if_pos ⟨hc.1, hc.2.1, hc.2.2⟩]
            simp only [hl1]
          have e2 : etype (putMeta s key (C01.bump m)) typ (key, C01.loaded m oid v) = v.typeCode := by
            rw [etype, if_neg (by simp [C01.loaded, Meta.setValue])]
            rfl
          simp only [proj, e1, e2]
          rfl
        · rfl
        · intro h0; exact absurd h0 hc.1
    · exact hF1
  · exact hF1


theorem go_unfold (now : Int) (pat : Bytes) (typ : Nat) (key : Bytes) (m : Meta) (rest : List (Bytes × Meta))
    (s : MState) (cursor iter count : Int) (acc : List Bytes) :
    Api.scan.go now pat typ ((key, m) :: rest) s cursor iter count acc =
      if wrap64 (cursor - 1) > 0 then Api.scan.go now pat typ rest s (wrap64 (cursor - 1)) (iter + 1) count acc else
      if count = 0 then (s, iter + 1, acc.reverse) else
      if (Glob.matched pat key && !m.expired now) = true then
        if typ ≠ 0 ∧ (loadFor (modMeta s key C01.bump) typ key m).2 ≠ typ then
          Api.scan.go now pat typ rest (loadFor (modMeta s key C01.bump) typ key m).1
            (wrap64 (cursor - 1)) (iter + 1) (wrap64 (count - 1)) acc
        else
          Api.scan.go now pat typ rest (loadFor (modMeta s key C01.bump) typ key m).1
            (wrap64 (cursor - 1)) (iter + 1) (wrap64 (count - 1)) (key :: acc)
      else Api.scan.go now pat typ rest (modMeta s key C01.bump)
            (wrap64 (cursor - 1)) (iter + 1) (wrap64 (count - 1)) acc := by
  rw [Api.scan.go]
  rfl

/-- one record of the walk, in the shape of `goPure`: what is kept is decided on the view -/
theorem go_cons (now : Int) (pat : Bytes) (typ : Nat) (key : Bytes) (m : Meta) (rest : List (Bytes × Meta))
    (s : MState) (cursor iter count : Int) (acc : List Bytes) :
    Api.scan.go now pat typ ((key, m) :: rest) s cursor iter count acc =
      if wrap64 (cursor - 1) > 0 then Api.scan.go now pat typ rest s (wrap64 (cursor - 1)) (iter + 1) count acc else
      if count = 0 then (s, iter + 1, acc.reverse) else
      Api.scan.go now pat typ rest (visit now pat typ s key m) (wrap64 (cursor - 1)) (iter + 1) (wrap64 (count - 1))
        (if keep now pat typ (proj s typ (key, m)) = true then key :: acc else acc) := by
  have hk : keep now pat typ (proj s typ (key, m))
      = ((Glob.matched pat key && !m.expired now) && !decide (typ ≠ 0 ∧ etype s typ (key, m) ≠ typ)) := rfl
  rw [go_unfold, hk, loadFor_snd _ s (restEq_modMeta s key _) typ key m]
  unfold visit
  cases h4 : (Glob.matched pat key && !m.expired now) with
  | false => simp only [Bool.false_eq_true, if_false, Bool.false_and]
  | true =>
    simp only [if_true, Bool.true_and]
    by_cases h5 : typ ≠ 0 ∧ etype s typ (key, m) ≠ typ
    · rw [if_pos h5, decide_eq_true h5]; rfl
    · rw [if_neg h5, decide_eq_false h5]; rfl

/-- the walk over the snapshot `ents` of the index: its reply is `goPure` on the view (any store);
    on a proper index whose records are those of the snapshot its effect is a `ScanFrame` -/
theorem go_spec (now : Int) (pat : Bytes) (typ : Nat) :
    ∀ (ents : List (Bytes × Meta)) (s : MState) (cursor iter count : Int) (acc : List Bytes),
      (Api.scan.go now pat typ ents s cursor iter count acc).2 =
        goPure now pat typ (viewOf s typ ents) cursor iter count acc ∧
      (AList.Sorted s.index → AList.Sorted ents → (∀ e ∈ ents, getMeta s e.1 = some e.2) →
        ScanFrame typ s (Api.scan.go now pat typ ents s cursor iter count acc).1) := by
  intro ents
  induction ents with
  | nil => intro s cursor iter count acc; exact ⟨by simp [Api.scan.go, goPure, viewOf], fun _ _ _ => ScanFrame.refl typ s⟩
  | cons e rest ih =>
    intro s cursor iter count acc
    obtain ⟨key, m⟩ := e
    have hv : viewOf s typ ((key, m) :: rest) = proj s typ (key, m) :: viewOf s typ rest := rfl
    rw [hv, go_cons, goPure]
    simp only
    have htl : AList.Sorted ((key, m) :: rest) → (∀ e ∈ (key, m) :: rest, getMeta s e.1 = some e.2) →
        AList.Sorted rest ∧ ∀ e ∈ rest, getMeta s e.1 = some e.2 :=
      fun hents hgets => ⟨(sorted_cons _ rest hents).1, fun e he => hgets e (List.mem_cons_of_mem _ he)⟩
    by_cases h1 : wrap64 (cursor - 1) > 0
    · simp only [h1, if_true]
      exact ⟨(ih s _ _ _ _).1, fun hs hents hgets => (ih s _ _ _ _).2 hs (htl hents hgets).1 (htl hents hgets).2⟩
    · by_cases h3 : count = 0
      · simp only [h1, h3, if_true, if_false]
        exact ⟨trivial, fun _ _ _ => ScanFrame.refl typ s⟩
      · simp only [h1, h3, if_false]
        obtain ⟨i1, i2⟩ := ih (visit now pat typ s key m) (wrap64 (cursor - 1)) (iter + 1) (wrap64 (count - 1))
          (if keep now pat typ (proj s typ (key, m)) = true then key :: acc else acc)
        have hv' : viewOf (visit now pat typ s key m) typ rest = viewOf s typ rest := by
          unfold viewOf; rw [proj_congr (restEq_visit now pat typ s key m)]
        rw [hv'] at i1
        refine ⟨?_, fun hs hents hgets => ?_⟩
        · rw [i1]; cases keep now pat typ (proj s typ (key, m)) <;> rfl
        · -- the records still to be walked over are untouched by the visit of `key`
          have hF := visit_frame now pat typ s hs key m (hgets (key, m) List.mem_cons_self)
          refine hF.trans (i2 (hF.sorted hs) (htl hents hgets).1 fun e he => ?_)
          have hne : e.1 ≠ key := fun h => by
            have := (sorted_cons _ rest hents).2 e he
            unfold KeyLt at this
            rw [h, lt_irrefl] at this
            cases this
          rw [getMeta_visit_other now pat typ s key m e.1 hne]
          exact (htl hents hgets).2 e he

theorem scan_out (s : MState) (now cursor : Int) (pat : Bytes) (count : Int) (typ : Nat) :
    (Api.scan s now cursor pat count typ).2 =
      .many [.int (scanPure (view s typ) now cursor pat count typ).1, .slist (scanPure (view s typ) now cursor pat count typ).2] := by
  unfold Api.scan scanPure
  have hl : (view s typ).length = s.index.length := by simp [view, viewOf]
  simp only [hl]
  split
  · rfl
  · split
    · rfl
    · simp only [view, ← (go_spec now pat typ s.index s cursor 0 count []).1]

theorem scanStep_out (now : Int) (pat : Bytes) (count : Int) (typ : Nat) (s : MState) (c : Int) :
    (scanStep now pat count typ s c).2 = scanPure (view s typ) now c pat count typ := by
  simp only [scanStep, scan_out, scanOut]

theorem scan_frame (s : MState) (hs : AList.Sorted s.index) (now cursor : Int) (pat : Bytes) (count : Int) (typ : Nat) :
    ScanFrame typ s (Api.scan s now cursor pat count typ).1 := by
  unfold Api.scan
  simp only
  split
  · exact ScanFrame.refl typ s
  · split
    · exact ScanFrame.refl typ s
    · exact (go_spec now pat typ s.index s cursor 0 count []).2 hs hs (fun e he => get?_of_mem s.index hs e.1 e.2 he)

end NodisVerif.Proofs.C19Scan

import NodisVerif.Model.SkiplistZRange
import NodisVerif.Proofs.SkiplistZSet
import NodisVerif.Proofs.SkiplistHeader
import NodisVerif.Proofs.C04Rank
import NodisVerif.Proofs.SkiplistInRange
/-
  The ordered queries of ds/zset/sorted_set.go on the pointer structure (Model/SkiplistZRange.lean) refine their
  list-level mirrors in Model/DsZSet.lean: `forEachByRank` (ZRANGE / ZREVRANGE, including the nil dereferences =
  `none` on the list level), `rangeCount` (ZCOUNT) and `zRange` (ZRANGEBYSCORE / ZREVRANGEBYSCORE).

  Method: a pointer walk from a node in direction `desc` meets a list of node indexes (`PStream`); on the list level
  the walk from a `Cursor` meets `C04.ostream`. `pzWalk` / `pzScoreLoop` are functions of the pointer stream exactly as
  `DsZSet.walk` / `DsZSet.scoreLoop` are functions of the item stream (`C04.walk_eq`, `C04.scoreLoop_eq`).
-/
namespace NodisVerif.Skiplist
open NodisVerif.DsZSet (Item nodeLt)
open NodisVerif.Proofs.C04 (ILt)
open NodisVerif.Proofs.ZSetLemmas (Good)
open NodisVerif.Proofs

namespace ZR

/-- the nodes a walk in direction `desc` meets, starting on the head of the list: every node exists and its
    `backward` (desc) / `level[0].forward` (asc) is the next one of the list, nil after the last one -/
def PStream (h : List Node) (desc : Bool) : List Nat → Prop
  | [] => True
  | n :: rest => (∃ nd, h[n]? = some nd) ∧ stepPtr h desc n = .ok rest.head? ∧ PStream h desc rest

theorem PStream.drop {h : List Node} {desc : Bool} : ∀ (S : List Nat) (k : Nat), PStream h desc S →
    PStream h desc (S.drop k)
  | [], k, _ => by simp [PStream]
  | _ :: _, 0, hs => hs
  | _ :: rest, k + 1, hs => by
    rw [List.drop_succ_cons]
    exact PStream.drop rest k hs.2.2

theorem PStream.suffix {h : List Node} {desc : Bool} (A B : List Nat) (hs : PStream h desc (A ++ B)) :
    PStream h desc B := by
  have := PStream.drop (A ++ B) A.length hs
  simpa using this

/-- `pzWalk` as a function of the stream: `k` iterations need `k` nodes, else the nil dereference -/
theorem pzWalk_stream (h : List Node) (desc : Bool) : ∀ (k : Nat) (S : List Nat) (acc : List Item),
    PStream h desc S →
    pzWalk h desc S.head? k acc =
      if k ≤ S.length then .ok (acc.reverse ++ (S.take k).map (itemAt h)) else .error .panic := by
  intro k
  induction k with
  | zero => intro S acc _; simp [pzWalk, pure, Except.pure]
  | succ k ih =>
    intro S acc hs
    cases S with
    | nil => simp [pzWalk, throw, throwThe, MonadExceptOf.throw]
    | cons n rest =>
      obtain ⟨⟨nd, hn⟩, hstep, hrest⟩ := hs
      simp only [List.head?_cons, pzWalk, bind, Except.bind, (getNode_ok_iff _ _ _).2 hn, hstep]
      rw [ih rest _ hrest]
      simp only [List.length_cons, Nat.add_le_add_iff_right, List.reverse_cons, List.take_succ_cons, List.map_cons,
        List.append_assoc, List.singleton_append, itemAt_of_getElem hn]

theorem pstream_asc_split {sl : SL} {c : List Nat} (hc : IsChain sl c) : ∀ (B A : List Nat) (x : Nat),
    0 :: c = A ++ x :: B → PStream sl.heap false (x :: B) := by
  intro B
  induction B with
  | nil =>
    intro A x hs
    obtain ⟨l, hl, hf⟩ := level0_next hc A x [] hs
    obtain ⟨nd, hn, _⟩ := (getLevel_ok_iff _ _ _ _).1 hl
    refine ⟨⟨nd, hn⟩, ?_, trivial⟩
    simp [stepPtr, hl, bind, Except.bind, pure, Except.pure, hf]
  | cons y B ih =>
    intro A x hs
    obtain ⟨l, hl, hf⟩ := level0_next hc A x (y :: B) hs
    obtain ⟨nd, hn, _⟩ := (getLevel_ok_iff _ _ _ _).1 hl
    refine ⟨⟨nd, hn⟩, ?_, ih (A ++ [x]) y (by simpa using hs)⟩
    simp [stepPtr, hl, bind, Except.bind, pure, Except.pure, hf]

theorem pstream_asc {sl : SL} {c : List Nat} (hc : IsChain sl c) : PStream sl.heap false (0 :: c) :=
  pstream_asc_split hc c [] 0 rfl

theorem pstream_desc_gen {h : List Node} : ∀ (c P : List Nat), BackLinked h P.head? c → PStream h true P →
    PStream h true (c.reverse ++ P) := by
  intro c
  induction c with
  | nil => intro P _ hp; simpa using hp
  | cons n rest ih =>
    intro P hb hp
    obtain ⟨⟨nd, hn, hback⟩, hrest⟩ := hb
    have hnp : PStream h true (n :: P) := by
      refine ⟨⟨nd, hn⟩, ?_, hp⟩
      simp [stepPtr, (getNode_ok_iff _ _ _).2 hn, bind, Except.bind, pure, Except.pure, hback]
    have := ih (n :: P) (by simpa using hrest) hnp
    simpa using this

theorem pstream_desc {sl : SL} {c : List Nat} (hc : IsChain sl c) : PStream sl.heap true c.reverse := by
  have := pstream_desc_gen (h := sl.heap) c [] (by simpa using hc.back) trivial
  simpa using this

theorem pstream_header_desc {sl : SL} (hh : HeaderOk sl) : PStream sl.heap true [0] := by
  obtain ⟨hd, h0, _, _, hb⟩ := hh
  refine ⟨⟨hd, h0⟩, ?_, trivial⟩
  simp [stepPtr, (getNode_ok_iff _ _ _).2 h0, bind, Except.bind, pure, Except.pure, hb]

/-- `// find start node` of `forEachByRank` -/
def pzStartNode (sl : SL) (size s : Int) (desc : Bool) : M (Option Nat) :=
  if desc then do
    if s > 1 then getByRank sl (size - s) else pure sl.tail
  else do
    let l0 ← getLevel sl.heap 0 0
    if s > 1 then getByRank sl s else pure l0.forward

/-- the pointer-level `forEachByRank` after the normalisation of `start` / `stop` (cf. `C04.ferCore`) -/
def pzFerCore (p : PZSet) (s e : Int) (desc : Bool) : M (List Item) := do
  let node ← pzStartNode p.sl (pzCard p) s desc
  if wrap64 (e - s) < 0 then pure [] else pzWalk p.sl.heap desc node ((wrap64 (e - s)).toNat + 1) []

/-- the model's `forEachByRank` pushes what follows the start-node block into its branches (a join point); with a
    variable continuation `jp` this is `pzStartNode … >>= jp` -/
theorem startNode_jp {α : Type} (sl : SL) (size s : Int) (desc : Bool) (jp : Option Nat → M α) :
    (if desc = true then
        if s > 1 then getByRank sl (size - s) >>= jp else pure sl.tail >>= jp
      else getLevel sl.heap 0 0 >>= fun l0 => if s > 1 then getByRank sl s >>= jp else pure l0.forward >>= jp)
      = pzStartNode sl size s desc >>= jp := by
  unfold pzStartNode
  cases desc
  · simp only [Bool.false_eq_true, if_false, bind, Except.bind]
    cases getLevel sl.heap 0 0 with
    | error e => rfl
    | ok l0 =>
      simp only []
      split <;> rfl
  · simp only [if_true, bind, Except.bind]
    split <;> rfl

theorem pzForEachByRank_core (p : PZSet) (start stop : Int) (desc : Bool) :
    pzForEachByRank p start stop desc =
      if start > pzCard p then pure [] else
      if C04.stop1 (pzCard p) stop < C04.start1 start then pure [] else
      pzFerCore p (if C04.start1 start < 0 then pzCard p + C04.start1 start else C04.start1 start)
        (if C04.stop1 (pzCard p) stop > pzCard p then pzCard p else C04.stop1 (pzCard p) stop) desc := by
  unfold pzForEachByRank
  simp only []
  by_cases h1 : start > pzCard p
  · rw [if_pos h1, if_pos h1]
  rw [if_neg h1, if_neg h1]
  by_cases h2 : C04.stop1 (pzCard p) stop < C04.start1 start
  · rw [if_pos h2]; exact if_pos h2
  rw [if_neg h2]
  refine (if_neg h2).trans ?_
  exact startNode_jp p.sl (pzCard p) _ desc _

/-- the start node of `forEachByRank` heads a pointer stream whose items are `C04.nodeStream` of the chain -/
theorem startNode_stream {sl : SL} {c : List Nat} (hc : IsChain sl c) (hh : HeaderOk sl) (s : Int) (desc : Bool) :
    ∃ S, pzStartNode sl (c.length : Int) s desc = .ok S.head? ∧ PStream sl.heap desc S ∧
      S.map (itemAt sl.heap) = C04.nodeStream (c.map (itemAt sl.heap)) s desc := by
  cases desc with
  | false =>
    refine ⟨c.drop (s.toNat - 1), ?_, ?_, ?_⟩
    · obtain ⟨l0, hl0, hf⟩ := level0_next hc [] 0 c rfl
      unfold pzStartNode
      simp only [Bool.false_eq_true, if_false, bind, Except.bind, hl0]
      by_cases hs : s > 1
      · rw [if_pos hs, getByRank_spec hc s, if_neg (by omega), if_neg (by omega), List.head?_drop]
      · rw [if_neg hs, hf]
        have : s.toNat - 1 = 0 := by omega
        rw [this]; rfl
    · have := PStream.drop (0 :: c) (s.toNat - 1 + 1) (pstream_asc hc)
      simpa using this
    · simp [C04.nodeStream, List.map_drop]
  | true =>
    unfold pzStartNode C04.nodeStream
    simp only [if_true, List.length_map]
    by_cases hs : s > 1
    · rw [if_pos hs, if_pos hs, getByRank_spec hc]
      by_cases h1 : (c.length : Int) - s < 0
      · rw [if_pos h1, if_pos h1]
        exact ⟨[], rfl, trivial, rfl⟩
      · rw [if_neg h1, if_neg h1]
        by_cases h2 : (c.length : Int) - s = 0
        · rw [if_pos h2, if_pos h2]
          exact ⟨[0], rfl, pstream_header_desc hh, by simp [headerOk_itemAt hh]⟩
        · rw [if_neg h2, if_neg h2]
          refine ⟨(c.take ((c.length : Int) - s).toNat).reverse, ?_, ?_, ?_⟩
          · rw [List.head?_reverse, List.getLast?_take, if_neg (by omega)]
            have hlt : ((c.length : Int) - s).toNat - 1 < c.length := by omega
            rw [List.getElem?_eq_getElem hlt]; rfl
          · rw [List.reverse_take]
            exact PStream.drop _ _ (pstream_desc hc)
          · rw [List.map_reverse, List.map_take]
    · rw [if_neg hs, if_neg hs]
      exact ⟨c.reverse, by rw [List.head?_reverse, hc.tail]; rfl, pstream_desc hc, by rw [List.map_reverse]⟩

theorem pzCard_eq {p : PZSet} (h : PZInv p) {c : List Nat} (hc : IsChain p.sl c) : pzCard p = (c.length : Int) := by
  have := h.2.sameLen
  have h2 : p.toZSet.sl = c.map (itemAt p.sl.heap) := abs_eq hc
  rw [h2, List.length_map] at this
  unfold pzCard
  rw [this]; rfl

theorem pzFerCore_refines {p : PZSet} (h : PZInv p) (hh : HeaderOk p.sl) (s e : Int) (desc : Bool) :
    pzFerCore p s e desc =
      (match C04.ferCore p.toZSet s e desc with | some l => .ok l | none => .error .panic) := by
  obtain ⟨c, hc⟩ := h.1
  rw [C04.ferCore_eq _ (h.2.sameLen)]
  have hsl : p.toZSet.sl = c.map (itemAt p.sl.heap) := abs_eq hc
  rw [hsl]
  obtain ⟨S, hnode, hS, hmap⟩ := startNode_stream hc hh s desc
  unfold pzFerCore
  rw [pzCard_eq h hc, hnode]
  simp only [bind, Except.bind]
  by_cases hw : wrap64 (e - s) < 0
  · rw [if_pos hw, if_pos hw]; rfl
  · rw [if_neg hw, if_neg hw, pzWalk_stream _ _ _ _ _ hS, ← hmap, List.length_map]
    by_cases hk : (wrap64 (e - s)).toNat + 1 ≤ S.length
    · rw [if_pos hk, if_pos hk]; simp [List.map_take]
    · rw [if_neg hk, if_neg hk]

/-- `pzScoreLoop` as a function of the stream (`C04.loopS`); any fuel that covers the stream will do on both sides -/
theorem pzScoreLoop_stream (h : List Node) (desc : Bool) (min max : F64) (mode : Nat) (limit : Int) :
    ∀ (S : List Nat), PStream h desc S → ∀ (f1 f2 : Nat) (offset : Int) (acc : List Item),
      S.length ≤ f1 → S.length ≤ f2 →
      pzScoreLoop h desc min max mode limit f1 S.head? offset acc =
        .ok (C04.loopS min max mode limit (S.map (itemAt h)) offset f2 acc) := by
  intro S
  induction S with
  | nil =>
    intro _ f1 f2 offset acc _ _
    cases f1 <;> simp [pzScoreLoop, C04.loopS, pure, Except.pure]
  | cons n rest ih =>
    intro hs f1 f2 offset acc h1 h2
    obtain ⟨⟨nd, hn⟩, hstep, hrest⟩ := hs
    obtain ⟨f1, rfl⟩ : ∃ g, f1 = g + 1 := ⟨f1 - 1, by simp at h1; omega⟩
    obtain ⟨f2, rfl⟩ : ∃ g, f2 = g + 1 := ⟨f2 - 1, by simp at h2; omega⟩
    have h1' : rest.length ≤ f1 := by simp at h1; omega
    have h2' : rest.length ≤ f2 := by simp at h2; omega
    have hit : itemAt h n = nd.item := itemAt_of_getElem hn
    have hsc : nd.score = nd.item.1 := rfl
    simp only [List.head?_cons, List.map_cons, pzScoreLoop, C04.loopS, bind, Except.bind,
      (getNode_ok_iff _ _ _).2 hn, hstep, hit, hsc]
    by_cases hr : (!(F64.le min nd.item.1 && F64.le nd.item.1 max)) = true
    · rw [if_pos hr, if_pos hr]; rfl
    · rw [if_neg hr, if_neg hr]
      by_cases hex : (mode % 2 = 1 ∧ F64.eq nd.item.1 min = true) ∨ (mode / 2 % 2 = 1 ∧ F64.eq nd.item.1 max = true)
      · rw [if_pos hex, if_pos hex]
        exact ih hrest f1 f2 offset acc h1' h2'
      · rw [if_neg hex, if_neg hex]
        by_cases hoff : offset > 0
        · rw [if_pos hoff, if_pos hoff]
          exact ih hrest f1 f2 (offset - 1) acc h1' h2'
        · rw [if_neg hoff, if_neg hoff]
          by_cases hlim : limit > 0 ∧ (((nd.item :: acc).length : Nat) : Int) = limit
          · rw [if_pos hlim, if_pos hlim]; rfl
          · rw [if_neg hlim, if_neg hlim]
            exact ih hrest f1 f2 offset (nd.item :: acc) h1' h2'

/-- the nodes a walk in direction `desc` meets from node `j` (0-based) of the chain on -/
def walkFrom (c : List Nat) (desc : Bool) (j : Nat) : List Nat :=
  if desc then (c.take (j + 1)).reverse else c.drop j

theorem pstream_at {sl : SL} {c : List Nat} (hc : IsChain sl c) (desc : Bool) {j n : Nat} (hj : c[j]? = some n) :
    (walkFrom c desc j).head? = some n ∧ PStream sl.heap desc (walkFrom c desc j) ∧
      (walkFrom c desc j).length ≤ c.length ∧
      (walkFrom c desc j).map (itemAt sl.heap) = C04.ostream desc (DsZSet.cursorAt (c.map (itemAt sl.heap)) j) := by
  have hjlt : j < c.length := (List.getElem?_eq_some_iff.1 hj).1
  cases desc with
  | false =>
    refine ⟨by simp [walkFrom, List.head?_drop, hj], ?_, by simp [walkFrom],
      by simp [walkFrom, C04.ostream_cursorAt_asc, List.map_drop]⟩
    have := PStream.drop (0 :: c) (j + 1) (pstream_asc hc)
    simpa [walkFrom] using this
  | true =>
    simp only [walkFrom, if_true]
    refine ⟨?_, ?_, by simp; omega, ?_⟩
    · rw [List.head?_reverse, List.getLast?_take, if_neg (by omega)]
      simp [hj]
    · rw [List.reverse_take]
      exact PStream.drop _ _ (pstream_desc hc)
    · rw [C04.ostream_cursorAt_desc, List.length_map, if_pos hjlt, List.map_reverse, List.map_take]

/-- the start node of `zRange` heads a pointer stream whose items are the list-level start cursor's stream; the one
    exception (NaN `max`, descending) is the header, on which the loop stops at once -/
theorem scoreStart_stream {sl : SL} {c : List Nat} (hc : IsChain sl c) (hh : HeaderOk sl) (min max : F64) (desc : Bool) :
    ∃ S, (if desc = true then getLastInRange sl min max else getFirstInRange sl min max) = .ok S.head? ∧
      PStream sl.heap desc S ∧ S.length ≤ c.length + 1 ∧
      (S.map (itemAt sl.heap) = C04.ostream desc
          (if desc = true then DsZSet.getLastInRange (abs sl) min max else DsZSet.getFirstInRange (abs sl) min max) ∨
        (F64.isNaN max = true ∧ desc = true ∧ S = [0] ∧ DsZSet.getLastInRange (abs sl) min max = none)) := by
  by_cases hnan : desc = true ∧ F64.isNaN max = true
  · obtain ⟨rfl, hmax⟩ := hnan
    simp only [if_true]
    by_cases hir : DsZSet.hasInRange (abs sl) min max = true
    · obtain ⟨hd, _, hg, hl⟩ := getLastInRange_nan_max hc min max hmax hir
      rw [hg, hl]
      by_cases hgt : F64.gt min hd.score = true
      · rw [if_pos hgt]
        exact ⟨[], rfl, trivial, by simp, Or.inl rfl⟩
      · rw [if_neg hgt]
        exact ⟨[0], rfl, pstream_header_desc hh, by simp, Or.inr ⟨hmax, trivial, rfl, rfl⟩⟩
    · simp only [Bool.not_eq_true] at hir
      refine ⟨[], ?_, trivial, by simp, Or.inl (by simp [DsZSet.getLastInRange, hir]; rfl)⟩
      unfold getLastInRange
      rw [hasInRange_chain hc]
      simp [hir, bind, Except.bind, pure, Except.pure]
  · -- both directions: the list level starts on the cursor at the position of the pointer level's node
    obtain ⟨r, j, hr, hl, hpos⟩ : ∃ r j,
        (if desc = true then getLastInRange sl min max else getFirstInRange sl min max) = .ok r ∧
        (if desc = true then DsZSet.getLastInRange (abs sl) min max else DsZSet.getFirstInRange (abs sl) min max) =
          r.bind (fun _ => DsZSet.cursorAt (abs sl) j) ∧ ∀ n, r = some n → c[j]? = some n := by
      cases desc with
      | false =>
        simp only [Bool.false_eq_true, if_false]
        obtain ⟨r, hr, _, hpos, hl⟩ := getFirstInRange_spec hc min max
        refine ⟨r, _, hr, hl, fun n hn => ?_⟩
        obtain ⟨j, hj, rfl⟩ := hpos n hn
        rw [abs_eq hc]; exact hj
      | true =>
        simp only [if_true]
        obtain ⟨r, hr, _, _, hpos, hl⟩ := getLastInRange_spec hc min max (by simpa using hnan)
        refine ⟨r, _, hr, hl, fun n hn => ?_⟩
        obtain ⟨j, hj, hjk⟩ := hpos n hn
        rw [abs_eq hc, ← hjk]; exact hj
    rw [hr, hl]
    cases r with
    | none => exact ⟨[], rfl, trivial, by simp, Or.inl rfl⟩
    | some n =>
      obtain ⟨h1, h2, h3, h4⟩ := pstream_at hc desc (hpos n rfl)
      exact ⟨_, by rw [h1], h2, by omega, Or.inl (by rw [h4, abs_eq hc, Option.bind_some])⟩

end ZR

/-- ZRANGE / ZREVRANGE on the pointer structure = the list-level `forEachByRank`; the list level's `none` (nil
    dereference of the Go code) is exactly the pointer level's panic -/
theorem pzForEachByRank_refines {p : PZSet} (h : PZInv p) (hh : HeaderOk p.sl) (start stop : Int) (desc : Bool) :
    pzForEachByRank p start stop desc =
      (match DsZSet.forEachByRank p.toZSet start stop desc with | some l => .ok l | none => .error .panic) := by
  rw [ZR.pzForEachByRank_core, C04.forEachByRank_core]
  have hcard : DsZSet.zCard p.toZSet = pzCard p := rfl
  rw [hcard]
  by_cases h1 : start > pzCard p
  · rw [if_pos h1, if_pos h1]; rfl
  rw [if_neg h1, if_neg h1]
  by_cases h2 : C04.stop1 (pzCard p) stop < C04.start1 start
  · rw [if_pos h2, if_pos h2]; rfl
  rw [if_neg h2, if_neg h2]
  exact ZR.pzFerCore_refines h hh _ _ desc

theorem pzRange_refines {p : PZSet} (h : PZInv p) (hh : HeaderOk p.sl) (a b : Int) :
    pzRange p a b = (match DsZSet.zRange p.toZSet a b with | some l => .ok l | none => .error .panic) :=
  pzForEachByRank_refines h hh a b false

theorem pzRevRange_refines {p : PZSet} (h : PZInv p) (hh : HeaderOk p.sl) (a b : Int) :
    pzRevRange p a b = (match DsZSet.zRevRange p.toZSet a b with | some l => .ok l | none => .error .panic) :=
  pzForEachByRank_refines h hh a b true

theorem pzCount_refines {p : PZSet} (h : PZInv p) (hh : HeaderOk p.sl) (min max : F64) (mode : Nat) :
    pzCount p min max mode =
      (match DsZSet.zCount p.toZSet min max mode with | some n => .ok n | none => .error .panic) := by
  unfold pzCount DsZSet.zCount
  have hcard : DsZSet.zCard p.toZSet = pzCard p := rfl
  rw [pzForEachByRank_refines h hh, hcard]
  cases DsZSet.forEachByRank p.toZSet 0 (pzCard p) false with
  | none => rfl
  | some l => rfl

/-- ZRANGEBYSCORE / ZREVRANGEBYSCORE on the pointer structure = the list-level `rangeByScore`: never a panic, never
    out of fuel. (NaN `max`, descending: the pointer code starts on the header, whose score 0 fails
    `min <= 0 && 0 <= NaN`, so both sides answer `[]`.) -/
theorem pzRangeByScore_refines {p : PZSet} (h : PZInv p) (hh : HeaderOk p.sl) (min max : F64) (offset limit : Int)
    (desc : Bool) (mode : Nat) :
    pzRangeByScore p min max offset limit desc mode =
      .ok (DsZSet.rangeByScore p.toZSet min max offset limit desc mode) := by
  obtain ⟨c, hc⟩ := h.1
  unfold pzRangeByScore DsZSet.rangeByScore
  by_cases h0 : limit = 0 ∨ offset < 0
  · rw [if_pos h0, if_pos h0]; rfl
  rw [if_neg h0, if_neg h0]
  obtain ⟨S, hstart, hS, hlen, hmap⟩ := ZR.scoreStart_stream hc hh min max desc
  have hsl : p.toZSet.sl = abs p.sl := rfl
  have hL : abs p.sl = c.map (itemAt p.sl.heap) := abs_eq hc
  have hloop := ZR.pzScoreLoop_stream p.sl.heap desc min max mode limit S hS (p.sl.heap.length + 1)
    ((abs p.sl).length + 1) offset [] (by have := hc.size; omega) (by rw [hL, List.length_map]; exact hlen)
  have hgoal : ((if desc = true then getLastInRange p.sl min max else getFirstInRange p.sl min max) >>= fun start =>
      pzScoreLoop p.sl.heap desc min max mode limit (p.sl.heap.length + 1) start offset []) =
      Except.ok (C04.loopS min max mode limit (S.map (itemAt p.sl.heap)) offset ((abs p.sl).length + 1) []) := by
    rw [hstart]; exact hloop
  refine Eq.trans ?_ (hgoal.trans ?_)
  · cases desc <;> rfl
  · simp only [C04.scoreLoop_eq, hsl]
    rcases hmap with hmap | ⟨hmax, hd, rfl, hnone⟩
    · rw [hmap]
    · subst hd
      simp only [if_true, hnone, List.map_cons, List.map_nil, headerOk_itemAt hh]
      simp [C04.loopS, C04.ostream, DsZSet.headerItem, F64.le, hmax]

/-- a concrete instance on the structure built by the model itself (two members): the window `ZRANGE -5 -1` walks past
    the end of the chain (nil dereference) on the pointer level exactly where the list level answers `none`
    (findings A-41), and `ZREVRANGE 2 2` reads the header's item (finding A-41b) -/
example :
    (do let (p, _) ← pzAdd PZSet.empty [97] 0x3FF0000000000000 2
        let (p, _) ← pzAdd p [98] 0x4000000000000000 1
        let r1 := pzRange p (-5) (-1)
        let r2 := DsZSet.zRange p.toZSet (-5) (-1)
        let r3 ← pzRevRange p 2 2
        pure (r1, r2, r3)) = .ok (.error .panic, none, [(0, [])]) := by
  rfl

end NodisVerif.Skiplist

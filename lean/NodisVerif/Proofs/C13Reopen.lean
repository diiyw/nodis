import NodisVerif.Proofs.C13Recover

/-
  C13: what a crash leaves.  A crash = the backend after a prefix of the call list; the first part says what is
  recovered for each name after such a prefix (`AgreesD`: the backend holds for a name exactly the entry the record
  remembers; `DiskWF`, entries filed under their own encoding, is in C13Recover.lean).  Then the invariant `StoreAgrees`,
  which `newStore` establishes on any well-formed backend content and a completed `flush` / `gc` pass keeps.
-/
namespace NodisVerif.C13
open NodisVerif NodisVerif.Store
open NodisVerif.Proofs.AListLemmas NodisVerif.Proofs.AListLemmas2

/-- the backend holds for `name` exactly the entry the record says it holds (`stored`): under that
    deadline and under no other; or none at all -/
def AgreesD (d : AList DiskEntry) (name : Bytes) (stored : Option Int) : Prop :=
  match stored with
  | some x => (∃ e, (Codec.encodeKey name x, e) ∈ d) ∧ ∀ k e, (k, e) ∈ d → e.name = name → e.exp = x
  | none => ∀ k e, (k, e) ∈ d → e.name ≠ name

def DiskAgrees (s : MState) (name : Bytes) (m : Meta) : Prop := AgreesD s.disk name m.stored

theorem recovered_is_entry {d : AList DiskEntry} (h : DiskWF d) {name k : Bytes} {e0 : DiskEntry}
    (hm : (k, e0) ∈ d) (hn : e0.name = name) :
    ∃ k' e, (k', e) ∈ d ∧ e.name = name ∧ recovered d name = some (e.exp, e.val) := by
  obtain ⟨e, he⟩ := lastFor_isSome_of_mem d name k e0 hm hn
  obtain ⟨h1, k', h2⟩ := lastFor_mem _ _ _ he
  refine ⟨k', e, h2, h1, ?_⟩
  rw [recovered_eq h, he]
  rfl

theorem same_entry {d : AList DiskEntry} (h : DiskWF d) {k k' : Bytes} {e e' : DiskEntry}
    (hm : (k, e) ∈ d) (hm' : (k', e') ∈ d) (hn : e.name = e'.name) (hx : e.exp = e'.exp) : e = e' := by
  have a := h.2 k e hm
  have b := h.2 k' e' hm'
  rw [hn, hx, ← b] at a
  subst a
  exact val_unique d h.1 hm hm'

def OnlyEntry (d : AList DiskEntry) (name : Bytes) (ent : DiskEntry) : Prop :=
  (∃ k, (k, ent) ∈ d) ∧ ∀ k e, (k, e) ∈ d → e.name = name → e = ent

theorem recovered_of_onlyEntry {d : AList DiskEntry} (h : DiskWF d) {name : Bytes} {ent : DiskEntry}
    (hn : ent.name = name) (ho : OnlyEntry d name ent) : recovered d name = some (ent.exp, ent.val) := by
  obtain ⟨⟨k, hk⟩, honly⟩ := ho
  exact recovered_of_only h hk hn honly

theorem agrees_of_onlyEntry {d : AList DiskEntry} (h : DiskWF d) {name : Bytes} {ent : DiskEntry}
    (hn : ent.name = name) (ho : OnlyEntry d name ent) : AgreesD d name (some ent.exp) := by
  obtain ⟨⟨k, hk⟩, honly⟩ := ho
  refine ⟨⟨ent, ?_⟩, ?_⟩
  · have := h.2 k ent hk
    rw [hn] at this
    rw [← this]; exact hk
  · intro k' e hm he
    rw [honly k' e hm he]

theorem recovered_of_agrees_some {d : AList DiskEntry} (h : DiskWF d) {name : Bytes} {x : Int}
    (ha : AgreesD d name (some x)) {k : Bytes} {e : DiskEntry} (hm : (k, e) ∈ d) (hn : e.name = name) :
    recovered d name = some (e.exp, e.val) := by
  apply recovered_of_only h hm hn
  intro k' e' hm' hn'
  exact same_entry h hm' hm (hn'.trans hn.symm) ((ha.2 k' e' hm' hn').trans (ha.2 k e hm hn).symm)

theorem recovered_of_agrees_none {d : AList DiskEntry} (h : DiskWF d) {name : Bytes}
    (ha : AgreesD d name none) : recovered d name = none :=
  (recovered_none_iff h name).mpr ha

theorem mem_after_other {d : AList DiskEntry} (h : DiskWF d) {pebble : Bool} {c : DiskCall}
    (hc : c.Exact pebble) {name : Bytes} (hn : c.name ≠ name) {k : Bytes} {e : DiskEntry} (he : e.name = name) :
    (k, e) ∈ diskAfter d c ↔ (k, e) ∈ d := by
  -- an entry of `name` does not sit under a key of the call's name
  have hkey : (k, e) ∈ d → ∀ dl, k ≠ Codec.encodeKey c.name dl := fun hm dl => by
    rw [h.2 k e hm]
    exact fun heq => hn ((Proofs.CodecLemmas.encodeKey_inj heq).1.symm.trans he)
  cases c with
  | set n dl ent =>
    constructor
    · intro hm
      rcases mem_set d _ _ _ hm with h3 | h3
      · rw [(Prod.mk.inj h3).2, hc.1] at he
        exact absurd he hn
      · exact h3
    · exact fun hm => (mem_set_iff d h.1 _ _ _).2 (Or.inr ⟨hm, hkey hm dl⟩)
  | del n dl => exact ⟨mem_of_mem_erase d _ _, fun hm => (mem_erase_iff d h.1 _ _).2 ⟨hm, hkey hm dl⟩⟩

theorem agrees_after_other {d : AList DiskEntry} (h : DiskWF d) {pebble : Bool} {c : DiskCall}
    (hc : c.Exact pebble) {name : Bytes} (hn : c.name ≠ name) {st : Option Int}
    (ha : AgreesD d name st) : AgreesD (diskAfter d c) name st := by
  cases st with
  | none =>
    intro k e hm he
    exact ha k e ((mem_after_other h hc hn he).mp hm) he
  | some x =>
    obtain ⟨⟨e, he⟩, h2⟩ := ha
    refine ⟨⟨e, (mem_after_other h hc hn (wf_entry h he).1).mpr he⟩, ?_⟩
    intro k e' hm hn'
    exact h2 k e' ((mem_after_other h hc hn hn').mp hm) hn'

theorem agrees_run_other {pebble : Bool} {name : Bytes} {st : Option Int} :
    ∀ (cs : List DiskCall) {d : AList DiskEntry}, DiskWF d →
    (∀ c ∈ cs, c.Exact pebble) → (∀ c ∈ cs, c.name ≠ name) → AgreesD d name st → AgreesD (runCalls d cs) name st := by
  intro cs
  induction cs with
  | nil => intro d _ _ _ ha; exact ha
  | cons c cs ih =>
    intro d h hc hn ha
    rw [runCalls_cons]
    exact ih (diskWF_after h (hc c List.mem_cons_self))
      (fun c' hc' => hc c' (List.mem_cons_of_mem _ hc')) (fun c' hc' => hn c' (List.mem_cons_of_mem _ hc'))
      (agrees_after_other h (hc c List.mem_cons_self) (hn c List.mem_cons_self) ha)

section persist
variable {d : AList DiskEntry} {name : Bytes} {m : Meta} {v : Val} (pebble : Bool)

theorem only_after_set_same (h : DiskWF d) (ha : AgreesD d name m.stored)
    (hs : m.stored = none ∨ m.stored = some m.exp) :
    OnlyEntry (AList.set d (Codec.encodeKey name m.exp) (mkEntry pebble name m v)) name (mkEntry pebble name m v) := by
  refine ⟨⟨_, mem_set_self _ _ _⟩, ?_⟩
  intro k e hm hn
  rcases mem_set d _ _ _ hm with h3 | h3
  · simp only [Prod.mk.injEq] at h3
    exact h3.2
  · rcases hs with hs | hs
    · rw [hs] at ha
      exact absurd hn (ha k e h3)
    · rw [hs] at ha
      have hx := ha.2 k e h3 hn
      exact same_entry (diskWF_set h (mkEntry pebble name m v)) hm (mem_set_self _ _ _) hn hx

theorem only_after_set_del (h : DiskWF d) {x : Int} (ha : AgreesD d name (some x)) (hx : x ≠ m.exp) :
    OnlyEntry (AList.erase (AList.set d (Codec.encodeKey name m.exp) (mkEntry pebble name m v)) (Codec.encodeKey name x))
      name (mkEntry pebble name m v) := by
  refine ⟨⟨Codec.encodeKey name m.exp, ?_⟩, ?_⟩
  · refine (mem_erase_iff _ (diskWF_set h (mkEntry pebble name m v)).1 _ _).2 ⟨mem_set_self _ _ _, ?_⟩
    intro heq
    exact hx (Proofs.CodecLemmas.encodeKey_inj heq).2.symm
  · intro k e hm hn
    obtain ⟨hm1, hk⟩ := (mem_erase_iff _ (diskWF_set h (mkEntry pebble name m v)).1 _ _).1 hm
    rcases mem_set d _ _ _ hm1 with h3 | h3
    · simp only [Prod.mk.injEq] at h3
      exact h3.2
    · exfalso
      apply hk
      simp only
      rw [h.2 k e h3, hn, ha.2 k e h3 hn]

theorem window_old_or_new (h : DiskWF d) {x : Int} (ha : AgreesD d name (some x)) :
    recovered (AList.set d (Codec.encodeKey name m.exp) (mkEntry pebble name m v)) name = recovered d name
      ∨ recovered (AList.set d (Codec.encodeKey name m.exp) (mkEntry pebble name m v)) name = some (m.exp, v) := by
  have hwf1 : DiskWF (AList.set d (Codec.encodeKey name m.exp) (mkEntry pebble name m v)) :=
    diskWF_set h (mkEntry pebble name m v)
  obtain ⟨k', e, hm, hn, hr⟩ := recovered_is_entry hwf1 (name := name) (mem_set_self d (Codec.encodeKey name m.exp) (mkEntry pebble name m v)) rfl
  rcases mem_set d _ _ _ hm with h3 | h3
  · simp only [Prod.mk.injEq] at h3
    right
    rw [hr, h3.2]
    rfl
  · left
    rw [hr, recovered_of_agrees_some h ha h3 hn]

-- `persist_crash_disk`, `unpersist_crash_disk` and `record_crash` have one shape: after every prefix of the calls the
-- name is recovered as before or as after the whole step; what the whole step leaves; `AgreesD` for what the record
-- then says is stored
theorem persist_crash_disk (h : DiskWF d) (ha : AgreesD d name m.stored) (hv : m.value = some v) :
    (∀ n, recovered (runCalls d ((setCalls pebble name m ++ delOldCalls name m).take n)) name = recovered d name
      ∨ recovered (runCalls d ((setCalls pebble name m ++ delOldCalls name m).take n)) name = some (m.exp, v))
    ∧ recovered (runCalls d (setCalls pebble name m ++ delOldCalls name m)) name = some (m.exp, v)
    ∧ AgreesD (runCalls d (setCalls pebble name m ++ delOldCalls name m)) name (some m.exp) := by
  have hset : setCalls pebble name m = [.set name m.exp (mkEntry pebble name m v)] := by
    simp only [setCalls, hv]
  have hwf1 : DiskWF (AList.set d (Codec.encodeKey name m.exp) (mkEntry pebble name m v)) :=
    diskWF_set h (mkEntry pebble name m v)
  -- no DELETE follows the SET (nothing stored, or stored under the same deadline): prefixes 0 / ≥ 1
  by_cases hs : m.stored = none ∨ m.stored = some m.exp
  · have hdel : delOldCalls name m = [] := by
      rcases hs with hs | hs <;> simp [delOldCalls, hs]
    have ho := only_after_set_same (v := v) pebble h ha hs
    have hr : recovered (AList.set d (Codec.encodeKey name m.exp) (mkEntry pebble name m v)) name
        = some (m.exp, v) := recovered_of_onlyEntry hwf1 rfl ho
    have hag := agrees_of_onlyEntry hwf1 rfl ho
    rw [hset, hdel]
    refine ⟨fun n => ?_, hr, hag⟩
    rcases n with _ | n
    · left; rfl
    · right
      have ht : List.take (n + 1) ([DiskCall.set name m.exp (mkEntry pebble name m v)] ++ []) =
          [DiskCall.set name m.exp (mkEntry pebble name m v)] := by simp
      rw [ht]; exact hr
  · cases hst : m.stored with
    | none => exact absurd (Or.inl hst) hs
    -- SET, then DELETE of the entry under `x`: prefixes 0 / 1 (both entries on disk) / ≥ 2
    | some x =>
      have hx : x ≠ m.exp := by
        intro e; apply hs; right; rw [hst, e]
      have hdel : delOldCalls name m = [.del name x] := by
        simp [delOldCalls, hst, hx]
      rw [hst] at ha
      have ho := only_after_set_del (m := m) (v := v) pebble h ha hx
      have hwf2 := diskWF_erase hwf1 (Codec.encodeKey name x)
      have hr : recovered (AList.erase (AList.set d (Codec.encodeKey name m.exp) (mkEntry pebble name m v))
          (Codec.encodeKey name x)) name = some (m.exp, v) := recovered_of_onlyEntry hwf2 rfl ho
      have hag := agrees_of_onlyEntry hwf2 rfl ho
      rw [hset, hdel]
      refine ⟨fun n => ?_, hr, hag⟩
      rcases n with _ | _ | n
      · left; rfl
      · exact window_old_or_new pebble h ha
      · right
        have ht : List.take (n + 1 + 1) ([DiskCall.set name m.exp (mkEntry pebble name m v)] ++ [DiskCall.del name x]) =
            [DiskCall.set name m.exp (mkEntry pebble name m v), DiskCall.del name x] := by simp
        rw [ht]; exact hr

end persist

theorem unpersist_crash_disk {d : AList DiskEntry} {name : Bytes} {m : Meta}
    (h : DiskWF d) (ha : AgreesD d name m.stored) :
    (∀ n, recovered (runCalls d ((unpersistCalls name m).take n)) name = recovered d name
      ∨ recovered (runCalls d ((unpersistCalls name m).take n)) name = none)
    ∧ recovered (runCalls d (unpersistCalls name m)) name = none
    ∧ AgreesD (runCalls d (unpersistCalls name m)) name none := by
  cases hst : m.stored with
  | none =>
    rw [hst] at ha
    have hc : unpersistCalls name m = [] := by simp [unpersistCalls, hst]
    rw [hc]
    exact ⟨fun n => Or.inl (by cases n <;> rfl), recovered_of_agrees_none h ha, ha⟩
  | some x =>
    rw [hst] at ha
    have hc : unpersistCalls name m = [.del name x] := by simp [unpersistCalls, hst]
    rw [hc]
    have hag : AgreesD (AList.erase d (Codec.encodeKey name x)) name none := by
      intro k e hm hn
      obtain ⟨hm', hk⟩ := (mem_erase_iff _ h.1 _ _).1 hm
      refine hk ?_
      simp only
      rw [h.2 k e hm', hn, ha.2 k e hm' hn]
    have hr := recovered_of_agrees_none (diskWF_erase h (Codec.encodeKey name x)) hag
    refine ⟨fun n => ?_, hr, hag⟩
    rcases n with _ | n
    · left; rfl
    · right
      have ht : List.take (n + 1) [DiskCall.del name x] = [DiskCall.del name x] := by simp
      rw [ht]; exact hr

/-- untorn: an entry on disk after any prefix of the calls was there before or is, whole, the entry of one `set` call -/
theorem untorn_run : ∀ (cs : List DiskCall) (d : AList DiskEntry) (n : Nat) (k : Bytes) (e : DiskEntry),
    (k, e) ∈ runCalls d (cs.take n) → (k, e) ∈ d ∨ ∃ c ∈ cs, c.entry? = some e := by
  intro cs
  induction cs with
  | nil => intro d n k e h; left; simpa [runCalls] using h
  | cons c cs ih =>
    intro d n k e h
    cases n with
    | zero => left; exact h
    | succ n =>
      rw [List.take_succ_cons, runCalls_cons] at h
      rcases ih _ n k e h with h1 | ⟨c', hc', he'⟩
      · cases c with
        | set nm dl ent =>
          rcases mem_set d _ _ _ h1 with h2 | h2
          · simp only [Prod.mk.injEq] at h2
            right
            exact ⟨_, List.mem_cons_self, by rw [h2.2]; rfl⟩
          · left; exact h2
        | del nm dl => left; exact mem_of_mem_erase d _ _ h1
      · right; exact ⟨c', List.mem_cons_of_mem _ hc', he'⟩

/-- what a completed pass leaves for a record: nothing for a dead one, the current (deadline, value)
    for a live modified one, what was there for a live unmodified one -/
def target (now : Int) (m : Meta) (old : Option (Int × Val)) : Option (Int × Val) :=
  if m.expired now || !m.isOk then none
  else if !m.isModified then old
  else m.value.map fun v => (m.exp, v)

/-- what the record will say is stored after the pass -/
def storedAfter (now : Int) (m : Meta) : Option Int :=
  if m.expired now || !m.isOk then none
  else if !m.isModified then m.stored
  else some m.exp

theorem isSome_of_modified {m : Meta} (h : m.isModified = true) : ∃ v, m.value = some v := by
  unfold Meta.isModified at h
  cases hv : m.value with
  | none => simp [hv] at h
  | some v => exact ⟨v, rfl⟩

theorem record_crash (s : MState) (now : Int) {d : AList DiskEntry} {key : Bytes} {m : Meta}
    (h : DiskWF d) (ha : AgreesD d key m.stored) :
    (∀ n, recovered (runCalls d ((recordCalls s now (key, m)).take n)) key = recovered d key
      ∨ recovered (runCalls d ((recordCalls s now (key, m)).take n)) key
          = recovered (runCalls d (recordCalls s now (key, m))) key)
    ∧ recovered (runCalls d (recordCalls s now (key, m))) key = target now m (recovered d key)
    ∧ AgreesD (runCalls d (recordCalls s now (key, m))) key (storedAfter now m) := by
  unfold recordCalls target storedAfter
  simp only
  split
  -- a dead record: the calls of `unpersist`
  · obtain ⟨h1, h2, h3⟩ := unpersist_crash_disk h ha
    refine ⟨fun n => ?_, h2, h3⟩
    rw [h2]; exact h1 n
  · split
    -- live and unmodified: no call
    · exact ⟨fun n => Or.inl (by cases n <;> rfl), rfl, ha⟩
    -- live and modified: the calls of `persist`
    · rename_i _ hmod
      have hmod' : m.isModified = true := by
        revert hmod; cases m.isModified <;> simp
      obtain ⟨v, hv⟩ := isSome_of_modified hmod'
      obtain ⟨h1, h2, h3⟩ := persist_crash_disk s.pebble h ha hv
      refine ⟨fun n => ?_, ?_, h3⟩
      · unfold persistCalls; rw [h2]; exact h1 n
      · unfold persistCalls; rw [h2, hv]; rfl

/-! ### a whole pass, by induction over the index

  An induction of its own, over the backend content alone and the concatenated call list: `pass_crash` cuts that list
  at an arbitrary `take n`, in the middle of a record's calls, which a fold of whole steps (`Pass.fold_pass`,
  StorePass.lean) does not express; `pass_full` is the case of the whole list, by the same step lemma `pass_cons`. -/

def RecordsAgree (d : AList DiskEntry) (l : List (Bytes × Meta)) : Prop :=
  (l.map (·.1)).Nodup ∧ ∀ p ∈ l, AgreesD d p.1 p.2.stored

theorem passCalls_name (s : MState) (now : Int) (l : List (Bytes × Meta)) {name : Bytes}
    (hn : ∀ p ∈ l, p.1 ≠ name) : ∀ c ∈ l.flatMap (recordCalls s now), c.name ≠ name := by
  intro c hc
  obtain ⟨ent, he, h⟩ := List.mem_flatMap.mp hc
  rw [(recordCalls_for s now ent c h).2]
  exact hn ent he

theorem take_subset_exact {pebble : Bool} {cs : List DiskCall} (h : ∀ c ∈ cs, c.Exact pebble) (n : Nat) :
    ∀ c ∈ cs.take n, c.Exact pebble := fun c hc => h c (List.mem_of_mem_take hc)

theorem recovered_record_other (s : MState) (now : Int) {d : AList DiskEntry} (hwf : DiskWF d) (key : Bytes) (m : Meta)
    {name : Bytes} (hn : key ≠ name) (n : Nat) :
    recovered (runCalls d ((recordCalls s now (key, m)).take n)) name = recovered d name :=
  recovered_run_other _ hwf (take_subset_exact (recordCalls_exact s now (key, m)) n)
    fun c hc => by rw [(recordCalls_for s now (key, m) c (List.mem_of_mem_take hc)).2]; exact hn

theorem pass_cons (s : MState) (now : Int) {d : AList DiskEntry} {key : Bytes} {m : Meta} {rest : List (Bytes × Meta)}
    (hwf : DiskWF d) (hra : RecordsAgree d ((key, m) :: rest)) :
    (∀ p ∈ rest, p.1 ≠ key) ∧ DiskWF (runCalls d (recordCalls s now (key, m)))
    ∧ RecordsAgree (runCalls d (recordCalls s now (key, m))) rest := by
  obtain ⟨hnd, hag⟩ := hra
  rw [List.map_cons, List.nodup_cons] at hnd
  have hrest_ne : ∀ p ∈ rest, p.1 ≠ key := fun p hp e => hnd.1 (e ▸ List.mem_map.mpr ⟨p, hp, rfl⟩)
  have hCex := recordCalls_exact s now (key, m)
  refine ⟨hrest_ne, diskWF_run hwf _ hCex, hnd.2, fun p hp => ?_⟩
  apply agrees_run_other _ hwf hCex _ (hag p (List.mem_cons_of_mem _ hp))
  intro c hc
  rw [(recordCalls_for s now (key, m) c hc).2]
  exact fun e => hrest_ne p hp e.symm

theorem pass_crash (s : MState) (now : Int) : ∀ (l : List (Bytes × Meta)) {d : AList DiskEntry},
    DiskWF d → RecordsAgree d l → ∀ (n : Nat) (name : Bytes),
    recovered (runCalls d ((l.flatMap (recordCalls s now)).take n)) name = recovered d name
      ∨ recovered (runCalls d ((l.flatMap (recordCalls s now)).take n)) name
          = recovered (runCalls d (l.flatMap (recordCalls s now))) name := by
  intro l
  induction l with
  | nil => intro d _ _ n name; left; simp [runCalls]
  | cons a rest ih =>
    intro d hwf hra n name
    obtain ⟨key, m⟩ := a
    obtain ⟨hrest_ne, hwf1, hra1⟩ := pass_cons s now hwf hra
    have hother := fun (hn : key ≠ name) (n : Nat) => recovered_record_other s now hwf key m hn n
    simp only [List.flatMap_cons, List.take_append, runCalls_append]
    -- the full pass on `key`: decided by its own calls
    have hfull_key : recovered (runCalls (runCalls d (recordCalls s now (key, m))) (rest.flatMap (recordCalls s now))) key
        = recovered (runCalls d (recordCalls s now (key, m))) key :=
      recovered_run_other _ hwf1 (passCalls_exact s now rest) (passCalls_name s now rest hrest_ne)
    by_cases hn : n ≤ (recordCalls s now (key, m)).length
    · -- the crash falls into the calls of the first record
      have h0 : n - (recordCalls s now (key, m)).length = 0 := by omega
      rw [h0, List.take_zero, runCalls_nil]
      by_cases hname : key = name
      · subst hname
        rw [hfull_key]
        exact (record_crash s now hwf (hra.2 _ List.mem_cons_self)).1 n
      · exact Or.inl (hother hname n)
    · -- the first record is done
      have htake := List.take_of_length_le (Nat.le_of_lt (Nat.lt_of_not_le hn))
      rw [htake]
      rcases ih hwf1 hra1 (n - (recordCalls s now (key, m)).length) name with h1 | h1
      · by_cases hname : key = name
        · subst hname
          right
          rw [h1, hfull_key]
        · left
          rw [h1, ← htake]
          exact hother hname n
      · right; exact h1

theorem pass_full (s : MState) (now : Int) : ∀ (l : List (Bytes × Meta)) {d : AList DiskEntry},
    DiskWF d → RecordsAgree d l →
    (∀ p ∈ l, recovered (runCalls d (l.flatMap (recordCalls s now))) p.1 = target now p.2 (recovered d p.1)
      ∧ AgreesD (runCalls d (l.flatMap (recordCalls s now))) p.1 (storedAfter now p.2))
    ∧ ∀ name, (∀ p ∈ l, p.1 ≠ name) →
        recovered (runCalls d (l.flatMap (recordCalls s now))) name = recovered d name := by
  intro l
  induction l with
  | nil =>
    intro d _ _
    exact ⟨fun p hp => (by cases hp), fun name _ => rfl⟩
  | cons a rest ih =>
    intro d hwf hra
    obtain ⟨key, m⟩ := a
    obtain ⟨hrest_ne, hwf1, hra1⟩ := pass_cons s now hwf hra
    have hother : ∀ {name}, key ≠ name → recovered (runCalls d (recordCalls s now (key, m))) name = recovered d name :=
      fun hn => by
        have := recovered_record_other s now hwf key m hn (recordCalls s now (key, m)).length
        rwa [List.take_length] at this
    have hRex := passCalls_exact s now rest
    have hRkey := passCalls_name s now rest hrest_ne
    obtain ⟨i1, i2⟩ := ih hwf1 hra1
    obtain ⟨_, r2, r3⟩ := record_crash s now hwf (hra.2 _ List.mem_cons_self)
    simp only [List.flatMap_cons, runCalls_append]
    constructor
    · intro p hp
      rcases List.mem_cons.mp hp with rfl | hp
      · exact ⟨by rw [recovered_run_other _ hwf1 hRex hRkey]; exact r2, agrees_run_other _ hwf1 hRex hRkey r3⟩
      · obtain ⟨j1, j2⟩ := i1 p hp
        exact ⟨by rw [j1, hother fun e => hrest_ne p hp e.symm], j2⟩
    · intro name hname
      rw [i2 name (fun p hp => hname p (List.mem_cons_of_mem _ hp)), hother (hname (key, m) List.mem_cons_self)]

/-! ## The invariant

  Every index record agrees with the backend about what is stored for its name; `newStore` establishes this on ANY
  well-formed backend content (in particular on one with two entries for a name, left by a kill between the SET
  and the DELETE of `persist`): it deletes every shadowed entry. -/

/-- the invariant: backend well-formed, index sorted (distinct names), every record agrees with the
    backend: the entry it says is stored is there, and no other entry of its name -/
structure StoreAgrees (s : MState) : Prop where
  diskWF : DiskWF s.disk
  idxSorted : AList.Sorted s.index
  agrees : ∀ p ∈ s.index, DiskAgrees s p.1 p.2

theorem StoreAgrees.records {s : MState} (h : StoreAgrees s) : RecordsAgree s.disk s.index :=
  ⟨keys_nodup s.index h.idxSorted, h.agrees⟩

theorem reopened_agrees {d : AList DiskEntry} (h : DiskWF d) : StoreAgrees (reopened d) := by
  obtain ⟨hwf', hlast⟩ := reopened_spec h
  have hsorted : AList.Sorted (reopened d).index := by
    rw [reopened_index]
    exact scan_sorted d ([], []) trivial
  refine ⟨hwf', hsorted, ?_⟩
  intro p hp
  obtain ⟨n, m⟩ := p
  have hg := get?_of_mem _ hsorted n m hp
  rw [reopened_index, scan_index] at hg
  cases hl : lastFor d n with
  | none => rw [hl] at hg; simp [AList.get?] at hg
  | some e =>
    rw [hl] at hg
    simp only [Option.some.injEq] at hg
    subst hg
    have hl' := hlast n
    rw [hl] at hl'
    obtain ⟨hn, k, hm⟩ := lastFor_mem _ _ _ hl'
    have hk := hwf'.2 k e hm
    rw [hn] at hk
    refine ⟨⟨e, by rw [← hk]; exact hm⟩, ?_⟩
    intro k' e' hm' hn'
    rw [reopened_only_last h hm' hn' hl]

/-! ## A completed pass keeps the invariant

  What a `flush` / `gc` pass writes into the index records — `stored` — is what it leaves in the backend.
  (`gc_eq`, `resetRec_facts`, `gcSlot` … are StorePass.lean's, in the namespaces `Proofs.C11` and `Proofs.Pass`.) -/
open NodisVerif.Proofs.C11 (gc_eq resetRec_facts)
open NodisVerif.Proofs.Pass (gcSlot flushSlot gc_index flush_index)

/-- `after m` = what the pass leaves in the index for a record `m` it finds (`none`: unlinked); `flushSlot` and `gcSlot`
    are the two instances -/
theorem pass_agrees {s s' : MState} (now : Int) (h : StoreAgrees s) (after : Meta → Option Meta)
    (hdisk : s'.disk = runCalls s.disk (s.index.flatMap (recordCalls s now)))
    (hsorted : AList.Sorted s'.index)
    (hidx : ∀ x, AList.get? s'.index x = (AList.get? s.index x).bind after)
    (hnew : ∀ m r, after m = some r → r.stored = storedAfter now m) : StoreAgrees s' := by
  refine ⟨?_, hsorted, ?_⟩
  · rw [hdisk]; exact diskWF_run h.diskWF _ (passCalls_exact s now s.index)
  · rintro ⟨key, m'⟩ hp'
    have hg := get?_of_mem _ hsorted key m' hp'
    have hi := hidx key
    unfold DiskAgrees
    rw [hdisk]
    cases hm : AList.get? s.index key with
    | none => rw [hm] at hi; rw [hi] at hg; cases hg
    | some m =>
      rw [hm, Option.bind_some] at hi
      rw [hnew m m' (hi ▸ hg)]
      exact ((pass_full s now s.index h.diskWF h.records).1 (key, m) (mem_of_get? _ _ _ hm)).2

theorem flush_agrees (s : MState) (now : Int) (h : StoreAgrees s) (hf : s.failSet = 0) (hp : s.pebble = true) :
    StoreAgrees (flush s now) := by
  obtain ⟨g1, g2⟩ := flush_index s now h.idxSorted
  refine pass_agrees now h (fun m => (flushSlot now m true).or (some m))
    (by rw [flush_eq_calls s now hf hp, applyCalls_disk _ _ (flushCalls_exact s now)]; rfl)
    g1 (fun x => ?_) ?_
  · obtain ⟨ok, a, b⟩ := g2 x
    rw [b, a hf]
  · intro m r hr
    unfold flushSlot at hr
    unfold storedAfter
    by_cases hd : (m.expired now || !m.isOk) = true
    · rw [if_pos hd] at hr ⊢; cases hr; rfl
    · rw [if_neg hd] at hr ⊢
      generalize m.isModified = modified at hr ⊢
      cases modified
      · cases hr; rfl
      · cases hr; rfl

theorem gc_agrees (s : MState) (now : Int) (h : StoreAgrees s) (hf : s.failSet = 0) (hp : s.pebble = true) :
    StoreAgrees (gc s now) := by
  by_cases hc : s.closed = true
  · rw [gc_eq, if_pos hc]; exact h
  obtain ⟨g1, g2⟩ := gc_index s now h.idxSorted (by simpa using hc)
  refine pass_agrees now h (fun m => gcSlot now m true)
    (by rw [gc_eq_calls s now hf hp, applyCalls_disk _ _ (gcCalls_exact s now), gcCalls, if_neg hc])
    g1 (fun x => ?_) ?_
  · obtain ⟨ok, a, b⟩ := g2 x
    rw [b, a hf]
  · intro m r hr
    unfold gcSlot at hr
    unfold storedAfter
    by_cases hd : (m.expired now || !m.isOk) = true
    · rw [if_pos hd] at hr; cases hr
    · rw [if_neg hd] at hr ⊢
      -- `resetRec` leaves `stored` alone
      generalize m.isModified = modified at hr ⊢
      cases modified
      · cases hr
        rw [(resetRec_facts _).2.2.2.1]; rfl
      · cases hr
        rw [(resetRec_facts _).2.2.2.1]; rfl

end NodisVerif.C13

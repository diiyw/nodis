import NodisVerif.Model.Api
import NodisVerif.Proofs.AListLemmas2
/-
  What the primitives of Model/Store.lean, and `Api.setVal` / `Api.setExp`, do to the index: which record is found
  under a key afterwards, which fields of the state they leave alone, that the index stays key-sorted.  The lookup
  `readKey` / `writeKey` is described once, as `C01.accessKey` with the list of its outcomes (`accessKey_shape`).
  `getMeta_<p>_same` / `getMeta_<p>_other` take the arguments of the primitive `p`; `_other` then the key `k` looked at
  and `k ≠ key`.
  The names are in `NodisVerif.Store`, so that `open Store` brings them along (`getMeta_accessKey_other` and
  `accessKey_sorted` with their families); `SameDisk`, `bump`, `loaded`, `accessKey` and its outcomes (`accessKey_shape`
  … `accessKey_ind`) are in `Proofs.C01`; `dropEntries` (the backend entries of a dead record under the name RENAME
  publishes to) is in `Proofs.C11`.
-/
namespace NodisVerif.Store
open NodisVerif.Proofs.AListLemmas NodisVerif.Proofs.AListLemmas2 Api

-- the two bits of `Meta.state` under `setValue` / `markModified`, on the bare word
theorem ok_set (n : Nat) : (if n % 2 = 1 then n else n + 1) % 2 = 1 := by
  split <;> omega
theorem ok_set_mod (n : Nat) : (if n % 2 = 1 then n else n + 1) / 2 % 2 = n / 2 % 2 := by
  split
  · rfl
  · omega
theorem mod_set (n : Nat) : (if n / 2 % 2 = 1 then n else n + 2) / 2 % 2 = 1 := by
  split <;> omega
theorem mod_set_ok (n : Nat) : (if n / 2 % 2 = 1 then n else n + 2) % 2 = n % 2 := by
  split
  · rfl
  · exact Nat.add_mod_right n 2

theorem setValue_isOk (m : Meta) (v : Val) : (m.setValue v).isOk = true :=
  decide_eq_true (ok_set m.state)

theorem markModified_isOk (m : Meta) : m.markModified.isOk = m.isOk := by
  simp only [Meta.markModified, Meta.isOk, mod_set_ok]

theorem getMeta_congr {s t : MState} (h : t.index = s.index) (k : Bytes) : getMeta t k = getMeta s k :=
  congrArg (AList.get? · k) h

theorem valOf_of_getMeta {s : MState} {k : Bytes} {m : Meta} (hm : getMeta s k = some m) : valOf s k = m.value := by
  unfold valOf; rw [hm]; rfl

theorem expOf_of_getMeta {s : MState} {k : Bytes} {m : Meta} (hm : getMeta s k = some m) : expOf s k = m.exp := by
  unfold expOf; rw [hm]; rfl

theorem getMeta_putMeta (s : MState) (k k' : Bytes) (m : Meta) :
    getMeta (putMeta s k m) k' = if k' = k then some m else getMeta s k' :=
  get?_set s.index k m k'

theorem getMeta_putMeta_same (s : MState) (k : Bytes) (m : Meta) : getMeta (putMeta s k m) k = some m :=
  get?_set_same s.index k m

theorem getMeta_putMeta_other (s : MState) (key : Bytes) (m : Meta) (k : Bytes) (h : k ≠ key) :
    getMeta (putMeta s key m) k = getMeta s k :=
  get?_set_other s.index key m k h

theorem putMeta_sorted (s : MState) (k : Bytes) (m : Meta) (h : AList.Sorted s.index) :
    AList.Sorted (putMeta s k m).index :=
  set_preserves_sorted _ h _ _

theorem lockW_eq (s : MState) (k : Bytes) :
    lockW s k = { s with held := (lockW s k).held, hung := (lockW s k).hung } := by
  unfold lockW
  split
  · rfl
  · split <;> rfl

theorem lockR_eq (s : MState) (k : Bytes) :
    lockR s k = { s with held := (lockR s k).held, hung := (lockR s k).hung } := by
  unfold lockR
  split <;> rfl

theorem lockW_index (s : MState) (k : Bytes) : (lockW s k).index = s.index := by rw [lockW_eq]
theorem lockR_index (s : MState) (k : Bytes) : (lockR s k).index = s.index := by rw [lockR_eq]
theorem lockW_disk (s : MState) (k : Bytes) : (lockW s k).disk = s.disk := by rw [lockW_eq]
theorem lockW_pebble (s : MState) (k : Bytes) : (lockW s k).pebble = s.pebble := by rw [lockW_eq]
theorem lockW_nextId (s : MState) (k : Bytes) : (lockW s k).nextId = s.nextId := by rw [lockW_eq]

theorem getMeta_lockW (s : MState) (k k' : Bytes) : getMeta (lockW s k) k' = getMeta s k' :=
  getMeta_congr (lockW_index s k) k'
theorem getMeta_lockR (s : MState) (k k' : Bytes) : getMeta (lockR s k) k' = getMeta s k' :=
  getMeta_congr (lockR_index s k) k'

theorem unpersist_eq (s : MState) (k : Bytes) (m : Meta) :
    unpersist s k m = { s with disk := (unpersist s k m).disk } := by
  unfold unpersist; split <;> rfl

theorem unpersist_index (s : MState) (k : Bytes) (m : Meta) : (unpersist s k m).index = s.index := by
  rw [unpersist_eq]

theorem getMeta_unpersist (s : MState) (k : Bytes) (m : Meta) (k' : Bytes) :
    getMeta (unpersist s k m) k' = getMeta s k' :=
  getMeta_congr (unpersist_index s k m) k'

theorem delKey_index (s : MState) (k : Bytes) : (delKey s k).index = AList.erase s.index k := by
  unfold delKey; split
  · simp only [unpersist_index]
  · rfl

theorem getMeta_delKey (s : MState) (k k' : Bytes) (h : AList.Sorted s.index) :
    getMeta (delKey s k) k' = if k' = k then none else getMeta s k' :=
  (congrArg (AList.get? · k') (delKey_index s k)).trans (get?_erase s.index h k k')

theorem getMeta_delKey_same (s : MState) (k : Bytes) (h : AList.Sorted s.index) : getMeta (delKey s k) k = none :=
  (congrArg (AList.get? · k) (delKey_index s k)).trans (get?_erase_same s.index h k)

theorem getMeta_delKey_other (s : MState) (key k : Bytes) (h : k ≠ key) : getMeta (delKey s key) k = getMeta s k :=
  (congrArg (AList.get? · k) (delKey_index s key)).trans (get?_erase_other s.index key k h)

theorem delKey_sorted (s : MState) (k : Bytes) (h : AList.Sorted s.index) : AList.Sorted (delKey s k).index := by
  rw [delKey_index]; exact erase_preserves_sorted _ h _

theorem getMeta_modMeta (s : MState) (k k' : Bytes) (f : Meta → Meta) :
    getMeta (modMeta s k f) k' = if k' = k then (getMeta s k).map f else getMeta s k' := by
  unfold modMeta
  cases hm : getMeta s k with
  | none =>
    by_cases h : k' = k
    · rw [if_pos h, h]; exact hm
    · rw [if_neg h]
  | some m => exact getMeta_putMeta s k k' (f m)

theorem getMeta_modMeta_same (s : MState) (k : Bytes) (f : Meta → Meta) :
    getMeta (modMeta s k f) k = (getMeta s k).map f := by
  rw [getMeta_modMeta, if_pos rfl]

theorem getMeta_modMeta_other (s : MState) (key : Bytes) (f : Meta → Meta) (k : Bytes) (h : k ≠ key) :
    getMeta (modMeta s key f) k = getMeta s k := by
  rw [getMeta_modMeta, if_neg h]

theorem modMeta_sorted (s : MState) (k : Bytes) (f : Meta → Meta) (h : AList.Sorted s.index) :
    AList.Sorted (modMeta s k f).index := by
  unfold modMeta
  cases getMeta s k with
  | none => exact h
  | some m => exact putMeta_sorted _ _ _ h

theorem getMeta_signal (s : MState) (k k' : Bytes) :
    getMeta (signal s k) k' = if k' = k then (getMeta s k).map Meta.markModified else getMeta s k' :=
  getMeta_modMeta s k k' Meta.markModified

theorem getMeta_signal_same (s : MState) (k : Bytes) : getMeta (signal s k) k = (getMeta s k).map Meta.markModified :=
  getMeta_modMeta_same s k Meta.markModified

theorem getMeta_signal_other (s : MState) (key k : Bytes) (h : k ≠ key) : getMeta (signal s key) k = getMeta s k :=
  getMeta_modMeta_other s key Meta.markModified k h

theorem signal_sorted (s : MState) (k : Bytes) (h : AList.Sorted s.index) : AList.Sorted (signal s k).index :=
  modMeta_sorted s k Meta.markModified h

theorem setExp_eq (s : MState) (key : Bytes) (e : Int) :
    setExp s key e = modMeta s key fun m => { m with exp := e } := by
  unfold setExp modMeta
  cases getMeta s key <;> rfl

theorem getMeta_setExp (s : MState) (k k' : Bytes) (e : Int) :
    getMeta (setExp s k e) k' = if k' = k then (getMeta s k).map (fun m => { m with exp := e }) else getMeta s k' := by
  rw [setExp_eq]; exact getMeta_modMeta s k k' _

theorem getMeta_setExp_same (s : MState) (key : Bytes) (e : Int) (m : Meta) (hm : getMeta s key = some m) :
    getMeta (setExp s key e) key = some { m with exp := e } := by
  rw [getMeta_setExp, if_pos rfl, hm]; rfl

theorem getMeta_setExp_other (s : MState) (key : Bytes) (e : Int) (k : Bytes) (h : k ≠ key) :
    getMeta (setExp s key e) k = getMeta s k := by
  rw [getMeta_setExp, if_neg h]

theorem setExp_sorted (s : MState) (key : Bytes) (e : Int) (h : AList.Sorted s.index) :
    AList.Sorted (setExp s key e).index := by
  rw [setExp_eq]; exact modMeta_sorted s key _ h

theorem emit_index (s : MState) (op : FeedOp) : (emit s op).index = s.index := by
  unfold emit; split <;> rfl

theorem getMeta_emit (s : MState) (op : FeedOp) (k : Bytes) : getMeta (emit s op) k = getMeta s k :=
  getMeta_congr (emit_index s op) k

theorem emit_sorted (s : MState) (op : FeedOp) (h : AList.Sorted s.index) : AList.Sorted (emit s op).index := by
  rw [emit_index]; exact h

/-- what `setVal` does to each record when the value object is shared (in-memory backend):
    every hot record holding the same object sees the new value -/
def setValG (oid : Nat) (v : Val) (_k : Bytes) (m' : Meta) : Meta :=
  if m'.oid = oid ∧ m'.value.isSome then { m' with value := some v } else m'

theorem setValG_eq (oid : Nat) (v : Val) (k : Bytes) (m : Meta) :
    setValG oid v k m = { m with value := if m.oid = oid ∧ m.value.isSome then some v else m.value } := by
  unfold setValG; split <;> rfl

/-- the backend side of `setValG`: an entry holding the mutated object sees the new value -/
def shareE (oid : Nat) (v : Val) (e : DiskEntry) : DiskEntry :=
  if e.oid = oid then { e with val := v } else e

theorem shareE_eq (oid : Nat) (v : Val) (e : DiskEntry) :
    shareE oid v e = { e with val := if e.oid = oid then v else e.val } := by
  unfold shareE; split <;> rfl

theorem setVal_rest (s : MState) (k : Bytes) (v : Val) :
    setVal s k v = { s with index := (setVal s k v).index, disk := (setVal s k v).disk } := by
  unfold setVal
  split
  · rfl
  · simp only; split <;> rfl

theorem setVal_eq (s : MState) (k : Bytes) (v : Val) (m : Meta) (hm : getMeta s k = some m) :
    setVal s k v =
      if s.pebble ∨ m.oid = 0 then putMeta s k { m with value := some v } else
      { putMeta s k { m with value := some v } with
        index := (putMeta s k { m with value := some v }).index.map fun p => (p.1, setValG m.oid v p.1 p.2),
        disk := s.disk.map fun p => (p.1, shareE m.oid v p.2) } := by
  unfold setVal
  rw [hm]
  simp only
  have hp : (putMeta s k { m with value := some v }).pebble = s.pebble := rfl
  rw [hp]
  split
  · rfl
  · have hf : (fun (x : Bytes × Meta) =>
        match x with
        | (k, m') => if m'.oid = m.oid ∧ m'.value.isSome = true then (k, { m' with value := some v }) else (k, m'))
        = fun p => (p.1, setValG m.oid v p.1 p.2) := by
      funext x; obtain ⟨a, b⟩ := x; simp only [setValG]; split <;> rfl
    have hg : (fun (x : Bytes × DiskEntry) =>
        match x with
        | (k, e) => if e.oid = m.oid then (k, { e with val := v }) else (k, e))
        = fun p => (p.1, shareE m.oid v p.2) := by
      funext x; obtain ⟨a, b⟩ := x; simp only [shareE]; split <;> rfl
    rw [hf, hg]
    rfl

theorem setVal_index (s : MState) (key : Bytes) (v : Val) (m : Meta) (hm : getMeta s key = some m) :
    (setVal s key v).index =
      if s.pebble ∨ m.oid = 0 then AList.set s.index key { m with value := some v }
      else (AList.set s.index key { m with value := some v }).map fun p => (p.1, setValG m.oid v p.1 p.2) := by
  rw [setVal_eq s key v m hm]
  by_cases hc : s.pebble = true ∨ m.oid = 0
  · rw [if_pos hc, if_pos hc]; rfl
  · rw [if_neg hc, if_neg hc]; rfl

theorem getMeta_setVal_same (s : MState) (key : Bytes) (v : Val) (m : Meta) (hm : getMeta s key = some m) :
    getMeta (setVal s key v) key = some { m with value := some v } := by
  unfold getMeta
  rw [setVal_index s key v m hm]
  split
  · exact get?_set_same _ _ _
  · rw [get?_map, get?_set_same]
    simp [setValG]

/-- `setVal` on `key` leaves the record of another key alone when the two do not share a value object
    (Pebble hands out copies; identity 0 is a private copy; otherwise the identities differ) -/
theorem getMeta_setVal_other (s : MState) (key : Bytes) (v : Val) (m : Meta) (hm : getMeta s key = some m)
    (k : Bytes) (h : k ≠ key)
    (hna : s.pebble = true ∨ m.oid = 0 ∨ ∀ m', getMeta s k = some m' → m'.oid ≠ m.oid) :
    getMeta (Api.setVal s key v) k = getMeta s k := by
  unfold getMeta at hna ⊢
  rw [setVal_index s key v m hm]
  split
  · exact get?_set_other _ _ _ _ h
  · rename_i hc
    rw [get?_map, get?_set_other _ _ _ _ h]
    cases hg : AList.get? s.index k with
    | none => rfl
    | some m' =>
      have : m'.oid ≠ m.oid := by
        rcases hna with h | h | h
        · exact absurd (Or.inl h) hc
        · exact absurd (Or.inr h) hc
        · exact h m' hg
      simp [setValG, this]

theorem setVal_sorted (s : MState) (key : Bytes) (v : Val) (h : AList.Sorted s.index) :
    AList.Sorted (setVal s key v).index := by
  cases hm : getMeta s key with
  | none => unfold setVal; rw [hm]; exact h
  | some m =>
    rw [setVal_index s key v m hm]
    split
    · exact set_preserves_sorted _ h _ _
    · exact sorted_map _ _ (set_preserves_sorted _ h _ _)

theorem getMeta_setVal_exp (s : MState) (k k' : Bytes) (v : Val) :
    (getMeta (setVal s k v) k').map (·.exp) = (getMeta s k').map (·.exp) := by
  cases hm : getMeta s k with
  | none => unfold setVal; rw [hm]
  | some m =>
    have h2 : (getMeta (putMeta s k { m with value := some v }) k').map (·.exp) = (getMeta s k').map (·.exp) := by
      rw [getMeta_putMeta]
      by_cases h : k' = k
      · subst h; simp [hm]
      · simp [h]
    rw [setVal_eq s k v m hm]
    split
    · exact h2
    · simp only [getMeta] at h2 ⊢
      rw [get?_map (fun k x => setValG m.oid v k x) _ k', Option.map_map, ← h2]
      congr 1; funext x
      simp only [Function.comp, setValG]; split <;> rfl

/-- the pre-state of the final `putMeta` in `newKeyWith`: ids allocated, and — when a brand-new
    record is published over a dead one — the dead record's backend entry removed -/
def nkBase (s : MState) (k : Bytes) (old : Option Meta) : MState :=
  match old, getMeta ({ s with nextId := s.nextId + 1 + 1 } : MState) k with
  | none, some dead => unpersist { s with nextId := s.nextId + 1 + 1 } k dead
  | _, _ => { s with nextId := s.nextId + 1 + 1 }

theorem newKeyWith_eq (s : MState) (k : Bytes) (old : Option Meta) (v : Val) :
    newKeyWith s k old v =
      putMeta (nkBase s k old) k
        (({ (match old with | some m => m | none => ({ exp := 0, value := none } : Meta)) with
              exp := 0, kid := s.nextId, oid := s.nextId + 1 } : Meta).setValue v).markModified := by
  unfold newKeyWith fresh nkBase
  rfl

theorem nkBase_index (s : MState) (k : Bytes) (old : Option Meta) : (nkBase s k old).index = s.index := by
  unfold nkBase; split
  · exact unpersist_index _ _ _
  · rfl

theorem getMeta_newKeyWith_same (s : MState) (k : Bytes) (old : Option Meta) (v : Val) :
    getMeta (newKeyWith s k old v) k =
      some (({ (match old with | some m => m | none => ({ exp := 0, value := none } : Meta)) with
              exp := 0, kid := s.nextId, oid := s.nextId + 1 } : Meta).setValue v).markModified := by
  rw [newKeyWith_eq]; exact getMeta_putMeta_same _ _ _

theorem getMeta_newKeyWith_other (s : MState) (key : Bytes) (old : Option Meta) (v : Val) (k : Bytes) (h : k ≠ key) :
    getMeta (newKeyWith s key old v) k = getMeta s k := by
  rw [newKeyWith_eq, getMeta_putMeta_other _ _ _ _ h]; exact getMeta_congr (nkBase_index s key old) k

theorem newKeyWith_index (s : MState) (key : Bytes) (old : Option Meta) (v : Val) :
    ∃ m, (newKeyWith s key old v).index = AList.set s.index key m :=
  ⟨_, by rw [newKeyWith_eq]; exact congrArg (AList.set · key _) (nkBase_index s key old)⟩

theorem newKeyWith_sorted (s : MState) (key : Bytes) (old : Option Meta) (v : Val) (h : AList.Sorted s.index) :
    AList.Sorted (newKeyWith s key old v).index := by
  obtain ⟨m, hm⟩ := newKeyWith_index s key old v
  rw [hm]
  exact set_preserves_sorted _ h _ _

theorem expOf_setVal (s : MState) (k k' : Bytes) (v : Val) : expOf (setVal s k v) k' = expOf s k' := by
  unfold expOf; rw [getMeta_setVal_exp]

theorem expOf_modMeta (s : MState) (k k' : Bytes) (f : Meta → Meta) (hf : ∀ m, (f m).exp = m.exp) :
    expOf (modMeta s k f) k' = expOf s k' := by
  unfold expOf
  rw [getMeta_modMeta]
  split
  · rename_i h; subst h
    cases getMeta s k' with
    | none => rfl
    | some m => simp [hf]
  · rfl

theorem expOf_signal (s : MState) (k k' : Bytes) : expOf (signal s k) k' = expOf s k' :=
  expOf_modMeta s k k' _ fun _ => rfl

theorem expOf_emit (s : MState) (op : FeedOp) (k : Bytes) : expOf (emit s op) k = expOf s k := by
  unfold expOf; rw [getMeta_emit]

theorem expOf_delKey (s : MState) (k : Bytes) (hs : AList.Sorted s.index) : expOf (delKey s k) k = 0 := by
  unfold expOf; rw [getMeta_delKey_same s k hs]; rfl

theorem expOf_setExp {s : MState} {k : Bytes} (e : Int) (h : (getMeta s k).isSome = true) :
    expOf (setExp s k e) k = e := by
  obtain ⟨m, hm⟩ := Option.isSome_iff_exists.mp h
  exact expOf_of_getMeta (getMeta_setExp_same s k e m hm)

theorem expOf_newKeyWith (s : MState) (key : Bytes) (old : Option Meta) (v : Val) :
    expOf (newKeyWith s key old v) key = 0 :=
  expOf_of_getMeta (getMeta_newKeyWith_same s key old v)

/-- a property of the first component of a conditional, from both branches; applied by `refine`, it
    takes the body of an `Api` command apart without building a motive over the whole body -/
theorem ite_fst {α β : Type} {P : α → Prop} (b : Prop) [Decidable b] {x y : α × β} (hx : P x.1) (hy : P y.1) :
    P (if b then x else y).1 := by
  split
  · exact hx
  · exact hy

end NodisVerif.Store

/-! ### the lookup

  `tx.readKey` and `tx.writeKey` are one procedure (`accessKey`): index the key, lock the record and count the access;
  then the record is dead or unloadable (`orCreate`: publish a new one if a constructor was given, else give up), or
  hot, or cold and loaded from the backend (`accessKey_shape`).  What is needed of the two is proved of `accessKey`,
  for any lock operation; `readKey_eq` / `writeKey_eq` are `rfl`. -/
namespace NodisVerif.Proofs.C01
open NodisVerif Store

def SameDisk (s s' : MState) : Prop := s'.disk = s.disk ∧ s'.pebble = s.pebble

theorem SameDisk.refl (s : MState) : SameDisk s s := ⟨rfl, rfl⟩
theorem SameDisk.trans {a b c : MState} (h1 : SameDisk a b) (h2 : SameDisk b c) : SameDisk a c :=
  ⟨h2.1.trans h1.1, h2.2.trans h1.2⟩

theorem sameDisk_putMeta (s : MState) (k : Bytes) (m : Meta) : SameDisk s (putMeta s k m) := ⟨rfl, rfl⟩

theorem loadValue_congr {s s' : MState} (h : SameDisk s s') (k : Bytes) (m m' : Meta) (he : m'.exp = m.exp) :
    loadValue s' k m' = loadValue s k m := by
  unfold loadValue diskGet
  rw [h.1, h.2, he]

def bump (m0 : Meta) : Meta := { m0 with count := m0.count + 1 }

def loaded (m0 : Meta) (oid : Nat) (v : Val) : Meta := ({ bump m0 with oid := oid } : Meta).setValue v

theorem bump_isOk (m0 : Meta) : (bump m0).isOk = m0.isOk := rfl
theorem bump_expired (m0 : Meta) (now : Int) : (bump m0).expired now = m0.expired now := rfl
theorem bump_value (m0 : Meta) : (bump m0).value = m0.value := rfl
theorem bump_exp (m0 : Meta) : (bump m0).exp = m0.exp := rfl

def orCreate (s : MState) (k : Bytes) (old : Option Meta) (mk : Option Val) : MState × Bool :=
  match mk with
  | some v => (newKeyWith s k old v, true)
  | none => (s, false)

def accessKey (lock : MState → Bytes → MState) (s : MState) (now : Int) (k : Bytes) (mk : Option Val) : MState × Bool :=
  match getMeta s k with
  | some m0 =>
    let s1 := putMeta (lock s k) k (bump m0)
    if m0.isOk then
      if m0.expired now then orCreate s1 k (some (bump m0)) mk
      else if m0.value.isSome then (s1, true)
      else match loadValue s1 k (bump m0) with
        | some (v, oid) => (putMeta s1 k (loaded m0 oid v), true)
        | none => orCreate s1 k (some (bump m0)) mk
    else orCreate s1 k (some (bump m0)) mk
  | none => orCreate s k none mk

theorem readKey_eq (s : MState) (now : Int) (k : Bytes) : readKey s now k = accessKey lockR s now k none := rfl
theorem writeKey_eq (s : MState) (now : Int) (k : Bytes) (mk : Option Val) :
    writeKey s now k mk = accessKey lockW s now k mk := rfl

/-- with a constructor the lookup is the lookup without one where that found the key; else it publishes a new record
    on the state `s2` the failed lookup left -/
theorem accessKey_some (lock : MState → Bytes → MState) (s : MState) (now : Int) (k : Bytes) (v : Val) :
    ((accessKey lock s now k none).2 = true ∧ accessKey lock s now k (some v) = accessKey lock s now k none) ∨
    ∃ s2 old, accessKey lock s now k none = (s2, false) ∧
      accessKey lock s now k (some v) = (newKeyWith s2 k old v, true) := by
  unfold accessKey orCreate
  cases getMeta s k with
  | none => exact Or.inr ⟨_, _, rfl, rfl⟩
  | some m0 =>
    simp only
    cases m0.isOk with
    | false => exact Or.inr ⟨_, _, rfl, rfl⟩
    | true =>
      cases m0.expired now with
      | true => exact Or.inr ⟨_, _, rfl, rfl⟩
      | false =>
        cases m0.value.isSome with
        | true => exact Or.inl ⟨rfl, rfl⟩
        | false =>
          simp only [Bool.false_eq_true, if_false, if_true]
          cases loadValue (putMeta (lock s k) k (bump m0)) k (bump m0) with
          | none => exact Or.inr ⟨_, _, rfl, rfl⟩
          | some p => exact Or.inl ⟨rfl, rfl⟩

def LockOp (lock : MState → Bytes → MState) : Prop :=
  ∀ s k, lock s k = { s with held := (lock s k).held, hung := (lock s k).hung }

theorem lockW_op : LockOp lockW := lockW_eq
theorem lockR_op : LockOp lockR := lockR_eq

section
variable {lock : MState → Bytes → MState} (hl : LockOp lock)
include hl

theorem LockOp.index (s : MState) (k : Bytes) : (lock s k).index = s.index := by rw [hl s k]
theorem LockOp.sameDisk (s : MState) (k : Bytes) : SameDisk s (lock s k) := ⟨by rw [hl s k], by rw [hl s k]⟩
theorem LockOp.nextId (s : MState) (k : Bytes) : (lock s k).nextId = s.nextId := by rw [hl s k]

theorem getMeta_lock (s : MState) (k k' : Bytes) : getMeta (lock s k') k = getMeta s k :=
  getMeta_congr (hl.index s k') k

theorem accessKey_shape (s : MState) (now : Int) (k : Bytes) (mk : Option Val) :
    (getMeta s k = none ∧ accessKey lock s now k mk = orCreate s k none mk) ∨
    (∃ m0, getMeta s k = some m0 ∧
      ((accessKey lock s now k mk = orCreate (putMeta (lock s k) k (bump m0)) k (some (bump m0)) mk ∧
          (¬ (m0.isOk = true ∧ m0.expired now = false) ∨
           (m0.isOk = true ∧ m0.expired now = false ∧ m0.value = none ∧ loadValue s k m0 = none))) ∨
       (accessKey lock s now k mk = (putMeta (lock s k) k (bump m0), true) ∧
          m0.isOk = true ∧ m0.expired now = false ∧ m0.value.isSome = true) ∨
       (∃ v oid, accessKey lock s now k mk =
            (putMeta (putMeta (lock s k) k (bump m0)) k (loaded m0 oid v), true) ∧
          m0.isOk = true ∧ m0.expired now = false ∧ m0.value = none ∧ loadValue s k m0 = some (v, oid)))) := by
  unfold accessKey
  cases hm : getMeta s k with
  | none => exact Or.inl ⟨rfl, rfl⟩
  | some m0 =>
    refine Or.inr ⟨m0, rfl, ?_⟩
    -- the backend is asked after the lock and the counter bump, which it does not see
    simp only [loadValue_congr ((hl.sameDisk s k).trans (sameDisk_putMeta _ k (bump m0))) k m0 (bump m0) rfl]
    cases hok : m0.isOk with
    | false => exact Or.inl ⟨rfl, Or.inl (fun h => Bool.noConfusion h.1)⟩
    | true =>
      cases hex : m0.expired now with
      | true => exact Or.inl ⟨rfl, Or.inl (fun h => Bool.noConfusion h.2)⟩
      | false =>
        cases hv : m0.value with
        | some x => exact Or.inr (Or.inl ⟨rfl, rfl, rfl, rfl⟩)
        | none =>
          cases hld : loadValue s k m0 with
          | none => exact Or.inl ⟨rfl, Or.inr ⟨rfl, rfl, rfl, rfl⟩⟩
          | some p => exact Or.inr (Or.inr ⟨p.1, p.2, rfl, rfl, rfl, rfl, rfl⟩)

theorem accessKey_hot (s : MState) (now : Int) (k : Bytes) (mk : Option Val) (m : Meta) (hm : getMeta s k = some m)
    (hok : m.isOk = true) (hexp : m.expired now = false) (hv : m.value.isSome = true) :
    accessKey lock s now k mk = (putMeta (lock s k) k (bump m), true) := by
  rcases accessKey_shape hl s now k mk with ⟨hn, _⟩ | ⟨m0, hm0, ⟨_, hc⟩ | ⟨e, _⟩ | ⟨v, oid, _, _, _, hvn, _⟩⟩
  · rw [hm] at hn; cases hn
  · cases hm.symm.trans hm0
    rcases hc with hc | ⟨_, _, hvn, _⟩
    · exact absurd ⟨hok, hexp⟩ hc
    · rw [hvn] at hv; cases hv
  · cases hm.symm.trans hm0; exact e
  · cases hm.symm.trans hm0; rw [hvn] at hv; cases hv

/-- whatever the steps of the lookup keep (lock and count; publish a new record, only with a constructor; put back
    the value loaded from the backend), `readKey` and `writeKey` keep -/
theorem accessKey_ind (P : MState → Prop) (s : MState) (now : Int) (key : Bytes) (mk : Option Val) (h0 : P s)
    (hb : ∀ m0, getMeta s key = some m0 → P (putMeta (lock s key) key (bump m0)))
    (hnew : ∀ x old v, mk = some v → P x → P (newKeyWith x key old v))
    (hload : ∀ x m v oid, P x → loadValue x key m = some (v, oid) →
      P (putMeta x key ({ m with oid := oid }.setValue v))) :
    P (accessKey lock s now key mk).1 := by
  have hc : ∀ x old, P x → P (orCreate x key old mk).1 := fun x old hx => by
    unfold orCreate; cases mk with
    | none => exact hx
    | some v => exact hnew x old v rfl hx
  rcases accessKey_shape hl s now key mk with ⟨_, e⟩ | ⟨m0, hm, ⟨e, _⟩ | ⟨e, _⟩ | ⟨v, oid, e, _, _, _, hld⟩⟩
  · rw [e]; exact hc _ _ h0
  · rw [e]; exact hc _ _ (hb m0 hm)
  · rw [e]; exact hb m0 hm
  · rw [e]
    refine hload _ (bump m0) v oid (hb m0 hm) ?_
    rw [← hld]
    exact loadValue_congr ((hl.sameDisk s key).trans (sameDisk_putMeta _ key (bump m0))) key m0 (bump m0) rfl

end

end NodisVerif.Proofs.C01

namespace NodisVerif.Store
open NodisVerif.Proofs.AListLemmas NodisVerif.Proofs.AListLemmas2 Api
open NodisVerif.Proofs.C01 (LockOp accessKey accessKey_ind getMeta_lock lockW_op lockR_op)

theorem getMeta_accessKey_other {lock : MState → Bytes → MState} (hl : LockOp lock) (s : MState) (now : Int)
    (key : Bytes) (mk : Option Val) (k : Bytes) (h : k ≠ key) :
    getMeta (accessKey lock s now key mk).1 k = getMeta s k := by
  refine accessKey_ind hl (fun x => getMeta x k = getMeta s k) s now key mk rfl ?_ ?_ ?_
  · intro m0 _
    rw [getMeta_putMeta_other _ _ _ _ h, getMeta_lock hl]
  · intro x old v _ hx
    rw [getMeta_newKeyWith_other _ _ _ _ _ h, hx]
  · intro x m v oid hx _
    rw [getMeta_putMeta_other _ _ _ _ h, hx]

theorem getMeta_writeKey_other (s : MState) (now : Int) (key : Bytes) (mk : Option Val) (k : Bytes) (h : k ≠ key) :
    getMeta (writeKey s now key mk).1 k = getMeta s k :=
  getMeta_accessKey_other lockW_op s now key mk k h

theorem getMeta_readKey_other (s : MState) (now : Int) (key : Bytes) (k : Bytes) (h : k ≠ key) :
    getMeta (readKey s now key).1 k = getMeta s k :=
  getMeta_accessKey_other lockR_op s now key none k h

theorem accessKey_sorted {lock : MState → Bytes → MState} (hl : LockOp lock) (s : MState) (now : Int) (key : Bytes)
    (mk : Option Val) (h : AList.Sorted s.index) : AList.Sorted (accessKey lock s now key mk).1.index :=
  accessKey_ind hl (fun x => AList.Sorted x.index) s now key mk h
    (fun _ _ => putMeta_sorted _ _ _ (by rw [hl.index s key]; exact h))
    (fun _ _ _ _ hx => newKeyWith_sorted _ _ _ _ hx) (fun _ _ _ _ hx _ => putMeta_sorted _ _ _ hx)

theorem writeKey_sorted (s : MState) (now : Int) (key : Bytes) (mk : Option Val) (h : AList.Sorted s.index) :
    AList.Sorted (writeKey s now key mk).1.index :=
  accessKey_sorted lockW_op s now key mk h

theorem readKey_sorted (s : MState) (now : Int) (key : Bytes) (h : AList.Sorted s.index) :
    AList.Sorted (readKey s now key).1.index :=
  accessKey_sorted lockR_op s now key none h

end NodisVerif.Store

/-! ### a dead record still indexed under the name `Rename` / `RenameNX` publish to -/
namespace NodisVerif.Proofs.C11
open NodisVerif.Store

def dropEntries (s : MState) (k : Bytes) : MState :=
  match getMeta s k with
  | some dead => unpersist s k dead
  | none => s

end NodisVerif.Proofs.C11

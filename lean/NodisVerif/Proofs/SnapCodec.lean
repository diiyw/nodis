import NodisVerif.Model.Codec
import NodisVerif.Proofs.VarintLemmas
import NodisVerif.Proofs.GoLibLemmas
/-
  List-level facts about the translator's library operations as the byte-layout functions use them
  (make a zeroed buffer, write a prefix, copy the payload behind it, cut to length).
  The names live in `NodisVerif.GoLib`, beside the library operations they speak of (Model/GoLib.lean).
-/
namespace NodisVerif.GoLib

theorem drop_append_len (a b : List α) : (a ++ b).drop a.length = b := by simp

theorem copyAt_fits (dst : Bytes) (lo : Int) (src : Bytes) (h : 0 ≤ lo ∧ lo + src.length ≤ dst.length) :
    copyAt dst lo src = .ok (dst.take lo.toNat ++ src ++ dst.drop (lo.toNat + src.length)) := by
  have h0 : 0 ≤ lo ∧ lo ≤ (dst.length : Int) := by omega
  have hk : min (dst.length - lo.toNat) src.length = src.length := by omega
  simp only [copyAt, h0, and_self, if_true, hk, List.take_length, pure, Except.pure]

/-- `copy(dst[len(pre):], src)` into a buffer `pre ++ z` with room for `src` -/
theorem copyAt_prefix (pre z src : Bytes) (h : src.length ≤ z.length) :
    copyAt (pre ++ z) (pre.length : Int) src = .ok (pre ++ src ++ z.drop src.length) := by
  rw [copyAt_fits _ _ _ (by simp only [List.length_append]; omega)]
  simp

/-- `(a ++ b)[:len(a)]` -/
theorem slice_prefix (a b : List α) (n : Int) (hn : n = a.length) : slice (a ++ b) 0 n = .ok a := by
  subst hn
  rw [slice_ok _ _ _ (by simp only [List.length_append]; omega)]
  simp

/-- `b[n:]` -/
theorem slice_from (b : List α) (n : Int) (h : 0 ≤ n ∧ n ≤ b.length) : slice b n (len b) = .ok (b.drop n.toNat) := by
  rw [len_eq, slice_ok _ _ _ (by omega)]
  congr 1
  apply List.take_of_length_le
  simp only [List.length_drop]; omega

theorem varint_snd_le (b : Bytes) : (Varint.varint b).2 ≤ b.length := by
  have := Proofs.VarintLemmas.uvarintAux_le b 0 0 0
  simp only [Varint.varint, Varint.uvarint]
  simpa using this

end NodisVerif.GoLib

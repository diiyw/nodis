import NodisVerif.Proofs.C10Cmd
/-
  C10: liveness and deadlines. `Store.live` against the view; the deadline `Api.expOf` after each store primitive; the
  model's TTL / PTTL replies are `Spec.ttlNs` / `Spec.pttl`; what a key transaction (`Proofs.C11.keyTx`) does to reply,
  deadline and liveness of its key, read off its decision (`expAfter`).
-/
namespace NodisVerif.Proofs.C10
open NodisVerif Store
open NodisVerif.Proofs.AListLemmas NodisVerif.Proofs.AListLemmas2

variable {s : MState} {now : Int} {k : Bytes}

theorem live_iff {m : Meta} :
    live s now k = some m ↔ getMeta s k = some m ∧ m.isOk = true ∧ m.expired now = false := by
  unfold live
  cases hg : getMeta s k with
  | none => simp
  | some m0 =>
    simp only [Option.filter]
    constructor
    · intro h
      split at h
      · rename_i hc
        simp only [Option.some.injEq] at h; subst h
        simp only [Bool.and_eq_true, Bool.not_eq_true'] at hc
        exact ⟨rfl, hc.1, hc.2⟩
      · cases h
    · rintro ⟨h1, h2, h3⟩
      simp only [Option.some.injEq] at h1; subst h1
      simp [h2, h3]

theorem live_none_of_expired {m : Meta} (hm : getMeta s k = some m)
    (he : m.expired now = true) : live s now k = none := by
  simp [live, hm, he]
theorem vis_none_of_expired {m : Meta} (hm : getMeta s k = some m)
    (he : m.expired now = true) : vis now s k = none := by
  rw [vis_eq_of_getMeta hm, if_pos he]
theorem getMeta_purge_expired {m : Meta} (hm : getMeta s k = some m)
    (he : m.expired now = true) (hs : AList.Sorted s.index) : getMeta (purge now s) k = none := by
  rw [getMeta_purge now s hs, hm]
  simp [he]

theorem live_unique {s : MState} {now now' : Int} {k : Bytes} {m m' : Meta}
    (h : live s now k = some m) (h' : live s now' k = some m') : m = m' :=
  Option.some.inj ((live_iff.mp h).1.symm.trans (live_iff.mp h').1)

theorem vis_of_live {m : Meta} (h : live s now k = some m) :
    vis now s k = some (recOf s k m) := by
  obtain ⟨h1, _, h3⟩ := live_iff.mp h
  rw [vis_eq_of_getMeta h1]; simp [h3]

theorem live_none_vis (h : live s now k = none) :
    rkOk (vis now s k) = false := by
  cases hg : getMeta s k with
  | none => rw [vis_none_of_getMeta hg]; rfl
  | some m =>
    rw [vis_eq_of_getMeta hg]
    split
    · rfl
    · rename_i he
      have : m.isOk = false := by
        cases hok : m.isOk with
        | false => rfl
        | true =>
          have := live_iff.mpr ⟨hg, hok, by simpa using he⟩
          rw [h] at this; cases this
      simp [rkOk, recOf, this]

theorem lookupKey_liveWith {lock : MState → Bytes → MState} (hL : C01.LockOp lock) {m : Meta}
    {v : Val} (h : LiveWith s now k m v) (hs : AList.Sorted s.index) (mk : Option Val) :
    (C01.accessKey lock s now k mk).2 = true ∧ valOf (C01.accessKey lock s now k mk).1 k = some v ∧
    Api.expOf (C01.accessKey lock s now k mk).1 k = m.exp ∧ (getMeta (C01.accessKey lock s now k mk).1 k).isSome = true ∧
    AList.Sorted (C01.accessKey lock s now k mk).1.index ∧ frame (C01.accessKey lock s now k mk).1 = frame s := by
  obtain ⟨hl, hv⟩ := h
  obtain ⟨a1, a2, a3, a4⟩ := lookupKey_spec hL s now k mk hs
  have hvis := vis_of_live hl
  obtain ⟨_, hok, _⟩ := live_iff.mp hl
  have hr : rkOk (vis now s k) = true := by
    rw [hvis]
    rcases hv with hv | ⟨hv, oid, hld⟩
    · simp [rkOk, recOf, hok, hv]
    · simp [rkOk, recOf, hok, hv, hld]
  have hpost : vis now (C01.accessKey lock s now k mk).1 k = some (touch (recOf s k m)) := by
    rw [a2, if_pos rfl, if_pos hr, hvis]; rfl
  have htv : (touch (recOf s k m)).value = some v ∧ (touch (recOf s k m)).exp = m.exp := by
    rcases hv with hv | ⟨hv, oid, hld⟩
    · simp [touch, recOf, hv]
    · simp [touch, recOf, hv, hld]
  obtain ⟨m1, hm1, _, _⟩ := vis_some_getMeta hpost
  refine ⟨by rw [a1, hr]; rfl, ?_, ?_, by rw [hm1]; rfl, a4, by rw [a3, if_pos hr]⟩
  · rw [valOf_of_vis hpost]; exact htv.1
  · rw [expOf_of_vis hpost]; exact htv.2

theorem writeKey_liveWith {m : Meta} {v : Val}
    (h : LiveWith s now k m v) (hs : AList.Sorted s.index) (mk : Option Val) :
    (writeKey s now k mk).2 = true ∧ valOf (writeKey s now k mk).1 k = some v ∧
    Api.expOf (writeKey s now k mk).1 k = m.exp ∧ (getMeta (writeKey s now k mk).1 k).isSome = true ∧
    AList.Sorted (writeKey s now k mk).1.index ∧ frame (writeKey s now k mk).1 = frame s :=
  lookupKey_liveWith C01.lockW_op h hs mk

theorem readKey_liveWith {m : Meta} {v : Val}
    (h : LiveWith s now k m v) (hs : AList.Sorted s.index) :
    (readKey s now k).2 = true ∧ valOf (readKey s now k).1 k = some v ∧
    Api.expOf (readKey s now k).1 k = m.exp := by
  obtain ⟨a, b, c, _⟩ := lookupKey_liveWith C01.lockR_op h hs none
  exact ⟨a, b, c⟩

theorem readKey_absent (h : live s now k = none)
    (hs : AList.Sorted s.index) : (readKey s now k).2 = false := by
  rw [(readKey_spec s now k hs).1]; exact live_none_vis h

theorem writeKey_absent (h : live s now k = none)
    (hs : AList.Sorted s.index) : (writeKey s now k none).2 = false := by
  rw [(writeKey_spec s now k none hs).1, live_none_vis h]; rfl

theorem expOf_emits (ops : List FeedOp) : ∀ (s : MState) (k : Bytes),
    Api.expOf (ops.foldl emit s) k = Api.expOf s k := by
  intro s k
  show Api.expOf (C11.emits s ops) k = _
  rw [C11.emits_eq]; split <;> rfl

theorem present_setVal {s : MState} {k : Bytes} (v : Val) (h : (getMeta s k).isSome = true) :
    (getMeta (Api.setVal s k v) k).isSome = true := by
  have := getMeta_setVal_exp s k k v
  cases hg : getMeta (Api.setVal s k v) k with
  | none =>
    rw [hg] at this
    obtain ⟨m, hm⟩ := Option.isSome_iff_exists.mp h
    rw [hm] at this; cases this
  | some _ => rfl

theorem applies_nx (cur new : Int) : Spec.expireApplies .nx (Spec.deadlineOf cur) new = decide (cur = 0) := by
  unfold Spec.deadlineOf
  split <;> simp [Spec.expireApplies, *]
theorem applies_xx (cur new : Int) : Spec.expireApplies .xx (Spec.deadlineOf cur) new = decide (cur ≠ 0) := by
  unfold Spec.deadlineOf
  split <;> simp [Spec.expireApplies, *]

theorem writeKey_fresh (h : live s now k = none)
    (hs : AList.Sorted s.index) (c : Val) :
    (writeKey s now k (some c)).2 = true ∧ valOf (writeKey s now k (some c)).1 k = some c ∧
    Api.expOf (writeKey s now k (some c)).1 k = 0 ∧ (getMeta (writeKey s now k (some c)).1 k).isSome = true ∧
    AList.Sorted (writeKey s now k (some c)).1.index ∧
    vis now (writeKey s now k (some c)).1 k = some (freshRec s.nextId c) := by
  obtain ⟨a1, a2, _, a4⟩ := writeKey_spec s now k (some c) hs
  have hr := live_none_vis h
  have hpost : vis now (writeKey s now k (some c)).1 k = some (freshRec s.nextId c) := by
    rw [a2, if_pos rfl, hr]; rfl
  obtain ⟨m1, hm1, _, _⟩ := vis_some_getMeta hpost
  refine ⟨by rw [a1, hr]; rfl, ?_, ?_, by rw [hm1]; rfl, a4, hpost⟩
  · rw [valOf_of_vis hpost]; rfl
  · rw [expOf_of_vis hpost]; rfl

theorem ttlOut_eq (now e : Int) : C11.ttlOut now e = .int (Spec.ttlNs now (some e)) := by
  unfold C11.ttlOut Spec.ttlNs
  by_cases h0 : e = 0
  · simp [h0]
  · simp only [h0, if_false]
    have hd : e * 1000000 - now * 1000000 = (e - now) * 1000000 := by omega
    rw [hd]
    have hle : (if (e - now) * 1000000 > int64Max then int64Max else (e - now) * 1000000) ≤ int64Max := by
      split <;> omega
    generalize (if (e - now) * 1000000 > int64Max then int64Max else (e - now) * 1000000) = d at hle ⊢
    unfold int64Max at hle ⊢
    split
    · have : (d + 500000000) / 1000000000 * 1000000000 = d - d % 1000000000 := by omega
      rw [this]
      split
      · exfalso; omega
      · rfl
    · have : (d + 500000000) / 1000000000 * 1000000000 = d + 1000000000 - d % 1000000000 := by omega
      rw [this]
      split <;> rfl

theorem sat_mono {x y : Int} (h : x ≤ y) :
    (if x > int64Max then int64Max else x) ≤ (if y > int64Max then int64Max else y) := by
  split <;> split <;> omega

/-- the reported TTL does not grow with time: it is saturate ∘ round ∘ saturate of the remaining time -/
theorem ttlNs_antitone (e : Int) {now now' : Int} (h : now ≤ now') :
    Spec.ttlNs now' (some e) ≤ Spec.ttlNs now (some e) := by
  by_cases h0 : e = 0
  · simp only [Spec.ttlNs, h0, if_true, Int.le_refl]
  · simp only [Spec.ttlNs, h0, if_false]
    have hd := sat_mono (show (e - now') * 1000000 ≤ (e - now) * 1000000 by omega)
    exact sat_mono (Int.mul_le_mul_of_nonneg_right
      (Int.ediv_le_ediv (by decide) (Int.add_le_add_right hd _)) (by decide))

theorem pttlOut_eq (now e : Int) :
    (if e = 0 then Out.int (-1) else .int (e - now)) = .int (Spec.pttl now (some e)) := by
  unfold Spec.pttl
  simp only
  split <;> rfl

/-! ### the key is live after a (non-deleting) write: needed to chain commands (SET … EX = SET; EXPIRE) -/

theorem liveWith_of_vis {r : View.Rec} {v : Val}
    (hv : vis now s k = some r) (hok : r.ok = true) (hval : r.value = some v) :
    ∃ m, LiveWith s now k m v ∧ m.exp = r.exp := by
  obtain ⟨m, hm, he, hr⟩ := vis_some_getMeta hv
  subst hr
  simp only [recOf] at hok hval
  exact ⟨m, ⟨live_iff.mpr ⟨hm, hok, he⟩, Or.inl hval⟩, rfl⟩

theorem vis_emits (now : Int) (ops : List FeedOp) : ∀ (s : MState) (k : Bytes),
    vis now (ops.foldl emit s) k = vis now s k := by
  intro s k
  show vis now (C11.emits s ops) k = _
  rw [C11.emits_eq]; split <;> rfl

/-- the deadline the action leaves on a key whose deadline was `e` (0 once the key is gone) -/
def expAfter : C11.Act → Int → Int
  | .keep _, e => e
  | .put _ e' _ _, e => e'.getD e
  | .drop _ _ _, _ => 0

theorem expOf_runAct (s : MState) (k : Bytes) (a : C11.Act) (hp : (getMeta s k).isSome = true)
    (hs : AList.Sorted s.index) :
    Api.expOf (C11.runAct s k a).1 k = expAfter a (Api.expOf s k) := by
  cases a with
  | keep r => rfl
  | put v' e' ops r =>
    simp only [C11.runAct, C11.emits, expOf_emits, expOf_signal, expAfter]
    have p1 : (getMeta (C11.optSetVal s k v') k).isSome = true ∧
        Api.expOf (C11.optSetVal s k v') k = Api.expOf s k := by
      cases v' with
      | none => exact ⟨hp, rfl⟩
      | some v => exact ⟨present_setVal v hp, expOf_setVal s k k v⟩
    cases e' with
    | none => exact p1.2
    | some e => exact expOf_setExp e p1.1
  | drop v' ops r =>
    simp only [C11.runAct, C11.emits, expOf_emits, expOf_signal, expAfter]
    exact expOf_delKey _ k (setVal_sorted s k v' hs)

theorem keyTx_liveWith {m : Meta} {v : Val} (h : LiveWith s now k m v) (hs : AList.Sorted s.index)
    (write : Bool) (mk : Option Val) (miss : Out) (nov : MState → Api.R) (dec : Val → Int → C11.Act)
    (hw : write = false → mk = none) :
    (C11.keyTx write mk miss nov dec s now k).2 = (dec v m.exp).reply ∧
    Api.expOf (C11.keyTx write mk miss nov dec s now k).1 k = expAfter (dec v m.exp) m.exp := by
  have lk : (C11.access write mk s now k).2 = true ∧
      valOf (C11.access write mk s now k).1 k = some v ∧
      Api.expOf (C11.access write mk s now k).1 k = m.exp ∧
      (getMeta (C11.access write mk s now k).1 k).isSome = true ∧
      AList.Sorted (C11.access write mk s now k).1.index := by
    cases write with
    | true => obtain ⟨a, b, c, d, e, _⟩ := writeKey_liveWith h hs mk; exact ⟨a, b, c, d, e⟩
    | false =>
      cases hw rfl
      obtain ⟨a, b, c, d, e, _⟩ := lookupKey_liveWith C01.lockR_op h hs none
      exact ⟨a, b, c, d, e⟩
  obtain ⟨a, b, c, d, e⟩ := lk
  rcases C11.keyTx_cases write mk miss nov dec s now k hw with ⟨h1, _, _⟩ | ⟨_, v', hv', e1⟩
  · rw [a] at h1; cases h1
  · cases hv'.symm.trans b
    rw [e1, c]
    exact ⟨C11.runAct_reply _ k _, by rw [expOf_runAct _ k _ d e, c]⟩

theorem keyTx_absent (h : live s now k = none) (hs : AList.Sorted s.index) (write : Bool) (miss : Out)
    (nov : MState → Api.R) (dec : Val → Int → C11.Act) :
    (C11.keyTx write none miss nov dec s now k).2 = miss := by
  unfold C11.keyTx
  cases write <;> simp [readKey_absent h hs, writeKey_absent h hs]

theorem keyTx_fresh (h : live s now k = none) (hs : AList.Sorted s.index) (c : Val) (miss : Out)
    (nov : MState → Api.R) (dec : Val → Int → C11.Act) :
    (C11.keyTx true (some c) miss nov dec s now k).2 = (dec c 0).reply ∧
    Api.expOf (C11.keyTx true (some c) miss nov dec s now k).1 k = expAfter (dec c 0) 0 := by
  obtain ⟨a, b, c', d, e, _⟩ := writeKey_fresh h hs c
  unfold C11.keyTx
  simp only [if_true, a, b, c', Bool.not_true, Bool.false_and, Bool.false_eq_true, if_false]
  refine ⟨?_, by rw [expOf_runAct _ k _ d e, c']⟩
  cases dec c 0 <;> rfl

theorem keyTx_decExpire {m : Meta} {v : Val} (h : LiveWith s now k m v) (hs : AList.Sorted s.index)
    (c : Int → Bool) (e : Int) (nov : MState → Api.R) :
    (C11.keyTx true none (.int 0) nov (C11.decExpire k e c) s now k).2 = .int (if c m.exp then 1 else 0) ∧
    Api.expOf (C11.keyTx true none (.int 0) nov (C11.decExpire k e c) s now k).1 k = if c m.exp then e else m.exp := by
  obtain ⟨a, b⟩ := keyTx_liveWith h hs true none (.int 0) nov (C11.decExpire k e c) nofun
  rw [a, b]
  unfold C11.decExpire
  cases c m.exp <;> exact ⟨rfl, rfl⟩

theorem keyTx_keeps {m : Meta} {v : Val} (h : LiveWith s now k m v) (hs : AList.Sorted s.index)
    (mk : Option Val) (miss : Out) (nov : MState → Api.R) (dec : Val → Int → C11.Act)
    (hb : ∀ v e, expAfter (dec v e) e = e) :
    Api.expOf (C11.keyTx true mk miss nov dec s now k).1 k = m.exp := by
  rw [(keyTx_liveWith h hs true mk miss nov dec nofun).2, hb]

theorem expAfter_decStrWrite (f : DsStr.S → Option (Option Val × Option Int × List FeedOp × Out)) (fail : DsStr.S → Out)
    (hf : ∀ x v' e' ops r, f x = some (v', e', ops, r) → e' = none) (v : Val) (e : Int) :
    expAfter (C11.decStrWrite f fail v e) e = e := by
  have go : ∀ x, expAfter (match f x with
      | some (v', e', ops, r) => C11.Act.put v' e' ops r
      | none => C11.Act.keep (fail x)) e = e := by
    intro x
    cases hfx : f x with
    | none => rfl
    | some p => obtain ⟨v', e', ops, r⟩ := p; cases hf _ _ _ _ _ hfx; rfl
  cases v <;> first | rfl | exact go _

theorem vis_put {r : View.Rec} (v' : Option Val) (e' : Option Int) (ops : List FeedOp) (o : Out)
    (hv : vis now s k = some r) (hot : r.value.isSome = true)
    (hexp : ∀ e, e' = some e → ¬ (e ≠ 0 ∧ e ≤ now)) :
    ∃ r', vis now (C11.runAct s k (.put v' e' ops o)).1 k = some r' ∧ r'.ok = r.ok ∧ r'.exp = e'.getD r.exp ∧
      r'.value = (match v' with | some v => some v | none => r.value) := by
  simp only [C11.runAct, C11.emits]
  rw [vis_emits]
  have step1 : ∃ r1, vis now (C11.optSetVal s k v') k = some r1 ∧
      r1.ok = r.ok ∧ r1.exp = r.exp ∧ r1.value = (match v' with | some v => some v | none => r.value) := by
    cases v' with
    | none => exact ⟨r, hv, rfl, rfl, rfl⟩
    | some v => exact vis_setVal_self v hv
  obtain ⟨r1, h1, o1, e1, v1⟩ := step1
  have hot1 : r1.value.isSome = true := by
    rw [v1]; cases v' with
    | none => exact hot
    | some _ => rfl
  have step2 : ∃ r2, vis now (C11.optSetExp (C11.optSetVal s k v') k e') k = some r2 ∧
      r2.ok = r.ok ∧ r2.exp = e'.getD r.exp ∧ r2.value = r1.value := by
    cases e' with
    | none => exact ⟨r1, h1, o1, e1, rfl⟩
    | some e =>
      refine ⟨{ r1 with exp := e }, ?_, o1, rfl, rfl⟩
      show vis now (Api.setExp (C11.optSetVal s k v') k e) k = _
      rw [vis_setExp now _ k k e r1 h1 hot1, if_pos rfl, if_neg (hexp e rfl)]
  obtain ⟨r2, h2, o2, e2, v2⟩ := step2
  refine ⟨markModRec r2, ?_, o2, e2, by rw [← v1, ← v2]; rfl⟩
  rw [vis_signal, if_pos rfl]
  exact congrArg (Option.map markModRec) h2

theorem keyTx_liveAfter (mk : Option Val) (miss : Out) (nov : MState → Api.R)
    (dec : Val → Int → C11.Act) (v' : Val) (hok : (writeKey s now k mk).2 = true)
    (hdec : ∀ v, valOf (writeKey s now k mk).1 k = some v → ∃ e' ops o,
      dec v (Api.expOf (writeKey s now k mk).1 k) = .put (some v') e' ops o ∧ ∀ e, e' = some e → ¬ (e ≠ 0 ∧ e ≤ now)) :
    ∃ m', LiveWith (C11.keyTx true mk miss nov dec s now k).1 now k m' v' := by
  obtain ⟨r, hv, hokr, hot⟩ := lookupKey_found C01.lockW_op s now k mk hok
  rcases C11.keyTx_cases true mk miss nov dec s now k nofun with ⟨h1, _, _⟩ | ⟨_, v, hv', e1⟩
  · rw [C11.access, if_pos rfl, hok] at h1; cases h1
  · simp only [C11.access, if_true] at hv' e1
    obtain ⟨e', ops, o, hd, hexp⟩ := hdec v hv'
    rw [e1, hd]
    obtain ⟨r', h', o', _, v''⟩ := vis_put (some v') e' ops o hv hot hexp
    obtain ⟨m', hl, _⟩ := liveWith_of_vis h' (by rw [o', hokr]) v''
    exact ⟨m', hl⟩

theorem set_then (value : Bytes) (keep : Bool)
    (h : (∃ m old, LiveWith s now k m (Api.strVal old)) ∨ live s now k = none) (hs : AList.Sorted s.index) :
    AList.Sorted (Api.set s now k value keep).1.index ∧
    ∃ m', LiveWith (Api.set s now k value keep).1 now k m' (.str value) := by
  have key : ∃ x : DsStr.S, (writeKey s now k (some (.str []))).2 = true ∧
      valOf (writeKey s now k (some (.str []))).1 k = some (Api.strVal x) := by
    rcases h with ⟨m, old, h⟩ | h
    · obtain ⟨a, b, _⟩ := writeKey_liveWith h hs (some (.str [])); exact ⟨old, a, b⟩
    · obtain ⟨a, b, _⟩ := writeKey_fresh h hs (.str []); exact ⟨some [], a, b⟩
  obtain ⟨x, a, b⟩ := key
  rw [C11.set_eq]
  refine ⟨(keyTx_good (Good.refl (now := now) hs) true _ _ _ _ k nofun).2.1,
    keyTx_liveAfter _ _ _ _ (.str value) a (fun v hv => ?_)⟩
  cases (b.symm.trans hv)
  refine ⟨if keep then none else some 0, _, _, by cases x <;> rfl, fun e he => ?_⟩
  cases keep
  · cases he; simp
  · cases he

end NodisVerif.Proofs.C10

import NodisVerif.Spec.RespWriterSpec

/-
  redis/resp.go's Writer (Model/RespWriter.lean) against the abstract buffered writer (Spec/RespWriterSpec.lean).
  The primitive layer: grow, writeByte, the loop, writeBytes — each, from a state satisfying `WriterInv`, succeeds
  and appends exactly its bytes to the pending bytes, touches neither the sink nor the flag, keeps `WriterInv`, never
  shrinks the array and grows it within the policy's bound (`Wrote`).  Every exported method refines the abstract writer
  (`step_refines`); sequences of calls (`run_refines`); what a run of the abstract writer has delivered and holds
  pending (`AW.run_content` …) and how far the array grows in a run (`run_size_le`); the writer as the connection loop
  uses it.
-/
namespace NodisVerif.Proofs.RespWriter
open NodisVerif.RespWriter NodisVerif.Spec.RespWriterSpec

theorem take_set_succ (l : Bytes) (w : Nat) (b : UInt8) (h : w < l.length) :
    (l.set w b).take (w + 1) = l.take w ++ [b] := by
  rw [List.take_add_one]
  simp [List.take_set_of_le, h]

/-- `s'` is `s` after appending `bs` to the pending bytes -/
structure Wrote (s s' : Writer) (bs : Bytes) : Prop where
  w : s'.w = s.w + bs.length
  inv : WriterInv s'
  pending : (abs s').pending = (abs s).pending ++ bs
  sink : s'.sink = s.sink
  err : s'.err = s.err
  mono : s.buf.size ≤ s'.buf.size
  -- `writeBytes` grows by `n` only when `w + n ≥ len`, so the new `len ≤ 2·(w + n)`; `writeByte` only when `w ≥ len`, by `defaultSize`
  bound : s'.buf.size ≤ max s.buf.size (defaultSize + 2 * s'.w)

theorem Wrote.refl (s : Writer) (h : WriterInv s) : Wrote s s [] :=
  ⟨by simp, h, by simp, rfl, rfl, Nat.le_refl _, by omega⟩

theorem Wrote.trans {s s' s'' : Writer} {a b : Bytes} (h1 : Wrote s s' a) (h2 : Wrote s' s'' b) :
    Wrote s s'' (a ++ b) := by
  refine ⟨?_, h2.inv, ?_, ?_, ?_, ?_, ?_⟩
  · rw [h2.w, h1.w, List.length_append]; omega
  · rw [h2.pending, h1.pending, List.append_assoc]
  · rw [h2.sink, h1.sink]
  · rw [h2.err, h1.err]
  · exact Nat.le_trans h1.mono h2.mono
  · have := h1.bound; have := h2.bound; have := h1.w; have := h2.w; omega

theorem grow_w (s : Writer) (n : Nat) : (grow s n).w = s.w := rfl
theorem grow_err (s : Writer) (n : Nat) : (grow s n).err = s.err := rfl
theorem grow_sink (s : Writer) (n : Nat) : (grow s n).sink = s.sink := rfl
theorem grow_size (s : Writer) (n : Nat) : (grow s n).buf.size = s.buf.size + n := by
  simp [grow]
theorem grow_pending (s : Writer) (n : Nat) (h : WriterInv s) : (abs (grow s n)).pending = (abs s).pending := by
  simp only [abs, grow, Array.toList_append]
  exact List.take_append_of_le_length (by simpa [WriterInv] using h)

theorem grow_buf (s : Writer) (n : Nat) : (grow s n).buf.toList = s.buf.toList ++ List.replicate n 0 := by
  simp [grow]

theorem defaultSize_pos : 0 < defaultSize := by decide

theorem writeByte_ok (s : Writer) (b : UInt8) (h : WriterInv s) :
    ∃ s', writeByte s b = .ok s' ∧ Wrote s s' [b] ∧
      (s'.buf.size = s.buf.size ∨ (s.w = s.buf.size ∧ s'.buf.size = s.buf.size + defaultSize)) := by
  obtain ⟨buf, w, err, sink⟩ := s
  simp only [WriterInv] at h
  have hD := defaultSize_pos
  by_cases hg : w ≥ buf.size
  · have hw : w = buf.size := by omega
    have hlt : w < (buf ++ Array.replicate defaultSize 0).size := by
      rw [Array.size_append, Array.size_replicate]; omega
    refine ⟨⟨(buf ++ Array.replicate defaultSize 0).set w b hlt, w + 1, err, sink⟩, ?_, ?_, ?_⟩
    · simp only [writeByte, hg, if_true, grow]
      rw [dif_pos hlt]
    · refine ⟨rfl, ?_, ?_, rfl, rfl, ?_, ?_⟩
      · show w + 1 ≤ (Array.set _ w b hlt).size
        rw [Array.size_set, Array.size_append, Array.size_replicate]; omega
      · have := take_set_succ (buf ++ Array.replicate defaultSize 0).toList w b
          (by rw [Array.length_toList, Array.size_append, Array.size_replicate]; omega)
        simp only [abs, Array.toList_set]
        rw [this, Array.toList_append, List.take_append_of_le_length (by simpa using h)]
      · show buf.size ≤ (Array.set _ w b hlt).size
        rw [Array.size_set, Array.size_append, Array.size_replicate]; omega
      · show (Array.set _ w b hlt).size ≤ max buf.size (defaultSize + 2 * (w + 1))
        rw [Array.size_set, Array.size_append, Array.size_replicate]; omega
    · right; refine ⟨hw, ?_⟩
      show (Array.set _ w b hlt).size = _
      rw [Array.size_set, Array.size_append, Array.size_replicate]
  · have hlt : w < buf.size := by omega
    refine ⟨⟨buf.set w b hlt, w + 1, err, sink⟩, ?_, ?_, ?_⟩
    · simp only [writeByte, hg, if_false]
      rw [dif_pos hlt]
    · refine ⟨rfl, ?_, ?_, rfl, rfl, ?_, ?_⟩
      · show w + 1 ≤ (Array.set buf w b hlt).size
        rw [Array.size_set]; omega
      · have := take_set_succ buf.toList w b (by simpa using hlt)
        simp only [abs, Array.toList_set]
        exact this
      · show buf.size ≤ (Array.set buf w b hlt).size
        rw [Array.size_set]; omega
      · show (Array.set buf w b hlt).size ≤ max buf.size (defaultSize + 2 * (w + 1))
        rw [Array.size_set]; omega
    · left; show (Array.set buf w b hlt).size = _
      rw [Array.size_set]

theorem writeLoop_ok (bs : Bytes) : ∀ (s : Writer), WriterInv s → ∃ s', writeLoop s bs = .ok s' ∧ Wrote s s' bs := by
  induction bs with
  | nil => intro s h; exact ⟨s, rfl, Wrote.refl s h⟩
  | cons b bs ih =>
    intro s h
    obtain ⟨s1, e1, w1, _⟩ := writeByte_ok s b h
    obtain ⟨s2, e2, w2⟩ := ih s1 w1.inv
    refine ⟨s2, ?_, ?_⟩
    · simp only [writeLoop, e1, e2]
    · exact w1.trans w2

/-- inside writeBytes the loop never has to grow: the array is the same size after the loop as before
    (one allocation per call, made by the `grow(n)` up front) -/
theorem writeLoop_no_grow (bs : Bytes) : ∀ (s : Writer), s.w + bs.length ≤ s.buf.size →
    ∀ s', writeLoop s bs = .ok s' → s'.buf.size = s.buf.size := by
  induction bs with
  | nil => intro s _ s' e; simp only [writeLoop] at e; cases e; rfl
  | cons b bs ih =>
    intro s h s' e
    simp only [List.length_cons] at h
    obtain ⟨s1, e1, w1, hs⟩ := writeByte_ok s b (by unfold WriterInv; omega)
    simp only [writeLoop, e1] at e
    have hsz : s1.buf.size = s.buf.size := by
      rcases hs with hs | ⟨hs, _⟩
      · exact hs
      · omega
    have := ih s1 (by rw [w1.w, hsz]; simp; omega) s' e
    rw [this, hsz]

theorem writeBytes_ok (s : Writer) (bs : Bytes) (h : WriterInv s) : ∃ s', writeBytes s bs = .ok s' ∧ Wrote s s' bs := by
  by_cases hg : s.w + bs.length ≥ s.buf.size
  · have hi : WriterInv (grow s bs.length) := by unfold WriterInv at *; rw [grow_w, grow_size]; omega
    obtain ⟨s', e, w⟩ := writeLoop_ok bs (grow s bs.length) hi
    refine ⟨s', by simp only [writeBytes, hg, if_true, e], ?_⟩
    have hsz := writeLoop_no_grow bs (grow s bs.length) (by unfold WriterInv at h; rw [grow_w, grow_size]; omega) s' e
    refine ⟨w.w, w.inv, ?_, w.sink, w.err, ?_, ?_⟩
    · rw [w.pending, grow_pending s _ h]
    · have := w.mono; rw [grow_size] at this; omega
    · have := w.w; rw [grow_w] at this
      rw [hsz, grow_size]; omega
  · obtain ⟨s', e, w⟩ := writeLoop_ok bs s h
    refine ⟨s', by simp only [writeBytes, hg, if_false, e], ?_⟩
    have hsz := writeLoop_no_grow bs s (by omega) s' e
    exact ⟨w.w, w.inv, w.pending, w.sink, w.err, w.mono, by rw [hsz]; omega⟩

theorem writeBytes_size (s : Writer) (bs : Bytes) (h : WriterInv s) (s' : Writer) (e : writeBytes s bs = .ok s') :
    s'.buf.size = if s.w + bs.length ≥ s.buf.size then s.buf.size + bs.length else s.buf.size := by
  unfold WriterInv at h
  by_cases hg : s.w + bs.length ≥ s.buf.size
  · simp only [writeBytes, hg, if_true] at e
    rw [if_pos hg, writeLoop_no_grow bs _ (by rw [grow_w, grow_size]; omega) s' e, grow_size]
  · simp only [writeBytes, hg, if_false] at e
    rw [if_neg hg, writeLoop_no_grow bs _ (by omega) s' e]

theorem writeByte_size (s : Writer) (b : UInt8) (h : WriterInv s) (s' : Writer) (e : writeByte s b = .ok s') :
    s'.buf.size = (if s.w ≥ s.buf.size then s.buf.size + defaultSize else s.buf.size) ∧ s'.w = s.w + 1 := by
  obtain ⟨s1, e1, w1, hs⟩ := writeByte_ok s b h
  rw [e1] at e; cases e
  refine ⟨?_, by simpa using w1.w⟩
  unfold WriterInv at h
  have hD := defaultSize_pos
  by_cases hg : s.w ≥ s.buf.size
  · rw [if_pos hg]
    -- the array was full: the store needs the grown array
    have := w1.inv; unfold WriterInv at this
    have := w1.w; simp only [List.length_singleton] at this
    rcases hs with hs | ⟨_, hs⟩
    · omega
    · exact hs
  · rw [if_neg hg]
    rcases hs with hs | ⟨hw, _⟩
    · exact hs
    · omega

theorem writeBytes_free (s : Writer) (bs : Bytes) (h : WriterInv s) (s' : Writer) (e : writeBytes s bs = .ok s') :
    s'.buf.size - s'.w = if s.w + bs.length ≥ s.buf.size then s.buf.size - s.w else s.buf.size - s.w - bs.length := by
  have hsz := writeBytes_size s bs h s' e
  obtain ⟨s1, e1, w1⟩ := writeBytes_ok s bs h
  rw [e1] at e; cases e
  have := w1.w
  unfold WriterInv at h
  split at hsz <;> rename_i hg
  · rw [if_pos hg]; omega
  · rw [if_neg hg]; omega

theorem writeLine_ok (s : Writer) (t : UInt8) (body : Bytes) (h : WriterInv s) :
    ∃ s', writeLine s t body = .ok s' ∧ Wrote s s' (line t body) := by
  obtain ⟨s1, e1, w1, _⟩ := writeByte_ok s t h
  obtain ⟨s2, e2, w2⟩ := writeBytes_ok s1 body w1.inv
  obtain ⟨s3, e3, w3⟩ := writeBytes_ok s2 RespWriter.crlf w2.inv
  refine ⟨s3, by simp only [writeLine, e1, Res.bind, e2, e3], ?_⟩
  have := (w1.trans w2).trans w3
  simpa [line, Spec.RespWriterSpec.crlf, RespWriter.crlf] using this

theorem writeString_ok (s : Writer) (x : Bytes) (h : WriterInv s) :
    ∃ s', writeString s x = .ok s' ∧ Wrote s s' (line 43 x) := writeLine_ok s 43 x h

theorem writeArray_ok (s : Writer) (n : Int) (h : WriterInv s) :
    ∃ s', writeArray s n = .ok s' ∧ Wrote s s' (line 42 (formatInt n)) := writeLine_ok s 42 _ h

theorem writeInt64_ok (s : Writer) (n : Int) (h : WriterInv s) :
    ∃ s', writeInt64 s n = .ok s' ∧ Wrote s s' (line 58 (formatInt n)) := writeLine_ok s 58 _ h

theorem writeUInt64_ok (s : Writer) (n : Nat) (h : WriterInv s) :
    ∃ s', writeUInt64 s n = .ok s' ∧ Wrote s s' (line 58 (natDigits n)) := writeLine_ok s 58 _ h

theorem writeMap_ok (s : Writer) (n : Int) (h : WriterInv s) :
    ∃ s', writeMap s n = .ok s' ∧ Wrote s s' (line 37 (formatInt n)) := writeLine_ok s 37 _ h

theorem writeBulk_ok (s : Writer) (b : Bytes) (h : WriterInv s) :
    ∃ s', writeBulk s b = .ok s' ∧ Wrote s s' (Spec.RespEnc.encodeBulk b) := by
  obtain ⟨s1, e1, w1⟩ := writeLine_ok s 36 (formatInt b.length) h
  obtain ⟨s2, e2, w2⟩ := writeBytes_ok s1 b w1.inv
  obtain ⟨s3, e3, w3⟩ := writeBytes_ok s2 RespWriter.crlf w2.inv
  refine ⟨s3, ?_, ?_⟩
  · have e1' : writeLine s BulkType (formatInt b.length) = .ok s1 := e1
    simp only [writeBulk, e1', Res.bind, e2, e3]
  · have := (w1.trans w2).trans w3
    simpa [line, Spec.RespEnc.encodeBulk, Spec.RespEnc.crlf, Spec.RespWriterSpec.crlf, RespWriter.crlf] using this

/-- `WriteError`: the flag is raised, then the line is written -/
theorem writeError_ok (s : Writer) (e : Bytes) (h : WriterInv s) :
    ∃ s', writeError s e = .ok s' ∧ Wrote { s with err := true } s' (line 45 e) := by
  obtain ⟨buf, w, err, sink⟩ := s
  exact writeLine_ok ⟨buf, w, true, sink⟩ 45 e h

theorem writeDouble_ok (s : Writer) (x : F64) (txt : Bytes) (ht : FloatText.formatFloat x = some txt) (h : WriterInv s) :
    ∃ s', writeDouble s x = .ok s' ∧ Wrote s s' (line 44 txt) := by
  obtain ⟨s', e, w⟩ := writeLine_ok s 44 txt h
  refine ⟨s', ?_, w⟩
  have e' : writeLine s DoubleType txt = .ok s' := e
  simp only [writeDouble, ht, e']

theorem abs_of_wrote {s s' : Writer} {bs : Bytes} (w : Wrote s s' bs) :
    abs s' = { delivered := (abs s).delivered, pending := (abs s).pending ++ bs, err := s.err } := by
  have hp := w.pending
  have hs := w.sink
  have he := w.err
  simp only [abs] at hp ⊢
  rw [hp, hs, he]

/-- the outcome of a call that refines the abstract step to (a', r) -/
def Refines (s : Writer) (c : Call) (a' : AW) (r : Reply) : Prop :=
  ∃ s', step s c = .ok (s', r) ∧ abs s' = a' ∧ WriterInv s' ∧ s.buf.size ≤ s'.buf.size ∧
    s'.buf.size ≤ max s.buf.size (defaultSize + 2 * s'.w)

theorem refines_of_wrote {s s' : Writer} {c : Call} {bs : Bytes} (e : step s c = .ok (s', .unit))
    (w : Wrote s s' bs) (hne : isError c = false) :
    Refines s c { delivered := (abs s).delivered, pending := (abs s).pending ++ bs, err := (abs s).err || isError c } .unit := by
  refine ⟨s', e, ?_, w.inv, w.mono, w.bound⟩
  rw [abs_of_wrote w, hne]; simp [abs]

/-- what an append added -/
theorem toList_extract_append (a b : Array UInt8) : (a ++ b).toList.extract a.size (a ++ b).size = b.toList := by
  simp only [List.extract_eq_take_drop, Array.toList_append, ← Array.length_toList, List.length_append,
    Nat.add_sub_cancel_left, List.drop_left, List.take_length]

theorem flush_none_eq (s : Writer) (h : WriterInv s) :
    step s (.flush none) =
      .ok (⟨s.buf, 0, false, s.sink ++ s.buf.extract 0 s.w⟩, .flushed (abs s).pending false) := by
  simp only [WriterInv] at h
  simp only [step, flush, h, if_true, Res.bind]
  simp only [abs, toList_extract_append, Array.toList_extract, List.extract_eq_take_drop, List.drop_zero, Nat.sub_zero]

theorem flush_some_eq (s : Writer) (k : Nat) (h : WriterInv s) :
    step s (.flush (some k)) =
      .ok (⟨s.buf, s.w, s.err, s.sink ++ s.buf.extract 0 (min k s.w)⟩, .flushed ((abs s).pending.take k) true) := by
  simp only [WriterInv] at h
  simp only [step, flush, h, if_true, Res.bind]
  simp only [abs, toList_extract_append, Array.toList_extract, List.extract_eq_take_drop, List.drop_zero, Nat.sub_zero,
    List.take_take]

theorem flush_ok_none (s : Writer) (h : WriterInv s) :
    Refines s (.flush none) { delivered := (abs s).delivered ++ (abs s).pending, pending := [], err := false }
      (.flushed (abs s).pending false) :=
  ⟨_, flush_none_eq s h, by simp [abs, Array.toList_extract], by simp [WriterInv], Nat.le_refl _, Nat.le_max_left _ _⟩

theorem flush_ok_some (s : Writer) (k : Nat) (h : WriterInv s) :
    Refines s (.flush (some k)) { abs s with delivered := (abs s).delivered ++ (abs s).pending.take k }
      (.flushed ((abs s).pending.take k) true) :=
  ⟨_, flush_some_eq s k h, by simp [abs, Array.toList_extract, List.take_take], h, Nat.le_refl _, Nat.le_max_left _ _⟩

theorem bytes_ok (s : Writer) (h : WriterInv s) : Refines s .bytes (abs s) (.bytes (abs s).pending) := by
  refine ⟨s, ?_, rfl, h, Nat.le_refl _, Nat.le_max_left _ _⟩
  simp only [WriterInv] at h
  simp [step, bytes, h, Res.bind, abs, Array.toList_extract]

/-- every call has an encoding (`FloatText.formatFloat` is total), so the abstract step is defined on every call -/
theorem encode_isSome (c : Call) : (encode c).isSome = true := by
  cases c <;> rfl

theorem AW.step_total (a : AW) (c : Call) : ∃ a' r, a.step c = some (a', r) := by
  obtain ⟨e, he⟩ := Option.isSome_iff_exists.mp (encode_isSome c)
  cases c with
  | flush fail => cases fail <;> exact ⟨_, _, rfl⟩
  | bytes => exact ⟨_, _, rfl⟩
  | hasError => exact ⟨_, _, rfl⟩
  | _ => simp only [AW.step, he, Option.map_some]; exact ⟨_, _, rfl⟩

theorem step_refines_some (s : Writer) (c : Call) (h : WriterInv s) {a' : AW} {r : Reply}
    (ha : AW.step (abs s) c = some (a', r)) : Refines s c a' r := by
  cases c with
  | string x =>
    cases ha
    obtain ⟨s', e, w⟩ := writeString_ok s x h
    exact refines_of_wrote (by simp only [step, e, RespWriter.unit, Res.bind]) w rfl
  | bulk b =>
    cases ha
    obtain ⟨s', e, w⟩ := writeBulk_ok s b h
    exact refines_of_wrote (by simp only [step, e, RespWriter.unit, Res.bind]) w rfl
  | bulkNull =>
    cases ha
    obtain ⟨s', e, w⟩ := writeBytes_ok s (Bytes.ofString "$-1\r\n") h
    exact refines_of_wrote (by simp only [step, writeBulkNull, e, RespWriter.unit, Res.bind]) w rfl
  | array n =>
    cases ha
    obtain ⟨s', e, w⟩ := writeArray_ok s n h
    exact refines_of_wrote (by simp only [step, e, RespWriter.unit, Res.bind]) w rfl
  | arrayNull =>
    cases ha
    obtain ⟨s', e, w⟩ := writeBytes_ok s (Bytes.ofString "*-1\r\n") h
    exact refines_of_wrote (by simp only [step, writeArrayNull, e, RespWriter.unit, Res.bind]) w rfl
  | error x =>
    cases ha
    obtain ⟨s', e, w⟩ := writeError_ok s x h
    refine ⟨s', by simp only [step, e, RespWriter.unit, Res.bind], ?_, w.inv, w.mono, w.bound⟩
    rw [abs_of_wrote w]; simp [abs, isError]
  | int64 v =>
    cases ha
    obtain ⟨s', e, w⟩ := writeInt64_ok s v h
    exact refines_of_wrote (by simp only [step, e, RespWriter.unit, Res.bind]) w rfl
  | uint64 v =>
    cases ha
    obtain ⟨s', e, w⟩ := writeUInt64_ok s v h
    exact refines_of_wrote (by simp only [step, e, RespWriter.unit, Res.bind]) w rfl
  | double x =>
    cases ha
    obtain ⟨s', e, w⟩ := writeDouble_ok s x _ rfl h
    exact refines_of_wrote (by simp only [step, e, RespWriter.unit, Res.bind]) w rfl
  | map n =>
    cases ha
    obtain ⟨s', e, w⟩ := writeMap_ok s n h
    exact refines_of_wrote (by simp only [step, e, RespWriter.unit, Res.bind]) w rfl
  | nullMap =>
    cases ha
    obtain ⟨s', e, w⟩ := writeBytes_ok s (Bytes.ofString "%-1\r\n") h
    exact refines_of_wrote (by simp only [step, writeNullMap, e, RespWriter.unit, Res.bind]) w rfl
  | ok =>
    cases ha
    obtain ⟨s', e, w⟩ := writeBytes_ok s (Bytes.ofString "+OK\r\n") h
    exact refines_of_wrote (by simp only [step, writeOK, e, RespWriter.unit, Res.bind]) w rfl
  | flush fail =>
    cases fail with
    | none => cases ha; exact flush_ok_none s h
    | some k => cases ha; exact flush_ok_some s k h
  | bytes => cases ha; exact bytes_ok s h
  | hasError => cases ha; exact ⟨s, rfl, rfl, h, Nat.le_refl _, Nat.le_max_left _ _⟩

/-- (the `none` arm is unreachable: `AW.step_total`) -/
theorem step_refines (s : Writer) (c : Call) (h : WriterInv s) :
    match AW.step (abs s) c with
    | none => step s c = .outside
    | some (a', r) => Refines s c a' r := by
  obtain ⟨a', r, ha⟩ := AW.step_total (abs s) c
  rw [ha]
  exact step_refines_some s c h ha

theorem AW.run_cons {a a' : AW} {c : Call} {cs : List Call} (h : AW.run a (c :: cs) = some a') :
    ∃ a1 r, a.step c = some (a1, r) ∧ AW.run a1 cs = some a' := by
  simp only [AW.run] at h
  cases hs : a.step c with
  | none => rw [hs] at h; cases h
  | some p => rw [hs] at h; exact ⟨p.1, p.2, rfl, h⟩

theorem AW.run_total (cs : List Call) : ∀ a : AW, ∃ a', AW.run a cs = some a' := by
  induction cs with
  | nil => intro a; exact ⟨a, rfl⟩
  | cons c cs ih =>
    intro a
    obtain ⟨a1, r, hs⟩ := AW.step_total a c
    obtain ⟨a', ha'⟩ := ih a1
    exact ⟨a', by simp only [AW.run, hs, ha']⟩

theorem run_refines (cs : List Call) : ∀ (s : Writer) (a' : AW), WriterInv s → AW.run (abs s) cs = some a' →
    ∃ s', run s cs = .ok s' ∧ abs s' = a' ∧ WriterInv s' ∧ s.buf.size ≤ s'.buf.size := by
  induction cs with
  | nil => intro s a' h ha; cases ha; exact ⟨s, rfl, rfl, h, Nat.le_refl _⟩
  | cons c cs ih =>
    intro s a' h ha
    obtain ⟨a1, r, hs, ha⟩ := AW.run_cons ha
    obtain ⟨s1, e1, habs, hinv, hmono, _⟩ := step_refines_some s c h hs
    obtain ⟨s', e, h1, h2, h3⟩ := ih s1 a' hinv (habs ▸ ha)
    exact ⟨s', by simp only [run, e1, e], h1, h2, Nat.le_trans hmono h3⟩

theorem run_ok (cs : List Call) (s : Writer) (h : WriterInv s) :
    ∃ s', run s cs = .ok s' ∧ AW.run (abs s) cs = some (abs s') ∧ WriterInv s' ∧ s.buf.size ≤ s'.buf.size := by
  obtain ⟨a', ha⟩ := AW.run_total cs (abs s)
  obtain ⟨s', e, h1, h2, h3⟩ := run_refines cs s a' h ha
  exact ⟨s', e, h1 ▸ ha, h2, h3⟩

theorem abs_new : abs RespWriter.new = {} := by
  simp [abs, RespWriter.new]

theorem run_never_panics (s : Writer) (h : WriterInv s) (cs : List Call) : run s cs ≠ .panic := by
  obtain ⟨s', e, _⟩ := run_ok cs s h
  rw [e]; exact fun h => nomatch h

theorem run_ok_abs {s s' : Writer} (h : WriterInv s) {cs : List Call} (e : run s cs = .ok s') :
    AW.run (abs s) cs = some (abs s') ∧ WriterInv s' ∧ s.buf.size ≤ s'.buf.size := by
  obtain ⟨s1, e1, h1, h2, h3⟩ := run_ok cs s h
  rw [e1] at e
  cases e
  exact ⟨h1, h2, h3⟩

theorem pending_length (s : Writer) (h : WriterInv s) : (abs s).pending.length = s.w := by
  simp only [abs, List.length_take, Array.length_toList]
  exact Nat.min_eq_left h

theorem AW.run_append (cs ds : List Call) : ∀ a : AW, AW.run a (cs ++ ds) = (AW.run a cs).bind fun a' => AW.run a' ds := by
  induction cs with
  | nil => intro a; rfl
  | cons c cs ih =>
    intro a
    simp only [List.cons_append, AW.run]
    cases AW.step a c with
    | none => rfl
    | some p => exact ih p.1

theorem run_append (cs ds : List Call) : ∀ s : Writer, run s (cs ++ ds) = (run s cs).bind fun s' => run s' ds := by
  induction cs with
  | nil => intro s; rfl
  | cons c cs ih =>
    intro s
    simp only [List.cons_append, run]
    cases step s c with
    | ok p => exact ih p.1
    | panic => rfl
    | outside => rfl

theorem written_of_encode {c : Call} {e : Bytes} (h : encode c = some e) : written c = e := by
  simp [written, h]

theorem AW.step_state (a a' : AW) (c : Call) (r : Reply) (h : a.step c = some (a', r)) :
    (c = .flush none ∧ a' = { delivered := a.delivered ++ a.pending, pending := [], err := false }) ∨
    (∃ k, c = .flush (some k) ∧ a' = { a with delivered := a.delivered ++ a.pending.take k }) ∨
    a' = { a with pending := a.pending ++ written c, err := a.err || isError c } := by
  cases c with
  | flush fail =>
    cases fail with
    | none => cases h; exact .inl ⟨rfl, rfl⟩
    | some k => cases h; exact .inr (.inl ⟨k, rfl, rfl⟩)
  | bytes => cases h; exact .inr (.inr (by simp [written, encode, isError]))
  | hasError => cases h; exact .inr (.inr (by simp [written, encode, isError]))
  | _ =>
    simp only [AW.step, Option.map_eq_some_iff, Prod.mk.injEq] at h
    obtain ⟨e, he, rfl, _⟩ := h
    exact .inr (.inr (by rw [written_of_encode he]))

theorem AW.step_content (a a' : AW) (c : Call) (r : Reply) (h : a.step c = some (a', r)) (hk : ∀ k, c ≠ .flush (some k)) :
    a'.delivered ++ a'.pending = a.delivered ++ a.pending ++ written c := by
  rcases AW.step_state a a' c r h with ⟨rfl, rfl⟩ | ⟨k, rfl, _⟩ | rfl
  · simp [written, encode]
  · exact absurd rfl (hk k)
  · simp

theorem AW.run_content (cs : List Call) : ∀ (a a' : AW), AW.run a cs = some a' → NoFailure cs →
    a'.delivered ++ a'.pending = a.delivered ++ a.pending ++ cs.flatMap written := by
  induction cs with
  | nil => intro a a' h _; simp only [AW.run, Option.some.injEq] at h; subst h; simp
  | cons c cs ih =>
    intro a a' h hn
    obtain ⟨a1, r, hs, h⟩ := AW.run_cons h
    have h1 := AW.step_content a a1 c r hs (fun k => hn c (by simp) k)
    have h2 := ih a1 a' h (fun c' hc' => hn c' (List.mem_cons_of_mem _ hc'))
    rw [h2, h1, List.flatMap_cons, List.append_assoc]

theorem AW.step_flush (a : AW) :
    a.step (.flush none) = some ({ delivered := a.delivered ++ a.pending, pending := [], err := false }, .flushed a.pending false) := rfl

theorem AW.step_pending_le (a a' : AW) (c : Call) (r : Reply) (h : a.step c = some (a', r)) :
    a'.pending.length ≤ a.pending.length + (written c).length := by
  rcases AW.step_state a a' c r h with ⟨rfl, rfl⟩ | ⟨k, rfl, rfl⟩ | rfl <;> simp

theorem AW.run_pending_le (cs : List Call) : ∀ (a a' : AW), AW.run a cs = some a' →
    a'.pending.length ≤ a.pending.length + (cs.flatMap written).length := by
  induction cs with
  | nil => intro a a' h; simp only [AW.run, Option.some.injEq] at h; subst h; simp
  | cons c cs ih =>
    intro a a' h
    obtain ⟨a1, r, hs, h⟩ := AW.run_cons h
    have h1 := AW.step_pending_le a a1 c r hs
    have h2 := ih a1 a' h
    simp only [List.flatMap_cons, List.length_append]
    omega

theorem AW.step_no_flush (a a' : AW) (c : Call) (r : Reply) (h : a.step c = some (a', r)) (hc : c ≠ .flush none) :
    a'.pending = a.pending ++ written c ∧ a'.err = (a.err || isError c) := by
  rcases AW.step_state a a' c r h with ⟨rfl, _⟩ | ⟨k, rfl, rfl⟩ | rfl
  · exact absurd rfl hc
  · simp [written, encode, isError]
  · exact ⟨rfl, rfl⟩

theorem AW.run_no_flush (cs : List Call) : ∀ (a a' : AW), AW.run a cs = some a' → (∀ c ∈ cs, c ≠ .flush none) →
    a'.pending = a.pending ++ cs.flatMap written ∧ a'.err = (a.err || cs.any isError) := by
  induction cs with
  | nil => intro a a' h _; simp only [AW.run, Option.some.injEq] at h; subst h; simp
  | cons c cs ih =>
    intro a a' h hn
    obtain ⟨a1, r, hs, h⟩ := AW.run_cons h
    obtain ⟨h1, h1e⟩ := AW.step_no_flush a a1 c r hs (hn c (by simp))
    obtain ⟨h2, h2e⟩ := ih a1 a' h (fun c' hc' => hn c' (List.mem_cons_of_mem _ hc'))
    rw [h2, h1, h2e, h1e]
    simp [List.append_assoc, Bool.or_assoc]

/-- `M` bounds the write index after every prefix of the run; the array then stays within `defaultSize + 2 * M`, by
    the bound every call keeps (`Wrote.bound`, the last conjunct of `Refines`) -/
theorem run_size_le (M : Nat) (cs : List Call) : ∀ (s s' : Writer), WriterInv s → s.buf.size ≤ defaultSize + 2 * M →
    (∀ pre s1, pre <+: cs → run s pre = .ok s1 → s1.w ≤ M) → run s cs = .ok s' → s'.buf.size ≤ defaultSize + 2 * M := by
  induction cs with
  | nil => intro s s' _ hb _ e; simp only [run] at e; cases e; exact hb
  | cons c cs ih =>
    intro s s' h hb hM e
    obtain ⟨a1, r, ha⟩ := AW.step_total (abs s) c
    obtain ⟨s1, hstep, _, hinv, _, hbound⟩ := step_refines_some s c h ha
    simp only [run, hstep] at e
    have hw1 : s1.w ≤ M := hM [c] s1 (by simp) (by simp only [run, hstep])
    refine ih s1 s' hinv (by omega) ?_ e
    intro pre s2 hpre hrun
    exact hM (c :: pre) s2 (by simpa using hpre) (by simp only [run, hstep, hrun])

/-! ## the writer as the connection loop uses it: the tokens of one reply raise the error flag exactly when one of
  them is an error token (what `conn.HasError()` feeds into MULTI's error bit), and the loop
  `handler; Flush` delivers every reply completely before the next command is read -/

theorem encode_callOfTok (t : Resp.Tok) : encode (callOfTok t) = some (Resp.render t) := by
  cases t <;> simp [callOfTok, encode, Resp.render, line, Spec.RespWriterSpec.crlf, Resp.crlf, Spec.RespEnc.encodeBulk, Spec.RespEnc.crlf]

theorem written_callOfTok (t : Resp.Tok) : written (callOfTok t) = Resp.render t :=
  written_of_encode (encode_callOfTok t)

theorem written_tokens (ts : List Resp.Tok) : (ts.map callOfTok).flatMap written = Resp.renderAll ts := by
  simp [Resp.renderAll, List.flatMap_map, written_callOfTok]

theorem written_nonwrite (c : Call) (h : isWrite c = false) : written c = [] := by
  cases c <;> simp_all [isWrite, written, encode]

theorem written_filter (cs : List Call) : cs.flatMap written = (cs.filter isWrite).flatMap written := by
  induction cs with
  | nil => rfl
  | cons c cs ih =>
    cases h : isWrite c with
    | true => simp [h, ih]
    | false => simp [h, ih, written_nonwrite c h]

theorem isError_callOfTok (t : Resp.Tok) : isError (callOfTok t) = Server.isErr t := by
  cases t <;> rfl

theorem isWrite_callOfTok (t : Resp.Tok) : isWrite (callOfTok t) = true := by
  cases t <;> rfl

theorem AW.step_tok (a : AW) (t : Resp.Tok) :
    a.step (callOfTok t) = some ({ a with pending := a.pending ++ Resp.render t, err := a.err || Server.isErr t }, .unit) := by
  have h := encode_callOfTok t
  have he := isError_callOfTok t
  cases t <;> simp only [callOfTok] at h he ⊢ <;> simp only [AW.step, h, he, Option.map_some]

theorem AW.run_tokens (ts : List Resp.Tok) : ∀ a : AW,
    AW.run a (ts.map callOfTok) =
      some { delivered := a.delivered, pending := a.pending ++ Resp.renderAll ts, err := a.err || ts.any Server.isErr } := by
  induction ts with
  | nil => intro a; simp [AW.run, Resp.renderAll]
  | cons t ts ih =>
    intro a
    simp only [List.map_cons, AW.run, AW.step_tok, ih]
    simp [Resp.renderAll, List.append_assoc, Bool.or_assoc]

theorem AW.run_reply_flush (r : List Resp.Tok) (a : AW) :
    AW.run a (r.map callOfTok ++ [.flush none]) =
      some { delivered := a.delivered ++ (a.pending ++ Resp.renderAll r), pending := [], err := false } := by
  rw [AW.run_append, AW.run_tokens]
  rfl

theorem serveCalls_cons (r : List Resp.Tok) (rs : List (List Resp.Tok)) :
    serveCalls (r :: rs) = (r.map callOfTok ++ [.flush none]) ++ serveCalls rs := by
  simp [serveCalls]

theorem AW.run_serve (rs : List (List Resp.Tok)) : ∀ a : AW, a.pending = [] → a.err = false →
    AW.run a (serveCalls rs) =
      some { delivered := a.delivered ++ rs.flatMap Resp.renderAll, pending := [], err := false } := by
  induction rs with
  | nil =>
    intro a hp he
    obtain ⟨d, p, e⟩ := a
    cases hp; cases he
    simp [serveCalls, AW.run]
  | cons r rs ih =>
    intro a hp _
    rw [serveCalls_cons, AW.run_append, AW.run_reply_flush, Option.bind_some, ih _ rfl rfl, hp]
    simp [List.append_assoc]

theorem serveCalls_noFailure (rs : List (List Resp.Tok)) : NoFailure (serveCalls rs) := by
  intro c hc k
  simp only [serveCalls, List.mem_flatMap, List.mem_append, List.mem_map, List.mem_singleton] at hc
  obtain ⟨r, _, hc⟩ := hc
  rcases hc with ⟨t, _, rfl⟩ | rfl
  · cases t <;> simp [callOfTok]
  · simp

theorem serveCalls_writes (rs : List (List Resp.Tok)) : (serveCalls rs).filter isWrite = rs.flatten.map callOfTok := by
  induction rs with
  | nil => rfl
  | cons r rs ih =>
    rw [serveCalls_cons, List.filter_append, List.filter_append, ih]
    have h1 : (r.map callOfTok).filter isWrite = r.map callOfTok := by
      apply List.filter_eq_self.mpr
      intro c hc
      obtain ⟨t, _, rfl⟩ := List.mem_map.mp hc
      exact isWrite_callOfTok t
    rw [h1]
    simp [isWrite]

end NodisVerif.Proofs.RespWriter

import NodisVerif.Proofs.C20HFloat
import NodisVerif.Proofs.C20RenameNX
import NodisVerif.Proofs.C20ZStore
import NodisVerif.Proofs.C12More
import NodisVerif.Proofs.C20Rotate
import NodisVerif.Proofs.C20SMove
import NodisVerif.Proofs.C20Str2
import NodisVerif.Proofs.C20StrMain
import NodisVerif.Proofs.C20ZIncr
import NodisVerif.Proofs.C20ZSet
/-
  C20: the covered state-changing calls of the embedded API as a type (`Call`, as `Driver.callApi` passes them;
  GEOADD* are not constructors: Props/C20.lean, "GEOADD's records"), the part of the call information that
  `Feed.emission` reads, argument side conditions, finding regions, and the main theorem
  over that type (`call_covered`, one case per method).  A command that is one key transaction hands its case
  `SelfRec` or `Echo` for its form (`Covered.of_self`, `of_echo`, `of_echoN`); a command on several keys, or with a
  store step of its own, hands it `Replay ∧ watcher kept ∧ every record names k` (`Covered.of_key`, `of_keyD`) or
  `Follows` (`of_follows`).
-/
namespace NodisVerif.Proofs.C20
open NodisVerif NodisVerif.Store NodisVerif.Spec.Persist NodisVerif.Proofs.C11

/-- the covered state-changing methods with their arguments (as `Driver.callApi` passes them) -/
inductive Call
  | del (ks : List Bytes) | unlink (ks : List Bytes)
  | expire (k : Bytes) (n : Int) | expirePX (k : Bytes) (n : Int)
  | expireNX (k : Bytes) (n : Int) | expireXX (k : Bytes) (n : Int)
  | expireLT (k : Bytes) (n : Int) | expireGT (k : Bytes) (n : Int)
  | expireAt (k : Bytes) (ts : Int) | expireAtNX (k : Bytes) (ts : Int) | expireAtXX (k : Bytes) (ts : Int)
  | expireAtLT (k : Bytes) (ts : Int) | expireAtGT (k : Bytes) (ts : Int)
  | rename (a b : Bytes) | persist (k : Bytes) | clear | hclear (k : Bytes) | zclear (k : Bytes)
  | set (k v : Bytes) (keep : Bool) | getSet (k v : Bytes) | setEX (k v : Bytes) (n : Int)
  | setPX (k v : Bytes) (n : Int) | setNX (k v : Bytes) (keep : Bool) | setXX (k v : Bytes) (keep : Bool)
  | incr (k : Bytes) | incrBy (k : Bytes) (n : Int) | decr (k : Bytes) | decrBy (k : Bytes) (n : Int)
  | incrByFloat (k : Bytes) (d : F64) | setBit (k : Bytes) (o : Int) (b : Bool) | append (k v : Bytes)
  | setRange (k : Bytes) (o : Int) (v : Bytes) | mset (kvs : List Bytes)
  | lpush (k : Bytes) (vs : List Bytes) | rpush (k : Bytes) (vs : List Bytes)
  | lpop (k : Bytes) (n : Int) | rpop (k : Bytes) (n : Int)
  | linsert (k pivot d : Bytes) (before : Bool) | lpushX (k d : Bytes) | rpushX (k d : Bytes)
  | lrem (k d : Bytes) (n : Int) | lset (k : Bytes) (i : Int) (d : Bytes) | ltrim (k : Bytes) (a b : Int)
  | hset (k f v : Bytes) | hdel (k : Bytes) (fs : List Bytes) | hincrBy (k f : Bytes) (n : Int)
  | hsetNX (k f v : Bytes) | hmset (k : Bytes) (pairs : List (Bytes × Bytes))
  | sadd (k : Bytes) (ms : List Bytes) | srem (k : Bytes) (ms : List Bytes)
  | spop (k : Bytes) (n : Int) (choice : List Bytes)
  | zadd (k m : Bytes) (sc : F64) | zaddXX (k m : Bytes) (sc : F64) | zaddNX (k m : Bytes) (sc : F64)
  | zaddLT (k m : Bytes) (sc : F64) | zaddGT (k m : Bytes) (sc : F64)
  | zrem (k : Bytes) (ms : List Bytes) | zremRangeByRank (k : Bytes) (a b : Int)
  | zremRangeByScore (k : Bytes) (a b : F64) (mode : Int)
  | renameNX (a b : Bytes) | smove (src dst m : Bytes) | lpopRpush (a b : Bytes) | rpopLpush (a b : Bytes)
  | sdiffStore (dst : Bytes) (ks : List Bytes) | sinterStore (dst : Bytes) (ks : List Bytes)
  | sunionStore (dst : Bytes) (ks : List Bytes)
  | zincrBy (k m : Bytes) (d : F64) | hincrByFloat (k f : Bytes) (d : F64)
  -- sorted-set stores: destination, operands, weights, aggregate
  | zunionStore (dst : Bytes) (ks : List Bytes) (ws : List F64) (agg : Bytes)
  | zinterStore (dst : Bytes) (ks : List Bytes) (ws : List F64) (agg : Bytes)

namespace Call

/-- the model's implementation (`Driver.callApi`; that `run` and `method` agree with its string cases is by reading:
    no theorem mentions `callApi`) -/
def run : Call → MState → Int → Api.R
  | del ks, s, now => Api.del s now ks
  | unlink ks, s, now => Api.del s now ks
  | expire k n, s, now => Api.expire s now k n
  | expirePX k n, s, now => Api.expirePX s now k n
  | expireNX k n, s, now => Api.expireNX s now k n
  | expireXX k n, s, now => Api.expireXX s now k n
  | expireLT k n, s, now => Api.expireLT s now k n
  | expireGT k n, s, now => Api.expireGT s now k n
  | expireAt k ts, s, now => Api.expireAt s now k ts
  | expireAtNX k ts, s, now => Api.expireAtNX s now k ts
  | expireAtXX k ts, s, now => Api.expireAtXX s now k ts
  | expireAtLT k ts, s, now => Api.expireAtLT s now k ts
  | expireAtGT k ts, s, now => Api.expireAtGT s now k ts
  | rename a b, s, now => Api.rename s now a b
  | persist k, s, now => Api.persist s now k
  | clear, s, _ => (Store.clear s, .unit)
  | hclear k, s, now => ((Api.del s now [k]).1, .unit)
  | zclear k, s, now => ((Api.del s now [k]).1, .unit)
  | set k v keep, s, now => Api.set s now k v keep
  | getSet k v, s, now => Api.getSet s now k v
  | setEX k v n, s, now => Api.setEX s now k v n
  | setPX k v n, s, now => Api.setPX s now k v n
  | setNX k v keep, s, now => Api.setNX s now k v keep
  | setXX k v keep, s, now => Api.setXX s now k v keep
  | incr k, s, now => Api.addInt s now k 1 false false
  | incrBy k n, s, now => Api.addInt s now k n false true
  | decr k, s, now => Api.addInt s now k 1 true false
  | decrBy k n, s, now => Api.addInt s now k n true false
  | incrByFloat k d, s, now => Api.incrByFloat s now k d
  | setBit k o b, s, now => Api.setBit s now k o b
  | append k v, s, now => Api.append s now k v
  | setRange k o v, s, now => Api.setRange s now k o v
  | mset kvs, s, now => Api.mset s now kvs
  | lpush k vs, s, now => Api.push true s now k vs
  | rpush k vs, s, now => Api.push false s now k vs
  | lpop k n, s, now => Api.pop true s now k n
  | rpop k n, s, now => Api.pop false s now k n
  | linsert k pv d before, s, now => Api.linsert s now k pv d before
  | lpushX k d, s, now => Api.pushX true s now k d
  | rpushX k d, s, now => Api.pushX false s now k d
  | lrem k d n, s, now => Api.lrem s now k d n
  | lset k i d, s, now => Api.lset s now k i d
  | ltrim k a b, s, now => Api.ltrim s now k a b
  | hset k f v, s, now => Api.hset s now k f v
  | hdel k fs, s, now => Api.hdel s now k fs
  | hincrBy k f n, s, now => Api.hincrby s now k f n
  | hsetNX k f v, s, now => Api.hsetnx s now k f v
  | hmset k pairs, s, now => Api.hmset s now k pairs
  | sadd k ms, s, now => Api.sadd s now k ms
  | srem k ms, s, now => Api.srem s now k ms
  | spop k n choice, s, now => Api.spop s now k n choice
  | zadd k m sc, s, now => Api.zadd s now k m sc
  | zaddXX k m sc, s, now => Api.zaddXX s now k m sc
  | zaddNX k m sc, s, now => Api.zaddNX s now k m sc
  | zaddLT k m sc, s, now => Api.zaddLT s now k m sc
  | zaddGT k m sc, s, now => Api.zaddGT s now k m sc
  | zrem k ms, s, now => Api.zrem s now k ms
  | zremRangeByRank k a b, s, now => Api.zremRangeByRank s now k a b
  | zremRangeByScore k a b mode, s, now => Api.zremRangeByScore s now k a b mode
  | renameNX a b, s, now => Api.renameNX s now a b
  | smove src dst m, s, now => Api.smove s now src dst m
  | lpopRpush a b, s, now => Api.rotate true s now a b
  | rpopLpush a b, s, now => Api.rotate false s now a b
  | sdiffStore dst ks, s, now => Api.sstore Api.sdiff s now dst ks
  | sinterStore dst ks, s, now => Api.sstore Api.sinter s now dst ks
  | sunionStore dst ks, s, now => Api.sstore Api.sunion s now dst ks
  | zincrBy k m d, s, now => Api.zincrby s now k m d
  | hincrByFloat k f d, s, now => Api.hincrbyfloat s now k f d
  | zunionStore dst ks ws agg, s, now => Api.zstore true s now dst ks ws agg
  | zinterStore dst ks ws agg, s, now => Api.zstore false s now dst ks ws agg

/-- the method name the driver passes to `Feed.emission` -/
def method : Call → String
  | del _ => "Del" | unlink _ => "Unlink" | expire .. => "Expire" | expirePX .. => "ExpirePX"
  | expireNX .. => "ExpireNX" | expireXX .. => "ExpireXX" | expireLT .. => "ExpireLT" | expireGT .. => "ExpireGT"
  | expireAt .. => "ExpireAt" | expireAtNX .. => "ExpireAtNX" | expireAtXX .. => "ExpireAtXX"
  | expireAtLT .. => "ExpireAtLT" | expireAtGT .. => "ExpireAtGT" | rename .. => "Rename" | persist _ => "Persist"
  | clear => "Clear" | hclear _ => "HClear" | zclear _ => "ZClear"
  | set .. => "Set" | getSet .. => "GetSet" | setEX .. => "SetEX" | setPX .. => "SetPX" | setNX .. => "SetNX"
  | setXX .. => "SetXX" | incr _ => "Incr" | incrBy .. => "IncrBy" | decr _ => "Decr" | decrBy .. => "DecrBy"
  | incrByFloat .. => "IncrByFloat" | setBit .. => "SetBit" | append .. => "Append" | setRange .. => "SetRange"
  | mset _ => "MSet"
  | lpush .. => "LPush" | rpush .. => "RPush" | lpop .. => "LPop" | rpop .. => "RPop" | linsert .. => "LInsert"
  | lpushX .. => "LPushX" | rpushX .. => "RPushX" | lrem .. => "LRem" | lset .. => "LSet" | ltrim .. => "LTrim"
  | hset .. => "HSet" | hdel .. => "HDel" | hincrBy .. => "HIncrBy" | hsetNX .. => "HSetNX" | hmset .. => "HMSet"
  | sadd .. => "SAdd" | srem .. => "SRem" | spop .. => "SPop"
  | zadd .. => "ZAdd" | zaddXX .. => "ZAddXX" | zaddNX .. => "ZAddNX" | zaddLT .. => "ZAddLT" | zaddGT .. => "ZAddGT"
  | zrem .. => "ZRem" | zremRangeByRank .. => "ZRemRangeByRank" | zremRangeByScore .. => "ZRemRangeByScore"
  | renameNX .. => "RenameNX" | smove .. => "SMove" | lpopRpush .. => "LPopRPush" | rpopLpush .. => "RPopLPush"
  | sdiffStore .. => "SDiffStore" | sinterStore .. => "SInterStore" | sunionStore .. => "SUnionStore"
  | zincrBy .. => "ZIncrBy" | hincrByFloat .. => "HIncrByFloat"
  | zunionStore .. => "ZUnionStore" | zinterStore .. => "ZInterStore"

/-- the key arguments of the call (MSET: the alternating key/value list as passed, so values too) -/
def keys : Call → List Bytes
  | del ks => ks | unlink ks => ks
  | expire k _ => [k] | expirePX k _ => [k] | expireNX k _ => [k] | expireXX k _ => [k] | expireLT k _ => [k]
  | expireGT k _ => [k] | expireAt k _ => [k] | expireAtNX k _ => [k] | expireAtXX k _ => [k]
  | expireAtLT k _ => [k] | expireAtGT k _ => [k] | rename a b => [a, b] | persist k => [k]
  | clear => [] | hclear k => [k] | zclear k => [k]
  | set k .. => [k] | getSet k _ => [k] | setEX k .. => [k] | setPX k .. => [k] | setNX k .. => [k]
  | setXX k .. => [k] | incr k => [k] | incrBy k _ => [k] | decr k => [k] | decrBy k _ => [k]
  | incrByFloat k _ => [k] | setBit k .. => [k] | append k _ => [k] | setRange k .. => [k]
  | mset kvs => kvs
  | lpush k _ => [k] | rpush k _ => [k] | lpop k _ => [k] | rpop k _ => [k] | linsert k .. => [k]
  | lpushX k _ => [k] | rpushX k _ => [k] | lrem k .. => [k] | lset k .. => [k] | ltrim k .. => [k]
  | hset k .. => [k] | hdel k _ => [k] | hincrBy k .. => [k] | hsetNX k .. => [k] | hmset k _ => [k]
  | sadd k _ => [k] | srem k _ => [k] | spop k .. => [k]
  | zadd k .. => [k] | zaddXX k .. => [k] | zaddNX k .. => [k] | zaddLT k .. => [k] | zaddGT k .. => [k]
  | zrem k _ => [k] | zremRangeByRank k .. => [k] | zremRangeByScore k .. => [k]
  | renameNX a b => [a, b] | smove src dst _ => [src, dst] | lpopRpush a b => [a, b] | rpopLpush a b => [a, b]
  | sdiffStore dst ks => dst :: ks | sinterStore dst ks => dst :: ks | sunionStore dst ks => dst :: ks
  | zincrBy k .. => [k] | hincrByFloat k .. => [k]
  | zunionStore dst ks .. => dst :: ks | zinterStore dst ks .. => dst :: ks

/-- what `Feed.emission` reads of the byte-string arguments: all three of SMOVE, in call order (the one method for
    which it reads them; the driver passes every byte-string argument); the key arguments otherwise -/
def bs : Call → List Bytes
  | smove src dst m => [src, dst, m]
  | zunionStore .. => [] | zinterStore .. => []
  | c => c.keys

/-- operands, weights and aggregate of the sorted-set stores (`Feed.emission` puts them into the record) -/
def zkeys : Call → List Bytes
  | zunionStore _ ks .. => ks | zinterStore _ ks .. => ks | _ => []

def zweights : Call → List F64
  | zunionStore _ _ ws _ => ws | zinterStore _ _ ws _ => ws | _ => []

def zagg : Call → Bytes
  | zunionStore _ _ _ agg => agg | zinterStore _ _ _ agg => agg | _ => []

def info (c : Call) : Feed.CallInfo :=
  { method := c.method, bs := c.bs, keys := c.zkeys, weights := c.zweights, aggregate := c.zagg }

/-- argument side conditions: what Go's types guarantee (int64 deadlines of the EXPIREAT forms, HINCRBY's
    increment, lengths below 2^63; the other integer arguments need none) and what the command handlers check (no NaN score) -/
def WF : Call → Prop
  | expireAt _ ts => inInt64 ts = true | expireAtNX _ ts => inInt64 ts = true | expireAtXX _ ts => inInt64 ts = true
  | expireAtLT _ ts => inInt64 ts = true | expireAtGT _ ts => inInt64 ts = true
  | lpush _ vs => ∀ v ∈ vs, v.length < 2 ^ 63 | rpush _ vs => ∀ v ∈ vs, v.length < 2 ^ 63
  | linsert _ _ d _ => d.length < 2 ^ 63 | lpushX _ d => d.length < 2 ^ 63 | rpushX _ d => d.length < 2 ^ 63
  | lset _ _ d => d.length < 2 ^ 63
  | hset _ f v => f.length + v.length + 10 < 2 ^ 63 | hsetNX _ f v => f.length + v.length + 10 < 2 ^ 63
  | hincrBy _ f n => inInt64 n = true ∧ f.length + 40 < 2 ^ 63
  | hmset _ pairs => ∀ q ∈ pairs, q.1.length + q.2.length + 10 < 2 ^ 63
  | sadd _ ms => ∀ m ∈ ms, m.length < 2 ^ 63
  | zadd _ m sc => F64.isNaN sc = false ∧ m.length + 8 < 2 ^ 63
  | zaddXX _ m sc => F64.isNaN sc = false ∧ m.length + 8 < 2 ^ 63
  | zaddNX _ m sc => F64.isNaN sc = false ∧ m.length + 8 < 2 ^ 63
  | zaddLT _ m sc => F64.isNaN sc = false ∧ m.length + 8 < 2 ^ 63
  | zaddGT _ m sc => F64.isNaN sc = false ∧ m.length + 8 < 2 ^ 63
  | smove _ _ m => m.length < 2 ^ 63
  | zincrBy _ m _ => m.length + 8 < 2 ^ 63
  | hincrByFloat _ f _ => f.length + 1040 < 2 ^ 63     -- the new text is at most 1000 bytes (Proofs/FloatDecLen.lean)
  | _ => True

/-- finding regions: calls that create their key and then fail or have nothing to record; ZREM* on a key that holds
    an empty sorted set; a NaN score (ZINCRBY, Z*STORE)
    (`K` = the logical content of each name on the primary before the call) -/
def Region (K : Bytes → Option (Val × Int)) : Call → Prop
  | incr k => AddIntCreatesAndFails (K k) 1 false
  | incrBy k n => AddIntCreatesAndFails (K k) n false
  | decr k => AddIntCreatesAndFails (K k) 1 true
  | decrBy k n => AddIntCreatesAndFails (K k) n true
  | setRange k o v => SetRangeCreatesAndPanics (K k) o v
  | incrByFloat k d => IncrByFloatCreatesAndFails (K k) d
  | hmset k pairs => HMSetCreatesEmpty (K k) pairs
  | zrem k ms => ZRemOnEmpty (fun z => DsZSet.zRem z ms) (K k)
  | zremRangeByRank k a b => ZRemOnEmpty (fun z => DsZSet.zRemRangeByRank z a b) (K k)
  | zremRangeByScore k a b mode => ZRemOnEmpty (fun z => DsZSet.zRemRangeByScore z a b (mode % 4).toNat) (K k)
  | zincrBy k m d => ZIncrByNaN (K k) m d
  | hincrByFloat k _ d => HIncrByFloatCreatesAndFails (K k) d
  | zunionStore _ ks ws agg => ZStoreNaN K true ks ws agg
  | zinterStore _ ks ws agg => ZStoreNaN K false ks ws agg
  | _ => False

/- The `incrByFloat` and `hincrByFloat` cases of `Region` are empty (`call_region_incrByFloat`, `call_region_hincrByFloat`
   in Proofs/C20Seq.lean): `Api.formatFloat` is total and the text "0" that a fresh key is read as parses, so a
   call that creates its key does not fail afterwards. -/

end Call

variable {now : Int} {p r : MState}

/-- what is shown of every call: the replica replays it, the watcher stays attached, and the records handed over
    name arguments in `c.keys` (key arguments; for MSET the whole key/value list; CLEAR hands over one CLEAR record,
    which names no key) -/
def Covered (now : Int) (p r : MState) (c : Call) : Prop :=
  Replay now r c.info (c.run p now) ∧ (c.run p now).1.listeners = true ∧
    (c ≠ .clear → ∀ op ∈ Feed.emission c.info (c.run p now).2 (c.run p now).1.feed.reverse, op.key ∈ c.keys)

/-- the key is the first of `c.keys`, unless `hkey` is given; that `f.post` is no nil string is shown by the caller
    (`of_echo` takes `f.NilSafe`) -/
theorem Covered.of_echoN {c : Call} {f : TxForm} (hs : Same now p r) (hl : p.listeners = true) (hfd : p.feed = [])
    (hrun : c.run p now = f.run p now) (hf : f.OK)
    (hop : ∀ L, Live now L → (∀ e, L ≠ some (.strNil, e)) → L = lookup p now f.key →
      Echo now (Feed.emission c.info) f L ∧ ∀ e, f.post now L ≠ some (.strNil, e))
    (hkey : f.key ∈ c.keys := by exact .head _) : Covered now p r c := by
  have h := echo_main hs hl hfd c.info f hf hop
  rw [← hrun] at h
  exact ⟨h.1, h.2.1, fun _ op hop' => by rw [h.2.2 op hop']; exact hkey⟩

theorem Covered.of_echo {c : Call} {f : TxForm} (hs : Same now p r) (hl : p.listeners = true) (hfd : p.feed = [])
    (hrun : c.run p now = f.run p now) (hf : f.OK) (hns : f.NilSafe)
    (hop : ∀ L, Live now L → (∀ e, L ≠ some (.strNil, e)) → L = lookup p now f.key →
      Echo now (Feed.emission c.info) f L)
    (hkey : f.key ∈ c.keys := by exact .head _) : Covered now p r c :=
  .of_echoN hs hl hfd hrun hf (fun L a b d => ⟨hop L a b d, post_nonil hns now L b⟩) hkey

theorem Covered.of_self {c : Call} {f : TxForm} {op : FeedOp} (hs : Same now p r) (hl : p.listeners = true)
    (hfd : p.feed = []) (hc : plainMethod c.info.method = true) (hrun : c.run p now = f.run p now) (hf : f.OK)
    (hns : f.NilSafe) (h : SelfRec now f op) (hkey : f.key ∈ c.keys := by exact .head _) : Covered now p r c :=
  .of_echo hs hl hfd hrun hf hns (fun L _ _ _ => h.echo hf (emission_plain hc) L) hkey

/-- the key fact stated over the records handed over -/
theorem Covered.of_keyD {c : Call} {k : Bytes}
    (h : Replay now r c.info (c.run p now) ∧ (c.run p now).1.listeners = true ∧
      ∀ op ∈ Feed.emission c.info (c.run p now).2 (c.run p now).1.feed.reverse, op.key = k)
    (hkey : k ∈ c.keys := by exact .head _) : Covered now p r c :=
  ⟨h.1, h.2.1, fun _ op hop => by rw [h.2.2 op hop]; exact hkey⟩

/-- the key fact stated over the raw feed, for a plain method -/
theorem Covered.of_key {c : Call} {k : Bytes} (hc : plainMethod c.info.method = true)
    (h : Replay now r c.info (c.run p now) ∧ (c.run p now).1.listeners = true ∧
      ∀ op ∈ (c.run p now).1.feed.reverse, op.key = k) (hkey : k ∈ c.keys := by exact .head _) : Covered now p r c :=
  .of_keyD ⟨h.1, h.2.1, by rw [emission_plain hc]; exact h.2.2⟩ hkey

theorem Covered.of_follows {c : Call} (hc : plainMethod c.info.method = true) (hfd : p.feed = [])
    (h : Follows now p r (c.run p now).1 (·.key ∈ c.keys)) : Covered now p r c := by
  obtain ⟨a, b, d⟩ := h.drained hfd
  unfold Covered Replay
  rw [emission_plain hc]
  exact ⟨a, b, fun _ => d⟩

/-- DEL and what runs as DEL (UNLINK, HCLEAR, ZCLEAR, EXPIRE with duration zero) -/
theorem del_covered (hs : Same now p r) (hl : p.listeners = true) (hfd : p.feed = []) {c : Call} {ks : List Bytes}
    (hc : plainMethod c.info.method = true) (hrun : (c.run p now).1 = (Api.del p now ks).1) (hkeys : c.keys = ks) :
    Covered now p r c := by
  refine .of_follows hc hfd ?_
  rw [hrun, del_eq, hkeys]
  exact del_fold ks p r 0 hs hl

theorem expire_covered (hs : Same now p r) (hl : p.listeners = true) (hfd : p.feed = []) {c : Call}
    {nov : MState → Api.R} {k : Bytes} {ts : Int} {cond : Int → Bool} (hc : plainMethod c.info.method = true)
    (hrun : c.run p now = (expF nov k ts cond).run p now) (hts : inInt64 ts = true)
    (hkey : k ∈ c.keys := by exact .head _) : Covered now p r c :=
  .of_echo hs hl hfd hrun (expF_ok nov k ts cond hts) (expF_nilSafe nov k ts cond)
    (fun L _ _ _ => expF_echo (emission_plain hc) nov k ts cond hts L) hkey

theorem zaddIf_covered (hs : Same now p r) (hl : p.listeners = true) (hfd : p.feed = []) {c : Call}
    {cond : ZSet → Bool} {out : ZSet → Out} {no : Out} {k m : Bytes} {sc : F64} (hc : plainMethod c.info.method = true)
    (hrun : c.run p now = (zaddIfF cond out no k m sc).run p now) (hn : F64.isNaN sc = false ∧ m.length + 8 < 2 ^ 63)
    (hkey : k ∈ c.keys := by exact .head _) : Covered now p r c :=
  .of_echo hs hl hfd hrun (zaddIfF_ok cond out no k m sc hn.1 hn.2) (zaddIfF_nilSafe cond out no k m sc)
    (fun L _ _ _ => zaddIf_echo (emission_plain hc) cond out no k m sc hn.1 hn.2 L) hkey

theorem addInt_covered (hs : Same now p r) (hl : p.listeners = true) (hfd : p.feed = []) {c : Call} {k : Bytes} {d : Int}
    {neg sw : Bool} (hc : Feed.keepTTLMethods.contains c.info.method = true)
    (hrun : c.run p now = Api.addInt p now k d neg sw) (hreg : ¬ AddIntCreatesAndFails (lookup p now k) d neg)
    (hkey : k ∈ c.keys := by exact .head _) : Covered now p r c :=
  .of_echoN (f := (Cmd.incrBy k d neg).form now) hs hl hfd (hrun.trans (addInt_eq p now k d neg sw))
    (Cmd.ok (.incrBy k d neg) now trivial)
    (fun L a b hL => addInt_echo c.info hc k d neg L a b (by subst hL; exact hreg)) hkey

/-! `Feed.emission` dispatches on the method name; the per-method lemmas ask for the class of the name.  Comparing
  strings is slow outside the kernel, so the table is evaluated once, there. -/

/-- the calls whose SET records `Feed.emission` marks KeepTTL -/
def Call.keepsTTL : Call → Bool
  | .incr .. | .incrBy .. | .decr .. | .decrBy .. | .incrByFloat .. | .setBit .. | .append .. | .setRange .. => true
  | _ => false

/-- the calls whose records `Feed.emission` hands over unchanged -/
def Call.plain : Call → Bool
  | .smove .. | .zaddNX .. | .hincrBy .. | .hincrByFloat .. | .clear | .zunionStore .. | .zinterStore .. => false
  | c => !c.keepsTTL

theorem Call.keepsTTL_method (c : Call) (h : c.keepsTTL = true) : Feed.keepTTLMethods.contains c.info.method = true := by
  cases c with
  | incr | incrBy | decr | decrBy | incrByFloat | setBit | append | setRange =>
    dsimp only [Call.info, Call.method]
    decide +kernel
  | _ => cases h

theorem Call.plain_method (c : Call) (h : c.plain = true) : plainMethod c.info.method = true := by
  cases c with
  | incr | incrBy | decr | decrBy | incrByFloat | setBit | append | setRange | smove | zaddNX | hincrBy | hincrByFloat
  | clear | zunionStore | zinterStore => cases h
  | _ =>
    dsimp only [Call.info, Call.method]
    decide +kernel

theorem call_covered (c : Call) (hwf : c.WF) (hs : Same now p r) (hl : p.listeners = true) (hfd : p.feed = [])
    (hreg : ¬ c.Region (lookup p now)) : Covered now p r c := by
  have echo := fun {f : TxForm} => @Covered.of_echo now p r c f hs hl hfd
  have echoN := fun {f : TxForm} => @Covered.of_echoN now p r c f hs hl hfd
  have self := fun {f : TxForm} {op : FeedOp} => @Covered.of_self now p r c f op hs hl hfd
  have key := @Covered.of_key now p r c
  have del := @del_covered now p r hs hl hfd c
  have exp := @expire_covered now p r hs hl hfd c
  have zif := @zaddIf_covered now p r hs hl hfd c
  have add := @addInt_covered now p r hs hl hfd c
  have plain := c.plain_method
  have keeps := c.keepsTTL_method
  cases c with
  | del ks => exact del (plain rfl) rfl rfl
  | unlink ks => exact del (plain rfl) rfl rfl
  | hclear k => exact del (ks := [k]) (plain rfl) rfl rfl
  | zclear k => exact del (ks := [k]) (plain rfl) rfl rfl
  | expire k n =>
    by_cases h0 : n = 0
    · refine del (ks := [k]) (plain rfl) ?_ rfl
      show (Api.expire p now k n).1 = _
      unfold Api.expire
      rw [if_pos h0]
    -- the constant condition is given: the unifier does not read it off `decExpire k ts fun _ => true`
    · exact exp (cond := fun _ => true) (plain rfl) (expire_eq p now k n h0) (inInt64_wrap64 _)
  | expirePX k n =>
    by_cases h0 : n = 0
    · refine del (ks := [k]) (plain rfl) ?_ rfl
      show (Api.expirePX p now k n).1 = _
      unfold Api.expirePX
      rw [if_pos h0]
    · exact exp (cond := fun _ => true) (plain rfl) (expirePX_eq p now k n h0) (inInt64_wrap64 _)
  | expireNX k n => exact exp (plain rfl) (expireNX_eq p now k n) (inInt64_wrap64 _)
  | expireXX k n => exact exp (plain rfl) (expireXX_eq p now k n) (inInt64_wrap64 _)
  | expireLT k n => exact exp (plain rfl) (expireLT_eq p now k n) (inInt64_wrap64 _)
  | expireGT k n => exact exp (plain rfl) (expireGT_eq p now k n) (inInt64_wrap64 _)
  | expireAt k ts => exact exp (cond := fun _ => true) (plain rfl) (expireAt_eq p now k ts) hwf
  | expireAtNX k ts => exact exp (plain rfl) (expireAtNX_eq p now k ts) hwf
  | expireAtXX k ts => exact exp (plain rfl) (expireAtXX_eq p now k ts) hwf
  | expireAtLT k ts => exact exp (plain rfl) (expireAtLT_eq p now k ts) hwf
  | expireAtGT k ts => exact exp (plain rfl) (expireAtGT_eq p now k ts) hwf
  | rename a b => exact key (plain rfl) (rename_main hs hl hfd _ (plain rfl) a b)
  | persist k =>
    exact echo (f := persistF now k) (apiPersist_eq p now k) (persistF_ok now k) (Cmd.nilSafe (.persist k) now trivial)
      fun L _ _ _ => persistF_echo (emission_plain (plain rfl)) k L
  | clear => exact ⟨clear_replay hs hfd _ rfl, hl, fun h => absurd rfl h⟩
  | set k v keep =>
    exact echoN (f := setF now k v keep) (set_eq p now k v keep) (setF_ok now k v keep)
      fun L a b _ => set_echo _ (plain rfl) k v keep L a b
  | getSet k v => exact .of_keyD (getSet_main hs hl hfd _ (plain rfl) k v)
  | setEX k v n =>
    exact echoN (f := setExForm k v _) (setEX_eq p now k v n) (setExForm_ok k v _ (inInt64_wrap64 _))
      fun L a b _ => setEx_echo _ (plain rfl) k v _ (inInt64_wrap64 _) L a b
  | setPX k v n =>
    exact echoN (f := setExForm k v _) (setPX_eq p now k v n) (setExForm_ok k v _ (inInt64_wrap64 _))
      fun L a b _ => setEx_echo _ (plain rfl) k v _ (inInt64_wrap64 _) L a b
  | setNX k v keep => exact key (plain rfl) (setNX_main hs hl hfd _ (plain rfl) k v keep)
  | setXX k v keep =>
    exact echoN (f := (Cmd.setXX k v keep).form now) (setXX_eq p now k v keep) (Cmd.ok (.setXX k v keep) now trivial)
      fun L a b _ => setXX_echo _ (plain rfl) k v keep L a b
  | incr k => exact add (sw := false) (keeps rfl) rfl hreg
  | incrBy k n => exact add (sw := true) (keeps rfl) rfl hreg
  | decr k => exact add (sw := false) (keeps rfl) rfl hreg
  | decrBy k n => exact add (sw := false) (keeps rfl) rfl hreg
  | incrByFloat k d =>
    exact echoN (f := incrByFloatF k d) (incrByFloat_eq p now k d) (incrByFloatF_ok k d)
      fun L a b hL => incrByFloat_echo _ (keeps rfl) k d L a b (by subst hL; exact hreg)
  | setBit k o b =>
    exact echoN (f := setBitF k o b) (setBit_eq p now k o b) (setBitF_ok k o b) fun L a b' _ => setBit_echo _ (keeps rfl) k o b L a b'
  | append k v =>
    exact echoN (f := (Cmd.append k v).form now) (append_eq p now k v) (Cmd.ok (.append k v) now trivial)
      fun L a b _ => append_echo _ (keeps rfl) k v L a b
  | setRange k o v =>
    exact echoN (f := setRangeF k o v) (setRange_eq p now k o v) (setRangeF_ok k o v)
      fun L a b hL => setRange_echo _ (keeps rfl) k o v L a b (by subst hL; exact hreg)
  | mset kvs => exact .of_follows (plain rfl) hfd (mset_follows hs hl kvs)
  | lpush k vs =>
    exact self (f := pushF now true k vs) (plain rfl) (push_eq true p now k vs) (Cmd.ok (.push true k vs) now hwf)
      (Cmd.nilSafe (.push true k vs) now trivial) (pushF_self true k vs)
  | rpush k vs =>
    exact self (f := pushF now false k vs) (plain rfl) (push_eq false p now k vs) (Cmd.ok (.push false k vs) now hwf)
      (Cmd.nilSafe (.push false k vs) now trivial) (pushF_self false k vs)
  | lpop k n =>
    exact self (f := popF' now true k n) (plain rfl) (pop_eq true p now k n) (Cmd.ok (.pop true k n) now trivial)
      (Cmd.nilSafe (.pop true k n) now trivial) (popF_self true k n)
  | rpop k n =>
    exact self (f := popF' now false k n) (plain rfl) (pop_eq false p now k n) (Cmd.ok (.pop false k n) now trivial)
      (Cmd.nilSafe (.pop false k n) now trivial) (popF_self false k n)
  | linsert k pv d before =>
    exact self (plain rfl) (linsert_eq p now k pv d before) (linsertF_ok k pv d before hwf)
      (linsertF_nilSafe k pv d before) (linsertF_self k pv d before)
  | lpushX k d =>
    exact self (plain rfl) (pushX_eq true p now k d) (pushXF_ok true k d hwf) (pushXF_nilSafe true k d)
      (pushXF_self true k d)
  | rpushX k d =>
    exact self (plain rfl) (pushX_eq false p now k d) (pushXF_ok false k d hwf) (pushXF_nilSafe false k d)
      (pushXF_self false k d)
  | lrem k d n =>
    exact self (f := lremF' k d n) (plain rfl) (lrem_eq p now k d n) (lremF'_ok k d n) (listMut_nilSafe _ _ _ _)
      (lremF_self k d n)
  | lset k i d =>
    exact self (plain rfl) (lset_eq p now k i d) (lsetF_ok k i d hwf) (lsetF_nilSafe k i d) (lsetF_self k i d)
  | ltrim k a b =>
    exact self (f := ltrimF' k a b) (plain rfl) (ltrim_eq p now k a b) (ltrimF'_ok k a b) (listMut_nilSafe _ _ _ _)
      (ltrimF_self k a b)
  | hset k f v =>
    exact self (f := hsetF now k f v) (plain rfl) (hset_eq p now k f v) (Cmd.ok (.hset k f v) now hwf)
      (Cmd.nilSafe (.hset k f v) now trivial) (hsetF_self k f v)
  | hdel k fs =>
    exact self (f := hdelF now k fs) (plain rfl) (hdel_eq p now k fs) (Cmd.ok (.hdel k fs) now trivial)
      (Cmd.nilSafe (.hdel k fs) now trivial) (hdelF_self k fs)
  | hincrBy k f n =>
    exact echo (hincrby_eq p now k f n) (hincrbyF_ok k f n hwf.1 hwf.2) (hincrbyF_nilSafe k f n)
      fun L a _ _ => hincrby_echo _ rfl k f n hwf.1 hwf.2 L a
  | hsetNX k f v =>
    exact echo (hsetnx_eq p now k f v) (hsetnxForm_ok k f v hwf) (hsetnxForm_nilSafe k f v)
      fun L _ _ _ => hsetnx_echo (emission_plain (plain rfl)) k f v hwf L
  | hmset k pairs =>
    exact echo (hmset_eq p now k pairs) (hmsetF_ok k pairs hwf) (hmsetF_nilSafe k pairs)
      fun L a _ hL => hmset_echo (emission_plain (plain rfl)) k pairs hwf L a (by subst hL; exact hreg)
  | sadd k ms =>
    exact self (f := saddF now k ms) (plain rfl) (sadd_eq p now k ms) (Cmd.ok (.sadd k ms) now hwf)
      (Cmd.nilSafe (.sadd k ms) now trivial) (saddF_self k ms)
  | srem k ms =>
    exact self (f := sremF now k ms) (plain rfl) (srem_eq p now k ms) (Cmd.ok (.srem k ms) now trivial)
      (Cmd.nilSafe (.srem k ms) now trivial) (sremF_self k ms)
  | spop k n choice =>
    exact echo (spop_eq p now k n choice) (spopF_ok k n choice) (spopF_nilSafe k n choice)
      fun L _ _ _ => spop_echo (emission_plain (plain rfl)) k n choice L
  | zadd k m sc =>
    exact self (f := zaddF now k m sc) (plain rfl) (zadd_eq p now k m sc) (Cmd.ok (.zadd k m sc) now hwf)
      (Cmd.nilSafe (.zadd k m sc) now trivial) (zaddF_self k m sc)
  | zaddXX k m sc => exact zif (plain rfl) (zaddXX_eq p now k m sc) hwf
  | zaddNX k m sc =>
    exact echo (zaddNX_eq p now k m sc) (zaddNXForm_ok k m sc hwf.1 hwf.2) (zaddNXForm_nilSafe k m sc)
      fun L a _ _ => zaddNX_echo _ rfl k m sc hwf.1 hwf.2 L a
  | zaddLT k m sc => exact zif (plain rfl) (zaddCmp_eq DsZSet.zAddLT zAddLT_fst p now k m sc) hwf
  | zaddGT k m sc => exact zif (plain rfl) (zaddCmp_eq DsZSet.zAddGT zAddGT_fst p now k m sc) hwf
  | zrem k ms => exact key (plain rfl) (zrem_main hs hl hfd _ (plain rfl) k ms hreg)
  | zremRangeByRank k a b => exact key (plain rfl) (zremRangeByRank_main hs hl hfd _ (plain rfl) k a b hreg)
  | zremRangeByScore k a b mode =>
    exact key (plain rfl) (zremRangeByScore_main hs hl hfd _ (plain rfl) k a b mode hreg)
  | renameNX a b => exact key (plain rfl) (renameNX_main hs hl hfd _ (plain rfl) a b)
  | smove src dst m =>
    have h := smove_main hs hl hfd (Call.smove src dst m).info rfl src dst m rfl hwf
    exact ⟨h.1, h.2.1, fun _ => h.2.2⟩
  | lpopRpush a b => exact key (plain rfl) (rotate_main true hs hl hfd _ (plain rfl) a b)
  | rpopLpush a b => exact key (plain rfl) (rotate_main false hs hl hfd _ (plain rfl) a b)
  | sdiffStore dst ks => exact key (plain rfl) (sstore_main Api.sdiff sdiff_reader hs hl hfd _ (plain rfl) dst ks)
  | sinterStore dst ks => exact key (plain rfl) (sstore_main Api.sinter sinter_reader hs hl hfd _ (plain rfl) dst ks)
  | sunionStore dst ks => exact key (plain rfl) (sstore_main Api.sunion sunion_reader hs hl hfd _ (plain rfl) dst ks)
  | zincrBy k m d => exact key (plain rfl) (zincrby_main hs hl hfd _ (plain rfl) k m d hwf hreg)
  | hincrByFloat k f d =>
    exact echo (hincrbyfloat_eq p now k f d) (hibfF_ok k f d hwf) (hibfF_nilSafe k f d)
      fun L a _ hL => hincrbyfloat_echo _ rfl k f d hwf L a (by subst hL; exact hreg)
  | zunionStore dst ks ws agg =>
    have h := zstore_main true hs hl hfd (Call.zunionStore dst ks ws agg).info (Or.inl rfl) dst ks ws agg rfl rfl rfl hreg
    exact .of_keyD ⟨h.1, h.2.1, emission_keys (P := (· = dst)) (by dsimp only [Call.info, Call.method]; decide +kernel)
      (by dsimp only [Call.info, Call.method]; decide +kernel) h.2.2 _⟩
  | zinterStore dst ks ws agg =>
    have h := zstore_main false hs hl hfd (Call.zinterStore dst ks ws agg).info (Or.inr rfl) dst ks ws agg rfl rfl rfl hreg
    exact .of_keyD ⟨h.1, h.2.1, emission_keys (P := (· = dst)) (by dsimp only [Call.info, Call.method]; decide +kernel)
      (by dsimp only [Call.info, Call.method]; decide +kernel) h.2.2 _⟩

theorem call_main (c : Call) (hwf : c.WF) (hs : Same now p r) (hl : p.listeners = true) (hfd : p.feed = [])
    (hreg : ¬ c.Region (lookup p now)) :
    Replay now r c.info (c.run p now) ∧ (c.run p now).1.listeners = true :=
  ⟨(call_covered c hwf hs hl hfd hreg).1, (call_covered c hwf hs hl hfd hreg).2.1⟩

theorem call_keys (c : Call) (hwf : c.WF) (hs : Same now p r) (hl : p.listeners = true) (hfd : p.feed = [])
    (hreg : ¬ c.Region (lookup p now)) (hc : c ≠ .clear) :
    ∀ op ∈ Feed.emission c.info (c.run p now).2 (c.run p now).1.feed.reverse, op.key ∈ c.keys :=
  (call_covered c hwf hs hl hfd hreg).2.2 hc

end NodisVerif.Proofs.C20

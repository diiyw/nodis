import NodisVerif.Proofs.C11Prim
import NodisVerif.Proofs.C19Scan
import NodisVerif.Proofs.StorePass
/-
  C11 / C12: concrete states.  `setState`: SCAN with TYPE finds a key before and after a close / open.  `expState`: the
  SCAN-cursor finding (a pass between two calls unlinks an expired record and the cursor skips a live key).
  `staleRec` / `staleState`: a record re-written under a changed deadline whose write the backend rejects (the witness
  of `failed_persist_keeps_old_entry`, Props/C12.lean).
-/
namespace NodisVerif.Proofs.C11
open NodisVerif.Store NodisVerif.Codec NodisVerif.Spec.Persist

/-- Pebble store after `SET k v` -/
def setState : MState :=
  { pebble := true, nextId := 3, signalled := [[107]],
    index := [([107], { exp := 0, value := some (.str [118]), state := 3, kid := 1, oid := 2, vtype := 1 })] }

theorem setState_reached : (Api.set (empty true) 0 [107] [118] false).1 = setState := rfl

/-- `SCAN 0 MATCH * COUNT 10 TYPE string` finds the key ... -/
theorem setState_scan : (Api.scan setState 0 0 [42] 10 1).2 = .many [.int 0, .slist [[107]]] := rfl

/-- ... and also after a close/open: the record comes back without a cached type, SCAN loads it -/
theorem setState_scan_reopen :
    (Api.scan (reopen (close setState 0)) 0 0 [42] 10 1).2 = .many [.int 0, .slist [[107]]] := by
  rw [C19Scan.scan_out]
  have hg : C19Scan.scanPure (C19Scan.view (reopen (close setState 0)) 1) 0 0 [42] 10 1 = (0, [[107]]) := by
    decide +kernel
  rw [hg]

theorem setState_inv (t : Int) : StoreInv setState t := by
  have hidx : ∀ k m, AList.get? setState.index k = some m →
      k = [107] ∧ m = { exp := 0, value := some (.str [118]), state := 3, kid := 1, oid := 2, vtype := 1 } := by
    intro k m hm
    simp only [setState, AList.get?] at hm
    split at hm
    · rename_i h; exact ⟨h.symm, by simpa using hm.symm⟩
    · cases hm
  refine ⟨trivial, trivial, ?_, (by intro dk e he; cases he), (by intro hp; cases hp), by simp [setState]⟩
  intro k m hm
  obtain ⟨rfl, rfl⟩ := hidx k m hm
  exact RecInv.hot (v := .str [118]) rfl (by decide) (by decide) ⟨trivial, trivial⟩
    (by intro e he; cases he) (Or.inl (by decide))

/-- in-memory store: "a" expired at 5 but not yet collected, "b" live; time is 10 -/
def expState : MState :=
  { pebble := false, nextId := 10,
    index := [([97], { exp := 5, value := some (.str [1]), state := 3, kid := 1, oid := 2, vtype := 1 }),
              ([98], { exp := 0, value := some (.str [2]), state := 3, kid := 3, oid := 4, vtype := 1 })] }

theorem expState_inv : StoreInv expState 10 := by
  have hidx : ∀ k m, AList.get? expState.index k = some m →
      (k = [97] ∧ m = { exp := 5, value := some (.str [1]), state := 3, kid := 1, oid := 2, vtype := 1 }) ∨
      (k = [98] ∧ m = { exp := 0, value := some (.str [2]), state := 3, kid := 3, oid := 4, vtype := 1 }) := by
    intro k m hm
    simp only [expState, AList.get?] at hm
    split at hm
    · left; rename_i h; exact ⟨h.symm, by simpa using hm.symm⟩
    · split at hm
      · right; rename_i h; exact ⟨h.symm, by simpa using hm.symm⟩
      · cases hm
  refine ⟨by simp [expState, AList.Sorted, Bytes.lt], trivial, ?_, (by intro dk e he; cases he), ?_,
    by simp [expState]⟩
  · intro k m hm
    rcases hidx k m hm with ⟨rfl, rfl⟩ | ⟨rfl, rfl⟩
    · exact RecInv.hot (v := .str [1]) rfl (by decide) (by decide) ⟨trivial, trivial⟩
        (by intro e he; cases he) (Or.inl (by decide))
    · exact RecInv.hot (v := .str [2]) rfl (by decide) (by decide) ⟨trivial, trivial⟩
        (by intro e he; cases he) (Or.inl (by decide))
  · intro _
    refine ⟨?_, ?_, (by intro dk e he; cases he), (by intro dk e k m he; cases he),
      (by intro dk e _ _ he; cases he)⟩
    · intro k m hm
      rcases hidx k m hm with ⟨rfl, rfl⟩ | ⟨rfl, rfl⟩ <;> simp [expState]
    · intro k1 m1 k2 m2 h1 h2 ho
      rcases hidx k1 m1 h1 with ⟨rfl, rfl⟩ | ⟨rfl, rfl⟩ <;>
        rcases hidx k2 m2 h2 with ⟨rfl, rfl⟩ | ⟨rfl, rfl⟩ <;> simp at ho ⊢

/-- `SCAN 0 COUNT 1` visits the expired record only and hands out cursor 2 ... -/
theorem expState_scan_first : (Api.scan expState 10 0 [42] 1 0).2 = .many [.int 2, .slist []] := rfl

/-- ... `SCAN 2` then reports the live key "b" ... -/
theorem expState_scan : (Api.scan expState 10 2 [42] 10 0).2 = .many [.int 0, .slist [[98]]] := rfl

/-- ... but not if a pass has unlinked the expired record in between: position 2 is past the end -/
theorem expState_scan_gc : (Api.scan (gc expState 10) 10 2 [42] 10 0).2 = .many [.int 0, .slist []] := rfl

/-- a hot modified record whose value was last written under deadline 5 and whose deadline is 9 now -/
def staleRec : Meta :=
  { exp := 9, value := some (.str [1]), state := 3, kid := 1, oid := 2, vtype := 1, stored := some 5 }

/-- a Pebble store holding that record and its backend entry; the backend rejects the next write -/
def staleState : MState :=
  { pebble := true, nextId := 3, failSet := 1, index := [([107], staleRec)],
    disk := [(encodeKey [107] 5, { name := [107], exp := 5, val := .str [0] })] }

theorem staleState_persist_fails : (persist staleState [107] staleRec).2.2 = false := by
  rw [persist_fail _ _ _ (by decide)]

theorem staleState_entry : (diskGet staleState [107] 5).isSome = true := by
  simp [diskGet, staleState, AList.get?]

end NodisVerif.Proofs.C11

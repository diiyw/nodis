import NodisVerif.Model.BlockProg
import NodisVerif.Proofs.BlockStep
/-
  The simulation relation between the program model of the blocking pops (`Model/BlockProg.lean`) and the wake-up
  protocol (`Model/Block.lean`), and the frame lemma: a step of thread t re-establishes the relation of every other
  thread as soon as it leaves that thread's channel, protocol state, registry entries and lock ownership alone.
-/
namespace NodisVerif.Proofs.BlockProg
open NodisVerif.Block NodisVerif.BlockProg NodisVerif.Proofs.Block

@[simp] theorem upd_self {α β : Type} [DecidableEq α] (f : α → β) (a : α) (b : β) : upd f a b a = b := by
  simp [upd]

@[simp] theorem upd_ne {α β : Type} [DecidableEq α] (f : α → β) {a x : α} (b : β) (h : x ≠ a) :
    upd f a b x = f x := by
  simp [upd, h]

theorem upd_apply {α β : Type} [DecidableEq α] (f : α → β) (a x : α) (b : β) :
    upd f a b x = if x = a then b else f x := rfl

def holdsW : Pc → Bool
  | .r2 | .r3 | .u2 | .u3 => true
  | _ => false
def holdsR : Pc → Bool
  | .p3 | .p4 | .p5 | .p6 => true
  | _ => false

/-- the keys whose cList contains the thread's channel (with multiplicity), by pc -/
def regKeys (l : Loc) : List Key :=
  match l.pc with
  | .r2 => l.keys.take l.i
  | .r3 | .l0 | .l1 | .l2 | .w0 | .w1 | .u1 => l.keys
  | .u2 => l.keys.drop l.i
  | _ => []

def isPop : Pc → Bool
  | .r1 | .r2 | .r3 | .l0 | .l1 | .l2 | .w0 | .w1 | .u1 | .u2 | .u3 => true
  | _ => false

/-- the pcs between the end of the registration and the start of the unregistration -/
def isBody : Pc → Bool
  | .r3 | .l0 | .l1 | .l2 | .w0 | .w1 | .u1 => true
  | _ => false

/-- between registration and unregistration: the waiter exists in the protocol with all its keys -/
def Body (fl : Bool) (l : Loc) (o : Option WSt) (P : WSt → Prop) : Prop :=
  l.keys ≠ [] ∧ ∃ st, o = some st ∧ st.keys = l.keys ∧ st.reg = l.keys ∧ st.buf = fl ∧ P st

/-- the protocol state of a thread, by pc (`fl` = its channel is full) -/
def PRel (fl : Bool) (l : Loc) (o : Option WSt) : Prop :=
  match l.pc with
  | .idle | .p1 | .p2 | .p3 | .p4 | .p5 | .p6 | .p7 => o = none
  | .r1 => o = none ∧ fl = false ∧ l.keys ≠ []
  | .r2 => l.i < l.keys.length ∧ (l.i = 0 → o = none ∧ fl = false) ∧
      (0 < l.i → ∃ st, o = some st ∧ st.keys = l.keys.take l.i ∧ st.reg = l.keys.take l.i ∧ st.buf = fl ∧
        st.phase = .registering)
  | .r3 => Body fl l o (fun st => st.phase = .registering)
  | .l0 => Body fl l o (fun st => pos st.phase = some 0)
  | .l1 => l.i < l.keys.length ∧ Body fl l o (fun st => pos st.phase = some l.i)
  | .l2 => Body fl l o (fun st => if l.found || l.panicking then Returned st.phase else st.phase = .scan l.keys.length)
  | .w0 => 0 ≤ l.tmo ∧ Body fl l o (fun st => st.phase = .scan l.keys.length)
  | .w1 => Body fl l o (fun st => st.phase = .blocked ∧ st.timed = decide (l.tmo > 0))
  | .u1 => Body fl l o (fun st => Returned st.phase)
  | .u2 => l.i < l.keys.length ∧ ∃ st, o = some st ∧ Returned st.phase ∧ ∀ k ∈ st.reg, k ∈ l.keys.drop l.i
  | .u3 => ∃ st, o = some st ∧ st.reg = []

def LRel (s : Shared) (t : Tid) (l : Loc) : Prop :=
  (s.bmu.writer = some t ↔ holdsW l.pc = true) ∧ (t ∈ s.bmu.readers ↔ holdsR l.pc = true)

def CRel (s : Shared) (t : Tid) (l : Loc) : Prop := ∀ k, (s.regOf k).count t = (regKeys l).count k

/-- the rest of a push's ForRange is part of the key's cList -/
def TodoRel (s : Shared) (l : Loc) : Prop := l.pc = .p4 → ∀ c ∈ l.todo, c ∈ s.regOf l.key

/-- at the pcs between registration and unregistration `PRel` is `Body`, and all it says of the channel is that it is `buf` -/
theorem prel_body {fl : Bool} {l : Loc} {o : Option WSt} (hb : isBody l.pc = true) (hP : PRel fl l o) :
    l.keys ≠ [] ∧ ∃ st, o = some st ∧ st.keys = l.keys ∧ st.reg = l.keys ∧ st.buf = fl ∧
      ∀ st' : WSt, st'.keys = st.keys → st'.reg = st.reg → st'.phase = st.phase → st'.timed = st.timed →
        PRel st'.buf l (some st') := by
  obtain ⟨pc, keys, tmo, i, found, panicking, key, n, todo⟩ := l
  cases pc
  case l1 | w0 =>
    obtain ⟨h0, hne, st, hs, hk1, hk2, hbf, hph⟩ := hP
    exact ⟨hne, st, hs, hk1, hk2, hbf, fun st' e1 e2 e3 _ =>
      ⟨h0, hne, st', rfl, e1.trans hk1, e2.trans hk2, rfl, by simp only [e3]; exact hph⟩⟩
  case r3 | l0 | l2 | w1 | u1 =>
    obtain ⟨hne, st, hs, hk1, hk2, hbf, hph⟩ := hP
    exact ⟨hne, st, hs, hk1, hk2, hbf, fun st' e1 e2 e3 e4 =>
      ⟨hne, st', rfl, e1.trans hk1, e2.trans hk2, rfl, by simp only [e3, e4]; exact hph⟩⟩
  all_goals cases hb

theorem regKeys_body {l : Loc} (hb : isBody l.pc = true) : regKeys l = l.keys := by
  obtain ⟨pc, keys, tmo, i, found, panicking, key, n, todo⟩ := l
  cases pc
  all_goals first | rfl | cases hb

theorem regKeys_nil {l : Loc} (h : isPop l.pc = false ∨ l.pc = .r1 ∨ l.pc = .u3) : regKeys l = [] := by
  obtain ⟨pc, keys, tmo, i, found, panicking, key, n, todo⟩ := l
  cases pc
  all_goals first | rfl | simp [isPop] at h

theorem isBody_of_regKeys {l : Loc} {k : Key} (hk : k ∈ regKeys l) (hW : holdsW l.pc = false) :
    isBody l.pc = true ∧ k ∈ l.keys := by
  obtain ⟨pc, keys, tmo, i, found, panicking, key, n, todo⟩ := l
  cases pc
  all_goals first | exact ⟨rfl, hk⟩ | exact Bool.noConfusion hW | cases hk

structure Inv (σ : Sys) (bs : BState) : Prop where
  prel : ∀ t, PRel (σ.sh.full t) (σ.thr t) (get bs t)
  lrel : ∀ t, LRel σ.sh t (σ.thr t)
  crel : ∀ t, CRel σ.sh t (σ.thr t)
  todo : ∀ t, TodoRel σ.sh (σ.thr t)
  excl : σ.sh.bmu.writer ≠ none → σ.sh.bmu.readers = []

theorem Inv.registered {σ : Sys} {bs : BState} (hI : Inv σ bs) {t : Tid} (hb : isBody (σ.thr t).pc = true) {k : Key}
    (hk : k ∈ (σ.thr t).keys) : t ∈ σ.sh.regOf k :=
  List.count_pos_iff.1 (by rw [hI.crel t k, regKeys_body hb]; exact List.count_pos_iff.2 hk)

theorem inv_init : Inv {} [] := by
  refine ⟨fun t => ?_, fun t => ?_, fun t k => ?_, fun t h => ?_, fun _ => rfl⟩
  · simp [PRel, get_nil]
  · simp [LRel, holdsW, holdsR]
  · simp [Shared.regOf, regKeys]
  · simp at h

theorem frame {σ : Sys} {bs bs' : BState} {t : Tid} {s' : Shared} {l' : Loc} (hI : Inv σ bs)
    (hPo : ∀ t', t' ≠ t → PRel (s'.full t') (σ.thr t') (get bs' t'))
    (hcnt : ∀ t', t' ≠ t → ∀ k, (s'.regOf k).count t' = (σ.sh.regOf k).count t')
    (hw : ∀ t', t' ≠ t → (s'.bmu.writer = some t' ↔ σ.sh.bmu.writer = some t'))
    (hr : ∀ t', t' ≠ t → (t' ∈ s'.bmu.readers ↔ t' ∈ σ.sh.bmu.readers))
    (hmem : (∀ k c, c ∈ σ.sh.regOf k → c ∈ s'.regOf k) ∨ σ.sh.bmu.writer = some t)
    (hP : PRel (s'.full t) l' (get bs' t)) (hL : LRel s' t l') (hC : CRel s' t l') (hT : TodoRel s' l')
    (hG : s'.bmu.writer ≠ none → s'.bmu.readers = []) :
    Inv ⟨s', upd σ.thr t l'⟩ bs' := by
  refine ⟨fun t' => ?_, fun t' => ?_, fun t' => ?_, fun t' => ?_, hG⟩
  · by_cases h : t' = t
    · subst h; simpa using hP
    · simpa [upd_ne _ _ h] using hPo t' h
  · by_cases h : t' = t
    · subst h; simpa using hL
    · have := hI.lrel t'
      simp only [upd_ne _ _ h, LRel, hw t' h, hr t' h]; exact this
  · by_cases h : t' = t
    · subst h; simpa using hC
    · intro k; simp only [upd_ne _ _ h, hcnt t' h k]; exact hI.crel t' k
  · by_cases h : t' = t
    · subst h; simpa using hT
    · simp only [upd_ne _ _ h]
      intro hp c hc
      -- the cLists only grow, or `t` is the writer: then nobody is at p4, which is a reader's pc
      rcases hmem with hm | hm
      · exact hm _ _ (hI.todo t' hp c hc)
      · exfalso
        have h1 := (hI.lrel t').2.2 (by simp [hp, holdsR])
        have h2 := hI.excl (by simp [hm])
        simp [h2] at h1

theorem take_succ_of_get {keys : List Key} {i : Nat} {k : Key} (h : keys[i]? = some k) :
    keys.take (i + 1) = keys.take i ++ [k] := by
  rw [List.take_add_one, h]; rfl

theorem drop_of_get {keys : List Key} {i : Nat} {k : Key} (h : keys[i]? = some k) :
    keys.drop i = k :: keys.drop (i + 1) := by
  obtain ⟨hi, rfl⟩ := List.getElem?_eq_some_iff.1 h
  exact List.drop_eq_getElem_cons hi

theorem get_lt {keys : List Key} {i : Nat} {k : Key} (h : keys[i]? = some k) : i < keys.length :=
  (List.getElem?_eq_some_iff.1 h).1

theorem loopPc_cases {P : Pc → Prop} {l : Loc} {a b : Pc} (ha : P a) (hb : P b) : P (loopPc l a b) := by
  unfold loopPc; split <;> assumption

theorem step_of_tstep {σ : Sys} {t : Tid} {ch : Choice} {s' : Shared} {l' : Loc} {e : Option Ev}
    (h : tstep σ.sh t (σ.thr t) ch = some (s', l', e)) : σ.step t ch = some (⟨s', upd σ.thr t l'⟩, e) := by
  simp only [Sys.step, h]

theorem step_inv {σ σ' : Sys} {t : Tid} {ch : Choice} {e : Option Ev} (h : σ.step t ch = some (σ', e)) :
    ∃ s' l', tstep σ.sh t (σ.thr t) ch = some (s', l', e) ∧ σ' = ⟨s', upd σ.thr t l'⟩ := by
  unfold Sys.step at h
  split at h
  · cases h
  · next s' l' e' hs => cases h; exact ⟨s', l', hs, rfl⟩

/- Devices of the proofs about single transitions.
   Facts are read off `tstep` branch by branch: `fun_cases tstep …` gives one goal per branch, with the branch conditions as
   hypotheses and the result of the branch in place of the call; with the local state taken apart, the pc of the branch is put
   in for `l.pc` (`cases` on that hypothesis), so that predicates on pcs compute.
   The branches a common step does not close follow in the order of `tstep`.  Where the tactic text names the pc
   (`have : l.pc = .p4 := ‹_›`, or the pc in the goal) a moved branch fails at its place; elsewhere (`tstep_sim`, `flags_step`,
   `looked_step`) the comment above the bullet names it.
   The frame lemmas of BlockProgSimA ask for `regKeys l' = regKeys { (σ.thr t) with pc := p }` beside `(σ.thr t).pc = p`: the
   update is the identity, and it is written so that `regKeys` computes on the literal pc and every call closes it by `rfl`.
   Where the statement is about `tstep … = some (s', l', e)`, `s'`, `l'`, `e` are reverted first; after `fun_cases`, `out_none` closes
   a disabled branch and `out_some` puts the result of an enabled one in for them (`rintro _ _ _ ⟨⟩` does both in `flags_step`,
   whose file does not import this one, and in `tstep_emits`, whose statement fixes the shape of the event). -/

theorem out_some {P : Shared → Loc → Option Ev → Prop} {a : Shared} {b : Loc} {c : Option Ev} (h : P a b c) :
    ∀ {s' l' e}, (some (a, b, c) : Out) = some (s', l', e) → P s' l' e := by
  rintro _ _ _ ⟨⟩; exact h

theorem out_none {P : Shared → Loc → Option Ev → Prop} : ∀ {s' l' e}, (none : Out) = some (s', l', e) → P s' l' e := by
  intro _ _ _ h; cases h

end NodisVerif.Proofs.BlockProg

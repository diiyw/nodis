import NodisVerif.Proofs.KeyTxLive
import NodisVerif.Proofs.KeyTxApi
import NodisVerif.Proofs.C02
/-
  C02 at the API level, one key. The list commands are key transactions (Proofs/KeyTxApi.lean): on a hot list key
  (`HotList`) their decision runs on the list (`KeyTx.keyTx_hot`); Pop / LRem / LTrim unlink an emptied list
  (`listMut_hot`), the others leave the key holding the command's result (`holdsSeq_put`, `HoldsSeq`).
  `Holds` and its lemmas say what the single steps of the two-key command leave (Proofs/C02Rotate.lean).
-/
namespace NodisVerif.Proofs.C02
open NodisVerif Store
open NodisVerif.Proofs.AListLemmas

/-- key `k` is indexed (in a sorted index, as the btree guarantees), its record is ok, not expired
    at `now`, its value is in memory and is the well-formed list `l`
    (the last component is `C01.Hot s k (.list l) now`) -/
def HotList (s : MState) (k : Bytes) (l : LList) (now : Int) : Prop :=
  AList.Sorted s.index ∧ l.WF ∧
  ∃ m, getMeta s k = some m ∧ m.isOk = true ∧ m.expired now = false ∧ m.value = some (.list l)

/-- what a step leaves behind: sorted index, the key still indexed with a given hot value -/
def Holds (s : MState) (k : Bytes) (v : Val) : Prop :=
  AList.Sorted s.index ∧ ∃ m, getMeta s k = some m ∧ m.value = some v

theorem putMeta_holds (s : MState) (k : Bytes) (m : Meta) (v : Val)
    (hs : AList.Sorted s.index) (hv : m.value = some v) : Holds (putMeta s k m) k v :=
  ⟨putMeta_sorted s k m hs, m, getMeta_putMeta_same s k m, hv⟩

theorem lookup_holds (s : MState) (k : Bytes) (m : Meta) (v : Val) (hs : AList.Sorted s.index)
    (hv : m.value = some v) :
    Holds (putMeta (lockW s k) k { m with count := m.count + 1 }) k v :=
  putMeta_holds _ k _ v (by rw [lockW_index]; exact hs) hv

theorem writeKey_hot_eq (s : MState) (k : Bytes) (now : Int) (mk : Option Val) (m : Meta) (v : Val)
    (hm : getMeta s k = some m) (hok : m.isOk = true) (hexp : m.expired now = false)
    (hval : m.value = some v) :
    writeKey s now k mk = (putMeta (lockW s k) k { m with count := m.count + 1 }, true) :=
  C01.accessKey_hot C01.lockW_op s now k mk m hm hok hexp (by rw [hval]; rfl)

theorem asList_holds (s : MState) (k : Bytes) (l : LList) (h : Holds s k (.list l)) :
    Api.asList s k = some l := by
  obtain ⟨_, m, hm, hv⟩ := h
  simp [Api.asList, valOf, hm, hv]

theorem llen_zero_iff (l : LList) (h : l.WF) : DsList.llen l = 0 ↔ l.items = [] := by
  unfold DsList.llen; unfold LList.WF at h; rw [h]
  constructor
  · intro e; exact List.length_eq_zero_iff.mp (by omega)
  · intro e; rw [e]; rfl

section tx
open NodisVerif.Proofs.C11 (Act runAct keyTx)
open NodisVerif.Proofs.KeyTx

theorem listMut_hot (f : LList → LList × List FeedOp × Out) (miss : Out) {s : MState} {k : Bytes} {l : LList}
    {now : Int} (h : HotList s k l now) (hwf : (f l).1.WF) :
    (keyTx true none miss C11.Cmd.pan (C11.decListMut f) s now k).2 = (f l).2.2 ∧
    ((f l).1.items = [] →
      getMeta (keyTx true none miss C11.Cmd.pan (C11.decListMut f) s now k).1 k = none) ∧
    ((f l).1.items ≠ [] →
      valOf (keyTx true none miss C11.Cmd.pan (C11.decListMut f) s now k).1 k = some (.list (f l).1)) := by
  obtain ⟨s1, e, heq, hot1, he1, hi1⟩ := keyTx_hot true none miss C11.Cmd.pan (C11.decListMut f) h.2.2 h.1
  obtain ⟨a1, _, a3, a4⟩ := runAct_emptied hot1 he1 hi1 (DsList.llen (f l).1 = 0) (.list (f l).1) (f l).2.1 (f l).2.2
  rw [heq]
  exact ⟨a1, fun e => a3 ((llen_zero_iff _ hwf).mpr e),
    fun ne => C01.valOf_hot (a4 fun e => ne ((llen_zero_iff _ hwf).mp e)).1⟩

end tx

/-- key `k` now holds a well-formed list with exactly the elements `xs` -/
def HoldsSeq (s : MState) (k : Bytes) (xs : List Bytes) : Prop :=
  ∃ l', valOf s k = some (.list l') ∧ l'.WF ∧ l'.items = xs

/-- the commands that never delete the key: it now holds what the command makes of the model list, which by
    `modelStep_refines` is what the reference makes of the sequence -/
theorem holdsSeq_put {s1 : MState} {k : Bytes} {v : Val} {now e : Int} (hot : C01.Hot s1 k v now)
    (he : C01.HotExp s1 k e) (l : LList) (c : Spec.List.Cmd) (hwf : l.WF) (ops : List FeedOp) (r : Out) :
    HoldsSeq (C11.runAct s1 k (.put (some (.list (modelStep l c).1)) none ops r)).1 k (Spec.List.step l.items c).1 := by
  obtain ⟨h1, h2, _⟩ := modelStep_refines l hwf c
  exact ⟨_, C01.valOf_hot (KeyTx.runAct_put hot he (some (.list (modelStep l c).1)) none ops r
    (fun _ hx => by cases hx)).1, h1, h2⟩

end NodisVerif.Proofs.C02

import NodisVerif.Model.GoLib
/-
  Lemmas about the translator's run-time library (Model/GoLib.lean): what `wrap` is on each Go type,
  how the loop lists unfold, the bit operations on bytes.  Committed (not regenerated): GoLib is hand-written.
  First, in `NodisVerif`, the int64 range of Basic.lean (`wrap64`, `inInt64`) and a counting fold; the rest is in
  `NodisVerif.GoLib`.
-/
namespace NodisVerif

theorem wrap64_id {x : Int} (h : -9223372036854775808 ≤ x ∧ x ≤ 9223372036854775807) : wrap64 x = x := by
  unfold wrap64 int64Max; simp only []; split <;> omega

theorem wrap64_range (x : Int) : -9223372036854775808 ≤ wrap64 x ∧ wrap64 x ≤ 9223372036854775807 := by
  unfold wrap64 int64Max; simp only []; split <;> omega

theorem inInt64_iff {x : Int} : inInt64 x = true ↔ (-9223372036854775808 ≤ x ∧ x ≤ 9223372036854775807) := by
  unfold inInt64 int64Min int64Max; exact decide_eq_true_iff

theorem inInt64_wrap64 (x : Int) : inInt64 (wrap64 x) = true := inInt64_iff.2 (wrap64_range x)

theorem foldl_count {α : Type} (p : α → Bool) (l : List α) (a : Nat) :
    l.foldl (fun acc i => if p i then acc + 1 else acc) a = a + (l.filter p).length := by
  induction l generalizing a with
  | nil => rfl
  | cons x l ih =>
    rw [List.foldl_cons, ih, List.filter_cons]
    cases p x <;> simp <;> omega

end NodisVerif

namespace NodisVerif.GoLib

theorem wrap_u8 (x : Int) : wrap .u8 x = x % 256 := by simp [wrap, IT.u8]
theorem wrap_u16 (x : Int) : wrap .u16 x = x % 65536 := by simp [wrap, IT.u16]
theorem wrap_u32 (x : Int) : wrap .u32 x = x % 4294967296 := by simp [wrap, IT.u32]
theorem wrap_u64 (x : Int) : wrap .u64 x = x % 18446744073709551616 := by simp [wrap, IT.u64]

theorem wrap_i64 (x : Int) : wrap .i64 x = wrap64 x := by
  simp [wrap, wrap64, IT.i64, int64Max]
  split <;> split <;> omega

theorem wrap_i64_id {x : Int} (h : -9223372036854775808 ≤ x ∧ x ≤ 9223372036854775807) : wrap .i64 x = x :=
  (wrap_i64 x).trans (wrap64_id h)

theorem wrap_i32 (x : Int) : wrap .i32 x = (if x % 4294967296 ≥ 2147483648 then x % 4294967296 - 4294967296 else x % 4294967296) := by
  simp [wrap, IT.i32]
theorem wrap_i16 (x : Int) : wrap .i16 x = (if x % 65536 ≥ 32768 then x % 65536 - 65536 else x % 65536) := by
  simp [wrap, IT.i16]
theorem wrap_i8 (x : Int) : wrap .i8 x = (if x % 256 ≥ 128 then x % 256 - 256 else x % 256) := by
  simp [wrap, IT.i8]

theorem toU_u8 (x : UInt8) : toU .u8 (x.toNat : Int) = x.toNat := by
  have := x.toNat_lt
  simp only [toU, IT.u8]
  omega

theorem wrap_u8_toNat (x : UInt8) : wrap .u8 (x.toNat : Int) = x.toNat := by
  have := x.toNat_lt
  rw [wrap_u8]; omega

theorem band_u8 (x y : UInt8) : band .u8 (x.toNat : Int) (y.toNat : Int) = ((x &&& y).toNat : Int) := by
  rw [band, toU_u8, toU_u8, ← UInt8.toNat_and, wrap_u8_toNat]

theorem bor_u8 (x y : UInt8) : bor .u8 (x.toNat : Int) (y.toNat : Int) = ((x ||| y).toNat : Int) := by
  rw [bor, toU_u8, toU_u8, ← UInt8.toNat_or, wrap_u8_toNat]

theorem bandnot_u8 (x y : UInt8) : bandnot .u8 (x.toNat : Int) (y.toNat : Int) = ((x &&& ~~~y).toNat : Int) := by
  rw [bandnot, toU_u8, toU_u8]
  show wrap .u8 ((x.toNat &&& (UInt8.size - 1 - y.toNat) : Nat) : Int) = _
  rw [← UInt8.toNat_not, ← UInt8.toNat_and, wrap_u8_toNat]

theorem byteOf_toNat (x : UInt8) : byteOf (x.toNat : Int) = x := by
  have := x.toNat_lt
  unfold byteOf
  have : ((x.toNat : Int) % 256).toNat = x.toNat := by omega
  rw [this, UInt8.ofNat_toNat]

theorem toNat_bne_zero (x : UInt8) : ((x.toNat : Int) != 0) = (x != 0) := by
  by_cases h : x = 0
  · subst h; rfl
  · have : x.toNat ≠ 0 := fun e => h (UInt8.toNat_inj.mp e)
    rw [bne_iff_ne.mpr h, bne_iff_ne.mpr (by omega)]

theorem shl_u8_one : ∀ k : Fin 8, shl .u8 1 (k.val : Int) = (((1 : UInt8) <<< UInt8.ofNat k.val).toNat : Int) := by
  decide

theorem irange_nil {lo hi : Int} (h : hi ≤ lo) : irange lo hi = [] := by
  have : (hi - lo).toNat = 0 := by omega
  simp [irange, this]

theorem irange_cons {lo hi : Int} (h : lo < hi) : irange lo hi = lo :: irange (lo + 1) hi := by
  have : (hi - lo).toNat = (hi - (lo + 1)).toNat + 1 := by omega
  simp only [irange, this, List.range_succ_eq_map, List.map_cons, List.map_map]
  simp only [Int.natCast_zero, Int.add_zero, List.cons.injEq, true_and]
  apply List.map_congr_left
  intro a _
  simp only [Function.comp, Int.natCast_succ]
  omega

theorem mem_irange {s e i : Int} (h : i ∈ irange s e) : s ≤ i ∧ i < e := by
  simp only [irange, List.mem_map, List.mem_range] at h
  obtain ⟨k, hk, rfl⟩ := h
  omega

theorem len_eq (s : List α) : len s = (s.length : Int) := rfl

theorem slice_ok (s : List α) (lo hi : Int) (h : 0 ≤ lo ∧ lo ≤ hi ∧ hi ≤ s.length) :
    slice s lo hi = .ok ((s.drop lo.toNat).take (hi - lo).toNat) := by
  simp only [slice, h, and_self, if_true, pure, Except.pure]

theorem makeBytes_ok {n : Int} (h : 0 ≤ n) : makeBytes n = .ok (List.replicate n.toNat 0) := by
  simp [makeBytes, pure, Except.pure]; omega

theorem idx_ok (s : Bytes) (i : Int) (h : 0 ≤ i ∧ i < s.length) : idx s i = .ok ((s.getD i.toNat 0).toNat : Int) := by
  simp only [idx, h, and_self, if_true, pure, Except.pure]

theorem setIdx_ok (s : Bytes) (i x : Int) (h : 0 ≤ i ∧ i < s.length) : setIdx s i x = .ok (s.set i.toNat (byteOf x)) := by
  simp only [setIdx, h, and_self, if_true, pure, Except.pure]

theorem idx_append_len (pre : Bytes) (c : UInt8) (rest : Bytes) : idx (pre ++ c :: rest) (pre.length : Int) = .ok (c.toNat : Int) := by
  have h : (0 : Int) ≤ (pre.length : Int) ∧ (pre.length : Int) < ((pre ++ c :: rest).length : Int) := by
    simp only [List.length_append, List.length_cons]; omega
  simp only [idx, h, and_self, if_true, pure, Except.pure]
  simp

/-- the loop `for i := k; i < len(s); i++ { acc = g(acc, s[i]) }` is a left fold over the rest of s and never panics -/
theorem forIn_irange_idx_fold {β : Type} (g : β → Int → β) (suf : Bytes) : ∀ (pre : Bytes) (init : β),
    forIn (m := M) (irange (pre.length : Int) (len (pre ++ suf))) init
      (fun i s => do let c ← idx (pre ++ suf) i; pure (ForInStep.yield (g s c)))
    = .ok (suf.foldl (fun s c => g s (c.toNat : Int)) init) := by
  induction suf with
  | nil => intro pre init; simp [len_eq, irange_nil, pure, Except.pure]
  | cons c rest ih =>
    intro pre init
    have hlt : (pre.length : Int) < len (pre ++ c :: rest) := by
      simp only [len_eq, List.length_append, List.length_cons]; omega
    rw [irange_cons hlt, List.forIn_cons, idx_append_len]
    have := ih (pre ++ [c]) (g init (c.toNat : Int))
    simp only [List.append_assoc, List.singleton_append, List.length_append, List.length_singleton, Int.natCast_add, Int.natCast_one] at this
    simp only [bind, Except.bind, pure, Except.pure, List.foldl_cons]
    exact this

/-- the loop `for _, c := range s { acc = g(acc, c) }` over a []byte is the same left fold -/
theorem forIn_enum_fold {β : Type} (g : β → Int → β) (s : Bytes) (init : β) :
    forIn (m := M) (enum s) init (fun x acc => pure (ForInStep.yield (g acc x.2)))
    = .ok (s.foldl (fun a c => g a (c.toNat : Int)) init) := by
  unfold enum
  generalize 0 = k
  induction s generalizing init k with
  | nil => simp [pure, Except.pure]
  | cons c rest ih =>
    simp only [List.zipIdx_cons, List.map_cons, List.forIn_cons, List.foldl_cons, bind, Except.bind, pure, Except.pure]
    exact ih _ _

end NodisVerif.GoLib

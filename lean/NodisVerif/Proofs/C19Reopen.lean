import NodisVerif.Proofs.C19Quiescent
import NodisVerif.Proofs.C11Main
/-
  C19 helpers: `SCAN … TYPE t` on a store that has just been opened on a backend
  (`Store.reopen`): every record is cold and has no cached type, the call loads the value.
-/
namespace NodisVerif.Proofs.C19Reopen
open NodisVerif.Store NodisVerif.Spec.Persist
open NodisVerif.Proofs.C19Scan NodisVerif.Proofs.C19Quiescent NodisVerif.Proofs.C11
open NodisVerif.Proofs.AListLemmas NodisVerif.Proofs.AListLemmas2

/-- on a freshly opened store a record passes the filter of `SCAN … TYPE typ` (typ ≠ 0) exactly
    when its name matches and the key is logically there (live, loadable) with a value of that type -/
theorem eligible_reopen {s0 : MState} {x : Option Bytes} {t : Int} (h : StoreInvX s0 x t)
    (now : Int) (pat : Bytes) (typ : Nat) (htyp : typ ≠ 0) (k : Bytes) (m : Meta)
    (hm : AList.get? (reopen s0).index k = some m) :
    Eligible (reopen s0) now pat typ (k, m) = true ↔
      (Glob.matched pat k = true ∧ ∃ v exp, lookup (reopen s0) now k = some (v, exp) ∧ v.typeCode = typ) := by
  obtain ⟨dk, e, he, hn, rfl⟩ := reopen_rec h hm
  have hok : (coldOf e).isOk = true := by simp [coldOf, Meta.isOk]
  have hlook : lookup (reopen s0) now k =
      if (coldOf e).expired now then none
      else (loadValue (reopen s0) k (coldOf e)).map fun p => (p.1, (coldOf e).exp) := by
    simp only [lookup, getMeta, hm, Option.bind_some, Spec.Persist.view, hok, Bool.true_and]
    cases (coldOf e).expired now <;> simp [coldOf]
  have het : etype (reopen s0) typ (k, coldOf e) =
      match loadValue (reopen s0) k (coldOf e) with
      | some (v, _) => v.typeCode
      | none => 0 := etype_loaded _ typ k _ htyp rfl rfl
  have htc : ∀ v : Val, v.typeCode ≠ 0 := by intro v; cases v <;> simp [Val.typeCode]
  simp only [Eligible, het, hlook]
  cases hl : loadValue (reopen s0) k (coldOf e) with
  | none =>
    cases (coldOf e).expired now <;> simp [htyp, Ne.symm htyp]
  | some vo =>
    obtain ⟨v, o⟩ := vo
    cases (coldOf e).expired now <;> simp [htyp]

theorem mem_eligibleNames_reopen {s0 : MState} {x : Option Bytes} {t : Int} (h : StoreInvX s0 x t)
    (now : Int) (pat : Bytes) (typ : Nat) (htyp : typ ≠ 0) (k : Bytes) :
    k ∈ eligibleNames (reopen s0) now pat typ (reopen s0).index ↔
      (Glob.matched pat k = true ∧ ∃ v exp, lookup (reopen s0) now k = some (v, exp) ∧ v.typeCode = typ) := by
  have f := reopen_facts h
  rw [mem_eligibleNames (reopen s0) f.sorted]
  constructor
  · rintro ⟨m, hm, hel⟩
    exact (eligible_reopen h now pat typ htyp k m hm).1 hel
  · intro hr
    obtain ⟨v, exp, hl, _⟩ := hr.2
    cases hm : AList.get? (reopen s0).index k with
    | none => simp [lookup, getMeta, hm] at hl
    | some m => exact ⟨m, rfl, (eligible_reopen h now pat typ htyp k m hm).2 hr⟩

/-- after a graceful close and reopen: the names that matched and were logically there with
    a value of that type before the restart -/
theorem mem_eligibleNames_restart {s : MState} {t now now' : Int} (h : StoreInvX s none t) (ht : t ≤ now)
    (ht' : now ≤ now') (hf : s.failSet = 0) (hnil : NilFree s) (pat : Bytes) (typ : Nat) (htyp : typ ≠ 0) (k : Bytes) :
    k ∈ eligibleNames (reopen (close s now)) now' pat typ (reopen (close s now)).index ↔
      (Glob.matched pat k = true ∧ ∃ v exp, lookup s now' k = some (v, exp) ∧ v.typeCode = typ) := by
  obtain ⟨sp, _⟩ := close_spec h ht (now := now)
  rw [mem_eligibleNames_reopen sp.inv now' pat typ htyp k, (cycle_spec h ht hf hnil).look now' ht' k]

theorem restart_sorted {s : MState} {t now : Int} (h : StoreInvX s none t) (ht : t ≤ now) :
    AList.Sorted (reopen (close s now)).index :=
  (reopen_facts (close_spec h ht (now := now)).1.inv).sorted

end NodisVerif.Proofs.C19Reopen

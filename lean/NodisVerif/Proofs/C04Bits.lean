import NodisVerif.Model.Val
/-
  IEEE equality of two non-NaN bit patterns is bit equality, except for the two zeros.
-/
namespace NodisVerif

theorem F64.key_eq (a : F64) : F64.key a =
    if a.toNat / 2^63 = 1 then -((a.toNat % 2^63 : Nat) : Int) else ((a.toNat % 2^63 : Nat) : Int) := by
  unfold F64.key
  have h1 : (a &&& 0x7FFFFFFFFFFFFFFF).toNat = a.toNat % 2^63 := by
    rw [UInt64.toNat_and]
    exact Nat.and_two_pow_sub_one_eq_mod a.toNat 63
  have h2 : (a >>> 63 == 1) = decide (a.toNat / 2^63 = 1) := by
    rw [Bool.eq_iff_iff]
    simp only [beq_iff_eq, decide_eq_true_eq]
    rw [← UInt64.toNat_inj, UInt64.toNat_shiftRight]
    simp [Nat.shiftRight_eq_div_pow]
  simp only [h1, h2, decide_eq_true_eq]

/-- the bit pattern of −0.0 -/
def F64.negZero : F64 := 0x8000000000000000

/-- sign-and-magnitude reading of `x < 2P` (quotient by `P` = sign): only the two zeros collide.
    `P` is a variable so that `omega` never sees the 64-bit numerals. -/
theorem signed_inj (P x y : Nat) (hx : x < P * 2) (hy : y < P * 2)
    (h : (if x / P = 1 then -((x % P : Nat) : Int) else ((x % P : Nat) : Int))
       = (if y / P = 1 then -((y % P : Nat) : Int) else ((y % P : Nat) : Int))) :
    x = y ∨ (x = 0 ∧ y = P) ∨ (x = P ∧ y = 0) := by
  have hP : 0 < P := by omega
  have ex := Nat.div_add_mod x P
  have ey := Nat.div_add_mod y P
  have rx := Nat.mod_lt x hP
  have ry := Nat.mod_lt y hP
  have qx := Nat.div_lt_of_lt_mul hx
  have qy := Nat.div_lt_of_lt_mul hy
  generalize x % P = a at *
  generalize y % P = b at *
  generalize x / P = s at *
  generalize y / P = t at *
  have hs : s = 0 ∨ s = 1 := by omega
  have ht : t = 0 ∨ t = 1 := by omega
  rcases hs with rfl | rfl <;> rcases ht with rfl | rfl <;>
    simp only [Nat.mul_zero, Nat.mul_one, Nat.zero_add, if_true, Nat.zero_ne_one, if_false] at h ex ey <;>
    omega

theorem F64.key_inj (a b : F64) (h : F64.key a = F64.key b) :
    a = b ∨ (a = 0 ∧ b = F64.negZero) ∨ (a = F64.negZero ∧ b = 0) := by
  rw [F64.key_eq, F64.key_eq] at h
  rcases signed_inj (2^63) a.toNat b.toNat a.toNat_lt b.toNat_lt h with h | ⟨h1, h2⟩ | ⟨h1, h2⟩
  · exact Or.inl (UInt64.toNat_inj.mp h)
  · exact Or.inr (Or.inl ⟨UInt64.toNat_inj.mp h1, UInt64.toNat_inj.mp h2⟩)
  · exact Or.inr (Or.inr ⟨UInt64.toNat_inj.mp h1, UInt64.toNat_inj.mp h2⟩)

theorem F64.eq_bits (a b : F64) (h : F64.eq a b = true) :
    a = b ∨ (a = 0 ∧ b = F64.negZero) ∨ (a = F64.negZero ∧ b = 0) := by
  simp only [F64.eq, Bool.and_eq_true, beq_iff_eq] at h
  exact F64.key_inj a b h.2

end NodisVerif

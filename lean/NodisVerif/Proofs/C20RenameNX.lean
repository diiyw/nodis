import NodisVerif.Proofs.C20Key
/-
  C20: RENAMENX.  The record is a RENAME; it is only emitted when the destination does not exist, and
  then RENAME on the replica has the same effect.  The normal form (`nxTail`, `renameNX_eq`, `nxTail_eq`) is at the
  end of Proofs/KeyTxApi.lean.
-/
namespace NodisVerif.Proofs.C20
open NodisVerif NodisVerif.Store NodisVerif.Spec.Persist NodisVerif.Proofs.C11
open NodisVerif.Proofs.AListLemmas NodisVerif.Proofs.AListLemmas2

variable {now : Int} {p r : MState}

theorem fl_nxTail (s2 : MState) (m : Meta) (key dst : Bytes) : fl (nxTail s2 m key dst) = fl s2 := by
  unfold nxTail
  simp only [fresh]
  split
  · simp only [unpersist]
    split <;> exact fl_delKey s2 key
  · exact fl_delKey s2 key

/-- the logical keyspace after RENAMENX key dst -/
def renameNXK (now : Int) (K : Bytes → Option (Val × Int)) (key dst : Bytes) : Bytes → Option (Val × Int) :=
  fun k' => match K dst, K key with
    | none, some c => if k' = dst then filt c now else if k' = key then none else K k'
    | _, _ => K k'

def renameNXOps (K : Bytes → Option (Val × Int)) (key dst : Bytes) : List FeedOp :=
  match K dst, K key with
  | none, some _ => [opRename key dst]
  | _, _ => []

theorem renameNX_spec {s : MState} (h : StoreInv s now) (key dst : Bytes) :
    StoreInv (Api.renameNX s now key dst).1 now ∧
    (∀ k', lookup (Api.renameNX s now key dst).1 now k' = renameNXK now (lookup s now) key dst k') ∧
    (s.listeners = true →
      fl (Api.renameNX s now key dst).1 = ((renameNXOps (lookup s now) key dst).reverse ++ s.feed, true)) := by
  rw [renameNX_eq]
  have ht : now ≤ now := Int.le_refl now
  have ks1 := writeKey_spec h ht dst none (fun _ hc => nomatch hc)
  have hfl1 := fl_writeKey s now dst none
  generalize writeKey s now dst none = r1 at ks1 hfl1
  obtain ⟨s1, dok⟩ := r1
  simp only at hfl1 ⊢
  have flnil : ∀ sX : MState, fl sX = fl s → s.listeners = true → fl sX = ([].reverse ++ s.feed, true) := by
    intro sX hx hl; rw [hx]; simp [fl, hl]
  cases hLd : lookup s now dst with
  | some cd =>
    obtain ⟨hok, hl, _⟩ := ks1.hit cd.1 cd.2 hLd
    simp only at hok
    simp only [hok, if_true, renameNXK, renameNXOps, hLd]
    refine ⟨ks1.inv, fun k' => ?_, flnil s1 hfl1⟩
    by_cases hk : k' = dst
    · subst hk; rw [hl now ht]
    · exact ks1.other now ht k' hk
  | none =>
    obtain ⟨hok, hl⟩ := ks1.miss hLd rfl
    simp only at hok
    simp only [hok, Bool.false_eq_true, if_false]
    have hsame1 : ∀ t', now ≤ t' → ∀ k', lookup s1 t' k' = lookup s t' k' := by
      intro t' ht' k'
      by_cases hk : k' = dst
      · subst hk; exact hl t' ht'
      · exact ks1.other t' ht' k' hk
    have ks2 := writeKey_spec ks1.inv ht key none (fun _ hc => nomatch hc)
    have hfl2 := fl_writeKey s1 now key none
    generalize writeKey s1 now key none = r2 at ks2 hfl2
    obtain ⟨s2, ok⟩ := r2
    simp only at hfl2 ⊢
    have hfl2' : fl s2 = fl s := hfl2.trans hfl1
    have hsame2 : ∀ t', now ≤ t' → ∀ k', lookup s2 t' k' = lookup s1 t' k' := by
      intro t' ht' k'
      by_cases hk : k' = key
      · subst hk
        cases hL2 : lookup s1 now k' with
        | none => exact (ks2.miss hL2 rfl).2 t' ht'
        | some c2 => exact (ks2.hit c2.1 c2.2 hL2).2.1 t' ht'
      · exact ks2.other t' ht' k' hk
    cases hLk : lookup s now key with
    | none =>
      have hLk1 : lookup s1 now key = none := by rw [hsame1 now ht]; exact hLk
      obtain ⟨hok2, _⟩ := ks2.miss hLk1 rfl
      simp only at hok2
      simp only [hok2, Bool.not_false, if_true, renameNXK, renameNXOps, hLd, hLk]
      refine ⟨ks2.inv, fun k' => ?_, flnil s2 hfl2'⟩
      rw [hsame2 now ht, hsame1 now ht]
    | some c =>
      obtain ⟨v, e⟩ := c
      have hLk1 : lookup s1 now key = some (v, e) := by rw [hsame1 now ht]; exact hLk
      obtain ⟨hok2, _, m, hm, hv, he, _⟩ := ks2.hit v e hLk1
      simp only at hok2 hm
      have hgm : getMeta s2 key = some m := hm
      simp only [hok2, Bool.not_true, Bool.false_eq_true, if_false, hgm, renameNXK, renameNXOps, hLd, hLk]
      have hkd : key ≠ dst := by intro c; subst c; rw [hLd] at hLk; cases hLk
      have hdk : dst ≠ key := fun c => hkd c.symm
      have r1 := ks2.inv.recs key m hm
      obtain ⟨d1, d2, d3⟩ := delKey_sub ks2.inv hm
      have i3 : StoreInvX (delKey s2 key) none now := inv_delKey ks2.inv key (fun _ _ => by simp)
      have look3 : ∀ k', lookup (delKey s2 key) now k' = if k' = key then none else lookup s now k' := by
        intro k'
        rw [StoreView.plookup_delKey _ ks2.inv.idxSorted]
        by_cases hk : k' = key
        · simp [hk]
        · simp only [hk, if_false]; rw [hsame2 now ht, hsame1 now ht]
      have hfree : (delKey s2 key).pebble = false →
          0 < m.oid ∧ m.oid < (delKey s2 key).nextId ∧ OidFree (delKey s2 key) dst m.oid := by
        intro hp
        rw [(delKey_fields _ _).1] at hp
        have o2 := ks2.inv.oids hp
        have := o2.recR key m hm
        refine ⟨this.1, by rw [d3]; exact this.2, ?_, ?_⟩
        · intro k' m' _ hk' ho
          rw [d1] at hk'
          by_cases hkk : k' = key
          · simp [hkk] at hk'
          · simp only [hkk, if_false] at hk'
            exact hkk (o2.recInj k' m' key m hk' hm ho)
        · intro dk e' he' _ ho
          obtain ⟨a, b⟩ := d2 dk e' he'
          exact b (o2.entRec dk e' key m a hm ho)
      rw [nxTail_eq hv]
      obtain ⟨n1, n2, n3, n4, n5, n6⟩ :=
        renameRec_facts { exp := m.exp, value := none, kid := (delKey s2 key).nextId } m v
      have ib := inv_bump i3 ((delKey s2 key).nextId + 1) (by omega)
      have iF := inv_install ib dst (mF := renameRec
          { exp := m.exp, value := none, kid := (delKey s2 key).nextId } m v) n1 n3
        (by rw [n2]; exact r1.expR) (r1.good v hv) n4 n6
        (by
          intro hp
          obtain ⟨a, b, c⟩ := hfree hp
          rw [n5]
          exact ⟨a, by show m.oid < (delKey s2 key).nextId + 1; omega, c.congr rfl rfl⟩)
      have emitL : ∀ (sX : MState) (sg : List Bytes) (op : FeedOp) (t' : Int) (k' : Bytes),
          lookup (emit { sX with signalled := sg } op) t' k' = lookup sX t' k' := by
        intro sX sg op t' k'
        obtain ⟨a, b, c, _, _⟩ := emit_fields { sX with signalled := sg } op
        rw [lookup_congr a b c]
        exact lookup_congr rfl rfl rfl _ _
      have emitI : ∀ (sX : MState) (sg : List Bytes) (op : FeedOp), StoreInvX sX none now →
          StoreInvX (emit { sX with signalled := sg } op) none now := by
        intro sX sg op hi
        exact inv_emits (ops := [op]) (hi.congr (s' := { sX with signalled := sg }) rfl rfl rfl rfl)
      refine ⟨emitI _ _ _ iF, fun k' => ?_, fun hlis => ?_⟩
      · rw [emitL]
        by_cases hk : k' = dst
        · subst hk
          simp only [if_true]
          rw [lookup_putMeta_same, view_put n1 n3, n2, he]
        · simp only [hk, if_false]
          rw [lookup_install_other _ now dst _ k' hk]
          have : lookup { delKey s2 key with nextId := (delKey s2 key).nextId + 1 } now k'
              = lookup (delKey s2 key) now k' := lookup_congr rfl rfl rfl _ _
          rw [this, look3]
      · rw [← nxTail_eq hv]
        have h3 := fl_nxTail s2 m key dst
        have hl3 : (nxTail s2 m key dst).listeners = true := ((fl_eq (h3.trans hfl2')).2).trans hlis
        have hf3 : (nxTail s2 m key dst).feed = s.feed := (fl_eq (h3.trans hfl2')).1
        rw [fl_emit _ _ hl3, hf3]
        rfl

theorem renameNXK_nonil {K : Bytes → Option (Val × Int)} (hK : ∀ k e, K k ≠ some (.strNil, e)) (key dst : Bytes)
    (k : Bytes) (e : Int) : renameNXK now K key dst k ≠ some (.strNil, e) := by
  unfold renameNXK
  cases hd : K dst with
  | some _ => exact hK k e
  | none =>
    cases hL : K key with
    | none => exact hK k e
    | some c =>
      simp only
      split
      · intro hc
        have := filt_some hc
        subst this
        exact hK key e hL
      · split
        · simp
        · exact hK k e

theorem renameNX_main (hs : Same now p r) (hl : p.listeners = true) (hfd : p.feed = [])
    (c : Feed.CallInfo) (hc : plainMethod c.method = true) (key dst : Bytes) :
    Replay now r c (Api.renameNX p now key dst) ∧ (Api.renameNX p now key dst).1.listeners = true ∧
    ∀ op ∈ (Api.renameNX p now key dst).1.feed.reverse, op.key = key := by
  obtain ⟨i1, l1, f1⟩ := renameNX_spec hs.invP key dst
  have f1' := f1 hl
  have hfeed : (Api.renameNX p now key dst).1.feed = _ := (fl_eq f1').1
  refine ⟨?_, (fl_eq f1').2, ?_⟩
  · unfold Replay
    rw [emission_plain hc, hfeed, hfd]
    simp only [List.append_nil, List.reverse_reverse]
    refine main_of i1 l1 (renameNXK_nonil hs.nonil key dst) ?_
    have hK : lookup r now = lookup p now := funext hs.look
    unfold renameNXOps
    cases hd : lookup p now dst with
    | some cd =>
      simp only
      refine ⟨r, rfl, hs.invR, fun k' => ?_⟩
      rw [hK]; simp [renameNXK, hd]
    | none =>
      cases hk : lookup p now key with
      | none =>
        simp only
        refine ⟨r, rfl, hs.invR, fun k' => ?_⟩
        rw [hK]; simp [renameNXK, hd, hk]
      | some cc =>
        simp only
        obtain ⟨i2, l2⟩ := rename_look hs.invR key dst
        rw [hK] at l2
        have hkd : key ≠ dst := by intro c; subst c; rw [hd] at hk; cases hk
        refine ⟨_, (applyAll_one r now _).trans (replica_rename r now key dst), i2, fun k' => ?_⟩
        rw [l2 k']
        simp [renameK, renameNXK, hd, hk, hkd]
  · intro op hop
    rw [hfeed, hfd] at hop
    simp only [List.append_nil, List.reverse_reverse] at hop
    unfold renameNXOps at hop
    split at hop
    · simp at hop; subst hop; rfl
    · cases hop

end NodisVerif.Proofs.C20

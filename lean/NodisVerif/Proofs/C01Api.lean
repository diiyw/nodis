import NodisVerif.Proofs.C01Store
import NodisVerif.Proofs.KeyTxLive
import NodisVerif.Proofs.KeyTxApi
import NodisVerif.Spec.Str
/-
  C01, API level (Model/Api.lean, string and keyspace commands).
  A writing string command is a key transaction deciding by `decStrWrite` (Proofs/KeyTxApi.lean), run on the key
  opened with `writeKey key newStr` (`openStr`); a reading one is the model's `readKey; asStr` text with a reply
  function. What is proved of these shapes (`strWrite_*`, `strRead_eq`) holds of each command; SETNX and the
  missing-key half of GETSET publish a brand-new record and are treated by hand.
  Besides, each writing command is `writeKey` followed by record-local updates of its key (`Upd`, the `*_upd` lemmas):
  what an induction over `Upd` gives holds of the command.
-/
namespace NodisVerif.Proofs.C01
open NodisVerif
open NodisVerif.Proofs.AListLemmas NodisVerif.Proofs.AListLemmas2
open Store Api

/-- the value is a string object (`.str`, or `.strNil`: a nil value stored through the embedded API) -/
def isStrVal : Val → Bool
  | .str _ => true
  | .strNil => true
  | _ => false

/-- the key is missing (absent, expired, unusable) or holds a string: the hypothesis under which a string
    command does not panic (it lives in `NodisVerif.C01`, the namespace of Props/C01.lean, whose statements carry it) -/
def _root_.NodisVerif.C01.StringOrMissing (s : MState) (now : Int) (k : Bytes) : Prop :=
  ∀ v0, live s now k = some v0 → isStrVal v0 = true

/-- the Go string object behind a string value -/
def strOf : Val → DsStr.S
  | .str v => some v
  | _ => none

def bytesOf (v : Val) : Bytes := DsStr.bytes (strOf v)

theorem strVal_strOf (v : Val) (h : isStrVal v = true) : strVal (strOf v) = v := by
  cases v <;> first | rfl | cases h

theorem isStrVal_strVal (x : DsStr.S) : isStrVal (strVal x) = true := by cases x <;> rfl
theorem strOf_strVal (x : DsStr.S) : strOf (strVal x) = x := by cases x <;> rfl

theorem liveExp_future {s : MState} {now : Int} {k : Bytes} {e : Int} (h : liveExp s now k = some e) :
    e = 0 ∨ now < e := by
  unfold liveExp at h
  cases hm : getMeta s k with
  | none => rw [hm] at h; cases h
  | some m =>
    rw [hm] at h
    simp only at h
    split at h
    · next hc =>
      cases h
      simp only [Bool.and_eq_true, Bool.not_eq_true'] at hc
      have := hc.1.2
      unfold Meta.expired at this
      simp only [Bool.and_eq_false_iff, bne_eq_false_iff_eq, decide_eq_false_iff_not, Int.not_le] at this
      exact this
    · cases h

/-- the state in which the decision of a writing string command runs: the key opened with `writeKey key newStr` -/
abbrev openStr (s : MState) (now : Int) (k : Bytes) : MState := (writeKey s now k (some (.str []))).1

/-- the string the key holds for a string command: its live value, or the empty string `writeKey key newStr` creates -/
def strAt (s : MState) (now : Int) (k : Bytes) : Val := (live s now k).getD (.str [])

theorem strAt_live {s : MState} {now : Int} {k : Bytes} {v0 : Val} (hl : live s now k = some v0) :
    strAt s now k = v0 := by
  unfold strAt; rw [hl]; rfl

/-- `s'` is obtained from `s` by the record-local operations the string commands use on key `k`. Each writing command
    is `writeKey` followed by such updates (`set_upd`, `append_upd`, …); one induction over them gives sortedness
    (`upd_sorted`), the frame under `Clean` (`upd_frame_clean`, C01Clean) and the lock state (`upd_sameLocks`, C01Trace) -/
inductive Upd (k : Bytes) : MState → MState → Prop
  | refl (s : MState) : Upd k s s
  | setVal (s : MState) (v : Val) : Upd k s (setVal s k v)
  | setExp (s : MState) (e : Int) : Upd k s (setExp s k e)
  | signal (s : MState) : Upd k s (signal s k)
  | emit (s : MState) (op : FeedOp) : Upd k s (emit s op)
  | newKey (s : MState) (old : Option Meta) (v : Val) : Upd k s (newKeyWith s k old v)
  | trans {a b c : MState} : Upd k a b → Upd k b c → Upd k a c

theorem upd_sorted {k : Bytes} {s s' : MState} (h : Upd k s s') : IndexSorted s → IndexSorted s' := by
  induction h with
  | refl s => exact id
  | setVal s v => exact setVal_sorted s k v
  | setExp s e => exact setExp_sorted s k e
  | signal s => exact signal_sorted s k
  | emit s op => exact emit_sorted s op
  | newKey s old v => exact newKeyWith_sorted s k old v
  | trans _ _ ih1 ih2 => exact fun h => ih2 (ih1 h)

theorem wk_upd_sorted {s s' : MState} {now : Int} {k : Bytes} {mk : Option Val}
    (h : Upd k (writeKey s now k mk).1 s') (hs : IndexSorted s) : IndexSorted s' :=
  upd_sorted h (writeKey_sorted s now k mk hs)

theorem logical_writeKey_live (s : MState) (now : Int) (k : Bytes) (mk : Option Val) (v0 : Val) (hs : IndexSorted s)
    (hl : live s now k = some v0) : logical (writeKey s now k mk).1 now = logical s now :=
  logical_ext hs (writeKey_sorted s now k mk hs) (writeKey_live s now k mk v0 hl).2.2

theorem logical_readKey (s : MState) (now : Int) (k : Bytes) (h : IndexSorted s) :
    logical (readKey s now k).1 now = logical s now :=
  logical_ext h (readKey_sorted s now k h) (fun k' => lookup_readKey s now k k')

section tx
open NodisVerif.Proofs.C11 (Act runAct keyTx emits decStrWrite decStrRead)
open NodisVerif.Proofs.KeyTx

theorem upd_emits (k : Bytes) (ops : List FeedOp) : ∀ s, Upd k s (emits s ops) := by
  induction ops with
  | nil => exact fun s => .refl s
  | cons op rest ih => exact fun s => .trans (.emit s op) (ih _)

theorem upd_runAct (k : Bytes) (s : MState) (a : Act) (h : ∀ v' ops r, a ≠ .drop v' ops r) :
    Upd k s (runAct s k a).1 := by
  cases a with
  | keep r => exact .refl s
  | put v' e' ops r =>
    refine .trans ?_ (.trans (.signal _) (upd_emits k ops _))
    exact C11.optSet_ind (P := Upd k s) k (fun s1 v h => h.trans (.setVal s1 v)) (fun s1 e h => h.trans (.setExp s1 e))
      (.refl s) v' e'
  | drop v' ops r => exact absurd rfl (h v' ops r)

theorem upd_keyTx (w : Bool) (mk : Option Val) (miss : Out) (nov : MState → R) (dec : Val → Int → Act)
    (hw : w = false → mk = none) (hd : ∀ v e v' ops r, dec v e ≠ .drop v' ops r) (s : MState) (now : Int) (k : Bytes) :
    Upd k (C11.looked w mk s now k) (keyTx w mk miss nov dec s now k).1 := by
  rcases C11.keyTx_cases w mk miss nov dec s now k hw with ⟨_, _, e⟩ | ⟨_, v, _, e⟩ <;> rw [e]
  · exact .refl _
  · exact upd_runAct k _ _ (hd _ _)

/-- what a writing string command decides on the string `x` it finds -/
def strAct (f : DsStr.S → Option (Option Val × Option Int × List FeedOp × Out)) (fail : DsStr.S → Out)
    (x : DsStr.S) : Act :=
  match f x with
  | some (v', e', ops, r) => .put v' e' ops r
  | none => .keep (fail x)

theorem decStrWrite_str (f : DsStr.S → Option (Option Val × Option Int × List FeedOp × Out)) (fail : DsStr.S → Out)
    (v : Val) (e : Int) :
    decStrWrite f fail v e = if isStrVal v then strAct f fail (strOf v) else .keep .panic := by
  cases v <;> rfl

theorem decStrWrite_ne_drop (f : DsStr.S → Option (Option Val × Option Int × List FeedOp × Out))
    (fail : DsStr.S → Out) (v : Val) (e : Int) (v' : Val) (ops : List FeedOp) (r : Out) :
    decStrWrite f fail v e ≠ .drop v' ops r := by
  rw [decStrWrite_str]
  unfold strAct
  split
  · split <;> nofun
  · nofun

/-- every `writeKey key newStr` command: the decision runs on the string found (empty when missing),
    on the opened state, where the key is hot with that string and the deadline it had -/
theorem strWrite_found (f : DsStr.S → Option (Option Val × Option Int × List FeedOp × Out)) (fail : DsStr.S → Out)
    (miss : Out) (nov : MState → R) {s : MState} {now : Int} {k : Bytes} (hs : C01.StringOrMissing s now k) :
    keyTx true (some (.str [])) miss nov (decStrWrite f fail) s now k =
        runAct (openStr s now k) k (strAct f fail (strOf (strAt s now k))) ∧
      Hot (openStr s now k) k (strAt s now k) now ∧ HotExp (openStr s now k) k ((liveExp s now k).getD 0) := by
  unfold strAt
  cases hl : live s now k with
  | none =>
    obtain ⟨heq, hot1, he1, _⟩ := keyTx_create (.str []) miss nov (decStrWrite f fail) hl
    rw [liveExp_none_of_live hl]
    exact ⟨heq, hot1, he1⟩
  | some v0 =>
    obtain ⟨heq, hot1, he1, _⟩ := keyTx_found true (some (.str [])) miss nov (decStrWrite f fail) hl
    refine ⟨?_, hot1, he1⟩
    rw [heq, decStrWrite_str, hs v0 hl]
    rfl

theorem strWrite_put (f : DsStr.S → Option (Option Val × Option Int × List FeedOp × Out)) (fail : DsStr.S → Out)
    (miss : Out) (nov : MState → R) {s : MState} {now : Int} {k : Bytes} (hs : C01.StringOrMissing s now k)
    {v' : Val} {e' : Option Int} {r : Out}
    (hf : ∃ ops, f (strOf (strAt s now k)) = some (some v', e', ops, r)) (hfe : FutureExp now e') :
    (keyTx true (some (.str [])) miss nov (decStrWrite f fail) s now k).2 = r ∧
    Hot (keyTx true (some (.str [])) miss nov (decStrWrite f fail) s now k).1 k v' now ∧
    HotExp (keyTx true (some (.str [])) miss nov (decStrWrite f fail) s now k).1 k
      (e'.getD ((liveExp s now k).getD 0)) := by
  obtain ⟨heq, hot1, he1⟩ := strWrite_found f fail miss nov hs
  obtain ⟨ops, hf⟩ := hf
  rw [heq, strAct, hf]
  exact ⟨rfl, runAct_put hot1 he1 (some v') e' ops r hfe⟩

theorem strWrite_keep (f : DsStr.S → Option (Option Val × Option Int × List FeedOp × Out)) (fail : DsStr.S → Out)
    (miss : Out) (nov : MState → R) {s : MState} {now : Int} {k : Bytes} (hs : C01.StringOrMissing s now k)
    (hf : f (strOf (strAt s now k)) = none) :
    (keyTx true (some (.str [])) miss nov (decStrWrite f fail) s now k).2 = fail (strOf (strAt s now k)) ∧
    (keyTx true (some (.str [])) miss nov (decStrWrite f fail) s now k).1 = openStr s now k := by
  rw [(strWrite_found f fail miss nov hs).1, strAct, hf]
  exact ⟨rfl, rfl⟩

theorem strWrite_wrongtype (f : DsStr.S → Option (Option Val × Option Int × List FeedOp × Out)) (fail : DsStr.S → Out)
    (mk : Option Val) (miss : Out) (nov : MState → R) {s : MState} {now : Int} {k : Bytes} {v0 : Val}
    (hl : live s now k = some v0) (ht : isStrVal v0 = false) :
    (keyTx true mk miss nov (decStrWrite f fail) s now k).2 = .panic ∧
    ∀ k', lookup (keyTx true mk miss nov (decStrWrite f fail) s now k).1 now k' = lookup s now k' := by
  obtain ⟨heq, _, _, hlk, _⟩ := keyTx_found true mk miss nov (decStrWrite f fail) hl
  rw [heq, decStrWrite_str, ht]
  exact ⟨rfl, hlk⟩

theorem strWrite_upd (f : DsStr.S → Option (Option Val × Option Int × List FeedOp × Out)) (fail : DsStr.S → Out)
    (mk : Option Val) (miss : Out) (nov : MState → R) (s : MState) (now : Int) (k : Bytes) :
    Upd k (writeKey s now k mk).1 (keyTx true mk miss nov (decStrWrite f fail) s now k).1 :=
  upd_keyTx true mk miss nov _ nofun (decStrWrite_ne_drop f fail) s now k

theorem strRead_eq (s : MState) (now : Int) (k : Bytes) (dflt : Out) (f : DsStr.S → Out) :
    (let r := readKey s now k
     if !r.2 then (r.1, dflt) else
     match asStr r.1 k with
     | none => (r.1, .panic)
     | some v => (r.1, f v)) = ((readKey s now k).1, match live s now k with
      | none => dflt
      | some v => if isStrVal v then f (strOf v) else .panic) := by
  refine (C11.strRead_eq f dflt s now k).trans ?_
  cases hl : live s now k with
  | none => exact (keyTx_missing false dflt _ (decStrRead f) hl).1
  | some v =>
    rw [(keyTx_found false none dflt _ (decStrRead f) hl).1]
    cases v <;> rfl

end tx

theorem get_hot {s : MState} {k : Bytes} {v : Val} {now : Int} (h : Hot s k v now) (hs : isStrVal v = true) :
    (Api.get s now k).2 = .bytes (strOf v) := by
  rw [show Api.get s now k = _ from strRead_eq s now k (.bytes none) .bytes, live_of_hot h]
  simp only [hs, if_true]

theorem type_live (s : MState) (now : Int) (k : Bytes) :
    (Api.type_ s now k).2 = .str (Bytes.ofString (match live s now k with
      | none => "none"
      | some v => typeName v.typeCode)) ∧
    (Api.type_ s now k).1 = (readKey s now k).1 := by
  -- read off the definition, not `C11.type_eq`: the second conjunct names the very state `readKey` returns
  obtain ⟨h1, h2⟩ := readKey_live s now k
  unfold Api.type_
  rw [show readKey s now k = ((readKey s now k).1, (readKey s now k).2) from rfl, h1]
  cases hl : live s now k with
  | none => exact ⟨rfl, rfl⟩
  | some v =>
    simp only [Option.isSome_some, Bool.not_true, Bool.false_eq_true, if_false]
    rw [valOf_hot (h2 v hl)]
    exact ⟨rfl, rfl⟩

section writers
open NodisVerif.Proofs.C11 (keyTx decStrWrite)

theorem setOpt_ok (s : MState) (now : Int) (k : Bytes) (v : DsStr.S) (keep : Bool)
    (hs : ∀ v0, live s now k = some v0 → isStrVal v0 = true) :
    (Api.setOpt s now k v keep).2 = .unit ∧ Hot (Api.setOpt s now k v keep).1 k (strVal v) now ∧
    HotExp (Api.setOpt s now k v keep).1 k (if keep then (liveExp s now k).getD 0 else 0) := by
  rw [C11.setOpt_eq]
  have := strWrite_put (fun _ => some (some (Api.strVal v), if keep then none else some 0,
    [Api.opSet k (DsStr.bytes v) keep], .unit)) (fun _ => .panic) .unit C11.Cmd.pan hs ⟨_, rfl⟩
    (futureExp_keep now keep)
  refine ⟨this.1, this.2.1, ?_⟩
  cases keep <;> exact this.2.2

theorem setOpt_upd (s : MState) (now : Int) (k : Bytes) (v : DsStr.S) (keep : Bool) :
    Upd k (openStr s now k) (Api.setOpt s now k v keep).1 := by
  rw [C11.setOpt_eq]; exact strWrite_upd _ _ _ _ _ s now k

theorem set_eq_setOpt (s : MState) (now : Int) (k v : Bytes) (keep : Bool) :
    Api.set s now k v keep = Api.setOpt s now k (some v) keep := rfl

theorem set_ok (s : MState) (now : Int) (k v : Bytes) (keep : Bool)
    (hs : C01.StringOrMissing s now k) :
    (Api.set s now k v keep).2 = .unit ∧ Hot (Api.set s now k v keep).1 k (.str v) now ∧
    HotExp (Api.set s now k v keep).1 k (if keep then (liveExp s now k).getD 0 else 0) :=
  setOpt_ok s now k (some v) keep hs

theorem set_upd (s : MState) (now : Int) (k v : Bytes) (keep : Bool) :
    Upd k (openStr s now k) (Api.set s now k v keep).1 :=
  setOpt_upd s now k (some v) keep

theorem set_wrongtype (s : MState) (now : Int) (k v : Bytes) (keep : Bool) (v0 : Val)
    (hl : live s now k = some v0) (ht : isStrVal v0 = false) :
    (Api.set s now k v keep).2 = .panic ∧
    (∀ k', lookup (Api.set s now k v keep).1 now k' = lookup s now k') := by
  rw [C11.set_eq]; exact strWrite_wrongtype _ _ _ _ _ hl ht

theorem setPX_ok (s : MState) (now : Int) (k v : Bytes) (ms : Int)
    (hs : C01.StringOrMissing s now k)
    (he : wrap64 (now + ms) = 0 ∨ now < wrap64 (now + ms)) :
    (Api.setPX s now k v ms).2 = .unit ∧ Hot (Api.setPX s now k v ms).1 k (.str v) now ∧
    HotExp (Api.setPX s now k v ms).1 k (wrap64 (now + ms)) := by
  rw [C11.setPX_eq]
  refine strWrite_put (e' := some (wrap64 (now + ms))) _ _ .unit C11.Cmd.pan hs ?_ (fun x hx => ?_)
  · exact ⟨_, rfl⟩
  · cases hx; exact he

theorem setPX_upd (s : MState) (now : Int) (k v : Bytes) (ms : Int) :
    Upd k (openStr s now k) (Api.setPX s now k v ms).1 := by
  rw [C11.setPX_eq]
  exact strWrite_upd _ _ _ _ _ s now k

theorem setEX_eq_setPX (s : MState) (now : Int) (k v : Bytes) (seconds : Int) :
    Api.setEX s now k v seconds = Api.setPX s now k v (wrap64 (seconds * 1000)) := rfl

theorem put_exp_eq (s : MState) (k : Bytes) (v : Val) (e : Int) (op : FeedOp) :
    emit (signal (setExp (setVal s k v) k e) k) op = (C11.runAct s k (.put (some v) (some e) [op] .unit)).1 := rfl

theorem put_eq (s : MState) (k : Bytes) (v : Val) (op : FeedOp) :
    emit (signal (setVal s k v) k) op = (C11.runAct s k (.put (some v) none [op] .unit)).1 := rfl

theorem getSet_ok (s : MState) (now : Int) (k v : Bytes)
    (hs : C01.StringOrMissing s now k) :
    (Api.getSet s now k v).2 = .bytes ((live s now k).bind strOf) ∧ Hot (Api.getSet s now k v).1 k (.str v) now ∧
    HotExp (Api.getSet s now k v).1 k 0 := by
  rw [C11.getSet_eq, writeKey_none_flag]
  cases hl : live s now k with
  | none =>
    obtain ⟨h1, h3⟩ := hot_newKeyWith (writeKey s now k none).1 k none (.str []) now
    simp only [Option.isSome_none, Bool.not_false, if_true]
    rw [put_exp_eq]
    exact ⟨rfl, KeyTx.runAct_put h1 h3 (some (.str v)) (some 0) [opSet k v false] .unit
      (fun x hx => by cases hx; exact Or.inl rfl)⟩
  | some v0 =>
    obtain ⟨heq, hot1, he1, _⟩ := KeyTx.keyTx_found true none (.bytes none) C11.Cmd.pan
      (C11.decGetSet k v) hl
    simp only [Option.isSome_some, Bool.not_true, Bool.false_eq_true, if_false]
    rw [heq, C11.decGetSet, decStrWrite_str, hs v0 hl]
    exact ⟨rfl, KeyTx.runAct_put hot1 he1 (some (.str v)) (some 0) _ _ (fun x hx => by cases hx; exact Or.inl rfl)⟩

theorem getSet_wrongtype (s : MState) (now : Int) (k v : Bytes) (v0 : Val)
    (hl : live s now k = some v0) (ht : isStrVal v0 = false) :
    (Api.getSet s now k v).2 = .panic ∧
    (∀ k', lookup (Api.getSet s now k v).1 now k' = lookup s now k') := by
  rw [C11.getSet_eq, writeKey_none_flag, hl]
  simp only [Option.isSome_some, Bool.not_true, Bool.false_eq_true, if_false]
  exact strWrite_wrongtype _ _ _ _ _ hl ht

theorem getSet_upd (s : MState) (now : Int) (k v : Bytes) :
    Upd k (writeKey s now k none).1 (Api.getSet s now k v).1 := by
  rw [C11.getSet_eq]
  cases (writeKey s now k none).2
  · simp only [Bool.not_false, if_true]
    rw [put_exp_eq]
    exact .trans (.newKey _ none _) (upd_runAct k _ _ nofun)
  · simp only [Bool.not_true, Bool.false_eq_true, if_false]
    exact strWrite_upd _ _ _ _ _ s now k

theorem setNX_def (s : MState) (now : Int) (k v : Bytes) (keep : Bool) :
    Api.setNX s now k v keep =
      if (writeKey s now k none).2 then ((writeKey s now k none).1, .bool false) else
      (emit (signal (setVal (if keep then newKeyWith (writeKey s now k none).1 k none (.str [])
                else setExp (newKeyWith (writeKey s now k none).1 k none (.str [])) k 0) k (.str v)) k)
        (opSet k v keep), .bool true) := by
  cases keep <;> rfl

theorem setNX_absent (s : MState) (now : Int) (k v : Bytes) (keep : Bool) (hl : live s now k = none) :
    (Api.setNX s now k v keep).2 = .bool true ∧ Hot (Api.setNX s now k v keep).1 k (.str v) now ∧
    HotExp (Api.setNX s now k v keep).1 k 0 := by
  obtain ⟨h1, h3⟩ := hot_newKeyWith (writeKey s now k none).1 k none (.str []) now
  rw [setNX_def, writeKey_none_flag, hl]
  simp only [Option.isSome_none, Bool.false_eq_true, if_false]
  rw [put_eq]
  cases keep
  · obtain ⟨m, hm, hok, _, hv⟩ := h1
    have hg := getMeta_setExp_same _ k 0 m hm
    exact ⟨trivial, KeyTx.runAct_put ⟨_, hg, hok, rfl, hv⟩ ⟨_, hg, rfl⟩ _ none _ _ (fun _ hx => by cases hx)⟩
  · exact ⟨trivial, KeyTx.runAct_put h1 h3 _ none _ _ (fun _ hx => by cases hx)⟩

theorem setNX_present (s : MState) (now : Int) (k v : Bytes) (keep : Bool) (v0 : Val) (hl : live s now k = some v0) :
    (Api.setNX s now k v keep).2 = .bool false ∧
    (∀ k', lookup (Api.setNX s now k v keep).1 now k' = lookup s now k') := by
  rw [setNX_def, writeKey_none_flag, hl]
  exact ⟨rfl, lookup_writeKey_none s now k⟩

theorem setNX_upd (s : MState) (now : Int) (k v : Bytes) (keep : Bool) :
    Upd k (writeKey s now k none).1 (Api.setNX s now k v keep).1 := by
  rw [setNX_def]
  cases (writeKey s now k none).2
  · simp only [Bool.false_eq_true, if_false]
    rw [put_eq]
    cases keep
    · simp only [Bool.false_eq_true, if_false]
      exact .trans (.newKey _ none _) (.trans (.setExp _ 0) (upd_runAct k _ _ nofun))
    · simp only [if_true]
      exact .trans (.newKey _ none _) (upd_runAct k _ _ nofun)
  · exact .refl _

theorem setXX_absent (s : MState) (now : Int) (k v : Bytes) (keep : Bool) (hl : live s now k = none) :
    (Api.setXX s now k v keep).2 = .bool false ∧
    (∀ k', lookup (Api.setXX s now k v keep).1 now k' = lookup s now k') := by
  obtain ⟨heq, hlk, _⟩ := KeyTx.keyTx_missing true (.bool false) C11.Cmd.pan (C11.decSetXX k v keep) hl
  rw [C11.setXX_eq, heq]
  exact ⟨rfl, hlk⟩

theorem setXX_present (s : MState) (now : Int) (k v : Bytes) (keep : Bool) (v0 : Val) (hl : live s now k = some v0) :
    (isStrVal v0 = true →
      (Api.setXX s now k v keep).2 = .bool true ∧ Hot (Api.setXX s now k v keep).1 k (.str v) now ∧
      HotExp (Api.setXX s now k v keep).1 k (if keep then (liveExp s now k).getD 0 else 0)) ∧
    (isStrVal v0 = false →
      (Api.setXX s now k v keep).2 = .panic ∧
      (∀ k', lookup (Api.setXX s now k v keep).1 now k' = lookup s now k')) := by
  rw [C11.setXX_eq]
  refine ⟨fun ht => ?_, fun ht => strWrite_wrongtype _ _ _ _ _ hl ht⟩
  obtain ⟨heq, hot1, he1, _⟩ := KeyTx.keyTx_found true none (.bool false) C11.Cmd.pan
    (C11.decSetXX k v keep) hl
  have := KeyTx.runAct_put hot1 he1 (some (.str v)) (if keep then none else some 0) [opSet k v keep] (.bool true)
    (futureExp_keep now keep)
  rw [heq, C11.decSetXX, decStrWrite_str, ht]
  refine ⟨rfl, this.1, ?_⟩
  cases keep <;> exact this.2

theorem setXX_upd (s : MState) (now : Int) (k v : Bytes) (keep : Bool) :
    Upd k (writeKey s now k none).1 (Api.setXX s now k v keep).1 := by
  rw [C11.setXX_eq]; exact strWrite_upd _ _ _ _ _ s now k

/-- the counter step the command performs on the string it finds -/
def counterStep (o : DsStr.S) (delta : Int) (neg : Bool) : Option (DsStr.S × Int) :=
  if neg then DsStr.decr o delta else DsStr.incr o delta

theorem addInt_ok (s : MState) (now : Int) (k : Bytes) (delta : Int) (neg sw : Bool)
    (hs : C01.StringOrMissing s now k) :
    match counterStep (strOf (strAt s now k)) delta neg with
    | none =>
      (Api.addInt s now k delta neg sw).2 = .many [.int 0, .err true] ∧
      (Api.addInt s now k delta neg sw).1 = (openStr s now k)
    | some (v', n) =>
      (Api.addInt s now k delta neg sw).2 = .many [.int n, .err false] ∧
      Hot (Api.addInt s now k delta neg sw).1 k (strVal v') now ∧
      HotExp (Api.addInt s now k delta neg sw).1 k ((liveExp s now k).getD 0) := by
  rw [C11.addInt_eq]
  cases hc : counterStep (strOf (strAt s now k)) delta neg with
  | none =>
    refine strWrite_keep _ _ .unit C11.Cmd.pan hs ?_
    unfold counterStep at hc
    simp only [hc]
  | some p =>
    obtain ⟨v', n⟩ := p
    refine strWrite_put (e' := none) _ _ .unit C11.Cmd.pan hs
      ⟨[Api.opSet k (formatInt n) false], ?_⟩ nofun
    unfold counterStep at hc
    simp only [hc]

theorem setBit_ok (s : MState) (now : Int) (k : Bytes) (offset : Int) (value : Bool)
    (hs : C01.StringOrMissing s now k) :
    (Api.setBit s now k offset value).2 = .int (DsStr.setBit (strOf (strAt s now k)) offset value).2 ∧
    Hot (Api.setBit s now k offset value).1 k (strVal (DsStr.setBit (strOf (strAt s now k)) offset value).1) now ∧
    HotExp (Api.setBit s now k offset value).1 k ((liveExp s now k).getD 0) := by
  rw [C20.setBit_eq]
  exact strWrite_put (e' := none) _ _ .unit C11.Cmd.pan hs ⟨_, rfl⟩ nofun

theorem append_ok (s : MState) (now : Int) (k : Bytes) (data : Bytes)
    (hs : C01.StringOrMissing s now k) :
    (Api.append s now k data).2 = .int (DsStr.append (strOf (strAt s now k)) data).2 ∧
    Hot (Api.append s now k data).1 k (strVal (DsStr.append (strOf (strAt s now k)) data).1) now ∧
    HotExp (Api.append s now k data).1 k ((liveExp s now k).getD 0) := by
  rw [C11.append_eq]
  exact strWrite_put (e' := none) _ _ .unit C11.Cmd.pan hs ⟨_, rfl⟩ nofun

theorem setRange_ok (s : MState) (now : Int) (k : Bytes) (offset : Int) (data : Bytes)
    (hs : C01.StringOrMissing s now k) :
    match DsStr.setRange (strOf (strAt s now k)) offset data with
    | none =>
      (Api.setRange s now k offset data).2 = .panic ∧
      (Api.setRange s now k offset data).1 = (openStr s now k)
    | some (v', n) =>
      (Api.setRange s now k offset data).2 = .int n ∧
      Hot (Api.setRange s now k offset data).1 k (strVal v') now ∧
      HotExp (Api.setRange s now k offset data).1 k ((liveExp s now k).getD 0) := by
  rw [C20.setRange_eq]
  cases hc : DsStr.setRange (strOf (strAt s now k)) offset data with
  | none =>
    refine strWrite_keep _ _ .unit C11.Cmd.pan hs ?_
    simp only [hc]
  | some p =>
    obtain ⟨v', n⟩ := p
    refine strWrite_put (e' := none) _ _ .unit C11.Cmd.pan hs ⟨[Api.opSet k (DsStr.bytes v') false], ?_⟩ nofun
    simp only [hc]

theorem addInt_upd (s : MState) (now : Int) (k : Bytes) (d : Int) (neg sw : Bool) :
    Upd k (openStr s now k) (Api.addInt s now k d neg sw).1 := by
  rw [C11.addInt_eq]; exact strWrite_upd _ _ _ _ _ s now k

theorem setBit_upd (s : MState) (now : Int) (k : Bytes) (off : Int) (x : Bool) :
    Upd k (openStr s now k) (Api.setBit s now k off x).1 := by
  rw [C20.setBit_eq]
  exact strWrite_upd _ _ _ _ _ s now k

theorem append_upd (s : MState) (now : Int) (k d : Bytes) :
    Upd k (openStr s now k) (Api.append s now k d).1 := by
  rw [C11.append_eq]; exact strWrite_upd _ _ _ _ _ s now k

theorem setRange_upd (s : MState) (now : Int) (k : Bytes) (off : Int) (d : Bytes) :
    Upd k (openStr s now k) (Api.setRange s now k off d).1 := by
  rw [C20.setRange_eq]
  exact strWrite_upd _ _ _ _ _ s now k

end writers

def existsStep (now : Int) (acc : MState × Int) (key : Bytes) : MState × Int :=
  ((readKey acc.1 now key).1, if (readKey acc.1 now key).2 then acc.2 + 1 else acc.2)

theorem exists_eq (s : MState) (now : Int) (keys : List Bytes) :
    Api.exists_ s now keys =
      ((keys.foldl (existsStep now) (s, 0)).1, .int (keys.foldl (existsStep now) (s, 0)).2) := rfl

theorem exists_fold (now : Int) : ∀ (keys : List Bytes) (s : MState) (c : Int),
    (keys.foldl (existsStep now) (s, c)).2 = c + ((keys.filter fun k => (live s now k).isSome).length : Nat) ∧
    (∀ k', lookup (keys.foldl (existsStep now) (s, c)).1 now k' = lookup s now k') ∧
    (IndexSorted s → IndexSorted (keys.foldl (existsStep now) (s, c)).1) := by
  intro keys
  induction keys with
  | nil => intro s c; exact ⟨by simp, fun _ => rfl, fun h => h⟩
  | cons key rest ih =>
    intro s c
    rw [List.foldl_cons]
    obtain ⟨i1, i2, i3⟩ := ih (existsStep now (s, c) key).1 (existsStep now (s, c) key).2
    have hlk : ∀ k', lookup (existsStep now (s, c) key).1 now k' = lookup s now k' :=
      fun k' => lookup_readKey s now key k'
    have hlive : ∀ k', live (existsStep now (s, c) key).1 now k' = live s now k' := fun k' => live_congr (hlk k')
    refine ⟨?_, fun k' => (i2 k').trans (hlk k'), fun h => i3 (readKey_sorted s now key h)⟩
    rw [show existsStep now (s, c) key = ((existsStep now (s, c) key).1, (existsStep now (s, c) key).2) from rfl] at i1
    rw [i1]
    simp only [hlive]
    show (if (readKey s now key).2 = true then c + 1 else c) + _ = _
    rw [(readKey_live s now key).1, List.filter_cons]
    cases (live s now key).isSome
    · simp
    · simp only [if_true, List.length_cons]; omega

/-- unlink the record (with its backend entry) and tell the watchers of the name -/
def delKeySig (s : MState) (key : Bytes) : MState :=
  emit { delKey s key with signalled := key :: s.signalled } { typ := 2, key := key }

theorem delKeySig_sorted (s : MState) (k : Bytes) (h : IndexSorted s) : IndexSorted (delKeySig s k) :=
  emit_sorted _ _ (delKey_sorted s k h)
theorem lookup_delKeySig (s : MState) (now : Int) (k k' : Bytes) :
    lookup (delKeySig s k) now k' = lookup (delKey s k) now k' :=
  lookup_congr (s := { delKey s k with signalled := k :: s.signalled }) (sameDisk_emit _ _) now k' (getMeta_emit _ _ k')
def delStep (now : Int) (acc : MState × Int) (key : Bytes) : MState × Int :=
  if !(writeKey acc.1 now key none).2 then ((writeKey acc.1 now key none).1, acc.2)
  else (delKeySig (writeKey acc.1 now key none).1 key, acc.2 + 1)

theorem del_eq (s : MState) (now : Int) (keys : List Bytes) :
    Api.del s now keys = ((keys.foldl (delStep now) (s, 0)).1, .int (keys.foldl (delStep now) (s, 0)).2) := by
  unfold Api.del
  have : (fun (acc : MState × Int) key =>
      match writeKey acc.1 now key none with
      | (s, ok) => if (!ok) = true then (s, acc.2)
        else (emit { delKey s key with signalled := key :: s.signalled } { typ := 2, key := key }, acc.2 + 1)) =
      delStep now := by
    funext acc key
    unfold delStep
    rfl
  simp only [this]

open Spec.Str in
theorem ks_get_del (ks : Keyspace) (key k : Bytes) :
    Keyspace.get (Keyspace.del ks key) k = if k = key then none else Keyspace.get ks k := by
  unfold Keyspace.get Keyspace.del
  rw [List.find?_filter]
  by_cases h : k = key
  · subst h
    rw [if_pos rfl, List.find?_eq_none.mpr (fun p _ => by simp)]
    rfl
  · rw [if_neg h]
    congr 2
    funext p
    by_cases e : p.1 = k
    · simp [e, h]
    · simp [e]

open Spec.Str in
theorem ks_exists_del (ks : Keyspace) (key k : Bytes) :
    Keyspace.exists_ (Keyspace.del ks key) k = (decide (k ≠ key) && Keyspace.exists_ ks k) := by
  unfold Keyspace.exists_
  rw [ks_get_del]
  by_cases h : k = key <;> simp [h]

open Spec.Str in
theorem ks_get_set (ks : Keyspace) (key v k : Bytes) :
    Keyspace.get (Keyspace.set ks key v) k = if k = key then some v else Keyspace.get ks k := by
  unfold Keyspace.set
  by_cases h : k = key
  · subst h; simp [Keyspace.get]
  · have h' : ¬ key = k := fun e => h e.symm
    have := ks_get_del ks key k
    simp only [h, if_false] at this ⊢
    rw [← this]
    simp [Keyspace.get, h']

/-- the model keyspace and a reference keyspace agree on which keys exist -/
def SameKeys (ks : Spec.Str.Keyspace) (s : MState) (now : Int) : Prop :=
  ∀ k, Spec.Str.Keyspace.exists_ ks k = (live s now k).isSome

theorem delStep_spec (s : MState) (now : Int) (key : Bytes) (c : Int) (hs : IndexSorted s) :
    (delStep now (s, c) key).2 = c + (if (live s now key).isSome then 1 else 0) ∧
    IndexSorted (delStep now (s, c) key).1 ∧
    (∀ k', k' ≠ key → lookup (delStep now (s, c) key).1 now k' = lookup s now k') ∧
    live (delStep now (s, c) key).1 now key = none := by
  have hlk := lookup_writeKey_none s now key
  have hsorted := writeKey_sorted s now key none hs
  unfold delStep
  simp only
  rw [writeKey_none_flag]
  cases hl : live s now key with
  | none =>
    simp only [Option.isSome_none, Bool.not_false, if_true, Bool.false_eq_true, if_false]
    exact ⟨by omega, hsorted, fun k' _ => hlk k', by rw [live_congr (hlk key), hl]⟩
  | some v =>
    simp only [Option.isSome_some, Bool.not_true, Bool.false_eq_true, if_false, if_true]
    refine ⟨trivial, delKeySig_sorted _ _ hsorted, fun k' hk' => ?_, ?_⟩
    · rw [lookup_delKeySig, lookup_delKey_other _ now key k' hk', hlk k']
    · rw [live_eq_of_lookup, lookup_delKeySig, lookup_delKey_same _ now key hsorted]

open Spec.Str in
theorem sameKeys_del {ks : Keyspace} {s s2 : MState} {now : Int} {key : Bytes} (hr : SameKeys ks s now)
    (hd : live s2 now key = none) (ho : ∀ k', k' ≠ key → lookup s2 now k' = lookup s now k') :
    SameKeys (Keyspace.del ks key) s2 now := by
  intro k
  rw [ks_exists_del]
  by_cases e : k = key
  · subst e; rw [hd]; simp
  · rw [live_congr (ho k e), ← hr k]; simp [e]

open Spec.Str in
theorem del_fold (now : Int) : ∀ (keys : List Bytes) (s : MState) (c : Int) (ks : Keyspace),
    IndexSorted s → SameKeys ks s now →
    (keys.foldl (delStep now) (s, c)).2 = c + ((Keyspace.delMany ks keys).2 : Nat) ∧
    SameKeys (Keyspace.delMany ks keys).1 (keys.foldl (delStep now) (s, c)).1 now ∧
    IndexSorted (keys.foldl (delStep now) (s, c)).1 ∧
    (∀ k', k' ∉ keys → lookup (keys.foldl (delStep now) (s, c)).1 now k' = lookup s now k') ∧
    (∀ k', k' ∈ keys → live (keys.foldl (delStep now) (s, c)).1 now k' = none) := by
  intro keys
  induction keys with
  | nil =>
    intro s c ks hs hr
    exact ⟨by simp [Keyspace.delMany], hr, hs, fun _ _ => rfl, fun _ h => by cases h⟩
  | cons key rest ih =>
    intro s c ks hs hr
    rw [List.foldl_cons]
    obtain ⟨hc2, hs2, hfr, hdead⟩ := delStep_spec s now key c hs
    generalize delStep now (s, c) key = p at hc2 hs2 hfr hdead ⊢
    obtain ⟨s2, c2⟩ := p
    obtain ⟨i1, i2, i3, i4, i5⟩ := ih s2 c2 (Keyspace.del ks key) hs2 (sameKeys_del hr hdead hfr)
    refine ⟨?_, i2, i3, ?_, ?_⟩
    · rw [i1, show c2 = _ from hc2, ← hr key]
      simp only [Keyspace.delMany]
      cases Keyspace.exists_ ks key <;> simp <;> omega
    · intro k' hk'
      rw [i4 k' (fun e => hk' (List.mem_cons_of_mem _ e)), hfr k' (fun e => hk' (by rw [e]; exact List.mem_cons_self))]
    · intro k' hk'
      by_cases hin : k' ∈ rest
      · exact i5 k' hin
      · rcases List.mem_cons.mp hk' with h | h
        · rw [live_congr (i4 k' hin), h]; exact hdead
        · exact absurd h hin

theorem keys_eq (s : MState) (now : Int) (pat : Bytes) :
    Api.keys s now pat = (s, .slist (((logical s now).map (·.1)).filter (Glob.matched pat))) := by
  unfold Api.keys logical
  rw [List.map_map, List.filter_map, List.filter_filter]
  rfl

/-- what the tail of RENAME / RENAMENX (`C11.renameTail`; RENAMENX's `C20.nxTail` is the case of a missing
    destination) does to a keyspace in which the source is live: the source is unlinked, its value object and
    deadline sit under `dst`, no other name is touched -/
theorem renameTail_live {s2 : MState} {dok : Bool} {m : Meta} {v : Val} {key dst : Bytes} {now : Int} (op : FeedOp)
    (hs : IndexSorted s2) (hne : key ≠ dst) (hv : m.value = some v) (hex : m.expired now = false)
    (hd : dok = true → ∃ d, getMeta (delKey s2 key) dst = some d) :
    live (emit (C11.renameTail s2 dok m key dst) op) now key = none ∧
    Hot (emit (C11.renameTail s2 dok m key dst) op) dst v now ∧
    HotExp (emit (C11.renameTail s2 dok m key dst) op) dst m.exp ∧
    (∀ k', k' ≠ key → k' ≠ dst → lookup (emit (C11.renameTail s2 dok m key dst) op) now k' = lookup s2 now k') ∧
    IndexSorted (emit (C11.renameTail s2 dok m key dst) op) := by
  have hmem : dst ∈ [dst] := List.mem_cons_self
  -- either way the tail is a `putMeta` of `C11.renameRec` into a state `S` framed from `delKey s2 key`
  have put : ∀ (S : MState) (base : Meta) (σ : List Bytes), FrameOn [dst] (delKey s2 key) S → S.index = (delKey s2 key).index →
      ∀ s', s' = emit { putMeta S dst (C11.renameRec base m v) with signalled := σ } op →
      live s' now key = none ∧ Hot s' dst v now ∧ HotExp s' dst m.exp ∧
      (∀ k', k' ≠ key → k' ≠ dst → lookup s' now k' = lookup s2 now k') ∧ IndexSorted s' := by
    intro S base σ f hi s' e
    subst e
    have hg : getMeta (emit { putMeta S dst (C11.renameRec base m v) with signalled := σ } op) dst =
        some (C11.renameRec base m v) := by
      rw [getMeta_emit]; exact getMeta_putMeta_same S dst _
    have fall := f.trans ((frameOn_putMeta S dst (C11.renameRec base m v) hmem).trans
      ((frameOn_same (s' := { putMeta S dst (C11.renameRec base m v) with signalled := σ }) ⟨rfl, rfl⟩
        (fun _ _ => rfl)).trans (frameOn_emit _ op)))
    refine ⟨?_, ⟨_, hg, ?_, hex, rfl⟩, ⟨_, hg, rfl⟩, fun k' h1 h2 => ?_,
      emit_sorted _ _ (putMeta_sorted S dst _ (by rw [hi]; exact delKey_sorted s2 key hs))⟩
    · rw [live_eq_of_lookup, frameOn_lookup fall now key (by simpa using hne), lookup_delKey_same s2 now key hs]
    · unfold C11.renameRec; rw [markModified_isOk]; exact setValue_isOk _ v
    · rw [frameOn_lookup fall now k' (by simpa using h2), lookup_delKey_other s2 now key k' h1]
  cases dok with
  | true =>
    obtain ⟨d, hd⟩ := hd rfl
    exact put _ d _ (FrameOn.refl _ _) rfl _ (by rw [C11.renameTail_dok hv hd])
  | false =>
    refine put (C11.dropEntries { delKey s2 key with nextId := (delKey s2 key).nextId + 1 } dst) _ _ ?_ ?_ _
      (by rw [C11.renameTail_miss hv])
    · have f1 : FrameOn [dst] (delKey s2 key) { delKey s2 key with nextId := (delKey s2 key).nextId + 1 } :=
        frameOn_same ⟨rfl, rfl⟩ (fun _ _ => rfl)
      unfold C11.dropEntries
      split
      · exact f1.trans (frameOn_unpersist _ dst _ hmem)
      · exact f1
    · unfold C11.dropEntries
      split
      · rw [unpersist_index]
      · rfl

theorem rename_missing (s : MState) (now : Int) (key dst : Bytes) (hl : live s now key = none) :
    (Api.rename s now key dst).2 = .err true ∧
    (∀ k', lookup (Api.rename s now key dst).1 now k' = lookup s now k') := by
  rw [C11.rename_eq, writeKey_none_flag, hl]
  exact ⟨rfl, lookup_writeKey_none s now key⟩

theorem rename_same (s : MState) (now : Int) (key : Bytes) (v : Val) (hl : live s now key = some v) :
    (Api.rename s now key key).2 = .err false ∧
    (∀ k', lookup (Api.rename s now key key).1 now k' = lookup s now k') := by
  obtain ⟨_, ⟨m, hm, _⟩, _⟩ := writeKey_live s now key none v hl
  rw [C11.rename_eq, writeKey_none_flag, hl, hm]
  simp only [Option.isSome_some, Bool.not_true, Bool.false_eq_true, if_false, if_true]
  exact ⟨trivial, lookup_writeKey_none s now key⟩

theorem rename_ok (s : MState) (now : Int) (key dst : Bytes) (v : Val) (hs : IndexSorted s)
    (hl : live s now key = some v) (hne : key ≠ dst) :
    (Api.rename s now key dst).2 = .err false ∧
    live (Api.rename s now key dst).1 now key = none ∧
    Hot (Api.rename s now key dst).1 dst v now ∧
    HotExp (Api.rename s now key dst).1 dst ((liveExp s now key).getD 0) ∧
    (∀ k', k' ≠ key → k' ≠ dst → lookup (Api.rename s now key dst).1 now k' = lookup s now k') ∧
    IndexSorted (Api.rename s now key dst).1 := by
  obtain ⟨f1, hot1, lk1⟩ := writeKey_live s now key none v hl
  have srt1 := writeKey_sorted s now key none hs
  rw [C11.rename_eq, f1]
  generalize (writeKey s now key none).1 = s1 at *
  obtain ⟨m, hm, hok, hex, hv⟩ := hot1
  obtain ⟨m', hm', he1⟩ := hotExp_of_lookup ⟨m, hm, hok, hex, hv⟩ (lk1 key)
  rw [hm] at hm'; cases hm'
  rw [hm, ← he1]
  simp only [Bool.not_true, Bool.false_eq_true, if_false, hne]
  have f2 := writeKey_none_flag s1 now dst
  have lk2 := lookup_writeKey_none s1 now dst
  -- a destination that `writeKey` reports present is indexed, also after the source was unlinked
  have hd : (writeKey s1 now dst none).2 = true →
      ∃ md, getMeta (delKey (writeKey s1 now dst none).1 key) dst = some md := by
    intro hdok
    rw [hdok] at f2
    obtain ⟨vd, hvd⟩ := Option.isSome_iff_exists.mp f2.symm
    obtain ⟨_, ⟨md, hmd, _⟩, _⟩ := writeKey_live s1 now dst none vd hvd
    exact ⟨md, by rw [getMeta_delKey_other _ key dst (fun e => hne e.symm), hmd]⟩
  obtain ⟨t1, t2, t3, t4, t5⟩ := renameTail_live { typ := 32, key := key, args := [Bytes.toHex dst] }
    (writeKey_sorted s1 now dst none srt1) hne hv hex hd
  exact ⟨trivial, t1, t2, t3, fun k' h1 h2 => by rw [t4 k' h1 h2, lk2 k', lk1 k'], t5⟩

theorem renameNX_dst_exists (s : MState) (now : Int) (key dst : Bytes) (vd : Val) (hl : live s now dst = some vd) :
    (Api.renameNX s now key dst).2 = .err true ∧
    (∀ k', lookup (Api.renameNX s now key dst).1 now k' = lookup s now k') := by
  rw [C20.renameNX_eq, writeKey_none_flag, hl]
  exact ⟨rfl, lookup_writeKey_none s now dst⟩

theorem renameNX_missing (s : MState) (now : Int) (key dst : Bytes) (hd : live s now dst = none)
    (hl : live s now key = none) :
    (Api.renameNX s now key dst).2 = .err true ∧
    (∀ k', lookup (Api.renameNX s now key dst).1 now k' = lookup s now k') := by
  have lk1 := lookup_writeKey_none s now dst
  have hl1 : live (writeKey s now dst none).1 now key = none := by rw [live_congr (lk1 key), hl]
  rw [C20.renameNX_eq, writeKey_none_flag, hd, writeKey_none_flag, hl1]
  refine ⟨rfl, fun k' => ?_⟩
  simp only [Option.isSome_none, Bool.false_eq_true, if_false, Bool.not_false, if_true]
  rw [lookup_writeKey_none, lk1]

theorem renameNX_ok (s : MState) (now : Int) (key dst : Bytes) (v : Val) (hs : IndexSorted s)
    (hd : live s now dst = none) (hl : live s now key = some v) :
    (Api.renameNX s now key dst).2 = .err false ∧
    live (Api.renameNX s now key dst).1 now key = none ∧
    Hot (Api.renameNX s now key dst).1 dst v now ∧
    HotExp (Api.renameNX s now key dst).1 dst ((liveExp s now key).getD 0) ∧
    (∀ k', k' ≠ key → k' ≠ dst → lookup (Api.renameNX s now key dst).1 now k' = lookup s now k') ∧
    IndexSorted (Api.renameNX s now key dst).1 := by
  have hne : key ≠ dst := by
    intro e; subst e; rw [hl] at hd; cases hd
  have lk1 := lookup_writeKey_none s now dst
  have srt1 := writeKey_sorted s now dst none hs
  have hl1 : live (writeKey s now dst none).1 now key = some v := by rw [live_congr (lk1 key), hl]
  rw [C20.renameNX_eq, writeKey_none_flag, hd]
  generalize (writeKey s now dst none).1 = s1 at *
  obtain ⟨f2, hot2, lk2⟩ := writeKey_live s1 now key none v hl1
  have srt2 := writeKey_sorted s1 now key none srt1
  rw [f2]
  generalize (writeKey s1 now key none).1 = s2 at *
  obtain ⟨m, hm, hok, hex, hv⟩ := hot2
  obtain ⟨m', hm', he⟩ := hotExp_of_lookup ⟨m, hm, hok, hex, hv⟩ ((lk2 key).trans (lk1 key))
  rw [hm] at hm'; cases hm'
  rw [hm, ← he]
  simp only [Option.isSome_none, Bool.false_eq_true, if_false, Bool.not_true]
  -- the destination is missing: the tail is RENAME's
  rw [C20.nxTail_eq hv, ← C11.renameTail_miss hv]
  obtain ⟨t1, t2, t3, t4, t5⟩ := renameTail_live (dok := false) (C20.opRename key dst) srt2 hne hv hex nofun
  exact ⟨trivial, t1, t2, t3, fun k' h1 h2 => by rw [t4 k' h1 h2, lk2 k', lk1 k'], t5⟩

theorem set_out (s : MState) (now : Int) (k v : Bytes) (keep : Bool) :
    (Api.set s now k v keep).2 = .unit ∨ (Api.set s now k v keep).2 = .panic := by
  -- whatever the lookup returns, the definition has these two replies only: no lemma about `keyTx` is needed
  unfold Api.set
  generalize writeKey s now k (some (.str [])) = w
  obtain ⟨s1, b⟩ := w
  simp only
  cases asStr s1 k with
  | none => exact Or.inr rfl
  | some o => exact Or.inl rfl

/-- a key/value argument list -/
def flat : List (Bytes × Bytes) → List Bytes
  | [] => []
  | (k, v) :: rest => k :: v :: flat rest

theorem flat_length_even (kvs : List (Bytes × Bytes)) : (flat kvs).length % 2 = 0 := by
  induction kvs with
  | nil => rfl
  | cons a rest ih => obtain ⟨k, v⟩ := a; simp only [flat, List.length_cons]; omega

theorem flat_of_even : ∀ (n : Nat) (l : List Bytes), l.length = 2 * n → ∃ kvs, l = flat kvs := by
  intro n
  induction n with
  | zero => intro l h; exact ⟨[], by cases l with | nil => rfl | cons a r => simp at h⟩
  | succ n ih =>
    intro l h
    match l, h with
    | k :: v :: rest, h =>
      obtain ⟨kvs, e⟩ := ih rest (by simp only [List.length_cons] at h; omega)
      exact ⟨(k, v) :: kvs, by rw [e]; rfl⟩
    | [_], h => simp at h; omega
    | [], h => simp at h

theorem mset_eq (s : MState) (now : Int) (kvs : List (Bytes × Bytes)) :
    Api.mset s now (flat kvs) = Api.mset.go now (flat kvs) s := by
  unfold Api.mset
  rw [if_neg (by rw [flat_length_even]; simp)]

theorem mset_go_nil (s : MState) (now : Int) : Api.mset.go now (flat []) s = (s, .unit) := by
  unfold flat Api.mset.go; rfl

def isUnit : Out → Bool
  | .unit => true
  | _ => false

theorem mset_go_cons (s : MState) (now : Int) (k v : Bytes) (rest : List (Bytes × Bytes)) :
    Api.mset.go now (flat ((k, v) :: rest)) s =
      if isUnit (Api.set s now k v false).2 then Api.mset.go now (flat rest) (commit (Api.set s now k v false).1)
      else ((Api.set s now k v false).1, .panic) := by
  rw [flat, Api.mset.go]
  rcases set_out s now k v false with h | h
  · generalize Api.set s now k v false = r at *
    obtain ⟨s', o⟩ := r
    simp only at h
    subst h
    simp [isUnit]
  · generalize Api.set s now k v false = r at *
    obtain ⟨s', o⟩ := r
    simp only at h
    subst h
    simp [isUnit]

/-- the value the last pair naming `k` assigns -/
def lastVal : List (Bytes × Bytes) → Bytes → Option Bytes
  | [], _ => none
  | (k, v) :: rest, x => match lastVal rest x with
    | some w => some w
    | none => if x = k then some v else none

theorem live_commit (s : MState) (now : Int) (k : Bytes) : live (commit s) now k = live s now k := rfl
theorem lookup_commit (s : MState) (now : Int) (k : Bytes) : lookup (commit s) now k = lookup s now k := rfl

theorem mset_last (now : Int) : ∀ (kvs : List (Bytes × Bytes)) (s : MState) (k v : Bytes),
    ((Api.mset.go now (flat (kvs ++ [(k, v)])) s).2 = .unit ∨ (Api.mset.go now (flat (kvs ++ [(k, v)])) s).2 = .panic) ∧
    ((Api.mset.go now (flat (kvs ++ [(k, v)])) s).2 = .unit →
      lookup (Api.mset.go now (flat (kvs ++ [(k, v)])) s).1 now k = some (some (.str v), 0, true)) := by
  intro kvs
  induction kvs with
  | nil =>
    intro s k v
    rw [List.nil_append, mset_go_cons, mset_go_nil]
    rcases set_out s now k v false with hu | hu
    · rw [if_pos (by rw [hu]; rfl)]
      refine ⟨Or.inl rfl, fun _ => ?_⟩
      -- the key was a string or missing, otherwise SET would have panicked
      have hs : C01.StringOrMissing s now k := by
        intro v0 hl
        cases ht : isStrVal v0 with
        | true => rfl
        | false => rw [(set_wrongtype s now k v false v0 hl ht).1] at hu; cases hu
      obtain ⟨_, h2, h3⟩ := set_ok s now k v false hs
      generalize Api.set s now k v false = r at h2 h3 ⊢
      exact lookup_of_hot (hot_commit h2) h3
    · rw [if_neg (by rw [hu]; simp [isUnit])]
      exact ⟨Or.inr rfl, fun h => by cases h⟩
  | cons a rest ih =>
    intro s k v
    obtain ⟨k0, v0⟩ := a
    rw [List.cons_append, mset_go_cons]
    rcases set_out s now k0 v0 false with hu | hu
    · rw [if_pos (by rw [hu]; rfl)]; exact ih _ k v
    · rw [if_neg (by rw [hu]; simp [isUnit])]
      exact ⟨Or.inr rfl, fun h => by cases h⟩

theorem exists_sorted (s : MState) (now : Int) (keys : List Bytes) (hs : IndexSorted s) :
    IndexSorted (Api.exists_ s now keys).1 := by
  rw [exists_eq]; exact (exists_fold now keys s 0).2.2 hs

theorem mset_go_sorted (now : Int) : ∀ (kvs : List (Bytes × Bytes)) (s : MState), IndexSorted s →
    IndexSorted (Api.mset.go now (flat kvs) s).1 := by
  intro kvs
  induction kvs with
  | nil => intro s hs; rw [mset_go_nil]; exact hs
  | cons a rest ih =>
    intro s hs
    obtain ⟨k, v⟩ := a
    have h1 : IndexSorted (Api.set s now k v false).1 := wk_upd_sorted (set_upd s now k v false) hs
    rw [mset_go_cons]
    generalize Api.set s now k v false = r at h1 ⊢
    split
    · exact ih _ h1
    · exact h1

end NodisVerif.Proofs.C01

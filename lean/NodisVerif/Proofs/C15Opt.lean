import NodisVerif.Model.Resp
/-
  C15 (§4 of Props/C15.lean, after C15Upper.lean): `readOptions` records an option only for an argument that is the word.
-/
namespace NodisVerif.Proofs.C15
open Resp

/-- the `+1` of value-taking options -/
def optPlus (word : String) : Int :=
  if (optionTable.find? (·.1 == word)).map (·.2) == some true then 1 else 0

/-- the scan of `readOptions` for one word, starting at argument index `k` with value `init` -/
def optScan (w : Bytes) (plus : Int) (args : List Bytes) (k : Nat) (init : Int) : Int :=
  (args.zipIdx k).foldl (fun (acc : Int) (p : Bytes × Nat) => if upper p.1 = w then (p.2 : Int) + plus else acc) init

theorem opt_eq_optScan (args : List Bytes) (word : String) :
    opt args word = optScan (Bytes.ofString word) (optPlus word) args 0 0 := by
  unfold opt optScan optPlus
  rfl

theorem optScan_nil (w plus k init) : optScan w plus [] k init = init := rfl

theorem optScan_cons (w plus) (a : Bytes) (t : List Bytes) (k init) :
    optScan w plus (a :: t) k init = optScan w plus t (k + 1) (if upper a = w then (k : Int) + plus else init) := by
  simp [optScan, List.zipIdx_cons]

theorem optScan_none (w plus) : ∀ (args : List Bytes) (k init), (∀ a ∈ args, upper a ≠ w) →
    optScan w plus args k init = init := by
  intro args
  induction args with
  | nil => intros; rfl
  | cons a t ih =>
    intro k init h
    rw [optScan_cons, if_neg (h a (by simp))]
    exact ih _ _ (fun x hx => h x (by simp [hx]))

theorem optScan_append (w plus) : ∀ (pre post : List Bytes) (k init),
    optScan w plus (pre ++ post) k init = optScan w plus post (k + pre.length) (optScan w plus pre k init) := by
  intro pre
  induction pre with
  | nil => intros; simp [optScan_nil]
  | cons a t ih =>
    intro post k init
    simp only [List.cons_append, optScan_cons, ih, List.length_cons]
    congr 1; omega

theorem optScan_last (w plus) (pre : List Bytes) (a : Bytes) (post : List Bytes) (init : Int)
    (ha : upper a = w) (hpost : ∀ b ∈ post, upper b ≠ w) :
    optScan w plus (pre ++ a :: post) 0 init = (pre.length : Int) + plus := by
  rw [optScan_append, optScan_cons, if_pos ha, optScan_none w plus post _ _ hpost]
  simp

theorem last_match_split (w : Bytes) : ∀ (args : List Bytes),
    (∀ a ∈ args, upper a ≠ w) ∨
    ∃ pre a post, args = pre ++ a :: post ∧ upper a = w ∧ ∀ b ∈ post, upper b ≠ w := by
  intro args
  induction args with
  | nil => exact .inl (by simp)
  | cons x t ih =>
    rcases ih with hno | ⟨pre, a, post, rfl, ha, hpost⟩
    · by_cases hx : upper x = w
      · exact .inr ⟨[], x, t, rfl, hx, hno⟩
      · refine .inl ?_
        intro a ha
        simp at ha
        rcases ha with rfl | ha
        · exact hx
        · exact hno a ha
    · exact .inr ⟨x :: pre, a, post, rfl, ha, hpost⟩

end NodisVerif.Proofs.C15

import NodisVerif.Proofs.TxProgBase
import NodisVerif.Proofs.ProtoReg
/-
  Program model of tx.go: the callers' conditions `Guarded`, and the shapes of step that keep `Sim`: `Sim.local` (no
  change of the protocol state), `Sim.event` (one event of the stepping thread), `Sim.setMu` and `sim_release_cur` (one
  record mutex), `sim_maps` (one map update), `sim_claim` (a fresh placeholder).
-/
namespace NodisVerif.Proofs.TxProg
open NodisVerif.Proto (Key Rec Mode Ev Hold TxSt PState assoc erase put Tx)
open NodisVerif.TxProg
open NodisVerif.Proofs.Proto

theorem Sim.update {c : Cfg} {p : PState} (hs : Sim c p) (t : Tid) (s' : Shared) (l' : Loc) (p' : PState)
    (hreach : Reachable p') (hidx : p'.index = s'.index) (hpend : p'.pending = s'.pending)
    (hnames : p'.names = s'.names) (hwf : ∀ r, wfMu (s'.mu r))
    (htx : p'.tx t = absTx l') (hinv : ThreadInv s' t l')
    (hotx : ∀ u, u ≠ t → p'.tx u = p.tx u)
    (hoinv : ∀ u, u ≠ t → ThreadInv s' u (c.loc u)) : Sim ⟨s', setD c.thr t l'⟩ p' where
  reach := hreach
  idx := hidx
  pend := hpend
  names := hnames
  wf := hwf
  tx := loc_set_forall (P := fun u l => p'.tx u = absTx l) htx fun u h => by rw [hotx u h]; exact hs.tx u
  thr := loc_set_forall hinv hoinv

theorem ThreadInv.congr {s s' : Shared} {t : Tid} {l : Loc} (h : ThreadInv s t l) (hm : s'.mus = s.mus)
    (hn : s'.names = s.names) : ThreadInv s' t l := by
  have e : ∀ r, s'.mu r = s.mu r := by intro r; simp [Shared.mu, hm]
  exact ⟨fun g hg => by rw [e]; exact h.own g hg,
    fun x hx => by rw [e, hn]; exact h.ext x hx,
    h.facts.mono (by intro x y; rw [hn]; exact id), h.val⟩

theorem Sim.wf_congr {c : Cfg} {p : PState} (hs : Sim c p) {s' : Shared} (hmus : s'.mus = c.sh.mus) (r : Rec) :
    wfMu (s'.mu r) := by
  have : s'.mu r = c.sh.mu r := by simp [Shared.mu, hmus]
  rw [this]; exact hs.wf r

theorem Sim.silent {c : Cfg} {p : PState} (hs : Sim c p) (t : Tid) (s' : Shared) (l' : Loc)
    (hidx : s'.index = c.sh.index) (hpend : s'.pending = c.sh.pending) (hnames : s'.names = c.sh.names)
    (hmus : s'.mus = c.sh.mus) (htx : absTx l' = absTx (c.loc t)) (hinv : ThreadInv c.sh t l') :
    Sim ⟨s', setD c.thr t l'⟩ p := by
  exact hs.update t s' l' p hs.reach (by rw [hidx]; exact hs.idx) (by rw [hpend]; exact hs.pend)
    (by rw [hnames]; exact hs.names) (hs.wf_congr hmus) (by rw [htx]; exact hs.tx t) (hinv.congr hmus hnames)
    (fun _ _ => rfl) (fun u _ => (hs.thr u).congr hmus hnames)

theorem absTx_nextPlan (l : Loc) : absTx (nextPlan l) = some { holds := l.held } := by
  unfold nextPlan; split <;> simp [absTx, holdsOf, waitingOf, committingOf]

-- at the literal pc of the new local state `holdsOf`, `extra`, `Facts` compute: the hypothesis itself, `nofun`, `trivial`
theorem inv_nextPlan {s : Shared} {t : Tid} {l : Loc} (h : ∀ g ∈ l.held, owns (s.mu g.rid) t g.mode)
    (hv : ∀ g ∈ l.held, g.valid = true) : ThreadInv s t (nextPlan l) := by
  unfold nextPlan; split
  · exact ⟨h, nofun, trivial, hv⟩
  · exact ⟨h, nofun, trivial, hv⟩

theorem absTx_retTo (l : Loc) : absTx (retTo l) = some { holds := l.held } := by
  unfold retTo; split
  · exact absTx_nextPlan l
  · simp [absTx, holdsOf, waitingOf, committingOf]
  · simp [absTx, holdsOf, waitingOf, committingOf]

theorem inv_retTo {s : Shared} {t : Tid} {l : Loc} (h : ∀ g ∈ l.held, owns (s.mu g.rid) t g.mode)
    (hv : ∀ g ∈ l.held, g.valid = true) : ThreadInv s t (retTo l) := by
  unfold retTo; split
  · exact inv_nextPlan h hv
  · exact ⟨h, nofun, trivial, hv⟩
  · exact ⟨h, nofun, trivial, hv⟩

theorem absTx_commitNext (s : Shared) (l : Loc) :
    absTx (commitNext s l) = some { holds := l.rest, committing := true } := by
  unfold commitNext
  split
  · rename_i h; simp [absTx, holdsOf, waitingOf, committingOf, h]
  · rename_i h
    split
    · simp [absTx, holdsOf, waitingOf, committingOf, h]
    · split <;> simp [absTx, holdsOf, waitingOf, committingOf, h]

theorem inv_commitNext {s : Shared} {t : Tid} {l : Loc} (hown : ∀ g ∈ l.rest, owns (s.mu g.rid) t g.mode)
    (hnd : NodupRids l.rest) (hnm : ∀ g ∈ l.rest, assoc s.names g.rid = some g.key)
    (hval : ∀ g ∈ l.held, g.valid = true) : ThreadInv s t (commitNext s l) := by
  unfold commitNext
  split
  · exact ⟨by simp [holdsOf], nofun, trivial, hval⟩
  · rename_i h rest hr
    rw [hr] at hown hnd hnm
    have hne : ∀ g ∈ rest, g.rid ≠ h.rid := by
      simp only [NodupRids, List.map_cons, List.nodup_cons] at hnd
      intro g hg e
      exact hnd.1 (e ▸ List.mem_map.2 ⟨g, hg, rfl⟩)
    have hn := hnm h (List.mem_cons_self ..)
    split
    · exact ⟨hown, nofun, ⟨hn, hne⟩, hval⟩
    · split
      · exact ⟨hown, nofun, ⟨hn, hne⟩, hval⟩
      · rename_i hm
        have hw : h.mode = .w := by cases hx : h.mode <;> simp [hx] at hm ⊢
        exact ⟨hown, nofun, ⟨⟨hn, hne⟩, hw⟩, hval⟩

theorem Sim.inv {c : Cfg} {p : PState} (hs : Sim c p) : Inv p := hs.reach.inv

theorem Sim.tx_some {c : Cfg} {p : PState} (hs : Sim c p) (t : Tid) (hpc : (c.loc t).pc ≠ .init) :
    p.tx t = some { holds := holdsOf (c.loc t), waiting := waitingOf (c.loc t), committing := committingOf (c.loc t) } := by
  have := hs.tx t; simpa [absTx, hpc] using this

theorem Sim.holdNamed {c : Cfg} {p : PState} (hs : Sim c p) (u : Tid) (g : Hold) (hg : g ∈ holdsOf (c.loc u)) :
    assoc c.sh.names g.rid = some g.key := by
  by_cases hpc : (c.loc u).pc = .init
  · simp [holdsOf, hpc] at hg
  · rw [← hs.names]; exact hs.inv.holdName u _ g (hs.tx_some u hpc) hg

theorem Sim.nodup {c : Cfg} {p : PState} (hs : Sim c p) (u : Tid) (hpc : (c.loc u).pc ≠ .init) :
    NodupRids (holdsOf (c.loc u)) := hs.inv.holdNodup u _ (hs.tx_some u hpc)

theorem Sim.named {c : Cfg} {p : PState} (hs : Sim c p) {k : Key} {r : Rec} (h : c.sh.lookup k = some r) :
    assoc c.sh.names r = some k := by
  rw [← hs.lookup] at h
  rw [← hs.names]
  rcases lookup_eq_some.1 h with h | ⟨_, h⟩
  · exact hs.inv.idxName k r h
  · exact hs.inv.pendName k r h

theorem Sim.held_of_named {c : Cfg} {p : PState} (hs : Sim c p) {t : Tid} {g : Hold} {r : Rec} {k : Key}
    (hgo : holdOf (c.loc t) r = some g) (hh : holdsOf (c.loc t) = (c.loc t).held) (hn : assoc c.sh.names r = some k) :
    g ∈ (c.loc t).held ∧ g.rid = r ∧ g.key = k := by
  have hmem : g ∈ (c.loc t).held := List.mem_of_find?_eq_some hgo
  have hrid : g.rid = r := by have := List.find?_some hgo; simpa using this
  have h1 := hs.holdNamed t g (hh ▸ hmem)
  rw [hrid, hn] at h1
  exact ⟨hmem, hrid, (Option.some.inj h1).symm⟩

theorem Sim.free_of_extra {c : Cfg} {p : PState} (hs : Sim c p) {t : Tid} {r : Rec} {m : Mode}
    (hx : extra (c.loc t) = some (r, m)) : p.free r m = true := by
  obtain ⟨hown, _, hne⟩ := (hs.thr t).ext _ hx
  -- a holder `u` of `r` in a conflicting mode owns the mutex too, so `u = t` (`owners_compat`); but `t` has no hold on `r`
  have key : ∀ u g, Holds p u g → g.rid = r → (m = .w ∨ g.mode = .w) → False := by
    intro u g ⟨su, h1, h2⟩ hr hm
    by_cases hpc : (c.loc u).pc = .init
    · have := hs.tx u; rw [h1] at this; simp [absTx, hpc] at this
    · rw [hs.tx_some u hpc] at h1
      cases h1
      have ho := (hs.thr u).own g h2
      rw [hr] at ho
      have := owners_compat (hs.wf r) hown ho hm
      subst this
      exact hne g h2 hr
  cases m with
  | w =>
    simp only [PState.free]
    rw [List.isEmpty_iff, List.eq_nil_iff_forall_not_mem]
    intro x hx
    obtain ⟨h1, h2⟩ := mem_heldBy.1 hx
    exact key x.1 x.2 (holds_of_mem_allHolds hs.inv.txNodup h1) h2 (Or.inl rfl)
  | r =>
    simp only [PState.free]
    rw [List.all_eq_true]
    intro x hx
    obtain ⟨h1, h2⟩ := mem_heldBy.1 hx
    cases hm : x.2.mode with
    | r => rfl
    | w => exact (key x.1 x.2 (holds_of_mem_allHolds hs.inv.txNodup h1) h2 (Or.inr hm)).elim

theorem filter_rid_ne {l : List Hold} {r : Rec} (h : ∀ g ∈ l, g.rid ≠ r) : l.filter (fun g => g.rid != r) = l :=
  List.filter_eq_self.2 (fun g hg => by simpa using h g hg)

theorem holdOf_head (h : Hold) (l : List Hold) (w : Option (Key × Rec × Mode)) (cm : Bool) :
    (TxSt.mk (h :: l) w cm).holdOf h.rid = some h := by simp [TxSt.holdOf]

theorem Sim.other_mu {c : Cfg} {p : PState} (hs : Sim c p) (r : Rec) (mu' : Mu) (u : Tid)
    (hm : ∀ m, owns (c.sh.mu r) u m → owns mu' u m) : ThreadInv (c.sh.setMu r mu') u (c.loc u) := by
  refine (hs.thr u).frame (fun _ _ h => h) ?_ (fun g hg => ⟨_, hs.holdNamed u g hg⟩)
  intro r' m ho _
  rw [mu_setMu]
  by_cases h : r' = r
  · subst h; simpa using hm m ho
  · simpa [h] using ho

theorem wf_setMu {s : Shared} (hw : ∀ r, wfMu (s.mu r)) (r : Rec) (mu' : Mu) (h : wfMu mu') :
    ∀ r', wfMu ((s.setMu r mu').mu r') := by
  intro r'; rw [mu_setMu]; by_cases e : r' = r <;> simp [e, h, hw r']

def Simulated (c : Cfg) (p : PState) (t : Tid) (s' : Shared) (l' : Loc) (e : Option Ev) : Prop :=
  ∃ p', optStep p e = some p' ∧ Sim ⟨s', setD c.thr t l'⟩ p'

/-- the conditions that come from outside `acquire` / `newKey` / `delKey` / `commit` themselves: the callers'
    lock order, the mode in which a key to be created / deleted was locked, the atomicity of the
    `s.mu` section of delKey, and that the record gc validated is still the indexed one when it unlinks it -/
def Guarded (c : Cfg) (t : Tid) : Prop :=
  ((c.loc t).pc = .a7 → ∀ g ∈ (c.loc t).held, g.key < (c.loc t).key) ∧
  ((c.loc t).pc = .n3 → assoc c.sh.pending (c.loc t).key = some (c.loc t).m →
      (⟨(c.loc t).m, (c.loc t).key, .w, true⟩ : Hold) ∈ (c.loc t).held) ∧
  ((c.loc t).pc = .d2 → ∀ r h, assoc c.sh.index (c.loc t).key = some r → holdOf (c.loc t) r = some h → h.mode = .w) ∧
  ((c.loc t).pc = .d3 → c.sh.lookup (c.loc t).key = none) ∧
  ((c.loc t).pc = .g8 → assoc c.sh.index (c.loc t).key = some (c.loc t).m)

section Steps
variable {c : Cfg} {p : PState} {t : Tid} {ch : Choice} {s' : Shared} {l' : Loc} {e : Option Ev}

theorem inv_plain {s : Shared} {l : Loc} (hown : ∀ g ∈ l.held, owns (s.mu g.rid) t g.mode)
    (hval : ∀ g ∈ l.held, g.valid = true) (hh : holdsOf l = l.held) (hx : extra l = none) (hf : Facts s l) :
    ThreadInv s t l := ⟨by rw [hh]; exact hown, by simp [hx], hf, hval⟩

/-- The old local state is taken at its program counter `pc` (`{ c.loc t with pc := pc }`), so that with a literal `pc`
    the four readings compute on both sides. -/
theorem Sim.local (hs : Sim c p) {pc : Pc} (hpc : (c.loc t).pc = pc) (hstep : optStep p e = some p)
    (hidx : s'.index = c.sh.index) (hpend : s'.pending = c.sh.pending) (hnames : s'.names = c.sh.names)
    (hmus : s'.mus = c.sh.mus)
    (habs : holdsOf l' = holdsOf { c.loc t with pc := pc } ∧ waitingOf l' = waitingOf { c.loc t with pc := pc } ∧
      committingOf l' = committingOf { c.loc t with pc := pc } ∧ extra l' = extra { c.loc t with pc := pc } ∧
      decide (l'.pc = .init) = decide (pc = .init))
    (hf : Facts c.sh { c.loc t with pc := pc } → Facts c.sh l') (hv : ∀ g ∈ l'.held, g.valid = true) :
    Simulated c p t s' l' e := by
  subst hpc
  obtain ⟨hh, hw, hc, hx, hi⟩ := habs
  refine ⟨p, hstep, hs.silent t _ _ hidx hpend hnames hmus ?_ ⟨?_, ?_, hf (hs.thr t).facts, hv⟩⟩
  · simp only [absTx, hh, hw, hc, decide_eq_decide.1 hi]
  · rw [hh]; exact (hs.thr t).own
  · rw [hx, hh]; exact (hs.thr t).ext

theorem Sim.event (hs : Sim c p) {ev : Ev} {st' : TxSt} (hstep : Proto.step p ev = some (p.setTx t st'))
    (hidx : s'.index = c.sh.index) (hpend : s'.pending = c.sh.pending) (hnames : s'.names = c.sh.names)
    (hmus : s'.mus = c.sh.mus) (habs : absTx l' = some st') (hinv : ThreadInv c.sh t l') :
    Simulated c p t s' l' (some ev) := by
  exact ⟨_, hstep, hs.update t _ _ _ (hs.reach.next hstep) (by rw [hidx]; exact hs.idx) (by rw [hpend]; exact hs.pend)
    (by rw [hnames]; exact hs.names) (hs.wf_congr hmus) (by rw [tx_setTx_same, habs]) (hinv.congr hmus hnames)
    (fun u hu => tx_setTx_ne _ _ hu) (fun u _ => (hs.thr u).congr hmus hnames)⟩

theorem Sim.setMu (hs : Sim c p) (r : Rec) (mu' : Mu) (hwf : wfMu mu')
    (hoth : ∀ u, u ≠ t → ∀ m, owns (c.sh.mu r) u m → owns mu' u m)
    (habs : absTx l' = absTx (c.loc t)) (hinv : ThreadInv (c.sh.setMu r mu') t l') :
    Simulated c p t (c.sh.setMu r mu') l' none :=
  ⟨p, rfl, hs.update t _ _ _ hs.reach hs.idx hs.pend hs.names (wf_setMu hs.wf _ _ hwf) (by rw [hs.tx t, habs]) hinv
    (fun _ _ => rfl) (fun u hu => hs.other_mu _ _ u (hoth u hu))⟩

theorem own_setMu {s : Shared} {r : Rec} {mu' : Mu} {hs : List Hold} (hown : ∀ g ∈ hs, owns (s.mu g.rid) t g.mode)
    (hne : ∀ g ∈ hs, g.rid ≠ r) : ∀ g ∈ hs, owns ((s.setMu r mu').mu g.rid) t g.mode := by
  intro g hg
  rw [mu_setMu, if_neg (hne g hg)]; exact hown g hg

/-- pcs a5, d3 -/
theorem sim_claim (hs : Sim c p) (hpc : (c.loc t).pc ≠ .init) (hh : holdsOf (c.loc t) = (c.loc t).held)
    (hw : waitingOf (c.loc t) = none) (hc : committingOf (c.loc t) = false)
    {k : Key} {r : Rec} {w : Bool} (hlk : c.sh.lookup k = none) (hfresh : assoc c.sh.names r = none)
    (mu0 : Mu) (hmu0 : owns mu0 t (modeOf w)) (hwf0 : wfMu mu0)
    (hl' : l'.held = ⟨r, k, modeOf w, true⟩ :: (c.loc t).held) (hh' : holdsOf l' = l'.held) (hx' : extra l' = none)
    (hf' : ∀ s, Facts s l') (habs : absTx l' = some { holds := l'.held }) :
    Simulated c p t (({ c.sh with names := (r, k) :: c.sh.names, pending := put c.sh.pending k r }).setMu r mu0) l'
      (some (.claim t k r (modeOf w))) := by
  have hi := hs.thr t
  have hown : ∀ g ∈ (c.loc t).held, owns (c.sh.mu g.rid) t g.mode := by
    have := hi.own; rwa [hh] at this
  have htx := hs.tx_some t hpc
  rw [hh, hw, hc] at htx
  have hne : ∀ g ∈ (c.loc t).held, g.rid ≠ r := by
    intro g hg e
    have := hs.holdNamed t g (by rw [hh]; exact hg)
    rw [e, hfresh] at this; cases this
  have hstep : Proto.step p (.claim t k r (modeOf w)) = some
      (({ p with pending := put p.pending k r, names := (r, k) :: p.names }).setTx t
        { holds := ⟨r, k, modeOf w, true⟩ :: (c.loc t).held }) := by
    simp [Proto.step, htx, hs.lookup, hlk, hs.names, hfresh, TxSt.setHold, filter_rid_ne hne]
  refine ⟨_, hstep, ?_⟩
  refine hs.update t _ _ _ (hs.reach.next hstep) (by simp [hs.idx]) (by simp [hs.pend]) (by simp [hs.names])
    (wf_setMu hs.wf r mu0 hwf0) ?_ ?_ ?_ ?_
  · rw [tx_setTx_same, habs, hl']
  · refine ⟨?_, by simp [hx'], hf' _, ?_⟩
    · rw [hh', hl']
      intro g hg
      rw [mu_setMu]
      rcases List.mem_cons.1 hg with rfl | hg
      · simpa using hmu0
      · simpa [hne g hg, Shared.mu] using hown g hg
    · rw [hl']; intro g hg
      rcases List.mem_cons.1 hg with rfl | hg
      · rfl
      · exact hi.val g hg
  · intro u hu; rw [tx_setTx_ne _ _ hu]; rfl
  · intro u _
    refine (hs.thr u).frame (fun x y hxy => assoc_names_cons hfresh hxy) ?_ (fun g hg => ⟨_, hs.holdNamed u g hg⟩)
    intro r' m ho ⟨k', hk'⟩
    have : r' ≠ r := by intro e; rw [e, hfresh] at hk'; cases hk'
    rw [mu_setMu]; simpa [this, Shared.mu] using ho

theorem sim_maps (hs : Sim c p) {ev : Ev}
    (hstep : Proto.step p ev = some { p with index := s'.index, pending := s'.pending })
    (hnames : s'.names = c.sh.names) (hmus : s'.mus = c.sh.mus) (habs : absTx l' = absTx (c.loc t))
    (hinv : ThreadInv c.sh t l') : Simulated c p t s' l' (some ev) := by
  exact ⟨_, hstep, hs.update t _ _ _ (hs.reach.next hstep) rfl rfl (by rw [hnames]; exact hs.names) (hs.wf_congr hmus)
    (by rw [habs]; exact hs.tx t) (hinv.congr hmus hnames) (fun _ _ => rfl)
    (fun u _ => (hs.thr u).congr hmus hnames)⟩

/-- pcs c3, c12 -/
theorem sim_release_cur (hs : Sim c p) (hpc : (c.loc t).pc ≠ .init) (hh : holdsOf (c.loc t) = (c.loc t).rest)
    (hw : waitingOf (c.loc t) = none) (hc : committingOf (c.loc t) = true)
    (hx : extra (c.loc t) = some ((c.loc t).cur.rid, (c.loc t).cur.mode))
    (mu' : Mu) (hwf' : wfMu mu') (hoth : ∀ u, u ≠ t → ∀ m, owns (c.sh.mu (c.loc t).cur.rid) u m → owns mu' u m) :
    Simulated c p t (c.sh.setMu (c.loc t).cur.rid mu') (commitNext (c.sh.setMu (c.loc t).cur.rid mu') (c.loc t)) none := by
  have hi := hs.thr t
  have hown := hi.own
  rw [hh] at hown
  have hxx := hi.ext _ hx
  rw [hh] at hxx
  have hnd := hs.nodup t hpc
  rw [hh] at hnd
  refine hs.setMu _ _ hwf' hoth (by rw [absTx_commitNext]; simp [absTx, hpc, hh, hw, hc]) ?_
  refine inv_commitNext (own_setMu hown hxx.2.2) hnd (fun g hg => hs.holdNamed t g (by rw [hh]; exact hg)) hi.val

end Steps

end NodisVerif.Proofs.TxProg

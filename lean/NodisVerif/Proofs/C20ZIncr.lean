import NodisVerif.Proofs.C12Sched
import NodisVerif.Proofs.C20Str
/-
  C20, ZIncrBy.  The record is the increment itself.  The new score may be NaN (inf + -inf, or a NaN
  increment through the embedded API), which the sorted-set invariant does not cover: explicit region.
-/
namespace NodisVerif.Proofs.C20
open NodisVerif NodisVerif.Store NodisVerif.Spec.Persist NodisVerif.Proofs.C11

variable {now : Int} {p r : MState}

/-- two key transactions that decide alike on the content the key actually has run alike -/
theorem keyTx_congr {s : MState} (h : StoreInv s now) (write : Bool) (mk : Option Val) (miss : Out)
    (nov : MState → Api.R) (dec1 dec2 : Val → Int → Act) (key : Bytes)
    (hw : write = false → mk = none) (hmk : ∀ v, mk = some v → Good v)
    (hag1 : ∀ v e, lookup s now key = some (v, e) → dec1 v e = dec2 v e)
    (hag2 : ∀ v0, lookup s now key = none → mk = some v0 → dec1 v0 0 = dec2 v0 0) :
    keyTx write mk miss nov dec1 s now key = keyTx write mk miss nov dec2 s now key := by
  have ks : KeySpec s now now key mk (access write mk s now key) := by
    cases hwr : write with
    | true => exact writeKey_spec h (Int.le_refl _) key mk hmk
    | false => rw [hw hwr]; exact readKey_spec h (Int.le_refl _) key
  rw [keyTx_access, keyTx_access]
  generalize access write mk s now key = r0 at ks
  obtain ⟨s1, ok⟩ := r0
  simp only
  have run : ∀ (m : Meta) (v : Val), AList.get? s1.index key = some m → m.value = some v →
      valOf s1 key = some v ∧ Api.expOf s1 key = m.exp := by
    intro m v hm hv
    exact ⟨(valOf_of_getMeta hm).trans hv, expOf_of_getMeta hm⟩
  cases hL : lookup s now key with
  | some c =>
    obtain ⟨v, e⟩ := c
    obtain ⟨_, _, m, hm, hv, he, _⟩ := ks.hit v e hL
    simp only at hm
    rw [(run m v hm hv).1, (run m v hm hv).2, he]
    simp only [hag1 v e hL]
  | none =>
    cases hmk0 : mk with
    | none =>
      obtain ⟨hok, _⟩ := ks.miss hL hmk0
      simp only at hok
      simp [hok]
    | some v0 =>
      obtain ⟨_, _, m, hm, hv, he, _⟩ := ks.make v0 hL hmk0
      simp only at hm
      rw [(run m v0 hm hv).1, (run m v0 hm hv).2, he]
      simp only [hag2 v0 hL hmk0]

/-- `decZincrU` (what the model does, Proofs/KeyTxApi.lean), refusing NaN sums (never taken outside the region) -/
def decZincrG (key m : Bytes) (delta : F64) (v : Val) (e : Int) : Act :=
  match v with
  | .zset z => if F64.isNaN (zincrSum z m delta) then .keep .unsupported else decZincrU key m delta v e
  | _ => .keep .panic

def zincrF (key m : Bytes) (delta : F64) : TxForm :=
  ⟨true, some (.zset DsZSet.empty), .unit, Cmd.pan, decZincrG key m delta, key⟩

/-- region: the resulting score is NaN -/
def ZIncrByNaN (L : Option (Val × Int)) (m : Bytes) (delta : F64) : Prop :=
  match L with
  | none => F64.isNaN delta = true
  | some (.zset z, _) => F64.isNaN (zincrSum z m delta) = true
  | some _ => False

instance (L : Option (Val × Int)) (m : Bytes) (delta : F64) : Decidable (ZIncrByNaN L m delta) := by
  unfold ZIncrByNaN
  split <;> exact inferInstance

theorem zincrby_eq {s : MState} (h : StoreInv s now) (key m : Bytes) (delta : F64)
    (hreg : ¬ ZIncrByNaN (lookup s now key) m delta) :
    Api.zincrby s now key m delta = (zincrF key m delta).run s now := by
  rw [zincrby_eqU]
  refine keyTx_congr h true _ _ _ _ _ key (fun hc => nomatch hc) (fun v hv => by cases hv; exact good_emptyZSet) ?_ ?_
  · intro v e hL
    rw [hL] at hreg
    cases v with
    | zset z =>
      have : F64.isNaN (zincrSum z m delta) = false := by simpa [ZIncrByNaN] using hreg
      show decZincrU key m delta (.zset z) e = decZincrG key m delta (.zset z) e
      simp [decZincrG, this]
    | _ => rfl
  · intro v0 hL hv0
    cases hv0
    rw [hL] at hreg
    have : F64.isNaN (zincrSum DsZSet.empty m delta) = false := by
      have : zincrSum DsZSet.empty m delta = delta := by simp [zincrSum, DsZSet.empty, AList.get?]
      rw [this]; simpa [ZIncrByNaN] using hreg
    show decZincrU key m delta (.zset DsZSet.empty) 0 = decZincrG key m delta (.zset DsZSet.empty) 0
    simp [decZincrG, this]

theorem zincrF_ok (key m : Bytes) (delta : F64) (hb : m.length + 8 < 2 ^ 63) : (zincrF key m delta).OK := by
  refine ⟨(fun h => nomatch h), (fun w h => by cases h; exact good_emptyZSet), fun w e hg _ => ?_⟩
  cases w with
  | zset z =>
    show (decZincrG key m delta (.zset z) e).GoodA
    unfold decZincrG
    simp only
    split
    · trivial
    · rename_i hn
      exact ⟨(fun w hw => by cases hw; exact good_zadd z m _ hg (by simpa using hn) hb), (fun e he => by cases he)⟩
  | _ => trivial

theorem zincrF_nilSafe (key m : Bytes) (delta : F64) : (zincrF key m delta).NilSafe := by
  apply nilSafe_of
  · intro v e hv
    cases v <;> simp_all [zincrF, decZincrG, decZincrU]
  · intro v0 h0
    simp only [zincrF, Option.some.injEq] at h0
    subst h0
    simp only [zincrF, decZincrG, decZincrU]
    split <;> simp

theorem zincrby_main (hs : Same now p r) (hl : p.listeners = true) (hfd : p.feed = [])
    (c : Feed.CallInfo) (hc : plainMethod c.method = true) (k m : Bytes) (delta : F64) (hb : m.length + 8 < 2 ^ 63)
    (hreg : ¬ ZIncrByNaN (lookup p now k) m delta) :
    Replay now r c (Api.zincrby p now k m delta) ∧ (Api.zincrby p now k m delta).1.listeners = true ∧
    ∀ op ∈ (Api.zincrby p now k m delta).1.feed.reverse, op.key = k := by
  rw [zincrby_eq hs.invP k m delta hreg]
  have hok := zincrF_ok k m delta hb
  obtain ⟨hraw, hlis⟩ := form_raw hok hs.invP hl hfd
  have hkeys : ∀ L, ∀ op ∈ (zincrF k m delta).ops L, op.key = k := by
    intro L op ho
    cases hs' : (zincrF k m delta).sees L with
    | none => rw [((zincrF k m delta).sees_none now hs').2.1] at ho; cases ho
    | some cc =>
      obtain ⟨v, e⟩ := cc
      rw [((zincrF k m delta).sees_some now hs').1] at ho
      cases v with
      | zset z =>
        simp only [zincrF, decZincrG, decZincrU] at ho
        split at ho
        · cases ho
        · simp [Act.ops] at ho; subst ho; rfl
      | _ => cases ho
  refine ⟨?_, hlis, fun op hop => hkeys _ op (hraw ▸ hop)⟩
  · unfold Replay
    rw [hraw]
    -- the record makes the replica run ZINCRBY, which is this transaction only outside the region: no `Acts`
    refine main_tx hs (zincrF k m delta) _ ((zincrF k m delta).txspec hok hs.invP (Int.le_refl now)) (Feed.emission c)
      (fun hn e => post_nonil (zincrF_nilSafe k m delta) now _ (fun e0 => hn k e0) e) ?_
    intro r0 hi _ hK
    rw [emission_plain hc]
    have hreg0 : ¬ ZIncrByNaN (lookup r0 now k) m delta := by rw [hK k]; exact hreg
    have hap : Feed.applyOp r0 now (opZIncrBy k m delta) = some ((zincrF k m delta).run r0 now).1 := by
      rw [opZIncrBy, replica_zincrby, zincrby_eq hi k m delta hreg0]
    show Replays r0 now ((zincrF k m delta).ops (lookup r0 now k))
      (upd (lookup r0 now) k ((zincrF k m delta).post now (lookup r0 now k)))
    have one : Replays r0 now [opZIncrBy k m delta]
        (upd (lookup r0 now) k ((zincrF k m delta).post now (lookup r0 now k))) :=
      ⟨_, (applyAll_one r0 now _).trans hap, (form_step hok hi).1, (form_step hok hi).2⟩
    cases hL : lookup r0 now k with
    | none =>
      rw [hL] at hreg0
      have hn : F64.isNaN (zincrSum DsZSet.empty m delta) = false := by
        have : zincrSum DsZSet.empty m delta = delta := by simp [zincrSum, DsZSet.empty, AList.get?]
        rw [this]; simpa [ZIncrByNaN] using hreg0
      have : (zincrF k m delta).ops none = [opZIncrBy k m delta] := by
        simp [TxForm.ops, zincrF, decZincrG, decZincrU, hn, Act.ops]
      rw [this]; rw [hL] at one; exact one
    | some cc =>
      obtain ⟨v, e⟩ := cc
      rw [hL] at hreg0 one
      cases v with
      | zset z =>
        have hn : F64.isNaN (zincrSum z m delta) = false := by simpa [ZIncrByNaN] using hreg0
        have : (zincrF k m delta).ops (some (.zset z, e)) = [opZIncrBy k m delta] := by
          simp [TxForm.ops, zincrF, decZincrG, decZincrU, hn, Act.ops]
        rw [this]; exact one
      | _ =>
        all_goals
          rw [show (zincrF k m delta).ops (some (_, e)) = [] from rfl,
            show (zincrF k m delta).post now (some (_, e)) = some (_, e) from rfl, ← hL, upd_self]
          exact Replays.nil hi

end NodisVerif.Proofs.C20

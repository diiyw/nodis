import NodisVerif.Proofs.KeyTxApi
/-
  C09 (WATCH soundness), the "writers signal" table: every API write function that changes the
  logical content of a key passes that key to `signalModifiedKey`, which the model records in
  `MState.signalled`.

  Whatever goes through `Api.setVal` is stated for the Pebble backend (`s.pebble = true`): then `setVal` only touches
  the record itself. With the in-memory backend `setVal` also rewrites every index record sharing the
  value object's `oid` (pointer aliasing between index records); that aliasing question is left out
  here, see `hypothesis_pebble_is_necessary` at the end of C09Writers3.lean.  The lookups (`quiet_*`,
  `frame_newKeyWith`), RENAME, RENAMENX, Z*STORE and the readers do not go through `setVal` and take no such hypothesis.

  `Frame D s s'` follows a command step by step (one chain lemma per store operation) and keeps in `D` the keys
  rewritten and not yet signalled. A command on one key is a key transaction (Proofs/KeyTx.lean, its equation in
  Proofs/KeyTxApi.lean), and `frame_keyTx` settles them all: `put` and `drop` end in `signalModifiedKey(key)`,
  `keep` touches nothing, so the only way to change a key and tell nobody is to create it and then `keep`.
  Followed on their definitions instead (`wk_some`, `wk_none`, `rk`): the commands on several keys, SETNX, GETSET,
  and the readers.
-/

namespace NodisVerif.Proofs.C09Writers
open NodisVerif NodisVerif.Store NodisVerif.Api NodisVerif.Proofs.AListLemmas2

/-- two versions of the index record named k carry the same logical content: same existence, same
    deadline, same record identity (`kid`: a re-created record gets a fresh one), same liveness bit
    (`isOk`: a record whose ok-bit flips is logically created/removed), and the value is
    the same object content — a cold record (value = none) becoming hot by a load is NOT a change -/
def unchanged : Option Meta → Option Meta → Prop
  | none, none => True
  | some m, some m' => m.exp = m'.exp ∧ m.kid = m'.kid ∧ m.isOk = m'.isOk ∧ (m.value = none ∨ m.value = m'.value)
  | _, _ => False

/-- the call changed the logical content of key k: created, removed, re-created, deadline
    given/moved/stripped, or value altered -/
def changed (s s' : MState) (k : Bytes) : Prop := ¬ unchanged (Store.getMeta s k) (Store.getMeta s' k)

theorem unchanged_refl (o : Option Meta) : unchanged o o := by
  cases o <;> simp [unchanged]

theorem unchanged_trans {a b c : Option Meta} (h1 : unchanged a b) (h2 : unchanged b c) : unchanged a c := by
  cases a <;> cases b <;> cases c <;> simp only [unchanged] at * <;> try trivial
  obtain ⟨e1, k1, o1, v1⟩ := h1
  obtain ⟨e2, k2, o2, v2⟩ := h2
  refine ⟨e1.trans e2, k1.trans k2, o1.trans o2, ?_⟩
  rcases v1 with v1 | v1
  · exact Or.inl v1
  · rcases v2 with v2 | v2
    · exact Or.inl (v1.trans v2)
    · exact Or.inr (v1.trans v2)

theorem unchanged_of_eq {a b : Option Meta} (h : b = a) : unchanged a b := h ▸ unchanged_refl a

instance (a b : Option Meta) : Decidable (unchanged a b) :=
  match a, b with
  | none, none => isTrue trivial
  | some m, some m' =>
    inferInstanceAs (Decidable (m.exp = m'.exp ∧ m.kid = m'.kid ∧ m.isOk = m'.isOk ∧ (m.value = none ∨ m.value = m'.value)))
  | none, some _ => isFalse (fun h => h)
  | some _, none => isFalse (fun h => h)

instance (s s' : MState) (k : Bytes) : Decidable (changed s s' k) :=
  inferInstanceAs (Decidable (¬ unchanged (Store.getMeta s k) (Store.getMeta s' k)))

/-! `changed` looks at the `index` field only, so updates of the other fields drop out.  No proof in the tree rewrites
  with these: goals about `changed` are on literal stores and closed by `decide`. -/
theorem changed_congr {s t s' t' : MState} (h : t.index = s.index) (h' : t'.index = s'.index) (k : Bytes) :
    changed t t' k ↔ changed s s' k := by
  simp only [changed, getMeta_congr h, getMeta_congr h']

@[simp] theorem changed_with_left (s s' : MState) (k : Bytes) (x : List Bytes) (y : List (Bytes × Bool)) (z w : Bool)
    (f : List FeedOp) :
    changed { s with signalled := x, held := y, hung := z, flushed := w, feed := f } s' k ↔ changed s s' k :=
  changed_congr rfl rfl k
@[simp] theorem changed_with_right (s s' : MState) (k : Bytes) (x : List Bytes) (y : List (Bytes × Bool)) (z w : Bool)
    (f : List FeedOp) :
    changed s { s' with signalled := x, held := y, hung := z, flushed := w, feed := f } k ↔ changed s s' k :=
  changed_congr rfl rfl k
@[simp] theorem changed_with_shh_left (s s' : MState) (k : Bytes) (x : List Bytes) (y : List (Bytes × Bool)) (z : Bool) :
    changed { s with signalled := x, held := y, hung := z } s' k ↔ changed s s' k := changed_congr rfl rfl k
@[simp] theorem changed_with_shh_right (s s' : MState) (k : Bytes) (x : List Bytes) (y : List (Bytes × Bool)) (z : Bool) :
    changed s { s' with signalled := x, held := y, hung := z } k ↔ changed s s' k := changed_congr rfl rfl k
@[simp] theorem changed_with_signalled_left (s s' : MState) (k : Bytes) (x : List Bytes) :
    changed { s with signalled := x } s' k ↔ changed s s' k := changed_congr rfl rfl k
@[simp] theorem changed_with_signalled_right (s s' : MState) (k : Bytes) (x : List Bytes) :
    changed s { s' with signalled := x } k ↔ changed s s' k := changed_congr rfl rfl k
@[simp] theorem changed_with_held_left (s s' : MState) (k : Bytes) (y : List (Bytes × Bool)) :
    changed { s with held := y } s' k ↔ changed s s' k := changed_congr rfl rfl k
@[simp] theorem changed_with_held_right (s s' : MState) (k : Bytes) (y : List (Bytes × Bool)) :
    changed s { s' with held := y } k ↔ changed s s' k := changed_congr rfl rfl k
@[simp] theorem changed_with_hung_left (s s' : MState) (k : Bytes) (z : Bool) :
    changed { s with hung := z } s' k ↔ changed s s' k := changed_congr rfl rfl k
@[simp] theorem changed_with_hung_right (s s' : MState) (k : Bytes) (z : Bool) :
    changed s { s' with hung := z } k ↔ changed s s' k := changed_congr rfl rfl k
@[simp] theorem changed_with_flushed_left (s s' : MState) (k : Bytes) (z : Bool) :
    changed { s with flushed := z } s' k ↔ changed s s' k := changed_congr rfl rfl k
@[simp] theorem changed_with_flushed_right (s s' : MState) (k : Bytes) (z : Bool) :
    changed s { s' with flushed := z } k ↔ changed s s' k := changed_congr rfl rfl k
@[simp] theorem changed_with_feed_left (s s' : MState) (k : Bytes) (f : List FeedOp) :
    changed { s with feed := f } s' k ↔ changed s s' k := changed_congr rfl rfl k
@[simp] theorem changed_with_feed_right (s s' : MState) (k : Bytes) (f : List FeedOp) :
    changed s { s' with feed := f } k ↔ changed s s' k := changed_congr rfl rfl k
@[simp] theorem changed_commit_left (s s' : MState) (k : Bytes) : changed (commit s) s' k ↔ changed s s' k :=
  changed_congr rfl rfl k
@[simp] theorem changed_commit_right (s s' : MState) (k : Bytes) : changed s (commit s') k ↔ changed s s' k :=
  changed_congr rfl rfl k

/-- s' arises from s by steps that (i) only add to `signalled`, (ii) keep the backend kind, and (iii) leave every
    record outside the dirty set D logically unchanged unless its key was signalled -/
structure Frame (D : List Bytes) (s s' : MState) : Prop where
  mono : ∀ x ∈ s.signalled, x ∈ s'.signalled
  peb  : s'.pebble = s.pebble
  keep : ∀ k, k ∉ D → k ∉ s'.signalled → unchanged (Store.getMeta s k) (Store.getMeta s' k)

theorem Frame.refl (D : List Bytes) (s : MState) : Frame D s s :=
  ⟨fun _ h => h, rfl, fun _ _ _ => unchanged_refl _⟩

theorem Frame.weaken {D D' : List Bytes} {s s' : MState} (h : Frame D s s') (hs : ∀ k ∈ D, k ∈ D') : Frame D' s s' :=
  ⟨h.mono, h.peb, fun k hk hn => h.keep k (fun hd => hk (hs k hd)) hn⟩

theorem Frame.trans {D₁ D₂ : List Bytes} {s s₁ s₂ : MState} (h1 : Frame D₁ s s₁) (h2 : Frame D₂ s₁ s₂) :
    Frame (D₁ ++ D₂) s s₂ :=
  ⟨fun x hx => h2.mono x (h1.mono x hx), h2.peb.trans h1.peb, fun k hk hn =>
    unchanged_trans
      (h1.keep k (fun hd => hk (List.mem_append_left _ hd)) (fun hs => hn (h2.mono k hs)))
      (h2.keep k (fun hd => hk (List.mem_append_right _ hd)) hn)⟩

theorem Frame.andThen {D D' : List Bytes} {s s₁ s₂ : MState} (h1 : Frame D s s₁) (h2 : Frame D' s₁ s₂)
    (hs : ∀ k ∈ D', k ∈ D) : Frame D s s₂ :=
  (h1.trans h2).weaken (fun k hk => by
    rcases List.mem_append.1 hk with h | h
    · exact h
    · exact hs k h)

theorem Frame.seq {D D' : List Bytes} {s s₁ s₂ : MState} (h1 : Frame D s s₁) (h2 : Frame D' s₁ s₂) :
    Frame (D' ++ D) s s₂ :=
  (h1.trans h2).weaken (fun k hk => by
    rcases List.mem_append.1 hk with h | h
    · exact List.mem_append_right _ h
    · exact List.mem_append_left _ h)

theorem Frame.seq0 {D : List Bytes} {s s₁ s₂ : MState} (h1 : Frame D s s₁) (h2 : Frame [] s₁ s₂) :
    Frame D s s₂ := h1.andThen h2 (fun _ h => nomatch h)

theorem Frame.trans0 {s s₁ s₂ : MState} (h1 : Frame [] s s₁) (h2 : Frame [] s₁ s₂) : Frame [] s s₂ :=
  h1.seq0 h2

theorem Frame.ite {D : List Bytes} {s a b : MState} {c : Prop} [Decidable c] (ha : Frame D s a) (hb : Frame D s b) :
    Frame D s (if c then a else b) := by
  split
  · exact ha
  · exact hb

theorem Frame.close {D : List Bytes} {s s' : MState} (h : Frame D s s') (hD : ∀ k ∈ D, k ∈ s'.signalled) :
    Frame [] s s' :=
  ⟨h.mono, h.peb, fun k _ hn => h.keep k (fun hd => hn (hD k hd)) hn⟩

theorem Frame.sound {s s' : MState} (h : Frame [] s s') (k : Bytes) : changed s s' k → k ∈ s'.signalled := by
  intro hc
  by_cases hs : k ∈ s'.signalled
  · exact hs
  · exact absurd (h.keep k (fun hd => nomatch hd) hs) hc

theorem Frame.changed_signalled {D : List Bytes} {s s' : MState} (h : Frame D s s')
    (hD : ∀ k ∈ D, k ∈ s'.signalled) (k : Bytes) : changed s s' k → k ∈ s'.signalled :=
  (h.close hD).sound k

theorem Frame.pebble {D : List Bytes} {s s' : MState} (h : Frame D s s') (hp : s.pebble = true) : s'.pebble = true :=
  h.peb.trans hp

theorem frame_ite {s : MState} {c : Prop} [Decidable c] {β : Type} {a b : MState × β}
    (ha : Frame [] s a.1) (hb : Frame [] s b.1) : Frame [] s (if c then a else b).1 := by
  split
  · exact ha
  · exact hb

/-- a step after which every record is logically what it was and nothing new is signalled: locking, counting an access,
    loading a cold value. Stronger than `Frame []`: hot values survive it whether or not their key was signalled. -/
structure Quiet (s s' : MState) : Prop where
  sig : s'.signalled = s.signalled
  peb : s'.pebble = s.pebble
  keep : ∀ k, unchanged (Store.getMeta s k) (Store.getMeta s' k)

theorem Quiet.refl (s : MState) : Quiet s s := ⟨rfl, rfl, fun _ => unchanged_refl _⟩

theorem Quiet.trans {s s₁ s₂ : MState} (h1 : Quiet s s₁) (h2 : Quiet s₁ s₂) : Quiet s s₂ :=
  ⟨h2.sig.trans h1.sig, h2.peb.trans h1.peb, fun k => unchanged_trans (h1.keep k) (h2.keep k)⟩

theorem Quiet.frame {s s' : MState} (h : Quiet s s') : Frame [] s s' :=
  ⟨fun _ hx => h.sig ▸ hx, h.peb, fun k _ _ => h.keep k⟩

theorem Quiet.valOf {s s' : MState} (h : Quiet s s') {k : Bytes} {v : Val} (hv : valOf s k = some v) :
    valOf s' k = some v := by
  have hk := h.keep k
  unfold Store.valOf at hv ⊢
  cases hm : getMeta s k with
  | none => rw [hm] at hv; cases hv
  | some m =>
    cases hm' : getMeta s' k with
    | none => rw [hm, hm'] at hk; exact hk.elim
    | some m' =>
      rw [hm, hm'] at hk
      rw [hm] at hv
      rcases hk.2.2.2 with e | e
      · rw [Option.bind_some, e] at hv; cases hv
      · rw [Option.bind_some, ← e]; exact hv

theorem quiet_of_eq {s s' : MState} (hi : s'.index = s.index) (hs : s'.signalled = s.signalled)
    (hp : s'.pebble = s.pebble) : Quiet s s' :=
  ⟨hs, hp, fun k => unchanged_of_eq (getMeta_congr hi k)⟩

theorem frame_of_eq {s s' : MState} (hi : s'.index = s.index) (hs : s'.signalled = s.signalled)
    (hp : s'.pebble = s.pebble) : Frame [] s s' := (quiet_of_eq hi hs hp).frame

theorem frame_fresh (s : MState) : Frame [] s (fresh s).2 := frame_of_eq rfl rfl rfl
theorem frame_commit (s : MState) : Frame [] s (commit s) := frame_of_eq rfl rfl rfl

theorem frame_emit (s : MState) (op : FeedOp) : Frame [] s (emit s op) := by
  unfold emit; split
  · exact frame_of_eq rfl rfl rfl
  · exact Frame.refl _ _

theorem quiet_lock {lock : MState → Bytes → MState} (hl : C01.LockOp lock) (s : MState) (key : Bytes) :
    Quiet s (lock s key) := by
  rw [hl s key]
  exact quiet_of_eq rfl rfl rfl

theorem frame_diskDelete (s : MState) (name : Bytes) (e : Int) : Frame [] s (diskDelete s name e) :=
  frame_of_eq rfl rfl rfl

theorem frame_unpersist (s : MState) (name : Bytes) (m : Meta) : Frame [] s (unpersist s name m) := by
  unfold unpersist; split
  · exact frame_diskDelete _ _ _
  · exact Frame.refl _ _

attribute [local simp] unpersist_index lockW_index lockR_index
@[simp] theorem signalled_unpersist (s : MState) (name : Bytes) (m : Meta) :
    (unpersist s name m).signalled = s.signalled := by
  unfold unpersist; split <;> rfl
@[simp] theorem pebble_unpersist (s : MState) (name : Bytes) (m : Meta) : (unpersist s name m).pebble = s.pebble := by
  unfold unpersist; split <;> rfl

@[simp] theorem signalled_emit (s : MState) (op : FeedOp) : (emit s op).signalled = s.signalled := by
  unfold emit; split <;> rfl
@[simp] theorem signalled_signal (s : MState) (key : Bytes) : (signal s key).signalled = key :: s.signalled := rfl
@[simp] theorem signalled_commit (s : MState) : (commit s).signalled = s.signalled := rfl
@[simp] theorem pebble_commit (s : MState) : (commit s).pebble = s.pebble := rfl

theorem frame_of_other {s s' : MState} (key : Bytes) (hi : ∀ k, k ≠ key → getMeta s' k = getMeta s k)
    (hs : s'.signalled = s.signalled) (hp : s'.pebble = s.pebble) : Frame [key] s s' :=
  ⟨fun _ hx => hs ▸ hx, hp, fun k hk _ =>
    unchanged_of_eq (hi k (fun e => hk (by simp [e])))⟩

theorem frame_putMeta (s : MState) (key : Bytes) (m : Meta) : Frame [key] s (putMeta s key m) :=
  frame_of_other key (fun k hk => getMeta_putMeta_other s key m k hk) rfl rfl

theorem quiet_putMeta_same (s : MState) (key : Bytes) (m0 m : Meta) (h0 : getMeta s key = some m0)
    (hu : unchanged (some m0) (some m)) : Quiet s (putMeta s key m) :=
  ⟨rfl, rfl, fun k => by
    by_cases e : k = key
    · subst e; rw [h0, getMeta_putMeta_same]; exact hu
    · exact unchanged_of_eq (getMeta_putMeta_other s key m k e)⟩

theorem frame_putMeta_same (s : MState) (key : Bytes) (m0 m : Meta) (h0 : getMeta s key = some m0)
    (hu : unchanged (some m0) (some m)) : Frame [] s (putMeta s key m) :=
  (quiet_putMeta_same s key m0 m h0 hu).frame

theorem frame_modMeta (s : MState) (key : Bytes) (f : Meta → Meta) : Frame [key] s (modMeta s key f) := by
  unfold modMeta; split
  · exact frame_putMeta _ _ _
  · exact Frame.refl _ _

theorem markModified_unchanged (m : Meta) : unchanged (some m) (some m.markModified) := by
  refine ⟨rfl, rfl, ?_, Or.inr rfl⟩
  simp only [Meta.isOk, Meta.markModified]
  split
  · rfl
  · have : (m.state + 2) % 2 = m.state % 2 := by omega
    simp only [this]

theorem frame_markModified (s : MState) (key : Bytes) : Frame [] s (modMeta s key Meta.markModified) := by
  unfold modMeta; split
  · next m h => exact frame_putMeta_same s key m _ h (markModified_unchanged m)
  · exact Frame.refl _ _

theorem signalled_modMeta (s : MState) (key : Bytes) (f : Meta → Meta) : (modMeta s key f).signalled = s.signalled := by
  unfold modMeta; split <;> rfl

theorem frame_signal (s : MState) (key : Bytes) : Frame [] s (signal s key) := by
  have h := frame_markModified s key
  exact ⟨fun x hx => List.mem_cons_of_mem _ hx, h.peb, fun k hk hn =>
    h.keep k hk (fun hs => hn (List.mem_cons_of_mem _ (signalled_modMeta s key _ ▸ hs)))⟩

theorem frame_addSignalled (s : MState) (xs : List Bytes) :
    Frame [] s { s with signalled := xs ++ s.signalled } :=
  ⟨fun _ hx => List.mem_append_right _ hx, rfl, fun _ _ _ => unchanged_refl _⟩

theorem frame_delKey (s : MState) (key : Bytes) : Frame [key] s (delKey s key) := by
  refine frame_of_other key (fun k hk => getMeta_delKey_other s key k hk) ?_ ?_
  · simp only [delKey]; split
    · simp only [unpersist]; split <;> rfl
    · rfl
  · simp only [delKey]; split
    · simp only [unpersist]; split <;> rfl
    · rfl

theorem frame_setExp (s : MState) (key : Bytes) (e : Int) : Frame [key] s (setExp s key e) := by
  unfold setExp; split
  · exact Frame.refl _ _
  · exact frame_putMeta _ _ _

theorem frame_setVal (s : MState) (hp : s.pebble = true) (key : Bytes) (v : Val) : Frame [key] s (setVal s key v) := by
  unfold setVal; split
  · exact Frame.refl _ _
  · next m _ =>
    have : (putMeta s key { m with value := some v }).pebble = true := hp
    simp only [this, true_or, if_true]
    exact frame_putMeta _ _ _

theorem frame_setVal_same (s : MState) (hp : s.pebble = true) (key : Bytes) (v : Val) (hv : valOf s key = some v) :
    Frame [] s (setVal s key v) := by
  unfold setVal; split
  · exact Frame.refl _ _
  · next m hm =>
    have : (putMeta s key { m with value := some v }).pebble = true := hp
    simp only [this, true_or, if_true]
    refine frame_putMeta_same s key m _ hm ⟨rfl, rfl, rfl, Or.inr ?_⟩
    simpa [valOf, hm] using hv

theorem frame_newKeyWith (s : MState) (key : Bytes) (old : Option Meta) (v : Val) :
    Frame [key] s (newKeyWith s key old v) := by
  refine frame_of_other key (fun k hk => ?_) ?_ ?_
  · simp only [newKeyWith, fresh]
    rw [getMeta_putMeta_other _ _ _ _ hk]
    split
    · rw [getMeta_unpersist]; rfl
    · rfl
  · simp only [newKeyWith, fresh, putMeta]
    split
    · rw [signalled_unpersist]
    · rfl
  · simp only [newKeyWith, fresh, putMeta]
    split
    · rw [pebble_unpersist]
    · rfl

theorem count_unchanged (m : Meta) : unchanged (some m) (some { m with count := m.count + 1 }) :=
  ⟨rfl, rfl, rfl, Or.inr rfl⟩

theorem load_unchanged (m : Meta) (hv : ¬ m.value.isSome = true) (hok : m.isOk = true) (v : Val) (oid : Nat) :
    unchanged (some m) (some ({ m with oid := oid }.setValue v)) := by
  refine ⟨rfl, rfl, ?_, Or.inl ?_⟩
  · simp only [Meta.isOk, decide_eq_true_eq] at hok
    simp only [Meta.isOk, Meta.setValue, hok, if_true]
  · cases h : m.value with
    | none => rfl
    | some x => simp [h] at hv

theorem quiet_accessKey {lock : MState → Bytes → MState} (hl : C01.LockOp lock)
    (s : MState) (now : Int) (key : Bytes) : Quiet s (C01.accessKey lock s now key none).1 := by
  have h1 : ∀ m0, getMeta s key = some m0 → Quiet s (putMeta (lock s key) key (C01.bump m0)) := fun m0 hm =>
    (quiet_lock hl s key).trans (quiet_putMeta_same _ key m0 _ ((C01.getMeta_lock hl s key key).trans hm) (count_unchanged m0))
  rcases C01.accessKey_shape hl s now key none with ⟨_, e⟩ | ⟨m0, hm, ⟨e, _⟩ | ⟨e, _⟩ | ⟨v, oid, e, hok, _, hv, _⟩⟩
  · rw [e]; exact Quiet.refl _
  · rw [e]; exact h1 m0 hm
  · rw [e]; exact h1 m0 hm
  · rw [e]
    exact (h1 m0 hm).trans (quiet_putMeta_same _ key _ _ (getMeta_putMeta_same _ _ _)
      (load_unchanged (C01.bump m0) (by rw [C01.bump_value, hv]; exact Bool.false_ne_true) hok v oid))

theorem quiet_readKey (s : MState) (now : Int) (key : Bytes) : Quiet s (readKey s now key).1 :=
  quiet_accessKey C01.lockR_op s now key

theorem quiet_writeKey_none (s : MState) (now : Int) (key : Bytes) : Quiet s (writeKey s now key none).1 :=
  quiet_accessKey C01.lockW_op s now key

theorem frame_readKey (s : MState) (now : Int) (key : Bytes) : Frame [] s (readKey s now key).1 :=
  (quiet_readKey s now key).frame

theorem frame_writeKey_none (s : MState) (now : Int) (key : Bytes) : Frame [] s (writeKey s now key none).1 :=
  (quiet_writeKey_none s now key).frame

/-- the record named `key` is present, not expired and readable: `writeKey` finds it instead of
    (re-)creating it -/
def live (s : MState) (now : Int) (key : Bytes) : Bool := (Store.writeKey s now key none).2

theorem writeKey_some_cases (s : MState) (now : Int) (key : Bytes) (v : Val) :
    (live s now key = true ∧ Frame [] s (writeKey s now key (some v)).1) ∨
    (live s now key = false ∧ Frame [key] s (writeKey s now key (some v)).1 ∧
      valOf (writeKey s now key (some v)).1 key = some v ∧ Api.expOf (writeKey s now key (some v)).1 key = 0) := by
  have hq := frame_writeKey_none s now key
  unfold live
  rcases C01.accessKey_some lockW s now key v with ⟨hl, h⟩ | ⟨s2, old, e0, e1⟩
  · rw [show writeKey s now key (some v) = _ from h]
    exact Or.inl ⟨hl, hq⟩
  · rw [show writeKey s now key (some v) = _ from e1]
    rw [show writeKey s now key none = _ from e0] at hq ⊢
    exact Or.inr ⟨rfl, hq.seq (frame_newKeyWith _ _ _ _), C11.valOf_newKeyWith _ _ _ _, expOf_newKeyWith _ _ _ _⟩

theorem frame_writeKey_some (s : MState) (now : Int) (key : Bytes) (v : Val) :
    Frame [key] s (writeKey s now key (some v)).1 := by
  rcases writeKey_some_cases s now key v with ⟨_, h⟩ | ⟨_, h, _⟩
  · exact h.weaken (fun _ h => nomatch h)
  · exact h

theorem frame_foldl_state {β : Type} (f : MState → β → MState) (hf : ∀ s x, Frame [] s (f s x)) :
    ∀ (xs : List β) (s : MState), Frame [] s (xs.foldl f s)
  | [], _ => Frame.refl _ _
  | x :: xs, s => by
    rw [List.foldl_cons]
    exact (hf s x).trans0 (frame_foldl_state f hf xs (f s x))

section chain
variable {D : List Bytes} {s s1 : MState}

theorem Frame.setVal (h : Frame D s s1) (hp : s.pebble = true) (key : Bytes) (v : Val) :
    Frame (key :: D) s (Api.setVal s1 key v) := h.seq (frame_setVal s1 (h.pebble hp) key v)
theorem Frame.setExp (h : Frame D s s1) (key : Bytes) (e : Int) :
    Frame (key :: D) s (Api.setExp s1 key e) := h.seq (frame_setExp s1 key e)
theorem Frame.setExpIf (h : Frame D s s1) (c : Prop) [Decidable c] (key : Bytes) (e : Int) :
    Frame (key :: D) s (if c then Api.setExp s1 key e else s1) := by
  split
  · exact h.setExp key e
  · exact h.weaken (fun _ hk => List.mem_cons_of_mem _ hk)
theorem Frame.delKey (h : Frame D s s1) (key : Bytes) :
    Frame (key :: D) s (Store.delKey s1 key) := h.seq (frame_delKey s1 key)
theorem Frame.delKeyIf (h : Frame D s s1) (c : Prop) [Decidable c] (key : Bytes) :
    Frame (key :: D) s (if c then Store.delKey s1 key else s1) := by
  split
  · exact h.delKey key
  · exact h.weaken (fun _ hk => List.mem_cons_of_mem _ hk)
theorem Frame.putMeta (h : Frame D s s1) (key : Bytes) (m : Meta) :
    Frame (key :: D) s (Store.putMeta s1 key m) := h.seq (frame_putMeta s1 key m)
theorem Frame.modMeta (h : Frame D s s1) (key : Bytes) (f : Meta → Meta) :
    Frame (key :: D) s (Store.modMeta s1 key f) := h.seq (frame_modMeta s1 key f)
theorem Frame.newKeyWith (h : Frame D s s1) (key : Bytes) (old : Option Meta) (v : Val) :
    Frame (key :: D) s (Store.newKeyWith s1 key old v) := h.seq (frame_newKeyWith s1 key old v)
theorem Frame.emit (h : Frame D s s1) (op : FeedOp) : Frame D s (Store.emit s1 op) := h.seq0 (frame_emit s1 op)
theorem Frame.commit (h : Frame D s s1) : Frame D s (Api.commit s1) := h.seq0 (frame_commit s1)
theorem Frame.unpersist (h : Frame D s s1) (n : Bytes) (m : Meta) : Frame D s (Store.unpersist s1 n m) :=
  h.seq0 (frame_unpersist s1 n m)
theorem Frame.readKey (h : Frame D s s1) (now : Int) (key : Bytes) : Frame D s (Store.readKey s1 now key).1 :=
  h.seq0 (frame_readKey s1 now key)
theorem Frame.writeKeyNone (h : Frame D s s1) (now : Int) (key : Bytes) : Frame D s (Store.writeKey s1 now key none).1 :=
  h.seq0 (frame_writeKey_none s1 now key)

theorem Frame.signal (h : Frame D s s1) (key : Bytes) (hD : ∀ k ∈ D, k = key := by simp) :
    Frame [] s (Store.signal s1 key) :=
  (h.seq0 (frame_signal s1 key)).close (fun k hk => by rw [hD k hk]; exact List.mem_cons_self)

theorem Frame.finish (h : Frame D s s1) (key : Bytes) (op : FeedOp) (hD : ∀ k ∈ D, k = key := by simp) :
    Frame [] s (Store.emit (Store.signal s1 key) op) :=
  (h.signal key hD).emit op

/-- the tail of `del` / `zstore`: unlink, record the signal, notify -/
theorem Frame.delSignal (h : Frame D s s1) (key : Bytes) (op : FeedOp) (hD : ∀ k ∈ D, k = key := by simp) :
    Frame [] s (Store.emit { Store.delKey s1 key with signalled := key :: s1.signalled } op) := by
  have h2 : Frame [key] s1 { Store.delKey s1 key with signalled := key :: s1.signalled } := by
    have hd := frame_delKey s1 key
    have hs : (Store.delKey s1 key).signalled = s1.signalled := by
      simp only [Store.delKey]; split
      · rw [signalled_unpersist]
      · rfl
    exact ⟨fun x hx => List.mem_cons_of_mem _ hx, hd.peb, fun k hk hn =>
      hd.keep k hk (fun hm => hn (List.mem_cons_of_mem _ (hs ▸ hm)))⟩
  exact ((h.seq h2).close (fun k hk => by
    rcases List.mem_append.1 hk with hk | hk
    · rw [List.mem_singleton.1 hk]; exact List.mem_cons_self
    · rw [hD k hk]; exact List.mem_cons_self)).emit op

/-! backward style: the dirty set is fixed, the touched key must be in it -/
theorem Frame.setVal' {key : Bytes} {v : Val} (h : Frame D s s1) (hp : s.pebble = true) (hk : key ∈ D) :
    Frame D s (Api.setVal s1 key v) := h.andThen (frame_setVal s1 (h.pebble hp) key v) (by simpa using hk)
theorem Frame.setExp' {key : Bytes} {e : Int} (h : Frame D s s1) (hk : key ∈ D) :
    Frame D s (Api.setExp s1 key e) := h.andThen (frame_setExp s1 key e) (by simpa using hk)
theorem Frame.putMeta' {key : Bytes} {m : Meta} (h : Frame D s s1) (hk : key ∈ D) :
    Frame D s (Store.putMeta s1 key m) := h.andThen (frame_putMeta s1 key m) (by simpa using hk)
theorem Frame.modMeta' {key : Bytes} {f : Meta → Meta} (h : Frame D s s1) (hk : key ∈ D) :
    Frame D s (Store.modMeta s1 key f) := h.andThen (frame_modMeta s1 key f) (by simpa using hk)
theorem Frame.delKey' {key : Bytes} (h : Frame D s s1) (hk : key ∈ D) :
    Frame D s (Store.delKey s1 key) := h.andThen (frame_delKey s1 key) (by simpa using hk)
theorem Frame.unpersistOpt (h : Frame D s s1) (o : Option Meta) (n : Bytes) :
    Frame D s (match o with | some dead => Store.unpersist s1 n dead | none => s1) := by
  split
  · exact h.unpersist _ _
  · exact h
theorem Frame.fresh (h : Frame D s s1) : Frame D s (Store.fresh s1).2 := h.seq0 (frame_fresh s1)

theorem pebble_modMeta (s : MState) (key : Bytes) (f : Meta → Meta) : (Store.modMeta s key f).pebble = s.pebble := by
  unfold Store.modMeta; split <;> rfl

/-- the tail of `rename`: mark the destination modified and record the signals `xs` -/
theorem Frame.closeWith (h : Frame D s s1) (dst : Bytes) (xs : List Bytes) (hD : ∀ k ∈ D, k ∈ xs) :
    Frame [] s { Store.modMeta s1 dst Meta.markModified with signalled := xs ++ s1.signalled } :=
  ⟨fun x hx => List.mem_append_right _ (h.mono x hx), (pebble_modMeta s1 dst _).trans h.peb, fun k _ hn =>
    unchanged_trans
      (h.keep k (fun hd => hn (List.mem_append_left _ (hD k hd))) (fun hs => hn (List.mem_append_right _ hs)))
      ((frame_markModified s1 dst).keep k (fun hd => nomatch hd)
        (fun hs => hn (List.mem_append_right _ (signalled_modMeta s1 dst _ ▸ hs))))⟩

/-- publishing a record and recording the signals `xs` (tail of `renameNX`) -/
theorem Frame.closeWith' (h : Frame D s s1) (xs : List Bytes) (hD : ∀ k ∈ D, k ∈ xs) :
    Frame [] s { s1 with signalled := xs ++ s1.signalled } :=
  (h.seq0 (frame_addSignalled s1 xs)).close (fun k hk => List.mem_append_left _ (hD k hk))

theorem Frame.optSetVal (h : Frame D s s1) (hp : s.pebble = true) (key : Bytes) (v : Option Val) :
    Frame (key :: D) s (C11.optSetVal s1 key v) := by
  cases v with
  | none => exact h.weaken (fun _ hk => List.mem_cons_of_mem _ hk)
  | some v => exact h.setVal hp key v
theorem Frame.optSetExp (h : Frame D s s1) (key : Bytes) (e : Option Int) :
    Frame (key :: D) s (C11.optSetExp s1 key e) := by
  cases e with
  | none => exact h.weaken (fun _ hk => List.mem_cons_of_mem _ hk)
  | some e => exact h.setExp key e
theorem Frame.emits (h : Frame D s s1) (ops : List FeedOp) : Frame D s (C11.emits s1 ops) :=
  h.seq0 (frame_foldl_state _ frame_emit ops s1)

/-- `put` and `drop` end in `signalModifiedKey(key)`: whatever the lookup left dirty at `key` is closed. Only `keep`
    signals nothing, so it needs a frame that is closed already. -/
theorem Frame.runAct (h : Frame D s s1) (hp : s.pebble = true) (key : Bytes) (a : C11.Act)
    (hD : ∀ k ∈ D, k = key) (hk : a.isKeep = true → D = []) : Frame [] s (C11.runAct s1 key a).1 := by
  cases a with
  | keep r => cases hk rfl; exact h
  | put v' e' ops r => exact (((h.optSetVal hp key v').optSetExp key e').signal key (by simpa using hD)).emits ops
  | drop v' ops r => exact (((h.setVal hp key v').delKey key).signal key (by simpa using hD)).emits ops
end chain

/-- A key transaction is a closed frame: every key whose content it changes was passed to `signalModifiedKey`.
    The one exception: the key was not live, so the constructor published a record, and the decision on that fresh
    record (value `v0`, no deadline) is `keep`; a command with this exit creates a key and tells no watcher
    (INCRBY, SETRANGE below). Where `dec v0 0` is not `keep` is a computation on the data structure alone. -/
theorem frame_keyTx (s : MState) (hp : s.pebble = true) (write : Bool) (mk : Option Val) (miss : Out)
    (nov : MState → Api.R) (dec : Val → Int → C11.Act) (now : Int) (key : Bytes) (hw : write = false → mk = none)
    (hnew : ∀ v0, mk = some v0 → live s now key = false → (dec v0 0).isKeep = false) :
    Frame [] s (C11.keyTx write mk miss nov dec s now key).1 := by
  rcases C11.keyTx_cases write mk miss nov dec s now key hw with ⟨_, hmk, he⟩ | ⟨_, v, hv, he⟩ <;> rw [he]
  · cases hmk
    cases write
    · exact frame_readKey s now key
    · exact frame_writeKey_none s now key
  · cases write with
    | false => cases hw rfl; exact (frame_readKey s now key).runAct hp key _ nofun (fun _ => rfl)
    | true =>
      simp only [C11.access, if_true] at hv ⊢
      cases mk with
      | none => exact (frame_writeKey_none s now key).runAct hp key _ nofun (fun _ => rfl)
      | some v0 =>
        rcases writeKey_some_cases s now key v0 with ⟨_, h⟩ | ⟨hl, h, hv0, he0⟩
        · exact h.runAct hp key _ nofun (fun _ => rfl)
        · cases hv.symm.trans hv0
          rw [he0]
          exact h.runAct hp key _ (fun _ hk => List.mem_singleton.1 hk) (fun hk => by rw [hnew v rfl hl] at hk; cases hk)

theorem frame_form (f : C11.TxForm) (s : MState) (hp : s.pebble = true) (now : Int)
    (hw : f.write = false → f.ctor = none)
    (hnew : ∀ v0, f.ctor = some v0 → live s now f.key = false → (f.dec v0 0).isKeep = false) :
    Frame [] s (f.run s now).1 :=
  frame_keyTx s hp f.write f.ctor f.miss f.nov f.dec now f.key hw hnew

/-- case split after `writeKey s now key (some v)`; the call becomes the pair `(s1, ok)`.  Found: `hl : live s now key = true`,
    `h : Frame [] s s1`.  Created: `hl : live s now key = false`, `h : Frame [key] s s1`, `hv : valOf s1 key = some v` -/
macro "wk_some " s:term:max now:term:max key:term:max v:term:max " with " s1:ident ok:ident hl:ident h:ident hv:ident :
    tactic => `(tactic|
  (rcases writeKey_some_cases $s $now $key $v with ⟨$hl:ident, $h:ident⟩ | ⟨$hl:ident, $h:ident, $hv:ident, -⟩ <;>
   generalize Store.writeKey $s $now $key (some $v) = w at * <;>
   obtain ⟨$s1:ident, $ok:ident⟩ := w <;>
   dsimp only at * ))

/-- after `writeKey s now key none`: the call becomes the pair `(s1, ok)`, with `h : Frame [] s s1` -/
macro "wk_none " s:term:max now:term:max key:term:max " with " s1:ident ok:ident h:ident : tactic => `(tactic|
  (have $h:ident := frame_writeKey_none $s $now $key
   generalize Store.writeKey $s $now $key none = w at $h:ident ⊢
   obtain ⟨$s1:ident, $ok:ident⟩ := w
   dsimp only at $h:ident ⊢))

/-- after `readKey s now key`: the call becomes the pair `(s1, ok)`, with `h : Frame [] s s1` -/
macro "rk " s:term:max now:term:max key:term:max " with " s1:ident ok:ident h:ident : tactic => `(tactic|
  (have $h:ident := frame_readKey $s $now $key
   generalize Store.readKey $s $now $key = w at $h:ident ⊢
   obtain ⟨$s1:ident, $ok:ident⟩ := w
   dsimp only at $h:ident ⊢))

theorem asStr_of_valOf_strNil {s : MState} {key : Bytes} (hv : valOf s key = some .strNil) :
    asStr s key = some none := by simp [asStr, hv]

theorem setRange_isSome_congr (a b : DsStr.S) (h : DsStr.bytes a = DsStr.bytes b) (offset : Int) (value : Bytes) :
    (DsStr.setRange a offset value).isSome = (DsStr.setRange b offset value).isSome := by
  simp only [DsStr.setRange, h, apply_ite Option.isSome, Option.isSome_some, Option.isSome_none]

section str
variable (s : MState) (hp : s.pebble = true) (now : Int)
include hp

theorem frame_setOpt (key : Bytes) (value : DsStr.S) (keepTTL : Bool) :
    Frame [] s (Api.setOpt s now key value keepTTL).1 := by
  rw [C11.setOpt_eq]
  -- here and below, the last two arguments of `frame_keyTx` / `frame_form`: `hw` (the command writes, so `nofun`) and
  -- `hnew` (the decision on a record the constructor has just published is not `keep`; `nofun` when there is no constructor)
  exact frame_keyTx s hp _ _ _ _ _ now key nofun (fun _ h _ => by cases h; rfl)

theorem frame_set (key value : Bytes) (keepTTL : Bool) : Frame [] s (Api.set s now key value keepTTL).1 :=
  frame_setOpt s hp now key (some value) keepTTL

theorem frame_getSet (key value : Bytes) : Frame [] s (Api.getSet s now key value).1 := by
  unfold Api.getSet
  wk_none s now key with s1 ok h
  refine frame_ite ((((h.newKeyWith _ _ _).setVal hp _ _).setExp _ _).finish _ _) ?_
  split
  · exact h
  · exact ((h.setVal hp _ _).setExp _ _).finish _ _

theorem frame_setPX (key value : Bytes) (ms : Int) : Frame [] s (Api.setPX s now key value ms).1 := by
  rw [C11.setPX_eq]
  exact frame_keyTx s hp _ _ _ _ _ now key nofun (fun _ h _ => by cases h; rfl)

theorem frame_setEX (key value : Bytes) (seconds : Int) : Frame [] s (Api.setEX s now key value seconds).1 :=
  frame_setPX s hp now key value _

theorem frame_setNX (key value : Bytes) (keepTTL : Bool) : Frame [] s (Api.setNX s now key value keepTTL).1 := by
  unfold Api.setNX
  wk_none s now key with s1 ok h
  exact frame_ite h ((((h.newKeyWith _ _ _).setExpIf _ _ _).setVal hp _ _).finish _ _)

theorem frame_setXX (key value : Bytes) (keepTTL : Bool) : Frame [] s (Api.setXX s now key value keepTTL).1 := by
  rw [C11.setXX_eq]
  exact frame_keyTx s hp _ _ _ _ _ now key nofun nofun

theorem frame_setBit (key : Bytes) (offset : Int) (value : Bool) : Frame [] s (Api.setBit s now key offset value).1 := by
  rw [C20.setBit_eq]
  exact frame_keyTx s hp _ _ _ _ _ now key nofun (fun _ h _ => by cases h; rfl)

theorem frame_append (key value : Bytes) : Frame [] s (Api.append s now key value).1 := by
  rw [C11.append_eq]
  exact frame_keyTx s hp _ _ _ _ _ now key nofun (fun _ h _ => by cases h; rfl)

/-
  FULL STATEMENT (false):
    theorem writers_signal_addInt (s) (hp : s.pebble = true) (now key delta neg sw) (k) :
      changed s (Api.addInt s now key delta neg sw).1 k → k ∈ (Api.addInt s now key delta neg sw).1.signalled
  Finding region, the exception of `frame_keyTx`: the key is not live (so `writeKey` creates it as an empty
  string) AND the decision on that record is `keep`: the sum 0 ± delta leaves int64 (DECRBY key -2^63 through the
  typed API) and the call returns the overflow error after the record was created, without `signalModifiedKey`.
-/
theorem frame_addInt (key : Bytes) (delta : Int) (neg sw : Bool)
    (hreg : live s now key = true ∨ inInt64 (if neg then -delta else delta) = true) :
    Frame [] s (Api.addInt s now key delta neg sw).1 := by
  rw [C11.addInt_eq]
  refine frame_keyTx s hp _ _ _ _ _ now key nofun (fun _ h hl => ?_)
  cases h
  have hin := hreg.resolve_left (by rw [hl]; exact Bool.false_ne_true)
  have hp0 : parseInt64 [48] = some 0 := by decide
  -- the sum on the fresh empty string is `0 ± delta`
  cases neg
  · simp only [Bool.false_eq_true, if_false] at hin
    simp only [C11.decAddInt, C11.decStrWrite, Bool.false_eq_true, if_false, DsStr.incr, DsStr.addInt, DsStr.bytes,
      Option.getD_some, List.isEmpty_nil, if_true, hp0, Int.zero_add, hin, C11.Act.isKeep]
  · simp only [if_true] at hin
    simp only [C11.decAddInt, C11.decStrWrite, if_true, DsStr.decr, DsStr.addInt, DsStr.bytes,
      Option.getD_some, List.isEmpty_nil, hp0, Int.zero_add, hin, C11.Act.isKeep]

/-
  FULL STATEMENT (false):
    theorem writers_signal_setRange (s) (hp : s.pebble = true) (now key offset value) (k) :
      changed s (Api.setRange s now key offset value).1 k → k ∈ (Api.setRange s now key offset value).1.signalled
  Finding region, the exception of `frame_keyTx`: the key is not live (so `writeKey` creates it) AND the decision
  on that record is `keep`: `SetRange` panics on the fresh empty string (offset + len overflows int64 or asks for
  more than 1 GiB), after the record was created and before `signalModifiedKey`. (Embedded API only: the RESP
  handler rejects such offsets.)
-/
theorem frame_setRange (key : Bytes) (offset : Int) (value : Bytes)
    (hreg : live s now key = true ∨ (DsStr.setRange none offset value).isSome = true) :
    Frame [] s (Api.setRange s now key offset value).1 := by
  rw [C20.setRange_eq]
  refine frame_keyTx s hp _ _ _ _ _ now key nofun (fun _ h hl => ?_)
  cases h
  have hin := hreg.resolve_left (by rw [show live s now key = false from hl]; exact Bool.false_ne_true)
  rw [← setRange_isSome_congr (some []) none rfl] at hin
  show (C20.decSetRange key offset value (.str []) 0).isKeep = false
  simp only [C20.decSetRange, C11.decStrWrite]
  cases hs : DsStr.setRange (some []) offset value with
  | none => rw [hs] at hin; cases hin
  | some p => rfl

end str

theorem frame_mset_go (now : Int) :
    ∀ (pairs : List Bytes) (s : MState), s.pebble = true → Frame [] s (Api.mset.go now pairs s).1
  | [], s, _ => by unfold Api.mset.go; exact Frame.refl _ _
  | [_], s, _ => by unfold Api.mset.go; exact Frame.refl _ _
  | k :: v :: rest, s, hp => by
    unfold Api.mset.go
    have h1 := frame_set s hp now k v false
    generalize Api.set s now k v false = r at h1 ⊢
    obtain ⟨s1, o⟩ := r
    dsimp only at h1 ⊢
    split
    · next heq => cases heq; exact h1
    · next heq =>
      cases heq
      exact h1.trans0 ((frame_commit _).trans0 (frame_mset_go now rest _ (h1.pebble hp)))

theorem frame_mset (s : MState) (hp : s.pebble = true) (now : Int) (pairs : List Bytes) :
    Frame [] s (Api.mset s now pairs).1 := by
  unfold Api.mset
  split
  · exact Frame.refl _ _
  · exact frame_mset_go now pairs s hp

theorem frame_foldl {α β : Type} (f : MState × α → β → MState × α)
    (hf : ∀ acc x, acc.1.pebble = true → Frame [] acc.1 (f acc x).1) :
    ∀ (xs : List β) (acc : MState × α), acc.1.pebble = true → Frame [] acc.1 (xs.foldl f acc).1
  | [], acc, _ => Frame.refl _ _
  | x :: xs, acc, hp => by
    rw [List.foldl_cons]
    exact (hf acc x hp).trans0 (frame_foldl f hf xs (f acc x) ((hf acc x hp).pebble hp))

section key
variable (s : MState) (hp : s.pebble = true) (now : Int)
include hp

theorem frame_del (keys : List Bytes) : Frame [] s (Api.del s now keys).1 := by
  unfold Api.del
  split
  next s' c heq =>
  have := frame_foldl (α := Int) (fun (acc : MState × Int) key =>
    let (s, ok) := writeKey acc.1 now key none
    if !ok then (s, acc.2) else
    (emit { delKey s key with signalled := key :: s.signalled } { typ := 2, key := key }, acc.2 + 1))
    (fun acc key _ => by
      dsimp only
      wk_none acc.1 now key with s1 ok h
      exact frame_ite h (h.delSignal key _)) keys (s, 0) hp
  rw [heq] at this
  exact this

theorem frame_expireAtNX (key : Bytes) (ts : Int) : Frame [] s (Api.expireAtNX s now key ts).1 := by
  rw [C11.expireAtNX_eq]
  exact frame_keyTx s hp _ _ _ _ _ now key nofun nofun

theorem frame_expireAtXX (key : Bytes) (ts : Int) : Frame [] s (Api.expireAtXX s now key ts).1 := by
  rw [C11.expireAtXX_eq]
  exact frame_keyTx s hp _ _ _ _ _ now key nofun nofun

theorem frame_expireAtGT (key : Bytes) (ts : Int) : Frame [] s (Api.expireAtGT s now key ts).1 := by
  rw [C11.expireAtGT_eq]
  exact frame_form _ s hp now nofun nofun

theorem frame_expireAtLT (key : Bytes) (ts : Int) : Frame [] s (Api.expireAtLT s now key ts).1 := by
  rw [C11.expireAtLT_eq]
  exact frame_form _ s hp now nofun nofun

theorem frame_expireAt (key : Bytes) (ts : Int) : Frame [] s (Api.expireAt s now key ts).1 := by
  rw [C11.expireAt_eq]
  exact frame_keyTx s hp _ _ _ _ _ now key nofun nofun

/-! the relative forms are the absolute ones at the deadline computed from `now` -/

theorem frame_expireNX (key : Bytes) (seconds : Int) : Frame [] s (Api.expireNX s now key seconds).1 :=
  frame_expireAtNX s hp now key _

theorem frame_expireXX (key : Bytes) (seconds : Int) : Frame [] s (Api.expireXX s now key seconds).1 :=
  frame_expireAtXX s hp now key _

theorem frame_expireGT (key : Bytes) (seconds : Int) : Frame [] s (Api.expireGT s now key seconds).1 :=
  frame_expireAtGT s hp now key _

theorem frame_expireLT (key : Bytes) (seconds : Int) : Frame [] s (Api.expireLT s now key seconds).1 :=
  frame_expireAtLT s hp now key _

theorem frame_expire (key : Bytes) (seconds : Int) : Frame [] s (Api.expire s now key seconds).1 := by
  unfold Api.expire
  exact frame_ite (frame_del s hp now [key]) (frame_expireAt s hp now key _)

theorem frame_expirePX (key : Bytes) (ms : Int) : Frame [] s (Api.expirePX s now key ms).1 := by
  unfold Api.expirePX
  exact frame_ite (frame_del s hp now [key]) (frame_expireAt s hp now key _)

theorem frame_persist (key : Bytes) : Frame [] s (Api.persist s now key).1 := by
  rw [C11.apiPersist_eq]
  exact frame_keyTx s hp _ _ _ _ _ now key nofun nofun

omit hp in
theorem frame_rename (key dst : Bytes) : Frame [] s (Api.rename s now key dst).1 := by
  unfold Api.rename
  wk_none s now key with s1 ok h
  refine frame_ite h ?_
  split
  · exact h
  · next m hm =>
    refine frame_ite h ?_
    have h2 := h.writeKeyNone now dst
    generalize writeKey s1 now dst none = w2 at h2 ⊢
    obtain ⟨s2, dok⟩ := w2
    dsimp only at h2 ⊢
    have h3 : Frame [dst, key] s (delKey s2 key) :=
      (h2.weaken (fun _ hk => nomatch hk)).delKey' (by simp)
    -- the destination record: published afresh if `dst` was not live, else the one found
    have h4 := fun o => Frame.ite (c := (!dok) = true)
      ((h3.fresh.unpersistOpt o dst).putMeta' (m := { exp := m.exp, value := none, kid := (fresh (delKey s2 key)).1 })
        List.mem_cons_self) h3
    refine Frame.emit (Frame.closeWith (D := [dst, key]) (Frame.setExp' ?_ List.mem_cons_self) dst [dst, key] (fun _ hk => hk)) _
    split
    · exact Frame.modMeta' (h4 _) List.mem_cons_self
    · exact h4 _

omit hp in
theorem frame_renameNX (key dst : Bytes) : Frame [] s (Api.renameNX s now key dst).1 := by
  unfold Api.renameNX
  wk_none s now dst with s1 ok h
  refine frame_ite h ?_
  have h2 := h.writeKeyNone now key
  generalize writeKey s1 now key none = w2 at h2 ⊢
  obtain ⟨s2, ok2⟩ := w2
  dsimp only at h2 ⊢
  refine frame_ite h2 ?_
  split
  · exact h2
  · next m hm =>
    have h3 : Frame [dst, key] s (delKey s2 key) :=
      (h2.weaken (fun _ hk => nomatch hk)).delKey' (by simp)
    refine Frame.emit (Frame.closeWith' (D := [dst, key]) ?_ [dst, key] (fun _ hk => hk)) _
    exact (h3.fresh.unpersistOpt _ _).putMeta' List.mem_cons_self

end key

end NodisVerif.Proofs.C09Writers

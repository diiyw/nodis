import NodisVerif.Proofs.C03Api
/-
  C03, API level, two parts.
  1. One key: `HashRel` / `SetRel` (the store represents a well-formed collection under a key; a missing key is the
     empty one; both unfold to `Rel mk`), and for every single-key hash / set command that it keeps the relation
     and answers like the data-structure function (`*_rel`, `sadd_hot`, `hmset_hot`). `hmsetDs`, the data-structure
     part of `Api.hmset`, is defined at the head of Proofs/KeyTxApi.lean, where `decHmset` is written with it.
  2. Several keys: `KeepsClassification` and the set reads, DEL of one key, the body of S*STORE
     (`sstore_enumerated`), and SMOVE on a hot source, read through its normal form `C20.smove_eq` (`moveOut`,
     `smove_hot_eq`: the member leaves the source, the rest is SADD on the destination).
-/
namespace NodisVerif.Proofs.C03Seq
open NodisVerif.Proofs.AListLemmas NodisVerif.Proofs.AListLemmas2 NodisVerif.Proofs.C03 NodisVerif.Proofs.C03Api
open Store Api

theorem fresh_index (s : MState) : (fresh s).2.index = s.index := rfl

/-- the store represents the hash `h` under `key`: a missing key is the empty hash -/
def HashRel (s : MState) (key : Bytes) (now : Int) (h : AList Bytes) : Prop :=
  AList.Sorted h ∧ ((h = [] ∧ Absent s key now) ∨ (h ≠ [] ∧ Hot s key (.hash h) now))

/-- the store represents the set `st` under `key`: a missing key is the empty set -/
def SetRel (s : MState) (key : Bytes) (now : Int) (st : AList Unit) : Prop :=
  AList.Sorted st ∧ ((st = [] ∧ Absent s key now) ∨ (st ≠ [] ∧ Hot s key (.set st) now))

/-- `HashRel` and `SetRel` unfold to this, with `mk` the constructor of the value -/
def Rel {V : Type} (mk : AList V → Val) (s : MState) (key : Bytes) (now : Int) (c : AList V) : Prop :=
  AList.Sorted c ∧ ((c = [] ∧ Absent s key now) ∨ (c ≠ [] ∧ Hot s key (mk c) now))

theorem set_ne_nil {V : Type} (m : AList V) (k : Bytes) (v : V) : AList.set m k v ≠ [] := by
  intro h
  have := get?_set_same m k v
  rw [h] at this
  simp [AList.get?] at this

theorem eq_nil_of_length_zero {α : Type} (l : List α) (h : (l.length : Int) = 0) : l = [] :=
  List.length_eq_zero_iff.mp (by omega)

theorem pair_eta {α β : Type} (p : α × β) : p = (p.1, p.2) := rfl

/-! ### key transactions on a key that represents a collection

  The hash and set commands are key transactions (Proofs/KeyTxApi.lean). `open_create` / `keyTx_rel` say what their
  lookup finds under `Rel` (Proofs/KeyTxLive.lean: `keyTx_found`, `keyTx_missing`, `keyTx_create`), `runAct_rel`
  what their decision leaves, by its outcome `Stores`. -/

section tx
open NodisVerif.Proofs.C11 (Act runAct keyTx)
open NodisVerif.Proofs.KeyTx

theorem open_create {V : Type} (mkv : AList V → Val) (miss : Out) (nov : MState → R) (dec : Val → Int → Act)
    {s : MState} {now : Int} {k : Bytes} {c : AList V}
    (hd : (Absent s k now ∧ c = []) ∨ Hot s k (mkv c) now) (hi : IndexSorted s) :
    ∃ s1 e, keyTx true (some (mkv [])) miss nov dec s now k = runAct s1 k (dec (mkv c) e) ∧
      Hot s1 k (mkv c) now ∧ C01.HotExp s1 k e ∧ IndexSorted s1 := by
  rcases hd with ⟨ha, rfl⟩ | hh
  · obtain ⟨heq, hot1, he1, hsrt⟩ := keyTx_create (mkv []) miss nov dec (live_none_of_absent ha)
    exact ⟨_, 0, heq, hot1, he1, hsrt hi⟩
  · obtain ⟨heq, hot1, he1, _, hsrt⟩ := keyTx_found true (some (mkv [])) miss nov dec (C01.live_of_hot hh)
    exact ⟨_, _, heq, hot1, he1, hsrt hi⟩

/-- what a decision makes of the collection `c` under the key: the new collection and the reply -/
inductive Stores {V : Type} (mkv : AList V → Val) (c : AList V) : Act → AList V → Out → Prop
  | keep (r : Out) (hne : c ≠ []) : Stores mkv c (.keep r) c r
  | touch (ops : List FeedOp) (r : Out) (hne : c ≠ []) : Stores mkv c (.put none none ops r) c r
  | put (c' : AList V) (ops : List FeedOp) (r : Out) (hne : c' ≠ []) :
      Stores mkv c (.put (some (mkv c')) none ops r) c' r
  | shrink (c' : AList V) (ops : List FeedOp) (r : Out) :
      Stores mkv c (if (c'.length : Int) = 0 then .drop (mkv c') ops r else .put (some (mkv c')) none ops r) c' r

theorem runAct_rel {V : Type} {mkv : AList V → Val} {c c' : AList V} {a : Act} {r : Out} {s1 : MState} {k : Bytes}
    {now e : Int} (hot : Hot s1 k (mkv c) now) (he : C01.HotExp s1 k e) (hi : IndexSorted s1)
    (hc : AList.Sorted c) (hc' : AList.Sorted c') (st : Stores mkv c a c' r) :
    (runAct s1 k a).2 = r ∧ Rel mkv (runAct s1 k a).1 k now c' ∧ IndexSorted (runAct s1 k a).1 := by
  cases st with
  | keep r hne => exact ⟨rfl, ⟨hc, Or.inr ⟨hne, hot⟩⟩, hi⟩
  | touch ops r hne =>
    exact ⟨rfl, ⟨hc, Or.inr ⟨hne, (runAct_put hot he none none ops r (fun _ hx => by cases hx)).1⟩⟩,
      put_sorted k _ _ ops r hi⟩
  | put c' ops r hne =>
    exact ⟨rfl, ⟨hc', Or.inr ⟨hne, (runAct_put hot he (some (mkv c')) none ops r (fun _ hx => by cases hx)).1⟩⟩,
      put_sorted k _ _ ops r hi⟩
  | shrink c' ops r =>
    obtain ⟨a1, a2, a3, a4⟩ := runAct_emptied hot he hi ((c'.length : Int) = 0) (mkv c') ops r
    refine ⟨a1, ⟨hc', ?_⟩, a2⟩
    by_cases hz : (c'.length : Int) = 0
    · exact Or.inl ⟨eq_nil_of_length_zero c' hz, fun m hm => by rw [a3 hz] at hm; cases hm⟩
    · exact Or.inr ⟨fun e => hz (by rw [e]; rfl), (a4 hz).1⟩

/-- a command without constructor (reads; HDEL / SREM / SPOP) on a represented key -/
theorem keyTx_rel {V : Type} {mkv : AList V → Val} (w : Bool) (miss : Out) (nov : MState → R)
    (dec : Val → Int → Act) {s : MState} {now : Int} {k : Bytes} {c c' : AList V} {r : Out}
    (hr : Rel mkv s k now c) (hi : IndexSorted s) (hc' : AList.Sorted c')
    (hd : c ≠ [] → ∀ e, Stores mkv c (dec (mkv c) e) c' r) (hm : c = [] → c' = [] ∧ r = miss) :
    (keyTx w none miss nov dec s now k).2 = r ∧ Rel mkv (keyTx w none miss nov dec s now k).1 k now c' ∧
    IndexSorted (keyTx w none miss nov dec s now k).1 := by
  rcases hr.2 with ⟨hnil, ha⟩ | ⟨hne, hh⟩
  · obtain ⟨heq, hlk, hsrt⟩ := keyTx_missing w miss nov dec (live_none_of_absent ha)
    obtain ⟨e1, e2⟩ := hm hnil
    rw [heq, e1, e2]
    refine ⟨rfl, ⟨hnil ▸ hr.1, Or.inl ⟨rfl, ?_⟩⟩, hsrt hi⟩
    rw [absent_iff] at ha ⊢
    rw [hlk k]; exact ha
  · obtain ⟨heq, hot1, he1, _, hsrt⟩ := keyTx_found w none miss nov dec (C01.live_of_hot hh)
    rw [heq]
    exact runAct_rel hot1 he1 (hsrt hi) hr.1 hc' (hd hne _)

/-- a command that brings the constructor of the empty collection (HSET, SADD, …) -/
theorem keyTx_rel_create {V : Type} {mkv : AList V → Val} (miss : Out) (nov : MState → R)
    (dec : Val → Int → Act) {s : MState} {now : Int} {k : Bytes} {c c' : AList V} {r : Out}
    (hr : Rel mkv s k now c) (hi : IndexSorted s) (hc' : AList.Sorted c')
    (hd : ∀ e, Stores mkv c (dec (mkv c) e) c' r) :
    (keyTx true (some (mkv [])) miss nov dec s now k).2 = r ∧
    Rel mkv (keyTx true (some (mkv [])) miss nov dec s now k).1 k now c' ∧
    IndexSorted (keyTx true (some (mkv [])) miss nov dec s now k).1 := by
  obtain ⟨s1, e, heq, hot1, he1, hi1⟩ := open_create mkv miss nov dec (hr.2.imp (fun ⟨e, a⟩ => ⟨a, e⟩) (·.2)) hi
  rw [heq]
  exact runAct_rel hot1 he1 hi1 hr.1 hc' (hd _)

end tx

theorem hset_rel (s : MState) (now : Int) (key f v : Bytes) (h : AList Bytes) (hr : HashRel s key now h)
    (hi : IndexSorted s) :
    (Api.hset s now key f v).2 = .int (DsHash.hset h f v).2 ∧
    HashRel (Api.hset s now key f v).1 key now (DsHash.hset h f v).1 ∧
    IndexSorted (Api.hset s now key f v).1 := by
  rw [C11.hset_eq]
  exact keyTx_rel_create (mkv := Val.hash) _ _ _ hr hi (set_preserves_sorted h hr.1 f v)
    (fun _ => .put _ _ _ (set_ne_nil h f v))

theorem hsetnx_rel (s : MState) (now : Int) (key f v : Bytes) (h : AList Bytes) (hr : HashRel s key now h)
    (hi : IndexSorted s) :
    (Api.hsetnx s now key f v).2 = .int (if (DsHash.hsetnx h f v).2 then 1 else 0) ∧
    HashRel (Api.hsetnx s now key f v).1 key now (DsHash.hsetnx h f v).1 ∧
    IndexSorted (Api.hsetnx s now key f v).1 := by
  rw [C11.hsetnx_eq]
  unfold DsHash.hsetnx
  cases hc : AList.contains h f with
  | true =>
    simp only [if_true]
    refine keyTx_rel_create (mkv := Val.hash) _ _ _ hr hi hr.1 fun _ => ?_
    simp only [C11.hsetnxForm, C11.decHsetnx, DsHash.hexists, hc, if_true]
    exact .keep _ (ne_nil_of_contains h f hc)
  | false =>
    simp only [Bool.false_eq_true, if_false, if_true]
    refine keyTx_rel_create (mkv := Val.hash) _ _ _ hr hi (set_preserves_sorted h hr.1 f v) fun _ => ?_
    simp only [C11.hsetnxForm, C11.decHsetnx, DsHash.hexists, hc, Bool.false_eq_true, if_false]
    have : DsHash.hset h f v = (AList.set h f v, 1) := by simp [DsHash.hset, hc]
    rw [this]
    exact .put _ _ _ (set_ne_nil h f v)

theorem hincrby_rel (s : MState) (now : Int) (key f : Bytes) (delta : Int) (h : AList Bytes)
    (hr : HashRel s key now h) (hi : IndexSorted s) :
    (Api.hincrby s now key f delta).2 =
      (match DsHash.hincrby h f delta with
       | none => .many [.int 0, .err true]
       | some (_, v) => .many [.int v, .err false]) ∧
    HashRel (Api.hincrby s now key f delta).1 key now
      (match DsHash.hincrby h f delta with | none => h | some (h', _) => h') ∧
    IndexSorted (Api.hincrby s now key f delta).1 := by
  rw [C20.hincrby_eq]
  cases hd : DsHash.hincrby h f delta with
  | none =>
    have hne : h ≠ [] := by
      intro e; subst e
      simp [DsHash.hincrby, AList.get?] at hd
    refine keyTx_rel_create (mkv := Val.hash) _ _ _ hr hi hr.1 fun _ => ?_
    simp only [C20.hincrbyF, C20.decHincrby, hd]
    exact .touch _ _ hne
  | some p =>
    obtain ⟨h', v⟩ := p
    have hs' : AList.Sorted h' ∧ h' ≠ [] := by
      unfold DsHash.hincrby at hd
      split at hd
      · cases hd; exact ⟨set_preserves_sorted h hr.1 f _, set_ne_nil h f _⟩
      · split at hd
        · cases hd
        · cases hd; exact ⟨set_preserves_sorted h hr.1 f _, set_ne_nil h f _⟩
    refine keyTx_rel_create (mkv := Val.hash) _ _ _ hr hi hs'.1 fun _ => ?_
    simp only [C20.hincrbyF, C20.decHincrby, hd]
    exact .put _ _ _ hs'.2

theorem hdel_rel (s : MState) (now : Int) (key : Bytes) (fields : List Bytes) (h : AList Bytes)
    (hr : HashRel s key now h) (hi : IndexSorted s) :
    (Api.hdel s now key fields).2 = .int (DsHash.hdel h fields).2 ∧
    HashRel (Api.hdel s now key fields).1 key now (DsHash.hdel h fields).1 ∧
    IndexSorted (Api.hdel s now key fields).1 := by
  rw [C11.hdel_eq]
  refine keyTx_rel (mkv := Val.hash) true _ _ _ hr hi (hdel_spec h hr.1 fields).1 (fun _ _ => .shrink _ _ _) ?_
  rintro rfl
  rw [show DsHash.hdel [] fields = ([], 0) from foldl_delStep_nil fields 0]
  exact ⟨rfl, rfl⟩

theorem hread_rel (f : AList Bytes → Out) (dflt : Out) (s : MState) (now : Int) (key : Bytes) (h : AList Bytes)
    (hr : HashRel s key now h) (hi : IndexSorted s) :
    HashRel (hread f dflt s now key).1 key now h ∧ IndexSorted (hread f dflt s now key).1 ∧
    ((h = [] ∧ Absent s key now ∧ (hread f dflt s now key).2 = dflt) ∨
     (Hot s key (.hash h) now ∧ (hread f dflt s now key).2 = f h)) := by
  rw [C11.hread_eq]
  rcases hr.2 with ⟨hnil, ha⟩ | ⟨hne, hh⟩
  · obtain ⟨a, b, c⟩ := keyTx_rel (mkv := Val.hash) false dflt _ (C11.decHashRead f) hr hi hr.1
      (fun hne _ => absurd hnil hne) (fun _ => ⟨hnil, rfl⟩)
    exact ⟨b, c, Or.inl ⟨hnil, ha, a⟩⟩
  · obtain ⟨a, b, c⟩ := keyTx_rel (mkv := Val.hash) false dflt _ (C11.decHashRead f) hr hi hr.1
      (fun hne _ => .keep (f h) hne) (fun e => absurd e hne)
    exact ⟨b, c, Or.inr ⟨hh, a⟩⟩

theorem hread_rel' (f : AList Bytes → Out) (dflt : Out) (hd : dflt = f []) (s : MState) (now : Int) (key : Bytes)
    (h : AList Bytes) (hr : HashRel s key now h) (hi : IndexSorted s) :
    HashRel (hread f dflt s now key).1 key now h ∧ IndexSorted (hread f dflt s now key).1 ∧
    (hread f dflt s now key).2 = f h := by
  obtain ⟨a, b, c⟩ := hread_rel f dflt s now key h hr hi
  exact ⟨a, b, c.elim (fun ⟨e, _, o⟩ => by rw [o, e, hd]) (·.2)⟩

def hmsetStep (acc : AList Bytes × Int) (p : Bytes × Bytes) : AList Bytes × Int :=
  (AList.set acc.1 p.1 p.2, acc.2 + (if AList.contains acc.1 p.1 then 0 else 1))

theorem hmsetDs_eq_fold (h : AList Bytes) (pairs : List (Bytes × Bytes)) :
    hmsetDs h pairs = pairs.foldl hmsetStep (h, 0) := by
  unfold hmsetDs
  congr 1

theorem foldl_put_isSome {V : Type} : ∀ (pairs : List (Bytes × V)) (m : Spec.Map V) (x : Bytes),
    ((pairs.foldl (fun m p => Spec.Map.put m p.1 p.2) m) x).isSome = true ↔
      (m x).isSome = true ∨ x ∈ pairs.map (·.1) := by
  intro pairs
  induction pairs with
  | nil => intro m x; simp
  | cons p ps ih =>
    intro m x
    simp only [List.foldl_cons, ih, List.map_cons, List.mem_cons]
    by_cases hx : x = p.1
    · simp [Spec.Map.put, hx]
    · simp [Spec.Map.put, hx]

theorem foldl_hmsetStep : ∀ (pairs : List (Bytes × Bytes)) (h : AList Bytes) (c : Int), AList.Sorted h →
    AList.Sorted (pairs.foldl hmsetStep (h, c)).1 ∧
    AList.get? (pairs.foldl hmsetStep (h, c)).1 = pairs.foldl (fun m p => Spec.Map.put m p.1 p.2) (AList.get? h) ∧
    ((pairs.foldl hmsetStep (h, c)).1.length : Int) = h.length + ((pairs.foldl hmsetStep (h, c)).2 - c) := by
  intro pairs
  induction pairs with
  | nil => intro h c hs; simp [hs]
  | cons p ps ih =>
    intro h c hs
    simp only [List.foldl_cons]
    have hstep : hmsetStep (h, c) p = (AList.set h p.1 p.2, c + (if AList.contains h p.1 then 0 else 1)) := rfl
    rw [hstep]
    obtain ⟨i1, i2, i3⟩ := ih (AList.set h p.1 p.2) (c + (if AList.contains h p.1 then 0 else 1))
      (set_preserves_sorted h hs p.1 p.2)
    refine ⟨i1, ?_, ?_⟩
    · rw [i2]
      congr 1
      funext x
      exact get?_set h p.1 p.2 x
    · have hl := length_set h hs p.1 p.2
      cases hc : AList.contains h p.1 with
      | true => simp only [hc, if_true] at hl i3 ⊢; omega
      | false => simp only [hc, Bool.false_eq_true, if_false] at hl i3 ⊢; omega

/-- HMSET at the data-structure level: the map afterwards is the abstract update pair by pair
    (a later pair for the same field wins), the count is the number of distinct new fields.
    (Go's `HMSet` takes a map: fields are distinct and visited in map order; the model takes the pairs as a list, and
    that the result is the same in every order of pairs with distinct fields is not stated here.) -/
theorem hmsetDs_spec (h : AList Bytes) (hs : AList.Sorted h) (pairs : List (Bytes × Bytes)) :
    AList.Sorted (hmsetDs h pairs).1 ∧
    DsHash.hget (hmsetDs h pairs).1 = pairs.foldl (fun m p => Spec.Map.put m p.1 p.2) (DsHash.hget h) ∧
    (∀ d, Spec.Enumerates d (Spec.listed (pairs.map (·.1)) (fun x => !DsHash.hexists h x)) →
      (hmsetDs h pairs).2 = d.length) := by
  rw [hmsetDs_eq_fold]
  obtain ⟨i1, i2, i3⟩ := foldl_hmsetStep pairs h 0 hs
  refine ⟨i1, i2, ?_⟩
  intro d hd
  have hc : ∀ x, AList.contains (pairs.foldl hmsetStep (h, 0)).1 x = true ↔
      AList.contains h x = true ∨ x ∈ pairs.map (·.1) := by
    intro x
    simp only [AList.contains]
    rw [i2]
    exact foldl_put_isSome pairs (AList.get? h) x
  have := count_added h _ hs i1 (pairs.map (·.1)) hc d hd
  omega

theorem hot_congr {s s' : MState} (e : s'.index = s.index) {k : Bytes} {v : Val} {now : Int} (h : Hot s k v now) :
    Hot s' k v now :=
  hot_of_getMeta (congrArg (AList.get? · k) e) h

theorem sorted_congr {s s' : MState} (e : s'.index = s.index) (h : IndexSorted s) : IndexSorted s' := by
  unfold IndexSorted; rw [e]; exact h

theorem hmsetDs_ne_nil (h : AList Bytes) (hs : AList.Sorted h) (pairs : List (Bytes × Bytes))
    (hne : pairs ≠ [] ∨ h ≠ []) : (hmsetDs h pairs).1 ≠ [] := by
  obtain ⟨_, i2, _⟩ := hmsetDs_spec h hs pairs
  refine ne_nil_of_grows h _ (pairs.map (·.1)) (fun x => ?_) (hne.imp_left fun hp e => hp (List.map_eq_nil_iff.mp e))
  rw [AList.contains, show AList.get? (hmsetDs h pairs).1 = _ from i2]
  exact foldl_put_isSome pairs (DsHash.hget h) x

section tx
open NodisVerif.Proofs.KeyTx

theorem hmset_hot (s : MState) (now : Int) (key : Bytes) (pairs : List (Bytes × Bytes)) (h : AList Bytes)
    (hr : HashRel s key now h) (hi : IndexSorted s) :
    (Api.hmset s now key pairs).2 = .int (hmsetDs h pairs).2 ∧
    Hot (Api.hmset s now key pairs).1 key (.hash (hmsetDs h pairs).1) now ∧
    IndexSorted (Api.hmset s now key pairs).1 := by
  obtain ⟨s1, e, heq, hot1, he1, hi1⟩ := open_create Val.hash .unit C11.Cmd.pan (C20.decHmset key pairs)
    (hr.2.imp (fun ⟨e, a⟩ => ⟨a, e⟩) (·.2)) hi
  rw [C20.hmset_eq, show (C20.hmsetF key pairs).run s now = _ from heq]
  exact ⟨rfl, (runAct_put hot1 he1 (some (.hash (hmsetDs h pairs).1)) none _ _ (fun _ hx => by cases hx)).1,
    put_sorted key _ _ _ _ hi1⟩

theorem hmset_rel (s : MState) (now : Int) (key : Bytes) (pairs : List (Bytes × Bytes)) (h : AList Bytes)
    (hr : HashRel s key now h) (hi : IndexSorted s) (hne : pairs ≠ [] ∨ h ≠ []) :
    (Api.hmset s now key pairs).2 = .int (hmsetDs h pairs).2 ∧
    HashRel (Api.hmset s now key pairs).1 key now (hmsetDs h pairs).1 ∧
    IndexSorted (Api.hmset s now key pairs).1 := by
  obtain ⟨o, hot, i⟩ := hmset_hot s now key pairs h hr hi
  exact ⟨o, ⟨(hmsetDs_spec h hr.1 pairs).1, Or.inr ⟨hmsetDs_ne_nil h hr.1 pairs hne, hot⟩⟩, i⟩

theorem sadd_hot (s : MState) (now : Int) (key : Bytes) (ms : List Bytes) (st : AList Unit)
    (hd : (Absent s key now ∧ st = []) ∨ Hot s key (.set st) now) (hi : IndexSorted s) :
    (Api.sadd s now key ms).2 = .int (DsSet.sadd st ms).2 ∧
    Hot (Api.sadd s now key ms).1 key (.set (DsSet.sadd st ms).1) now ∧
    IndexSorted (Api.sadd s now key ms).1 := by
  obtain ⟨s1, e, heq, hot1, he1, hi1⟩ := open_create Val.set .unit C11.Cmd.pan (C11.decSadd key ms) hd hi
  rw [C11.sadd_eq, heq]
  exact ⟨rfl, (runAct_put hot1 he1 (some (.set (DsSet.sadd st ms).1)) none _ _ (fun _ hx => by cases hx)).1,
    put_sorted key _ _ _ _ hi1⟩

theorem srem_nil (ms : List Bytes) : DsSet.srem [] ms = ([], 0) := foldl_delStep_nil ms 0

theorem srem_rel (s : MState) (now : Int) (key : Bytes) (ms : List Bytes) (st : AList Unit)
    (hr : SetRel s key now st) (hi : IndexSorted s) :
    (Api.srem s now key ms).2 = .int (DsSet.srem st ms).2 ∧
    SetRel (Api.srem s now key ms).1 key now (DsSet.srem st ms).1 ∧
    IndexSorted (Api.srem s now key ms).1 := by
  rw [C11.srem_eq]
  refine keyTx_rel (mkv := Val.set) true _ _ _ hr hi (srem_spec st hr.1 ms).1 (fun _ _ => .shrink _ _ _) ?_
  rintro rfl
  rw [srem_nil]
  exact ⟨rfl, rfl⟩

theorem sread_rel (f : AList Unit → Out) (dflt : Out) (hd : dflt = f []) (s : MState) (now : Int) (key : Bytes)
    (st : AList Unit) (hr : SetRel s key now st) (hi : IndexSorted s) :
    SetRel (sread f dflt s now key).1 key now st ∧ IndexSorted (sread f dflt s now key).1 ∧
    (sread f dflt s now key).2 = f st := by
  rw [C11.sread_eq]
  obtain ⟨a, b, c⟩ := keyTx_rel (mkv := Val.set) false dflt _ (C11.decSetRead f) hr hi hr.1
    (fun hne _ => .keep (f st) hne) (fun e => ⟨e, by rw [e, hd]⟩)
  exact ⟨b, c, a⟩

theorem spop_rel (s : MState) (now : Int) (key : Bytes) (count : Int) (choice : List Bytes) (st : AList Unit)
    (hr : SetRel s key now st) (hi : IndexSorted s) :
    IndexSorted (Api.spop s now key count choice).1 ∧
    ((Absent s key now ∧ st = [] ∧ (Api.spop s now key count choice).2 = .slist [] ∧
        SetRel (Api.spop s now key count choice).1 key now []) ∨
     (Hot s key (.set st) now ∧
        Spec.AdmissibleDistinct (DsSet.mem st) st.length (if count = 0 then 1 else count.toNat) choice ∧
        (Api.spop s now key count choice).2 = .slist choice ∧
        SetRel (Api.spop s now key count choice).1 key now (DsSet.srem st choice).1) ∨
     (Hot s key (.set st) now ∧
        ¬ Spec.AdmissibleDistinct (DsSet.mem st) st.length (if count = 0 then 1 else count.toNat) choice ∧
        (Api.spop s now key count choice).2 = invalidChoice ∧
        SetRel (Api.spop s now key count choice).1 key now st)) := by
  rw [C20.spop_eq]
  rcases hr.2 with ⟨hnil, ha⟩ | ⟨hne, hh⟩
  · obtain ⟨a, b, c⟩ := keyTx_rel (mkv := Val.set) true (.slist []) C11.Cmd.pan (C20.decSpop key count choice) hr hi
      (c' := []) trivial (fun hne _ => absurd hnil hne) (fun _ => ⟨rfl, rfl⟩)
    exact ⟨c, Or.inl ⟨ha, hnil, a, b⟩⟩
  · by_cases hadm : Spec.AdmissibleDistinct (DsSet.mem st) st.length (if count = 0 then 1 else count.toNat) choice
    · have hv := (spopValid_iff st count choice).mpr hadm
      obtain ⟨a, b, c⟩ := keyTx_rel (mkv := Val.set) true (.slist []) C11.Cmd.pan (C20.decSpop key count choice) hr hi
        (srem_spec st hr.1 choice).1
        (fun _ _ => by
          simp only [C20.decSpop, hv, Bool.not_true, Bool.false_eq_true, if_false]
          exact .shrink _ _ _) (fun e => absurd e hne)
      exact ⟨c, Or.inr (Or.inl ⟨hh, hadm, a, b⟩)⟩
    · have hv : spopValid st count choice = false :=
        Bool.eq_false_iff.mpr fun hb => hadm ((spopValid_iff st count choice).mp hb)
      obtain ⟨a, b, c⟩ := keyTx_rel (mkv := Val.set) true (.slist []) C11.Cmd.pan (C20.decSpop key count choice) hr hi
        hr.1
        (fun hne _ => by
          simp only [C20.decSpop, hv, Bool.not_false, if_true]
          exact .keep _ hne) (fun e => absurd e hne)
      exact ⟨c, Or.inr (Or.inr ⟨hh, hadm, a, b⟩)⟩

theorem srandmember_rel (s : MState) (now : Int) (key : Bytes) (count : Int) (choice : List Bytes) (st : AList Unit)
    (hr : SetRel s key now st) (hi : IndexSorted s) :
    SetRel (Api.srandmember s now key count choice).1 key now st ∧
    IndexSorted (Api.srandmember s now key count choice).1 ∧
    (st = [] → (Api.srandmember s now key count choice).2 = .slist []) ∧
    (st ≠ [] → (Api.srandmember s now key count choice).2 =
      if srandValid st count choice then .slist choice else invalidChoice) := by
  rw [C11.srandmember_eq]
  rcases hr.2 with ⟨hnil, ha⟩ | ⟨hne, hh⟩
  · obtain ⟨a, b, c⟩ := keyTx_rel (mkv := Val.set) false (.slist []) _ (C11.decSetRead (C11.srandOut count choice))
      hr hi hr.1 (fun hne _ => absurd hnil hne) (fun _ => ⟨hnil, rfl⟩)
    exact ⟨b, c, fun _ => a, fun h => absurd hnil h⟩
  · obtain ⟨a, b, c⟩ := keyTx_rel (mkv := Val.set) false (.slist []) _ (C11.decSetRead (C11.srandOut count choice))
      hr hi hr.1 (fun hne _ => .keep _ hne) (fun e => absurd e hne)
    refine ⟨b, c, fun e => absurd e hne, fun _ => ?_⟩
    have : ¬ (count < 0 ∧ st.isEmpty = true) := by
      rintro ⟨_, he⟩; exact hne (List.isEmpty_iff.mp he)
    rw [a]
    simp only [C11.srandOut, this, if_false]

end tx


def KeepsClassification (s s' : MState) (now : Int) : Prop := Pres s s' now ∧ (IndexSorted s → IndexSorted s')

theorem KeepsClassification.refl (s : MState) (now : Int) : KeepsClassification s s now := ⟨Pres.refl s now, id⟩
theorem KeepsClassification.trans {s1 s2 s3 : MState} {now : Int} (a : KeepsClassification s1 s2 now) (b : KeepsClassification s2 s3 now) : KeepsClassification s1 s3 now :=
  ⟨a.1.trans b.1, fun h => b.2 (a.2 h)⟩

theorem keepsClassification_readKey (s : MState) (now : Int) (k : Bytes) : KeepsClassification s (readKey s now k).1 now :=
  ⟨pres_readKey s now k, readKey_sorted s now k⟩

theorem keepsClassification_sinter (s : MState) (now : Int) (keys : List Bytes) : KeepsClassification s (sinter s now keys).1 now :=
  sinter_keeps (P := fun x => KeepsClassification s x now) (fun x k g => g.trans (keepsClassification_readKey x now k)) s keys (KeepsClassification.refl s now)
theorem keepsClassification_sunion (s : MState) (now : Int) (keys : List Bytes) : KeepsClassification s (sunion s now keys).1 now :=
  sunion_keeps (P := fun x => KeepsClassification s x now) (fun x k g => g.trans (keepsClassification_readKey x now k)) s keys (KeepsClassification.refl s now)
theorem keepsClassification_sdiff (s : MState) (now : Int) (keys : List Bytes) : KeepsClassification s (sdiff s now keys).1 now :=
  sdiff_keeps (P := fun x => KeepsClassification s x now) (fun x k g => g.trans (keepsClassification_readKey x now k)) s keys (KeepsClassification.refl s now)

theorem absent_congr {s s' : MState} (e : s'.index = s.index) {k : Bytes} {now : Int} (h : Absent s k now) :
    Absent s' k now :=
  absent_of_getMeta (congrArg (AList.get? · k) e) h

theorem commit_index (s : MState) : (commit s).index = s.index := rfl

theorem del_single (s : MState) (now : Int) (dst : Bytes) (hi : IndexSorted s)
    (hc : Absent s dst now ∨ ∃ v, Hot s dst v now) :
    Absent (del s now [dst]).1 dst now ∧ IndexSorted (del s now [dst]).1 := by
  have hunf : (del s now [dst]).1.index =
      (if !(writeKey s now dst none).2 then (writeKey s now dst none).1
       else delKey (writeKey s now dst none).1 dst).index := by
    unfold del
    simp only [List.foldl]
    rw [pair_eta (writeKey s now dst none)]
    simp only
    split
    · rfl
    · simp only [emit_index]
  suffices hh : Absent (if !(writeKey s now dst none).2 then (writeKey s now dst none).1
        else delKey (writeKey s now dst none).1 dst) dst now ∧
      IndexSorted (if !(writeKey s now dst none).2 then (writeKey s now dst none).1
        else delKey (writeKey s now dst none).1 dst) from
    ⟨absent_congr hunf hh.1, sorted_congr hunf hh.2⟩
  rcases hc with ha | ⟨v, hh⟩
  · obtain ⟨w1, w2⟩ := writeKey_absent_none s now dst ha
    rw [w1]
    exact ⟨w2, writeKey_sorted s now dst none hi⟩
  · obtain ⟨w1, _⟩ := hot_after_writeKey s now dst none v hh
    have hs1 := writeKey_sorted s now dst none hi
    rw [w1]
    simp only [Bool.not_true, Bool.false_eq_true, if_false]
    refine ⟨?_, delKey_sorted _ _ hs1⟩
    intro m hm
    rw [getMeta_delKey_same _ _ hs1] at hm
    cases hm

theorem sstore_enumerated (op : MState → Int → List Bytes → Api.R) (s : MState) (now : Int) (dst : Bytes)
    (keys : List Bytes) (hk : keys ≠ []) (l : List Bytes) (S : Spec.BSet) (hl : Spec.Enumerates l S)
    (hop : (op s now keys).2 = .slist l) (hg : KeepsClassification s (op s now keys).1 now) (hi : IndexSorted s)
    (hd : Absent s dst now ∨ ∃ v, Hot s dst v now) :
    ∃ n, Spec.HasCard S n ∧ (sstore op s now dst keys).2 = .int n ∧
      (n = 0 → Absent (sstore op s now dst keys).1 dst now) ∧
      (n ≠ 0 → ∃ st', Hot (sstore op s now dst keys).1 dst (.set st') now ∧ AList.Sorted st' ∧ DsSet.mem st' = S) := by
  refine ⟨l.length, ⟨l, hl, rfl⟩, ?_⟩
  -- the destination is deleted first, whatever it held
  have hd1 : Absent (commit (op s now keys).1) dst now ∨ ∃ v, Hot (commit (op s now keys).1) dst v now := by
    rcases hd with ha | ⟨v, hh⟩
    · exact Or.inl (absent_congr (commit_index _) (hg.1.1 dst ha))
    · exact Or.inr ⟨v, hot_congr (commit_index _) (hg.1.2 dst v hh)⟩
  have hi1 : IndexSorted (commit (op s now keys).1) := sorted_congr (commit_index _) (hg.2 hi)
  obtain ⟨da, ds⟩ := del_single (commit (op s now keys).1) now dst hi1 hd1
  have hunf : sstore op s now dst keys =
      (if l.isEmpty then ((del (commit (op s now keys).1) now [dst]).1, .int 0)
       else sadd (commit (del (commit (op s now keys).1) now [dst]).1) now dst l) := by
    unfold sstore
    have hke : keys.isEmpty = false := by
      cases keys with
      | nil => exact absurd rfl hk
      | cons _ _ => rfl
    rw [hke]
    simp only [Bool.false_eq_true, if_false]
    rw [pair_eta (op s now keys), hop]
  rw [hunf]
  by_cases hn : l = []
  · subst hn
    exact ⟨rfl, fun _ => da, fun h => absurd rfl h⟩
  · have hne : l.isEmpty = false := by
      cases l with
      | nil => exact absurd rfl hn
      | cons _ _ => rfl
    rw [hne]
    simp only [Bool.false_eq_true, if_false]
    -- then SADD of the enumeration on the missing key
    obtain ⟨o, hot, i⟩ := sadd_hot _ now dst l [] (Or.inl ⟨absent_congr (commit_index _) da, rfl⟩)
      (sorted_congr (commit_index _) ds)
    obtain ⟨q1, q2, q3, _⟩ := sadd_spec [] (trivial : AList.Sorted ([] : AList Unit)) l
    have hcount : (DsSet.sadd [] l).2 = l.length := by
      apply q3 l
      refine ⟨hl.1, fun x => ?_⟩
      simp [Spec.listed, DsSet.mem, AList.contains, AList.get?]
    refine ⟨by rw [o, hcount], fun h => absurd (List.length_eq_zero_iff.mp h) hn, fun _ => ⟨_, hot, q1, ?_⟩⟩
    rw [q2]
    funext x
    apply Bool.eq_iff_iff.mpr
    rw [← hl.2 x]
    simp [Spec.BSet.insertAll, DsSet.mem, AList.contains, AList.get?]

theorem srem_singleton_member (st : AList Unit) (member : Bytes) (hm : DsSet.mem st member = true) :
    DsSet.srem st [member] = (AList.erase st member, 1) := by
  simp [DsSet.srem, hm]

theorem srem_singleton_nonmember (st : AList Unit) (member : Bytes) (hm : DsSet.mem st member = false) :
    DsSet.srem st [member] = (st, 0) := by
  simp [DsSet.srem, hm]

theorem pres_smove_writes (s : MState) (now : Int) (src dst : Bytes) :
    Pres s (writeKey (writeKey s now src none).1 now dst none).1 now :=
  (pres_writeKey_none s now src).trans (pres_writeKey_none _ now dst)

/-- the member has left the source: the reduced set is stored, the source is unlinked when nothing is left, its
    watchers are told -/
def moveOut (s2 : MState) (src : Bytes) (st' : AList Unit) : MState :=
  signal (if DsSet.scard st' = 0 then delKey (setVal s2 src (.set st')) src else setVal s2 src (.set st')) src

theorem moveOut_spec (s2 : MState) (now : Int) (src : Bytes) (st st' : AList Unit)
    (h : Hot s2 src (.set st) now) (hi : IndexSorted s2) :
    IndexSorted (moveOut s2 src st') ∧
    (DsSet.scard st' = 0 → getMeta (moveOut s2 src st') src = none) ∧
    (DsSet.scard st' ≠ 0 → Hot (moveOut s2 src st') src (.set st') now) := by
  -- `moveOut` is the decision "store, unlink when empty" without records (`KeyTx.runAct_emptied`)
  have e : moveOut s2 src st' = (C11.runAct s2 src (if DsSet.scard st' = 0 then .drop (.set st') [] .unit
      else .put (some (.set st')) none [] .unit)).1 := by
    unfold moveOut; split <;> rfl
  obtain ⟨m, hm, hrest⟩ := h
  obtain ⟨_, a, b, c⟩ := KeyTx.runAct_emptied ⟨m, hm, hrest⟩ ⟨m, hm, rfl⟩ hi (DsSet.scard st' = 0) (.set st') [] .unit
  rw [e]
  exact ⟨a, b, fun n => (c n).1⟩

theorem smove_hot_eq (s : MState) (now : Int) (src dst member : Bytes) (st : AList Unit)
    (h : Hot s src (.set st) now) (hd : DstOk s dst now) (hmem : DsSet.mem st member = true) :
    (smove s now src dst member).1 =
      (sadd (moveOut (writeKey (writeKey s now src none).1 now dst none).1 src (AList.erase st member)) now dst [member]).1 ∧
    ((asSet (writeKey (moveOut (writeKey (writeKey s now src none).1 now dst none).1 src (AList.erase st member))
        now dst (some (.set []))).1 dst).isSome = true → (smove s now src dst member).2 = .bool true) := by
  have hw := hot_after_writeKey s now src none _ h
  rw [C20.smove_eq, hw.1, asSet_hot hw.2]
  simp only [Bool.not_true, Bool.false_eq_true, if_false]
  rw [smove_check_ok _ now dst (dstOk_pres (pres_writeKey_none s now src) hd)]
  simp only [Bool.false_eq_true, if_false, srem_singleton_member st member hmem, Int.reduceEq]
  generalize (writeKey (writeKey s now src none).1 now dst none).1 = s2
  -- the removal is `moveOut`
  have e3 : (C11.runAct s2 src (C20.smoveRemAct st member)).1 = moveOut s2 src (AList.erase st member) := by
    unfold C20.smoveRemAct moveOut
    rw [srem_singleton_member st member hmem]
    split <;> rfl
  rw [e3]
  generalize moveOut s2 src (AList.erase st member) = x
  -- the addition is SADD but for the reply
  rw [C11.sadd_eq]
  simp only [C11.TxForm.run, C20.smoveAddF, C11.keyTx, if_true, Option.isNone_some, Bool.and_false,
    Bool.false_eq_true, if_false, asSet]
  cases valOf (writeKey x now dst (some (.set []))).1 dst with
  | none => exact ⟨rfl, fun e => nomatch e⟩
  | some v =>
    cases v with
    | set d => exact ⟨rfl, fun _ => rfl⟩
    | _ => exact ⟨rfl, fun e => nomatch e⟩


theorem smove_wrong_dst (s : MState) (now : Int) (src dst member : Bytes) (st : AList Unit)
    (h : Hot s src (.set st) now) (hd : DstWrong s dst now) :
    (smove s now src dst member).2 = .panic ∧ Pres s (smove s now src dst member).1 now ∧
    (IndexSorted s → IndexSorted (smove s now src dst member).1) := by
  have hw := hot_after_writeKey s now src none _ h
  have p1 := pres_writeKey_none s now src
  rw [C20.smove_eq, hw.1, asSet_hot hw.2]
  simp only [Bool.not_true, Bool.false_eq_true, if_false]
  rw [smove_check_wrong _ now dst (dstWrong_pres p1 hd)]
  simp only [if_true]
  exact ⟨trivial, pres_smove_writes s now src dst, fun hi => writeKey_sorted _ now dst none (writeKey_sorted s now src none hi)⟩

theorem none_closed {k key : Bytes} (hne : k ≠ key) : KeyTx.KeyClosed (fun x => getMeta x k = none) key where
  writeKey now mk h := by rw [getMeta_writeKey_other _ now key mk k hne]; exact h
  readKey now h := by rw [getMeta_readKey_other _ now key k hne]; exact h
  setVal v h := getMeta_setVal_none _ key k v h hne
  setExp e h := by rw [getMeta_setExp_other _ key e k hne]; exact h
  delKey h := by rw [getMeta_delKey_other _ _ _ hne]; exact h
  signal h := by rw [getMeta_signal_other _ _ _ hne]; exact h
  emit op h := by rw [getMeta_emit]; exact h

theorem sadd_erase_same (st : AList Unit) (hs : AList.Sorted st) (member : Bytes) (hm : DsSet.mem st member = true) :
    (DsSet.sadd (AList.erase st member) [member]).1 = st := by
  have hs' := erase_preserves_sorted st hs member
  obtain ⟨q1, q2, _, _⟩ := sadd_spec (AList.erase st member) hs' [member]
  apply set_ext _ _ q1 hs
  intro x
  rw [q2]
  simp only [Spec.BSet.insertAll, mem_eq_contains, contains_erase st hs, List.mem_singleton]
  by_cases hx : x = member
  · subst hx; simpa [mem_eq_contains] using hm
  · simp [hx]

end NodisVerif.Proofs.C03Seq

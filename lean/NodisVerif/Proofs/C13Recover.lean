import NodisVerif.Proofs.C13Calls
import NodisVerif.Proofs.CodecLemmas
/-
  C13: what `newStore` (`Store.reopen`) makes of a backend content — `recovered` — and its
  characterisation: the record of a name is built from the entry of that name scanned LAST, the
  entries it shadows are deleted, the kept entry stays.  In order: `lastFor` (the entry scanned last); `DiskWF` (a
  backend content as Pebble holds it) is kept by the calls of C13Calls.lean; the scan and what it collects
  (`scan_index`, `scan_shadow_iff`); `reopened_spec`, `reopened_only_last`; the characterisation `recovered_eq`.
  Namespace `NodisVerif.C13`.
-/
namespace NodisVerif.C13
open NodisVerif NodisVerif.Store
open NodisVerif.Proofs.AListLemmas NodisVerif.Proofs.AListLemmas2

/-- a backend content as Pebble holds it: sorted by encoded key, every entry under the encoding of
    its own (name, deadline) -/
def DiskWF (d : AList DiskEntry) : Prop :=
  AList.Sorted d ∧ ∀ k e, (k, e) ∈ d → k = Codec.encodeKey e.name e.exp

/-- the store `newStore` builds on the Pebble content `d` -/
def reopened (d : AList DiskEntry) : MState := reopen { disk := d, pebble := true }

/-- the logical content of `name` after reopening on `d`: deadline of the record `newStore` built for
    the name, and the value the backend (as `newStore` left it) returns for that record -/
def recovered (d : AList DiskEntry) (name : Bytes) : Option (Int × Val) :=
  match AList.get? (reopened d).index name with
  | none => none
  | some m => (diskGet (reopened d) name m.exp).map fun e => (m.exp, e.val)

/-- the entry of `name` that a scan of `d` meets last -/
def lastFor : AList DiskEntry → Bytes → Option DiskEntry
  | [], _ => none
  | (_, e) :: rest, name =>
    match lastFor rest name with
    | some e' => some e'
    | none => if e.name = name then some e else none

theorem lastFor_eq_find? (name : Bytes) : ∀ (d : AList DiskEntry),
    lastFor d name = (d.reverse.find? fun p => p.2.name = name).map (·.2) := by
  intro d
  induction d with
  | nil => rfl
  | cons a rest ih =>
    rw [lastFor, ih, List.reverse_cons, List.find?_append]
    cases rest.reverse.find? fun p => p.2.name = name with
    | some q => rfl
    | none =>
      rw [List.find?_singleton]
      by_cases h : a.2.name = name
      · simp only [h, decide_true, if_true]; rfl
      · simp only [h, decide_false, if_false]; rfl

theorem lastFor_mem (d : AList DiskEntry) (name : Bytes) (e : DiskEntry) (h : lastFor d name = some e) :
    e.name = name ∧ ∃ k, (k, e) ∈ d := by
  rw [lastFor_eq_find?] at h
  obtain ⟨p, hp, rfl⟩ := Option.map_eq_some_iff.mp h
  have hn := List.find?_some hp
  exact ⟨of_decide_eq_true hn, p.1, List.mem_reverse.mp (List.mem_of_find?_eq_some hp)⟩

theorem lastFor_none_iff (d : AList DiskEntry) (name : Bytes) :
    lastFor d name = none ↔ ∀ k e, (k, e) ∈ d → e.name ≠ name := by
  rw [lastFor_eq_find?, Option.map_eq_none_iff, List.find?_eq_none]
  simp only [List.mem_reverse, decide_eq_true_eq, Prod.forall]

theorem lastFor_isSome_of_mem (d : AList DiskEntry) (name : Bytes) (k : Bytes) (e : DiskEntry)
    (h : (k, e) ∈ d) (hn : e.name = name) : ∃ e', lastFor d name = some e' := by
  cases hl : lastFor d name with
  | some e' => exact ⟨e', rfl⟩
  | none => exact absurd hn ((lastFor_none_iff d name).mp hl k e h)
theorem lastFor_cons_of_some {a : Bytes × DiskEntry} {rest : AList DiskEntry} {name : Bytes} {e : DiskEntry}
    (h : lastFor rest name = some e) : lastFor (a :: rest) name = some e := by
  obtain ⟨k, e0⟩ := a
  simp only [lastFor, h]

theorem lastFor_erase : ∀ (d : AList DiskEntry) (K name : Bytes),
    (∀ e, (K, e) ∈ d → lastFor d name ≠ some e) → lastFor (AList.erase d K) name = lastFor d name := by
  intro d
  induction d with
  | nil => intro K name _; rfl
  | cons a rest ih =>
    intro K name h
    obtain ⟨k, e⟩ := a
    simp only [AList.erase]
    by_cases hk : k = K
    · simp only [hk, if_true]
      subst hk
      have h1 := h e List.mem_cons_self
      simp only [lastFor] at h1 ⊢
      cases hr : lastFor rest name with
      | some e' => rfl
      | none =>
        rw [hr] at h1
        simp only at h1 ⊢
        split
        · rename_i hn
          simp [hn] at h1
        · rfl
    · simp only [hk, if_false]
      have hrest : ∀ e', (K, e') ∈ rest → lastFor rest name ≠ some e' := by
        intro e' hm hl
        exact h e' (List.mem_cons_of_mem _ hm) (lastFor_cons_of_some hl)
      simp only [lastFor, ih K name hrest]

theorem lastFor_set_other : ∀ (d : AList DiskEntry) (K name : Bytes) (ent : DiskEntry),
    ent.name ≠ name → (∀ e, (K, e) ∈ d → e.name ≠ name) →
    lastFor (AList.set d K ent) name = lastFor d name := by
  intro d
  induction d with
  | nil =>
    intro K name ent hn _
    simp [AList.set, lastFor, hn]
  | cons a rest ih =>
    intro K name ent hn h
    obtain ⟨k, e⟩ := a
    simp only [AList.set]
    by_cases hk : k = K
    · simp only [hk, if_true]
      subst hk
      have h1 := h e List.mem_cons_self
      simp [lastFor, hn, h1]
    · simp only [hk, if_false]
      by_cases hlt : Bytes.lt K k = true
      · simp only [hlt, if_true]
        rw [lastFor]
        cases hr : lastFor ((k, e) :: rest) name with
        | some e' => rfl
        | none => simp [hn]
      · rw [if_neg hlt]
        simp only [lastFor, ih K name ent hn (fun e' hm => h e' (List.mem_cons_of_mem _ hm))]

theorem diskWF_nil : DiskWF [] := ⟨trivial, fun _ _ h => by cases h⟩

theorem diskWF_set {d : AList DiskEntry} (h : DiskWF d) (ent : DiskEntry) :
    DiskWF (AList.set d (Codec.encodeKey ent.name ent.exp) ent) := by
  refine ⟨set_preserves_sorted d h.1 _ _, ?_⟩
  intro k e hm
  rcases mem_set d _ _ _ hm with h1 | h1
  · simp only [Prod.mk.injEq] at h1
    obtain ⟨a, b⟩ := h1
    subst b; exact a
  · exact h.2 k e h1

theorem diskWF_erase {d : AList DiskEntry} (h : DiskWF d) (K : Bytes) : DiskWF (AList.erase d K) :=
  ⟨erase_preserves_sorted d h.1 K, fun k e hm => h.2 k e (mem_of_mem_erase d K _ hm)⟩

theorem diskWF_after {d : AList DiskEntry} (h : DiskWF d) {pebble : Bool} {c : DiskCall} (hc : c.Exact pebble) :
    DiskWF (diskAfter d c) := by
  cases c with
  | set n dl e =>
    obtain ⟨h1, h2, _⟩ := hc
    subst h1 h2
    exact diskWF_set h e
  | del n dl => exact diskWF_erase h _

theorem diskWF_run {d : AList DiskEntry} (h : DiskWF d) {pebble : Bool} :
    ∀ (cs : List DiskCall), (∀ c ∈ cs, c.Exact pebble) → DiskWF (runCalls d cs) := by
  intro cs
  induction cs generalizing d with
  | nil => intro _; exact h
  | cons c cs ih =>
    intro hc
    rw [runCalls_cons]
    exact ih (diskWF_after h (hc c List.mem_cons_self)) (fun c' hc' => hc c' (List.mem_cons_of_mem _ hc'))

theorem wf_entry {d : AList DiskEntry} (h : DiskWF d) {n : Bytes} {x : Int} {e : DiskEntry}
    (hm : (Codec.encodeKey n x, e) ∈ d) : e.name = n ∧ e.exp = x := by
  have := h.2 _ _ hm
  obtain ⟨a, b⟩ := Proofs.CodecLemmas.encodeKey_inj this
  exact ⟨a.symm, b.symm⟩

theorem lastFor_after_other {d : AList DiskEntry} (h : DiskWF d) {pebble : Bool} {c : DiskCall}
    (hc : c.Exact pebble) {name : Bytes} (hn : c.name ≠ name) :
    lastFor (diskAfter d c) name = lastFor d name := by
  cases c with
  | set n dl e =>
    obtain ⟨h1, h2, _⟩ := hc
    simp only [DiskCall.name] at hn
    apply lastFor_set_other
    · rw [h1]; exact hn
    · intro e' hm
      rw [(wf_entry h hm).1]; exact hn
  | del n dl =>
    simp only [DiskCall.name] at hn
    apply lastFor_erase
    intro e' hm hl
    have a := (wf_entry h hm).1
    have b := (lastFor_mem d name e' hl).1
    exact hn (a.symm.trans b)

/-- the record `newStore` creates for a stored entry.  (`coldOf`, `reopenStep`, `reopen_eq` stand a second time,
    word for word, in Proofs/C11Reopen.lean, namespace `Proofs.C11`: theorems that the C11 and the C13 properties quote
    are stated with their own copy (`scan_complete` here, `C11.ReopenFacts` there), so both stay.  `C11.reopen_fold`
    treats the case of distinct names by an induction of its own.) -/
def coldOf (e : DiskEntry) : Meta :=
  { exp := e.exp, value := none, state := 1, kid := e.kid, oid := e.oid, stored := some e.exp }

def reopenStep (acc : AList Meta × List (Bytes × Int)) (p : Bytes × DiskEntry) : AList Meta × List (Bytes × Int) :=
  (AList.set acc.1 p.2.name (coldOf p.2),
    match AList.get? acc.1 p.2.name with
    | some old => (match old.stored with | some oe => (p.2.name, oe) :: acc.2 | none => acc.2)
    | none => acc.2)

theorem reopen_eq (s : MState) :
    reopen s = { (s.disk.foldl reopenStep ([], [])).2.foldl (fun s p => diskDelete s p.1 p.2) s with
      index := (s.disk.foldl reopenStep ([], [])).1, closed := false, feed := [], signalled := [] } := by
  unfold reopen
  rfl

theorem reopenStep_index (acc : AList Meta × List (Bytes × Int)) (k : Bytes) (e : DiskEntry) (n : Bytes) :
    AList.get? (reopenStep acc (k, e)).1 n = if e.name = n then some (coldOf e) else AList.get? acc.1 n := by
  simp only [reopenStep, get?_set]
  split <;> simp_all [eq_comm]

theorem scan_index (name : Bytes) : ∀ (l : AList DiskEntry) (acc : AList Meta × List (Bytes × Int)),
    AList.get? (l.foldl reopenStep acc).1 name
      = match lastFor l name with
        | some e => some (coldOf e)
        | none => AList.get? acc.1 name := by
  intro l
  induction l with
  | nil => intro acc; rfl
  | cons a rest ih =>
    intro acc
    obtain ⟨k, e⟩ := a
    rw [List.foldl_cons, ih, lastFor]
    cases hr : lastFor rest name with
    | some e' => rfl
    | none =>
      rw [reopenStep_index]
      by_cases hn : e.name = name <;> simp [hn]

theorem scan_sorted : ∀ (l : AList DiskEntry) (acc : AList Meta × List (Bytes × Int)),
    AList.Sorted acc.1 → AList.Sorted (l.foldl reopenStep acc).1 := by
  intro l
  induction l with
  | nil => intro acc h; exact h
  | cons a rest ih =>
    intro acc h
    rw [List.foldl_cons]
    exact ih _ (set_preserves_sorted _ h _ _)

/-- `(n, x)` is an entry of `d` followed, later in the scan, by another entry of the same name -/
def Shadowed : AList DiskEntry → Bytes → Int → Prop
  | [], _, _ => False
  | (_, e) :: rest, n, x => (e.name = n ∧ e.exp = x ∧ ∃ q ∈ rest, q.2.name = n) ∨ Shadowed rest n x

theorem shadowed_has_entry : ∀ (d : AList DiskEntry) (n : Bytes) (x : Int), Shadowed d n x → ∃ q ∈ d, q.2.name = n := by
  intro d
  induction d with
  | nil => intro n x h; cases h
  | cons a rest ih =>
    intro n x h
    obtain ⟨k, e⟩ := a
    rcases h with ⟨_, _, q, hq, hn⟩ | h
    · exact ⟨q, List.mem_cons_of_mem _ hq, hn⟩
    · obtain ⟨q, hq, hn⟩ := ih n x h
      exact ⟨q, List.mem_cons_of_mem _ hq, hn⟩

theorem reopenStep_shadow (acc : AList Meta × List (Bytes × Int)) (k : Bytes) (e : DiskEntry) (n : Bytes) (x : Int) :
    (n, x) ∈ (reopenStep acc (k, e)).2 ↔
      (n, x) ∈ acc.2 ∨ (e.name = n ∧ ∃ m, AList.get? acc.1 n = some m ∧ m.stored = some x) := by
  cases hg : AList.get? acc.1 e.name with
  | none =>
    simp only [reopenStep, hg]
    exact ⟨Or.inl, fun h => h.elim id fun ⟨hn, m, hm, _⟩ => by rw [← hn, hg] at hm; cases hm⟩
  | some old =>
    cases hs : old.stored with
    | none =>
      simp only [reopenStep, hg, hs]
      exact ⟨Or.inl, fun h => h.elim id fun ⟨hn, m, hm, hx⟩ => by
        rw [← hn, hg] at hm; cases hm; rw [hs] at hx; cases hx⟩
    | some oe =>
      simp only [reopenStep, hg, hs, List.mem_cons, Prod.mk.injEq]
      constructor
      · rintro (⟨rfl, rfl⟩ | h)
        · exact Or.inr ⟨rfl, old, hg, hs⟩
        · exact Or.inl h
      · rintro (h | ⟨hn, m, hm, hx⟩)
        · exact Or.inr h
        · rw [← hn, hg] at hm; cases hm; rw [hs] at hx; cases hx; exact Or.inl ⟨hn.symm, rfl⟩

/-- the three ways `(n, x)` gets into the list for deletion: it was collected before; `acc` holds a record of `n`
    stored under `x` and `l` has an entry of `n`; or it is shadowed within `l` -/
theorem scan_shadow_iff : ∀ (l : AList DiskEntry) (acc : AList Meta × List (Bytes × Int)) (n : Bytes) (x : Int),
    (n, x) ∈ (l.foldl reopenStep acc).2 ↔
      (n, x) ∈ acc.2 ∨ (∃ m, AList.get? acc.1 n = some m ∧ m.stored = some x ∧ ∃ q ∈ l, q.2.name = n)
        ∨ Shadowed l n x := by
  intro l
  induction l with
  | nil => intro acc n x; simp [Shadowed]
  | cons a rest ih =>
    intro acc n x
    obtain ⟨k, e⟩ := a
    rw [List.foldl_cons, ih, reopenStep_shadow, reopenStep_index]
    simp only [Shadowed, List.mem_cons, exists_eq_or_imp]
    by_cases hn : e.name = n
    · simp only [hn, if_true, Option.some.injEq, true_and, exists_eq_left', coldOf]
      -- both directions regroup the same four cases: collected before / record in `acc` / the head entry `e` is
      -- shadowed by `rest` / shadowed within `rest`
      constructor
      · rintro ((h | ⟨m, hm, hx⟩) | ⟨hx, hq⟩ | h)
        · exact Or.inl h
        · exact Or.inr (Or.inl ⟨m, hm, hx, Or.inl trivial⟩)
        · exact Or.inr (Or.inr (Or.inl ⟨hx, hq⟩))
        · exact Or.inr (Or.inr (Or.inr h))
      · rintro (h | ⟨m, hm, hx, _⟩ | ⟨hx, hq⟩ | h)
        · exact Or.inl (Or.inl h)
        · exact Or.inl (Or.inr ⟨m, hm, hx⟩)
        · exact Or.inr (Or.inl ⟨hx, hq⟩)
        · exact Or.inr (Or.inr h)
    · simp only [hn, if_false, false_and, or_false, false_or]

theorem shadowed_not_last : ∀ (d : AList DiskEntry), DiskWF d → ∀ (n : Bytes) (x : Int), Shadowed d n x →
    ∀ e, lastFor d n = some e → e.exp ≠ x := by
  intro d
  induction d with
  | nil => intro _ n x h; cases h
  | cons a rest ih =>
    intro hwf n x h e hl hx
    obtain ⟨k, e0⟩ := a
    have hwf' : DiskWF rest := ⟨sorted_tail hwf.1, fun k e hm => hwf.2 k e (List.mem_cons_of_mem _ hm)⟩
    have hrest : (∃ q ∈ rest, q.2.name = n) := by
      rcases h with ⟨_, _, hq⟩ | h
      · exact hq
      · exact shadowed_has_entry rest n x h
    obtain ⟨q, hq, hqn⟩ := hrest
    obtain ⟨e', he'⟩ := lastFor_isSome_of_mem rest n q.1 q.2 hq hqn
    have hl' : lastFor ((k, e0) :: rest) n = some e' := lastFor_cons_of_some he'
    rw [hl'] at hl
    simp only [Option.some.injEq] at hl
    subst hl
    rcases h with ⟨h1, h2, _⟩ | h
    · -- the head entry is (n, x): an entry of the tail cannot sit under the same key
      obtain ⟨hn', k', hm'⟩ := lastFor_mem rest n e' he'
      have hk' : k' = Codec.encodeKey e'.name e'.exp := hwf.2 k' e' (List.mem_cons_of_mem _ hm')
      have hk : k = Codec.encodeKey e0.name e0.exp := hwf.2 k e0 List.mem_cons_self
      have hlt : Bytes.lt k k' = true := (sorted_cons (k, e0) rest hwf.1).2 (k', e') hm'
      have : k = k' := by rw [hk, hk', h1, h2, hn', hx]
      exact lt_ne _ _ hlt this
    · exact ih hwf' n x h e' he' hx

def eraseAll (d : AList DiskEntry) (sh : List (Bytes × Int)) : AList DiskEntry :=
  sh.foldl (fun d p => AList.erase d (Codec.encodeKey p.1 p.2)) d

theorem deletes_disk : ∀ (sh : List (Bytes × Int)) (s : MState),
    (sh.foldl (fun s p => diskDelete s p.1 p.2) s).disk = eraseAll s.disk sh := by
  intro sh
  induction sh with
  | nil => intro s; rfl
  | cons p rest ih =>
    intro s
    simp only [List.foldl_cons, eraseAll]
    rw [ih]
    rfl

theorem deletes_pebble : ∀ (sh : List (Bytes × Int)) (s : MState),
    (sh.foldl (fun s p => diskDelete s p.1 p.2) s).pebble = s.pebble := by
  intro sh
  induction sh with
  | nil => intro s; rfl
  | cons p rest ih => intro s; simp only [List.foldl_cons]; rw [ih]; rfl

theorem eraseAll_spec : ∀ (sh : List (Bytes × Int)) (d : AList DiskEntry), DiskWF d →
    (∀ p ∈ sh, ∀ e, lastFor d p.1 = some e → e.exp ≠ p.2) →
    DiskWF (eraseAll d sh) ∧ ∀ name, lastFor (eraseAll d sh) name = lastFor d name := by
  intro sh
  induction sh with
  | nil => intro d h _; exact ⟨h, fun _ => rfl⟩
  | cons p rest ih =>
    intro d hwf h
    have hstep : ∀ name, lastFor (AList.erase d (Codec.encodeKey p.1 p.2)) name = lastFor d name := by
      intro name
      apply lastFor_erase
      intro e hm hl
      obtain ⟨a, b⟩ := wf_entry hwf hm
      have c := (lastFor_mem d name e hl).1
      have hname : name = p.1 := c.symm.trans a
      subst hname
      exact h p List.mem_cons_self e hl b
    have hwf' := diskWF_erase hwf (Codec.encodeKey p.1 p.2)
    obtain ⟨r1, r2⟩ := ih _ hwf' (by
      intro q hq e hl
      rw [hstep] at hl
      exact h q (List.mem_cons_of_mem _ hq) e hl)
    refine ⟨r1, ?_⟩
    intro name
    show lastFor (eraseAll (AList.erase d (Codec.encodeKey p.1 p.2)) rest) name = _
    rw [r2, hstep]

/-- the list of entries `newStore` deletes on `d` -/
def shadowedList (d : AList DiskEntry) : List (Bytes × Int) := (d.foldl reopenStep ([], [])).2

theorem reopened_disk (d : AList DiskEntry) : (reopened d).disk = eraseAll d (shadowedList d) := by
  unfold reopened
  rw [reopen_eq]
  simp only
  rw [deletes_disk]
  rfl

theorem reopened_index (d : AList DiskEntry) : (reopened d).index = (d.foldl reopenStep ([], [])).1 := by
  unfold reopened
  rw [reopen_eq]

theorem shadowedList_harmless {d : AList DiskEntry} (h : DiskWF d) :
    ∀ p ∈ shadowedList d, ∀ e, lastFor d p.1 = some e → e.exp ≠ p.2 := by
  intro p hp e hl
  obtain ⟨n, x⟩ := p
  rcases (scan_shadow_iff d ([], []) n x).mp hp with h1 | ⟨m, h1, _⟩ | h1
  · cases h1
  · simp [AList.get?] at h1
  · exact shadowed_not_last d h n x h1 e hl

theorem reopened_spec {d : AList DiskEntry} (h : DiskWF d) :
    DiskWF (reopened d).disk ∧ ∀ name, lastFor (reopened d).disk name = lastFor d name := by
  rw [reopened_disk]
  exact eraseAll_spec _ d h (shadowedList_harmless h)

/-- the scan collects every shadowed entry (the right-to-left half of `scan_shadow_iff`, disjunct by disjunct) -/
theorem scan_complete : ∀ (l : AList DiskEntry) (acc : AList Meta × List (Bytes × Int)),
    (∀ p ∈ acc.2, p ∈ (l.foldl reopenStep acc).2)
    ∧ (∀ n x, Shadowed l n x → (n, x) ∈ (l.foldl reopenStep acc).2)
    ∧ (∀ n m x, AList.get? acc.1 n = some m → m.stored = some x → (∃ q ∈ l, q.2.name = n) →
        (n, x) ∈ (l.foldl reopenStep acc).2) :=
  fun l acc => ⟨fun p hp => (scan_shadow_iff l acc p.1 p.2).mpr (Or.inl hp),
    fun n x h => (scan_shadow_iff l acc n x).mpr (Or.inr (Or.inr h)),
    fun n m x hg hs hq => (scan_shadow_iff l acc n x).mpr (Or.inr (Or.inl ⟨m, hg, hs, hq⟩))⟩

theorem shadowed_of_not_last : ∀ (d : AList DiskEntry) (n : Bytes) (k : Bytes) (e' e : DiskEntry),
    (k, e') ∈ d → e'.name = n → lastFor d n = some e → e' ≠ e → Shadowed d n e'.exp := by
  intro d
  induction d with
  | nil => intro n k e' e h; cases h
  | cons a rest ih =>
    intro n k e' e hm hn hl hne
    obtain ⟨k0, e0⟩ := a
    rcases List.mem_cons.mp hm with h | h
    · simp only [Prod.mk.injEq] at h
      obtain ⟨_, h2⟩ := h
      subst h2
      left
      refine ⟨hn, rfl, ?_⟩
      simp only [lastFor] at hl
      cases hr : lastFor rest n with
      | some e'' =>
        obtain ⟨h1, k'', h2⟩ := lastFor_mem rest n e'' hr
        exact ⟨(k'', e''), h2, h1⟩
      | none =>
        rw [hr] at hl
        simp only [hn, if_true, Option.some.injEq] at hl
        exact absurd hl hne
    · right
      obtain ⟨e'', he''⟩ := lastFor_isSome_of_mem rest n k e' h hn
      have := lastFor_cons_of_some (a := (k0, e0)) he''
      rw [this] at hl
      simp only [Option.some.injEq] at hl
      subst hl
      exact ih n k e' e'' h hn he'' hne

theorem eraseAll_subset : ∀ (sh : List (Bytes × Int)) (d : AList DiskEntry) (b : Bytes × DiskEntry),
    b ∈ eraseAll d sh → b ∈ d := by
  intro sh
  induction sh with
  | nil => intro d b h; exact h
  | cons p rest ih =>
    intro d b h
    exact mem_of_mem_erase d _ b (ih _ b h)

theorem eraseAll_sorted : ∀ (sh : List (Bytes × Int)) (d : AList DiskEntry), AList.Sorted d →
    AList.Sorted (eraseAll d sh) := by
  intro sh
  induction sh with
  | nil => intro d h; exact h
  | cons p rest ih => intro d h; exact ih _ (erase_preserves_sorted d h _)

theorem eraseAll_gone : ∀ (sh : List (Bytes × Int)) (d : AList DiskEntry), AList.Sorted d →
    ∀ p ∈ sh, ∀ e, (Codec.encodeKey p.1 p.2, e) ∉ eraseAll d sh := by
  intro sh
  induction sh with
  | nil => intro d _ p hp; cases hp
  | cons p0 rest ih =>
    intro d hs p hp e hm
    rcases List.mem_cons.mp hp with rfl | hp
    · have := eraseAll_subset rest _ _ hm
      exact ((mem_erase_iff d hs _ _).1 this).2 rfl
    · exact ih _ (erase_preserves_sorted d hs _) p hp e hm

theorem reopened_only_last {d : AList DiskEntry} (h : DiskWF d) {n k : Bytes} {e' e : DiskEntry}
    (hm : (k, e') ∈ (reopened d).disk) (hn : e'.name = n) (hl : lastFor d n = some e) : e' = e := by
  apply Classical.byContradiction
  intro hne
  rw [reopened_disk] at hm
  have hmd := eraseAll_subset _ _ _ hm
  have hsh := shadowed_of_not_last d n k e' e hmd hn hl hne
  have hin : (n, e'.exp) ∈ shadowedList d := (scan_shadow_iff d ([], []) n e'.exp).mpr (Or.inr (Or.inr hsh))
  have hk : k = Codec.encodeKey n e'.exp := by rw [h.2 k e' hmd, hn]
  rw [hk] at hm
  exact eraseAll_gone _ d h.1 (n, e'.exp) hin e' hm

theorem reopened_pebble (d : AList DiskEntry) : (reopened d).pebble = true := by
  unfold reopened
  rw [reopen_eq]
  simp only
  rw [deletes_pebble]

theorem reopened_failSet (d : AList DiskEntry) : (reopened d).failSet = 0 := by
  unfold reopened
  rw [reopen_eq]
  simp only
  generalize (List.foldl reopenStep ([], []) d).2 = sh
  generalize hs : ({ disk := d, pebble := true } : MState) = s
  have : s.failSet = 0 := by rw [← hs]
  clear hs
  induction sh generalizing s with
  | nil => exact this
  | cons p rest ih => exact ih _ (by simpa [diskDelete] using this)

theorem reopen_disk (s : MState) : (reopen s).disk = (reopened s.disk).disk := by
  unfold reopened
  rw [reopen_eq, reopen_eq]
  simp only
  rw [deletes_disk, deletes_disk]

theorem reopen_index (s : MState) : (reopen s).index = (reopened s.disk).index := by
  unfold reopened
  rw [reopen_eq, reopen_eq]

theorem recovered_eq {d : AList DiskEntry} (h : DiskWF d) (name : Bytes) :
    recovered d name = (lastFor d name).map fun e => (e.exp, e.val) := by
  unfold recovered
  rw [reopened_index, scan_index]
  cases hl : lastFor d name with
  | none => simp [AList.get?]
  | some e =>
    simp only [Option.map_some]
    obtain ⟨hwf', hlast⟩ := reopened_spec h
    have hl' := hlast name
    rw [hl] at hl'
    obtain ⟨hn, k, hm⟩ := lastFor_mem _ _ _ hl'
    have hk := hwf'.2 k e hm
    have hg : AList.get? (reopened d).disk k = some e := get?_of_mem _ hwf'.1 k e hm
    simp only [diskGet, coldOf]
    rw [← hn, ← hk, hg]
    rfl

theorem recovered_none_iff {d : AList DiskEntry} (h : DiskWF d) (name : Bytes) :
    recovered d name = none ↔ ∀ k e, (k, e) ∈ d → e.name ≠ name := by
  rw [recovered_eq h, Option.map_eq_none_iff, lastFor_none_iff]

theorem recovered_some_mem {d : AList DiskEntry} (h : DiskWF d) {name : Bytes} {x : Int} {v : Val}
    (hr : recovered d name = some (x, v)) :
    ∃ e, (Codec.encodeKey name x, e) ∈ d ∧ e.name = name ∧ e.exp = x ∧ e.val = v := by
  rw [recovered_eq h] at hr
  cases hl : lastFor d name with
  | none => rw [hl] at hr; cases hr
  | some e =>
    rw [hl] at hr
    simp only [Option.map_some, Option.some.injEq, Prod.mk.injEq] at hr
    obtain ⟨hn, k, hm⟩ := lastFor_mem _ _ _ hl
    have hk := h.2 k e hm
    refine ⟨e, ?_, hn, hr.1, hr.2⟩
    rw [← hn, ← hr.1, ← hk]
    exact hm

theorem recovered_of_only {d : AList DiskEntry} (h : DiskWF d) {name : Bytes} {e : DiskEntry} {k : Bytes}
    (hm : (k, e) ∈ d) (hn : e.name = name)
    (honly : ∀ k' e', (k', e') ∈ d → e'.name = name → e' = e) :
    recovered d name = some (e.exp, e.val) := by
  rw [recovered_eq h]
  obtain ⟨e', he'⟩ := lastFor_isSome_of_mem d name k e hm hn
  obtain ⟨h1, k', h2⟩ := lastFor_mem _ _ _ he'
  rw [he', honly k' e' h2 h1]
  rfl

theorem recovered_run_other {pebble : Bool} {name : Bytes} : ∀ (cs : List DiskCall) {d : AList DiskEntry}, DiskWF d →
    (∀ c ∈ cs, c.Exact pebble) → (∀ c ∈ cs, c.name ≠ name) →
    recovered (runCalls d cs) name = recovered d name := by
  intro cs
  induction cs with
  | nil => intro d _ _ _; rfl
  | cons c cs ih =>
    intro d h hc hn
    rw [runCalls_cons, ih (diskWF_after h (hc c List.mem_cons_self))
      (fun c' hc' => hc c' (List.mem_cons_of_mem _ hc')) (fun c' hc' => hn c' (List.mem_cons_of_mem _ hc'))]
    rw [recovered_eq (diskWF_after h (hc c List.mem_cons_self)), recovered_eq h,
      lastFor_after_other h (hc c List.mem_cons_self) (hn c List.mem_cons_self)]

end NodisVerif.C13

import NodisVerif.Model.TxProg
import NodisVerif.Proofs.ProtoBasic
/-
  Program model of tx.go (Model/TxProg.lean): the abstraction to the protocol model (`absTx`, made of `holdsOf`,
  `waitingOf`, `committingOf`; `extra`: a record mutex owned outside the holds) and the simulation relation `Sim`.
-/
namespace NodisVerif.Proofs.TxProg
open NodisVerif.Proto (Key Rec Mode Ev Hold TxSt PState assoc erase put Tx)
open NodisVerif.TxProg
open NodisVerif.Proofs.Proto

theorem getD_setD {β : Type} [Inhabited β] [DecidableEq β] (l : List (Nat × β)) (a : Nat) (b : β) (a' : Nat) :
    getD (setD l a b) a' = if a' = a then b else getD l a' := by
  unfold getD setD
  by_cases hb : b = default
  · rw [if_pos hb, assoc_erase]
    by_cases h : a' = a <;> simp [h, hb]
  · rw [if_neg hb, assoc_put]
    by_cases h : a' = a <;> simp [h]

theorem mu_setMu (s : Shared) (r : Rec) (m : Mu) (r' : Rec) :
    (s.setMu r m).mu r' = if r' = r then m else s.mu r' := by
  simp [Shared.mu, Shared.setMu, getD_setD]

@[simp] theorem setMu_index (s : Shared) (r : Rec) (m : Mu) : (s.setMu r m).index = s.index := rfl
@[simp] theorem setMu_pending (s : Shared) (r : Rec) (m : Mu) : (s.setMu r m).pending = s.pending := rfl
@[simp] theorem setMu_names (s : Shared) (r : Rec) (m : Mu) : (s.setMu r m).names = s.names := rfl
@[simp] theorem setMu_smu (s : Shared) (r : Rec) (m : Mu) : (s.setMu r m).smu = s.smu := rfl
@[simp] theorem setMu_flags (s : Shared) (r : Rec) (m : Mu) : (s.setMu r m).flags = s.flags := rfl

def owns (mu : Mu) (t : Tid) : Mode → Prop
  | .w => mu.writer = some t
  | .r => t ∈ mu.readers

def wfMu (mu : Mu) : Prop := mu.writer ≠ none → mu.readers = []

theorem wfMu_default : wfMu ({} : Mu) := by simp [wfMu]
theorem wf_lock {mu : Mu} (h : mu.canLock = true) (t : Tid) : wfMu (mu.lock t) := by
  simp [Mu.canLock] at h; simp [wfMu, Mu.lock, h.2]
theorem wf_rlock {mu : Mu} (h : mu.canRLock = true) (t : Tid) : wfMu (mu.rlock t) := by
  simp [Mu.canRLock] at h; simp [wfMu, Mu.rlock, h]
theorem wf_unlock (mu : Mu) : wfMu mu.unlock := by simp [wfMu, Mu.unlock]
theorem wf_runlock {mu : Mu} (h : wfMu mu) (t : Tid) : wfMu (mu.runlock t) := by
  intro hw; simp only [Mu.runlock] at hw ⊢; rw [h hw]; rfl
theorem wf_fresh_lock (t : Tid) : wfMu (({} : Mu).lock t) := by simp [wfMu, Mu.lock]
theorem wf_fresh_rlock (t : Tid) : wfMu (({} : Mu).rlock t) := by simp [wfMu, Mu.rlock]

theorem not_owns_canLock {mu : Mu} (h : mu.canLock = true) (u : Tid) (m : Mode) : ¬ owns mu u m := by
  simp [Mu.canLock] at h
  cases m <;> simp [owns, h.1, h.2]

theorem owns_rlock {mu : Mu} (h : mu.canRLock = true) {u : Tid} {m : Mode} (t : Tid) (ho : owns mu u m) :
    owns (mu.rlock t) u m := by
  cases m with
  | w => simp [Mu.canRLock] at h; simp [owns, h] at ho
  | r => simp only [owns, Mu.rlock] at ho ⊢; exact List.mem_cons_of_mem _ ho

theorem owns_unlock {mu : Mu} (hw : wfMu mu) {t u : Tid} {mt m : Mode} (hne : u ≠ t) (hot : owns mu t mt)
    (ho : owns mu u m) : owns mu.unlock u m := by
  cases m with
  | r => simpa [owns, Mu.unlock] using ho
  | w =>
    exfalso
    simp only [owns] at ho
    cases mt with
    | w => simp only [owns] at hot; rw [ho] at hot; exact hne (Option.some.inj hot)
    | r => simp only [owns] at hot; rw [hw (by simp [ho])] at hot; cases hot

theorem owns_runlock {mu : Mu} {t u : Tid} {m : Mode} (hne : u ≠ t) (ho : owns mu u m) :
    owns (mu.runlock t) u m := by
  cases m with
  | w => simpa [owns, Mu.runlock] using ho
  | r => simp only [owns, Mu.runlock] at ho ⊢; exact (List.mem_erase_of_ne hne).2 ho

theorem owns_lock_self (mu : Mu) (t : Tid) : owns (mu.lock t) t .w := by simp [owns, Mu.lock]
theorem owns_rlock_self (mu : Mu) (t : Tid) : owns (mu.rlock t) t .r := by simp [owns, Mu.rlock]

theorem owners_compat {mu : Mu} (hw : wfMu mu) {t u : Tid} {mt m : Mode} (hot : owns mu t mt) (ho : owns mu u m)
    (hm : mt = .w ∨ m = .w) : t = u := by
  cases mt <;> cases m <;> simp only [owns] at hot ho
  · rcases hm with h | h <;> cases h
  · rw [hw (by simp [ho])] at hot; cases hot
  · rw [hw (by simp [hot])] at ho; cases ho
  · rw [hot] at ho; exact Option.some.inj ho

/-- the holds the protocol model ascribes to the thread: `lockedMetas`, plus the record `m` between its `lock` event
    and the append (a10 … a13: not yet validated; at a12 validated iff the re-validation succeeded); inside `commit`
    the part of `lockedMetas` not yet released, where the record at the head of the loop leaves the list with its
    `unlock` event (c3, c5, c7, c12: its mutex is then `extra`; at c6, after the RUnlock and before the TryLock,
    the thread owns nothing of it); a mini transaction holds its one record from the
    `lock` event (g4) to the `unlock` event (g11) -/
def holdsOf (l : Loc) : List Hold :=
  match l.pc with
  | .a10 | .a11 | .a13 => ⟨l.m, l.key, modeOf l.write, false⟩ :: l.held
  | .a12 => ⟨l.m, l.key, modeOf l.write, l.okcur && (l.write || l.hv)⟩ :: l.held
  | .c2 | .c4 | .c8 | .c9 | .c10 | .c11 => l.cur :: l.rest
  | .c3 | .c5 | .c6 | .c7 | .c12 => l.rest
  | .cend | .init => []
  | .g1 | .g2 | .g3 | .g12 | .g13 => []
  | .g4 | .g5 => [⟨l.m, l.key, .w, false⟩]
  | .g6 | .g7 | .g8 | .g9 | .g10 | .g11 => [⟨l.m, l.key, .w, l.okcur⟩]
  | _ => l.held

/-- between the `wait` event and the `lock` event the transaction waits for the record lock -/
def waitingOf (l : Loc) : Option (Key × Rec × Mode) :=
  match l.pc with
  | .a8 | .a9 => some (l.key, l.m, modeOf l.write)
  | .g2 | .g3 => some (l.key, l.m, .w)
  | _ => none

/-- after the `commit` event: inside `Tx.commit`, and at the end of a mini transaction that was validated -/
def committingOf (l : Loc) : Bool :=
  match l.pc with
  | .c2 | .c3 | .c4 | .c5 | .c6 | .c7 | .c8 | .c9 | .c10 | .c11 | .c12 | .cend => true
  | .g11 | .g12 | .g13 => l.okcur       -- a mini transaction "commits" (in the tracer) only when it was validated
  | _ => false

/-- the transaction of the protocol model that a thread in local state `l` stands for -/
def absTx (l : Loc) : Option TxSt :=
  if l.pc = .init then none
  else some { holds := holdsOf l, waiting := waitingOf l, committing := committingOf l }

/-- a record mutex the thread owns without (yet / any longer) a hold in the protocol model: between `Lock` and
    the `lock` event, between the `unlock` event and `Unlock` -/
def extra (l : Loc) : Option (Rec × Mode) :=
  match l.pc with
  | .a9 | .a14 => some (l.m, modeOf l.write)
  | .c3 | .c5 | .c12 => some (l.cur.rid, l.cur.mode)
  | .c7 => some (l.cur.rid, .w)
  | .g3 | .g12 => some (l.m, .w)
  | _ => none

/-- what the locals `m` / `cur` stand for while the protocol does not say it: the record carries the name `key`, and it is
    not among `held` / `rest`.  c8, c9 add that `cur` is write-held (used at `drop`), g7 … g10 that gc's validation
    succeeded (used at its `unlink` and `commit`). -/
def Facts (s : Shared) (l : Loc) : Prop :=
  match l.pc with
  | .a3 => l.okcur = true → assoc s.names l.m = some l.key
  | .a7 | .a8 | .a9 | .a10 | .a11 | .a12 | .a13 | .a14 =>
    assoc s.names l.m = some l.key ∧ ∀ h ∈ l.held, h.rid ≠ l.m
  | .c8 | .c9 =>
    (assoc s.names l.cur.rid = some l.cur.key ∧ ∀ h ∈ l.rest, h.rid ≠ l.cur.rid) ∧ l.cur.mode = .w
  | .c2 | .c3 | .c4 | .c5 | .c6 | .c7 | .c10 | .c11 | .c12 =>
    assoc s.names l.cur.rid = some l.cur.key ∧ ∀ h ∈ l.rest, h.rid ≠ l.cur.rid
  | .g1 | .g2 | .g3 | .g4 | .g5 | .g6 | .g11 | .g12 | .g13 => assoc s.names l.m = some l.key ∧ l.held = []
  | .g7 | .g8 | .g9 | .g10 => (assoc s.names l.m = some l.key ∧ l.held = []) ∧ l.okcur = true
  | _ => True

/-- the thread owns the mutex of each of its holds (`own`) and of `extra` (`ext`), on which it has no hold: that is what
    makes `extra` free in the protocol state (`Sim.free_of_extra`); `lockedMetas` holds only validated entries (`val`) -/
structure ThreadInv (s : Shared) (t : Tid) (l : Loc) : Prop where
  own   : ∀ h ∈ holdsOf l, owns (s.mu h.rid) t h.mode
  ext   : ∀ x, extra l = some x → owns (s.mu x.1) t x.2 ∧ assoc s.names x.1 ≠ none ∧ ∀ h ∈ holdsOf l, h.rid ≠ x.1
  facts : Facts s l
  val   : ∀ h ∈ l.held, h.valid = true

structure Sim (c : Cfg) (p : PState) : Prop where
  reach : Reachable p
  idx   : p.index = c.sh.index
  pend  : p.pending = c.sh.pending
  names : p.names = c.sh.names
  wf    : ∀ r, wfMu (c.sh.mu r)
  tx    : ∀ t, p.tx t = absTx (c.loc t)
  thr   : ∀ t, ThreadInv c.sh t (c.loc t)

theorem Sim.lookup {c : Cfg} {p : PState} (h : Sim c p) (k : Key) : p.lookup k = c.sh.lookup k := by
  unfold PState.lookup Shared.lookup
  rw [h.idx, h.pend]
  cases assoc c.sh.index k <;> rfl

def optStep (p : PState) : Option Ev → Option PState
  | none => some p
  | some e => Proto.step p e

theorem loc_default : (({} : Cfg).loc t) = {} := rfl

theorem loc_set (c : Cfg) (s : Shared) (t : Tid) (l : Loc) (u : Tid) :
    (Cfg.mk s (setD c.thr t l)).loc u = if u = t then l else c.loc u := by
  simp [Cfg.loc, getD_setD]

theorem loc_set_forall {c : Cfg} {s : Shared} {t : Tid} {l : Loc} {P : Tid → Loc → Prop} (ht : P t l)
    (ho : ∀ u, u ≠ t → P u (c.loc u)) (u : Tid) : P u ((Cfg.mk s (setD c.thr t l)).loc u) := by
  rw [loc_set]
  by_cases h : u = t
  · subst h; simpa using ht
  · simpa [h] using ho u h

theorem assoc_names_cons_ne {names : List (Rec × Key)} {r x : Rec} {k : Key} (hf : assoc names r = none)
    (h : assoc names x ≠ none) : assoc ((r, k) :: names) x ≠ none := by
  cases hx : assoc names x with
  | none => exact absurd hx h
  | some y => rw [assoc_names_cons hf hx]; simp

theorem Facts.mono {s s' : Shared} {l : Loc} (h : Facts s l)
    (hn : ∀ x y, assoc s.names x = some y → assoc s'.names x = some y) : Facts s' l := by
  -- with the local state taken apart and the pc put in, `Facts` computes; it has three shapes besides `True`, and the name
  -- of `m` or of `cur` is its only reference to the shared state
  rcases l with ⟨pc⟩
  cases pc
  case a3 => exact fun a => hn _ _ (h a)
  case c8 | c9 | g7 | g8 | g9 | g10 => exact ⟨⟨hn _ _ h.1.1, h.1.2⟩, h.2⟩
  case init | idle | a1 | a2 | a4 | a5 | a6r | a6c | n1 | n2 | n3 | n4 | d1 | d2 | d3 | d4 | c0 | cend => trivial
  all_goals exact ⟨hn _ _ h.1, h.2⟩

theorem ThreadInv.frame {s s' : Shared} {t : Tid} {l : Loc} (h : ThreadInv s t l)
    (hn : ∀ x y, assoc s.names x = some y → assoc s'.names x = some y)
    (hm : ∀ r m, owns (s.mu r) t m → (∃ k, assoc s.names r = some k) → owns (s'.mu r) t m)
    (hnamed : ∀ g ∈ holdsOf l, ∃ k, assoc s.names g.rid = some k) : ThreadInv s' t l where
  own := fun g hg => hm _ _ (h.own g hg) (hnamed g hg)
  ext := by
    intro x hx
    obtain ⟨a, b, c⟩ := h.ext x hx
    cases hb : assoc s.names x.1 with
    | none => exact absurd hb b
    | some k =>
      refine ⟨hm _ _ a ⟨k, hb⟩, ?_, c⟩
      rw [hn _ _ hb]; simp
  facts := h.facts.mono hn
  val := h.val

end NodisVerif.Proofs.TxProg

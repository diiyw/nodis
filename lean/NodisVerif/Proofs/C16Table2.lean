import NodisVerif.Proofs.HandlerShape2
import NodisVerif.Proofs.C16Handlers2
import NodisVerif.Proofs.C16Step
/-
  C16, handler level, list / hash / set families (`Handler2.table2`): for EVERY argument vector, store, clock and
  choice a handler writes exactly one RESP value (`.crash` = the dispatch-level recover writes the single error) that a
  strict reader reads back (`table2_wf`).  All handlers but two are in normal form (HandlerShape2.lean), so this is
  `HandlerShape.Render.wf`; SPOP and SRANDMEMBER are walked here.

  The only simple strings written are "OK", "UNSUPPORTED" and — SPOP / SRANDMEMBER with a choice
  list the model rejects — the model's verdict "INVALID-CHOICE", the only `.str` result of
  `Api.spop` / `Api.srandmember` (`spop_out`, `srandmember_out`).
-/
namespace NodisVerif.Proofs.C16Table2
open NodisVerif NodisVerif.Resp NodisVerif.Handler NodisVerif.Handler2
open NodisVerif.Proofs.C16Handlers
open NodisVerif.Proofs.C08Step hiding replyOf
open NodisVerif.Spec.RespReply (cleanLine)

theorem scalar_unsupported : isScalar unsupported = true := rfl

theorem clean_INVALID : cleanLine (Bytes.ofString "INVALID-CHOICE") = true := by decide +kernel

theorem wf_invalidChoice (o : Out) (h : ∀ x, o = Out.str x → cleanLine x = true) :
    WfToks (invalidChoice o) := by
  unfold invalidChoice
  split
  · exact wf_single _ (tokWf_simple _ (h _ rfl))
  · exact wf_single _ rfl

theorem snd_ite {c : Prop} [Decidable c] {a b : MState × Out} {o : Out} (h : (if c then a else b).2 = o) :
    a.2 = o ∨ b.2 = o := by
  split at h
  · exact .inl h
  · exact .inr h

theorem spop_out (s : MState) (now : Int) (key : Bytes) (count : Int) (choice : List Bytes) :
    ∀ x, (Api.spop s now key count choice).2 = Out.str x → cleanLine x = true := by
  unfold Api.spop
  generalize Store.writeKey s now key none = r
  obtain ⟨s', okk⟩ := r
  dsimp only
  intro x h
  rcases snd_ite h with h | h
  · cases h
  · generalize Api.asSet s' key = a at h
    cases a with
    | none => cases h
    | some st =>
      rcases snd_ite h with h | h
      · cases h; exact clean_INVALID
      · cases h

theorem srandmember_out (s : MState) (now : Int) (key : Bytes) (count : Int) (choice : List Bytes) :
    ∀ x, (Api.srandmember s now key count choice).2 = Out.str x → cleanLine x = true := by
  unfold Api.srandmember
  generalize Store.readKey s now key = r
  obtain ⟨s', okk⟩ := r
  dsimp only
  intro x h
  rcases snd_ite h with h | h
  · cases h
  · generalize Api.asSet s' key = a at h
    cases a with
    | none => cases h
    | some st =>
      rcases snd_ite h with h | h
      · cases h
      · rcases snd_ite h with h | h
        · cases h
        · cases h; exact clean_INVALID

theorem wf_spop_k (noCount : Bool) (s : MState) (o : Out) :
    (∀ x, o = Out.str x → cleanLine x = true) →
    WfOut (match o with
           | .slist [] => done s [.nullBulk]
           | .slist (r :: rs) => if noCount then done s [.bulk r] else done s (bulkList (r :: rs))
           | o => done s (invalidChoice o)) := by
  intro h
  split
  · exact wf_done_tok _ _ rfl
  · split
    · exact wf_done_tok _ _ rfl
    · exact wf_done _ _ (wf_bulkList _)
  · exact wf_done _ _ (wf_invalidChoice _ h)

/-- SPOP: null, one bulk, `*len` with `len` bulk strings, or the model's verdict token, the one simple
    string computed by the API — for EVERY choice list, valid or not -/
theorem wf_sPopH (args : List Bytes) : WfRes (Handler2.sPopH args) := by
  unfold Handler2.sPopH
  split
  · exact wf_errReply
  · dsimp only
    apply wfRes_ite
    · exact wf_errReply
    · intro s now ch
      apply wf_call
      intro _
      exact wf_spop_k _ _ _ (spop_out _ _ _ _ _)

theorem wf_srand_k (hasCount : Bool) (s : MState) (o : Out) :
    (∀ x, o = Out.str x → cleanLine x = true) →
    WfOut (match o with
           | .slist [] => done s [if hasCount then .arr 0 else .nullBulk]
           | .slist (r :: rs) => if hasCount then done s (bulkList (r :: rs)) else done s [.bulk r]
           | o => done s (invalidChoice o)) := by
  intro h
  split
  · split
    · exact wf_done _ _ wf_arr0
    · exact wf_done_tok _ _ rfl
  · split
    · exact wf_done _ _ (wf_bulkList _)
    · exact wf_done_tok _ _ rfl
  · exact wf_done _ _ (wf_invalidChoice _ h)

/-- SRANDMEMBER: `*0` / null, `*len` with `len` bulk strings / one bulk, or the verdict token -/
theorem wf_sRandMemberH (args : List Bytes) : WfRes (Handler2.sRandMemberH args) := by
  unfold Handler2.sRandMemberH
  split
  · exact wf_errReply
  · dsimp only
    apply wfRes_ite
    · exact wf_errReply
    · intro s now ch
      apply wf_call
      intro _
      exact wf_srand_k _ _ _ (srandmember_out _ _ _ _ _)

theorem table2_wf (name : String) (args : List Bytes) (r : HRes)
    (h : Handler2.table2 name args = some r) : WfRes r :=
  HandlerShape.table2_elim (P := fun _ _ r => WfRes r) (HandlerShape.Shape.wf fun _ h => h.elim)
    wf_sPopH wf_sRandMemberH name args r h

theorem table2_tableOneReply : TableOneReply Handler2.table2 := fun name args r h => (table2_wf name args r h).one

theorem table2_wire : TableWire Handler2.table2 := fun name args r h => (table2_wf name args r h).wire

/-- first table that knows the command (`Driver.lookup` for two tables) -/
def orTable (H1 H2 : Table) : Table := fun name args =>
  match H1 name args with
  | some r => some r
  | none => H2 name args

theorem orTable_oneReply {H1 H2 : Table} (h1 : TableOneReply H1) (h2 : TableOneReply H2) :
    TableOneReply (orTable H1 H2) := by
  intro name args r h
  unfold orTable at h
  split at h
  · rename_i r' h'; cases h; exact h1 _ _ _ h'
  · exact h2 _ _ _ h

theorem orTable_wire {H1 H2 : Table} (h1 : TableWire H1) (h2 : TableWire H2) :
    TableWire (orTable H1 H2) := by
  intro name args r h
  unfold orTable at h
  split at h
  · rename_i r' h'; cases h; exact h1 _ _ _ h'
  · exact h2 _ _ _ h

/-- non-vacuity: every schedule of list / hash / set commands, inside or outside MULTI, on any
    store: each command is answered by exactly one value, every token of which is readable -/
example (st : MState) (cs : List Cmd) : ∀ r ∈ (run Handler2.table2 { store := st } cs).2, oneValue r = true :=
  run_one_reply table2_tableOneReply cs (QueuesSat.init _ st)
example (st : MState) : QueuesSat WireBody { store := st } := QueuesSat.init _ st
example (st : MState) (cs : List Cmd) : ∀ r ∈ (run Handler.table1 { store := st } cs).2, WireOK r :=
  run_wire table1_wire cs (QueuesSat.init _ st)
example (st : MState) (cs : List Cmd) : ∀ r ∈ (run Handler2.table2 { store := st } cs).2, WireOK r :=
  run_wire table2_wire cs (QueuesSat.init _ st)
example (st : MState) (cs : List Cmd) :
    ∀ r ∈ (run (orTable Handler.table1 Handler2.table2) { store := st } cs).2, WireOK r :=
  run_wire (orTable_wire table1_wire table2_wire) cs (QueuesSat.init _ st)

end NodisVerif.Proofs.C16Table2

import NodisVerif.Proofs.C08Step

/-
  Frames of the connection-level operations of Model/Conn.lean: what `applySignals`, `runBody`,
  `unwatchAll`, `watch` change and what they leave alone.

  `Flagged S a b`: registry, states and queues kept, exactly the watch flags of the pairs in `S` set, the store kept;
  `FlaggedC S a b`: the same without the store, so that it also fits `runBody`.  Their weakenings, in decreasing
  precision: `OthersS` (C09.lean: `FlaggedC` for the connections other than the stepping one, phrased with
  `registered`), `Others` (C08Others.lean: "a flag keeps its value or becomes true", which needs no `RegWF`);
  beside them `OwnKeeps` (C09Own.lean), about one connection's own registrations and flags.
-/
namespace NodisVerif.Proofs.C08Step
open Resp Server
open NodisVerif.Proofs.AListLemmas2

/-- set the watch flag of every connection in `ids` for `key` (inner loop of `signalModifiedKey`) -/
def flagAll (sv : Server) (key : Bytes) (ids : List String) : Server :=
  ids.foldl (fun sv id =>
    let c := sv.conn id
    sv.setConn id { c with watch := AList.set c.watch key true }) sv

/-- `sv'` arises from `sv` by setting watch flags to true, exactly those of the pairs in `S` -/
structure Flagged (S : String → Bytes → Prop) (sv sv' : Server) : Prop where
  store : sv'.store = sv.store
  registry : sv'.registry = sv.registry
  state : ∀ id, (sv'.conn id).state = (sv.conn id).state
  queue : ∀ id, (sv'.conn id).queue = (sv.conn id).queue
  hit : ∀ id x, S id x → AList.get? (sv'.conn id).watch x = some true
  miss : ∀ id x, ¬ S id x → AList.get? (sv'.conn id).watch x = AList.get? (sv.conn id).watch x
  same : ∀ id, (∀ x, ¬ S id x) → sv'.conn id = sv.conn id

theorem Flagged.refl (sv : Server) : Flagged (fun _ _ => False) sv sv :=
  ⟨rfl, rfl, fun _ => rfl, fun _ => rfl, fun _ _ h => h.elim, fun _ _ _ => rfl, fun _ _ => rfl⟩

theorem Flagged.trans {S₁ S₂ : String → Bytes → Prop} {a b c : Server}
    (h₁ : Flagged S₁ a b) (h₂ : Flagged S₂ b c) : Flagged (fun i x => S₁ i x ∨ S₂ i x) a c := by
  refine ⟨h₂.store.trans h₁.store, h₂.registry.trans h₁.registry, fun id => (h₂.state id).trans (h₁.state id),
    fun id => (h₂.queue id).trans (h₁.queue id), ?_, ?_, ?_⟩
  · intro id x hs
    by_cases h2 : S₂ id x
    · exact h₂.hit id x h2
    · rw [h₂.miss id x h2]
      exact h₁.hit id x (hs.resolve_right h2)
  · intro id x hs
    rw [h₂.miss id x (fun h => hs (Or.inr h)), h₁.miss id x (fun h => hs (Or.inl h))]
  · intro id hs
    rw [h₂.same id (fun x h => hs x (Or.inr h)), h₁.same id (fun x h => hs x (Or.inl h))]

theorem Flagged.congr {S S' : String → Bytes → Prop} {a b : Server} (h : Flagged S a b)
    (e : ∀ i x, S i x ↔ S' i x) : Flagged S' a b :=
  ⟨h.store, h.registry, h.state, h.queue, fun id x hs => h.hit id x ((e id x).mpr hs),
   fun id x hs => h.miss id x (fun h' => hs ((e id x).mp h')),
   fun id hs => h.same id (fun x h' => hs x ((e id x).mp h'))⟩

theorem Flagged.flag_mono {S : String → Bytes → Prop} {a b : Server} (h : Flagged S a b) (id : String) (x : Bytes)
    (ht : AList.get? (a.conn id).watch x = some true) : AList.get? (b.conn id).watch x = some true := by
  by_cases hs : S id x
  · exact h.hit id x hs
  · rw [h.miss id x hs]; exact ht

theorem Flagged.contains_mono {S : String → Bytes → Prop} {a b : Server} (h : Flagged S a b) (id : String) (x : Bytes)
    (ht : AList.contains (a.conn id).watch x = true) : AList.contains (b.conn id).watch x = true := by
  by_cases hs : S id x
  · simp [AList.contains, h.hit id x hs]
  · simpa [AList.contains, h.miss id x hs] using ht

theorem flagOne (sv : Server) (id : String) (key : Bytes) :
    Flagged (fun i x => i = id ∧ x = key) sv
      (sv.setConn id { (sv.conn id) with watch := AList.set (sv.conn id).watch key true }) := by
  refine ⟨rfl, rfl, ?_, ?_, ?_, ?_, ?_⟩
  · intro i; rw [conn_setConn]; split <;> simp_all
  · intro i; rw [conn_setConn]; split <;> simp_all
  · rintro i x ⟨rfl, rfl⟩; simp [get?_set_same]
  · intro i x hs
    rw [conn_setConn]
    split
    · next h => subst h; simp only [not_and, true_imp_iff] at hs; simp [get?_set_other _ _ _ _ hs]
    · rfl
  · intro i hs
    rw [conn_setConn]
    split
    · next h => exact absurd ⟨h, rfl⟩ (hs key)
    · rfl

theorem flagAll_flagged (key : Bytes) : ∀ (ids : List String) (sv : Server),
    Flagged (fun i x => i ∈ ids ∧ x = key) sv (flagAll sv key ids) := by
  intro ids
  induction ids with
  | nil => intro sv; exact (Flagged.refl sv).congr (by simp)
  | cons id rest ih =>
    intro sv
    have h1 := flagOne sv id key
    have h2 := ih (sv.setConn id { (sv.conn id) with watch := AList.set (sv.conn id).watch key true })
    refine (h1.trans h2).congr ?_
    intro i x
    simp only [List.mem_cons]
    constructor
    · rintro (⟨a, b⟩ | ⟨a, b⟩)
      · exact ⟨Or.inl a, b⟩
      · exact ⟨Or.inr a, b⟩
    · rintro ⟨a | a, b⟩
      · exact Or.inl ⟨a, b⟩
      · exact Or.inr ⟨a, b⟩

/-- the loop over `store.signalled` of `applySignals` -/
def sigLoop (keys : List Bytes) (sv : Server) : Server :=
  keys.foldl (fun (sv : Server) key =>
      match AList.get? sv.registry key with
      | none => sv
      | some ids => flagAll sv key ids) sv

/-- the loop over the registry after a `Clear()` -/
def flushLoop (ents : AList (List String)) (sv : Server) : Server :=
  ents.foldl (fun (sv : Server) (key, ids) => flagAll sv key ids) sv

theorem applySignals_eq (sv : Server) : applySignals sv =
    (let sv1 := sigLoop sv.store.signalled sv
     let sv2 := if sv1.store.flushed then flushLoop sv1.registry sv1 else sv1
     { sv2 with store := { sv2.store with signalled := [], flushed := false } }) := rfl

theorem sigLoop_flagged : ∀ (keys : List Bytes) (sv : Server),
    Flagged (fun i x => x ∈ keys ∧ ∃ ids, AList.get? sv.registry x = some ids ∧ i ∈ ids) sv (sigLoop keys sv) := by
  intro keys
  induction keys with
  | nil => intro sv; exact (Flagged.refl sv).congr (by simp)
  | cons key rest ih =>
    intro sv
    show Flagged _ sv (sigLoop rest (match AList.get? sv.registry key with
      | none => sv
      | some ids => flagAll sv key ids))
    cases hk : AList.get? sv.registry key with
    | none =>
      refine (ih sv).congr ?_
      intro i x
      simp only [List.mem_cons]
      constructor
      · rintro ⟨a, b⟩; exact ⟨Or.inr a, b⟩
      · rintro ⟨a | a, ids, b, c⟩
        · subst a; rw [hk] at b; cases b
        · exact ⟨a, ids, b, c⟩
    | some ids =>
      have h1 := flagAll_flagged key ids sv
      have h2 := ih (flagAll sv key ids)
      rw [h1.registry] at h2
      refine (h1.trans h2).congr ?_
      intro i x
      simp only [List.mem_cons]
      constructor
      · rintro (⟨a, b⟩ | ⟨a, b⟩)
        · subst b; exact ⟨Or.inl rfl, ids, hk, a⟩
        · exact ⟨Or.inr a, b⟩
      · rintro ⟨a | a, ids', b, c⟩
        · subst a; rw [hk] at b; cases b; exact Or.inl ⟨c, rfl⟩
        · exact Or.inr ⟨a, ids', b, c⟩

theorem flushLoop_flagged : ∀ (ents : AList (List String)) (sv : Server),
    Flagged (fun i x => ∃ ids, (x, ids) ∈ ents ∧ i ∈ ids) sv (flushLoop ents sv) := by
  intro ents
  induction ents with
  | nil => intro sv; exact (Flagged.refl sv).congr (by simp)
  | cons p rest ih =>
    intro sv
    obtain ⟨key, ids⟩ := p
    show Flagged _ sv (flushLoop rest (flagAll sv key ids))
    have h1 := flagAll_flagged key ids sv
    have h2 := ih (flagAll sv key ids)
    refine (h1.trans h2).congr ?_
    intro i x
    simp only [List.mem_cons, Prod.mk.injEq]
    constructor
    · rintro (⟨a, b⟩ | ⟨ids', a, b⟩)
      · exact ⟨ids, Or.inl ⟨b, rfl⟩, a⟩
      · exact ⟨ids', Or.inr a, b⟩
    · rintro ⟨ids', (⟨a, b⟩ | a), c⟩
      · subst a b; exact Or.inl ⟨c, rfl⟩
      · exact Or.inr ⟨ids', a, c⟩

/-- the (connection, key) pairs whose flag a store effect sets: the key was passed to
    `signalModifiedKey` and the connection is registered for it, or `Clear()` ran and the
    connection is registered for the key -/
def hits (reg : AList (List String)) (st : MState) (id : String) (x : Bytes) : Prop :=
  (x ∈ st.signalled ∧ ∃ ids, AList.get? reg x = some ids ∧ id ∈ ids) ∨
  (st.flushed = true ∧ ∃ ids, (x, ids) ∈ reg ∧ id ∈ ids)

/-- `applySignals` without the final reset of the store's `signalled` / `flushed` fields -/
def applyFlags (sv : Server) : Server :=
  let sv1 := sigLoop sv.store.signalled sv
  if sv1.store.flushed then flushLoop sv1.registry sv1 else sv1

theorem applySignals_eq' (sv : Server) : applySignals sv =
    { applyFlags sv with store := { (applyFlags sv).store with signalled := [], flushed := false } } := rfl

theorem applyFlags_flagged (sv : Server) : Flagged (hits sv.registry sv.store) sv (applyFlags sv) := by
  have h1 := sigLoop_flagged sv.store.signalled sv
  unfold applyFlags
  simp only
  rw [h1.store]
  by_cases hf : sv.store.flushed = true
  · rw [if_pos hf]
    have h2 := flushLoop_flagged (sigLoop sv.store.signalled sv).registry (sigLoop sv.store.signalled sv)
    refine (h1.trans h2).congr ?_
    intro i x
    simp [hits, hf, h1.registry]
  · rw [if_neg hf]
    refine h1.congr ?_
    intro i x
    simp [hits, hf]

@[simp] theorem conn_store_update (sv : Server) (st : MState) (id : String) :
    ({ sv with store := st } : Server).conn id = sv.conn id := rfl

/-- like `Flagged`, but the store may have changed -/
structure FlaggedC (S : String → Bytes → Prop) (sv sv' : Server) : Prop where
  registry : sv'.registry = sv.registry
  state : ∀ id, (sv'.conn id).state = (sv.conn id).state
  queue : ∀ id, (sv'.conn id).queue = (sv.conn id).queue
  hit : ∀ id x, S id x → AList.get? (sv'.conn id).watch x = some true
  miss : ∀ id x, ¬ S id x → AList.get? (sv'.conn id).watch x = AList.get? (sv.conn id).watch x
  same : ∀ id, (∀ x, ¬ S id x) → sv'.conn id = sv.conn id

theorem FlaggedC.flag_mono {S : String → Bytes → Prop} {a b : Server} (h : FlaggedC S a b) (id : String) (x : Bytes)
    (ht : AList.get? (a.conn id).watch x = some true) : AList.get? (b.conn id).watch x = some true := by
  by_cases hs : S id x
  · exact h.hit id x hs
  · rw [h.miss id x hs]; exact ht

theorem FlaggedC.contains_mono {S : String → Bytes → Prop} {a b : Server} (h : FlaggedC S a b) (id : String) (x : Bytes)
    (ht : AList.contains (a.conn id).watch x = true) : AList.contains (b.conn id).watch x = true := by
  by_cases hs : S id x
  · simp [AList.contains, h.hit id x hs]
  · simpa [AList.contains, h.miss id x hs] using ht

theorem FlaggedC.refl (sv : Server) : FlaggedC (fun _ _ => False) sv sv :=
  ⟨rfl, fun _ => rfl, fun _ => rfl, fun _ _ h => h.elim, fun _ _ _ => rfl, fun _ _ => rfl⟩

theorem FlaggedC.trans {S₁ S₂ : String → Bytes → Prop} {a b c : Server}
    (h₁ : FlaggedC S₁ a b) (h₂ : FlaggedC S₂ b c) : FlaggedC (fun i x => S₁ i x ∨ S₂ i x) a c := by
  refine ⟨h₂.registry.trans h₁.registry, fun id => (h₂.state id).trans (h₁.state id),
    fun id => (h₂.queue id).trans (h₁.queue id), ?_, ?_, ?_⟩
  · intro id x hs
    by_cases h2 : S₂ id x
    · exact h₂.hit id x h2
    · rw [h₂.miss id x h2]
      exact h₁.hit id x (hs.resolve_right h2)
  · intro id x hs
    rw [h₂.miss id x (fun h => hs (Or.inr h)), h₁.miss id x (fun h => hs (Or.inl h))]
  · intro id hs
    rw [h₂.same id (fun x h => hs x (Or.inr h)), h₁.same id (fun x h => hs x (Or.inl h))]

theorem FlaggedC.congr {S S' : String → Bytes → Prop} {a b : Server} (h : FlaggedC S a b)
    (e : ∀ i x, S i x ↔ S' i x) : FlaggedC S' a b :=
  ⟨h.registry, h.state, h.queue, fun id x hs => h.hit id x ((e id x).mpr hs),
   fun id x hs => h.miss id x (fun h' => hs ((e id x).mp h')),
   fun id hs => h.same id (fun x h' => hs x ((e id x).mp h'))⟩

theorem FlaggedC.watch_or {S : String → Bytes → Prop} {a b : Server} (h : FlaggedC S a b) (id : String) (x : Bytes) :
    AList.get? (b.conn id).watch x = AList.get? (a.conn id).watch x ∨ AList.get? (b.conn id).watch x = some true := by
  by_cases hs : S id x
  · exact Or.inr (h.hit id x hs)
  · exact Or.inl (h.miss id x hs)

/-- the store a closure sees: `signalled`, the lock table and the hang flag start empty -/
def prep (st : MState) : MState := { st with signalled := [], held := [], hung := false }

def outOf (st : MState) (now : Int) (ch : Choice) (b : Body) : BodyOut := b (prep st) now ch

-- `C16Handlers.replyOf` (C16Handlers.lean) is the same function, defined there as well: `replyOf_eq` (C16Step.lean)
/-- what the connection receives from one closure: a recovered panic adds one error token -/
def replyOf (o : BodyOut) : List Tok := if o.panicked then o.toks ++ [Tok.err 1] else o.toks

/-- the store the server is left with after a closure -/
def storeAfter (o : BodyOut) : MState := { o.store with held := [], signalled := [], flushed := false }

theorem runBody_eq (sv : Server) (now : Int) (ch : Choice) (b : Body) :
    runBody sv now ch b =
      (applySignals { sv with store := { (outOf sv.store now ch b).store with held := [] } },
       replyOf (outOf sv.store now ch b)) := rfl

theorem runBody_toks (sv : Server) (now : Int) (ch : Choice) (b : Body) :
    (runBody sv now ch b).2 = replyOf (outOf sv.store now ch b) := rfl

theorem runBody_store (sv : Server) (now : Int) (ch : Choice) (b : Body) :
    (runBody sv now ch b).1.store = storeAfter (outOf sv.store now ch b) := by
  rw [runBody_eq, applySignals_eq']
  simp only [storeAfter]
  rw [(applyFlags_flagged _).store]

theorem Flagged.withStore {S : String → Bytes → Prop} {sv sv' : Server} (st st' : MState)
    (h : Flagged S { sv with store := st } sv') : FlaggedC S sv { sv' with store := st' } :=
  ⟨h.registry, h.state, h.queue, h.hit, h.miss, h.same⟩

theorem runBody_flagged (sv : Server) (now : Int) (ch : Choice) (b : Body) :
    FlaggedC (hits sv.registry (outOf sv.store now ch b).store) sv (runBody sv now ch b).1 := by
  rw [runBody_eq, applySignals_eq']
  exact (applyFlags_flagged { sv with store := { (outOf sv.store now ch b).store with held := [] } }).withStore _ _

/-- the registry side of `unwatchAll`: leave the list of every watched key -/
def regLoop (id : String) (w : AList Bool) (sv : Server) : Server :=
  w.foldl (fun (sv : Server) (key, _) =>
    match AList.get? sv.registry key with
    | none => sv
    | some ids => { sv with registry := AList.set sv.registry key (ids.filter (· ≠ id)) }) sv

theorem unwatchAll_eq (sv : Server) (id : String) :
    unwatchAll sv id = (regLoop id (sv.conn id).watch sv).setConn id
      { ((regLoop id (sv.conn id).watch sv).conn id) with watch := [] } := rfl

theorem regLoop_cons (id : String) (key : Bytes) (fl : Bool) (rest : AList Bool) (sv : Server) :
    regLoop id ((key, fl) :: rest) sv = regLoop id rest (match AList.get? sv.registry key with
      | none => sv
      | some ids => { sv with registry := AList.set sv.registry key (ids.filter (· ≠ id)) }) := rfl

theorem regLoop_frame (id : String) : ∀ (w : AList Bool) (sv : Server),
    (regLoop id w sv).store = sv.store ∧ (regLoop id w sv).conns = sv.conns := by
  intro w
  induction w with
  | nil => intro sv; exact ⟨rfl, rfl⟩
  | cons p rest ih =>
    intro sv
    obtain ⟨key, fl⟩ := p
    rw [regLoop_cons]
    cases AList.get? sv.registry key with
    | none => exact ih sv
    | some ids => exact ih _

theorem regLoop_conn (id : String) (w : AList Bool) (sv : Server) (i : String) :
    (regLoop id w sv).conn i = sv.conn i := by
  simp [Server.conn, (regLoop_frame id w sv).2]

theorem regLoop_registry (id : String) : ∀ (w : AList Bool) (sv : Server) (x : Bytes),
    AList.get? (regLoop id w sv).registry x =
      (AList.get? sv.registry x).map (fun ids => if x ∈ w.map (·.1) then ids.filter (· ≠ id) else ids) := by
  intro w
  induction w with
  | nil => intro sv x; simp [regLoop]
  | cons p rest ih =>
    intro sv x
    obtain ⟨key, fl⟩ := p
    rw [regLoop_cons]
    cases hk : AList.get? sv.registry key with
    | none =>
      simp only
      rw [ih]
      by_cases hx : x = key
      · subst hx; simp [hk]
      · simp [hx]
    | some ids =>
      simp only
      rw [ih]
      simp only [get?_set]
      by_cases hx : x = key
      · subst hx
        simp only [if_true, hk, Option.map_some, List.map_cons, List.mem_cons, true_or, List.filter_filter]
        congr 1
        split <;> simp
      · simp [hx]

theorem regLoop_sorted (id : String) : ∀ (w : AList Bool) (sv : Server),
    AList.Sorted sv.registry → AList.Sorted (regLoop id w sv).registry := by
  intro w
  induction w with
  | nil => intro sv h; exact h
  | cons p rest ih =>
    intro sv h
    obtain ⟨key, fl⟩ := p
    rw [regLoop_cons]
    cases AList.get? sv.registry key with
    | none => exact ih sv h
    | some ids => exact ih _ (set_preserves_sorted _ h _ _)

@[simp] theorem unwatchAll_store (sv : Server) (id : String) : (unwatchAll sv id).store = sv.store := by
  rw [unwatchAll_eq]; simp [(regLoop_frame id _ sv).1]

theorem unwatchAll_conn_same (sv : Server) (id : String) :
    (unwatchAll sv id).conn id = { (sv.conn id) with watch := [] } := by
  rw [unwatchAll_eq]; simp [regLoop_conn]

theorem unwatchAll_conn_other (sv : Server) (id i : String) (h : i ≠ id) :
    (unwatchAll sv id).conn i = sv.conn i := by
  rw [unwatchAll_eq, conn_setConn_other _ _ _ _ h, regLoop_conn]

theorem unwatchAll_registry (sv : Server) (id : String) (x : Bytes) :
    AList.get? (unwatchAll sv id).registry x =
      (AList.get? sv.registry x).map
        (fun ids => if x ∈ (sv.conn id).watch.map (·.1) then ids.filter (· ≠ id) else ids) := by
  rw [unwatchAll_eq]; simp [regLoop_registry]

theorem unwatchAll_sorted (sv : Server) (id : String) (h : AList.Sorted sv.registry) :
    AList.Sorted (unwatchAll sv id).registry := by
  rw [unwatchAll_eq]; exact regLoop_sorted id _ sv h

end NodisVerif.Proofs.C08Step

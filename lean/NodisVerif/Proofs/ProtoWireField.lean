import NodisVerif.Model.ProtoWire
import NodisVerif.Proofs.CodecLemmas

/-
  C20 / wire encoding (names in `NodisVerif.Proofs.ProtoWire`), the decoder from the bottom up: the protowire consumers
  undo the appenders and return a suffix of their input; what a successful consumer, field step and loop iteration of
  Unmarshal has done (`Consumed`, `step_inv`; an invariant kept by every iteration holds at the end), with fuel that is
  sufficient because every iteration consumes at least one byte (`dec` is the loop without fuel); and what the loop does
  on the bytes Marshal emits for ONE field (`At`): it puts the field's value into its slot and leaves everything else alone.
-/
namespace NodisVerif.Proofs.ProtoWire
open NodisVerif Varint Codec NodisVerif.ProtoWire

theorem consumeVarint_lt {b rest : Bytes} {v : Nat} (h : consumeVarint b = some (v, rest)) :
    rest.length < b.length := by
  unfold consumeVarint at h
  split at h
  · cases h
  · rename_i hn
    simp only [Option.some.injEq, Prod.mk.injEq] at h
    have hle := VarintLemmas.uvarintAux_le b 0 0 0
    have e : (uvarint b).2 = (uvarintAux b 0 0 0).2 := rfl
    rw [← h.2, List.length_drop]
    rw [e] at hn
    omega

theorem consumeBytes_acct {b s rest : Bytes} (h : consumeBytes b = some (s, rest)) :
    s.length + rest.length < b.length := by
  unfold consumeBytes at h
  split at h
  · cases h
  · rename_i m r hv
    have := consumeVarint_lt hv
    split at h
    · cases h
    · simp only [Option.some.injEq, Prod.mk.injEq] at h
      rw [← h.1, ← h.2, List.length_take, List.length_drop]
      omega

theorem consumeBytes_le {b s rest : Bytes} (h : consumeBytes b = some (s, rest)) :
    rest.length < b.length := by
  have := consumeBytes_acct h
  omega

theorem consumeFixed64_acct {b rest : Bytes} {x : UInt64} (h : consumeFixed64 b = some (x, rest)) :
    rest.length + 8 ≤ b.length := by
  unfold consumeFixed64 at h
  by_cases hl : b.length < 8
  · rw [if_pos hl] at h; cases h
  · rw [if_neg hl] at h; cases h
    rw [List.length_drop]; omega

theorem consumeFixed64_le {b rest : Bytes} {x : UInt64} (h : consumeFixed64 b = some (x, rest)) :
    rest.length < b.length := by
  have := consumeFixed64_acct h
  omega

theorem drop_of_if {n : Nat} {b rest : Bytes} (h : (if b.length < n then none else some (b.drop n)) = some rest) :
    rest.length ≤ b.length := by
  split at h
  · cases h
  · cases h; exact List.length_drop ▸ Nat.sub_le _ _

theorem skipScalar_le {wt : Nat} {b rest : Bytes} (h : skipScalar wt b = some rest) :
    rest.length ≤ b.length := by
  unfold skipScalar at h
  by_cases h0 : wt = 0
  · rw [if_pos h0] at h
    obtain ⟨⟨v, r⟩, hv, rfl⟩ := Option.map_eq_some_iff.mp h
    exact Nat.le_of_lt (consumeVarint_lt hv)
  rw [if_neg h0] at h
  by_cases h1 : wt = 1
  · rw [if_pos h1] at h; exact drop_of_if h
  rw [if_neg h1] at h
  by_cases h2 : wt = 2
  · rw [if_pos h2] at h
    obtain ⟨⟨v, r⟩, hv, rfl⟩ := Option.map_eq_some_iff.mp h
    exact Nat.le_of_lt (consumeBytes_le hv)
  rw [if_neg h2] at h
  by_cases h5 : wt = 5
  · rw [if_pos h5] at h; exact drop_of_if h
  rw [if_neg h5] at h
  cases h

theorem consumeTag_lt {b rest : Bytes} {num wt : Nat} (h : consumeTag b = some (num, wt, rest)) :
    rest.length < b.length := by
  unfold consumeTag at h
  split at h
  · cases h
  · rename_i t r hv
    split at h
    · cases h
    · simp only [Option.some.injEq, Prod.mk.injEq] at h
      have := consumeVarint_lt hv
      rw [← h.2.2]; exact this

theorem consumeVarint_put (n : Nat) (h : n < 2 ^ 64) (rest : Bytes) :
    consumeVarint (putUvarint n ++ rest) = some (n, rest) := by
  unfold consumeVarint
  rw [VarintLemmas.uvarint_putUvarint n h rest]
  have hp := VarintLemmas.putUvarint_length_pos n
  have : ¬ (((putUvarint n).length : Int) ≤ 0) := by omega
  simp only [this, if_false, Int.toNat_natCast, List.drop_left]

theorem consumeBytes_lenDelim (s : Bytes) (h : s.length < 2 ^ 64) (rest : Bytes) :
    consumeBytes (lenDelim s ++ rest) = some (s, rest) := by
  unfold consumeBytes lenDelim
  rw [List.append_assoc, consumeVarint_put _ h]
  simp

theorem consumeFixed64_u64le (x : UInt64) (rest : Bytes) :
    consumeFixed64 (u64le x ++ rest) = some (x, rest) := by
  unfold consumeFixed64
  have hl := CodecLemmas.u64le_length x
  have : ¬ ((u64le x ++ rest).length < 8) := by rw [List.length_append, hl]; omega
  simp only [this, if_false, CodecLemmas.leU64_u64le]
  rw [← hl, List.drop_left]

theorem flatMap_u64le_length (l : List UInt64) : (l.flatMap u64le).length = 8 * l.length := by
  induction l with
  | nil => rfl
  | cons x rest ih =>
    rw [List.flatMap_cons, List.length_append, ih, CodecLemmas.u64le_length, List.length_cons]
    omega

theorem unpackN_flatMap (l : List UInt64) (rest : Bytes) :
    unpackN l.length (l.flatMap u64le ++ rest) = l := by
  induction l with
  | nil => rfl
  | cons x tl ih =>
    rw [List.flatMap_cons, List.length_cons, unpackN, List.append_assoc, CodecLemmas.leU64_u64le]
    have hl := CodecLemmas.u64le_length x
    rw [← hl, List.drop_left, ih]

theorem unpack64_flatMap (l : List UInt64) : unpack64 (l.flatMap u64le) = some l := by
  unfold unpack64
  rw [flatMap_u64le_length]
  have h1 : ¬ (8 * l.length % 8 ≠ 0) := by omega
  have h2 : 8 * l.length / 8 = l.length := by omega
  simp only [h1, if_false, h2]
  have := unpackN_flatMap l []
  rw [List.append_nil] at this
  rw [this]

theorem toU64_lt (i : Int) : toU64 i < 2 ^ 64 := by
  unfold toU64 two64
  omega

theorem ofU64_toU64 (i : Int) (h : inInt64 i = true) : ofU64 (toU64 i) = i := by
  have h' : -9223372036854775808 ≤ i ∧ i ≤ 9223372036854775807 := by
    unfold inInt64 int64Min int64Max at h
    exact of_decide_eq_true h
  unfold ofU64 toU64 two64
  split <;> omega

theorem toU64_ne_zero (i : Int) (h : inInt64 i = true) (hi : i ≠ 0) : toU64 i ≠ 0 := by
  have h' : -9223372036854775808 ≤ i ∧ i ≤ 9223372036854775807 := by
    unfold inInt64 int64Min int64Max at h
    exact of_decide_eq_true h
  unfold toU64 two64
  omega

theorem consumeVarint_tag (no wt : Nat) (hno : no ≤ 536870911) (hwt : wt < 8) (rest : Bytes) :
    consumeVarint (tag no wt ++ rest) = some (no * 8 + wt, rest) := by
  unfold tag
  exact consumeVarint_put _ (by omega) rest

/-- what a successful `consumeField` has done: which protowire consumer produced `rest`, and the value stored -/
inductive Consumed (cur : PVal) (b rest : Bytes) : Kind → PVal → Prop
  | str (s : Bytes) : consumeBytes b = some (s, rest) → validUTF8 s = true → Consumed cur b rest .str (.bytes s)
  | bytes (s : Bytes) : consumeBytes b = some (s, rest) → Consumed cur b rest .bytes (.bytes s)
  | int (u : Nat) : consumeVarint b = some (u, rest) → Consumed cur b rest .int64 (.int (ofU64 u))
  | bool (u : Nat) : consumeVarint b = some (u, rest) → Consumed cur b rest .bool (.bool (u != 0))
  | double (x : UInt64) : consumeFixed64 b = some (x, rest) → Consumed cur b rest .double (.f64 x)
  | repStr (s : Bytes) : consumeBytes b = some (s, rest) → validUTF8 s = true →
      Consumed cur b rest .repStr (.list (cur.asList ++ [s]))
  | repBytes (s : Bytes) : consumeBytes b = some (s, rest) → Consumed cur b rest .repBytes (.list (cur.asList ++ [s]))
  | packed (p : Bytes) (xs : List UInt64) : consumeBytes b = some (p, rest) → unpack64 p = some xs →
      Consumed cur b rest .repDouble (.f64s (cur.asF64s ++ xs))
  | unpacked (x : UInt64) : consumeFixed64 b = some (x, rest) → Consumed cur b rest .repDouble (.f64s (cur.asF64s ++ [x]))

theorem consumeField_inv {k : Kind} {cur v : PVal} {wt : Nat} {b rest : Bytes}
    (h : consumeField k cur wt b = .ok v rest) : Consumed cur b rest k v := by
  revert h
  -- the branches that do not end in `.ok` go by `cases h`; in the others the consumer's result is at hand
  fun_cases consumeField k cur wt b <;> intro h <;> cases h
  all_goals
    first
    | (constructor <;> assumption)
    | (apply Consumed.unpacked; assumption)

theorem consumeField_le {k : Kind} {cur v : PVal} {wt : Nat} {b rest : Bytes}
    (h : consumeField k cur wt b = .ok v rest) : rest.length ≤ b.length := by
  cases consumeField_inv h with
  | str s hb _ | bytes s hb | repStr s hb _ | repBytes s hb | packed p xs hb _ => exact Nat.le_of_lt (consumeBytes_le hb)
  | int u hb | bool u hb => exact Nat.le_of_lt (consumeVarint_lt hb)
  | double x hb | unpacked x hb => exact Nat.le_of_lt (consumeFixed64_le hb)

/-- a successful `stepField` runs the consumer of one slot and leaves the other slots alone: a relation
    `L` between the value lists that holds when the first slot goes from `cur` to what its consumer
    stored, and is kept when the same value is put in front of both lists, holds of `stepField` -/
theorem stepField_lift {wt : Nat} {b rest : Bytes} (L : Schema → List PVal → List PVal → Prop)
    (hhead : ∀ no k sch cur v vs, consumeField k cur wt b = .ok v rest → L ((no, k) :: sch) (cur :: vs) (v :: vs))
    (htail : ∀ e sch v vs vs', L sch vs vs' → L (e :: sch) (v :: vs) (v :: vs')) :
    ∀ (sch : Schema) (vals : List PVal) {num : Nat} {vals' : List PVal},
      stepField sch vals num wt b = .ok vals' rest → L sch vals vals' := by
  intro sch
  induction sch with
  | nil => intro vals num vals' h; cases vals <;> cases h
  | cons e sch ih =>
    intro vals num vals' h
    obtain ⟨no, k⟩ := e
    cases vals with
    | nil => cases h
    | cons v vs =>
      rw [stepField] at h
      split at h
      · split at h
        · rename_i hc
          cases h
          exact hhead no k sch v _ vs hc
        · cases h
        · cases h
      · split at h
        · rename_i hc
          cases h
          exact htail _ sch v vs _ (ih vs hc)
        · cases h
        · cases h

theorem stepField_le (sch : Schema) (vals : List PVal) {num wt : Nat} {b rest : Bytes} {vals' : List PVal}
    (h : stepField sch vals num wt b = .ok vals' rest) : rest.length ≤ b.length :=
  stepField_lift (fun _ _ _ => rest.length ≤ b.length) (fun _ _ _ _ _ _ hc => consumeField_le hc)
    (fun _ _ _ _ _ h => h) sch vals h

/-- the value of one field inside a group: a nested group (one level deeper) or a scalar -/
def skipInner (fuel depth num wt : Nat) (b : Bytes) : Option Bytes :=
  if wt = 3 then (if depth = 0 then none else skipGroup fuel (depth - 1) num b) else skipScalar wt b

theorem skipGroup_succ (fuel depth num : Nat) (b : Bytes) :
    skipGroup (fuel + 1) depth num b =
      match consumeTag b with
      | none => none
      | some (num2, wt2, rest) =>
        if wt2 = 4 then (if num = num2 then some rest else none)
        else
          match skipInner fuel depth num2 wt2 rest with
          | none => none
          | some rest' => skipGroup fuel depth num rest' := by
  rw [skipGroup]; rfl

theorem skipInner_le {fuel depth num wt : Nat} {b rest : Bytes}
    (ih : ∀ (depth num : Nat) (b : Bytes) {rest : Bytes}, skipGroup fuel depth num b = some rest → rest.length ≤ b.length)
    (h : skipInner fuel depth num wt b = some rest) : rest.length ≤ b.length := by
  unfold skipInner at h
  split at h
  · split at h
    · cases h
    · exact ih _ _ _ h
  · exact skipScalar_le h

theorem skipGroup_le : ∀ (fuel depth num : Nat) (b : Bytes) {rest : Bytes},
    skipGroup fuel depth num b = some rest → rest.length ≤ b.length := by
  intro fuel
  induction fuel with
  | zero => intro depth num b rest h; cases h
  | succ fuel ih =>
    intro depth num b rest h
    rw [skipGroup_succ] at h
    split at h
    · cases h
    · rename_i num2 wt2 r hc
      have hlt := consumeTag_lt hc
      split at h
      · split at h
        · cases h; exact Nat.le_of_lt hlt
        · cases h
      · split at h
        · cases h
        · rename_i r' hi
          have := skipInner_le ih hi
          have := ih _ _ _ h
          omega

theorem skipValue_le {num wt : Nat} {b rest : Bytes} (h : skipValue num wt b = some rest) :
    rest.length ≤ b.length := by
  unfold skipValue at h
  split at h
  · exact skipGroup_le _ _ _ _ h
  · split at h
    · cases h
    · exact skipScalar_le h

theorem step_inv {sch : Schema} {b rest : Bytes} {m m' : Msg} (h : step sch b m = some (m', rest)) :
    ∃ t r, consumeVarint b = some (t, r) ∧
      ((∃ vals, stepField sch m.vals (t / 8) (t % 8) r = .ok vals rest ∧ m'.vals = vals) ∨
       (skipValue (t / 8) (t % 8) r = some rest ∧ m'.vals = m.vals)) := by
  unfold step at h
  split at h
  · cases h
  · rename_i t r hc
    refine ⟨t, r, hc, ?_⟩
    simp only at h
    split at h
    · cases h
    · split at h
      · cases h
      · split at h
        · rename_i vals _ hs
          cases h
          exact Or.inl ⟨vals, hs, rfl⟩
        · cases h
        · split at h
          · cases h
          · rename_i hk
            cases h
            exact Or.inr ⟨hk, rfl⟩

theorem step_lt {sch : Schema} {b rest : Bytes} {m m' : Msg} (h : step sch b m = some (m', rest)) :
    rest.length < b.length := by
  obtain ⟨t, r, hc, hr⟩ := step_inv h
  have hlt := consumeVarint_lt hc
  rcases hr with ⟨vals, hs, _⟩ | ⟨hs, _⟩
  · exact Nat.lt_of_le_of_lt (stepField_le _ _ hs) hlt
  · exact Nat.lt_of_le_of_lt (skipValue_le hs) hlt

theorem decodeLoop_fuel (sch : Schema) : ∀ (f1 f2 : Nat) (b : Bytes) (m : Msg),
    b.length ≤ f1 → b.length ≤ f2 → decodeLoop sch f1 b m = decodeLoop sch f2 b m := by
  intro f1
  induction f1 with
  | zero =>
    intro f2 b m h1 h2
    have : b = [] := List.eq_nil_of_length_eq_zero (by omega)
    subst this
    cases f2 <;> rfl
  | succ f1 ih =>
    intro f2 b m h1 h2
    cases b with
    | nil => cases f2 <;> rfl
    | cons x xs =>
      cases f2 with
      | zero => simp at h2
      | succ f2 =>
        simp only [decodeLoop]
        cases hs : step sch (x :: xs) m with
        | none => rfl
        | some p =>
          obtain ⟨m', rest⟩ := p
          have := step_lt hs
          simp only [List.length_cons] at this h1 h2
          exact ih f2 rest m' (by omega) (by omega)

theorem decodeLoop_inv (sch : Schema) (I : Msg → Bytes → Prop)
    (hstep : ∀ b m m' rest, I m b → step sch b m = some (m', rest) → I m' rest) :
    ∀ (fuel : Nat) (b : Bytes) (m m' : Msg), I m b → decodeLoop sch fuel b m = some m' → I m' [] := by
  intro fuel
  induction fuel with
  | zero =>
    intro b m m' hI h
    cases b with
    | nil => cases h; exact hI
    | cons _ _ => cases h
  | succ fuel ih =>
    intro b m m' hI h
    cases b with
    | nil => cases h; exact hI
    | cons x xs =>
      simp only [decodeLoop] at h
      cases hs : step sch (x :: xs) m with
      | none => rw [hs] at h; cases h
      | some p => rw [hs] at h; exact ih p.2 p.1 m' (hstep _ _ _ _ hI hs) h

/-- the loop of Unmarshal with sufficient fuel, as a fuel-free recursion -/
def dec (sch : Schema) (b : Bytes) (m : Msg) : Option Msg := decodeLoop sch b.length b m

theorem dec_nil (sch : Schema) (m : Msg) : dec sch [] m = some m := rfl

theorem dec_step (sch : Schema) {b rest : Bytes} {m m' : Msg} (hne : b ≠ [])
    (hs : step sch b m = some (m', rest)) : dec sch b m = dec sch rest m' := by
  unfold dec
  cases b with
  | nil => exact absurd rfl hne
  | cons x xs =>
    simp only [List.length_cons, decodeLoop, hs]
    have := step_lt hs
    simp only [List.length_cons] at this
    exact decodeLoop_fuel sch _ _ _ _ (by omega) (Nat.le_refl _)

theorem dec_fail (sch : Schema) {b : Bytes} {m : Msg} (hne : b ≠ [])
    (hs : step sch b m = none) : dec sch b m = none := by
  unfold dec
  cases b with
  | nil => exact absurd rfl hne
  | cons x xs => simp only [List.length_cons, decodeLoop, hs]

theorem skipGroup_fuel : ∀ (f1 f2 depth num : Nat) (b : Bytes),
    b.length < f1 → b.length < f2 → skipGroup f1 depth num b = skipGroup f2 depth num b := by
  intro f1
  induction f1 with
  | zero => intro f2 depth num b h1; omega
  | succ f1 ih =>
    intro f2 depth num b h1 h2
    cases f2 with
    | zero => omega
    | succ f2 =>
      rw [skipGroup_succ, skipGroup_succ]
      cases hc : consumeTag b with
      | none => rfl
      | some p =>
        obtain ⟨num2, wt2, rest⟩ := p
        have hlt := consumeTag_lt hc
        -- both recursive calls work on inputs shorter than `b`
        have hin : skipInner f1 depth num2 wt2 rest = skipInner f2 depth num2 wt2 rest := by
          unfold skipInner
          split
          · split
            · rfl
            · exact ih f2 _ _ rest (by omega) (by omega)
          · rfl
        simp only [hin]
        cases hn : skipInner f2 depth num2 wt2 rest with
        | none => rfl
        | some rest' =>
          have := skipInner_le (skipGroup_le f2) hn
          simp only [ih f2 depth num rest' (by omega) (by omega)]

/-- the field `(no, k)` sits in schema `S` behind `pre`, whose numbers differ from `no` -/
structure At (S pre : Schema) (no : Nat) (k : Kind) (post : Schema) : Prop where
  eq : S = pre ++ (no, k) :: post
  fresh : ∀ e ∈ pre, e.1 ≠ no
  lo : 1 ≤ no
  hi : no ≤ 536870911

theorem stepField_at {no : Nat} {k : Kind} {post : Schema} {v : PVal} {tl : List PVal} {wt : Nat} {b : Bytes} :
    ∀ (pre : Schema) (pv : List PVal), pv.length = pre.length → (∀ e ∈ pre, e.1 ≠ no) →
    stepField (pre ++ (no, k) :: post) (pv ++ v :: tl) no wt b =
      match consumeField k v wt b with
      | .ok v' rest => .ok (pv ++ v' :: tl) rest
      | .unknown => .unknown
      | .err => .err := by
  intro pre
  induction pre with
  | nil =>
    intro pv hl _
    have : pv = [] := List.eq_nil_of_length_eq_zero (by simpa using hl)
    subst this
    simp only [List.nil_append, stepField, if_true]
    cases consumeField k v wt b <;> rfl
  | cons e pre ih =>
    intro pv hl hf
    obtain ⟨n', k'⟩ := e
    cases pv with
    | nil => simp at hl
    | cons p pv =>
      have hne : n' ≠ no := hf (n', k') (List.mem_cons_self ..)
      simp only [List.cons_append, stepField, hne, if_false]
      rw [ih pv (by simpa using hl) (fun e he => hf e (List.mem_cons_of_mem _ he))]
      cases consumeField k v wt b <;> rfl

theorem tag_ne_nil (no wt : Nat) (x : Bytes) : tag no wt ++ x ≠ [] := by
  intro h
  have := congrArg List.length h
  have hp := VarintLemmas.putUvarint_length_pos (no * 8 + wt)
  simp only [tag, List.length_append, List.length_nil] at this
  omega

theorem step_known {S pre post : Schema} {no : Nat} {k : Kind} (hat : At S pre no k post)
    {pv tl : List PVal} (hpv : pv.length = pre.length) {wt : Nat} (hwt : wt < 8) (hwt4 : wt ≠ 4)
    (v : PVal) (x u : Bytes) :
    (∀ v' rest, consumeField k v wt x = .ok v' rest →
      step S (tag no wt ++ x) ⟨pv ++ v :: tl, u⟩ = some (⟨pv ++ v' :: tl, u⟩, rest)) ∧
    (consumeField k v wt x = .err → step S (tag no wt ++ x) ⟨pv ++ v :: tl, u⟩ = none) := by
  unfold step
  rw [consumeVarint_tag no wt hat.hi hwt]
  have h1 : (no * 8 + wt) / 8 = no := by omega
  have h2 : (no * 8 + wt) % 8 = wt := by omega
  have h3 : ¬ (no < 1 ∨ no > 536870911) := by have := hat.lo; have := hat.hi; omega
  simp only [h1, h2, h3, hwt4, if_false]
  rw [hat.eq, stepField_at pre pv hpv hat.fresh]
  exact ⟨fun v' rest hc => by rw [hc], fun hc => by rw [hc]⟩

theorem dec_known {S pre post : Schema} {no : Nat} {k : Kind} (hat : At S pre no k post)
    {pv tl : List PVal} (hpv : pv.length = pre.length) {wt : Nat} (hwt : wt < 8) (hwt4 : wt ≠ 4)
    {v v' : PVal} {x rest : Bytes} (u : Bytes) (hc : consumeField k v wt x = .ok v' rest) :
    dec S (tag no wt ++ x) ⟨pv ++ v :: tl, u⟩ = dec S rest ⟨pv ++ v' :: tl, u⟩ :=
  dec_step S (tag_ne_nil no wt x) ((step_known hat hpv hwt hwt4 v x u).1 v' rest hc)

theorem putUvarint_one : putUvarint 1 = [1] := by
  rw [putUvarint]; rfl

section
variable {S pre post : Schema} {no : Nat} {pv tl : List PVal} (u rest : Bytes)

theorem dec_str (hat : At S pre no .str post) (hpv : pv.length = pre.length) (cur : PVal) (s : Bytes)
    (hv : validUTF8 s = true) (hs : s.length < 2 ^ 63) :
    dec S (chunk no s ++ rest) ⟨pv ++ cur :: tl, u⟩ = dec S rest ⟨pv ++ .bytes s :: tl, u⟩ := by
  unfold chunk
  rw [List.append_assoc]
  apply dec_known hat hpv (by omega) (by omega)
  simp only [consumeField, ne_eq, not_true_eq_false, if_false]
  rw [consumeBytes_lenDelim s (by omega)]
  simp only [hv, if_true]

theorem dec_bytes (hat : At S pre no .bytes post) (hpv : pv.length = pre.length) (cur : PVal) (s : Bytes)
    (hs : s.length < 2 ^ 63) :
    dec S (chunk no s ++ rest) ⟨pv ++ cur :: tl, u⟩ = dec S rest ⟨pv ++ .bytes s :: tl, u⟩ := by
  unfold chunk
  rw [List.append_assoc]
  apply dec_known hat hpv (by omega) (by omega)
  simp only [consumeField, ne_eq, not_true_eq_false, if_false]
  rw [consumeBytes_lenDelim s (by omega)]

theorem dec_int (hat : At S pre no .int64 post) (hpv : pv.length = pre.length) (cur : PVal) (i : Int)
    (hi : inInt64 i = true) :
    dec S ((tag no 0 ++ putUvarint (toU64 i)) ++ rest) ⟨pv ++ cur :: tl, u⟩
      = dec S rest ⟨pv ++ .int i :: tl, u⟩ := by
  rw [List.append_assoc]
  apply dec_known hat hpv (by omega) (by omega)
  simp only [consumeField, ne_eq, not_true_eq_false, if_false]
  rw [consumeVarint_put _ (toU64_lt i)]
  simp only [ofU64_toU64 i hi]

theorem dec_bool (hat : At S pre no .bool post) (hpv : pv.length = pre.length) (cur : PVal) :
    dec S ((tag no 0 ++ [1]) ++ rest) ⟨pv ++ cur :: tl, u⟩ = dec S rest ⟨pv ++ .bool true :: tl, u⟩ := by
  rw [List.append_assoc]
  apply dec_known hat hpv (by omega) (by omega)
  simp only [consumeField, ne_eq, not_true_eq_false, if_false]
  rw [← putUvarint_one, consumeVarint_put 1 (by omega)]
  rfl

theorem dec_double (hat : At S pre no .double post) (hpv : pv.length = pre.length) (cur : PVal) (x : UInt64) :
    dec S ((tag no 1 ++ u64le x) ++ rest) ⟨pv ++ cur :: tl, u⟩ = dec S rest ⟨pv ++ .f64 x :: tl, u⟩ := by
  rw [List.append_assoc]
  apply dec_known hat hpv (by omega) (by omega)
  simp only [consumeField, ne_eq, not_true_eq_false, if_false]
  rw [consumeFixed64_u64le]

theorem dec_repBytes_one (hat : At S pre no .repBytes post) (hpv : pv.length = pre.length) (acc : List Bytes)
    (s : Bytes) (hs : s.length < 2 ^ 63) :
    dec S (chunk no s ++ rest) ⟨pv ++ .list acc :: tl, u⟩ = dec S rest ⟨pv ++ .list (acc ++ [s]) :: tl, u⟩ := by
  unfold chunk
  rw [List.append_assoc]
  apply dec_known hat hpv (by omega) (by omega)
  simp only [consumeField, ne_eq, not_true_eq_false, if_false]
  rw [consumeBytes_lenDelim s (by omega)]
  rfl

theorem dec_repStr_one (hat : At S pre no .repStr post) (hpv : pv.length = pre.length) (acc : List Bytes)
    (s : Bytes) (hs : s.length < 2 ^ 63) (hv : validUTF8 s = true) :
    dec S (chunk no s ++ rest) ⟨pv ++ .list acc :: tl, u⟩ = dec S rest ⟨pv ++ .list (acc ++ [s]) :: tl, u⟩ := by
  unfold chunk
  rw [List.append_assoc]
  apply dec_known hat hpv (by omega) (by omega)
  simp only [consumeField, ne_eq, not_true_eq_false, if_false]
  rw [consumeBytes_lenDelim s (by omega)]
  simp only [hv, if_true]
  rfl

theorem dec_rep : ∀ (l acc : List Bytes),
    (∀ s ∈ l, ∀ acc rest, dec S (chunk no s ++ rest) ⟨pv ++ .list acc :: tl, u⟩
      = dec S rest ⟨pv ++ .list (acc ++ [s]) :: tl, u⟩) →
    dec S (l.flatMap (chunk no) ++ rest) ⟨pv ++ .list acc :: tl, u⟩
      = dec S rest ⟨pv ++ .list (acc ++ l) :: tl, u⟩ := by
  intro l
  induction l with
  | nil => intro acc _; rw [List.flatMap_nil, List.nil_append, List.append_nil]
  | cons s l ih =>
    intro acc hone
    rw [List.flatMap_cons, List.append_assoc, hone s List.mem_cons_self,
      ih (acc ++ [s]) (fun t ht => hone t (List.mem_cons_of_mem _ ht)), List.append_assoc, List.singleton_append]

theorem encStrs_valid (no : Nat) : ∀ (l : List Bytes), (∀ s ∈ l, validUTF8 s = true) →
    encStrs no l = (l.flatMap (chunk no), false) := by
  intro l
  induction l with
  | nil => intro _; rfl
  | cons s l ih =>
    intro hv
    have h2 := hv s (List.mem_cons_self ..)
    simp only [encStrs, h2, if_true, ih (fun t ht => hv t (List.mem_cons_of_mem _ ht)), List.flatMap_cons]

theorem dec_repDouble (hat : At S pre no .repDouble post) (hpv : pv.length = pre.length) (l : List UInt64)
    (hl : 8 * l.length < 2 ^ 63) :
    dec S ((tag no 2 ++ putUvarint (8 * l.length) ++ l.flatMap u64le) ++ rest) ⟨pv ++ .f64s [] :: tl, u⟩
      = dec S rest ⟨pv ++ .f64s l :: tl, u⟩ := by
  rw [List.append_assoc, List.append_assoc]
  apply dec_known hat hpv (by omega) (by omega)
  simp only [consumeField, if_true]
  have e : putUvarint (8 * l.length) ++ (l.flatMap u64le ++ rest) = lenDelim (l.flatMap u64le) ++ rest := by
    unfold lenDelim
    rw [flatMap_u64le_length, List.append_assoc]
  rw [e, consumeBytes_lenDelim _ (by rw [flatMap_u64le_length]; omega)]
  simp only [unpack64_flatMap, PVal.asF64s, List.nil_append]

end

end NodisVerif.Proofs.ProtoWire

import NodisVerif.Proofs.TxProgConv
import NodisVerif.Proofs.ProtoWait
/-
  Program model of tx.go: program-level progress — whenever some transaction is active, some active thread has an
  enabled transition (no deadlock over record mutexes and `store.mu` together).
-/
namespace NodisVerif.Proofs.TxProg
open NodisVerif.Proto (Key Rec Mode Ev Hold TxSt PState assoc erase put Tx)
open NodisVerif.TxProg
open NodisVerif.Proofs.Proto

def CanMove (c : Cfg) : Prop := ∃ t ch, (c.loc t).pc ≠ .init ∧ (TxProg.step c t ch).isSome = true

theorem extra_some_moves {c : Cfg} {v : Tid} {x : Rec × Mode} (hx : extra (c.loc v) = some x) : CanMove c := by
  have hmb : mayBlock (c.loc v).pc = false := by
    cases hpc : (c.loc v).pc <;> simp [extra, hpc] at hx <;> rfl
  have hne : (c.loc v).pc ≠ .init := by intro h; simp [extra, h] at hx
  exact ⟨v, {}, hne, enabled_unless_mayBlock c v {} hmb⟩

theorem moves_unless_record_wait {c : Cfg} {p : PState} (hst : Strong c p) {u : Tid}
    (hact : (c.loc u).pc ≠ .init) (h8 : (c.loc u).pc ≠ .a8) (hg2 : (c.loc u).pc ≠ .g2) : CanMove c := by
  obtain ⟨r, hr⟩ := exists_fresh c.sh.names
  by_cases hmb : mayBlock (c.loc u).pc = false
  · exact ⟨u, {}, hact, enabled_unless_mayBlock c u {} hmb⟩
  · have hmb : mayBlock (c.loc u).pc = true := by simpa using hmb
    by_cases hs : smuAcquire (c.loc u).pc = true
    · cases hen : TxProg.step c u {} with
      | some x => exact ⟨u, {}, hact, by simp [hen]⟩
      | none =>
        obtain ⟨v, _, hv, hmv⟩ := blocked_on_smu_by_a_mover hst hs hen
        exact ⟨v, { fresh := r }, hv, hmv _ hr⟩
    · -- `mayBlock` without the acquisitions of `store.mu` leaves init, idle, a8, a5, d3, d2, g2
      cases hpc : (c.loc u).pc <;> simp [hpc, mayBlock] at hmb <;> simp [hpc, smuAcquire] at hs
      case init => exact absurd hpc hact
      case a8 => exact absurd hpc h8
      case g2 => exact absurd hpc hg2
      case idle =>
        -- the command can always commit
        refine ⟨u, { call := .commit }, hact, ?_⟩
        unfold TxProg.step; simp [tstep, hpc]
      case a5 =>
        refine ⟨u, { fresh := r }, hact, ?_⟩
        unfold TxProg.step
        simp only [tstep, hpc]
        cases c.sh.lookup (c.loc u).key <;> simp [hr]
      case d2 => exact ⟨u, {}, hact, delKey_not_stuck hst hpc {}⟩
      case d3 =>
        refine ⟨u, { fresh := r }, hact, ?_⟩
        unfold TxProg.step; simp [tstep, hpc, hr]

theorem free_excludes_hold {c : Cfg} {p : PState} (hs : Sim c p) {r : Rec} {m : Mode} (hfree : p.free r m = true)
    {v : Tid} {g : Hold} (hg : g ∈ holdsOf (c.loc v)) (hr : g.rid = r) (hm : m = .w ∨ g.mode = .w) : False := by
  have hpc : (c.loc v).pc ≠ .init := by intro h; simp [holdsOf, h] at hg
  have hh : Holds p v g := ⟨_, hs.tx_some v hpc, hg⟩
  have hmem : (v, g) ∈ p.heldBy r := mem_heldBy.2 ⟨mem_allHolds_of_holds hh, hr⟩
  cases m with
  | w =>
    simp only [PState.free, List.isEmpty_iff] at hfree
    rw [hfree] at hmem; cases hmem
  | r =>
    simp only [PState.free, List.all_eq_true] at hfree
    have := hfree _ hmem
    rcases hm with h | h
    · cases h
    · simp [h] at this

/-- the owner of a record mutex that the protocol considers free is between a lock operation and its event: it moves -/
theorem owner_moves {c : Cfg} {p : PState} (hs : Sim c p) {r : Rec} {m m' : Mode} (hfree : p.free r m = true)
    {v : Tid} (hown : (r, m') ∈ ownedList (c.loc v)) (hm : m = .w ∨ m' = .w) : CanMove c := by
  simp only [ownedList, List.mem_append, List.mem_map, Option.mem_toList] at hown
  rcases hown with ⟨g, hg, he⟩ | hx
  · have h1 : g.rid = r := congrArg Prod.fst he
    have h2 : g.mode = m' := congrArg Prod.snd he
    exact (free_excludes_hold hs hfree hg h1 (by rw [h2]; exact hm)).elim
  · exact extra_some_moves (by simpa using hx)

theorem record_wait_moves {c : Cfg} {p : PState} (hf : Full c p) {u : Tid} {w : Bool} {m : Rec}
    (hact : (c.loc u).pc ≠ .init)
    (hstep : ∀ ch, TxProg.step c u ch = none →
      (w = true ∧ (c.sh.mu m).canLock = false) ∨ (w = false ∧ (c.sh.mu m).canRLock = false))
    (hfree : p.free m (modeOf w) = true) : CanMove c := by
  have hs := hf.strong.sim
  cases hen : TxProg.step c u {} with
  | some x => exact ⟨u, {}, hact, by simp [hen]⟩
  | none =>
    rcases hstep {} hen with ⟨hw, hc⟩ | ⟨hw, hc⟩
    · subst hw
      cases hwr : (c.sh.mu m).writer with
      | some v => exact owner_moves hs hfree ((hf.conv v m).1 hwr) (Or.inl rfl)
      | none =>
        cases hrd : (c.sh.mu m).readers with
        | nil => simp [Mu.canLock, hwr, hrd] at hc
        | cons v l =>
          exact owner_moves hs hfree ((hf.conv v m).2 (by simp [hrd])) (Or.inl rfl)
    · subst hw
      cases hwr : (c.sh.mu m).writer with
      | some v => exact owner_moves hs hfree ((hf.conv v m).1 hwr) (Or.inr rfl)
      | none => simp [Mu.canRLock, hwr] at hc

theorem full_progress {c : Cfg} {p : PState} (hf : Full c p) {t0 : Tid} (hact : (c.loc t0).pc ≠ .init) :
    CanMove c := by
  have hst := hf.strong
  have hs := hst.sim
  have hne : p.txs ≠ [] := by
    intro hnil
    have := hs.tx_some t0 hact
    simp [PState.tx, hnil, assoc] at this
  obtain ⟨u, st, hu, hnb⟩ := someone_not_blocked hs.inv hne
  have huact : (c.loc u).pc ≠ .init := by
    intro h; have := hs.tx u; rw [hu] at this; simp [absTx, h] at this
  have hfree : ∀ k r m, st.waiting = some (k, r, m) → p.free r m = true := by
    intro k r m hw
    cases hx : p.free r m with
    | true => rfl
    | false => exact absurd ⟨st, k, r, m, hu, hw, hx⟩ hnb
  have htx := hs.tx_some u huact
  rw [hu] at htx
  have hst_eq := Option.some.inj htx
  by_cases h8 : (c.loc u).pc = .a8
  · have hw : st.waiting = some ((c.loc u).key, (c.loc u).m, modeOf (c.loc u).write) := by
      rw [hst_eq]; simp [waitingOf, h8]
    refine record_wait_moves hf (w := (c.loc u).write) (m := (c.loc u).m) huact ?_ (hfree _ _ _ hw)
    intro ch hen
    unfold TxProg.step at hen
    simp only [tstep, h8] at hen
    cases hwr : (c.loc u).write <;> simp [hwr] at hen
    · right; refine ⟨rfl, ?_⟩
      cases hx : (c.sh.mu (c.loc u).m).canRLock <;> simp [hx] at hen ⊢
    · left; refine ⟨rfl, ?_⟩
      cases hx : (c.sh.mu (c.loc u).m).canLock <;> simp [hx] at hen ⊢
  · by_cases hg2 : (c.loc u).pc = .g2
    · have hw : st.waiting = some ((c.loc u).key, (c.loc u).m, Mode.w) := by
        rw [hst_eq]; simp [waitingOf, hg2]
      refine record_wait_moves hf (w := true) (m := (c.loc u).m) huact ?_ (by simpa [modeOf] using hfree _ _ _ hw)
      intro ch hen
      unfold TxProg.step at hen
      simp only [tstep, hg2] at hen
      left; refine ⟨rfl, ?_⟩
      cases hx : (c.sh.mu (c.loc u).m).canLock <;> simp [hx] at hen ⊢
    · exact moves_unless_record_wait hst huact h8 hg2

end NodisVerif.Proofs.TxProg

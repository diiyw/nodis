import NodisVerif.Proofs.C10Deadline
/-
  RENAME carries the deadline; DEL of a live key.
-/
namespace NodisVerif.Proofs.C10
open NodisVerif Store
open NodisVerif.Proofs.AListLemmas NodisVerif.Proofs.AListLemmas2

theorem present_modMeta {s : MState} {k : Bytes} (f : Meta → Meta) (h : (getMeta s k).isSome = true) :
    (getMeta (modMeta s k f) k).isSome = true := by
  rw [getMeta_modMeta, if_pos rfl]
  obtain ⟨m, hm⟩ := Option.isSome_iff_exists.mp h
  rw [hm]; rfl

theorem writeKey_ok_present {s : MState} {now : Int} {k : Bytes} {mk : Option Val}
    (h : (writeKey s now k mk).2 = true) :
    (getMeta (writeKey s now k mk).1 k).isSome = true := by
  obtain ⟨r, hr, _⟩ := lookupKey_found C01.lockW_op s now k mk h
  obtain ⟨m, hm, _, _⟩ := vis_some_getMeta hr
  rw [C01.writeKey_eq, hm]; rfl

theorem getMeta_setSignalled (s : MState) (l : List Bytes) (k : Bytes) :
    getMeta { s with signalled := l } k = getMeta s k := rfl
theorem expOf_setSignalled (s : MState) (l : List Bytes) (k : Bytes) :
    Api.expOf { s with signalled := l } k = Api.expOf s k := rfl

theorem rename_deadline {s : MState} {now : Int} {k dst : Bytes} {m : Meta} {v : Val}
    (h : LiveWith s now k m v) (hs : AList.Sorted s.index) (hne : k ≠ dst) :
    (Api.rename s now k dst).2 = .err false ∧
    Api.expOf (Api.rename s now k dst).1 dst = m.exp ∧
    getMeta (Api.rename s now k dst).1 k = none := by
  obtain ⟨a, b, c, d, e, _⟩ := writeKey_liveWith h hs none
  rw [C11.rename_eq]
  cases hw : writeKey s now k none with
  | mk s1 ok =>
    rw [hw] at a b c d e
    simp only at a b c d e
    subst a
    simp only [Bool.not_true, Bool.false_eq_true, if_false]
    obtain ⟨m1, hm1⟩ := Option.isSome_iff_exists.mp d
    have hexp : m1.exp = m.exp :=
      (expOf_of_getMeta hm1).symm.trans c
    have hval : m1.value = some v :=
      (valOf_of_getMeta hm1).symm.trans b
    rw [hm1]
    simp only [hne, if_false]
    have hs2 := (writeKey_spec s1 now dst none e).2.2.2
    have hp2 := @writeKey_ok_present s1 now dst none
    cases hw2 : writeKey s1 now dst none with
    | mk s2 dok =>
      rw [hw2] at hs2 hp2
      simp only at hs2 hp2
      simp only [C11.renameTail, hval]
      refine ⟨trivial, ?_, ?_⟩
      · rw [expOf_emit, expOf_setSignalled]
        rw [expOf_modMeta _ _ _ _ (fun m => by unfold Meta.markModified; rfl), ← hexp]
        apply expOf_setExp
        apply present_modMeta
        cases dok with
        | false =>
          simp only [Bool.not_false, if_true, fresh]
          rw [getMeta_putMeta, if_pos rfl]; rfl
        | true =>
          simp only [Bool.not_true, Bool.false_eq_true, if_false]
          rw [getMeta_delKey_other _ _ _ (Ne.symm hne)]
          exact hp2 rfl
      · rw [getMeta_emit, getMeta_setSignalled]
        rw [getMeta_modMeta_other _ _ _ _ hne, getMeta_setExp, if_neg hne, getMeta_modMeta_other _ _ _ _ hne]
        cases dok with
        | false =>
          simp only [Bool.not_false, if_true, fresh]
          rw [getMeta_putMeta, if_neg hne]
          have hd : getMeta (delKey s2 k) k = none := by rw [getMeta_delKey _ _ _ hs2]; simp
          split
          · rw [getMeta_unpersist]; exact hd
          · exact hd
        | true =>
          simp only [Bool.not_true, Bool.false_eq_true, if_false]
          rw [getMeta_delKey _ _ _ hs2]; simp

theorem del_live {s : MState} {now : Int} {k : Bytes} {m : Meta} {v : Val}
    (h : LiveWith s now k m v) (hs : AList.Sorted s.index) :
    (Api.del s now [k]).2 = .int 1 ∧ getMeta (Api.del s now [k]).1 k = none := by
  obtain ⟨a, _, _, _, e, _⟩ := writeKey_liveWith h hs none
  unfold Api.del
  simp only [List.foldl_cons, List.foldl_nil]
  cases hw : writeKey s now k none with
  | mk s1 ok =>
    rw [hw] at a e
    simp only at a e
    subst a
    simp only [Bool.not_true, Bool.false_eq_true, if_false]
    refine ⟨rfl, ?_⟩
    rw [getMeta_emit]
    show getMeta (delKey s1 k) k = none
    rw [getMeta_delKey _ _ _ e]; simp

end NodisVerif.Proofs.C10

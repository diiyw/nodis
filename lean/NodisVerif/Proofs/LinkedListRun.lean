import NodisVerif.Proofs.LinkedListPop
import NodisVerif.Proofs.LinkedListTrim
import NodisVerif.Proofs.LinkedListIns
import NodisVerif.Proofs.LinkedListRem

/-
  The pointer-level list (names in `NodisVerif.LinkedList`): LPush / RPush refine `DsList.lpush` / `DsList.rpush`, SetValue
  refines `Codec.decodeList`; then whole runs: one call and any finite sequence of calls of the methods of linked_list.go on
  the pointer structure follow the sequence model (`step_refines`, `run_refines_invC`) and, unconditionally, every method
  returns and keeps the invariant (`step_total`, `run_total`).
-/
namespace NodisVerif.LinkedList

theorem InvC.notin_size {l : PList} {c : List Nat} (hi : InvC l c) : l.heap.size ∉ c :=
  fun hm => Nat.lt_irrefl _ (seg_lt _ _ _ _ hi.seg _ hm)

theorem lpush1_spec (l : PList) (c : List Nat) (hi : InvC l c) (d : Bytes) :
    ∃ l', lpush1 l d = .ok l' ∧ InvC l' (l.heap.size :: c) ∧
      dataAt l'.heap l.heap.size = d ∧ (∀ i, i < l.heap.size → dataAt l'.heap i = dataAt l.heap i) := by
  have hnew := hi.notin_size
  unfold lpush1
  cases c with
  | nil =>
    have hh : l.head = none := hi.head
    simp only [hh]
    refine ⟨_, rfl, ⟨by simp, ?_, rfl, rfl, ?_⟩, ?_, ?_⟩
    · exact ⟨_, Array.getElem?_push_size, rfl, rfl, trivial⟩
    · simp only; rw [hi.length]; rfl
    · exact dataAt_of Array.getElem?_push_size
    · intro i hlt; exact dataAt_push _ _ _ hlt
  | cons x rest =>
    have hh : l.head = some x := hi.head
    obtain ⟨n0, hx0, hp0, hn0, srest⟩ := hi.seg
    have hxlt := get_lt_of_some hx0
    have hxne : l.heap.size ≠ x := by omega
    have e0 : (l.heap.push { data := d })[l.heap.size]? = some { data := d } := Array.getElem?_push_size
    have ex0 : (l.heap.push { data := d })[x]? = some n0 := by rw [get_push_lt _ _ _ hxlt]; exact hx0
    have ex1 : ((l.heap.push { data := d }).setIfInBounds l.heap.size { data := d, next := some x })[x]? = some n0 := by
      rw [get_set_ne _ _ _ _ hxne]; exact ex0
    simp only [hh, setNext_ok e0, Res.bind_ok, setPrev_ok ex1]
    have hxrest : x ∉ rest := (List.nodup_cons.mp hi.nodup).1
    refine ⟨_, rfl, ⟨List.nodup_cons.mpr ⟨hnew, hi.nodup⟩, ?_, rfl, ?_, ?_⟩, ?_, ?_⟩
    · refine ⟨{ data := d, next := some x }, ?_, rfl, rfl, ?_⟩
      · simp only; rw [get_set_ne _ _ _ _ hxne.symm]; exact get_set_eq _ _ _ _ e0
      · apply seg_setPrev_first _ rest x none none _ n0 hxrest ex1
        apply seg_set_notin _ _ _ _ _ _ hnew
        exact seg_push _ _ _ _ _ ⟨n0, hx0, hp0, hn0, srest⟩
    · simp only; rw [hi.tail]; simp [List.getLast?_cons_cons]
    · simp only; rw [hi.length]; simp
    · simp only
      rw [dataAt_set_prev _ _ _ _ ex1]
      exact dataAt_of (get_set_eq _ _ _ _ e0)
    · intro i hlt; simp only
      rw [dataAt_set_prev _ _ _ _ ex1, dataAt_set_next _ _ { data := d } _ e0, dataAt_push _ _ _ hlt]

theorem rpush1_spec (l : PList) (c : List Nat) (hi : InvC l c) (d : Bytes) :
    ∃ l', rpush1 l d = .ok l' ∧ InvC l' (c ++ [l.heap.size]) ∧
      dataAt l'.heap l.heap.size = d ∧ (∀ i, i < l.heap.size → dataAt l'.heap i = dataAt l.heap i) := by
  have hnew := hi.notin_size
  unfold rpush1
  rcases List.eq_nil_or_concat c with rfl | ⟨a, t, rfl⟩
  · have hh : l.head = none := hi.head
    simp only [hh]
    refine ⟨_, rfl, ⟨by simp, ?_, rfl, rfl, ?_⟩, ?_, ?_⟩
    · exact ⟨_, Array.getElem?_push_size, rfl, rfl, trivial⟩
    · simp only; rw [hi.length]; rfl
    · exact dataAt_of Array.getElem?_push_size
    · intro i hlt; exact dataAt_push _ _ _ hlt
  · rw [List.concat_eq_append] at *
    have hh : ∃ y, l.head = some y := by
      rw [hi.head]; cases a <;> simp
    obtain ⟨y, hy⟩ := hh
    have ht : l.tail = some t := by rw [hi.tail]; simp
    obtain ⟨nt, ht0, _, _⟩ := seg_mid _ a [] t none none hi.seg
    have htlt := get_lt_of_some ht0
    have htne : l.heap.size ≠ t := by omega
    have hta : t ∉ a := by
      have := hi.nodup; rw [List.nodup_append] at this
      intro hm; exact this.2.2 t hm t (by simp) rfl
    have et0 : (l.heap.push { data := d })[t]? = some nt := by rw [get_push_lt _ _ _ htlt]; exact ht0
    have e1 : ((l.heap.push { data := d }).setIfInBounds t { nt with next := some l.heap.size })[l.heap.size]? =
        some { data := d } := by
      rw [get_set_ne _ _ _ _ htne.symm]; exact Array.getElem?_push_size
    simp only [hy, ht, setNext_ok et0, Res.bind_ok, setPrev_ok e1]
    refine ⟨_, rfl, ⟨?_, ?_, ?_, ?_, ?_⟩, ?_, ?_⟩
    · rw [List.nodup_append]
      refine ⟨hi.nodup, by simp, ?_⟩
      intro i hi' j hj e
      simp at hj; subst hj; subst e; exact hnew hi'
    · simp only
      rw [seg_append]
      constructor
      · apply seg_set_notin _ _ _ _ _ _ hnew
        simp only [hd_cons]
        exact seg_setNext_last _ a t none none _ nt hta et0 (seg_push _ _ _ _ _ hi.seg)
      · simp only [lst_concat]
        exact ⟨_, get_set_eq _ _ _ _ e1, rfl, rfl, trivial⟩
    · simp only; rw [← hy, hi.head]; cases a <;> simp
    · simp
    · simp only; rw [hi.length]; simp; omega
    · simp only
      exact dataAt_of (get_set_eq _ _ _ _ e1)
    · intro i hlt; simp only
      rw [dataAt_set_prev _ _ { data := d } _ e1, dataAt_set_next _ _ _ _ et0, dataAt_push _ _ _ hlt]

theorem lpush_refines (l : PList) (hi : Inv l) (data : List Bytes) :
    ∃ l', lpush l data = .ok l' ∧ Inv l' ∧ absL l' = DsList.lpush (absL l) data := by
  induction data generalizing l with
  | nil => exact ⟨l, rfl, hi, rfl⟩
  | cons d ds ih =>
    obtain ⟨c, hc⟩ := hi
    obtain ⟨l1, e1, hi1, hd1, hf1⟩ := lpush1_spec l c hc d
    obtain ⟨l2, e2, hi2, ha2⟩ := ih l1 ⟨_, hi1⟩
    refine ⟨l2, ?_, hi2, ?_⟩
    · unfold lpush at e2 ⊢
      rw [List.foldlM_cons, e1]; exact e2
    · rw [ha2]
      have : absL l1 = { items := d :: (absL l).items, length := (absL l).length + 1 } := by
        rw [absL_eq hi1, absL_eq hc]
        simp only [List.map_cons, hd1, List.length_cons]
        rw [map_dataAt_congr _ _ c (fun i hic => hf1 i (seg_lt _ _ _ _ hc.seg i hic))]
        simp
      rw [this]; rfl

theorem rpush_refines (l : PList) (hi : Inv l) (data : List Bytes) :
    ∃ l', rpush l data = .ok l' ∧ Inv l' ∧ absL l' = DsList.rpush (absL l) data := by
  induction data generalizing l with
  | nil => exact ⟨l, rfl, hi, rfl⟩
  | cons d ds ih =>
    obtain ⟨c, hc⟩ := hi
    obtain ⟨l1, e1, hi1, hd1, hf1⟩ := rpush1_spec l c hc d
    obtain ⟨l2, e2, hi2, ha2⟩ := ih l1 ⟨_, hi1⟩
    refine ⟨l2, ?_, hi2, ?_⟩
    · unfold rpush at e2 ⊢
      rw [List.foldlM_cons, e1]; exact e2
    · rw [ha2]
      have : absL l1 = { items := (absL l).items ++ [d], length := (absL l).length + 1 } := by
        rw [absL_eq hi1, absL_eq hc]
        simp only [List.map_append, List.map_cons, List.map_nil, hd1, List.length_append, List.length_cons,
          List.length_nil]
        rw [map_dataAt_congr _ _ c (fun i hic => hf1 i (seg_lt _ _ _ _ hc.seg i hic))]
        simp
      rw [this]; rfl

/-! ## SetValue on the pointer structure refines Codec.decodeList (the decoding loop is the same; every
  decoded element goes through RPush) -/

theorem setValue_refines (fuel : Nat) (b : Bytes) (l : PList) (hi : Inv l) (r : LList)
    (hd : Codec.decodeList b (absL l) fuel = some r) :
    ∃ l', setValue b l fuel = .ok l' ∧ Inv l' ∧ absL l' = r := by
  induction fuel generalizing b l with
  | zero => simp [Codec.decodeList] at hd
  | succ fuel ih =>
    cases b with
    | nil =>
      simp only [Codec.decodeList, Option.some.injEq] at hd
      exact ⟨l, by simp [setValue], hi, hd⟩
    | cons x xs =>
      unfold Codec.decodeList at hd
      unfold setValue
      generalize Varint.varint (x :: xs) = vn at hd ⊢
      obtain ⟨vLen, n⟩ := vn
      simp only at hd ⊢
      by_cases hn : n = 0
      · simp only [hn, ↓reduceIte, Option.some.injEq] at hd ⊢
        exact ⟨l, rfl, hi, hd⟩
      · simp only [hn, ↓reduceIte] at hd ⊢
        cases hs : Codec.slice? (x :: xs) n (n + vLen) with
        | none => simp [hs] at hd
        | some v =>
          cases hf : Codec.from? (x :: xs) (n + vLen) with
          | none => simp [hs, hf] at hd
          | some rest =>
            simp only [hs, hf] at hd ⊢
            obtain ⟨l1, e1, hi1, ha1⟩ := rpush_refines l hi [v]
            rw [← ha1] at hd
            obtain ⟨l2, e2, hi2, ha2⟩ := ih rest l1 hi1 hd
            exact ⟨l2, by simp only [e1, Res.bind_ok, e2], hi2, ha2⟩

/-- and when the sequence-level decoder fails (slice out of range: Go panics; or no fuel), the pointer
    level does not succeed either -/
theorem setValue_fails (fuel : Nat) (b : Bytes) (l : PList) (hi : Inv l)
    (hd : Codec.decodeList b (absL l) fuel = none) :
    setValue b l fuel = .panic ∨ setValue b l fuel = .fuel := by
  induction fuel generalizing b l with
  | zero => right; cases b <;> rfl
  | succ fuel ih =>
    cases b with
    | nil => simp [Codec.decodeList] at hd
    | cons x xs =>
      unfold Codec.decodeList at hd
      unfold setValue
      generalize Varint.varint (x :: xs) = vn at hd ⊢
      obtain ⟨vLen, n⟩ := vn
      simp only at hd ⊢
      by_cases hn : n = 0
      · simp [hn] at hd
      · simp only [hn, ↓reduceIte] at hd ⊢
        cases hs : Codec.slice? (x :: xs) n (n + vLen) with
        | none => left; simp
        | some v =>
          cases hf : Codec.from? (x :: xs) (n + vLen) with
          | none => left; simp
          | some rest =>
            simp only [hs, hf] at hd ⊢
            obtain ⟨l1, e1, hi1, ha1⟩ := rpush_refines l hi [v]
            rw [← ha1] at hd
            simp only [e1, Res.bind_ok]
            exact ih rest l1 hi1 hd

/-- one call of an exported method of linked_list.go (plus the unexported `size`) -/
inductive Op where
  | lpush (data : List Bytes)
  | rpush (data : List Bytes)
  | lpop (count : Int)
  | rpop (count : Int)
  | lrange (start stop : Int)
  | llen
  | size
  | lindex (index : Int)
  | linsert (pivot data : Bytes) (before : Bool)
  | lrem (count : Int) (value : Bytes)
  | lset (index : Int) (value : Bytes)
  | ltrim (start stop : Int)
  | getValue
  | setValue (b : Bytes)
deriving Repr, DecidableEq

inductive Reply where
  | unit
  | popped (xs : Option (List Bytes))     -- LPop / RPop: `none` = Go's nil slice
  | items (xs : List Bytes)               -- LRange
  | int (n : Int)                         -- LLen, size, LInsert, LRem
  | elem (v : Option Bytes)               -- LIndex
  | bool (b : Bool)                       -- LSet
  | raw (b : Bytes)                       -- GetValue
deriving Repr, DecidableEq

def stepP (l : PList) : Op → Res (PList × Reply)
  | .lpush data => (lpush l data).bind fun l' => .ok (l', .unit)
  | .rpush data => (rpush l data).bind fun l' => .ok (l', .unit)
  | .lpop count => (lpop l count).bind fun (l', r) => .ok (l', .popped r)
  | .rpop count => (rpop l count).bind fun (l', r) => .ok (l', .popped r)
  | .lrange a b => (lrange l a b).bind fun xs => .ok (l, .items xs)
  | .llen => .ok (l, .int (llen l))
  | .size => (size l).bind fun n => .ok (l, .int n)
  | .lindex i => (lindex l i).bind fun v => .ok (l, .elem v)
  | .linsert p d b => (linsert l p d b).bind fun (l', n) => .ok (l', .int n)
  | .lrem c v => (lrem l c v).bind fun (l', n) => .ok (l', .int n)
  | .lset i v => (lset l i v).bind fun (l', b) => .ok (l', .bool b)
  | .ltrim a b => (ltrim l a b).bind fun l' => .ok (l', .unit)
  | .getValue => (getValue l).bind fun b => .ok (l, .raw b)
  | .setValue b => (setValue b l (b.length + 1)).bind fun l' => .ok (l', .unit)

/-- the sequence model (Model/DsList.lean); `none`: SetValue on bytes whose decoding panics in Go.  This is the method
    level (every exported method of linked_list.go, replies as the methods return them); the command level, with the
    replies of the Redis commands, is `C02.modelStep` (Proofs/C02.lean). -/
def stepD (l : LList) : Op → Option (LList × Reply)
  | .lpush data => some (DsList.lpush l data, .unit)
  | .rpush data => some (DsList.rpush l data, .unit)
  | .lpop count => let r := DsList.lpop l count; some (r.1, .popped r.2)
  | .rpop count => let r := DsList.rpop l count; some (r.1, .popped r.2)
  | .lrange a b => some (l, .items (DsList.lrange l a b))
  | .llen => some (l, .int (DsList.llen l))
  | .size => some (l, .int (DsList.size l))
  | .lindex i => some (l, .elem (DsList.lindex l i))
  | .linsert p d b => let r := DsList.linsert l p d b; some (r.1, .int r.2)
  | .lrem c v => let r := DsList.lrem l c v; some (r.1, .int r.2)
  | .lset i v => let r := DsList.lset l i v; some (r.1, .bool r.2)
  | .ltrim a b => some (DsList.ltrim l a b, .unit)
  | .getValue => some (l, .raw (Codec.encodeList l))
  | .setValue b => (Codec.decodeList b l (b.length + 1)).map fun l' => (l', .unit)

def runP (l : PList) : List Op → Res (PList × List Reply)
  | [] => .ok (l, [])
  | op :: rest => (stepP l op).bind fun (l', r) => (runP l' rest).bind fun (l'', rs) => .ok (l'', r :: rs)

def runD (l : LList) : List Op → Option (LList × List Reply)
  | [] => some (l, [])
  | op :: rest => (stepD l op).bind fun (l', r) => (runD l' rest).bind fun (l'', rs) => some (l'', r :: rs)

/-- 2^63: linked_list.go treats `count == math.MinInt64` in LRem as "remove all"; the sequence model
    removes up to 2^63 occurrences from the tail, which is the same on lists of at most 2^63 nodes -/
def maxNodes : Int := 9223372036854775808

/-- the one place where the 64-bit width of `count` shows -/
def OpOk (l : LList) : Op → Prop
  | .lrem count _ => count = minInt64 → (l.items.length : Int) ≤ maxNodes
  | _ => True

/-- every LRem with count = MinInt64 in the run meets a list of at most 2^63 nodes (a statement about
    the run of the sequence model only) -/
def RunOk (l : LList) : List Op → Prop
  | [] => True
  | op :: rest => OpOk l op ∧ ∀ l' r, stepD l op = some (l', r) → RunOk l' rest

theorem step_refines (l : PList) (c : List Nat) (hi : InvC l c) (op : Op) (hok : OpOk (absL l) op)
    (L' : LList) (r : Reply) (hd : stepD (absL l) op = some (L', r)) :
    ∃ l' c', stepP l op = .ok (l', r) ∧ InvC l' c' ∧ absL l' = L' := by
  cases op with
  | lpush data =>
    obtain ⟨l', e, ⟨c', hi'⟩, ha⟩ := lpush_refines l ⟨c, hi⟩ data
    simp only [stepD, Option.some.injEq, Prod.mk.injEq] at hd
    exact ⟨l', c', by simp [stepP, e, Res.bind, hd.2], hi', by rw [ha, hd.1]⟩
  | rpush data =>
    obtain ⟨l', e, ⟨c', hi'⟩, ha⟩ := rpush_refines l ⟨c, hi⟩ data
    simp only [stepD, Option.some.injEq, Prod.mk.injEq] at hd
    exact ⟨l', c', by simp [stepP, e, Res.bind, hd.2], hi', by rw [ha, hd.1]⟩
  | lpop count =>
    obtain ⟨l', e, ⟨c', hi'⟩, ha⟩ := lpop_refines l ⟨c, hi⟩ count
    simp only [stepD, Option.some.injEq, Prod.mk.injEq] at hd
    exact ⟨l', c', by simp [stepP, e, Res.bind, hd.2], hi', by rw [ha, hd.1]⟩
  | rpop count =>
    obtain ⟨l', e, ⟨c', hi'⟩, ha⟩ := rpop_refines l ⟨c, hi⟩ count
    simp only [stepD, Option.some.injEq, Prod.mk.injEq] at hd
    exact ⟨l', c', by simp [stepP, e, Res.bind, hd.2], hi', by rw [ha, hd.1]⟩
  | lrange a b =>
    simp only [stepD, Option.some.injEq, Prod.mk.injEq] at hd
    exact ⟨l, c, by simp [stepP, lrange_refines l ⟨c, hi⟩ a b, Res.bind, hd.2], hi, hd.1⟩
  | llen =>
    simp only [stepD, Option.some.injEq, Prod.mk.injEq] at hd
    exact ⟨l, c, by simp [stepP, ← hd.2, DsList.llen, llen, absL], hi, hd.1⟩
  | size =>
    simp only [stepD, Option.some.injEq, Prod.mk.injEq] at hd
    exact ⟨l, c, by simp [stepP, size_refines l ⟨c, hi⟩, Res.bind, hd.2], hi, hd.1⟩
  | lindex i =>
    simp only [stepD, Option.some.injEq, Prod.mk.injEq] at hd
    exact ⟨l, c, by simp [stepP, lindex_refines l ⟨c, hi⟩ i, Res.bind, hd.2], hi, hd.1⟩
  | linsert p d b =>
    obtain ⟨l', e, ⟨c', hi'⟩, ha⟩ := linsert_refines l ⟨c, hi⟩ p d b
    simp only [stepD, Option.some.injEq, Prod.mk.injEq] at hd
    exact ⟨l', c', by simp [stepP, e, Res.bind, hd.2], hi', by rw [ha, hd.1]⟩
  | lrem cnt v =>
    obtain ⟨l', e, ⟨c', hi'⟩, ha⟩ := lrem_refines l ⟨c, hi⟩ cnt v hok
    simp only [stepD, Option.some.injEq, Prod.mk.injEq] at hd
    exact ⟨l', c', by simp [stepP, e, Res.bind, hd.2], hi', by rw [ha, hd.1]⟩
  | lset i v =>
    obtain ⟨l', e, ⟨c', hi'⟩, ha⟩ := lset_refines l ⟨c, hi⟩ i v
    simp only [stepD, Option.some.injEq, Prod.mk.injEq] at hd
    exact ⟨l', c', by simp [stepP, e, Res.bind, hd.2], hi', by rw [ha, hd.1]⟩
  | ltrim a b =>
    obtain ⟨l', e, ⟨c', hi'⟩, ha⟩ := ltrim_refines l ⟨c, hi⟩ a b
    simp only [stepD, Option.some.injEq, Prod.mk.injEq] at hd
    exact ⟨l', c', by simp [stepP, e, Res.bind, hd.2], hi', by rw [ha, hd.1]⟩
  | getValue =>
    simp only [stepD, Option.some.injEq, Prod.mk.injEq] at hd
    exact ⟨l, c, by simp [stepP, getValue_refines l ⟨c, hi⟩, Res.bind, hd.2], hi, hd.1⟩
  | setValue b =>
    simp only [stepD, Option.map_eq_some_iff, Prod.mk.injEq] at hd
    obtain ⟨L1, hdec, rfl, rfl⟩ := hd
    obtain ⟨l', e, ⟨c', hi'⟩, ha⟩ := setValue_refines _ b l ⟨c, hi⟩ L1 hdec
    exact ⟨l', c', by simp [stepP, e, Res.bind], hi', ha⟩

theorem run_refines_invC (ops : List Op) (l : PList) (c : List Nat) (hi : InvC l c) (hok : RunOk (absL l) ops)
    (L' : LList) (rs : List Reply) (hd : runD (absL l) ops = some (L', rs)) :
    ∃ l' c', runP l ops = .ok (l', rs) ∧ InvC l' c' ∧ absL l' = L' := by
  induction ops generalizing l c L' rs with
  | nil =>
    simp only [runD, Option.some.injEq, Prod.mk.injEq] at hd
    exact ⟨l, c, by simp [runP, hd.2], hi, hd.1⟩
  | cons op rest ih =>
    simp only [runD, Option.bind_eq_some_iff] at hd
    obtain ⟨⟨L1, r1⟩, h1, ⟨L2, rs2⟩, h2, h3⟩ := hd
    simp only [Option.some.injEq, Prod.mk.injEq] at h3
    obtain ⟨l1, c1, e1, hi1, ha1⟩ := step_refines l c hi op hok.1 L1 r1 h1
    have hok1 : RunOk (absL l1) rest := by rw [ha1]; exact hok.2 L1 r1 h1
    rw [← ha1] at h2
    obtain ⟨l2, c2, e2, hi2, ha2⟩ := ih l1 c1 hi1 hok1 L2 rs2 h2
    refine ⟨l2, c2, ?_, hi2, by rw [ha2, h3.1]⟩
    simp only [runP, e1, Res.bind, e2]
    rw [h3.2]

/-! ## unconditional part: under the invariant every method returns (no walk runs out of fuel), keeps the
  invariant, and the only panic is SetValue on bytes whose decoding panics — also for LRem with
  count = MinInt64 on lists of more than 2^63 nodes, where the sequence model is not followed -/

theorem slice_some_bounds {b : Bytes} {lo hi : Int} {v : Bytes} (h : Codec.slice? b lo hi = some v) :
    0 ≤ lo ∧ lo ≤ hi ∧ hi ≤ b.length := by
  unfold Codec.slice? at h
  split at h
  · assumption
  · cases h

theorem from_some_length {b : Bytes} {lo : Int} {rest : Bytes} (h : Codec.from? b lo = some rest) :
    0 ≤ lo ∧ (rest.length : Int) ≤ b.length - lo := by
  unfold Codec.from? Codec.slice? at h
  split at h
  · rename_i hb
    simp only [Option.some.injEq] at h
    subst h
    refine ⟨hb.1, ?_⟩
    simp only [List.length_take, List.length_drop]
    omega
  · cases h

theorem setValue_no_fuel (fuel : Nat) (b : Bytes) (l : PList) (c : List Nat) (hi : InvC l c)
    (hf : b.length < fuel) : setValue b l fuel ≠ .fuel := by
  induction fuel generalizing b l c with
  | zero => omega
  | succ fuel ih =>
    cases b with
    | nil => simp [setValue]
    | cons x xs =>
      unfold setValue
      generalize Varint.varint (x :: xs) = vn
      obtain ⟨vLen, n⟩ := vn
      simp only
      by_cases hn : n = 0
      · simp [hn]
      · simp only [hn, ↓reduceIte]
        cases hs : Codec.slice? (x :: xs) n (n + vLen) with
        | none => simp
        | some v =>
          cases hfr : Codec.from? (x :: xs) (n + vLen) with
          | none => simp
          | some rest =>
            simp only
            obtain ⟨l1, e1, ⟨c1, hi1⟩, _⟩ := rpush_refines l ⟨c, hi⟩ [v]
            simp only [e1, Res.bind_ok]
            have h1 := slice_some_bounds hs
            have h2 := from_some_length hfr
            exact ih rest l1 c1 hi1 (by omega)

theorem minInt64_neg : ¬ minInt64 > 0 ∧ minInt64 < 0 := by unfold minInt64; omega

/-- one call of any method under the invariant: it returns and the invariant holds again, or it is a
    SetValue whose bytes make the decoding loop panic (in Go: slice bounds out of range) -/
theorem step_total (l : PList) (c : List Nat) (hi : InvC l c) (op : Op) :
    (∃ l' c' r, stepP l op = .ok (l', r) ∧ InvC l' c') ∨
    (∃ b, op = .setValue b ∧ stepP l op = .panic ∧ stepD (absL l) op = none) := by
  by_cases hok : OpOk (absL l) op
  · cases hd : stepD (absL l) op with
    | some Lr =>
      obtain ⟨L', r⟩ := Lr
      obtain ⟨l', c', e, hi', _⟩ := step_refines l c hi op hok L' r hd
      exact Or.inl ⟨l', c', r, e, hi'⟩
    | none =>
      cases op with
      | setValue b =>
        right
        refine ⟨b, rfl, ?_, rfl⟩
        simp only [stepD, Option.map_eq_none_iff] at hd
        have hnf := setValue_no_fuel (b.length + 1) b l c hi (by omega)
        rcases setValue_fails _ b l ⟨c, hi⟩ hd with hp | hfu
        · simp [stepP, hp, Res.bind]
        · exact absurd hfu hnf
      | _ => simp [stepD] at hd
  · cases op with
    | lrem count v =>
      simp only [OpOk, Classical.not_imp] at hok
      obtain ⟨hc, _⟩ := hok
      subst hc
      obtain ⟨l', c', e, hi', _⟩ := lremAll_spec l c hi v
      left
      refine ⟨l', c', .int (((abs l).length - ((abs l).filter (· ≠ v)).length : Nat) : Int), ?_, hi'⟩
      have := minInt64_neg
      simp only [stepP, lrem, this.1, ↓reduceIte, this.2, e, Res.bind]
    | _ => exact absurd trivial hok

theorem run_total (ops : List Op) (l : PList) (c : List Nat) (hi : InvC l c) :
    runP l ops ≠ .fuel ∧ ∀ l' rs, runP l ops = .ok (l', rs) → ∃ c', InvC l' c' := by
  induction ops generalizing l c with
  | nil =>
    refine ⟨by simp [runP], ?_⟩
    intro l' rs h
    simp only [runP, Res.ok.injEq, Prod.mk.injEq] at h
    exact ⟨c, h.1 ▸ hi⟩
  | cons op rest ih =>
    rcases step_total l c hi op with ⟨l1, c1, r, e, hi1⟩ | ⟨b, _, e, _⟩
    · obtain ⟨hnf, hok⟩ := ih l1 c1 hi1
      simp only [runP, e, Res.bind]
      constructor
      · cases h : runP l1 rest with
        | ok a => simp
        | panic => simp
        | fuel => exact absurd h hnf
      · intro l' rs h
        cases h2 : runP l1 rest with
        | ok a =>
          obtain ⟨l2, rs2⟩ := a
          rw [h2] at h
          simp only [Res.ok.injEq, Prod.mk.injEq] at h
          obtain ⟨c', hc'⟩ := hok l2 rs2 h2
          exact ⟨c', h.1 ▸ hc'⟩
        | panic => rw [h2] at h; cases h
        | fuel => rw [h2] at h; cases h
    · simp only [runP, e, Res.bind]
      exact ⟨by simp, by intro l' rs h; cases h⟩

end NodisVerif.LinkedList

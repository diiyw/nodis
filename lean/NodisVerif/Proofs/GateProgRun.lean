import NodisVerif.Proofs.GateProgSim

/-
  The program model of the EXEC gate against the gate protocol.  `sim_tstep`: one transition of a thread: its reports are
  accepted, `Inv` and `R` hold again.  Then every schedule: the emitted trace is a run of the gate protocol (`sim_run`),
  and the reached configuration satisfies `Inv` and is related to the reached gate state.
-/
namespace NodisVerif.GateProg
open NodisVerif.Gate (G T GMode Ev GState)

section
variable {c : Cfg} {t : Tid} {ch : Choice} {s' : Shared} {l' : Loc} {evs : List Ev} {gs : GState}

theorem gin_step (hi : Inv c) (hh : ∀ g m, (g, m) ∈ gs.holders ↔ ((c.loc g).held = some m ∧ (c.loc g).rep = true))
    (m : GMode) (h4 : (c.loc t).held = some m) (h5 : (c.loc t).rep = false) :
    ∃ gs', Gate.step gs (.gin t m) = some gs' ∧ gs'.clients = gs.clients ∧ gs'.active = gs.active ∧
      ∀ g m', (g, m') ∈ gs'.holders ↔ ((g = t ∧ m' = m) ∨ (g, m') ∈ gs.holders) := by
  have hnh : gs.holds t = false := by
    cases he : gs.holds t with
    | false => rfl
    | true => have := ((holds_R hh t).1 he).2; rw [h5] at this; cases this
  have hmem : (t, m) ∈ c.sh.execMu := (hi.mu t m).2 h4
  have hsub : ∀ g m', (g, m') ∈ gs.holders → (g, m') ∈ c.sh.execMu ∧ g ≠ t := by
    intro g m' hm
    have := (hh g m').1 hm
    refine ⟨(hi.mu g m').2 this.1, ?_⟩
    rintro rfl; rw [h5] at this; exact absurd this.2 (by simp)
  cases m with
  | x =>
    have hal := hi.xalone _ hmem rfl
    have hemp : gs.holders = [] := by
      cases he : gs.holders with
      | nil => rfl
      | cons a as =>
        have := hsub a.1 a.2 (by rw [he]; exact List.mem_cons_self)
        rw [hal] at this
        simp only [List.mem_singleton, Prod.mk.injEq] at this
        exact absurd this.1.1 this.2
    refine ⟨{ gs with holders := [(t, .x)] }, ?_, rfl, rfl, fun g m' => ?_⟩
    · simp [Gate.step, hnh, hemp]
    · simp [hemp]
  | s =>
    have hall : gs.holders.all (·.2 == .s) = true := by
      rw [List.all_eq_true]
      intro a ha
      have := (hsub a.1 a.2 ha).1
      cases hm : a.2 with
      | s => rfl
      | x =>
        have hal := hi.xalone _ this hm
        rw [hal] at hmem
        simp only [List.mem_singleton, Prod.mk.injEq] at hmem
        rw [← hmem.2] at hm; cases hm
    refine ⟨{ gs with holders := (t, .s) :: gs.holders }, ?_, rfl, rfl, fun g m' => ?_⟩
    · simp [Gate.step, hnh, hall]
    · simp

theorem R_gin (hr : ∀ g m, (g, m) ∈ gs.holders ↔ ((c.loc g).held = some m ∧ (c.loc g).rep = true)) {gs' : GState} (m : GMode)
    (hc : gs'.clients = s'.clients) (ha : gs'.active = s'.active)
    (hh : ∀ g m', (g, m') ∈ gs'.holders ↔ ((g = t ∧ m' = m) ∨ (g, m') ∈ gs.holders))
    (h4 : (c.loc t).held = some m) (h4' : l'.held = some m) (h5 : (c.loc t).rep = false) (h5' : l'.rep = true) :
    R (Cfg.mk s' (put c.thr t l')) gs' := by
  refine ⟨hc, ha, fun g m' => ?_⟩
  rw [hh, loc_put, hr]
  by_cases hg : g = t
  · subst hg
    simp only [if_true, h4', h5', h5, true_and, and_true]
    constructor
    · rintro (h | h)
      · rw [h]
      · exact absurd h.2 (by simp)
    · intro h; left; exact (Option.some.inj h).symm
  · simp [hg]

theorem act_txb (hi : Inv c) {x : T} (h2 : s'.active = (x, t) :: c.sh.active) (hf : c.sh.active.any (·.1 == x) = false)
    (h6 : (c.loc t).tx = none) (h6' : l'.tx = some x) :
    ActOk (Cfg.mk s' (put c.thr t l')) := by
  dsimp only [ActOk]
  have hno : ∀ g, (x, g) ∉ c.sh.active := fun g hm => by
    have : c.sh.active.any (·.1 == x) = true := List.any_eq_true.2 ⟨_, hm, by simp⟩
    rw [hf] at this; cases this
  rw [h2]
  refine ⟨fun y g => ?_, fun y g g' hg hg' => ?_⟩
  · rw [loc_put, List.mem_cons, hi.act]
    by_cases hg : g = t
    · subst hg
      simp only [if_true, h6', h6, Prod.mk.injEq, and_true]
      exact ⟨fun h => h.elim (fun h => by rw [h]) nofun, fun h => .inl (Option.some.inj h).symm⟩
    · simp [hg]
  · simp only [List.mem_cons, Prod.mk.injEq] at hg hg'
    rcases hg with ⟨rfl, rfl⟩ | hg <;> rcases hg' with ⟨h1', rfl⟩ | hg'
    · rfl
    · exact absurd hg' (hno _)
    · subst h1'; exact absurd hg (hno _)
    · exact hi.actu y g g' hg hg'

theorem act_txe (hi : Inv c) {x : T} (h2 : s'.active = c.sh.active.filter (·.1 != x))
    (h6 : (c.loc t).tx = some x) (h6' : l'.tx = none) :
    ActOk (Cfg.mk s' (put c.thr t l')) := by
  dsimp only [ActOk]
  have hm : (x, t) ∈ c.sh.active := (hi.act x t).2 h6
  rw [h2]
  refine ⟨fun y g => ?_, fun y g g' hg hg' => hi.actu y g g' (List.mem_filter.1 hg).1 (List.mem_filter.1 hg').1⟩
  rw [loc_put, List.mem_filter, hi.act]
  by_cases hg : g = t
  · subst hg
    simp only [if_true, h6', h6]
    refine ⟨fun ⟨h, hne⟩ => ?_, nofun⟩
    cases h; simp at hne
  · simp only [hg, if_false]
    refine ⟨fun h => h.1, fun h => ⟨h, ?_⟩⟩
    simp only [bne_iff_ne, ne_eq]
    rintro rfl
    exact hg (hi.actu _ _ _ ((hi.act y g).2 h) hm)

theorem mu_lock (hi : Inv c) {m : GMode} (h1 : s'.execMu = (t, m) :: c.sh.execMu)
    (hm : (m = .x ∧ c.sh.execMu = []) ∨ (m = .s ∧ c.sh.execMu.all (·.2 == .s) = true))
    (h4 : (c.loc t).held = none) (h4' : l'.held = some m) :
    MuOk (Cfg.mk s' (put c.thr t l')) := by
  dsimp only [MuOk]
  rw [h1]
  refine ⟨fun g m' => ?_, fun h hh hx => ?_⟩
  · rw [loc_put, List.mem_cons, hi.mu]
    by_cases hg : g = t
    · subst hg
      simp only [if_true, h4', h4, Prod.mk.injEq, true_and]
      exact ⟨fun h => h.elim (fun h => by rw [h]) nofun, fun h => .inl (Option.some.inj h).symm⟩
    · simp [hg]
  · rcases hm with ⟨rfl, hemp⟩ | ⟨rfl, hall⟩
    · rw [hemp] at hh ⊢
      rw [List.mem_singleton.1 hh]
    · rcases List.mem_cons.1 hh with rfl | hh
      · cases hx
      · have := (List.all_eq_true.1 hall) h hh
        rw [beq_iff_eq, hx] at this; cases this

theorem mu_unlock (hi : Inv c) (h1 : s'.execMu = c.sh.execMu.filter (·.1 != t)) (h4' : l'.held = none) :
    MuOk (Cfg.mk s' (put c.thr t l')) := by
  dsimp only [MuOk]
  rw [h1]
  refine ⟨fun g m' => ?_, fun h hh hx => ?_⟩
  · rw [loc_put, List.mem_filter, hi.mu]
    by_cases hg : g = t
    · subst hg; simp [h4']
    · simp [hg]
  · have hh' := List.mem_filter.1 hh
    rw [hi.xalone h hh'.1 hx]
    simp only [List.filter_cons, hh'.2, if_true, List.filter_nil]

theorem sim_tstep (hi : Inv c) (hr : R c gs) (hs : tstep c.sh t (c.loc t) ch = some (s', l', evs)) :
    ∃ gs', Gate.run gs evs = some gs' ∧ Inv (Cfg.mk s' (put c.thr t l')) ∧ R (Cfg.mk s' (put c.thr t l')) gs' := by
  have hok := ok_after hi hs
  cases tstep_eff (hi.ok t) hs with
  | same hmu hact hcl hheld hrep htx hemb hev =>
    refine ⟨gs, ?_, inv_keep hi hs hmu hact (fun g _ => by rw [hcl]) hheld htx ?_, R_keep hr hact hcl hheld hrep⟩
    · rcases hev with rfl | ⟨rfl, hc⟩ | ⟨rfl | rfl, hx⟩
      · rfl
      · simp [Gate.run, Gate.step, allowed_R hi hr t hc]
      · simp [Gate.run, Gate.step, holdsX_R hr hx]
      · simp [Gate.run, Gate.step, holdsX_R hr hx]
    · intro he; rw [hcl]
      rcases hemb with hemb | hemb
      · exact hi.emb t (hemb ▸ he)
      · exact hemb.2
  | ginP m hmu hact hcl hheld hheld' hrep hrep' htx hemb hev =>
    subst hev
    obtain ⟨gs', hst, hc, ha, hh⟩ := gin_step hi hr.2.2 m hheld hrep
    exact ⟨gs', by simp [Gate.run, hst],
      inv_put hok (mu_keep hi hmu (hheld'.trans hheld.symm)) (act_keep hi hact htx) (emb_same hi hcl hemb),
      R_gin hr.2.2 m (by rw [hc, hr.1, hcl]) (by rw [ha, hr.2.1, hact]) hh hheld hheld' hrep hrep'⟩
  | ginS m hmu hact hcl hheld hheld' hrep hrep' htx htx' hemb' hev =>
    subst hev
    -- first the `serve` (it changes the tracer's clients only), then the `gin` as above
    obtain ⟨gs', hst, hc, ha, hh⟩ :=
      gin_step (gs := { gs with clients := (c.sh.serve t).clients }) hi hr.2.2 m hheld hrep
    exact ⟨gs', by simp [Gate.run, serve_step hi hr t htx, hst],
      inv_keep hi hs hmu hact (fun g hg => by rw [hcl]; exact serve_contains _ _ _ hg) (hheld'.trans hheld.symm) (htx'.trans htx.symm)
        (by intro he; rw [hemb'] at he; cases he),
      R_gin hr.2.2 m (hc.trans hcl.symm) (by rw [ha, hact]; exact hr.2.1) hh hheld hheld' hrep hrep'⟩
  | serveOnly hmu hact hcl hheld hrep htx htx' hemb' hev =>
    subst hev
    exact ⟨{ gs with clients := (c.sh.serve t).clients }, by simp [Gate.run, serve_step hi hr t htx],
      inv_keep hi hs hmu hact (fun g hg => by rw [hcl]; exact serve_contains _ _ _ hg) hheld (by rw [htx, htx'])
        (by intro he; rw [hemb'] at he; cases he),
      R_put hr hcl.symm (hr.2.1.trans hact.symm) rfl (.inl ⟨hheld, hrep⟩)⟩
  | gout hmu hact hcl hheld hheld' hrep hrep' htx htx' hemb hev =>
    subst hev
    have hh : gs.holds t = true := (holds_R hr.2.2 t).2 ⟨hheld, hrep⟩
    have hna := no_active_R hi hr t htx
    refine ⟨{ gs with holders := gs.holders.filter (·.1 != t) }, by simp [Gate.run, Gate.step, hh, hna],
      inv_put hok (mu_keep hi hmu hheld') (act_keep hi hact (htx'.trans htx.symm)) (emb_same hi hcl hemb),
      hr.1.trans hcl.symm, hr.2.1.trans hact.symm, fun g m => ?_⟩
    show (g, m) ∈ gs.holders.filter (·.1 != t) ↔ _
    rw [loc_put, List.mem_filter, hr.2.2]
    by_cases hg : g = t
    · subst hg; simp [hrep']
    · simp [hg]
  | txb x hmu hact hf hcl hheld hrep htx htx' hemb hc hev =>
    subst hev
    have hf' : gs.active.any (·.1 == x) = false := by rw [hr.2.1]; exact hf
    exact ⟨{ gs with active := (x, t) :: gs.active }, by simp [Gate.run, Gate.step, hf', allowed_R hi hr t hc],
      inv_put hok (mu_keep hi hmu hheld) (act_txb hi hact hf htx htx') (emb_same hi hcl hemb),
      R_put hr (hr.1.trans hcl.symm) (by rw [hact, ← hr.2.1]) rfl (.inl ⟨hheld, hrep⟩)⟩
  | txe x hmu hact hcl hheld hrep htx htx' hemb hev =>
    subst hev
    have hcont : (x, t) ∈ gs.active := by rw [hr.2.1]; exact (hi.act x t).2 htx
    exact ⟨{ gs with active := gs.active.filter (·.1 != x) }, by simp [Gate.run, Gate.step, hcont],
      inv_put hok (mu_keep hi hmu hheld) (act_txe hi hact htx htx') (emb_same hi hcl hemb),
      R_put hr (hr.1.trans hcl.symm) (by rw [hact, ← hr.2.1]) rfl (.inl ⟨hheld, hrep⟩)⟩
  | lock m hmu hm hact hcl hheld hheld' hrep hrep' htx hemb hev =>
    subst hev
    exact ⟨gs, rfl, inv_put hok (mu_lock hi hmu hm hheld hheld') (act_keep hi hact htx) (emb_same hi hcl hemb),
      R_put hr (hr.1.trans hcl.symm) (hr.2.1.trans hact.symm) rfl (.inr ⟨hrep', hrep⟩)⟩
  | unlock hmu hact hcl hheld' hrep hrep' htx hemb hev =>
    subst hev
    exact ⟨gs, rfl, inv_put hok (mu_unlock hi hmu hheld') (act_keep hi hact htx) (emb_same hi hcl hemb),
      R_put hr (hr.1.trans hcl.symm) (hr.2.1.trans hact.symm) rfl (.inr ⟨hrep', hrep⟩)⟩

end

theorem sim_step {c c' : Cfg} {t : Tid} {ch : Choice} {evs : List Ev} {gs : GState}
    (hi : Inv c) (hr : R c gs) (hs : step c t ch = some (c', evs)) :
    ∃ gs', Gate.run gs evs = some gs' ∧ Inv c' ∧ R c' gs' := by
  obtain ⟨s, l, heq, rfl⟩ := step_inv hs
  exact sim_tstep hi hr heq

theorem sim_run : ∀ (sch : List (Tid × Choice)) (c : Cfg) (gs : GState), Inv c → R c gs →
    ∃ gs', Gate.run gs (run c sch).2 = some gs' ∧ Inv (run c sch).1 ∧ R (run c sch).1 gs'
  | [], c, gs, hi, hr => ⟨gs, rfl, hi, hr⟩
  | (t, ch) :: sch, c, gs, hi, hr => by
    simp only [run]
    cases hst : step c t ch with
    | none => exact sim_run sch c gs hi hr
    | some p =>
      obtain ⟨c', e⟩ := p
      obtain ⟨gs1, h1, hi1, hr1⟩ := sim_step hi hr hst
      obtain ⟨gs2, h2, hi2, hr2⟩ := sim_run sch c' gs1 hi1 hr1
      refine ⟨gs2, ?_, hi2, hr2⟩
      show Gate.run gs (e ++ (run c' sch).2) = some gs2
      rw [Gate.run_append, h1]; exact h2

theorem run_append (c : Cfg) (a b : List (Tid × Choice)) :
    run c (a ++ b) = ((run (run c a).1 b).1, (run c a).2 ++ (run (run c a).1 b).2) := by
  induction a generalizing c with
  | nil => simp [run]
  | cons x xs ih =>
    obtain ⟨t, ch⟩ := x
    simp only [List.cons_append, run]
    cases step c t ch with
    | none => exact ih c
    | some p => simp only [ih p.1, List.append_assoc]

theorem reach_inv (sch : List (Tid × Choice)) :
    ∃ gs, Gate.run {} (run {} sch).2 = some gs ∧ Inv (run {} sch).1 ∧ R (run {} sch).1 gs :=
  sim_run sch {} {} inv_init R_init

theorem exec_section_trace (pre seg : List (Tid × Choice)) (g : Tid)
    (hx : ((run {} pre).1.loc g).held = some .x ∧ ((run {} pre).1.loc g).rep = true)
    (hn : Ev.gout g ∉ (run (run {} pre).1 seg).2) :
    ∃ gs, Gate.run {} (run {} pre).2 = some gs ∧ (Gate.run gs (run (run {} pre).1 seg).2).isSome = true ∧
      Gate.SegOk g gs (run (run {} pre).1 seg).2 := by
  obtain ⟨gs, h, hi, hr⟩ := reach_inv pre
  obtain ⟨gs', h', -, -⟩ := sim_run seg _ gs hi hr
  exact ⟨gs, h, by rw [h']; rfl,
    Gate.segment_inside_section _ gs g (Gate.inv_reach h) (holdsX_R hr hx) hn⟩

end NodisVerif.GateProg

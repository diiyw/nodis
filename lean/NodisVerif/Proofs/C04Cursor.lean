import NodisVerif.Proofs.ZSetLemmas
/-
  Cursors as streams: what a walk from a skiplist node sees is the list of items ahead of it in the
  direction of the walk.  `walk` and `scoreLoop` are functions of that list only.
-/
namespace NodisVerif.Proofs.C04
open AListLemmas ZSetLemmas DsZSet

/-- the node under the cursor followed by everything a walk in direction `desc` will meet -/
def Cursor.stream (desc : Bool) (c : Cursor) : List Item :=
  c.cur :: (if desc then (if c.isHeader then [] else c.back) else c.fwd)

def ostream (desc : Bool) : Option Cursor → List Item
  | none => []
  | some c => Cursor.stream desc c

def step (desc : Bool) (c : Cursor) : Option Cursor := if desc then c.prev else c.next

theorem ostream_step (desc : Bool) (c : Cursor) :
    ostream desc (step desc c) = (Cursor.stream desc c).tail := by
  cases desc with
  | false =>
    simp only [step, Bool.false_eq_true, if_false, Cursor.next, Cursor.stream, List.tail_cons]
    cases c.fwd with
    | nil => rfl
    | cons n f => simp [ostream, Cursor.stream]
  | true =>
    simp only [step, if_true, Cursor.prev, Cursor.stream, List.tail_cons]
    by_cases hh : c.isHeader = true
    · simp [hh, ostream]
    · simp only [hh, Bool.false_eq_true, if_false]
      cases c.back with
      | nil => rfl
      | cons p b => simp [ostream, Cursor.stream]

theorem ostream_eq_nil (desc : Bool) (oc : Option Cursor) : ostream desc oc = [] ↔ oc = none := by
  cases oc with
  | none => simp [ostream]
  | some c => simp [ostream, Cursor.stream]

theorem ostream_head (desc : Bool) (c : Cursor) : (ostream desc (some c)).head? = some c.cur := rfl

theorem walk_eq (desc : Bool) : ∀ (k : Nat) (oc : Option Cursor) (acc : List Item),
    walk desc oc k acc =
      if k ≤ (ostream desc oc).length then some (acc.reverse ++ (ostream desc oc).take k) else none := by
  intro k
  induction k with
  | zero => intro oc acc; simp [walk]
  | succ k ih =>
    intro oc acc
    cases oc with
    | none => simp [walk, ostream]
    | some c =>
      have hw : walk desc (some c) (k + 1) acc = walk desc (step desc c) k (c.cur :: acc) := rfl
      rw [hw, ih, ostream_step]
      have hs : ostream desc (some c) = c.cur :: (Cursor.stream desc c).tail := rfl
      rw [hs]
      simp only [List.length_cons, Nat.add_le_add_iff_right, List.reverse_cons, List.take_succ_cons,
        List.append_assoc, List.singleton_append]

theorem ostream_cursorAt_asc (sl : List Item) (i : Nat) : ostream false (cursorAt sl i) = sl.drop i := by
  unfold cursorAt
  cases h : sl.drop i with
  | nil => rfl
  | cons c f => simp [ostream, Cursor.stream]

theorem ostream_cursorAt_desc (sl : List Item) (i : Nat) :
    ostream true (cursorAt sl i) = if i < sl.length then (sl.take (i + 1)).reverse else [] := by
  unfold cursorAt
  cases h : sl.drop i with
  | nil =>
    rw [if_neg (Nat.not_lt.mpr (List.drop_eq_nil_iff.mp h))]
    rfl
  | cons c f =>
    have hlt : i < sl.length := by
      apply Nat.lt_of_not_le
      intro hle
      rw [List.drop_eq_nil_iff.mpr hle] at h
      cases h
    -- `take (i + 1)` is `take i` followed by the head of `drop i`
    rw [if_pos hlt, List.take_add, h]
    simp [ostream, Cursor.stream]
/-- `scoreLoop` as a function of the list of items the walk meets -/
def loopS (min max : F64) (mode : Nat) (limit : Int) : List Item → Int → Nat → List Item → List Item
  | [], _, _, acc => acc.reverse
  | _ :: _, _, 0, acc => acc.reverse
  | c :: rest, offset, fuel + 1, acc =>
    if !(F64.le min c.1 && F64.le c.1 max) then acc.reverse else
    if (mode % 2 = 1 ∧ F64.eq c.1 min) ∨ (mode / 2 % 2 = 1 ∧ F64.eq c.1 max) then
      loopS min max mode limit rest offset fuel acc
    else if offset > 0 then loopS min max mode limit rest (offset - 1) fuel acc
    else
      if limit > 0 ∧ (((c :: acc).length : Nat) : Int) = limit then (c :: acc).reverse
      else loopS min max mode limit rest offset fuel (c :: acc)

theorem scoreLoop_eq (desc : Bool) (min max : F64) (mode : Nat) (limit : Int) :
    ∀ (fuel : Nat) (oc : Option Cursor) (offset : Int) (acc : List Item),
      scoreLoop desc min max mode limit oc offset fuel acc
        = loopS min max mode limit (ostream desc oc) offset fuel acc := by
  intro fuel
  induction fuel with
  | zero =>
    intro oc offset acc
    cases oc with
    | none => simp [scoreLoop, ostream, loopS]
    | some c => simp [scoreLoop, ostream, Cursor.stream, loopS]
  | succ fuel ih =>
    intro oc offset acc
    cases oc with
    | none => simp [scoreLoop, ostream, loopS]
    | some c =>
      have hst := ostream_step desc c
      unfold step at hst
      have hs : ostream desc (some c) = c.cur :: (Cursor.stream desc c).tail := rfl
      rw [hs]
      unfold scoreLoop loopS
      simp only [ih, hst]

end NodisVerif.Proofs.C04

import NodisVerif.Model.Skiplist
import NodisVerif.Proofs.C04Inv
/-
  The structural invariant of the pointer-level skiplist (Model/Skiplist.lean): `IsChain sl c` (`c` is the list of
  heap indexes of the nodes in chain order, header excluded) and `Inv`; what a search leaves in `update[]` / `rank[]`
  (`UpdateFor`, `Clause`, `UpdateRankFor`) and the shape of its loop condition (`CondUpTo`).
  Every proof about an operation that rewrites the heap sees it through three observations: `lv` = level slots,
  `bk` = backward pointers, `skel` = items and heights.
-/
namespace NodisVerif.Skiplist
open NodisVerif.DsZSet (Item nodeLt)
open NodisVerif.Proofs.C04 (ILt)
open NodisVerif.Proofs.ZSetLemmas (Good)

/-- `len(n.level)`; 0 for an index outside the heap -/
def height (h : List Node) (n : Nat) : Nat :=
  match h[n]? with
  | some nd => nd.level.length
  | none => 0

/-- node `x` takes part in level `i` -/
def above (h : List Node) (i : Nat) (x : Nat) : Bool := decide (i < height h x)

def itemAt (h : List Node) (n : Nat) : Item :=
  match h[n]? with
  | some nd => nd.item
  | none => (0, [])

/-- every level-`i` link of the first node of the list points to the next node of the list that takes part in
    level `i` (nil if none), and the span of a link that exists is the distance; recursively for the rest -/
def Linked (h : List Node) : List Nat → Prop
  | [] => True
  | n :: rest =>
    (∀ i l, getLevel h n i = .ok l →
        l.forward = rest.find? (above h i) ∧
        (l.forward ≠ none → l.span = (rest.findIdx (above h i) : Int) + 1)) ∧ Linked h rest

def BackLinked (h : List Node) : Option Nat → List Nat → Prop
  | _, [] => True
  | prev, n :: rest => (∃ nd, h[n]? = some nd ∧ nd.backward = prev) ∧ BackLinked h (some n) rest

structure IsChain (sl : SL) (c : List Nat) : Prop where
  nodup : (0 :: c).Nodup
  bound : ∀ n ∈ c, n < sl.heap.length
  size : c.length + 1 ≤ sl.heap.length
  header : height sl.heap 0 = maxLevel
  hpos : ∀ n ∈ c, 1 ≤ height sl.heap n
  hle : ∀ n ∈ c, height sl.heap n ≤ sl.level
  levelLo : 1 ≤ sl.level
  levelHi : sl.level ≤ maxLevel
  levelMax : sl.level = 1 ∨ ∃ n ∈ c, height sl.heap n = sl.level
  linked : Linked sl.heap (0 :: c)
  back : BackLinked sl.heap none c
  tail : sl.tail = c.getLast?
  length : sl.length = (c.length : Int)
  sorted : (c.map (itemAt sl.heap)).Pairwise ILt
  good : ∀ n ∈ c, Good (itemAt sl.heap n)

/-- the invariant of ds/zset/skiplist.go -/
def Inv (sl : SL) : Prop := ∃ c, IsChain sl c

/-- `update[i]` (for every level in use) is the last node of `P` (header first) that takes part in level `i` -/
def UpdateFor (h : List Node) (level : Nat) (P : List Nat) (update : List (Option Nat)) : Prop :=
  ∀ i, i < level → ∃ A u B, P = A ++ u :: B ∧ above h i u = true ∧ (∀ y ∈ B, above h i y = false) ∧
    update[i]? = some (some u)

/-- `update[i]` and `rank[i]` for one level: `u`, the last node of `P` that takes part in level `i`, and its position -/
def Clause (h : List Node) (P : List Nat) (update : List (Option Nat)) (rank : List Int) (i : Nat) : Prop :=
  ∃ A u B, P = A ++ u :: B ∧ above h i u = true ∧ (∀ y ∈ B, above h i y = false) ∧
    update[i]? = some (some u) ∧ rank[i]? = some (A.length : Int)

def UpdateRankFor (h : List Node) (level : Nat) (P : List Nat) (update : List (Option Nat)) (rank : List Int) : Prop :=
  ∀ i, i < level → Clause h P update rank i

/-- `cond` holds exactly for the nodes at chain positions 1..k (second argument of `cond` = the position) -/
def CondUpTo (sl : SL) (c : List Nat) (cond : Node → Int → Bool) (k : Nat) : Prop :=
  ∀ (q : Nat) (n : Nat) (nd : Node), (0 :: c)[q]? = some n → sl.heap[n]? = some nd → 1 ≤ q →
    cond nd (q : Int) = decide (q ≤ k)

theorem getLevel_ok_iff (h : List Node) (n i : Nat) (l : Level) :
    getLevel h n i = .ok l ↔ ∃ nd, h[n]? = some nd ∧ nd.level[i]? = some l := by
  unfold getLevel
  cases hn : h[n]? with
  | none => simp [throw, throwThe, MonadExceptOf.throw]
  | some nd =>
    cases hl : nd.level[i]? with
    | none => simp [hl, throw, throwThe, MonadExceptOf.throw]
    | some l' => simp [hl, pure, Except.pure]

theorem getNode_ok_iff (h : List Node) (n : Nat) (nd : Node) :
    getNode h n = .ok nd ↔ h[n]? = some nd := by
  unfold getNode
  cases hn : h[n]? with
  | none => simp [throw, throwThe, MonadExceptOf.throw]
  | some nd' => simp [pure, Except.pure]

theorem height_eq (h : List Node) (n : Nat) (nd : Node) (hn : h[n]? = some nd) : height h n = nd.level.length := by
  simp [height, hn]

theorem lt_height_of_getLevel (h : List Node) (n i : Nat) (l : Level) (hl : getLevel h n i = .ok l) : i < height h n := by
  obtain ⟨nd, hn, hli⟩ := (getLevel_ok_iff h n i l).1 hl
  rw [height_eq h n nd hn]
  exact (List.getElem?_eq_some_iff.1 hli).1

def lv (h : List Node) (x j : Nat) : Option Level := (h[x]?).bind fun nd => nd.level[j]?
def bk (h : List Node) (x : Nat) : Option (Option Nat) := (h[x]?).map (·.backward)
def skel (h : List Node) : List (F64 × Bytes × Nat) := h.map fun nd => (nd.score, nd.member, nd.level.length)

theorem getLevel_eq_lv (h : List Node) (x j : Nat) (l : Level) : getLevel h x j = .ok l ↔ lv h x j = some l := by
  rw [getLevel_ok_iff]
  unfold lv
  cases h[x]? <;> simp

theorem height_skel (h : List Node) (x : Nat) :
    height h x = match (skel h)[x]? with | some t => t.2.2 | none => 0 := by
  unfold height skel
  rw [List.getElem?_map]
  cases h[x]? <;> simp

theorem itemAt_skel (h : List Node) (x : Nat) :
    itemAt h x = match (skel h)[x]? with | some t => (t.1, t.2.1) | none => (0, []) := by
  unfold itemAt skel
  rw [List.getElem?_map]
  cases h[x]? <;> simp [Node.item]

theorem height_congr {h h' : List Node} (hs : skel h' = skel h) (x : Nat) : height h' x = height h x := by
  rw [height_skel, height_skel, hs]

theorem itemAt_congr {h h' : List Node} (hs : skel h' = skel h) (x : Nat) : itemAt h' x = itemAt h x := by
  rw [itemAt_skel, itemAt_skel, hs]

theorem length_congr {h h' : List Node} (hs : skel h' = skel h) : h'.length = h.length := by
  have := congrArg List.length hs
  simpa [skel] using this

theorem above_congr {h h' : List Node} (hs : skel h' = skel h) (i x : Nat) : above h' i x = above h i x := by
  unfold above
  rw [height_congr hs]

theorem lv_eq_none_iff (h : List Node) (x j : Nat) : lv h x j = none ↔ height h x ≤ j := by
  unfold lv height
  cases h[x]? <;> simp

theorem lv_isSome_iff (h : List Node) (x j : Nat) : (∃ l, lv h x j = some l) ↔ j < height h x := by
  have := lv_eq_none_iff h x j
  cases hl : lv h x j with
  | none => simp [hl] at this; simp; omega
  | some l => simp [hl] at this; simp; omega

theorem height_lt_length (h : List Node) (x j : Nat) (hj : j < height h x) : x < h.length := by
  unfold height at hj
  cases hx : h[x]? with
  | none => simp [hx] at hj
  | some nd => exact (List.getElem?_eq_some_iff.1 hx).1

theorem bk_isSome_iff (h : List Node) (x : Nat) : (∃ b, bk h x = some b) ↔ x < h.length := by
  unfold bk
  cases hx : h[x]? with
  | none => simp; exact List.getElem?_eq_none_iff.1 hx
  | some nd => simp; exact (List.getElem?_eq_some_iff.1 hx).1

theorem modLevel_spec (h : List Node) (n i : Nat) (f : Level → Level) (hi : i < height h n) :
    ∃ h', modLevel h n i f = .ok h' ∧ skel h' = skel h ∧ (∀ x, bk h' x = bk h x) ∧
      ∀ x j, lv h' x j = if x = n ∧ j = i then (lv h n i).map f else lv h x j := by
  unfold height at hi
  cases hn : h[n]? with
  | none => simp [hn] at hi
  | some nd =>
    simp [hn] at hi
    have hnl : n < h.length := (List.getElem?_eq_some_iff.1 hn).1
    have hli : nd.level[i]? = some nd.level[i] := by simp [hi]
    have hge : h[n] = nd := (List.getElem?_eq_some_iff.1 hn).2
    refine ⟨h.set n { nd with level := nd.level.set i (f nd.level[i]) }, ?_, ?_, ?_, ?_⟩
    · unfold modLevel
      simp [hn, hli, pure, Except.pure]
    · unfold skel
      apply List.ext_getElem?
      intro k
      simp only [List.getElem?_map, List.getElem?_set]
      by_cases hk : n = k
      · subst hk; simp [hnl, hge]
      · simp [hk]
    · intro x
      unfold bk
      simp only [List.getElem?_set]
      by_cases hk : n = x
      · subst hk; simp [hnl, hge]
      · simp [hk]
    · intro x j
      unfold lv
      simp only [List.getElem?_set]
      by_cases hk : n = x
      · subst hk
        simp only [hnl, hn, if_true, Option.bind_some, true_and, List.getElem?_set]
        by_cases hj : i = j
        · subst hj; simp [hi]
        · have : ¬ j = i := fun e => hj e.symm
          simp [hj, this]
      · have : ¬ x = n := fun e => hk e.symm
        simp [hk, this]

theorem setBackward_spec (h : List Node) (n : Nat) (b : Option Nat) (hn : n < h.length) :
    ∃ h', setBackward h n b = .ok h' ∧ skel h' = skel h ∧ (∀ x j, lv h' x j = lv h x j) ∧
      ∀ x, bk h' x = if x = n then some b else bk h x := by
  have hnd : h[n]? = some h[n] := by simp [hn]
  refine ⟨h.set n { h[n] with backward := b }, ?_, ?_, ?_, ?_⟩
  · unfold setBackward
    simp [hnd, pure, Except.pure]
  · unfold skel
    apply List.ext_getElem?
    intro k
    simp only [List.getElem?_map, List.getElem?_set]
    by_cases hk : n = k
    · subst hk; simp [hn]
    · simp [hk]
  · intro x j
    unfold lv
    simp only [List.getElem?_set]
    by_cases hk : n = x
    · subst hk; simp [hn]
    · simp [hk]
  · intro x
    unfold bk
    simp only [List.getElem?_set]
    by_cases hk : n = x
    · subst hk; simp [hn]
    · have : ¬ x = n := fun e => hk e.symm
      simp [hk, this]

theorem getArr_ok {α} (a : List α) (i : Nat) (v : α) (h : a[i]? = some v) : getArr a i = .ok v := by
  simp [getArr, h, pure, Except.pure]

theorem getUpd_ok (update : List (Option Nat)) (i u : Nat) (h : update[i]? = some (some u)) :
    getUpd update i = .ok u := by
  simp [getUpd, getArr_ok _ _ _ h, bind, Except.bind, pure, Except.pure]

theorem setArr_ok {α} (a : List α) (i : Nat) (v : α) (h : i < a.length) : setArr a i v = .ok (a.set i v) := by
  simp [setArr, h, pure, Except.pure]

theorem getLevel_ok_of_lt (h : List Node) (u i : Nat) (hlt : i < height h u) :
    ∃ l, getLevel h u i = .ok l ∧ lv h u i = some l := by
  obtain ⟨l, hl⟩ := (lv_isSome_iff h u i).2 hlt
  exact ⟨l, (getLevel_eq_lv h u i l).2 hl, hl⟩

theorem find_append_none {p : Nat → Bool} {B X : List Nat} (hB : ∀ y ∈ B, p y = false) :
    (B ++ X).find? p = X.find? p ∧ (B ++ X).findIdx p = B.length + X.findIdx p := by
  induction B with
  | nil => simp
  | cons b B ih =>
    have hb : p b = false := hB b (by simp)
    have := ih (fun y hy => hB y (by simp [hy]))
    simp [List.findIdx_cons, hb, this]
    omega

theorem find_append_some {p : Nat → Bool} {B X : List Nat} (hB : ∃ y ∈ B, p y = true) :
    (B ++ X).find? p = B.find? p ∧ (B ++ X).findIdx p = B.findIdx p := by
  induction B with
  | nil => simp at hB
  | cons b B ih =>
    cases hb : p b with
    | true => simp [List.findIdx_cons, hb]
    | false =>
      have : ∃ y ∈ B, p y = true := by
        obtain ⟨y, hy, hp⟩ := hB
        rcases List.mem_cons.1 hy with rfl | hy
        · rw [hb] at hp; cases hp
        · exact ⟨y, hy, hp⟩
      have := ih this
      simp [List.findIdx_cons, hb, this]

theorem find_congr2 {p q : Nat → Bool} {B : List Nat} (h : ∀ y ∈ B, p y = q y) :
    B.find? p = B.find? q ∧ B.findIdx p = B.findIdx q := by
  induction B with
  | nil => simp
  | cons b B ih =>
    have hb : p b = q b := h b (by simp)
    have := ih (fun y hy => h y (by simp [hy]))
    simp [List.find?_cons, List.findIdx_cons, hb, this]

theorem find_all_false {p : Nat → Bool} {B : List Nat} (hB : ∀ y ∈ B, p y = false) :
    B.find? p = none := by
  simpa using hB

theorem find_all_true {p : Nat → Bool} : ∀ (L : List Nat), (∀ y ∈ L, p y = true) → L.find? p = L.head?
  | [], _ => rfl
  | a :: _, h => by simp [h a (by simp)]

theorem append_eq_append_cons {α} {X Y P S : List α} {x : α} (h : X ++ Y = P ++ x :: S) :
    (∃ as, P = X ++ as ∧ Y = as ++ x :: S) ∨ (∃ S1, X = P ++ x :: S1 ∧ S = S1 ++ Y) := by
  rcases List.append_eq_append_iff.1 h with ⟨as, hP, hY⟩ | ⟨bs, hX, hS⟩
  · exact Or.inl ⟨as, hP, hY⟩
  · cases bs with
    | nil => exact Or.inl ⟨[], by simpa using hX.symm, by simpa using hS.symm⟩
    | cons b S1 =>
      simp only [List.cons_append, List.cons.injEq] at hS
      obtain ⟨rfl, hS⟩ := hS
      exact Or.inr ⟨S1, hX, hS⟩

theorem last_unique {p : Nat → Bool} : ∀ (A A' : List Nat) (u n : Nat) (B B' : List Nat),
    A ++ u :: B = A' ++ n :: B' → p u = true → p n = true → (∀ y ∈ B, p y = false) → (∀ y ∈ B', p y = false) →
    A = A' ∧ u = n ∧ B = B' := by
  intro A
  induction A with
  | nil =>
    intro A' u n B B' hs hu hn hB hB'
    cases A' with
    | nil => simpa using hs
    | cons a A' =>
      simp at hs
      have : n ∈ B := by rw [hs.2]; simp
      rw [hB n this] at hn; cases hn
  | cons a A ih =>
    intro A' u n B B' hs hu hn hB hB'
    cases A' with
    | nil =>
      simp at hs
      have : u ∈ B' := by rw [← hs.2]; simp
      rw [hB' u this] at hu; cases hu
    | cons a' A' =>
      simp at hs
      obtain ⟨h1, h2, h3⟩ := ih A' u n B B' hs.2 hu hn hB hB'
      exact ⟨by rw [hs.1, h1], h2, h3⟩

theorem split_unique {L P S P' S' : List Nat} {x : Nat} (hnd : L.Nodup) (h1 : L = P ++ x :: S)
    (h2 : L = P' ++ x :: S') : P = P' ∧ S = S' := by
  have hS : ∀ {P S}, L = P ++ x :: S → ∀ y ∈ S, (y == x) = false := by
    intro P S h y hy
    rw [h] at hnd
    have := (List.nodup_cons.1 (List.nodup_append.1 hnd).2.1).1
    exact beq_false_of_ne fun e => this (e ▸ hy)
  obtain ⟨e1, _, e3⟩ := last_unique (p := (· == x)) P P' x x S S' (h1.symm.trans h2) (by simp) (by simp) (hS h1) (hS h2)
  exact ⟨e1, e3⟩

def LinkOK (h : List Node) (n : Nat) (B : List Nat) : Prop :=
  ∀ i l, lv h n i = some l →
    l.forward = B.find? (above h i) ∧ (l.forward ≠ none → l.span = (B.findIdx (above h i) : Int) + 1)

theorem linked_cons (h : List Node) (n : Nat) (rest : List Nat) :
    Linked h (n :: rest) ↔ LinkOK h n rest ∧ Linked h rest := by
  simp only [Linked, LinkOK, getLevel_eq_lv]

theorem linked_iff_split (h : List Node) (L : List Nat) :
    Linked h L ↔ ∀ A n B, L = A ++ n :: B → LinkOK h n B := by
  induction L with
  | nil => simp [Linked]
  | cons x rest ih =>
    rw [linked_cons, ih]
    constructor
    · rintro ⟨h1, h2⟩ A n B hs
      cases A with
      | nil => simp at hs; obtain ⟨rfl, rfl⟩ := hs; exact h1
      | cons a A => simp at hs; exact h2 A n B hs.2
    · intro hh
      exact ⟨hh [] x rest rfl, fun A n B hs => hh (x :: A) n B (by simp [hs])⟩

/-- the previous node of what follows a list `L` -/
def lastOr (prev : Option Nat) : List Nat → Option Nat
  | [] => prev
  | a :: l => lastOr (some a) l

theorem backLinked_cons (h : List Node) (prev : Option Nat) (n : Nat) (rest : List Nat) :
    BackLinked h prev (n :: rest) ↔ bk h n = some prev ∧ BackLinked h (some n) rest := by
  have : (∃ nd, h[n]? = some nd ∧ nd.backward = prev) ↔ bk h n = some prev := by
    unfold bk; cases h[n]? <;> simp
  rw [← this]
  exact Iff.rfl

theorem backLinked_congr {h h' : List Node} : ∀ (L : List Nat) (prev : Option Nat),
    (∀ x ∈ L, bk h' x = bk h x) → BackLinked h prev L → BackLinked h' prev L := by
  intro L
  induction L with
  | nil => intro _ _ _; trivial
  | cons a L ih =>
    intro prev hx hb
    rw [backLinked_cons] at hb ⊢
    exact ⟨by rw [hx a (by simp)]; exact hb.1, ih (some a) (fun x hm => hx x (by simp [hm])) hb.2⟩

theorem backLinked_append (h : List Node) : ∀ (L1 L2 : List Nat) (prev : Option Nat),
    BackLinked h prev (L1 ++ L2) ↔ BackLinked h prev L1 ∧ BackLinked h (lastOr prev L1) L2 := by
  intro L1
  induction L1 with
  | nil => intro L2 prev; simp [BackLinked, lastOr]
  | cons a L1 ih =>
    intro L2 prev
    rw [List.cons_append, backLinked_cons, backLinked_cons, ih]
    simp [lastOr, and_assoc]

theorem lastOr_append_singleton : ∀ (A : List Nat) (prev : Option Nat) (u : Nat), lastOr prev (A ++ [u]) = some u := by
  intro A
  induction A with
  | nil => intro prev u; simp [lastOr]
  | cons a A ih => intro prev u; simp [lastOr, ih]

theorem lastOr_none (A : List Nat) : lastOr none A = A.getLast? := by
  have : ∀ (A : List Nat) (p : Option Nat), lastOr p A = A.getLast?.or p := by
    intro A
    induction A with
    | nil => intro p; simp [lastOr]
    | cons a A ih =>
      intro p
      rw [lastOr, ih, List.getLast?_cons]
      cases A.getLast? <;> simp
  rw [this]; simp

end NodisVerif.Skiplist

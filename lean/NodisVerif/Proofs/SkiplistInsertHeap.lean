import NodisVerif.Proofs.SkiplistInv

/-
  skiplist.insert as a run on the heap: the effect of its three loops on the observations `lv` / `bk` / `skel`,
  pointwise per (node, level); `insert` cut into search, level extension and rest (`insert_eq`), and the level slots
  in closed form after the level extension (`extLv`) and after linking the new node (`insLv`).
-/
namespace NodisVerif.Skiplist
open NodisVerif.DsZSet (Item nodeLt)

theorem extendLevels_spec (len : Int) (k i : Nat) (h : List Node) (update : List (Option Nat)) (rank : List Int)
    (hu : update.length = maxLevel) (hr : rank.length = maxLevel) (hik : i + k ≤ maxLevel)
    (hh : height h 0 = maxLevel) :
    ∃ h' update' rank', extendLevels len k i h update rank = .ok (h', update', rank') ∧
      skel h' = skel h ∧ (∀ x, bk h' x = bk h x) ∧ update'.length = maxLevel ∧ rank'.length = maxLevel ∧
      (∀ x j, lv h' x j = if x = 0 ∧ i ≤ j ∧ j < i + k then (lv h 0 j).map (fun l => { l with span := len })
        else lv h x j) ∧
      (∀ j, update'[j]? = if i ≤ j ∧ j < i + k then some (some 0) else update[j]?) ∧
      (∀ j, rank'[j]? = if i ≤ j ∧ j < i + k then some 0 else rank[j]?) := by
  induction k generalizing i h update rank with
  | zero =>
    refine ⟨h, update, rank, by simp [extendLevels, pure, Except.pure], rfl, fun _ => rfl, hu, hr, ?_, ?_, ?_⟩
    · intro x j
      have : ¬ (x = 0 ∧ i ≤ j ∧ j < i + 0) := by omega
      rw [if_neg this]
    · intro j
      have : ¬ (i ≤ j ∧ j < i + 0) := by omega
      rw [if_neg this]
    · intro j
      have : ¬ (i ≤ j ∧ j < i + 0) := by omega
      rw [if_neg this]
  | succ k ih =>
    have hir : i < rank.length := by omega
    have hiu : i < update.length := by omega
    have hlt : i < height h 0 := by omega
    obtain ⟨h1, e1, hs1, hb1, hl1⟩ := modLevel_spec h 0 i (fun l => { l with span := len }) hlt
    obtain ⟨h2, u2, r2, e2, hs2, hb2, hu2, hr2, hl2, hup2, hrk2⟩ :=
      ih (i + 1) h1 (update.set i (some 0)) (rank.set i 0) (by simp [hu]) (by simp [hr]) (by omega)
        (by rw [height_congr hs1]; exact hh)
    refine ⟨h2, u2, r2, ?_, hs2.trans hs1, fun x => (hb2 x).trans (hb1 x), hu2, hr2, ?_, ?_, ?_⟩
    · simp only [extendLevels, setArr_ok _ _ _ hir, setArr_ok _ _ _ hiu, bind, Except.bind, e1, e2]
    · intro x j
      rw [hl2, hl1, hl1]
      by_cases hj : j = i
      · subst hj
        have h1 : ¬ (x = 0 ∧ j + 1 ≤ j ∧ j < j + 1 + k) := by omega
        rw [if_neg h1]
        by_cases hx : x = 0
        · subst hx
          have h2 : (0 = 0 ∧ j ≤ j ∧ j < j + (k + 1)) := by omega
          rw [if_pos h2]; simp
        · simp [hx]
      · have e : (x = 0 ∧ i + 1 ≤ j ∧ j < i + 1 + k) ↔ (x = 0 ∧ i ≤ j ∧ j < i + (k + 1)) := by omega
        simp only [e, hj, and_false, if_false]
    · intro j
      rw [hup2]
      by_cases hj : j = i
      · subst hj
        rw [if_neg (by omega), if_pos (by omega), List.getElem?_set_self hiu]
      · rw [List.getElem?_set_ne (Ne.symm hj)]
        exact ite_congr (propext (by omega)) (fun _ => rfl) (fun _ => rfl)
    · intro j
      rw [hrk2]
      by_cases hj : j = i
      · subst hj
        rw [if_neg (by omega), if_pos (by omega), List.getElem?_set_self hir]
      · rw [List.getElem?_set_ne (Ne.symm hj)]
        exact ite_congr (propext (by omega)) (fun _ => rfl) (fun _ => rfl)

theorem linkLevels_spec (new : Nat) (update : List (Option Nat)) (rank : List Int) (U : Nat → Nat) (R : Nat → Int)
    (r0 : Int) (k i : Nat) (h : List Node)
    (hr0 : rank[0]? = some r0)
    (hU : ∀ j, i ≤ j → j < i + k →
      update[j]? = some (some (U j)) ∧ rank[j]? = some (R j) ∧ j < height h (U j) ∧ U j ≠ new)
    (hnew : ∀ j, i ≤ j → j < i + k → j < height h new) :
    ∃ h', linkLevels new update rank k i h = .ok h' ∧ skel h' = skel h ∧ (∀ x, bk h' x = bk h x) ∧
      ∀ x j, lv h' x j =
        if i ≤ j ∧ j < i + k then
          (if x = U j then some { forward := some new, span := r0 - R j + 1 }
           else if x = new then
             (lv h (U j) j).map (fun l => { forward := l.forward, span := l.span - (r0 - R j) })
           else lv h x j)
        else lv h x j := by
  induction k generalizing i h with
  | zero =>
    refine ⟨h, by simp [linkLevels, pure, Except.pure], rfl, fun _ => rfl, ?_⟩
    intro x j
    have : ¬ (i ≤ j ∧ j < i + 0) := by omega
    rw [if_neg this]
  | succ k ih =>
    obtain ⟨hu, hri, hlt, hne⟩ := hU i (Nat.le_refl _) (by omega)
    have hltn := hnew i (Nat.le_refl _) (by omega)
    obtain ⟨lu, elu, hlu⟩ := getLevel_ok_of_lt h (U i) i hlt
    obtain ⟨ln, hln⟩ := (lv_isSome_iff h new i).2 hltn
    obtain ⟨h1, e1, hs1, hb1, hl1⟩ := modLevel_spec h new i
      (fun _ => { forward := lu.forward, span := lu.span - (r0 - R i) }) hltn
    obtain ⟨h2, e2, hs2, hb2, hl2⟩ := modLevel_spec h1 (U i) i
      (fun _ => { forward := some new, span := (r0 - R i) + 1 }) (by rw [height_congr hs1]; exact hlt)
    have hs21 : skel h2 = skel h := hs2.trans hs1
    obtain ⟨h3, e3, hs3, hb3, hl3⟩ := ih (i + 1) h2 (by
      intro j hj1 hj2
      obtain ⟨a, b, c, d⟩ := hU j (by omega) (by omega)
      exact ⟨a, b, by rw [height_congr hs21]; exact c, d⟩) (by
      intro j hj1 hj2
      rw [height_congr hs21]; exact hnew j (by omega) (by omega))
    refine ⟨h3, ?_, hs3.trans hs21, fun x => (hb3 x).trans ((hb2 x).trans (hb1 x)), ?_⟩
    · simp only [linkLevels, getUpd_ok _ _ _ hu, getArr_ok _ _ _ hr0, getArr_ok _ _ _ hri, elu, bind, Except.bind,
        e1, e2, e3]
    · intro x j
      by_cases hj : j = i
      · subst hj
        have c1 : ¬ (j + 1 ≤ j ∧ j < j + 1 + k) := by omega
        have c2 : (j ≤ j ∧ j < j + (k + 1)) := by omega
        rw [hl3, if_neg c1, if_pos c2]
        by_cases hx : x = U j
        · simp [hl2, hl1, hx, hne, hlu]
        · by_cases hxn : x = new
          · subst hxn
            simp [hl2, hl1, hx, hln, hlu]
          · simp [hl2, hl1, hx, hxn]
      · have e : (i + 1 ≤ j ∧ j < i + 1 + k) ↔ (i ≤ j ∧ j < i + (k + 1)) := by omega
        simp only [hl3, hl2, hl1, hj, and_false, if_false, e]

theorem bumpLevels_spec (update : List (Option Nat)) (U : Nat → Nat) (k i : Nat) (h : List Node)
    (hU : ∀ j, i ≤ j → j < i + k → update[j]? = some (some (U j)) ∧ j < height h (U j)) :
    ∃ h', bumpLevels update k i h = .ok h' ∧ skel h' = skel h ∧ (∀ x, bk h' x = bk h x) ∧
      ∀ x j, lv h' x j =
        if i ≤ j ∧ j < i + k ∧ x = U j then (lv h x j).map (fun l => { l with span := l.span + 1 })
        else lv h x j := by
  induction k generalizing i h with
  | zero =>
    refine ⟨h, by simp [bumpLevels, pure, Except.pure], rfl, fun _ => rfl, ?_⟩
    intro x j
    have : ¬ (i ≤ j ∧ j < i + 0 ∧ x = U j) := by omega
    rw [if_neg this]
  | succ k ih =>
    obtain ⟨hu, hlt⟩ := hU i (Nat.le_refl _) (by omega)
    obtain ⟨h1, e1, hs1, hb1, hl1⟩ := modLevel_spec h (U i) i (fun l => { l with span := l.span + 1 }) hlt
    obtain ⟨h2, e2, hs2, hb2, hl2⟩ := ih (i+1) h1 (by
      intro j hj1 hj2
      obtain ⟨a, b⟩ := hU j (by omega) (by omega)
      exact ⟨a, by rw [height_congr hs1]; exact b⟩)
    refine ⟨h2, ?_, hs2.trans hs1, fun x => (hb2 x).trans (hb1 x), ?_⟩
    · simp only [bumpLevels, getUpd_ok _ _ _ hu, bind, Except.bind, e1, e2]
    · intro x j
      rw [hl2, hl1]
      by_cases hj : j = i
      · subst hj
        have : ¬ (j + 1 ≤ j ∧ j < j + 1 + k ∧ x = U j) := by omega
        rw [if_neg this]
        by_cases hx : x = U j
        · subst hx; simp
        · simp [hx]
      · have e : (i + 1 ≤ j ∧ j < i + 1 + k ∧ x = U j) ↔ (i ≤ j ∧ j < i + (k + 1) ∧ x = U j) := by
          constructor <;> intro ⟨a, b, c⟩ <;> exact ⟨by omega, by omega, c⟩
        simp only [e, hj, and_false, if_false]

end NodisVerif.Skiplist

-- the same namespace again, with `ILt` and the order lemmas open
namespace NodisVerif.Skiplist
open NodisVerif.DsZSet (Item nodeLt)
open NodisVerif.Proofs.C04 (ILt)
open NodisVerif.Proofs.ZSetLemmas (Good itemLt_trans itemLt_total)

theorem skel_append_new (h : List Node) (lvl : Nat) (s : F64) (m : Bytes) :
    skel (h ++ [newNode lvl s m]) = skel h ++ [(s, m, lvl)] := by
  simp [skel, newNode]

theorem lv_append_new (h : List Node) (lvl : Nat) (s : F64) (m : Bytes) (x j : Nat) :
    lv (h ++ [newNode lvl s m]) x j =
      if x = h.length then (if j < lvl then some {} else none) else lv h x j := by
  unfold lv
  rw [List.getElem?_append]
  by_cases hx : x < h.length
  · have : x ≠ h.length := by omega
    simp [hx, this]
  · by_cases hx2 : x = h.length
    · subst hx2
      simp [newNode, List.getElem?_replicate]
    · have h1 : h[x]? = none := List.getElem?_eq_none_iff.2 (by omega)
      have h2 : ([newNode lvl s m] : List Node)[x - h.length]? = none :=
        List.getElem?_eq_none_iff.2 (by simp; omega)
      simp [hx, hx2, h2]

theorem bk_append_new (h : List Node) (lvl : Nat) (s : F64) (m : Bytes) (x : Nat) :
    bk (h ++ [newNode lvl s m]) x = if x = h.length then some none else bk h x := by
  unfold bk
  rw [List.getElem?_append]
  by_cases hx : x < h.length
  · have : x ≠ h.length := by omega
    simp [hx, this]
  · by_cases hx2 : x = h.length
    · subst hx2
      simp [newNode]
    · have h1 : h[x]? = none := List.getElem?_eq_none_iff.2 (by omega)
      have h2 : ([newNode lvl s m] : List Node)[x - h.length]? = none :=
        List.getElem?_eq_none_iff.2 (by simp; omega)
      simp [hx, hx2, h2]

theorem height_append_new (h : List Node) (lvl : Nat) (s : F64) (m : Bytes) (x : Nat) :
    height (h ++ [newNode lvl s m]) x = if x = h.length then lvl else height h x := by
  rw [height_skel, skel_append_new, height_skel, List.getElem?_append]
  have hlen : (skel h).length = h.length := by simp [skel]
  by_cases hx : x < h.length
  · have : x ≠ h.length := by omega
    simp [hlen, hx, this]
  · by_cases hx2 : x = h.length
    · subst hx2; simp [hlen]
    · have h1 : (skel h)[x]? = none := List.getElem?_eq_none_iff.2 (by omega)
      have h2 : ([(s, m, lvl)] : List (F64 × Bytes × Nat))[x - h.length]? = none :=
        List.getElem?_eq_none_iff.2 (by simp; omega)
      simp [hlen, hx, hx2, h2]

theorem height_of_skel (h1 hf : List Node) (lvl : Nat) (s : F64) (m : Bytes)
    (hs : skel hf = skel h1 ++ [(s, m, lvl)]) (x : Nat) :
    height hf x = if x = h1.length then lvl else height h1 x := by
  rw [← skel_append_new] at hs
  rw [height_congr hs, height_append_new]

theorem itemAt_of_skel (h1 hf : List Node) (lvl : Nat) (s : F64) (m : Bytes)
    (hs : skel hf = skel h1 ++ [(s, m, lvl)]) (x : Nat) :
    itemAt hf x = if x = h1.length then (s, m) else itemAt h1 x := by
  rw [itemAt_skel, hs, itemAt_skel, List.getElem?_append]
  have hlen : (skel h1).length = h1.length := by simp [skel]
  by_cases hx : x < h1.length
  · have : x ≠ h1.length := by omega
    simp [hlen, hx, this]
  · by_cases hx2 : x = h1.length
    · subst hx2; simp [hlen]
    · have h2 : ([(s, m, lvl)] : List (F64 × Bytes × Nat))[x - h1.length]? = none :=
        List.getElem?_eq_none_iff.2 (by simp; omega)
      simp [hlen, hx, hx2, h2]

/-- the `if level > skiplist.level { … }` block -/
def extendBranch (sl : SL) (lvl : Nat) (update : List (Option Nat)) (rank : List Int) :
    M (List Node × List (Option Nat) × List Int × Nat) :=
  if lvl > sl.level then do
    let (h, u, r) ← extendLevels sl.length (lvl - sl.level) sl.level sl.heap update rank
    pure (h, u, r, lvl)
  else pure (sl.heap, update, rank, sl.level)

def insertTail (sl : SL) (m : Bytes) (s : F64) (lvl : Nat) (h : List Node) (update : List (Option Nat))
    (rank : List Int) (level : Nat) : M SL := do
  let new := h.length
  let h := h ++ [newNode lvl s m]
  let h ← linkLevels new update rank lvl 0 h
  let h ← bumpLevels update (level - lvl) lvl h
  let u0 ← getUpd update 0
  let h ← setBackward h new (if u0 = 0 then none else some u0)
  let l0 ← getLevel h new 0
  match l0.forward with
  | some f =>
    let h ← setBackward h f (some new)
    pure { heap := h, tail := sl.tail, length := sl.length + 1, level := level }
  | none => pure { heap := h, tail := some new, length := sl.length + 1, level := level }

/-- `insert` as search, level extension, rest. Not `rfl`: the model's `if` carries the rest of the function in both
    branches (a join point), so the equation needs the case split on `lvl > sl.level` -/
theorem insert_eq (sl : SL) (m : Bytes) (s : F64) (lvl : Nat) :
    insert sl m s lvl =
      (search sl.heap (lessCond m s) sl.level 0 0 emptyUpdate emptyRank >>= fun r =>
        extendBranch sl lvl r.2.2.1 r.2.2.2 >>= fun t => insertTail sl m s lvl t.1 t.2.1 t.2.2.1 t.2.2.2) := by
  unfold insert extendBranch
  cases hsr : search sl.heap (lessCond m s) sl.level 0 0 emptyUpdate emptyRank with
  | error e => rfl
  | ok r =>
    obtain ⟨a, b, u, rk⟩ := r
    dsimp only [bind, Except.bind]
    by_cases hl : lvl > sl.level
    · rw [if_pos hl, if_pos hl]
      cases extendLevels sl.length (lvl - sl.level) sl.level sl.heap u rk with
      | error e => rfl
      | ok t => rfl
    · rw [if_neg hl, if_neg hl]
      rfl


def extLv (sl : SL) (lvl x j : Nat) : Option Level :=
  if x = 0 ∧ sl.level ≤ j ∧ j < lvl then (lv sl.heap 0 j).map (fun l => { l with span := sl.length })
  else lv sl.heap x j

theorem extendBranch_spec (sl : SL) (lvl : Nat) (update : List (Option Nat)) (rank : List Int)
    (hu : update.length = maxLevel) (hr : rank.length = maxLevel) (hl2 : lvl ≤ maxLevel)
    (hh : height sl.heap 0 = maxLevel) :
    ∃ h1 update' rank', extendBranch sl lvl update rank = .ok (h1, update', rank', max sl.level lvl) ∧
      skel h1 = skel sl.heap ∧ (∀ x, bk h1 x = bk sl.heap x) ∧ update'.length = maxLevel ∧
      rank'.length = maxLevel ∧
      (∀ x j, lv h1 x j = extLv sl lvl x j) ∧
      (∀ j, update'[j]? = if sl.level ≤ j ∧ j < lvl then some (some 0) else update[j]?) ∧
      (∀ j, rank'[j]? = if sl.level ≤ j ∧ j < lvl then some 0 else rank[j]?) := by
  unfold extendBranch
  by_cases hl : lvl > sl.level
  · obtain ⟨h1, u', r', e, hs, hb, hu', hr', hlv, hup, hrk⟩ :=
      extendLevels_spec sl.length (lvl - sl.level) sl.level sl.heap update rank hu hr (by omega) hh
    have hadd : sl.level + (lvl - sl.level) = lvl := by omega
    rw [hadd] at hlv hup hrk
    refine ⟨h1, u', r', ?_, hs, hb, hu', hr', hlv, hup, hrk⟩
    have hmax : max sl.level lvl = lvl := by omega
    simp [hl, bind, Except.bind, e, pure, Except.pure, hmax]
  · have hmax : max sl.level lvl = sl.level := by omega
    refine ⟨sl.heap, update, rank, by simp [hl, pure, Except.pure, hmax], rfl, fun _ => rfl, hu, hr, ?_, ?_, ?_⟩
    · intro x j
      have : ¬ (x = 0 ∧ sl.level ≤ j ∧ j < lvl) := by omega
      rw [extLv, if_neg this]
    · intro j
      have : ¬ (sl.level ≤ j ∧ j < lvl) := by omega
      rw [if_neg this]
    · intro j
      have : ¬ (sl.level ≤ j ∧ j < lvl) := by omega
      rw [if_neg this]


def insLv (h1 : List Node) (N lvl level' : Nat) (U : Nat → Nat) (R : Nat → Int) (r0 : Int) (x j : Nat) :
    Option Level :=
  if j < lvl then
    (if x = U j then some { forward := some N, span := r0 - R j + 1 }
     else if x = N then
       (lv h1 (U j) j).map (fun l => { forward := l.forward, span := l.span - (r0 - R j) })
     else lv h1 x j)
  else if j < level' ∧ x = U j then (lv h1 x j).map (fun l => { l with span := l.span + 1 })
  else lv h1 x j

theorem linkBump_spec (h1 : List Node) (lvl level' : Nat) (s : F64) (m : Bytes)
    (update : List (Option Nat)) (rank : List Int) (U : Nat → Nat) (R : Nat → Int)
    (hl1 : 1 ≤ lvl) (hlvl : lvl ≤ level')
    (hU : ∀ j, j < level' → update[j]? = some (some (U j)) ∧ rank[j]? = some (R j) ∧ j < height h1 (U j)) :
    ∃ h3 h4, linkLevels h1.length update rank lvl 0 (h1 ++ [newNode lvl s m]) = .ok h3 ∧
      bumpLevels update (level' - lvl) lvl h3 = .ok h4 ∧
      skel h4 = skel h1 ++ [(s, m, lvl)] ∧
      (∀ x, bk h4 x = if x = h1.length then some none else bk h1 x) ∧
      ∀ x j, lv h4 x j = insLv h1 h1.length lvl level' U R (R 0) x j := by
  have hUN : ∀ j, j < level' → U j ≠ h1.length := by
    intro j hj e
    have := height_lt_length h1 (U j) j (hU j hj).2.2
    omega
  have hh2 := height_append_new h1 lvl s m
  obtain ⟨h3, e3, hs3, hb3, hl3⟩ := linkLevels_spec h1.length update rank U R (R 0) lvl 0
    (h1 ++ [newNode lvl s m]) (hU 0 (by omega)).2.1
    (fun j _ hj => ⟨(hU j (by omega)).1, (hU j (by omega)).2.1,
      by rw [hh2, if_neg (hUN j (by omega))]; exact (hU j (by omega)).2.2, hUN j (by omega)⟩)
    (fun j _ hj => by rw [hh2]; simp; omega)
  obtain ⟨h4, e4, hs4, hb4, hl4⟩ := bumpLevels_spec update U (level' - lvl) lvl h3
    (fun j hj1 hj2 => ⟨(hU j (by omega)).1,
      by rw [height_congr hs3, hh2, if_neg (hUN j (by omega))]; exact (hU j (by omega)).2.2⟩)
  refine ⟨h3, h4, e3, e4, by rw [hs4, hs3, skel_append_new], ?_, ?_⟩
  · intro x; rw [hb4, hb3, bk_append_new]
  · intro x j
    have hN1 : lv h1 h1.length j = none := by
      rw [lv_eq_none_iff]; simp [height]
    simp only [hl4, hl3, lv_append_new, insLv]
    by_cases hj : j < lvl
    · have hjl : j < level' := by omega
      have := hUN j hjl
      have h3 : ¬ (lvl ≤ j ∧ j < lvl + (level' - lvl) ∧ x = U j) := by omega
      simp [hj, this, h3]
      by_cases hx : x = U j
      · simp [hx]
      · by_cases hxN : x = h1.length
        · simp [hxN]
        · simp [hx, hxN]
    · by_cases hj2 : j < level'
      · have := hUN j hj2
        by_cases hx : x = U j
        · have h3 : (lvl ≤ j ∧ j < lvl + (level' - lvl) ∧ x = U j) := ⟨by omega, by omega, hx⟩
          subst hx
          simp [hj, hj2, this, h3]
        · have h3 : ¬ (lvl ≤ j ∧ j < lvl + (level' - lvl) ∧ x = U j) := fun h => hx h.2.2
          simp only [hj, hj2, hx, if_false, and_false, Nat.zero_le, Nat.zero_add]
          by_cases hxN : x = h1.length
          · subst hxN; simp [hN1]
          · simp [hxN]
      · have h3 : ¬ (lvl ≤ j ∧ j < lvl + (level' - lvl) ∧ x = U j) := by omega
        simp only [hj, hj2, h3, if_false, false_and, and_false, Nat.zero_le, Nat.zero_add]
        by_cases hxN : x = h1.length
        · subst hxN; simp [hN1]
        · simp [hxN]


theorem insertTail_spec (sl : SL) (m : Bytes) (s : F64) (lvl : Nat) (h1 : List Node)
    (update : List (Option Nat)) (rank : List Int) (level' : Nat) (U : Nat → Nat) (R : Nat → Int)
    (hl1 : 1 ≤ lvl) (hlvl : lvl ≤ level')
    (hU : ∀ j, j < level' → update[j]? = some (some (U j)) ∧ rank[j]? = some (R j) ∧ j < height h1 (U j))
    (hfw : ∀ l f, lv h1 (U 0) 0 = some l → l.forward = some f → f < h1.length) :
    ∃ sl' l0, insertTail sl m s lvl h1 update rank level' = .ok sl' ∧
      skel sl'.heap = skel h1 ++ [(s, m, lvl)] ∧
      (∀ x j, lv sl'.heap x j = insLv h1 h1.length lvl level' U R (R 0) x j) ∧
      sl'.length = sl.length + 1 ∧ sl'.level = level' ∧
      lv sl'.heap h1.length 0 = some l0 ∧
      sl'.tail = (match l0.forward with | some _ => sl.tail | none => some h1.length) ∧
      ∀ x, bk sl'.heap x =
        if some x = l0.forward then some (some h1.length)
        else if x = h1.length then some (if U 0 = 0 then none else some (U 0)) else bk h1 x := by
  obtain ⟨h3, h4, e3, e4, hs4, hb4, hl4⟩ := linkBump_spec h1 lvl level' s m update rank U R hl1 hlvl hU
  have hlen4 : h4.length = h1.length + 1 := by
    have := congrArg List.length hs4; simpa [skel] using this
  have hU0 := hU 0 (by omega)
  have hUN : U 0 ≠ h1.length := by
    intro e
    have := height_lt_length h1 (U 0) 0 hU0.2.2
    omega
  obtain ⟨h5, e5, hs5, hl5, hb5⟩ := setBackward_spec h4 h1.length (if U 0 = 0 then none else some (U 0)) (by omega)
  obtain ⟨l1, hl1'⟩ := (lv_isSome_iff h1 (U 0) 0).2 hU0.2.2
  have hlN : lv h4 h1.length 0 = some { forward := l1.forward, span := l1.span - (R 0 - R 0) } := by
    rw [hl4]; unfold insLv
    have h0 : 0 < lvl := by omega
    have : h1.length ≠ U 0 := fun e => hUN e.symm
    simp [h0, this, hl1']
  have egl : getLevel h5 h1.length 0 = .ok { forward := l1.forward, span := l1.span - (R 0 - R 0) } :=
    (getLevel_eq_lv _ _ _ _).2 (by rw [hl5, hlN])
  have eu := getUpd_ok update 0 (U 0) hU0.1
  unfold insertTail
  cases hf : l1.forward with
  | none =>
    refine ⟨{ heap := h5, tail := some h1.length, length := sl.length + 1, level := level' },
      { forward := l1.forward, span := l1.span - (R 0 - R 0) }, ?_, ?_, ?_, rfl, rfl, ?_, ?_, ?_⟩
    · simp [bind, Except.bind, e3, e4, eu, e5, egl, hf, pure, Except.pure]
    · show skel h5 = _; rw [hs5, hs4]
    · intro x j; show lv h5 x j = _; rw [hl5, hl4]
    · show lv h5 _ _ = _; rw [hl5, hlN]
    · simp [hf]
    · intro x; show bk h5 x = _; rw [hb5, hb4]; simp [hf]
      by_cases hx : x = h1.length <;> simp [hx]
  | some f =>
    have hfl : f < h1.length := hfw l1 f hl1' hf
    have hlen5 : h5.length = h4.length := length_congr hs5
    obtain ⟨h6, e6, hs6, hl6, hb6⟩ := setBackward_spec h5 f (some h1.length) (by omega)
    refine ⟨{ heap := h6, tail := sl.tail, length := sl.length + 1, level := level' },
      { forward := l1.forward, span := l1.span - (R 0 - R 0) }, ?_, ?_, ?_, rfl, rfl, ?_, ?_, ?_⟩
    · simp [bind, Except.bind, e3, e4, eu, e5, egl, hf, e6, pure, Except.pure]
    · show skel h6 = _; rw [hs6, hs5, hs4]
    · intro x j; show lv h6 x j = _; rw [hl6, hl5, hl4]
    · show lv h6 _ _ = _; rw [hl6, hl5, hlN]
    · simp [hf]
    · intro x; show bk h6 x = _; rw [hb6, hb5, hb4]; simp [hf]
      by_cases hx : x = f
      · simp [hx]
      · simp [hx]
        by_cases hx2 : x = h1.length <;> simp [hx2]

end NodisVerif.Skiplist

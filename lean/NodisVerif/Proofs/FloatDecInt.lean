import NodisVerif.Proofs.FloatDecRound
import NodisVerif.Proofs.C15Decimal
/-
  The decimal parser on integer text: `parseDec` of an optional sign and decimal digits whose value is below 2^53
  is exactly `roundPack neg n 0`, the double of the integer-only model (`F64.ofInt?`, `Api.parseFloatTextInt`): `parseDec_digits`.
  Then `parseFloatText_agrees_int`: wherever `Api.parseFloatTextInt` parses a value, `Api.parseFloatText` parses the same one.
  One deliberate difference: "-0" (and "-00" …) is −0 in Go and in `Api.parseFloatText`; the integer-only model gives +0.
-/
namespace NodisVerif.Proofs.FloatDecInt
open NodisVerif NodisVerif.FloatDec NodisVerif.F64 NodisVerif.Proofs.C09Float NodisVerif.Proofs.FloatDecRound

theorem digit_toNat {c : UInt8} (h : isDigit c = true) : 48 ≤ c.toNat ∧ c.toNat ≤ 57 := by
  unfold isDigit at h
  simp only [decide_eq_true_eq, UInt8.le_iff_toNat_le] at h
  exact h

/-- a digit is none of the bytes the scanners test for: each of them fails `isDigit` -/
theorem digit_facts (c : UInt8) (h : isDigit c = true) :
    c ≠ 95 ∧ c ≠ 46 ∧ c ≠ 43 ∧ c ≠ 45 ∧ lower c ≠ 120 ∧ c ≠ 101 ∧ c ≠ 69 := by
  have hx : lower c ≠ 120 := fun e => by
    -- digits are below 64, and setting bit 5 keeps them there
    have h1 : (lower c).toNat < 2 ^ 6 := by
      unfold lower
      rw [UInt8.toNat_or]
      exact Nat.or_lt_two_pow (by have := digit_toNat h; omega) (by decide)
    rw [e] at h1
    exact absurd h1 (by decide)
  refine ⟨?_, ?_, ?_, ?_, hx, ?_, ?_⟩ <;> (rintro rfl; exact absurd h (by decide))

theorem scanMant_digits : ∀ (ds : Bytes) (m : Mant), ds.all isDigit = true → (m.nd = 0 → m.mant = 0) →
    ∃ m', scanMant ds m = ([], m') ∧ m'.mant = digitsToNat ds m.mant ∧ m'.sawdot = m.sawdot ∧ m'.under = m.under ∧
      m'.sawdigits = (m.sawdigits || !ds.isEmpty) ∧ m'.nd ≤ m.nd + ds.length ∧ (m'.nd = 0 → m'.mant = 0) := by
  intro ds
  induction ds with
  | nil => intro m _ hinv; exact ⟨m, rfl, rfl, rfl, rfl, by simp, by simp, hinv⟩
  | cons c r ih =>
    intro m hall hinv
    rw [List.all_cons, Bool.and_eq_true] at hall
    obtain ⟨hc, hr⟩ := hall
    obtain ⟨h95, h46, _, _, _, _, _⟩ := digit_facts c hc
    unfold scanMant
    rw [if_neg h95, if_neg h46, if_pos hc]
    by_cases hz : c = 48 ∧ m.nd = 0
    · rw [if_pos hz]
      obtain ⟨m', h1, h2, h3, h4, h5, h6, h7⟩ := ih { m with sawdigits := true, dp := m.dp - 1 } hr hinv
      refine ⟨m', h1, ?_, h3, h4, ?_, ?_, h7⟩
      · rw [h2]; simp only [digitsToNat]
        have hm0 := hinv hz.2
        rw [hm0, hz.1]; rfl
      · rw [h5]; simp
      · simp only [List.length_cons]; simp only at h6; omega
    · rw [if_neg hz]
      obtain ⟨m', h1, h2, h3, h4, h5, h6, h7⟩ :=
        ih { m with sawdigits := true, nd := m.nd + 1, mant := m.mant * 10 + (c.toNat - 48) } hr (by simp)
      refine ⟨m', h1, ?_, h3, h4, ?_, ?_, h7⟩
      · rw [h2]; simp only [digitsToNat]
      · rw [h5]; simp
      · simp only [List.length_cons]; simp only at h6; omega


theorem hexPrefix_digits (ds : Bytes) (hall : ds.all isDigit = true) : hexPrefix ds = false := by
  unfold hexPrefix
  split
  · next c _ _ =>
    simp only [List.all_cons, Bool.and_eq_true] at hall
    have := (digit_facts c hall.2.1).2.2.2.2.1
    simp [this]
  · rfl

theorem splitSign_digits (ds : Bytes) (hne : ds ≠ []) (hall : ds.all isDigit = true) :
    splitSign ds = (false, false, ds) := by
  cases ds with
  | nil => exact absurd rfl hne
  | cons c r =>
    simp only [List.all_cons, Bool.and_eq_true] at hall
    obtain ⟨_, _, h43, h45, _⟩ := digit_facts c hall.1
    unfold splitSign
    split
    · next heq => injection heq with h _; exact absurd h.symm h43.symm |> False.elim
    · next heq => injection heq with h _; exact absurd h.symm h45.symm |> False.elim
    · rfl

theorem isInf_roundPack_nat (neg : Bool) (n : Nat) (hn : n < 2 ^ 53) : isInf (roundPack neg n 0) = false := by
  by_cases h0 : n = 0
  · subst h0; rw [roundPack_zero]; cases neg <;> decide
  · have hL := log2_le_of_lt n 52 hn
    obtain ⟨hq1, hq2⟩ := shl_norm n 52 (by omega) hL
    rw [roundPack_small neg n (by omega) hn]
    unfold isInf
    rw [expBits_pack neg _ _ (by omega) (by omega)]
    have : ¬ (n.log2 + 1023 = 0x7FF) := by omega
    simp [this]

/-- decimal digits (value below 2^53, at most 800 of them) with an optional sign: the parse is the exactly
    representable integer, i.e. the double of the integer-only model (`F64.ofInt?` = `roundPack · 0`) -/
theorem parseDec_digits (sgn : Bytes) (neg : Bool)
    (hs : (sgn = [] ∧ neg = false) ∨ (sgn = [43] ∧ neg = false) ∨ (sgn = [45] ∧ neg = true))
    (ds : Bytes) (hne : ds ≠ []) (hall : ds.all isDigit = true) (hlen : ds.length ≤ 800)
    (hn : digitsToNat ds 0 < 2 ^ 53) :
    parseDec (sgn ++ ds) = some (some (roundPack neg (digitsToNat ds 0) 0)) := by
  have hsplit : ∃ sg, splitSign (sgn ++ ds) = (sg, neg, ds) := by
    rcases hs with ⟨rfl, rfl⟩ | ⟨rfl, rfl⟩ | ⟨rfl, rfl⟩
    · exact ⟨false, splitSign_digits ds hne hall⟩
    · exact ⟨true, rfl⟩
    · exact ⟨true, rfl⟩
  obtain ⟨sg, hsplit⟩ := hsplit
  obtain ⟨m', h1, h2, h3, h4, h5, h6, h7⟩ := scanMant_digits ds {} hall (fun _ => rfl)
  have hne' : ds.isEmpty = false := by cases ds with | nil => exact absurd rfl hne | cons _ _ => rfl
  unfold parseDec
  rw [hsplit]
  simp only [hexPrefix_digits ds hall, Bool.false_eq_true, if_false, h1]
  have hsd : m'.sawdigits = true := by rw [h5, hne']; rfl
  have hdot : m'.sawdot = false := h3
  have hun : m'.under = false := h4
  simp only [hsd, hdot, hun, Bool.not_true, Bool.false_eq_true, if_false, scanExpPart, List.isEmpty_nil, Bool.or_self,
    Bool.false_and]
  have hnd : ¬ m'.nd > 800 := by simp only at h6; omega
  rw [if_neg hnd]
  have hx : (if m'.mant = 0 then zero neg else roundDec neg m'.mant ((m'.nd : Int) - (m'.nd : Int))) =
      roundPack neg (digitsToNat ds 0) 0 := by
    rw [h2]
    show (if digitsToNat ds 0 = 0 then zero neg else roundDec neg (digitsToNat ds 0) ((m'.nd : Int) - (m'.nd : Int))) = _
    by_cases h0 : digitsToNat ds 0 = 0
    · rw [if_pos h0, h0, roundPack_zero]
    · rw [if_neg h0, Int.sub_self]
      unfold roundDec
      simp only [ge_iff_le, Int.le_refl, if_true, Int.toNat_zero, Nat.pow_zero, Nat.mul_one]
      exact roundRat_nat neg _ (by omega) hn
  simp only [hx, isInf_roundPack_nat neg _ hn, Bool.false_eq_true, if_false]


theorem digit_val_le (c : UInt8) (h : isDigit c = true) : c.toNat - 48 ≤ 9 := by
  have := digit_toNat h; omega

theorem digitsToNat_lt : ∀ (ds : Bytes) (acc : Nat), ds.all isDigit = true →
    digitsToNat ds acc < (acc + 1) * 10 ^ ds.length := by
  intro ds
  induction ds with
  | nil => intro acc _; simp [digitsToNat]
  | cons c r ih =>
    intro acc hall
    rw [List.all_cons, Bool.and_eq_true] at hall
    have hd := digit_val_le c hall.1
    have := ih (acc * 10 + (c.toNat - 48)) hall.2
    simp only [digitsToNat, List.length_cons]
    calc digitsToNat r (acc * 10 + (c.toNat - 48)) < (acc * 10 + (c.toNat - 48) + 1) * 10 ^ r.length := this
      _ ≤ ((acc + 1) * 10) * 10 ^ r.length := Nat.mul_le_mul_right _ (by omega)
      _ = (acc + 1) * 10 ^ (r.length + 1) := by rw [Nat.mul_assoc, Nat.pow_succ, Nat.mul_comm (10 ^ r.length) 10]

theorem lowerAscii_digit_head (c : UInt8) (r : Bytes) (h : isDigit c = true) :
    ∃ t, lowerAscii (c :: r) = c :: t := by
  refine ⟨lowerAscii r, ?_⟩
  unfold lowerAscii
  rw [List.map_cons, if_neg]
  rw [UInt8.le_iff_toNat_le]
  have := digit_toNat h
  exact fun hc => absurd hc.1 (by show ¬ (65 ≤ c.toNat); omega)

theorem parseFloat_digits (sgn : Bytes) (hs : sgn = [] ∨ sgn = [43] ∨ sgn = [45])
    (ds : Bytes) (hne : ds ≠ []) (hall : ds.all isDigit = true) :
    parseFloat (sgn ++ ds) = parseDec (sgn ++ ds) := by
  have hsplit : ∃ sg neg, splitSign (sgn ++ ds) = (sg, neg, ds) := by
    rcases hs with rfl | rfl | rfl
    · exact ⟨false, false, splitSign_digits ds hne hall⟩
    · exact ⟨true, false, rfl⟩
    · exact ⟨true, true, rfl⟩
  obtain ⟨sg, neg, hsplit⟩ := hsplit
  cases ds with
  | nil => exact absurd rfl hne
  | cons c r =>
    rw [List.all_cons, Bool.and_eq_true] at hall
    obtain ⟨t, ht⟩ := lowerAscii_digit_head c r hall.1
    have h1 : Bytes.ofString "inf" = [105, 110, 102] := by decide +kernel
    have h2 : Bytes.ofString "infinity" = [105, 110, 102, 105, 110, 105, 116, 121] := by decide +kernel
    have h3 : Bytes.ofString "nan" = [110, 97, 110] := by decide +kernel
    have hc1 : c ≠ 105 := by rintro rfl; exact absurd hall.1 (by decide)
    have hc2 : c ≠ 110 := by rintro rfl; exact absurd hall.1 (by decide)
    unfold parseFloat
    rw [hsplit]
    simp only [ht, h1, h2, h3, List.cons.injEq, hc1, hc2, false_and, or_self, and_false, if_false]

theorem ofInt_signed (neg : Bool) (N : Nat) (hN : N ≤ 2 ^ 53) (hz : neg = true → N ≠ 0) :
    ofInt? (if neg then -(N : Int) else (N : Int)) = some (roundPack neg N 0) := by
  have hA : (if neg then -(N : Int) else (N : Int)).natAbs = N := by cases neg <;> simp
  have hB : decide ((if neg then -(N : Int) else (N : Int)) < 0) = neg := by
    cases neg
    · simp
    · have := hz rfl
      simp; omega
  unfold ofInt?
  rw [hA, hB, if_neg (by omega)]

/-- the integer-only model `Api.parseFloatTextInt` and the decimal model `Api.parseFloatText` agree wherever the
    former parses a value — except on "-0", "-00", …: Go and the decimal model give −0, the integer-only model +0 -/
theorem parseFloatText_agrees_int (b : Bytes) (x : F64) (h : Api.parseFloatTextInt b = some (some x))
    (hnz : ¬ (b.head? = some 45 ∧ parseInt64 b = some 0)) : Api.parseFloatText b = some (some x) := by
  by_cases hint : Api.isIntText b = true
  · rw [parseFloatTextInt_int b hint] at h
    have key : ∀ (sgn : Bytes) (neg : Bool) (ds : Bytes),
        ((sgn = [] ∧ neg = false) ∨ (sgn = [43] ∧ neg = false) ∨ (sgn = [45] ∧ neg = true)) → b = sgn ++ ds →
        (!ds.isEmpty && ds.all isDigit && decide (ds.length ≤ 15)) = true →
        Api.parseFloatText b = some (some x) := by
      intro sgn neg ds hsg hb hds
      simp only [Bool.and_eq_true, Bool.not_eq_true', decide_eq_true_eq] at hds
      obtain ⟨⟨hne, hall⟩, hlen⟩ := hds
      have hne' : ds ≠ [] := by intro h0; subst h0; simp at hne
      have hpi := hb ▸ Proofs.C15.parseInt64_sign_digits sgn neg hsg ds hne' hall
      have hlt := digitsToNat_lt ds 0 hall
      have hpow : 10 ^ ds.length ≤ 10 ^ 15 := Nat.pow_le_pow_right (by decide) hlen
      have hn : digitsToNat ds 0 < 2 ^ 53 := by
        have : (10 : Nat) ^ 15 < 2 ^ 53 := by decide
        omega
      have hsg' : sgn = [] ∨ sgn = [43] ∨ sgn = [45] := by
        rcases hsg with h | h | h
        · exact Or.inl h.1
        · exact Or.inr (Or.inl h.1)
        · exact Or.inr (Or.inr h.1)
      unfold Api.parseFloatText
      rw [hb, parseFloat_digits sgn hsg' ds hne' hall, parseDec_digits sgn neg hsg ds hne' hall (by omega) hn]
      rw [hpi] at h
      generalize hN : digitsToNat ds 0 = N at *
      have hin : inInt64 (if neg then -(N : Int) else (N : Int)) = true := by
        unfold inInt64 int64Min int64Max; simp only [decide_eq_true_eq]; split <;> omega
      rw [hin] at h
      simp only [if_true] at h
      -- −0 is the one integer text whose double the integer-only model gets wrong
      have hN0 : neg = true → N ≠ 0 := by
        intro hneg hN0
        apply hnz
        rcases hsg with h' | h' | h'
        · rw [h'.2] at hneg; cases hneg
        · rw [h'.2] at hneg; cases hneg
        · refine ⟨by rw [hb, h'.1]; rfl, ?_⟩
          rw [hpi, hN0, hneg]; rfl
      rw [ofInt_signed neg N (by omega) hN0] at h
      exact h
    unfold Api.isIntText at hint
    split at hint
    · next ds => exact key [43] false ds (Or.inr (Or.inl ⟨rfl, rfl⟩)) rfl hint
    · next ds => exact key [45] true ds (Or.inr (Or.inr ⟨rfl, rfl⟩)) rfl hint
    · exact key [] false b (Or.inl ⟨rfl, rfl⟩) rfl hint
  · exact absurd h (parseFloatTextInt_not_int b x hint)

example : Api.parseFloatText [45, 48] = some (some 0x8000000000000000) ∧ Api.parseFloatTextInt [45, 48] = some (some 0) := by
  decide +kernel

end NodisVerif.Proofs.FloatDecInt

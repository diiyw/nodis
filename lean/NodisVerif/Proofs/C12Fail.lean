import NodisVerif.Proofs.C11Pass
/-
  C12: what a pass does to the dirty bit — a rejected write keeps the record hot and modified,
  a pass without rejected writes leaves nothing modified.
-/
namespace NodisVerif.Proofs.C11
open NodisVerif.Store NodisVerif.Codec NodisVerif.Spec.Persist
open NodisVerif.Proofs.AListLemmas NodisVerif.Proofs.AListLemmas2 NodisVerif.Proofs.C11AList

theorem gcStep_failed_eq {s : MState} {now : Int} {k : Bytes} {m : Meta} (hok : m.isOk = true)
    (hexp0 : m.expired now = false) (hmod : m.isModified = true) (hf : 0 < s.failSet) :
    gcStep now s (k, m) = putMeta { s with failSet := s.failSet - 1 } k m := by
  unfold gcStep
  simp only [hok, Bool.not_true, Bool.or_false, hexp0, Bool.false_eq_true, if_false, hmod, if_true,
    persist_fail s k m hf, Bool.not_false]

theorem flushStep_failed_eq {s : MState} {now : Int} {k : Bytes} {m : Meta} (hok : m.isOk = true)
    (hexp0 : m.expired now = false) (hmod : m.isModified = true) (hf : 0 < s.failSet) :
    flushStep now s (k, m) = putMeta { s with failSet := s.failSet - 1 } k m := by
  unfold flushStep
  simp only [hok, Bool.not_true, Bool.or_false, hexp0, Bool.false_eq_true, if_false, hmod,
    persist_fail s k m hf]

theorem gcStep_failed {s : MState} {t now : Int} (h : StoreInvX s none t) {k : Bytes} {m : Meta}
    (hm : AList.get? s.index k = some m) (hexp0 : m.expired now = false) (hmod : m.isModified = true)
    (hf : 0 < s.failSet) :
    ∃ m1, AList.get? (gcStep now s (k, m)).index k = some m1 ∧ m1.isModified = true ∧
      m1.value = m.value ∧ m1.exp = m.exp ∧ (gcStep now s (k, m)).failSet = s.failSet - 1 ∧
      m1 = m ∧ (gcStep now s (k, m)).disk = s.disk := by
  rw [gcStep_failed_eq (h.recs k m hm).ok hexp0 hmod hf]
  exact ⟨m, by simp [putMeta, get?_set], hmod, rfl, rfl, rfl, rfl, rfl⟩

theorem gc_clean {s : MState} {now : Int} (hs : AList.Sorted s.index) (hc : s.closed = false)
    (hf : s.failSet = 0) :
    ∀ k m', AList.get? (gc s now).index k = some m' → m'.isModified = false := by
  intro k m' hm'
  obtain ⟨ok, a, e⟩ := (Pass.gc_index s now hs hc).2 k
  rw [e, a hf] at hm'
  cases hg : AList.get? s.index k with
  | none => rw [hg] at hm'; cases hm'
  | some m =>
    -- what a pass leaves of a live record has been through `resetRec`
    rw [hg, Option.bind_some, Pass.gcSlot] at hm'
    by_cases hd : (m.expired now || !m.isOk) = true
    · rw [if_pos hd] at hm'; cases hm'
    · rw [if_neg hd] at hm'
      split at hm' <;> cases hm' <;> exact (resetRec_facts _).2.1

theorem fold_gc_untouched (now : Int) (l : List (Bytes × Meta)) (nd : (l.map (·.1)).Nodup) (cur : MState)
    (hs : AList.Sorted cur.index) :
    ∀ k', k' ∉ l.map (·.1) → AList.get? (l.foldl (gcStep now) cur).index k' = AList.get? cur.index k' := by
  have key := Pass.fold_pass Prod.fst (gcStep now) (fun c => AList.Sorted c.index) (fun _ _ => True) (fun _ _ => True)
    (fun c k => AList.get? c.index k = AList.get? cur.index k)
    (by
      rintro c ⟨k, m⟩ hc _
      obtain ⟨ok, _, st⟩ := Pass.gcStep_idx now c k m
      exact ⟨st.sorted hc, trivial, fun _ _ => ⟨id, id⟩, fun k' hk a => by rw [st.get hc, if_neg hk]; exact a⟩)
    l nd cur hs (fun _ _ => trivial)
  exact fun k' hk' => key.2.2.1 k' hk' rfl

theorem fold_gc_disk_untouched {t now : Int} (ht : t ≤ now) (l : List (Bytes × Meta))
    (nd : (l.map (·.1)).Nodup) (cur : MState) (h : StoreInvX cur none t)
    (hnil : ∀ p ∈ l, NilOK cur.pebble p.2) (hget : ∀ p ∈ l, AList.get? cur.index p.1 = some p.2)
    (k : Bytes) (hk : k ∉ l.map (·.1)) :
    ∀ dk e, e.name = k →
      (AList.get? (l.foldl (gcStep now) cur).disk dk = some e ↔ AList.get? cur.disk dk = some e) := by
  have key := Pass.fold_pass Prod.fst (gcStep now)
    (fun c => StoreInvX c none t ∧ c.pebble = cur.pebble)
    (fun c p => AList.get? c.index p.1 = some p.2 ∧ NilOK cur.pebble p.2) (fun _ _ => True)
    (fun c k => ∀ dk e, e.name = k → (AList.get? c.disk dk = some e ↔ AList.get? cur.disk dk = some e))
    (by
      rintro c ⟨k', m⟩ ⟨p1, p2⟩ ⟨hm, he⟩
      have sp := (gcStep_spec (now := now) p1 ht hm (fun _ => by rw [p2]; exact he)).1
      refine ⟨⟨sp.inv, by rw [sp.peb, p2]⟩, trivial, fun q hq => ⟨fun ⟨a, b⟩ => ⟨by rw [sp.idx q.1 hq]; exact a, b⟩, id⟩,
        fun k0 hk0 p3 dk e hn => ?_⟩
      rw [sp.disk dk e (by rw [hn]; exact hk0)]
      exact p3 dk e hn)
    l nd cur ⟨h, rfl⟩ (fun p hp => ⟨hget p hp, hnil p hp⟩)
  exact key.2.2.1 k hk (fun _ _ _ => Iff.rfl)

/-- a pass all of whose writes are rejected.  Not an instance of `fold_pass`: the hypothesis `l.length ≤ cur.failSet`
    is about the fault budget, which every step of a modified record uses up, so a step is not local to its name;
    the induction carries the budget for the records to come, the invariant, and index and backend of those records. -/
theorem fold_all_fail_keeps {t now : Int} (ht : t ≤ now) : ∀ (l : List (Bytes × Meta)), (l.map (·.1)).Nodup →
    ∀ cur, StoreInvX cur none t → (∀ p ∈ l, NilOK cur.pebble p.2) →
    (∀ p ∈ l, AList.get? cur.index p.1 = some p.2) → l.length ≤ cur.failSet →
    ∀ p ∈ l, p.2.expired now = false → p.2.isModified = true →
      AList.get? (l.foldl (gcStep now) cur).index p.1 = some p.2 ∧
      ∀ dk e, e.name = p.1 →
        (AList.get? (l.foldl (gcStep now) cur).disk dk = some e ↔ AList.get? cur.disk dk = some e) := by
  intro l
  induction l with
  | nil => intro _ _ _ _ _ _ p hp; cases hp
  | cons a rest ih =>
    intro nd cur h hnil hget hlen p hp hal hmod
    obtain ⟨k, m⟩ := a
    simp only [List.map_cons, List.nodup_cons] at nd
    obtain ⟨hk, nd'⟩ := nd
    have hm := hget (k, m) (by simp)
    obtain ⟨sp, hfs⟩ := gcStep_spec (now := now) h ht hm (fun _ => hnil (k, m) (by simp))
    simp only [List.length_cons] at hlen
    have hget' : ∀ q ∈ rest, AList.get? (gcStep now cur (k, m)).index q.1 = some q.2 := by
      intro q hq
      have hne : q.1 ≠ k := by
        intro e; apply hk; rw [← e]; exact List.mem_map.mpr ⟨q, hq, rfl⟩
      rw [sp.idx q.1 hne]; exact hget q (by simp [hq])
    have hnil' : ∀ q ∈ rest, NilOK (gcStep now cur (k, m)).pebble q.2 := by
      intro q hq; rw [sp.peb]; exact hnil q (by simp [hq])
    simp only [List.foldl_cons]
    rcases List.mem_cons.mp hp with rfl | hp
    · obtain ⟨m1, g1, _, _, _, _, g6, g7⟩ := gcStep_failed (now := now) h hm hal hmod (by omega)
      subst g6
      refine ⟨?_, fun dk e hn => ?_⟩
      · rw [fold_gc_untouched now rest nd' _ sp.inv.idxSorted k hk]
        exact g1
      · rw [fold_gc_disk_untouched ht rest nd' _ sp.inv hnil' hget' k hk dk e hn, g7]
    · obtain ⟨i1, i2⟩ := ih nd' _ sp.inv hnil' hget' (by omega) p hp hal hmod
      refine ⟨i1, fun dk e hn => ?_⟩
      have hne : p.1 ≠ k := by
        intro e; apply hk; rw [← e]; exact List.mem_map.mpr ⟨p, hp, rfl⟩
      rw [i2 dk e hn]
      exact sp.disk dk e (by rw [hn]; exact hne)

theorem gc_all_fail_keeps {s : MState} {t now : Int} (h : StoreInvX s none t) (ht : t ≤ now) (hnil : NilFree s)
    (hc : s.closed = false) (hf : s.index.length ≤ s.failSet) {k : Bytes} {m : Meta}
    (hm : AList.get? s.index k = some m) (hal : m.expired now = false) (hmod : m.isModified = true) :
    AList.get? (gc s now).index k = some m ∧
    ∀ dk e0, AList.get? s.disk dk = some e0 → e0.name = k →
      ∃ e, AList.get? (gc s now).disk dk = some e ∧ e.name = e0.name ∧ e.exp = e0.exp ∧ e.oid = e0.oid ∧
        (s.pebble = true → e = e0) := by
  have hpb : (s.index.foldl (gcStep now) s).pebble = s.pebble := by
    have := (gc_spec h ht hnil).peb
    rw [gc_eq] at this
    simp only [hc, Bool.false_eq_true, if_false] at this
    rw [(syncShared_fields _).2.1] at this
    exact this
  rw [gc_eq]
  simp only [hc, Bool.false_eq_true, if_false]
  obtain ⟨nd, hget, _⟩ := index_pass_facts h.idxSorted
  obtain ⟨a, b⟩ := fold_all_fail_keeps ht s.index nd s h (fun p hp => hnil p.1 p.2 (hget p hp)) hget hf (k, m)
    (mem_of_get? _ _ _ hm) hal hmod
  refine ⟨by rw [(syncShared_fields _).1]; exact a, fun dk e0 he0 hn => ?_⟩
  have he1 := (b dk e0 hn).mpr he0
  cases hp : s.pebble with
  | true =>
    rw [syncShared_peb (by rw [hpb]; exact hp)]
    exact ⟨e0, he1, rfl, rfl, rfl, fun _ => rfl⟩
  | false =>
    refine ⟨ssEnt _ e0, by rw [get?_syncShared_disk (by rw [hpb]; exact hp), he1]; rfl, by simp, by simp, by simp,
      fun c => by cases c⟩

theorem gc_all_fail {s : MState} {t now : Int} (h : StoreInvX s none t) (ht : t ≤ now) (hnil : NilFree s)
    (hc : s.closed = false) (hf : s.index.length ≤ s.failSet) {k : Bytes} {m : Meta}
    (hm : AList.get? s.index k = some m) (hal : m.expired now = false) (hmod : m.isModified = true) :
    ∃ m1, AList.get? (gc s now).index k = some m1 ∧ m1.isModified = true ∧ m1.value = m.value ∧
      m1.exp = m.exp :=
  ⟨m, (gc_all_fail_keeps h ht hnil hc hf hm hal hmod).1, hmod, rfl, rfl⟩

end NodisVerif.Proofs.C11

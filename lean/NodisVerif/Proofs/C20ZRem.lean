import NodisVerif.Proofs.C20Str
/-
  C20, sorted sets: ZRem, ZRemRangeByRank, ZRemRangeByScore.  They notify only when something was
  removed; otherwise they rewrite the value object with the same content without signalling.
-/
namespace NodisVerif.Proofs.C20
open NodisVerif NodisVerif.Store NodisVerif.Spec.Persist NodisVerif.Proofs.C11
open NodisVerif.Proofs.AListLemmas NodisVerif.Proofs.AListLemmas2

variable {now : Int} {p r : MState}

/-- rewriting a hot record with the value it already holds keeps the invariant without any exemption -/
theorem inv_setVal_same {s : MState} {t : Int} (h : StoreInv s t) {k : Bytes} {m : Meta} {v : Val}
    (hm : AList.get? s.index k = some m) (hv : m.value = some v) : StoreInv (Api.setVal s k v) t := by
  have r := h.recs k m hm
  have hsome : m.value.isSome = true := by simp [hv]
  have h1 := inv_setVal h (fun _ _ => by simp) hm (r.good v hv)
  refine ⟨h1.idxSorted, h1.diskSorted, ?_, h1.ents, h1.oids, h1.idPos⟩
  intro k' m' hm'
  have r' := h1.recs k' m' hm'
  by_cases hk : k' = k
  · subst hk
    rw [get?_setVal_index h hm] at hm'
    simp only [if_true, Option.some.injEq] at hm'
    subst hm'
    refine { r' with clean := ?_ }
    intro he _ hmod v' hv'
    simp only [Option.some.injEq] at hv'
    subst hv'
    have hmod0 : m.isModified = false := by
      simpa [Meta.isModified, hv] using hmod
    obtain ⟨ent, c1, c2, c3⟩ := r.clean he (by simp) hmod0 v hv
    refine ⟨svEnt s m v ent, c1, ?_, ?_⟩
    · rw [(setVal_fields k' v).1] at *
      rw [get?_setVal_disk hm, c2]; rfl
    · rw [(setVal_fields k' v).1]
      refine ⟨fun hp => ?_, fun hp => ?_⟩
      · have := c3.peb hp
        rw [svEnt_other (by simp [hp])]
        exact this
      · obtain ⟨o1, o2⟩ := c3.mem hp
        refine ⟨by simpa using o1, ?_⟩
        rcases svEnt_val s m v ent with h2 | h2
        · exact h2
        · rw [h2]; exact o2
  · exact { r' with clean := fun he _ => r'.clean he (by simpa using fun e => hk e.symm) }

theorem lookup_setVal_same {s : MState} {t : Int} (h : StoreInv s t) {k : Bytes} {m : Meta} {v : Val}
    (hm : AList.get? s.index k = some m) (hv : m.value = some v) (k' : Bytes) :
    lookup (Api.setVal s k v) t k' = lookup s t k' := by
  have hsome : m.value.isSome = true := by simp [hv]
  rw [lookup_setVal h (Int.le_refl t) hm]
  by_cases hk : k' = k
  · subst hk
    simp only [if_true, lookup, getMeta, hm, Option.bind_some]
    cases hexp : m.expired t with
    | true => simp [view_dead hexp]
    | false => simp [view_hot hv (h.recs k' m hm).ok hexp]
  · simp [hk]

def remPost (f : ZSet → ZSet × Int) : Option (Val × Int) → Option (Val × Int)
  | some (.zset z, e) =>
    if (f z).2 > 0 then (if DsZSet.zCard (f z).1 = 0 then none else some (.zset (f z).1, e)) else some (.zset z, e)
  | L => L

def remOps (f : ZSet → ZSet × Int) (op : FeedOp) : Option (Val × Int) → List FeedOp
  | some (.zset z, _) => if (f z).2 > 0 then [op] else []
  | _ => []

/-- finding region (not reachable through the API): the key holds an *empty* sorted set and nothing
    is removed — the primary unlinks the key without telling anybody -/
def ZRemOnEmpty (f : ZSet → ZSet × Int) (L : Option (Val × Int)) : Prop :=
  ∃ z e, L = some (.zset z, e) ∧ DsZSet.zCard z = 0 ∧ (f z).2 ≤ 0

theorem remTx_spec (f : ZSet → ZSet × Int) (op : FeedOp) (hf0 : ∀ z, (f z).2 ≤ 0 → (f z).1 = z)
    (hgood : ∀ z, Good (.zset z) → Good (.zset (f z).1)) {s : MState} (h : StoreInv s now) (key : Bytes)
    (hreg : ¬ ZRemOnEmpty f (lookup s now key)) :
    StoreInv (remTx f op s now key).1 now ∧
    (∀ k', lookup (remTx f op s now key).1 now k' = upd (lookup s now) key (remPost f (lookup s now key)) k') ∧
    (s.listeners = true → fl (remTx f op s now key).1 = ((remOps f op (lookup s now key)).reverse ++ s.feed, true)) := by
  have ks := writeKey_spec h (Int.le_refl now) key none (fun _ hc => nomatch hc)
  have hfl := fl_writeKey s now key none
  unfold remTx
  generalize writeKey s now key none = r0 at ks hfl
  obtain ⟨s1, ok⟩ := r0
  simp only at hfl ⊢
  have same : (∀ k', lookup s1 now k' = lookup s now k') →
      ∀ k', lookup s1 now k' = upd (lookup s now) key (lookup s now key) k' := by
    intro hh k'; rw [upd_self]; exact hh k'
  cases hL : lookup s now key with
  | none =>
    obtain ⟨hok, hl⟩ := ks.miss hL rfl
    simp only at hok
    simp only [hok, Bool.not_false, if_true, remPost, remOps, List.reverse_nil, List.nil_append]
    refine ⟨ks.inv, ?_, fun hlis => by rw [hfl]; simp [fl, hlis]⟩
    rw [← hL]
    refine same (fun k' => ?_)
    by_cases hk : k' = key
    · subst hk; exact hl now (Int.le_refl _)
    · exact ks.other now (Int.le_refl _) k' hk
  | some cc =>
    obtain ⟨v, e⟩ := cc
    obtain ⟨hok, hl, m, hm, hv, he, _⟩ := ks.hit v e hL
    simp only at hok hm
    simp only [hok, Bool.not_true, Bool.false_eq_true, if_false]
    have hlook1 : ∀ k', lookup s1 now k' = lookup s now k' := by
      intro k'
      by_cases hk : k' = key
      · subst hk; exact hl now (Int.le_refl _)
      · exact ks.other now (Int.le_refl _) k' hk
    have hvo : valOf s1 key = some v := (valOf_of_getMeta hm).trans hv
    cases v with
    | zset z =>
      have hz : Api.asZSet s1 key = some z := by simp [Api.asZSet, hvo]
      simp only [hz]
      have hgz : Good (.zset z) := (ks.inv.recs key m hm).good _ hv
      by_cases hr : (f z).2 > 0
      · simp only [hr, if_true, remPost, remOps]
        -- this is `runAct` with a `put` / `drop`
        by_cases hc : DsZSet.zCard (f z).1 = 0
        · simp only [hc, if_true]
          have hra : emit (signal (delKey (Api.setVal s1 key (.zset (f z).1)) key) key) op =
              (runAct s1 key (.drop (.zset (f z).1) [op] (.int (f z).2))).1 := rfl
          rw [hra]
          obtain ⟨a1, _, _, _, a5⟩ := runAct_spec ks.inv hm hv (.drop (.zset (f z).1) [op] (.int (f z).2)) (hgood z hgz)
          refine ⟨a1, fun k' => ?_, fun hlis => ?_⟩
          · rw [a5 now (Int.le_refl _) k', applyEff_now]
            simp only [Act.eff, Option.bind_none, upd, hlook1]
          · rw [fl_runAct _ _ _ (((fl_eq hfl).2).trans hlis), show s1.feed = s.feed from (fl_eq hfl).1]
            rfl
        · simp only [hc, if_false]
          have hra : emit (signal (Api.setVal s1 key (.zset (f z).1)) key) op =
              (runAct s1 key (.put (some (.zset (f z).1)) none [op] (.int (f z).2))).1 := rfl
          rw [hra]
          obtain ⟨a1, _, _, _, a5⟩ := runAct_spec ks.inv hm hv (.put (some (.zset (f z).1)) none [op] (.int (f z).2))
            ⟨(fun w hw => by cases hw; exact hgood z hgz), (fun _ hx => nomatch hx)⟩
          refine ⟨a1, fun k' => ?_, fun hlis => ?_⟩
          · rw [a5 now (Int.le_refl _) k', he, applyEff_now]
            simp only [Act.eff, Option.getD_some, Option.getD_none, Option.bind_some, upd, hlook1, lookup_filt hL]
          · rw [fl_runAct _ _ _ (((fl_eq hfl).2).trans hlis), show s1.feed = s.feed from (fl_eq hfl).1]
            rfl
      · have hr' : (f z).2 ≤ 0 := by omega
        have hfz := hf0 z hr'
        have hne : DsZSet.zCard z ≠ 0 := fun hc => hreg ⟨z, e, hL, hc, hr'⟩
        simp only [hr, if_false, remPost, remOps, hfz, hne, List.reverse_nil, List.nil_append]
        refine ⟨inv_setVal_same ks.inv hm hv, ?_, fun hlis => ?_⟩
        · rw [← hL, upd_self]
          intro k'
          rw [lookup_setVal_same ks.inv hm hv]; exact hlook1 k'
        · rw [fl_setVal, hfl]; simp [fl, hlis]
    | _ =>
      all_goals
        have hz : Api.asZSet s1 key = none := by simp [Api.asZSet, hvo]
        simp only [hz, remPost, remOps, List.reverse_nil, List.nil_append]
        refine ⟨ks.inv, ?_, fun hlis => by rw [hfl]; simp [fl, hlis]⟩
        rw [← hL]
        exact same hlook1

theorem remTx_replay (f : ZSet → ZSet × Int) (op : FeedOp) (hf0 : ∀ z, (f z).2 ≤ 0 → (f z).1 = z)
    (hgood : ∀ z, Good (.zset z) → Good (.zset (f z).1)) (key : Bytes)
    (hap : ∀ r0, Feed.applyOp r0 now op = some (remTx f op r0 now key).1)
    (hs : Same now p r) (hl : p.listeners = true) (hfd : p.feed = [])
    (c : Feed.CallInfo) (hc : plainMethod c.method = true) (hreg : ¬ ZRemOnEmpty f (lookup p now key)) :
    Replay now r c (remTx f op p now key) ∧ (remTx f op p now key).1.listeners = true ∧
    ∀ o ∈ (remTx f op p now key).1.feed.reverse, o.key = op.key := by
  obtain ⟨i1, l1, f1⟩ := remTx_spec f op hf0 hgood hs.invP key hreg
  have f1' := f1 hl
  have hfeed : (remTx f op p now key).1.feed = _ := (fl_eq f1').1
  refine ⟨?_, (fl_eq f1').2, ?_⟩
  · unfold Replay
    rw [emission_plain hc, hfeed, hfd]
    simp only [List.append_nil, List.reverse_reverse]
    refine main_of i1 l1 ?_ ?_
    · intro k e
      by_cases hk : k = key
      · subst hk
        rw [upd_same]
        cases hL : lookup p now k with
        | none => simp [remPost]
        | some cc =>
          obtain ⟨v, e0⟩ := cc
          have := hs.nonil k e0
          cases v <;> simp only [remPost] <;> first | exact absurd hL this | (try split) <;> (try split) <;> simp
      · rw [upd_other _ _ _ hk]; exact hs.nonil k e
    · have hK : lookup r now = lookup p now := funext hs.look
      have hregR : ¬ ZRemOnEmpty f (lookup r now key) := by rw [hK]; exact hreg
      obtain ⟨i2, l2, _⟩ := remTx_spec f op hf0 hgood hs.invR key hregR
      rw [hK] at l2
      cases hL : lookup p now key with
      | none =>
        simp only [remOps, remPost]
        rw [← hL, upd_self, ← hK]; exact Replays.nil hs.invR
      | some cc =>
        obtain ⟨v, e⟩ := cc
        cases v with
        | zset z =>
          by_cases hr : (f z).2 > 0
          · have : remOps f op (some (.zset z, e)) = [op] := by simp [remOps, hr]
            rw [this]
            rw [hL] at l2
            exact ⟨_, (applyAll_one r now op).trans (hap r), i2, l2⟩
          · have h1 : remOps f op (some (.zset z, e)) = [] := by simp [remOps, hr]
            have h2 : remPost f (some (.zset z, e)) = some (.zset z, e) := by simp [remPost, hr]
            rw [h1, h2, ← hL, upd_self, ← hK]; exact Replays.nil hs.invR
        | _ =>
          all_goals
            simp only [remOps, remPost]
            rw [← hL, upd_self, ← hK]; exact Replays.nil hs.invR
  · intro o ho
    rw [hfeed, hfd] at ho
    simp only [List.append_nil, List.reverse_reverse] at ho
    unfold remOps at ho
    split at ho
    · split at ho
      · simp at ho; rw [ho]
      · cases ho
    · cases ho

theorem remStep_mono (ms : List Bytes) : ∀ (acc : ZSet × Int),
    acc.2 ≤ (ms.foldl C04.remStep acc).2 ∧
    ((ms.foldl C04.remStep acc).2 ≤ acc.2 → (ms.foldl C04.remStep acc).1 = acc.1) ∧
    (∀ q ∈ (ms.foldl C04.remStep acc).1.dict, q ∈ acc.1.dict) := by
  induction ms with
  | nil => intro acc; exact ⟨Int.le_refl _, fun _ => rfl, fun _ h => h⟩
  | cons m rest ih =>
    intro acc
    simp only [List.foldl_cons]
    obtain ⟨a, b, c⟩ := ih (C04.remStep acc m)
    unfold C04.remStep at a b c ⊢
    cases hg : AList.get? acc.1.dict m with
    | none => simp only [hg] at a b c ⊢; exact ⟨a, b, c⟩
    | some sc =>
      simp only [hg] at a b c ⊢
      refine ⟨by omega, fun h => by omega, fun q hq => ?_⟩
      exact (erase_sublist acc.1.dict m).subset (c q hq)

theorem zRem_zero (z : ZSet) (ms : List Bytes) (h : (DsZSet.zRem z ms).2 ≤ 0) : (DsZSet.zRem z ms).1 = z := by
  rw [C04.zRem_eq] at h ⊢
  exact (remStep_mono ms (z, 0)).2.1 h

theorem good_of_inv_sub {z z' : ZSet} (hg : Good (.zset z)) (hi : C04.Inv z') (hsub : ∀ q ∈ z'.dict, q ∈ z.dict) :
    Good (.zset z') :=
  ⟨(C04.wf_iff_inv _).mpr hi, fun q hq => hg.2 q (hsub q hq)⟩

theorem good_zRem (z : ZSet) (ms : List Bytes) (hg : Good (.zset z)) : Good (.zset (DsZSet.zRem z ms).1) := by
  refine good_of_inv_sub hg (C04.inv_zRem ((C04.wf_iff_inv z).mp hg.1) ms) ?_
  rw [C04.zRem_eq]
  exact (remStep_mono ms (z, 0)).2.2

theorem zRemRangeByScore_zero (z : ZSet) (min max : F64) (mode : Nat)
    (h : (DsZSet.zRemRangeByScore z min max mode).2 ≤ 0) : (DsZSet.zRemRangeByScore z min max mode).1 = z := by
  unfold DsZSet.zRemRangeByScore DsZSet.slRemoveRange at h ⊢
  simp only at h ⊢
  generalize hpre : (z.sl.takeWhile fun n => !(if mode % 2 = 1 then F64.lt min n.1 else F64.le min n.1)) = pre at h ⊢
  generalize hrem : ((z.sl.drop pre.length).takeWhile
    fun n => !(if mode / 2 % 2 = 1 then F64.le max n.1 else F64.lt max n.1)) = rem at h ⊢
  have : rem = [] := by
    cases rem with
    | nil => rfl
    | cons a t => simp only [List.length_cons] at h; omega
  subst this
  simp only [List.foldl_nil, List.length_nil, List.drop_zero]
  have : pre ++ z.sl.drop pre.length = z.sl := by rw [← hpre]; exact C04.takeWhile_append_drop _ _
  rw [this]

theorem good_zRemRangeByScore (z : ZSet) (min max : F64) (mode : Nat) (hg : Good (.zset z)) :
    Good (.zset (DsZSet.zRemRangeByScore z min max mode).1) := by
  refine good_of_inv_sub hg (C04.inv_zRemRangeByScore ((C04.wf_iff_inv z).mp hg.1) min max mode) ?_
  unfold DsZSet.zRemRangeByScore
  exact (C04.foldl_erase_sublist _ _).subset

theorem zRemRangeByRank_zero (z : ZSet) (start stop : Int)
    (h : (DsZSet.zRemRangeByRank z start stop).2 ≤ 0) : (DsZSet.zRemRangeByRank z start stop).1 = z := by
  rw [C04.zRemRangeByRank_core] at h ⊢
  unfold C04.remByRankCore at h ⊢
  split
  · rfl
  · rename_i hc
    simp only [hc, if_false] at h
    unfold DsZSet.slRemoveRangeByRank at h ⊢
    simp only at h ⊢
    generalize hi0 : (if C04.normStart (DsZSet.zCard z) start + 1 ≤ 1 then 0
      else min (C04.normStart (DsZSet.zCard z) start + 1 - 1).toNat z.sl.length) = i0 at h ⊢
    generalize hcnt : (if C04.normStop (DsZSet.zCard z) stop + 1 < (i0 : Int) + 1 then 0
      else (C04.normStop (DsZSet.zCard z) stop + 1 - i0).toNat) = cnt at h ⊢
    have hnil : (z.sl.drop i0).take cnt = [] := by
      cases hh : (z.sl.drop i0).take cnt with
      | nil => rfl
      | cons a t => rw [hh] at h; simp only [List.length_cons] at h; omega
    have hdrop : (z.sl.drop i0).drop cnt = z.sl.drop i0 := by
      have := List.take_append_drop cnt (z.sl.drop i0)
      rw [hnil] at this
      exact this
    rw [hnil, hdrop, List.take_append_drop]
    rfl

theorem good_zRemRangeByRank (z : ZSet) (start stop : Int) (hg : Good (.zset z)) :
    Good (.zset (DsZSet.zRemRangeByRank z start stop).1) := by
  refine good_of_inv_sub hg (C04.inv_zRemRangeByRank ((C04.wf_iff_inv z).mp hg.1) start stop) ?_
  rw [C04.zRemRangeByRank_core]
  unfold C04.remByRankCore
  split
  · exact fun _ h => h
  · exact (C04.foldl_erase_sublist _ _).subset

theorem zrem_main (hs : Same now p r) (hl : p.listeners = true) (hfd : p.feed = [])
    (c : Feed.CallInfo) (hc : plainMethod c.method = true) (k : Bytes) (ms : List Bytes)
    (hreg : ¬ ZRemOnEmpty (fun z => DsZSet.zRem z ms) (lookup p now k)) :
    Replay now r c (Api.zrem p now k ms) ∧ (Api.zrem p now k ms).1.listeners = true ∧
    ∀ o ∈ (Api.zrem p now k ms).1.feed.reverse, o.key = k := by
  rw [zrem_eq]
  refine remTx_replay _ (opZRem k ms) (fun z => zRem_zero z ms) (fun z => good_zRem z ms) k ?_ hs hl hfd c hc hreg
  exact fun r0 => replica_zrem r0 now k ms

theorem zremRangeByRank_main (hs : Same now p r) (hl : p.listeners = true) (hfd : p.feed = [])
    (c : Feed.CallInfo) (hc : plainMethod c.method = true) (k : Bytes) (a b : Int)
    (hreg : ¬ ZRemOnEmpty (fun z => DsZSet.zRemRangeByRank z a b) (lookup p now k)) :
    Replay now r c (Api.zremRangeByRank p now k a b) ∧ (Api.zremRangeByRank p now k a b).1.listeners = true ∧
    ∀ o ∈ (Api.zremRangeByRank p now k a b).1.feed.reverse, o.key = k := by
  rw [zremRangeByRank_eq]
  refine remTx_replay _ (opZRemRank k a b) (fun z => zRemRangeByRank_zero z a b)
    (fun z => good_zRemRangeByRank z a b) k ?_ hs hl hfd c hc hreg
  exact fun r0 => replica_zremRangeByRank r0 now k a b

theorem zremRangeByScore_main (hs : Same now p r) (hl : p.listeners = true) (hfd : p.feed = [])
    (c : Feed.CallInfo) (hc : plainMethod c.method = true) (k : Bytes) (a b : F64) (mode : Int)
    (hreg : ¬ ZRemOnEmpty (fun z => DsZSet.zRemRangeByScore z a b (mode % 4).toNat) (lookup p now k)) :
    Replay now r c (Api.zremRangeByScore p now k a b mode) ∧
    (Api.zremRangeByScore p now k a b mode).1.listeners = true ∧
    ∀ o ∈ (Api.zremRangeByScore p now k a b mode).1.feed.reverse, o.key = k := by
  rw [zremRangeByScore_eq]
  refine remTx_replay _ (opZRemScore k a b mode) (fun z => zRemRangeByScore_zero z a b _)
    (fun z => good_zRemRangeByScore z a b _) k ?_ hs hl hfd c hc hreg
  exact fun r0 => replica_zremRangeByScore r0 now k a b mode

end NodisVerif.Proofs.C20

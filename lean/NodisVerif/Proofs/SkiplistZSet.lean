import NodisVerif.Model.SkiplistZSet
import NodisVerif.Proofs.SkiplistRun
/-
  The bridge: the pointer-level sorted set of Model/SkiplistZSet.lean (dictionary + skiplist heap, the statements of
  ds/zset/sorted_set.go) refines the list-level sorted set of Model/DsZSet.lean, on which the C04 theorems are stated.
-/
namespace NodisVerif.Skiplist
open NodisVerif.DsZSet (Item nodeLt)
open NodisVerif.Proofs.C04 (ILt)
open NodisVerif.Proofs.ZSetLemmas (Good)
open NodisVerif.Proofs

namespace PZ

theorem absent_after_remove {z : ZSet} (hz : C04.Inv z) (m : Bytes) (old : F64)
    (hget : AList.get? z.dict m = some old) : ∀ x ∈ DsZSet.slRemove z.sl m old, x.2 ≠ m := by
  have hold : (old, m) ∈ z.sl := (hz.get_iff old m).mp hget
  intro a ha e
  obtain ⟨s', m'⟩ := a
  simp only at e
  subst e
  have ha' := (C04.mem_slRemove m' old (s', m') z.sl hz.slPW hz.good hold).mp ha
  have := hz.member_unique s' old m' ha'.1 hold
  subst this
  exact ha'.2 rfl

end PZ

/-- the invariant of the pointer-level sorted set: the skiplist invariant plus the list-level sorted-set invariant of
    its abstraction -/
def PZInv (p : PZSet) : Prop := Inv p.sl ∧ C04.Inv p.toZSet

theorem toZSet_empty : PZSet.empty.toZSet = DsZSet.empty := by
  simp [PZSet.empty, PZSet.toZSet, abs_makeSkiplist, DsZSet.empty]

theorem pzInv_empty : PZInv PZSet.empty :=
  ⟨makeSkiplist_inv, by rw [toZSet_empty]; exact C04.inv_empty⟩


theorem pzAdd_spec {p : PZSet} (h : PZInv p) (m : Bytes) (s : F64) (lvl : Nat)
    (hl1 : 1 ≤ lvl) (hl2 : lvl ≤ maxLevel) (hs : F64.isNaN s = false)
    {P : SL → Prop} (hI : InsertInv P) (hP : StepInv P) (h0 : P p.sl) :
    ∃ p' r, pzAdd p m s lvl = .ok (p', r) ∧ PZInv p' ∧ P p'.sl ∧ (p'.toZSet, r) = DsZSet.zAdd p.toZSet m s := by
  obtain ⟨hp, hz⟩ := h
  have hd : p.toZSet.dict = p.dict := rfl
  -- the sorted-set invariant of the result is that of `zAdd` on the list level
  suffices ∃ p' r, pzAdd p m s lvl = .ok (p', r) ∧ Inv p'.sl ∧ P p'.sl ∧ (p'.toZSet, r) = DsZSet.zAdd p.toZSet m s by
    obtain ⟨p', r, he, hi, hp', ha⟩ := this
    have := C04.inv_zAdd hz m s hs
    rw [← ha] at this
    exact ⟨p', r, he, ⟨hi, this⟩, hp', ha⟩
  unfold pzAdd DsZSet.zAdd
  rw [hd]
  cases hget : AList.get? p.dict m with
  | none =>
    simp only
    have hnot := hz.not_mem_of_get?_none m (by rw [hd]; exact hget)
    obtain ⟨sl', he, hi, ha⟩ := insert_refines hp m s lvl hl1 hl2 hs hnot
    refine ⟨{ dict := AList.set p.dict m s, sl := sl' }, 1, ?_, hi, hI hp h0 ⟨hl1, hl2, hs, hnot⟩ he, ?_⟩
    · simp [he, bind, Except.bind, pure, Except.pure]
    · simp [PZSet.toZSet, ha]
  | some old =>
    simp only
    by_cases heq : F64.eq s old = true
    · rw [if_pos heq, if_pos heq]
      exact ⟨p, 0, rfl, hp, h0, rfl⟩
    · rw [if_neg heq, if_neg heq]
      obtain ⟨sl1, b, he1, hi1, hp1, ha1, _⟩ := remove_spec hp m old hP h0
      have hnot : ∀ x ∈ abs sl1, x.2 ≠ m := by
        rw [ha1]
        exact PZ.absent_after_remove hz m old (by rw [hd]; exact hget)
      obtain ⟨sl2, he2, hi2, ha2⟩ := insert_refines hi1 m s lvl hl1 hl2 hs hnot
      refine ⟨{ dict := AList.set p.dict m s, sl := sl2 }, 0, ?_, hi2, hI hi1 hp1 ⟨hl1, hl2, hs, hnot⟩ he2, ?_⟩
      · simp [he1, he2, bind, Except.bind, pure, Except.pure]
      · simp [PZSet.toZSet, ha2, ha1]

theorem pzRemOne_spec {acc : PZSet × Int} (h : PZInv acc.1) (m : Bytes) {P : SL → Prop} (hP : StepInv P)
    (h0 : P acc.1.sl) :
    ∃ acc', pzRemOne acc m = .ok acc' ∧ PZInv acc'.1 ∧ P acc'.1.sl ∧
      (acc'.1.toZSet, acc'.2) = C04.remStep (acc.1.toZSet, acc.2) m := by
  unfold pzRemOne C04.remStep
  have hd : acc.1.toZSet.dict = acc.1.dict := rfl
  simp only [hd]
  cases hget : AList.get? acc.1.dict m with
  | none => exact ⟨acc, rfl, h, h0, rfl⟩
  | some sc =>
    simp only
    obtain ⟨sl1, b, he1, hi1, hp1, ha1, _⟩ := remove_spec h.1 m sc hP h0
    refine ⟨({ dict := AList.erase acc.1.dict m, sl := sl1 }, acc.2 + 1), ?_, ⟨hi1, ?_⟩, hp1, ?_⟩
    · simp [he1, bind, Except.bind, pure, Except.pure]
    · have := C04.inv_zRem_step h.2 m sc (by rw [hd]; exact hget)
      simpa [PZSet.toZSet, ha1] using this
    · simp [PZSet.toZSet, ha1]

theorem pzRemLoop_spec {P : SL → Prop} (hP : StepInv P) : ∀ (ms : List Bytes) {acc : PZSet × Int}, PZInv acc.1 →
    P acc.1.sl → ∃ acc', pzRemLoop acc ms = .ok acc' ∧ PZInv acc'.1 ∧ P acc'.1.sl ∧
      (acc'.1.toZSet, acc'.2) = ms.foldl C04.remStep (acc.1.toZSet, acc.2) := by
  intro ms
  induction ms with
  | nil => intro acc h h0; exact ⟨acc, rfl, h, h0, rfl⟩
  | cons m ms ih =>
    intro acc h h0
    obtain ⟨acc1, he1, hi1, hp1, ha1⟩ := pzRemOne_spec h m hP h0
    obtain ⟨acc2, he2, hi2, hp2, ha2⟩ := ih hi1 hp1
    refine ⟨acc2, ?_, hi2, hp2, ?_⟩
    · simp [pzRemLoop, he1, bind, Except.bind, he2]
    · rw [ha2, ha1]; rfl

/-- `ZRem(members...)` -/
theorem pzRem_spec {p : PZSet} (h : PZInv p) (ms : List Bytes) {P : SL → Prop} (hP : StepInv P) (h0 : P p.sl) :
    ∃ p' r, pzRem p ms = .ok (p', r) ∧ PZInv p' ∧ P p'.sl ∧ (p'.toZSet, r) = DsZSet.zRem p.toZSet ms := by
  obtain ⟨acc', he, hi, hp', ha⟩ := pzRemLoop_spec hP ms (acc := (p, 0)) h h0
  exact ⟨acc'.1, acc'.2, he, hi, hp', by rw [C04.zRem_eq]; exact ha⟩

theorem pzRemRangeByScore_spec {p : PZSet} (h : PZInv p) (min max : F64) (mode : Nat) {P : SL → Prop}
    (hP : StepInv P) (h0 : P p.sl) :
    ∃ p' r, pzRemRangeByScore p min max mode = .ok (p', r) ∧ PZInv p' ∧ P p'.sl ∧
      (p'.toZSet, r) = DsZSet.zRemRangeByScore p.toZSet min max mode := by
  obtain ⟨sl', rem, he, hi, hp', ha⟩ := removeRange_spec h.1 min max 0 mode hP h0
  rw [if_pos (Int.le_refl 0)] at ha
  have heq : (({ dict := rem.foldl (fun d it => AList.erase d it.2) p.dict, sl := sl' } : PZSet).toZSet, (rem.length : Int))
      = DsZSet.zRemRangeByScore p.toZSet min max mode := by
    unfold DsZSet.zRemRangeByScore
    have hsl : p.toZSet.sl = abs p.sl := rfl
    rw [hsl, ← ha]
    rfl
  refine ⟨_, _, ?_, ⟨hi, ?_⟩, hp', heq⟩
  · simp [pzRemRangeByScore, he, bind, Except.bind, pure, Except.pure]
  · have := C04.inv_zRemRangeByScore h.2 min max mode
    rw [← heq] at this
    exact this

/-- `ZRemRangeByRank` after its index normalisation (the pointer-level twin of `C04.remByRankCore`) -/
def PZ.remByRankCore (p : PZSet) (s e : Int) : M (PZSet × Int) :=
  if s > e ∨ s ≥ pzCard p then pure (p, 0) else do
  let (sl, removed) ← removeRangeByRank p.sl (s + 1) (e + 1)
  pure ({ dict := removed.foldl (fun d it => AList.erase d it.2) p.dict, sl := sl }, removed.length)

theorem PZ.remByRankCore_spec {p : PZSet} (hp : Inv p.sl) (s e : Int) {P : SL → Prop} (hP : StepInv P) (h0 : P p.sl) :
    ∃ p' r, PZ.remByRankCore p s e = .ok (p', r) ∧ Inv p'.sl ∧ P p'.sl ∧
      (p'.toZSet, r) = C04.remByRankCore p.toZSet s e := by
  have hcard : DsZSet.zCard p.toZSet = pzCard p := rfl
  have hsl : p.toZSet.sl = abs p.sl := rfl
  unfold PZ.remByRankCore C04.remByRankCore
  rw [hcard]
  by_cases hc : s > e ∨ s ≥ pzCard p
  · rw [if_pos hc, if_pos hc]
    exact ⟨p, 0, rfl, hp, h0, rfl⟩
  · rw [if_neg hc, if_neg hc]
    obtain ⟨sl', rem, he, hi, hp', ha⟩ := removeRangeByRank_spec hp (s + 1) (e + 1) hP h0
    refine ⟨{ dict := rem.foldl (fun d it => AList.erase d it.2) p.dict, sl := sl' }, rem.length, ?_, hi, hp', ?_⟩
    · simp [he, bind, Except.bind, pure, Except.pure]
    · rw [hsl, ← ha]
      rfl

theorem pzRemRangeByRank_spec {p : PZSet} (h : PZInv p) (start stop : Int) {P : SL → Prop} (hP : StepInv P)
    (h0 : P p.sl) :
    ∃ p' r, pzRemRangeByRank p start stop = .ok (p', r) ∧ PZInv p' ∧ P p'.sl ∧
      (p'.toZSet, r) = DsZSet.zRemRangeByRank p.toZSet start stop := by
  have hcard : DsZSet.zCard p.toZSet = pzCard p := rfl
  obtain ⟨p', r, he, hi, hp', ha⟩ :=
    PZ.remByRankCore_spec h.1 (C04.normStart (pzCard p) start) (C04.normStop (pzCard p) stop) hP h0
  rw [← hcard, ← C04.zRemRangeByRank_core] at ha
  refine ⟨p', r, he, ⟨hi, ?_⟩, hp', ha⟩
  have := C04.inv_zRemRangeByRank h.2 start stop
  rw [← ha] at this
  exact this

theorem pzGetRank_refines {p : PZSet} (h : PZInv p) (m : Bytes) (desc : Bool) :
    pzGetRank p m desc = .ok (DsZSet.getRank p.toZSet m desc) := by
  unfold pzGetRank DsZSet.getRank
  have hd : p.toZSet.dict = p.dict := rfl
  have hsl : p.toZSet.sl = abs p.sl := rfl
  rw [hd]
  cases hget : AList.get? p.dict m with
  | none => rfl
  | some sc =>
    simp only
    have hold : (sc, m) ∈ abs p.sl := (h.2.get_iff sc m).mp (by rw [hd]; exact hget)
    have hgood : F64.isNaN sc = false := h.2.good (sc, m) hold
    have hscore : ∀ x ∈ abs p.sl, x.2 = m → F64.eq x.1 sc = true := by
      intro x hx hxm
      obtain ⟨s', m'⟩ := x
      simp only at hxm
      subst hxm
      have := h.2.member_unique s' sc m' hx hold
      subst this
      simp [F64.eq, hgood]
    rw [getRank_spec_of_score h.1 m sc hscore, hsl, inv_length h.1]
    rfl

/-- `ZRank` (`desc := false`) and `ZRevRank` (`desc := true`) -/
theorem pzRankBy_refines {p : PZSet} (h : PZInv p) (m : Bytes) (desc : Bool) :
    (if AList.contains p.dict m then pzGetRank p m desc >>= fun r => pure (some r) else pure none) =
      (.ok (if AList.contains p.toZSet.dict m then some (DsZSet.getRank p.toZSet m desc) else none) :
        M (Option Int)) := by
  have hd : p.toZSet.dict = p.dict := rfl
  rw [hd]
  split
  · simp [pzGetRank_refines h, bind, Except.bind, pure, Except.pure]
  · rfl

theorem pzRank_refines {p : PZSet} (h : PZInv p) (m : Bytes) :
    pzRank p m = .ok (DsZSet.zRank p.toZSet m) :=
  pzRankBy_refines h m false

theorem pzRevRank_refines {p : PZSet} (h : PZInv p) (m : Bytes) :
    pzRevRank p m = .ok (DsZSet.zRevRank p.toZSet m) :=
  pzRankBy_refines h m true

/-- the operations of the sorted set that touch the skiplist (four mutating ones, one query) -/
inductive PZOp
  | add (m : Bytes) (s : F64) (lvl : Nat)              -- `zAdd`; `lvl` = the level drawn by `randomLevel()`
  | rem (ms : List Bytes)                              -- `ZRem`
  | remRangeByScore (min max : F64) (mode : Nat)       -- `ZRemRangeByScore`
  | remRangeByRank (start stop : Int)                  -- `ZRemRangeByRank`
  | rank (m : Bytes) (desc : Bool)                     -- `getRank` (`ZRank` / `ZRevRank`); the state is unchanged

/-- one operation on the pointer structure, with its integer reply -/
def pzStep (p : PZSet) : PZOp → M (PZSet × Int)
  | .add m s lvl => pzAdd p m s lvl
  | .rem ms => pzRem p ms
  | .remRangeByScore a b mode => pzRemRangeByScore p a b mode
  | .remRangeByRank a b => pzRemRangeByRank p a b
  | .rank m desc => do
    let r ← pzGetRank p m desc
    pure (p, r)

/-- the same operation on the list-level model of Model/DsZSet.lean -/
def zStep (z : ZSet) : PZOp → ZSet × Int
  | .add m s _ => DsZSet.zAdd z m s
  | .rem ms => DsZSet.zRem z ms
  | .remRangeByScore a b mode => DsZSet.zRemRangeByScore z a b mode
  | .remRangeByRank a b => DsZSet.zRemRangeByRank z a b
  | .rank m desc => (z, DsZSet.getRank z m desc)

/-- a run on the pointer structure: final state and the replies in order -/
def pzRun : PZSet → List PZOp → M (PZSet × List Int)
  | p, [] => pure (p, [])
  | p, op :: ops => do
    let (p', r) ← pzStep p op
    let (p'', rs) ← pzRun p' ops
    pure (p'', r :: rs)

/-- the same run on the list-level model -/
def zRun : ZSet → List PZOp → ZSet × List Int
  | z, [] => (z, [])
  | z, op :: ops => ((zRun (zStep z op).1 ops).1, (zStep z op).2 :: (zRun (zStep z op).1 ops).2)

/-- what the callers guarantee: a level in 1..16 (what `randomLevel` returns) and no NaN score (the command layer
    rejects NaN before `ZAdd`) -/
def PZOpOk : PZOp → Prop
  | .add _ s lvl => 1 ≤ lvl ∧ lvl ≤ maxLevel ∧ F64.isNaN s = false
  | _ => True

theorem pzStep_spec {p : PZSet} (h : PZInv p) (op : PZOp) (hok : PZOpOk op) {P : SL → Prop} (hI : InsertInv P)
    (hP : StepInv P) (h0 : P p.sl) :
    ∃ p' r, pzStep p op = .ok (p', r) ∧ PZInv p' ∧ P p'.sl ∧ (p'.toZSet, r) = zStep p.toZSet op := by
  cases op with
  | add m s lvl => exact pzAdd_spec h m s lvl hok.1 hok.2.1 hok.2.2 hI hP h0
  | rem ms => exact pzRem_spec h ms hP h0
  | remRangeByScore a b mode => exact pzRemRangeByScore_spec h a b mode hP h0
  | remRangeByRank a b => exact pzRemRangeByRank_spec h a b hP h0
  | rank m desc =>
    refine ⟨p, DsZSet.getRank p.toZSet m desc, ?_, h, h0, rfl⟩
    simp [pzStep, pzGetRank_refines h, bind, Except.bind, pure, Except.pure]

/-- from any state satisfying the invariant: no operation of the run panics or runs out of fuel, the final state
    satisfies the skiplist invariant, the sorted-set invariant (and any predicate of the skiplist that `insert` and single
    removals keep), its list-level view and all the replies are those of the run of the `DsZSet` functions -/
theorem pz_run_spec {P : SL → Prop} (hI : InsertInv P) (hP : StepInv P) : ∀ (ops : List PZOp) {p : PZSet}, PZInv p →
    P p.sl → (∀ op ∈ ops, PZOpOk op) →
    ∃ p' rs, pzRun p ops = .ok (p', rs) ∧ PZInv p' ∧ P p'.sl ∧ (p'.toZSet, rs) = zRun p.toZSet ops := by
  intro ops
  induction ops with
  | nil => intro p h h0 _; exact ⟨p, [], rfl, h, h0, rfl⟩
  | cons op ops ih =>
    intro p h h0 hok
    obtain ⟨p1, r, he1, hi1, hp1, ha1⟩ := pzStep_spec h op (hok op (by simp)) hI hP h0
    obtain ⟨p2, rs, he2, hi2, hp2, ha2⟩ := ih hi1 hp1 (fun o ho => hok o (by simp [ho]))
    refine ⟨p2, r :: rs, ?_, hi2, hp2, ?_⟩
    · simp [pzRun, he1, he2, bind, Except.bind, pure, Except.pure]
    · have e1 : (zStep p.toZSet op).1 = p1.toZSet := by rw [← ha1]
      have e2 : (zStep p.toZSet op).2 = r := by rw [← ha1]
      simp only [zRun, e1, e2, ← ha2]


theorem pzAdd_inv {p : PZSet} (h : PZInv p) (m : Bytes) (s : F64) (lvl : Nat)
    (hl1 : 1 ≤ lvl) (hl2 : lvl ≤ maxLevel) (hs : F64.isNaN s = false) :
    ∃ p' r, pzAdd p m s lvl = .ok (p', r) ∧ PZInv p' ∧ (p'.toZSet, r) = DsZSet.zAdd p.toZSet m s := by
  obtain ⟨p', r, he, hi, _, ha⟩ := pzAdd_spec h m s lvl hl1 hl2 hs insertInv_true stepInv_true trivial
  exact ⟨p', r, he, hi, ha⟩

theorem pzRem_refines {p : PZSet} (h : PZInv p) (ms : List Bytes) :
    ∃ p' r, pzRem p ms = .ok (p', r) ∧ PZInv p' ∧ (p'.toZSet, r) = DsZSet.zRem p.toZSet ms := by
  obtain ⟨p', r, he, hi, _, ha⟩ := pzRem_spec h ms stepInv_true trivial
  exact ⟨p', r, he, hi, ha⟩

theorem pzRemRangeByScore_refines {p : PZSet} (h : PZInv p) (min max : F64) (mode : Nat) :
    ∃ p' r, pzRemRangeByScore p min max mode = .ok (p', r) ∧ PZInv p' ∧
      (p'.toZSet, r) = DsZSet.zRemRangeByScore p.toZSet min max mode := by
  obtain ⟨p', r, he, hi, _, ha⟩ := pzRemRangeByScore_spec h min max mode stepInv_true trivial
  exact ⟨p', r, he, hi, ha⟩

theorem pzRemRangeByRank_refines {p : PZSet} (h : PZInv p) (start stop : Int) :
    ∃ p' r, pzRemRangeByRank p start stop = .ok (p', r) ∧ PZInv p' ∧
      (p'.toZSet, r) = DsZSet.zRemRangeByRank p.toZSet start stop := by
  obtain ⟨p', r, he, hi, _, ha⟩ := pzRemRangeByRank_spec h start stop stepInv_true trivial
  exact ⟨p', r, he, hi, ha⟩

/-- from `NewSortedSet()`: any finite sequence of operations with NaN-free scores and levels in 1..16 -/
theorem pz_run (ops : List PZOp) (hok : ∀ op ∈ ops, PZOpOk op) :
    ∃ p rs, pzRun PZSet.empty ops = .ok (p, rs) ∧ Inv p.sl ∧ C04.Inv p.toZSet ∧
      (p.toZSet, rs) = zRun DsZSet.empty ops := by
  obtain ⟨p, rs, he, hi, _, ha⟩ := pz_run_spec insertInv_true stepInv_true ops pzInv_empty trivial hok
  rw [toZSet_empty] at ha
  exact ⟨p, rs, he, hi.1, hi.2, ha⟩

theorem pz_run_prefix (ops : List PZOp) (hok : ∀ op ∈ ops, PZOpOk op) (k : Nat) :
    ∃ p rs, pzRun PZSet.empty (ops.take k) = .ok (p, rs) ∧ Inv p.sl ∧ C04.Inv p.toZSet ∧
      (p.toZSet, rs) = zRun DsZSet.empty (ops.take k) :=
  pz_run (ops.take k) (fun op ho => hok op (List.mem_of_mem_take ho))

end NodisVerif.Skiplist

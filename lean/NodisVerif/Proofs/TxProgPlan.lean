import NodisVerif.Model.TxProg
/-
  Insertion into a lock plan keeps the keys strictly increasing.  Hence `lockKeys` produces a strictly increasing list
  and `Call.begin (lockPlan write read)` is always a command of the program model.
-/
namespace NodisVerif.Proofs.TxProg
open NodisVerif.Proto (Key)
open NodisVerif.TxProg

theorem sortedKeys_cons_iff (a b : Key) (l : List Key) :
    sortedKeys (a :: b :: l) = true ↔ a < b ∧ sortedKeys (b :: l) = true := by
  simp [sortedKeys]

theorem insertItem_head (k : Key) (w : Bool) (l : List PlanItem) :
    ∃ x rest, insertItem k w l = x :: rest ∧ (x.1 = k ∨ ∃ y ys, l = y :: ys ∧ x.1 = y.1) := by
  cases l with
  | nil => exact ⟨_, _, rfl, Or.inl rfl⟩
  | cons y ys =>
    obtain ⟨k', w', p'⟩ := y
    simp only [insertItem]
    split
    · exact ⟨_, _, rfl, Or.inl rfl⟩
    · split
      · exact ⟨_, _, rfl, Or.inr ⟨_, _, rfl, rfl⟩⟩
      · exact ⟨_, _, rfl, Or.inr ⟨_, _, rfl, rfl⟩⟩

theorem insertItem_sorted (k : Key) (w : Bool) (l : List PlanItem) (h : sortedPlan l = true) :
    sortedPlan (insertItem k w l) = true := by
  induction l with
  | nil => simp [insertItem, sortedPlan, sortedKeys]
  | cons y ys ih =>
    obtain ⟨k', w', p'⟩ := y
    simp only [insertItem]
    split
    · rename_i hlt
      simp only [sortedPlan, List.map_cons] at h ⊢
      exact (sortedKeys_cons_iff _ _ _).2 ⟨hlt, h⟩
    · rename_i hnlt
      split
      · simpa [sortedPlan] using h
      · rename_i hne
        have hgt : k' < k := Std.lt_of_le_of_ne (String.not_lt.1 hnlt) (fun e => hne e.symm)
        have htail : sortedPlan ys = true := by
          simp only [sortedPlan, List.map_cons] at h ⊢
          cases hm : ys.map (·.1) with
          | nil => rfl
          | cons b bs => rw [hm] at h; exact ((sortedKeys_cons_iff _ _ _).1 h).2
        have ih' := ih htail
        obtain ⟨x, rest, hx, hhead⟩ := insertItem_head k w ys
        rw [hx] at ih' ⊢
        simp only [sortedPlan, List.map_cons] at ih' ⊢
        refine (sortedKeys_cons_iff _ _ _).2 ⟨?_, ih'⟩
        rcases hhead with e | ⟨y, ys', hys, e⟩
        · rw [e]; exact hgt
        · rw [e]
          subst hys
          simp only [sortedPlan, List.map_cons] at h
          exact ((sortedKeys_cons_iff _ _ _).1 h).1

theorem foldl_insert_sorted (w : Bool) (ks : List Key) (acc : List PlanItem) (h : sortedPlan acc = true) :
    sortedPlan (ks.foldl (fun acc k => insertItem k w acc) acc) = true := by
  induction ks generalizing acc with
  | nil => exact h
  | cons k ks ih => exact ih _ (insertItem_sorted k w acc h)

example : lockPlan ["b", "a"] ["c", "a"] = [("a", true, true), ("b", true, true), ("c", false, true)] := by decide +kernel

end NodisVerif.Proofs.TxProg

import NodisVerif.Proofs.SkiplistSpecs
/-
  `getByRank` and `getRank` of ds/zset/skiplist.go (Model/Skiplist.lean) against the chain / the list model.
-/
namespace NodisVerif.Skiplist
open NodisVerif.DsZSet (Item nodeLt)
open NodisVerif.Proofs.C04 (ILt)
open NodisVerif.Proofs.ZSetLemmas (Good itemLt_iff)

theorem condUpTo_byRank (sl : SL) (c : List Nat) (r : Int) : CondUpTo sl c (byRankCond r) r.toNat := by
  intro q n nd _ _ hq
  simp only [byRankCond]
  congr 1
  apply propext
  omega

/-- one iteration of a level loop around `walk` -/
theorem walk_step {sl : SL} {c : List Nat} (hc : IsChain sl c) (cond : Node → Int → Bool) (k : Nat)
    (hcond : CondUpTo sl c cond k) (l : Nat) (A : List Nat) (u : Nat) (B : List Nat)
    (hsplit : 0 :: c = A ++ u :: B) (hu : above sl.heap l u = true) (hA : A.length ≤ k) :
    ∃ A' u' B' B'', (0 :: c).take (k + 1) = A' ++ u' :: B' ∧ 0 :: c = A' ++ u' :: B'' ∧ above sl.heap l u' = true ∧
      (∀ y ∈ B', above sl.heap l y = false) ∧ A.length ≤ A'.length ∧ A'.length ≤ k ∧
      (l = 0 → A'.length = min k c.length) ∧
      walk sl.heap l cond (sl.heap.length + 1) u (A.length : Int) = .ok (u', (A'.length : Int)) := by
  have hlen : A.length + 1 + B.length = c.length + 1 := by
    have := congrArg List.length hsplit; simp at this; omega
  obtain ⟨A', u', B', hP, hu', hB', hAA', hw⟩ :=
    walk_spec hc cond k hcond l A u B hsplit hu hA (sl.heap.length + 1) (by have := hc.size; omega)
  have hPl := congrArg List.length hP
  simp at hPl
  refine ⟨A', u', B', _, hP, split_of_take hP, hu', hB', hAA', by omega, ?_, hw⟩
  intro hl
  subst hl
  have : B' = [] := by
    cases B' with
    | nil => rfl
    | cons y ys =>
      have hy : y ∈ 0 :: c := by
        rw [split_of_take hP]; simp
      have := hB' y (by simp)
      rw [above_zero_of_mem hc hy] at this
      cases this
  subst this
  simp at hPl
  omega

/-- the level loop of `getByRank` with `j` levels to go; when none is left the walk of level 0 has ended on the last
    node at a position `≤ r` without reaching `r`, so `r` is beyond the chain -/
theorem getByRankLoop_spec {sl : SL} {c : List Nat} (hc : IsChain sl c) (r : Int) :
    ∀ (j : Nat) (A : List Nat) (u : Nat) (B : List Nat), 0 :: c = A ++ u :: B →
      (∀ i, i < j → above sl.heap i u = true) → A.length ≤ r.toNat →
      (j = 0 → A.length = min r.toNat c.length ∧ (A.length : Int) ≠ r) →
      getByRankLoop sl.heap r j u (A.length : Int) = .ok (if r < 0 then none else (0 :: c)[r.toNat]?) := by
  intro j
  induction j with
  | zero =>
    intro A u B _ _ _ h0
    obtain ⟨h0, hr⟩ := h0 rfl
    rw [getByRankLoop]
    simp only [pure, Except.pure]
    by_cases hneg : r < 0
    · rw [if_pos hneg]
    · rw [if_neg hneg]
      have : c.length < r.toNat := by omega
      simp
      omega
  | succ l ih =>
    intro A u B hsplit hu hA _
    obtain ⟨A', u', B', B'', hP, hsplit', hu', hB', hAA', hA', h0, hw⟩ :=
      walk_step hc (byRankCond r) r.toNat (condUpTo_byRank sl c r) l A u B hsplit (hu l (Nat.lt_succ_self l)) hA
    have hget : (0 :: c)[A'.length]? = some u' := by rw [hsplit']; simp
    rw [getByRankLoop, hw]
    simp only [bind, Except.bind, pure, Except.pure]
    by_cases hr : (A'.length : Int) = r
    · rw [if_pos hr]
      have : r.toNat = A'.length := hr ▸ Int.toNat_natCast _
      rw [this, hget, if_neg (by omega)]
    · rw [if_neg hr]
      exact ih A' u' B'' hsplit' (fun i hi => above_mono _ l i u' (by omega) hu') hA' (fun hl => ⟨h0 hl, hr⟩)

/-- `getByRank(r)`: `r = 0` → the header (index 0), `1 ≤ r ≤ length` → node `r` of the chain, otherwise nil -/
theorem getByRank_spec {sl : SL} {c : List Nat} (hc : IsChain sl c) (r : Int) :
    getByRank sl r = .ok (if r < 0 then none else if r = 0 then some 0 else c[r.toNat - 1]?) := by
  have := getByRankLoop_spec hc r sl.level [] 0 c rfl (header_above hc) (by simp)
    (fun h => by have := hc.levelLo; omega)
  simp only [List.length_nil, Int.natCast_zero] at this
  rw [getByRank, this]
  by_cases hneg : r < 0
  · simp [hneg]
  · by_cases h0 : r = 0
    · simp [h0]
    · obtain ⟨n, hn⟩ : ∃ n, r.toNat = n + 1 := ⟨r.toNat - 1, by omega⟩
      simp [hneg, h0, hn]

/-- the loop condition of `getRank` on items -/
def rankP (m : Bytes) (s : F64) (n : Item) : Bool := F64.lt n.1 s || (F64.eq n.1 s && Bytes.le n.2 m)

theorem rankP_nan (m : Bytes) (s : F64) (n : Item) (hs : F64.isNaN s = true) : rankP m s n = false := by
  simp [rankP, F64.lt, F64.eq, hs]

theorem rankP_iff (m : Bytes) (s : F64) (n : Item) (hs : F64.isNaN s = false) (hn : Good n) :
    rankP m s n = true ↔ F64.key n.1 < F64.key s ∨ (F64.key n.1 = F64.key s ∧ Bytes.lt m n.2 = false) := by
  unfold Good at hn
  simp [rankP, F64.lt, F64.eq, Bytes.le, hs, hn]

theorem rankP_down (m : Bytes) (s : F64) (a b : Item) (ha : Good a) (hb : Good b) (hab : ILt a b)
    (hpb : rankP m s b = true) : rankP m s a = true := by
  cases hs : F64.isNaN s with
  | true => rw [rankP_nan m s b hs] at hpb; cases hpb
  | false =>
    rw [rankP_iff m s _ hs hb] at hpb
    rw [rankP_iff m s _ hs ha]
    have hab' := (itemLt_iff a b ha hb).1 hab
    rcases hab' with h1 | ⟨h1, h1'⟩ <;> rcases hpb with h2 | ⟨h2, h2'⟩
    · left; omega
    · left; omega
    · left; omega
    · right
      refine ⟨by omega, ?_⟩
      cases h : Bytes.lt m a.2 with
      | false => rfl
      | true =>
        have := NodisVerif.Proofs.AListLemmas.lt_trans _ _ _ h h1'
        rw [this] at h2'; cases h2'

theorem heap_of_mem {sl : SL} {c : List Nat} (hc : IsChain sl c) {y : Nat} (hy : y ∈ 0 :: c) :
    ∃ nd, sl.heap[y]? = some nd := by
  have : y < sl.heap.length := by
    rcases List.mem_cons.1 hy with rfl | hy
    · have := hc.size; omega
    · exact hc.bound y hy
  exact ⟨sl.heap[y], by simp [this]⟩

theorem pos_zero_iff {sl : SL} {c : List Nat} (hc : IsChain sl c) {q u : Nat} (h : (0 :: c)[q]? = some u) :
    u = 0 ↔ q = 0 := by
  have hnd := hc.nodup
  rw [List.nodup_cons] at hnd
  cases q with
  | zero => simp at h; simp [h]
  | succ q =>
    simp at h
    have : u ∈ c := List.mem_of_getElem? h
    constructor
    · intro h0; subst h0; exact absurd this hnd.1
    · intro h0; cases h0

theorem slGetRank_eq (L : List Item) (m : Bytes) (s : F64) :
    DsZSet.slGetRank L m s =
      match (L.takeWhile (rankP m s)).getLast? with
      | some n => if n.2 = m then ((L.takeWhile (rankP m s)).length : Int) else 0
      | none => 0 := rfl

theorem takeWhile_getLast? {α : Type} (p : α → Bool) (L : List α) :
    (L.takeWhile p).getLast? = if (L.takeWhile p).length = 0 then none else L[(L.takeWhile p).length - 1]? := by
  have hpre := (Proofs.C04.take_takeWhile_length p L).symm
  rw [List.getLast?_eq_getElem?]
  by_cases h0 : (L.takeWhile p).length = 0
  · rw [if_pos h0]; simp [List.length_eq_zero_iff.1 h0]
  · rw [if_neg h0]
    conv => lhs; rw [hpre]
    rw [List.getElem?_take]
    rw [← hpre, if_pos (by omega)]

theorem condUpTo_rank {sl : SL} {c : List Nat} (hc : IsChain sl c) (m : Bytes) (s : F64) :
    CondUpTo sl c (rankCond m s) ((c.map (itemAt sl.heap)).takeWhile (rankP m s)).length :=
  condUpTo_of_downclosed hc (rankP m s) (rankP_down m s)

theorem mem_dropLast_takeWhile {α : Type} (p : α → Bool) (L : List α) (j : Nat) (x : α) (hx : L[j]? = some x)
    (hj : j + 1 < (L.takeWhile p).length) : x ∈ (L.takeWhile p).dropLast := by
  have hpre := (Proofs.C04.take_takeWhile_length p L).symm
  apply List.mem_of_getElem? (i := j)
  rw [List.dropLast_eq_take, List.getElem?_take, if_pos (by omega), hpre, List.getElem?_take, if_pos (by omega), hx]

/-- `u` (at position `|A|`) is the last node among the chain positions `0..k` that takes part in level `i` -/
def Stop (sl : SL) (c : List Nat) (k i : Nat) (A : List Nat) (u : Nat) (B : List Nat) : Prop :=
  (0 :: c).take (k + 1) = A ++ u :: B ∧ above sl.heap i u = true ∧ ∀ y ∈ B, above sl.heap i y = false

/-- the member test of `getRank` fails on the stopping node of level `i` -/
def NoHit (sl : SL) (c : List Nat) (k : Nat) (m : Bytes) (i : Nat) : Prop :=
  ∀ A u B, Stop sl c k i A u B → ¬ (u ≠ 0 ∧ (itemAt sl.heap u).2 = m)

theorem Stop.unique {sl : SL} {c : List Nat} {k i : Nat} {A1 A2 : List Nat} {u1 u2 : Nat} {B1 B2 : List Nat}
    (h1 : Stop sl c k i A1 u1 B1) (h2 : Stop sl c k i A2 u2 B2) : A1 = A2 ∧ u1 = u2 ∧ B1 = B2 :=
  last_unique (p := above sl.heap i) A1 A2 u1 u2 B1 B2 (h1.1.symm.trans h2.1) h1.2.1 h2.2.1 h1.2.2 h2.2.2

/-- the level loop of `getRank` with `j` levels to go, no hypothesis on the members -/
theorem getRankLoop_char {sl : SL} {c : List Nat} (hc : IsChain sl c) (m : Bytes) (s : F64) (k : Nat)
    (hcond : CondUpTo sl c (rankCond m s) k) :
    ∀ (j : Nat) (A : List Nat) (u : Nat) (B : List Nat), 0 :: c = A ++ u :: B →
      (∀ i, i < j → above sl.heap i u = true) → A.length ≤ k →
      ∃ r, getRankLoop sl.heap m s j u (A.length : Int) = .ok r ∧
        ((r = 0 ∧ ∀ i, i < j → NoHit sl c k m i) ∨
         (∃ i, i < j ∧ ∃ A' u' B', Stop sl c k i A' u' B' ∧ u' ≠ 0 ∧ (itemAt sl.heap u').2 = m ∧
            r = (A'.length : Int) ∧ 1 ≤ A'.length ∧ A'.length ≤ k ∧ ∀ i', i < i' → i' < j → NoHit sl c k m i')) := by
  intro j
  induction j with
  | zero =>
    intro A u B _ _ _
    exact ⟨0, by simp [getRankLoop, pure, Except.pure], Or.inl ⟨rfl, fun i hi => absurd hi (Nat.not_lt_zero i)⟩⟩
  | succ l ih =>
    intro A u B hsplit hu hA
    obtain ⟨A', u', B', B'', hP, hsplit', hu', hB', hAA', hA', -, hw⟩ :=
      walk_step hc (rankCond m s) k hcond l A u B hsplit (hu l (Nat.lt_succ_self l)) hA
    have hget : (0 :: c)[A'.length]? = some u' := by rw [hsplit']; simp
    obtain ⟨nd, hnd⟩ := heap_of_mem hc (List.mem_of_getElem? hget)
    have hz := pos_zero_iff hc hget
    have hstop : Stop sl c k l A' u' B' := ⟨hP, hu', hB'⟩
    have hmem : (itemAt sl.heap u').2 = nd.member := by rw [itemAt_of_getElem hnd]; rfl
    rw [getRankLoop, hw]
    simp only [bind, Except.bind, pure, Except.pure, (getNode_ok_iff _ _ _).2 hnd]
    by_cases ht : u' ≠ 0 ∧ nd.member = m
    · rw [if_pos ht]
      refine ⟨_, rfl, Or.inr ⟨l, Nat.lt_succ_self l, A', u', B', hstop, ht.1, hmem.trans ht.2, rfl, ?_, hA', ?_⟩⟩
      · have : ¬ A'.length = 0 := fun h0 => ht.1 (hz.2 h0)
        omega
      · intro i' h1 h2; omega
    · rw [if_neg ht]
      have hno : NoHit sl c k m l := by
        intro A2 u2 B2 h2
        obtain ⟨-, rfl, -⟩ := hstop.unique h2
        rw [hmem]; exact ht
      obtain ⟨r, hr, hcase⟩ := ih A' u' B'' hsplit' (fun i hi => above_mono _ l i u' (by omega) hu') hA'
      refine ⟨r, hr, ?_⟩
      rcases hcase with ⟨h0, hall⟩ | ⟨i, hi, A2, u2, B2, hs2, hne, hm2, hr2, h1, hk2, hab⟩
      · refine Or.inl ⟨h0, ?_⟩
        intro i hi
        by_cases hil : i < l
        · exact hall i hil
        · obtain rfl : i = l := by omega
          exact hno
      · refine Or.inr ⟨i, by omega, A2, u2, B2, hs2, hne, hm2, hr2, h1, hk2, ?_⟩
        intro i' h1' h2'
        by_cases hil : i' < l
        · exact hab i' h1' hil
        · obtain rfl : i' = l := by omega
          exact hno

/-- what `getRank` computes in general (`k` = number of nodes with `(score, member) ≤ (s, m)`): the position of the
    stopping node of the highest level on which that node is not the header and has member `m`; 0 if no level has
    such a stopping node -/
theorem getRank_char {sl : SL} {c : List Nat} (hc : IsChain sl c) (m : Bytes) (s : F64) :
    ∃ r, getRank sl m s = .ok r ∧
      ((r = 0 ∧ ∀ i, i < sl.level → NoHit sl c ((c.map (itemAt sl.heap)).takeWhile (rankP m s)).length m i) ∨
       (∃ i, i < sl.level ∧ ∃ A u B, Stop sl c ((c.map (itemAt sl.heap)).takeWhile (rankP m s)).length i A u B ∧
          u ≠ 0 ∧ (itemAt sl.heap u).2 = m ∧ r = (A.length : Int) ∧ 1 ≤ A.length ∧
          A.length ≤ ((c.map (itemAt sl.heap)).takeWhile (rankP m s)).length ∧
          ∀ i', i < i' → i' < sl.level →
            NoHit sl c ((c.map (itemAt sl.heap)).takeWhile (rankP m s)).length m i')) := by
  unfold getRank
  obtain ⟨r, hr, hcase⟩ := getRankLoop_char hc m s _ (condUpTo_rank hc m s) sl.level [] 0 c rfl (header_above hc) (by simp)
  exact ⟨r, by simpa using hr, hcase⟩

/-- `getRank` against the list model. Hypothesis: no node of the walked prefix (the nodes with
    `(score, member) ≤ (s, m)`, `k` of them) other than its last one has member `m`. This is the weakest condition
    on the abstract list: a node violating it returns its own position as soon as it is tall enough to be the
    stopping node of a level (see `getRank_needs_score` / `getRank_needs_uniq` in SkiplistHeader.lean). -/
theorem getRank_spec_idx {sl : SL} (h : Inv sl) (m : Bytes) (s : F64)
    (hpre : ∀ j x, j + 1 < ((abs sl).takeWhile (rankP m s)).length → (abs sl)[j]? = some x → x.2 ≠ m) :
    getRank sl m s = .ok (DsZSet.slGetRank (abs sl) m s) := by
  obtain ⟨c, hc⟩ := h
  rw [abs_eq hc] at hpre ⊢
  obtain ⟨r, hr, hcase⟩ := getRank_char hc m s
  rw [hr, slGetRank_eq, takeWhile_getLast?]
  have hk : ((c.map (itemAt sl.heap)).takeWhile (rankP m s)).length ≤ c.length := by
    have := (List.takeWhile_prefix (rankP m s) (l := c.map (itemAt sl.heap))).length_le; simpa using this
  generalize ((c.map (itemAt sl.heap)).takeWhile (rankP m s)).length = k at *
  congr 1
  rcases hcase with ⟨h0, hall⟩ | ⟨i, _, A, u, B, hstop, _, hm, hrA, h1, hAk, _⟩
  · -- no level hits: the stopping node of level 0, the node at position `k`, does not carry `m`
    by_cases hk0 : k = 0
    · rw [h0, if_pos hk0]
    · obtain ⟨n, hn⟩ : ∃ n, c[k - 1]? = some n := ⟨_, List.getElem?_eq_getElem (by omega)⟩
      have hn' : (0 :: c)[k]? = some n := by
        obtain ⟨k', rfl⟩ : ∃ k', k = k' + 1 := ⟨k - 1, by omega⟩
        simpa using hn
      have hnc : n ∈ c := List.mem_of_getElem? hn
      have hstop : Stop sl c k 0 ((0 :: c).take k) n [] :=
        ⟨by rw [List.take_add_one, hn']; rfl, above_zero_of_mem hc (List.mem_cons_of_mem _ hnc), by simp⟩
      have hno := hall 0 hc.levelLo _ _ _ hstop
      have hn0 : n ≠ 0 := fun e => (List.nodup_cons.1 hc.nodup).1 (e ▸ hnc)
      rw [h0, if_neg hk0, List.getElem?_map, hn]
      simp only [Option.map_some]
      rw [if_neg (fun hm => hno ⟨hn0, hm⟩)]
  · -- a level hits at position `|A|`; by `hpre` this is position `k`
    have hu : c[A.length - 1]? = some u := by
      have : ((0 :: c).take (k + 1))[A.length]? = some u := by rw [hstop.1]; simp
      rw [List.getElem?_take_of_lt (by omega)] at this
      obtain ⟨a, ha⟩ : ∃ a, A.length = a + 1 := ⟨A.length - 1, by omega⟩
      rw [ha] at this ⊢
      simpa using this
    have hL : (c.map (itemAt sl.heap))[A.length - 1]? = some (itemAt sl.heap u) := by rw [List.getElem?_map, hu]; rfl
    have hAk' : A.length = k := by
      by_cases hlt : A.length - 1 + 1 < k
      · exact absurd hm (hpre _ _ hlt hL)
      · omega
    rw [hAk'] at hL hrA
    rw [hrA, if_neg (by omega), hL]
    simp only
    rw [if_pos hm]

theorem getRank_spec_of_prefix {sl : SL} (h : Inv sl) (m : Bytes) (s : F64)
    (hpre : ∀ x ∈ ((abs sl).takeWhile (rankP m s)).dropLast, x.2 ≠ m) :
    getRank sl m s = .ok (DsZSet.slGetRank (abs sl) m s) :=
  getRank_spec_idx h m s fun j x hj hx => hpre x (mem_dropLast_takeWhile _ _ j x hx hj)

theorem pairwise_getElem? {α : Type} {R : α → α → Prop} {l : List α} (h : l.Pairwise R) {i j : Nat} {a b : α}
    (ha : l[i]? = some a) (hb : l[j]? = some b) (hij : i < j) : R a b := by
  obtain ⟨hi, rfl⟩ := List.getElem?_eq_some_iff.1 ha
  obtain ⟨hj, rfl⟩ := List.getElem?_eq_some_iff.1 hb
  exact List.pairwise_iff_getElem.1 h i j hi hj hij

theorem rankP_after (m : Bytes) (s : F64) (x y : Item) (hx : Good x) (hy : Good y) (hxy : ILt x y)
    (hm : x.2 = m) (hs : F64.eq x.1 s = true) : rankP m s y = false := by
  have hsn : F64.isNaN s = false := by
    simp [F64.eq] at hs; exact hs.1.2
  have hkey : F64.key x.1 = F64.key s := by
    simp [F64.eq] at hs; exact hs.2
  cases hp : rankP m s y with
  | false => rfl
  | true =>
    rw [rankP_iff m s y hsn hy] at hp
    have := (itemLt_iff x y hx hy).1 hxy
    rw [hm] at this
    rcases this with h1 | ⟨h1, h1'⟩ <;> rcases hp with h2 | ⟨h2, h2'⟩
    · omega
    · omega
    · omega
    · rw [h1'] at h2'; cases h2'

theorem rankP_index {sl : SL} (h : Inv sl) (m : Bytes) (s : F64) (j : Nat) (x : Item) (hx : (abs sl)[j]? = some x) :
    rankP m s x = decide (j < ((abs sl).takeWhile (rankP m s)).length) := by
  have hpw : (abs sl).Pairwise (fun a b => rankP m s b = true → rankP m s a = true) := by
    apply List.Pairwise.imp_of_mem _ (abs_sorted h)
    intro a b ha hb hab
    exact rankP_down m s a b (abs_good h a ha) (abs_good h b hb) hab
  exact takeWhile_index (rankP m s) _ hpw j x hx

theorem no_inner {sl : SL} (h : Inv sl) (m : Bytes) (s : F64) (j : Nat) (x : Item)
    (hj : j + 1 < ((abs sl).takeWhile (rankP m s)).length) (hx : (abs sl)[j]? = some x)
    (hm : x.2 = m) (hs : F64.eq x.1 s = true) : False := by
  have hle := (List.takeWhile_prefix (rankP m s) (l := abs sl)).length_le
  have hj1 : j + 1 < (abs sl).length := by omega
  have hy : (abs sl)[j + 1]? = some (abs sl)[j + 1] := by simp [hj1]
  have h1 := rankP_index h m s (j + 1) _ hy
  have hxy : ILt x (abs sl)[j + 1] := pairwise_getElem? (abs_sorted h) hx hy (by omega)
  have h2 := rankP_after m s x _ (abs_good h x (List.mem_of_getElem? hx)) (abs_good h _ (List.mem_of_getElem? hy))
    hxy hm hs
  rw [h2] at h1
  simp at h1
  omega

/-- `getRank(m, s)` when `s` is the score stored for `m` (this is how `SortedSet` calls it: the score comes
    from its dictionary). Uniqueness of members is not needed for the equation. -/
theorem getRank_spec_of_score {sl : SL} (h : Inv sl) (m : Bytes) (s : F64)
    (hscore : ∀ x ∈ abs sl, x.2 = m → F64.eq x.1 s = true) :
    getRank sl m s = .ok (DsZSet.slGetRank (abs sl) m s) :=
  getRank_spec_idx h m s fun j x hj hx hm =>
    no_inner h m s j x hj hx hm (hscore x (List.mem_of_getElem? hx) hm)

/-- `getRank_spec_of_score` under unique members as well: uniqueness alone does not give the equation
    (`getRank_needs_score` in SkiplistHeader.lean), and with `hscore` it is not needed -/
theorem getRank_spec {sl : SL} (h : Inv sl) (m : Bytes) (s : F64)
    (_huniq : ((abs sl).map (·.2)).Nodup)
    (hscore : ∀ x ∈ abs sl, x.2 = m → F64.eq x.1 s = true) :
    getRank sl m s = .ok (DsZSet.slGetRank (abs sl) m s) :=
  getRank_spec_of_score h m s hscore

/-- with unique members: if `(s, m)` is node `j` (0-based) of the chain, the rank is `j + 1` (`C04.slGetRank_split` on the
    chain cut at `j`) -/
theorem getRank_of_index_uniq {sl : SL} (h : Inv sl) (m : Bytes) (s : F64) (j : Nat)
    (huniq : ((abs sl).map (·.2)).Nodup) (hj : (abs sl)[j]? = some (s, m)) :
    getRank sl m s = .ok ((j : Int) + 1) := by
  obtain ⟨hjl, hje⟩ := List.getElem?_eq_some_iff.1 hj
  have hgood : F64.isNaN s = false := abs_good h (s, m) (List.mem_of_getElem? hj)
  have hscore : ∀ x ∈ abs sl, x.2 = m → F64.eq x.1 s = true := by
    intro x hx hm
    obtain ⟨i, hi, rfl⟩ := List.getElem_of_mem hx
    have h1 : ((abs sl).map (·.2))[i]? = some m := by simp [hi, hm]
    have h2 : ((abs sl).map (·.2))[j]? = some m := by simp [hj]
    obtain rfl := (List.getElem?_inj (List.getElem?_eq_some_iff.1 h1).1 huniq).1 (h1.trans h2.symm)
    simp [hje, F64.eq, hgood]
  have hsplit : abs sl = (abs sl).take j ++ (s, m) :: (abs sl).drop (j + 1) := by
    rw [← hje, ← List.drop_eq_getElem_cons hjl, List.take_append_drop]
  have hpw := abs_sorted h
  have hg := abs_good h
  rw [getRank_spec_of_score h m s hscore]
  rw [hsplit] at hpw hg ⊢
  rw [Proofs.C04.slGetRank_split _ _ s m hpw hg, List.length_take, Nat.min_eq_left (by omega)]

theorem getRank_ok {sl : SL} (h : Inv sl) (m : Bytes) (s : F64) :
    ∃ r, getRank sl m s = .ok r ∧ 0 ≤ r ∧ r ≤ sl.length := by
  obtain ⟨c, hc⟩ := h
  have hk : ((c.map (itemAt sl.heap)).takeWhile (rankP m s)).length ≤ c.length := by
    have := (List.takeWhile_prefix (rankP m s) (l := c.map (itemAt sl.heap))).length_le; simpa using this
  obtain ⟨r, hr, hcase⟩ := getRank_char hc m s
  refine ⟨r, hr, ?_⟩
  rw [hc.length]
  rcases hcase with ⟨h0, -⟩ | ⟨i, -, A, u, B, -, -, -, hrA, h1, hAk, -⟩
  · omega
  · omega

end NodisVerif.Skiplist

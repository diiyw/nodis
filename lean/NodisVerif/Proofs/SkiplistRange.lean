import NodisVerif.Proofs.SkiplistSpecs
/-
  Refinement of the two range removals of ds/zset/skiplist.go (`removeRangeByRank`, `removeRange`) against the
  list-level functions of Model/DsZSet.lean.
-/
namespace NodisVerif.Skiplist
open NodisVerif.DsZSet (Item nodeLt)
open NodisVerif.Proofs.C04 (ILt key_le_of_ilt)
open NodisVerif.Proofs.ZSetLemmas (Good itemLt_iff)

theorem removeRankLoop_spec (stop : Int) (update : List (Option Nat)) {P : SL → Prop} (hP : StepInv P) :
    ∀ (C A : List Nat) (sl : SL) (fuel : Nat) (i : Int) (removed : List Item),
      IsChain sl (A ++ C) → UpdateFor sl.heap sl.level (0 :: A) update → C.length + 1 ≤ fuel → P sl →
      ∃ sl', removeRankLoop stop update fuel sl C.head? i removed =
          .ok (sl', removed.reverse ++ (C.take (stop - i + 1).toNat).map (itemAt sl.heap)) ∧
        IsChain sl' (A ++ C.drop (stop - i + 1).toNat) ∧ P sl' ∧ itemAt sl'.heap = itemAt sl.heap := by
  intro C
  induction C with
  | nil =>
    intro A sl fuel i removed hc _ hfuel h0
    obtain ⟨f, rfl⟩ : ∃ f, fuel = f + 1 := ⟨fuel - 1, by simp at hfuel; omega⟩
    exact ⟨sl, by simp [removeRankLoop, pure, Except.pure], by simpa using hc, h0, rfl⟩
  | cons n C ih =>
    intro A sl fuel i removed hc hupd hfuel h0
    obtain ⟨f, rfl⟩ : ∃ f, fuel = f + 1 := ⟨fuel - 1, by simp at hfuel; omega⟩
    by_cases hi : i ≤ stop
    · obtain ⟨nd, l0, sl1, hnd, hitem, hl0, hf, hrem, hc1, hP1, hupd1, hit1⟩ := remove_step hc update hupd hP h0
      obtain ⟨sl', h1, h2, hP', h3⟩ :=
        ih A sl1 f (i + 1) (nd.item :: removed) hc1 hupd1 (by simp at hfuel; omega) hP1
      have hcnt : (stop - i + 1).toNat = (stop - (i + 1) + 1).toNat + 1 := by omega
      rw [hit1] at h1 h3
      refine ⟨sl', ?_, ?_, hP', h3⟩
      · simp only [List.head?_cons, removeRankLoop]
        rw [hitem] at h1
        simp [hi, bind, Except.bind, hnd, hl0, hrem, hf, hcnt, hitem]
        rw [h1]; simp [List.map_take]
      · rw [hcnt]; simpa using h2
    · have hcnt : (stop - i + 1).toNat = 0 := by omega
      refine ⟨sl, ?_, by rw [hcnt]; simpa using hc, h0, rfl⟩
      simp [removeRankLoop, hi, hcnt, pure, Except.pure]

theorem removeRangeByRank_spec {sl : SL} (h : Inv sl) (start stop : Int) {P : SL → Prop} (hP : StepInv P) (h0 : P sl) :
    ∃ sl' removed, removeRangeByRank sl start stop = .ok (sl', removed) ∧ Inv sl' ∧ P sl' ∧
      (abs sl', removed) = DsZSet.slRemoveRangeByRank (abs sl) start stop := by
  obtain ⟨c, hc⟩ := h
  obtain ⟨x, acc, update, rank, l0, hs, hupd, hacc, hl0, hf⟩ := search_split hc _ _ (condUpTo_start sl c start)
  have hsplit : c.take (start - 1).toNat ++ c.drop (start - 1).toNat = c := List.take_append_drop _ _
  have hsz := hc.size
  obtain ⟨sl', h1, h2, hP', h3⟩ := removeRankLoop_spec stop update hP (c.drop (start - 1).toNat)
    (c.take (start - 1).toNat) sl (sl.heap.length + 1) (acc + 1) [] (by rw [hsplit]; exact hc) hupd (by simp; omega) h0
  simp only [List.reverse_nil, List.nil_append] at h1
  have hrun : removeRangeByRank sl start stop = .ok (sl',
      ((c.drop (start - 1).toNat).take (stop - (acc + 1) + 1).toNat).map (itemAt sl.heap)) := by
    simp only [removeRangeByRank, bind, Except.bind, hs, hl0, hf]
    exact h1
  refine ⟨sl', _, hrun, ⟨_, h2⟩, hP', ?_⟩
  · rw [abs_eq h2, abs_eq hc, h3]
    simp only [DsZSet.slRemoveRangeByRank, List.length_map]
    have hi0 : (if start ≤ 1 then 0 else min (start - 1).toNat c.length) = min (start - 1).toNat c.length := by
      split <;> omega
    have hcnt : (if stop < ((min (start - 1).toNat c.length : Nat) : Int) + 1 then 0
        else (stop - ((min (start - 1).toNat c.length : Nat) : Int)).toNat) = (stop - (acc + 1) + 1).toNat := by
      split <;> omega
    rw [hi0, hcnt]
    have ht : c.take (min (start - 1).toNat c.length) = c.take (start - 1).toNat := by
      rw [List.take_eq_take_iff]; omega
    have hd : c.drop (min (start - 1).toNat c.length) = c.drop (start - 1).toNat := by
      rcases Nat.le_total (start - 1).toNat c.length with h | h
      · rw [Nat.min_eq_left h]
      · rw [Nat.min_eq_right h, List.drop_of_length_le h, List.drop_of_length_le (Nat.le_refl _)]
    simp only [← List.map_take, ← List.map_drop, ← List.map_append, ht, hd]

theorem removeRangeByRank_refines {sl : SL} (h : Inv sl) (start stop : Int) :
    ∃ sl' removed, removeRangeByRank sl start stop = .ok (sl', removed) ∧ Inv sl' ∧
      (abs sl', removed) = DsZSet.slRemoveRangeByRank (abs sl) start stop := by
  obtain ⟨sl', removed, h1, h2, _, h3⟩ := removeRangeByRank_spec h start stop stepInv_true trivial
  exact ⟨sl', removed, h1, h2, h3⟩

/-- `maxStop` on an item -/
def stopI (max : F64) (mode : Nat) (it : Item) : Bool :=
  if mode / 2 % 2 = 1 then F64.le max it.1 else F64.lt max it.1

/-- the number of nodes the second loop of `removeRange` removes, on the items from the first candidate on
    (`r` = number removed so far) -/
def remCount (max : F64) (limit : Int) (mode : Nat) : List Item → Nat → Nat
  | [], _ => 0
  | it :: rest, r =>
    if stopI max mode it then 0
    else if limit > 0 ∧ ((r + 1 : Nat) : Int) = limit then 1
    else remCount max limit mode rest (r + 1) + 1

theorem removeRangeLoop_spec (max : F64) (limit : Int) (mode : Nat) (update : List (Option Nat))
    {P : SL → Prop} (hP : StepInv P) :
    ∀ (C A : List Nat) (sl : SL) (fuel : Nat) (removed : List Item) (cnt : Nat),
      IsChain sl (A ++ C) → UpdateFor sl.heap sl.level (0 :: A) update → C.length + 1 ≤ fuel →
      cnt = remCount max limit mode (C.map (itemAt sl.heap)) removed.length → P sl →
      ∃ sl', removeRangeLoop max limit mode update fuel sl C.head? removed =
          .ok (sl', removed.reverse ++ (C.take cnt).map (itemAt sl.heap)) ∧
        IsChain sl' (A ++ C.drop cnt) ∧ P sl' ∧ itemAt sl'.heap = itemAt sl.heap := by
  intro C
  induction C with
  | nil =>
    intro A sl fuel removed cnt hc _ hfuel _ h0
    obtain ⟨f, rfl⟩ : ∃ f, fuel = f + 1 := ⟨fuel - 1, by simp at hfuel; omega⟩
    exact ⟨sl, by simp [removeRangeLoop, pure, Except.pure], by simpa using hc, h0, rfl⟩
  | cons n C ih =>
    intro A sl fuel removed cnt hc hupd hfuel hcnt h0
    obtain ⟨f, rfl⟩ : ∃ f, fuel = f + 1 := ⟨fuel - 1, by simp at hfuel; omega⟩
    obtain ⟨nd, l0, sl1, hnd, hitem, hl0, hf, hrem, hc1, hP1, hupd1, hit1⟩ := remove_step hc update hupd hP h0
    have hstop : maxStop max mode nd = stopI max mode (itemAt sl.heap n) := by
      rw [← hitem]; rfl
    simp only [List.map_cons, remCount] at hcnt
    by_cases hst : stopI max mode (itemAt sl.heap n) = true
    · simp only [hst, if_true] at hcnt
      subst hcnt
      refine ⟨sl, ?_, by simpa using hc, h0, rfl⟩
      simp [removeRangeLoop, bind, Except.bind, hnd, hstop, hst, pure, Except.pure]
    · have hst' : stopI max mode (itemAt sl.heap n) = false := by simpa using hst
      simp only [hst', Bool.false_eq_true, if_false] at hcnt
      by_cases hlim : limit > 0 ∧ ((removed.length + 1 : Nat) : Int) = limit
      · simp only [hlim, and_self, if_true] at hcnt
        subst hcnt
        refine ⟨sl1, ?_, by simpa using hc1, hP1, hit1⟩
        simp only [List.head?_cons, removeRangeLoop]
        simp [bind, Except.bind, hnd, hstop, hst, hl0, hrem, hlim, hitem, pure, Except.pure]
      · simp only [hlim, if_false] at hcnt
        obtain ⟨sl', h1, h2, hP', h3⟩ := ih A sl1 f (nd.item :: removed) (cnt - 1) hc1 hupd1 (by simp at hfuel; omega)
          (by rw [hit1]; simp; omega) hP1
        obtain ⟨m, rfl⟩ : ∃ m, cnt = m + 1 := ⟨cnt - 1, by omega⟩
        simp only [Nat.add_sub_cancel] at h1 h2 h3
        rw [hit1] at h1 h3
        refine ⟨sl', ?_, by simpa using h2, hP', h3⟩
        rw [hitem] at h1
        simp only [List.head?_cons, removeRangeLoop]
        simp [bind, Except.bind, hnd, hstop, hst, hl0, hrem, hitem, hf]
        rw [if_neg (by intro hh; exact hlim ⟨hh.1, by omega⟩)]
        rw [h1]; simp [List.map_take]

/-- `minCond` on an item -/
def preI (min : F64) (mode : Nat) (it : Item) : Bool :=
  !(if mode % 2 = 1 then F64.lt min it.1 else F64.le min it.1)

private theorem preI_down (min : F64) (mode : Nat) (a b : Item) (ha : Good a) (hb : Good b) (h : ILt a b)
    (hp : preI min mode b = true) : preI min mode a = true := by
  have hk := key_le_of_ilt a b ha hb h
  unfold Good at ha hb
  unfold preI at hp ⊢
  by_cases hm : mode % 2 = 1
  · simp [hm, F64.lt, ha, hb] at hp ⊢
    rcases hp with hp | hp
    · exact Or.inl hp
    · exact Or.inr (by omega)
  · simp [hm, F64.le, ha, hb] at hp ⊢
    rcases hp with hp | hp
    · exact Or.inl hp
    · exact Or.inr (by omega)

theorem condUpTo_min {sl : SL} {c : List Nat} (hc : IsChain sl c) (min : F64) (mode : Nat) :
    CondUpTo sl c (minCond min mode) ((c.map (itemAt sl.heap)).takeWhile (preI min mode)).length :=
  condUpTo_of_downclosed hc (preI min mode) (preI_down min mode)

/-- `skiplist.removeRange(min, max, limit, mode)` on the list of items: the loop of the Go code on the list -/
def slRemoveRangeLim (l : List Item) (min max : F64) (limit : Int) (mode : Nat) : List Item × List Item :=
  let pre := l.takeWhile (preI min mode)
  let rest := l.drop pre.length
  let cnt := remCount max limit mode rest 0
  (pre ++ rest.drop cnt, rest.take cnt)

theorem removeRange_refines_lim {sl : SL} (h : Inv sl) (min max : F64) (limit : Int) (mode : Nat)
    {P : SL → Prop} (hP : StepInv P) (h0 : P sl) :
    ∃ sl' removed, removeRange sl min max limit mode = .ok (sl', removed) ∧ Inv sl' ∧ P sl' ∧
      (abs sl', removed) = slRemoveRangeLim (abs sl) min max limit mode := by
  obtain ⟨c, hc⟩ := h
  obtain ⟨x, acc, update, rank, l0, hs, hupd, hacc, hl0, hf⟩ := search_split hc _ _ (condUpTo_min hc min mode)
  generalize hk : ((c.map (itemAt sl.heap)).takeWhile (preI min mode)).length = k at hupd hf
  have hsplit : c.take k ++ c.drop k = c := List.take_append_drop _ _
  have hsz := hc.size
  obtain ⟨sl', h1, h2, hP', h3⟩ := removeRangeLoop_spec max limit mode update hP (c.drop k) (c.take k) sl
    (sl.heap.length + 1) [] _ (by rw [hsplit]; exact hc) hupd (by simp; omega) rfl h0
  simp only [List.reverse_nil, List.nil_append, List.length_nil] at h1 h2 h3
  have hrun : removeRange sl min max limit mode = .ok (sl',
      ((c.drop k).take (remCount max limit mode ((c.drop k).map (itemAt sl.heap)) 0)).map (itemAt sl.heap)) := by
    simp only [removeRange, bind, Except.bind, hs, hl0, hf]
    exact h1
  refine ⟨sl', _, hrun, ⟨_, h2⟩, hP', ?_⟩
  rw [abs_eq h2, abs_eq hc, h3]
  simp only [slRemoveRangeLim]
  rw [hk, ← Proofs.C04.take_takeWhile_length, hk]
  simp only [← List.map_take, ← List.map_drop, ← List.map_append]

theorem remCount_nolimit (max : F64) (limit : Int) (mode : Nat) (hl : limit ≤ 0) : ∀ (l : List Item) (r : Nat),
    remCount max limit mode l r = (l.takeWhile fun n => !stopI max mode n).length := by
  intro l
  induction l with
  | nil => intro r; rfl
  | cons it l ih =>
    intro r
    cases hst : stopI max mode it with
    | true => simp [remCount, hst]
    | false =>
      have : ¬ (limit > 0 ∧ ((r + 1 : Nat) : Int) = limit) := by omega
      simp only [remCount, hst, Bool.false_eq_true, if_false, this, ih (r + 1)]
      rw [List.takeWhile_cons_of_pos (by simp [hst])]
      simp

theorem remCount_limit (max : F64) (limit : Int) (mode : Nat) (hl : 0 < limit) : ∀ (l : List Item) (r : Nat),
    (r : Int) < limit →
    remCount max limit mode l r = Nat.min (l.takeWhile fun n => !stopI max mode n).length (limit.toNat - r) := by
  intro l
  induction l with
  | nil => intro r _; simp [remCount]
  | cons it l ih =>
    intro r hr
    cases hst : stopI max mode it with
    | true => simp [remCount, hst]
    | false =>
      rw [List.takeWhile_cons_of_pos (by simp [hst])]
      simp only [remCount, hst, Bool.false_eq_true, if_false, List.length_cons]
      by_cases hlim : limit > 0 ∧ ((r + 1 : Nat) : Int) = limit
      · rw [if_pos hlim]
        have : limit.toNat - r = 1 := by omega
        rw [this]; simp
      · rw [if_neg hlim, ih (r + 1) (by omega)]
        have : limit.toNat - r = limit.toNat - (r + 1) + 1 := by omega
        rw [this]
        exact (Nat.add_min_add_right ..).symm

private theorem drop_min {α} (l : List α) (m n : Nat) : l.drop (Nat.min m n) = (l.take m).drop n ++ l.drop m := by
  rw [List.drop_take]
  rcases Nat.le_total n m with h | h
  · have h1 : Nat.min m n = n := Nat.min_eq_right h
    have : l.drop m = (l.drop n).drop (m - n) := by rw [List.drop_drop]; congr 1; omega
    rw [h1, this, List.take_append_drop]
  · have h1 : Nat.min m n = m := Nat.min_eq_left h
    have : m - n = 0 := by omega
    rw [h1, this]; simp

theorem slRemoveRangeLim_nolimit (l : List Item) (min max : F64) (limit : Int) (mode : Nat) (hl : limit ≤ 0) :
    slRemoveRangeLim l min max limit mode = DsZSet.slRemoveRange l min max mode := by
  simp only [slRemoveRangeLim, DsZSet.slRemoveRange, remCount_nolimit max limit mode hl]
  congr 1
  exact Proofs.C04.take_takeWhile_length _ _

theorem slRemoveRangeLim_limit (l : List Item) (min max : F64) (limit : Int) (mode : Nat) (hl : 0 < limit) :
    slRemoveRangeLim l min max limit mode =
      (let pre := l.takeWhile (preI min mode)
       let rest := l.drop pre.length
       let rem := rest.takeWhile fun n => !stopI max mode n
       (pre ++ rem.drop limit.toNat ++ rest.drop rem.length, rem.take limit.toNat)) := by
  simp only [slRemoveRangeLim]
  rw [remCount_limit max limit mode hl _ 0 (by simpa using hl)]
  generalize List.drop (List.takeWhile (preI min mode) l).length l = rest
  have hrem := (Proofs.C04.take_takeWhile_length (fun n => !stopI max mode n) rest).symm
  generalize hm : (List.takeWhile (fun n => !stopI max mode n) rest).length = m at hrem
  rw [hrem, Nat.sub_zero, drop_min, List.append_assoc, List.take_take]
  congr 2
  simp only [Nat.min_def]
  split <;> split <;> omega

theorem removeRange_spec {sl : SL} (h : Inv sl) (min max : F64) (limit : Int) (mode : Nat)
    {P : SL → Prop} (hP : StepInv P) (h0 : P sl) :
    ∃ sl' removed, removeRange sl min max limit mode = .ok (sl', removed) ∧ Inv sl' ∧ P sl' ∧
      (if limit ≤ 0 then (abs sl', removed) = DsZSet.slRemoveRange (abs sl) min max mode
       else
        let pre := (abs sl).takeWhile fun n => !(if mode % 2 = 1 then F64.lt min n.1 else F64.le min n.1)
        let rest := (abs sl).drop pre.length
        let rem := rest.takeWhile fun n => !(if mode / 2 % 2 = 1 then F64.le max n.1 else F64.lt max n.1)
        removed = rem.take limit.toNat ∧ abs sl' = pre ++ rem.drop limit.toNat ++ rest.drop rem.length) := by
  obtain ⟨sl', removed, h1, h2, hP', h3⟩ := removeRange_refines_lim h min max limit mode hP h0
  refine ⟨sl', removed, h1, h2, hP', ?_⟩
  by_cases hl : limit ≤ 0
  · rw [if_pos hl, h3, slRemoveRangeLim_nolimit _ _ _ _ _ hl]
  · rw [if_neg hl]
    rw [slRemoveRangeLim_limit _ _ _ _ _ (by omega)] at h3
    simp only [Prod.mk.injEq] at h3
    exact ⟨h3.2, h3.1⟩

theorem removeRange_refines {sl : SL} (h : Inv sl) (min max : F64) (limit : Int) (mode : Nat) :
    ∃ sl' removed, removeRange sl min max limit mode = .ok (sl', removed) ∧ Inv sl' ∧
      (if limit ≤ 0 then (abs sl', removed) = DsZSet.slRemoveRange (abs sl) min max mode
       else
        let pre := (abs sl).takeWhile fun n => !(if mode % 2 = 1 then F64.lt min n.1 else F64.le min n.1)
        let rest := (abs sl).drop pre.length
        let rem := rest.takeWhile fun n => !(if mode / 2 % 2 = 1 then F64.le max n.1 else F64.lt max n.1)
        removed = rem.take limit.toNat ∧ abs sl' = pre ++ rem.drop limit.toNat ++ rest.drop rem.length) := by
  obtain ⟨sl', removed, h1, h2, _, h3⟩ := removeRange_spec h min max limit mode stepInv_true trivial
  exact ⟨sl', removed, h1, h2, h3⟩

import NodisVerif.Proofs.C04Spec
import NodisVerif.Proofs.C04Bits

/-
  Sorted sets, list level: the invariant along arbitrary sequences of mutating operations (`Op`, `run`, `inv_run`);
  ZREMRANGEBYSCORE / ZREMRANGEBYRANK / ZREM / ZADD against the reference sorted list. The tool for the ranges: a
  down-closed predicate on a sorted list holds exactly on a prefix (`filter_downclosed`).
-/
namespace NodisVerif.Proofs.C04
open AListLemmas ZSetLemmas DsZSet

/-- the mutating operations of `ds/zset` (ZADD and its NX/XX/LT/GT variants, ZINCRBY with the float
    sum supplied, ZREM, ZREMRANGEBYSCORE, ZREMRANGEBYRANK; ZUNIONSTORE/ZINTERSTORE build their
    result with a sequence of `add`s) -/
inductive Op where
  | add (m : Bytes) (s : F64)
  | addXX (m : Bytes) (s : F64)
  | addNX (m : Bytes) (s : F64)
  | addLT (m : Bytes) (s : F64)
  | addGT (m : Bytes) (s : F64)
  | incrBy (m : Bytes) (newScore : F64)
  | rem (ms : List Bytes)
  | remRangeByScore (min max : F64) (mode : Nat)
  | remRangeByRank (start stop : Int)

def Op.apply (z : ZSet) : Op → ZSet
  | .add m s => (zAdd z m s).1
  | .addXX m s => (zAddXX z m s).1
  | .addNX m s => (zAddNX z m s).1
  | .addLT m s => (zAddLT z m s).1
  | .addGT m s => (zAddGT z m s).1
  | .incrBy m s => zIncrByWith z m s
  | .rem ms => (zRem z ms).1
  | .remRangeByScore min max mode => (zRemRangeByScore z min max mode).1
  | .remRangeByRank start stop => (zRemRangeByRank z start stop).1

def Op.score? : Op → Option (Bytes × F64)
  | .add m s | .addXX m s | .addNX m s | .addLT m s | .addGT m s | .incrBy m s => some (m, s)
  | _ => none

def Op.NoNaN (op : Op) : Prop :=
  match op.score? with
  | some (_, s) => F64.isNaN s = false
  | none => True

instance (op : Op) : Decidable op.NoNaN := by
  unfold Op.NoNaN
  split <;> infer_instance

def run (z : ZSet) (ops : List Op) : ZSet := ops.foldl Op.apply z

theorem inv_apply {z : ZSet} (h : Inv z) (op : Op) (hok : op.NoNaN) : Inv (op.apply z) := by
  cases op with
  | add m s => exact inv_zAdd h m s hok
  | addXX m s => exact inv_zAddXX h m s hok
  | addNX m s => exact inv_zAddNX h m s hok
  | addLT m s => exact inv_zAddLT h m s hok
  | addGT m s => exact inv_zAddGT h m s hok
  | incrBy m s => exact inv_zAdd h m s hok
  | rem ms => exact inv_zRem h ms
  | remRangeByScore min max mode => exact inv_zRemRangeByScore h min max mode
  | remRangeByRank start stop => exact inv_zRemRangeByRank h start stop

theorem inv_run : ∀ (ops : List Op) (z : ZSet), Inv z → (∀ op ∈ ops, op.NoNaN) → Inv (run z ops) :=
  fun ops _ h hok => List.foldlRecOn ops Op.apply h fun _ hb op hop => inv_apply hb op (hok op hop)

/-- `zstore` builds its result by adding the aggregated (score, member) items to an empty set -/
theorem inv_buildFrom (items : List Item) (z : ZSet) (h : Inv z)
    (hn : ∀ it ∈ items, F64.isNaN it.1 = false) :
    Inv (items.foldl (fun z it => (zAdd z it.2 it.1).1) z) :=
  List.foldlRecOn items _ h fun _ hb it hit => inv_zAdd hb it.2 it.1 (hn it hit)

theorem eq_symm (a b : F64) (h : F64.eq a b = true) : F64.eq b a = true := by
  simp only [F64.eq, Bool.and_eq_true, Bool.not_eq_true', beq_iff_eq] at h ⊢
  exact ⟨⟨h.1.2, h.1.1⟩, h.2.symm⟩

/-- after `zAdd z m s` the member's score is `s`, except that a stored IEEE-equal score is kept
    (so the only possible bit difference is the sign of a zero); other members are untouched -/
theorem zAdd_score (z : ZSet) (m : Bytes) (s : F64) (hs : F64.isNaN s = false) :
    (∃ s', zScore (zAdd z m s).1 m = some s' ∧ F64.eq s' s = true ∧
      (s' = s ∨ (zScore z m = some s' ∧ ((s' = 0 ∧ s = F64.negZero) ∨ (s' = F64.negZero ∧ s = 0))))) ∧
    ∀ m', m' ≠ m → zScore (zAdd z m s).1 m' = zScore z m' := by
  have hss : F64.eq s s = true := by simp [F64.eq, hs]
  unfold zScore zAdd
  cases hget : AList.get? z.dict m with
  | none =>
    exact ⟨⟨s, AListLemmas2.get?_set_same z.dict m s, hss, Or.inl rfl⟩,
      fun m' hne => AListLemmas2.get?_set_other z.dict m s m' hne⟩
  | some old =>
    simp only
    by_cases heq : F64.eq s old = true
    · rw [if_pos heq]
      refine ⟨⟨old, hget, eq_symm s old heq, ?_⟩, fun _ _ => rfl⟩
      rcases F64.eq_bits s old heq with h | ⟨h1, h2⟩ | ⟨h1, h2⟩
      · exact Or.inl h.symm
      · exact Or.inr ⟨rfl, Or.inr ⟨h2, h1⟩⟩
      · exact Or.inr ⟨rfl, Or.inl ⟨h2, h1⟩⟩
    · rw [if_neg heq]
      exact ⟨⟨s, AListLemmas2.get?_set_same z.dict m s, hss, Or.inl rfl⟩,
        fun m' hne => AListLemmas2.get?_set_other z.dict m s m' hne⟩

theorem filter_downclosed {α : Type} (R : α → α → Prop) (q : α → Bool) : ∀ (l : List α),
    l.Pairwise R → (∀ a ∈ l, ∀ b ∈ l, R a b → q b = true → q a = true) →
    l.filter q = l.takeWhile q ∧ l.filter (fun a => !q a) = l.dropWhile q := by
  intro l
  induction l with
  | nil => intro _ _; simp
  | cons a l ih =>
    intro hpw hq
    obtain ⟨h1, h2⟩ := List.pairwise_cons.mp hpw
    obtain ⟨ih1, ih2⟩ := ih h2 (fun x hx y hy => hq x (by simp [hx]) y (by simp [hy]))
    by_cases ha : q a = true
    · simp [ha, ih1, ih2]
    · have hall : ∀ b ∈ l, q b = false := by
        intro b hb
        cases hqb : q b with
        | false => rfl
        | true => exact absurd (hq a (by simp) b (by simp [hb]) (h1 b hb) hqb) ha
      have hf1 : l.filter q = [] := by
        rw [List.filter_eq_nil_iff]; intro b hb; simp [hall b hb]
      have hf2 : l.filter (fun a => !q a) = l := by
        rw [List.filter_eq_self]; intro b hb; simp [hall b hb]
      simp [ha, hf1, hf2]

theorem takeWhile_dropWhile_congr {α : Type} (p q : α → Bool) : ∀ (l : List α),
    (∀ a ∈ l, p a = q a) → l.takeWhile p = l.takeWhile q ∧ l.dropWhile p = l.dropWhile q := by
  intro l
  induction l with
  | nil => intro _; exact ⟨rfl, rfl⟩
  | cons a l ih =>
    intro h
    obtain ⟨h1, h2⟩ := ih (fun b hb => h b (by simp [hb]))
    simp only [List.takeWhile_cons, List.dropWhile_cons, h a (by simp), h1, h2]
    exact ⟨trivial, trivial⟩

theorem key_le_of_ilt (a b : Item) (ha : Good a) (hb : Good b) (h : ILt a b) :
    F64.key a.1 ≤ F64.key b.1 := by
  rw [ILt, itemLt_iff a b ha hb] at h
  omega

/-- mode bits as the reference's open/closed flags -/
def minOpen (mode : Nat) : Bool := decide (mode % 2 = 1)
def maxOpen (mode : Nat) : Bool := decide (mode / 2 % 2 = 1)

theorem slRemoveRange_spec (l : List Item) (hpw : l.Pairwise ILt) (hg : ∀ a ∈ l, Good a)
    (min max : F64) (hmin : F64.isNaN min = false) (hmax : F64.isNaN max = false) (mode : Nat) :
    slRemoveRange l min max mode =
      (l.filter (fun it => !Spec.ZSet.inRange min max (minOpen mode) (maxOpen mode) it),
       l.filter (Spec.ZSet.inRange min max (minOpen mode) (maxOpen mode))) := by
  -- the two walks, as predicates of the reference
  let above : Item → Bool := fun it => Spec.ZSet.aboveMin min (minOpen mode) it.1
  let below : Item → Bool := fun it => Spec.ZSet.belowMax max (maxOpen mode) it.1
  have hp1 : (fun (n : Item) => !(if mode % 2 = 1 then F64.lt min n.1 else F64.le min n.1))
      = fun n => !above n := by
    funext n
    simp only [above, Spec.ZSet.aboveMin, minOpen]
    by_cases h : mode % 2 = 1 <;> simp [h]
  have hbelow_eq : ∀ n ∈ l, (!(if mode / 2 % 2 = 1 then F64.le max n.1 else F64.lt max n.1)) = below n := by
    intro n hn
    have hnn : F64.isNaN n.1 = false := hg n hn
    simp only [below, Spec.ZSet.belowMax, maxOpen]
    by_cases h : mode / 2 % 2 = 1
    · simp only [h, if_true, decide_true, F64.le, F64.lt, hnn, hmax, Bool.not_false, Bool.true_and]
      rw [Bool.eq_iff_iff]; simp only [Bool.not_eq_true', decide_eq_false_iff_not, decide_eq_true_eq]; omega
    · simp only [h, if_false, decide_false, F64.le, F64.lt, hnn, hmax, Bool.not_false, Bool.true_and,
        Bool.false_eq_true]
      rw [Bool.eq_iff_iff]; simp only [Bool.not_eq_true', decide_eq_false_iff_not, decide_eq_true_eq]; omega
  have habove_up : ∀ a ∈ l, ∀ b ∈ l, ILt a b → (!above b) = true → (!above a) = true := by
    intro a ha b hb hab
    have hk := key_le_of_ilt a b (hg a ha) (hg b hb) hab
    have han : F64.isNaN a.1 = false := hg a ha
    have hbn : F64.isNaN b.1 = false := hg b hb
    simp only [above, Spec.ZSet.aboveMin]
    cases minOpen mode <;>
      simp only [F64.le, F64.lt, han, hbn, hmin, Bool.not_false, Bool.true_and, if_true, if_false,
        Bool.false_eq_true, Bool.not_eq_true', decide_eq_false_iff_not] <;> omega
  have hbelow_down : ∀ a ∈ l, ∀ b ∈ l, ILt a b → below b = true → below a = true := by
    intro a ha b hb hab
    have hk := key_le_of_ilt a b (hg a ha) (hg b hb) hab
    have han : F64.isNaN a.1 = false := hg a ha
    have hbn : F64.isNaN b.1 = false := hg b hb
    simp only [below, Spec.ZSet.belowMax]
    cases maxOpen mode <;>
      simp only [F64.le, F64.lt, han, hbn, hmax, Bool.not_false, Bool.true_and, if_true, if_false,
        Bool.false_eq_true, decide_eq_true_eq] <;> omega
  obtain ⟨hA1, hA2⟩ := filter_downclosed ILt (fun n => !above n) l hpw habove_up
  simp only [Bool.not_not] at hA2
  have hrest_sub : (l.dropWhile fun n => !above n).Sublist l := List.dropWhile_sublist _
  have hrest_pw := hpw.sublist hrest_sub
  obtain ⟨hB1, hB2⟩ := filter_downclosed ILt below (l.dropWhile fun n => !above n) hrest_pw
    (fun a ha b hb => hbelow_down a (hrest_sub.subset ha) b (hrest_sub.subset hb))
  have hinr : (Spec.ZSet.inRange min max (minOpen mode) (maxOpen mode)) = fun it => below it && above it := by
    funext it
    simp only [Spec.ZSet.inRange, above, below, Bool.and_comm]
  unfold slRemoveRange
  simp only [hp1, drop_takeWhile_length]
  obtain ⟨htw, hdw⟩ := takeWhile_dropWhile_congr
    (fun (n : Item) => !(if mode / 2 % 2 = 1 then F64.le max n.1 else F64.lt max n.1)) below
    (l.dropWhile fun n => !above n) (fun n hn => hbelow_eq n (hrest_sub.subset hn))
  rw [htw, hdw]
  refine Prod.ext ?_ ?_
  · simp only
    rw [hinr]
    conv => rhs; rw [← List.takeWhile_append_dropWhile (p := fun n => !above n) (l := l)]
    rw [List.filter_append]
    congr 1
    · rw [List.filter_eq_self.mpr]
      intro a ha
      rw [← hA1] at ha
      have := (List.mem_filter.mp ha).2
      simp only [Bool.not_eq_true'] at this
      simp [this]
    · rw [← hB2]
      rw [← hA2, List.filter_filter, List.filter_filter]
      congr 1
      funext a
      show (!below a && above a) = (!(below a && above a) && above a)
      generalize above a = x
      generalize below a = y
      cases x <;> cases y <;> rfl
  · simp only
    rw [hinr, ← hB1, ← hA2, List.filter_filter]

theorem zRemRangeByScore_spec {z : ZSet} (h : Inv z) (min max : F64)
    (hmin : F64.isNaN min = false) (hmax : F64.isNaN max = false) (mode : Nat) :
    (Spec.ZSet.sorted (zRemRangeByScore z min max mode).1, ((zRemRangeByScore z min max mode).2).toNat)
      = Spec.ZSet.remRangeByScore z min max (minOpen mode) (maxOpen mode) ∧
    0 ≤ (zRemRangeByScore z min max mode).2 := by
  have h' := inv_zRemRangeByScore h min max mode
  rw [← sl_eq_sorted h']
  unfold Spec.ZSet.remRangeByScore
  rw [← sl_eq_sorted h]
  unfold zRemRangeByScore
  rw [slRemoveRange_spec z.sl h.slPW h.good min max hmin hmax mode]
  simp

theorem normStart_spec (n start : Int) :
    (let s := if start < 0 then n + start else start; if s < 0 then 0 else s) = normStart n start := by
  unfold normStart
  simp only
  by_cases h1 : start < 0
  · simp only [h1, if_true]
    have : n + start = start + n := by omega
    rw [this]
  · simp only [h1, if_false]

theorem normStop_spec (n stop : Int) :
    (let e := if stop < 0 then n + stop else stop; if e ≥ n then n - 1 else e) = normStop n stop := by
  unfold normStop
  simp only
  by_cases h1 : stop < 0
  · simp only [h1, if_true]
    have : n + stop = stop + n := by omega
    rw [this]
  · simp only [h1, if_false]

theorem slice_norm (l : List Item) (start stop : Int) :
    Spec.ZSet.slice l start stop =
      if normStart l.length start > normStop l.length stop ∨ normStart l.length start ≥ (l.length : Int)
      then [] else (l.drop (normStart l.length start).toNat).take
        (normStop l.length stop - normStart l.length start + 1).toNat := by
  unfold Spec.ZSet.slice
  simp only
  rw [← normStart_spec, ← normStop_spec]

theorem unslice_norm (l : List Item) (start stop : Int) :
    Spec.ZSet.unslice l start stop =
      if normStart l.length start > normStop l.length stop ∨ normStart l.length start ≥ (l.length : Int)
      then l else l.take (normStart l.length start).toNat ++ l.drop (normStop l.length stop + 1).toNat := by
  unfold Spec.ZSet.unslice
  simp only
  rw [← normStart_spec, ← normStop_spec]

theorem normStart_nonneg (n start : Int) : 0 ≤ normStart n start := by
  unfold normStart
  split <;> (try split) <;> omega

theorem normStart_of_nonneg (n s : Int) (h : 0 ≤ s) : normStart n s = s := by
  unfold normStart
  rw [if_neg (by omega)]

theorem normStop_of_nonneg (n e : Int) (h : 0 ≤ e) : normStop n e = min e (n - 1) := by
  unfold normStop
  simp only [if_neg (show ¬ e < 0 by omega)]
  rw [Int.min_def]
  split <;> split <;> omega

theorem normStop_of_neg (n e : Int) (h : e < 0) : normStop n e = e + n := by
  unfold normStop
  simp only [if_pos h]
  rw [if_neg (by omega)]

theorem slice_window (l : List Item) (s e : Int) (h1 : 0 ≤ s) (h2 : s ≤ e) (h3 : s < l.length) :
    Spec.ZSet.slice l s e = (l.drop s.toNat).take (min e (l.length - 1) - s + 1).toNat := by
  rw [slice_norm, normStart_of_nonneg _ _ h1, normStop_of_nonneg _ _ (by omega), if_neg (by omega)]

theorem slice_start_ge (l : List Item) (s e : Int) (h : (l.length : Int) ≤ s) : Spec.ZSet.slice l s e = [] := by
  rw [slice_norm, normStart_of_nonneg _ _ (by omega), if_pos (Or.inr h)]

theorem slice_congr (l : List Item) (s1 e1 s2 e2 : Int)
    (hs : normStart l.length s1 = normStart l.length s2)
    (he : normStop l.length e1 = normStop l.length e2) :
    Spec.ZSet.slice l s1 e1 = Spec.ZSet.slice l s2 e2 := by
  rw [slice_norm, slice_norm, hs, he]

theorem slice_empty (l : List Item) (s e : Int)
    (h : normStart l.length s > normStop l.length e ∨ normStart l.length s ≥ (l.length : Int)) :
    Spec.ZSet.slice l s e = [] := by
  rw [slice_norm, if_pos h]

theorem zRemRangeByRank_sl (z : ZSet) (hlen : z.sl.length = z.dict.length) (start stop : Int) :
    (zRemRangeByRank z start stop).1.sl = Spec.ZSet.unslice z.sl start stop ∧
    (zRemRangeByRank z start stop).2 = ((Spec.ZSet.slice z.sl start stop).length : Int) := by
  rw [zRemRangeByRank_core, slice_norm, unslice_norm]
  have hc := zCard_eq hlen
  rw [hc]
  have hs0 := normStart_nonneg z.sl.length start
  generalize normStart (↑z.sl.length) start = s at hs0 ⊢
  generalize normStop (↑z.sl.length) stop = e
  unfold remByRankCore
  rw [hc]
  by_cases hcond : s > e ∨ s ≥ (z.sl.length : Int)
  · simp [hcond]
  · rw [if_neg hcond, if_neg hcond, if_neg hcond]
    unfold slRemoveRangeByRank
    simp only
    have hi0 : (if s + 1 ≤ 1 then 0 else min (s + 1 - 1).toNat z.sl.length) = s.toNat := by
      split
      · omega
      · have : s + 1 - 1 = s := by omega
        rw [this]
        omega
    rw [hi0]
    have hcnt : (if e + 1 < (s.toNat : Int) + 1 then 0 else (e + 1 - (s.toNat : Int)).toNat)
        = (e - s + 1).toNat := by
      split
      · omega
      · omega
    rw [hcnt]
    refine ⟨?_, rfl⟩
    rw [List.drop_drop]
    congr 2
    omega

theorem zRemRangeByRank_spec {z : ZSet} (h : Inv z) (start stop : Int) :
    (Spec.ZSet.sorted (zRemRangeByRank z start stop).1, ((zRemRangeByRank z start stop).2).toNat)
      = Spec.ZSet.remRangeByRank z start stop ∧ 0 ≤ (zRemRangeByRank z start stop).2 := by
  have h' := inv_zRemRangeByRank h start stop
  obtain ⟨h1, h2⟩ := zRemRangeByRank_sl z h.sameLen start stop
  rw [← sl_eq_sorted h', h1, h2]
  unfold Spec.ZSet.remRangeByRank
  rw [← sl_eq_sorted h]
  simp

theorem sorted_eq_of_mem {z : ZSet} (h : Inv z) (l : List Item) (hl : l.Pairwise ILt)
    (hm : ∀ s m, (s, m) ∈ l ↔ (m, s) ∈ z.dict) : Spec.ZSet.sorted z = l := by
  rw [← sl_eq_sorted h]
  apply sorted_ext (fun a b => ILt a b) _ _ _ h.slPW hl
  · rintro ⟨s, m⟩
    rw [h.mem_iff, hm]
  · intro a ha b hb hab hba
    exact itemLt_asymm a b (h.good a ha) (h.good b hb) hab hba

theorem sorted_eq_add {z z' : ZSet} (h : Inv z) (h' : Inv z') (m : Bytes) (s' : F64)
    (hs : F64.isNaN s' = false)
    (hd : ∀ q, q ∈ z'.dict ↔ q = (m, s') ∨ (q ∈ z.dict ∧ q.1 ≠ m)) :
    Spec.ZSet.sorted z' = Spec.ZSet.add z m s' := by
  have hsub : ((Spec.ZSet.sorted z).filter fun it => decide (it.2 ≠ m)).Sublist (Spec.ZSet.sorted z) :=
    List.filter_sublist
  have hspw : (Spec.ZSet.sorted z).Pairwise ILt := by rw [← sl_eq_sorted h]; exact h.slPW
  have hsg : ∀ a ∈ Spec.ZSet.sorted z, Good a := by rw [← sl_eq_sorted h]; exact h.good
  apply sorted_eq_of_mem h'
  · unfold Spec.ZSet.add Spec.ZSet.rem
    apply insert_pairwise (s', m) hs _ (hspw.sublist hsub) (fun a ha => hsg a (hsub.subset ha))
    intro a ha
    simpa using (List.mem_filter.mp ha).2
  · intro s0 m0
    rw [hd]
    unfold Spec.ZSet.add Spec.ZSet.rem
    rw [mem_insert, List.mem_filter, mem_sorted]
    simp only [Prod.mk.injEq, ne_eq, decide_not, Bool.not_eq_eq_eq_not, Bool.not_true,
      decide_eq_false_iff_not]
    constructor
    · rintro (⟨e1, e2⟩ | e)
      · exact Or.inl ⟨e2, e1⟩
      · exact Or.inr e
    · rintro (⟨e1, e2⟩ | e)
      · exact Or.inl ⟨e2, e1⟩
      · exact Or.inr e

/-- plain ZADD: the member is placed where its (stored) score demands, nothing else changes; the
    stored score is the new one unless an IEEE-equal score was already stored (then nothing changes) -/
theorem zAdd_sorted {z : ZSet} (h : Inv z) (m : Bytes) (s : F64) (hs : F64.isNaN s = false) :
    ∃ s', zScore (zAdd z m s).1 m = some s' ∧ F64.eq s' s = true ∧
      Spec.ZSet.sorted (zAdd z m s).1 = Spec.ZSet.add z m s' := by
  have h' := inv_zAdd h m s hs
  have hss : F64.eq s s = true := by simp [F64.eq, hs]
  have hset : ∀ (z' : ZSet), Inv z' → z'.dict = AList.set z.dict m s →
      Spec.ZSet.sorted z' = Spec.ZSet.add z m s := by
    intro z' hz' hdict
    apply sorted_eq_add h hz' m s hs
    intro q
    rw [hdict]
    exact AListLemmas2.mem_set_iff z.dict h.dictSorted m s q
  unfold zScore
  revert h'
  unfold zAdd
  cases hget : AList.get? z.dict m with
  | none =>
    intro h'
    exact ⟨s, AListLemmas2.get?_set_same z.dict m s, hss, hset _ h' rfl⟩
  | some old =>
    simp only
    by_cases heq : F64.eq s old = true
    · rw [if_pos heq]
      intro _
      refine ⟨old, hget, eq_symm s old heq, ?_⟩
      apply sorted_eq_add h h m old (h.noNaN (m, old) ((AListLemmas2.get?_eq_some_iff_mem z.dict h.dictSorted m old).mp hget))
      intro q
      have hold : (m, old) ∈ z.dict := (AListLemmas2.get?_eq_some_iff_mem z.dict h.dictSorted m old).mp hget
      constructor
      · intro e
        by_cases hq : q.1 = m
        · left
          obtain ⟨k, v⟩ := q
          simp only at hq
          subst hq
          rw [AListLemmas2.val_unique z.dict h.dictSorted e hold]
        · exact Or.inr ⟨e, hq⟩
      · rintro (e | ⟨e, _⟩)
        · rw [e]; exact hold
        · exact e
    · rw [if_neg heq]
      intro h'
      exact ⟨s, AListLemmas2.get?_set_same z.dict m s, hss, hset _ h' rfl⟩

theorem length_erase_of_get? {V : Type} (key : Bytes) (v : V) : ∀ (d : AList V),
    AList.get? d key = some v → (AList.erase d key).length + 1 = d.length := by
  intro d
  induction d with
  | nil => intro h; simp [AList.get?] at h
  | cons p rest ih =>
    obtain ⟨k, w⟩ := p
    intro h
    simp only [AList.get?] at h
    unfold AList.erase
    by_cases hk : k = key
    · simp [hk]
    · simp only [hk, if_false] at h ⊢
      simp only [List.length_cons]
      rw [ih h]

theorem foldl_remStep_spec : ∀ (ms : List Bytes) (acc : ZSet × Int), Inv acc.1 →
    (∀ q, q ∈ (ms.foldl remStep acc).1.dict ↔ q ∈ acc.1.dict ∧ q.1 ∉ ms) ∧
    (ms.foldl remStep acc).2 = acc.2 + ((acc.1.dict.length : Int) - (ms.foldl remStep acc).1.dict.length) := by
  intro ms
  induction ms with
  | nil => intro acc _; simp
  | cons m ms ih =>
    intro acc hacc
    obtain ⟨ih1, ih2⟩ := ih (remStep acc m) (inv_remStep hacc m)
    simp only [List.foldl_cons]
    have hstep : (∀ q, q ∈ (remStep acc m).1.dict ↔ q ∈ acc.1.dict ∧ q.1 ≠ m) ∧
        (remStep acc m).2 = acc.2 + ((acc.1.dict.length : Int) - (remStep acc m).1.dict.length) := by
      unfold remStep
      cases hget : AList.get? acc.1.dict m with
      | none =>
        simp only
        refine ⟨?_, by omega⟩
        intro q
        constructor
        · intro hq; exact ⟨hq, (get?_none_iff m acc.1.dict).mp hget q hq⟩
        · intro hq; exact hq.1
      | some sc =>
        simp only
        refine ⟨fun q => AListLemmas2.mem_erase_iff acc.1.dict hacc.dictSorted m q, ?_⟩
        have := length_erase_of_get? m sc acc.1.dict hget
        omega
    refine ⟨?_, ?_⟩
    · intro q
      rw [ih1, hstep.1]
      simp only [List.mem_cons, not_or]
      constructor
      · rintro ⟨⟨a, b⟩, c⟩; exact ⟨a, b, c⟩
      · rintro ⟨a, b, c⟩; exact ⟨⟨a, b⟩, c⟩
    · rw [ih2, hstep.2]
      omega

theorem zRem_sorted {z : ZSet} (h : Inv z) (ms : List Bytes) :
    Spec.ZSet.sorted (zRem z ms).1 = (Spec.ZSet.sorted z).filter (fun it => decide (it.2 ∉ ms)) ∧
    (zRem z ms).2 = (Spec.ZSet.card z : Int) - Spec.ZSet.card (zRem z ms).1 := by
  have h' := inv_zRem h ms
  obtain ⟨h1, h2⟩ := foldl_remStep_spec ms (z, 0) h
  rw [← zRem_eq] at h1 h2
  have hspw : (Spec.ZSet.sorted z).Pairwise ILt := by rw [← sl_eq_sorted h]; exact h.slPW
  constructor
  · apply sorted_eq_of_mem h'
    · exact hspw.sublist List.filter_sublist
    · intro s m
      rw [h1, List.mem_filter, mem_sorted]
      simp
  · rw [h2]
    unfold Spec.ZSet.card
    rw [← sl_eq_sorted h, ← sl_eq_sorted h', h.sameLen, h'.sameLen]
    simp

end NodisVerif.Proofs.C04

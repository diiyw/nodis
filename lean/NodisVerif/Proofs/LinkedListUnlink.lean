import NodisVerif.Proofs.LinkedListBase
/-
  The pointer surgery `unlink` (shared by lRemAll, lRem, LTrim; lRevRem's `unlinkRev` is its mirror image):
  taking the node `x` out of the chain `a ++ x :: b` leaves the chain `a ++ b`; the node `x` itself is not
  written (so the walk can still read its `next` / `prev`), no data changes, the heap keeps its size.
-/
namespace NodisVerif.LinkedList

/-- what an in-place operation that only rewires pointers leaves alone -/
structure SameData (l l' : PList) : Prop where
  size : l'.heap.size = l.heap.size
  data : ∀ i, dataAt l'.heap i = dataAt l.heap i

theorem SameData.refl (l : PList) : SameData l l := ⟨rfl, fun _ => rfl⟩
theorem SameData.trans {l1 l2 l3 : PList} (h1 : SameData l1 l2) (h2 : SameData l2 l3) : SameData l1 l3 :=
  ⟨by rw [h2.size, h1.size], fun i => by rw [h2.data, h1.data]⟩

theorem nodup_mid {a b : List Nat} {x : Nat} (h : (a ++ x :: b).Nodup) :
    a.Nodup ∧ b.Nodup ∧ x ∉ a ∧ x ∉ b ∧ (∀ i, i ∈ a → i ∉ b) ∧ (a ++ b).Nodup := by
  rw [List.nodup_append] at h
  obtain ⟨ha, hxb, hd⟩ := h
  rw [List.nodup_cons] at hxb
  refine ⟨ha, hxb.2, ?_, hxb.1, ?_, ?_⟩
  · intro hx; exact hd x hx x (List.mem_cons_self ..) rfl
  · intro i hi hib; exact hd i hi i (List.mem_cons_of_mem _ hib) rfl
  · rw [List.nodup_append]
    exact ⟨ha, hxb.2, fun i hi j hj => hd i hi j (List.mem_cons_of_mem _ hj)⟩

theorem getLast?_append' (a b : List Nat) : (a ++ b).getLast? = lst b a.getLast? := by
  rw [← lst_none, lst_append, lst_none]

theorem head?_append' (a b : List Nat) : (a ++ b).head? = hd a b.head? := by
  rw [← hd_none, hd_append, hd_none]

theorem lst_cons_indep (j : Nat) (t : List Nat) (p p' : Option Nat) : lst (j :: t) p = lst (j :: t) p' := by
  unfold lst
  cases hl : (j :: t).getLast? with
  | none => simp at hl
  | some x => rfl

theorem hd_concat_indep (t : List Nat) (j : Nat) (q q' : Option Nat) : hd (t ++ [j]) q = hd (t ++ [j]) q' := by
  cases t <;> rfl

theorem bypassNext_spec (l : PList) (a : List Nat) (x : Nat) (n : Node) (nx : Option Nat)
    (hp : n.prev = lst a none) (hnx : n.next = nx)
    (sa : Seg l.heap none a (some x)) (hna : a.Nodup) (hh : l.head = hd a (some x)) :
    ∃ l1, bypassNext l n = .ok l1 ∧ Seg l1.heap none a nx ∧ l1.head = hd a nx ∧ l1.tail = l.tail ∧
      l1.length = l.length ∧ SameData l l1 ∧ (∀ i, i ∉ a → l1.heap[i]? = l.heap[i]?) := by
  unfold bypassNext
  rcases List.eq_nil_or_concat a with rfl | ⟨a', p', rfl⟩
  · simp only [lst_nil] at hp
    simp only [hp, hnx]
    exact ⟨_, rfl, trivial, rfl, rfl, rfl, ⟨rfl, fun _ => rfl⟩, fun _ _ => rfl⟩
  · rw [List.concat_eq_append] at *
    simp only [lst_concat] at hp
    obtain ⟨np, hp', _, _⟩ := seg_mid _ a' [] p' none (some x) sa
    have hpa' : p' ∉ a' := by
      rw [List.nodup_append] at hna
      intro hm; exact hna.2.2 p' hm p' (by simp) rfl
    simp only [hp, hnx, setNext_ok hp' _, Res.bind_ok, Res.pure_eq]
    refine ⟨_, rfl, seg_setNext_last _ a' p' none _ _ np hpa' hp' sa, ?_, rfl, rfl, ?_, ?_⟩
    · simp only; rw [hh]; exact hd_concat_indep ..
    · exact ⟨by simp, fun i => dataAt_set_next _ _ _ _ hp' i⟩
    · intro i hia; simp only
      exact get_set_ne _ _ _ _ (fun e => hia (by simp [← e]))

theorem bypassPrev_spec (l : PList) (b : List Nat) (x : Nat) (n : Node) (pv : Option Nat)
    (hp : n.prev = pv) (hnx : n.next = hd b none)
    (sb : Seg l.heap (some x) b none) (hnb : b.Nodup) (ht : l.tail = lst b (some x)) :
    ∃ l1, bypassPrev l n = .ok l1 ∧ Seg l1.heap pv b none ∧ l1.tail = lst b pv ∧ l1.head = l.head ∧
      l1.length = l.length ∧ SameData l l1 ∧ (∀ i, i ∉ b → l1.heap[i]? = l.heap[i]?) := by
  unfold bypassPrev
  cases b with
  | nil =>
    simp only [hd_nil] at hnx
    simp only [hnx, hp, Res.pure_eq]
    exact ⟨_, rfl, trivial, rfl, rfl, rfl, ⟨rfl, fun _ => rfl⟩, fun _ _ => rfl⟩
  | cons r b' =>
    simp only [hd_cons] at hnx
    have ⟨nr, hr, _⟩ := sb
    have hrb' : r ∉ b' := (List.nodup_cons.mp hnb).1
    simp only [hnx, hp, setPrev_ok hr _, Res.bind_ok, Res.pure_eq]
    refine ⟨_, rfl, seg_setPrev_first _ b' r _ none _ nr hrb' hr sb, ?_, rfl, rfl, ?_, ?_⟩
    · simp only; rw [ht]; exact lst_cons_indep ..
    · exact ⟨by simp, fun i => dataAt_set_prev _ _ _ _ hr i⟩
    · intro i hib; simp only
      exact get_set_ne _ _ _ _ (fun e => hib (by simp [← e]))

theorem unlink_spec (l : PList) (a b : List Nat) (x : Nat) (hi : InvC l (a ++ x :: b)) :
    ∃ l', unlink l x = .ok l' ∧ InvC l' (a ++ b) ∧ l'.heap[x]? = l.heap[x]? ∧ SameData l l' := by
  obtain ⟨n, hx, hp, hnx⟩ := seg_mid _ a b x none none hi.seg
  obtain ⟨hna, hnb, hxa, hxb, hdis, hnab⟩ := nodup_mid hi.nodup
  have hseg := hi.seg
  rw [seg_append] at hseg
  obtain ⟨sa, _, _, _, _, sb⟩ := hseg
  simp only [hd_cons] at sa
  obtain ⟨l1, e1, s1a, hh1, ht1, hl1, sd1, fr1⟩ := bypassNext_spec l a x n _ hp hnx sa hna
    (by rw [hi.head, head?_append']; rfl)
  have hx1 : l1.heap[x]? = some n := by rw [fr1 x hxa]; exact hx
  have sb1 : Seg l1.heap (some x) b none :=
    seg_frame _ _ b _ _ (fun i hib => fr1 i (fun hia => hdis i hia hib)) sb
  obtain ⟨l2, e2, s2b, ht2, hh2, hl2, sd2, fr2⟩ := bypassPrev_spec l1 b x n _ hp hnx sb1 hnb
    (by rw [ht1, hi.tail, getLast?_append', lst_cons])
  have hx2 : l2.heap[x]? = some n := by rw [fr2 x hxb]; exact hx1
  have s2a : Seg l2.heap none a (hd b none) :=
    seg_frame _ _ a _ _ (fun i hia => fr2 i (hdis i hia)) s1a
  refine ⟨{ l2 with length := l2.length - 1 }, ?_, ?_, ?_, ?_⟩
  · unfold unlink
    simp only [rd_ok hx, Res.bind_ok, e1, rd_ok hx1, e2]
  · refine ⟨hnab, ?_, ?_, ?_, ?_⟩
    · rw [seg_append]; exact ⟨s2a, s2b⟩
    · simp only; rw [hh2, hh1, head?_append', hd_none]
    · simp only; rw [ht2, getLast?_append', lst_none]
    · simp only; rw [hl2, hl1, hi.length]; simp; omega
  · simp only; rw [hx2, hx]
  · exact ⟨by simp only; rw [sd2.size, sd1.size], fun i => by simp only; rw [sd2.data, sd1.data]⟩

theorem bypassPrev_mirror (l : PList) (n : Node) :
    bypassPrev l.mirror n.mirror = (bypassNext l n).map PList.mirror := by
  unfold bypassPrev bypassNext
  simp only [Node.mirror, PList.mirror]
  cases n.prev <;>
    simp only [setPrev_mirror, Res.bind_map, Res.map_bind, Res.map_ok, Res.pure_eq, PList.mirror]

theorem bypassNext_mirror (l : PList) (n : Node) :
    bypassNext l.mirror n.mirror = (bypassPrev l n).map PList.mirror := by
  unfold bypassPrev bypassNext
  simp only [Node.mirror, PList.mirror]
  cases n.next <;>
    simp only [setNext_mirror, Res.bind_map, Res.map_bind, Res.map_ok, Res.pure_eq, PList.mirror]

theorem unlinkRev_mirror (l : PList) (x : Nat) : unlinkRev l.mirror x = (unlink l x).map PList.mirror := by
  unfold unlinkRev unlink
  simp only [PList.mirror_heap, rd_mirror, Res.bind_map, bypassPrev_mirror, bypassNext_mirror, Res.map_bind,
    Res.map_ok]
  rfl

theorem unlinkRev_spec (l : PList) (a b : List Nat) (x : Nat) (hi : InvC l (a ++ x :: b)) :
    ∃ l', unlinkRev l x = .ok l' ∧ InvC l' (a ++ b) ∧ l'.heap[x]? = l.heap[x]? ∧ SameData l l' := by
  have hi' : InvC l.mirror (b.reverse ++ x :: a.reverse) := by simpa using hi.mirror
  obtain ⟨l1, e, hi1, hx1, sd1⟩ := unlink_spec l.mirror _ _ x hi'
  have em := unlinkRev_mirror l.mirror x
  rw [PList.mirror_mirror, e] at em
  refine ⟨l1.mirror, em, by simpa using hi1.mirror, ?_, ?_, ?_⟩
  · rw [PList.mirror_heap, Array.getElem?_map, hx1, PList.mirror_heap, Array.getElem?_map]
    cases l.heap[x]? <;> rfl
  · rw [PList.mirror_heap, Array.size_map, sd1.size, PList.mirror_heap, Array.size_map]
  · intro i
    rw [PList.mirror_heap, dataAt_mirror, sd1.data, PList.mirror_heap, dataAt_mirror]

end NodisVerif.LinkedList

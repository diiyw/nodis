import NodisVerif.Model.Block
/-
  The BLPOP/BRPOP wake-up protocol `Model/Block.lean`: every `step` touches exactly one waiter (`lstep`, `step_eq`), and the
  invariant principle over runs that rests on it.
-/
namespace NodisVerif.Proofs.Block
open NodisVerif.Block

deriving instance DecidableEq for WSt

def evCode : Ev → Nat × W × Key × Bool
  | .reg w k => (0, w, k, false)
  | .try_ w k got => (1, w, k, got)
  | .block w timed => (2, w, "", timed)
  | .wake w => (3, w, "", false)
  | .timeout w => (4, w, "", false)
  | .notify w k => (5, w, k, false)
  | .abort w => (6, w, "", false)
  | .unreg w k => (7, w, k, false)
  | .fin w => (8, w, "", false)

def evOfCode : Nat × W × Key × Bool → Ev
  | (0, w, k, _) => .reg w k
  | (1, w, k, got) => .try_ w k got
  | (2, w, _, timed) => .block w timed
  | (3, w, _, _) => .wake w
  | (4, w, _, _) => .timeout w
  | (5, w, k, _) => .notify w k
  | (6, w, _, _) => .abort w
  | (7, w, k, _) => .unreg w k
  | (_, w, _, _) => .fin w

theorem evOfCode_evCode (e : Ev) : evOfCode (evCode e) = e := by
  cases e <;> rfl

/-- equality of events is decided on the codes (the instance `deriving` writes for the nine constructors costs ten times as
    much to check) -/
instance : DecidableEq Ev := fun a b =>
  decidable_of_iff (evCode a = evCode b)
    ⟨fun h => by rw [← evOfCode_evCode a, h, evOfCode_evCode], congrArg evCode⟩

theorem get_nil (w : W) : get [] w = none := rfl

theorem find_filter_ne (s : BState) (w w' : W) (h : w' ≠ w) :
    (s.filter (fun p => !(p.1 == w))).find? (·.1 == w') = s.find? (·.1 == w') := by
  rw [List.find?_filter]
  congr 1; funext p
  by_cases hq : p.1 = w' <;> simp [hq, h]

theorem find_filter_self (s : BState) (w : W) :
    (s.filter (fun p => !(p.1 == w))).find? (·.1 == w) = none := by
  rw [List.find?_filter]
  simp

theorem get_set_self (s : BState) (w : W) (st : WSt) : get (set s w st) w = some st := by
  simp [Block.get, Block.set]

theorem get_set_ne (s : BState) (w w' : W) (st : WSt) (h : w' ≠ w) :
    get (set s w st) w' = get s w' := by
  have : ¬ w = w' := fun e => h e.symm
  simp [Block.get, Block.set, this, find_filter_ne s w w' h]

theorem get_del_self (s : BState) (w : W) : get (del s w) w = none := by
  simp [Block.get, Block.del]

theorem get_del_ne (s : BState) (w w' : W) (h : w' ≠ w) : get (del s w) w' = get s w' := by
  simp [Block.get, Block.del, find_filter_ne s w w' h]

def put (s : BState) (w : W) : Option WSt → BState
  | some st => set s w st
  | none => del s w

theorem get_put_self (s : BState) (w : W) (o : Option WSt) : get (put s w o) w = o := by
  cases o <;> simp [put, get_set_self, get_del_self]

theorem get_put_ne (s : BState) (w w' : W) (o : Option WSt) (h : w' ≠ w) :
    get (put s w o) w' = get s w' := by
  cases o <;> simp [put, get_set_ne _ _ _ _ h, get_del_ne _ _ _ h]

def evW : Ev → W
  | .reg w _ | .try_ w _ _ | .block w _ | .wake w | .timeout w | .notify w _ | .abort w | .unreg w _
  | .fin w => w

/-- the event is an action of waiter `w` itself (everything but `notify`, which is the pusher's) -/
def own (w : W) : Ev → Bool
  | .notify _ _ => false
  | e => evW e == w

/-- the scan position a phase stands for (`registering` = before the first try = position 0) -/
def pos : Phase → Option Nat
  | .registering => some 0
  | .scan i => some i
  | _ => none

/-- `step` seen from the one waiter it is about: `o` is its state (`none` = not there), the result is
    its new state (`some none` = it has left).  `Block.step` (the model, which the trace replay runs) is
    written over the whole state; this is the same nine branches with `o` for `get s w` and without the
    write-back, and `step_eq` says so - every later proof is about one waiter and goes through `lstep`. -/
def lstep (o : Option WSt) : Ev → Option (Option WSt)
  | .reg _ k =>
    let st := o.getD {}
    if st.phase != .registering then none else
    some (some { st with keys := st.keys ++ [k], reg := st.reg ++ [k] })
  | .try_ _ k got =>
    match o with
    | none => none
    | some st =>
      match pos st.phase with
      | none => none
      | some i =>
        if st.keys[i]? != some k then none else
        if got then some (some { st with phase := .gotElem k })
        else some (some { st with phase := .scan (i + 1), seen := k :: st.seen })
  | .block _ timed =>
    match o with
    | none => none
    | some st =>
      if st.phase != .scan st.keys.length then none else
      some (some { st with phase := .blocked, timed := timed })
  | .wake _ =>
    match o with
    | none => none
    | some st =>
      if st.phase != .blocked || !st.buf then none else
      some (some { st with phase := .scan 0, buf := false, woken := st.woken + 1 })
  | .timeout _ =>
    match o with
    | none => none
    | some st =>
      if st.phase != .blocked || !st.timed then none else
      some (some { st with phase := .gotNull })
  | .notify _ k =>
    match o with
    | none => none
    | some st =>
      if !st.reg.contains k then none else
      some (some { st with buf := true, seen := st.seen.filter (· != k), notified := st.notified + 1 })
  | .abort _ =>
    match o with
    | none => none
    | some st =>
      match st.phase with
      | .registering | .scan _ => some (some { st with phase := .aborted })
      | _ => none
  | .unreg _ k =>
    match o with
    | none => none
    | some st =>
      match st.phase with
      | .gotElem _ | .gotNull | .aborted => some (some { st with reg := st.reg.filter (· != k) })
      | _ => none
  | .fin _ =>
    match o with
    | none => none
    | some st => if st.reg.isEmpty then some none else none

theorem step_eq (s : BState) (e : Ev) :
    step s e = (lstep (Block.get s (evW e)) e).map (put s (evW e)) := by
  cases e with
  | reg w k =>
    simp only [step, lstep, evW]
    split <;> simp [*, put]
  | try_ w k got =>
    simp only [step, lstep, evW]
    cases Block.get s w with
    | none => rfl
    | some st =>
      simp only
      cases st.phase <;> simp only [pos, Option.map_none]
      all_goals split
      all_goals first | rfl | (split <;> simp [*, put])
  | block w t | wake w | timeout w | notify w k | fin w =>
    simp only [step, lstep, evW]
    cases Block.get s w with
    | none => rfl
    | some st => simp only; split <;> rfl
  | abort w | unreg w k =>
    simp only [step, lstep, evW]
    cases Block.get s w with
    | none => rfl
    | some st => simp only; cases st.phase <;> rfl

theorem step_of_lstep {s : BState} {e : Ev} {o : Option WSt} (h : lstep (get s (evW e)) e = some o) :
    step s e = some (put s (evW e) o) := by
  rw [step_eq, h]; rfl

theorem step_some_iff {s s' : BState} {e : Ev} :
    step s e = some s' ↔ ∃ o, lstep (get s (evW e)) e = some o ∧ s' = put s (evW e) o := by
  rw [step_eq]
  cases lstep (get s (evW e)) e with
  | none => simp
  | some o => simp [eq_comm]

theorem step_frame {s s' : BState} {e : Ev} (h : step s e = some s') {w : W} (hw : w ≠ evW e) :
    get s' w = get s w := by
  obtain ⟨o, _, rfl⟩ := step_some_iff.1 h
  exact get_put_ne _ _ _ _ hw

theorem step_local {s s' : BState} {e : Ev} (h : step s e = some s') :
    lstep (get s (evW e)) e = some (get s' (evW e)) := by
  obtain ⟨o, ho, rfl⟩ := step_some_iff.1 h
  rw [get_put_self]; exact ho

def runAll (s : BState) : List Ev → Option BState
  | [] => some s
  | e :: es => (step s e).bind (fun s' => runAll s' es)

theorem runAll_append (s : BState) (es fs : List Ev) :
    runAll s (es ++ fs) = (runAll s es).bind (fun s' => runAll s' fs) := by
  induction es generalizing s with
  | nil => simp [runAll]
  | cons e es ih =>
    simp only [List.cons_append, runAll]
    cases step s e with
    | none => rfl
    | some s1 => simpa using ih s1

theorem runAll_snoc (s : BState) (es : List Ev) (e : Ev) :
    runAll s (es ++ [e]) = (runAll s es).bind (fun s' => step s' e) := by
  rw [runAll_append]
  congr 1; funext s'
  simp [runAll]

def Reachable (s : BState) : Prop := ∃ es, runAll [] es = some s

theorem run_induction {P : List Ev → BState → Prop} {s0 : BState} {es0 : List Ev} (h0 : P es0 s0)
    (hs : ∀ es s e s', P es s → step s e = some s' → P (es ++ [e]) s')
    {es : List Ev} {s : BState} (h : runAll s0 es = some s) : P (es0 ++ es) s := by
  induction es generalizing s0 es0 with
  | nil => simp only [runAll, Option.some.injEq] at h; subst h; simpa using h0
  | cons e es ih =>
    simp only [runAll] at h
    cases hse : step s0 e with
    | none => simp [hse] at h
    | some s1 =>
      simp only [hse, Option.bind_some] at h
      have := ih (hs _ _ _ _ h0 hse) h
      simpa using this

theorem trace_induction {P : List Ev → BState → Prop} (h0 : P [] [])
    (hs : ∀ es s e s', P es s → step s e = some s' → P (es ++ [e]) s')
    {es : List Ev} {s : BState} (h : runAll [] es = some s) : P es s := by
  simpa using run_induction (es0 := []) h0 hs h

theorem Reachable.step {s s' : BState} {e : Ev} (h : Reachable s) (hs : step s e = some s') :
    Reachable s' := by
  obtain ⟨es, h⟩ := h
  exact ⟨es ++ [e], by rw [runAll_snoc, h]; exact hs⟩

theorem trace_local_invariant {P : List Ev → W → WSt → Prop}
    (hother : ∀ es w st e, P es w st → evW e ≠ w → P (es ++ [e]) w st)
    (hl : ∀ es (o : Option WSt) e st', (∀ st, o = some st → P es (evW e) st) →
      lstep o e = some (some st') → P (es ++ [e]) (evW e) st')
    {es : List Ev} {s : BState} (h : runAll [] es = some s) {w : W} {st : WSt}
    (hg : get s w = some st) : P es w st := by
  refine trace_induction (P := fun es s => ∀ w st, get s w = some st → P es w st) ?_ ?_ h w st hg
  · intro w st hg; simp [get_nil] at hg
  · intro es s e s' ih hse w st hg
    by_cases hw : w = evW e
    · subst hw
      have := step_local hse
      rw [hg] at this
      exact hl es _ e st (fun st0 h0 => ih _ st0 h0) this
    · rw [step_frame hse hw] at hg
      exact hother es w st e (ih w st hg) (fun h => hw h.symm)

theorem local_invariant {P : WSt → Prop}
    (hl : ∀ (o : Option WSt) e st', (∀ st, o = some st → P st) → lstep o e = some (some st') → P st')
    {s : BState} (h : Reachable s) {w : W} {st : WSt} (hg : get s w = some st) : P st := by
  obtain ⟨es, h⟩ := h
  exact trace_local_invariant (P := fun _ _ st => P st) (fun _ _ _ _ h _ => h) (fun _ => hl) h hg

end NodisVerif.Proofs.Block

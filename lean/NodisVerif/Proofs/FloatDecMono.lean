import NodisVerif.Proofs.FloatDecRound
/-
  Monotonicity of rounding: a larger exact value never rounds to a smaller double. (A) the bit pattern of a positive result as a
  number (`roundPack_toNat`, through the unnormalised pair `rndq`), (B) monotone at one exponent (`rndq_mono`), (C) invariance under
  scaling n·2^d at e−d (`rndq_scale`), (D) every point strictly inside a cell of the fine grid rounds like the cell (`rndq_interior`),
  (E) `roundRat` at a common scale (`roundRat_mono`). (B) - (D) are first proved of `rne` alone, about naturals, and then carried over.
-/
namespace NodisVerif.Proofs.FloatDecMono
open NodisVerif NodisVerif.F64 NodisVerif.FloatDec NodisVerif.Proofs.C09Float NodisVerif.Proofs.FloatDecRound

theorem rne_ge (n sh : Nat) : n / 2 ^ sh ≤ rne n sh := by unfold rne; split <;> omega
theorem rne_le (n sh : Nat) : rne n sh ≤ n / 2 ^ sh + 1 := by unfold rne; split <;> omega

theorem half_pow {sh : Nat} (d : Nat) (hsh : 1 ≤ sh) : 2 ^ (sh + d - 1) = 2 ^ (sh - 1) * 2 ^ d := by
  rw [← Nat.pow_add]; congr 1; omega

theorem rne_scale (n d sh : Nat) (hsh : 1 ≤ sh) : rne (n * 2 ^ d) (sh + d) = rne n sh := by
  have hpd : 0 < 2 ^ d := Nat.two_pow_pos _
  unfold rne
  rw [half_pow d hsh, Nat.pow_add, Nat.mul_div_mul_right _ _ hpd, Nat.mul_mod_mul_right]
  simp only [gt_iff_lt, Nat.mul_lt_mul_right hpd, Nat.mul_left_inj (Nat.ne_of_gt hpd)]

theorem rne_mono (n1 n2 sh : Nat) (h : n1 ≤ n2) : rne n1 sh ≤ rne n2 sh := by
  unfold rne
  have hp : 0 < 2 ^ sh := Nat.two_pow_pos _
  have hd : n1 / 2 ^ sh ≤ n2 / 2 ^ sh := Nat.div_le_div_right h
  have e1 := Nat.div_add_mod n1 (2 ^ sh)
  have e2 := Nat.div_add_mod n2 (2 ^ sh)
  generalize n1 / 2 ^ sh = a1 at *
  generalize n2 / 2 ^ sh = a2 at *
  generalize n1 % 2 ^ sh = r1 at *
  generalize n2 % 2 ^ sh = r2 at *
  generalize 2 ^ (sh - 1) = H
  by_cases heq : a1 = a2
  · -- the same quotient: the remainders are in order
    subst heq
    generalize 2 ^ sh * a1 = X at *
    split <;> split <;> omega
  · split <;> split <;> omega

/-- all points strictly inside the cell (Q·2^d, (Q+1)·2^d) round alike when at least two bits of Q are dropped
    as well: up exactly when the half bit of Q is set -/
theorem rne_interior (Q d r sh : Nat) (hsh : 2 ≤ sh) (hr0 : 0 < r) (hr : r < 2 ^ d) :
    rne (Q * 2 ^ d + r) (sh + d) = Q / 2 ^ sh + (if 2 ^ (sh - 1) ≤ Q % 2 ^ sh then 1 else 0) := by
  have hps : 0 < 2 ^ sh := Nat.two_pow_pos _
  have hQdm := Nat.div_add_mod Q (2 ^ sh)
  have hR0 := Nat.mod_lt Q hps
  have h2 := two_pow_pred (show 1 ≤ sh by omega)
  have hh := half_pow d (show 1 ≤ sh by omega)
  unfold rne
  generalize Q / 2 ^ sh = q0 at *
  generalize Q % 2 ^ sh = R0 at *
  have hlt : R0 * 2 ^ d + r < 2 ^ (sh + d) := by
    have := Nat.mul_le_mul_right (2 ^ d) (show R0 + 1 ≤ 2 ^ sh by omega)
    rw [Nat.add_mul, Nat.one_mul, ← Nat.pow_add] at this
    omega
  have hdecomp : (R0 * 2 ^ d + r) + 2 ^ (sh + d) * q0 = Q * 2 ^ d + r := by
    rw [← hQdm, Nat.pow_add, Nat.add_mul, Nat.mul_right_comm]
    omega
  obtain ⟨hdiv, hmod⟩ := (Nat.div_mod_unique (Nat.two_pow_pos (sh + d))).2 ⟨hdecomp, hlt⟩
  rw [hdiv, hmod, hh]
  generalize 2 ^ (sh - 1) = H0 at *
  by_cases hge : H0 ≤ R0
  · have := Nat.mul_le_mul_right (2 ^ d) hge
    rw [if_pos (Or.inl (by omega)), if_pos hge]
  · have := Nat.mul_le_mul_right (2 ^ d) (show R0 + 1 ≤ H0 by omega)
    rw [Nat.add_mul, Nat.one_mul] at this
    rw [if_neg (by omega), if_neg hge]
    rfl

theorem log2_mono {a b : Nat} (h : a ≤ b) : a.log2 ≤ b.log2 := by
  by_cases ha : a = 0
  · subst ha; exact Nat.zero_le _
  · exact (Nat.le_log2 (by omega)).2 (Nat.le_trans (Nat.log2_self_le ha) h)

theorem shiftOf_mono {n1 n2 : Nat} (h : n1 ≤ n2) (e : Int) : shiftOf n1 e ≤ shiftOf n2 e := by
  have := log2_mono h
  unfold shiftOf; omega

theorem shiftOf_scale (n d r : Nat) (hn : 0 < n) (hr : r < 2 ^ d) (e : Int) :
    shiftOf (n * 2 ^ d + r) (e - d) = shiftOf n e + d := by
  unfold shiftOf; rw [log2_mul_two_pow_add n d r hn hr]; omega

theorem rndq_snd (n : Nat) (e : Int) : (rndq n e).2 = e + shiftOf n e := rfl

theorem rndq_bounds (n : Nat) (hn : 0 < n) (e : Int) :
    -1074 ≤ (rndq n e).2 ∧ (rndq n e).1 ≤ 2 ^ 53 ∧ (-1074 < (rndq n e).2 → 2 ^ 52 ≤ (rndq n e).1) ∧
    ((rndq n e).1 = 2 ^ 53 → 0 < shiftOf n e) := by
  have hlo := Nat.log2_self_le (n := n) (by omega)
  have hhi := Nat.lt_log2_self (n := n)
  have hS : shiftOf n e = max ((n.log2 : Int) + 1 - 53) (-1074 - e) := rfl
  unfold rndq
  generalize n.log2 = L at *
  dsimp only
  refine ⟨by omega, ?_⟩
  split
  · next h =>
    -- exact: shifted left by t with L + t ≤ 52, with equality above the smallest exponent
    obtain ⟨t, ht⟩ : ∃ t : Nat, shiftOf n e = -t := ⟨(-shiftOf n e).toNat, by rw [Int.toNat_of_nonneg (by omega), Int.neg_neg]⟩
    rw [ht] at hS ⊢
    rw [Int.neg_neg, Int.toNat_natCast]
    have hq : n * 2 ^ t < 2 ^ 53 :=
      calc n * 2 ^ t < 2 ^ (L + 1) * 2 ^ t := Nat.mul_lt_mul_of_pos_right hhi (Nat.two_pow_pos _)
        _ = 2 ^ (L + 1 + t) := (Nat.pow_add _ _ _).symm
        _ ≤ 2 ^ 53 := Nat.pow_le_pow_right (by decide) (by omega)
    refine ⟨Nat.le_of_lt hq, fun he => ?_, fun h53 => by omega⟩
    rw [show t = 52 - L by omega, pow_split (show L ≤ 52 by omega)]
    exact Nat.mul_le_mul_right _ hlo
  · next h =>
    obtain ⟨sh, hsh⟩ : ∃ sh : Nat, shiftOf n e = sh := ⟨(shiftOf n e).toNat, (Int.toNat_of_nonneg (by omega)).symm⟩
    rw [hsh] at hS ⊢
    rw [Int.toNat_natCast]
    have hq0 : n / 2 ^ sh < 2 ^ 53 := by
      apply Nat.div_lt_of_lt_mul
      calc n < 2 ^ (L + 1) := hhi
        _ ≤ 2 ^ (sh + 53) := Nat.pow_le_pow_right (by decide) (by omega)
        _ = 2 ^ sh * 2 ^ 53 := Nat.pow_add _ _ _
    have h1 := rne_ge n sh
    have h2 := rne_le n sh
    refine ⟨by omega, fun he => ?_, fun _ => by omega⟩
    have hL : L = 52 + sh := by omega
    have : 2 ^ 52 ≤ n / 2 ^ sh := by
      rw [Nat.le_div_iff_mul_le (Nat.two_pow_pos _), ← Nat.pow_add, ← hL]
      exact hlo
    omega

/-- the monotone key of the (unnormalised) rounding result -/
def keyOf (p : Nat × Int) : Int := (p.2 + 1074) * 2 ^ 52 + p.1

theorem rpFinish_toNat (q : Nat) (e' : Int) (hq : q < 2 ^ 53) (he : -1074 ≤ e') (hn : -1074 < e' → 2 ^ 52 ≤ q) :
    ((rpFinish false q e').toNat : Int) = min (2047 * 2 ^ 52) ((e' + 1074) * 2 ^ 52 + q) := by
  by_cases h52 : 2 ^ 52 ≤ q
  · by_cases hb : e' + 1075 ≥ 2047
    · have : rpFinish false q e' = inf false := by
        unfold rpFinish; rw [if_pos h52]; dsimp only; rw [if_pos hb]
      rw [this, show (inf false).toNat = 2047 * 2 ^ 52 by decide]
      omega
    · rw [rpFinish_normal false q e' (e' + 1075).toNat h52 (by omega) (by omega),
        pack_toNat false _ _ (by omega) (by omega)]
      simp only [Bool.false_eq_true, if_false]
      omega
  · have he' : e' = -1074 := by
      by_cases h : -1074 < e'
      · exact absurd (hn h) h52
      · omega
    rw [rpFinish_subnormal_toNat false q e' (by omega)]
    simp only [Bool.false_eq_true, if_false]
    omega

/-- the key of the unnormalised pair, capped at +Inf -/
theorem roundPack_toNat (n : Nat) (hn : 0 < n) (e : Int) :
    ((roundPack false n e).toNat : Int) = min (2047 * 2 ^ 52) (keyOf (rndq n e)) := by
  obtain ⟨b1, b2, b3, b4⟩ := rndq_bounds n hn e
  rw [roundPack_eq, if_neg (by omega), rpCore_eq_rndq]
  unfold keyOf
  generalize rndq n e = p at *
  obtain ⟨q, e'⟩ := p
  simp only at *
  split
  · next hc =>
    rw [rpFinish_toNat (2 ^ 52) (e' + 1) (by decide) (by omega) (fun _ => Nat.le_refl _), hc.1]
    omega
  · next hc =>
    have hq : q < 2 ^ 53 := by
      by_cases h53 : q = 2 ^ 53
      · exact absurd ⟨h53, b4 h53⟩ hc
      · omega
    rw [rpFinish_toNat q e' hq b1 b3]

theorem rndq_mono (n1 n2 : Nat) (e : Int) (h1 : 0 < n1) (h : n1 ≤ n2) : keyOf (rndq n1 e) ≤ keyOf (rndq n2 e) := by
  obtain ⟨_, a2, _, _⟩ := rndq_bounds n1 h1 e
  obtain ⟨_, _, b3, _⟩ := rndq_bounds n2 (by omega) e
  have hS := shiftOf_mono h e
  unfold keyOf
  rw [rndq_snd, rndq_snd] at *
  by_cases hlt : shiftOf n1 e < shiftOf n2 e
  · -- a smaller shift: the larger number is normal, one binade up
    have := b3 (by unfold shiftOf at *; omega)
    generalize (rndq n1 e).1 = q1 at *
    generalize (rndq n2 e).1 = q2 at *
    omega
  · -- the same shift
    have hS' : shiftOf n1 e = shiftOf n2 e := by omega
    have : (rndq n1 e).1 ≤ (rndq n2 e).1 := by
      unfold rndq
      rw [hS']
      split
      · exact Nat.mul_le_mul_right _ h
      · exact rne_mono n1 n2 _ h
    omega

theorem rndq_scale (n d : Nat) (hn : 0 < n) (e : Int) : rndq (n * 2 ^ d) (e - d) = rndq n e := by
  have hS := shiftOf_scale n d 0 hn (Nat.two_pow_pos d) e
  rw [Nat.add_zero] at hS
  unfold rndq
  rw [hS]
  generalize shiftOf n e = S
  refine Prod.ext ?_ (by simp only; omega)
  dsimp only
  by_cases h2 : S ≤ 0
  · rw [if_pos h2]
    by_cases h1 : S + (d : Int) ≤ 0
    · rw [if_pos h1, show (-S).toNat = d + (-(S + (d : Int))).toNat by omega, Nat.pow_add, Nat.mul_assoc]
    · -- the d new bits are dropped again, partly
      rw [if_neg h1, show d = (-S).toNat + (S + (d : Int)).toNat by omega, Nat.pow_add, ← Nat.mul_assoc]
      have : (S + (((-S).toNat + (S + (d : Int)).toNat : Nat) : Int)).toNat = (S + (d : Int)).toNat := by omega
      rw [this, rne_exact]
  · rw [if_neg h2, if_neg (by omega), show (S + (d : Int)).toNat = S.toNat + d by omega, rne_scale _ _ _ (by omega)]

/-- the rounding of every point strictly inside the cell (Q·2^e, (Q+1)·2^e) of a grid that is at least 4 times finer
    than the doubles (Q has at least 55 bits): down to ⌊Q/2^sh⌋ or up, decided by the half bit of Q alone -/
def cellRound (Q : Nat) (e : Int) : Nat × Int :=
  (Q / 2 ^ (shiftOf Q e).toNat + (if 2 ^ ((shiftOf Q e).toNat - 1) ≤ Q % 2 ^ (shiftOf Q e).toNat then 1 else 0),
   e + shiftOf Q e)

theorem rndq_interior (Q d r : Nat) (e : Int) (hQ : 2 ^ 54 ≤ Q) (hr0 : 0 < r) (hr : r < 2 ^ d) :
    rndq (Q * 2 ^ d + r) (e - d) = cellRound Q e := by
  have hQ0 : Q ≠ 0 := by have := Nat.two_pow_pos 54; omega
  have hS2 : 2 ≤ shiftOf Q e := by
    have : 54 ≤ Q.log2 := (Nat.le_log2 hQ0).2 hQ
    unfold shiftOf; omega
  unfold rndq cellRound
  rw [shiftOf_scale Q d r (by omega) hr e]
  generalize shiftOf Q e = S at *
  refine Prod.ext ?_ (by simp only; omega)
  dsimp only
  rw [if_neg (by omega), show (S + (d : Int)).toNat = S.toNat + d by omega, rne_interior Q d r _ (by omega) hr0 hr]

/-- at every scale the quotient + sticky bit lies in the cell of Q = ⌊N/D⌋ at twice the scale, on its lower end exactly
    when D divides N -/
theorem scaled_cell (N D d : Nat) (hD : 0 < D) :
    ∃ r, scaled N D d = N / D * 2 ^ (d + 1) + r ∧ r < 2 ^ (d + 1) ∧ (r = 0 ↔ N % D = 0) := by
  have hpd := Nat.two_pow_pos d
  -- N·2^d = D·(Q·2^d) + R·2^d, and R·2^d / D < 2^d
  have hN : N * 2 ^ d = D * (N / D * 2 ^ d) + N % D * 2 ^ d := by
    rw [← Nat.mul_assoc, ← Nat.add_mul, Nat.div_add_mod]
  have ht : N % D * 2 ^ d / D < 2 ^ d :=
    Nat.div_lt_of_lt_mul (Nat.mul_lt_mul_of_pos_right (Nat.mod_lt N hD) hpd)
  have hdm := Nat.div_add_mod (N % D * 2 ^ d) D
  have hq : N / D * (2 ^ d * 2) = 2 * (N / D * 2 ^ d) := by rw [Nat.mul_comm (2 ^ d) 2, Nat.mul_left_comm]
  unfold scaled
  rw [hN, Nat.mul_add_div hD, Nat.mul_add_mod, Nat.pow_succ, hq]
  refine ⟨2 * (N % D * 2 ^ d / D) + (if N % D * 2 ^ d % D = 0 then 0 else 1), by split <;> omega, by split <;> omega, ?_⟩
  by_cases hR : N % D = 0
  · simp [hR]
  · have : N % D * 2 ^ d ≠ 0 := Nat.mul_ne_zero hR (by omega)
    constructor
    · intro h0
      have ht0 : N % D * 2 ^ d / D = 0 := by split at h0 <;> omega
      have hm0 : N % D * 2 ^ d % D = 0 := by
        split at h0
        · assumption
        · omega
      rw [ht0, hm0, Nat.mul_zero] at hdm
      exact absurd hdm.symm this
    · exact fun h => absurd h hR

theorem rndq_scaled (N D d : Nat) (e : Int) (hD : 0 < D) (hQ : 2 ^ 54 ≤ N / D) :
    rndq (scaled N D d) (e - d) = rndq (scaled N D 0) e := by
  obtain ⟨r, hr, hlt, hz⟩ := scaled_cell N D d hD
  obtain ⟨r0, hr0, hlt0, hz0⟩ := scaled_cell N D 0 hD
  have cd : e - (d : Int) = e + 1 - ((d + 1 : Nat) : Int) := by omega
  have c0 : e = e + 1 - ((0 + 1 : Nat) : Int) := by omega
  rw [hr, hr0, cd]
  conv => rhs; rw [c0]
  by_cases hR : N % D = 0
  · -- exact quotient: pure scaling
    have hQ0 : 0 < N / D := Nat.lt_of_lt_of_le (Nat.two_pow_pos 54) hQ
    rw [hz.2 hR, hz0.2 hR, Nat.add_zero, rndq_scale _ _ hQ0, Nat.add_zero, rndq_scale _ _ hQ0]
  · -- inexact: every refinement is an interior point of the same cell
    rw [rndq_interior _ _ r _ hQ (by have := mt hz.1 hR; omega) hlt,
      rndq_interior _ _ r0 _ hQ (by have := mt hz0.1 hR; omega) hlt0]

theorem scaled_mono (a b c d : Nat) (hb : 0 < b) (hd : 0 < d) (h : a * d ≤ c * b) :
    2 * (a / b) + (if a % b = 0 then 0 else 1) ≤ 2 * (c / d) + (if c % d = 0 then 0 else 1) := by
  have ea := Nat.div_add_mod a b
  have ec := Nat.div_add_mod c d
  have ra := Nat.mod_lt a hb
  have rc := Nat.mod_lt c hd
  have hq : a / b ≤ c / d := by
    rw [Nat.le_div_iff_mul_le hd]
    apply Nat.le_of_mul_le_mul_right _ hb
    calc a / b * d * b = (b * (a / b)) * d := by ac_rfl
      _ ≤ a * d := Nat.mul_le_mul_right _ (by omega)
      _ ≤ c * b := h
  by_cases heq : a / b = c / d
  · have hs : a % b ≠ 0 → c % d ≠ 0 := by
      intro h1 h2
      have hc : c = d * (c / d) := by omega
      have hlt : b * (a / b) < a := by omega
      have : c * b < a * d := by
        calc c * b = (d * (c / d)) * b := by rw [← hc]
          _ = (b * (a / b)) * d := by rw [heq]; ac_rfl
          _ < a * d := Nat.mul_lt_mul_of_pos_right hlt hd
      omega
    rw [heq]
    by_cases h1 : a % b = 0
    · rw [if_pos h1]; omega
    · rw [if_neg h1, if_neg (hs h1)]; exact Nat.le_refl _
  · split <;> split <;> omega

theorem quot_big (num den : Nat) (hnum : 0 < num) (hden : 0 < den) : 2 ^ 54 ≤ NOf num den / DOf num den := by
  rw [Nat.le_div_iff_mul_le (DOf_pos num den hden)]
  have hlo := Nat.log2_self_le (n := num) (by omega)
  have hhi := Nat.lt_log2_self (n := den)
  -- k⁺ − k⁻ = k = 57 + log2 den − log2 num: one computation for both signs of k
  have hk := Int.toNat_sub_toNat_neg (kOf num den)
  unfold NOf DOf
  generalize (kOf num den).toNat = kp at hk ⊢
  generalize (-(kOf num den)).toNat = kn at hk ⊢
  calc 2 ^ 54 * (den * 2 ^ kn) ≤ 2 ^ 54 * (2 ^ (den.log2 + 1) * 2 ^ kn) :=
        Nat.mul_le_mul_left _ (Nat.mul_le_mul_right _ (Nat.le_of_lt hhi))
    _ = 2 ^ (54 + (den.log2 + 1 + kn)) := by rw [← Nat.pow_add, ← Nat.pow_add]
    _ ≤ 2 ^ (num.log2 + kp) := Nat.pow_le_pow_right (by decide) (by unfold kOf at hk; omega)
    _ = 2 ^ num.log2 * 2 ^ kp := Nat.pow_add _ _ _
    _ ≤ num * 2 ^ kp := Nat.mul_le_mul_right _ hlo

theorem scaled_pos (N D d : Nat) (h : 2 ^ 54 ≤ N / D) : 0 < scaled N D d := by
  unfold scaled
  have hpd : 0 < 2 ^ d := Nat.two_pow_pos _
  have : N / D ≤ N * 2 ^ d / D := Nat.div_le_div_right (Nat.le_mul_of_pos_right _ hpd)
  have := Nat.two_pow_pos 54
  omega

/-- bringing two scales k1, k2 to a common K: the exponents of 2 on both sides of the cross-multiplication agree
    (k = k⁺ − k⁻, and K − k ≥ 0) -/
theorem common_scale (k1 k2 K : Int) (h1 : k1 ≤ K) (h2 : k2 ≤ K) :
    k1.toNat + (K - k1).toNat + (-k2).toNat = k2.toNat + (K - k2).toNat + (-k1).toNat := by
  have v1 := Int.toNat_sub_toNat_neg k1
  have v2 := Int.toNat_sub_toNat_neg k2
  have u1 := Int.toNat_of_nonneg (Int.sub_nonneg.2 h1)
  have u2 := Int.toNat_of_nonneg (Int.sub_nonneg.2 h2)
  omega

theorem to_common_scale (k K : Int) (h : k ≤ K) : -k - 1 - (((K - k).toNat : Nat) : Int) = -K - 1 := by omega

theorem le_of_key_le {x y : Nat} {A B C : Int} (hx : (x : Int) = min C A) (hy : (y : Int) = min C B) (h : A ≤ B) :
    x ≤ y := by omega

/-- MONOTONICITY of the exact rounding: num1/den1 ≤ num2/den2 (cross-multiplied) ⇒ the rounded doubles are in
    the same order (as bit patterns of non-negative doubles, i.e. as numbers; +Inf on top) -/
theorem roundRat_mono (num1 den1 num2 den2 : Nat) (hd1 : 0 < den1) (hd2 : 0 < den2)
    (h : num1 * den2 ≤ num2 * den1) :
    (roundRat false num1 den1).toNat ≤ (roundRat false num2 den2).toNat := by
  by_cases hn1 : num1 = 0
  · subst hn1
    have : roundRat false 0 den1 = 0 := roundRat_zero false den1
    rw [this]; exact Nat.zero_le _
  have hn1' : 0 < num1 := by omega
  have hn2 : 0 < num2 := by
    apply Nat.pos_of_ne_zero
    intro h0; subst h0
    have := Nat.mul_pos hn1' hd2
    omega
  have q1 := quot_big num1 den1 hn1' hd1
  have q2 := quot_big num2 den2 hn2 hd2
  have D1 := DOf_pos num1 den1 hd1
  have D2 := DOf_pos num2 den2 hd2
  rw [roundRat_eq_scaled false num1 den1 hn1', roundRat_eq_scaled false num2 den2 hn2]
  have t1 := roundPack_toNat _ (scaled_pos _ _ 0 q1) (-(kOf num1 den1) - 1)
  have t2 := roundPack_toNat _ (scaled_pos _ _ 0 q2) (-(kOf num2 den2) - 1)
  generalize hK : max (kOf num1 den1) (kOf num2 den2) = K
  have s1 := rndq_scaled (NOf num1 den1) (DOf num1 den1) (K - kOf num1 den1).toNat (-(kOf num1 den1) - 1) D1 q1
  have s2 := rndq_scaled (NOf num2 den2) (DOf num2 den2) (K - kOf num2 den2).toNat (-(kOf num2 den2) - 1) D2 q2
  have hk1 : kOf num1 den1 ≤ K := hK ▸ Int.le_max_left _ _
  have hk2 : kOf num2 den2 ≤ K := hK ▸ Int.le_max_right _ _
  have c1 := to_common_scale _ K hk1
  have c2 := to_common_scale _ K hk2
  rw [c1] at s1
  rw [c2] at s2
  rw [← s1] at t1
  rw [← s2] at t2
  have hle : scaled (NOf num1 den1) (DOf num1 den1) (K - kOf num1 den1).toNat ≤
      scaled (NOf num2 den2) (DOf num2 den2) (K - kOf num2 den2).toNat := by
    unfold scaled
    apply scaled_mono _ _ _ _ D1 D2
    unfold NOf DOf
    have hX := common_scale (kOf num1 den1) (kOf num2 den2) K hk1 hk2
    generalize (kOf num1 den1).toNat = a1 at hX ⊢
    generalize (K - kOf num1 den1).toNat = d1 at hX ⊢
    generalize (-(kOf num2 den2)).toNat = b2 at hX ⊢
    generalize (kOf num2 den2).toNat = a2 at hX ⊢
    generalize (K - kOf num2 den2).toNat = d2 at hX ⊢
    generalize (-(kOf num1 den1)).toNat = b1 at hX ⊢
    calc num1 * 2 ^ a1 * 2 ^ d1 * (den2 * 2 ^ b2) = (num1 * den2) * 2 ^ (a1 + d1 + b2) := by
          rw [Nat.pow_add, Nat.pow_add]; ac_rfl
      _ ≤ (num2 * den1) * 2 ^ (a1 + d1 + b2) := Nat.mul_le_mul_right _ h
      _ = num2 * 2 ^ a2 * 2 ^ d2 * (den1 * 2 ^ b1) := by
          rw [hX, Nat.pow_add, Nat.pow_add]; ac_rfl
  exact le_of_key_le t1 t2 (rndq_mono _ _ (-K - 1) (scaled_pos _ _ _ q1) hle)

end NodisVerif.Proofs.FloatDecMono

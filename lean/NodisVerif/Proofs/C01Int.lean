import NodisVerif.Model.DsStr
import NodisVerif.Proofs.C15Decimal
/-
  C01 helper lemmas: Go `strconv` integer text (`parseInt64`, `formatInt`) and the counter commands.
-/
namespace NodisVerif.Proofs.C01
open NodisVerif

theorem formatInt_ne_nil (x : Int) : formatInt x ≠ [] := by
  unfold formatInt
  split
  · exact List.cons_ne_nil _ _
  · exact C15.natDigits_ne_nil _

theorem addInt_some (v : Bytes) (d : Int) (hv : v ≠ []) :
    DsStr.addInt (some v) d =
      match parseInt64 v with
      | none => none
      | some n => if inInt64 (n + d) then some (some (formatInt (n + d)), n + d) else none := by
  unfold DsStr.addInt
  have he : (DsStr.bytes (some v)).isEmpty = false := by
    cases v with
    | nil => exact absurd rfl hv
    | cons a r => rfl
  simp only [he, Bool.false_eq_true, if_false]
  rfl

theorem addInt_format (n d : Int) (hn : inInt64 n = true) :
    DsStr.addInt (some (formatInt n)) d =
      if inInt64 (n + d) then some (some (formatInt (n + d)), n + d) else none := by
  rw [addInt_some _ _ (formatInt_ne_nil n), C15.parseInt64_formatInt_eq, if_pos hn]

theorem addInt_nonnumeric (v : Bytes) (d : Int) (hv : v ≠ []) (hp : parseInt64 v = none) :
    DsStr.addInt (some v) d = none := by
  rw [addInt_some _ _ hv, hp]

theorem addInt_empty (s : DsStr.S) (d : Int) (hs : DsStr.bytes s = []) :
    DsStr.addInt s d = if inInt64 d then some (some (formatInt d), d) else none := by
  unfold DsStr.addInt
  rw [hs]
  simp only [List.isEmpty_nil, if_true]
  have : parseInt64 [48] = some 0 := by decide
  rw [this]
  simp only [Int.zero_add]

end NodisVerif.Proofs.C01

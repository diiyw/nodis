import NodisVerif.Proofs.HandlerShape
/-
  The list / hash / set handlers (`Handler2.table2`) in normal form.
-/
namespace NodisVerif.Proofs.HandlerShape
open NodisVerif NodisVerif.Resp NodisVerif.Handler NodisVerif.Handler2

theorem shape_pushH (left : Bool) (args : List Bytes) : Shape NoSpecial (pushH left args) := by
  unfold pushH
  split
  · exact .call (.push ..) .int
  · exact .err

theorem shape_popH (left : Bool) (args : List Bytes) : Shape NoSpecial (popH left args) := by
  unfold popH
  split
  · exact .err
  · exact .ite .err (.call (.pop ..) (.pop _))

theorem shape_llenH (args : List Bytes) : Shape NoSpecial (llenH args) := by
  unfold llenH
  split
  · exact .call (.llen _) .llen
  · exact .err

theorem shape_lIndexH (args : List Bytes) : Shape NoSpecial (lIndexH args) := by
  unfold lIndexH
  split
  · exact .call (.lindex ..) .optBulk
  · exact .err

theorem shape_lInsertH (args : List Bytes) : Shape NoSpecial (lInsertH args) := by
  unfold lInsertH
  split
  · exact .call (.linsert ..) .int
  · exact .err

theorem shape_lPushxH (args : List Bytes) : Shape NoSpecial (lPushxH args) := by
  unfold lPushxH
  split
  · exact .call (.pushX ..) .int
  · exact .err

theorem shape_rPushxH (args : List Bytes) : Shape NoSpecial (rPushxH args) := by
  unfold rPushxH
  split
  · exact .call (.pushX ..) .int
  · exact .err

/-- LREM: `cmd.Args[2]` is read inside the closure; if it is missing the closure panics before the call -/
theorem shape_lRemH (args : List Bytes) : Shape NoSpecial (lRemH args) := by
  unfold lRemH
  split
  · split
    · exact .err
    · next rest _ _ _ =>
      cases rest with
      | nil => exact .panic
      | cons v _ => exact .call (.lrem ..) .int
  · exact .err

theorem shape_startStop (args : List Bytes) (k : Bytes → Int → Int → HRes) (hk : ∀ key a b, Shape NoSpecial (k key a b)) :
    Shape NoSpecial (startStop args k) := by
  unfold startStop
  split
  · split
    · exact .err
    · split
      · exact .crash
      · split
        · exact .err
        · exact hk _ _ _
  · exact .err

theorem shape_lTrimH (args : List Bytes) : Shape NoSpecial (lTrimH args) :=
  shape_startStop args _ fun _ _ _ => .call (.ltrim ..) .ok

theorem shape_lRangeH (args : List Bytes) : Shape NoSpecial (lRangeH args) :=
  shape_startStop args _ fun _ _ _ => .call (.lrange ..) .values

theorem shape_lSetH (args : List Bytes) : Shape NoSpecial (lSetH args) := by
  unfold lSetH
  split
  · split
    · exact .err
    · exact .call (.lset ..) .lset
  · exact .err

theorem shape_rotateH (left : Bool) (args : List Bytes) : Shape NoSpecial (rotateH left args) := by
  unfold rotateH
  split
  · exact .call (.rotate ..) .optBulk
  · exact .err

theorem shape_hSetH (args : List Bytes) : Shape NoSpecial (hSetH args) := by
  unfold hSetH
  split
  · exact .call (.hmset ..) .int
  · exact .err

theorem shape_hGetH (args : List Bytes) : Shape NoSpecial (hGetH args) := by
  unfold hGetH
  split
  · exact .call (.hread ..) .hget
  · exact .err

theorem shape_hDelH (args : List Bytes) : Shape NoSpecial (hDelH args) := by
  unfold hDelH
  split
  · exact .call (.hdel ..) .int
  · exact .err

theorem shape_hLenH (args : List Bytes) : Shape NoSpecial (hLenH args) := by
  unfold hLenH
  split
  · exact .call (.hread ..) .int
  · exact .err

theorem shape_hKeysH (args : List Bytes) : Shape NoSpecial (hKeysH args) := by
  unfold hKeysH
  split
  · exact .call (.hread ..) .members
  · exact .err

theorem shape_hExistsH (args : List Bytes) : Shape NoSpecial (hExistsH args) := by
  unfold hExistsH
  split
  · exact .call (.hread ..) .boolInt
  · exact .err

theorem shape_hGetAllH (args : List Bytes) : Shape NoSpecial (hGetAllH args) := by
  unfold hGetAllH
  split
  · exact .call (.hread ..) .hgetall
  · exact .err

theorem shape_hIncrByH (args : List Bytes) : Shape NoSpecial (hIncrByH args) := by
  unfold hIncrByH
  split
  · split
    · exact .err
    · exact .call (.hincrby ..) .incr
  · exact .err

theorem shape_hIncrByFloatH (args : List Bytes) : Shape NoSpecial (hIncrByFloatH args) := by
  unfold hIncrByFloatH
  split
  · split
    · exact .crash
    · exact .err
    · exact .unsup
    · exact .call (.hincrbyfloat ..) .float
  · exact .err

theorem shape_hSetNXH (args : List Bytes) : Shape NoSpecial (hSetNXH args) := by
  unfold hSetNXH
  split
  · exact .call (.hsetnx ..) .int
  · exact .err

theorem shape_hMGetH (args : List Bytes) : Shape NoSpecial (hMGetH args) := by
  unfold hMGetH
  split
  · exact .call (.hread ..) (.hmget _)
  · exact .err

theorem shape_hMSetH (args : List Bytes) : Shape NoSpecial (hMSetH args) := by
  unfold hMSetH
  split
  · exact .call (.hmset ..) .ok
  · exact .err

theorem shape_hClearH (args : List Bytes) : Shape NoSpecial (hClearH args) := by
  unfold hClearH
  split
  · exact .call (.del _) .ok
  · exact .err

theorem shape_hStrLenH (args : List Bytes) : Shape NoSpecial (hStrLenH args) := by
  unfold hStrLenH
  split
  · exact .call (.hread ..) .int
  · exact .err

theorem shape_hValsH (args : List Bytes) : Shape NoSpecial (hValsH args) := by
  unfold hValsH
  split
  · exact .call (.hread ..) .values
  · exact .err

theorem shape_sAddH (args : List Bytes) : Shape NoSpecial (sAddH args) := by
  unfold sAddH
  split
  · exact .call (.sadd ..) .int
  · exact .err

theorem shape_sMoveH (args : List Bytes) : Shape NoSpecial (sMoveH args) := by
  unfold sMoveH
  split
  · exact .call (.smove ..) .boolInt
  · exact .err

theorem shape_sCardH (args : List Bytes) : Shape NoSpecial (sCardH args) := by
  unfold sCardH
  split
  · exact .call (.sread ..) .int
  · exact .err

theorem shape_sOpH {op : MState → Int → List Bytes → Api.R} (hop : ∀ ks, ApiCall fun s now _ => op s now ks)
    (args : List Bytes) : Shape NoSpecial (sOpH op args) := by
  unfold sOpH
  split
  · exact .call (hop _) .members
  · exact .err

theorem shape_sStoreH {op : MState → Int → List Bytes → Api.R} (hop : ∀ ks, ApiCall fun s now _ => op s now ks)
    (all : Bool) (args : List Bytes) : Shape NoSpecial (sStoreH op all args) := by
  unfold sStoreH
  split
  · exact .call (.sstore hop ..) .int
  · exact .err

theorem shape_sIsMemberH (args : List Bytes) : Shape NoSpecial (sIsMemberH args) := by
  unfold sIsMemberH
  split
  · exact .call (.sread ..) .boolInt
  · exact .err

theorem shape_sMembersH (args : List Bytes) : Shape NoSpecial (sMembersH args) := by
  unfold sMembersH
  split
  · exact .call (.sread ..) .members
  · exact .err

theorem shape_sRemH (args : List Bytes) : Shape NoSpecial (sRemH args) := by
  unfold sRemH
  split
  · exact .call (.srem ..) .int
  · exact .err

/-- `Handler2.table2`, walked once: every result is in normal form, SPOP and SRANDMEMBER apart (the simple string they
    may write comes from the API result) -/

theorem table2_elim {P : String → List Bytes → HRes → Prop}
    (shape : ∀ {name args r}, Shape NoSpecial r → P name args r)
    (sPop : ∀ args, P "SPOP" args (sPopH args)) (sRand : ∀ args, P "SRANDMEMBER" args (sRandMemberH args))
    (name : String) (args : List Bytes) (r : HRes) (h : table2 name args = some r) : P name args r := by
  unfold table2 at h
  split at h
  all_goals cases h
  · exact shape (shape_pushH _ _)
  · exact shape (shape_pushH _ _)
  · exact shape (shape_popH _ _)
  · exact shape (shape_popH _ _)
  · exact shape (shape_llenH _)
  · exact shape (shape_lIndexH _)
  · exact shape (shape_lInsertH _)
  · exact shape (shape_lPushxH _)
  · exact shape (shape_rPushxH _)
  · exact shape (shape_lRemH _)
  · exact shape (shape_lTrimH _)
  · exact shape (shape_lSetH _)
  · exact shape (shape_lRangeH _)
  · exact shape (shape_rotateH _ _)
  · exact shape (shape_rotateH _ _)
  · exact shape (shape_hSetH _)
  · exact shape (shape_hGetH _)
  · exact shape (shape_hDelH _)
  · exact shape (shape_hLenH _)
  · exact shape (shape_hKeysH _)
  · exact shape (shape_hExistsH _)
  · exact shape (shape_hGetAllH _)
  · exact shape (shape_hIncrByH _)
  · exact shape (shape_hIncrByFloatH _)
  · exact shape (shape_hSetNXH _)
  · exact shape (shape_hMGetH _)
  · exact shape (shape_hMSetH _)
  · exact shape (shape_hClearH _)
  · exact shape (shape_hStrLenH _)
  · exact shape (shape_hValsH _)
  · exact shape (shape_sAddH _)
  · exact shape (shape_sMoveH _)
  · exact shape (shape_sCardH _)
  · exact sPop _
  · exact shape (shape_sOpH .sdiff _)
  · exact shape (shape_sStoreH .sdiff _ _)
  · exact shape (shape_sOpH .sinter _)
  · exact shape (shape_sStoreH .sinter _ _)
  · exact shape (shape_sOpH .sunion _)
  · exact shape (shape_sStoreH .sunion _ _)
  · exact shape (shape_sIsMemberH _)
  · exact shape (shape_sMembersH _)
  · exact sRand _
  · exact shape (shape_sRemH _)

end NodisVerif.Proofs.HandlerShape

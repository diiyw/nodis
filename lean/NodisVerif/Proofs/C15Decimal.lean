import NodisVerif.Basic
/-
  Decimal text (general; not only the RESP reader's): `Bytes.ofString` of an ASCII string is its characters as bytes
  (`ofString_ascii`); `natDigits` (= `Nat.toDigits 10` as bytes) consists of digits and is read back by `digitsToNat`;
  `parseInt64` is opened once on its optional sign (`parseInt64_cases`) and then treated forwards (sign and digits),
  backwards (an accepted text) and on `formatInt`.
-/
namespace NodisVerif.Proofs.C15

theorem ByteArray_toList_loop (bs : ByteArray) (i : Nat) (r : List UInt8) :
    ByteArray.toList.loop bs i r = r.reverse ++ bs.data.toList.drop i := by
  fun_induction ByteArray.toList.loop bs i r with
  | case1 i r h ih =>
    rw [ih]
    have h' : i < bs.data.toList.length := by simpa using h
    have : bs.data.toList.drop i = bs.get! i :: bs.data.toList.drop (i+1) := by
      rw [List.drop_eq_getElem_cons h']
      congr 1
      have h'' : i < bs.data.size := h
      show _ = bs.data[i]!
      rw [getElem!_pos bs.data i h'']
      simp
    rw [this]; simp
  | case2 i r h =>
    have : bs.data.toList.drop i = [] := by
      apply List.drop_eq_nil_of_le
      have h'' : ¬ i < bs.data.size := h
      simp; omega
    simp [this]

theorem ByteArray_toList (bs : ByteArray) : bs.toList = bs.data.toList := by
  simp [ByteArray.toList, ByteArray_toList_loop]

theorem natDigits_eq (n : Nat) : natDigits n = (Nat.toDigits 10 n).flatMap String.utf8EncodeChar := by
  unfold natDigits
  rw [Nat.toString_eq_ofList_toDigits]
  simp [List.utf8Encode, ByteArray_toList]

theorem flatMap_utf8EncodeChar_ascii (l : List Char) (hl : ∀ c ∈ l, c.toNat ≤ 127) :
    l.flatMap String.utf8EncodeChar = l.map (fun c => c.val.toUInt8) := by
  induction l with
  | nil => rfl
  | cons c t ih =>
    have hc := hl c (by simp)
    have h1 : c.utf8Size = 1 := by
      simp [Char.utf8Size]
      intro h; exfalso
      have h2 : (127:UInt32).toNat < c.val.toNat := UInt32.lt_iff_toNat_lt.mp h
      have h3 : c.val.toNat = c.toNat := rfl
      simp at h2
      omega
    simp [String.utf8EncodeChar_eq_singleton h1]
    exact ih (fun c hc => hl c (by simp [hc]))

theorem natDigits_eq_map (n : Nat) : natDigits n = (Nat.toDigits 10 n).map (fun c => c.val.toUInt8) := by
  rw [natDigits_eq]
  apply flatMap_utf8EncodeChar_ascii
  intro c hc
  have := Nat.isDigit_of_mem_toDigits (by decide) (by decide) hc
  simp [Char.isDigit, UInt32.le_iff_toNat_le] at this
  have h3 : c.val.toNat = c.toNat := rfl
  omega

theorem ofString_ascii (s : String) (h : ∀ c ∈ s.toList, c.toNat ≤ 127) :
    Bytes.ofString s = s.toList.map (fun c => c.val.toUInt8) := by
  unfold Bytes.ofString
  rw [String.toUTF8_eq_toByteArray, ← String.utf8Encode_toList]
  simp only [List.utf8Encode, ByteArray_toList, List.toList_data_toByteArray]
  exact flatMap_utf8EncodeChar_ascii _ h

theorem Char_toUInt8_toNat (c : Char) : c.toUInt8.toNat = c.toNat % 256 := by
  show c.val.toUInt8.toNat = c.val.toNat % 256
  simp only [UInt32.toNat_toUInt8]

theorem isDigit_natDigits (n : Nat) : ∀ b ∈ natDigits n, isDigit b = true := by
  rw [natDigits_eq_map]
  intro b hb
  simp only [List.mem_map] at hb
  obtain ⟨c, hc, rfl⟩ := hb
  have := Nat.isDigit_of_mem_toDigits (by decide) (by decide) hc
  simp [Char.isDigit, UInt32.le_iff_toNat_le] at this
  have h3 : c.val.toNat = c.toNat := rfl
  simp [isDigit, UInt8.le_iff_toNat_le, Char_toUInt8_toNat]
  omega

theorem natDigits_ne_nil (n : Nat) : natDigits n ≠ [] := by
  rw [natDigits_eq_map]; simp [Nat.toDigits_ne_nil]

theorem digitsToNat_map (l : List Char) (hl : ∀ c ∈ l, c.isDigit) (acc : Nat) :
    digitsToNat (l.map (fun c => c.val.toUInt8)) acc = Nat.ofDigitChars 10 l acc := by
  induction l generalizing acc with
  | nil => simp [digitsToNat]
  | cons c t ih =>
    have hc := hl c (by simp)
    simp [Char.isDigit, UInt32.le_iff_toNat_le] at hc
    have h3 : c.val.toNat = c.toNat := rfl
    simp only [List.map_cons, digitsToNat, Nat.ofDigitChars_cons]
    rw [ih (fun c hc => hl c (by simp [hc]))]
    congr 1
    simp only [Char.toUInt8_val, Char_toUInt8_toNat, Char.reduceToNat]
    have : c.toNat % 256 = c.toNat := by omega
    rw [this, Nat.mul_comm]

theorem digitsToNat_natDigits (n : Nat) : digitsToNat (natDigits n) 0 = n := by
  rw [natDigits_eq_map, digitsToNat_map _ (fun c hc => Nat.isDigit_of_mem_toDigits (by decide) (by decide) hc)]
  simp

theorem natDigits_length_le (n L : Nat) (hL : 0 < L) (h : n < 10 ^ L) : (natDigits n).length ≤ L := by
  rw [natDigits_eq_map, List.length_map]
  exact (Nat.length_toDigits_le_iff (by decide) hL).mpr h

/-- the one case distinction on the sign: `parseInt64` is its digit part, applied to a sign flag and the rest of the text -/
theorem parseInt64_cases (s : Bytes) :
    ∃ neg ds, (s = ds ∧ neg = false ∨ s = 43 :: ds ∧ neg = false ∨ s = 45 :: ds ∧ neg = true) ∧
      parseInt64 s = if ds.isEmpty then none else if !ds.all isDigit then none else
        if inInt64 (if neg then -(digitsToNat ds 0 : Int) else (digitsToNat ds 0 : Int))
        then some (if neg then -(digitsToNat ds 0 : Int) else (digitsToNat ds 0 : Int)) else none := by
  unfold parseInt64
  split
  next neg ds heq =>
  split at heq <;> cases heq
  · exact ⟨_, _, .inr (.inl ⟨rfl, rfl⟩), rfl⟩
  · exact ⟨_, _, .inr (.inr ⟨rfl, rfl⟩), rfl⟩
  · exact ⟨_, _, .inl ⟨rfl, rfl⟩, rfl⟩

/-- an optional sign and then digits: the value is read off the digits and tested against int64
    (`hs` has the shape of the sign hypothesis of `FloatDecInt.parseDec_digits`) -/
theorem parseInt64_sign_digits (sgn : Bytes) (neg : Bool)
    (hs : (sgn = [] ∧ neg = false) ∨ (sgn = [43] ∧ neg = false) ∨ (sgn = [45] ∧ neg = true))
    (ds : Bytes) (hne : ds ≠ []) (hall : ds.all isDigit = true) :
    parseInt64 (sgn ++ ds) =
      if inInt64 (if neg then -(digitsToNat ds 0 : Int) else (digitsToNat ds 0 : Int))
      then some (if neg then -(digitsToNat ds 0 : Int) else (digitsToNat ds 0 : Int)) else none := by
  have he : ds.isEmpty = false := by cases ds with
    | nil => exact absurd rfl hne
    | cons _ _ => rfl
  rcases hs with ⟨rfl, rfl⟩ | ⟨rfl, rfl⟩ | ⟨rfl, rfl⟩
  · -- no sign: a first byte that is a digit is neither `+` nor `-`
    obtain ⟨neg, ds', ⟨rfl, rfl⟩ | ⟨rfl, -⟩ | ⟨rfl, -⟩, e⟩ := parseInt64_cases ds
    · simp [e, he, hall]
    · exact absurd hall (by simp [isDigit])
    · exact absurd hall (by simp [isDigit])
  · simp [parseInt64, he, hall]
  · simp [parseInt64, he, hall]

theorem parseInt64_some {s : Bytes} {v : Int} (h : parseInt64 s = some v) :
    inInt64 v = true ∧ ∀ x ∈ s, x = 43 ∨ x = 45 ∨ isDigit x = true := by
  obtain ⟨neg, ds, hs, e⟩ := parseInt64_cases s
  -- the text is accepted: it is not empty, all digits, and the value passed the range test
  rw [e, Option.ite_none_left_eq_some, Option.ite_none_left_eq_some, Option.ite_none_right_eq_some] at h
  obtain ⟨-, hall, hin, hv⟩ := h
  rw [Bool.not_eq_true, Bool.not_eq_false'] at hall
  refine ⟨by rw [← Option.some.inj hv]; exact hin, fun x hx => ?_⟩
  have hd := List.all_eq_true.mp hall x
  rcases hs with ⟨rfl, -⟩ | ⟨rfl, -⟩ | ⟨rfl, -⟩
  · exact .inr (.inr (hd hx))
  · exact (List.mem_cons.mp hx).imp id fun hx => .inr (hd hx)
  · exact (List.mem_cons.mp hx).elim (fun e => .inr (.inl e)) fun hx => .inr (.inr (hd hx))

theorem parseInt64_formatInt_eq (n : Int) :
    parseInt64 (formatInt n) = if inInt64 n = true then some n else none := by
  have key : ∀ (neg : Bool) (k : Nat), parseInt64 ((if neg then [45] else []) ++ natDigits k) = _ := fun neg k =>
    parseInt64_sign_digits _ neg (by cases neg <;> simp) _ (natDigits_ne_nil k)
      (List.all_eq_true.mpr (isDigit_natDigits k))
  unfold formatInt
  split
  · next h =>
    have := key true n.natAbs
    simp only [digitsToNat_natDigits, if_true, List.singleton_append] at this
    rw [this, show -(n.natAbs : Int) = n by omega]
  · next h =>
    have := key false n.toNat
    simp only [digitsToNat_natDigits, Bool.false_eq_true, if_false, List.nil_append] at this
    rw [this, show (n.toNat : Int) = n by omega]

theorem parseInt64_formatInt_nat (n : Nat) (h : (n : Int) ≤ int64Max) :
    parseInt64 (formatInt (n : Int)) = some (n : Int) := by
  rw [parseInt64_formatInt_eq, if_pos (by unfold inInt64; exact decide_eq_true ⟨by unfold int64Min; omega, h⟩)]

theorem natDigits_ne_lf (n : Nat) : ∀ b ∈ natDigits n, b ≠ 10 := by
  intro b hb h
  have := isDigit_natDigits n b hb
  subst h
  simp [isDigit] at this

end NodisVerif.Proofs.C15

import NodisVerif.Proofs.ProtoOrder
import NodisVerif.Proofs.LinSplit
/-
  Instantiation of the generic linearizability theorem (Proofs/LinCore, LinSplit) with the locking
  protocol `Model/Proto.lean`.

    `HoldsCur s k t r m`   in state s transaction t holds, validated, in mode m, the record r that is
                           registered under key k right now (`HoldsValid s t r` of Proofs/ProtoOrder,
                           with the mode of the hold and `s.lookup k = some r`)
    `Releases t k r e`     e is `unlock t r`, `unlink t k r` or `drop t k r`: t gives the lock back or
                           takes the record out of the registrations itself

  `HoldsCur` starts with `valid t k r true` / `claim t k r m`, lasts until the first `Releases` event
  (no FLUSH in between), and two transactions have it for one key at the same time only if both are
  readers: the intervals during which commands work on the current record of a key obey the lock
  discipline of `LinCore`.  So the operations' events of an interleaving placed as the implementation places them
  (`Placed`, `PlacedSplit`) pass all lock checks of `LinCore` / `LinSplit` (`acq_guard`: `HoldsCur` of the acquirer
  excludes every conflicting holder).
-/
namespace NodisVerif.Proofs.Proto
open NodisVerif.Proto

def HoldsCur (s : PState) (k : Key) (t : Tx) (r : Rec) (m : Mode) : Prop :=
  ∃ st h, s.tx t = some st ∧ h ∈ st.holds ∧ h.valid = true ∧ h.rid = r ∧ h.mode = m ∧ s.lookup k = some r

def Releases (t : Tx) (k : Key) (r : Rec) (e : Ev) : Prop :=
  e = .unlock t r ∨ e = .unlink t k r ∨ e = .drop t k r

theorem holdsCur_of_valid_mode {s s' : PState} {t : Tx} {k : Key} {r : Rec} {st : TxSt} {g : Hold}
    (hs : step s (.valid t k r true) = some s') (htx : s.tx t = some st) (hg : st.holdOf r = some g) :
    HoldsCur s' k t r g.mode := by
  obtain ⟨st1, g1, htx1, hof, _, _, ⟨c, _⟩ | ⟨_, hl, rfl⟩⟩ := step_valid.1 hs
  · cases c
  · rw [htx] at htx1; cases htx1; rw [hg] at hof; cases hof
    exact ⟨_, _, tx_setTx_same _ _ _, mem_setHold.2 (Or.inl rfl), rfl, (holdOf_some hg).2, rfl, hl⟩

theorem holdsCur_of_valid {s s' : PState} {t : Tx} {k : Key} {r : Rec}
    (hs : step s (.valid t k r true) = some s') : ∃ m, HoldsCur s' k t r m := by
  obtain ⟨st, g, htx, hof, _⟩ := step_valid.1 hs
  exact ⟨g.mode, holdsCur_of_valid_mode hs htx hof⟩

theorem holdsCur_of_claim {s s' : PState} {t : Tx} {k : Key} {r : Rec} {m : Mode}
    (hs : step s (.claim t k r m) = some s') : HoldsCur s' k t r m := by
  have hl := claim_current hs
  obtain ⟨st, _, _, _, _, _, rfl⟩ := step_claim.1 hs
  exact ⟨_, _, tx_setTx_same _ _ _, mem_setHold.2 (Or.inl rfl), rfl, rfl, rfl, hl⟩

theorem holdsCur_step {s s' : PState} {e : Ev} {k : Key} {t : Tx} {r : Rec} {m : Mode} (hi : Inv s)
    (hc : HoldsCur s k t r m) (hs : step s e = some s') (hcl : e ≠ .clear) (hrel : ¬ Releases t k r e) :
    HoldsCur s' k t r m := by
  obtain ⟨st, h, htx, hh, hv, hr, hm, hl⟩ := hc
  subst hr
  obtain ⟨st', htx', hh'⟩ := valid_hold_step hi htx hh hv hs (fun c => hrel (Or.inl c))
  refine ⟨st', h, htx', hh', hv, rfl, hm, ?_⟩
  cases hev : evTx e with
  | none => cases e <;> simp [evTx] at hev; exact absurd rfl hcl
  | some u =>
    by_cases hu : u = t
    · subst hu
      refine lookup_stable hs hl ?_ ?_ hcl
      · intro v c; subst c
        cases hev
        exact hrel (Or.inr (Or.inl rfl))
      · intro v c; subst c
        cases hev
        exact hrel (Or.inr (Or.inr rfl))
    · exact held_stays_registered hi htx hh hl hev hu hs

theorem holdsCur_run {s s' : PState} {es : List Ev} {k : Key} {t : Tx} {r : Rec} {m : Mode} (hi : Inv s)
    (hc : HoldsCur s k t r m) (hs : runAll s es = some s') (hcl : ∀ e ∈ es, e ≠ .clear)
    (hrel : ∀ e ∈ es, ¬ Releases t k r e) : HoldsCur s' k t r m := by
  induction es generalizing s with
  | nil => cases hs; exact hc
  | cons e es ih =>
    obtain ⟨s1, h1, h2⟩ := runAll_cons_some hs
    exact ih (hi.step h1) (holdsCur_step hi hc h1 (hcl e List.mem_cons_self) (hrel e List.mem_cons_self)) h2
      (fun x hx => hcl x (List.mem_cons_of_mem _ hx)) (fun x hx => hrel x (List.mem_cons_of_mem _ hx))

theorem holdsCur_exclusive {s : PState} (hi : Inv s) {k : Key} {t u : Tx} {r r' : Rec} {m m' : Mode}
    (h1 : HoldsCur s k t r m) (h2 : HoldsCur s k u r' m') (hne : t ≠ u) : r = r' ∧ m = .r ∧ m' = .r := by
  obtain ⟨st, h, htx, hh, _, hr, hm, hl⟩ := h1
  obtain ⟨su, g, hux, hg, _, hr', hm', hl'⟩ := h2
  have e : r = r' := by rw [hl] at hl'; exact Option.some.inj hl'
  have := hi.readers htx hux hh hg (by rw [hr, hr', e]) hne
  rw [hm, hm'] at this
  exact ⟨e, this⟩

theorem holdsCur_unique {s : PState} (hi : Inv s) {k : Key} {t : Tx} {r r' : Rec} {m m' : Mode}
    (h1 : HoldsCur s k t r m) (h2 : HoldsCur s k t r' m') : r = r' ∧ m = m' := by
  obtain ⟨st, h, htx, hh, _, hr, hm, hl⟩ := h1
  obtain ⟨su, g, hux, hg, _, hr', hm', hl'⟩ := h2
  rw [htx] at hux; cases hux
  have e : r = r' := by rw [hl] at hl'; exact Option.some.inj hl'
  have : h = g := same_hold (hi.holdNodup t st htx) hh hg (by rw [hr, hr', e])
  subst this
  exact ⟨e, hm.symm.trans hm'⟩

/-- position `p` (the state after the first `p` events) lies in an interval of `t` on the current
    record of `k`: `HoldsCur` was established after event number `a < p` (by `valid … true` / `claim`,
    see `holdsCur_of_valid`, `holdsCur_of_claim`) and `t` has not released since -/
def InInterval (es : List Ev) (k : Key) (t : Tx) (m : Mode) (p : Nat) : Prop :=
  ∃ a r sa, a < p ∧ runAll {} (es.take (a + 1)) = some sa ∧ HoldsCur sa k t r m ∧
    ∀ j e, a < j → j < p → es[j]? = some e → ¬ Releases t k r e

theorem take_split (es : List Ev) {a p : Nat} (hap : a + 1 ≤ p) :
    es.take p = es.take (a + 1) ++ (es.drop (a + 1)).take (p - (a + 1)) := by
  have : p = (a + 1) + (p - (a + 1)) := by omega
  conv => lhs; rw [this, List.take_add]

theorem inInterval_holdsCur {es : List Ev} {s : PState} (hs : runAll {} es = some s)
    (hcl : ∀ e ∈ es, e ≠ .clear) {k : Key} {t : Tx} {m : Mode} {p : Nat} (hp : p ≤ es.length)
    (h : InInterval es k t m p) : ∃ sp r, runAll {} (es.take p) = some sp ∧ HoldsCur sp k t r m := by
  obtain ⟨a, r, sa, hap, hsa, hc, hrel⟩ := h
  have hsplit := take_split es (a := a) (p := p) (by omega)
  have hrun : ∃ sp, runAll {} (es.take p) = some sp := by
    have : es = es.take p ++ es.drop p := (List.take_append_drop p es).symm
    rw [this] at hs
    obtain ⟨sp, h1, _⟩ := runAll_append_some hs
    exact ⟨sp, h1⟩
  obtain ⟨sp, hsp⟩ := hrun
  refine ⟨sp, r, hsp, ?_⟩
  rw [hsplit, runAll_append, hsa] at hsp
  simp only [Option.bind_some] at hsp
  refine holdsCur_run (Inv.init.run hsa) hc hsp ?_ ?_
  · intro e he
    exact hcl e ((List.take_subset _ _ |>.trans (List.drop_subset _ _)) he)
  · intro e he
    obtain ⟨j, hj, hje⟩ := List.mem_iff_getElem.1 he
    simp only [List.length_take, List.length_drop] at hj
    have h1 : es[a + 1 + j]? = some e := by
      rw [List.getElem_take, List.getElem_drop] at hje
      rw [List.getElem?_eq_getElem (by omega)]
      exact congrArg some hje
    exact hrel (a + 1 + j) e (by omega) (by omega) h1

/-- THEOREM (lock discipline of the protocol, per key). In a FLUSH-free trace of the protocol, if a
    position lies in an interval of `t` and in an interval of `u ≠ t` on the current record of the same
    key, both hold it as readers: the `acq … rel` intervals of two commands on one key overlap only
    if both are readers. -/
theorem key_intervals_disjoint {es : List Ev} {s : PState} (hs : runAll {} es = some s)
    (hcl : ∀ e ∈ es, e ≠ .clear) {k : Key} {t u : Tx} {m m' : Mode} {p : Nat} (hp : p ≤ es.length)
    (h1 : InInterval es k t m p) (h2 : InInterval es k u m' p) (hne : t ≠ u) : m = .r ∧ m' = .r := by
  obtain ⟨sp, r, hsp, hc⟩ := inInterval_holdsCur hs hcl hp h1
  obtain ⟨sp', r', hsp', hc'⟩ := inInterval_holdsCur hs hcl hp h2
  rw [hsp] at hsp'; cases hsp'
  exact (holdsCur_exclusive (Inv.init.run hsp) hc hc' hne).2

theorem no_drop_before_commit {es : List Ev} {s : PState} (hs : runAll {} es = some s) {t : Tx} {k : Key}
    {r : Rec} {j c : Nat} (hjc : j < c) (hj : es[j]? = some (.drop t k r)) (hc : es[c]? = some (.commit t))
    (hnf : ∀ p, j < p → p < c → es[p]? ≠ some (.fin t)) : False := by
  obtain ⟨pre, mid, post, rfl, _, _, hmid, _, _⟩ := split_two hj hc hjc
  obtain ⟨s1, h1, h2⟩ := runAll_append_some hs
  obtain ⟨s2, h3, h4⟩ := runAll_cons_some h2
  obtain ⟨s3, h5, h6⟩ := runAll_append_some h4
  obtain ⟨s4, h7, _⟩ := runAll_cons_some h6
  obtain ⟨st, g, htx, _, hcm, _, _, _, rfl⟩ := step_drop.1 h3
  have hp2 : phase { s1 with pending := erase s1.pending k } t = some true := by
    show (PState.tx s1 t).map (·.committing) = some true
    rw [htx]; simp [hcm]
  have hp3 := phase_true_run h5 hp2 (not_in_mid hmid hnf)
  rw [(phase_commit h7).1] at hp3
  cases hp3

/-- THEOREM. The interval of `t` on the current record of `k` reaches from the validation
    (`valid t k r true` or `claim t k r m` at position `a`) at least to the `commit t` of that run of the
    transaction (position `c`), unless `t` unlinks the record itself (DEL) before: every position in
    between lies in it. So a body that runs between the return of `acquire` and the commit runs inside
    the interval. -/
theorem interval_until_commit {es : List Ev} {s : PState} (hs : runAll {} es = some s) {t : Tx} {k : Key}
    {r : Rec} {a c : Nat} {v : Ev} (hv : es[a]? = some v)
    (hval : v = .valid t k r true ∨ ∃ m, v = .claim t k r m)
    (hc : es[c]? = some (.commit t))
    (hnf : ∀ p, a < p → p < c → es[p]? ≠ some (.fin t))
    (hnu : ∀ p, a < p → p < c → es[p]? ≠ some (.unlink t k r)) :
    ∃ m, ∀ p, a < p → p ≤ c → InInterval es k t m p := by
  have hVal : Validates t r v := by
    rcases hval with rfl | ⟨m, rfl⟩
    · exact Or.inl ⟨k, rfl⟩
    · exact Or.inr ⟨k, m, rfl⟩
  obtain ⟨pre, post, rfl, hl⟩ := split_at hv
  have htake : (pre ++ v :: post).take (a + 1) = pre ++ [v] := by
    have : pre ++ v :: post = (pre ++ [v]) ++ post := by simp
    rw [this, List.take_left' (by simp [hl])]
  obtain ⟨s1, h1, h2⟩ := runAll_append_some hs
  obtain ⟨sa, h3, _⟩ := runAll_cons_some h2
  have hsa : runAll {} ((pre ++ v :: post).take (a + 1)) = some sa := by
    rw [htake, runAll_append, h1]; simp [runAll, h3]
  obtain ⟨m, hcur⟩ : ∃ m, HoldsCur sa k t r m := by
    rcases hval with rfl | ⟨m, rfl⟩
    · exact holdsCur_of_valid h3
    · exact ⟨m, holdsCur_of_claim h3⟩
  refine ⟨m, fun p hap hpc => ⟨a, r, sa, hap, hsa, hcur, ?_⟩⟩
  intro j e haj hjp hje hrel
  rcases hrel with rfl | rfl | rfl
  · exact lock_point_positions hs haj (by omega) hv hVal hc hnf hje
  · exact hnu j haj (by omega) hje
  · exact no_drop_before_commit hs (show j < c by omega) hje hc (fun q h1 h2 => hnf q (by omega) h2)

end NodisVerif.Proofs.Proto

namespace NodisVerif.LinProto
open NodisVerif.Proto NodisVerif.Proofs.Proto NodisVerif.Lin

section
variable {State Op Ret : Type} [DecidableEq Ret]

/-- every operation that is between its `acq` and its `rel` belongs to a transaction (same id) that
    holds the current record of `k`, validated — in write mode unless the operation is read-only -/
def Covered (O : Obj State Op Ret) (k : Key) (p : PState) (c : Lin.Cfg State Op Ret) : Prop :=
  ∀ t st, c.ops t = some st → st.locked = true →
    ∃ r m, HoldsCur p k t r m ∧ (O.readOnly st.op = false → m = .w)

variable {O : Obj State Op Ret} {k : Key}

/-- the protocol grants what the abstract lock discipline demands -/
theorem acq_guard {p : PState} (hi : Inv p) {c c' : Lin.Cfg State Op Ret} {t : Nat} (hl : LockInv O c)
    (hcov : Covered O k p c) (hcov' : Covered O k p c') (hs : Lin.step O false c (.acq t) = some c') :
    Lin.step O true c (.acq t) = some c' := by
  obtain ⟨st, hst, hlk, hrep, _, rfl⟩ := step_acq.1 hs
  obtain ⟨r, m, hc, hm⟩ := hcov' t { st with locked := true } (upd_same _ _ _) rfl
  have others : ∀ u y, (u, y) ∈ c.holders → ∃ su r' m', c.ops u = some su ∧ y = !O.readOnly su.op ∧
      HoldsCur p k u r' m' ∧ (O.readOnly su.op = false → m' = .w) ∧ u ≠ t := by
    intro u y hu
    obtain ⟨su, h1, h2, h3⟩ := (hl.mem u y).1 hu
    obtain ⟨r', m', h4, h5⟩ := hcov u su h1 h2
    refine ⟨su, r', m', h1, h3, h4, h5, ?_⟩
    intro e; subst e; rw [hst] at h1; cases h1; rw [hlk] at h2; cases h2
  have hfree : lockFree c.holders (!O.readOnly st.op) = true := by
    cases hro : O.readOnly st.op with
    | false =>
      simp only [lockFree, Bool.not_false, if_true, List.isEmpty_iff]
      cases hh : c.holders with
      | nil => rfl
      | cons q l =>
        obtain ⟨su, r', m', _, _, h4, _, hne⟩ := others q.1 q.2 (by rw [hh]; exact List.mem_cons_self)
        have := (holdsCur_exclusive hi hc h4 (fun e => hne e.symm)).2.1
        rw [hm hro] at this; cases this
    | true =>
      simp only [lockFree, Bool.not_true, Bool.false_eq_true, if_false, List.all_eq_true]
      intro q hq
      obtain ⟨su, r', m', _, h3, h4, h5, hne⟩ := others q.1 q.2 hq
      cases hy : q.2 with
      | false => rfl
      | true =>
        rw [hy] at h3
        have hro' : O.readOnly su.op = false := by
          cases h : O.readOnly su.op with
          | false => rfl
          | true => rw [h] at h3; cases h3
        have := (holdsCur_exclusive hi hc h4 (fun e => hne e.symm)).2.2
        rw [h5 hro'] at this; cases this
  exact step_acq.2 ⟨st, hst, hlk, hrep, fun _ => hfree, rfl⟩

theorem covered_after {chk : Bool} {p : PState} {c c' : Lin.Cfg State Op Ret} {e : Lin.Ev Op Ret}
    (hcov : Covered O k p c) (hs : Lin.step O chk c e = some c')
    (hacq : ∀ t st, e = .acq t → c.ops t = some st →
      ∃ r m, HoldsCur p k t r m ∧ (O.readOnly st.op = false → m = .w)) : Covered O k p c' := by
  intro t st' h1 h2
  -- the event rewrites the entry of one operation `i`; the others are covered as before
  have other : ∀ (i : Nat) (st1 : OpSt Op Ret), upd c.ops i st1 t = some st' →
      (t = i → st1 = st' → ∃ r m, HoldsCur p k t r m ∧ (O.readOnly st'.op = false → m = .w)) →
      ∃ r m, HoldsCur p k t r m ∧ (O.readOnly st'.op = false → m = .w) := by
    intro i st1 h hi
    by_cases e : t = i
    · subst e; rw [upd_same] at h; exact hi rfl (Option.some.inj h)
    · rw [upd_ne _ _ e] at h; exact hcov t st' h h2
  cases e with
  | inv i o =>
    obtain ⟨_, rfl⟩ := step_inv.1 hs
    exact other i _ h1 (fun _ h => by subst h; cases h2)
  | acq i =>
    obtain ⟨st, hst, _, _, _, rfl⟩ := step_acq.1 hs
    exact other i _ h1 (fun e h => by subst e h; exact hacq t st rfl hst)
  | eff i =>
    obtain ⟨st, hst, hl, _, rfl⟩ := step_eff.1 hs
    exact other i _ h1 (fun e h => by subst e h; exact hcov t st hst hl)
  | rel i =>
    obtain ⟨st, _, _, rfl⟩ := step_rel.1 hs
    exact other i _ h1 (fun _ h => by subst h; cases h2)
  | res i r =>
    obtain ⟨st, _, hl, _, _, rfl⟩ := step_res.1 hs
    exact other i _ h1 (fun _ h => by subst h; exact absurd (hl.symm.trans h2) Bool.false_ne_true)

omit [DecidableEq Ret] in
theorem covered_step {p p' : PState} {c : Lin.Cfg State Op Ret} {e : Proto.Ev} (hi : Inv p)
    (hcov : Covered O k p c) (hs : Proto.step p e = some p') (hcl : e ≠ .clear)
    (hrel : ∀ t st r m, c.ops t = some st → st.locked = true → HoldsCur p k t r m → ¬ Releases t k r e) :
    Covered O k p' c := by
  intro t st h1 h2
  obtain ⟨r, m, h3, h4⟩ := hcov t st h1 h2
  exact ⟨r, m, holdsCur_step hi h3 hs hcl (hrel t st r m h1 h2 h3), h4⟩

/-- An interleaving of steps of the protocol (`inl`) and of events of operations on key `k` (`inr`,
    operation id = transaction id), placed as the implementation places them:
    * the protocol steps form a trace of the protocol, without FLUSH;
    * `acq t` comes when `t` holds, validated, the record registered under `k` (after `acquire` has
      returned), in write mode unless the operation is read-only;
    * `t` does not release that record (`unlock`, `unlink`, `drop`) before its `rel t`;
    * apart from the lock checks, the events of the operations are those of `LinCore`
      (`inv`, then `eff` between `acq` and `rel`, then `res` with the result of `eff`). -/
def Placed (O : Obj State Op Ret) (k : Key) :
    PState → Lin.Cfg State Op Ret → List (Proto.Ev ⊕ Lin.Ev Op Ret) → Prop
  | _, _, [] => True
  | p, c, .inl e :: ms => ∃ p', Proto.step p e = some p' ∧ e ≠ .clear ∧
      (∀ t st r m, c.ops t = some st → st.locked = true → HoldsCur p k t r m → ¬ Releases t k r e) ∧
      Placed O k p' c ms
  | p, c, .inr x :: ms => ∃ c', Lin.step O false c x = some c' ∧
      (∀ t st, x = .acq t → c.ops t = some st →
        ∃ r m, HoldsCur p k t r m ∧ (O.readOnly st.op = false → m = .w)) ∧
      Placed O k p c' ms

def opEvents (ms : List (Proto.Ev ⊕ Lin.Ev Op Ret)) : List (Lin.Ev Op Ret) :=
  ms.filterMap fun x => match x with | .inr e => some e | .inl _ => none

def protoEvents (ms : List (Proto.Ev ⊕ Lin.Ev Op Ret)) : List Proto.Ev :=
  ms.filterMap fun x => match x with | .inl e => some e | .inr _ => none

theorem placed_runs {p : PState} {c : Lin.Cfg State Op Ret} {ms : List (Proto.Ev ⊕ Lin.Ev Op Ret)}
    (hi : Inv p) (hl : LockInv O c) (hcov : Covered O k p c) (h : Placed O k p c ms) :
    ∃ c', Lin.run O true c (opEvents ms) = some c' := by
  induction ms generalizing p c with
  | nil => exact ⟨c, rfl⟩
  | cons x ms ih =>
    cases x with
    | inl e =>
      obtain ⟨p', hs, hcl, hrel, hrest⟩ := h
      exact ih (hi.step hs) hl (covered_step hi hcov hs hcl hrel) hrest
    | inr e =>
      obtain ⟨c', hs, hacq, hrest⟩ := h
      have hcov' := covered_after hcov hs hacq
      -- events other than `acq` do not look at the lock
      have hs' : Lin.step O true c e = some c' := by
        cases e with
        | acq t => exact acq_guard hi hl hcov hcov' hs
        | _ => exact hs
      obtain ⟨c'', hr⟩ := ih hi (hl.step hs') hcov' hrest
      exact ⟨c'', by show (Lin.step O true c e).bind _ = _; rw [hs']; exact hr⟩

theorem placed_proto_runs {p : PState} {c : Lin.Cfg State Op Ret} {ms : List (Proto.Ev ⊕ Lin.Ev Op Ret)}
    (h : Placed O k p c ms) : (∃ p', runAll p (protoEvents ms) = some p') ∧ ∀ e ∈ protoEvents ms, e ≠ .clear := by
  induction ms generalizing p c with
  | nil => exact ⟨⟨p, rfl⟩, by intro e h; cases h⟩
  | cons x ms ih =>
    cases x with
    | inl e =>
      obtain ⟨p', hs, hcl, _, hrest⟩ := h
      obtain ⟨⟨p'', h1⟩, h2⟩ := ih hrest
      refine ⟨⟨p'', ?_⟩, ?_⟩
      · show runAll p (e :: protoEvents ms) = some p''
        rw [runAll_cons, hs]; exact h1
      · intro e' he'
        rcases List.mem_cons.1 (show e' ∈ e :: protoEvents ms from he') with rfl | he'
        · exact hcl
        · exact h2 e' he'
    | inr e =>
      obtain ⟨c', _, _, hrest⟩ := h
      exact ih hrest

omit [DecidableEq Ret] in
theorem covered_init (σ0 : State) (p : PState) : Covered O k p ({ σ := σ0 } : Lin.Cfg State Op Ret) :=
  nofun

theorem split_core_step {chk : Bool} {c c' : Split.Cfg State Op Ret} {e : Split.Ev Op Ret}
    (hs : Split.step O chk c e = some c') :
    c'.core = c.core ∨
    (∃ (c0 : Lin.Cfg State Op Ret) (x : Lin.Ev Op Ret), c0.ops = c.core.ops ∧
      Lin.step O chk c0 x = some c'.core ∧ ∀ t, x = .acq t → e = .acq t) := by
  cases e with
  | inv i o =>
    obtain ⟨k', hk, rfl⟩ := Option.map_eq_some_iff.1 hs
    exact Or.inr ⟨c.core, _, rfl, hk, nofun⟩
  | acq i =>
    obtain ⟨k', hk, rfl⟩ := Option.map_eq_some_iff.1 hs
    exact Or.inr ⟨c.core, _, rfl, hk, fun t h => by cases h; rfl⟩
  | res i r =>
    obtain ⟨k', hk, rfl⟩ := Option.map_eq_some_iff.1 hs
    exact Or.inr ⟨c.core, _, rfl, hk, nofun⟩
  | rel i =>
    obtain ⟨k', hk, rfl⟩ := Option.map_eq_some_iff.1 hs
    exact Or.inr ⟨c.core, _, rfl, hk, nofun⟩
  | rd i =>
    obtain ⟨_, _, _, _, _, rfl⟩ := Split.step_rd.1 hs
    exact Or.inl rfl
  | wr i =>
    obtain ⟨v, k', _, hk, rfl⟩ := Split.step_wr.1 hs
    exact Or.inr ⟨{ c.core with σ := v }, _, rfl, hk, nofun⟩

/-- the interleavings of `Placed`, with `rd` / `wr` instead of `eff` -/
def PlacedSplit (O : Obj State Op Ret) (k : Key) :
    PState → Split.Cfg State Op Ret → List (Proto.Ev ⊕ Split.Ev Op Ret) → Prop
  | _, _, [] => True
  | p, c, .inl e :: ms => ∃ p', Proto.step p e = some p' ∧ e ≠ .clear ∧
      (∀ t st r m, c.core.ops t = some st → st.locked = true → HoldsCur p k t r m → ¬ Releases t k r e) ∧
      PlacedSplit O k p' c ms
  | p, c, .inr x :: ms => ∃ c', Split.step O false c x = some c' ∧
      (∀ t st, x = .acq t → c.core.ops t = some st →
        ∃ r m, HoldsCur p k t r m ∧ (O.readOnly st.op = false → m = .w)) ∧
      PlacedSplit O k p c' ms

def opEventsSplit (ms : List (Proto.Ev ⊕ Split.Ev Op Ret)) : List (Split.Ev Op Ret) :=
  ms.filterMap fun x => match x with | .inr e => some e | .inl _ => none

theorem placedSplit_runs {p : PState} {c : Split.Cfg State Op Ret} {ms : List (Proto.Ev ⊕ Split.Ev Op Ret)}
    (hi : Inv p) (hl : LockInv O c.core) (hsn : Split.SnapInv c) (hcov : Covered O k p c.core)
    (h : PlacedSplit O k p c ms) : ∃ c', Split.run O true c (opEventsSplit ms) = some c' := by
  induction ms generalizing p c with
  | nil => exact ⟨c, rfl⟩
  | cons x ms ih =>
    cases x with
    | inl e =>
      obtain ⟨p', hs, hcl, hrel, hrest⟩ := h
      exact ih (hi.step hs) hl hsn (covered_step hi hcov hs hcl hrel) hrest
    | inr e =>
      obtain ⟨c', hs, hacq, hrest⟩ := h
      have hcov' : Covered O k p c'.core := by
        rcases split_core_step hs with h0 | ⟨c0, x, hops, hs0, hx⟩
        · rw [h0]; exact hcov
        · exact covered_after (c := c0) (fun t st => by rw [hops]; exact hcov t st) hs0
            (fun t st hxa h3 => hacq t st (hx t hxa) (hops ▸ h3))
      have hs' : Split.step O true c e = some c' := by
        cases e with
        | acq t =>
          obtain ⟨k', hk, rfl⟩ := Option.map_eq_some_iff.1 hs
          exact Option.map_eq_some_iff.2 ⟨k', acq_guard hi hl hcov hcov' hk, rfl⟩
        | _ => exact hs
      obtain ⟨hsim, hsn'⟩ := Split.step_sim hl hsn hs'
      have hl' : LockInv O c'.core := hl.run hsim
      obtain ⟨c'', hr⟩ := ih hi hl' hsn' hcov' hrest
      exact ⟨c'', by show (Split.step O true c e).bind _ = _; rw [hs']; exact hr⟩

end
end NodisVerif.LinProto

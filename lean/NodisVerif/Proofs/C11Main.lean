import NodisVerif.Proofs.C11Reopen
import NodisVerif.Proofs.C11Pass
/-
  C11 / C12: the Close/Open cycle.  What `lookup` shows never comes back once it is gone; `NilFree` gives the nil-string
  condition on what `lookup` shows and holds after `reopen`; one graceful close followed by an open restores `lookup` at
  every later time (`CycleSpec`), and so do `n` cycles.
-/
namespace NodisVerif.Proofs.C11
open NodisVerif.Store NodisVerif.Codec NodisVerif.Spec.Persist
open NodisVerif.Proofs.AListLemmas NodisVerif.Proofs.AListLemmas2 NodisVerif.Proofs.C11AList

theorem lookup_none_mono {s : MState} {now now' : Int} (ht : now ≤ now') {k : Bytes}
    (h : lookup s now k = none) : lookup s now' k = none := by
  simp only [lookup, getMeta] at h ⊢
  cases hm : AList.get? s.index k with
  | none => rfl
  | some m =>
    rw [hm] at h
    simp only [Option.bind_some] at h ⊢
    unfold view at h ⊢
    by_cases hc : (m.isOk && !m.expired now') = true
    · have hc0 : (m.isOk && !m.expired now) = true := by
        simp only [Bool.and_eq_true, Bool.not_eq_true'] at hc ⊢
        exact ⟨hc.1, Meta.alive_anti m ht hc.2⟩
      rw [if_pos hc0] at h
      rw [if_pos hc]
      exact h
    · rw [if_neg hc]

theorem lookup_cases {s : MState} {now : Int} {k : Bytes} {m : Meta} {v : Val} {e : Int}
    (hm : AList.get? s.index k = some m) (hl : lookup s now k = some (v, e)) :
    e = m.exp ∧ (m.value = some v ∨ m.value = none ∧ ∃ o, loadValue s k m = some (v, o)) := by
  simp only [lookup, getMeta, hm, Option.bind_some, view] at hl
  split at hl
  · cases hv : m.value with
    | some w =>
      rw [hv] at hl
      simp only [Option.some.injEq, Prod.mk.injEq] at hl
      exact ⟨hl.2.symm, Or.inl (by rw [hl.1])⟩
    | none =>
      rw [hv] at hl
      simp only [Option.map_eq_some_iff] at hl
      obtain ⟨⟨w, o⟩, hq, hqe⟩ := hl
      cases hqe
      exact ⟨rfl, Or.inr ⟨rfl, o, hq⟩⟩
  · cases hl

theorem nilfree_lookup {s : MState} (hn : NilFree s) {t' : Int} {k : Bytes} {v : Val} {e : Int}
    (hl : lookup s t' k = some (v, e)) (hp : s.pebble = true) : v ≠ .strNil := by
  cases hm : AList.get? s.index k with
  | none => simp [lookup, getMeta, hm] at hl
  | some m =>
    rcases (lookup_cases hm hl).2 with hv | ⟨_, o, hld⟩
    · intro c
      exact hn k m hm hp (by rw [hv, c])
    · -- a cold value comes out of the decoder, which never yields a nil string
      simp only [loadValue, diskGet, hp, if_true] at hld
      cases hd : AList.get? s.disk (encodeKey k m.exp) with
      | none => rw [hd] at hld; cases hld
      | some ent =>
        rw [hd] at hld
        simp only [Option.map_eq_some_iff] at hld
        obtain ⟨w, hw, hwe⟩ := hld
        cases hwe
        exact decode_ne_nil hw

theorem reopen_nilfree {s : MState} {x : Option Bytes} {t : Int} (h : StoreInvX s x t) : NilFree (reopen s) := by
  intro k m hm _
  obtain ⟨_, e, _, _, rfl⟩ := reopen_rec h hm
  intro c; cases c

structure CycleSpec (s s' : MState) (now : Int) : Prop where
  inv : StoreInvX s' none now
  peb : s'.pebble = s.pebble
  look : ∀ t', now ≤ t' → ∀ k, lookup s' t' k = lookup s t' k
  fs0 : s'.failSet = 0
  nil : NilFree s'

theorem cycle_spec_l {s : MState} {t now : Int} (h : StoreInvX s none t) (ht : t ≤ now)
    (hf : s.failSet = 0)
    (hnl : LNil s now) :
    CycleSpec s (reopen (close s now)) now := by
  obtain ⟨sp, fl⟩ := close_spec h ht (now := now)
  have f := reopen_facts sp.inv
  have hn : NilFreeAt (close s now) now :=
    LNil.at sp.inv (Int.le_refl _) (fun hp t' ht' k v e hlk =>
      hnl (sp.peb ▸ hp) t' ht' k v e (by rw [← sp.look t' ht']; exact hlk))
  refine ⟨inv_reopen sp.inv, by rw [f.peb, sp.peb], ?_, by rw [f.fs]; exact sp.fs0 hf,
    reopen_nilfree sp.inv⟩
  intro t' ht' k
  rw [lookup_reopen sp.inv ht' (fl hf) hn, sp.look t' ht']

theorem cycle_spec {s : MState} {t now : Int} (h : StoreInvX s none t) (ht : t ≤ now)
    (hf : s.failSet = 0) (hnil : NilFree s) : CycleSpec s (reopen (close s now)) now :=
  cycle_spec_l h ht hf (fun hp _ _ _ _ _ hl => nilfree_lookup hnil hl hp)

theorem cycles_spec {now : Int} : ∀ (n : Nat) {s : MState} {t : Int}, StoreInvX s none t → t ≤ now →
    s.failSet = 0 → NilFree s →
    (∀ t', now ≤ t' → ∀ k, lookup (cycles now n s) t' k = lookup s t' k) ∧
    AList.Sorted (cycles now n s).index := by
  intro n
  induction n with
  | zero => intro s t h _ _ _; exact ⟨fun _ _ _ => rfl, h.idxSorted⟩
  | succ n ih =>
    intro s t h ht hf hnil
    have c := cycle_spec h ht hf hnil
    obtain ⟨a, b⟩ := ih c.inv (Int.le_refl now) c.fs0 c.nil
    refine ⟨fun t' ht' k => ?_, b⟩
    show lookup (cycles now n (reopen (close s now))) t' k = _
    rw [a t' ht', c.look t' ht']

end NodisVerif.Proofs.C11

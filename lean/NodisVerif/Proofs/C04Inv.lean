import NodisVerif.Proofs.ZSetLemmas

/-
  The sorted-set invariant in membership form (`Inv`), its equivalence with `ZSet.WF`, and its
  preservation by every mutating operation of `Model/DsZSet.lean`.  All names live in `NodisVerif.Proofs.C04`.

  Two general preservation theorems (`inv_set_insert`: write one member into a chain that holds exactly the others;
  `inv_removeBlock`: drop a contiguous block of the chain with its members); every mutator is one of the two or a
  composition.

  `ZSet.WF` (Model/WF.lean) is the form the store invariant and the codec state: adjacent-pair
  sortedness, equal lengths, chain ⊆ dictionary. `Inv` says the same with `Pairwise` and a two-way
  membership equivalence, which is what insertion into and removal from a sorted list preserve
  step by step. `Inv.ofWF` / `Inv.toWF` are the only bridge: a property theorem takes `WF`, works
  on `Inv`, and returns `WF`.
-/
namespace NodisVerif.Proofs.C04
open AListLemmas

variable {V : Type}

theorem sorted_iff_pairwise (m : AList V) : AList.Sorted m ↔ m.Pairwise KeyLt :=
  ⟨sorted_pairwise m, AListLemmas2.sorted_of_pairwise m⟩

theorem contains_iff (d : AList V) (k : Bytes) :
    AList.contains d k = true ↔ ∃ v, AList.get? d k = some v := AListLemmas2.contains_eq_true_iff d k

end NodisVerif.Proofs.C04

namespace NodisVerif.Proofs.C04
open AListLemmas ZSetLemmas DsZSet

abbrev ILt (a b : Item) : Prop := itemLt a b = true

structure Inv (z : ZSet) : Prop where
  dictPW : z.dict.Pairwise KeyLt
  noNaN : ∀ p ∈ z.dict, F64.isNaN p.2 = false
  slPW : z.sl.Pairwise ILt
  mem_iff : ∀ s m, (s, m) ∈ z.sl ↔ (m, s) ∈ z.dict

theorem pairwise_chain : ∀ (l : List Item), l.Pairwise ILt → chainSorted l := by
  intro l
  induction l with
  | nil => intro _; trivial
  | cons a rest ih =>
    intro h
    obtain ⟨h1, h2⟩ := List.pairwise_cons.mp h
    cases rest with
    | nil => trivial
    | cons b rest => exact ⟨h1 b (by simp), ih h2⟩

theorem pairwise_nodup (l : List Item) (hpw : l.Pairwise ILt) (hg : ∀ a ∈ l, Good a) : l.Nodup := by
  unfold List.Nodup
  refine List.Pairwise.imp_of_mem ?_ hpw
  intro a b ha _ hab e
  subst e
  exact itemLt_irrefl a (hg a ha) hab

namespace Inv
variable {z : ZSet}

theorem good (h : Inv z) : ∀ a ∈ z.sl, Good a := by
  intro a ha
  obtain ⟨s, m⟩ := a
  exact h.noNaN (m, s) ((h.mem_iff s m).mp ha)

theorem nodup (h : Inv z) : z.sl.Nodup := pairwise_nodup z.sl h.slPW h.good

theorem dictSorted (h : Inv z) : AList.Sorted z.dict := AListLemmas2.sorted_of_pairwise z.dict h.dictPW

theorem get_iff (h : Inv z) (s : F64) (m : Bytes) : AList.get? z.dict m = some s ↔ (s, m) ∈ z.sl := by
  rw [h.mem_iff, AListLemmas2.get?_eq_some_iff_mem z.dict h.dictSorted m s]

theorem not_mem_of_get?_none (h : Inv z) (m : Bytes) (hget : AList.get? z.dict m = none) : ∀ a ∈ z.sl, a.2 ≠ m := by
  intro a ha
  obtain ⟨s', m'⟩ := a
  exact (get?_none_iff m z.dict).mp hget (m', s') ((h.mem_iff s' m').mp ha)

theorem member_unique (h : Inv z) (s s' : F64) (m : Bytes) (h1 : (s, m) ∈ z.sl) (h2 : (s', m) ∈ z.sl) :
    s = s' :=
  AListLemmas2.val_unique z.dict h.dictSorted ((h.mem_iff s m).mp h1) ((h.mem_iff s' m).mp h2)

theorem dict_nodup (h : Inv z) : (z.dict.map swap).Nodup := by
  unfold List.Nodup
  rw [List.pairwise_map]
  refine List.Pairwise.imp ?_ h.dictPW
  intro a b hab e
  have : a.1 = b.1 := by
    have := congrArg Prod.snd e
    simpa [swap] using this
  exact lt_ne _ _ hab this

theorem perm (h : Inv z) : z.sl.Perm (z.dict.map swap) := by
  rw [List.perm_ext_iff_of_nodup h.nodup h.dict_nodup]
  rintro ⟨s, m⟩
  rw [h.mem_iff, mem_map_swap]

theorem sameLen (h : Inv z) : z.sl.length = z.dict.length := by
  have := h.perm.length_eq
  simpa using this

theorem toWF (h : Inv z) : z.WF where
  dictSorted := h.dictSorted
  noNaN := fun m s hm => h.noNaN (m, s) hm
  chainSorted := pairwise_chain z.sl h.slPW
  sameLen := h.sameLen
  agree := fun m s hm => (h.get_iff s m).mpr hm

end Inv

/-- ZCARD counts the dictionary; under the invariant that is the length of the chain -/
theorem zCard_eq {z : ZSet} (hlen : z.sl.length = z.dict.length) : zCard z = (z.sl.length : Int) := by
  unfold zCard
  rw [hlen]

theorem Inv.ofWF {z : ZSet} (h : z.WF) : Inv z := by
  obtain ⟨_, hslpw, hmem⟩ := wf_chain z h
  exact ⟨sorted_pairwise z.dict h.dictSorted, fun p hp => h.noNaN p.1 p.2 hp, hslpw,
    fun s m => (hmem (s, m)).trans (mem_map_swap z.dict s m)⟩

theorem wf_iff_inv (z : ZSet) : z.WF ↔ Inv z := ⟨Inv.ofWF, Inv.toWF⟩

theorem inv_empty : Inv DsZSet.empty :=
  ⟨List.Pairwise.nil, by simp [DsZSet.empty], List.Pairwise.nil, by simp [DsZSet.empty]⟩

theorem slRemove_sublist (m : Bytes) (s : F64) : ∀ (l : List Item), (slRemove l m s).Sublist l := by
  intro l
  induction l with
  | nil => exact List.Sublist.refl _
  | cons n rest ih =>
    unfold slRemove
    split
    · exact ih.cons_cons _
    · split
      · exact List.sublist_cons_self _ _
      · exact List.Sublist.refl _

theorem mem_slRemove (m : Bytes) (s : F64) (x : Item) : ∀ (l : List Item), l.Pairwise ILt →
    (∀ a ∈ l, Good a) → (s, m) ∈ l → (x ∈ slRemove l m s ↔ x ∈ l ∧ x ≠ (s, m)) := by
  intro l
  induction l with
  | nil => intro _ _ h; simp at h
  | cons n rest ih =>
    intro hpw hg hin
    obtain ⟨h1, h2⟩ := List.pairwise_cons.mp hpw
    have hgn : Good n := hg n (by simp)
    unfold slRemove
    by_cases hlt : nodeLt n s m = true
    · rw [if_pos hlt]
      have hne : n ≠ (s, m) := by
        intro e
        subst e
        exact itemLt_irrefl _ hgn hlt
      have hin' : (s, m) ∈ rest := by
        rcases List.mem_cons.mp hin with e | e
        · exact absurd e.symm hne
        · exact e
      simp only [List.mem_cons, ih h2 (fun a ha => hg a (by simp [ha])) hin']
      constructor
      · rintro (e | ⟨e, e'⟩)
        · exact ⟨Or.inl e, by rw [e]; exact hne⟩
        · exact ⟨Or.inr e, e'⟩
      · rintro ⟨e | e, e'⟩
        · exact Or.inl e
        · exact Or.inr ⟨e, e'⟩
    · rw [if_neg hlt]
      have hn : n = (s, m) := by
        rcases List.mem_cons.mp hin with e | e
        · exact e.symm
        · exact absurd (h1 _ e) hlt
      subst hn
      have hs : F64.isNaN s = false := hgn
      have hc : (F64.eq s s = true ∧ m = m) := by
        simp [F64.eq, hs]
      rw [if_pos hc]
      simp only [List.mem_cons]
      constructor
      · intro e
        refine ⟨Or.inr e, ?_⟩
        intro e'
        subst e'
        exact itemLt_irrefl _ hgn (h1 _ e)
      · rintro ⟨e | e, e'⟩
        · exact absurd e e'
        · exact e

theorem foldl_erase_sublist : ∀ (rem : List Item) (d : AList F64),
    (rem.foldl (fun d it => AList.erase d it.2) d).Sublist d := by
  intro rem
  induction rem with
  | nil => intro d; exact List.Sublist.refl _
  | cons a rem ih =>
    intro d
    exact (ih (AList.erase d a.2)).trans (AListLemmas2.erase_sublist d a.2)

theorem mem_foldl_erase (q : Bytes × F64) : ∀ (rem : List Item) (d : AList F64), d.Pairwise KeyLt →
    (q ∈ rem.foldl (fun d it => AList.erase d it.2) d ↔ q ∈ d ∧ ∀ it ∈ rem, it.2 ≠ q.1) := by
  intro rem
  induction rem with
  | nil => intro d _; simp
  | cons a rem ih =>
    intro d hd
    simp only [List.foldl_cons, List.mem_cons, forall_eq_or_imp]
    rw [ih (AList.erase d a.2) (hd.sublist (AListLemmas2.erase_sublist d a.2)), AListLemmas2.mem_erase_iff d (AListLemmas2.sorted_of_pairwise d hd) a.2 q]
    constructor
    · rintro ⟨⟨h1, h2⟩, h3⟩; exact ⟨h1, Ne.symm h2, h3⟩
    · rintro ⟨h1, h2, h3⟩; exact ⟨⟨h1, Ne.symm h2⟩, h3⟩

theorem inv_removeBlock {z : ZSet} (h : Inv z) (a rem b : List Item) (hsl : z.sl = a ++ rem ++ b) :
    Inv { dict := rem.foldl (fun d it => AList.erase d it.2) z.dict, sl := a ++ b } := by
  have hsub : (a ++ b).Sublist z.sl := by
    rw [hsl, List.append_assoc]
    exact List.Sublist.append (List.Sublist.refl a) (List.sublist_append_right rem b)
  have hnd := h.nodup
  rw [hsl] at hnd
  refine ⟨h.dictPW.sublist (foldl_erase_sublist rem z.dict), ?_, h.slPW.sublist hsub, ?_⟩
  · intro p hp
    exact h.noNaN p ((foldl_erase_sublist rem z.dict).subset hp)
  · intro s m
    rw [mem_foldl_erase (m, s) rem z.dict h.dictPW, ← h.mem_iff]
    constructor
    · intro hm
      refine ⟨hsub.subset hm, ?_⟩
      intro it hit hitm
      have hit' : it ∈ z.sl := by rw [hsl]; simp [hit]
      obtain ⟨s', m'⟩ := it
      simp only at hitm
      subst hitm
      have := h.member_unique s' s m' hit' (hsub.subset hm)
      subst this
      -- (s', m') ∈ rem and ∈ a ++ b contradicts nodup
      rw [List.append_assoc] at hnd
      rcases List.mem_append.mp hm with ha | hb
      · exact (List.nodup_append.mp hnd).2.2 _ ha _ (List.mem_append.mpr (Or.inl hit)) rfl
      · exact (List.nodup_append.mp (List.nodup_append.mp hnd).2.1).2.2 _ hit _ hb rfl
    · rintro ⟨hm, hnot⟩
      rw [hsl] at hm
      simp only [List.mem_append] at hm ⊢
      rcases hm with (ha | hr) | hb
      · exact Or.inl ha
      · exact absurd rfl (hnot _ hr)
      · exact Or.inr hb

theorem Inv.mem_slRemove {z : ZSet} (h : Inv z) (m : Bytes) (sc : F64)
    (hget : AList.get? z.dict m = some sc) (a : Item) :
    a ∈ slRemove z.sl m sc ↔ a ∈ z.sl ∧ a.2 ≠ m := by
  have hold : (sc, m) ∈ z.sl := (h.get_iff sc m).mp hget
  rw [C04.mem_slRemove m sc a z.sl h.slPW h.good hold]
  refine and_congr_right fun ha => not_congr ⟨fun e => by rw [e], fun e => ?_⟩
  obtain ⟨s', m'⟩ := a
  simp only at e
  subst e
  rw [h.member_unique s' sc m' ha hold]

/-- the one way the model writes a member: the score goes into the dictionary, the pair into a
    chain that holds exactly the other members -/
theorem inv_set_insert {z : ZSet} (h : Inv z) (m : Bytes) (s : F64) (hs : F64.isNaN s = false)
    (sl : List Item) (hsub : sl.Sublist z.sl) (hmem : ∀ a, a ∈ sl ↔ a ∈ z.sl ∧ a.2 ≠ m) :
    Inv { dict := AList.set z.dict m s, sl := slInsert sl m s } := by
  refine ⟨sorted_pairwise _ (AListLemmas2.set_preserves_sorted z.dict h.dictSorted m s), ?_,
    slInsert_pairwise m s hs sl (h.slPW.sublist hsub) (fun a ha => h.good a (hsub.subset ha))
      (fun a ha => ((hmem a).mp ha).2), ?_⟩
  · intro p hp
    rcases (AListLemmas2.mem_set_iff z.dict h.dictSorted m s p).mp hp with rfl | ⟨hp, _⟩
    · exact hs
    · exact h.noNaN p hp
  · intro s' m'
    rw [mem_slInsert, AListLemmas2.mem_set_iff z.dict h.dictSorted m s, hmem, h.mem_iff]
    simp only [Prod.mk.injEq]
    rw [and_comm (a := s' = s)]

theorem inv_zAdd {z : ZSet} (h : Inv z) (m : Bytes) (s : F64) (hs : F64.isNaN s = false) :
    Inv (zAdd z m s).1 := by
  unfold zAdd
  cases hget : AList.get? z.dict m with
  | none =>
    exact inv_set_insert h m s hs z.sl (List.Sublist.refl _)
      (fun a => ⟨fun ha => ⟨ha, h.not_mem_of_get?_none m hget a ha⟩, fun ha => ha.1⟩)
  | some old =>
    simp only
    split
    · exact h
    · exact inv_set_insert h m s hs _ (slRemove_sublist m old z.sl) (h.mem_slRemove m old hget)

theorem inv_zRem_step {z : ZSet} (h : Inv z) (m : Bytes) (sc : F64)
    (hget : AList.get? z.dict m = some sc) :
    Inv { dict := AList.erase z.dict m, sl := slRemove z.sl m sc } := by
  refine ⟨h.dictPW.sublist (AListLemmas2.erase_sublist z.dict m), ?_, h.slPW.sublist (slRemove_sublist m sc z.sl), ?_⟩
  · intro p hp
    exact h.noNaN p ((AListLemmas2.erase_sublist z.dict m).subset hp)
  · intro s' m'
    show (s', m') ∈ slRemove z.sl m sc ↔ (m', s') ∈ AList.erase z.dict m
    rw [h.mem_slRemove m sc hget, AListLemmas2.mem_erase_iff z.dict h.dictSorted m, h.mem_iff]

def remStep (acc : ZSet × Int) (m : Bytes) : ZSet × Int :=
  match AList.get? acc.1.dict m with
  | some sc => ({ dict := AList.erase acc.1.dict m, sl := slRemove acc.1.sl m sc }, acc.2 + 1)
  | none => acc

theorem zRem_eq (z : ZSet) (ms : List Bytes) : zRem z ms = ms.foldl remStep (z, 0) := rfl

theorem inv_remStep {acc : ZSet × Int} (h : Inv acc.1) (m : Bytes) : Inv (remStep acc m).1 := by
  unfold remStep
  cases hget : AList.get? acc.1.dict m with
  | none => exact h
  | some sc => exact inv_zRem_step h m sc hget

theorem inv_foldl_remStep : ∀ (ms : List Bytes) (acc : ZSet × Int), Inv acc.1 →
    Inv (ms.foldl remStep acc).1 := by
  intro ms
  induction ms with
  | nil => intro acc h; exact h
  | cons m ms ih => intro acc h; exact ih _ (inv_remStep h m)

theorem inv_zRem {z : ZSet} (h : Inv z) (ms : List Bytes) : Inv (zRem z ms).1 :=
  inv_foldl_remStep ms (z, 0) h

theorem take_takeWhile_length {α : Type} (p : α → Bool) (l : List α) :
    l.take (l.takeWhile p).length = l.takeWhile p :=
  (List.prefix_iff_eq_take.1 (List.takeWhile_prefix p)).symm

theorem drop_takeWhile_length {α : Type} (p : α → Bool) (l : List α) :
    l.drop (l.takeWhile p).length = l.dropWhile p := by
  have := List.drop_left (l₁ := l.takeWhile p) (l₂ := l.dropWhile p)
  rwa [List.takeWhile_append_dropWhile] at this

theorem takeWhile_append_drop {α : Type} (p : α → Bool) (l : List α) :
    l.takeWhile p ++ l.drop (l.takeWhile p).length = l := by
  rw [drop_takeWhile_length, List.takeWhile_append_dropWhile]

theorem inv_zRemRangeByScore {z : ZSet} (h : Inv z) (min max : F64) (mode : Nat) :
    Inv (zRemRangeByScore z min max mode).1 := by
  unfold zRemRangeByScore slRemoveRange
  simp only
  apply inv_removeBlock h
  rw [List.append_assoc, takeWhile_append_drop, takeWhile_append_drop]

/-- `ZRemRangeByRank` after its index normalisation -/
def remByRankCore (z : ZSet) (s e : Int) : ZSet × Int :=
  if s > e ∨ s ≥ zCard z then (z, 0) else
  ({ dict := (slRemoveRangeByRank z.sl (s + 1) (e + 1)).2.foldl (fun d it => AList.erase d it.2) z.dict,
     sl := (slRemoveRangeByRank z.sl (s + 1) (e + 1)).1 },
   (slRemoveRangeByRank z.sl (s + 1) (e + 1)).2.length)

def normStart (size start : Int) : Int :=
  if start < 0 then (if start + size < 0 then 0 else start + size) else start
def normStop (size stop : Int) : Int :=
  let stop := if stop < 0 then stop + size else stop
  if stop ≥ size then size - 1 else stop

theorem zRemRangeByRank_core (z : ZSet) (start stop : Int) :
    zRemRangeByRank z start stop
      = remByRankCore z (normStart (zCard z) start) (normStop (zCard z) stop) := by
  -- a bare `rfl` is slow here: the unifier first tries to match the two `if` cascades as they stand
  unfold zRemRangeByRank remByRankCore normStart normStop
  rfl

theorem inv_remByRankCore {z : ZSet} (h : Inv z) (s e : Int) : Inv (remByRankCore z s e).1 := by
  unfold remByRankCore
  split
  · exact h
  · unfold slRemoveRangeByRank
    simp only
    apply inv_removeBlock h
    rw [List.append_assoc, List.take_append_drop, List.take_append_drop]

theorem inv_zRemRangeByRank {z : ZSet} (h : Inv z) (start stop : Int) :
    Inv (zRemRangeByRank z start stop).1 := by
  rw [zRemRangeByRank_core]
  exact inv_remByRankCore h _ _

theorem inv_zAddXX {z : ZSet} (h : Inv z) (m : Bytes) (s : F64) (hs : F64.isNaN s = false) :
    Inv (zAddXX z m s).1 := by
  unfold zAddXX
  split
  · exact inv_zAdd h m s hs
  · exact h

theorem inv_zAddNX {z : ZSet} (h : Inv z) (m : Bytes) (s : F64) (hs : F64.isNaN s = false) :
    Inv (zAddNX z m s).1 := by
  unfold zAddNX
  split
  · exact inv_zAdd h m s hs
  · exact h

theorem inv_zAddLT {z : ZSet} (h : Inv z) (m : Bytes) (s : F64) (hs : F64.isNaN s = false) :
    Inv (zAddLT z m s).1 := by
  unfold zAddLT
  split
  · split
    · exact inv_zAdd h m s hs
    · exact h
  · exact h

theorem inv_zAddGT {z : ZSet} (h : Inv z) (m : Bytes) (s : F64) (hs : F64.isNaN s = false) :
    Inv (zAddGT z m s).1 := by
  unfold zAddGT
  split
  · split
    · exact inv_zAdd h m s hs
    · exact h
  · exact h

end NodisVerif.Proofs.C04

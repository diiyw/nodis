import NodisVerif.Proofs.C08Others
/-
  A property of closures that holds of `okBody` and of every closure the handler table hands to
  `execCommand` holds of every queued closure of every connection, along every schedule.
-/
namespace NodisVerif.Proofs.C08Step
open Resp Server

def QueuesSat (P : Body → Prop) (sv : Server) : Prop := ∀ i, ∀ b ∈ (sv.conn i).queue, P b

theorem QueuesSat.init (P : Body → Prop) (st : MState) : QueuesSat P { store := st } := by
  intro i b hb
  simp [Server.conn] at hb

theorem QueuesSat.step {P : Body → Prop} (hok : P okBody) {H : Table}
    (hH : ∀ name args b, H name args = some (.exec b) → P b) {sv : Server} (hq : QueuesSat P sv) (c : Cmd) :
    QueuesSat P (step H sv c).1 := by
  intro i b hb
  by_cases hi : i = c.id
  · subst hi
    simp only [C08Step.step, afterHandler_queue] at hb
    have exe : ∀ (sv' : Server) (b' : Body), P b' → (∀ b ∈ (sv'.conn c.id).queue, P b) →
        ∀ b ∈ ((execCommand sv' c.id c.now c.ch b').1.conn c.id).queue, P b := by
      intro sv' b' hb' hq' b hb
      rw [execCommand_eq] at hb
      by_cases hr : runsNow (sv'.conn c.id).state
      · rw [if_pos hr, (runBody_flagged sv' c.now c.ch b').queue] at hb; exact hq' b hb
      · rw [if_neg hr, conn_setConn_same] at hb
        split at hb
        · simp only [List.mem_append, List.mem_singleton] at hb
          rcases hb with hb | hb
          · exact hq' b hb
          · rw [hb]; exact hb'
        · exact hq' b hb
    revert b
    refine dispatch_cases (P := fun d => ∀ b ∈ (d.1.conn c.id).queue, P b) H sv c ?_ ?_ ?_ ?_ ?_ ?_ ?_
    · intro _  -- multi
      rw [multi_eq]; split
      · exact hq _
      · rw [conn_setConn_same]; exact hq _
    · intro _ b hb; rw [exec_conn_reset] at hb; cases hb  -- exec
    · intro _ b hb; rw [discard_eq, resetConn_conn_same] at hb; cases hb  -- discard
    · intro _  -- watch
      rw [watch_eq]; split
      · exact hq _
      · split
        · exact hq _
        · rw [(watchLoop_state_queue _ _ _).2]; exact hq _
    · intro _  -- unwatch
      refine exe _ okBody hok ?_
      split
      · rw [unwatchAll_conn_same]; exact hq c.id
      · exact hq c.id
    · intro _ _ _; exact hq _  -- reply
    · intro _ b' hH'; exact exe sv b' (hH _ _ b' hH') (hq c.id)  -- call
  · rw [(Others.step H sv c).queue i hi] at hb
    exact hq i b hb

theorem QueuesSat.run {P : Body → Prop} (hok : P okBody) {H : Table}
    (hH : ∀ name args b, H name args = some (.exec b) → P b) : ∀ (cs : List Cmd) {sv : Server},
    QueuesSat P sv → QueuesSat P (run H sv cs).1 := by
  intro cs; induction cs with
  | nil => intro sv h; exact h
  | cons c rest ih => intro sv h; exact ih (h.step hok hH c)

end NodisVerif.Proofs.C08Step

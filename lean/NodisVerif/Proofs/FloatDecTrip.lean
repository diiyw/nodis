import NodisVerif.Proofs.FloatDecRound
/-
  Round trip of the shortest text: whatever `formatShortest` returns from its digit search (every case except the
  17-digit fallback, which the float text table of check C04, every binade ± 1 ulp among its doubles, has never reached)
  parses back to the same double with the full `parseFloat` (= strconv.ParseFloat).
  By construction: the search keeps a candidate only if its rendered text parses back.
  NOT proved: that some n ≤ 17 always succeeds (the classical 17-digit sufficiency for binary64).
-/
namespace NodisVerif.Proofs.FloatDecTrip
open NodisVerif NodisVerif.F64 NodisVerif.FloatDec NodisVerif.Proofs.C09Float

/-- what `tryDigits` returns: one of the two n-digit candidates, at the exponent for n digits, and only if its
    text parses back -/
theorem tryDigits_some {x ax : F64} {neg : Bool} {a b d17 : Nat} {k17 : Int} {n c : Nat} {k : Int}
    (h : tryDigits x ax neg a b d17 k17 n = some (c, k)) :
    k = k17 + 17 - n ∧ c ≤ d17 / 10 ^ (17 - n) + 1 ∧ parseFloat (signed neg (renderF c k)) = some (some x) := by
  unfold tryDigits at h
  extract_lets k' lo hi ok okLo okHi upCloser tie at h
  have hlo : okLo = true → parseFloat (signed neg (renderF lo k')) = some (some x) := fun hc =>
    eq_of_beq (Bool.and_eq_true_iff.1 hc).2
  have hhi : okHi = true → parseFloat (signed neg (renderF hi k')) = some (some x) := fun hc =>
    eq_of_beq (Bool.and_eq_true_iff.1 hc).2
  generalize (decide upCloser || decide tie && decide (lo % 2 = 1)) = up at h
  clear_value okLo okHi ok
  have rlo := fun h1 => (⟨rfl, Nat.le_succ lo, hlo h1⟩ : k' = k17 + 17 - n ∧ lo ≤ lo + 1 ∧ _)
  have rhi := fun h2 => (⟨rfl, Nat.le_refl hi, hhi h2⟩ : k' = k17 + 17 - n ∧ hi ≤ lo + 1 ∧ _)
  show k = _ ∧ c ≤ lo + 1 ∧ _
  clear_value hi lo k'
  split at h
  · next hb =>
    obtain ⟨h1, h2⟩ := Bool.and_eq_true_iff.1 hb
    split at h
    · cases h; exact rhi h2
    · cases h; exact rlo h1
  · split at h
    · next h1 => cases h; exact rlo h1
    · split at h
      · next h2 => cases h; exact rhi h2
      · cases h

theorem searchShortest_roundtrip {x : F64} {c : Nat} {k : Int} (h : searchShortest x = some (c, k)) :
    parseFloat (signed (sign x) (renderF c k)) = some (some x) := by
  unfold searchShortest at h
  simp only at h
  obtain ⟨i, _, ht⟩ := List.exists_of_findSome?_eq_some h
  exact (tryDigits_some ht).2.2

theorem isInf_cases (x : F64) (h : isInf x = true) : x = 0x7FF0000000000000 ∨ x = 0xFFF0000000000000 := by
  unfold isInf at h
  simp only [Bool.and_eq_true, decide_eq_true_eq] at h
  rw [← FloatDecRound.pack_self x, h.1, h.2]
  cases sign x
  · exact .inl (by decide)
  · exact .inr (by decide)

theorem isZero_cases (x : F64) (h : isZero x = true) : x = 0 ∨ x = 0x8000000000000000 := by
  unfold isZero at h
  simp only [Bool.and_eq_true, decide_eq_true_eq] at h
  rw [← FloatDecRound.pack_self x, h.1, h.2]
  cases sign x
  · exact .inl (by decide)
  · exact .inr (by decide)

/-- for every x that is not NaN, if the text does not come from the 17-digit
    fallback (x is ±Inf, ±0, or the digit search succeeds), then ParseFloat(FormatFloat(x,'f',-1,64)) = x, bit for bit -/
theorem formatShortest_roundtrip_partial (x : F64) (hnan : isNaN x = false)
    (hs : isInf x = true ∨ isZero x = true ∨ (searchShortest x).isSome = true) :
    parseFloat (formatShortest x) = some (some x) := by
  by_cases hi : isInf x = true
  · rcases isInf_cases x hi with rfl | rfl <;> decide +kernel
  by_cases hz : isZero x = true
  · rcases isZero_cases x hz with rfl | rfl <;> decide +kernel
  have hsome : (searchShortest x).isSome = true := by
    rcases hs with h | h | h
    · exact absurd h hi
    · exact absurd h hz
    · exact h
  unfold formatShortest
  simp only [hnan, hi, hz, Bool.false_eq_true, if_false]
  cases hsr : searchShortest x with
  | none => rw [hsr] at hsome; cases hsome
  | some ck =>
    obtain ⟨c, k⟩ := ck
    exact searchShortest_roundtrip hsr

/-- the hypothesis is satisfiable on non-trivial doubles: 0.1, 5e-324 (smallest subnormal), the largest finite
    double (17 digits needed), −1/3 (16 digits) -/
example : (searchShortest 0x3FB999999999999A).isSome = true ∧ (searchShortest 1).isSome = true ∧
    (searchShortest 0x7FEFFFFFFFFFFFFF).isSome = true ∧ (searchShortest 0xBFD5555555555555).isSome = true := by
  decide +kernel

example : parseFloat (formatShortest 0x3FB999999999999A) = some (some 0x3FB999999999999A) :=
  formatShortest_roundtrip_partial _ (by decide) (Or.inr (Or.inr (by decide +kernel)))

/-- NaN does not round-trip bit for bit: every NaN prints as "NaN", which parses to `math.NaN()` -/
example : parseFloat (formatShortest 0xFFF8000000000000) = some (some goNaN) := by decide +kernel

end NodisVerif.Proofs.FloatDecTrip

import NodisVerif.Model.BlockProgHook
import NodisVerif.Proofs.BlockInv
import NodisVerif.Proofs.BlockProgSimC

/-
  Program model of the blocking pops: control flow, enabledness and which pc emits which event; then the order of the hook
  calls (`Model/BlockProgHook.lean`): the events in hook-call order are a run of `Block.stepLoose`, and every run of the program
  model is a hook-level run.
-/
namespace NodisVerif.Proofs.BlockProg
open NodisVerif.Block NodisVerif.BlockProg NodisVerif.Proofs.Block

theorem exec_reach {σ0 : Sys} {es0 : List Ev} (h0 : Reach σ0 es0) {sched : List (Tid × Choice)} {σ : Sys}
    {es : List Ev} (h : exec σ0 sched = some (σ, es)) : Reach σ (es0 ++ es) := by
  induction sched generalizing σ0 es0 es with
  | nil => simp only [exec, Option.some.injEq, Prod.mk.injEq] at h; obtain ⟨rfl, rfl⟩ := h; simpa using h0
  | cons x rest ih =>
    obtain ⟨t, ch⟩ := x
    simp only [exec] at h
    cases hs : σ0.step t ch with
    | none => simp [hs] at h
    | some r =>
      obtain ⟨σ1, e⟩ := r
      simp only [hs] at h
      cases hr : exec σ1 rest with
      | none => simp [hr] at h
      | some r2 =>
        obtain ⟨σ2, es2⟩ := r2
        simp only [hr, Option.some.injEq, Prod.mk.injEq] at h
        obtain ⟨rfl, rfl⟩ := h
        have := ih (Reach.step h0 hs) hr
        simpa [List.append_assoc] using this

/-- the pcs whose transition is enabled in every state: the thread holds the registry lock (either side), or is at the
    commit of a push -/
def neverBlocks (p : Pc) : Bool := holdsW p || holdsR p || p == .p7

variable {s s' : Shared} {t : Tid} {l l' : Loc} {ch : Choice} {e : Option Ev}

theorem enabled_of_neverBlocks (h : neverBlocks l.pc = true) : ∃ r, tstep s t l ch = some r := by
  fun_cases tstep s t l ch
  -- the branch returns a result, or it is a branch of a pc that can block
  all_goals first | exact ⟨_, rfl⟩ | (rw [‹l.pc = _›] at h; cases h)

theorem step_enabled {σ : Sys} (h : neverBlocks (σ.thr t).pc = true) : ∃ r, σ.step t ch = some r := by
  obtain ⟨⟨s', l', e⟩, hr⟩ := enabled_of_neverBlocks (s := σ.sh) (t := t) (ch := ch) h
  exact ⟨_, step_of_tstep hr⟩

def nextPcs : Pc → List Pc
  | .idle => [.idle, .r1, .p1]
  | .r1 => [.r2]
  | .r2 => [.r2, .r3]
  | .r3 => [.l0]
  | .l0 => [.l1]
  | .l1 => [.l1, .l2]
  | .l2 => [.u1, .w0]
  | .w0 => [.w1]
  | .w1 => [.u1, .l0]
  | .u1 => [.u2]
  | .u2 => [.u2, .u3]
  | .u3 => [.idle]
  | .p1 => [.idle, .p2]
  | .p2 => [.p3]
  | .p3 => [.p6, .p5, .p4]
  | .p4 => [.p5, .p4]
  | .p5 => [.p6]
  | .p6 => [.p7]
  | .p7 => [.idle]

theorem pc_next (h : tstep s t l ch = some (s', l', e)) : l'.pc ∈ nextPcs l.pc := by
  revert s' l' e
  fun_cases tstep s t l ch
  all_goals first | exact @out_none _ | refine @out_some _ _ _ _ ?_
  all_goals rw [‹l.pc = _›]
  all_goals try dsimp +zetaDelta only
  all_goals first | decide | skip
  · exact loopPc_cases (P := (· ∈ nextPcs .r2)) (by decide) (by decide)
  · exact loopPc_cases (P := (· ∈ nextPcs .l1)) (by decide) (by decide)
  iterate 3 exact loopPc_cases (P := (· ∈ nextPcs .u2)) (by decide) (by decide)
  · show _ ∈ nextPcs .p3; split <;> decide
  · show _ ∈ nextPcs .p4; split <;> decide

/-- a blocking pop goes on inside blockingPop until the `Unlock` of its removeBlockingKeys -/
theorem pop_closed (h : tstep s t l ch = some (s', l', e)) (hp : isPop l.pc = true) (hu : l.pc ≠ .u3) :
    isPop l'.pc = true := by
  have key : ∀ p, isPop p = true → p ≠ .u3 → ∀ q ∈ nextPcs p, isPop q = true := by intro p; cases p <;> decide
  exact key _ hp hu _ (pc_next h)

theorem idle_only_after (h : tstep s t l ch = some (s', l', e)) (hi : l'.pc = .idle) :
    l.pc = .idle ∨ l.pc = .u3 ∨ l.pc = .p1 ∨ l.pc = .p7 := by
  have key : ∀ p, .idle ∈ nextPcs p → p = .idle ∨ p = .u3 ∨ p = .p1 ∨ p = .p7 := by intro p; cases p <;> decide
  exact key _ (hi ▸ pc_next h)

/-- where the program emits an event: by whom, at which pc, and what the branch has tested or done -/
def Emits (s : Shared) (t : Tid) (l : Loc) (s' : Shared) (l' : Loc) : Ev → Prop
  | .reg w k => w = t ∧ l.pc = .r2 ∧ l.keys[l.i]? = some k
  -- the pop of `look`, on the key at the loop index, with the outcome the list dictates
  | .try_ w k got => w = t ∧ l.pc = .l1 ∧ l.keys[l.i]? = some k ∧ s.locked k = none ∧ s.wrong k = false ∧
      got = decide (0 < s.lists k) ∧ (got = false → l'.i = l.i + 1)
  | .block w _ => w = t ∧ l.pc = .w0
  -- the receive at the select: the channel was full and is empty after
  | .wake w => w = t ∧ l.pc = .w1 ∧ s.full t = true ∧ s'.full t = false ∧ l'.pc = .l0
  | .timeout w => w = t ∧ l.pc = .w1 ∧ 0 < l.tmo ∧ l'.pc = .u1
  -- the send of a push round, to the head of the rest of the cList: the channel is full after
  | .notify c k => l.pc = .p4 ∧ k = l.key ∧ l.todo = c :: l'.todo ∧ s'.full c = true
  | .abort w => w = t ∧ (l.pc = .l1 ∨ l.pc = .l2)
  | .unreg w _ => w = t ∧ l.pc = .u2
  | .fin w => w = t ∧ l.pc = .u3

theorem tstep_emits {ev : Ev} (h : tstep s t l ch = some (s', l', some ev)) : Emits s t l s' l' ev := by
  obtain ⟨pc, keys, tmo, i, found, panicking, key, n, todo⟩ := l
  revert s' l' ev
  fun_cases tstep s t _ ch
  all_goals rintro _ _ _ ⟨⟩
  all_goals cases ‹(_ : Loc).pc = _›
  all_goals simp_all [Emits]

theorem emits_own {ev : Ev} (h : Emits s t l s' l' ev) (hn : ∀ c k, ev ≠ .notify c k) : evW ev = t := by
  cases ev with
  | notify c k => exact absurd rfl (hn c k)
  | _ => exact h.1

/-- the notifies reported for channel c whose send is still to come -/
def pend (tk : List (Tid × Tid)) (c : Tid) : Nat := (tk.filter (fun x => x.2 == c)).length

theorem pend_cons (tk : List (Tid × Tid)) (p c c' : Tid) :
    pend ((p, c) :: tk) c' = pend tk c' + (if c = c' then 1 else 0) := by
  by_cases h : c = c' <;> simp [pend, h]

theorem pend_erase_self {tk : List (Tid × Tid)} {p c : Tid} (h : (p, c) ∈ tk) :
    pend (tk.erase (p, c)) c + 1 = pend tk c := by
  induction tk with
  | nil => simp at h
  | cons x tk ih =>
    by_cases hx : x = (p, c)
    · subst hx; simp [pend_cons]
    · have hm : (p, c) ∈ tk := by
        rcases List.mem_cons.1 h with h | h
        · exact absurd h.symm hx
        · exact h
      rw [List.erase_cons_tail (by simpa using hx)]
      obtain ⟨x1, x2⟩ := x
      rw [pend_cons, pend_cons, ← ih hm]; omega

theorem pend_erase_ne {tk : List (Tid × Tid)} {p c c' : Tid} (hne : c ≠ c') :
    pend (tk.erase (p, c)) c' = pend tk c' := by
  induction tk with
  | nil => simp
  | cons x tk ih =>
    by_cases hx : x = (p, c)
    · subst hx; simp [pend_cons, hne]
    · rw [List.erase_cons_tail (by simpa using hx)]
      obtain ⟨x1, x2⟩ := x
      rw [pend_cons, pend_cons, ih]

theorem pend_zero_of_not_mem {tk : List (Tid × Tid)} {c : Tid} (h : ∀ p, (p, c) ∉ tk) : pend tk c = 0 := by
  simp only [pend, List.length_eq_zero_iff, List.filter_eq_nil_iff]
  intro x hx hc
  obtain ⟨x1, x2⟩ := x
  simp only [beq_iff_eq] at hc
  subst hc
  exact h x1 hx

/-- hook-order state `oa` against operation-order state `ob` of one waiter; `u` = received, not yet reported;
    `n` = notifies reported, not yet sent -/
def ORel (u : Bool) (n : Nat) : Option WSt → Option WSt → Prop
  | none, none => n = 0 ∧ u = false
  | some b, some a => a.keys = b.keys ∧ a.reg = b.reg ∧ a.timed = b.timed ∧
      (if u then a.phase = .blocked ∧ b.phase = .scan 0 else a.phase = b.phase) ∧
      a.woken + (if u then 1 else 0) = b.woken ∧ b.notified + n = a.notified
  | _, _ => False

/-- with nothing unreported `ORel` fixes every field that a step of the waiter itself other than `wake` reads (keys, reg,
    phase, timed): such an event goes through in the hook order as in the operation order.  `fin` deletes the waiter, and
    two absent waiters are related only with nothing pending: `hfin` -/
theorem lstep_agree {n : Nat} {ob oa ob' : Option WSt} {ev : Ev} (hR : ORel false n ob oa)
    (hl : lstep ob ev = some ob') (hn : ∀ c k, ev ≠ .notify c k) (hw : ∀ w, ev ≠ .wake w)
    (hfin : ∀ w, ev = .fin w → n = 0) : ∃ oa', lstep oa ev = some oa' ∧ ORel false n ob' oa' := by
  cases ob with
  | none =>
    cases oa with
    | some a => simp [ORel] at hR
    | none =>
      cases ev with
      | reg w k =>
        obtain ⟨hp, rfl⟩ := lstep_reg.1 hl
        refine ⟨_, lstep_reg.2 ⟨hp, rfl⟩, ?_⟩
        simp only [ORel] at hR
        simp [ORel, hR.1]
      | _ => simp [lstep] at hl
  | some b =>
    cases oa with
    | none => simp [ORel] at hR
    | some a =>
      simp only [ORel, Bool.false_eq_true, if_false, Nat.add_zero] at hR
      obtain ⟨h1, h2, h3, h4, h5, h6⟩ := hR
      cases ev with
      | reg w k =>
        obtain ⟨hp, rfl⟩ := lstep_reg.1 hl
        simp only [Option.getD_some] at hp ⊢
        exact ⟨_, lstep_reg.2 ⟨by simpa [h4] using hp, rfl⟩, by simp [ORel, h1, h2, h3, h4, h5, h6]⟩
      | try_ w k got =>
        obtain ⟨st, i, hst, hpos, hkey, rfl⟩ := lstep_try.1 hl
        cases hst
        refine ⟨_, lstep_try.2 ⟨a, i, rfl, by rw [h4]; exact hpos, by rw [h1]; exact hkey, rfl⟩, ?_⟩
        cases got <;> simp [ORel, h1, h2, h3, h5, h6]
      | block w tm =>
        obtain ⟨st, hst, hp, rfl⟩ := lstep_block.1 hl
        cases hst
        exact ⟨_, lstep_block.2 ⟨a, rfl, by rw [h4, h1]; exact hp, rfl⟩, by simp [ORel, h1, h2, h5, h6]⟩
      | wake w => exact absurd rfl (hw w)
      | timeout w =>
        obtain ⟨st, hst, hp, ht, rfl⟩ := lstep_timeout.1 hl
        cases hst
        exact ⟨_, lstep_timeout.2 ⟨a, rfl, by rw [h4]; exact hp, by rw [h3]; exact ht, rfl⟩,
          by simp [ORel, h1, h2, h3, h5, h6]⟩
      | notify w k => exact absurd rfl (hn w k)
      | abort w =>
        obtain ⟨st, hst, hp, rfl⟩ := lstep_abort.1 hl
        cases hst
        exact ⟨_, lstep_abort.2 ⟨a, rfl, by rw [h4]; exact hp, rfl⟩, by simp [ORel, h1, h2, h3, h5, h6]⟩
      | unreg w k =>
        obtain ⟨st, hst, hp, rfl⟩ := lstep_unreg.1 hl
        cases hst
        exact ⟨_, lstep_unreg.2 ⟨a, rfl, by rw [h4]; exact hp, rfl⟩, by simp [ORel, h1, h2, h3, h4, h5, h6]⟩
      | fin w =>
        obtain ⟨st, hst, hp, rfl⟩ := lstep_fin.1 hl
        cases hst
        exact ⟨_, lstep_fin.2 ⟨a, rfl, by rw [h2]; exact hp, rfl⟩, by simp [ORel, hfin w rfl]⟩

theorem hreach_reach {h : HSys} {hs es : List Ev} (hr : HReach h hs es) : Reach h.σ es := by
  induction hr with
  | init => exact Reach.init
  | hookNotify _ _ _ _ ih => exact ih
  | send _ _ hstep ih => simpa using Reach.step ih hstep
  | recv _ _ hstep ih => simpa using Reach.step ih hstep
  | hookWake _ _ ih => exact ih
  | other _ _ hstep _ _ ih => exact Reach.step ih hstep

theorem p4_cons_emits {c : Tid} {rest : List Tid} (hpc : l.pc = .p4) (htd : l.todo = c :: rest)
    (h : tstep s t l ch = some (s', l', e)) : e = some (.notify c l.key) := by
  simp only [tstep, hpc, htd, Option.some.injEq, Prod.mk.injEq] at h
  exact h.2.2.symm

/-- a reported, unsent notify belongs to a push that is at that channel in its ForRange -/
def TK (h : HSys) : Prop :=
  ∀ p c, (p, c) ∈ h.tickets → (h.σ.thr p).pc = .p4 ∧ ∃ rest, (h.σ.thr p).todo = c :: rest

/-- `bs` is the protocol state after the events in operation order (a run of `step`, related to the program state by `Inv`),
    `hb` the one after the hook calls (a run of `stepLoose`); per channel the two differ as `ORel` says, by the receive
    not yet reported (`unrep`) and the notifies reported and not yet sent (`tickets`) -/
structure HInv (h : HSys) (hs es : List Ev) : Prop where
  ex : ∃ bs hb, runAll [] es = some bs ∧ runAllLoose [] hs = some hb ∧ Inv h.σ bs ∧ (∀ t, flagsOk (h.σ.thr t)) ∧
    ∀ c, ORel (h.unrep c) (pend h.tickets c) (get bs c) (get hb c)
  tk : TK h
  nd : (h.tickets.map Prod.fst).Nodup

theorem nodup_of_map_fst {tk : List (Tid × Tid)} (nd : (tk.map Prod.fst).Nodup) : tk.Nodup := by
  induction tk with
  | nil => simp
  | cons x tk ih =>
    simp only [List.map_cons, List.nodup_cons] at nd ⊢
    exact ⟨fun hm => nd.1 (List.mem_map.2 ⟨x, hm, rfl⟩), ih nd.2⟩

theorem fst_inj {tk : List (Tid × Tid)} (nd : (tk.map Prod.fst).Nodup) {p c1 c2 : Tid} (h1 : (p, c1) ∈ tk)
    (h2 : (p, c2) ∈ tk) : c1 = c2 := by
  induction tk with
  | nil => simp at h1
  | cons x tk ih =>
    simp only [List.map_cons, List.nodup_cons, List.mem_map, not_exists, not_and] at nd
    rcases List.mem_cons.1 h1 with h1 | h1 <;> rcases List.mem_cons.1 h2 with h2 | h2
    · rw [← h1] at h2; exact (Prod.mk.inj h2).2.symm
    · exact absurd (by rw [← h1]) (nd.1 _ h2)
    · exact absurd (by rw [← h2]) (nd.1 _ h1)
    · exact ih nd.2 h1 h2

/-- a thread's step leaves the tickets of the other pushes valid; its own would force it to emit `notify` -/
theorem tk_step {h : HSys} {tk' : List (Tid × Tid)} {un : Tid → Bool} (htk : TK h)
    (hsub : ∀ x, x ∈ tk' → x ∈ h.tickets) (hts : tstep h.σ.sh t (h.σ.thr t) ch = some (s', l', e))
    (hown : ∀ c, (t, c) ∈ tk' → ∀ c' k, e ≠ some (.notify c' k)) :
    TK { σ := ⟨s', upd h.σ.thr t l'⟩, tickets := tk', unrep := un } := by
  intro p c hm
  by_cases hp : p = t
  · subst hp
    exfalso
    obtain ⟨hpc, rest, htd⟩ := htk p c (hsub _ hm)
    have := p4_cons_emits hpc htd hts
    exact hown c hm _ _ this
  · simpa [upd_ne _ _ hp] using htk p c (hsub _ hm)

/-- the hook state is offered one wake-up more than the operation state: `n + 1` for `c` -/
theorem hinv_hookNotify {h : HSys} {hs es : List Ev} {p c : Tid} {rest : List Tid}
    (ih : HInv h hs es) (hpc : (h.σ.thr p).pc = .p4) (htd : (h.σ.thr p).todo = c :: rest)
    (hfresh : ∀ c', (p, c') ∉ h.tickets) :
    HInv { h with tickets := (p, c) :: h.tickets } (hs ++ [.notify c (h.σ.thr p).key]) es := by
  obtain ⟨⟨bs, hb, hr, hl, hI, hF, hO⟩, tk, nd⟩ := ih
  obtain ⟨b, hgb, hk, _⟩ := registered_of_mem hI ((hI.lrel p).2.2 (by simp [hpc, holdsR]))
    (hI.todo p hpc c (by simp [htd]))
  have hOc := hO c
  rw [hgb] at hOc
  cases hga : get hb c with
  | none => simp [ORel, hga] at hOc
  | some a =>
    simp only [hga, ORel] at hOc
    obtain ⟨h1, h2, h3, h4, h5, h6⟩ := hOc
    have hls := (lstep_notify (o := get hb c) (w := c) (k := (h.σ.thr p).key)).2 ⟨a, hga, by rw [h2]; exact hk, rfl⟩
    have hstep := own_step (ev := .notify c (h.σ.thr p).key) hls
    simp only [evW] at hstep
    refine ⟨⟨bs, _, hr, by rw [runAllLoose_snoc, hl]; exact hstep, hI, hF, fun c' => ?_⟩, ?_, ?_⟩
    · by_cases hc : c' = c
      · subst hc
        rw [get_put_self, hgb, pend_cons]
        simp only [ORel, if_true]
        exact ⟨h1, h2, h3, h4, h5, by omega⟩
      · rw [get_put_ne _ _ _ _ hc, pend_cons]
        simp only [if_neg (Ne.symm hc), Nat.add_zero]
        exact hO c'
    · intro p' c' hm
      rcases List.mem_cons.1 hm with hm | hm
      · cases hm; exact ⟨hpc, rest, htd⟩
      · exact tk p' c' hm
    · simp only [List.map_cons, List.nodup_cons]
      refine ⟨fun hm => ?_, nd⟩
      obtain ⟨x, hx, hxe⟩ := List.mem_map.1 hm
      obtain ⟨x1, x2⟩ := x
      simp only at hxe; subst hxe
      exact hfresh _ hx

/-- the operation state catches up: `n - 1` for `c` -/
theorem hinv_send {h : HSys} {hs es : List Ev} {p c : Tid} {k : Key} {ch : Choice} {σ' : Sys}
    (ih : HInv h hs es) (hmem : (p, c) ∈ h.tickets)
    (hstep : h.σ.step p ch = some (σ', some (.notify c k))) :
    HInv { h with σ := σ', tickets := h.tickets.erase (p, c) } hs (es ++ [.notify c k]) := by
  obtain ⟨⟨bs, hb, hr, hl, hI, hF, hO⟩, tk, nd⟩ := ih
  obtain ⟨bs', h1, hI', hF'⟩ := step_sim hI hF hstep
  simp only [stepO] at h1
  obtain ⟨s', l', hts, rfl⟩ := step_inv hstep
  obtain ⟨b, hgb, _, hres⟩ := lstep_notify.1 (step_local h1)
  simp only [evW] at hgb hres
  have hnd : h.tickets.Nodup := nodup_of_map_fst nd
  refine ⟨⟨bs', hb, by rw [runAll_snoc, hr]; exact h1, hl, hI', hF', fun c' => ?_⟩, ?_, ?_⟩
  · by_cases hc : c' = c
    · subst hc
      have hp := pend_erase_self hmem
      have hOc := hO c'
      rw [hgb] at hOc
      rw [hres]
      cases hga : get hb c' with
      | none => simp [ORel, hga] at hOc
      | some a =>
        simp only [hga, ORel] at hOc ⊢
        obtain ⟨e1, e2, e3, e4, e5, e6⟩ := hOc
        exact ⟨e1, e2, e3, e4, e5, by omega⟩
    · have : get bs' c' = get bs c' := step_frame h1 (by simpa [evW] using hc)
      rw [this, pend_erase_ne (Ne.symm hc)]
      exact hO c'
  · refine tk_step tk (fun x hx => List.mem_of_mem_erase hx) hts (fun c' hm => ?_)
    exfalso
    have hm' := List.mem_of_mem_erase hm
    have : c' = c := fst_inj nd hm' hmem
    subst this
    exact ((List.Nodup.mem_erase_iff hnd).1 hm).1 rfl
  · exact List.Nodup.sublist ((List.erase_sublist).map _) nd

/-- the operation state consumes the wake-up, the hook state not yet: `u := true` for `t` -/
theorem hinv_recv {h : HSys} {hs es : List Ev} {t : Tid} {ch : Choice} {σ' : Sys}
    (ih : HInv h hs es) (hun : h.unrep t = false)
    (hstep : h.σ.step t ch = some (σ', some (.wake t))) :
    HInv { h with σ := σ', unrep := upd h.unrep t true } hs (es ++ [.wake t]) := by
  obtain ⟨⟨bs, hb, hr, hl, hI, hF, hO⟩, tk, nd⟩ := ih
  obtain ⟨bs', h1, hI', hF'⟩ := step_sim hI hF hstep
  simp only [stepO] at h1
  obtain ⟨s', l', hts, rfl⟩ := step_inv hstep
  obtain ⟨b, hgb, hph, _, hres⟩ := lstep_wake.1 (step_local h1)
  simp only [evW] at hgb hres
  refine ⟨⟨bs', hb, by rw [runAll_snoc, hr]; exact h1, hl, hI', hF', fun c' => ?_⟩, ?_, nd⟩
  · by_cases hc : c' = t
    · subst hc
      have hOc := hO c'
      rw [hgb, hun] at hOc
      rw [hres]
      simp only [upd_self]
      cases hga : get hb c' with
      | none => simp [ORel, hga] at hOc
      | some a =>
        simp only [hga, ORel, Bool.false_eq_true, if_false, Nat.add_zero] at hOc
        obtain ⟨e1, e2, e3, e4, e5, e6⟩ := hOc
        simp only [ORel, if_true]
        exact ⟨e1, e2, e3, ⟨by rw [e4]; exact hph, trivial⟩, by omega, e6⟩
    · have : get bs' c' = get bs c' := step_frame h1 (by simpa [evW] using hc)
      rw [this]
      simp only [upd_ne _ _ hc]
      exact hO c'
  · refine tk_step tk (fun x hx => hx) hts (fun c' hm => ?_)
    exfalso
    have := (tk t c' hm).1
    have hw := (tstep_emits hts).2.1
    rw [hw] at this; cases this

/-- the hook state consumes it, by the token count of `stepLoose` (its phase is still `blocked`): `u := false` for `t` -/
theorem hinv_hookWake {h : HSys} {hs es : List Ev} {t : Tid} (ih : HInv h hs es) (hun : h.unrep t = true) :
    HInv { h with unrep := upd h.unrep t false } (hs ++ [.wake t]) es := by
  obtain ⟨⟨bs, hb, hr, hl, hI, hF, hO⟩, tk, nd⟩ := ih
  have hOt := hO t
  rw [hun] at hOt
  cases hgb : get bs t with
  | none => cases hga : get hb t <;> simp [ORel, hgb, hga] at hOt
  | some b =>
    cases hga : get hb t with
    | none => simp [ORel, hgb, hga] at hOt
    | some a =>
      simp only [hgb, hga, ORel, if_true] at hOt
      obtain ⟨e1, e2, e3, ⟨e4a, e4b⟩, e5, e6⟩ := hOt
      have hreach : Reachable bs := ⟨es, hr⟩
      have htok : b.woken ≤ b.notified := (hreach.winv hgb).tok_le
      have hlt : a.woken < a.notified := by omega
      have hsl : stepLoose hb (.wake t) =
          some (Block.set hb t { a with phase := .scan 0, buf := false, woken := a.woken + 1 }) := by
        simp [stepLoose, hga, e4a, hlt]
      refine ⟨⟨bs, _, hr, by rw [runAllLoose_snoc, hl]; exact hsl, hI, hF, fun c' => ?_⟩, tk, nd⟩
      by_cases hc : c' = t
      · subst hc
        rw [get_set_self, hgb]
        simp only [upd_self, ORel, Bool.false_eq_true, if_false, Nat.add_zero]
        exact ⟨e1, e2, e3, e4b.symm, by omega, e6⟩
      · rw [get_set_ne _ _ _ _ hc]
        simp only [upd_ne _ _ hc]
        exact hO c'

/-- both states take the same step (`lstep_agree`); `u` and `n` stay -/
theorem hinv_other {h : HSys} {hs es : List Ev} {t : Tid} {ch : Choice} {σ' : Sys} {e : Option Ev}
    (ih : HInv h hs es) (hun : h.unrep t = false)
    (hstep : h.σ.step t ch = some (σ', e)) (hnn : ∀ c k, e ≠ some (.notify c k)) (hnw : ∀ w, e ≠ some (.wake w)) :
    HInv { h with σ := σ' } (hs ++ e.toList) (es ++ e.toList) := by
  obtain ⟨⟨bs, hb, hr, hl, hI, hF, hO⟩, tk, nd⟩ := ih
  obtain ⟨bs', h1, hI', hF'⟩ := step_sim hI hF hstep
  obtain ⟨s', l', hts, rfl⟩ := step_inv hstep
  have htk : TK { h with σ := ⟨s', upd h.σ.thr t l'⟩ } :=
    tk_step tk (fun x hx => hx) hts (fun c' _ => hnn)
  cases e with
  | none =>
    simp only [stepO, Option.some.injEq] at h1
    subst h1
    exact ⟨⟨bs, hb, by simpa using hr, by simpa using hl, hI', hF', hO⟩, htk, nd⟩
  | some ev =>
    simp only [stepO] at h1
    have hn' : ∀ c k, ev ≠ .notify c k := fun c k he => hnn c k (by rw [he])
    have hev : evW ev = t := emits_own (tstep_emits hts) hn'
    have hw' : ∀ w, ev ≠ .wake w := fun w he => hnw w (by rw [he])
    have hlb := step_local h1
    rw [hev] at hlb
    -- `fin` is emitted at u3, where `t` holds the registry lock exclusively; a ticket for `t`'s channel is held by a push at p4,
    -- a reader of that lock
    have hfin : ∀ w, ev = .fin w → pend h.tickets t = 0 := by
      intro w he
      subst he
      refine pend_zero_of_not_mem fun p hm => ?_
      have hp4 := (tk p t hm).1
      have hrd := (hI.lrel p).2.2 (by simp [hp4, holdsR])
      have hu3 := (tstep_emits hts).2
      have hwr := (hI.lrel t).1.2 (by simp [hu3, holdsW])
      have := hI.excl (by simp [hwr])
      simp [this] at hrd
    have hOt := hO t
    rw [hun] at hOt
    obtain ⟨oa', hla, hO'⟩ := lstep_agree hOt hlb hn' hw' hfin
    have hsa : step hb ev = some (put hb t oa') := by
      have := own_step (bs := hb) (ev := ev) (o' := oa') (by rw [hev]; exact hla)
      rw [hev] at this; exact this
    refine ⟨⟨bs', put hb t oa', by simp only [Option.toList_some]; rw [runAll_snoc, hr]; exact h1,
      by simp only [Option.toList_some]; rw [runAllLoose_snoc, hl]; simp only [Option.bind_some]
         rw [stepLoose_of_not_wake hw']; exact hsa, hI', hF', fun c' => ?_⟩, htk, nd⟩
    by_cases hc : c' = t
    · subst hc
      rw [get_put_self, hun]
      exact hO'
    · rw [get_put_ne _ _ _ _ hc, step_frame h1 (by rw [hev]; exact hc)]
      exact hO c'

theorem hreach_inv {h : HSys} {hs es : List Ev} (hr : HReach h hs es) : HInv h hs es := by
  induction hr with
  | init =>
    exact ⟨⟨[], [], rfl, rfl, inv_init, fun _ => by simp [flagsOk], fun c => by simp [ORel, get_nil, pend]⟩,
      fun p c hm => by simp at hm, by simp⟩
  | hookNotify hprev hpc htd hfresh ih => exact hinv_hookNotify ih hpc htd hfresh
  | send hprev hmem hstep ih => exact hinv_send ih hmem hstep
  | recv hprev hun hstep ih => exact hinv_recv ih hun hstep
  | hookWake _ hun ih => exact hinv_hookWake ih hun
  | other hprev hun hstep hnn hnw ih => exact hinv_other ih hun hstep hnn hnw

/-- the hook-level semantics is at least as rich as the program model: every run of the program model is a hook-level
    run in which each of the two hooks is called right next to its channel operation (then both orders coincide) -/
theorem reach_lifts {σ : Sys} {es : List Ev} (h : Reach σ es) : HReach ⟨σ, [], fun _ => false⟩ es es := by
  induction h with
  | init => exact HReach.init
  | @step σ σ' es t ch e _ hs ih =>
    obtain ⟨s', l', hts, rfl⟩ := step_inv hs
    by_cases hn : ∃ c k, e = some (.notify c k)
    · obtain ⟨c, k, rfl⟩ := hn
      obtain ⟨hpc, hk, htd, _⟩ := tstep_emits hts
      have h1 := HReach.hookNotify (p := t) (c := c) ih hpc htd (by simp)
      have h2 := HReach.send (p := t) (c := c) (k := k) (ch := ch) h1 (by simp) hs
      simpa [hk] using h2
    · by_cases hw : ∃ w, e = some (.wake w)
      · obtain ⟨w, rfl⟩ := hw
        obtain ⟨rfl, _⟩ := tstep_emits hts
        have h1 := HReach.recv (t := w) (ch := ch) ih rfl hs
        have h2 := HReach.hookWake (t := w) h1 (by simp)
        have hu : upd (upd (fun _ : Tid => false) w true) w false = fun _ => false := by
          funext x; by_cases hx : x = w <;> simp [upd, hx]
        simpa [hu] using h2
      · exact HReach.other ih rfl hs (fun c k he => hn ⟨c, k, he⟩) (fun w he => hw ⟨w, he⟩)

theorem hstep_sound {h h' : HSys} {hs es : List Ev} {a : HAct} {e1 e2 : Option Ev} (hr : HReach h hs es)
    (hst : hstep h a = some (h', e1, e2)) : HReach h' (hs ++ e1.toList) (es ++ e2.toList) := by
  revert h' e1 e2
  fun_cases hstep h a
  -- the five branches of `hstep` that return a result are the five rules of `HReach`
  all_goals rintro _ _ _ ⟨⟩
  · next p c rest htd hc =>
    have hfresh : ∀ c', (p, c') ∉ h.tickets := fun c' hm => by simpa using List.all_eq_true.1 hc.2 _ hm
    simpa using HReach.hookNotify hr hc.1 htd hfresh
  · next hstep' hm => simpa using HReach.send hr hm hstep'
  · next hstep' hc =>
    obtain ⟨rfl, hun⟩ := hc
    simpa using HReach.recv hr hun hstep'
  · next hun => simpa using HReach.hookWake hr hun
  · next hun _ _ hstep' hne =>
    simp only [Bool.or_eq_true, not_or, Bool.not_eq_true] at hne
    refine HReach.other hr (by simpa using hun) hstep' (fun c k he => ?_) (fun w he => ?_)
    · subst he; simp [isNotify] at hne
    · subst he; simp [isWake] at hne

theorem hexec_sound {h0 : HSys} {hs0 es0 : List Ev} (h0r : HReach h0 hs0 es0) {acts : List HAct} {h : HSys}
    {hs es : List Ev} (hx : hexec h0 acts = some (h, hs, es)) : HReach h (hs0 ++ hs) (es0 ++ es) := by
  induction acts generalizing h0 hs0 es0 hs es with
  | nil => simp only [hexec, Option.some.injEq, Prod.mk.injEq] at hx; obtain ⟨rfl, rfl, rfl⟩ := hx; simpa using h0r
  | cons a rest ih =>
    simp only [hexec] at hx
    cases hs1 : hstep h0 a with
    | none => simp [hs1] at hx
    | some r =>
      obtain ⟨h1, e1, e2⟩ := r
      simp only [hs1] at hx
      cases hr2 : hexec h1 rest with
      | none => simp [hr2] at hx
      | some r2 =>
        obtain ⟨h2, hs2, es2⟩ := r2
        simp only [hr2, Option.some.injEq, Prod.mk.injEq] at hx
        obtain ⟨rfl, rfl, rfl⟩ := hx
        have := ih (hstep_sound h0r hs1) hr2
        simpa [List.append_assoc] using this

end NodisVerif.Proofs.BlockProg

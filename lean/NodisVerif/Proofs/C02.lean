import NodisVerif.Model.DsList
import NodisVerif.Model.WF
import NodisVerif.Spec.List
/-
  Property C02 at the level of the data structure (`Model/DsList.lean` against `Spec/List.lean`): LRANGE / LTRIM as a
  window of positions; LREM through occurrences and removal with a position offset (`occJ` / `remJ`); the cached counter
  (`*_wf`); `modelStep` and its refinement of `Spec.List.step` for every command and command sequence; properties of
  the reference LREM itself.
-/
namespace NodisVerif.Proofs.C02
open NodisVerif

theorem window (xs : List Bytes) (k : Nat) (lo hi : Int) :
    ((xs.zipIdx k).filter (fun p => decide (lo ≤ (p.2 : Int) ∧ (p.2 : Int) ≤ hi))).map (·.1)
      = (xs.drop (lo - k).toNat).take (hi + 1 - max lo k).toNat := by
  induction xs generalizing k with
  | nil => simp
  | cons x xs ih =>
    rw [List.zipIdx_cons, List.filter_cons]
    by_cases h1 : lo ≤ (k : Int)
    · by_cases h2 : (k : Int) ≤ hi
      · have e1 : (lo - (k : Int)).toNat = 0 := by omega
        have e2 : (hi + 1 - max lo (k : Int)).toNat = (hi + 1 - max lo ((k + 1 : Nat) : Int)).toNat + 1 := by omega
        have e3 : (lo - ((k + 1 : Nat) : Int)).toNat = 0 := by omega
        simp only [h1, h2, and_self, decide_true, if_true, List.map_cons, ih, e1, e2, e3,
          List.drop_zero, List.take_succ_cons]
      · have e1 : (hi + 1 - max lo (k : Int)).toNat = 0 := by omega
        have e2 : (hi + 1 - max lo ((k + 1 : Nat) : Int)).toNat = 0 := by omega
        have hd : decide (lo ≤ (k : Int) ∧ (k : Int) ≤ hi) = false := by simp [h2]
        simp only [hd, Bool.false_eq_true, if_false, ih, e1, e2, List.take_zero]
    · have e1 : (lo - (k : Int)).toNat = (lo - ((k + 1 : Nat) : Int)).toNat + 1 := by omega
      have e2 : max lo (k : Int) = max lo ((k + 1 : Nat) : Int) := by omega
      have hd : decide (lo ≤ (k : Int) ∧ (k : Int) ≤ hi) = false := by simp [h1]
      simp only [hd, Bool.false_eq_true, if_false, ih, e1, e2, List.drop_succ_cons]

/-- `Spec.List.lrange` as one `drop`/`take`: with `lo`, `hi` the absolute positions, the clamping of
    `lo` to 0 and of `hi` to the last position is what `toNat` and `take` beyond the end do anyway -/
theorem lrange_eq_take_drop (xs : List Bytes) (start stop : Int) :
    Spec.List.lrange xs start stop =
      (xs.drop (Spec.List.absIndex xs.length start).toNat).take
        (Spec.List.absIndex xs.length stop + 1 - max (Spec.List.absIndex xs.length start) 0).toNat := by
  unfold Spec.List.lrange
  generalize Spec.List.absIndex xs.length start = lo
  generalize Spec.List.absIndex xs.length stop = hi
  have hs : (if lo < 0 then 0 else lo) = max lo 0 := by split <;> omega
  have e : (max lo 0).toNat = lo.toNat := by omega
  simp only [hs]
  generalize hn : xs.length = n
  by_cases hh : hi ≥ (n : Int)
  · -- `hi` at or beyond the end: both sides take the whole of `xs.drop lo`
    rw [if_pos hh]
    split
    · symm
      rw [List.take_eq_nil_iff, List.drop_eq_nil_iff]
      omega
    · rw [e, List.take_of_length_le (by rw [List.length_drop]; omega),
        List.take_of_length_le (by rw [List.length_drop]; omega)]
  · rw [if_neg hh]
    split
    · symm
      rw [List.take_eq_nil_iff, List.drop_eq_nil_iff]
      omega
    · have e2 : hi - max lo 0 + 1 = hi + 1 - max lo 0 := by omega
      rw [e, e2]

theorem window_zero (xs : List Bytes) (lo hi : Int) :
    ((xs.zipIdx).filter (fun p => decide (lo ≤ (p.2 : Int) ∧ (p.2 : Int) ≤ hi))).map (·.1)
      = (xs.drop lo.toNat).take (hi + 1 - max lo 0).toNat := by
  have h := window xs 0 lo hi
  rwa [Int.natCast_zero, Int.sub_zero] at h

/-- the Go code writes `i + n` where the reference writes `n + i` -/
theorem absIndex_go (n : Nat) (i : Int) :
    (if i < 0 then i + (n : Int) else i) = Spec.List.absIndex n i := by
  unfold Spec.List.absIndex; rw [Int.add_comm]

/-- `forEach` clamps a start before the head to the head -/
theorem absIndex_clamp (n : Nat) (i : Int) :
    (if i < 0 then (if i + (n : Int) < 0 then 0 else i + (n : Int)) else i)
      = max (Spec.List.absIndex n i) 0 := by
  unfold Spec.List.absIndex
  by_cases h : i < 0
  · simp only [h, if_true]; split <;> omega
  · simp only [h, if_false]; omega

theorem forEach_eq (l : LList) (start stop : Int) :
    DsList.forEach l start stop = Spec.List.lrange l.items start stop := by
  rw [lrange_eq_take_drop]
  unfold DsList.forEach DsList.size
  simp only [absIndex_go, absIndex_clamp]
  generalize Spec.List.absIndex l.items.length start = lo
  generalize Spec.List.absIndex l.items.length stop = hi
  split
  · symm; rw [List.take_eq_nil_iff]; left; omega
  · have e1 : (max lo 0).toNat = lo.toNat := by omega
    have e2 : max (max lo 0) 0 = max lo 0 := by omega
    rw [window_zero, e1, e2]

theorem ltrim_items (l : LList) (start stop : Int) :
    (DsList.ltrim l start stop).items = Spec.List.lrange l.items start stop := by
  rw [lrange_eq_take_drop, ← window_zero]
  unfold DsList.ltrim DsList.size Spec.List.absIndex
  simp only
  congr 2
  funext p
  congr 1
  apply propext
  omega

theorem lpush_eq (l : LList) (data : List Bytes) :
    DsList.lpush l data = { items := data.reverse ++ l.items, length := l.length + data.length } := by
  unfold DsList.lpush
  induction data generalizing l with
  | nil => simp
  | cons d ds ih =>
    rw [List.foldl_cons, ih]
    simp only [List.reverse_cons, List.append_assoc, List.singleton_append, List.length_cons,
      LList.mk.injEq, true_and]
    omega

theorem rpush_eq (l : LList) (data : List Bytes) :
    DsList.rpush l data = { items := l.items ++ data, length := l.length + data.length } := by
  unfold DsList.rpush
  induction data generalizing l with
  | nil => simp
  | cons d ds ih =>
    rw [List.foldl_cons, ih]
    simp only [List.append_assoc, List.singleton_append, List.length_cons, LList.mk.injEq, true_and]
    omega

theorem insertAt_eq (xs : List Bytes) (pivot v : Bytes) (before : Bool) :
    DsList.insertAt xs pivot v before = Spec.List.linsert xs pivot v before := by
  unfold Spec.List.linsert
  induction xs with
  | nil => simp [DsList.insertAt]
  | cons x xs ih =>
    rw [DsList.insertAt, List.findIdx?_cons]
    by_cases h : x = pivot
    · cases before <;> simp [h]
    · simp only [h, if_false, decide_false, Bool.false_eq_true, ih]
      cases xs.findIdx? (fun x => decide (x = pivot)) with
      | none => simp
      | some i => cases before <;> simp

theorem insertAt_length (xs : List Bytes) (pivot v : Bytes) (before : Bool) (ys : List Bytes)
    (h : DsList.insertAt xs pivot v before = some ys) : ys.length = xs.length + 1 := by
  induction xs generalizing ys with
  | nil => simp [DsList.insertAt] at h
  | cons x xs ih =>
    rw [DsList.insertAt] at h
    split at h
    · cases before <;> simp at h <;> subst h <;> simp
    · cases hr : DsList.insertAt xs pivot v before with
      | none => simp [hr] at h
      | some zs =>
        simp [hr] at h; subst h
        simp [ih zs hr]

def occJ (xs : List Bytes) (v : Bytes) (j : Nat) : List Nat :=
  ((xs.zipIdx j).filter fun p => p.1 = v).map (·.2)

def remJ (xs : List Bytes) (victims : List Nat) (j : Nat) : List Bytes :=
  ((xs.zipIdx j).filter fun p => !victims.contains p.2).map (·.1)

theorem occ_eq (xs : List Bytes) (v : Bytes) : Spec.List.occurrences xs v = occJ xs v 0 := rfl
theorem rem_eq (xs : List Bytes) (T : List Nat) : Spec.List.removeAt xs T = remJ xs T 0 := rfl

theorem occJ_ge (xs : List Bytes) (v : Bytes) (j i : Nat) (h : i ∈ occJ xs v j) : j ≤ i := by
  unfold occJ at h
  simp only [List.mem_map, List.mem_filter] at h
  obtain ⟨p, ⟨hp, _⟩, rfl⟩ := h
  exact List.le_snd_of_mem_zipIdx hp

theorem occJ_lt (xs : List Bytes) (v : Bytes) (j i : Nat) (h : i ∈ occJ xs v j) : i < xs.length + j := by
  unfold occJ at h
  simp only [List.mem_map, List.mem_filter] at h
  obtain ⟨p, ⟨hp, _⟩, rfl⟩ := h
  exact List.snd_lt_of_mem_zipIdx hp

theorem remJ_nil (xs : List Bytes) (j : Nat) : remJ xs [] j = xs := by
  unfold remJ
  have : ((xs.zipIdx j).filter fun p => !([] : List Nat).contains p.2) = xs.zipIdx j := by
    rw [List.filter_eq_self]; intro a _; simp
  rw [this]
  exact List.zipIdx_map_fst j xs

theorem remJ_congr (xs : List Bytes) (T T' : List Nat) (j : Nat)
    (h : ∀ i, j ≤ i → i < xs.length + j → (i ∈ T ↔ i ∈ T')) : remJ xs T j = remJ xs T' j := by
  unfold remJ
  congr 1
  apply List.filter_congr
  intro p hp
  have h1 := List.le_snd_of_mem_zipIdx hp
  have h2 := List.snd_lt_of_mem_zipIdx hp
  have := h p.2 h1 h2
  simp only [List.contains_eq_mem]
  simp only [this]

theorem occJ_cons (x : Bytes) (xs : List Bytes) (v : Bytes) (j : Nat) :
    occJ (x :: xs) v j = if x = v then j :: occJ xs v (j + 1) else occJ xs v (j + 1) := by
  by_cases hx : x = v <;> simp [occJ, hx]

theorem remJ_cons (x : Bytes) (xs : List Bytes) (T : List Nat) (j : Nat) :
    remJ (x :: xs) T j = if j ∈ T then remJ xs T (j + 1) else x :: remJ xs T (j + 1) := by
  by_cases h : j ∈ T <;> simp [remJ, h]

theorem remJ_cons_lt (xs : List Bytes) (T : List Nat) (i j : Nat) (h : i < j) :
    remJ xs (i :: T) j = remJ xs T j := by
  apply remJ_congr
  intro i' h1 _
  rw [List.mem_cons]
  exact ⟨fun h' => h'.resolve_left (by omega), Or.inr⟩

theorem not_mem_occJ_succ (xs : List Bytes) (v : Bytes) (j : Nat) : j ∉ occJ xs v (j + 1) :=
  fun hm => Nat.lt_irrefl j (occJ_ge xs v (j + 1) j hm)

theorem removeFirst_zero (xs : List Bytes) (v : Bytes) : DsList.removeFirst xs v 0 = (xs, 0) := by
  simp [DsList.removeFirst]

theorem removeFirst_nil (v : Bytes) (k : Nat) : DsList.removeFirst [] v k = ([], 0) := by
  cases k <;> simp [DsList.removeFirst]

theorem removeFirst_cons_rem (x : Bytes) (rest : List Bytes) (v : Bytes) (k : Nat) (h : x = v) :
    DsList.removeFirst (x :: rest) v (k + 1) =
      ((DsList.removeFirst rest v k).1, (DsList.removeFirst rest v k).2 + 1) := by
  rw [DsList.removeFirst]
  simp only [h, if_true]

theorem removeFirst_cons_keep (x : Bytes) (rest : List Bytes) (v : Bytes) (k : Nat) (h : x ≠ v ∨ k = 0) :
    DsList.removeFirst (x :: rest) v k =
      (x :: (DsList.removeFirst rest v k).1, (DsList.removeFirst rest v k).2) := by
  cases k with
  | zero => simp [removeFirst_zero]
  | succ k =>
    have hne : x ≠ v := by
      rcases h with h | h
      · exact h
      · omega
    rw [DsList.removeFirst]
    simp only [hne, if_false]

theorem removeFirst_all (xs : List Bytes) (v : Bytes) (k : Nat) (hk : xs.length ≤ k) :
    DsList.removeFirst xs v k =
      (xs.filter (· ≠ v), xs.length - (xs.filter (· ≠ v)).length) := by
  induction xs generalizing k with
  | nil => simp [removeFirst_nil]
  | cons x xs ih =>
    simp only [List.length_cons] at hk
    by_cases hx : x = v
    · obtain ⟨k', rfl⟩ : ∃ k', k = k' + 1 := ⟨k - 1, by omega⟩
      rw [removeFirst_cons_rem x xs v k' hx, ih k' (by omega)]
      have hle := List.length_filter_le (fun x => decide (¬ x = v)) xs
      simp only [List.filter_cons, hx, ne_eq, not_true_eq_false, decide_false, Bool.false_eq_true,
        if_false, List.length_cons, Prod.mk.injEq, true_and]
      omega
    · rw [removeFirst_cons_keep x xs v k (Or.inl hx), ih k (by omega)]
      simp only [List.filter_cons, hx, ne_eq, not_false_eq_true, decide_true, if_true,
        List.length_cons, Prod.mk.injEq, true_and]
      omega

theorem dslrem_pos (L : LList) (count : Int) (v : Bytes) (h : count > 0) :
    DsList.lrem L count v =
      (({ items := (DsList.removeFirst L.items v count.toNat).1,
          length := L.length - ((DsList.removeFirst L.items v count.toNat).2 : Nat) } : LList),
       (((DsList.removeFirst L.items v count.toNat).2 : Nat) : Int)) := by
  unfold DsList.lrem
  rw [if_pos h]

theorem dslrem_neg (L : LList) (count : Int) (v : Bytes) (h : count < 0) :
    DsList.lrem L count v =
      (({ items := (DsList.removeFirst L.items.reverse v (-count).toNat).1.reverse,
          length := L.length - ((DsList.removeFirst L.items.reverse v (-count).toNat).2 : Nat) } : LList),
       (((DsList.removeFirst L.items.reverse v (-count).toNat).2 : Nat) : Int)) := by
  unfold DsList.lrem
  rw [if_neg (by omega), if_pos h]

theorem dslrem_zero (L : LList) (v : Bytes) :
    DsList.lrem L 0 v =
      (({ items := L.items.filter (· ≠ v),
          length := L.length - ((L.items.length - (L.items.filter (· ≠ v)).length : Nat) : Int) } : LList),
       ((L.items.length - (L.items.filter (· ≠ v)).length : Nat) : Int)) := by
  unfold DsList.lrem
  rw [if_neg (by omega), if_neg (by omega)]

theorem removeFirst_eq (xs : List Bytes) (v : Bytes) (k j : Nat) :
    DsList.removeFirst xs v k = (remJ xs ((occJ xs v j).take k) j, ((occJ xs v j).take k).length) := by
  induction xs generalizing k j with
  | nil => simp [removeFirst_nil, remJ, occJ]
  | cons x xs ih =>
    cases k with
    | zero => simp [removeFirst_zero, remJ_nil]
    | succ k =>
      rw [DsList.removeFirst, occJ_cons, remJ_cons]
      by_cases hx : x = v
      · rw [if_pos hx, if_pos hx, List.take_succ_cons, if_pos (List.mem_cons_self ..), ih k (j + 1),
          remJ_cons_lt _ _ _ _ (Nat.lt_succ_self j)]
        rfl
      · have hj : j ∉ (occJ xs v (j + 1)).take (k + 1) :=
          fun hm => not_mem_occJ_succ xs v j (List.mem_of_mem_take hm)
        rw [if_neg hx, if_neg hx, if_neg hj, ih (k + 1) (j + 1)]

theorem occJ_snoc (xs : List Bytes) (a v : Bytes) :
    occJ (xs ++ [a]) v 0 = occJ xs v 0 ++ (if a = v then [xs.length] else []) := by
  unfold occJ
  rw [List.zipIdx_append]
  by_cases h : a = v <;> simp [h]

theorem remJ_snoc (xs : List Bytes) (a : Bytes) (T : List Nat) :
    remJ (xs ++ [a]) T 0 = remJ xs T 0 ++ (if xs.length ∈ T then [] else [a]) := by
  unfold remJ
  rw [List.zipIdx_append]
  by_cases h : xs.length ∈ T <;> simp [h]

theorem removeFirst_reverse (ys : List Bytes) (v : Bytes) (k : Nat) :
    ((DsList.removeFirst ys v k).1.reverse, (DsList.removeFirst ys v k).2) =
      (remJ ys.reverse ((occJ ys.reverse v 0).drop ((occJ ys.reverse v 0).length - k)) 0,
       ((occJ ys.reverse v 0).drop ((occJ ys.reverse v 0).length - k)).length) := by
  induction ys generalizing k with
  | nil => simp [removeFirst_nil, remJ, occJ]
  | cons a ys ih =>
    cases k with
    | zero => simp [removeFirst_zero, remJ_nil]
    | succ k =>
      rw [DsList.removeFirst, List.reverse_cons, occJ_snoc]
      by_cases hx : a = v
      · have ih' := ih k
        rw [Prod.mk.injEq] at ih'
        obtain ⟨ih1, ih2⟩ := ih'
        generalize hocc : occJ ys.reverse v 0 = occ at *
        have hd : (occ ++ [ys.reverse.length]).drop ((occ ++ [ys.reverse.length]).length - (k + 1))
            = occ.drop (occ.length - k) ++ [ys.reverse.length] := by
          have e : (occ ++ [ys.reverse.length]).length - (k + 1) = occ.length - k := by
            rw [List.length_append, List.length_singleton]; omega
          rw [e, List.drop_append_of_le_length (by omega)]
        simp only [hx, if_true, hd, Prod.mk.injEq]
        refine ⟨?_, by simp [ih2]⟩
        rw [remJ_snoc, ih1]
        simp only [List.mem_append, List.mem_singleton, or_true, if_true, List.append_nil]
        apply remJ_congr
        intro i _ h2
        simp only [List.mem_append, List.mem_singleton]
        constructor
        · intro h; exact Or.inl h
        · intro h; rcases h with h | h
          · exact h
          · omega
      · have ih' := ih (k + 1)
        rw [Prod.mk.injEq] at ih'
        obtain ⟨ih1, ih2⟩ := ih'
        simp only [hx, if_false, List.append_nil, List.reverse_cons, Prod.mk.injEq]
        refine ⟨?_, ih2⟩
        rw [remJ_snoc, ih1]
        have hn : ys.reverse.length ∉ (occJ ys.reverse v 0).drop ((occJ ys.reverse v 0).length - (k + 1)) := by
          intro hm
          have := occJ_lt ys.reverse v 0 _ (List.mem_of_mem_drop hm)
          omega
        rw [if_neg hn]

theorem removeAll_eq (xs : List Bytes) (v : Bytes) (j : Nat) :
    remJ xs (occJ xs v j) j = xs.filter (· ≠ v) ∧
    (occJ xs v j).length = xs.length - (xs.filter (· ≠ v)).length := by
  induction xs generalizing j with
  | nil => simp [remJ, occJ]
  | cons x xs ih =>
    obtain ⟨ih1, ih2⟩ := ih (j + 1)
    have hle : (xs.filter (· ≠ v)).length ≤ xs.length := List.length_filter_le _ _
    rw [occJ_cons, remJ_cons]
    by_cases hx : x = v
    · rw [if_pos hx, if_pos (List.mem_cons_self ..), remJ_cons_lt _ _ _ _ (Nat.lt_succ_self j), ih1,
        List.filter_cons_of_neg (by simp [hx]), List.length_cons, List.length_cons, ih2]
      exact ⟨rfl, by omega⟩
    · rw [if_neg hx, if_neg (not_mem_occJ_succ xs v j), ih1, List.filter_cons_of_pos (by simp [hx]),
        List.length_cons, List.length_cons, ih2]
      exact ⟨rfl, by omega⟩

theorem lrem_eq (l : LList) (count : Int) (v : Bytes) :
    DsList.lrem l count v =
      ({ items := (Spec.List.lrem l.items count v).1,
         length := l.length - ((Spec.List.lrem l.items count v).2 : Nat) },
       (((Spec.List.lrem l.items count v).2 : Nat) : Int)) := by
  unfold DsList.lrem Spec.List.lrem
  simp only [occ_eq, rem_eq]
  by_cases h1 : count > 0
  · simp only [h1, if_true]
    rw [removeFirst_eq l.items v count.toNat 0]
  · by_cases h2 : count < 0
    · simp only [h1, h2, if_true, if_false]
      have := removeFirst_reverse l.items.reverse v (-count).toNat
      rw [List.reverse_reverse, Prod.mk.injEq] at this
      obtain ⟨e1, e2⟩ := this
      rw [← e1, ← e2]
    · simp only [h1, h2, if_false]
      obtain ⟨e1, e2⟩ := removeAll_eq l.items v 0
      rw [e1, e2]

theorem removeFirst_length (xs : List Bytes) (v : Bytes) (k : Nat) :
    (DsList.removeFirst xs v k).1.length + (DsList.removeFirst xs v k).2 = xs.length := by
  induction xs generalizing k with
  | nil => simp [removeFirst_nil]
  | cons x xs ih =>
    cases k with
    | zero => simp [removeFirst_zero]
    | succ k =>
      rw [DsList.removeFirst]
      split
      · have := ih k; simp only [List.length_cons]; omega
      · have := ih (k + 1); simp only [List.length_cons]; omega

theorem empty_wf : DsList.empty.WF := rfl

theorem lpush_wf (l : LList) (h : l.WF) (data : List Bytes) : (DsList.lpush l data).WF := by
  unfold LList.WF at *
  rw [lpush_eq]; simp only [List.length_append, List.length_reverse]; omega

theorem rpush_wf (l : LList) (h : l.WF) (data : List Bytes) : (DsList.rpush l data).WF := by
  unfold LList.WF at *
  rw [rpush_eq]; simp only [List.length_append]; omega

theorem lpop_wf (l : LList) (h : l.WF) (count : Int) : (DsList.lpop l count).1.WF := by
  unfold LList.WF at *
  unfold DsList.lpop
  split
  · exact h
  · simp only
    split
    · exact h
    · have hk := Nat.min_le_right count.toNat l.items.length
      simp only [List.length_drop]
      generalize min count.toNat l.items.length = k at hk ⊢
      omega

theorem dsrpop_reverse (L : LList) (count : Int) :
    DsList.rpop L count =
      (⟨(DsList.lpop ⟨L.items.reverse, L.length⟩ count).1.items.reverse,
        (DsList.lpop ⟨L.items.reverse, L.length⟩ count).1.length⟩,
       (DsList.lpop ⟨L.items.reverse, L.length⟩ count).2) := by
  unfold DsList.rpop DsList.lpop
  simp only [List.isEmpty_reverse, List.length_reverse]
  split
  · simp only [List.reverse_reverse]
  · split
    · simp only [List.reverse_reverse]
    · simp only [List.drop_reverse, List.take_reverse, List.reverse_reverse]

theorem spec_rpop_mirror (xs : List Bytes) (k : Nat) :
    Spec.List.rpop xs k =
      ((Spec.List.lpop xs.reverse k).1, (Spec.List.lpop xs.reverse k).2.reverse) := by
  unfold Spec.List.rpop Spec.List.lpop
  simp only [List.length_reverse, Prod.mk.injEq]
  constructor
  · rw [List.take_reverse]
  · rw [List.drop_reverse, List.reverse_reverse]

theorem rpop_wf (l : LList) (h : l.WF) (count : Int) : (DsList.rpop l count).1.WF := by
  have hr : LList.WF ⟨l.items.reverse, l.length⟩ := by
    unfold LList.WF at *; rw [List.length_reverse]; exact h
  have := lpop_wf _ hr count
  rw [dsrpop_reverse]
  unfold LList.WF at *
  rw [List.length_reverse]; exact this

theorem linsert_wf (l : LList) (h : l.WF) (pivot v : Bytes) (before : Bool) :
    (DsList.linsert l pivot v before).1.WF := by
  unfold LList.WF at *
  unfold DsList.linsert
  split
  · exact h
  · rename_i xs hx
    simp only [insertAt_length _ _ _ _ _ hx]; omega

theorem lrem_wf (l : LList) (h : l.WF) (count : Int) (v : Bytes) : (DsList.lrem l count v).1.WF := by
  unfold LList.WF at *
  unfold DsList.lrem
  split
  · have := removeFirst_length l.items v count.toNat
    simp only; omega
  · split
    · have := removeFirst_length l.items.reverse v (-count).toNat
      simp only [List.length_reverse] at this ⊢; omega
    · have hle : (l.items.filter (· ≠ v)).length ≤ l.items.length := List.length_filter_le _ _
      simp only; omega

theorem lset_wf (l : LList) (h : l.WF) (i : Int) (v : Bytes) : (DsList.lset l i v).1.WF := by
  unfold LList.WF at *
  unfold DsList.lset
  simp only
  generalize (if i < 0 then l.length + i else i) = j
  split
  · exact h
  · simp only [List.length_set]; exact h

theorem ltrim_wf (l : LList) (h : l.WF) (start stop : Int) : (DsList.ltrim l start stop).WF := by
  unfold LList.WF at *
  unfold DsList.ltrim
  simp only [List.length_map]
  have hle := List.length_filter_le (fun (x : Bytes × Nat) => decide ¬((x.2 : Int) <
      (if start < 0 then DsList.size l + start else start) ∨ (x.2 : Int) >
      (if stop < 0 then DsList.size l + stop else stop))) l.items.zipIdx
  rw [List.length_zipIdx] at hle
  omega

theorem lindex_eq (l : LList) (h : l.WF) (i : Int) :
    DsList.lindex l i = Spec.List.lindex l.items i := by
  unfold DsList.lindex Spec.List.lindex Spec.List.absIndex
  rw [h]

theorem lset_eq (l : LList) (h : l.WF) (i : Int) (v : Bytes) :
    DsList.lset l i v =
      match Spec.List.lset l.items i v with
      | none => (l, false)
      | some xs => ({ items := xs, length := l.length }, true) := by
  unfold DsList.lset Spec.List.lset Spec.List.absIndex
  rw [h]
  simp only
  generalize (if i < 0 then (l.items.length : Int) + i else i) = j
  split
  · rfl
  · rename_i hh
    have : j.toNat < l.items.length := by omega
    simp only [List.set_eq_take_append_cons_drop, this, if_true]

theorem linsert_eq (l : LList) (pivot v : Bytes) (before : Bool) :
    DsList.linsert l pivot v before =
      match Spec.List.linsert l.items pivot v before with
      | none => (l, -1)
      | some xs => ({ items := xs, length := l.length + 1 }, l.length + 1) := by
  unfold DsList.linsert
  rw [insertAt_eq]
  cases Spec.List.linsert l.items pivot v before <;> rfl

/-- `DsList.lpop`: `none` (Go's nil slice, the list untouched) iff the list is empty or `count ≤ 0`; otherwise the first
    `min count n` elements head-first, and the rest stays -/
theorem lpop_eq (l : LList) (count : Int) :
    DsList.lpop l count =
      if l.items = [] ∨ count ≤ 0 then (l, none)
      else ({ items := (Spec.List.lpop l.items count.toNat).2,
              length := l.length - (min count.toNat l.items.length : Nat) },
            some (Spec.List.lpop l.items count.toNat).1) := by
  unfold DsList.lpop Spec.List.lpop
  cases hxs : l.items with
  | nil => simp
  | cons x xs =>
    simp only [List.isEmpty_cons, Bool.false_eq_true, if_false, reduceCtorEq, false_or]
    by_cases hc : count ≤ 0
    · have : min count.toNat (x :: xs).length = 0 := by simp only [List.length_cons]; omega
      simp only [hc, this, if_true]
    · have : ¬ min count.toNat (x :: xs).length = 0 := by simp only [List.length_cons]; omega
      simp only [hc, this, if_false]

theorem rpop_eq (l : LList) (count : Int) :
    DsList.rpop l count =
      if l.items = [] ∨ count ≤ 0 then (l, none)
      else ({ items := (Spec.List.rpop l.items count.toNat).2,
              length := l.length - (min count.toNat l.items.length : Nat) },
            some (Spec.List.rpop l.items count.toNat).1) := by
  rw [dsrpop_reverse, lpop_eq, spec_rpop_mirror]
  simp only [List.reverse_eq_nil_iff, List.length_reverse]
  split <;> simp only [List.reverse_reverse]

theorem lpop_items (l : LList) (count : Int) :
    (DsList.lpop l count).1.items = (Spec.List.lpop l.items count.toNat).2 ∧
    (DsList.lpop l count).2.getD [] = (Spec.List.lpop l.items count.toNat).1 := by
  unfold DsList.lpop Spec.List.lpop
  split
  · rename_i h
    rw [List.isEmpty_iff] at h
    simp only [h, List.take_nil, List.drop_nil, Option.getD_none, and_self]
  · simp only
    split
    · rename_i h
      simp only [h, List.take_zero, List.drop_zero, Option.getD_none, and_self]
    · exact ⟨rfl, rfl⟩

theorem rpop_items (l : LList) (count : Int) :
    (DsList.rpop l count).1.items = (Spec.List.rpop l.items count.toNat).2 ∧
    (DsList.rpop l count).2.getD [] = (Spec.List.rpop l.items count.toNat).1 := by
  obtain ⟨h1, h2⟩ := lpop_items ⟨l.items.reverse, l.length⟩ count
  rw [dsrpop_reverse, spec_rpop_mirror]
  exact ⟨congrArg List.reverse h1, h2⟩

theorem lrange_full (xs : List Bytes) : Spec.List.lrange xs 0 (-1) = xs := by
  have e : ((xs.length : Int) + -1 + 1 - max 0 0).toNat = xs.length := by omega
  rw [lrange_eq_take_drop]
  show (xs.drop 0).take ((xs.length : Int) + -1 + 1 - max 0 0).toNat = xs
  rw [e, List.drop_zero, List.take_length]

theorem rotate_left (src dst : LList) :
    let p := DsList.lpop src 1
    let dst' := DsList.rpush dst (p.2.getD [])
    (p.1.items ++ dst'.items).Perm (src.items ++ dst.items) ∧
    (src.items = [] → p = (src, none) ∧ dst' = dst) ∧
    (∀ x rest, src.items = x :: rest →
      p.1.items = rest ∧ p.2 = some [x] ∧ dst'.items = dst.items ++ [x]) := by
  intro p dst'
  cases hsrc : src.items with
  | nil =>
    have hp : p = (src, none) := by simp [p, DsList.lpop, hsrc]
    have hd : dst' = dst := by simp [dst', hp, DsList.rpush]
    refine ⟨?_, fun _ => ⟨hp, hd⟩, ?_⟩
    · rw [hd, hp]; simp [hsrc]
    · intro x rest h; cases h
  | cons x rest =>
    have hp : p = ({ items := rest, length := src.length - (1 : Nat) }, some [x]) := by
      simp [p, DsList.lpop, hsrc]
    have hd : dst'.items = dst.items ++ [x] := by simp [dst', hp, rpush_eq]
    refine ⟨?_, ?_, ?_⟩
    · rw [hd, hp]
      simp only
      rw [← List.append_assoc, List.cons_append]
      exact List.perm_append_singleton x (rest ++ dst.items)
    · intro h; cases h
    · intro x' rest' h
      simp only [List.cons.injEq] at h
      obtain ⟨rfl, rfl⟩ := h
      exact ⟨by rw [hp], by rw [hp], hd⟩

theorem rotate_right (src dst : LList) :
    let p := DsList.rpop src 1
    let dst' := DsList.lpush dst (p.2.getD [])
    (p.1.items ++ dst'.items).Perm (src.items ++ dst.items) ∧
    (src.items = [] → p = (src, none) ∧ dst' = dst) ∧
    (∀ init x, src.items = init ++ [x] →
      p.1.items = init ∧ p.2 = some [x] ∧ dst'.items = x :: dst.items) := by
  intro p dst'
  have key : ∀ init x, src.items = init ++ [x] →
      p = ({ items := init, length := src.length - (1 : Nat) }, some [x]) := by
    intro init x h
    have hne : src.items.isEmpty = false := by rw [h]; simp
    have hlen : src.items.length = init.length + 1 := by rw [h]; simp
    have hk : min (1 : Int).toNat src.items.length = 1 := by rw [hlen]; simp
    simp only [p, DsList.rpop, hne, Bool.false_eq_true, if_false, hk, Nat.one_ne_zero]
    rw [hlen, h]
    simp
  cases hsrc : src.items.reverse with
  | nil =>
    have hsrc' : src.items = [] := by simpa using hsrc
    have hp : p = (src, none) := by simp [p, DsList.rpop, hsrc']
    have hd : dst' = dst := by simp [dst', hp, DsList.lpush]
    refine ⟨?_, fun _ => ⟨hp, hd⟩, ?_⟩
    · rw [hd, hp]
    · intro init x h; rw [hsrc'] at h; simp at h
  | cons x rinit =>
    have hsrc' : src.items = rinit.reverse ++ [x] := by
      have := congrArg List.reverse hsrc; simpa using this
    have hp := key _ _ hsrc'
    have hd : dst'.items = x :: dst.items := by simp [dst', hp, lpush_eq]
    refine ⟨?_, ?_, ?_⟩
    · rw [hd, hp, hsrc']
      simp
    · intro h; rw [h] at hsrc'; simp at hsrc'
    · intro init x' h
      have hp' := key init x' h
      have hd' : dst'.items = x' :: dst.items := by simp [dst', hp', lpush_eq]
      exact ⟨by rw [hp'], by rw [hp'], hd'⟩

/-- one command on the model list, with the reply the API layer (`Model/Api.lean`, list.go) derives
    from the data-structure call: push → `llen`, pop → popped elements (nil rendered as empty),
    linsert / lrem → returned integer, lset → success flag -/
def modelStep (l : LList) : Spec.List.Cmd → LList × Spec.List.Reply
  | .lpush data => (DsList.lpush l data, .int (DsList.llen (DsList.lpush l data)))
  | .rpush data => (DsList.rpush l data, .int (DsList.llen (DsList.rpush l data)))
  | .lpop count => ((DsList.lpop l count).1, .arr ((DsList.lpop l count).2.getD []))
  | .rpop count => ((DsList.rpop l count).1, .arr ((DsList.rpop l count).2.getD []))
  | .llen => (l, .int (DsList.llen l))
  | .lindex i => (l, .bulk (DsList.lindex l i))
  | .lrange start stop => (l, .arr (DsList.lrange l start stop))
  | .linsert pivot v before =>
    ((DsList.linsert l pivot v before).1, .int (DsList.linsert l pivot v before).2)
  | .lset i v => ((DsList.lset l i v).1, .ok (DsList.lset l i v).2)
  | .lrem count v => ((DsList.lrem l count v).1, .int (DsList.lrem l count v).2)
  | .ltrim start stop => (DsList.ltrim l start stop, .unit)

theorem modelStep_refines (l : LList) (h : l.WF) (c : Spec.List.Cmd) :
    (modelStep l c).1.WF ∧
    (modelStep l c).1.items = (Spec.List.step l.items c).1 ∧
    (modelStep l c).2 = (Spec.List.step l.items c).2 := by
  have hl : l.length = l.items.length := h
  cases c with
  | lpush data =>
    refine ⟨lpush_wf l h data, ?_, ?_⟩
    · simp [modelStep, Spec.List.step, lpush_eq, Spec.List.lpush]
    · simp [modelStep, Spec.List.step, lpush_eq, DsList.llen, hl]
  | rpush data =>
    refine ⟨rpush_wf l h data, ?_, ?_⟩
    · simp [modelStep, Spec.List.step, rpush_eq, Spec.List.rpush]
    · simp [modelStep, Spec.List.step, rpush_eq, DsList.llen, hl]
  | lpop count =>
    exact ⟨lpop_wf l h count, (lpop_items l count).1, congrArg Spec.List.Reply.arr (lpop_items l count).2⟩
  | rpop count =>
    exact ⟨rpop_wf l h count, (rpop_items l count).1, congrArg Spec.List.Reply.arr (rpop_items l count).2⟩
  | llen => exact ⟨h, rfl, by simp [modelStep, Spec.List.step, DsList.llen, hl]⟩
  | lindex i => exact ⟨h, rfl, by simp [modelStep, Spec.List.step, lindex_eq l h]⟩
  | lrange start stop =>
    exact ⟨h, rfl, by simp [modelStep, Spec.List.step, DsList.lrange, forEach_eq]⟩
  | linsert pivot v before =>
    refine ⟨linsert_wf l h pivot v before, ?_, ?_⟩
    · simp only [modelStep, Spec.List.step, linsert_eq]
      cases Spec.List.linsert l.items pivot v before <;> rfl
    · have hw := linsert_wf l h pivot v before
      simp only [modelStep, Spec.List.step]
      rw [linsert_eq] at hw ⊢
      cases hs : Spec.List.linsert l.items pivot v before with
      | none => rfl
      | some ys =>
        rw [hs] at hw
        simp only [LList.WF] at hw
        simp only [hw]
  | lset i v =>
    refine ⟨lset_wf l h i v, ?_, ?_⟩
    · simp only [modelStep, Spec.List.step, lset_eq l h]
      cases Spec.List.lset l.items i v <;> rfl
    · simp only [modelStep, Spec.List.step, lset_eq l h]
      cases Spec.List.lset l.items i v <;> rfl
  | lrem count v =>
    refine ⟨lrem_wf l h count v, ?_, ?_⟩
    · simp only [modelStep, Spec.List.step, lrem_eq]
    · simp only [modelStep, Spec.List.step, lrem_eq]
  | ltrim start stop =>
    exact ⟨ltrim_wf l h start stop, ltrim_items l start stop, rfl⟩

theorem run_refines (l : LList) (h : l.WF) (cs : List Spec.List.Cmd) :
    (Spec.List.run modelStep l cs).1.WF ∧
    (Spec.List.run modelStep l cs).1.items = (Spec.List.run Spec.List.step l.items cs).1 ∧
    (Spec.List.run modelStep l cs).2 = (Spec.List.run Spec.List.step l.items cs).2 := by
  induction cs generalizing l with
  | nil => exact ⟨h, rfl, rfl⟩
  | cons c cs ih =>
    obtain ⟨h1, h2, h3⟩ := modelStep_refines l h c
    obtain ⟨i1, i2, i3⟩ := ih (modelStep l c).1 h1
    simp only [Spec.List.run]
    rw [← h2, ← h3]
    exact ⟨i1, i2, by rw [i3]⟩

/-! ## sanity of the reference semantics itself (alternative formulations) -/

theorem spec_removeAt_sublist (xs : List Bytes) (T : List Nat) :
    (Spec.List.removeAt xs T).Sublist xs := by
  unfold Spec.List.removeAt
  have h1 : ((xs.zipIdx.filter fun p => !T.contains p.2).map (·.1)).Sublist (xs.zipIdx.map (·.1)) :=
    List.Sublist.map _ List.filter_sublist
  have h2 : xs.zipIdx.map (·.1) = xs := List.zipIdx_map_fst 0 xs
  rw [h2] at h1; exact h1

theorem spec_lrem_length (xs : List Bytes) (c : Int) (v : Bytes) :
    (Spec.List.lrem xs c v).1.length + (Spec.List.lrem xs c v).2 = xs.length := by
  have h := lrem_wf { items := xs, length := xs.length } rfl c v
  rw [lrem_eq] at h
  simp only [LList.WF] at h
  have hle : (Spec.List.lrem xs c v).2 ≤ xs.length := by
    unfold Spec.List.lrem
    simp only [occ_eq]
    have ho : (occJ xs v 0).length ≤ xs.length := by
      rw [(removeAll_eq xs v 0).2]; omega
    split
    · simp only [List.length_take]; omega
    · split
      · simp only [List.length_drop]; omega
      · exact ho
  omega

theorem spec_lrem_others (xs : List Bytes) (c : Int) (v : Bytes) :
    (Spec.List.lrem xs c v).1.filter (· ≠ v) = xs.filter (· ≠ v) := by
  have hsub : ∀ T : List Nat, (∀ i ∈ T, i ∈ occJ xs v 0) →
      (remJ xs T 0).filter (· ≠ v) = xs.filter (· ≠ v) := by
    intro T hT
    unfold remJ
    rw [List.filter_map, List.filter_filter]
    have : (xs.zipIdx.filter fun a => ((fun x => decide (x ≠ v)) ∘ fun x => x.1) a && !T.contains a.2)
        = xs.zipIdx.filter ((fun x => decide (x ≠ v)) ∘ fun x => x.1) := by
      apply List.filter_congr
      intro p hp
      by_cases hpv : p.1 = v
      · simp [hpv]
      · have : p.2 ∉ T := by
          intro hm
          have := hT _ hm
          unfold occJ at this
          simp only [List.mem_map, List.mem_filter, decide_eq_true_eq] at this
          obtain ⟨q, ⟨hq, hqv⟩, hq2⟩ := this
          have e1 := List.mem_zipIdx_iff_getElem?.mp hq
          have e2 := List.mem_zipIdx_iff_getElem?.mp hp
          rw [hq2, e2] at e1
          simp only [Option.some.injEq] at e1
          exact hpv (e1 ▸ hqv)
        simp [this]
    rw [this, ← List.filter_map, List.zipIdx_map_fst]
  unfold Spec.List.lrem
  simp only [occ_eq, rem_eq]
  apply hsub
  intro i hi
  split at hi
  · exact List.mem_of_mem_take hi
  · split at hi
    · exact List.mem_of_mem_drop hi
    · exact hi

theorem occJ_length (xs : List Bytes) (v : Bytes) (j : Nat) : (occJ xs v j).length = xs.count v := by
  induction xs generalizing j with
  | nil => rfl
  | cons x xs ih =>
    rw [occJ_cons]
    by_cases hx : x = v
    · rw [if_pos hx, List.length_cons, ih, hx, List.count_cons_self]
    · rw [if_neg hx, ih, List.count_cons_of_ne hx]

theorem spec_lrem_count (xs : List Bytes) (c : Int) (v : Bytes) :
    (Spec.List.lrem xs c v).2 = if c = 0 then xs.count v else min c.natAbs (xs.count v) := by
  unfold Spec.List.lrem
  simp only [occ_eq]
  split
  · rename_i h
    have : ¬ c = 0 := by omega
    simp only [this, if_false, List.length_take, occJ_length]
    omega
  · split
    · rename_i h1 h2
      have : ¬ c = 0 := by omega
      simp only [this, if_false, List.length_drop, occJ_length]
      omega
    · rename_i h1 h2
      have : c = 0 := by omega
      simp only [this, if_true, occJ_length]

end NodisVerif.Proofs.C02

import NodisVerif.Proofs.C20Set
import NodisVerif.Proofs.C20Key
/-
  C20, SDiffStore / SInterStore / SUnionStore: compute (read-only), DEL destination, SADD destination
  members.  The records are the DEL and the SADD; the replica does not recompute.
-/
namespace NodisVerif.Proofs.C20
open NodisVerif NodisVerif.Store NodisVerif.Spec.Persist NodisVerif.Proofs.C11

variable {now : Int} {p r : MState}

/-- the state after some reading: invariant, logical keyspace and feed as before -/
structure Kept (now : Int) (s s' : MState) : Prop where
  inv : StoreInv s' now
  look : ∀ k, lookup s' now k = lookup s now k
  fl : fl s' = fl s

theorem Kept.refl {s : MState} (h : StoreInv s now) : Kept now s s := ⟨h, fun _ => rfl, rfl⟩

theorem Kept.trans {s s' s'' : MState} (a : Kept now s s') (b : Kept now s' s'') : Kept now s s'' :=
  ⟨b.inv, fun k => (b.look k).trans (a.look k), b.fl.trans a.fl⟩

theorem readKey_kept {s : MState} (h : StoreInv s now) (k : Bytes) : Kept now s (readKey s now k).1 := by
  have ks := readKey_spec h (Int.le_refl now) k
  refine ⟨ks.inv, fun k' => ?_, fl_readKey s now k⟩
  by_cases hk : k' = k
  · subst hk
    cases hL : lookup s now k' with
    | none => have := (ks.miss hL rfl).2 now (Int.le_refl _); rw [this, hL]
    | some c => have := (ks.hit c.1 c.2 hL).2.1 now (Int.le_refl _); rw [this, hL]
  · exact ks.other now (Int.le_refl _) k' hk

theorem asSet_good {s : MState} (h : StoreInv s now) {k : Bytes} {st : AList Unit} (ha : Api.asSet s k = some st) :
    Good (.set st) := by
  unfold Api.asSet valOf at ha
  cases hm : getMeta s k with
  | none => simp [hm] at ha
  | some m =>
    simp only [hm, Option.bind_some] at ha
    cases hv : m.value with
    | none => simp [hv] at ha
    | some v =>
      rw [hv] at ha
      cases v <;> simp at ha
      subst ha
      exact (h.recs k m hm).good _ hv

def SmallSet (st : AList Unit) : Prop := ∀ m ∈ DsSet.members st, m.length < 2 ^ 63

theorem small_of_good {st : AList Unit} (h : Good (.set st)) : SmallSet st := by
  intro m hm
  simp only [DsSet.members, AList.keys, List.mem_map] at hm
  obtain ⟨q, hq, rfl⟩ := hm
  exact h.2 q hq

/-- the sets collected by `readMany` -/
def AllSmall (l : List (Option (Option (AList Unit)))) : Prop := ∀ st, some (some st) ∈ l → SmallSet st

theorem readMany_kept (keys : List Bytes) : ∀ (s : MState) (acc : List (Option (Option (AList Unit)))),
    StoreInv s now → AllSmall acc →
    Kept now s (keys.foldl (fun (acc : MState × List (Option (Option (AList Unit)))) k =>
        ((readKey acc.1 now k).1, acc.2 ++ [if (readKey acc.1 now k).2 then some (Api.asSet (readKey acc.1 now k).1 k) else none]))
        (s, acc)).1 ∧
    AllSmall (keys.foldl (fun (acc : MState × List (Option (Option (AList Unit)))) k =>
        ((readKey acc.1 now k).1, acc.2 ++ [if (readKey acc.1 now k).2 then some (Api.asSet (readKey acc.1 now k).1 k) else none]))
        (s, acc)).2 := by
  induction keys with
  | nil => intro s acc h ha; exact ⟨Kept.refl h, ha⟩
  | cons k rest ih =>
    intro s acc h ha
    simp only [List.foldl_cons]
    have k1 := readKey_kept h k
    have ha' : AllSmall (acc ++ [if (readKey s now k).2 then some (Api.asSet (readKey s now k).1 k) else none]) := by
      intro st hst
      rcases List.mem_append.mp hst with h1 | h1
      · exact ha st h1
      · simp only [List.mem_cons, List.not_mem_nil, or_false] at h1
        split at h1
        · simp only [Option.some.injEq] at h1
          exact small_of_good (asSet_good k1.inv h1.symm)
        · cases h1
    obtain ⟨a, b⟩ := ih _ _ k1.inv ha'
    exact ⟨k1.trans a, b⟩

theorem readMany_eq (s : MState) (now : Int) (keys : List Bytes) :
    Api.readMany s now keys = keys.foldl (fun (acc : MState × List (Option (Option (AList Unit)))) k =>
        ((readKey acc.1 now k).1, acc.2 ++ [if (readKey acc.1 now k).2 then some (Api.asSet (readKey acc.1 now k).1 k) else none]))
        (s, []) := by
  unfold Api.readMany
  congr 1

theorem readMany_spec {s : MState} (h : StoreInv s now) (keys : List Bytes) :
    Kept now s (Api.readMany s now keys).1 ∧ AllSmall (Api.readMany s now keys).2 := by
  rw [readMany_eq]
  exact readMany_kept keys s [] h (fun _ hc => nomatch hc)

/-- a read-only set computation: keeps everything, and the members it reports have representable length -/
def SetReader (op : MState → Int → List Bytes → Api.R) : Prop :=
  ∀ (s : MState) (now : Int) (keys : List Bytes), StoreInv s now →
    Kept now s (op s now keys).1 ∧ ∀ ms, (op s now keys).2 = .slist ms → ∀ m ∈ ms, m.length < 2 ^ 63

theorem small_filterMap {others : List (Option (Option (AList Unit)))} (h : AllSmall others) :
    ∀ o ∈ others.filterMap (fun o => match o with | some (some x) => some x | _ => none), SmallSet o := by
  intro o ho
  simp only [List.mem_filterMap] at ho
  obtain ⟨q, hq, hqo⟩ := ho
  split at hqo
  · simp only [Option.some.injEq] at hqo; subst hqo; exact h _ hq
  · cases hqo

theorem sdiff_reader : SetReader Api.sdiff := by
  intro s now keys h
  unfold Api.sdiff
  cases keys with
  | nil => exact ⟨Kept.refl h, fun ms hms m hm => by simp at hms; subst hms; cases hm⟩
  | cons k0 rest =>
    simp only
    have k1 := readKey_kept h k0
    generalize readKey s now k0 = q at k1
    obtain ⟨s1, ok⟩ := q
    simp only at k1 ⊢
    cases ok with
    | false => exact ⟨k1, fun ms hms m hm => by simp at hms; subst hms; cases hm⟩
    | true =>
      simp only [Bool.not_true, Bool.false_eq_true, if_false]
      obtain ⟨k2, sm⟩ := readMany_spec k1.inv rest
      generalize Api.readMany s1 now rest = q2 at k2 sm
      obtain ⟨s2, others⟩ := q2
      simp only at k2 sm ⊢
      cases ha : Api.asSet s2 k0 with
      | none => exact ⟨k1.trans k2, fun ms hms => by simp at hms⟩
      | some st =>
        simp only
        split
        · exact ⟨k1.trans k2, fun ms hms => by simp at hms⟩
        · refine ⟨k1.trans k2, fun ms hms m hm => ?_⟩
          simp only [Out.slist.injEq] at hms
          subst hms
          exact small_of_good (asSet_good k2.inv ha) m (List.mem_filter.mp hm).1

theorem smembers_reader (s : MState) (now : Int) (k : Bytes) (h : StoreInv s now) :
    Kept now s (Api.smembers s now k).1 ∧ ∀ ms, (Api.smembers s now k).2 = .slist ms → ∀ m ∈ ms, m.length < 2 ^ 63 := by
  unfold Api.smembers Api.sread
  have k1 := readKey_kept h k
  generalize readKey s now k = q at k1
  obtain ⟨s1, ok⟩ := q
  simp only at k1 ⊢
  cases ok with
  | false => exact ⟨k1, fun ms hms m hm => by simp at hms; subst hms; cases hm⟩
  | true =>
    simp only [Bool.not_true, Bool.false_eq_true, if_false]
    cases ha : Api.asSet s1 k with
    | none => exact ⟨k1, fun ms hms => by simp at hms⟩
    | some st =>
      refine ⟨k1, fun ms hms m hm => ?_⟩
      simp only [Out.slist.injEq] at hms
      subst hms
      exact small_of_good (asSet_good k1.inv ha) m hm

theorem sinter_go_kept (ks : List Bytes) : ∀ (s : MState) (acc : List (AList Unit)), StoreInv s now →
    Kept now s (Api.sinter.go now ks s acc).1 := by
  induction ks with
  | nil => intro s acc h; exact Kept.refl h
  | cons k more ih =>
    intro s acc h
    rw [Api.sinter.go]
    have k1 := readKey_kept h k
    generalize readKey s now k = q at k1
    obtain ⟨s1, ok⟩ := q
    simp only at k1 ⊢
    cases ok with
    | false => exact k1
    | true =>
      simp only [Bool.not_true, Bool.false_eq_true, if_false]
      cases Api.asSet s1 k with
      | none => exact k1
      | some x => exact k1.trans (ih s1 _ k1.inv)

theorem sinter_reader : SetReader Api.sinter := by
  intro s now keys h
  unfold Api.sinter
  match keys with
  | [] => exact ⟨Kept.refl h, fun ms hms m hm => by simp at hms; subst hms; cases hm⟩
  | [k] => exact smembers_reader s now k h
  | k0 :: k1 :: rest =>
    simp only
    have kk := readKey_kept h k0
    generalize readKey s now k0 = q at kk
    obtain ⟨s1, ok⟩ := q
    simp only at kk ⊢
    cases ok with
    | false => exact ⟨kk, fun ms hms m hm => by simp at hms; subst hms; cases hm⟩
    | true =>
      simp only [Bool.not_true, Bool.false_eq_true, if_false]
      have k2 := sinter_go_kept (now := now) (k1 :: rest) s1 [] kk.inv
      generalize Api.sinter.go now (k1 :: rest) s1 [] = q2 at k2
      obtain ⟨s2, res⟩ := q2
      simp only at k2 ⊢
      match res with
      | none => exact ⟨kk.trans k2, fun ms hms => by simp at hms⟩
      | some none => exact ⟨kk.trans k2, fun ms hms m hm => by simp at hms; subst hms; cases hm⟩
      | some (some os) =>
        simp only
        cases ha : Api.asSet s2 k0 with
        | none => exact ⟨kk.trans k2, fun ms hms => by simp at hms⟩
        | some st =>
          refine ⟨kk.trans k2, fun ms hms m hm => ?_⟩
          simp only [Out.slist.injEq] at hms
          subst hms
          exact small_of_good (asSet_good k2.inv ha) m (List.mem_filter.mp hm).1

theorem dedup_mem (extra : List Bytes) : ∀ (acc : List Bytes) (m : Bytes),
    m ∈ extra.foldl (fun acc m => if acc.contains m then acc else acc ++ [m]) acc → m ∈ acc ∨ m ∈ extra := by
  induction extra with
  | nil => intro acc m h; left; exact h
  | cons a rest ih =>
    intro acc m h
    simp only [List.foldl_cons] at h
    rcases ih _ m h with h1 | h1
    · split at h1
      · left; exact h1
      · rcases List.mem_append.mp h1 with h2 | h2
        · left; exact h2
        · right; simp at h2; simp [h2]
    · right; exact List.mem_cons_of_mem _ h1

theorem sunion_small (st : AList Unit) (rest : List (AList Unit)) (h0 : SmallSet st) (hr : ∀ o ∈ rest, SmallSet o) :
    ∀ m ∈ DsSet.sunion st rest, m.length < 2 ^ 63 := by
  intro m hm
  unfold DsSet.sunion at hm
  rcases List.mem_append.mp hm with h1 | h1
  · exact h0 m h1
  · rcases dedup_mem _ [] m h1 with h2 | h2
    · cases h2
    · simp only [List.mem_flatMap] at h2
      obtain ⟨o, ho, hmo⟩ := h2
      exact hr o ho m (List.mem_filter.mp hmo).1

theorem sunion_reader : SetReader Api.sunion := by
  intro s now keys h
  unfold Api.sunion
  match keys with
  | [] => exact ⟨Kept.refl h, fun ms hms m hm => by simp at hms; subst hms; cases hm⟩
  | [k] => exact smembers_reader s now k h
  | k0 :: k1 :: rest =>
    simp only
    obtain ⟨k2, sm⟩ := readMany_spec h (k0 :: k1 :: rest)
    generalize Api.readMany s now (k0 :: k1 :: rest) = q2 at k2 sm
    obtain ⟨s2, all⟩ := q2
    simp only at k2 sm ⊢
    split
    · exact ⟨k2, fun ms hms => by simp at hms⟩
    · have hsm := small_filterMap sm
      generalize List.filterMap (fun o => match o with | some (some x) => some x | _ => none) all = os at hsm
      match os with
      | [] => exact ⟨k2, fun ms hms m hm => by simp at hms; subst hms; cases hm⟩
      | st :: more =>
        refine ⟨k2, fun ms hms m hm => ?_⟩
        simp only [Out.slist.injEq] at hms
        subst hms
        exact sunion_small st more (hsm st (by simp)) (fun o ho => hsm o (by simp [ho])) m hm

theorem Same.kept {p' : MState} (hs : Same now p r) (k : Kept now p p') : Same now p' r :=
  Same.of_look k.inv hs.invR (fun k' => by rw [hs.look k', k.look k'])
    (fun k' e => by rw [k.look k']; exact hs.nonil k' e)

theorem selfForm_step (hs : Same now p r) (hl : p.listeners = true) (f : TxForm) (hf : f.OK) (hns : f.NilSafe)
    {op : FeedOp} (hop : SelfRec now f op) : Follows now p r (f.run p now).1 (·.key = f.key) :=
  Follows.of_echo hs hl f hf (em := fun _ raw => raw) (fun _ _ => rfl)
    fun L _ hnn => ⟨hop.echo hf (fun _ _ => rfl) L, post_nonil hns now L hnn⟩

theorem sstore_main (op : MState → Int → List Bytes → Api.R) (hop : SetReader op)
    (hs : Same now p r) (hl : p.listeners = true) (hfd : p.feed = [])
    (c : Feed.CallInfo) (hc : plainMethod c.method = true) (dst : Bytes) (keys : List Bytes) :
    Replay now r c (Api.sstore op p now dst keys) ∧ (Api.sstore op p now dst keys).1.listeners = true ∧
    ∀ o ∈ (Api.sstore op p now dst keys).1.feed.reverse, o.key = dst := by
  unfold Replay
  rw [emission_plain hc]
  unfold Api.sstore
  by_cases hk : keys.isEmpty = true
  · rw [if_pos hk]
    exact (Follows.refl hs hl _).drained hfd
  · rw [if_neg hk]
    obtain ⟨kept, small⟩ := hop p now keys hs.invP
    generalize op p now keys = q at kept small
    obtain ⟨s1, o⟩ := q
    simp only at kept small
    have read : Follows now p r s1 (·.key = dst) :=
      ⟨[], r, by rw [kept.fl]; simp [fl, hl], rfl, hs.kept kept, fun _ h => nomatch h⟩
    cases o with
    | slist ms =>
      simp only
      rw [del_eq]
      have del : Follows now p r ([dst].foldl (delStep now) (Api.commit s1, 0)).1 (·.key = dst) :=
        read.commit.trans fun r1 s' hl' => (del_fold [dst] _ r1 0 s' hl').mono fun op h => by simpa using h
      by_cases hm : ms.isEmpty = true
      · rw [if_pos hm]
        exact del.drained hfd
      · rw [if_neg hm, sadd_eq]
        refine (del.commit.trans fun r1 s' hl' => ?_).drained hfd
        refine (selfForm_step s' hl' (saddF now dst ms) (Cmd.ok (.sadd dst ms) now (small ms rfl))
          (Cmd.nilSafe (.sadd dst ms) now trivial) (saddF_self dst ms)).mono fun _ ho => ho
    | _ => exact read.drained hfd

end NodisVerif.Proofs.C20

import NodisVerif.Model.GateProg

/-
  One thread of the program model of the EXEC gate (Model/GateProg.lean).
  The local invariant `ok`, as four tables over the pc: which side of execMu the goroutine holds (`heldAt`), whether that
  has been reported (`reporting`), whether a transaction is open (`inTx`), and what the pc says about the command, the
  caller and the connection's commit phase (`ctl`).  The entries of the tables (`base`, `side`, `ctxOk`) take the fields of
  `Loc` they depend on, so that a transition that only moves the pc leaves their values syntactically alone.
  Then what one transition does to the gate-relevant part of the state, as one of a few effects (`Eff`), and to the
  connections and the watch registry.
-/
namespace NodisVerif.GateProg
open NodisVerif.Gate (G T GMode Ev)

def isBpop : Cmd → Bool
  | .bpop _ => true
  | _ => false

/-- the side of execMu that `Serve` takes around the handler of a command: exclusive for EXEC, none for BLPOP / BRPOP -/
def cmdSide : Cmd → Option GMode
  | .exec => some .x
  | .bpop _ => none
  | _ => some .s

/-- … which is what a goroutine holds in a handler or a body, an embedded caller nothing -/
def base : Bool → Cmd → Option GMode
  | true, _ => none
  | false, c => cmdSide c

/-- … except under blockingPop's look, which takes the shared side itself unless the timeout is negative (a pop queued
    in MULTI runs under EXEC's side) -/
def side (emb : Bool) (c : Cmd) (inLook neg : Bool) : Option GMode :=
  if inLook && !neg then some .s else base emb c

def heldAt (l : Loc) : Option GMode :=
  match l.pc with
  | .idle | .sw | .bServe | .dRec | .flush => none
  | .xIn => some .x
  | .sIn | .p1 | .p4 => some .s
  | .b1 | .b2 | .g1 | .g2 | .g3 | .b3 | .p2 | .p3 => side l.emb l.cmd l.inLook l.neg
  | _ => base l.emb l.cmd

/-- between Lock and the gate-in report, and between the gate-out report and Unlock, a held side is not reported -/
def reporting : Pc → Bool
  | .xIn | .sIn | .p1 | .p4 | .dUnlock => false
  | _ => true

/-- the pcs of `exec` from its entry to its deferred reset -/
def inExec : Pc → Bool
  | .e1 | .e3 | .e4 | .e5 | .e6 | .ec1 | .ec2 | .edef => true
  | _ => false

/-- the closure's deferred calls have run and the next command has not chosen its side -/
def betweenCmds : Pc → Bool
  | .dRec | .flush | .idle | .sw => true
  | _ => false

def handlerOver : Pc → Bool
  | .dOut | .dUnlock | .dRec | .flush | .idle => true
  | _ => false

def inTx : Pc → Bool
  | .b2 | .g1 | .g2 | .g3 | .b3 | .ec2 => true
  | _ => false

/-- who runs a body: an embedded caller; EXEC's loop (commit phase; a queued pop has a negative timeout); or execCommand
    directly (not for EXEC; inside a look exactly for BLPOP / BRPOP, with the client's timeout) -/
def ctxOk (x : Ctx) (emb : Bool) (c : Cmd) (inLook neg commit : Bool) : Prop :=
  match x with
  | .embedded => emb = true ∧ commit = false
  | .execLoop => emb = false ∧ commit = true ∧ c = .exec ∧ (inLook = true → neg = true)
  | .direct => emb = false ∧ commit = false ∧ c ≠ .exec ∧ inLook = isBpop c ∧ (inLook = true → neg = false)

def ctl (l : Loc) (commit : Bool) : Prop :=
  match l.pc with
  | .idle => commit = false
  | .sw | .dRec | .flush | .call | .w1 | .w2 | .w3 => l.emb = false ∧ commit = false
  | .xIn | .e1 | .e3 | .e4 => l.emb = false ∧ commit = false ∧ l.cmd = .exec
  | .sIn => l.emb = false ∧ commit = false ∧ cmdSide l.cmd = some .s
  | .bServe => l.emb = false ∧ commit = false ∧ isBpop l.cmd = true
  | .dOut | .dUnlock => l.emb = false ∧ commit = false ∧ l.held.isSome = true
  | .ec => l.emb = false ∧ commit = false ∧ l.cmd ≠ .exec
  | .e5 | .e6 => l.emb = false ∧ commit = true ∧ l.cmd = .exec
  | .ec1 | .ec2 | .edef => l.emb = false ∧ l.cmd = .exec
  | .u1 | .u2 | .u3 =>
    match l.after with
    | .bodyEnd => ctxOk l.ctx l.emb l.cmd l.inLook l.neg commit ∧ l.inLook = false
    | _ => l.emb = false ∧ commit = false
  | .b0 => ctxOk l.ctx l.emb l.cmd l.inLook l.neg commit ∧ l.inLook = false
  | .b1 | .b2 | .g1 | .g2 | .g3 | .b3 | .bret => ctxOk l.ctx l.emb l.cmd l.inLook l.neg commit
  | .p0 | .p5 | .p2 => ctxOk l.ctx l.emb l.cmd l.inLook l.neg commit ∧ l.inLook = true
  | .p1 | .p3 | .p4 => ctxOk l.ctx l.emb l.cmd l.inLook l.neg commit ∧ l.inLook = true ∧ l.neg = false

/-- `commit` is the connection's `State & MultiCommit` -/
def ok (l : Loc) (commit : Bool) : Prop :=
  heldAt l = l.held ∧ (reporting l.pc && l.held.isSome) = l.rep ∧ inTx l.pc = l.tx.isSome ∧ ctl l commit

theorem find?_put {α β} [DecidableEq α] (l : List (α × β)) (a a' : α) (b : β) :
    ((a, b) :: l.filter (·.1 != a)).find? (·.1 == a') = if a' = a then some (a, b) else l.find? (·.1 == a') := by
  by_cases h : a' = a
  · subst h; simp
  · have h' : (a == a') = false := by simpa using fun e => h e.symm
    simp only [List.find?_cons, h', List.find?_filter, if_neg h]
    congr 1
    funext x
    by_cases hx : x.1 = a'
    · simp [hx, h]
    · simp [hx]

theorem assoc_put_same {β} (l : List (Nat × β)) (a : Nat) (b : β) : assoc (put l a b) a = some b := by
  simp [assoc, put]

theorem assoc_put_other {β} (l : List (Nat × β)) (a a' : Nat) (b : β) (h : a' ≠ a) :
    assoc (put l a b) a' = assoc l a' := by
  simp [assoc, put, find?_put, h]

@[simp] theorem conn_setConn_same (s : Shared) (t : Tid) (c : ConnSt) : (s.setConn t c).conn t = c := by
  simp [Shared.conn, Shared.setConn, assoc_put_same]

theorem conn_setConn_other (s : Shared) (t t' : Tid) (c : ConnSt) (h : t' ≠ t) : (s.setConn t c).conn t' = s.conn t' := by
  simp [Shared.conn, Shared.setConn, assoc_put_other _ _ _ _ h]

@[simp] theorem conn_serve (s : Shared) (t t' : Tid) : (s.serve t).conn t' = s.conn t' := by
  unfold Shared.serve; split <;> rfl

def sameButWatch (a b : ConnSt) : Prop :=
  a.prep = b.prep ∧ a.commit = b.commit ∧ a.err = b.err ∧ a.queue = b.queue ∧ a.werr = b.werr

theorem markAll_conn (conns : List (Tid × ConnSt)) (k : Key) (cl : List Tid) (t : Tid) :
    sameButWatch ((assoc (markAll conns k cl) t).getD {}) ((assoc conns t).getD {}) := by
  induction cl generalizing conns with
  | nil => simp [markAll, sameButWatch]
  | cons c cs ih =>
    simp only [markAll]
    have := ih (put conns c { (assoc conns c).getD {} with watch := kput ((assoc conns c).getD {}).watch k true })
    by_cases h : t = c
    · subst h
      rw [assoc_put_same] at this
      simpa [sameButWatch] using this
    · rw [assoc_put_other _ _ _ _ h] at this
      exact this

/-! ## reading facts off `tstep`

  The theorems that go through every branch of `tstep` (`ok_step` goes by `cases pc` instead; a lemma about one given pc
  unfolds `tstep` there) take the result out of the hypothesis `tstep s t l ch = some (s', l', evs)` first, and then
  `fun_cases tstep …` gives one goal per branch of `tstep`, in its order, with the conditions of the branch as hypotheses;
  `out_none` closes a disabled branch, `out_some` puts the result of the branch in for `s'`, `l'`, `evs`.  A common step
  closes the branches of which the theorem has nothing particular to say; the others follow in the order of `tstep`.
  Where the tactic text names the pc or the command of the branch (`‹l.pc = .g2›`, `cases ‹cmd = .multi›`) a moved branch
  fails at its place; elsewhere - once `all_goals cases ‹pc = _›` has put the pcs in, so that the tables over the pc
  compute - the comment above a bullet names the pcs it is for. -/

theorem out_some {P : Shared → Loc → List Ev → Prop} {a : Shared} {b : Loc} {c : List Ev} (h : P a b c) :
    ∀ {s' l' evs}, (some (a, b, c) : Out) = some (s', l', evs) → P s' l' evs := by
  rintro _ _ _ ⟨⟩; exact h

theorem out_none {P : Shared → Loc → List Ev → Prop} : ∀ {s' l' evs}, (none : Out) = some (s', l', evs) → P s' l' evs := by
  intro _ _ _ h; cases h

@[simp] theorem conn_execMu (s : Shared) (m : RW) (t : Tid) : ({ s with execMu := m } : Shared).conn t = s.conn t := rfl
@[simp] theorem conn_watchMu (s : Shared) (m : Option Tid) (t : Tid) : ({ s with watchMu := m } : Shared).conn t = s.conn t := rfl
@[simp] theorem conn_active (s : Shared) (m : List (T × Tid)) (t : Tid) : ({ s with active := m } : Shared).conn t = s.conn t := rfl
@[simp] theorem conn_registry (s : Shared) (m : List (Key × List Tid)) (t : Tid) : ({ s with registry := m } : Shared).conn t = s.conn t := rfl

theorem conn_markAll_commit (s : Shared) (k : Key) (cl : List Tid) (t : Tid) :
    (({ s with conns := markAll s.conns k cl } : Shared).conn t).commit = (s.conn t).commit :=
  (markAll_conn s.conns k cl t).2.1

theorem look_base {x emb c commit} (h : ctxOk x emb c true false commit) : base emb c = none := by
  cases x
  · obtain ⟨rfl, _, _, hb, _⟩ := h
    cases c <;> first | rfl | cases hb
  · exact absurd (h.2.2.2 rfl) (by decide)
  · obtain ⟨rfl, _⟩ := h; rfl

theorem body_gated {x emb c inLook neg commit} (h : ctxOk x emb c inLook neg commit) :
    emb = true ∨ (side emb c inLook neg).isSome = true := by
  cases x
  · obtain ⟨rfl, _, hx, hb, _⟩ := h
    right
    cases inLook
    · cases c <;> first | rfl | cases hb | exact absurd rfl hx
    · cases neg <;> first | rfl | cases ‹true = true → _› rfl
  · obtain ⟨rfl, _, rfl, hn⟩ := h
    right
    cases inLook
    · rfl
    · cases hn rfl; rfl
  · exact .inl h.1

theorem ok_epilogue {l : Loc} {c : Bool} (hh : base l.emb l.cmd = l.held) (hr : l.held.isSome = l.rep)
    (ht : false = l.tx.isSome) (he : l.emb = false) (hc : c = false) : ok (epilogue l) c := by
  unfold epilogue
  split
  · exact ⟨hh, hr, ht, he, hc, ‹_›⟩
  · exact ⟨(Option.not_isSome_iff_eq_none.1 ‹_›).symm, hr, ht, he, hc⟩

/-- Every transition of a thread preserves its local invariant.  `hh`, `hr`, `ht`, `hc` are the four parts of `ok` at the
    old pc.  The tables reduce at a literal pc, so where a transition moves the pc within a row, or to a row that says the
    same of the fields, the parts carry over as they are (`⟨hh, hr, ht, hc⟩`); the other cases say what changes. -/
theorem ok_step {s : Shared} {t : Tid} {l : Loc} {ch : Choice} {s' l' evs}
    (h : ok l (s.conn t).commit) (hs : tstep s t l ch = some (s', l', evs)) : ok l' (s'.conn t).commit := by
  obtain ⟨pc, cmd, held, rep, emb, ctx, inLook, neg, found, tx, todo, cur, noChange, after, key, panicking, rerr⟩ := l
  obtain ⟨hh, hr, ht, hc⟩ := h
  cases pc <;> dsimp only [tstep] at hs
  case idle =>
    split at hs <;> split at hs <;> cases hs
    · exact ⟨hh, hr, ht, Bool.eq_false_iff.2 ‹_›, hc⟩
    · exact ⟨hh, hr, ht, ⟨rfl, hc⟩, rfl⟩
  case sw =>
    cases hh
    cases cmd <;> dsimp only at hs
    case bpop => cases hs; exact ⟨rfl, hr, ht, hc.1, hc.2, rfl⟩
    all_goals
      split at hs <;> cases hs
      exact ⟨rfl, hr, ht, hc.1, hc.2, rfl⟩
  case xIn =>
    cases hs; cases hh; rw [conn_serve]
    obtain ⟨rfl, hc, rfl⟩ := hc
    exact ⟨rfl, rfl, ht, rfl, hc⟩
  case sIn =>
    cases hs; cases hh; rw [conn_serve]
    obtain ⟨rfl, hc, hx⟩ := hc
    exact ⟨hx, rfl, ht, rfl, hc⟩
  case bServe =>
    cases hs; cases hh; rw [conn_serve]
    obtain ⟨rfl, hc, hb⟩ := hc
    cases cmd <;> first | exact ⟨rfl, hr, ht, rfl, hc⟩ | cases hb
  case call =>
    obtain ⟨he, hc⟩ := hc
    cases cmd <;> dsimp only at hs
    case exec => cases hs; exact ⟨hh, hr, ht, he, hc, rfl⟩
    case discard => cases hs; rw [conn_setConn_same]; exact ⟨hh, hr, ht, he, rfl⟩
    case unwatch => cases hs; exact ⟨hh, hr, ht, he, hc, nofun⟩
    case multi => split at hs <;> cases hs <;> exact ok_epilogue hh hr ht he (conn_setConn_same .. ▸ hc)
    case watch =>
      split at hs
      · cases hs; exact ok_epilogue hh hr ht he (conn_setConn_same .. ▸ hc)
      · split at hs <;> cases hs
        · exact ok_epilogue hh hr ht he (conn_setConn_same .. ▸ hc)
        · exact ⟨hh, hr, ht, he, hc⟩
    all_goals
      split at hs <;> cases hs
      · exact ok_epilogue hh hr ht he (conn_setConn_same .. ▸ hc)
      · exact ok_epilogue hh hr ht he hc
      · exact ⟨hh, hr, ht, he, hc, nofun⟩
  case ec =>
    obtain ⟨rfl, hc, hx⟩ := hc
    split at hs <;> cases hs
    · cases cmd
      case exec => exact absurd rfl hx
      case bpop => exact ⟨hh, hr, ht, ⟨rfl, hc, hx, rfl, fun _ => hc⟩, rfl⟩
      all_goals exact ⟨hh, hr, ht, ⟨rfl, hc, hx, rfl, nofun⟩, rfl⟩
    · refine ok_epilogue hh hr ht rfl ?_
      rw [conn_setConn_same]
      split <;> exact hc
  case b0 =>
    obtain ⟨hb, rfl⟩ := hc
    split at hs
    case h_4 =>  -- `.bpop ng`, the blocking pop of the embedded API
      split at hs <;> cases hs
      cases beq_iff_eq.1 ‹_›
      exact ⟨hh, hr, ht, hb, rfl⟩
    all_goals cases hs <;> exact ⟨hh, hr, ht, hb⟩
  case b1 | ec1 | ec2 => split at hs <;> cases hs; exact ⟨hh, hr, rfl, hc⟩
  case b2 => split at hs <;> cases hs <;> exact ⟨hh, hr, ht, hc⟩
  case g1 | w1 | u1 => split at hs <;> cases hs; exact ⟨hh, hr, ht, hc⟩
  case g2 => cases hs; rw [conn_markAll_commit]; exact ⟨hh, hr, ht, hc⟩
  case g3 | e3 => cases hs; exact ⟨hh, hr, ht, hc⟩
  case b3 =>
    split at hs <;> cases hs
    unfold afterTx
    cases inLook <;> cases panicking
    · exact ⟨hh, hr, rfl, hc, rfl⟩
    · exact ⟨hh, hr, rfl, hc⟩
    · exact ⟨hh, hr, rfl, hc, rfl⟩
    · cases neg
      · exact ⟨hh, hr, rfl, hc, rfl, rfl⟩
      · exact ⟨hh, hr, rfl, hc, rfl⟩
  case bret =>
    cases ctx <;> cases hs
    · rw [conn_setConn_same]; exact ok_epilogue hh hr ht hc.1 hc.2.1
    · rw [conn_setConn_same]; exact ⟨hh, hr, ht, hc.1, hc.2.1, hc.2.2.1⟩
    · obtain ⟨rfl, hc⟩ := hc; exact ⟨hh, hr, ht, hc⟩
  case p0 =>
    obtain ⟨hb, rfl⟩ := hc
    split at hs
    · cases hs; cases ‹neg = true›; exact ⟨hh, hr, ht, hb, rfl⟩
    · split at hs <;> cases hs
      cases Bool.eq_false_iff.2 ‹_›
      -- the look locks for itself: nothing was held (`look_base`), so nothing is reported
      cases (look_base hb).symm.trans hh
      exact ⟨rfl, hr, ht, hb, rfl, rfl⟩
  case p1 =>
    cases hs; cases hh
    obtain ⟨hb, rfl, rfl⟩ := hc
    exact ⟨rfl, rfl, ht, hb, rfl⟩
  case p2 =>
    obtain ⟨hb, rfl⟩ := hc
    split at hs <;> cases hs
    · exact ⟨hh, hr, ht, hb⟩
    all_goals
      cases neg
      · exact ⟨hh, hr, ht, hb, rfl, rfl⟩
      · exact ⟨hh, hr, ht, hb, rfl⟩
  case p3 =>
    cases hs
    obtain ⟨hb, rfl, rfl⟩ := hc
    cases hh
    exact ⟨rfl, rfl, ht, hb, rfl, rfl⟩
  case p4 =>
    cases hs
    obtain ⟨hb, rfl, rfl⟩ := hc
    exact ⟨look_base hb, hr, ht, hb, rfl⟩
  case p5 =>
    split at hs
    · cases hs; exact ⟨hh, hr, ht, hc.1⟩
    · split at hs <;> cases hs
      · exact ⟨hh, hr, ht, hc⟩
      · exact ⟨hh, hr, ht, hc.1⟩
  case w2 =>
    split at hs <;> cases hs
    rw [conn_setConn_same]; exact ⟨hh, hr, ht, hc⟩
  case w3 => cases hs; exact ok_epilogue hh hr ht hc.1 hc.2
  case u2 | dRec => cases hs; rw [conn_setConn_same]; exact ⟨hh, hr, ht, hc⟩
  case u3 =>
    cases after <;> cases hs
    · exact ok_epilogue hh hr ht hc.1 hc.2
    · exact ⟨hh, hr, ht, hc.1⟩
    · exact ok_epilogue hh hr ht hc.1 hc.2
  case e1 =>
    split at hs
    · cases hs; rw [conn_setConn_same]; exact ⟨hh, hr, ht, hc.1, hc.2.2⟩
    · split at hs <;> cases hs
      · rw [conn_setConn_same]; exact ⟨hh, hr, ht, hc.1, hc.2.2⟩
      · exact ⟨hh, hr, ht, hc⟩
  case e4 =>
    split at hs
    · cases hs; exact ⟨hh, hr, ht, hc.1, hc.2.2⟩
    · split at hs <;> cases hs
      · exact ⟨hh, hr, ht, hc.1, hc.2.2⟩
      · rw [conn_setConn_same]; exact ⟨hh, hr, ht, hc.1, rfl, hc.2.2⟩
  case e5 =>
    split at hs <;> cases hs
    · exact ⟨hh, hr, ht, hc.1, hc.2.2⟩
    · exact ⟨hh, hr, ht, hc⟩
  case e6 =>
    cases hs
    obtain ⟨rfl, hc, rfl⟩ := hc
    cases cur
    · exact ⟨hh, hr, ht, ⟨rfl, hc, rfl, nofun⟩, rfl⟩
    · exact ⟨hh, hr, ht, ⟨rfl, hc, rfl, fun _ => hc⟩, rfl⟩
    · exact ⟨hh, hr, ht, ⟨rfl, hc, rfl, nofun⟩, rfl⟩
  case edef => cases hs; rw [conn_setConn_same]; exact ⟨hh, hr, ht, hc.1, rfl⟩
  case dOut => cases hs; exact ⟨hh, rfl, ht, hc⟩
  case dUnlock => cases hs; exact ⟨rfl, hr, ht, hc.1, hc.2.1⟩
  case flush =>
    split at hs <;> cases hs
    · rw [conn_setConn_same]; exact ⟨hh, hr, ht, hc.2⟩
    · exact ⟨hh, hr, ht, hc.2⟩

theorem ok_exec_section {l : Loc} {c : Bool} (h : ok l c) (hpc : inExec l.pc = true) : l.held = some .x ∧ l.rep = true := by
  obtain ⟨pc, cmd, held, rep, emb, ctx, inLook, neg, found, tx, todo, cur, noChange, after, key, panicking, rerr⟩ := l
  obtain ⟨hh, hr, -, hc⟩ := h
  cases pc <;> try exact Bool.noConfusion hpc
  all_goals
    obtain ⟨rfl, hc⟩ := hc
    -- the rows of ec1, ec2, edef end with the command, those of e1 … e6 say `commit` before it
    first | obtain rfl := hc | obtain ⟨-, rfl⟩ := hc
    cases hh
    exact ⟨rfl, hr.symm⟩

theorem ok_exec_body {l : Loc} {c : Bool} (h : ok l c) (hx : l.ctx = .execLoop)
    (hpc : l.pc = .b1 ∨ l.pc = .b2 ∨ l.pc = .g2 ∨ l.pc = .b3) : l.held = some .x := by
  obtain ⟨pc, cmd, held, rep, emb, ctx, inLook, neg, found, tx, todo, cur, noChange, after, key, panicking, rerr⟩ := l
  obtain ⟨hh, -, -, hc⟩ := h
  cases hx
  rcases hpc with rfl | rfl | rfl | rfl
  all_goals
    obtain ⟨rfl, -, rfl, hn⟩ := hc
    cases inLook
    · exact hh.symm
    · cases hn rfl; exact hh.symm

theorem ok_between {l : Loc} {c : Bool} (h : ok l c) (hpc : betweenCmds l.pc = true) : l.held = none := by
  obtain ⟨pc, cmd, held, rep, emb, ctx, inLook, neg, found, tx, todo, cur, noChange, after, key, panicking, rerr⟩ := l
  cases pc <;> first | exact Bool.noConfusion hpc | exact h.1.symm

theorem ok_signal {l : Loc} {c : Bool} (h : ok l c) (hpc : l.pc = .g1 ∨ l.pc = .g2 ∨ l.pc = .g3) (he : l.emb = false) :
    ∃ m, l.held = some m ∧ l.rep = true := by
  obtain ⟨pc, cmd, held, rep, emb, ctx, inLook, neg, found, tx, todo, cur, noChange, after, key, panicking, rerr⟩ := l
  obtain ⟨hh, hr, -, hc⟩ := h
  cases he
  rcases hpc with rfl | rfl | rfl
  all_goals
    have hs : held.isSome = true := (congrArg Option.isSome hh).symm.trans ((body_gated hc).resolve_left nofun)
    obtain ⟨m, rfl⟩ := Option.isSome_iff_exists.1 hs
    exact ⟨m, rfl, hr.symm⟩

/-- The hypotheses of every constructor come in the order execMu, active, clients, held, rep, tx, emb (primed: of the new local
    state), a side condition after the part it speaks of, last what the protocol asks of the report. -/
inductive Eff (s : Shared) (t : Tid) (l : Loc) (s' : Shared) (l' : Loc) (evs : List Ev) : Prop
  /-- nothing gate-relevant changes: no report, a `signal` (from a goroutine the protocol allows), or EXEC's check / run
      (from the exclusive holder); `emb` is set only by a goroutine the tracer has not seen serving -/
  | same (hmu : s'.execMu = s.execMu) (hact : s'.active = s.active) (hcl : s'.clients = s.clients)
      (hheld : l'.held = l.held) (hrep : l'.rep = l.rep) (htx : l'.tx = l.tx)
      (hemb : l'.emb = l.emb ∨ (l'.emb = true ∧ s.clients.contains t = false))
      (hev : evs = [] ∨ (evs = [.sig t] ∧ (l.emb = true ∨ (l.held.isSome = true ∧ l.rep = true))) ∨
        ((evs = [.chk t] ∨ evs = [.run t]) ∧ l.held = some .x ∧ l.rep = true))
  | lock (m : GMode) (hmu : s'.execMu = (t, m) :: s.execMu)
      (hm : (m = .x ∧ s.execMu = []) ∨ (m = .s ∧ s.execMu.all (·.2 == .s) = true))
      (hact : s'.active = s.active) (hcl : s'.clients = s.clients)
      (hheld : l.held = none) (hheld' : l'.held = some m) (hrep : l.rep = false) (hrep' : l'.rep = false)
      (htx : l'.tx = l.tx) (hemb : l'.emb = l.emb) (hev : evs = [])
  | unlock (hmu : s'.execMu = s.execMu.filter (·.1 != t)) (hact : s'.active = s.active) (hcl : s'.clients = s.clients)
      (hheld' : l'.held = none) (hrep : l.rep = false) (hrep' : l'.rep = false)
      (htx : l'.tx = l.tx) (hemb : l'.emb = l.emb) (hev : evs = [])
  | ginS (m : GMode) (hmu : s'.execMu = s.execMu) (hact : s'.active = s.active) (hcl : s'.clients = (s.serve t).clients)
      (hheld : l.held = some m) (hheld' : l'.held = some m) (hrep : l.rep = false) (hrep' : l'.rep = true)
      (htx : l.tx = none) (htx' : l'.tx = none) (hemb' : l'.emb = false) (hev : evs = [.serve t, .gin t m])
  | ginP (m : GMode) (hmu : s'.execMu = s.execMu) (hact : s'.active = s.active) (hcl : s'.clients = s.clients)
      (hheld : l.held = some m) (hheld' : l'.held = some m) (hrep : l.rep = false) (hrep' : l'.rep = true)
      (htx : l'.tx = l.tx) (hemb : l'.emb = l.emb) (hev : evs = [.gin t m])
  | serveOnly (hmu : s'.execMu = s.execMu) (hact : s'.active = s.active) (hcl : s'.clients = (s.serve t).clients)
      (hheld : l'.held = l.held) (hrep : l'.rep = l.rep)
      (htx : l.tx = none) (htx' : l'.tx = none) (hemb' : l'.emb = false) (hev : evs = [.serve t])
  | gout (hmu : s'.execMu = s.execMu) (hact : s'.active = s.active) (hcl : s'.clients = s.clients)
      (hheld : l.held.isSome = true) (hheld' : l'.held = l.held) (hrep : l.rep = true) (hrep' : l'.rep = false)
      (htx : l.tx = none) (htx' : l'.tx = none) (hemb : l'.emb = l.emb) (hev : evs = [.gout t])
  | txb (x : T) (hmu : s'.execMu = s.execMu) (hact : s'.active = (x, t) :: s.active) (hf : s.active.any (·.1 == x) = false)
      (hcl : s'.clients = s.clients) (hheld : l'.held = l.held) (hrep : l'.rep = l.rep)
      (htx : l.tx = none) (htx' : l'.tx = some x) (hemb : l'.emb = l.emb)
      (hc : l.emb = true ∨ (l.held.isSome = true ∧ l.rep = true)) (hev : evs = [.txb t x])
  | txe (x : T) (hmu : s'.execMu = s.execMu) (hact : s'.active = s.active.filter (·.1 != x))
      (hcl : s'.clients = s.clients) (hheld : l'.held = l.held) (hrep : l'.rep = l.rep)
      (htx : l.tx = some x) (htx' : l'.tx = none) (hemb : l'.emb = l.emb) (hev : evs = [.txe t x])

theorem startBody_gate (l : Loc) (q : QCmd) (c : Bool) :
    (startBody l q c).held = l.held ∧ (startBody l q c).rep = l.rep ∧ (startBody l q c).tx = l.tx ∧
    (startBody l q c).emb = l.emb := by
  cases q <;> exact ⟨rfl, rfl, rfl, rfl⟩
@[simp] theorem epilogue_held (l : Loc) : (epilogue l).held = l.held := rfl
@[simp] theorem epilogue_rep (l : Loc) : (epilogue l).rep = l.rep := rfl
@[simp] theorem epilogue_tx (l : Loc) : (epilogue l).tx = l.tx := rfl
@[simp] theorem epilogue_emb (l : Loc) : (epilogue l).emb = l.emb := rfl
theorem afterTx_gate (l : Loc) :
    (afterTx l).held = l.held ∧ (afterTx l).rep = l.rep ∧ (afterTx l).tx = l.tx ∧ (afterTx l).emb = l.emb := by
  unfold afterTx
  split <;> exact ⟨rfl, rfl, rfl, rfl⟩
@[simp] theorem setConn_execMu (s : Shared) (t : Tid) (c : ConnSt) : (s.setConn t c).execMu = s.execMu := rfl
@[simp] theorem setConn_active (s : Shared) (t : Tid) (c : ConnSt) : (s.setConn t c).active = s.active := rfl
@[simp] theorem setConn_clients (s : Shared) (t : Tid) (c : ConnSt) : (s.setConn t c).clients = s.clients := rfl
theorem serve_frame (s : Shared) (t : Tid) :
    (s.serve t).execMu = s.execMu ∧ (s.serve t).active = s.active ∧ (s.serve t).registry = s.registry ∧
    (s.serve t).conns = s.conns := by
  unfold Shared.serve
  split <;> exact ⟨rfl, rfl, rfl, rfl⟩

theorem eq_none_of_isSome {α} {o : Option α} (h : false = o.isSome) : o = none := by
  cases o
  · rfl
  · cases h

theorem tstep_eff {s : Shared} {t : Tid} {l : Loc} {ch : Choice} {s' l' evs}
    (h : ok l (s.conn t).commit) (hs : tstep s t l ch = some (s', l', evs)) : Eff s t l s' l' evs := by
  obtain ⟨pc, cmd, held, rep, emb, ctx, inLook, neg, found, tx, todo, cur, noChange, after, key, panicking, rerr⟩ := l
  obtain ⟨hh, hr, ht, hc⟩ := h
  revert s' l' evs
  fun_cases tstep s t _ ch
  all_goals first | exact @out_none _ | refine @out_some _ _ _ _ ?_
  -- most transitions leave execMu, the transactions, the clients and held / rep / tx / emb alone and report nothing
  all_goals first | exact .same rfl rfl rfl rfl rfl rfl (.inl rfl) (.inl rfl) | skip
  -- the others, in the order of `tstep`, with the pc of the branch put in.  idle: an embedded caller
  all_goals cases ‹pc = _›
  · exact .same rfl rfl rfl rfl rfl rfl (.inr ⟨rfl, Bool.eq_false_iff.2 ‹_›⟩) (.inl rfl)
  -- sw: Lock for EXEC, RLock for the others
  · cases hh
    exact .lock .x rfl (.inl ⟨rfl, List.isEmpty_iff.1 ‹_›⟩) rfl rfl rfl rfl hr.symm hr.symm rfl rfl rfl
  · cases hh
    exact .lock .s rfl (.inr ⟨rfl, ‹_›⟩) rfl rfl rfl rfl hr.symm hr.symm rfl rfl rfl
  -- xIn, sIn, bServe
  iterate 2 exact .ginS _ (serve_frame ..).1 (serve_frame ..).2.1 rfl hh.symm hh.symm hr.symm rfl (eq_none_of_isSome ht) (eq_none_of_isSome ht) hc.1 rfl
  · exact .serveOnly (serve_frame ..).1 (serve_frame ..).2.1 rfl rfl rfl (eq_none_of_isSome ht) (eq_none_of_isSome ht) hc.1 rfl
  -- ec: the body starts
  · exact .same rfl rfl rfl (startBody_gate ..).1 (startBody_gate ..).2.1 (startBody_gate ..).2.2.1 (.inl (startBody_gate ..).2.2.2) (.inl rfl)
  -- b1, g2, b3
  · exact .txb _ rfl rfl (Bool.eq_false_iff.2 ‹_›) rfl rfl rfl (eq_none_of_isSome ht) rfl rfl
      ((body_gated hc).imp_right fun h => ⟨hh ▸ h, hr ▸ hh ▸ h⟩) rfl
  · exact .same rfl rfl rfl rfl rfl rfl (.inl rfl)
      (.inr (.inl ⟨rfl, (body_gated hc).imp_right fun h => ⟨hh ▸ h, hr ▸ hh ▸ h⟩⟩))
  · exact .txe _ rfl rfl rfl (afterTx_gate _).1 (afterTx_gate _).2.1 ‹_› (afterTx_gate _).2.2.1 (afterTx_gate _).2.2.2 rfl
  -- p0: the look locks for itself: nothing was held (`look_base`)
  · obtain ⟨hb, rfl⟩ := hc
    cases Bool.eq_false_iff.2 ‹¬neg = true›
    cases (look_base hb).symm.trans hh
    exact .lock .s rfl (.inr ⟨rfl, ‹_›⟩) rfl rfl rfl rfl hr.symm hr.symm rfl rfl rfl
  -- p1, p3, p4
  · exact .ginP .s rfl rfl rfl hh.symm hh.symm hr.symm rfl rfl rfl rfl
  · obtain ⟨_, rfl, rfl⟩ := hc
    cases hh
    exact .gout rfl rfl rfl rfl rfl hr.symm rfl (eq_none_of_isSome ht) (eq_none_of_isSome ht) rfl rfl
  · exact .unlock rfl rfl rfl rfl hr.symm hr.symm rfl rfl rfl
  -- e4, e6: EXEC's check and runs, from the exclusive holder
  iterate 3
    obtain ⟨rfl, _, rfl⟩ := hc
    cases hh
    exact .same rfl rfl rfl rfl rfl rfl (.inl rfl) (.inr (.inr ⟨.inl rfl, rfl, hr.symm⟩))
  · obtain ⟨rfl, _, rfl⟩ := hc
    cases hh
    exact .same rfl rfl rfl (startBody_gate ..).1 (startBody_gate ..).2.1 (startBody_gate ..).2.2.1 (.inl (startBody_gate ..).2.2.2)
      (.inr (.inr ⟨.inr rfl, rfl, hr.symm⟩))
  -- ec1, ec2
  · obtain ⟨rfl, rfl⟩ := hc
    cases hh
    exact .txb _ rfl rfl (Bool.eq_false_iff.2 ‹_›) rfl rfl rfl (eq_none_of_isSome ht) rfl rfl (.inr ⟨rfl, hr.symm⟩) rfl
  · exact .txe _ rfl rfl rfl rfl rfl ‹_› rfl rfl rfl
  -- dOut, dUnlock
  · exact .gout rfl rfl rfl hc.2.2 rfl (hr.symm.trans hc.2.2) rfl (eq_none_of_isSome ht) (eq_none_of_isSome ht) rfl rfl
  · exact .unlock rfl rfl rfl rfl hr.symm hr.symm rfl rfl rfl

theorem tstep_frame {s : Shared} {t : Tid} {l : Loc} {ch : Choice} {s' l' evs} (hs : tstep s t l ch = some (s', l', evs)) :
    (s'.registry = s.registry ∧ (s'.conns = s.conns ∨ ∃ c, s'.conns = put s.conns t c ∧ c.watch = (s.conn t).watch)) ∨
    ((l.pc = .w2 ∨ l.pc = .u2) ∧ ∃ c, s'.conns = put s.conns t c) ∨
    (l.pc = .g2 ∧ s'.registry = s.registry ∧ s'.conns = markAll s.conns l.key ((kassoc s.registry l.key).getD [])) := by
  revert s' l' evs
  fun_cases tstep s t l ch
  all_goals first | exact @out_none _ | refine @out_some _ _ _ _ ?_
  -- most branches touch neither; call, bret, e1, e4, edef, dRec and flush write the thread's own connection, with its
  -- watch flags as they were
  all_goals first | exact .inl ⟨rfl, .inl rfl⟩ | exact .inl ⟨rfl, .inr ⟨_, rfl, rfl⟩⟩ | skip
  -- the others, in the order of `tstep`: xIn, sIn, bServe
  iterate 3 exact .inl ⟨(serve_frame ..).2.2.1, .inl (serve_frame ..).2.2.2⟩
  -- ec, QUEUED: the command joins the queue if MULTI has begun
  · rename_i cs
    refine .inl ⟨rfl, .inr ⟨_, rfl, ?_⟩⟩
    unfold cs
    split <;> rfl
  · exact .inr (.inr ⟨‹l.pc = .g2›, rfl, rfl⟩)
  · exact .inr (.inl ⟨.inl ‹l.pc = .w2›, _, rfl⟩)
  · exact .inr (.inl ⟨.inr ‹l.pc = .u2›, _, rfl⟩)

theorem tstep_conn_other {s : Shared} {t : Tid} {l : Loc} {ch : Choice} {s' l' evs}
    (hs : tstep s t l ch = some (s', l', evs)) {g : Tid} (hg : g ≠ t) : sameButWatch (s'.conn g) (s.conn g) := by
  unfold Shared.conn
  rcases tstep_frame hs with ⟨-, h | ⟨c, h, -⟩⟩ | ⟨-, c, h⟩ | ⟨-, -, h⟩ <;> rw [h]
  · exact ⟨rfl, rfl, rfl, rfl, rfl⟩
  · rw [assoc_put_other _ _ _ _ hg]; exact ⟨rfl, rfl, rfl, rfl, rfl⟩
  · rw [assoc_put_other _ _ _ _ hg]; exact ⟨rfl, rfl, rfl, rfl, rfl⟩
  · exact markAll_conn ..

end NodisVerif.GateProg

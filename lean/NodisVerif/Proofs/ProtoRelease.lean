import NodisVerif.Proofs.ProtoInv
/-
  Locking protocol: a commit can always run to its end and releases everything (C06.5).
-/
namespace NodisVerif.Proofs.Proto
open NodisVerif.Proto

def releaseSeq (t : Tx) (holds : List Hold) : List Ev := holds.map (fun h => Ev.unlock t h.rid) ++ [.fin t]

structure SameButTx (t : Tx) (s s' : PState) : Prop where
  index : s'.index = s.index
  pending : s'.pending = s.pending
  names : s'.names = s.names
  others : ∀ u, u ≠ t → s'.tx u = s.tx u

theorem SameButTx.refl (t : Tx) (s : PState) : SameButTx t s s := ⟨rfl, rfl, rfl, fun _ _ => rfl⟩

theorem SameButTx.trans {t : Tx} {a b c : PState} (h1 : SameButTx t a b) (h2 : SameButTx t b c) :
    SameButTx t a c :=
  ⟨h2.index.trans h1.index, h2.pending.trans h1.pending, h2.names.trans h1.names,
    fun u hu => (h2.others u hu).trans (h1.others u hu)⟩

theorem SameButTx.setTx (t : Tx) (s : PState) (st : TxSt) : SameButTx t s (s.setTx t st) :=
  ⟨rfl, rfl, rfl, fun _ hu => tx_setTx_ne _ _ hu⟩

theorem filter_ne_head {h : Hold} {tl : List Hold} (hn : NodupRids (h :: tl)) :
    (h :: tl).filter (·.rid != h.rid) = tl := by
  simp only [NodupRids, List.map_cons, List.nodup_cons] at hn
  rw [List.filter_cons]
  simp only [bne_self_eq_false, Bool.false_eq_true, if_false]
  apply List.filter_eq_self.2
  intro g hg
  simp only [bne_iff_ne, ne_eq]
  intro c
  exact hn.1 (c ▸ List.mem_map.2 ⟨g, hg, rfl⟩)

theorem unlock_all (t : Tx) (hs : List Hold) : ∀ (s : PState) (st : TxSt), s.tx t = some st →
    st.committing = true → st.holds = hs → NodupRids hs →
    ∃ s' st', runAll s (hs.map fun h => Ev.unlock t h.rid) = some s' ∧ s'.tx t = some st' ∧
      st'.holds = [] ∧ st'.waiting = st.waiting ∧ SameButTx t s s' := by
  induction hs with
  | nil =>
    intro s st htx _ hh _
    exact ⟨s, st, rfl, htx, hh, rfl, SameButTx.refl t s⟩
  | cons h tl ih =>
    intro s st htx hc hh hn
    have hof : st.holdOf h.rid = some h := holdOf_of_mem (hh ▸ hn) (hh ▸ List.mem_cons_self)
    have h1 : step s (.unlock t h.rid) = some (s.setTx t (st.delHold h.rid)) :=
      step_unlock.2 ⟨st, h, htx, hof, Or.inl hc, rfl⟩
    have hdel : (st.delHold h.rid).holds = tl := by
      simp only [TxSt.delHold, hh]; exact filter_ne_head hn
    have hn' : NodupRids tl := by
      simp only [NodupRids, List.map_cons, List.nodup_cons] at hn; exact hn.2
    obtain ⟨s', st', hr, htx', hh', hw', hsame⟩ :=
      ih (s.setTx t (st.delHold h.rid)) (st.delHold h.rid) (tx_setTx_same _ _ _) hc hdel hn'
    refine ⟨s', st', ?_, htx', hh', hw', (SameButTx.setTx t s _).trans hsame⟩
    simp only [List.map_cons, runAll_cons, h1, Option.bind_some]
    exact hr

theorem release_committing {s : PState} (hi : Inv s) {t : Tx} {st : TxSt} (htx : s.tx t = some st)
    (hc : st.committing = true) :
    ∃ s', runAll s (releaseSeq t st.holds) = some s' ∧ s'.tx t = none ∧ SameButTx t s s' := by
  have hw : st.waiting = none := by
    cases h : st.waiting with
    | none => rfl
    | some p =>
      obtain ⟨k, r, m⟩ := p
      have := (hi.waitOk t st k r m htx h).2.1
      rw [hc] at this; cases this
  obtain ⟨s1, st1, hr, htx1, hh1, hw1, hsame⟩ := unlock_all t st.holds s st htx hc rfl (hi.holdNodup t st htx)
  have hfin : step s1 (.fin t) = some { s1 with txs := erase s1.txs t } :=
    step_fin.2 ⟨st1, htx1, hh1, hw1.trans hw, rfl⟩
  refine ⟨{ s1 with txs := erase s1.txs t }, ?_, ?_, ?_⟩
  · unfold releaseSeq
    rw [runAll_append, hr]
    simp [runAll, hfin]
  · simp [PState.tx, assoc_erase]
  · refine hsame.trans ⟨rfl, rfl, rfl, ?_⟩
    intro u hu
    simp [PState.tx, assoc_erase, hu]

theorem commit_and_release {s : PState} (hi : Inv s) {t : Tx} {st : TxSt} (htx : s.tx t = some st)
    (hc : st.committing = false) (hw : st.waiting = none) (hv : ∀ h ∈ st.holds, h.valid = true) :
    ∃ s', runAll s (.commit t :: releaseSeq t st.holds) = some s' ∧ s'.tx t = none ∧ SameButTx t s s' := by
  have h1 : step s (.commit t) = some (s.setTx t { st with committing := true }) :=
    step_commit.2 ⟨st, htx, hc, hw, hv, rfl⟩
  obtain ⟨s', hr, hnone, hsame⟩ :=
    release_committing (hi.step h1) (t := t) (st := { st with committing := true }) (tx_setTx_same _ _ _) rfl
  refine ⟨s', ?_, hnone, (SameButTx.setTx t s _).trans hsame⟩
  simp only [runAll_cons, h1, Option.bind_some]
  exact hr

end NodisVerif.Proofs.Proto

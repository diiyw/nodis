import NodisVerif.Proofs.C04Rank
import NodisVerif.Proofs.C20SStore
/-
  C20, ZUnionStore / ZInterStore: the computation (`zunionCore` / `zinterCore`) only reads.
  On a state satisfying the storage invariant it keeps invariant, logical keyspace and feed, and its
  result is a function (`zcoreSpec`) of what the operand names show at `now` — missing, expired (the
  same thing: `lookup … = none`), of another type, or a sorted set.  The members of the result are
  members of the operands (so their lengths are representable), and the sorted set built from a
  NaN-free result is a good value.
-/
namespace NodisVerif.Proofs.C20
open NodisVerif NodisVerif.Store NodisVerif.Spec.Persist NodisVerif.Proofs.C11

variable {now : Int}

theorem read_operand {s : MState} (h : StoreInv s now) (k : Bytes) : ∃ s1, Kept now s s1 ∧
    (lookup s now k = none ∧ readKey s now k = (s1, false) ∨
     ∃ v e, lookup s now k = some (v, e) ∧ readKey s now k = (s1, true) ∧
       Api.asZSet s1 k = match v with | .zset z => some z | _ => none) := by
  have ks := readKey_spec h (Int.le_refl now) k
  refine ⟨(readKey s now k).1, readKey_kept h k, ?_⟩
  cases hL : lookup s now k with
  | none => exact .inl ⟨rfl, Prod.ext rfl (ks.miss hL rfl).1⟩
  | some c =>
    obtain ⟨hok, _, m, hm, hv, _, _⟩ := ks.hit c.1 c.2 hL
    refine .inr ⟨c.1, c.2, rfl, Prod.ext rfl hok, ?_⟩
    simp only [Api.asZSet, valOf, getMeta, hm, hv, Option.bind_some]
    cases c.1 <;> rfl

/-- `zunionCore.go` on the logical keyspace `K` -/
def unionGo (K : Bytes → Option (Val × Int)) (weights : List F64) (agg : Bytes) :
    List (Bytes × Nat) → Option (AList F64) → Option (Option (AList F64))
  | [], acc => some acc
  | (k, i) :: rest, acc =>
    match K k with
    | none => unionGo K weights agg rest acc
    | some (.zset z, _) =>
      match DsZSet.forEachByRank z 0 (-1) false with
      | none => none
      | some items =>
        unionGo K weights agg rest
          (items.foldl (fun a it => a.bind fun a => Api.aggregate agg (Api.weightAt weights i) a it) acc)
    | some _ => none

theorem lookup_fun {s s' : MState} (k : Kept now s s') : lookup s' now = lookup s now := funext k.look

theorem unionGo_spec (weights : List F64) (agg : Bytes) (ks : List (Bytes × Nat)) :
    ∀ (s : MState) (acc : Option (AList F64)), StoreInv s now →
    Kept now s (Api.zunionCore.go now weights agg ks s acc).1 ∧
    (Api.zunionCore.go now weights agg ks s acc).2 = unionGo (lookup s now) weights agg ks acc := by
  induction ks with
  | nil => intro s acc h; exact ⟨Kept.refl h, rfl⟩
  | cons e rest ih =>
    obtain ⟨k, i⟩ := e
    intro s acc h
    unfold Api.zunionCore.go
    rw [unionGo]
    obtain ⟨s1, k1, ⟨hL, hr⟩ | ⟨v, e, hL, hr, hz⟩⟩ := read_operand h k
    · rw [hL, hr]
      obtain ⟨a, b⟩ := ih s1 acc k1.inv
      exact ⟨k1.trans a, lookup_fun k1 ▸ b⟩
    · rw [hL, hr]
      simp only [Bool.not_true, Bool.false_eq_true, if_false, hz]
      cases v with
      | zset z =>
        simp only
        cases DsZSet.forEachByRank z 0 (-1) false with
        | none => exact ⟨k1, rfl⟩
        | some items =>
          obtain ⟨a, b⟩ := ih s1 _ k1.inv
          exact ⟨k1.trans a, lookup_fun k1 ▸ b⟩
      | _ => exact ⟨k1, rfl⟩

/-- `zinterCore.go.inner`: is member `m` of operand `i` in every other operand? (`none` = panic) -/
def interInner (K : Bytes → Option (Val × Int)) (i : Nat) : List (Bytes × Nat) → Bytes → Option Bool
  | [], _ => some true
  | (o, j) :: more, m =>
    if j = i then interInner K i more m else
    match K o with
    | none => none
    | some (.zset oz, _) => if DsZSet.zExists oz m then interInner K i more m else some false
    | some _ => none

def interOuter (K : Bytes → Option (Val × Int)) (keys : List Bytes) (weights : List F64) (agg : Bytes) (i : Nat) :
    List DsZSet.Item → Option (AList F64) → Option (Option (AList F64))
  | [], acc => some acc
  | it :: more, acc =>
    match interInner K i keys.zipIdx it.2 with
    | none => none
    | some found =>
      interOuter K keys weights agg i more
        (if found then acc.bind fun a => Api.aggregate agg (Api.weightAt weights i) a it else acc)

def interGo (K : Bytes → Option (Val × Int)) (keys : List Bytes) (weights : List F64) (agg : Bytes) :
    List (Bytes × Nat) → Option (AList F64) → Option (Option (AList F64))
  | [], acc => some acc
  | (k, i) :: rest, acc =>
    match K k with
    | none => some (some [])
    | some (.zset z, _) =>
      match DsZSet.forEachByRank z 0 (-1) false with
      | none => none
      | some items =>
        match interOuter K keys weights agg i items acc with
        | none => none
        | some acc => interGo K keys weights agg rest acc
    | some _ => none

theorem interInner_spec (i : Nat) (m : Bytes) (js : List (Bytes × Nat)) :
    ∀ (s : MState), StoreInv s now →
    Kept now s (Api.zinterCore.go.inner now i js s m).1 ∧
    (Api.zinterCore.go.inner now i js s m).2 = interInner (lookup s now) i js m := by
  induction js with
  | nil => intro s h; exact ⟨Kept.refl h, rfl⟩
  | cons e more ih =>
    obtain ⟨o, j⟩ := e
    intro s h
    unfold Api.zinterCore.go.inner
    rw [interInner]
    obtain ⟨s1, k1, rd⟩ := read_operand h o
    have next : Kept now s (Api.zinterCore.go.inner now i more s1 m).1 ∧
        (Api.zinterCore.go.inner now i more s1 m).2 = interInner (lookup s now) i more m := by
      obtain ⟨a, b⟩ := ih s1 k1.inv
      exact ⟨k1.trans a, lookup_fun k1 ▸ b⟩
    by_cases hj : j = i
    · obtain ⟨_, hr⟩ | ⟨_, _, _, hr, _⟩ := rd
      all_goals
        rw [hr]
        simp only [hj, if_true]
        exact next
    · obtain ⟨hL, hr⟩ | ⟨v, e, hL, hr, hz⟩ := rd
      · rw [hL, hr]
        simp only [hj, if_false, Bool.not_false, if_true]
        exact ⟨k1, trivial⟩
      · rw [hL, hr]
        simp only [hj, if_false, Bool.not_true, Bool.false_eq_true, hz]
        cases v with
        | zset oz =>
          simp only
          by_cases hx : DsZSet.zExists oz m = true
          · simp only [hx, if_true]
            exact next
          · simp only [hx, Bool.false_eq_true, if_false]
            exact ⟨k1, trivial⟩
        | _ => exact ⟨k1, rfl⟩

theorem interOuter_spec (keys : List Bytes) (weights : List F64) (agg : Bytes) (i : Nat) (its : List DsZSet.Item) :
    ∀ (s : MState) (acc : Option (AList F64)), StoreInv s now →
    Kept now s (Api.zinterCore.go.outer now keys weights agg i its s acc).1 ∧
    (Api.zinterCore.go.outer now keys weights agg i its s acc).2 =
      interOuter (lookup s now) keys weights agg i its acc := by
  induction its with
  | nil => intro s acc h; exact ⟨Kept.refl h, rfl⟩
  | cons it more ih =>
    intro s acc h
    obtain ⟨k1, e1⟩ := interInner_spec (now := now) i it.2 keys.zipIdx s h
    unfold Api.zinterCore.go.outer
    rw [interOuter]
    generalize Api.zinterCore.go.inner now i keys.zipIdx s it.2 = q at k1 e1
    obtain ⟨s1, found⟩ := q
    simp only at k1 e1 ⊢
    rw [← e1]
    cases found with
    | none => exact ⟨k1, rfl⟩
    | some f =>
      simp only
      obtain ⟨a, b⟩ := ih s1 _ k1.inv
      exact ⟨k1.trans a, by rw [b, lookup_fun k1]⟩

theorem interGo_spec (keys : List Bytes) (weights : List F64) (agg : Bytes) (ks : List (Bytes × Nat)) :
    ∀ (s : MState) (acc : Option (AList F64)), StoreInv s now →
    Kept now s (Api.zinterCore.go now keys weights agg ks s acc).1 ∧
    (Api.zinterCore.go now keys weights agg ks s acc).2 = interGo (lookup s now) keys weights agg ks acc := by
  induction ks with
  | nil => intro s acc h; exact ⟨Kept.refl h, rfl⟩
  | cons e rest ih =>
    obtain ⟨k, i⟩ := e
    intro s acc h
    unfold Api.zinterCore.go
    rw [interGo]
    obtain ⟨s1, k1, ⟨hL, hr⟩ | ⟨v, e, hL, hr, hz⟩⟩ := read_operand h k
    · rw [hL, hr]
      exact ⟨k1, rfl⟩
    · rw [hL, hr]
      simp only [Bool.not_true, Bool.false_eq_true, if_false, hz]
      cases v with
      | zset z =>
        simp only
        cases DsZSet.forEachByRank z 0 (-1) false with
        | none => exact ⟨k1, rfl⟩
        | some items =>
          simp only
          obtain ⟨k2, e2⟩ := interOuter_spec (now := now) keys weights agg i items s1 acc k1.inv
          generalize Api.zinterCore.go.outer now keys weights agg i items s1 acc = q2 at k2 e2
          obtain ⟨s2, r2⟩ := q2
          simp only at k2 e2 ⊢
          rw [← lookup_fun k1, ← e2]
          cases r2 with
          | none => exact ⟨k1.trans k2, rfl⟩
          | some acc2 =>
            simp only
            obtain ⟨a, b⟩ := ih s2 acc2 k2.inv
            exact ⟨(k1.trans k2).trans a, by rw [b, lookup_fun k2]⟩
      | _ => exact ⟨k1, rfl⟩

/-- the result of the computation on the logical keyspace `K`:
    `none` = the call panics, `some none` = unsupported arithmetic, `some (some items)` = the result -/
def zcoreSpec (union : Bool) (K : Bytes → Option (Val × Int)) (keys : List Bytes) (weights : List F64) (agg : Bytes) :
    Option (Option (List DsZSet.Item)) :=
  ((if union then unionGo K weights agg keys.zipIdx (some [])
    else interGo K keys weights agg keys.zipIdx (some [])).map
      fun o => o.map fun m => m.map fun (k, v) => (v, k))

theorem zcore_spec (union : Bool) {s : MState} (h : StoreInv s now) (keys : List Bytes) (weights : List F64)
    (agg : Bytes) :
    Kept now s ((if union then Api.zunionCore else Api.zinterCore) s now keys weights agg).1 ∧
    ((if union then Api.zunionCore else Api.zinterCore) s now keys weights agg).2 =
      zcoreSpec union (lookup s now) keys weights agg := by
  -- the wrappers hand back the state of `go` and map its result: both sides reduce to that
  cases union with
  | true =>
    obtain ⟨a, b⟩ := unionGo_spec (now := now) weights agg keys.zipIdx s (some []) h
    exact ⟨a, congrArg (Option.map _) b⟩
  | false =>
    obtain ⟨a, b⟩ := interGo_spec (now := now) keys weights agg keys.zipIdx s (some []) h
    exact ⟨a, congrArg (Option.map _) b⟩

open NodisVerif.Proofs.AListLemmas2

theorem lookup_good {s : MState} (h : StoreInv s now) {k : Bytes} {v : Val} {e : Int}
    (hL : lookup s now k = some (v, e)) : Good v := by
  have ks := readKey_spec h (Int.le_refl now) k
  obtain ⟨_, _, m, hm, hv, _, _⟩ := ks.hit v e hL
  exact (ks.inv.recs k m hm).good v hv

/-- what an ascending `forEachByRank` hands over are nodes of the chain: in closed form (`C04.ferCore_eq`)
    it is nothing or a window of the chain -/
theorem fer_mem {z : ZSet} (hlen : z.sl.length = z.dict.length) {items : List DsZSet.Item}
    (h : DsZSet.forEachByRank z 0 (-1) false = some items) : ∀ x ∈ items, x ∈ z.sl := by
  let P : Option (List DsZSet.Item) → Prop := fun o => ∀ its, o = some its → ∀ x ∈ its, x ∈ z.sl
  have nil : P (some []) := fun its e x hx => by
    cases e
    cases hx
  have win : ∀ n m, P (some ((z.sl.drop m).take n)) := fun n m its e x hx => by
    cases e
    exact List.mem_of_mem_drop (List.mem_of_mem_take hx)
  have all : P (DsZSet.forEachByRank z 0 (-1) false) := by
    rw [C04.forEachByRank_core, C04.ferCore_eq z hlen]
    exact ite_ind (P := P) nil (ite_ind (P := P) nil (ite_ind (P := P) nil
      (ite_ind (P := P) (win _ _) (fun _ e => nomatch e))))
  exact all items h

def SmallM (m : Bytes) : Prop := m.length + 8 < 2 ^ 63
def SmallAcc (a : AList F64) : Prop := ∀ p ∈ a, SmallM p.1
def SmallO (o : Option (AList F64)) : Prop := ∀ a, o = some a → SmallAcc a

theorem smallAcc_set {a : AList F64} (h : SmallAcc a) {m : Bytes} (hm : SmallM m) (x : F64) :
    SmallAcc (AList.set a m x) := by
  intro p hp
  rcases mem_set a m x p hp with h1 | h1
  · rw [h1]; exact hm
  · exact h p h1

theorem aggregate_cases (agg : Bytes) (w : F64) (a : AList F64) (it : DsZSet.Item) :
    ∃ a', Api.aggregate agg w a it = some a' ∧ (a' = a ∨ ∃ x, a' = AList.set a it.2 x) := by
  obtain ⟨sc, m⟩ := it
  let P : Option (AList F64) → Prop := fun o => ∃ a', o = some a' ∧ (a' = a ∨ ∃ x, a' = AList.set a m x)
  have keep : P (some a) := ⟨_, rfl, Or.inl rfl⟩
  have set : ∀ x, P (some (AList.set a m x)) := fun x => ⟨_, rfl, Or.inr ⟨x, rfl⟩⟩
  have pick : ∀ (c : Prop) [Decidable c] (x : F64), P (some (if c then AList.set a m x else a)) :=
    fun c _ x => ite_ind (P := fun b => P (some b)) (set x) keep
  show P (Api.aggregate agg w a (sc, m))
  unfold Api.aggregate
  dsimp only
  -- `split` on the conditions (equalities with the option words) is slow; the conditions are not looked at
  cases AList.get? a m with
  | none => exact ite_ind (P := P) (set _) keep
  | some cur => exact ite_ind (P := P) (set _) (ite_ind (P := P) (pick _ _) (ite_ind (P := P) (pick _ _) keep))

theorem aggregate_small (agg : Bytes) (w : F64) {a a' : AList F64} {it : DsZSet.Item} (ha : SmallAcc a) (hm : SmallM it.2)
    (h : Api.aggregate agg w a it = some a') : SmallAcc a' := by
  obtain ⟨b, hb, hc⟩ := aggregate_cases agg w a it
  rw [hb] at h
  cases h
  rcases hc with rfl | ⟨x, rfl⟩
  · exact ha
  · exact smallAcc_set ha hm x

theorem smallO_bind (agg : Bytes) (w : F64) {o : Option (AList F64)} {it : DsZSet.Item} (ho : SmallO o) (hm : SmallM it.2) :
    SmallO (o.bind fun a => Api.aggregate agg w a it) := by
  intro a' ha'
  cases o with
  | none => cases ha'
  | some a => exact aggregate_small agg w (ho a rfl) hm ha'

theorem smallO_fold (agg : Bytes) (w : F64) (items : List DsZSet.Item) : ∀ (o : Option (AList F64)), SmallO o →
    (∀ it ∈ items, SmallM it.2) →
    SmallO (items.foldl (fun a it => a.bind fun a => Api.aggregate agg w a it) o) := by
  induction items with
  | nil => intro o ho _; exact ho
  | cons it rest ih =>
    intro o ho hm
    simp only [List.foldl_cons]
    exact ih _ (smallO_bind agg w ho (hm it (by simp))) (fun x hx => hm x (by simp [hx]))

def KGood (K : Bytes → Option (Val × Int)) : Prop := ∀ k v e, K k = some (v, e) → Good v

theorem kgood_lookup {s : MState} (h : StoreInv s now) : KGood (lookup s now) := fun _ _ _ hL => lookup_good h hL

theorem chain_small {z : ZSet} (hg : Good (.zset z)) : ∀ it ∈ z.sl, SmallM it.2 := by
  intro it hit
  obtain ⟨sc, m⟩ := it
  have hw : z.WF := hg.1
  have := mem_of_get? _ _ _ (hw.agree m sc hit)
  exact hg.2 (m, sc) this

theorem items_small {z : ZSet} (hg : Good (.zset z)) {items : List DsZSet.Item}
    (h : DsZSet.forEachByRank z 0 (-1) false = some items) : ∀ it ∈ items, SmallM it.2 :=
  fun it hit => chain_small hg it (fer_mem hg.1.sameLen h it hit)

theorem unionGo_small {K : Bytes → Option (Val × Int)} (hK : KGood K) (weights : List F64) (agg : Bytes)
    (ks : List (Bytes × Nat)) : ∀ (acc o : Option (AList F64)), SmallO acc →
    unionGo K weights agg ks acc = some o → SmallO o := by
  induction ks with
  | nil => intro acc o ha h; simp only [unionGo, Option.some.injEq] at h; subst h; exact ha
  | cons e rest ih =>
    obtain ⟨k, i⟩ := e
    intro acc o ha h
    rw [unionGo] at h
    cases hL : K k with
    | none => rw [hL] at h; exact ih acc o ha h
    | some c =>
      obtain ⟨v, e⟩ := c
      rw [hL] at h
      cases v with
      | zset z =>
        simp only at h
        cases hf : DsZSet.forEachByRank z 0 (-1) false with
        | none => rw [hf] at h; cases h
        | some items =>
          rw [hf] at h
          exact ih _ o (smallO_fold agg _ items acc ha (items_small (hK k _ e hL) hf)) h
      | _ => cases h

theorem interOuter_small (K : Bytes → Option (Val × Int)) (keys : List Bytes) (weights : List F64) (agg : Bytes) (i : Nat)
    (its : List DsZSet.Item) : ∀ (acc o : Option (AList F64)), SmallO acc → (∀ it ∈ its, SmallM it.2) →
    interOuter K keys weights agg i its acc = some o → SmallO o := by
  induction its with
  | nil => intro acc o ha _ h; simp only [interOuter, Option.some.injEq] at h; subst h; exact ha
  | cons it more ih =>
    intro acc o ha hm h
    rw [interOuter] at h
    cases hi : interInner K i keys.zipIdx it.2 with
    | none => rw [hi] at h; cases h
    | some found =>
      rw [hi] at h
      simp only at h
      refine ih _ o ?_ (fun x hx => hm x (by simp [hx])) h
      cases found with
      | true => simp only [if_true]; exact smallO_bind agg _ ha (hm it (by simp))
      | false => exact ha

theorem interGo_small {K : Bytes → Option (Val × Int)} (hK : KGood K) (keys : List Bytes) (weights : List F64) (agg : Bytes)
    (ks : List (Bytes × Nat)) : ∀ (acc o : Option (AList F64)), SmallO acc →
    interGo K keys weights agg ks acc = some o → SmallO o := by
  induction ks with
  | nil => intro acc o ha h; simp only [interGo, Option.some.injEq] at h; subst h; exact ha
  | cons e rest ih =>
    obtain ⟨k, i⟩ := e
    intro acc o ha h
    rw [interGo] at h
    cases hL : K k with
    | none =>
      rw [hL] at h
      simp only [Option.some.injEq] at h
      subst h
      intro a ha'; cases ha'; intro p hp; cases hp
    | some c =>
      obtain ⟨v, e⟩ := c
      rw [hL] at h
      cases v with
      | zset z =>
        simp only at h
        cases hf : DsZSet.forEachByRank z 0 (-1) false with
        | none => rw [hf] at h; cases h
        | some items =>
          rw [hf] at h
          simp only at h
          cases ho : interOuter K keys weights agg i items acc with
          | none => rw [ho] at h; cases h
          | some acc2 =>
            rw [ho] at h
            exact ih acc2 o (interOuter_small K keys weights agg i items acc acc2 ha
              (items_small (hK k _ e hL) hf) ho) h
      | _ => cases h

theorem smallO_nil : SmallO (some []) := by
  intro a ha; cases ha; intro p hp; cases hp

theorem zcoreSpec_small (union : Bool) {K : Bytes → Option (Val × Int)} (hK : KGood K) (keys : List Bytes)
    (weights : List F64) (agg : Bytes) {items : List DsZSet.Item}
    (h : zcoreSpec union K keys weights agg = some (some items)) : ∀ it ∈ items, SmallM it.2 := by
  unfold zcoreSpec at h
  have key : ∀ o, (if union = true then unionGo K weights agg keys.zipIdx (some [])
      else interGo K keys weights agg keys.zipIdx (some [])) = some o → SmallO o := by
    intro o ho
    cases union with
    | true => exact unionGo_small hK weights agg _ _ o smallO_nil (by simpa using ho)
    | false => exact interGo_small hK keys weights agg _ _ o smallO_nil (by simpa using ho)
  generalize (if union = true then unionGo K weights agg keys.zipIdx (some [])
      else interGo K keys weights agg keys.zipIdx (some [])) = q at h key
  cases q with
  | none => cases h
  | some o =>
    simp only [Option.map_some, Option.some.injEq] at h
    cases o with
    | none => cases h
    | some a =>
      simp only [Option.map_some, Option.some.injEq] at h
      subst h
      intro it hit
      simp only [List.mem_map] at hit
      obtain ⟨p, hp, rfl⟩ := hit
      exact key (some a) rfl a rfl p hp

/-- `zstore` builds the new value by adding the result items to an empty sorted set -/
def buildZ (items : List DsZSet.Item) : ZSet :=
  items.foldl (fun z it => (DsZSet.zAdd z it.2 it.1).1) DsZSet.empty

theorem good_build (items : List DsZSet.Item) : ∀ (z : ZSet), Good (.zset z) →
    (∀ it ∈ items, SmallM it.2) → (∀ it ∈ items, F64.isNaN it.1 = false) →
    Good (.zset (items.foldl (fun z it => (DsZSet.zAdd z it.2 it.1).1) z)) := by
  induction items with
  | nil => intro z hz _ _; exact hz
  | cons it rest ih =>
    intro z hz hs hn
    simp only [List.foldl_cons]
    exact ih _ (good_zadd z it.2 it.1 hz (hn it (by simp)) (hs it (by simp)))
      (fun x hx => hs x (by simp [hx])) (fun x hx => hn x (by simp [hx]))

theorem good_buildZ {items : List DsZSet.Item} (hs : ∀ it ∈ items, SmallM it.2)
    (hn : ∀ it ∈ items, F64.isNaN it.1 = false) : Good (.zset (buildZ items)) :=
  good_build items _ good_emptyZSet hs hn

end NodisVerif.Proofs.C20

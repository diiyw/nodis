import NodisVerif.Proofs.C11Pass
import NodisVerif.Proofs.C12Rename
/-
  C12: any eviction schedule is invisible.  Nil-string safety of what the commands write (every listed command is
  `TxForm.NilSafe`, C12Seq.lean, so that a run keeps `LNil`); then runs of `Step`s (a command or a pass, with its time):
  a pass is invisible (`Step.pass_spec`), a command respects `Sim` (`Step.sim`), hence `sched_core`.
-/
namespace NodisVerif.Proofs.C11
open NodisVerif.Store NodisVerif.Codec NodisVerif.Spec.Persist
open NodisVerif.Proofs.AListLemmas NodisVerif.Proofs.AListLemmas2 NodisVerif.Proofs.C11AList

/-- what `a` leaves of a found value `v` is not the nil string.  The `@[simp]` lemmas below are named nowhere: they
    act through `simp_all` after `apply nilSafe_of` (the C20 files) -/
def Act.NilOut (a : Act) (v : Val) : Prop :=
  match a with
  | .keep _ => v ≠ .strNil
  | .put v' _ _ _ => v'.getD v ≠ .strNil
  | .drop _ _ _ => True

@[simp] theorem nilOut_keep (r : Out) (v : Val) : (Act.keep r).NilOut v ↔ v ≠ .strNil := Iff.rfl
@[simp] theorem nilOut_put (v' : Option Val) (e' : Option Int) (ops : List FeedOp) (r : Out) (v : Val) :
    (Act.put v' e' ops r).NilOut v ↔ v'.getD v ≠ .strNil := Iff.rfl
@[simp] theorem nilOut_drop (v' : Val) (ops : List FeedOp) (r : Out) (v : Val) :
    (Act.drop v' ops r).NilOut v ↔ True := Iff.rfl
@[simp] theorem nilOut_ite (c : Prop) [Decidable c] (a b : Act) (v : Val) :
    (if c then a else b).NilOut v ↔ (c → a.NilOut v) ∧ (¬ c → b.NilOut v) := by
  split <;> simp_all

theorem nilSafe_of (f : TxForm) (h1 : ∀ v e, v ≠ .strNil → (f.dec v e).NilOut v)
    (h2 : ∀ v0, f.ctor = some v0 → (f.dec v0 0).NilOut v0) : f.NilSafe := by
  intro L hL c hc
  unfold TxForm.spec txSpec at hc
  cases L with
  | some p =>
    obtain ⟨v, e⟩ := p
    have hv := hL v e rfl
    have := h1 v e hv
    simp only at hc
    cases hd : f.dec v e with
    | keep r => rw [hd] at hc; cases hc
    | put v' e' ops r =>
      rw [hd] at hc this
      simp only [Act.eff, Option.some.injEq] at hc
      rw [← hc]; exact this
    | drop v' ops r => rw [hd] at hc; simp [Act.eff] at hc
  | none =>
    cases hct : f.ctor with
    | none => rw [hct] at hc; cases hc
    | some v0 =>
      rw [hct] at hc
      have := h2 v0 hct
      simp only at hc
      cases hd : f.dec v0 0 with
      | keep r =>
        rw [hd] at hc this
        simp only [Act.eff, Option.getD_none, Option.some.injEq] at hc
        rw [← hc]; exact this
      | put v' e' ops r =>
        rw [hd] at hc this
        simp only [Act.eff, Option.getD_some, Option.some.injEq] at hc
        rw [← hc]; exact this
      | drop v' ops r => rw [hd] at hc; simp [Act.eff] at hc

/-- the sufficient form of `NilOut` that does not look at the value found (`Act.NoNil.nilOut`) -/
def Act.NoNil : Act → Prop
  | .put (some .strNil) _ _ _ => False
  | _ => True

theorem Act.NoNil.nilOut {a : Act} (h : a.NoNil) {v : Val} (hv : v ≠ .strNil) : a.NilOut v := by
  cases a with
  | keep r => exact hv
  | put v' e' ops r =>
    cases v' with
    | none => exact hv
    | some w => intro (c : w = .strNil); subst c; exact h
  | drop v' ops r => trivial

theorem noNil_put {w : Val} (h : w ≠ .strNil) (e' : Option Int) (ops : List FeedOp) (r : Out) :
    (Act.put (some w) e' ops r).NoNil := by
  cases w with
  | strNil => exact h rfl
  | _ => trivial

theorem noNil_ite (c : Prop) [Decidable c] {a b : Act} (ha : a.NoNil) (hb : b.NoNil) :
    (if c then a else b).NoNil := by
  split
  · exact ha
  · exact hb

theorem decStrWrite_noNil {f : DsStr.S → Option (Option Val × Option Int × List FeedOp × Out)} {fail : DsStr.S → Out}
    (hf : ∀ b w e' ops r, f (some b) = some (some w, e', ops, r) → w ≠ .strNil)
    {v : Val} (hv : v ≠ .strNil) (e : Int) : (decStrWrite f fail v e).NoNil := by
  cases v with
  | str b =>
    show (match f (some b) with
      | some (v', e', ops, r) => Act.put v' e' ops r
      | none => Act.keep (fail (some b))).NoNil
    cases hfx : f (some b) with
    | none => trivial
    | some q =>
      obtain ⟨v', e', ops, r⟩ := q
      cases v' with
      | none => trivial
      | some w => exact noNil_put (hf b w e' ops r hfx) e' ops r
  | strNil => exact absurd rfl hv
  | _ => trivial

theorem addInt_some {x : DsStr.S} {d : Int} {v' : DsStr.S} {n : Int} (h : DsStr.addInt x d = some (v', n)) :
    ∃ b, v' = some b := by
  unfold DsStr.addInt at h
  simp only at h
  split at h
  · cases h
  · split at h
    · simp only [Option.some.injEq, Prod.mk.injEq] at h
      exact ⟨_, h.1.symm⟩
    · cases h

theorem decAddInt_noNil (k : Bytes) (d : Int) (neg : Bool) {v : Val} (hv : v ≠ .strNil) (e : Int) :
    (decAddInt k d neg v e).NoNil := by
  refine decStrWrite_noNil (fun b w e' ops r h => ?_) hv e
  cases hr : (if neg then DsStr.decr (some b) d else DsStr.incr (some b) d) with
  | none => simp only [hr] at h; cases h
  | some q =>
    obtain ⟨v', n⟩ := q
    have hb : ∃ b', v' = some b' := by
      cases neg
      · exact addInt_some hr
      · exact addInt_some hr
    obtain ⟨b', rfl⟩ := hb
    simp only [hr] at h
    cases h
    exact nofun

theorem nilSafe_of_noNil (f : TxForm) (h1 : ∀ v e, v ≠ .strNil → (f.dec v e).NoNil)
    (h2 : ∀ v0, f.ctor = some v0 → v0 ≠ .strNil) : f.NilSafe :=
  nilSafe_of f (fun v e hv => (h1 v e hv).nilOut hv) (fun v0 h0 => (h1 v0 0 (h2 v0 h0)).nilOut (h2 v0 h0))

namespace Cmd

/-- none of the listed commands ever leaves a nil string behind (a fresh string key starts with the
    empty, non-nil value); only a `raw` transaction has to say so itself -/
def NilOK : Cmd → Prop
  | raw f => f.NilSafe
  | _ => True

theorem form_noNil (c : Cmd) (now : Int) (hraw : ∀ f, c ≠ raw f) {v : Val} (hv : v ≠ .strNil) (e : Int) :
    ((c.form now).dec v e).NoNil := by
  cases c with
  | raw f => exact absurd rfl (hraw f)
  | set k w keep | setXX k w keep | getSet k w | append k w =>
    dsimp only [form]
    refine decStrWrite_noNil (fun _ _ _ _ _ h => ?_) hv e
    cases h
    exact nofun
  | incrBy k d neg => exact decAddInt_noNil k d neg hv e
  | expireAt k ts | expireAtNX k ts | expireAtXX k ts | expire k secs | pexpire k ms | persist k =>
    dsimp only [form]
    exact noNil_ite _ trivial trivial
  | pop left k n =>
    cases v with
    | list l => exact noNil_ite _ trivial trivial
    | _ => exact trivial
  | hdel k fs =>
    cases v with
    | hash h => exact noNil_ite _ trivial trivial
    | _ => exact trivial
  | srem k ms =>
    cases v with
    | set st => exact noNil_ite _ trivial trivial
    | _ => exact trivial
  -- the remaining decoders match on the value and keep it or put a container
  | _ => cases v <;> exact trivial

theorem ctor_ne (c : Cmd) (now : Int) (hg : ∀ k w, c ≠ getSet k w) (hraw : ∀ f, c ≠ raw f) {v0 : Val}
    (h0 : (c.form now).ctor = some v0) : v0 ≠ .strNil := by
  rintro rfl
  cases c with
  | getSet k w => exact hg k w rfl
  | raw f => exact hraw f rfl
  | _ => cases h0

theorem nilSafe (c : Cmd) (now : Int) (hc : c.NilOK) : (c.form now).NilSafe := by
  by_cases hraw : ∃ f, c = raw f
  · obtain ⟨f, rfl⟩ := hraw; exact hc
  have hraw' : ∀ f, c ≠ raw f := fun f h => hraw ⟨f, h⟩
  by_cases hg : ∃ k w, c = getSet k w
  · -- the stand-in form of GETSET (`form`, C12Seq) has the nil string as constructor and overwrites it at once;
    -- `Api.getSet` itself publishes the empty string (`getSet_spec`)
    obtain ⟨k, w, rfl⟩ := hg
    exact nilSafe_of _ (fun v e hv => (form_noNil _ now hraw' hv e).nilOut hv) (fun v0 h0 => by cases h0; exact nofun)
  · exact nilSafe_of_noNil _ (fun v e hv => form_noNil c now hraw' hv e)
      (fun v0 h0 => ctor_ne c now (fun k w h => hg ⟨k, w, h⟩) hraw' h0)

end Cmd

/-- one step of a run: a client command, or a memory-reclamation pass of the server -/
inductive Step
  | cmd (c : Cmd) (now : Int)
  | del (keys : List Bytes) (now : Int)
  | keys (pat : Bytes) (now : Int)
  | rename (key dst : Bytes) (now : Int)
  | gc (now : Int)
  | flush (now : Int)

namespace Step
def time : Step → Int
  | cmd _ now => now | del _ now => now | keys _ now => now | rename _ _ now => now
  | gc now => now | flush now => now

def isPass : Step → Bool
  | gc _ => true | flush _ => true | _ => false

def exec : Step → MState → MState × List Out
  | cmd c now, s => ((c.run s now).1, [(c.run s now).2])
  | del ks now, s => ((Api.del s now ks).1, [(Api.del s now ks).2])
  | keys pat now, s => ((Api.keys s now pat).1, [(Api.keys s now pat).2])
  | rename key dst now, s => ((Api.rename s now key dst).1, [(Api.rename s now key dst).2])
  | gc now, s => (Store.gc s now, [])
  | flush now, s => (Store.flush s now, [])

/-- argument side conditions of the step; on Pebble: outside the nil-string region -/
def OK (pebble : Bool) : Step → Prop
  | cmd c _ => c.WF ∧ (pebble = true → c.NilOK)
  | _ => True

theorem pass_spec (st : Step) (hps : st.isPass = true) {s : MState} {t : Int} (h : StoreInvX s none t)
    (ht : t ≤ st.time) (hnil : NilFreeAt s st.time) :
    (st.exec s).2 = [] ∧ PassSpec s (st.exec s).1 st.time st.time := by
  cases st with
  | gc now =>
    have ps := gc_spec_at h ht hnil
    exact ⟨rfl, ps.inv.mono ht, ps.peb, ps.look, ps.fs0⟩
  | flush now => exact ⟨rfl, (flush_spec h ht).1⟩
  | _ => cases hps

theorem sim (st : Step) (hps : st.isPass = false) {t : Int} {s1 s2 : MState} (h : Sim t s1 s2)
    (hl : LNil s2 t) (ht : t ≤ st.time) (hok : st.OK s2.pebble) :
    (st.exec s1).2 = (st.exec s2).2 ∧ Sim t (st.exec s1).1 (st.exec s2).1 ∧ LNil (st.exec s2).1 t ∧
    (st.exec s1).1.pebble = s1.pebble ∧ (st.exec s2).1.pebble = s2.pebble := by
  cases st with
  | cmd c now =>
    obtain ⟨hwf, hnil⟩ := hok
    obtain ⟨hr, hsim⟩ := c.sim hwf h ht
    have sp1 := c.spec_run hwf h.inv1 ht
    have sp2 := c.spec_run hwf h.inv2 ht
    refine ⟨congrArg (fun r => [r]) hr, hsim, fun hp2 => ?_, sp1.peb, sp2.peb⟩
    exact lnil_tx (c.nilSafe now (hnil (sp2.peb ▸ hp2))) ht sp2 hl hp2
  | del ks now =>
    replace ht : t ≤ now := ht
    obtain ⟨hc, hsim, hl2, hp1, hp2⟩ := del_sim ht ks (s1, 0) (s2, 0) h rfl
    simp only [exec, del_eq]
    exact ⟨by rw [hc], hsim, hl2 hl, hp1, hp2⟩
  | keys pat now =>
    replace ht : t ≤ now := ht
    simp only [exec]
    rw [keys_reply h.inv1 ht pat, keys_reply h.inv2 ht pat, h.logical ht]
    exact ⟨rfl, h, hl, rfl, rfl⟩
  | rename key dst now =>
    obtain ⟨hr, hsim⟩ := rename_sim h ht key dst
    exact ⟨congrArg (fun r => [r]) hr, hsim, rename_lnil h.inv2 ht key dst hl,
      (rename_spec h.inv1 ht key dst).peb, (rename_spec h.inv2 ht key dst).peb⟩
  | _ => cases hps

end Step

def runSteps : List Step → MState → MState × List Out
  | [], s => (s, [])
  | st :: rest, s => ((runSteps rest (st.exec s).1).1, (st.exec s).2 ++ (runSteps rest (st.exec s).1).2)

def stripPasses (steps : List Step) : List Step := steps.filter (fun st => !st.isPass)

/-- time does not run backwards -/
def TimesOK : Int → List Step → Prop
  | _, [] => True
  | t, st :: rest => t ≤ st.time ∧ TimesOK st.time rest

def endTime : Int → List Step → Int
  | t, [] => t
  | _, st :: rest => endTime st.time rest

theorem stripPasses_cons_cmd {st : Step} (rest : List Step) (h : st.isPass = false) :
    stripPasses (st :: rest) = st :: stripPasses rest := by
  simp [stripPasses, h]

theorem stripPasses_cons_pass {st : Step} (rest : List Step) (h : st.isPass = true) :
    stripPasses (st :: rest) = stripPasses rest := by
  simp [stripPasses, h]

/-- `s1` runs all the steps, `s2` the same list without the passes.  The induction carries `Sim` at the time reached
    (both sides keep the invariant and show the same logical keyspace from then on), equal backend kinds, and `LNil`
    of `s2`; a pass moves `s1` alone and leaves what it shows as it was, a command moves both. -/
theorem sched_core : ∀ (steps : List Step) (t : Int) (s1 s2 : MState), Sim t s1 s2 → s1.pebble = s2.pebble →
    LNil s2 t → TimesOK t steps → (∀ st ∈ steps, st.OK s2.pebble) →
    (runSteps steps s1).2 = (runSteps (stripPasses steps) s2).2 ∧
    Sim (endTime t steps) (runSteps steps s1).1 (runSteps (stripPasses steps) s2).1 ∧
    LNil (runSteps (stripPasses steps) s2).1 (endTime t steps) ∧
    (runSteps steps s1).1.pebble = s1.pebble ∧ (runSteps (stripPasses steps) s2).1.pebble = s2.pebble := by
  intro steps
  induction steps with
  | nil => intro t s1 s2 h _ hl _ _; exact ⟨rfl, h, hl, rfl, rfl⟩
  | cons st rest ih =>
    intro t s1 s2 h hp hl hto hok
    obtain ⟨ht, hto⟩ := hto
    have hok' : ∀ st' ∈ rest, st'.OK s2.pebble := fun st' hs => hok st' (List.mem_cons_of_mem _ hs)
    cases hps : st.isPass with
    | false =>
      obtain ⟨hr, hsim, hl2, p1, p2⟩ := st.sim hps h hl ht (hok st (List.mem_cons_self ..))
      obtain ⟨a, b, c, d, e⟩ := ih st.time _ _ (hsim.mono ht) (p1.trans (hp.trans p2.symm)) (hl2.mono ht) hto
        (by rw [p2]; exact hok')
      rw [stripPasses_cons_cmd rest hps]
      exact ⟨by show _ ++ _ = _ ++ _; rw [hr, a], b, c, d.trans p1, e.trans p2⟩
    | true =>
      -- the pass happens on the left only; the two states still show the same
      obtain ⟨hr, ps⟩ := st.pass_spec hps h.inv1 ht (LNil.at h.inv1 ht (h.lnil hp hl))
      have hsim : Sim st.time (st.exec s1).1 s2 :=
        ⟨ps.inv, h.inv2.mono ht, fun t' ht' k => by rw [ps.look t' ht' k]; exact h.look t' (Int.le_trans ht ht') k⟩
      obtain ⟨a, b, c, d, e⟩ := ih st.time _ s2 hsim (ps.peb.trans hp) (hl.mono ht) hto hok'
      rw [stripPasses_cons_pass rest hps]
      exact ⟨by show _ ++ _ = _; rw [hr]; exact a, b, c, d.trans ps.peb, e⟩

theorem run_inv_lnil (steps : List Step) (t : Int) (s : MState) (h : StoreInvX s none t) (hl : LNil s t)
    (hto : TimesOK t steps) (hok : ∀ st ∈ steps, st.OK s.pebble) :
    StoreInvX (runSteps steps s).1 none (endTime t steps) ∧ LNil (runSteps steps s).1 (endTime t steps) ∧
    (runSteps steps s).1.pebble = s.pebble := by
  obtain ⟨_, b, c, d, e⟩ := sched_core steps t s s ⟨h, h, fun _ _ _ => rfl⟩ rfl hl hto hok
  exact ⟨b.inv1, b.lnil (d.trans e.symm) c, d⟩

theorem empty_lnil (pebble : Bool) (t : Int) : LNil (empty pebble) t := by
  intro _ t' _ k v e hl
  simp [lookup, getMeta, empty, AList.get?] at hl

end NodisVerif.Proofs.C11

import NodisVerif.Proofs.LinkedListUnlink
import NodisVerif.Proofs.C02
/-
  LRem at pointer level (lremAllLoop / lremAll, lremLoop / lremFwd, lrevRemLoop / lrevRem, lrem of
  Model/LinkedList.lean) refines `DsList.lrem` (Model/DsList.lean): same removed count, the chain that is
  left represents the sequence `DsList.lrem` returns, the invariant is kept, the heap keeps its size, and the
  fuel `heap.size + 1` is enough (no `Res.fuel`, no `Res.panic`).
-/
namespace NodisVerif.LinkedList
open NodisVerif.Proofs.C02 (removeFirst_nil removeFirst_cons_rem removeFirst_cons_keep removeFirst_all dslrem_pos dslrem_neg
  dslrem_zero)

theorem SameData.dataAt_eq {l l' : PList} (h : SameData l l') : dataAt l'.heap = dataAt l.heap :=
  funext h.data

theorem node_at (l : PList) (pre rest : List Nat) (x : Nat) (hi : InvC l (pre ++ x :: rest)) :
    ∃ n, l.heap[x]? = some n ∧ n.prev = lst pre none ∧ n.next = hd rest none ∧
      n.data = dataAt l.heap x := by
  obtain ⟨n, h1, h2, h3⟩ := seg_mid _ pre rest x none none hi.seg
  exact ⟨n, h1, h2, h3, (dataAt_of h1).symm⟩

theorem keep_or_spent {d value : Bytes} {count removed : Int} {k : Nat}
    (hc : ¬ (d = value ∧ (count = 0 ∨ removed < count)))
    (hk : count ≠ 0 → k = (count - removed).toNat) : d ≠ value ∨ k = 0 := by
  by_cases hv : d = value
  · have hn : ¬ (count = 0 ∨ removed < count) := fun h => hc ⟨hv, h⟩
    have := hk (fun h => hn (Or.inl h))
    right; omega
  · exact Or.inl hv

/-! ### lRem (count > 0; also correct for count = 0 with a budget that covers the rest of the chain) -/

theorem lremLoop_spec (value : Bytes) (count : Int) (suf : List Nat) :
    ∀ (pre : List Nat) (l : PList) (fuel : Nat) (removed : Int) (k : Nat),
      InvC l (pre ++ suf) → suf.length ≤ fuel →
      ((count = 0 ∧ suf.length ≤ k) ∨ (count ≠ 0 ∧ k = (count - removed).toNat)) →
      ∃ l' keep, lremLoop fuel l (hd suf none) count value removed =
          .ok (l', removed + ((DsList.removeFirst (suf.map (dataAt l.heap)) value k).2 : Nat)) ∧
        InvC l' (pre ++ keep) ∧
        keep.map (dataAt l.heap) = (DsList.removeFirst (suf.map (dataAt l.heap)) value k).1 ∧
        SameData l l' := by
  induction suf with
  | nil =>
    intro pre l fuel removed k hi _ _
    refine ⟨l, [], ?_, hi, ?_, SameData.refl l⟩
    · simp [lremLoop, removeFirst_nil]
    · simp [removeFirst_nil]
  | cons x rest ih =>
    intro pre l fuel removed k hi hf hk
    obtain ⟨n, hx, _, hnx, hdat⟩ := node_at l pre rest x hi
    cases fuel with
    | zero => simp at hf
    | succ fuel =>
      simp only [List.length_cons] at hf hk
      simp only [hd_cons, lremLoop, rd_ok hx, Res.bind_ok, List.map_cons]
      by_cases hc : n.data = value ∧ (count = 0 ∨ removed < count)
      · rw [if_pos hc]
        obtain ⟨k', rfl⟩ : ∃ k', k = k' + 1 := ⟨k - 1, by omega⟩
        obtain ⟨l1, e1, hi1, hx1, sd1⟩ := unlink_spec l pre rest x hi
        rw [hx] at hx1
        obtain ⟨l', keep, e, hi', hm, sd⟩ :=
          ih pre l1 fuel (removed + 1) k' hi1 (Nat.le_of_succ_le_succ hf)
            (hk.imp (fun h => ⟨h.1, Nat.le_of_succ_le_succ h.2⟩) (fun h => ⟨h.1, by omega⟩))
        rw [sd1.dataAt_eq] at e hm
        refine ⟨l', keep, ?_, hi', ?_, sd1.trans sd⟩
        · simp only [e1, Res.bind_ok, rd_ok hx1, hnx, e]
          rw [removeFirst_cons_rem _ _ _ _ (hdat ▸ hc.1)]
          simp only [Int.natCast_add, Int.natCast_one, Res.ok.injEq, Prod.mk.injEq, true_and]
          omega
        · rw [removeFirst_cons_rem _ _ _ _ (hdat ▸ hc.1)]
          exact hm
      · rw [if_neg hc]
        have hkeep : dataAt l.heap x ≠ value ∨ k = 0 :=
          hdat ▸ keep_or_spent hc (fun h => by omega)
        have hi2 : InvC l ((pre ++ [x]) ++ rest) := by
          rw [List.append_assoc]; exact hi
        obtain ⟨l', keep, e, hi', hm, sd⟩ :=
          ih (pre ++ [x]) l fuel removed k hi2 (Nat.le_of_succ_le_succ hf)
            (hk.imp (fun h => ⟨h.1, Nat.le_of_succ_le h.2⟩) id)
        refine ⟨l', x :: keep, ?_, ?_, ?_, sd⟩
        · simp only [hnx, e]
          rw [removeFirst_cons_keep _ _ _ _ hkeep]
        · rw [List.append_assoc] at hi'; exact hi'
        · rw [removeFirst_cons_keep _ _ _ _ hkeep, List.map_cons, hm]

theorem lremAllLoop_eq (fuel : Nat) (l : PList) (cur : Option Nat) (value : Bytes) (removed : Int) :
    lremAllLoop fuel l cur value removed = lremLoop fuel l cur 0 value removed := by
  induction fuel generalizing l cur removed with
  | zero => cases cur <;> rfl
  | succ fuel ih =>
    cases cur with
    | none => rfl
    | some cur => simp only [lremAllLoop, lremLoop, true_or, and_true, ih]

theorem lrevRemLoop_mirror (fuel : Nat) (l : PList) (cur : Option Nat) (count : Int) (value : Bytes)
    (removed : Int) :
    lrevRemLoop fuel l.mirror cur count value removed =
      (lremLoop fuel l cur count value removed).map fun p => (p.1.mirror, p.2) := by
  induction fuel generalizing l cur removed with
  | zero => cases cur <;> rfl
  | succ fuel ih =>
    cases cur with
    | none => rfl
    | some cur =>
      simp only [lrevRemLoop, lremLoop, PList.mirror_heap, rd_mirror, Res.bind_map, unlinkRev_mirror,
        Res.map_bind, ih, Node.mirror, apply_ite (Res.map _)]
      rfl

theorem lrevRem_mirror (l : PList) (count : Int) (value : Bytes) :
    lrevRem l.mirror count value = (lremFwd l count value).map fun p => (p.1.mirror, p.2) := by
  unfold lrevRem lremFwd
  rw [PList.mirror_heap, Array.size_map]
  exact lrevRemLoop_mirror _ l l.head count value 0

theorem absL_of (l l' : PList) (c keep : List Nat) (ys : List Bytes) (r : Int)
    (hi : InvC l c) (hi' : InvC l' keep) (sd : SameData l l')
    (hm : keep.map (dataAt l.heap) = ys) (hr : (ys.length : Int) + r = c.length) :
    absL l' = { items := ys, length := l.length - r } := by
  have hlen : keep.length = ys.length := by rw [← hm, List.length_map]
  unfold absL
  rw [abs_eq hi', sd.dataAt_eq, hm, hi'.length, hi.length]
  congr 1
  omega

theorem lremFwd_spec (l : PList) (c : List Nat) (hi : InvC l c) (count : Int) (value : Bytes)
    (hc : count > 0) :
    ∃ l' c', lremFwd l count value =
        .ok (l', ((DsList.removeFirst (abs l) value count.toNat).2 : Nat)) ∧ InvC l' c' ∧
      absL l' = { items := (DsList.removeFirst (abs l) value count.toNat).1,
                  length := l.length - ((DsList.removeFirst (abs l) value count.toNat).2 : Nat) } := by
  have hle := hi.length_le
  obtain ⟨l', keep, e, hi', hm, sd⟩ :=
    lremLoop_spec value count c [] l (l.heap.size + 1) 0 count.toNat (by simpa using hi) (by omega)
      (Or.inr ⟨by omega, by omega⟩)
  rw [List.nil_append] at hi'
  rw [← abs_eq hi] at e hm
  refine ⟨l', keep, ?_, hi', ?_⟩
  · unfold lremFwd
    rw [hi.head, ← hd_none, e, Int.zero_add]
  · apply absL_of l l' c keep _ _ hi hi' sd hm
    have := Proofs.C02.removeFirst_length (abs l) value count.toNat
    rw [abs_eq hi, List.length_map] at this
    rw [abs_eq hi]
    omega

theorem lremAll_spec (l : PList) (c : List Nat) (hi : InvC l c) (value : Bytes) :
    ∃ l' c', lremAll l value =
        .ok (l', (((abs l).length - ((abs l).filter (· ≠ value)).length : Nat) : Int)) ∧ InvC l' c' ∧
      absL l' = { items := (abs l).filter (· ≠ value),
                  length := l.length -
                    (((abs l).length - ((abs l).filter (· ≠ value)).length : Nat) : Int) } := by
  have hle := hi.length_le
  have hal : (abs l).length = c.length := by rw [abs_eq hi, List.length_map]
  obtain ⟨l', keep, e, hi', hm, sd⟩ :=
    lremLoop_spec value 0 c [] l (l.heap.size + 1) 0 c.length (by simpa using hi) (by omega)
      (Or.inl ⟨rfl, Nat.le_refl _⟩)
  rw [List.nil_append] at hi'
  rw [← abs_eq hi, removeFirst_all (abs l) value c.length (by omega)] at e hm
  dsimp only at e hm
  have hfl : ((abs l).filter (· ≠ value)).length ≤ (abs l).length := List.length_filter_le _ _
  refine ⟨l', keep, ?_, hi', ?_⟩
  · unfold lremAll
    rw [lremAllLoop_eq, hi.head, ← hd_none, e, Int.zero_add]
  · apply absL_of l l' c keep _ _ hi hi' sd hm
    omega

theorem lrevRem_spec (l : PList) (c : List Nat) (hi : InvC l c) (count : Int) (value : Bytes)
    (hc : count > 0) :
    ∃ l' c', lrevRem l count value =
        .ok (l', ((DsList.removeFirst (abs l).reverse value count.toNat).2 : Nat)) ∧ InvC l' c' ∧
      absL l' = { items := (DsList.removeFirst (abs l).reverse value count.toNat).1.reverse,
                  length := l.length -
                    ((DsList.removeFirst (abs l).reverse value count.toNat).2 : Nat) } := by
  obtain ⟨l1, c1, e, hi1, ha⟩ := lremFwd_spec l.mirror c.reverse hi.mirror count value hc
  rw [abs_mirror hi] at e ha
  have em := lrevRem_mirror l.mirror count value
  rw [PList.mirror_mirror, e] at em
  refine ⟨l1.mirror, c1.reverse, em, hi1.mirror, ?_⟩
  rw [absL_mirror hi1, ha]; rfl

/-- the pointer-level LRem refines `DsList.lrem`.  `hmin`: Go treats `count == math.MinInt64` as "remove
    all" (because `-count` overflows), `DsList.lrem` removes up to 2^63 occurrences from the tail; the two
    agree for a list of at most 2^63 elements. -/
theorem lrem_refines (l : PList) (hi : Inv l) (count : Int) (value : Bytes)
    (hmin : count = minInt64 → ((abs l).length : Int) ≤ 9223372036854775808) :
    ∃ l', lrem l count value = .ok (l', (DsList.lrem (absL l) count value).2) ∧ Inv l' ∧
      absL l' = (DsList.lrem (absL l) count value).1 := by
  obtain ⟨c, hi⟩ := hi
  by_cases hpos : count > 0
  · obtain ⟨l', c', e, hi', ha⟩ := lremFwd_spec l c hi count value hpos
    refine ⟨l', ?_, ⟨c', hi'⟩, ?_⟩
    · unfold lrem
      rw [if_pos hpos, e, dslrem_pos _ _ _ hpos]
      rfl
    · rw [ha, dslrem_pos _ _ _ hpos]
      rfl
  · by_cases hneg : count < 0
    · by_cases hm : count = minInt64
      · obtain ⟨l', c', e, hi', ha⟩ := lremAll_spec l c hi value
        have hk : (abs l).reverse.length ≤ (-count).toNat := by
          have := hmin hm
          rw [List.length_reverse, hm]
          unfold minInt64
          omega
        have hrf := removeFirst_all (abs l).reverse value (-count).toNat hk
        rw [List.filter_reverse, List.length_reverse, List.length_reverse] at hrf
        refine ⟨l', ?_, ⟨c', hi'⟩, ?_⟩
        · unfold lrem
          rw [if_neg hpos, if_pos hneg, if_pos hm, e, dslrem_neg _ _ _ hneg]
          show _ = Res.ok (l', (((DsList.removeFirst (abs l).reverse value (-count).toNat).2 : Nat) : Int))
          rw [hrf]
        · rw [ha, dslrem_neg _ _ _ hneg]
          show _ = ({ items := (DsList.removeFirst (abs l).reverse value (-count).toNat).1.reverse,
                      length := l.length -
                        ((DsList.removeFirst (abs l).reverse value (-count).toNat).2 : Nat) } : LList)
          rw [hrf, List.reverse_reverse]
      · obtain ⟨l', c', e, hi', ha⟩ := lrevRem_spec l c hi (-count) value (by omega)
        refine ⟨l', ?_, ⟨c', hi'⟩, ?_⟩
        · unfold lrem
          rw [if_neg hpos, if_pos hneg, if_neg hm, e, dslrem_neg _ _ _ hneg]
          rfl
        · rw [ha, dslrem_neg _ _ _ hneg]
          rfl
    · have h0 : count = 0 := by omega
      subst h0
      obtain ⟨l', c', e, hi', ha⟩ := lremAll_spec l c hi value
      refine ⟨l', ?_, ⟨c', hi'⟩, ?_⟩
      · unfold lrem
        rw [if_neg hpos, if_neg hneg, e, dslrem_zero]
        rfl
      · rw [ha, dslrem_zero]
        rfl

end NodisVerif.LinkedList

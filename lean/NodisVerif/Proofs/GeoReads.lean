import NodisVerif.Proofs.C20Core
import NodisVerif.Model.Handler4
import NodisVerif.Proofs.C09Table3
/-
  The read commands of the GEO family (GEOHASH, GEOPOS, GEODIST, GEORADIUS, GEORADIUSBYMEMBER) never
  write: the store their closure ends in is the one `readKey` returned (access counter, lock
  bookkeeping, a cold value loaded), so no watcher is signalled, no change record is emitted, and no
  key's logical content changes.
-/
namespace NodisVerif.Proofs.GeoReads
open NodisVerif NodisVerif.Store NodisVerif.Api NodisVerif.Resp
open NodisVerif.Proofs.C09Writers NodisVerif.Proofs.C20
open NodisVerif.Handler3 (Pre)
open NodisVerif.Proofs.C08Step NodisVerif.Proofs.C08Step.T3

/-- what a read leaves alone: the watch signals, the change feed (and whether a watcher is attached), and -
    up to `unchanged`: access counter, a cold value loaded - every record that is not signalled -/
def ReadKept (st s' : MState) : Prop := s'.signalled = st.signalled ∧ fl s' = fl st ∧ Frame [] st s'

def ReadOnly (b : Body) : Prop := ∀ st now ch, ReadKept st (b st now ch).store

def ReadOnlyRes : HRes → Prop
  | .exec b => ReadOnly b
  | _ => True

theorem signalled_readKey (s : MState) (now : Int) (k : Bytes) : (readKey s now k).1.signalled = s.signalled :=
  (quiet_readKey s now k).sig

theorem kept_readKey (st : MState) (now : Int) (key : Bytes) : ReadKept st (readKey st now key).1 :=
  ⟨signalled_readKey st now key, fl_readKey st now key, frame_readKey st now key⟩

theorem ReadOnly.of_read {b : Body} {key : Bytes}
    (h : ∀ st now ch, (b st now ch).store = (readKey st now key).1) : ReadOnly b := by
  intro st now ch
  rw [h st now ch]
  exact kept_readKey st now key

theorem ro_run {p : Pre HRes} (h : PreAll ReadOnlyRes p) : ReadOnlyRes p.run := by
  cases p with
  | ok r => exact h
  | err => trivial
  | crash => trivial
  | unsup => exact fun st _ _ => ⟨rfl, rfl, Frame.refl _ _⟩

/-! Every exit of the five closures is `done s …` or `panicOut s` on the store `s` that `readKey` returned: one
    `rfl` per exit, in the order of the handler's text. -/

theorem ro_geoHashH (args : List Bytes) : ReadOnlyRes (Handler4.geoHashH args) := by
  unfold Handler4.geoHashH
  split
  · apply ReadOnly.of_read
    intro st now ch
    dsimp only
    split
    · rfl
    · split
      · rfl
      · rfl
  · trivial

theorem ro_geoPosH (args : List Bytes) : ReadOnlyRes (Handler4.geoPosH args) := by
  unfold Handler4.geoPosH
  split
  · apply ReadOnly.of_read
    intro st now ch
    dsimp only
    split
    · rfl
    · split
      · rfl
      · rfl
  · trivial

theorem ro_geoDistH (args : List Bytes) : ReadOnlyRes (Handler4.geoDistH args) := by
  unfold Handler4.geoDistH
  split
  · apply ReadOnly.of_read
    intro st now ch
    dsimp only
    split
    · rfl
    · split
      · rfl
      · split
        · split
          · rfl
          · rfl
        · rfl
  · trivial

theorem ro_geoRadiusH (args : List Bytes) : ReadOnlyRes (Handler4.geoRadiusH args) := by
  unfold Handler4.geoRadiusH
  split
  · refine ro_run (preAll_bind _ _ fun _ => preAll_bind _ _ fun _ => preAll_bind _ _ fun _ => preAll_bind _ _ fun _ =>
      preAll_pure ?_)
    apply ReadOnly.of_read
    intro st now ch
    dsimp only
    split
    · rfl
    · split
      · rfl
      · split
        · rfl
        · rfl
  · trivial

theorem ro_geoRadiusByMemberH (args : List Bytes) : ReadOnlyRes (Handler4.geoRadiusByMemberH args) := by
  unfold Handler4.geoRadiusByMemberH
  split
  · refine ro_run (preAll_bind _ _ fun _ => preAll_bind _ _ fun _ => preAll_pure ?_)
    apply ReadOnly.of_read
    intro st now ch
    dsimp only
    split
    · rfl
    · split
      · rfl
      · split
        · rfl
        · split
          · rfl
          · rfl
  · trivial

def geoReads : List String := ["GEOHASH", "GEOPOS", "GEODIST", "GEORADIUS", "GEORADIUSBYMEMBER"]

theorem ReadOnlyRes.exec {r : HRes} {b : Body} (hr : ReadOnlyRes r) (h : some r = some (.exec b)) : ReadOnly b := by
  cases h; exact hr

theorem geoReads_readOnly (name : String) (args : List Bytes) (b : Body) (hn : name ∈ geoReads)
    (h : Handler4.table4 name args = some (.exec b)) : ReadOnly b := by
  simp only [geoReads, List.mem_cons, List.not_mem_nil, or_false] at hn
  rcases hn with rfl | rfl | rfl | rfl | rfl
  · exact (ro_geoHashH args).exec h
  · exact (ro_geoPosH args).exec h
  · exact (ro_geoDistH args).exec h
  · exact (ro_geoRadiusH args).exec h
  · exact (ro_geoRadiusByMemberH args).exec h

/-- started as `runBody` starts every closure (no signal recorded yet), a read-only closure signals nothing, emits
    nothing and leaves every record logically as it was -/
theorem readOnly_effect {b : Body} (hb : ReadOnly b) (st : MState) (now : Int) (ch : Choice) (h0 : st.signalled = []) :
    (b st now ch).store.signalled = [] ∧ (b st now ch).store.feed = st.feed ∧
    ∀ k, unchanged (getMeta st k) (getMeta (b st now ch).store k) := by
  obtain ⟨h1, h2, h3⟩ := hb st now ch
  refine ⟨h1.trans h0, congrArg Prod.fst h2, fun k => h3.keep k (fun hd => nomatch hd) ?_⟩
  rw [h1, h0]; exact fun hd => nomatch hd

end NodisVerif.Proofs.GeoReads

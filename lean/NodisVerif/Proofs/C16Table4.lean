import NodisVerif.Proofs.HandlerShape4
import NodisVerif.Proofs.C16Table3
/-
  C16 for `Handler4.table4` (CLIENT, CONFIG, INFO, QUIT, SAVE, GEO*): every handler writes exactly one
  RESP value for every argument vector, store, clock and choice (`table4_tableOneReply`), and only
  tokens a strict reader accepts (`table4_wire`).  The table is walked once (`HandlerShape.table4_elim`); the two radius
  queries are in normal form (HandlerShape4.lean).
-/
namespace NodisVerif.Proofs.C16Table4
open NodisVerif NodisVerif.Resp NodisVerif.Handler NodisVerif.Handler3 NodisVerif.Handler4
open NodisVerif.Proofs.C16Handlers NodisVerif.Proofs.C16Table3
open NodisVerif.Proofs.C08Step hiding replyOf
open NodisVerif.Spec.RespReply (cleanLine)

theorem clean_clientList : cleanLine Handler4.clientListText = true := by decide +kernel

theorem wf_client (args : List Bytes) : WfRes (Handler4.client args) := by
  unfold Handler4.client
  split
  · exact wf_errReply
  · intro s now ch
    exact wfOut_ite _ (wf_done_tok _ _ (tokWf_simple _ clean_clientList))
      (wfOut_ite _ (wf_done_tok _ _ tokWf_ok) (wf_done_tok _ _ rfl))

theorem wf_config (args : List Bytes) : WfRes (Handler4.config args) := by
  unfold Handler4.config
  split
  · intro s now ch
    dsimp only
    split
    · exact wf_done _ _ (wf_arr_scalars [.bulk _, .bulk _] (by intro t ht; simp at ht; rcases ht with rfl | rfl <;> rfl))
    · exact wf_done_tok _ _ rfl
  · exact wf_errReply

theorem wf_info : WfRes Handler4.info := fun _ _ _ => wf_done_tok _ _ rfl
theorem wf_quit : WfRes Handler4.quit := fun _ _ _ => wf_done_tok _ _ tokWf_ok
theorem wf_save : WfRes Handler4.save := fun _ _ _ => wf_done_tok _ _ tokWf_ok
theorem one_reply_save : OneReply Handler4.save := wf_save.one
theorem wire_save : WireRes Handler4.save := wf_save.wire

theorem wf_geoAddH (args : List Bytes) : WfRes (Handler4.geoAddH args) := by
  unfold Handler4.geoAddH
  apply wfRes_ite _ _ _ wf_errReply
  split
  · exact wf_errReply
  · dsimp only
    apply wfRes_ite _ _ _ wf_errReply
    apply wfRes_ite _ _ _ wf_errReply
    generalize parseItems _ = p
    cases p with
    | ok items => exact fun _ _ _ => wf_call_all _ _ HandlerShape.Render.int.wf
    | err => exact wf_errReply
    | crash => trivial
    | unsup => exact fun _ _ _ => wf_single _ tokWf_unsupported

theorem wf_geoHashH (args : List Bytes) : WfRes (Handler4.geoHashH args) := by
  unfold Handler4.geoHashH
  split
  · intro s now ch
    dsimp only
    split
    · exact wf_done _ _ wf_arr0
    · split
      · exact wf_panic_nil _
      · exact wf_done _ _ (wf_bulkList _)
  · exact wf_errReply

theorem geoPosVals_length (z : ZSet) : ∀ (ms texts : List Bytes), (geoPosVals z ms texts).length = ms.length := by
  intro ms
  induction ms with
  | nil => intro texts; rfl
  | cons m rest ih =>
    intro texts
    unfold geoPosVals
    split <;> simp [ih]

theorem geoPosVals_values (z : ZSet) : ∀ (ms texts : List Bytes), ∀ v ∈ geoPosVals z ms texts, WfToks v := by
  intro ms
  induction ms with
  | nil => intro texts v hv; simp [geoPosVals] at hv
  | cons m rest ih =>
    intro texts v hv
    unfold geoPosVals at hv
    split at hv
    · rcases List.mem_cons.1 hv with rfl | h
      · exact wf_single _ rfl
      · exact ih _ v h
    · rcases List.mem_cons.1 hv with rfl | h
      · exact wf_arr_scalars [.bulk _, .bulk _] (by intro t ht; simp at ht; rcases ht with rfl | rfl <;> rfl)
      · exact ih _ v h

theorem wf_geoPosH (args : List Bytes) : WfRes (Handler4.geoPosH args) := by
  unfold Handler4.geoPosH
  split
  · intro s now ch
    dsimp only
    split
    · exact wf_panic_nil _
    · split
      · exact wf_panic_nil _
      · exact wf_done _ _ (wf_arr_flatten' _ _ (by rw [geoPosVals_length]) (geoPosVals_values _ _ _))
  · exact wf_errReply

theorem wf_geoDistH (args : List Bytes) : WfRes (Handler4.geoDistH args) := by
  unfold Handler4.geoDistH
  split
  · intro s now ch
    dsimp only
    split
    · exact wf_done_tok _ _ rfl
    · split
      · exact wf_panic_nil _
      · split
        · split <;> exact wf_done_tok _ _ rfl
        · exact wf_done_tok _ _ rfl
  · exact wf_errReply

theorem wf_pair (a b : Bytes) : WfToks [Tok.arr 2, .bulk a, .bulk b] :=
  wf_arr_scalars [.bulk a, .bulk b] (by intro t ht; simp at ht; rcases ht with rfl | rfl <;> rfl)

theorem wf_optional (c : Bool) (v : List Tok) (hv : WfToks v) : ∀ w ∈ (if c then [v] else []), WfToks w := by
  intro w hw
  cases c with
  | false => cases hw
  | true => rw [List.mem_singleton.1 hw]; exact hv

/-- `*l`, a scalar, and the `l - 1` optional values that were asked for -/
theorem wf_withOptions (m d h : Tok) (p : List Tok) (dist hash coord : Bool) (hm : tokWf m = true)
    (hd : tokWf d = true) (hh : tokWf h = true) (hp : WfToks p) :
    WfToks ([Tok.arr (1 + (if coord then 1 else 0) + (if dist then 1 else 0) + (if hash then 1 else 0)), m] ++
      (if dist then [d] else []) ++ (if hash then [h] else []) ++ (if coord then p else [])) := by
  have := wf_arr_flatten' (1 + (if coord then 1 else 0) + (if dist then 1 else 0) + (if hash then 1 else 0))
    ([[m]] ++ (if dist then [[d]] else []) ++ (if hash then [[h]] else []) ++ (if coord then [p] else [])) ?_ ?_
  · cases dist <;> cases hash <;> cases coord <;> simpa using this
  · cases dist <;> cases hash <;> cases coord <;> rfl
  · intro v hv
    simp only [List.mem_append] at hv
    rcases hv with ((hv | hv) | hv) | hv
    · rw [List.mem_singleton.1 hv]; exact wf_single m hm
    · exact wf_optional dist [d] (wf_single d hd) v hv
    · exact wf_optional hash [h] (wf_single h hh) v hv
    · exact wf_optional coord p hp v hv

theorem wf_radiusElem (z : ZSet) (o : RadiusOpts) (fd : Option Bytes) (c : List Bytes) :
    WfToks (radiusElem z o fd c) := by
  unfold radiusElem
  by_cases hp : o.plain = true
  · rw [if_pos hp]
    exact wf_single _ rfl
  · rw [if_neg hp]
    exact wf_withOptions _ _ _ _ _ _ _ rfl rfl rfl (wf_pair _ _)
theorem wf_radiusReply (z : ZSet) (o : RadiusOpts) (fd : Option Bytes) (ch : Choice) :
    WfToks (radiusReply z o fd ch) := by
  unfold radiusReply
  exact wf_arr_flatten' _ _ (by rw [List.length_map]) (by
    intro v hv
    rw [List.mem_map] at hv
    obtain ⟨c, _, rfl⟩ := hv
    exact wf_radiusElem z o fd c)

theorem Special4.wf {r : HRes} (h : HandlerShape.Special4 r) : WfRes r := by
  cases h with
  | radius args key lon lat =>
    intro s now ch
    dsimp only
    split
    · exact wf_done _ _ wf_arr0
    · split
      · exact wf_done_tok _ _ rfl
      · split
        · exact wf_panic_nil _
        · exact wf_done _ _ (wf_radiusReply _ _ _ _)
  | radiusByMember args key member =>
    intro s now ch
    dsimp only
    split
    · exact wf_done _ _ wf_arr0
    · split
      · exact wf_panic_nil _
      · split
        · exact wf_done_tok _ _ rfl
        · split
          · exact wf_done_tok _ _ rfl
          · exact wf_done _ _ (wf_radiusReply _ _ _ _)

theorem table4_wf (name : String) (args : List Bytes) (r : HRes)
    (h : Handler4.table4 name args = some r) : WfRes r :=
  HandlerShape.table4_elim (P := fun _ _ r => WfRes r) (HandlerShape.Shape.wf fun _ => Special4.wf)
    wf_client wf_config (fun _ => wf_info) (fun _ => wf_quit) (fun _ => wf_save) wf_geoAddH wf_geoHashH wf_geoPosH
    wf_geoDistH name args r h

theorem table4_tableOneReply : TableOneReply Handler4.table4 :=
  fun name args r h => (table4_wf name args r h).one

theorem table4_wire : TableWire Handler4.table4 := fun name args r h => (table4_wf name args r h).wire

end NodisVerif.Proofs.C16Table4

import NodisVerif.Proofs.TxProgRefine

/-
  Program model of tx.go: the stronger invariant `Strong` (simulation relation + lock order + registration of held keys +
  ownership of `store.mu` inside its sections), under which the callers' conditions `Guarded` of the simulation hold
  (`guarded_of_strong`); its thread-local part `LF`, its shared part `SF`, and the classes of program counters they speak
  of.  That `Strong` is inductive is `strong_step` (Proofs/TxProgInv.lean).
-/
namespace NodisVerif.Proofs.TxProg
open NodisVerif.Proto (Key Rec Mode Ev Hold TxSt PState assoc erase put Tx)
open NodisVerif.TxProg
open NodisVerif.Proofs.Proto

/-- program counters inside an `s.mu.Lock()` … `s.mu.Unlock()` section -/
def inW : Pc → Bool
  | .a5 | .a6r | .a6c | .n3 | .n4 | .d2 | .d3 | .d4 | .c9 | .c10 | .g8 | .g9 => true
  | _ => false

/-- program counters inside an `s.mu.RLock()` … `s.mu.RUnlock()` section -/
def inR : Pc → Bool
  | .a2 | .a3 | .a11 | .a12 | .g5 | .g6 => true
  | _ => false

def acqPc : Pc → Bool
  | .a1 | .a2 | .a3 | .a4 | .a5 | .a6r | .a6c | .a7 | .a8 | .a9 | .a10 | .a11 | .a12 | .a13 | .a14 => true
  | _ => false

def afterWait : Pc → Bool
  | .a7 | .a8 | .a9 | .a10 | .a11 | .a12 | .a13 | .a14 => true
  | _ => false

/-- the growing phase of a transaction (before `commit`) -/
def grow : Pc → Bool
  | .idle | .a1 | .a2 | .a3 | .a4 | .a5 | .a6r | .a6c | .a7 | .a8 | .a9 | .a10 | .a11 | .a12 | .a13 | .a14
  | .n1 | .n2 | .n3 | .n4 | .d1 | .d2 | .d3 | .d4 => true
  | _ => false

theorem tstep_evTx {s s' : Shared} {t : Tid} {l l' : Loc} {ch : Choice} {ev : Ev}
    (h : tstep s t l ch = some (s', l', some ev)) : evTx ev = some t := by
  replace h := tstep_inv h
  cases h <;> rfl

theorem tstep_maps {s s' : Shared} {t : Tid} {l l' : Loc} {ch : Choice} {e : Option Ev}
    (h : tstep s t l ch = some (s', l', e)) (hw : inW l.pc = false) :
    s'.index = s.index ∧ s'.pending = s.pending := by
  replace h := tstep_inv h
  cases h
  -- the transitions that write a map sit inside a `Lock` section
  case a5_claim | n3_publish | d2_unlink | d3 | c9_drop | g8 => rw [‹l.pc = _›] at hw; cases hw
  all_goals exact ⟨rfl, rfl⟩

theorem pc_nextPlan (l : Loc) : (nextPlan l).pc = .idle ∨ (nextPlan l).pc = .a1 := by
  unfold nextPlan; split <;> simp
theorem pc_retTo (l : Loc) : (retTo l).pc = .idle ∨ (retTo l).pc = .a1 ∨ (retTo l).pc = .n1 := by
  unfold retTo; split
  · rcases pc_nextPlan l with h | h <;> simp [h]
  · simp
  · simp
theorem pc_commitNext (s : Shared) (l : Loc) :
    (commitNext s l).pc = .cend ∨ (commitNext s l).pc = .c2 ∨ (commitNext s l).pc = .c4 ∨ (commitNext s l).pc = .c8 := by
  unfold commitNext; split; simp; split; simp; split <;> simp

@[simp] theorem inW_nextPlan (l : Loc) : inW (nextPlan l).pc = false := by unfold nextPlan; split <;> rfl
@[simp] theorem inR_nextPlan (l : Loc) : inR (nextPlan l).pc = false := by unfold nextPlan; split <;> rfl
@[simp] theorem inW_retTo (l : Loc) : inW (retTo l).pc = false := by
  unfold retTo; split; exact inW_nextPlan l; rfl; rfl
@[simp] theorem inR_retTo (l : Loc) : inR (retTo l).pc = false := by
  unfold retTo; split; exact inR_nextPlan l; rfl; rfl
@[simp] theorem inW_commitNext (s : Shared) (l : Loc) : inW (commitNext s l).pc = false := by
  rcases pc_commitNext s l with h | h | h | h <;> rw [h] <;> rfl
@[simp] theorem inR_commitNext (s : Shared) (l : Loc) : inR (commitNext s l).pc = false := by
  rcases pc_commitNext s l with h | h | h | h <;> rw [h] <;> rfl

/-- what one transition of `t` does to `store.mu`: the mutex and the thread's section bits (`inW`, `inR`) before,
    and after.  The sections are bracketed: a lock operation enters one from outside, the unlock leaves it. -/
inductive SmuStep (t : Tid) (m : Mu) : Bool → Bool → Mu → Bool → Bool → Prop
  | keep {w r} : SmuStep t m w r m w r
  | rlock : m.canRLock = true → SmuStep t m false false (m.rlock t) false true
  | runlock : SmuStep t m false true (m.runlock t) false false
  | lock : m.canLock = true → SmuStep t m false false (m.lock t) true false
  | unlock : SmuStep t m true false m.unlock false false

theorem tstep_smuStep {s s' : Shared} {t : Tid} {l l' : Loc} {ch : Choice} {e : Option Ev}
    (h : tstep s t l ch = some (s', l', e)) :
    SmuStep t s.smu (inW l.pc) (inR l.pc) s'.smu (inW l'.pc) (inR l'.pc) := by
  replace h := tstep_inv h
  cases h
  all_goals rw [‹l.pc = _›]
  -- the continuations `nextPlan`, `retTo`, `commitNext` land outside every section
  case begin | a3_miss | a3_held | a6c | a12_ok | c0 | c3 | c6_fail | c12 =>
    simp only [inW_retTo, inR_retTo, inW_nextPlan, inR_nextPlan, inW_commitNext, inR_commitNext]
    constructor
  -- elsewhere the section bits are those of the two program counters: the matching constructor, with the guard of the
  -- lock operation as its hypothesis
  all_goals constructor
  all_goals assumption

theorem SmuStep.owner {t : Tid} {m m' : Mu} {w r w' r' : Bool} (h : SmuStep t m w r m' w' r') (hwf : wfMu m)
    (hW : w = true → m.writer = some t) (hR : r = true → t ∈ m.readers) :
    wfMu m' ∧ (w' = true → m'.writer = some t) ∧ (r' = true → t ∈ m'.readers) ∧
    (∀ u, u ≠ t → (m.writer = some u → m'.writer = some u) ∧ (u ∈ m.readers → u ∈ m'.readers)) := by
  cases h with
  | keep => exact ⟨hwf, hW, hR, fun _ _ => ⟨id, id⟩⟩
  | rlock hc => exact ⟨wf_rlock hc t, nofun, fun _ => List.mem_cons_self, fun _ _ => ⟨id, List.mem_cons_of_mem _⟩⟩
  | runlock => exact ⟨wf_runlock hwf t, nofun, nofun, fun _ hu => ⟨id, (List.mem_erase_of_ne hu).2⟩⟩
  | lock hc =>
    simp only [Mu.canLock, Bool.and_eq_true, Option.isNone_iff_eq_none, List.isEmpty_iff] at hc
    refine ⟨wf_lock (by simp [Mu.canLock, hc]) t, fun _ => rfl, nofun, fun u _ => ⟨fun hu => ?_, id⟩⟩
    rw [hc.1] at hu; cases hu
  | unlock =>
    refine ⟨wf_unlock m, nofun, nofun, fun u hu => ⟨fun hw => ?_, id⟩⟩
    rw [hW rfl] at hw; exact absurd (Option.some.inj hw).symm hu

theorem tstep_smu {s s' : Shared} {t : Tid} {l l' : Loc} {ch : Choice} {e : Option Ev}
    (h : tstep s t l ch = some (s', l', e)) (hwf : wfMu s.smu) (hW : inW l.pc = true → s.smu.writer = some t)
    (hR : inR l.pc = true → t ∈ s.smu.readers) :
    wfMu s'.smu ∧ (inW l'.pc = true → s'.smu.writer = some t) ∧ (inR l'.pc = true → t ∈ s'.smu.readers) ∧
    (∀ u, u ≠ t → (s.smu.writer = some u → s'.smu.writer = some u) ∧ (u ∈ s.smu.readers → u ∈ s'.smu.readers)) :=
  (tstep_smuStep h).owner hwf hW hR

/-- `store.mu`, the converse direction: whoever owns the mutex is inside a section -/
theorem SmuStep.section {t : Tid} {m m' : Mu} {w r w' r' : Bool} (h : SmuStep t m w r m' w' r')
    (hnd : m.readers.Nodup) (hW : m.writer = some t → w = true) (hR : t ∈ m.readers → r = true) :
    m'.readers.Nodup ∧ (m'.writer = some t → w' = true) ∧ (t ∈ m'.readers → r' = true) ∧
    (∀ u, u ≠ t → (m'.writer = some u → m.writer = some u) ∧ (u ∈ m'.readers → u ∈ m.readers)) := by
  cases h with
  | keep => exact ⟨hnd, hW, hR, fun _ _ => ⟨id, id⟩⟩
  | rlock hc =>
    refine ⟨List.nodup_cons.2 ⟨fun hm => Bool.noConfusion (hR hm), hnd⟩, hW, fun _ => rfl, fun u hu => ⟨id, fun hm => ?_⟩⟩
    exact (List.mem_cons.1 hm).resolve_left hu
  | runlock =>
    exact ⟨hnd.erase t, hW, fun hm => absurd rfl ((List.Nodup.mem_erase_iff hnd).1 hm).1,
      fun _ _ => ⟨id, List.mem_of_mem_erase⟩⟩
  | lock hc =>
    refine ⟨hnd, fun _ => rfl, hR, fun u hu => ⟨fun hw => ?_, id⟩⟩
    exact absurd (Option.some.inj hw).symm hu
  | unlock => exact ⟨hnd, nofun, hR, fun _ _ => ⟨nofun, id⟩⟩

theorem tstep_smu_conv {s s' : Shared} {t : Tid} {l l' : Loc} {ch : Choice} {e : Option Ev}
    (h : tstep s t l ch = some (s', l', e)) (hnd : s.smu.readers.Nodup)
    (hW : s.smu.writer = some t → inW l.pc = true) (hR : t ∈ s.smu.readers → inR l.pc = true) :
    s'.smu.readers.Nodup ∧ (s'.smu.writer = some t → inW l'.pc = true) ∧ (t ∈ s'.smu.readers → inR l'.pc = true) ∧
    (∀ u, u ≠ t → (s'.smu.writer = some u → s.smu.writer = some u) ∧ (u ∈ s'.smu.readers → u ∈ s.smu.readers)) :=
  (tstep_smuStep h).section hnd hW hR

structure LF (l : Loc) : Prop where
  /-- inside `acquire`: in the locking phase every held key is smaller than the key being locked and the
      remaining keys are increasing; `newKey` asks for the write lock with a placeholder; a call from the
      command body names a key that is held -/
  acq : acqPc l.pc = true →
    (l.ret = .plan → (∀ g ∈ l.held, g.key < l.key ∨ (l.pc = .a6c ∧ g.key = l.key)) ∧
        sortedKeys (l.key :: l.todo.map (·.1)) = true) ∧
    (l.ret = .newKey → l.write = true ∧ l.ph = true) ∧
    (l.ret ≠ .plan → holdsName l l.key = true)
  /-- a call from the command body finds a record the transaction holds -/
  a3 : l.pc = .a3 → l.ret ≠ .plan → l.okcur = true → (holdOf l l.m).isSome = true
  /-- so only the locking phase ever waits for a record lock -/
  aw : afterWait l.pc = true → l.ret = .plan
  /-- the placeholder just claimed is in `lockedMetas` (a6c), so is the record `newKey` works on (n1 … n3) -/
  a6 : l.pc = .a6c → (⟨l.m, l.key, modeOf l.write, true⟩ : Hold) ∈ l.held
  nk : (l.pc = .n1 ∨ l.pc = .n2 ∨ l.pc = .n3) → (⟨l.m, l.key, .w, true⟩ : Hold) ∈ l.held
  /-- delKey works on a key whose records are write-held: what `Guarded` asks at d2 -/
  dk : (l.pc = .d1 ∨ l.pc = .d2) → (∀ h ∈ l.held, h.key = l.key → h.mode = .w) ∧ holdsName l l.key = true

theorem sortedKeys_cons {a b : Key} {l : List Key} (h : sortedKeys (a :: b :: l) = true) :
    a < b ∧ sortedKeys (b :: l) = true := by
  simpa [sortedKeys] using h

theorem sortedKeys_tail {a : Key} {l : List Key} (h : sortedKeys (a :: l) = true) : sortedKeys l = true := by
  cases l with
  | nil => rfl
  | cons b l => exact (sortedKeys_cons h).2

theorem lf_nextPlan {l : Loc} (h1 : ∀ k' w p rest, l.todo = (k', w, p) :: rest → ∀ g ∈ l.held, g.key < k')
    (h2 : sortedKeys (l.todo.map (·.1)) = true) : LF (nextPlan l) := by
  unfold nextPlan
  split
  · exact ⟨nofun, nofun, nofun, nofun, nofun, nofun⟩
  · rename_i k w ph todo hk
    rw [hk] at h2
    -- at a1 with `ret = .plan` only the first part of the `acq` clause says something
    exact ⟨fun _ => ⟨fun _ => ⟨fun g hg => Or.inl (h1 k w ph todo hk g hg), by simpa using h2⟩, nofun, fun h => absurd rfl h⟩,
      nofun, nofun, nofun, nofun, nofun⟩

theorem lf_retTo {l : Loc}
    (h1 : l.ret = .plan → (∀ g ∈ l.held, g.key < l.key ∨ g.key = l.key) ∧ sortedKeys (l.key :: l.todo.map (·.1)) = true)
    (h2 : l.ret = .newKey → (⟨l.m, l.key, .w, true⟩ : Hold) ∈ l.held) : LF (retTo l) := by
  unfold retTo
  split
  · rename_i hr
    obtain ⟨a, b⟩ := h1 hr
    refine lf_nextPlan ?_ (sortedKeys_tail b)
    intro k' w p rest hk g hg
    rw [hk] at b
    have hlt := (sortedKeys_cons (by simpa using b)).1
    rcases a g hg with h | h
    · exact String.lt_trans h hlt
    · rw [h]; exact hlt
  · exact ⟨nofun, nofun, nofun, nofun, nofun, nofun⟩
  · rename_i hr
    exact ⟨nofun, nofun, nofun, nofun, fun _ => h2 hr, nofun⟩

/-- a transition inside `acquire` that only moves the pc (and locals that `LF` does not read) -/
theorem lf_move {l l' : Loc} {pc pc' : Pc} (h : LF l) (hpc : l.pc = pc) (hpc' : l'.pc = pc')
    (ha : acqPc pc = true) (ha' : acqPc pc' = true) (haw : afterWait pc' = true → l.ret = .plan)
    (hk : l'.key = l.key) (hr : l'.ret = l.ret) (hh : l'.held = l.held) (ht : l'.todo = l.todo)
    (hwr : l.write = true → l'.write = true) (hph : l'.ph = l.ph)
    (h6 : pc ≠ .a6c) (h6' : pc' ≠ .a6c)
    (h3' : pc' = .a3 → l'.ret ≠ .plan → l'.okcur = true → (holdOf l' l'.m).isSome = true) : LF l' := by
  obtain ⟨a, b, c⟩ := h.acq (by rw [hpc]; exact ha)
  refine ⟨fun _ => ⟨?_, ?_, ?_⟩, fun x => h3' (hpc' ▸ x), ?_, fun e => absurd (hpc' ▸ e) h6', ?_, ?_⟩
  · intro hp
    rw [hr] at hp
    obtain ⟨a1, a2⟩ := a hp
    rw [hk, hh, ht]
    refine ⟨fun g hg => ?_, a2⟩
    rcases a1 g hg with x | x
    · exact Or.inl x
    · exact absurd (hpc ▸ x.1) h6
  · intro hn; rw [hr] at hn; rw [hph]; exact ⟨hwr (b hn).1, (b hn).2⟩
  · intro hn; rw [hr] at hn; simpa [holdsName, hh, hk] using c hn
  · intro x; rw [hr]; exact haw (hpc' ▸ x)
  · intro x; rcases x with x | x | x <;> rw [hpc'] at x <;> rw [x] at ha' <;> cases ha'
  · intro x; rcases x with x | x <;> rw [hpc'] at x <;> rw [x] at ha' <;> cases ha'

def nkdk : Pc → Bool
  | .n1 | .n2 | .n3 | .d1 | .d2 => true
  | _ => false

def lfAt (pc : Pc) : Bool := acqPc pc || afterWait pc || nkdk pc

theorem lf_outside {l : Loc} (h : lfAt l.pc = false) : LF l := by
  simp only [lfAt, Bool.or_eq_false_iff] at h
  obtain ⟨⟨h1, h2⟩, h3⟩ := h
  refine ⟨fun x => ?_, fun x => ?_, fun x => ?_, fun x => ?_, fun x => ?_, fun x => ?_⟩
  · rw [h1] at x; cases x
  · rw [x] at h1; cases h1
  · rw [h2] at x; cases x
  · rw [x] at h1; cases h1
  · rcases x with x | x | x <;> rw [x] at h3 <;> cases h3
  · rcases x with x | x <;> rw [x] at h3 <;> cases h3

structure SF (s : Shared) (t : Tid) (l : Loc) : Prop where
  w : inW l.pc = true → s.smu.writer = some t
  r : inR l.pc = true → t ∈ s.smu.readers
  /-- delKey, between the unlink and the placeholder: nobody has registered the key -/
  d3 : l.pc = .d3 → s.lookup l.key = none
  /-- before the commit, the record registered under the name of a held record is held, too -/
  reg : grow l.pc = true → ∀ g ∈ l.held, (l.pc = .d3 → g.key ≠ l.key) → ∃ g' ∈ l.held, s.lookup g.key = some g'.rid
  vreg : l.pc = .a12 → l.okcur = true → s.lookup l.key = some l.m
  /-- gcRecord, from its validation to its unlink: the record is the indexed one -/
  gidx : (l.pc = .g6 ∨ l.pc = .g7 ∨ l.pc = .g8) → l.okcur = true → assoc s.index l.key = some l.m

structure Strong (c : Cfg) (p : PState) : Prop where
  sim : Sim c p
  swf : wfMu c.sh.smu
  lf  : ∀ t, LF (c.loc t)
  sf  : ∀ t, SF c.sh t (c.loc t)
  /-- the converse for `store.mu`: its owners are inside a section, each reader once -/
  rnd : c.sh.smu.readers.Nodup
  conv : ∀ u, (c.sh.smu.writer = some u → inW (c.loc u).pc = true) ∧ (u ∈ c.sh.smu.readers → inR (c.loc u).pc = true)

theorem Strong.init : Strong {} {} where
  sim := Sim.init
  swf := wfMu_default
  lf := fun _ => lf_outside rfl
  sf := fun _ => by rw [loc_default]; constructor <;> simp [inW, inR, grow]
  rnd := List.nodup_nil
  conv := by intro u; constructor <;> intro h <;> cases h

theorem guarded_of_strong {c : Cfg} {p : PState} (h : Strong c p) (t : Tid) : Guarded c t := by
  refine ⟨?_, ?_, ?_, ?_, ?_⟩
  · intro hpc g hg
    have hr := (h.lf t).aw (by simp [hpc, afterWait])
    obtain ⟨a, _⟩ := ((h.lf t).acq (by simp [hpc, acqPc])).1 hr
    rcases a g hg with x | x
    · exact x
    · rw [hpc] at x; cases x.1
  · intro hpc _; exact (h.lf t).nk (Or.inr (Or.inr hpc))
  · intro hpc r g hidx hgo
    have hs := h.sim
    obtain ⟨hmem, -, hkey⟩ := hs.held_of_named (k := (c.loc t).key) hgo (by simp [holdsOf, hpc])
      (hs.named (by simp [Shared.lookup, hidx]))
    exact ((h.lf t).dk (Or.inr hpc)).1 g hmem hkey
  · intro hpc; exact (h.sf t).d3 hpc
  · intro hpc
    have hf := (h.sim.thr t).facts
    simp only [Facts, hpc] at hf
    exact (h.sf t).gidx (Or.inr (Or.inr hpc)) hf.2

theorem lfAt_commitNext (s : Shared) (l : Loc) : lfAt (commitNext s l).pc = false := by
  rcases pc_commitNext s l with h | h | h | h <;> rw [h] <;> rfl

theorem lf_self {c : Cfg} {p : PState} {t : Tid} {ch : Choice} {s' : Shared} {l' : Loc} {e : Option Ev}
    (hst : Strong c p) (h : tstep c.sh t (c.loc t) ch = some (s', l', e)) : LF l' := by
  have hs := hst.sim
  have hlf := hst.lf t
  have hi := hs.thr t
  -- at a3 … a6c in the locking phase: what `lf_retTo` asks of the key just dealt with
  have hplan : ∀ {pc}, (c.loc t).pc = pc → acqPc pc = true → pc ≠ .a6c → (c.loc t).ret = .plan →
      (∀ g ∈ (c.loc t).held, g.key < (c.loc t).key ∨ g.key = (c.loc t).key) ∧
        sortedKeys ((c.loc t).key :: (c.loc t).todo.map (·.1)) = true := by
    intro pc hpc ha h6 hr
    obtain ⟨a, b⟩ := (hlf.acq (by rw [hpc]; exact ha)).1 hr
    refine ⟨fun g hg => ?_, b⟩
    rcases a g hg with x | x
    · exact Or.inl x
    · exact absurd (hpc ▸ x.1) h6
  replace h := tstep_inv h
  cases h
  case begin hsorted =>
    exact lf_nextPlan (by intro _ _ _ _ _ g hg; cases hg) (by simpa [sortedPlan] using hsorted)
  -- at the literal pc of the new local state the clauses of `LF` compute: `nofun` where one says nothing there
  case reacq hg | newKey hg =>
    exact ⟨fun _ => ⟨nofun, fun h => by cases h <;> exact ⟨rfl, rfl⟩, fun _ => hg⟩, nofun, nofun, nofun, nofun, nofun⟩
  case delKey hg =>
    refine ⟨nofun, nofun, nofun, nofun, nofun, fun _ => ?_⟩
    simp only [holdsNameW, Bool.and_eq_true, List.all_eq_true] at hg
    refine ⟨?_, ?_⟩
    · intro g hgm hk
      have := hg.2 g hgm
      simpa [hk] using this
    · simpa [holdsName] using hg.1
  case a2 hpc =>
    refine lf_move hlf hpc rfl rfl rfl nofun rfl rfl rfl rfl id rfl (by decide) nofun ?_
    intro _ hne hok
    simp only at hne hok ⊢
    obtain ⟨_, _, c3⟩ := hlf.acq (by rw [hpc]; rfl)
    have hn := c3 hne
    simp only [holdsName, List.any_eq_true, beq_iff_eq] at hn
    obtain ⟨g, hg, hk⟩ := hn
    obtain ⟨g', hg', hl⟩ := (hst.sf t).reg (by rw [hpc]; rfl) g hg (by simp [hpc])
    rw [hk] at hl
    simp only [hl, Option.getD_some, holdOf, List.find?_isSome]
    exact ⟨g', hg', by simp⟩
  case a3_miss hpc _ hph =>
    refine lf_retTo (hplan hpc rfl (by decide)) ?_
    intro hr; have := ((hlf.acq (by rw [hpc]; rfl)).2.1 hr).2; rw [hph] at this; cases this
  case a3_held g hpc hok hgo hpanic =>
    have hf := hi.facts
    simp only [Facts, hpc] at hf
    refine lf_retTo (hplan hpc rfl (by decide)) ?_
    intro hr
    have hw := ((hlf.acq (by rw [hpc]; rfl)).2.1 hr).1
    obtain ⟨hmem, hrid, hkey⟩ := hs.held_of_named hgo (by simp [holdsOf, hpc]) (hf hok)
    have hmode : g.mode = .w := by
      cases hm : g.mode with
      | w => rfl
      | r => simp [hw, hm] at hpanic
    have hv := hi.val g hmem
    have : g = ⟨(c.loc t).m, (c.loc t).key, .w, true⟩ := by
      cases g; simp_all
    rw [← this]; exact hmem
  case a3_wait hpc hok hnone =>
    refine lf_move hlf hpc rfl rfl rfl (fun _ => ?_) rfl rfl rfl rfl id rfl (by decide) nofun nofun
    by_cases hr : (c.loc t).ret = .plan
    · exact hr
    · have := hlf.a3 hpc hr hok
      rw [hnone] at this; cases this
  case a5_claim hpc _ _ =>
    obtain ⟨_, c2, _⟩ := hlf.acq (by rw [hpc]; rfl)
    constructor <;> simp [acqPc, afterWait, holdsName]
    exact ⟨fun hr => hplan hpc rfl (by decide) hr, c2⟩
  case a6c hpc =>
    obtain ⟨c1, c2, _⟩ := hlf.acq (by rw [hpc]; rfl)
    refine lf_retTo ?_ ?_
    · intro hr
      obtain ⟨a, b⟩ := c1 hr
      refine ⟨fun g hg => ?_, b⟩
      rcases a g hg with x | x
      · exact Or.inl x
      · exact Or.inr x.2
    · intro hr
      have := hlf.a6 hpc
      rwa [(c2 hr).1] at this
  case a12_ok hpc _ =>
    have hr := hlf.aw (by rw [hpc]; rfl)
    obtain ⟨a, b⟩ := hplan hpc rfl (by decide) hr
    refine lf_retTo ?_ ?_
    · intro _
      refine ⟨fun g hg => ?_, b⟩
      rcases List.mem_cons.1 hg with rfl | hg
      · exact Or.inr rfl
      · exact a g hg
    · intro hn; simp only at hn; rw [hr] at hn; cases hn
  case a14 hpc =>
    exact lf_move hlf hpc rfl rfl rfl nofun rfl rfl rfl rfl (by intro hw; simp [hw]) rfl (by decide) nofun nofun
  case n1 hpc => exact ⟨nofun, nofun, nofun, nofun, fun _ => hlf.nk (Or.inl hpc), nofun⟩
  case n2 hpc _ => exact ⟨nofun, nofun, nofun, nofun, fun _ => hlf.nk (Or.inr (Or.inl hpc)), nofun⟩
  case d1 hpc _ => exact ⟨nofun, nofun, nofun, nofun, nofun, fun _ => hlf.dk (Or.inl hpc)⟩
  -- inside `acquire`, before the wait …
  case a1 | a3_create | a4 | a5_found | a6r =>
    exact lf_move hlf ‹_› rfl (by rfl) rfl nofun rfl rfl rfl rfl id rfl (by decide) nofun nofun
  -- … and after it, which only the locking phase reaches
  case a7 | a8_w | a8_r | a9 | a10 | a11 | a12_fail | a13 =>
    exact lf_move hlf ‹_› rfl (by rfl) rfl (fun _ => hlf.aw (by rw [‹(c.loc t).pc = _›]; rfl)) rfl rfl rfl rfl id rfl
      (by decide) nofun nofun
  case c0 | c3 | c6_fail | c12 => exact lf_outside (lfAt_commitNext _ _)
  all_goals exact lf_outside rfl

end NodisVerif.Proofs.TxProg

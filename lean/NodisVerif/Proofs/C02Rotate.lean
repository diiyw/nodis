import NodisVerif.Proofs.C02Api
/-
  C02 at the API level, two-key commands: LPopRPush / RPopLPush (`Api.rotate`). The two halves of a rotation are
  decisions (`C20.rotate_eq`, Proofs/KeyTxApi.lean): what each leaves under its own key and under the other one is
  read off `KeyTx.getMeta_put` / `getMeta_drop` / `getMeta_runAct_other`; what is proved here is that the two records
  stay apart through the five states of a call (`RotDst`): `s` (before), `s1` (after the lookup of the source:
  `srcLookup`), `s2` (after the lookup of the destination), `s3 = srcPhase s2 src l'` (the popped list stored, the source
  unlinked if it is empty, its watchers told) and `s4` (after the creating lookup of the destination), on which the push
  runs (`rotAdd_run`). Hypotheses and records carry the number of their state (`hm1`, `hh2`, `hsrc3`, `m4`, …).
-/
namespace NodisVerif.Proofs.C02
open NodisVerif Store

/-- what the steps of a list command keep, the creating lookup (`newKeyWith` allocates two ids) and `lockW` (the
    self-deadlock flag) apart: the backend kind, the id counter, the self-deadlock flag -/
structure Quiet (s s' : MState) : Prop where
  pebble : s'.pebble = s.pebble
  nextId : s'.nextId = s.nextId
  hung : s'.hung = s.hung

theorem Quiet.trans {s1 s2 s3 : MState} (h1 : Quiet s1 s2) (h2 : Quiet s2 s3) : Quiet s1 s3 :=
  ⟨h2.pebble.trans h1.pebble, h2.nextId.trans h1.nextId, h2.hung.trans h1.hung⟩

theorem unpersist_quiet (s : MState) (k : Bytes) (m : Meta) : Quiet s (unpersist s k m) := by
  rw [unpersist_eq]; exact ⟨rfl, rfl, rfl⟩

theorem unpersist_held (s : MState) (k : Bytes) (m : Meta) : (unpersist s k m).held = s.held := by
  rw [unpersist_eq]

theorem delKey_quiet (s : MState) (k : Bytes) : Quiet s (delKey s k) := by
  unfold delKey; split
  · exact ⟨(unpersist_quiet s k _).pebble, (unpersist_quiet s k _).nextId, (unpersist_quiet s k _).hung⟩
  · exact ⟨rfl, rfl, rfl⟩

theorem writeKey_none_unindexed (s : MState) (now : Int) (k : Bytes) (h : getMeta s k = none) :
    writeKey s now k none = (s, false) := by
  obtain ⟨_, e⟩ | ⟨m0, hm0, _⟩ := C01.accessKey_shape C01.lockW_op s now k none
  · exact e
  · rw [h] at hm0; cases hm0

theorem writeKey_dead (s : MState) (now : Int) (k : Bytes) (m : Meta) (hm : getMeta s k = some m)
    (hd : m.isOk = false ∨ m.expired now = true) :
    writeKey s now k none = (putMeta (lockW s k) k { m with count := m.count + 1 }, false) := by
  have hn : ¬ (m.isOk = true ∧ m.expired now = false) := by
    rintro ⟨h1, h2⟩
    rcases hd with hd | hd
    · rw [h1] at hd; cases hd
    · rw [h2] at hd; cases hd
  obtain ⟨h, _⟩ | ⟨m0, hm0, h⟩ := C01.accessKey_shape C01.lockW_op s now k none
  · rw [hm] at h; cases h
  · rw [hm] at hm0; cases hm0
    obtain ⟨e, _⟩ | ⟨_, h1, h2, _⟩ | ⟨_, _, _, h1, h2, _⟩ := h
    · exact e
    · exact absurd ⟨h1, h2⟩ hn
    · exact absurd ⟨h1, h2⟩ hn

theorem writeKey_none_disk (s : MState) (now : Int) (k : Bytes) :
    (writeKey s now k none).1.disk = s.disk :=
  (C01.sameDisk_writeKey s now k none).1

theorem putMeta_holds_other (s : MState) (k k' : Bytes) (m : Meta) (v : Val) (h : Holds s k v)
    (hne : k ≠ k') : Holds (putMeta s k' m) k v := by
  obtain ⟨hs, m0, hm0, hv⟩ := h
  exact ⟨putMeta_sorted s k' m hs, m0, by rw [getMeta_putMeta_other _ _ _ _ hne]; exact hm0, hv⟩

theorem lockW_holds (s : MState) (k k' : Bytes) (v : Val) (h : Holds s k v) : Holds (lockW s k') k v := by
  obtain ⟨hs, m0, hm0, hv⟩ := h
  exact ⟨by rw [lockW_index]; exact hs, m0, by rw [getMeta_lockW]; exact hm0, hv⟩

theorem setVal_quiet (s : MState) (k : Bytes) (v : Val) : Quiet s (Api.setVal s k v) := by
  rw [setVal_rest]; exact ⟨rfl, rfl, rfl⟩

theorem signal_quiet (s : MState) (k : Bytes) : Quiet s (signal s k) := by
  unfold signal modMeta; split <;> exact ⟨rfl, rfl, rfl⟩

theorem emit_quiet (s : MState) (op : FeedOp) : Quiet s (emit s op) := by
  unfold emit; split <;> exact ⟨rfl, rfl, rfl⟩

theorem emit_pebble (s : MState) (op : FeedOp) : (emit s op).pebble = s.pebble :=
  (emit_quiet s op).pebble

/-- the part of `rotate` that works on the source key, after `writeKey` -/
def srcPhase (s1 : MState) (src : Bytes) (l' : LList) : MState :=
  signal (if DsList.llen l' = 0 then delKey (Api.setVal s1 src (.list l')) src
          else Api.setVal s1 src (.list l')) src

theorem srcPhase_quiet (s1 : MState) (src : Bytes) (l' : LList) : Quiet s1 (srcPhase s1 src l') := by
  unfold srcPhase
  refine Quiet.trans ?_ (signal_quiet _ src)
  split
  · exact (setVal_quiet s1 src _).trans (delKey_quiet _ src)
  · exact setVal_quiet s1 src _

/-- the source half of a rotation is the decision `rotRemAct` (Proofs/KeyTxApi.lean): what it leaves under `src` and
    under another key is read off `KeyTx.getMeta_drop`, `KeyTx.getMeta_put`, `KeyTx.getMeta_runAct_other` -/
theorem srcPhase_eq (s1 : MState) (src : Bytes) (l' : LList) :
    srcPhase s1 src l' = (C11.runAct s1 src (C20.rotRemAct l')).1 := by
  unfold srcPhase C20.rotRemAct
  split <;> rfl

theorem srcPhase_empty (s1 : MState) (src : Bytes) (l' : LList) (v0 : Val)
    (h : Holds s1 src v0) (he : DsList.llen l' = 0) : getMeta (srcPhase s1 src l') src = none := by
  rw [srcPhase_eq, C20.rotRemAct, if_pos he]; exact KeyTx.getMeta_drop h.1 _ _ _

theorem srcPhase_self (s1 : MState) (src : Bytes) (l' : LList) (m1 : Meta)
    (hm : getMeta s1 src = some m1) (he : DsList.llen l' ≠ 0) :
    getMeta (srcPhase s1 src l') src = some ({ m1 with value := some (.list l') } : Meta).markModified := by
  rw [srcPhase_eq, C20.rotRemAct, if_neg he]; exact KeyTx.getMeta_put hm _ _ _ _

theorem newKeyWith_self (s : MState) (k : Bytes) (v : Val) :
    ∃ m, getMeta (newKeyWith s k none v) k = some m ∧ m.value = some v ∧ m.oid = s.nextId + 1 :=
  ⟨_, getMeta_newKeyWith_same s k none v, rfl, rfl⟩

theorem newKeyWith_pebble (s : MState) (k : Bytes) (v : Val) :
    (newKeyWith s k none v).pebble = s.pebble := by
  rw [newKeyWith_eq]; exact (C01.nkBase_drops s k none).pebble

theorem newKeyWith_hung (s : MState) (k : Bytes) (v : Val) :
    (newKeyWith s k none v).hung = s.hung := by
  rw [newKeyWith_eq]; exact (C01.nkBase_drops s k none).locks.1

theorem pop_one (left : Bool) (l : LList) (x : Bytes) (rest : List Bytes) (hwf : l.WF)
    (hl : l.items = if left then x :: rest else rest ++ [x]) :
    ∃ l', (if left then DsList.lpop l 1 else DsList.rpop l 1) = (l', some [x]) ∧
      l'.items = rest ∧ l'.WF := by
  cases left
  · simp only [Bool.false_eq_true, if_false] at hl ⊢
    obtain ⟨e1, e2, _⟩ := (rotate_right l DsList.empty).2.2 rest x hl
    exact ⟨(DsList.rpop l 1).1, by rw [← e2], e1, rpop_wf l hwf 1⟩
  · simp only [if_true] at hl ⊢
    obtain ⟨e1, e2, _⟩ := (rotate_left l DsList.empty).2.2 x rest hl
    exact ⟨(DsList.lpop l 1).1, by rw [← e2], e1, lpop_wf l hwf 1⟩

theorem push_one (left : Bool) (d : LList) (x : Bytes) (h : d.WF) :
    (if left then DsList.rpush d [x] else DsList.lpush d [x]).WF ∧
    (if left then DsList.rpush d [x] else DsList.lpush d [x]).items =
      if left then d.items ++ [x] else x :: d.items := by
  cases left
  · exact ⟨lpush_wf d h [x], by simp [lpush_eq]⟩
  · exact ⟨rpush_wf d h [x], by simp [rpush_eq]⟩

/-- `Api.rotate` once the source lookup, the type check of the destination (`s2`, `dok`: the nil-
    constructor lookup of `dst`) and the pop have succeeded (the keys may coincide): the addition to the
    destination runs after the source half (`C20.rotate_eq` with the hypotheses put in) -/
theorem rotate_eq (left : Bool) (s s1 s2 : MState) (dok : Bool) (now : Int) (src dst : Bytes)
    (l l' : LList) (vs : List Bytes)
    (hw : writeKey s now src none = (s1, true)) (ha : Api.asList s1 src = some l)
    (hw2 : writeKey s1 now dst none = (s2, dok))
    (hchk : (dok && (Api.asList s2 dst).isNone) = false)
    (hp : (if left then DsList.lpop l 1 else DsList.rpop l 1) = (l', some vs)) :
    Api.rotate left s now src dst = (C20.rotAddF left src dst vs).run (srcPhase s2 src l') now := by
  rw [C20.rotate_eq]
  simp only [hw, ha, hw2, hchk, C20.rotPop, hp, Bool.not_true, Bool.false_eq_true, if_false, srcPhase_eq]

theorem rotAdd_run (left : Bool) (s3 s4 : MState) (now : Int) (src dst : Bytes) (vs : List Bytes) (d : LList)
    (m4 : Meta) (hs4 : (writeKey s3 now dst (some (.list DsList.empty))).1 = s4)
    (hm4 : getMeta s4 dst = some m4) (hv4 : m4.value = some (.list d)) :
    (C20.rotAddF left src dst vs).run s3 now =
      C11.runAct s4 dst (.put (some (.list (if left then DsList.rpush d vs else DsList.lpush d vs))) none
        [C20.opRotate left src dst] (.bytes vs.head?)) := by
  have hv : valOf s4 dst = some (.list d) := (valOf_of_getMeta hm4).trans hv4
  simp only [C11.TxForm.run, C20.rotAddF, C11.keyTx, if_true, Option.isNone_some, Bool.and_false,
    Bool.false_eq_true, if_false, hs4, hv, C20.decRotAdd]

theorem srcLookup {s : MState} {src : Bytes} {l : LList} {now : Int} (hsrc : HotList s src l now) :
    ∃ msrc s1, l.WF ∧ getMeta s src = some msrc ∧ msrc.isOk = true ∧ msrc.expired now = false ∧
      msrc.value = some (.list l) ∧
      putMeta (lockW s src) src { msrc with count := msrc.count + 1 } = s1 ∧
      writeKey s now src none = (s1, true) ∧
      getMeta s1 src = some { msrc with count := msrc.count + 1 } ∧ Holds s1 src (.list l) := by
  obtain ⟨hsorted, hwf, msrc, hms, hok, hexp, hval⟩ := hsrc
  exact ⟨msrc, _, hwf, hms, hok, hexp, hval, rfl, writeKey_hot_eq s src now none msrc (.list l) hms hok hexp hval,
    getMeta_putMeta_same _ _ _, lookup_holds s src msrc _ hsorted hval⟩

/-- destination of a rotation from `src`: either not indexed at all (the list is then created, `d` is
    the empty list) or indexed, ok, unexpired, hot and holding the well-formed list `d`; in both
    cases its value object is not the source's value object (object ids are unique among distinct
    records of the in-memory backend; with Pebble nothing is shared) -/
def RotDst (s : MState) (src dst : Bytes) (d : LList) (now : Int) : Prop :=
  ∃ msrc, getMeta s src = some msrc ∧
  ((getMeta s dst = none ∧ d = DsList.empty ∧ (s.pebble = true ∨ msrc.oid ≠ s.nextId + 1)) ∨
   (d.WF ∧ ∃ md, getMeta s dst = some md ∧ md.isOk = true ∧ md.expired now = false ∧
      md.value = some (.list d) ∧
      (s.pebble = true ∨ md.oid ≠ msrc.oid ∨ (md.oid = 0 ∧ msrc.oid = 0))))

theorem api_rotate (left : Bool) (s : MState) (src dst : Bytes) (l d : LList) (now : Int)
    (x : Bytes) (rest : List Bytes)
    (hsrc : HotList s src l now) (hne : src ≠ dst)
    (hl : l.items = if left then x :: rest else rest ++ [x])
    (hd : RotDst s src dst d now) :
    (Api.rotate left s now src dst).2 = .bytes (some x) ∧
    (rest = [] → getMeta (Api.rotate left s now src dst).1 src = none) ∧
    (rest ≠ [] → HoldsSeq (Api.rotate left s now src dst).1 src rest) ∧
    HoldsSeq (Api.rotate left s now src dst).1 dst (if left then d.items ++ [x] else x :: d.items) := by
  obtain ⟨msrc, s1, hwf, hms, hok, hexp, hval, hs1, hw, hm1, hh1⟩ := srcLookup hsrc
  obtain ⟨msrc', hms', hdst⟩ := hd
  rw [hms] at hms'; cases hms'
  have hd1 : getMeta s1 dst = getMeta s dst := by
    rw [← hs1, getMeta_putMeta_other _ _ _ _ (Ne.symm hne), getMeta_lockW]
  have hp1 : s1.pebble = s.pebble := by rw [← hs1]; exact lockW_pebble s src
  have hn1 : s1.nextId = s.nextId := by rw [← hs1]; exact lockW_nextId s src
  -- the type check of the destination: absent (nothing happens) or a hot list (locked, counted)
  obtain ⟨s2, dok, hw2, hchk, hm2, hh2, hp2, hn2, hdst2⟩ : ∃ s2 dok,
      writeKey s1 now dst none = (s2, dok) ∧ (dok && (Api.asList s2 dst).isNone) = false ∧
      getMeta s2 src = some { msrc with count := msrc.count + 1 } ∧ Holds s2 src (.list l) ∧
      s2.pebble = s.pebble ∧ s2.nextId = s.nextId ∧
      ((getMeta s2 dst = none ∧ d = DsList.empty ∧ (s.pebble = true ∨ msrc.oid ≠ s.nextId + 1)) ∨
       (d.WF ∧ ∃ md, getMeta s2 dst = some md ∧ md.isOk = true ∧ md.expired now = false ∧
          md.value = some (.list d) ∧
          (s.pebble = true ∨ md.oid ≠ msrc.oid ∨ (md.oid = 0 ∧ msrc.oid = 0)))) := by
    rcases hdst with ⟨hnone, hde, hfresh⟩ | ⟨hdwf, md, hmd, hdok, hdexp, hdval, hna⟩
    · have hnone1 : getMeta s1 dst = none := by rw [hd1]; exact hnone
      exact ⟨s1, false, writeKey_none_unindexed s1 now dst hnone1, rfl, hm1, hh1, hp1, hn1,
        Or.inl ⟨hnone1, hde, hfresh⟩⟩
    · have hmd1 : getMeta s1 dst = some md := by rw [hd1]; exact hmd
      refine ⟨_, true, writeKey_hot_eq s1 dst now none md (.list d) hmd1 hdok hdexp hdval, ?_, ?_, ?_,
        ?_, ?_, Or.inr ⟨hdwf, _, getMeta_putMeta_same _ _ _, hdok, hdexp, hdval, hna⟩⟩
      · simp [Api.asList, valOf, getMeta_putMeta_same, hdval]
      · rw [getMeta_putMeta_other _ _ _ _ hne, getMeta_lockW]; exact hm1
      · exact putMeta_holds_other _ _ _ _ _ (lockW_holds s1 src dst _ hh1) hne
      · show (lockW s1 dst).pebble = s.pebble
        rw [lockW_pebble]; exact hp1
      · show (lockW s1 dst).nextId = s.nextId
        rw [lockW_nextId]; exact hn1
  obtain ⟨l', hpop, hitems', hwf'⟩ := pop_one left l x rest hwf hl
  have hz : DsList.llen l' = 0 ↔ rest = [] := by rw [llen_zero_iff l' hwf', hitems']
  rw [rotate_eq left s s1 s2 dok now src dst l l' [x] hw (asList_holds s1 src l hh1) hw2 hchk hpop]
  have hp3 : (srcPhase s2 src l').pebble = s.pebble := (srcPhase_quiet s2 src l').pebble.trans hp2
  have hn3 : (srcPhase s2 src l').nextId = s.nextId := (srcPhase_quiet s2 src l').nextId.trans hn2
  have hsrc3 : (rest = [] → getMeta (srcPhase s2 src l') src = none) ∧
      (rest ≠ [] → ∃ m3, getMeta (srcPhase s2 src l') src = some m3 ∧
        m3.value = some (.list l') ∧ m3.oid = msrc.oid) :=
    ⟨fun e => srcPhase_empty s2 src l' _ hh2 (hz.mpr e),
     fun e => ⟨_, srcPhase_self s2 src l' _ hm2 (fun z => e (hz.mp z)), rfl, rfl⟩⟩
  -- destination lookup: in both cases the record is now hot with value `d`
  obtain ⟨s4, hs4, m4, hm4, hv4, hsrc4, hna4⟩ : ∃ s4,
      (writeKey (srcPhase s2 src l') now dst (some (.list DsList.empty))).1 = s4 ∧
      ∃ m4, getMeta s4 dst = some m4 ∧ m4.value = some (.list d) ∧
        getMeta s4 src = getMeta (srcPhase s2 src l') src ∧
        (s4.pebble = true ∨ m4.oid = 0 ∨ ∀ m', getMeta s4 src = some m' → m'.oid ≠ m4.oid) := by
    rcases hdst2 with ⟨hnone, hde, hfresh⟩ | ⟨_, md, hmd, hdok, hdexp, hdval, hna⟩
    · have hd3 : getMeta (srcPhase s2 src l') dst = none := by
        rw [srcPhase_eq, KeyTx.getMeta_runAct_other hm2 hne (Or.inr (Or.inr (by
          intro m' hm'; rw [hnone] at hm'; cases hm'))), hnone]
      refine ⟨_, rfl, ?_⟩
      unfold writeKey
      rw [hd3]
      simp only
      obtain ⟨m, e1, e2, e3⟩ := newKeyWith_self (srcPhase s2 src l') dst (.list DsList.empty)
      refine ⟨m, e1, by rw [e2, hde], getMeta_newKeyWith_other _ _ _ _ _ hne, ?_⟩
      rw [newKeyWith_pebble, hp3, getMeta_newKeyWith_other _ _ _ _ _ hne, e3, hn3]
      rcases hfresh with hf | hf
      · exact Or.inl hf
      · refine Or.inr (Or.inr ?_)
        intro m' hm'
        by_cases hr : rest = []
        · rw [hsrc3.1 hr] at hm'; cases hm'
        · obtain ⟨m3, g1, _, g3⟩ := hsrc3.2 hr
          rw [g1] at hm'; cases hm'; rw [g3]; exact hf
    · have hd3 : getMeta (srcPhase s2 src l') dst = some md := by
        rw [srcPhase_eq, KeyTx.getMeta_runAct_other hm2 hne ?_, hmd]
        rw [hp2, hmd]
        rcases hna with h | h | h
        · exact Or.inl h
        · exact Or.inr (Or.inr (by intro m' hm'; cases hm'; exact h))
        · exact Or.inr (Or.inl h.2)
      refine ⟨_, rfl, ?_⟩
      rw [writeKey_hot_eq _ dst now _ md (.list d) hd3 hdok hdexp hdval]
      refine ⟨_, getMeta_putMeta_same _ _ _, hdval, ?_, ?_⟩
      · rw [getMeta_putMeta_other _ _ _ _ hne, getMeta_lockW]
      · show (lockW (srcPhase s2 src l') dst).pebble = true ∨ md.oid = 0 ∨ _
        rw [lockW_pebble, hp3, getMeta_putMeta_other _ _ _ _ hne, getMeta_lockW]
        rcases hna with h | h | h
        · exact Or.inl h
        · refine Or.inr (Or.inr ?_)
          intro m' hm'
          by_cases hr : rest = []
          · rw [hsrc3.1 hr] at hm'; cases hm'
          · obtain ⟨m3, g1, _, g3⟩ := hsrc3.2 hr
            rw [g1] at hm'; cases hm'; rw [g3]; exact fun e => h e.symm
        · exact Or.inr (Or.inl h.1)
  -- the addition is a decision on the record of `dst`; the record of `src` does not share its object
  rw [rotAdd_run left _ s4 now src dst [x] d m4 hs4 hm4 hv4]
  have t1 : valOf (C11.runAct s4 dst (.put (some (.list (if left then DsList.rpush d [x] else DsList.lpush d [x])))
      none [C20.opRotate left src dst] (.bytes [x].head?))).1 dst =
      some (.list (if left then DsList.rpush d [x] else DsList.lpush d [x])) := by
    unfold valOf; rw [KeyTx.getMeta_put hm4]; rfl
  have hfin := fun a => KeyTx.getMeta_runAct_other hm4 (Ne.symm hne) hna4 a
  have hdwf : d.WF := by
    rcases hdst2 with ⟨_, hde, _⟩ | ⟨h, _⟩
    · rw [hde]; exact empty_wf
    · exact h
  refine ⟨rfl, ?_, ?_, ?_⟩
  · intro hr; rw [hfin, hsrc4]; exact hsrc3.1 hr
  · intro hr
    obtain ⟨m3, g1, g2, _⟩ := hsrc3.2 hr
    refine ⟨l', ?_, hwf', hitems'⟩
    unfold valOf; rw [hfin, hsrc4, g1]; exact g2
  · exact ⟨_, t1, push_one left d x hdwf⟩

/-! ### `src = dst`: the list is rotated in place

  The second `writeKey` finds either the record the call already write-locked (reused: `lockW` is
  the identity) or, when the only element was popped, no record at all (the key was unlinked, a new
  record is created by `newKeyWith`). -/

theorem markModified_value (m : Meta) : m.markModified.value = m.value := rfl

theorem lockW_fresh (s : MState) (k : Bytes) (h : s.held = []) :
    (lockW s k).held = [(k, true)] ∧ (lockW s k).hung = s.hung := by
  unfold lockW
  simp [h]

theorem lockW_reuse (s : MState) (k : Bytes) (h : (k, true) ∈ s.held) : lockW s k = s := by
  unfold lockW
  have : (s.held.any fun h => decide (h.1 = k ∧ h.2 = true)) = true := by
    rw [List.any_eq_true]
    exact ⟨(k, true), h, by simp⟩
  rw [if_pos this]

theorem setVal_held (s : MState) (k : Bytes) (v : Val) : (Api.setVal s k v).held = s.held := by
  rw [setVal_rest]

theorem signal_held (s : MState) (k : Bytes) : (signal s k).held = s.held := by
  unfold signal modMeta; split <;> rfl

theorem srcPhase_held_nonempty (s1 : MState) (src : Bytes) (l' : LList) (he : DsList.llen l' ≠ 0) :
    (srcPhase s1 src l').held = s1.held := by
  unfold srcPhase; rw [signal_held, if_neg he]; exact setVal_held s1 src _

theorem api_rotate_same (left : Bool) (s : MState) (k : Bytes) (l : LList) (now : Int)
    (x : Bytes) (rest : List Bytes)
    (hsrc : HotList s k l now)
    (hl : l.items = if left then x :: rest else rest ++ [x]) :
    (Api.rotate left s now k k).2 = .bytes (some x) ∧
    HoldsSeq (Api.rotate left s now k k).1 k (if left then rest ++ [x] else x :: rest) ∧
    (s.held = [] → (Api.rotate left s now k k).1.hung = s.hung) := by
  obtain ⟨msrc, s1, hwf, hms, hok, hexp, hval, hs1, hw, hm1, hh1⟩ := srcLookup hsrc
  have hlk : s.held = [] → s1.held = [(k, true)] ∧ s1.hung = s.hung :=
    fun h => hs1 ▸ lockW_fresh s k h
  -- the type check of the destination = a second lookup of the same record: the write lock is
  -- reused, the access counter is bumped once more
  have hw2 := writeKey_hot_eq s1 k now none { msrc with count := msrc.count + 1 } (.list l) hm1 hok
    hexp hval
  have hlk2 : s.held = [] →
      (putMeta (lockW s1 k) k { msrc with count := msrc.count + 1 + 1 }).held = [(k, true)] ∧
      (putMeta (lockW s1 k) k { msrc with count := msrc.count + 1 + 1 }).hung = s.hung := by
    intro hh
    show (lockW s1 k).held = _ ∧ (lockW s1 k).hung = _
    rw [lockW_reuse s1 k (by rw [(hlk hh).1]; simp)]
    exact hlk hh
  have hh2 : Holds (putMeta (lockW s1 k) k { msrc with count := msrc.count + 1 + 1 }) k (.list l) :=
    lookup_holds s1 k { msrc with count := msrc.count + 1 } _ hh1.1 hval
  generalize hs2 : putMeta (lockW s1 k) k { msrc with count := msrc.count + 1 + 1 } = s2 at hw2 hlk2 hh2
  have hm2 : getMeta s2 k = some { msrc with count := msrc.count + 1 + 1 } := by
    rw [← hs2]; exact getMeta_putMeta_same _ _ _
  have hchk : (true && (Api.asList s2 k).isNone) = false := by
    rw [asList_holds s2 k l hh2]; rfl
  obtain ⟨l', hpop, hitems', hwf'⟩ := pop_one left l x rest hwf hl
  have hz : DsList.llen l' = 0 ↔ rest = [] := by rw [llen_zero_iff l' hwf', hitems']
  rw [rotate_eq left s s1 s2 true now k k l l' [x] hw (asList_holds s1 k l hh1) hw2 hchk hpop]
  -- second lookup of the same key: the record is hot with a list `d` whose elements are `rest`
  obtain ⟨s4, hs4, d, hdwf, hditems, m4, hm4, hv4, hh4⟩ : ∃ s4,
      (writeKey (srcPhase s2 k l') now k (some (.list DsList.empty))).1 = s4 ∧
      ∃ d : LList, d.WF ∧ d.items = rest ∧
      ∃ m4, getMeta s4 k = some m4 ∧ m4.value = some (.list d) ∧
        (s.held = [] → s4.hung = s.hung) := by
    by_cases hr : rest = []
    · -- the key was unlinked: it is created again
      have hd3 : getMeta (srcPhase s2 k l') k = none := srcPhase_empty s2 k l' _ hh2 (hz.mpr hr)
      refine ⟨_, rfl, DsList.empty, empty_wf, by rw [hr]; rfl, ?_⟩
      unfold writeKey
      rw [hd3]
      simp only
      obtain ⟨m, e1, e2, _⟩ := newKeyWith_self (srcPhase s2 k l') k (.list DsList.empty)
      refine ⟨m, e1, e2, ?_⟩
      intro hh
      rw [newKeyWith_hung, (srcPhase_quiet s2 k l').hung]; exact (hlk2 hh).2
    · -- the record is still there and already write-locked by this call: reused
      have hne0 : DsList.llen l' ≠ 0 := fun z => hr (hz.mp z)
      have g1 := srcPhase_self s2 k l' _ hm2 hne0
      refine ⟨_, rfl, l', hwf', hitems', ?_⟩
      rw [writeKey_hot_eq _ k now _ _ (.list l') g1 ((markModified_isOk _).trans hok) hexp rfl]
      refine ⟨_, getMeta_putMeta_same _ _ _, rfl, ?_⟩
      intro hh
      show (lockW (srcPhase s2 k l') k).hung = s.hung
      rw [lockW_reuse _ k (by rw [srcPhase_held_nonempty s2 k l' hne0, (hlk2 hh).1]; simp),
        (srcPhase_quiet s2 k l').hung]
      exact (hlk2 hh).2
  rw [rotAdd_run left _ s4 now k k [x] d m4 hs4 hm4 hv4]
  have t1 : valOf (C11.runAct s4 k (.put (some (.list (if left then DsList.rpush d [x] else DsList.lpush d [x])))
      none [C20.opRotate left k k] (.bytes [x].head?))).1 k =
      some (.list (if left then DsList.rpush d [x] else DsList.lpush d [x])) := by
    unfold valOf; rw [KeyTx.getMeta_put hm4]; rfl
  refine ⟨rfl, ⟨_, t1, hditems ▸ push_one left d x hdwf⟩, ?_⟩
  · intro hh
    show (emit (signal (Api.setVal s4 k _) k) _).hung = s.hung
    rw [(emit_quiet _ _).hung, (signal_quiet _ k).hung, (setVal_quiet s4 k _).hung]
    exact hh4 hh

theorem api_rotate_absent (left : Bool) (s : MState) (now : Int) (src dst : Bytes)
    (h : getMeta s src = none) : Api.rotate left s now src dst = (s, .bytes none) := by
  rw [C20.rotate_eq, writeKey_none_unindexed s now src h]; rfl

theorem api_rotate_dead (left : Bool) (s : MState) (now : Int) (src dst : Bytes) (m : Meta)
    (hm : getMeta s src = some m) (hd : m.isOk = false ∨ m.expired now = true) :
    Api.rotate left s now src dst =
      (putMeta (lockW s src) src { m with count := m.count + 1 }, .bytes none) := by
  rw [C20.rotate_eq, writeKey_dead s now src m hm hd]; rfl

/-! ### the type check of the destination

  After the source list has been obtained, and before anything is popped, `rotate` looks `dst` up
  with a nil constructor and fails when the lookup reports a live record that is not a list. -/

/-- destinations that pass the check in state `s`: the source itself, a key that is not indexed, a
    record that is not ok or past its deadline (both reported as missing), or a hot list -/
def DstPasses (s : MState) (src dst : Bytes) (now : Int) : Prop :=
  dst = src ∨ getMeta s dst = none ∨
  (∃ md, getMeta s dst = some md ∧ (md.isOk = false ∨ md.expired now = true)) ∨
  (∃ md d, getMeta s dst = some md ∧ md.isOk = true ∧ md.expired now = false ∧
    md.value = some (.list d))

/-- a destination that fails it: an ok, unexpired, hot record whose value `v` is not a list -/
def DstWrongType (s : MState) (dst : Bytes) (v : Val) (now : Int) : Prop :=
  (∀ d, v ≠ .list d) ∧
  ∃ md, getMeta s dst = some md ∧ md.isOk = true ∧ md.expired now = false ∧ md.value = some v

theorem api_rotate_empty (left : Bool) (s : MState) (now : Int) (src dst : Bytes) (l : LList)
    (hsrc : HotList s src l now) (he : l.items = []) :
    ((Api.rotate left s now src dst).2 = .bytes none ∨ (Api.rotate left s now src dst).2 = .panic) ∧
    valOf (Api.rotate left s now src dst).1 src = some (.list l) ∧
    (DstPasses s src dst now → (Api.rotate left s now src dst).2 = .bytes none) := by
  obtain ⟨msrc, s1, hwf, hms, hok, hexp, hval, hs1, hw, hm1, hh1⟩ := srcLookup hsrc
  -- a destination that passes does not trip the check of the second lookup
  have hpass : DstPasses s src dst now →
      ((writeKey s1 now dst none).2 && (Api.asList (writeKey s1 now dst none).1 dst).isNone) = false := by
    intro hd
    by_cases hsd : dst = src
    · subst hsd
      rw [writeKey_hot_eq s1 dst now none _ (.list l) hm1 hok hexp hval]
      show (true && (Api.asList _ dst).isNone) = false
      rw [asList_holds _ dst l (lookup_holds s1 dst { msrc with count := msrc.count + 1 } _ hh1.1 hval)]; rfl
    · have hd1 : getMeta s1 dst = getMeta s dst := by
        rw [← hs1, getMeta_putMeta_other _ _ _ _ hsd, getMeta_lockW]
      rcases hd with h | h | ⟨md, hmd, h⟩ | ⟨md, d, hmd, hdok, hdexp, hdval⟩
      · exact absurd h hsd
      · rw [writeKey_none_unindexed s1 now dst (by rw [hd1]; exact h)]; rfl
      · rw [writeKey_dead s1 now dst md (by rw [hd1]; exact hmd) h]; rfl
      · rw [writeKey_hot_eq s1 dst now none md (.list d) (by rw [hd1]; exact hmd) hdok hdexp hdval]
        simp [Api.asList, valOf, getMeta_putMeta_same, hdval]
  have hv2 : valOf (writeKey s1 now dst none).1 src = some (.list l) := by
    by_cases hsd : dst = src
    · subst hsd
      rw [writeKey_hot_eq s1 dst now none _ (.list l) hm1 hok hexp hval]
      unfold valOf; rw [getMeta_putMeta_same]; exact hval
    · unfold valOf; rw [getMeta_writeKey_other s1 now dst none src (Ne.symm hsd), hm1]; exact hval
  have hp : (if left then DsList.lpop l 1 else DsList.rpop l 1) = (l, none) := by
    cases left
    · simp only [Bool.false_eq_true, if_false]
      exact ((rotate_right l DsList.empty).2.1 he).1
    · simp only [if_true]
      exact ((rotate_left l DsList.empty).2.1 he).1
  cases hc : ((writeKey s1 now dst none).2 && (Api.asList (writeKey s1 now dst none).1 dst).isNone) with
  | false =>
    rw [C20.rotate_eq]
    simp only [hw, asList_holds s1 src l hh1, hc, C20.rotPop, hp, Bool.not_true, Bool.false_eq_true, if_false]
    exact ⟨Or.inl trivial, hv2, fun _ => trivial⟩
  | true =>
    rw [Bool.and_eq_true, Option.isNone_iff_eq_none] at hc
    have hw2 : writeKey s1 now dst none = ((writeKey s1 now dst none).1, true) := by
      rw [← hc.1]
    rw [C20.rotate_eq]
    simp only [hw, asList_holds s1 src l hh1, hc.1, hc.2, Bool.not_true, Bool.false_eq_true, if_false,
      Option.isNone_none, Bool.and_self, if_true]
    refine ⟨Or.inr trivial, hv2, fun hd => ?_⟩
    have := hpass hd
    rw [hc.1, hc.2] at this
    cases this

theorem api_rotate_wrong_type (left : Bool) (s : MState) (now : Int) (src dst : Bytes) (l : LList)
    (v : Val) (hsrc : HotList s src l now) (hd : DstWrongType s dst v now) :
    (Api.rotate left s now src dst).2 = .panic ∧
    valOf (Api.rotate left s now src dst).1 src = some (.list l) ∧
    valOf (Api.rotate left s now src dst).1 dst = some v ∧
    (∀ k, getMeta (Api.rotate left s now src dst).1 k =
      if k = src ∨ k = dst then (getMeta s k).map (fun m => { m with count := m.count + 1 })
      else getMeta s k) ∧
    (Api.rotate left s now src dst).1.disk = s.disk := by
  obtain ⟨msrc, s1, hwf, hms, hok, hexp, hval, hs1, hw, hm1, hh1⟩ := srcLookup hsrc
  subst hs1
  obtain ⟨hnl, md, hmd, hdok, hdexp, hdval⟩ := hd
  have hne : src ≠ dst := by
    intro e; subst e
    rw [hms] at hmd; cases hmd
    rw [hval] at hdval; cases hdval
    exact hnl l rfl
  have hd1 : getMeta (putMeta (lockW s src) src { msrc with count := msrc.count + 1 }) dst = some md := by
    rw [getMeta_putMeta_other _ _ _ _ (Ne.symm hne), getMeta_lockW]; exact hmd
  have hw2 := writeKey_hot_eq _ dst now none md v hd1 hdok hdexp hdval
  have hn : Api.asList (putMeta (lockW (putMeta (lockW s src) src { msrc with count := msrc.count + 1 }) dst)
      dst { md with count := md.count + 1 }) dst = none := by
    unfold Api.asList valOf
    rw [getMeta_putMeta_same]
    show (match md.value with | some (.list v) => some v | _ => none) = none
    rw [hdval]
    cases v <;> first | rfl | exact absurd rfl (hnl _)
  rw [C20.rotate_eq]
  simp only [hw, asList_holds _ src l hh1, hw2, hn, Bool.not_true, Bool.false_eq_true, if_false,
    Option.isNone_none, Bool.and_self, if_true]
  refine ⟨trivial, ?_, ?_, ?_, ?_⟩
  · show valOf (putMeta _ dst _) src = _
    unfold valOf; rw [getMeta_putMeta_other _ _ _ _ hne, getMeta_lockW, hm1]; exact hval
  · show valOf (putMeta _ dst _) dst = _
    unfold valOf; rw [getMeta_putMeta_same]; exact hdval
  · intro k
    show getMeta (putMeta _ dst _) k = _
    by_cases hk2 : k = dst
    · subst hk2
      rw [getMeta_putMeta_same, if_pos (Or.inr rfl), hmd]; rfl
    · rw [getMeta_putMeta_other _ _ _ _ hk2, getMeta_lockW]
      by_cases hk1 : k = src
      · subst hk1
        rw [getMeta_putMeta_same, if_pos (Or.inl rfl), hms]; rfl
      · rw [getMeta_putMeta_other _ _ _ _ hk1, getMeta_lockW, if_neg (by simp [hk1, hk2])]
  · show (lockW _ dst).disk = s.disk
    rw [lockW_disk]; exact lockW_disk s src

end NodisVerif.Proofs.C02
